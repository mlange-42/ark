/-
  Property C19 over whole histories: the part of the world
  `World.Stats()` relies on, and what the storage primitives do to it.

  `World.Stats()` (`opStats`) updates ONE re-used object `w.stats` in place and never recomputes
  `componentIDs`, `numRelations`, `memoryPerEntity` of an archetype entry.  That is sound only if
  between two calls (a) nobody touches `w.stats`, (b) archetypes are only appended and the existing
  ones keep their component list and relation count, (c) registered component sizes do not change
  (`Mono` of `Ark.Proofs.Stats`).

  `SStep w w'` is (a)+(b)+(c); the storage primitives, the table lookups, `registerComponent`,
  `Shrink` and `Reset` are `SStep`s, and the invariants of the machines do not read `w.stats`.
-/
import Ark.Proofs.CacheHistOps
import Ark.Proofs.Commutes
import Ark.Proofs.Stats

set_option autoImplicit false

namespace Ark

open World

/-! ## 1. the relation -/

/-- what `Stats()` relies on between two calls: archetypes only appended, the existing ones keep
    component list and relation count, registered sizes unchanged (`Mono`), and the re-used
    statistics object is not touched -/
structure SStep (w w' : World) : Prop where
  mono : Mono w w'
  stats : w'.stats = w.stats
  /-- no observer is registered by the step (the machine has no observer operations; `Reset`
      unregisters all) -/
  obs0 : w.obs.totalCount = 0 → w'.obs.totalCount = 0

namespace SStep

theorem refl (w : World) : SStep w w := ⟨Mono.refl w, rfl, id⟩

theorem trans {a b c : World} (h1 : SStep a b) (h2 : SStep b c) : SStep a c :=
  ⟨h1.mono.trans h2.mono, h2.stats.trans h1.stats, fun h => h2.obs0 (h1.obs0 h)⟩

theorem of_eq {w w' : World} (ha : w'.archetypes = w.archetypes) (hk : w'.kinds = w.kinds)
    (hs : w'.stats = w.stats) (ho : w'.obs = w.obs) : SStep w w' :=
  ⟨mono_of_eq w w' ha hk, hs, fun h => by rw [ho]; exact h⟩

theorem of_quiet {w w' : World} (q : Quiet w w') (hs : w'.stats = w.stats) : SStep w w' :=
  of_eq q.archetypes q.kinds hs q.obs

end SStep

theorem World.Compatible.sstep {w w' : World} (h : Compatible w.stats w) (s : SStep w w') :
    Compatible w'.stats w' := by
  rw [s.stats]; exact h.mono s.mono

/-! ## 2. row-level steps do not touch the statistics object -/

namespace World

theorem placedW_stats (w : World) (t : Nat) (rt : Bool) : (placedW w t rt).stats = w.stats := by
  simp only [placedW]; split <;> rfl

theorem writeValsW_stats (w : World) (e : Ent) (vals : List (Comp × Val)) :
    (writeValsW w e vals).stats = w.stats := rfl

theorem addMove_stats (w : World) (e : Ent) (oldT row newT : Nat) (keep : Mask) :
    (addMove w e oldT row newT keep).stats = w.stats := by
  simp only [addMove, moveRowW]; split <;> rfl

theorem removeRowOf_stats (w : World) (e : Ent) (t row : Nat) :
    (removeRowOf w e t row).stats = w.stats := by
  simp only [removeRowOf]; split <;> rfl

theorem copiedW_stats (w : World) (t row idx : Nat) : (copiedW w t row idx).stats = w.stats := rfl

end World

namespace SStep

theorem placedW (w : World) (t : Nat) (rt : Bool) : SStep w (placedW w t rt) :=
  of_quiet (Quiet.placedW w t rt) (placedW_stats w t rt)

theorem writeValsW (w : World) (e : Ent) (vals : List (Comp × Val)) :
    SStep w (writeValsW w e vals) :=
  of_quiet (Quiet.writeValsW w e vals) rfl

theorem addMove (w : World) (e : Ent) (oldT row newT : Nat) (keep : Mask) :
    SStep w (addMove w e oldT row newT keep) :=
  of_quiet (Quiet.addMove w e oldT row newT keep) (addMove_stats w e oldT row newT keep)

theorem removeRowOf (w : World) (e : Ent) (t row : Nat) : SStep w (removeRowOf w e t row) :=
  of_quiet (Quiet.removeRowOf w e t row) (removeRowOf_stats w e t row)

theorem copiedW (w : World) (t row idx : Nat) : SStep w (copiedW w t row idx) :=
  of_quiet (Quiet.copiedW w t row idx) rfl

end SStep

/-! ## 3. the table lookups -/

theorem World.SameFrame.stats {w w' : World} (h : SameFrame w w') : w'.stats = w.stats := by
  obtain ⟨_, _, _, rfl⟩ := h; rfl

namespace SStep

theorem setArch (w : World) (a : Nat) (A' : Archetype) (hc : A'.comps = (w.arch a).comps)
    (hn : A'.numRel = (w.arch a).numRel) : SStep w (w.setArch a A') :=
  ⟨mono_setArch w a A' hc hn, rfl, id⟩

theorem modArch (w : World) (a : Nat) (f : Archetype → Archetype)
    (hc : (f (w.arch a)).comps = (w.arch a).comps)
    (hn : (f (w.arch a)).numRel = (w.arch a).numRel) : SStep w (w.modArch a f) :=
  setArch w a _ hc hn

/-- a step that keeps the frame, the number of archetypes and the layout of each -/
theorem of_archRel {w w' : World} (f : SameFrame w w')
    (hl : w'.archetypes.length = w.archetypes.length)
    (ar : ∀ (a : Nat), Archetype.ArchRel (w.arch a) (w'.arch a)) : SStep w w' := by
  refine ⟨⟨by rw [hl]; exact Nat.le_refl _, ?_⟩, f.stats, fun h => by rw [f.obs]; exact h⟩
  intro i A A' hA hA'
  have := ar i
  rw [arch_of_get hA, arch_of_get hA'] at this
  exact ⟨this.comps, this.numRel, fun c _ => by rw [f.kinds]⟩

theorem createTable {a : Nat} {rels : List RelID} {w w' : World} {t : Nat}
    (h : World.createTable a rels w = .ok t w') : SStep w w' :=
  of_archRel (createTable_sameFrame h) (createTable_archRel h).1 (createTable_archRel h).2

theorem createArchetypeW (w : World) (mask : Mask) : SStep w (createArchetypeW w mask) :=
  ⟨mono_append_archetypes w _ [newArch w mask]
      (createArchetypeW_proj (·.archetypes) (fun _ _ _ => rfl) (fun _ _ => rfl) w mask)
      (createArchetypeW_proj (·.kinds) (fun _ _ _ => rfl) (fun _ _ => rfl) w mask),
    createArchetypeW_proj (·.stats) (fun _ _ _ => rfl) (fun _ _ => rfl) w mask,
    fun h => by rw [(createArchetypeW_untouched w mask).obs]; exact h⟩

theorem findOrCreateArch {mask : Mask} {w w' : World} {a : Nat}
    (h : World.findOrCreateArch mask w = .ok a w') : SStep w w' := by
  rcases findOrCreateArch_ok_cases h with rfl | rfl
  · exact refl _
  · exact createArchetypeW w mask

/-- **the three table lookups** append at most one archetype, change at most the table lists of
    one archetype, and do not touch the statistics object -/
theorem lookups :
    (∀ {oldT : Nat} {startMask : Mask} {add : List Comp} {rels : List RelID} {w w' : World}
        {r : Nat × Nat × Mask},
        World.findOrCreateTableAdd oldT startMask add rels w = .ok r w' → SStep w w') ∧
    (∀ {oldT : Nat} {startMask : Mask} {rem : List Comp} {w w' : World}
        {r : Nat × Nat × Mask × Bool},
        World.findOrCreateTableRemove oldT startMask rem w = .ok r w' → SStep w w') ∧
    (∀ {oldT : Nat} {startMask : Mask} {add rem : List Comp} {rels : List RelID} {w w' : World}
        {r : Nat × Nat × Mask × Bool},
        World.findOrCreateTable oldT startMask add rem rels w = .ok r w' → SStep w w') :=
  lookup_induct SStep SStep.trans SStep.findOrCreateArch SStep.createTable

end SStep

/-! ## 4. `registerComponent`, `Shrink`, `Reset` -/

theorem SInvMid.comps_lt {w : World} (h : SInvMid w) {A : Archetype} (hA : A ∈ w.archetypes)
    {c : Comp} (hc : c ∈ A.comps) : c < w.kinds.length := by
  obtain ⟨a, ha⟩ := List.getElem?_of_mem hA
  rw [(h.comps a A ha).1] at hc
  exact ((Mask.mem_toList _ _ _).mp hc).1

namespace World

theorem registerComponent_stats {k : CompKind} {w w' : World} {n : Nat}
    (h : registerComponent k w = .ok n w') : w'.stats = w.stats := by
  unfold registerComponent at h
  simp only at h
  split at h
  · cases h
  · split at h
    · cases h
    · injection h with _ h2; subst h2; rfl

theorem registerComponent_obs {k : CompKind} {w w' : World} {n : Nat}
    (h : registerComponent k w = .ok n w') : w'.obs = w.obs := by
  unfold registerComponent at h
  simp only at h
  split at h
  · cases h
  · split at h
    · cases h
    · injection h with _ h2; subst h2; rfl

theorem obs_reset_count (m : ObsMgr) (h : m.totalCount = 0) : m.reset.totalCount = 0 := by
  unfold ObsMgr.reset
  split
  · exact h
  · rfl

theorem cacheReset_stats (w : World) : w.cacheReset.stats = w.stats := by
  unfold cacheReset
  split <;> rfl

theorem resetPre_stats (w : World) : (resetPre w).stats = w.stats := by
  show (World.cacheReset _).stats = w.stats
  rw [cacheReset_stats]

theorem resetW_stats (w : World) : (resetW w).stats = w.stats :=
  (resetW_proj (·.stats) (fun _ _ _ => rfl) (fun _ _ _ => rfl) (fun _ _ => rfl) w).trans
    (resetPre_stats w)

end World

namespace SStep

/-- registering a component appends to the registry; the sizes of the components of the existing
    archetypes are those registered before (`SInvMid.comps_lt`) -/
theorem registerComponent {w w' : World} (hS : SInvMid w) {k : CompKind} {n : Nat}
    (h : World.registerComponent k w = .ok n w') : SStep w w' := by
  obtain ⟨_, hk, ha, _⟩ := registerComponent_ok h
  exact ⟨mono_append_kinds w w' [k] ha hk (fun A hA c hc => hS.comps_lt hA hc),
    registerComponent_stats h, fun h0 => by rw [registerComponent_obs h]; exact h0⟩

/-- `Shrink` changes table lists and capacities only -/
theorem shrink {w w' : World} (r : ShrinkRel w w') : SStep w w' :=
  of_archRel r.frame r.alen r.arch

/-- `Reset` keeps archetypes (up to their table lists) and registry -/
theorem reset {w : World} (hS : SInv w) : SStep w (resetW w) := by
  refine ⟨⟨by rw [resetW_archetypes hS, List.length_map]; exact Nat.le_refl _, ?_⟩, resetW_stats w,
    fun h => by rw [resetW_obs]; exact obs_reset_count _ h⟩
  intro i A A' hA hA'
  rw [resetW_archetypes hS, List.getElem?_map, hA] at hA'
  cases hA'
  exact ⟨(resetArchOf_archRel A).comps, (resetArchOf_archRel A).numRel, fun c _ => by rw [resetW_kinds]⟩

/-- one iteration of the loop of `storage.Shrink` -/
theorem shrinkStep (w : World) (t : Nat) : SStep w (World.shrinkStep w t).1 := by
  refine of_archRel (shrinkStep_sameFrame w t) ?_ fun i => ?_ <;> rw [shrinkStep_eq] <;> split
  · simp only [freeStep_archetypes, List.length_set]; rfl
  · rfl
  · exact freeStep_archRel _ _ _ _
  · exact Archetype.ArchRel.refl _

theorem shrinkPure (w : World) (bounded : Bool) : SStep w (World.shrinkPure w bounded).1 :=
  shrinkPure_induct (fun w' => SStep w w') (fun w' t h => h.trans (shrinkStep w' t)) bounded w
    (refl w)

end SStep

/-! ## 5. the invariants do not read the statistics object -/

open Ark.Props.C01World in
theorem Refine.HInv.setStats {s : Refine.St} {fl : List Nat} (H : Refine.HInv s fl)
    (st : WorldStats) : Refine.HInv ⟨{ s.w with stats := st }, s.issued, s.ss⟩ fl where
  cinv := H.cinv.put4 (s.w.obs, s.w.log, s.w.locks, st) H.cinv.noObs
  ginv := H.ginv
  unlocked := H.unlocked
  nodup := H.nodup
  zstEq := H.zstEq
  maxc := H.maxc
  ok := fun e cs hm =>
    (H.ok e cs hm).frame ⟨fun c => valOf_congr rfl rfl _ c, compsOf_congr rfl rfl _⟩

theorem FInv.setStats {w : World} (h : FInv w) (st : WorldStats) :
    FInv { w with stats := st } where
  cache := ⟨h.cache.uniq, h.cache.index, fun e he => ⟨(h.cache.entries e he).1, fun t =>
    ((h.cache.entries e he).2 t).trans (Selected_congr rfl rfl _ _ _).symm⟩⟩
  rinv := h.rinv.congr rfl rfl
  heap := ⟨h.heap.reg, h.heap.inj, h.heap.typed⟩
  cidx := h.cidx.congr rfl rfl rfl (fun _ _ => rfl)
  lock := h.lock
  pool := ⟨h.pool.avail, h.pool.bound⟩

end Ark
