/-
  The table lookup of `exchange` / `exchangeBatch` with relations, at table level (`xchgLookup`): used
  for the single `Exchange` and inside the lookup loop of the batch, where the targets of `rels` are
  not flagged yet (`FlagsOKUpTo`).
-/
import Ark.Proofs.BatchExchangeSpec
import Ark.Proofs.RelExchange
import Ark.Proofs.RelTotal

set_option autoImplicit false

namespace Ark

open World Ark.Props.C01World

structure XchgPreM (w : World) (m : Mask) (add rem : List Comp) (rels : List RelID) : Prop where
  nonempty : ¬ (add = [] ∧ rem = [])
  remNodup : rem.Nodup
  remHas : ∀ (c : Comp), c ∈ rem → m.get c = true
  addNodup : add.Nodup
  addReg : ∀ (c : Comp), c ∈ add → c < w.kinds.length
  addNew : ∀ (c : Comp), c ∈ add → m.get c = false
  relsNodup : (rels.map (·.comp)).Nodup
  relsIn : ∀ (r : RelID), r ∈ rels → r.comp ∈ add
  relsRel : ∀ (r : RelID), r ∈ rels → w.isRelComp r.comp = true
  relsAll : ∀ (c : Comp), c ∈ add → w.isRelComp c = true → c ∈ rels.map (·.comp)
  targets : ∀ (r : RelID), r ∈ rels → r.target.isZero = true ∨ w.alive r.target = true

theorem tbl_ids_iff_tmask {w : World} (hS : SInvMid w) {t : Nat} (ht : t < w.tables.length)
    (c : Comp) : c ∈ (w.tbl t).ids ↔ (tmask w t).get c = true := hS.mem_ids_iff ht c

theorem xmask_get_iff {add rem : List Comp} (hb : ∀ (c : Comp), c ∈ add → c < 256) (m : Mask)
    (c : Comp) : (xmask add rem m).get c = true ↔ ((m.get c = true ∧ c ∉ rem) ∨ c ∈ add) := by
  rw [xmask_get]
  constructor
  · intro hh
    simp only [Bool.or_eq_true, Bool.and_eq_true, Bool.not_eq_true', decide_eq_false_iff_not,
      decide_eq_true_eq] at hh
    rcases hh with k | k
    · exact Or.inl k
    · exact Or.inr k.2
  · rintro (k | k)
    · simp [k.1, k.2]
    · simp [hb c k, k]

def keptRels (T : Table) (m : Mask) : List RelID := T.relIDs.filter fun r => m.get r.comp

structure XchgLooked (w w1 : World) (oldT : Nat) (add rem : List Comp) (rels : List RelID)
    (t a : Nat) : Prop where
  call : findOrCreateTable oldT (tmask w oldT) add rem rels w =
    .ok (t, a, xmask add rem (tmask w oldT),
      xchgRelRemoved (w.tbl oldT) (xmask add rem (tmask w oldT)) rem) w1
  root : findOrCreateTableAdd 0 (xmask add rem (tmask w oldT)) []
    (keptRels (w.tbl oldT) (xmask add rem (tmask w oldT)) ++ rels) w =
      .ok (t, a, xmask add rem (tmask w oldT)) w1
  ar : AddedRelU w w1 0 (keptRels (w.tbl oldT) (xmask add rem (tmask w oldT)) ++ rels) rels
    (xmask add rem (tmask w oldT)) t a
  mreg : ∀ (c : Nat), (xmask add rem (tmask w oldT)).get c = true → c < w.kinds.length
  ne : oldT ≠ t
  relArchs : w1.relationArchetypes.length ≤ w.relationArchetypes.length + 1
  idsEq : (w1.tbl t).ids = (xmask add rem (tmask w oldT)).toList w.kinds.length
  ids : ∀ (c : Comp), c ∈ (w1.tbl t).ids ↔
    (((tmask w oldT).get c = true ∧ c ∉ rem) ∨ c ∈ add)
  targetAt_iff : ∀ (c : Comp) (x : Ent), (w1.tbl t).targetAt c = some x ↔
    ((c ∉ rem ∧ (w.tbl oldT).targetAt c = some x) ∨ (⟨c, x⟩ : RelID) ∈ rels)

theorem xchgLookup {w : World} (hR : RelInv w) {rels : List RelID} (hF : FlagsOKUpTo w rels)
    (hE : FreeEmpty w) (hk256 : w.kinds.length ≤ 256) {oldT : Nat} (hlt : oldT < w.tables.length)
    (hTf : (w.tbl oldT).isFree = false) {add rem : List Comp}
    (hp : XchgPreM w (tmask w oldT) add rem rels) :
    ∃ (t a : Nat) (w1 : World), XchgLooked w w1 oldT add rem rels t a := by
  obtain ⟨hne, hrnd, hpres, hand, hreg, hnew, hrelnd, hin, hrc, hall, hval⟩ := hp
  have hT := get_of_lt hlt
  have hSS := hR.sinv
  have hS := hSS.toSInvMid
  have hTex := hR.aux.rels oldT _ hT hTf
  have hb256 : ∀ (c : Comp), c ∈ add → c < 256 := fun c hc => Nat.lt_of_lt_of_le (hreg c hc) hk256
  have holdIds := tbl_ids_iff_tmask hS hlt
  have hg := graphFind_ok (tmask w oldT) add rem w hb256 hrnd hpres hand hnew
  -- the mask after the walk, abstractly
  obtain ⟨m, hm⟩ : ∃ (m : Mask), m = xmask add rem (tmask w oldT) := ⟨_, rfl⟩
  have hg' : graphFind (tmask w oldT) (tmask w oldT) add rem w = .ok m w := by rw [hm]; exact hg
  have mget : ∀ (c : Comp), m.get c =
      (((tmask w oldT).get c && !decide (c ∈ rem)) || (decide (c < 256) && decide (c ∈ add))) := by
    intro c; rw [hm, xmask_get]
  have mgetP : ∀ (c : Comp), m.get c = true ↔
      (((tmask w oldT).get c = true ∧ c ∉ rem) ∨ c ∈ add) := by
    intro c; rw [hm, xmask_get_iff hb256]
  have hroot : (w.tbl 0).relIDs = [] := hS.root_relIDs
  have hmreg : ∀ (c : Nat), m.get c = true → c < w.kinds.length := by
    intro c hc
    rcases (mgetP c).1 hc with k | k
    · exact hS.tblMask_reg hT c k.1
    · exact hreg c k
  -- the relations handed to the lookup: the source's whose component stays, then `rels`;
  -- no component twice, the kept ones being in the old mask and those of `rels` not
  have hom : ∀ (r : RelID), r ∈ (w.tbl oldT).relIDs → (tmask w oldT).get r.comp = true :=
    hS.relIDs_mask hT
  have hkeptMem : ∀ (r : RelID), r ∈ keptRels (w.tbl oldT) m ↔
      r ∈ (w.tbl oldT).relIDs ∧ m.get r.comp = true := by
    intro r; simp only [keptRels, List.mem_filter]
  have hxr : xchgRels (w.tbl oldT) m rem rels = keptRels (w.tbl oldT) m ++ rels := by
    apply xchgRels_eq
    intro hre r hr
    rw [mget, hom r hr, hre]; rfl
  have hndL : ((keptRels (w.tbl oldT) m ++ rels).map (·.comp)).Nodup := by
    rw [List.map_append, List.nodup_append]
    refine ⟨(hTex.nodup).sublist (List.Sublist.map _ List.filter_sublist), hrelnd, ?_⟩
    intro c hc1 c' hc2 heq
    obtain ⟨r1, hr1, rfl⟩ := List.mem_map.1 hc1
    obtain ⟨r2, hr2, rfl⟩ := List.mem_map.1 hc2
    have k1 := hom r1 ((hkeptMem r1).1 hr1).1
    have k2 := hnew r2.comp (hin r2 hr2)
    rw [← heq, k1] at k2; cases k2
  -- the lookup cannot fail: the list names exactly the relation components of the new mask, each
  -- once, with targets zero or alive (the source's by `RelInv`, those of `rels` by `hval`)
  obtain ⟨t, a, w1, hlook⟩ := hR.lookup_total hmreg
    (L := keptRels (w.tbl oldT) m ++ rels)
    (by
      intro r hr
      rcases List.mem_append.1 hr with k | k
      · exact ((hkeptMem r).1 k).2
      · exact (mgetP r.comp).2 (Or.inr (hin r k)))
    (by
      intro c hc hrel
      rw [List.map_append, List.mem_append]
      rcases (mgetP c).1 hc with k | k
      · left
        obtain ⟨j, _, _, hmem⟩ := hS.relID_of_mask hlt hTex k.1 hrel
        exact List.mem_map.2 ⟨_, (hkeptMem _).2 ⟨hmem, hc⟩, rfl⟩
      · exact Or.inr (hall c k hrel))
    hndL
    (by
      intro r hr
      rcases List.mem_append.1 hr with k | k
      · obtain ⟨i, k1, k2, k3⟩ := hTex.sound r ((hkeptMem r).1 k).1
        refine ⟨hS.isRelComp_of_col hT k1 k2, ?_⟩
        rw [← k3]; exact hR.aux.targets oldT _ hT hTf i k2
      · exact ⟨hrc r k, hval r k⟩)
  -- the call is this lookup, started at the root table (no relations) with the final mask
  have hadd : findOrCreateTableAdd 0 m [] (keptRels (w.tbl oldT) m ++ rels) w = .ok (t, a, m) w1 :=
    findOrCreateTableAdd_of_tableFor rfl (by rw [relsForAdd_eq, hroot, List.nil_append]; exact hlook)
  have hf : findOrCreateTable oldT (tmask w oldT) add rem rels w =
      .ok (t, a, m, xchgRelRemoved (w.tbl oldT) m rem) w1 := by
    rw [findOrCreateTable_eq_add_rel oldT _ _ add rem rels w hg' hroot, hxr, hadd]
  -- `ar`: what the lookup delivers; the targets of the kept relations are flagged already (`hF`),
  -- only those of `rels` may not be
  obtain ⟨_, ar⟩ := hR.findOrCreateTableAddU hF hE (rels0 := rels) hmreg
    (fun c hc => by cases hc)
    (by
      intro r hr hz
      rw [hroot, List.nil_append] at hr
      rcases List.mem_append.1 hr with k | k
      · obtain ⟨j, _, k2, k3⟩ := hTex.sound r ((hkeptMem r).1 k).1
        rw [← k3] at hz ⊢
        exact hF oldT _ hT hTf j k2 hz
      · exact Or.inr ⟨r, k, rfl⟩) hadd
  have hra := findOrCreateTableAdd_relArchs hadd
  have foc := ar.foc
  -- the mask changes (`hne`), so the destination is another table
  have hne' : oldT ≠ t := by
    refine Ne.symm (foc.ne_old hSS hlt ?_)
    rw [hm]
    exact xmask_ne ⟨hrnd, hpres, hand, hreg, hnew⟩ hk256 hne
  have hTt := get_of_lt foc.tblLt
  have hrc1 : ∀ (c : Comp), w1.isRelComp c = w.isRelComp c := fun c => by
    simp only [World.isRelComp, foc.kinds]
  have hnewIds : ∀ (c : Comp), c ∈ (w1.tbl t).ids ↔
      (((tmask w oldT).get c = true ∧ c ∉ rem) ∨ c ∈ add) := by
    intro c
    rw [foc.tblIds, Mask.mem_toList, ← mgetP]
    exact ⟨fun hh => hh.2, fun hh => ⟨hmreg c hh, hh⟩⟩
  have hL : ∀ (r : RelID), r ∈ keptRels (w.tbl oldT) m ++ rels →
      r ∈ (w.tbl 0).relIDs ++ (keptRels (w.tbl oldT) m ++ rels) := by
    rw [hroot, List.nil_append]; exact fun _ hr => hr
  subst hm
  refine ⟨t, a, w1,
    { call := hf, root := hadd, ar := ar, mreg := hmreg, ne := hne', relArchs := hra,
      idsEq := foc.tblIds, ids := hnewIds, targetAt_iff := ?_ }⟩
  intro c x
  constructor
  -- →: `c` stays or is added; a relation component that stays has its entry in the source's
  -- `relIDs` (`relID_of_mask`), hence in `keptRels`, and `ar.tgt` reads the entry off the destination
  · intro hx
    obtain ⟨j, hcj, hjr, hxj⟩ := Table.col_of_targetAt hx
    have hrcc : w.isRelComp c = true := by
      rw [← hrc1]; exact foc.sinv.toSInvMid.isRelComp_of_col hTt (Table.colIdx_get hcj) hjr
    have hcnew : c ∈ (w1.tbl t).ids := colIdx_some_iff_mem.1 ⟨j, hcj⟩
    rcases (hnewIds c).1 hcnew with k | k
    · left
      refine ⟨k.2, ?_⟩
      obtain ⟨i, hi, hir, hmem⟩ := hS.relID_of_mask hlt hTex k.1 hrcc
      have hmc : (xmask add rem (tmask w oldT)).get c = true := (mgetP c).2 (Or.inl k)
      obtain ⟨_, k3⟩ := ar.tgt ⟨c, (w.tbl oldT).targets.getD i Ent.zero⟩
        (hL _ (List.mem_append_left _ ((hkeptMem _).2 ⟨hmem, hmc⟩))) hrcc j hcj
      rw [Table.targetAt_of_col hi hir, ← hxj, k3]
    · right
      obtain ⟨r, hr, hrc'⟩ := List.mem_map.1 (hall c k hrcc)
      obtain ⟨_, k3⟩ := ar.tgt r (hL _ (List.mem_append_right _ hr)) (hrc r hr) j
        (by rw [hrc']; exact hcj)
      have : r = ⟨c, x⟩ := by
        cases r with
        | mk rc rt =>
          simp only at hrc' k3
          rw [hrc', ← hxj, k3]
      rw [← this]; exact hr
  -- ←: a target the source stores is listed in its `relIDs` (`RelsExact.complete`), hence in
  -- `keptRels` when `c` is not removed; `AddedRelU.targetAt` reads it off the destination
  · rintro (⟨hnr, hx⟩ | hr)
    · obtain ⟨i, hci, hir, hxi⟩ := Table.col_of_targetAt hx
      have hmem := hTex.complete i c (Table.colIdx_get hci) hir
      rw [hxi] at hmem
      have hrcc : w.isRelComp c = true := hS.isRelComp_of_col hT (Table.colIdx_get hci) hir
      have hcold : c ∈ (w.tbl oldT).ids := colIdx_some_iff_mem.1 ⟨i, hci⟩
      have hmaskc : (xmask add rem (tmask w oldT)).get c = true :=
        (mgetP c).2 (Or.inl ⟨(holdIds c).1 hcold, hnr⟩)
      have hcnew : c ∈ (w1.tbl t).ids := (hnewIds c).2 (Or.inl ⟨(holdIds c).1 hcold, hnr⟩)
      exact ar.targetAt (r := ⟨c, x⟩) (hL _ (List.mem_append_left _ ((hkeptMem _).2 ⟨hmem, hmaskc⟩)))
        hrcc hcnew
    · exact ar.targetAt (r := ⟨c, x⟩) (hL _ (List.mem_append_right _ hr)) (hrc _ hr)
        ((hnewIds c).2 (Or.inr (hin _ hr)))

end Ark
