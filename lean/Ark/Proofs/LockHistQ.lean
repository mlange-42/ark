/-
  Property C07 over whole histories: the history machine with queries that stay open
  across other operations (`OpQ`, `QSt`, `stepQ`): every step runs the model operation and keeps
  the world it returns, also after a panic (Go `recover`).  The invariant `HInvQ` ties the lock
  mask to the lock bits of the open queries; one lemma per kind of step gives the exact outcome of
  the model operation and the new machine state.
-/
import Ark.Proofs.CacheHistOps
import Ark.Proofs.LockHist

set_option autoImplicit false

namespace Ark

open World Ark.Props.C01World Refine

/-! ## 0. frames -/

theorem FInv.withLocks {w : World} (h : FInv w) {l : Lock}
    (hl : ∃ (lf : List Nat), Lock.LInv ⟨l, []⟩ lf) : FInv (w.withLocks l) where
  cache := h.cache.congr rfl rfl rfl
  rinv := h.rinv.congr rfl rfl
  heap := ⟨h.heap.reg, h.heap.inj, h.heap.typed⟩
  cidx := h.cidx.congr rfl rfl rfl (fun _ _ => rfl)
  lock := hl
  pool := ⟨h.pool.avail, h.pool.bound⟩

theorem map_erase_of_nodup {α β : Type} [DecidableEq α] [DecidableEq β] (f : α → β) :
    ∀ (l : List α) (q : α), (l.map f).Nodup → q ∈ l → (l.erase q).map f = (l.map f).erase (f q)
  | [], _, _, h => by cases h
  | x :: xs, q, hnd, hq => by
    rw [List.map_cons, List.nodup_cons] at hnd
    by_cases hx : x = q
    · subst hx
      simp
    · have hq' : q ∈ xs := by
        rcases List.mem_cons.mp hq with h | h
        · exact absurd h.symm hx
        · exact h
      have hf : f x ≠ f q := fun hh => hnd.1 (hh ▸ List.mem_map_of_mem hq')
      rw [List.erase_cons_tail (by simpa using hx), List.map_cons, List.map_cons,
        List.erase_cons_tail (by simpa using hf), map_erase_of_nodup f xs q hnd.2 hq']

namespace AL

theorem insert_of_find?_self {ν : Type} : ∀ (m : AL ν) (k : Nat) (v : ν),
    find? m k = some v → insert m k v = m
  | [], _, _, h => by cases h
  | (k', v') :: rest, k, v, h => by
    by_cases hk : k' = k
    · subst hk
      simp only [find?, if_true, Option.some.injEq] at h
      subst h
      simp only [insert, if_true]
    · simp only [find?, if_neg hk] at h
      simp only [insert, if_neg hk, insert_of_find?_self rest k v h]

end AL

/-! ## 1. what the cursor reads of the world -/

namespace Table

theorem matchesRels_go_congr {T T' : Table} (h : SameMeta T T') :
    ∀ (rels : List RelID), matchesRels.go T' rels = matchesRels.go T rels
  | [] => rfl
  | r :: rest => by
    simp only [matchesRels.go, colIdx, h.ids, h.targets, matchesRels_go_congr h rest]

theorem matchesRels_congr {T T' : Table} (h : SameMeta T T') (rels : List RelID) :
    T'.matchesRels rels = T.matchesRels rels := by
  unfold matchesRels hasRelations
  rw [h.relIDs, matchesRels_go_congr h rels]

end Table

namespace LockHist

/-- nothing a query walks over has changed between `w` and `w'` -/
structure Frozen (w w' : World) : Prop where
  archetypes : w'.archetypes = w.archetypes
  componentIndex : w'.componentIndex = w.componentIndex
  entities : w'.entities = w.entities
  pool : w'.pool = w.pool
  kinds : w'.kinds = w.kinds
  tablesLen : w'.tables.length = w.tables.length
  sameMeta : ∀ (t : Nat), Table.SameMeta (w.tbl t) (w'.tbl t)
  len : ∀ (t : Nat), (w'.tbl t).len = (w.tbl t).len
  ents : ∀ (t : Nat), (w'.tbl t).ents = (w.tbl t).ents

namespace Frozen

theorem refl (w : World) : Frozen w w :=
  ⟨rfl, rfl, rfl, rfl, rfl, rfl, fun _ => Table.SameMeta.refl _, fun _ => rfl, fun _ => rfl⟩

theorem trans {a b c : World} (h1 : Frozen a b) (h2 : Frozen b c) : Frozen a c :=
  ⟨h2.archetypes.trans h1.archetypes, h2.componentIndex.trans h1.componentIndex,
    h2.entities.trans h1.entities, h2.pool.trans h1.pool, h2.kinds.trans h1.kinds,
    h2.tablesLen.trans h1.tablesLen, fun t => (h1.sameMeta t).trans (h2.sameMeta t),
    fun t => (h2.len t).trans (h1.len t), fun t => (h2.ents t).trans (h1.ents t)⟩

theorem withLocks (w : World) (l : Lock) : Frozen w (w.withLocks l) :=
  ⟨rfl, rfl, rfl, rfl, rfl, rfl, fun _ => Table.SameMeta.refl _, fun _ => rfl, fun _ => rfl⟩

theorem writeVals (w : World) (e : Ent) (vals : List (Comp × Val)) :
    Frozen w (writeValsW w e vals) := by
  refine ⟨rfl, rfl, rfl, rfl, rfl, ?_, ?_, ?_, ?_⟩
  · simp only [writeValsW, modTbl, setTbl, List.length_set]
  · intro t
    simp only [writeValsW, modTbl_tbl]
    split
    · rename_i hc; rw [hc.1]; exact writeFold_sameMeta _ vals _
    · exact Table.SameMeta.refl _
  · intro t
    simp only [writeValsW, modTbl_tbl]
    split
    · rename_i hc; rw [hc.1]; exact (Table.writeFold_len_ents _ vals _).1
    · rfl
  · intro t
    simp only [writeValsW, modTbl_tbl]
    split
    · rename_i hc; rw [hc.1]; exact (Table.writeFold_len_ents _ vals _).2
    · rfl

variable {w w' : World}

/-- the rows a cursor still has to visit depend on the archetypes, the component index, and of
    the tables only on their lengths and relation targets -/
theorem remaining (h : Frozen w w') (c : QueryObj) : Drain.remaining w' c = Drain.remaining w c := by
  have hm : ∀ (t : Nat) (rels : List RelID),
      (w'.tbl t).matchesRels rels = (w.tbl t).matchesRels rels :=
    fun t rels => Table.matchesRels_congr (h.sameMeta t) rels
  have hrows : ∀ (t : Nat), Drain.rowsOf w' t = Drain.rowsOf w t := fun t => by
    simp only [Drain.rowsOf, h.len]
  have hscan : ∀ (rels : List RelID) (ts : List Nat),
      Drain.scanRows w' rels ts = Drain.scanRows w rels ts := by
    intro rels ts
    induction ts with
    | nil => rfl
    | cons t rest ih => simp only [Drain.scanRows, h.len, hm, hrows, ih]
  have harch : ∀ (a : Nat), w'.arch a = w.arch a := fun a => arch_congr h.archetypes _
  have hars : ∀ (f : Filter) (rels : List RelID) (as : List Nat),
      Drain.archRows w' f rels as = Drain.archRows w f rels as := by
    intro f rels as
    induction as with
    | nil => rfl
    | cons a rest ih => simp only [Drain.archRows, harch, hrows, hscan, ih]
  have hal : ∀ (r : Option Comp), w'.archList r = w.archList r := fun r => by
    cases r <;> simp only [archList, h.archetypes, h.componentIndex]
  simp only [Drain.remaining, hscan, hars, hal]

theorem getEntity (h : Frozen w w') (t row : Nat) :
    (w'.tbl t).getEntity row = (w.tbl t).getEntity row := by
  simp only [Table.getEntity, h.ents]

theorem alive (h : Frozen w w') (e : Ent) : w'.alive e = w.alive e := by
  simp only [World.alive, h.pool]

theorem index (h : Frozen w w') (i : Nat) : w'.index i = w.index i := by
  simp only [World.index, h.entities]

end Frozen

end LockHist

/-! ## 2. the shapes of `Query()`, `Next`, `Close` -/

namespace World

theorem qClose_closed (c : QueryObj) (w : World) (h : c.table < -1) : qClose c w = .ok c w := by
  simp [qClose, h, pure, M.pure]

theorem qNext_closed (c : QueryObj) (w : World) (h : c.table < -1) :
    qNext c w = .panic .queryDone w := by
  simp [qNext, h, bind, M.bind, M.panic]

theorem opEmit_noObs (run : ProbeRunner) (evt : Nat) (comps : List Comp) (e : Ent) (w : World)
    (hno : w.obs.hasObservers evt = false) :
    opEmit run evt comps e w = .ok () w ∨ opEmit run evt comps e w = .panic .emitPredefined w := by
  by_cases h : evt ≤ Ev.custom
  · left; simp [opEmit, bind, M.bind, M.assert, M.get, h, hno, pure, M.pure]
  · right; simp [opEmit, bind, M.bind, M.assert, h]

end World

/-! ## 3. the machine -/

namespace LockHist

inductive OpQ
  /-- an operation of `Ark.Refine` (`reg`, `new p`, `new0`, `add p`, `rem p`, `xchg p`, `set`,
      `del`, `copy`, `shrink`, `reset`) -/
  | base (op : Op)
  /-- `q := fo.Query()`: `q` names the query object returned -/
  | qopen (q : Nat) (fo : FilterObj)
  /-- `q.Next()` -/
  | qnext (q : Nat)
  /-- `q.Close()` -/
  | qclose (q : Nat)
  /-- `Event.Emit` of event type `evt` with the components `comps` for entity `e` -/
  | emit (evt : Nat) (comps : List Comp) (e : Ent)

/-- world + ghost history + specification of `Ark.Refine`, the query objects the client holds,
    and the ghost list of the open queries -/
structure QSt where
  base : St
  /-- query name ↦ query object (`Query0..8` / `UnsafeQuery` value) -/
  cursors : AL QueryObj
  /-- ghost: the names of the queries that were opened successfully, have not reported the end
      and have not been closed, newest first -/
  openQ : List Nat

namespace QSt

def w (s : QSt) : World := s.base.w

def setW (s : QSt) (w : World) : QSt := { s with base := { s.base with w := w } }

def init (cap rel : Nat) : QSt := ⟨St.init cap rel, [], []⟩

end QSt

/-- what a client can express: the guard of `Ark.Refine` for its operations; a query is stored
    under a fresh name and made from an unregistered filter object (the machine of `Ark.Refine`
    has no filter registration); `Next`/`Close` are called on a query object the client holds -/
def guardQ (s : QSt) : OpQ → Bool
  | .base op => guard s.base op
  | .qopen q fo => (AL.find? s.cursors q).isNone && fo.cache.isNone
  | .qnext q => (AL.find? s.cursors q).isSome
  | .qclose q => (AL.find? s.cursors q).isSome
  | .emit _ _ _ => true

/-- **one step.**  The model operation is run on the world and the world it returns is kept,
    also after a panic (Go `recover`).
    * `base op`: while a query is open a structural operation only runs the model (that it panics
      without effect is a theorem); otherwise the step of `Ark.Refine`.
    * `qopen q fo`: `Query()`; on success the query object is stored under `q` and `q` is open.
    * `qnext q`: `Next()`; the query object is updated; when `Next` reports the end (`false`),
      `q` is no longer open.
    * `qclose q`: `Close()`; `q` is no longer open.
    * `emit`: `Event.Emit`. -/
def stepQ (run : ProbeRunner) (s : QSt) : OpQ → QSt
  | .base op =>
    if s.openQ ≠ [] ∧ op.structural = true then
      if guard s.base op = true then s.setW (exec run s.w op).state else s
    else { s with base := Refine.step run s.base op }
  | .qopen q fo =>
    if guardQ s (.qopen q fo) = true then
      match qOpen fo [] s.w with
      | .ok c w' => ⟨{ s.base with w := w' }, AL.insert s.cursors q c, q :: s.openQ⟩
      | .panic _ w' => s.setW w'
    else s
  | .qnext q =>
    match AL.find? s.cursors q with
    | none => s
    | some c =>
      match qNext c s.w with
      | .ok (c', more) w' =>
        ⟨{ s.base with w := w' }, AL.insert s.cursors q c',
          if more = true then s.openQ else s.openQ.erase q⟩
      | .panic _ w' => s.setW w'
  | .qclose q =>
    match AL.find? s.cursors q with
    | none => s
    | some c =>
      match qClose c s.w with
      | .ok c' w' => ⟨{ s.base with w := w' }, AL.insert s.cursors q c', s.openQ.erase q⟩
      | .panic _ w' => s.setW w'
  | .emit evt comps e => s.setW (opEmit run evt comps e s.w).state

def runQ (run : ProbeRunner) (s : QSt) (ops : List OpQ) : QSt := ops.foldl (stepQ run) s

def reachQ (run : ProbeRunner) (cap rel : Nat) (ops : List OpQ) : QSt :=
  runQ run (QSt.init cap rel) ops

theorem reachQ_snoc (run : ProbeRunner) (cap rel : Nat) (ops : List OpQ) (op : OpQ) :
    reachQ run cap rel (ops ++ [op]) = stepQ run (reachQ run cap rel ops) op := by
  simp only [reachQ, runQ, List.foldl_append, List.foldl_cons, List.foldl_nil]

/-! ## 4. the invariant -/

def bitOf (cs : AL QueryObj) (q : Nat) : Nat := ((AL.find? cs q).map (·.lockBit)).getD 0

def outstanding (s : QSt) : List Nat := s.openQ.map (bitOf s.cursors)

/-- an open query object: the cursor invariant of `Ark.Proofs.Drain`, made from an unregistered
    filter, and the rows it still has to visit are defined (no step can hit a nil dereference) -/
structure CurOK (w : World) (c : QueryObj) : Prop where
  inv : Drain.Inv c
  uncached : c.cacheTables = none
  rem : ∃ (rows : List (Nat × Nat)), Drain.remaining w c = some rows

structure HInvQ (s : QSt) (fl lfl : List Nat) : Prop where
  hinv : HInv' s.base fl
  /-- the filter-side invariant (relation index, component index, cache) of the world with the
      initial lock -/
  finv : FInv (s.w.withLocks {})
  /-- **the lock**: the bit pool is consistent and the mask holds exactly the lock bits of the
      open queries, which are pairwise distinct (`Lock.LInv.out_nodup`) -/
  linv : Lock.LInv ⟨s.w.locks, outstanding s⟩ lfl
  openNodup : s.openQ.Nodup
  /-- a query is open iff its query object is not closed -/
  open_iff : ∀ (q : Nat), q ∈ s.openQ ↔ ∃ (c : QueryObj), AL.find? s.cursors q = some c ∧ -1 ≤ c.table
  cur : ∀ (q : Nat) (c : QueryObj), AL.find? s.cursors q = some c → -1 ≤ c.table → CurOK s.w c

theorem hinvQ_init (cap rel : Nat) : HInvQ (QSt.init cap rel) [] [] where
  hinv := hinv'_init cap rel
  finv := finv_init cap rel
  linv := Lock.linv_init
  openNodup := List.nodup_nil
  open_iff := by
    intro q
    constructor
    · intro h; cases h
    · rintro ⟨c, h, _⟩; cases h
  cur := by intro q c h; cases h

namespace HInvQ

variable {s : QSt} {fl lfl : List Nat}

theorem locked_iff (H : HInvQ s fl lfl) : s.w.isLocked = true ↔ s.openQ ≠ [] := by
  have := H.linv.isLocked_iff
  simp only [outstanding, ne_eq, List.map_eq_nil_iff] at this
  exact this

theorem unlocked_iff (H : HInvQ s fl lfl) : s.w.isLocked = false ↔ s.openQ = [] := by
  have := H.linv.unlocked_iff
  simp only [outstanding, List.map_eq_nil_iff] at this
  exact this

theorem open_le (H : HInvQ s fl lfl) : s.openQ.length ≤ 64 := by
  have := H.linv.out_le
  simpa only [outstanding, List.length_map] using this

theorem toHInv (H : HInvQ s fl lfl) (h : s.openQ = []) : HInv s.base fl :=
  H.hinv.toHInv (H.unlocked_iff.mpr h)

theorem bit_mem {q : Nat} (hq : q ∈ s.openQ) :
    bitOf s.cursors q ∈ outstanding s := List.mem_map_of_mem hq

theorem closed_of_not_open (H : HInvQ s fl lfl) {q : Nat} {c : QueryObj}
    (hc : AL.find? s.cursors q = some c) (hq : q ∉ s.openQ) : c.table < -1 := by
  false_or_by_contra
  rename_i h
  exact hq ((H.open_iff q).mpr ⟨c, hc, by omega⟩)

end HInvQ

/-! ## 5. cursors and the world -/

theorem CurOK.frozen {w w' : World} {c : QueryObj} (h : CurOK w c) (f : Frozen w w') : CurOK w' c :=
  ⟨h.inv, h.uncached, by rw [f.remaining]; exact h.rem⟩

/-- in the fragment no archetype — existing or not — has a relation column -/
theorem noRel_all {w : World} {fl : List Nat} (h : CInv w fl) (a : Nat) :
    (w.arch a).hasRelations = false := by
  by_cases ha : a < w.archetypes.length
  · exact h.noRelArch' ha
  · have : w.arch a = default := by
      simp only [arch, List.getD_eq_getElem?_getD, List.getElem?_eq_none (Nat.le_of_not_lt ha),
        Option.getD_none]
    rw [this]; rfl

open QueryExact Drain in
/-- a query just opened has, as rows to visit, the rows `Drain.expected` computes -/
theorem opened_expected {w : World} {fl : List Nat} (h : CInv w fl) (fo : FilterObj) (b : Nat) :
    ∃ (rows : List (Nat × Nat)), expected w (openedQ fo w b) = some rows ∧
      remaining w (openedQ fo w b) = some rows := by
  have hsel := qSelected_noRel w (openedQ fo w b) rfl (fun a _ => noRel_all h a)
  exact ⟨_, by simp only [expected, hsel, Option.map_some],
    remaining_fresh w _ _ ⟨rfl, rfl, rfl, rfl, rfl, rfl⟩ hsel⟩

open QueryExact in
theorem curOK_opened {w : World} {fl : List Nat} (h : CInv w fl) (fo : FilterObj) (b : Nat) :
    CurOK w (openedQ fo w b) :=
  ⟨Drain.Fresh.inv ⟨rfl, rfl, rfl, rfl, rfl, rfl⟩, rfl, (opened_expected h fo b).imp fun _ x => x.2⟩

theorem bitOf_insert_self (cs : AL QueryObj) (q : Nat) (c : QueryObj) :
    bitOf (AL.insert cs q c) q = c.lockBit := by
  simp only [bitOf, AL.find?_insert_self, Option.map_some, Option.getD_some]

theorem bitOf_insert_ne (cs : AL QueryObj) {q q' : Nat} (c : QueryObj) (h : q' ≠ q) :
    bitOf (AL.insert cs q c) q' = bitOf cs q' := by
  simp only [bitOf, AL.find?_insert_ne _ _ _ _ h]

theorem bitOf_of_find {cs : AL QueryObj} {q : Nat} {c : QueryObj} (h : AL.find? cs q = some c) :
    bitOf cs q = c.lockBit := by
  simp only [bitOf, h, Option.map_some, Option.getD_some]

theorem map_bitOf_insert (cs : AL QueryObj) {q : Nat} {c c' : QueryObj}
    (hc : AL.find? cs q = some c) (hb : c'.lockBit = c.lockBit) (l : List Nat) :
    l.map (bitOf (AL.insert cs q c')) = l.map (bitOf cs) := by
  apply List.map_congr_left
  intro q' _
  by_cases h : q' = q
  · subst h; rw [bitOf_insert_self, bitOf_of_find hc, hb]
  · exact bitOf_insert_ne cs c' h

theorem map_bitOf_insert_notin (cs : AL QueryObj) {q : Nat} (c' : QueryObj) (l : List Nat)
    (hq : q ∉ l) : l.map (bitOf (AL.insert cs q c')) = l.map (bitOf cs) := by
  apply List.map_congr_left
  intro q' hq'
  exact bitOf_insert_ne cs c' (fun h => hq (h ▸ hq'))

namespace HInvQ

variable {s : QSt} {fl lfl : List Nat}

theorem open_iff_insert (H : HInvQ s fl lfl) {q : Nat} {c' : QueryObj} {O : List Nat}
    (hq : q ∈ O ↔ -1 ≤ c'.table) (hO : ∀ (q' : Nat), q' ≠ q → (q' ∈ O ↔ q' ∈ s.openQ)) (q' : Nat) :
    q' ∈ O ↔ ∃ (x : QueryObj), AL.find? (AL.insert s.cursors q c') q' = some x ∧ -1 ≤ x.table := by
  by_cases h : q' = q
  · subst h
    rw [AL.find?_insert_self, hq]
    exact ⟨fun ht => ⟨c', rfl, ht⟩, fun ⟨x, hx, ht⟩ => Option.some.inj hx ▸ ht⟩
  · rw [AL.find?_insert_ne _ _ _ _ h, hO q' h]; exact H.open_iff q'

theorem cur_insert (H : HInvQ s fl lfl) {q : Nat} {c' : QueryObj} {w' : World}
    (hq : -1 ≤ c'.table → CurOK w' c') (hw : ∀ (x : QueryObj), CurOK s.w x → CurOK w' x)
    (q' : Nat) (x : QueryObj) (hx : AL.find? (AL.insert s.cursors q c') q' = some x)
    (hxt : -1 ≤ x.table) : CurOK w' x := by
  by_cases h : q' = q
  · subst h
    rw [AL.find?_insert_self] at hx
    exact Option.some.inj hx ▸ hq (Option.some.inj hx ▸ hxt)
  · rw [AL.find?_insert_ne _ _ _ _ h] at hx
    exact hw x (H.cur q' x hx hxt)

theorem advance (H : HInvQ s fl lfl) {q : Nat} {c c' : QueryObj}
    (hc : AL.find? s.cursors q = some c) (hq : q ∈ s.openQ) (hb : c'.lockBit = c.lockBit)
    (ht : -1 ≤ c'.table) (hok : CurOK s.w c') :
    HInvQ ⟨s.base, AL.insert s.cursors q c', s.openQ⟩ fl lfl where
  hinv := H.hinv
  finv := H.finv
  linv := by
    show Lock.LInv ⟨s.w.locks, s.openQ.map (bitOf (AL.insert s.cursors q c'))⟩ lfl
    rw [map_bitOf_insert s.cursors hc hb]; exact H.linv
  openNodup := H.openNodup
  open_iff := H.open_iff_insert ⟨fun _ => ht, fun _ => hq⟩ fun _ _ => Iff.rfl
  cur := H.cur_insert (fun _ => hok) fun _ h => h

/-- **an open query releases its lock** (`Close`, or `Next` reporting the end): `Unlock` of its bit
    succeeds, the query object is closed, the query is no longer open, and the invariant is kept
    with exactly that bit returned -/
theorem release (H : HInvQ s fl lfl) {q : Nat} {c c' : QueryObj}
    (hc : AL.find? s.cursors q = some c) (hq : q ∈ s.openQ) (hb : c'.lockBit = c.lockBit) :
    ∃ (l' : Lock), s.w.locks.unlock c'.lockBit = some l' ∧
      HInvQ ⟨s.base.withLocks l', AL.insert s.cursors q (Drain.closed c'), s.openQ.erase q⟩ fl
        (c.lockBit :: lfl) := by
  have hbit : bitOf s.cursors q = c.lockBit := bitOf_of_find hc
  have hmem : c.lockBit ∈ outstanding s := hbit ▸ bit_mem hq
  rcases Lock.unlock_spec _ lfl H.linv c.lockBit with ⟨_, hn⟩ | ⟨l', hul, _, g'⟩
  · exact absurd hmem hn
  refine ⟨l', by rw [hb]; exact hul, ?_⟩
  have hqe : q ∉ s.openQ.erase q := List.Nodup.not_mem_erase H.openNodup
  have hcl : ¬ -1 ≤ (Drain.closed c').table := by simp only [Drain.closed]; omega
  exact
    { hinv := H.hinv.withLocks l'
      finv := by
        show FInv ((s.w.withLocks l').withLocks {})
        rw [World.withLocks_withLocks]; exact H.finv
      linv := by
        show Lock.LInv ⟨l', (s.openQ.erase q).map (bitOf (AL.insert s.cursors q (Drain.closed c')))⟩ _
        rw [map_bitOf_insert_notin s.cursors _ _ hqe,
          map_erase_of_nodup (bitOf s.cursors) s.openQ q H.linv.out_nodup hq, hbit]
        exact g'
      openNodup := H.openNodup.erase q
      open_iff := H.open_iff_insert ⟨fun h => absurd h hqe, fun h => absurd h hcl⟩
        fun _ h => List.mem_erase_of_ne h
      cur := H.cur_insert (fun h => absurd h hcl) fun _ h => h.frozen (.withLocks _ l') }

end HInvQ

/-! ### the outstanding bits after the three kinds of query steps -/

theorem outstanding_open (b : St) (cs : AL QueryObj) (l : List Nat) {q : Nat} (c : QueryObj)
    (hq : q ∉ l) :
    outstanding ⟨b, AL.insert cs q c, q :: l⟩ = c.lockBit :: l.map (bitOf cs) := by
  simp only [outstanding, List.map_cons, bitOf_insert_self, map_bitOf_insert_notin cs c l hq]

theorem outstanding_advance (b : St) (cs : AL QueryObj) (l : List Nat) {q : Nat} {c c' : QueryObj}
    (hc : AL.find? cs q = some c) (hb : c'.lockBit = c.lockBit) :
    outstanding ⟨b, AL.insert cs q c', l⟩ = l.map (bitOf cs) := by
  simp only [outstanding, map_bitOf_insert cs hc hb]

theorem HInvQ.outstanding_release {s : QSt} {fl lfl : List Nat} (H : HInvQ s fl lfl) (b : St)
    {q : Nat} {c : QueryObj} (hc : AL.find? s.cursors q = some c) (hq : q ∈ s.openQ)
    (c' : QueryObj) :
    outstanding ⟨b, AL.insert s.cursors q c', s.openQ.erase q⟩ = (outstanding s).erase c.lockBit := by
  have hqe : q ∉ s.openQ.erase q := List.Nodup.not_mem_erase H.openNodup
  simp only [outstanding]
  rw [map_bitOf_insert_notin s.cursors _ _ hqe,
    map_erase_of_nodup (bitOf s.cursors) s.openQ q H.linv.out_nodup hq, bitOf_of_find hc]

/-! ## 6. one step -/

section Steps

variable (run : ProbeRunner) {s : QSt} {fl lfl : List Nat}

theorem HInvQ.finv_unlocked (H : HInvQ s fl lfl) (h0 : s.openQ = []) : FInv s.w := by
  have hl : Lock.LInv ⟨s.w.locks, []⟩ lfl := by
    have := H.linv
    simp only [outstanding, h0, List.map_nil] at this
    exact this
  have := H.finv.withLocks (l := s.w.locks) ⟨lfl, hl⟩
  rwa [World.withLocks_withLocks, World.withLocks_self] at this

/-- **a `base` step while no query is open is the step of `Ark.Refine`**, and keeps the
    invariant -/
theorem step_base_unlocked (H : HInvQ s fl lfl) (h0 : s.openQ = [])
    (hfew : s.w.tables.length < maxU32) (hent : s.w.entities.length + 1 < 2 ^ 32) (op : Op) :
    stepQ run s (.base op) = { s with base := Refine.step run s.base op } ∧
    StepGoal run s.base op ∧
    ∃ (fl' lfl' : List Nat), HInvQ { s with base := Refine.step run s.base op } fl' lfl' := by
  have hstep : stepQ run s (.base op) = { s with base := Refine.step run s.base op } := by
    simp only [stepQ, h0, ne_eq, not_true_eq_false, false_and, if_false]
  have HB : HInv s.base fl := H.toHInv h0
  have G := step_goal run HB hfew hent op
  obtain ⟨fl1, H1⟩ := G.1
  have F1 : FInv (Refine.step run s.base op).w :=
    CacheHist.finv_step run ⟨HB, H.finv_unlocked h0⟩ hent op G H1
  refine ⟨hstep, G, fl1, F1.lock.choose, ?_⟩
  exact
    { hinv := H1.toHInv'
      finv := F1.withLocks ⟨[], Lock.linv_init⟩
      linv := by
        show Lock.LInv ⟨(Refine.step run s.base op).w.locks, s.openQ.map _⟩ _
        rw [h0]; exact F1.lock.choose_spec
      openNodup := H.openNodup
      open_iff := H.open_iff
      cur := by
        intro q c hc ht
        have : q ∈ s.openQ := (H.open_iff q).mpr ⟨c, hc, ht⟩
        rw [h0] at this; cases this }

/-- **a structural operation while a query is open panics and changes nothing**: not the world,
    not the specification, not the machine state -/
theorem step_base_locked (H : HInvQ s fl lfl) (h1 : s.openQ ≠ []) (op : Op)
    (hs : op.structural = true) :
    exec run s.w op = .panic (lockedClass s.w op) s.w ∧ stepQ run s (.base op) = s := by
  have hl : s.w.isLocked = true := H.locked_iff.mpr h1
  have hex := exec_structural_locked run s.w hl op hs
  refine ⟨hex, ?_⟩
  simp only [stepQ, h1, ne_eq, not_false_eq_true, hs, and_self, if_true, hex, Res.state]
  split <;> rfl

/-- `Set` writes into component columns only -/
theorem frozen_set (b : St) (hno : b.w.obs.hasObservers Ev.onSetComponents = false) (e : Ent)
    (vals : Comps) : Frozen b.w (Refine.step run b (.set e vals)).w := by
  by_cases hg : guard b (.set e vals) = true
  · rw [step_of_guard hg]
    rcases exec_set_cases run b.w hno e vals with ⟨k, h⟩ | h <;> rw [h]
    · exact Frozen.refl _
    · exact Frozen.writeVals _ e vals
  · rw [Refine.step, if_neg hg]; exact Frozen.refl _

/-- **`Set` keeps working while queries are open**: the step is the step of `Ark.Refine`, with
    everything `Refine.StepGoal` says about it, the lock is untouched, and the invariant is kept
    (in particular every open cursor still has its rows to visit: values change, rows do not) -/
theorem step_set (H : HInvQ s fl lfl) (hent : s.w.entities.length + 1 < 2 ^ 32) (e : Ent)
    (vals : Comps) :
    stepQ run s (.base (.set e vals)) = { s with base := Refine.step run s.base (.set e vals) } ∧
    StepGoal' run s.base (.set e vals) ∧
    (Refine.step run s.base (.set e vals)).w.locks = s.w.locks ∧
    ∃ (fl' : List Nat), HInvQ { s with base := Refine.step run s.base (.set e vals) } fl' lfl := by
  have hstep : stepQ run s (.base (.set e vals)) =
      { s with base := Refine.step run s.base (.set e vals) } := by
    simp only [stepQ, Op.structural, Bool.false_eq_true, and_false, if_false]
  have hno := H.hinv.cinv.noObs Ev.onSetComponents
  obtain ⟨G', hlk⟩ := H.hinv.step_set run e vals
  obtain ⟨fl1, H1⟩ := G'.1
  -- the filter-side invariant, through the twin state with the initial lock
  have H0 : HInv (s.base.withLocks {}) fl := (H.hinv.withLocks {}).toHInv rfl
  have G0 := Refine.step_set run H0 e vals
  obtain ⟨fl0, H01⟩ := G0.1
  have hent0 : (s.base.withLocks {}).w.entities.length + 1 < 2 ^ 32 := hent
  have F1 : FInv (Refine.step run (s.base.withLocks {}) (.set e vals)).w :=
    CacheHist.finv_step run ⟨H0, H.finv⟩ hent0 _ G0 H01
  rw [step_set_withLocks run s.base hno, St.withLocks_w] at F1
  refine ⟨hstep, G', hlk, fl1, ?_⟩
  exact
    { hinv := H1
      finv := F1
      linv := by
        show Lock.LInv ⟨(Refine.step run s.base (.set e vals)).w.locks, s.openQ.map _⟩ _
        rw [hlk]; exact H.linv
      openNodup := H.openNodup
      open_iff := H.open_iff
      cur := by
        intro q c hc ht
        exact (H.cur q c hc ht).frozen (frozen_set run s.base hno e vals) }

open QueryExact in
/-- **`Query()`**: with 64 queries open `Lock()` panics `outOfLocks` and nothing changes; with
    fewer it succeeds, hands out a bit below 64 that no open query holds, the returned query
    object is stored, the query is open, and the invariant is kept -/
theorem step_qopen (H : HInvQ s fl lfl) (q : Nat) (fo : FilterObj)
    (hg : guardQ s (.qopen q fo) = true) :
    (s.openQ.length = 64 ∧ qOpen fo [] s.w = .panic .outOfLocks s.w ∧
      stepQ run s (.qopen q fo) = s) ∨
    (s.openQ.length < 64 ∧ ∃ (l : Lock) (b : Nat), s.w.locks.lock = some (l, b) ∧ b < 64 ∧
      b ∉ outstanding s ∧
      qOpen fo [] s.w = .ok (openedQ fo s.w b) (s.w.withLocks l) ∧
      stepQ run s (.qopen q fo) =
        ⟨s.base.withLocks l, AL.insert s.cursors q (openedQ fo s.w b), q :: s.openQ⟩ ∧
      ∃ (lfl' : List Nat),
        HInvQ ⟨s.base.withLocks l, AL.insert s.cursors q (openedQ fo s.w b), q :: s.openQ⟩ fl lfl') := by
  have hg' := hg
  simp only [guardQ, Bool.and_eq_true, Option.isNone_iff_eq_none] at hg'
  obtain ⟨hq, hc⟩ := hg'
  have hqo : q ∉ s.openQ := by
    intro h
    obtain ⟨c, hc', _⟩ := (H.open_iff q).mp h
    rw [hq] at hc'; cases hc'
  have hlen : (outstanding s).length = s.openQ.length := by simp only [outstanding, List.length_map]
  rcases Lock.lock_spec _ lfl H.linv with ⟨hn, h64⟩ | ⟨l, b, hl, hb64, hbn, hlt, lfl', g'⟩
  · left
    -- the only thing that can fail is `Lock()`, and then the world is unchanged (repaired defect D17)
    have hp : qOpen fo [] s.w = .panic .outOfLocks s.w := by
      rw [Drain.qOpen_checked fo [] s.w (fun _ => rfl) (Drain.cacheTablesOf_uncached _ hc),
        show s.w.locks.lock = none from hn]
    refine ⟨by rw [← hlen]; exact h64, hp, ?_⟩
    simp only [stepQ, hg, if_true, hp]; rfl
  · right
    have hl' : s.w.locks.lock = some (l, b) := hl
    have hop := qOpen_uncached fo s.w l b hc hl'
    refine ⟨by rw [← hlen]; exact hlt, l, b, hl', hb64, hbn, hop, ?_, lfl', ?_⟩
    · simp only [stepQ, hg, if_true, hop]; rfl
    · exact
        { hinv := H.hinv.withLocks l
          finv := by
            show FInv ((s.w.withLocks l).withLocks {})
            rw [World.withLocks_withLocks]; exact H.finv
          linv := by
            show Lock.LInv ⟨l, (q :: s.openQ).map (bitOf (AL.insert s.cursors q (openedQ fo s.w b)))⟩ _
            rw [List.map_cons, bitOf_insert_self, map_bitOf_insert_notin s.cursors _ _ hqo]
            exact g'
          openNodup := List.nodup_cons.mpr ⟨hqo, H.openNodup⟩
          open_iff := H.open_iff_insert
            ⟨fun _ => by show (-1 : Int) ≤ -1; omega, fun _ => List.mem_cons_self⟩
            fun q' h => by rw [List.mem_cons]; exact ⟨fun hh => hh.resolve_left h, Or.inr⟩
          cur := H.cur_insert (fun _ => (curOK_opened H.hinv.cinv fo b).frozen (.withLocks _ l))
            fun _ h => h.frozen (.withLocks _ l) }

/-- **`Next` on an open query**: it does not panic; either it moves to the next row — the world is
    unchanged, the query stays open with its lock bit, the row is the head of the rows it had to
    visit — or it reports the end: then there was no row left, `Unlock` of exactly its bit
    succeeds, the query object is closed and the query is no longer open.  The invariant is kept. -/
theorem step_qnext_open (H : HInvQ s fl lfl) {q : Nat} {c : QueryObj}
    (hc : AL.find? s.cursors q = some c) (hq : q ∈ s.openQ) :
    (∃ (c' : QueryObj) (r : Nat × Nat) (rs : List (Nat × Nat)),
      qNext c s.w = .ok (c', true) s.w ∧
      stepQ run s (.qnext q) = ⟨s.base, AL.insert s.cursors q c', s.openQ⟩ ∧
      c'.lockBit = c.lockBit ∧ 0 ≤ c'.table ∧
      Drain.remaining s.w c = some (r :: rs) ∧ c'.cur = some r.1 ∧ c'.index = r.2 ∧
      Drain.remaining s.w c' = some rs ∧
      HInvQ ⟨s.base, AL.insert s.cursors q c', s.openQ⟩ fl lfl) ∨
    (∃ (c' : QueryObj) (l' : Lock),
      Drain.remaining s.w c = some [] ∧
      s.w.locks.unlock c.lockBit = some l' ∧
      qNext c s.w = .ok (Drain.closed c', false) (s.w.withLocks l') ∧
      stepQ run s (.qnext q) =
        ⟨s.base.withLocks l', AL.insert s.cursors q (Drain.closed c'), s.openQ.erase q⟩ ∧
      HInvQ ⟨s.base.withLocks l', AL.insert s.cursors q (Drain.closed c'), s.openQ.erase q⟩ fl
        (c.lockBit :: lfl)) := by
  obtain ⟨x, hx, hxt⟩ := (H.open_iff q).mp hq
  rw [hc] at hx; cases hx
  have ok := H.cur q c hc hxt
  obtain ⟨rows, hrem⟩ := ok.rem
  have st := Drain.step s.w c rows ok.inv hrem
  cases rows with
  | nil =>
    right
    obtain ⟨c', h1, h2, h3⟩ := st
    obtain ⟨l', hul, HI⟩ := H.release hc hq h2.lockBit
    have hn : qNext c s.w = .ok (Drain.closed c', false) (s.w.withLocks l') := by
      rw [Drain.qNext_eq, h1]
      simp only []
      rw [Drain.qClose_ok c' s.w l' h3 hul]; rfl
    refine ⟨c', l', hrem, by rw [← h2.lockBit]; exact hul, hn, ?_, HI⟩
    simp only [stepQ, hc, hn, Bool.false_eq_true, if_false]; rfl
  | cons r rs =>
    left
    obtain ⟨c', h1, h2, h3, h4, h5, h6, h7⟩ := st
    have hn : qNext c s.w = .ok (c', true) s.w := by rw [Drain.qNext_eq, h1]
    have hok : CurOK s.w c' := ⟨h3, h2.cacheTables.trans ok.uncached, rs, h7⟩
    refine ⟨c', r, rs, hn, ?_, h2.lockBit, h4, hrem, h5, h6, h7,
      H.advance hc hq h2.lockBit (by omega) hok⟩
    simp only [stepQ, hc, hn, if_true]; rfl

/-- **`Next` on a finished or closed query** panics `queryDone` and changes nothing -/
theorem step_qnext_closed (H : HInvQ s fl lfl) {q : Nat} {c : QueryObj}
    (hc : AL.find? s.cursors q = some c) (hq : q ∉ s.openQ) :
    qNext c s.w = .panic .queryDone s.w ∧ stepQ run s (.qnext q) = s := by
  have hn := qNext_closed c s.w (H.closed_of_not_open hc hq)
  refine ⟨hn, ?_⟩
  simp only [stepQ, hc, hn]; rfl

/-- **`Close` on an open query**: `Unlock` of exactly its bit succeeds, the query object is
    closed, the query is no longer open; the invariant is kept -/
theorem step_qclose_open (H : HInvQ s fl lfl) {q : Nat} {c : QueryObj}
    (hc : AL.find? s.cursors q = some c) (hq : q ∈ s.openQ) :
    ∃ (l' : Lock), s.w.locks.unlock c.lockBit = some l' ∧
      qClose c s.w = .ok (Drain.closed c) (s.w.withLocks l') ∧
      stepQ run s (.qclose q) =
        ⟨s.base.withLocks l', AL.insert s.cursors q (Drain.closed c), s.openQ.erase q⟩ ∧
      HInvQ ⟨s.base.withLocks l', AL.insert s.cursors q (Drain.closed c), s.openQ.erase q⟩ fl
        (c.lockBit :: lfl) := by
  obtain ⟨x, hx, hxt⟩ := (H.open_iff q).mp hq
  rw [hc] at hx; cases hx
  obtain ⟨l', hul, HI⟩ := H.release hc hq (c' := c) rfl
  have hcl : qClose c s.w = .ok (Drain.closed c) (s.w.withLocks l') := Drain.qClose_ok c s.w l' hxt hul
  refine ⟨l', hul, hcl, ?_, HI⟩
  simp only [stepQ, hc, hcl]; rfl

/-- **closing a finished or closed query again is harmless**: `Close` returns without touching the
    lock, and the machine state is unchanged -/
theorem step_qclose_closed (H : HInvQ s fl lfl) {q : Nat} {c : QueryObj}
    (hc : AL.find? s.cursors q = some c) (hq : q ∉ s.openQ) :
    qClose c s.w = .ok c s.w ∧ stepQ run s (.qclose q) = s := by
  have hcl := qClose_closed c s.w (H.closed_of_not_open hc hq)
  refine ⟨hcl, ?_⟩
  simp only [stepQ, hc, hcl, AL.insert_of_find?_self _ _ _ hc, List.erase_of_not_mem hq]; rfl

/-- **`Event.Emit` keeps working** (the fragment has no observers: it returns, or rejects a
    predefined event type) and changes nothing -/
theorem step_emit (H : HInvQ s fl lfl) (evt : Nat) (comps : List Comp) (e : Ent) :
    (opEmit run evt comps e s.w = .ok () s.w ∨
      opEmit run evt comps e s.w = .panic .emitPredefined s.w) ∧
    stepQ run s (.emit evt comps e) = s := by
  have h := opEmit_noObs run evt comps e s.w (H.hinv.cinv.noObs evt)
  refine ⟨h, ?_⟩
  rcases h with h | h <;> simp only [stepQ, h] <;> rfl

end Steps

/-! ## 7. all steps, all histories -/

theorem stepQ_no_guard (run : ProbeRunner) (s : QSt) (op : OpQ) (hg : ¬ guardQ s op = true) :
    stepQ run s op = s := by
  cases op with
  | base op =>
    have hg' : ¬ guard s.base op = true := hg
    have : Refine.step run s.base op = s.base := by rw [Refine.step, if_neg hg']
    simp only [stepQ, this, if_neg hg']
    split <;> rfl
  | qopen q fo => simp only [stepQ, if_neg hg]
  | qnext q =>
    have : AL.find? s.cursors q = none := by
      simpa only [guardQ, Option.isSome_iff_ne_none, ne_eq, Decidable.not_not] using hg
    simp only [stepQ, this]
  | qclose q =>
    have : AL.find? s.cursors q = none := by
      simpa only [guardQ, Option.isSome_iff_ne_none, ne_eq, Decidable.not_not] using hg
    simp only [stepQ, this]
  | emit evt comps e => exact absurd rfl hg

theorem stepQ_inv (run : ProbeRunner) {s : QSt} {fl lfl : List Nat} (H : HInvQ s fl lfl)
    (hfew : s.w.tables.length < maxU32) (hent : s.w.entities.length + 1 < 2 ^ 32) (op : OpQ) :
    (∃ (fl' lfl' : List Nat), HInvQ (stepQ run s op) fl' lfl') ∧
    (stepQ run s op).w.tables.length ≤ s.w.tables.length + 1 ∧
    (stepQ run s op).w.entities.length ≤ s.w.entities.length + 1 := by
  have same : ∀ {s' : QSt}, s' = s → (∃ (fl' lfl' : List Nat), HInvQ s' fl' lfl') ∧
      s'.w.tables.length ≤ s.w.tables.length + 1 ∧
      s'.w.entities.length ≤ s.w.entities.length + 1 := by
    intro s' h; subst h
    exact ⟨⟨fl, lfl, H⟩, Nat.le_succ _, Nat.le_succ _⟩
  by_cases hg : guardQ s op = true
  case neg => exact same (stepQ_no_guard run s op hg)
  cases op with
  | base op =>
    by_cases h0 : s.openQ = []
    · obtain ⟨h1, G, fl', lfl', HI⟩ := step_base_unlocked run H h0 hfew hent op
      rw [h1]
      exact ⟨⟨fl', lfl', HI⟩, G.2.1, G.2.2.1⟩
    · cases hs : op.structural with
      | true => exact same (step_base_locked run H h0 op hs).2
      | false =>
        cases op <;> try (cases hs)
        rename_i e vals
        obtain ⟨h1, G, _, fl', HI⟩ := step_set run H hent e vals
        rw [h1]
        exact ⟨⟨fl', lfl, HI⟩, G.2.1, G.2.2.1⟩
  | qopen q fo =>
    rcases step_qopen run H q fo hg with ⟨_, _, h⟩ | ⟨_, l, b, _, _, _, _, h, lfl', HI⟩
    · exact same h
    · rw [h]
      exact ⟨⟨fl, lfl', HI⟩, Nat.le_succ _, Nat.le_succ _⟩
  | qnext q =>
    obtain ⟨c, hc⟩ : ∃ c, AL.find? s.cursors q = some c := Option.isSome_iff_exists.mp hg
    by_cases hq : q ∈ s.openQ
    · rcases step_qnext_open run H hc hq with ⟨c', _, _, _, h, _, _, _, _, _, _, HI⟩ |
        ⟨c', l', _, _, _, h, HI⟩
      · rw [h]; exact ⟨⟨fl, lfl, HI⟩, Nat.le_succ _, Nat.le_succ _⟩
      · rw [h]; exact ⟨⟨fl, _, HI⟩, Nat.le_succ _, Nat.le_succ _⟩
    · exact same (step_qnext_closed run H hc hq).2
  | qclose q =>
    obtain ⟨c, hc⟩ : ∃ c, AL.find? s.cursors q = some c := Option.isSome_iff_exists.mp hg
    by_cases hq : q ∈ s.openQ
    · obtain ⟨l', _, _, h, HI⟩ := step_qclose_open run H hc hq
      rw [h]; exact ⟨⟨fl, _, HI⟩, Nat.le_succ _, Nat.le_succ _⟩
    · exact same (step_qclose_closed run H hc hq).2
  | emit evt comps e => exact same (step_emit run H evt comps e).2

theorem runQ_inv (run : ProbeRunner) (ops : List OpQ) : ∀ (s : QSt) (fl lfl : List Nat),
    HInvQ s fl lfl → s.w.tables.length + ops.length ≤ maxU32 →
    s.w.entities.length + ops.length < 2 ^ 32 →
    ∃ (fl' lfl' : List Nat), HInvQ (runQ run s ops) fl' lfl' ∧
      (runQ run s ops).w.tables.length ≤ s.w.tables.length + ops.length ∧
      (runQ run s ops).w.entities.length ≤ s.w.entities.length + ops.length := by
  intro s fl lfl h hb1 hb2
  obtain ⟨⟨fl', lfl', h'⟩, b⟩ := run_of_step (stepQ run) (·.w.tables.length) (·.w.entities.length)
    (fun _ s => ∃ fl lfl, HInvQ s fl lfl) (fun _ _ op ⟨_, _, h⟩ hf he => stepQ_inv run h hf he op)
    ops 0 s ⟨fl, lfl, h⟩ hb1 hb2
  exact ⟨fl', lfl', h', b⟩

theorem reachQ_inv (run : ProbeRunner) (cap rel : Nat) (ops : List OpQ)
    (hlen : ops.length < 2 ^ 32 - 2) : ∃ (fl lfl : List Nat), HInvQ (reachQ run cap rel ops) fl lfl := by
  obtain ⟨fl, lfl, h, _⟩ := runQ_inv run ops _ [] [] (hinvQ_init cap rel)
    (init_fits cap rel hlen).1 (init_fits cap rel hlen).2
  exact ⟨fl, lfl, h⟩

theorem reachQ_bounds (run : ProbeRunner) (cap rel : Nat) (ops : List OpQ)
    (hlen : ops.length < 2 ^ 32 - 2) :
    (reachQ run cap rel ops).w.tables.length ≤ 1 + ops.length ∧
    (reachQ run cap rel ops).w.entities.length ≤ 2 + ops.length := by
  obtain ⟨_, _, _, b1, b2⟩ := runQ_inv run ops _ [] [] (hinvQ_init cap rel)
    (init_fits cap rel hlen).1 (init_fits cap rel hlen).2
  exact ⟨b1, b2⟩

/-! ## 8. the continuation after the last query has finished -/

theorem runQ_base_unlocked (run : ProbeRunner) (ops : List Op) : ∀ (s : QSt), s.openQ = [] →
    runQ run s (ops.map .base) = { s with base := Refine.runOps run s.base ops } := by
  induction ops with
  | nil => intro s _; rfl
  | cons op ops ih =>
    intro s h0
    have hstep : stepQ run s (.base op) = { s with base := Refine.step run s.base op } := by
      simp only [stepQ, h0, ne_eq, not_true_eq_false, false_and, if_false]
    show runQ run (stepQ run s (.base op)) (ops.map .base) = _
    rw [hstep]
    exact ih { s with base := Refine.step run s.base op } h0

end LockHist

end Ark
