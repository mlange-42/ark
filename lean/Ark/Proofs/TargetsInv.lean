/-
  Ark.Proofs.TargetsInv — C04 at world level: the joint invariant `TInv` (`RelInv ∧ FlagsOK ∧
  FreeEmpty ∧ PLink`, and the registry within the mask width), that the initial world has it, and
  how its parts are carried through steps that keep the table metadata (`of_metaStep`), `registerTargets`,
  `findOrCreateArch` and `createTable` (what they say of the stored targets once, for any predicate:
  `TargetsSat`).  Before it, how `targetOf` reads a world; at the end (§ 5,
  no invariant) that the table `getTable` finds matches exactly and when its search cannot panic.
-/
import Ark.Proofs.CacheInv
import Ark.Proofs.Targets

set_option autoImplicit false

namespace Ark

open World Ark.Props.C01World

namespace Table

/-- the relation list of a table is read off its column list, relation flags and targets -/
theorem RelsExact.congr {T T' : Table} (h : T.RelsExact) (hi : T'.ids = T.ids)
    (hr : T'.isRel = T.isRel) (ht : T'.targets = T.targets) (hl : T'.relIDs = T.relIDs) :
    T'.RelsExact where
  tlen := by rw [ht, hi]; exact h.tlen
  sound := by rw [hl, hi, hr, ht]; exact h.sound
  complete := by rw [hl, hi, hr, ht]; exact h.complete
  nodup := by rw [hl]; exact h.nodup

theorem RelsExact.of_sameMeta {T T' : Table} (h : T.RelsExact) (sm : SameMeta T T') :
    T'.RelsExact :=
  h.congr sm.ids sm.isRel sm.targets sm.relIDs

theorem targetAt_sameMeta {T T' : Table} (sm : SameMeta T T') (c : Comp) :
    T'.targetAt c = T.targetAt c := by
  simp only [targetAt, colIdx, sm.ids, sm.isRel, sm.targets]

theorem recycle_targets (T : Table) (ts : List Ent) (rs : List RelID) :
    (T.recycle ts rs).targets = ts := rfl

end Table

theorem targetOf_of_entry {w : World} {i t r : Nat} {T : Table} (hi : w.entities[i]? = some (t, r))
    (ht : t ≠ maxU32) (hT : w.tables[t]? = some T) (c : Comp) : targetOf w i c = T.targetAt c := by
  simp only [targetOf, hi, ht, if_false, hT, Option.bind_some]

theorem targetOf_none_of_entry {w : World} {i : Nat}
    (hdead : ∀ (t r : Nat), w.entities[i]? = some (t, r) → t = maxU32) (c : Comp) :
    targetOf w i c = none := by
  simp only [targetOf]
  cases hx : w.entities[i]? with
  | none => rfl
  | some p => obtain ⟨t, r⟩ := p; simp only [hdead t r hx, if_true]

theorem Table.col_of_targetAt {T : Table} {c : Comp} {x : Ent} (hx : T.targetAt c = some x) :
    ∃ (i : Nat), T.colIdx c = some i ∧ T.isRel.getD i false = true ∧
      T.targets.getD i Ent.zero = x := by
  simp only [Table.targetAt] at hx
  cases hci : T.colIdx c with
  | none => rw [hci] at hx; cases hx
  | some i =>
    rw [hci] at hx
    simp only [Option.bind_some] at hx
    split at hx
    · rename_i hir
      exact ⟨i, rfl, hir, Option.some.inj hx⟩
    · cases hx

theorem targetOf_eq_some {w : World} {j : Nat} {c : Comp} {x : Ent}
    (h : targetOf w j c = some x) :
    ∃ (t r k : Nat) (T : Table), w.entities[j]? = some (t, r) ∧ t ≠ maxU32 ∧
      w.tables[t]? = some T ∧ T.colIdx c = some k ∧ T.isRel.getD k false = true ∧
      T.targets.getD k Ent.zero = x := by
  simp only [targetOf] at h
  cases hx : w.entities[j]? with
  | none => rw [hx] at h; cases h
  | some p =>
    obtain ⟨t, r⟩ := p
    rw [hx] at h
    simp only at h
    by_cases ht : t = maxU32
    · rw [if_pos ht] at h; cases h
    · rw [if_neg ht] at h
      cases hT : w.tables[t]? with
      | none => rw [hT] at h; cases h
      | some T =>
        rw [hT] at h
        obtain ⟨k, hc, hk, he⟩ := Table.col_of_targetAt h
        exact ⟨t, r, k, T, rfl, ht, hT, hc, hk, he⟩

theorem targetOf_isSome {w : World} {i : Nat} {c : Comp} (h : (targetOf w i c).isSome = true) :
    ∃ (t r k : Nat) (T : Table), w.entities[i]? = some (t, r) ∧ t ≠ maxU32 ∧
      w.tables[t]? = some T ∧ T.colIdx c = some k ∧ T.isRel.getD k false = true := by
  obtain ⟨x, hx⟩ := Option.isSome_iff_exists.1 h
  obtain ⟨t, r, k, T, h1, h2, h3, h4, h5, _⟩ := targetOf_eq_some hx
  exact ⟨t, r, k, T, h1, h2, h3, h4, h5⟩

theorem targetOf_col {w : World} (hI : IdxInv w) (hE : FreeEmpty w) {j : Nat} {c : Comp} {x : Ent}
    (h : targetOf w j c = some x) :
    ∃ (t k : Nat) (T : Table), w.tables[t]? = some T ∧ T.isFree = false ∧
      T.isRel.getD k false = true ∧ T.targets.getD k Ent.zero = x := by
  obtain ⟨t, r, k, T, hx, ht, hT, _, hk, he⟩ := targetOf_eq_some h
  obtain ⟨T', hT', hr, _⟩ := hI.idxRow j t r hx ht
  obtain rfl : T' = T := Option.some.inj (hT'.symm.trans hT)
  refine ⟨t, k, T', hT, ?_, hk, he⟩
  cases hf : T'.isFree with
  | false => rfl
  | true => have := hE t T' hT hf; omega

theorem MetaStep.targetOf {w w' : World} (ms : MetaStep w w') {i : Nat}
    (he : w'.entities[i]? = w.entities[i]?) (c : Comp) : targetOf w' i c = targetOf w i c := by
  simp only [Ark.targetOf, he]
  cases hx : w.entities[i]? with
  | none => rfl
  | some p =>
    obtain ⟨t, r⟩ := p
    simp only
    by_cases ht : t = maxU32
    · simp only [ht, if_true]
    · simp only [ht, if_false]
      rcases Nat.lt_or_ge t w.tables.length with hlt | hge
      · rw [get_of_lt hlt, get_of_lt (by rw [ms.len]; exact hlt)]
        simp only [Option.bind_some]
        exact Table.targetAt_sameMeta (ms.tmeta t hlt) c
      · rw [List.getElem?_eq_none hge, List.getElem?_eq_none (by rw [ms.len]; exact hge)]

/-- a step that keeps the index and — for every table that has rows — the layout, the cells and
    the relation targets, is invisible to the entities -/
theorem frame_of_rows {w w' : World} (hI : IdxInv w) (he : w'.entities = w.entities)
    (hT : ∀ (t : Nat) (T : Table), w.tables[t]? = some T → 0 < T.len →
      ∃ (T' : Table), w'.tables[t]? = some T' ∧ T'.ids = T.ids ∧ T'.cols = T.cols ∧
        T'.isRel = T.isRel ∧ T'.targets = T.targets) (j : Nat) :
    SameEnt w w' j ∧ ∀ (c : Comp), targetOf w' j c = targetOf w j c := by
  cases hx : w.entities[j]? with
  | none =>
    exact ⟨same_of_entry (by rw [he]) (fun t r hh => by rw [hx] at hh; cases hh),
      fun c => by simp only [targetOf, he, hx]⟩
  | some p =>
    obtain ⟨tj, r⟩ := p
    by_cases ht : tj = maxU32
    · exact ⟨same_of_entry (by rw [he]) (fun t r hh => by rw [hx] at hh; cases hh; exact ht),
        fun c => by simp only [targetOf, he, hx, ht, if_true]⟩
    · obtain ⟨T, hTj, hr, _⟩ := hI.idxRow j tj r hx ht
      obtain ⟨T', hT', e1, e2, e3, e4⟩ := hT tj T hTj (by omega)
      constructor
      · refine same_of_rows hx (by rw [he]; exact hx) ht ht hTj hT' e1 (fun i => ?_)
        simp only [Table.cell, e2]
      · intro c
        rw [targetOf_of_entry (by rw [he]; exact hx) ht hT', targetOf_of_entry hx ht hTj]
        simp only [Table.targetAt, Table.colIdx, e1, e3, e4]

theorem mem_comps_of_valOf {w : World} {i : Nat} {cs : List Comp} (hcs : compsOf w i = some cs)
    {c : Comp} {v : Val} (hv : valOf w i c = some v) : c ∈ cs := by
  cases hn : decide (c ∈ cs) with
  | true => exact of_decide_eq_true hn
  | false => rw [valOf_none_of_comps hcs (of_decide_eq_false hn)] at hv; cases hv

/-! ## 1. the invariants -/

/-- the part of the invariant that holds at every point of `storage.go`, also between
    `createArchetype` and `createTable` -/
structure RelAux (w : World) : Prop where
  targets : TargetsOK w
  rels : RelListsOK w
  relArchs : RelArchsOK w
  cacheRels : CacheRelsOK w

/-- the structural part of the C04 invariant: it reads archetypes, registry, cache keys, table
    metadata and liveness only -/
structure RelInv (w : World) : Prop where
  sinv : SInv w
  rinv : RInv w
  aux : RelAux w

/-- **the joint invariant** of the C04 theorems (`fl` = the ghost free list of the pool) -/
structure TInv (w : World) (fl : List Nat) : Prop where
  rel : RelInv w
  flags : FlagsOK w
  freeEmpty : FreeEmpty w
  link : PLink w fl
  /-- the registry never exceeds the mask width -/
  kindsLe : w.kinds.length ≤ w.maxComps ∧ w.maxComps ≤ 256

theorem TInv.live_table {w : World} {fl : List Nat} (h : TInv w fl) {e : Ent} (h2 : 2 ≤ e.id)
    (hnf : e.id ∉ fl) (ha : w.alive e = true) (hin : e.id < w.pool.ents.length) :
    ∃ (oldT row : Nat), w.entities[e.id]? = some (oldT, row) ∧ oldT ≠ maxU32 ∧
      w.tables[oldT]? = some (w.tbl oldT) ∧ row < (w.tbl oldT).len ∧
      (w.tbl oldT).isFree = false := by
  obtain ⟨oldT, row, he, htm, _⟩ := h.link.live_entry h2 hnf ha hin
  obtain ⟨hT, hrow, _⟩ := h.link.idx.indexed he htm
  refine ⟨oldT, row, he, htm, hT, hrow, ?_⟩
  cases hf : (w.tbl oldT).isFree with
  | false => rfl
  | true => have := h.freeEmpty oldT _ hT hf; omega

/-- `FlagsOK` up to the targets of `rels` (which `registerTargets rels` is about to flag) -/
def FlagsOKUpTo (w : World) (rels : List RelID) : Prop :=
  ∀ (t : Nat) (T : Table), w.tables[t]? = some T → T.isFree = false →
    ∀ (i : Nat), T.isRel.getD i false = true → (T.targets.getD i Ent.zero).isZero = false →
      w.isTarget.getD (T.targets.getD i Ent.zero).id false = true ∨
      ∃ (r : RelID), r ∈ rels ∧ r.target = T.targets.getD i Ent.zero

theorem FlagsOK.upTo {w : World} (h : FlagsOK w) (rels : List RelID) : FlagsOKUpTo w rels :=
  fun t T hT hf i hi hz => Or.inl (h t T hT hf i hi hz)

theorem init_tables (cap rel : Nat) (maxComps : Nat) :
    (World.init cap rel maxComps).tables = [Table.new 0 0 [] [] [] cap [] []] := rfl

theorem tinv_init (cap rel : Nat) : TInv (World.init cap rel) [] := by
  have hget : ∀ (t : Nat) (T : Table), (World.init cap rel).tables[t]? = some T →
      T = Table.new 0 0 [] [] [] cap [] [] := by
    intro t T hT
    rw [init_tables] at hT
    exact (getElem?_singleton_some hT).2
  refine ⟨⟨sinv_init cap rel, RInv.init cap rel 256, ⟨?_, ?_, ?_, ?_⟩⟩, ?_, ?_,
    (cinv_init cap rel).link, ⟨Nat.zero_le _, Nat.le_refl _⟩⟩
  · intro t T hT _ i hi
    rw [hget t T hT] at hi
    simp [Table.new] at hi
  · intro t T hT _
    rw [hget t T hT]
    exact { tlen := rfl, sound := fun r hr => (by cases hr),
            complete := fun i c hc => (by simp [Table.new] at hc), nodup := List.nodup_nil }
  · intro a A hA hr
    have h0 : (World.init cap rel).archetypes = [Archetype.new 0 Mask.empty [] [] [] [0]] := rfl
    rw [h0] at hA
    obtain ⟨_, rfl⟩ := getElem?_singleton_some hA
    simp [Archetype.hasRelations, Archetype.new] at hr
  · intro e he; cases he
  · intro t T hT _ i hi
    rw [hget t T hT] at hi
    simp [Table.new] at hi
  · intro t T hT hf
    rw [hget t T hT] at hf
    simp [Table.new] at hf

/-! ## 2. steps that keep the table metadata (`MetaStep`) -/

theorem get_sameMeta {w w' : World} (hlen : w'.tables.length = w.tables.length) {t : Nat} {T : Table}
    (hT : w'.tables[t]? = some T) :
    t < w.tables.length ∧ T = w'.tbl t ∧ w.tables[t]? = some (w.tbl t) := by
  have hlt : t < w.tables.length := by rw [← hlen]; exact lt_of_get hT
  exact ⟨hlt, (tbl_of_get hT).symm, get_of_lt hlt⟩

/-- every target cell of an active table satisfies `P`.  `TargetsOK`, `FlagsOK`, `FlagsOKUpTo`,
    `TargetsIn` and the cleanup's `OKT` are this for a `P` of their own (by unfolding), so a step is
    walked once, for any `P`, and the change of `P` from `w` to `w'` is a `mono`. -/
def TargetsSat (P : Ent → Prop) (w : World) : Prop :=
  ∀ (t : Nat) (T : Table), w.tables[t]? = some T → T.isFree = false →
    ∀ (i : Nat), T.isRel.getD i false = true → P (T.targets.getD i Ent.zero)

theorem targetsOK_iff (w : World) :
    TargetsOK w ↔ TargetsSat (fun h => h.isZero = true ∨ w.alive h = true) w := Iff.rfl

theorem flagsOKUpTo_iff (w : World) (rels : List RelID) :
    FlagsOKUpTo w rels ↔ TargetsSat (fun h => h.isZero = false →
      w.isTarget.getD h.id false = true ∨ ∃ (r : RelID), r ∈ rels ∧ r.target = h) w := Iff.rfl

theorem TargetsSat.mono {P Q : Ent → Prop} {w : World} (h : TargetsSat P w)
    (hpq : ∀ (e : Ent), P e → Q e) : TargetsSat Q w :=
  fun t T hT hf i hi => hpq _ (h t T hT hf i hi)

theorem TargetsSat.of_metaStep {P : Ent → Prop} {w w' : World} (h : TargetsSat P w)
    (ms : MetaStep w w') : TargetsSat P w' := by
  intro t T hT hf i hi
  obtain ⟨hlt, rfl, hT0⟩ := get_sameMeta ms.len hT
  have sm := ms.tmeta t hlt
  rw [sm.targets]
  rw [sm.isFree] at hf; rw [sm.isRel] at hi
  exact h t _ hT0 hf i hi

theorem TargetsOK.of_metaStep {w w' : World} (h : TargetsOK w) (ms : MetaStep w w')
    (hal : ∀ (e : Ent), w.alive e = true → w'.alive e = true) : TargetsOK w' :=
  (((targetsOK_iff w).1 h).of_metaStep ms).mono fun _ he => he.imp_right (hal _)

theorem RelListsOK.of_metaStep {w w' : World} (h : RelListsOK w) (ms : MetaStep w w') :
    RelListsOK w' := by
  intro t T hT hf
  obtain ⟨hlt, rfl, hT0⟩ := get_sameMeta ms.len hT
  have sm := ms.tmeta t hlt
  rw [sm.isFree] at hf
  exact (h t _ hT0 hf).of_sameMeta sm

theorem FlagsOKUpTo.of_metaStep {w w' : World} {rels : List RelID} (h : FlagsOKUpTo w rels)
    (ms : MetaStep w w')
    (hfl : ∀ (i : Nat), w.isTarget.getD i false = true → w'.isTarget.getD i false = true) :
    FlagsOKUpTo w' rels :=
  (((flagsOKUpTo_iff w rels).1 h).of_metaStep ms).mono fun _ he hz => (he hz).imp_left (hfl _)

theorem FlagsOK.of_metaStep {w w' : World} (h : FlagsOK w) (ms : MetaStep w w')
    (hfl : ∀ (i : Nat), w.isTarget.getD i false = true → w'.isTarget.getD i false = true) :
    FlagsOK w' := by
  intro t T hT hf i hi hz
  rcases (h.upTo []).of_metaStep ms hfl t T hT hf i hi hz with h1 | ⟨r, hr, _⟩
  · exact h1
  · cases hr

theorem RelAux.of_metaStep {w w' : World} (h : RelAux w) (ms : MetaStep w w')
    (hal : ∀ (e : Ent), w.alive e = true → w'.alive e = true) : RelAux w' where
  targets := h.targets.of_metaStep ms hal
  rels := h.rels.of_metaStep ms
  relArchs := by
    intro a A hA hr; rw [ms.archetypes] at hA; rw [ms.relationArchetypes]; exact h.relArchs a A hA hr
  cacheRels := by intro e he; rw [ms.cache] at he; exact h.cacheRels e he

theorem RelInv.of_metaStep {w w' : World} (h : RelInv w) (ms : MetaStep w w')
    (hal : ∀ (e : Ent), w.alive e = true → w'.alive e = true) : RelInv w' where
  sinv := h.sinv.of_metaStep ms
  rinv := h.rinv.of_metaStep ms
  aux := h.aux.of_metaStep ms hal

/-! Steps that keep liveness only inside the pool slice: `Pool.get` overwrites the first cell of the
memory `Reset` kept behind the slice, so a handle behind the slice may stop testing alive.  The
stored targets are not affected: a flagged ID lies inside the flag array (`TargetsIn`). -/

def TargetsIn (w : World) : Prop :=
  ∀ (t : Nat) (T : Table), w.tables[t]? = some T → T.isFree = false →
    ∀ (i : Nat), T.isRel.getD i false = true → (T.targets.getD i Ent.zero).isZero = false →
      (T.targets.getD i Ent.zero).id < w.pool.ents.length

theorem FlagsOKUpTo.targetsIn {w : World} {rels : List RelID} (h : FlagsOKUpTo w rels)
    (hl : w.isTarget.length = w.pool.ents.length)
    (hr : ∀ (r : RelID), r ∈ rels → r.target.id < w.pool.ents.length) : TargetsIn w := by
  intro t T hT hf i hi hz
  rcases h t T hT hf i hi hz with h1 | ⟨r, hr1, hr2⟩
  · rw [← hl]
    rcases Nat.lt_or_ge (T.targets.getD i Ent.zero).id w.isTarget.length with h2 | h2
    · exact h2
    · rw [List.getD_eq_getElem?_getD, List.getElem?_eq_none h2] at h1; cases h1
  · rw [← hr2]; exact hr r hr1

theorem FlagsOK.targetsIn {w : World} (h : FlagsOK w) (hl : w.isTarget.length = w.pool.ents.length) :
    TargetsIn w :=
  (h.upTo []).targetsIn hl (fun r hr => by cases hr)

theorem TInv.targetsIn {w : World} {fl : List Nat} (h : TInv w fl) : TargetsIn w :=
  h.flags.targetsIn (h.link.tgtLen.trans h.link.lenEq)

theorem TargetsOK.of_metaStep_in {w w' : World} (h : TargetsOK w) (hin : TargetsIn w)
    (ms : MetaStep w w')
    (hal : ∀ (e : Ent), e.id < w.pool.ents.length → w.alive e = true → w'.alive e = true) :
    TargetsOK w' :=
  -- already in `w` every stored target is zero or alive in `w'`: it lies inside the pool slice
  TargetsSat.of_metaStep (P := fun x => x.isZero = true ∨ w'.alive x = true)
    (fun t T hT hf i hi => (h t T hT hf i hi).elim Or.inl fun ha => by
      cases hz : (T.targets.getD i Ent.zero).isZero with
      | true => exact Or.inl hz
      | false => exact Or.inr (hal _ (hin t T hT hf i hi hz) ha)) ms

theorem RelInv.of_metaStep_in {w w' : World} (h : RelInv w) (hin : TargetsIn w) (ms : MetaStep w w')
    (hal : ∀ (e : Ent), e.id < w.pool.ents.length → w.alive e = true → w'.alive e = true) :
    RelInv w' where
  sinv := h.sinv.of_metaStep ms
  rinv := h.rinv.of_metaStep ms
  aux :=
    { targets := h.aux.targets.of_metaStep_in hin ms hal
      rels := h.aux.rels.of_metaStep ms
      relArchs := by
        intro a A hA hr; rw [ms.archetypes] at hA; rw [ms.relationArchetypes]
        exact h.aux.relArchs a A hA hr
      cacheRels := by intro e he; rw [ms.cache] at he; exact h.aux.cacheRels e he }

/-! ### `registerTargets` (`registerW`): its fold over the flag array -/

theorem flagFold_length (rels : List RelID) : ∀ (it : List Bool),
    (rels.foldl (fun (it : List Bool) r => it.set r.target.id true) it).length = it.length := by
  induction rels with
  | nil => intro it; rfl
  | cons r rest ih => intro it; rw [List.foldl_cons, ih, List.length_set]

theorem flagFold_mono (rels : List RelID) : ∀ (it : List Bool) (i : Nat), it.getD i false = true →
    (rels.foldl (fun (it : List Bool) r => it.set r.target.id true) it).getD i false = true := by
  induction rels with
  | nil => intro it i h; exact h
  | cons r rest ih =>
    intro it i h
    rw [List.foldl_cons]
    apply ih
    rw [Archetype.getD_set]
    split
    · rfl
    · exact h

theorem flagFold_hit (rels : List RelID) : ∀ (it : List Bool) (r : RelID), r ∈ rels →
    r.target.id < it.length →
    (rels.foldl (fun (it : List Bool) r => it.set r.target.id true) it).getD r.target.id false = true := by
  induction rels with
  | nil => intro it r hr; cases hr
  | cons x rest ih =>
    intro it r hr hlt
    rw [List.foldl_cons]
    rcases List.mem_cons.1 hr with rfl | hm
    · apply flagFold_mono
      rw [Archetype.getD_set, if_pos ⟨rfl, hlt⟩]
    · exact ih _ r hm (by rw [List.length_set]; exact hlt)

theorem FlagsOKUpTo.register {w : World} {rels : List RelID} (h : FlagsOKUpTo w rels)
    (hlt : ∀ (r : RelID), r ∈ rels → r.target.isZero = false → r.target.id < w.isTarget.length) :
    FlagsOK (registerW w rels) := by
  intro t T hT hf i hi hz
  have hT0 : w.tables[t]? = some T := hT
  show (rels.foldl (fun (it : List Bool) r => it.set r.target.id true) w.isTarget).getD _ false = true
  rcases h t T hT0 hf i hi hz with h1 | ⟨r, hr, he⟩
  · exact flagFold_mono _ _ _ h1
  · rw [← he] at hz ⊢
    exact flagFold_hit rels _ r hr (hlt r hr hz)

/-! ## 3. `findOrCreateArch` -/

namespace World

theorem createArchetypeW_relationArchetypes (w : World) (mask : Mask) :
    (createArchetypeW w mask).relationArchetypes =
      if (newArch w mask).hasRelations then w.relationArchetypes ++ [w.archetypes.length]
      else w.relationArchetypes := by
  unfold createArchetypeW
  simp only
  split
  · show (List.foldl (caStep w.archetypes.length) _ _).relationArchetypes ++ _ = _
    rw [foldl_keep (caStep w.archetypes.length) (·.relationArchetypes) (fun _ _ => rfl)]
  · exact foldl_keep (caStep w.archetypes.length) (·.relationArchetypes) (fun _ _ => rfl) _ _

theorem findOrCreateArch_relArchs {mask : Mask} {w w' : World} {a : Nat}
    (h : findOrCreateArch mask w = .ok a w') :
    w.relationArchetypes.length ≤ w'.relationArchetypes.length ∧
      w'.relationArchetypes.length ≤ w.relationArchetypes.length + 1 := by
  rcases findOrCreateArch_ok_cases h with rfl | rfl
  · exact ⟨Nat.le_refl _, Nat.le_succ _⟩
  · rw [createArchetypeW_relationArchetypes]; split <;> simp

end World

theorem RelAux.findOrCreateArch {w w' : World} (h : RelAux w) {mask : Mask} {a : Nat}
    (hr : World.findOrCreateArch mask w = .ok a w') : RelAux w' := by
  rcases findOrCreateArch_ok_cases hr with rfl | rfl
  · exact h
  · obtain ⟨w1, hok, ha, ht, _, _, hp, hc⟩ := createArchetype_ok mask w
    have hra := createArchetypeW_relationArchetypes w mask
    rw [createArchetype_eq] at hok
    injection hok with _ h3
    subst h3
    refine ⟨?_, ?_, ?_, ?_⟩
    · intro t T hT hf i hi
      rw [ht] at hT
      rcases h.targets t T hT hf i hi with h1 | h1
      · exact Or.inl h1
      · exact Or.inr (by simp only [World.alive, hp]; exact h1)
    · intro t T hT hf; rw [ht] at hT; exact h.rels t T hT hf
    · intro b B hB hrel
      rw [ha] at hB
      rw [hra]
      rcases getElem?_concat_cases hB with ⟨_, h1⟩ | ⟨h1, h2⟩
      · have := h.relArchs b B h1 hrel
        split
        · exact List.mem_append_left _ this
        · exact this
      · subst h2
        rw [if_pos hrel, h1]; simp
    · intro e he; rw [hc] at he; exact h.cacheRels e he

/-! ## 4. `createTable` -/

namespace World

theorem createTable_relArchs_cacheRels {a : Nat} {rels : List RelID} {w w' : World} {t : Nat}
    (h : createTable a rels w = .ok t w') :
    w'.relationArchetypes = w.relationArchetypes ∧ (CacheRelsOK w → CacheRelsOK w') := by
  obtain ⟨_, _, _, _, h5⟩ := createTable_ok h
  have h6 := cacheAddTable_eq h5
  have hca := createTableS_cache w a rels
  constructor
  · exact (createTable_sameFrame h).relationArchetypes
  · intro hc e he
    rw [h6] at he
    simp only [hca, List.mem_map] at he
    obtain ⟨e0, he0, rfl⟩ := he
    intro r hr
    rw [addTableEntry_rels] at hr
    rw [addTableEntry_filter]
    exact hc e0 he0 r hr

end World

theorem ctTargets_eq (A : Archetype) (rels : List RelID) :
    ctTargets A rels = setTargets A.colIdx rels (List.replicate A.comps.length Ent.zero) := rfl

theorem colIdx_fun_eq {T : Table} {A : Archetype} (h : T.ids = A.comps) : T.colIdx = A.colIdx :=
  funext (Table.colIdx_eq_of_ids T A h)

theorem CreatedTable.tbl {w w' : World} {a : Nat} {rels : List RelID} {t : Nat}
    (ct : CreatedTable w w' a rels t) :
    w'.tables[t]? = some (w'.tbl t) ∧ (w'.tbl t).arch = a ∧ (w'.tbl t).relIDs = rels ∧
    (w'.tbl t).isFree = false ∧ (w'.tbl t).targets = ctTargets (w.arch a) rels ∧
    (w'.tbl t).ids = (w.arch a).comps := by
  obtain ⟨T, hT, h1, h2, h3, h4, h5⟩ := ct.get
  rw [tbl_of_get hT]; exact ⟨hT, h1, h2, h3, h4, h5⟩

theorem CreatedTable.target_cases {w w' : World} {a : Nat} {rels : List RelID} {t : Nat}
    (ct : CreatedTable w w' a rels t) (i : Nat) :
    (w'.tbl t).targets.getD i Ent.zero = Ent.zero ∨
    ∃ (r : RelID), r ∈ rels ∧ (w'.tbl t).targets.getD i Ent.zero = r.target := by
  rw [ct.tbl.2.2.2.2.1, ctTargets_eq]
  rcases setTargets_getD_cases (w.arch a).colIdx i Ent.zero rels _ with h | h
  · left
    rw [h, List.getD_eq_getElem?_getD, List.getElem?_replicate]
    split <;> rfl
  · exact Or.inr h

theorem RelListsOK.created {w w' : World} (h : RelListsOK w) {a : Nat} {rels : List RelID} {t : Nat}
    (ha : a < w.archetypes.length) (ct : CreatedTable w w' a rels t) (hmid : SInvMid w)
    (hnd : (rels.map (·.comp)).Nodup) : RelListsOK w' := by
  obtain ⟨hTt, hTa, hTr, hTf, hTg, hTi⟩ := ct.tbl
  have hA := aget_of_lt ha
  intro t0 T0 hT0 hf
  by_cases h0 : t0 = t
  · subst h0
    rw [hTt] at hT0
    obtain rfl := Option.some.inj hT0
    have hcols := hmid.rels_cols hA ct.cols ct.valid
    have hnr := ct.sinvMid.numRel_eq hTt
    rw [hTa, ct.archA.2.2.2.1] at hnr
    apply Table.RelsExact.of_created (ct.sinvMid.ids_nodup hTt) (ct.sinvMid.isRel_len hTt)
    · rw [hTg, ctTargets_eq, colIdx_fun_eq hTi, hTi, hTr]
    · rw [hTr]; exact hnd
    · rw [hTr, hTi]
      intro r hr
      obtain ⟨i, h1, h2⟩ := hcols r hr
      refine ⟨i, h1, ?_⟩
      obtain ⟨A', hA', _, e2, _⟩ := ct.sinvMid.tblArch t0 _ hTt
      rw [hTa] at hA'
      have hc' : A'.comps[i]? = some r.comp := by
        have := arch_of_get hA'
        rw [← this, ct.archA.2.1]; exact h1
      rw [e2, (ct.sinvMid.kindsOf a A' i r.comp hA' hc').1, ct.kinds,
        ← (hmid.kindsOf a _ i r.comp hA h1).1]
      exact h2
    · rw [hTr, ← hnr]; exact ct.numRel
  · rw [ct.others t0 h0] at hT0
    exact h t0 T0 hT0 hf

theorem RelArchsOK.created {w w' : World} (h : RelArchsOK w) {a : Nat} {rels : List RelID} {t : Nat}
    (ha : a < w.archetypes.length) (ct : CreatedTable w w' a rels t)
    (hra : w'.relationArchetypes = w.relationArchetypes) : RelArchsOK w' := by
  have hA := aget_of_lt ha
  intro b B hB hrel
  rw [hra]
  by_cases hb : b = a
  · subst hb
    apply h b _ hA
    have := arch_of_get hB
    simp only [Archetype.hasRelations] at hrel ⊢
    rw [← this, ct.archA.2.2.2.1] at hrel
    exact hrel
  · rw [ct.otherArchs b hb] at hB
    exact h b B hB hrel

theorem TargetsSat.created {P : Ent → Prop} {w w' : World} (h : TargetsSat P w) {a : Nat}
    {rels : List RelID} {t : Nat} (ct : CreatedTable w w' a rels t) (hz : P Ent.zero)
    (hr : ∀ (r : RelID), r ∈ rels → P r.target) : TargetsSat P w' := by
  obtain ⟨hTt, _, _, _, _, _⟩ := ct.tbl
  intro t0 T0 hT0 hf i hi
  by_cases h0 : t0 = t
  · subst h0
    rw [hTt] at hT0
    obtain rfl := Option.some.inj hT0
    rcases ct.target_cases i with hzz | ⟨r, hr', he⟩
    · rw [hzz]; exact hz
    · rw [he]; exact hr r hr'
  · rw [ct.others t0 h0] at hT0
    exact h t0 T0 hT0 hf i hi

theorem RelAux.created {w w' : World} (h : RelAux w) {a : Nat} {rels : List RelID} {t : Nat}
    (ha : a < w.archetypes.length) (ct : CreatedTable w w' a rels t)
    (hok : World.createTable a rels w = .ok t w') (hmid : SInvMid w)
    (hnd : (rels.map (·.comp)).Nodup) : RelAux w' := by
  obtain ⟨hra, hcr⟩ := createTable_relArchs_cacheRels hok
  have hal : ∀ (e : Ent), w'.alive e = w.alive e := fun e => by simp only [World.alive, ct.pool]
  exact ⟨(((targetsOK_iff w).1 h.targets).created ct (Or.inl rfl) fun r hr => (ct.valid r hr).2).mono
      fun e he => he.imp_right (hal e).trans,
    h.rels.created ha ct hmid hnd, h.relArchs.created ha ct hra, hcr h.cacheRels⟩

theorem FlagsOKUpTo.created {w w' : World} {rels0 rels : List RelID} (h : FlagsOKUpTo w rels0)
    {a : Nat} {t : Nat} (ct : CreatedTable w w' a rels t) (hit : w'.isTarget = w.isTarget)
    (hsub : ∀ (r : RelID), r ∈ rels → r.target.isZero = false →
      w.isTarget.getD r.target.id false = true ∨ ∃ (r0 : RelID), r0 ∈ rels0 ∧ r0.target = r.target) :
    FlagsOKUpTo w' rels0 := by
  rw [flagsOKUpTo_iff, hit]
  exact ((flagsOKUpTo_iff w rels0).1 h).created ct (fun hz => by cases hz) hsub

theorem FreeEmpty.created {w w' : World} (h : FreeEmpty w) {a : Nat} {rels : List RelID} {t : Nat}
    (ct : CreatedTable w w' a rels t) : FreeEmpty w' := by
  obtain ⟨hTt, _, _, hTf, _, _⟩ := ct.tbl
  intro t0 T0 hT0 hf
  by_cases h0 : t0 = t
  · subst h0
    rw [hTt] at hT0
    obtain rfl := Option.some.inj hT0
    rw [hTf] at hf; cases hf
  · rw [ct.others t0 h0] at hT0
    exact h t0 T0 hT0 hf

/-! ## 5. `getTable` -/

namespace World

theorem getTable_found {a : Nat} {rels : List RelID} {w w' : World} {t : Nat}
    (h : getTable a rels w = .ok (some t) w') (hr : (w.arch a).hasRelations = true) :
    (w.tbl t).matchesExact rels = .yes := by
  obtain ⟨_, _, _, _, _, _, _, _, _, _, hm⟩ := (getTable_spec a rels w).2 t w' h hr
  exact hm

theorem getTable_go_total (rels : List RelID) (w : World) : ∀ (ts : List Nat),
    (∀ (t : Nat), t ∈ ts → (w.tbl t).matchesExact rels = .yes ∨ (w.tbl t).matchesExact rels = .no) →
    ∃ (r : Option Nat), getTable.go rels w ts = .ok r w
  | [], _ => ⟨none, rfl⟩
  | x :: rest, h => by
    simp only [getTable.go]
    rcases h x List.mem_cons_self with hy | hn
    · rw [hy]; exact ⟨some x, rfl⟩
    · rw [hn]; exact getTable_go_total rels w rest (fun t ht => h t (List.mem_cons_of_mem _ ht))

end World

end Ark
