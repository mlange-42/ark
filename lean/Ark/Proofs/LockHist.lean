/-
  Property C07 over whole histories: the invariant of the history machine of `Ark.Refine`
  WITHOUT the assumption that the world is unlocked (`HInv'`), and what the operations do on a
  locked world: every structural operation panics and returns exactly the world it was called on
  (`exec_structural_locked`), while `Set` neither reads nor writes the lock and keeps its usual
  effect (`HInv'.step_set`).
-/
import Ark.Proofs.BatchExchangeSpec
import Ark.Proofs.Refine

set_option autoImplicit false

namespace Ark

open World Ark.Props.C01World

namespace Refine

/-! ## 1. the invariant without `unlocked` -/

def St.withLocks (s : St) (l : Lock) : St := ⟨s.w.withLocks l, s.issued, s.ss⟩

@[simp] theorem St.withLocks_w (s : St) (l : Lock) : (s.withLocks l).w = s.w.withLocks l := rfl
@[simp] theorem St.withLocks_issued (s : St) (l : Lock) : (s.withLocks l).issued = s.issued := rfl
@[simp] theorem St.withLocks_ss (s : St) (l : Lock) : (s.withLocks l).ss = s.ss := rfl

theorem St.withLocks_self (s : St) : s.withLocks s.w.locks = s := rfl

theorem St.withLocks_withLocks (s : St) (l l' : Lock) : (s.withLocks l).withLocks l' = s.withLocks l' :=
  rfl

/-- **the inductive invariant of the history machine, without "the world is unlocked"**: the
    fields of `Refine.HInv` except `unlocked` -/
structure HInv' (s : St) (fl : List Nat) : Prop where
  cinv : CInv s.w fl
  ginv : Pool.GInv s.ps fl
  nodup : s.issued.Nodup
  zstEq : s.ss.zst = s.w.kinds.map (·.zst)
  maxc : s.w.maxComps = 256
  ok : ∀ (e : Ent) (cs : Comps), (e, cs) ∈ s.ss.ents → EntOK s.w s.w.kinds.length e cs

theorem HInv.toHInv' {s : St} {fl : List Nat} (H : HInv s fl) : HInv' s fl :=
  ⟨H.cinv, H.ginv, H.nodup, H.zstEq, H.maxc, H.ok⟩

theorem HInv'.toHInv {s : St} {fl : List Nat} (H : HInv' s fl) (hu : s.w.isLocked = false) :
    HInv s fl :=
  ⟨H.cinv, H.ginv, hu, H.nodup, H.zstEq, H.maxc, H.ok⟩

theorem hinv_iff {s : St} {fl : List Nat} : HInv s fl ↔ HInv' s fl ∧ s.w.isLocked = false :=
  ⟨fun H => ⟨H.toHInv', H.unlocked⟩, fun h => h.1.toHInv h.2⟩

theorem HInv'.withLocks {s : St} {fl : List Nat} (H : HInv' s fl) (l : Lock) :
    HInv' (s.withLocks l) fl where
  cinv := cinv_withLocks H.cinv l s.w.log
  ginv := H.ginv
  nodup := H.nodup
  zstEq := H.zstEq
  maxc := H.maxc
  ok := fun e cs hm => (H.ok e cs hm).frame ⟨fun _ => rfl, rfl⟩

theorem hinv'_init (cap rel : Nat) : HInv' (St.init cap rel) [] := (hinv_init cap rel).toHInv'

/-! ## 2. structural operations on a locked world -/

def Op.structural : Op → Bool
  | .set _ _ => false
  | _ => true

/-- the class of the panic of a structural operation on a locked world: `locked`, except that
    * the registration of a new component type panics `registerLocked` (the registration is rolled
      back), or `registryFull` when the registry is full (that check comes first);
    * `Add`/`Remove` through `Unsafe`/`Map` and `Unsafe.Exchange` check that the entity is alive
      before they reach the lock check, so on a dead handle they panic `deadEntity`. -/
def lockedClass (w : World) : Op → PanicKind
  | .reg _ _ => if w.kinds.length < w.maxComps then .registerLocked else .registryFull
  | .add p e _ _ => if p != .typed && !w.alive e then .deadEntity else .locked
  | .rem p e _ => if p != .typed && !w.alive e then .deadEntity else .locked
  | .xchg p e _ _ _ => if p == .unsafe_ && !w.alive e then .deadEntity else .locked
  | _ => .locked

/-- **on a locked world every structural operation panics and returns exactly the world it was
    called on**, with the class `lockedClass w op`. -/
theorem exec_structural_locked (run : ProbeRunner) (w : World) (hl : w.isLocked = true) (op : Op)
    (hs : op.structural = true) : exec run w op = .panic (lockedClass w op) w := by
  cases op with
  | reg size z =>
    by_cases hlt : w.kinds.length < w.maxComps
    · simp only [exec, lockedClass, registerComponent_locked w hl _ hlt, if_pos hlt]
    · have hfull : w.maxComps ≤ w.kinds.length := by omega
      simp only [exec, lockedClass, registerComponent_full _ w hfull, if_neg hlt]
  | new p ids vals =>
    have hpre : preCheck p ids [] w = .ok () w := by cases p <;> rfl
    simp only [exec, lockedClass, opNewEntity, bind, M.bind, hpre, newEntityCore_locked w hl]
  | new0 => simp only [exec, lockedClass, opNewEntity0_locked run w hl]
  | add p e ids vals =>
    cases ha : w.alive e <;> cases p <;>
      simp [exec, lockedClass, opAdd, bind, M.bind, M.get, M.assert, ha, addCore_locked w hl]
  | rem p e ids =>
    cases ha : w.alive e <;> cases p <;>
      simp [exec, lockedClass, opRemove, bind, M.bind, M.get, M.assert, ha, removeCore_locked run w hl]
  | xchg p e add rem vals =>
    cases ha : w.alive e <;> cases p <;>
      simp [exec, lockedClass, opExchange, bind, M.bind, M.get, M.assert, ha,
        exchangeCore_locked run w hl]
  | set e vals => cases hs
  | del e => simp only [exec, lockedClass, opRemoveEntity_locked run w hl]
  | copy e => simp only [exec, lockedClass, opCopyEntity_locked run w hl]
  | shrink b => simp only [exec, lockedClass, opShrink_locked w hl]
  | reset => simp only [exec, lockedClass, opReset_locked w hl]

/-! ## 3. `Set` does not read or write the lock -/

def mapState {α : Type} (f : World → World) : Res World α → Res World α
  | .ok a w => .ok a (f w)
  | .panic k w => .panic k (f w)

theorem exec_set_cases (run : ProbeRunner) (w : World)
    (hno : w.obs.hasObservers Ev.onSetComponents = false) (e : Ent) (vals : Comps) :
    (∃ k, exec run w (.set e vals) = .panic k w) ∨
    exec run w (.set e vals) = .ok none (writeValsW w e vals) := by
  cases ha : w.alive e with
  | false =>
    left
    exact ⟨.deadEntity, by simp only [exec, World.opSet_dead run w e ha (keys vals) vals]⟩
  | true =>
    cases hall : ((keys vals).all fun c => (w.tbl (w.index e.id).1).has c) with
    | false =>
      left
      exact ⟨.missing, by simp only [exec, World.opSet_missing run w e (keys vals) vals ha hall]⟩
    | true =>
      right
      simp only [exec, World.opSet_eq run w e (keys vals) vals ha hall hno]

theorem exec_set_withLocks (run : ProbeRunner) (w : World)
    (hno : w.obs.hasObservers Ev.onSetComponents = false) (l : Lock) (e : Ent) (vals : Comps) :
    exec run (w.withLocks l) (.set e vals) = mapState (·.withLocks l) (exec run w (.set e vals)) := by
  cases ha : w.alive e with
  | false =>
    have ha' : (w.withLocks l).alive e = false := ha
    simp only [exec, World.opSet_dead run w e ha (keys vals) vals,
      World.opSet_dead run (w.withLocks l) e ha' (keys vals) vals, mapState]
  | true =>
    have ha' : (w.withLocks l).alive e = true := ha
    cases hall : ((keys vals).all fun c => (w.tbl (w.index e.id).1).has c) with
    | false =>
      have hall' : ((keys vals).all fun c =>
          ((w.withLocks l).tbl ((w.withLocks l).index e.id).1).has c) = false := hall
      simp only [exec, World.opSet_missing run w e (keys vals) vals ha hall,
        World.opSet_missing run (w.withLocks l) e (keys vals) vals ha' hall', mapState]
    | true =>
      have hall' : ((keys vals).all fun c =>
          ((w.withLocks l).tbl ((w.withLocks l).index e.id).1).has c) = true := hall
      have hno' : (w.withLocks l).obs.hasObservers Ev.onSetComponents = false := hno
      simp only [exec, World.opSet_eq run w e (keys vals) vals ha hall hno,
        World.opSet_eq run (w.withLocks l) e (keys vals) vals ha' hall' hno', mapState]
      rfl

theorem step_set_withLocks (run : ProbeRunner) (s : St)
    (hno : s.w.obs.hasObservers Ev.onSetComponents = false) (l : Lock) (e : Ent) (vals : Comps) :
    step run (s.withLocks l) (.set e vals) = (step run s (.set e vals)).withLocks l := by
  by_cases hg : guard s (.set e vals) = true
  · have hg' : guard (s.withLocks l) (.set e vals) = true := hg
    rw [step_of_guard hg, step_of_guard hg', St.withLocks_w, exec_set_withLocks run s.w hno]
    cases exec run s.w (.set e vals) <;> rfl
  · have hg' : ¬ guard (s.withLocks l) (.set e vals) = true := hg
    have h1 : step run s (.set e vals) = s := by rw [step, if_neg hg]
    have h2 : step run (s.withLocks l) (.set e vals) = s.withLocks l := by rw [step, if_neg hg']
    rw [h1, h2]

theorem step_set_locks (run : ProbeRunner) (s : St)
    (hno : s.w.obs.hasObservers Ev.onSetComponents = false) (e : Ent) (vals : Comps) :
    (step run s (.set e vals)).w.locks = s.w.locks := by
  by_cases hg : guard s (.set e vals) = true
  · rw [step_of_guard hg]
    rcases exec_set_cases run s.w hno e vals with ⟨k, h⟩ | h <;> rw [h] <;> rfl
  · rw [step, if_neg hg]

/-- what a step of the machine guarantees, without reference to the lock: `Refine.StepGoal` with
    `HInv'` in place of `HInv` -/
def StepGoal' (run : ProbeRunner) (s : St) (op : Op) : Prop :=
  (∃ fl', HInv' (step run s op) fl') ∧
  (step run s op).w.tables.length ≤ s.w.tables.length + 1 ∧
  (step run s op).w.entities.length ≤ s.w.entities.length + 1 ∧
  (guard s op = true → ¬ pre s.ss op → ∃ k, exec run s.w op = .panic k s.w) ∧
  (guard s op = true → pre s.ss op → ∃ r w', exec run s.w op = .ok r w') ∧
  PoolStep s.w.pool (step run s op).w.pool

theorem StepGoal.toStepGoal' {run : ProbeRunner} {s : St} {op : Op} (h : StepGoal run s op) :
    StepGoal' run s op :=
  ⟨⟨h.1.choose, h.1.choose_spec.toHInv'⟩, h.2⟩

/-- **`Set` keeps working on a locked world**: on every state satisfying `HInv'` — locked or
    not — the step for `Set` has the effect `Refine.step_set` describes (the invariant is kept,
    a call whose precondition fails is rejected with the world unchanged, a call whose
    precondition holds succeeds and the specification — hence, by the refinement `HInv'.ok`, every
    later read — records the written values), and the lock is untouched. -/
theorem HInv'.step_set (run : ProbeRunner) {s : St} {fl : List Nat} (H : HInv' s fl) (e : Ent)
    (vals : Comps) :
    StepGoal' run s (.set e vals) ∧ (step run s (.set e vals)).w.locks = s.w.locks := by
  have hno := H.cinv.noObs Ev.onSetComponents
  have hlk := step_set_locks run s hno e vals
  refine ⟨?_, hlk⟩
  -- the twin state with the initial (unlocked) lock
  have H0 : HInv (s.withLocks {}) fl := (H.withLocks {}).toHInv rfl
  obtain ⟨⟨fl', G⟩, g1, g2, g3, g4, g5⟩ := Refine.step_set run H0 e vals
  rw [step_set_withLocks run s hno] at G g1 g2 g5
  simp only [St.withLocks_w, World.withLocks] at g1 g2 g5
  have hback : ((step run s (.set e vals)).withLocks {}).withLocks s.w.locks =
      step run s (.set e vals) := by
    rw [St.withLocks_withLocks, ← hlk]; exact St.withLocks_self _
  refine ⟨⟨fl', ?_⟩, g1, g2, ?_, ?_, g5⟩
  · rw [← hback]; exact G.toHInv'.withLocks _
  · intro hg hnp
    obtain ⟨k, hk⟩ := g3 hg hnp
    rw [St.withLocks_w, exec_set_withLocks run s.w hno] at hk
    rcases exec_set_cases run s.w hno e vals with ⟨k', h⟩ | h
    · exact ⟨k', h⟩
    · rw [h] at hk; cases hk
  · intro hg hp
    obtain ⟨r, w', hk⟩ := g4 hg hp
    rw [St.withLocks_w, exec_set_withLocks run s.w hno] at hk
    rcases exec_set_cases run s.w hno e vals with ⟨k', h⟩ | h
    · rw [h] at hk; cases hk
    · exact ⟨_, _, h⟩

theorem HInv'.step_unlocked (run : ProbeRunner) {s : St} {fl : List Nat} (H : HInv' s fl)
    (hu : s.w.isLocked = false) (hfew : s.w.tables.length < maxU32)
    (hent : s.w.entities.length + 1 < 2 ^ 32) (op : Op) : StepGoal' run s op :=
  (step_goal run (H.toHInv hu) hfew hent op).toStepGoal'

end Refine

end Ark
