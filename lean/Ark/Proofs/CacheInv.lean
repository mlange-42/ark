/-
  Ark.Proofs.CacheInv — the filter cache (`cache.go`) against the uncached archetype walk.
  `Selected w f rels t` says that table `t` is selected by filter `f` with relations `rels`,
  without reference to the cache or to any walk; the uncached walk `getCacheTables` returns
  exactly the selected tables, without duplicates (`getCacheTables_spec`, under the storage facts
  `TablesInv` and the panic-freedom condition `RelsOK`); `CacheInv` (invariant I11) says the same
  of every cached entry and is preserved by the five operations of the cache.
-/
import Ark.Proofs.AL
import Ark.Proofs.Table
import Ark.Proofs.TableIDs
import Ark.Proofs.ArchIndex
import Ark.Proofs.MaskLemmas
import Ark.Model.World

namespace Ark

/-! ## Generic folds with an `Option (List _)` accumulator -/

namespace OptFold
variable {α β : Type}

theorem foldl_none (step : Option (List β) → α → Option (List β))
    (hn : ∀ (a : α), step none a = none) (l : List α) : l.foldl step none = none := by
  induction l with
  | nil => rfl
  | cons a l ih => rw [List.foldl_cons, hn, ih]

/-- Total case: every step appends `g a`; the fold succeeds with the concatenation. -/
theorem foldl_total (step : Option (List β) → α → Option (List β)) (g : α → List β)
    (l : List α)
    (h : ∀ (a : α), a ∈ l → ∀ (acc : List β), step (some acc) a = some (acc ++ g a))
    (acc : List β) : l.foldl step (some acc) = some (acc ++ l.flatMap g) := by
  induction l generalizing acc with
  | nil => simp
  | cons a l ih =>
    rw [List.foldl_cons, h a List.mem_cons_self acc,
      ih (fun b hb => h b (List.mem_cons_of_mem _ hb)), List.flatMap_cons, List.append_assoc]

/-- Partial case: every step either fails or appends `g a`; if the fold succeeds its result is
    the concatenation. -/
theorem foldl_partial (step : Option (List β) → α → Option (List β)) (g : α → List β)
    (hn : ∀ (a : α), step none a = none) (l : List α)
    (h : ∀ (a : α), a ∈ l → ∀ (acc : List β),
      step (some acc) a = none ∨ step (some acc) a = some (acc ++ g a))
    (acc r : List β) (hr : l.foldl step (some acc) = some r) : r = acc ++ l.flatMap g := by
  induction l generalizing acc with
  | nil => simp at hr; simp [hr]
  | cons a l ih =>
    rw [List.foldl_cons] at hr
    rcases h a List.mem_cons_self acc with h1 | h1
    · rw [h1, foldl_none step hn] at hr; cases hr
    · rw [h1] at hr
      rw [ih (fun b hb => h b (List.mem_cons_of_mem _ hb)) _ hr, List.flatMap_cons,
        List.append_assoc]

theorem flatMap_singleton (g : α → β) (l : List α) : l.flatMap (fun a => [g a]) = l.map g := by
  induction l with
  | nil => rfl
  | cons a l ih => rw [List.flatMap_cons, ih]; rfl

/-- Duplicate-freeness of a concatenation whose pieces are separated by a key that records the
    position of the piece. -/
theorem nodup_flatMap_of_key (g : α → List β) (key : β → Nat) (l : List α)
    (hnd : ∀ (a : α), a ∈ l → (g a).Nodup)
    (hkey : ∀ (i : Nat) (a : α), l[i]? = some a → ∀ (x : β), x ∈ g a → key x = i) :
    (l.flatMap g).Nodup := by
  unfold List.Nodup
  rw [List.pairwise_flatMap]
  refine ⟨hnd, ?_⟩
  rw [List.pairwise_iff_getElem]
  intro i j hi hj hij x hx y hy hxy
  have h1 := hkey i l[i] (List.getElem?_eq_getElem hi) x hx
  have h2 := hkey j l[j] (List.getElem?_eq_getElem hj) y hy
  rw [hxy] at h1
  omega

end OptFold

/-! ## `Table.matchesRels` -/

namespace Table

theorem matchesRels_nil (t : Table) : t.matchesRels [] = some true := by
  simp [matchesRels]

theorem matchesRels_noRel (t : Table) (h : t.hasRelations = false) (rels : List RelID) :
    t.matchesRels rels = some true := by
  simp [matchesRels, h]

theorem matchesRels_eq_go (t : Table) (h : t.hasRelations = true) (r : RelID)
    (rest : List RelID) : t.matchesRels (r :: rest) = matchesRels.go t (r :: rest) := by
  simp [matchesRels, h]

/-- `go` succeeds with `true` exactly when every relation names a column whose target is the
    given entity (full entity equality: ID and generation). -/
theorem go_eq_true_iff (t : Table) (rels : List RelID) :
    matchesRels.go t rels = some true ↔
      ∀ (r : RelID), r ∈ rels →
        ∃ (i : Nat), t.colIdx r.comp = some i ∧ r.target = t.targets.getD i Ent.zero := by
  induction rels with
  | nil => simp [matchesRels.go]
  | cons r rest ih =>
    unfold matchesRels.go
    cases hc : t.colIdx r.comp with
    | none =>
      simp only [List.mem_cons, forall_eq_or_imp, hc]
      constructor
      · intro h; cases h
      · rintro ⟨⟨i, hi, _⟩, _⟩; cases hi
    | some i =>
      simp only [List.mem_cons, forall_eq_or_imp, hc]
      by_cases ht : r.target = t.targets.getD i Ent.zero
      · simp only [bne_iff_ne, ne_eq, ht, not_true_eq_false, if_false, ih]
        constructor
        · intro h; exact ⟨⟨i, rfl, rfl⟩, h⟩
        · rintro ⟨_, h⟩; exact h
      · simp only [bne_iff_ne, ne_eq, ht, not_false_eq_true, if_true]
        constructor
        · intro h; cases h
        · rintro ⟨⟨j, hj, hj2⟩, _⟩
          injection hj with hj; subst hj; exact absurd hj2 ht

/-- For a relation table, a successful match of a non-empty relation list pins the first
    relation's target. -/
theorem matchesRels_cons_true (t : Table) (h : t.hasRelations = true) (r : RelID)
    (rest : List RelID) (hm : t.matchesRels (r :: rest) = some true) :
    ∃ (i : Nat), t.colIdx r.comp = some i ∧ r.target = t.targets.getD i Ent.zero := by
  rw [matchesRels_eq_go t h, go_eq_true_iff] at hm
  exact hm r List.mem_cons_self

theorem colIdx_eq_of_ids (t : Table) (a : Archetype) (h : t.ids = a.comps) (c : Comp) :
    t.colIdx c = a.colIdx c := by
  simp [colIdx, Archetype.colIdx, h]

end Table

namespace World

/-! ## Selection, independent of cache and walks -/

/-- Table `t` is selected by filter `f` with relations `rels`: it is an active table of an
    archetype whose mask matches, and it matches the relations (vacuous for tables without
    relation columns, by definition of `matchesRels`). -/
def Selected (w : World) (f : Filter) (rels : List RelID) (t : Nat) : Prop :=
  ∃ (a : Nat) (A : Archetype), w.archetypes[a]? = some A ∧ t ∈ A.tables.tables ∧
    f.matchesMask A.mask = true ∧ (w.tbl t).matchesRels rels = some true

theorem Selected_congr {w w' : World} (ha : w'.archetypes = w.archetypes)
    (ht : w'.tables = w.tables) (f : Filter) (rels : List RelID) (t : Nat) :
    Selected w' f rels t ↔ Selected w f rels t := by
  unfold Selected tbl
  rw [ha, ht]

/-- Storage facts the cache relies on (world-level, independent of any filter):
    * `index` — every archetype satisfies `Archetype.IndexInv` w.r.t. the tables' targets;
    * `arch`  — an active table points back to its archetype (so archetypes share no table);
    * `ids`   — an active table has the column layout of its archetype;
    * `hasRel` — `table.HasRelations()` agrees with `archetype.HasRelations()`;
    * `single` — an archetype without relation columns has exactly one active table. -/
structure TablesInv (w : World) : Prop where
  index : ∀ (a : Nat) (A : Archetype), w.archetypes[a]? = some A →
    A.IndexInv (fun t => (w.tbl t).targets)
  arch : ∀ (a : Nat) (A : Archetype), w.archetypes[a]? = some A →
    ∀ (t : Nat), t ∈ A.tables.tables → (w.tbl t).arch = a
  ids : ∀ (a : Nat) (A : Archetype), w.archetypes[a]? = some A →
    ∀ (t : Nat), t ∈ A.tables.tables → (w.tbl t).ids = A.comps
  hasRel : ∀ (a : Nat) (A : Archetype), w.archetypes[a]? = some A →
    ∀ (t : Nat), t ∈ A.tables.tables → (w.tbl t).hasRelations = A.hasRelations
  single : ∀ (a : Nat) (A : Archetype), w.archetypes[a]? = some A →
    A.hasRelations = false → A.tables.tables.length = 1

/-- Panic-freedom of the walk for `f`, `rels`: in every relation archetype the filter matches,
    each given relation names a column, and the first one names a relation column (the Go code
    indexes `relationTables[componentsMap[rels[0]]]` and dereferences `components[rel]`). -/
def RelsOK (w : World) (f : Filter) (rels : List RelID) : Prop :=
  ∀ (a : Nat) (A : Archetype), w.archetypes[a]? = some A → f.matchesMask A.mask = true →
    A.hasRelations = true →
    (∀ (r : RelID), r ∈ rels → (A.colIdx r.comp).isSome = true) ∧
    (∀ (r : RelID), rels.head? = some r →
      ∃ (i : Nat), A.colIdx r.comp = some i ∧ A.isRel.getD i false = true)

end World
end Ark

/-! ## The uncached walk `getCacheTables` -/

namespace Ark
namespace World

/-- What one archetype contributes to the walk (when nothing panics). -/
def archSel (w : World) (f : Filter) (rels : List RelID) (A : Archetype) : List Nat :=
  if !f.matchesMask A.mask then []
  else if !A.hasRelations then [A.tables.tables.getD 0 0]
  else ((A.getTables rels).getD []).filter
    fun t => (w.tbl t).matchesRels rels == some true

/-- The inner loop over the tables handed out by `GetTables`. -/
theorem innerFold (w : World) (rels : List RelID) (ts : List Nat)
    (h : ∀ (t : Nat), t ∈ ts → (w.tbl t).matchesRels rels ≠ none) (acc : List Nat) :
    ts.foldl (fun (acc : Option (List Nat)) t =>
        match acc with
        | none => none
        | some acc =>
          match (w.tbl t).matchesRels rels with
          | none => none
          | some true => some (acc ++ [t])
          | some false => some acc) (some acc)
      = some (acc ++ ts.filter fun t => (w.tbl t).matchesRels rels == some true) := by
  induction ts generalizing acc with
  | nil => simp
  | cons t ts ih =>
    have h1 := h t List.mem_cons_self
    have ih' := ih (fun t' ht' => h t' (List.mem_cons_of_mem _ ht'))
    rw [List.foldl_cons]
    cases hm : (w.tbl t).matchesRels rels with
    | none => exact absurd hm h1
    | some b =>
      cases b with
      | true => simp only; rw [ih']; simp [hm]
      | false => simp only; rw [ih']; simp [hm]

theorem archSel_spec {w : World} (H : TablesInv w) {f : Filter} {rels : List RelID}
    (hok : RelsOK w f rels) {a : Nat} {A : Archetype} (hA : w.archetypes[a]? = some A) :
    (w.archSel f rels A).Nodup ∧
    (∀ (t : Nat), t ∈ w.archSel f rels A ↔
      t ∈ A.tables.tables ∧ f.matchesMask A.mask = true ∧
        (w.tbl t).matchesRels rels = some true) ∧
    (f.matchesMask A.mask = true → A.hasRelations = true →
      ∃ (ts : List Nat), A.getTables rels = some ts ∧
        ∀ (t : Nat), t ∈ ts → (w.tbl t).matchesRels rels ≠ none) := by
  have hI := H.index a A hA
  unfold archSel
  by_cases hm : f.matchesMask A.mask = true
  case neg =>
    simp only [hm]
    refine ⟨by simp, by simp, fun h => absurd h (by simp)⟩
  by_cases hr : A.hasRelations = true
  case neg =>
    have hr' : A.hasRelations = false := by simpa using hr
    have hlen := H.single a A hA hr'
    obtain ⟨t0, ht0⟩ : ∃ t0, A.tables.tables = [t0] := by
      cases hl : A.tables.tables with
      | nil => rw [hl] at hlen; simp at hlen
      | cons x xs =>
        cases xs with
        | nil => exact ⟨x, rfl⟩
        | cons y ys => rw [hl] at hlen; simp at hlen
    simp only [hm, hr', ht0]
    refine ⟨by simp, ?_, fun _ h => by cases h⟩
    intro t
    simp only [Bool.not_true, Bool.false_eq_true, if_false, Bool.not_false, if_true,
      List.getD_cons_zero, List.mem_singleton, true_and]
    constructor
    · intro h; subst h
      refine ⟨rfl, Table.matchesRels_noRel _ ?_ rels⟩
      rw [H.hasRel a A hA t (by rw [ht0]; simp)]; exact hr'
    · intro h; exact h.1
  -- relation archetype
  obtain ⟨hcols, hhead⟩ := hok a A hA hm hr
  have hnone : ∀ (t : Nat), t ∈ A.tables.tables → (w.tbl t).matchesRels rels ≠ none := by
    intro t ht
    apply Table.matchesRels_ne_none
    intro r hr'
    rw [Table.colIdx_eq_of_ids _ A (H.ids a A hA t ht)]
    exact hcols r hr'
  simp only [hm, hr, Bool.not_true, Bool.false_eq_true, if_false]
  cases rels with
  | nil =>
    have hg := (hI.getTables_all [] (Or.inl rfl))
    rw [hg.1]
    refine ⟨?_, ?_, fun _ _ => ⟨_, rfl, hnone⟩⟩
    · exact List.Pairwise.filter _ hg.2
    · intro t; simp [Table.matchesRels_nil]
  | cons r rest =>
    obtain ⟨i, hci, hri⟩ := hhead r rfl
    obtain ⟨ts, hts, hnd, hmem⟩ := hI.getTables_complete r rest i hci hri
    rw [hts]
    refine ⟨?_, ?_, fun _ _ => ⟨ts, rfl, fun t ht => hnone t ((hmem t).1 ht).1⟩⟩
    · exact List.Pairwise.filter _ hnd
    · intro t
      simp only [Option.getD_some, List.mem_filter, beq_iff_eq, true_and]
      constructor
      · rintro ⟨h1, h2⟩; exact ⟨((hmem t).1 h1).1, h2⟩
      · rintro ⟨h1, h2⟩
        refine ⟨(hmem t).2 ⟨h1, ?_⟩, h2⟩
        have hrt : (w.tbl t).hasRelations = true := by rw [H.hasRel a A hA t h1]; exact hr
        obtain ⟨j, hj, hj2⟩ := Table.matchesRels_cons_true _ hrt r rest h2
        rw [Table.colIdx_eq_of_ids _ A (H.ids a A hA t h1), hci] at hj
        injection hj with hj; subst hj
        rw [← hj2]

theorem getCacheTables_eq {w : World} (H : TablesInv w) {f : Filter} {rels : List RelID}
    (hok : RelsOK w f rels) :
    w.getCacheTables f rels = some (w.archetypes.flatMap (w.archSel f rels)) := by
  unfold getCacheTables
  refine (OptFold.foldl_total _ (w.archSel f rels) w.archetypes ?_ []).trans (by simp)
  · intro A hA acc
    obtain ⟨a, ha⟩ := List.mem_iff_getElem?.1 hA
    obtain ⟨_, _, h3⟩ := archSel_spec H hok ha
    simp only [archSel]
    by_cases hm : f.matchesMask A.mask = true
    case neg => simp [hm]
    by_cases hr : A.hasRelations = true
    case neg => simp [hm, hr]
    obtain ⟨ts, hts, hnone⟩ := h3 hm hr
    simp only [hm, hr, Bool.not_true, Bool.false_eq_true, if_false, hts, Option.getD_some]
    exact innerFold w rels ts hnone acc

/-- **`getCacheTables_spec`.** Under the storage invariant and panic-freedom, the uncached walk
    succeeds, its result has no duplicates, and it lists exactly the selected tables. -/
theorem getCacheTables_spec {w : World} (H : TablesInv w) {f : Filter} {rels : List RelID}
    (hok : RelsOK w f rels) :
    ∃ (ts : List Nat), w.getCacheTables f rels = some ts ∧ ts.Nodup ∧
      ∀ (t : Nat), t ∈ ts ↔ Selected w f rels t := by
  refine ⟨_, getCacheTables_eq H hok, ?_, ?_⟩
  · apply OptFold.nodup_flatMap_of_key (w.archSel f rels) (fun t => (w.tbl t).arch)
    · intro A hA
      obtain ⟨a, ha⟩ := List.mem_iff_getElem?.1 hA
      exact (archSel_spec H hok ha).1
    · intro i A hA t ht
      exact H.arch i A hA t (((archSel_spec H hok hA).2.1 t).1 ht).1
  · intro t
    rw [List.mem_flatMap]
    constructor
    · rintro ⟨A, hA, ht⟩
      obtain ⟨a, ha⟩ := List.mem_iff_getElem?.1 hA
      exact ⟨a, A, ha, ((archSel_spec H hok ha).2.1 t).1 ht⟩
    · rintro ⟨a, A, ha, h⟩
      exact ⟨A, List.mem_iff_getElem?.2 ⟨a, ha⟩, ((archSel_spec H hok ha).2.1 t).2 h⟩

end World
end Ark

/-! ## The cache invariant (I11) -/

namespace Ark

/-! ### list/index-map facts for `cache.filters` / `cache.indices` -/

namespace CacheIdx

variable {α : Type} {key : α → Nat} {F : List α} {ind ind' : AL Nat}

/-- the entry found under key `k` -/
def lookup (F : List α) (ind : AL Nat) (k : Nat) : Option α :=
  match AL.find? ind k with
  | none => none
  | some i => F[i]?

/-- an indexed slice whose entries all occur in another indexed slice agrees with it on every
    key that both have or both lack -/
theorem lookup_eq_of_subset {F' : List α} (h : IsIndex key F ind) (h' : IsIndex key F' ind')
    (hsub : ∀ x ∈ F', x ∈ F) {k : Nat}
    (hk : (AL.find? ind' k).isSome = (AL.find? ind k).isSome) :
    lookup F' ind' k = lookup F ind k := by
  unfold lookup
  cases hf' : AL.find? ind' k with
  | none =>
    cases hf : AL.find? ind k with
    | none => rfl
    | some i => rw [hf', hf] at hk; cases hk
  | some i' =>
    cases hf : AL.find? ind k with
    | none => rw [hf', hf] at hk; cases hk
    | some i =>
      obtain ⟨e', he', hke'⟩ := (h' k i').1 hf'
      obtain ⟨j, hj⟩ := List.mem_iff_getElem?.1 (hsub e' (List.mem_iff_getElem?.2 ⟨i', he'⟩))
      have := (h k j).2 ⟨e', hj, hke'⟩
      rw [hf] at this
      simp only [he', ← hj, Option.some.inj this]


/-- `register`: append an entry with a fresh ID. -/
theorem append {F : List CacheEntry} {ind : AL Nat}
    (hidx : ∀ (id i : Nat), AL.find? ind id = some i ↔ ∃ e, F[i]? = some e ∧ e.id = id)
    (e : CacheEntry) (hfresh : AL.find? ind e.id = none) (k i : Nat) :
    AL.find? (AL.insert ind e.id F.length) k = some i ↔
      ∃ e', (F ++ [e])[i]? = some e' ∧ e'.id = k :=
  IsIndex.append (key := CacheEntry.id) hidx e hfresh (fun _ => AL.find?_insert _ _ _ _) k i

end CacheIdx

namespace World

/-- **Cache invariant I11.**
    * `uniq`  — the ID ↦ position map has unique keys;
    * `index` — it is exactly the position map of the entry slice (keyed by entry ID);
    * `entries` — every entry's table list is a well-formed `tableIDs` and lists exactly the
      tables selected by the entry's filter and relations. -/
structure CacheInv (w : World) : Prop where
  uniq : AL.Uniq w.cache.indices
  index : ∀ (id i : Nat), AL.find? w.cache.indices id = some i ↔
    ∃ (e : CacheEntry), w.cache.filters[i]? = some e ∧ e.id = id
  entries : ∀ (e : CacheEntry), e ∈ w.cache.filters →
    e.tables.WF ∧ ∀ (t : Nat), t ∈ e.tables.tables ↔ Selected w e.filter e.rels t

theorem cacheInv_iff (w : World) :
    CacheInv w ↔
      AL.Uniq w.cache.indices ∧
      (∀ (id i : Nat), AL.find? w.cache.indices id = some i ↔
        ∃ (e : CacheEntry), w.cache.filters[i]? = some e ∧ e.id = id) ∧
      ∀ (e : CacheEntry), e ∈ w.cache.filters →
        e.tables.WF ∧ ∀ (t : Nat), t ∈ e.tables.tables ↔ Selected w e.filter e.rels t :=
  ⟨fun h => ⟨h.uniq, h.index, h.entries⟩, fun h => ⟨h.1, h.2.1, h.2.2⟩⟩

/-- the invariant reads the cache, the archetypes and the tables only -/
theorem CacheInv.congr {w w' : World} (h : CacheInv w) (hc : w'.cache = w.cache)
    (ha : w'.archetypes = w.archetypes) (ht : w'.tables = w.tables) : CacheInv w' :=
  ⟨by rw [hc]; exact h.uniq, by rw [hc]; exact h.index, fun e he => by
    rw [hc] at he
    exact ⟨(h.entries e he).1, fun t =>
      ((h.entries e he).2 t).trans (Selected_congr ha ht _ _ _).symm⟩⟩

theorem CacheInv.entry_of_lookup {w : World} (h : CacheInv w) {id : Nat} {e : CacheEntry}
    (he : w.cacheEntry? id = some e) : e ∈ w.cache.filters ∧ e.id = id := by
  unfold cacheEntry? at he
  cases hf : AL.find? w.cache.indices id with
  | none => rw [hf] at he; cases he
  | some idx =>
    rw [hf] at he
    simp only at he
    obtain ⟨e', he', hid⟩ := (h.index id idx).1 hf
    rw [he] at he'; injection he' with he'; subst he'
    exact ⟨List.mem_iff_getElem?.2 ⟨idx, he⟩, hid⟩

theorem CacheInv.filters_nil_of_indices_nil {w : World} (h : CacheInv w)
    (h0 : w.cache.indices = []) : w.cache.filters = [] := by
  cases hl : w.cache.filters with
  | nil => rfl
  | cons e es =>
    have := (h.index e.id 0).2 ⟨e, by rw [hl]; rfl, rfl⟩
    rw [h0] at this; cases this

/-! ### (a) the empty cache -/

theorem cacheInv_of_empty {w : World} (h1 : w.cache.indices = []) (h2 : w.cache.filters = []) :
    CacheInv w := by
  refine ⟨by rw [h1]; exact AL.uniq_nil, ?_, ?_⟩
  · intro id i; rw [h1, h2]; simp
  · intro e he; rw [h2] at he; cases he

theorem cacheInv_init (cap relCap maxComps : Nat) : CacheInv (World.init cap relCap maxComps) :=
  cacheInv_of_empty rfl rfl

/-! ### (f) `cacheReset` -/

theorem cacheReset_archetypes (w : World) : w.cacheReset.archetypes = w.archetypes := by
  unfold cacheReset; split <;> rfl

theorem cacheReset_tables (w : World) : w.cacheReset.tables = w.tables := by
  unfold cacheReset; split <;> rfl

/-- `Reset` empties the cache (the early return `len(indices) == 0` is harmless under the
    invariant, because then the slice is empty as well). -/
theorem cacheReset_empty {w : World} (h : CacheInv w) :
    w.cacheReset.cache.indices = [] ∧ w.cacheReset.cache.filters = [] := by
  unfold cacheReset
  by_cases h0 : w.cache.indices.isEmpty = true
  · have h0' : w.cache.indices = [] := List.isEmpty_iff.1 h0
    rw [if_pos h0]
    exact ⟨h0', h.filters_nil_of_indices_nil h0'⟩
  · rw [if_neg h0]; exact ⟨rfl, rfl⟩

theorem cacheReset_inv {w : World} (h : CacheInv w) : CacheInv w.cacheReset :=
  cacheInv_of_empty (cacheReset_empty h).1 (cacheReset_empty h).2

/-! ### (b) `cacheRegister` -/

theorem getCacheTables_congr {w w' : World} (ha : w'.archetypes = w.archetypes)
    (ht : w'.tables = w.tables) (f : Filter) (rels : List RelID) :
    w'.getCacheTables f rels = w.getCacheTables f rels := by
  unfold getCacheTables tbl
  rw [ha, ht]

/-- The entry `register` builds from the result `ts` of the walk. -/
def newEntry (w : World) (f : Filter) (rels : List RelID) (ts : List Nat) : CacheEntry :=
  { id := (w.cache.pool.get).2, filter := f, rels, tables := TableIDs.ofList ts }

/-- The world after a successful `register` whose walk returned `ts`. -/
def registered (w : World) (f : Filter) (rels : List RelID) (ts : List Nat) : World :=
  { w with cache := { pool := (w.cache.pool.get).1,
                      filters := w.cache.filters ++ [newEntry w f rels ts],
                      indices := AL.insert w.cache.indices (w.cache.pool.get).2
                        w.cache.filters.length } }

theorem cacheRegister_eq (w : World) (f : Filter) (rels : List RelID) (ts : List Nat)
    (hts : w.getCacheTables f rels = some ts) :
    cacheRegister f rels w = .ok (w.cache.pool.get).2 (registered w f rels ts) := by
  have h' : ({ w with cache := { w.cache with pool := (w.cache.pool.get).1 } } :
      World).getCacheTables f rels = some ts := by
    rw [getCacheTables_congr rfl rfl]; exact hts
  unfold cacheRegister
  simp only [h']
  rfl

/-- **(b)** `register` succeeds (under the hypotheses of `getCacheTables_spec`), re-establishes
    the invariant, the new entry is found under the returned ID with the given filter and
    relations and exactly the selected tables, every other ID resolves as before, and the
    storage is untouched.  Hypothesis `hfresh`: the ID pool hands out an ID that is not
    registered. -/
theorem cacheRegister_inv {w : World} (h : CacheInv w) (H : TablesInv w) {f : Filter}
    {rels : List RelID} (hok : RelsOK w f rels)
    (hfresh : AL.find? w.cache.indices (w.cache.pool.get).2 = none) :
    ∃ (w' : World) (e : CacheEntry),
      cacheRegister f rels w = .ok (w.cache.pool.get).2 w' ∧ CacheInv w' ∧
      w'.archetypes = w.archetypes ∧ w'.tables = w.tables ∧
      w'.cacheEntry? (w.cache.pool.get).2 = some e ∧
      e.id = (w.cache.pool.get).2 ∧ e.filter = f ∧ e.rels = rels ∧ e.tables.WF ∧
      (∀ (t : Nat), t ∈ e.tables.tables ↔ Selected w' f rels t) ∧
      (∀ (id' : Nat), id' ≠ (w.cache.pool.get).2 → w'.cacheEntry? id' = w.cacheEntry? id') := by
  obtain ⟨ts, hts, hnd, hmem⟩ := getCacheTables_spec H hok
  refine ⟨_, newEntry w f rels ts, cacheRegister_eq w f rels ts hts, ?_, rfl, rfl, ?_, rfl, rfl,
    rfl, TableIDs.wf_ofList ts hnd, ?_, ?_⟩
  · refine ⟨h.uniq.insert _ _, ?_, ?_⟩
    · exact CacheIdx.append h.index (newEntry w f rels ts) hfresh
    · intro e he
      have hsel : ∀ (f' : Filter) (rels' : List RelID) (t : Nat),
          Selected (registered w f rels ts) f' rels' t ↔ Selected w f' rels' t :=
        fun f' rels' t => Selected_congr rfl rfl f' rels' t
      replace he : e ∈ w.cache.filters ++ [newEntry w f rels ts] := he
      simp only [List.mem_append, List.mem_singleton] at he
      rcases he with he | he
      · refine ⟨(h.entries e he).1, fun t => ?_⟩
        rw [hsel]; exact (h.entries e he).2 t
      · subst he
        refine ⟨TableIDs.wf_ofList ts hnd, fun t => ?_⟩
        rw [hsel]; exact hmem t
  · simp only [cacheEntry?, registered, AL.find?_insert_self]
    simp
  · intro t
    rw [Selected_congr (w := w) (w' := registered w f rels ts) rfl rfl]; exact hmem t
  · intro id' hne
    refine (CacheIdx.lookup_eq_of_subset (key := CacheEntry.id)
      (CacheIdx.append h.index (newEntry w f rels ts) hfresh) h.index
      (fun x hx => List.mem_append_left _ hx) ?_).symm
    rw [AL.find?_insert_ne _ _ _ _ (show id' ≠ (newEntry w f rels ts).id from hne)]

/-! ### (c) `cacheUnregister` -/

/-- **(c)** `unregister` of a registered ID succeeds and preserves the invariant; the ID is no
    longer registered, every other ID resolves to the same entry, the storage is untouched. -/
theorem cacheUnregister_last (w : World) (id : Nat)
    (hf : AL.find? w.cache.indices id = some (w.cache.filters.length - 1)) :
    cacheUnregister id w = .ok ()
      { w with cache := { w.cache with
          filters := w.cache.filters.take (w.cache.filters.length - 1),
          indices := AL.erase w.cache.indices id } } := by
  unfold cacheUnregister
  simp [hf]

theorem cacheUnregister_inner (w : World) (id idx : Nat)
    (hf : AL.find? w.cache.indices id = some idx) (hl : idx ≠ w.cache.filters.length - 1) :
    cacheUnregister id w = .ok ()
      { w with cache := { w.cache with
          filters := ((w.cache.filters.set idx
              (w.cache.filters.getD (w.cache.filters.length - 1) default)).set
              (w.cache.filters.length - 1) (w.cache.filters.getD idx default)).take
              (w.cache.filters.length - 1),
          indices := AL.insert (AL.erase w.cache.indices id)
            (w.cache.filters.getD (w.cache.filters.length - 1) default).id idx } } := by
  unfold cacheUnregister
  simp [hf, hl]

/-- replacing the entry slice by an indexed slice of old entries keeps the invariant, and every
    ID that is registered before and after (or neither) resolves to the same entry -/
theorem CacheInv.subIndex {w : World} (h : CacheInv w) {F' : List CacheEntry} {ind' : AL Nat}
    (hu : AL.Uniq ind') (hI' : CacheIdx.IsIndex CacheEntry.id F' ind')
    (hsub : ∀ x ∈ F', x ∈ w.cache.filters) :
    CacheInv { w with cache := { w.cache with filters := F', indices := ind' } } ∧
    ∀ (id' : Nat), (AL.find? ind' id').isSome = (AL.find? w.cache.indices id').isSome →
      cacheEntry? { w with cache := { w.cache with filters := F', indices := ind' } } id' =
        w.cacheEntry? id' :=
  ⟨⟨hu, hI', fun e he => ⟨(h.entries e (hsub e he)).1, fun t => by
      rw [Selected_congr rfl rfl]; exact (h.entries e (hsub e he)).2 t⟩⟩,
    fun _ hk => CacheIdx.lookup_eq_of_subset h.index hI' hsub hk⟩

theorem cacheUnregister_inv {w : World} (h : CacheInv w) {id idx : Nat}
    (hf : AL.find? w.cache.indices id = some idx) :
    ∃ (w' : World), cacheUnregister id w = .ok () w' ∧ CacheInv w' ∧
      w'.archetypes = w.archetypes ∧ w'.tables = w.tables ∧
      w'.cacheEntry? id = none ∧
      (∀ (id' : Nat), id' ≠ id → w'.cacheEntry? id' = w.cacheEntry? id') := by
  have hI : CacheIdx.IsIndex CacheEntry.id w.cache.filters w.cache.indices := h.index
  obtain ⟨e0, he0, he0id⟩ := (hI id idx).1 hf
  have hlast : w.cache.filters[w.cache.filters.length - 1]? =
      some (w.cache.filters.getD (w.cache.filters.length - 1) default) := by
    rw [List.getD_eq_getElem?_getD, List.getElem?_eq_getElem (Nat.sub_one_lt_of_lt (hI.lt hf))]; rfl
  by_cases hl : idx = w.cache.filters.length - 1
  · -- the last entry
    subst hl
    rw [cacheUnregister_last w id hf]
    obtain ⟨hc, hsame⟩ := h.subIndex (h.uniq.erase id)
      (hI.dropLast he0 (fun k => by rw [he0id]; exact AL.find?_erase _ _ _))
      (fun x hx => List.mem_of_mem_take hx)
    refine ⟨_, rfl, hc, rfl, rfl, ?_, fun id' hne => hsame id' ?_⟩
    · simp [cacheEntry?, AL.find?_erase_self]
    · rw [AL.find?_erase_ne _ _ _ hne]
  · -- an inner entry: the last entry `b` moves to `idx`
    rw [cacheUnregister_inner w id idx hf hl, List.take_set_of_le (Nat.le_refl _), List.take_set]
    generalize w.cache.filters.getD (w.cache.filters.length - 1) default = b at hlast ⊢
    have hbid : b.id ≠ id := fun hc => hl (hI.pos_inj he0 hlast (he0id.trans hc.symm))
    have hb := (hI _ _).2 ⟨b, hlast, rfl⟩
    obtain ⟨hc, hsame⟩ := h.subIndex ((h.uniq.erase id).insert b.id idx)
      ((hI.dropLast hlast (fun k => AL.find?_erase _ _ _)).set
        (by rw [AL.find?_erase_ne _ _ _ hbid.symm]; exact hf) (AL.find?_erase_self _ _)
        (fun k => by
          rw [AL.find?_insert, AL.find?_erase, AL.find?_erase]
          by_cases hk : k = b.id
          · rw [if_pos hk, if_pos hk]
          · rw [if_neg hk, if_neg hk, if_neg hk]))
      (fun x hx => (List.mem_or_eq_of_mem_set hx).elim List.mem_of_mem_take
        fun e => e ▸ List.mem_of_getElem? hlast)
    refine ⟨_, rfl, hc, rfl, rfl, ?_, fun id' hne => hsame id' ?_⟩
    · simp only [cacheEntry?]
      rw [AL.find?_insert_ne _ _ _ _ (Ne.symm hbid), AL.find?_erase_self]
    · by_cases hb' : id' = b.id
      · rw [hb', AL.find?_insert_self, hb]; rfl
      · rw [AL.find?_insert_ne _ _ _ _ hb', AL.find?_erase_ne _ _ _ hne]

theorem cacheUnregister_unknown (w : World) (id : Nat)
    (hf : AL.find? w.cache.indices id = none) :
    cacheUnregister id w = .panic .filterNotRegistered w := by
  unfold cacheUnregister; simp only [hf]

theorem CacheInv.lookup_of_mem {w : World} (h : CacheInv w) {e : CacheEntry}
    (he : e ∈ w.cache.filters) : w.cacheEntry? e.id = some e := by
  obtain ⟨i, hi⟩ := List.getElem?_of_mem he
  have := (h.index e.id i).2 ⟨e, hi, rfl⟩
  simp only [cacheEntry?, this, hi]

theorem CacheInv.find_of_mem {w : World} (h : CacheInv w) {e : CacheEntry}
    (he : e ∈ w.cache.filters) : ∃ (i : Nat), AL.find? w.cache.indices e.id = some i := by
  obtain ⟨i, hi⟩ := List.getElem?_of_mem he
  exact ⟨i, (h.index e.id i).2 ⟨e, hi, rfl⟩⟩

theorem cacheUnregister_form {id : Nat} {w w1 : World} (h : cacheUnregister id w = .ok () w1) :
    ∃ (F : List CacheEntry) (I : AL Nat),
      w1 = { w with cache := { w.cache with filters := F, indices := I } } := by
  cases hf : AL.find? w.cache.indices id with
  | none => rw [cacheUnregister_unknown w id hf] at h; cases h
  | some idx =>
    by_cases hl : idx = w.cache.filters.length - 1
    · rw [cacheUnregister_last w id (hl ▸ hf)] at h
      injection h with _ h2
      exact ⟨_, _, h2.symm⟩
    · rw [cacheUnregister_inner w id idx hf hl] at h
      injection h with _ h2
      exact ⟨_, _, h2.symm⟩

end World
end Ark

/-! ## (d), (e): tables becoming active / inactive -/

namespace Ark
namespace World

/-! ### per-entry form -/

/-- What `cache.addTable` does to one entry, for a table `T` of an archetype with mask `m`. -/
def addTableEntry (m : Mask) (T : Table) (e : CacheEntry) : CacheEntry :=
  if e.filter.matchesMask m = true ∧ T.matchesRels e.rels = some true then
    { e with tables := e.tables.append T.id }
  else e

@[simp] theorem addTableEntry_id (m : Mask) (T : Table) (e : CacheEntry) :
    (addTableEntry m T e).id = e.id := by unfold addTableEntry; split <;> rfl

@[simp] theorem addTableEntry_filter (m : Mask) (T : Table) (e : CacheEntry) :
    (addTableEntry m T e).filter = e.filter := by unfold addTableEntry; split <;> rfl

@[simp] theorem addTableEntry_rels (m : Mask) (T : Table) (e : CacheEntry) :
    (addTableEntry m T e).rels = e.rels := by unfold addTableEntry; split <;> rfl

/-- **(d), per-entry form.** If the entry lists exactly the tables satisfying `P` and `T.id` is
    not among them, then after the `addTable` step it lists exactly those plus `T.id` when the
    filter matches the archetype mask and the table matches the entry's relations. -/
theorem addTableEntry_spec (m : Mask) (T : Table) (e : CacheEntry) (P : Nat → Prop)
    (hwf : e.tables.WF) (hP : ∀ (t' : Nat), t' ∈ e.tables.tables ↔ P t')
    (hnew : T.id ∉ e.tables.tables) :
    (addTableEntry m T e).tables.WF ∧
    ∀ (t' : Nat), t' ∈ (addTableEntry m T e).tables.tables ↔
      P t' ∨ (t' = T.id ∧ e.filter.matchesMask m = true ∧ T.matchesRels e.rels = some true) := by
  unfold addTableEntry
  split
  · rename_i hc
    refine ⟨hwf.append hnew, fun t' => ?_⟩
    simp only [TableIDs.append_tables, List.mem_append, List.mem_singleton, hP, hc, and_true]
  · rename_i hc
    refine ⟨hwf, fun t' => ?_⟩
    simp only [hP, hc, and_false, or_false]

/-- **(e), per-entry form.** After the `removeTable` step the entry lists exactly the tables it
    listed before, minus `t`. -/
theorem removeTableEntry_spec (t : Nat) (e : CacheEntry) (P : Nat → Prop)
    (hwf : e.tables.WF) (hP : ∀ (t' : Nat), t' ∈ e.tables.tables ↔ P t') :
    (e.tables.remove t).1.WF ∧
    ∀ (t' : Nat), t' ∈ (e.tables.remove t).1.tables ↔ P t' ∧ t' ≠ t := by
  refine ⟨hwf.remove t, fun t' => ?_⟩
  rw [hwf.mem_remove, hP]

/-! ### the loops of `addTable` / `removeTable` -/

/-- One iteration of `cache.addTable`: it either panics (nil dereference in `Matches`) or
    appends the updated entry. -/
theorem cacheAddTable_step (m : Mask) (T : Table) (e : CacheEntry) (acc : List CacheEntry) :
    (if !e.filter.matchesMask m then some (acc ++ [e])
      else if !T.hasRelations then some (acc ++ [{ e with tables := e.tables.append T.id }])
      else match T.matchesRels e.rels with
        | none => none
        | some true => some (acc ++ [{ e with tables := e.tables.append T.id }])
        | some false => some (acc ++ [e]))
    = if e.filter.matchesMask m = true ∧ T.hasRelations = true ∧ T.matchesRels e.rels = none
      then none else some (acc ++ [addTableEntry m T e]) := by
  unfold addTableEntry
  by_cases hm : e.filter.matchesMask m = true
  case neg => simp [hm]
  by_cases hr : T.hasRelations = true
  case neg =>
    have hr' : T.hasRelations = false := by simpa using hr
    simp [hm, hr', Table.matchesRels_noRel T hr']
  cases hmr : T.matchesRels e.rels with
  | none => simp [hm, hr]
  | some b => cases b <;> simp [hm, hr]

theorem cacheAddTable_eq {w w'' : World} {T : Table} (h : w.cacheAddTable T = some w'') :
    w'' = { w with cache := { w.cache with
      filters := w.cache.filters.map (addTableEntry (w.arch T.arch).mask T) } } := by
  unfold cacheAddTable at h
  simp only at h
  split at h
  · cases h
  · rename_i fs hfs
    injection h with h
    have := OptFold.foldl_partial _ (fun e => [addTableEntry (w.arch T.arch).mask T e])
      (fun _ => rfl) w.cache.filters ?_ [] fs hfs
    · rw [← h, this]
      simp [OptFold.flatMap_singleton]
    · intro e _ acc
      have hs := cacheAddTable_step (w.arch T.arch).mask T e acc
      by_cases hc : e.filter.matchesMask (w.arch T.arch).mask = true ∧ T.hasRelations = true ∧
          T.matchesRels e.rels = none
      · exact Or.inl (hs.trans (if_pos hc))
      · exact Or.inr (hs.trans (if_neg hc))

/-- `addTable` does not panic when `Matches` is defined for every entry whose filter matches
    (for relation tables). -/
theorem cacheAddTable_isSome (w : World) (T : Table)
    (hok : ∀ (e : CacheEntry), e ∈ w.cache.filters →
      e.filter.matchesMask (w.arch T.arch).mask = true → T.hasRelations = true →
      T.matchesRels e.rels ≠ none) :
    (w.cacheAddTable T).isSome = true := by
  unfold cacheAddTable
  simp only
  generalize hfold : List.foldl _ _ _ = r
  have h2 := hfold.symm.trans (OptFold.foldl_total _
    (fun e => [addTableEntry (w.arch T.arch).mask T e]) w.cache.filters ?_ [])
  · rw [h2]; rfl
  · intro e he acc
    have hs := cacheAddTable_step (w.arch T.arch).mask T e acc
    refine hs.trans (if_neg ?_)
    rintro ⟨h1, h2, h3⟩
    exact hok e he h1 h2 h3

/-! ### world-level form -/

/-- `w'` differs from `w` (as far as the cache can see) only in the active status of table `t`
    in archetype `a`: other archetypes are unchanged, archetype `a` keeps its mask and its other
    active tables, other tables are unchanged, and the cache is unchanged. -/
structure ActiveChange (w w' : World) (a t : Nat) : Prop where
  other : ∀ (a' : Nat), a' ≠ a → w'.archetypes[a']? = w.archetypes[a']?
  here : ∃ (A A' : Archetype), w.archetypes[a]? = some A ∧ w'.archetypes[a]? = some A' ∧
    A'.mask = A.mask ∧ ∀ (t' : Nat), t' ≠ t → (t' ∈ A'.tables.tables ↔ t' ∈ A.tables.tables)
  tbl : ∀ (t' : Nat), t' ≠ t → w'.tbl t' = w.tbl t'
  cache : w'.cache = w.cache

theorem ActiveChange.selected_ne {w w' : World} {a t : Nat} (h : ActiveChange w w' a t)
    (f : Filter) (rels : List RelID) {t' : Nat} (ht : t' ≠ t) :
    Selected w' f rels t' ↔ Selected w f rels t' := by
  obtain ⟨A, A', hA, hA', hmask, htabs⟩ := h.here
  unfold Selected
  rw [h.tbl t' ht]
  constructor
  · rintro ⟨a', B, hB, h1, h2, h3⟩
    by_cases ha : a' = a
    · subst ha
      rw [hA'] at hB; injection hB with hB; subst hB
      exact ⟨a', A, hA, (htabs t' ht).1 h1, hmask ▸ h2, h3⟩
    · exact ⟨a', B, (h.other a' ha) ▸ hB, h1, h2, h3⟩
  · rintro ⟨a', B, hB, h1, h2, h3⟩
    by_cases ha : a' = a
    · subst ha
      rw [hA] at hB; injection hB with hB; subst hB
      exact ⟨a', A', hA', (htabs t' ht).2 h1, hmask.symm ▸ h2, h3⟩
    · exact ⟨a', B, (h.other a' ha).symm ▸ hB, h1, h2, h3⟩

/-- Table `t` becomes active in archetype `a`: it was active nowhere in `w`, it is active in
    `a` in `w'`, and it points back to `a`. -/
structure TableAdded (w w' : World) (a t : Nat) : Prop extends ActiveChange w w' a t where
  inactive : ∀ (a' : Nat) (B : Archetype), w.archetypes[a']? = some B → t ∉ B.tables.tables
  active : ∀ (A' : Archetype), w'.archetypes[a]? = some A' → t ∈ A'.tables.tables
  back : (w'.tbl t).arch = a

/-- Table `t` stops being active: it is active nowhere in `w'`. -/
structure TableRemoved (w w' : World) (a t : Nat) : Prop extends ActiveChange w w' a t where
  inactive : ∀ (a' : Nat) (B : Archetype), w'.archetypes[a']? = some B → t ∉ B.tables.tables

theorem TableAdded.not_selected {w w' : World} {a t : Nat} (h : TableAdded w w' a t)
    (f : Filter) (rels : List RelID) : ¬ Selected w f rels t := by
  rintro ⟨a', B, hB, h1, _⟩
  exact h.inactive a' B hB h1

theorem TableAdded.selected_new {w w' : World} {a t : Nat} (h : TableAdded w w' a t)
    (f : Filter) (rels : List RelID) :
    Selected w' f rels t ↔
      f.matchesMask (w'.arch (w'.tbl t).arch).mask = true ∧
        (w'.tbl t).matchesRels rels = some true := by
  obtain ⟨A, A', hA, hA', hmask, htabs⟩ := h.here
  have harch : w'.arch (w'.tbl t).arch = A' := by
    rw [h.back]; unfold arch
    rw [List.getD_eq_getElem?_getD, hA']; rfl
  rw [harch]
  constructor
  · rintro ⟨a', B, hB, h1, h2, h3⟩
    by_cases ha : a' = a
    · subst ha
      rw [hA'] at hB; injection hB with hB; subst hB
      exact ⟨h2, h3⟩
    · rw [h.other a' ha] at hB
      exact absurd h1 (h.inactive a' B hB)
  · rintro ⟨h2, h3⟩
    exact ⟨a, A', hA', h.active A' hA', h2, h3⟩

theorem TableRemoved.not_selected {w w' : World} {a t : Nat} (h : TableRemoved w w' a t)
    (f : Filter) (rels : List RelID) : ¬ Selected w' f rels t := by
  rintro ⟨a', B, hB, h1, _⟩
  exact h.inactive a' B hB h1

/-- **(d)** When table `t` becomes active (worlds `w`, `w'` as in `TableAdded`), and
    `cache.addTable` for it does not panic, the result satisfies the invariant again. -/
theorem cacheAddTable_inv {w w' w'' : World} {a t : Nat} (h : CacheInv w)
    (hd : TableAdded w w' a t) (hid : (w'.tbl t).id = t)
    (hadd : w'.cacheAddTable (w'.tbl t) = some w'') :
    CacheInv w'' ∧ w''.archetypes = w'.archetypes ∧ w''.tables = w'.tables ∧
      w''.cache.indices = w'.cache.indices := by
  have heq := cacheAddTable_eq hadd
  have hA : w''.archetypes = w'.archetypes := by rw [heq]
  have hT : w''.tables = w'.tables := by rw [heq]
  have hI : w''.cache.indices = w.cache.indices := by rw [heq, ← hd.cache]
  have hF : w''.cache.filters =
      w.cache.filters.map (addTableEntry (w'.arch (w'.tbl t).arch).mask (w'.tbl t)) := by
    rw [heq, ← hd.cache]
  refine ⟨⟨?_, ?_, ?_⟩, hA, hT, by rw [hI, hd.cache]⟩
  · rw [hI]; exact h.uniq
  · rw [hI, hF]
    exact CacheIdx.IsIndex.map (key := CacheEntry.id) h.index _ (addTableEntry_id _ _)
  · intro e' he'
    rw [hF] at he'
    obtain ⟨e, he, rfl⟩ := List.mem_map.1 he'
    obtain ⟨hwf, hsel⟩ := h.entries e he
    have hnew : (w'.tbl t).id ∉ e.tables.tables := by
      rw [hid, hsel]; exact hd.not_selected _ _
    obtain ⟨hwf', hmem'⟩ := addTableEntry_spec (w'.arch (w'.tbl t).arch).mask (w'.tbl t) e _
      hwf hsel hnew
    refine ⟨hwf', fun t' => ?_⟩
    rw [hmem', addTableEntry_filter, addTableEntry_rels, Selected_congr hA hT, hid]
    by_cases ht : t' = t
    · subst ht
      simp only [hd.selected_new, hd.not_selected, false_or, true_and]
    · simp only [hd.selected_ne _ _ ht, ht, false_and, or_false]

/-- **(e)** When table `t` stops being active (worlds `w`, `w'` as in `TableRemoved`),
    `cache.removeTable` re-establishes the invariant. -/
theorem cacheRemoveTable_inv {w w' : World} {a t : Nat} (h : CacheInv w)
    (hd : TableRemoved w w' a t) :
    CacheInv (w'.cacheRemoveTable t) ∧ (w'.cacheRemoveTable t).archetypes = w'.archetypes ∧
      (w'.cacheRemoveTable t).tables = w'.tables ∧
      (w'.cacheRemoveTable t).cache.indices = w'.cache.indices := by
  refine ⟨⟨?_, ?_, ?_⟩, rfl, rfl, rfl⟩
  · show AL.Uniq w'.cache.indices
    rw [hd.cache]; exact h.uniq
  · show CacheIdx.IsIndex CacheEntry.id (w'.cache.filters.map _) w'.cache.indices
    rw [hd.cache]
    exact CacheIdx.IsIndex.map h.index _ (fun _ => rfl)
  · intro e' he'
    replace he' : e' ∈ w'.cache.filters.map
      (fun e => { e with tables := (e.tables.remove t).1 }) := he'
    rw [hd.cache] at he'
    obtain ⟨e, he, rfl⟩ := List.mem_map.1 he'
    obtain ⟨hwf, hsel⟩ := h.entries e he
    obtain ⟨hwf', hmem'⟩ := removeTableEntry_spec t e _ hwf hsel
    refine ⟨hwf', fun t' => ?_⟩
    show t' ∈ (e.tables.remove t).1.tables ↔ Selected (w'.cacheRemoveTable t) e.filter e.rels t'
    rw [hmem', Selected_congr (w := w') (w' := w'.cacheRemoveTable t) rfl rfl]
    by_cases ht : t' = t
    · subst ht
      simp only [hd.not_selected, ne_eq, not_true_eq_false, and_false]
    · simp only [hd.selected_ne _ _ ht, ne_eq, ht, not_false_eq_true, and_true]

end World
end Ark

/-! ## Cached = uncached, and how the API establishes `RelsOK` -/

namespace Ark
namespace World

/-- **Cached filters are indistinguishable from uncached ones.**  For a registered entry (found
    through the ID map), the cached table list and the uncached walk are both duplicate-free and
    have the same members. -/
theorem CacheInv.cached_eq_uncached {w : World} (h : CacheInv w) (H : TablesInv w) {id : Nat}
    {e : CacheEntry} (he : w.cacheEntry? id = some e) (hok : RelsOK w e.filter e.rels) :
    e.id = id ∧ e.tables.tables.Nodup ∧
    ∃ (ts : List Nat), w.getCacheTables e.filter e.rels = some ts ∧ ts.Nodup ∧
      ∀ (t : Nat), t ∈ e.tables.tables ↔ t ∈ ts := by
  obtain ⟨hmem, hid⟩ := h.entry_of_lookup he
  obtain ⟨hwf, hsel⟩ := h.entries e hmem
  obtain ⟨ts, hts, hnd, hts'⟩ := getCacheTables_spec H hok
  exact ⟨hid, hwf.nodup, ts, hts, hnd, fun t => by rw [hsel, hts']⟩

/-- `RelsOK` is what the typed filter API guarantees (`ToRelations` checks that every relation
    component is a relation type and is in the filter's mask), provided archetypes have a column
    for each component of their mask, flagged as relation column according to the registry. -/
theorem relsOK_of_mask {w : World} {f : Filter} {rels : List RelID}
    (hcols : ∀ (a : Nat) (A : Archetype), w.archetypes[a]? = some A →
      ∀ (c : Comp), A.mask.get c = true →
        ∃ (i : Nat), A.colIdx c = some i ∧ A.isRel.getD i false = w.isRelComp c)
    (hr : ∀ (r : RelID), r ∈ rels → f.mask.get r.comp = true ∧ w.isRelComp r.comp = true) :
    RelsOK w f rels := by
  intro a A hA hm _
  have hsub := ((Filter.matchesMask_iff f A.mask).1 hm).1
  have key : ∀ (r : RelID), r ∈ rels →
      ∃ (i : Nat), A.colIdx r.comp = some i ∧ A.isRel.getD i false = true := by
    intro r hr'
    obtain ⟨h1, h2⟩ := hr r hr'
    obtain ⟨i, hi, hi2⟩ := hcols a A hA r.comp (hsub _ h1)
    exact ⟨i, hi, hi2.trans h2⟩
  refine ⟨fun r hr' => ?_, fun r hr' => key r (List.mem_of_mem_head? hr')⟩
  obtain ⟨i, hi, _⟩ := key r hr'
  rw [hi]; rfl

end World
end Ark

/-! ## A small concrete world (used by the non-vacuity examples of `Ark.Props.C05Cache`) -/

namespace Ark
namespace World
namespace CacheDemo

/-- no observers are registered in the demo: callbacks do nothing -/
def noRun : ProbeRunner := fun _ _ _ => pure ()

/-- set equality of two ID lists -/
def setEq (a b : List Nat) : Bool := a.all (b.contains ·) && b.all (a.contains ·)

/-- the cached table list of entry `id` and the uncached walk select the same set -/
def agree (w : World) (id : Nat) : Bool :=
  match w.cacheEntry? id with
  | none => false
  | some e =>
    match w.getCacheTables e.filter e.rels with
    | none => false
    | some ts => setEq e.tables.tables ts

def cachedTables (w : World) (id : Nat) : List Nat :=
  ((w.cacheEntry? id).map (·.tables.tables)).getD []

/-- filter "has components 0 and 1" (0 = plain component, 1 = relation component) -/
def fAR : Filter := { mask := Mask.ofList [0, 1] }

/-- Step 1: two components, two target entities `p1`, `p2`, one child of `p1`; two registered
    filters: `fAR` without relations, and `fAR` with the relation `(1, p2)`. -/
def setup : W (Ent × Ent × Nat × Nat) := do
  let _ ← registerComponent {}
  let _ ← registerComponent { isRel := true }
  let p1 ← opNewEntity0 noRun
  let p2 ← opNewEntity0 noRun
  let _ ← opNewEntity noRun .unsafe_ [0, 1] [] [⟨1, p1⟩]
  let id0 ← cacheRegister fAR []
  let id1 ← cacheRegister fAR [⟨1, p2⟩]
  pure (p1, p2, id0, id1)

/-- Step 2: a child of `p2` — creates another matching table. -/
def addChild (p2 : Ent) : W Unit := do
  let _ ← opNewEntity noRun .unsafe_ [0, 1] [] [⟨1, p2⟩]

/-- Step 3: remove a target entity — `cleanupArchetypes` frees its table and moves the child
    to a (new) table with the zero target. -/
def removeTarget (p : Ent) : W Unit := opRemoveEntity noRun p

/-- the three steps; after each: the cached lists of both filters and whether they agree with
    the uncached walk -/
def script : W (List (List (List Nat)) × List Bool) := do
  let (p1, p2, id0, id1) ← setup
  let w ← M.get
  let t0 := [cachedTables w id0, cachedTables w id1]
  let r0 := [agree w id0, agree w id1]
  addChild p2
  let w ← M.get
  let t1 := [cachedTables w id0, cachedTables w id1]
  let r1 := [agree w id0, agree w id1]
  removeTarget p1
  let w ← M.get
  let t2 := [cachedTables w id0, cachedTables w id1]
  let r2 := [agree w id0, agree w id1]
  removeTarget p2
  let w ← M.get
  let t3 := [cachedTables w id0, cachedTables w id1]
  let r3 := [agree w id0, agree w id1]
  pure ([t0, t1, t2, t3], r0 ++ r1 ++ r2 ++ r3)

def result {α : Type} (m : W α) (w : World) : Option α :=
  match m w with
  | .ok a _ => some a
  | .panic _ _ => none


/-! Worlds around one `cache.addTable` / `cache.removeTable` call, to instantiate `TableAdded` /
    `TableRemoved` with the model's own steps. -/

/-- after `setup` -/
def wA : World := (setup (World.init 2 2)).state
def p2 : Ent := ((result setup (World.init 2 2)).map (·.2.1)).getD Ent.zero
/-- after `addChild p2`: table 2 was created in archetype 1 and announced to the cache -/
def wB : World := (addChild p2 wA).state
/-- `wB` with the cache rolled back: the state in which `createTable` calls `cache.addTable` -/
def wB0 : World := { wB with cache := wA.cache }
/-- `wB` after the storage part of freeing table 1 (`archetype.FreeTable` + `isFree`), the state
    in which `cleanupArchetypes` calls `cache.removeTable` -/
def wR : World := (wB.modArch 1 fun A => A.freeTable 1).modTbl 1 fun T => { T with isFree := true }

/-- Two archetypes with the given active tables, three or fewer tables: the shape of all demo
    worlds. -/
structure Shape (w : World) (t0 t1 : List Nat) (nt : Nat) : Prop where
  lenA : w.archetypes.length = 2
  lenT : w.tables.length = nt
  a0 : w.archetypes[0]? = some (w.arch 0)
  a1 : w.archetypes[1]? = some (w.arch 1)
  t0 : (w.arch 0).tables.tables = t0
  t1 : (w.arch 1).tables.tables = t1

/-- The shape is read off by one evaluation of the world. -/
theorem Shape.of_eval {w : World} {t0 t1 : List Nat} {nt : Nat}
    (h : w.archetypes.length = 2 ∧ w.tables.length = nt ∧
      (w.arch 0).tables.tables = t0 ∧ (w.arch 1).tables.tables = t1) :
    Shape w t0 t1 nt := by
  obtain ⟨hl, hT, h0, h1⟩ := h
  have ha : ∀ a, a < 2 → w.archetypes[a]? = some (w.arch a) := fun a ha => by
    unfold arch; rw [List.getD_eq_getElem?_getD, List.getElem?_eq_getElem (hl ▸ ha)]; rfl
  exact ⟨hl, hT, ha 0 (by decide), ha 1 (by decide), h0, h1⟩

theorem shape_wA : Shape wA [0] [1] 2 := .of_eval (by decide +kernel)
theorem shape_wB0 : Shape wB0 [0] [1, 2] 3 := .of_eval (by decide +kernel)
theorem shape_wB : Shape wB [0] [1, 2] 3 := .of_eval (by decide +kernel)
theorem shape_wR : Shape wR [0] [2] 3 := .of_eval (by decide +kernel)

theorem Shape.none_ge {w : World} {t0 t1 : List Nat} {nt : Nat} (h : Shape w t0 t1 nt)
    {a : Nat} (ha : 2 ≤ a) : w.archetypes[a]? = none :=
  List.getElem?_eq_none (by rw [h.lenA]; exact ha)

theorem Shape.tbl_ge {w : World} {t0 t1 : List Nat} {nt : Nat} (h : Shape w t0 t1 nt)
    {t : Nat} (ht : nt ≤ t) : w.tbl t = default := by
  unfold tbl
  rw [List.getD_eq_getElem?_getD, List.getElem?_eq_none (by rw [h.lenT]; exact ht)]; rfl

theorem Shape.active {w : World} {t0 t1 : List Nat} {nt : Nat} (h : Shape w t0 t1 nt)
    {a : Nat} {B : Archetype} (hB : w.archetypes[a]? = some B) :
    (a = 0 ∧ B = w.arch 0 ∧ B.tables.tables = t0) ∨ (a = 1 ∧ B = w.arch 1 ∧ B.tables.tables = t1) := by
  by_cases h0 : a = 0
  · subst h0; rw [h.a0] at hB; injection hB with hB; subst hB; exact Or.inl ⟨rfl, rfl, h.t0⟩
  by_cases h1 : a = 1
  · subst h1; rw [h.a1] at hB; injection hB with hB; subst hB; exact Or.inr ⟨rfl, rfl, h.t1⟩
  have h2 : 2 ≤ a := by omega
  rw [h.none_ge h2] at hB; cases hB

theorem demo_tableAdded : TableAdded wA wB0 1 2 := by
  -- the concrete facts, by one evaluation of the two worlds
  have ⟨hc, ha0, hm, ht0, ht1, hb⟩ : wB0.cache = wA.cache ∧
      wB0.archetypes[0]? = wA.archetypes[0]? ∧ (wB0.arch 1).mask = (wA.arch 1).mask ∧
      wB0.tbl 0 = wA.tbl 0 ∧ wB0.tbl 1 = wA.tbl 1 ∧ (wB0.tbl 2).arch = 1 := by decide +kernel
  refine { other := ?_, here := ?_, tbl := ?_, cache := hc, inactive := ?_, active := ?_,
           back := hb }
  · intro a' h
    by_cases h0 : a' = 0
    · subst h0; exact ha0
    have h2 : 2 ≤ a' := by omega
    rw [shape_wB0.none_ge h2, shape_wA.none_ge h2]
  · refine ⟨wA.arch 1, wB0.arch 1, shape_wA.a1, shape_wB0.a1, hm, ?_⟩
    intro t' ht
    rw [shape_wA.t1, shape_wB0.t1]
    simp only [List.mem_cons, List.not_mem_nil, or_false]
    exact ⟨fun h => h.resolve_right ht, Or.inl⟩
  · intro t' ht
    by_cases h0 : t' = 0
    · subst h0; exact ht0
    by_cases h1 : t' = 1
    · subst h1; exact ht1
    have h3 : 3 ≤ t' := by omega
    rw [shape_wB0.tbl_ge h3, shape_wA.tbl_ge (Nat.le_of_succ_le h3)]
  · intro a' B hB
    rcases shape_wA.active hB with ⟨_, _, ht⟩ | ⟨_, _, ht⟩ <;> rw [ht] <;> simp
  · intro A' hA'
    rw [shape_wB0.a1] at hA'; injection hA' with hA'; subst hA'; rw [shape_wB0.t1]; simp

theorem demo_tableRemoved : TableRemoved wB wR 1 1 := by
  have ⟨hc, ha0, hm, ht0, ht2⟩ : wR.cache = wB.cache ∧
      wR.archetypes[0]? = wB.archetypes[0]? ∧ (wR.arch 1).mask = (wB.arch 1).mask ∧
      wR.tbl 0 = wB.tbl 0 ∧ wR.tbl 2 = wB.tbl 2 := by decide +kernel
  refine { other := ?_, here := ?_, tbl := ?_, cache := hc, inactive := ?_ }
  · intro a' h
    by_cases h0 : a' = 0
    · subst h0; exact ha0
    have h2 : 2 ≤ a' := by omega
    rw [shape_wR.none_ge h2, shape_wB.none_ge h2]
  · refine ⟨wB.arch 1, wR.arch 1, shape_wB.a1, shape_wR.a1, hm, ?_⟩
    intro t' ht
    rw [shape_wB.t1, shape_wR.t1]
    simp only [List.mem_cons, List.not_mem_nil, or_false]
    exact ⟨Or.inr, fun h => h.resolve_left ht⟩
  · intro t' ht
    by_cases h0 : t' = 0
    · subst h0; exact ht0
    by_cases h2 : t' = 2
    · subst h2; exact ht2
    have h3 : 3 ≤ t' := by omega
    rw [shape_wR.tbl_ge h3, shape_wB.tbl_ge h3]
  · intro a' B hB
    rcases shape_wR.active hB with ⟨_, _, ht⟩ | ⟨_, _, ht⟩ <;> rw [ht] <;> simp

end CacheDemo
end World
end Ark
