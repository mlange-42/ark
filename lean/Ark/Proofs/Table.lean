/-
  The table shape invariant (column lengths, zero tail, zero-size columns) and the value-level
  facts about the operations of `table.go` / `column.go` that C11 ("component memory is clean")
  and C01 build on; the metadata relation `SameMeta` (what the structural invariants read of a
  table) with a `_sameMeta` lemma for each row operation the structural proofs meet (`extend`,
  `alloc`, `add`, `addAll`, `addAllEntities`, `remove`, `reset`, `setCell`, `setComp`, `shrink`;
  none is stated for `adjustCapacity` and `copyToEnd`; `recycle` is the one function that changes
  these fields); `matchesRels` does not hit its nil case when every relation names a column.

  Recorded hypothesis: wherever a table grows (`extend`, `alloc`, `add`, `addAll`) or shrinks
  (`shrink`) the row count involved is `< 2^32` (Go's `uint32` row indices); the model's
  `capPow2` doubles at most 33 times, so `capPow2 n ≥ n` holds exactly for `n ≤ 2^33`.
-/
import Ark.Model.Table

set_option autoImplicit false

namespace Ark

theorem capPow2_go_ge (req : Nat) : ∀ (fuel p : Nat), req ≤ p * 2 ^ fuel →
    req ≤ capPow2.go req p fuel
  | 0, p, h => by simpa [capPow2.go] using h
  | fuel + 1, p, h => by
    simp only [capPow2.go]
    split
    · assumption
    · apply capPow2_go_ge req fuel (2 * p)
      rw [Nat.pow_succ] at h
      calc req ≤ p * (2 ^ fuel * 2) := h
        _ = 2 * p * 2 ^ fuel := by
          rw [Nat.mul_comm (2 ^ fuel) 2, ← Nat.mul_assoc, Nat.mul_comm p 2]

theorem capPow2_go_lt (req : Nat) : ∀ (fuel p : Nat), p < 2 * req →
    capPow2.go req p fuel < 2 * req
  | 0, p, h => by simpa [capPow2.go] using h
  | fuel + 1, p, h => by
    simp only [capPow2.go]
    split
    · assumption
    · apply capPow2_go_lt req fuel (2 * p); omega

theorem capPow2_go_pos (req : Nat) : ∀ (fuel p : Nat), 0 < p → 0 < capPow2.go req p fuel
  | 0, p, h => by simpa [capPow2.go] using h
  | fuel + 1, p, h => by
    simp only [capPow2.go]
    split
    · assumption
    · apply capPow2_go_pos req fuel (2 * p); omega

theorem capPow2_zero : capPow2 0 = 1 := by simp [capPow2]

theorem capPow2_ge (n : Nat) (h : n ≤ 2 ^ 33) : n ≤ capPow2 n := by
  unfold capPow2
  split
  · omega
  · exact capPow2_go_ge n 33 1 (by omega)

/-- the bound is sharp: one past `2^33` the doubling loop runs out of fuel -/
theorem capPow2_bound_sharp : capPow2 (2 ^ 33 + 1) = 2 ^ 33 := by decide

theorem capPow2_ge' (n : Nat) (h : n < 2 ^ 32) : n ≤ capPow2 n :=
  capPow2_ge n (by omega)

theorem capPow2_pos (n : Nat) : 0 < capPow2 n := by
  unfold capPow2
  split
  · omega
  · exact capPow2_go_pos n 33 1 (by omega)

theorem capPow2_lt_two_mul (n : Nat) (h : 1 ≤ n) : capPow2 n < 2 * n := by
  unfold capPow2
  split
  · omega
  · exact capPow2_go_lt n 33 1 (by omega)

theorem getD_append {α : Type} (a b : List α) (r : Nat) (d : α) :
    (a ++ b).getD r d = if r < a.length then a.getD r d else b.getD (r - a.length) d := by
  simp only [List.getD_eq_getElem?_getD, List.getElem?_append]; split <;> rfl

theorem getD_take {α : Type} (l : List α) (n r : Nat) (d : α) :
    (l.take n).getD r d = if r < n then l.getD r d else d := by
  simp only [List.getD_eq_getElem?_getD, List.getElem?_take]; split <;> rfl

theorem getD_drop {α : Type} (l : List α) (n r : Nat) (d : α) :
    (l.drop n).getD r d = l.getD (n + r) d := by
  simp only [List.getD_eq_getElem?_getD, List.getElem?_drop]

theorem getD_replicate {α : Type} (n r : Nat) (d : α) : (List.replicate n d).getD r d = d := by
  simp only [List.getD_eq_getElem?_getD, List.getElem?_replicate]; split <;> rfl

theorem getD_of_length_le {α : Type} (l : List α) (r : Nat) (d : α) (h : l.length ≤ r) :
    l.getD r d = d := by
  rw [List.getD_eq_getElem?_getD, List.getElem?_eq_none h]; rfl

theorem getD_take_append_replicate {α : Type} (l : List α) (n k r : Nat) (d : α) :
    (l.take n ++ List.replicate k d).getD r d = if r < n then l.getD r d else d := by
  rw [getD_append, getD_take, getD_replicate, List.length_take]
  by_cases h : r < n
  · rw [if_pos h]; split
    · rfl
    · exact (getD_of_length_le l r d (by omega)).symm
  · rw [if_neg h]; split <;> rfl

theorem length_take_append_replicate {α : Type} (l : List α) {n c : Nat} (d : α)
    (hn : n ≤ l.length) (hc : n ≤ c) : (l.take n ++ List.replicate (c - n) d).length = c := by
  rw [List.length_append, List.length_take_of_le hn, List.length_replicate,
    Nat.add_sub_cancel' hc]

theorem getD_replicate_append_drop {α : Type} (l : List α) (n r : Nat) (d : α) :
    (List.replicate n d ++ l.drop n).getD r d = if r < n then d else l.getD r d := by
  rw [getD_append, getD_replicate, getD_drop, List.length_replicate]
  split
  · rfl
  · rw [Nat.add_sub_cancel' (by omega)]

theorem getD_splice {α : Type} (a b : List α) (s k r : Nat) (d : α)
    (ha : s + k ≤ a.length) (hb : k ≤ b.length) :
    (a.take s ++ b.take k ++ a.drop (s + k)).getD r d =
      if r < s then a.getD r d else if r < s + k then b.getD (r - s) d else a.getD r d := by
  rw [List.append_assoc, getD_append, getD_append, getD_take, getD_take, getD_drop,
    List.length_take_of_le (Nat.le_trans (Nat.le_add_right s k) ha), List.length_take_of_le hb]
  split
  · rfl
  · rename_i h1
    have hs := Nat.le_of_not_lt h1
    by_cases h2 : r < s + k
    · have h3 := (Nat.sub_lt_iff_lt_add' hs).2 h2
      rw [if_pos h2, if_pos h3, if_pos h3]
    · rw [if_neg h2, if_neg (fun h3 => h2 ((Nat.sub_lt_iff_lt_add' hs).1 h3)), Nat.sub_sub,
        Nat.add_sub_cancel' (Nat.le_of_not_lt h2)]

theorem length_splice {α : Type} (a b : List α) (s k : Nat)
    (ha : s + k ≤ a.length) (hb : k ≤ b.length) :
    (a.take s ++ b.take k ++ a.drop (s + k)).length = a.length := by
  rw [List.length_append, List.length_append, List.length_drop,
    List.length_take_of_le (Nat.le_trans (Nat.le_add_right s k) ha), List.length_take_of_le hb,
    Nat.add_sub_cancel' ha]

/-- swap-remove on one column: copy `last` over `idx` (unless equal), then zero `last`. -/
theorem getD_swapRemove (c : List Val) (idx last r : Nat) (hi : idx ≤ last)
    (hl : last < c.length) :
    ((if (idx != last) = true then c.set idx (c.getD last 0) else c).set last 0).getD r 0 =
      if r = last then 0 else if r = idx then c.getD last 0 else c.getD r 0 := by
  have hset : ∀ (l : List Val) (i : Nat) (v : Val), r ≠ i → (l.set i v).getD r 0 = l.getD r 0 := by
    intro l i v hne
    rw [List.getD_eq_getElem?_getD, List.getElem?_set_ne (Ne.symm hne), List.getD_eq_getElem?_getD]
  by_cases h1 : r = last
  · rw [if_pos h1, h1, List.getD_eq_getElem?_getD, List.getElem?_set, if_pos rfl]
    generalize (if (idx != last) = true then c.set idx (c.getD last 0) else c) = l
    split <;> rfl
  · rw [if_neg h1, hset _ _ _ h1]
    by_cases h2 : idx = last
    · rw [if_neg (by rw [h2, bne_self_eq_false]; exact Bool.false_ne_true), if_neg (h2 ▸ h1)]
    · rw [if_pos (bne_iff_ne.2 h2)]
      by_cases h3 : r = idx
      · rw [if_pos h3, h3, List.getD_eq_getElem?_getD,
          List.getElem?_set_self (Nat.lt_of_le_of_lt hi hl)]
        rfl
      · rw [if_neg h3, hset _ _ _ h3]

namespace Table

/-- `T'` has the same layout / bookkeeping fields as `T`: everything but the row storage `len`,
    `cap`, `ents`, `cols`.  Every row operation of table.go leaves them alone. -/
structure SameMeta (T T' : Table) : Prop where
  id : T'.id = T.id
  arch : T'.arch = T.arch
  ids : T'.ids = T.ids
  isRel : T'.isRel = T.isRel
  zst : T'.zst = T.zst
  relIDs : T'.relIDs = T.relIDs
  isFree : T'.isFree = T.isFree
  targets : T'.targets = T.targets

theorem SameMeta.refl (T : Table) : SameMeta T T := ⟨rfl, rfl, rfl, rfl, rfl, rfl, rfl, rfl⟩

theorem SameMeta.trans {A B C : Table} (h1 : SameMeta A B) (h2 : SameMeta B C) : SameMeta A C :=
  ⟨h2.id.trans h1.id, h2.arch.trans h1.arch, h2.ids.trans h1.ids, h2.isRel.trans h1.isRel,
    h2.zst.trans h1.zst, h2.relIDs.trans h1.relIDs, h2.isFree.trans h1.isFree,
    h2.targets.trans h1.targets⟩

theorem SameMeta.hasRelations {T T' : Table} (h : SameMeta T T') :
    T'.hasRelations = T.hasRelations := by
  simp only [Table.hasRelations, h.relIDs]

theorem SameMeta.with_rows {T T' : Table} (h : SameMeta T T') (ents : List Ent)
    (cols : List (List Val)) (len cap : Nat) : SameMeta T { T' with ents, cols, len, cap } :=
  ⟨h.id, h.arch, h.ids, h.isRel, h.zst, h.relIDs, h.isFree, h.targets⟩

theorem extend_sameMeta (T : Table) (n : Nat) : SameMeta T (T.extend n) := by
  simp only [extend]
  split
  · exact SameMeta.refl T
  · exact (SameMeta.refl T).with_rows ..

theorem alloc_sameMeta (T : Table) (n : Nat) : SameMeta T (T.alloc n) :=
  (extend_sameMeta T n).with_rows ..

theorem add_sameMeta (T : Table) (e : Ent) : SameMeta T (T.add e).1 :=
  (alloc_sameMeta T 1).with_rows ..

theorem remove_sameMeta (T : Table) (i : Nat) : SameMeta T (T.remove i).1 :=
  (SameMeta.refl T).with_rows ..

theorem SameMeta.of_reset (T : Table) : SameMeta T T.reset := (SameMeta.refl T).with_rows ..

theorem addAll_sameMeta (T src : Table) (n : Nat) : SameMeta T (T.addAll src n) :=
  (alloc_sameMeta T n).with_rows ..

theorem addAllEntities_sameMeta (T src : Table) (n : Nat) : SameMeta T (T.addAllEntities src n) :=
  (alloc_sameMeta T n).with_rows ..

theorem setCell_sameMeta (T : Table) (col row : Nat) (v : Val) : SameMeta T (T.setCell col row v) := by
  simp only [setCell]
  split
  · exact SameMeta.refl T
  · exact (SameMeta.refl T).with_rows ..

theorem setComp_sameMeta (T : Table) (c : Comp) (row : Nat) (v : Val) :
    SameMeta T (T.setComp c row v) := by
  simp only [setComp]
  split
  · exact setCell_sameMeta T _ row v
  · exact SameMeta.refl T

theorem foldl_sameMeta {α : Type} (f : Table → α → Table)
    (hf : ∀ (T : Table) (x : α), SameMeta T (f T x)) :
    ∀ (l : List α) (T : Table), SameMeta T (l.foldl f T)
  | [], T => SameMeta.refl T
  | x :: l, T => (hf T x).trans (foldl_sameMeta f hf l (f T x))

theorem shrink_sameMeta (T : Table) (m : Nat) : SameMeta T (T.shrink m).1 := by
  simp only [shrink]
  split
  · exact SameMeta.refl T
  · exact (SameMeta.refl T).with_rows ..

/-- Shape invariant of a table: the columns are `cap` long, rows `≥ len` of every component
    column hold the zero value ("zero tail"), zero-size columns hold nothing but zeros. -/
structure Shape (t : Table) : Prop where
  len_le : t.len ≤ t.cap
  ents_len : t.ents.length = t.cap
  cols_len : t.cols.length = t.ids.length
  zst_len : t.zst.length = t.ids.length
  col_len : ∀ col ∈ t.cols, col.length = t.cap
  zero_tail : ∀ col ∈ t.cols, ∀ r : Nat, t.len ≤ r → col.getD r 0 = 0
  zst_zero : ∀ i : Nat, t.zst.getD i false = true → ∀ r : Nat, t.cell i r = 0

theorem cell_some {t : Table} {i : Nat} {c : List Val} (h : t.cols[i]? = some c) (r : Nat) :
    t.cell i r = c.getD r 0 := by
  simp [cell, List.getD_eq_getElem?_getD, h]

theorem cell_none {t : Table} {i : Nat} (h : t.cols[i]? = none) (r : Nat) :
    t.cell i r = 0 := by
  simp [cell, List.getD_eq_getElem?_getD, h]

theorem cell_map_some {t t' : Table} {f : List Val → List Val} (hc : t'.cols = t.cols.map f)
    {i : Nat} {c : List Val} (h : t.cols[i]? = some c) (r : Nat) :
    t'.cell i r = (f c).getD r 0 := by
  apply cell_some; rw [hc, List.getElem?_map, h]; rfl

theorem cell_map_none {t t' : Table} {f : List Val → List Val} (hc : t'.cols = t.cols.map f)
    {i : Nat} (h : t.cols[i]? = none) (r : Nat) :
    t'.cell i r = 0 := by
  apply cell_none; rw [hc, List.getElem?_map, h]; rfl

theorem Shape.cell_tail {t : Table} (h : t.Shape) (i r : Nat) (hr : t.len ≤ r) :
    t.cell i r = 0 := by
  cases hc : t.cols[i]? with
  | none => exact cell_none hc r
  | some c => rw [cell_some hc]; exact h.zero_tail c (List.mem_of_getElem? hc) r hr

theorem Shape.col_lt {t : Table} (h : t.Shape) {i : Nat} (hi : i < t.ids.length) :
    ∃ c, t.cols[i]? = some c ∧ c ∈ t.cols ∧ c.length = t.cap := by
  have : i < t.cols.length := by rw [h.cols_len]; exact hi
  exact ⟨t.cols[i], List.getElem?_eq_getElem this, List.getElem_mem this,
    h.col_len _ (List.getElem_mem this)⟩

/-- The invariant reads `cap`, `cols`, `zst`, the lengths of `ents` and `ids`, and `len`: it
    survives any change of the other fields, and any growth of `len` within `cap`. -/
theorem Shape.mono {t t' : Table} (h : t.Shape) (hcap : t'.cap = t.cap)
    (hents : t'.ents.length = t.ents.length) (hcols : t'.cols = t.cols) (hids : t'.ids = t.ids)
    (hzst : t'.zst = t.zst) (hlen : t.len ≤ t'.len) (hle : t'.len ≤ t'.cap) : t'.Shape where
  len_le := hle
  ents_len := by rw [hents, hcap]; exact h.ents_len
  cols_len := by rw [hcols, hids]; exact h.cols_len
  zst_len := by rw [hzst, hids]; exact h.zst_len
  col_len := by rw [hcols, hcap]; exact h.col_len
  zero_tail := by
    rw [hcols]; exact fun col hc r hr => h.zero_tail col hc r (Nat.le_trans hlen hr)
  zst_zero := by unfold cell; rw [hzst, hcols]; exact h.zst_zero

theorem Shape.with_ents {t : Table} (h : t.Shape) {l : List Ent} (hl : l.length = t.ents.length) :
    ({ t with ents := l } : Table).Shape :=
  h.mono rfl hl rfl rfl rfl (Nat.le_refl _) h.len_le

theorem cell_of_cols_eq {t t' : Table} (h : t'.cols = t.cols) (i r : Nat) :
    t'.cell i r = t.cell i r := by
  unfold cell; rw [h]

theorem getEntity_of_ents_eq {t t' : Table} (h : t'.ents = t.ents) (r : Nat) :
    t'.getEntity r = t.getEntity r := by
  unfold getEntity; rw [h]

theorem new_cell (id arch : Nat) (ids : List Comp) (isRel zst : List Bool) (cap : Nat)
    (targets : List Ent) (relIDs : List RelID) (i r : Nat) :
    (Table.new id arch ids isRel zst cap targets relIDs).cell i r = 0 := by
  simp only [cell, Table.new, List.getD_eq_getElem?_getD, List.getElem?_map]
  cases ids[i]? with
  | none => rfl
  | some _ =>
    simp only [Option.map_some, Option.getD_some, List.getElem?_replicate]
    split <;> rfl

theorem new_shape (id arch : Nat) (ids : List Comp) (isRel zst : List Bool) (cap : Nat)
    (targets : List Ent) (relIDs : List RelID) (hz : zst.length = ids.length) :
    (Table.new id arch ids isRel zst cap targets relIDs).Shape where
  len_le := Nat.zero_le _
  ents_len := by simp [Table.new]
  cols_len := by simp [Table.new]
  zst_len := hz
  col_len := by
    intro col hcol
    simp only [Table.new, List.mem_map] at hcol
    obtain ⟨_, _, rfl⟩ := hcol
    simp [Table.new]
  zero_tail := by
    intro col hcol r _
    simp only [Table.new, List.mem_map] at hcol
    obtain ⟨_, _, rfl⟩ := hcol
    simp only [List.getD_eq_getElem?_getD, List.getElem?_replicate]
    split <;> rfl
  zst_zero := fun i _ r => new_cell id arch ids isRel zst cap targets relIDs i r

theorem recycle_shape {t : Table} (h : t.Shape) (targets : List Ent) (relIDs : List RelID) :
    (t.recycle targets relIDs).Shape :=
  { len_le := h.len_le, ents_len := h.ents_len, cols_len := h.cols_len, zst_len := h.zst_len,
    col_len := h.col_len, zero_tail := h.zero_tail, zst_zero := h.zst_zero }

theorem recycle_cell (t : Table) (targets : List Ent) (relIDs : List RelID) (i r : Nat) :
    (t.recycle targets relIDs).cell i r = t.cell i r := rfl

theorem recycle_getEntity (t : Table) (targets : List Ent) (relIDs : List RelID) (r : Nat) :
    (t.recycle targets relIDs).getEntity r = t.getEntity r := rfl

theorem adjustCapacity_cell (t : Table) (c i r : Nat) :
    (t.adjustCapacity c).cell i r = if r < t.len then t.cell i r else 0 := by
  have hc : (t.adjustCapacity c).cols =
      t.cols.map fun col => col.take t.len ++ List.replicate (c - t.len) 0 := rfl
  cases hi : t.cols[i]? with
  | none => rw [cell_map_none hc hi, cell_none hi]; split <;> rfl
  | some col => rw [cell_map_some hc hi, cell_some hi, getD_take_append_replicate]

theorem adjustCapacity_getEntity (t : Table) (c r : Nat) :
    (t.adjustCapacity c).getEntity r = if r < t.len then t.getEntity r else Ent.zero := by
  simp only [getEntity, adjustCapacity, getD_take_append_replicate]

theorem adjustCapacity_shape {t : Table} (h : t.Shape) {c : Nat} (hc : t.len ≤ c) :
    (t.adjustCapacity c).Shape where
  len_le := hc
  ents_len :=
    length_take_append_replicate t.ents Ent.zero (by rw [h.ents_len]; exact h.len_le) hc
  cols_len := by simp only [adjustCapacity, List.length_map]; exact h.cols_len
  zst_len := h.zst_len
  col_len := by
    intro col hcol
    simp only [adjustCapacity, List.mem_map] at hcol
    obtain ⟨c0, hc0, rfl⟩ := hcol
    exact length_take_append_replicate c0 0 (by rw [h.col_len c0 hc0]; exact h.len_le) hc
  zero_tail := by
    intro col hcol r hr
    simp only [adjustCapacity, List.mem_map] at hcol
    obtain ⟨c0, _, rfl⟩ := hcol
    have hr' : ¬ r < t.len := Nat.not_lt.mpr hr
    rw [getD_take_append_replicate, if_neg hr']
  zst_zero := by
    intro i hz r
    rw [adjustCapacity_cell, h.zst_zero i hz r]
    split <;> rfl

theorem extend_len (t : Table) (n : Nat) : (t.extend n).len = t.len := by
  simp only [extend]; split <;> rfl

theorem extend_cap_ge (t : Table) (n : Nat) (hb : t.len + n < 2 ^ 32) :
    t.len + n ≤ (t.extend n).cap := by
  simp only [extend]
  split
  · assumption
  · exact capPow2_ge' _ hb

theorem extend_shape {t : Table} (h : t.Shape) (n : Nat) (hb : t.len + n < 2 ^ 32) :
    (t.extend n).Shape := by
  simp only [extend]
  split
  · exact h
  · exact adjustCapacity_shape h (Nat.le_trans (Nat.le_add_right _ _) (capPow2_ge' _ hb))

/-- under the shape invariant growing does not change any cell (old rows are copied, all other
    rows were and are zero) -/
theorem extend_cell {t : Table} (h : t.Shape) (n i r : Nat) :
    (t.extend n).cell i r = t.cell i r := by
  simp only [extend]
  split
  · rfl
  · rw [adjustCapacity_cell]
    split
    · rfl
    · exact (h.cell_tail i r (by omega)).symm

theorem extend_cell_lt (t : Table) (n i r : Nat) (hr : r < t.len) :
    (t.extend n).cell i r = t.cell i r := by
  simp only [extend]
  split
  · rfl
  · rw [adjustCapacity_cell, if_pos hr]

theorem extend_getEntity_lt (t : Table) (n r : Nat) (hr : r < t.len) :
    (t.extend n).getEntity r = t.getEntity r := by
  simp only [extend]
  split
  · rfl
  · rw [adjustCapacity_getEntity, if_pos hr]

theorem alloc_eq (t : Table) (n : Nat) :
    t.alloc n = { t.extend n with len := (t.extend n).len + n } := rfl

theorem add_fst_eq (t : Table) (e : Ent) :
    (t.add e).1 = { t.alloc 1 with ents := (t.alloc 1).ents.set t.len e } := rfl

theorem alloc_len (t : Table) (n : Nat) : (t.alloc n).len = t.len + n := by
  simp only [alloc, extend_len]

theorem alloc_cell_eq (t : Table) (n i r : Nat) :
    (t.alloc n).cell i r = (t.extend n).cell i r := cell_of_cols_eq (by rw [alloc_eq]) i r

theorem alloc_getEntity_eq (t : Table) (n r : Nat) :
    (t.alloc n).getEntity r = (t.extend n).getEntity r := getEntity_of_ents_eq (by rw [alloc_eq]) r

theorem alloc_shape {t : Table} (h : t.Shape) (n : Nat) (hb : t.len + n < 2 ^ 32) :
    (t.alloc n).Shape := by
  rw [alloc_eq]
  exact (extend_shape h n hb).mono rfl rfl rfl rfl rfl (Nat.le_add_right _ _)
    (by rw [extend_len]; exact extend_cap_ge t n hb)

/-- **fresh rows are zero**: after `alloc n` the rows `[len, len+n)` read zero in every column
    (in fact every row `≥ len` does). -/
theorem alloc_new_rows_zero {t : Table} (h : t.Shape) (n i r : Nat) (hr : t.len ≤ r) :
    (t.alloc n).cell i r = 0 := by
  rw [alloc_cell_eq, extend_cell h, h.cell_tail i r hr]

theorem alloc_new_rows_zero' {t : Table} (h : t.Shape) (n i r : Nat) (hr : t.len ≤ r)
    (_ : r < t.len + n) : (t.alloc n).cell i r = 0 :=
  alloc_new_rows_zero h n i r hr

theorem add_fst_len (t : Table) (e : Ent) : (t.add e).1.len = t.len + 1 := alloc_len t 1

theorem add_snd (t : Table) (e : Ent) : (t.add e).2 = t.len := rfl

theorem add_cell_eq (t : Table) (e : Ent) (i r : Nat) :
    (t.add e).1.cell i r = (t.alloc 1).cell i r := cell_of_cols_eq (by rw [add_fst_eq]) i r

theorem add_shape {t : Table} (h : t.Shape) (e : Ent) (hb : t.len + 1 < 2 ^ 32) :
    (t.add e).1.Shape := by
  rw [add_fst_eq]; exact (alloc_shape h 1 hb).with_ents (List.length_set ..)

/-- **uninitialised add reads zero**: the row returned by `add` holds the zero value in every
    column, whatever occupied that storage before. -/
theorem add_new_row_zero {t : Table} (h : t.Shape) (e : Ent) (i : Nat) :
    (t.add e).1.cell i (t.add e).2 = 0 := by
  rw [add_cell_eq, add_snd]; exact alloc_new_rows_zero h 1 i t.len (Nat.le_refl _)

theorem add_getEntity (t : Table) (e : Ent) (r : Nat) :
    (t.add e).1.getEntity r = ((t.alloc 1).ents.set t.len e).getD r Ent.zero := by
  rw [add_fst_eq]; rfl

theorem add_getEntity_new {t : Table} (h : t.Shape) (e : Ent) (hb : t.len + 1 < 2 ^ 32) :
    (t.add e).1.getEntity (t.add e).2 = e := by
  have ha := alloc_shape h 1 hb
  have hlt : t.len < (t.alloc 1).ents.length := by
    have h1 := ha.len_le
    rw [alloc_len] at h1
    rw [ha.ents_len]; omega
  rw [add_getEntity, add_snd, List.getD_eq_getElem?_getD, List.getElem?_set_self hlt]
  rfl

theorem add_cell_lt (t : Table) (e : Ent) (i r : Nat) (hr : r < t.len) :
    (t.add e).1.cell i r = t.cell i r := by
  rw [add_cell_eq, alloc_cell_eq, extend_cell_lt t 1 i r hr]

theorem add_getEntity_lt (t : Table) (e : Ent) (r : Nat) (hr : r < t.len) :
    (t.add e).1.getEntity r = t.getEntity r := by
  rw [add_getEntity, List.getD_eq_getElem?_getD, List.getElem?_set_ne (by omega),
    ← List.getD_eq_getElem?_getD]
  exact (alloc_getEntity_eq t 1 r).trans (extend_getEntity_lt t 1 r hr)

/-- **rows in use are unchanged** by `adjustCapacity`/`extend`/`alloc`/`add`. -/
theorem add_preserves_rows (t : Table) (i r : Nat) (hr : r < t.len) :
    (∀ c, (t.adjustCapacity c).cell i r = t.cell i r ∧
          (t.adjustCapacity c).getEntity r = t.getEntity r) ∧
    (∀ n, (t.extend n).cell i r = t.cell i r ∧ (t.extend n).getEntity r = t.getEntity r) ∧
    (∀ n, (t.alloc n).cell i r = t.cell i r ∧ (t.alloc n).getEntity r = t.getEntity r) ∧
    (∀ e, (t.add e).1.cell i r = t.cell i r ∧ (t.add e).1.getEntity r = t.getEntity r) :=
  ⟨fun c => ⟨by rw [adjustCapacity_cell, if_pos hr], by rw [adjustCapacity_getEntity, if_pos hr]⟩,
    fun n => ⟨extend_cell_lt t n i r hr, extend_getEntity_lt t n r hr⟩,
    fun n => ⟨(alloc_cell_eq t n i r).trans (extend_cell_lt t n i r hr),
      (alloc_getEntity_eq t n r).trans (extend_getEntity_lt t n r hr)⟩,
    fun e => ⟨add_cell_lt t e i r hr, add_getEntity_lt t e r hr⟩⟩

theorem remove_cols (t : Table) (idx : Nat) :
    (t.remove idx).1.cols = t.cols.map fun col =>
      (if (idx != t.len - 1) = true then col.set idx (col.getD (t.len - 1) 0) else col).set
        (t.len - 1) 0 := rfl

theorem remove_len (t : Table) (idx : Nat) : (t.remove idx).1.len = t.len - 1 := rfl

theorem remove_snd (t : Table) (idx : Nat) : (t.remove idx).2 = (idx != t.len - 1) := rfl

theorem remove_cell {t : Table} (h : t.Shape) (idx : Nat) (hi : idx < t.len) (i r : Nat) :
    (t.remove idx).1.cell i r =
      if r = t.len - 1 then 0 else if r = idx then t.cell i (t.len - 1) else t.cell i r := by
  cases hc : t.cols[i]? with
  | none =>
    rw [cell_map_none (remove_cols t idx) hc, cell_none hc, cell_none hc]
    split
    · rfl
    · split <;> rfl
  | some col =>
    have hl : t.len - 1 < col.length := by
      rw [h.col_len col (List.mem_of_getElem? hc)]
      exact Nat.lt_of_lt_of_le (Nat.sub_lt (Nat.zero_lt_of_lt hi) Nat.one_pos) h.len_le
    rw [cell_map_some (remove_cols t idx) hc, cell_some hc, cell_some hc,
      getD_swapRemove col idx (t.len - 1) r (Nat.le_sub_one_of_lt hi) hl]

theorem remove_ents (t : Table) (idx : Nat) :
    (t.remove idx).1.ents =
      if (idx != t.len - 1) = true then t.ents.set idx (t.ents.getD (t.len - 1) Ent.zero)
      else t.ents := rfl

theorem remove_getEntity {t : Table} (h : t.Shape) (idx : Nat) (hi : idx < t.len) (r : Nat)
    (hr : r < t.len - 1) :
    (t.remove idx).1.getEntity r =
      if r = idx then t.getEntity (t.len - 1) else t.getEntity r := by
  unfold getEntity; rw [remove_ents]
  by_cases h2 : idx = t.len - 1
  · rw [if_neg (by rw [h2, bne_self_eq_false]; exact Bool.false_ne_true), if_neg (by omega)]
  · rw [if_pos (bne_iff_ne.2 h2)]
    by_cases h3 : r = idx
    · have : idx < t.ents.length := by have := h.ents_len; have := h.len_le; omega
      rw [if_pos h3, h3, List.getD_eq_getElem?_getD, List.getElem?_set_self this]; rfl
    · rw [if_neg h3, List.getD_eq_getElem?_getD, List.getElem?_set_ne (Ne.symm h3),
        ← List.getD_eq_getElem?_getD]

theorem remove_shape {t : Table} (h : t.Shape) (idx : Nat) (hi : idx < t.len) :
    (t.remove idx).1.Shape where
  len_le := Nat.le_trans (Nat.sub_le _ _) h.len_le
  ents_len := by
    show (if (idx != t.len - 1) = true then t.ents.set idx (t.ents.getD (t.len - 1) Ent.zero)
      else t.ents).length = t.cap
    split
    · rw [List.length_set]; exact h.ents_len
    · exact h.ents_len
  cols_len := by rw [remove_cols, List.length_map]; exact h.cols_len
  zst_len := h.zst_len
  col_len := by
    intro col hcol
    rw [remove_cols, List.mem_map] at hcol
    obtain ⟨c0, hc0, rfl⟩ := hcol
    rw [List.length_set]
    split
    · rw [List.length_set]; exact h.col_len c0 hc0
    · exact h.col_len c0 hc0
  zero_tail := by
    intro col hcol r hr
    rw [remove_cols, List.mem_map] at hcol
    obtain ⟨c0, hc0, rfl⟩ := hcol
    have hr' : t.len - 1 ≤ r := hr
    have hl : t.len - 1 < c0.length := by
      rw [h.col_len c0 hc0]
      exact Nat.lt_of_lt_of_le (Nat.sub_lt (Nat.zero_lt_of_lt hi) Nat.one_pos) h.len_le
    rw [getD_swapRemove c0 idx (t.len - 1) r (Nat.le_sub_one_of_lt hi) hl]
    split
    · rfl
    · have hlt : t.len ≤ r := by omega
      rw [if_neg (Nat.ne_of_gt (Nat.lt_of_lt_of_le hi hlt))]; exact h.zero_tail c0 hc0 r hlt
  zst_zero := by
    intro i hz r
    have hz' : t.zst.getD i false = true := hz
    rw [remove_cell h idx hi, h.zst_zero i hz', h.zst_zero i hz']
    split
    · rfl
    · split <;> rfl

/-- **swap-remove specification**: the last row moves into the vacated slot, every other
    remaining row keeps its cells and its entity; the flag reports whether a row moved. -/
theorem remove_spec {t : Table} (h : t.Shape) (idx : Nat) (hi : idx < t.len) :
    (t.remove idx).1.len = t.len - 1 ∧
    (t.remove idx).2 = (idx != t.len - 1) ∧
    (∀ i r : Nat, r < t.len - 1 →
      (t.remove idx).1.cell i r = if r = idx then t.cell i (t.len - 1) else t.cell i r) ∧
    (∀ r : Nat, r < t.len - 1 →
      (t.remove idx).1.getEntity r =
        if r = idx then t.getEntity (t.len - 1) else t.getEntity r) := by
  refine ⟨rfl, rfl, ?_, fun r hr => remove_getEntity h idx hi r hr⟩
  intro i r hr
  rw [remove_cell h idx hi, if_neg (by omega)]

theorem remove_last_zero {t : Table} (h : t.Shape) (idx : Nat) (hi : idx < t.len) (i : Nat) :
    (t.remove idx).1.cell i (t.len - 1) = 0 := by
  rw [remove_cell h idx hi, if_pos rfl]

theorem cell_modify_ne (t : Table) (k : Nat) (f : List Val → List Val) (i r : Nat) (hne : i ≠ k) :
    ({ t with cols := t.cols.modify k f } : Table).cell i r = t.cell i r := by
  simp only [cell, List.getD_eq_getElem?_getD, List.getElem?_modify]
  cases t.cols[i]? with
  | none => rfl
  | some c =>
    simp only [Option.map_eq_map, Option.map_some, Option.getD_some]
    rw [if_neg (fun h => hne h.symm)]

theorem cell_modify_self {t : Table} (k : Nat) (f : List Val → List Val) {c : List Val}
    (hc : t.cols[k]? = some c) (r : Nat) :
    ({ t with cols := t.cols.modify k f } : Table).cell k r = (f c).getD r 0 := by
  simp [cell, List.getD_eq_getElem?_getD, hc]

theorem modifyCol_shape {t : Table} (h : t.Shape) (k : Nat) (f : List Val → List Val)
    (hz : t.zst.getD k false = false)
    (hlen : ∀ c ∈ t.cols, (f c).length = c.length)
    (htail : ∀ c ∈ t.cols, ∀ r : Nat, t.len ≤ r → (f c).getD r 0 = c.getD r 0) :
    ({ t with cols := t.cols.modify k f } : Table).Shape := by
  have hmem : ∀ c ∈ t.cols.modify k f, c ∈ t.cols ∨ ∃ c0 ∈ t.cols, c = f c0 := by
    intro c hcm
    obtain ⟨j, hj, rfl⟩ := List.getElem_of_mem hcm
    rw [List.getElem_modify]
    rw [List.length_modify] at hj
    split
    · exact Or.inr ⟨_, List.getElem_mem hj, rfl⟩
    · exact Or.inl (List.getElem_mem hj)
  exact
    { len_le := h.len_le
      ents_len := h.ents_len
      cols_len := by show (t.cols.modify k f).length = _; rw [List.length_modify]; exact h.cols_len
      zst_len := h.zst_len
      col_len := by
        intro c hcm
        rcases hmem c hcm with hc | ⟨c0, hc0, rfl⟩
        · exact h.col_len c hc
        · rw [hlen c0 hc0]; exact h.col_len c0 hc0
      zero_tail := by
        intro c hcm r hr
        rcases hmem c hcm with hc | ⟨c0, hc0, rfl⟩
        · exact h.zero_tail c hc r hr
        · rw [htail c0 hc0 r hr]; exact h.zero_tail c0 hc0 r hr
      zst_zero := by
        intro i hzi r
        have hzi' : t.zst.getD i false = true := hzi
        have hne : i ≠ k := by
          intro heq; rw [heq, hz] at hzi'; exact Bool.noConfusion hzi'
        rw [cell_modify_ne t k f i r hne]
        exact h.zst_zero i hzi' r }

theorem setCell_len (t : Table) (col row : Nat) (v : Val) : (t.setCell col row v).len = t.len := by
  simp only [setCell]; split <;> rfl

theorem setCell_getEntity (t : Table) (col row : Nat) (v : Val) (r : Nat) :
    (t.setCell col row v).getEntity r = t.getEntity r := by
  simp only [setCell]; split <;> rfl

theorem setCell_nz (t : Table) (col row : Nat) (v : Val) (hz : t.zst.getD col false = false) :
    t.setCell col row v = { t with cols := t.cols.modify col fun cl => cl.set row v } := by
  simp only [setCell, hz, Bool.false_eq_true, if_false]

theorem setCell_cell_ne (t : Table) (col row : Nat) (v : Val) (i r : Nat)
    (hne : i ≠ col ∨ r ≠ row) : (t.setCell col row v).cell i r = t.cell i r := by
  cases hz : t.zst.getD col false with
  | true => simp only [setCell, hz, if_true]
  | false =>
    rw [setCell_nz t col row v hz]
    simp only [cell, List.getD_eq_getElem?_getD, List.getElem?_modify]
    cases t.cols[i]? with
    | none => rfl
    | some c =>
      simp only [Option.map_eq_map, Option.map_some, Option.getD_some]
      split
      · rename_i heq
        have hr : r ≠ row := by
          cases hne with
          | inl h => exact absurd heq.symm h
          | inr h => exact h
        rw [List.getElem?_set_ne (by omega)]
      · rfl

theorem setCell_zst (t : Table) (col row : Nat) (v : Val) (hz : t.zst.getD col false = true) :
    t.setCell col row v = t := by
  simp only [setCell, hz, if_true]

/-- **read-after-write**: a non-zero-size column returns what was written. -/
theorem setCell_cell_self {t : Table} (h : t.Shape) (col row : Nat) (v : Val)
    (hcol : col < t.ids.length) (hz : t.zst.getD col false = false) (hrow : row < t.cap) :
    (t.setCell col row v).cell col row = v := by
  obtain ⟨c, hc, _, hlen⟩ := h.col_lt hcol
  have : row < c.length := by omega
  rw [setCell_nz t col row v hz]
  simp [cell, List.getD_eq_getElem?_getD, hc, this]

theorem setCell_get {t : Table} (h : t.Shape) (col row : Nat) (v : Val)
    (hcol : col < t.ids.length) (hz : t.zst.getD col false = false) (hrow : row < t.cap) :
    (t.setCell col row v).cell col row = v ∧
    ∀ i r : Nat, (i ≠ col ∨ r ≠ row) → (t.setCell col row v).cell i r = t.cell i r :=
  ⟨setCell_cell_self h col row v hcol hz hrow, fun i r hne => setCell_cell_ne t col row v i r hne⟩

theorem setCell_shape {t : Table} (h : t.Shape) (col row : Nat) (v : Val) (hrow : row < t.len) :
    (t.setCell col row v).Shape := by
  cases hz : t.zst.getD col false with
  | true => rw [setCell_zst t col row v hz]; exact h
  | false =>
    rw [setCell_nz t col row v hz]
    apply modifyCol_shape h col _ hz
    · intro c _; exact List.length_set ..
    · intro c _ r hr
      rw [List.getD_eq_getElem?_getD, List.getElem?_set_ne (by omega),
        ← List.getD_eq_getElem?_getD]

theorem reset_cols (t : Table) :
    t.reset.cols = t.cols.map fun col => List.replicate t.len 0 ++ col.drop t.len := rfl

theorem reset_len (t : Table) : t.reset.len = 0 := rfl

theorem reset_cell_eq (t : Table) (i r : Nat) :
    t.reset.cell i r = if r < t.len then 0 else t.cell i r := by
  cases hc : t.cols[i]? with
  | none => rw [cell_map_none (reset_cols t) hc, cell_none hc]; split <;> rfl
  | some col => rw [cell_map_some (reset_cols t) hc, cell_some hc, getD_replicate_append_drop]

/-- **reset leaves clean memory**: every cell of every column is zero afterwards. -/
theorem reset_zero {t : Table} (h : t.Shape) : t.reset.len = 0 ∧ ∀ i r : Nat, t.reset.cell i r = 0 := by
  refine ⟨rfl, fun i r => ?_⟩
  rw [reset_cell_eq]
  split
  · rfl
  · exact h.cell_tail i r (by omega)

theorem reset_shape {t : Table} (h : t.Shape) : t.reset.Shape where
  len_le := Nat.zero_le _
  ents_len := h.ents_len
  cols_len := by rw [reset_cols, List.length_map]; exact h.cols_len
  zst_len := h.zst_len
  col_len := by
    intro col hcol
    rw [reset_cols, List.mem_map] at hcol
    obtain ⟨c0, hc0, rfl⟩ := hcol
    have := h.col_len c0 hc0; have := h.len_le
    show _ = t.cap
    simp only [List.length_append, List.length_replicate, List.length_drop]
    omega
  zero_tail := by
    intro col hcol r _
    rw [reset_cols, List.mem_map] at hcol
    obtain ⟨c0, hc0, rfl⟩ := hcol
    rw [getD_replicate_append_drop]
    split
    · rfl
    · exact h.zero_tail c0 hc0 r (by omega)
  zst_zero := fun i _ r => (reset_zero h).2 i r

theorem shrink_cap (t : Table) (m : Nat) :
    (t.shrink m).1.cap =
      if t.cap ≤ max (capPow2 t.len) m then t.cap else max (capPow2 t.len) m := by
  simp only [shrink]; split <;> rfl

theorem shrink_snd (t : Table) (m : Nat) :
    (t.shrink m).2 = t.canShrink m := by
  simp only [shrink, canShrink]
  split
  · simp; omega
  · simp; omega

theorem shrink_len (t : Table) (m : Nat) : (t.shrink m).1.len = t.len := by
  simp only [shrink]; split <;> rfl

theorem shrink_shape {t : Table} (h : t.Shape) (m : Nat) (hb : t.len < 2 ^ 32) :
    (t.shrink m).1.Shape := by
  simp only [shrink]
  split
  · exact h
  · exact adjustCapacity_shape h (Nat.le_trans (capPow2_ge' _ hb) (Nat.le_max_left _ _))

theorem shrink_len_le_cap {t : Table} (h : t.Shape) (m : Nat) (hb : t.len < 2 ^ 32) :
    (t.shrink m).1.len ≤ (t.shrink m).1.cap := (shrink_shape h m hb).len_le

theorem shrink_cap_le (t : Table) (m : Nat) : (t.shrink m).1.cap ≤ t.cap := by
  rw [shrink_cap]; split <;> omega

/-- **shrinking keeps every value**: rows in use keep cells and entities, with no assumption on
    the table (`shrink_cell` below: under the shape invariant no cell changes at all). -/
theorem shrink_preserves_rows (t : Table) (m i r : Nat) (hr : r < t.len) :
    (t.shrink m).1.cell i r = t.cell i r ∧ (t.shrink m).1.getEntity r = t.getEntity r := by
  simp only [shrink]
  split
  · exact ⟨rfl, rfl⟩
  · exact ⟨by rw [adjustCapacity_cell, if_pos hr], by rw [adjustCapacity_getEntity, if_pos hr]⟩

theorem shrink_cell {t : Table} (h : t.Shape) (m i r : Nat) :
    (t.shrink m).1.cell i r = t.cell i r := by
  simp only [shrink]
  split
  · rfl
  · rw [adjustCapacity_cell]
    split
    · rfl
    · exact (h.cell_tail i r (by omega)).symm

/-- the per-column copy of `addAll` -/
def spliceCol (start count : Nat) (p : List Val × List Val) : List Val :=
  p.1.take start ++ p.2.take count ++ p.1.drop (start + count)

theorem addAll_eq (t src : Table) (count : Nat) :
    t.addAll src count =
      { t.alloc count with
        ents := (t.alloc count).ents.take ((t.alloc count).len - count) ++ src.ents.take count ++
          (t.alloc count).ents.drop ((t.alloc count).len - count + count)
        cols := ((t.alloc count).cols.zip src.cols).map fun (col, scol) =>
          col.take ((t.alloc count).len - count) ++ scol.take count ++
            col.drop ((t.alloc count).len - count + count) } := rfl

theorem addAll_cols (t src : Table) (count : Nat) :
    (t.addAll src count).cols =
      ((t.alloc count).cols.zip src.cols).map (spliceCol t.len count) := by
  have hs : (t.alloc count).len - count = t.len := by rw [alloc_len]; omega
  simp only [addAll, hs]
  rfl

theorem addAll_ents (t src : Table) (count : Nat) :
    (t.addAll src count).ents =
      (t.alloc count).ents.take t.len ++ src.ents.take count ++
        (t.alloc count).ents.drop (t.len + count) := by
  have hs : (t.alloc count).len - count = t.len := by rw [alloc_len]; omega
  simp only [addAll, hs]

theorem addAll_len (t src : Table) (count : Nat) : (t.addAll src count).len = t.len + count :=
  alloc_len t count

theorem addAll_cap (t src : Table) (count : Nat) :
    (t.addAll src count).cap = (t.alloc count).cap := by rw [addAll_eq]

theorem addAll_cell {t src : Table} (h : t.Shape) (hs : src.Shape) (hids : src.ids = t.ids)
    (count : Nat) (hc : count ≤ src.len) (hb : t.len + count < 2 ^ 32) (i r : Nat) :
    (t.addAll src count).cell i r =
      if r < t.len then t.cell i r
      else if r < t.len + count then src.cell i (r - t.len) else 0 := by
  have ha := alloc_shape h count hb
  by_cases hi : i < t.ids.length
  · obtain ⟨a, ha1, _, ha3⟩ := ha.col_lt (i := i) (by rw [(alloc_sameMeta _ _).ids]; exact hi)
    obtain ⟨b, hb1, _, hb3⟩ := hs.col_lt (i := i) (by rw [hids]; exact hi)
    have hz : ((t.alloc count).cols.zip src.cols)[i]? = some (a, b) :=
      List.getElem?_zip_eq_some.mpr ⟨ha1, hb1⟩
    have hcell : (t.addAll src count).cols[i]? = some (spliceCol t.len count (a, b)) := by
      rw [addAll_cols, List.getElem?_map, hz]; rfl
    have hcap : t.len + count ≤ a.length := by
      rw [ha3, ← alloc_len t count]; exact ha.len_le
    have hsrc : count ≤ b.length := hb3 ▸ Nat.le_trans hc hs.len_le
    rw [cell_some hcell, spliceCol, getD_splice a b t.len count r 0 hcap hsrc,
      ← cell_some ha1, ← cell_some hb1, alloc_cell_eq, extend_cell h]
    split
    · rfl
    · rename_i h1
      split
      · rfl
      · exact h.cell_tail i r (Nat.le_of_not_lt h1)
  · have hi' := Nat.le_of_not_lt hi
    have h1 : t.cols[i]? = none := by
      rw [List.getElem?_eq_none_iff, h.cols_len]; exact hi'
    have h2 : src.cols[i]? = none := by
      rw [List.getElem?_eq_none_iff, hs.cols_len, hids]; exact hi'
    have h3 : (t.addAll src count).cols[i]? = none := by
      rw [addAll_cols, List.getElem?_eq_none_iff, List.length_map, List.length_zip, ha.cols_len,
        (alloc_sameMeta t count).ids]
      exact Nat.le_trans (Nat.min_le_left _ _) hi'
    rw [cell_none h3, cell_none h1, cell_none h2]
    split
    · rfl
    · split <;> rfl

theorem addAll_getEntity {t src : Table} (h : t.Shape) (hs : src.Shape)
    (count : Nat) (hc : count ≤ src.len) (hb : t.len + count < 2 ^ 32) (r : Nat)
    (hr : r < t.len + count) :
    (t.addAll src count).getEntity r =
      if r < t.len then t.getEntity r else src.getEntity (r - t.len) := by
  have ha := alloc_shape h count hb
  have hcap : t.len + count ≤ (t.alloc count).ents.length := by
    have := ha.len_le; rw [alloc_len] at this; rw [ha.ents_len]; exact this
  have hsrc : count ≤ src.ents.length := by have := hs.len_le; rw [hs.ents_len]; omega
  simp only [getEntity]
  rw [addAll_ents, getD_splice _ _ t.len count r Ent.zero hcap hsrc]
  split
  · rename_i hlt
    exact (alloc_getEntity_eq t count r).trans (extend_getEntity_lt t count r hlt)
  · first | rfl | rw [if_pos hr]

theorem addAll_shape {t src : Table} (h : t.Shape) (hs : src.Shape) (hids : src.ids = t.ids)
    (hzst : src.zst = t.zst) (count : Nat) (hc : count ≤ src.len)
    (hb : t.len + count < 2 ^ 32) : (t.addAll src count).Shape := by
  have ha := alloc_shape h count hb
  have hcapa : t.len + count ≤ (t.alloc count).cap := by
    have := ha.len_le; rw [alloc_len] at this; exact this
  have hsl : count ≤ src.cap := Nat.le_trans hc hs.len_le
  have hsplice : ∀ col ∈ (t.addAll src count).cols, ∃ a b, a ∈ (t.alloc count).cols ∧
      b ∈ src.cols ∧ col = a.take t.len ++ b.take count ++ a.drop (t.len + count) := by
    intro col hcol
    rw [addAll_cols, List.mem_map] at hcol
    obtain ⟨⟨a, b⟩, hab, rfl⟩ := hcol
    exact ⟨a, b, (List.of_mem_zip hab).1, (List.of_mem_zip hab).2, rfl⟩
  refine ⟨?_, ?_, ?_, ?_, ?_, ?_, ?_⟩
  · rw [addAll_len, addAll_cap]; exact hcapa
  · rw [addAll_ents, length_splice _ _ _ _ (by rw [ha.ents_len]; exact hcapa)
      (by rw [hs.ents_len]; exact hsl), addAll_cap]
    exact ha.ents_len
  · rw [(addAll_sameMeta t src count).ids, addAll_cols, List.length_map, List.length_zip, ha.cols_len,
      hs.cols_len, hids, (alloc_sameMeta t count).ids, Nat.min_self]
  · rw [(addAll_sameMeta t src count).zst, (addAll_sameMeta t src count).ids]; exact h.zst_len
  · intro col hcol
    obtain ⟨a, b, ha', hb', rfl⟩ := hsplice col hcol
    rw [length_splice _ _ _ _ (by rw [ha.col_len a ha']; exact hcapa)
      (by rw [hs.col_len b hb']; exact hsl), addAll_cap]
    exact ha.col_len a ha'
  · intro col hcol r hr
    have hr' : t.len + count ≤ r := by rw [← addAll_len t src count]; exact hr
    obtain ⟨a, b, ha', hb', rfl⟩ := hsplice col hcol
    rw [getD_splice a b t.len count r 0 (by rw [ha.col_len a ha']; exact hcapa)
      (by rw [hs.col_len b hb']; exact hsl),
      if_neg (Nat.not_lt.2 (Nat.le_trans (Nat.le_add_right _ _) hr')), if_neg (Nat.not_lt.2 hr')]
    exact ha.zero_tail a ha' r (by rw [alloc_len]; exact hr')
  · intro i hz r
    rw [(addAll_sameMeta t src count).zst] at hz
    rw [addAll_cell h hs hids count hc hb, h.zst_zero i hz, hs.zst_zero i (by rw [hzst]; exact hz)]
    split
    · rfl
    · split <;> rfl

-- `addAllEntities` and `copyToEnd` are the two halves of a cross-table move.

theorem addAllEntities_eq (t src : Table) (count : Nat) :
    t.addAllEntities src count = { t.alloc count with ents := (t.addAll src count).ents } := rfl

theorem addAllEntities_len (t src : Table) (count : Nat) :
    (t.addAllEntities src count).len = t.len + count := alloc_len t count

theorem addAllEntities_cell (t src : Table) (count i r : Nat) :
    (t.addAllEntities src count).cell i r = (t.alloc count).cell i r :=
  cell_of_cols_eq (by rw [addAllEntities_eq]) i r

theorem addAllEntities_ents (t src : Table) (count : Nat) :
    (t.addAllEntities src count).ents = (t.addAll src count).ents := rfl

theorem addAllEntities_shape {t src : Table} (h : t.Shape) (hs : src.Shape) (count : Nat)
    (hc : count ≤ src.len) (hb : t.len + count < 2 ^ 32) :
    (t.addAllEntities src count).Shape := by
  have ha := alloc_shape h count hb
  rw [addAllEntities_eq]
  apply ha.with_ents
  rw [addAll_ents]
  apply length_splice
  · have := ha.len_le; rw [alloc_len] at this; rw [ha.ents_len]; exact this
  · have := hs.len_le; rw [hs.ents_len]; omega

theorem addAllEntities_new_rows_zero {t : Table} (h : t.Shape) (src : Table) (count i r : Nat)
    (hr : t.len ≤ r) : (t.addAllEntities src count).cell i r = 0 :=
  (addAllEntities_cell t src count i r).trans (alloc_new_rows_zero h count i r hr)

theorem colIdx_lt {t : Table} {c : Comp} {i : Nat} (h : t.colIdx c = some i) :
    i < t.ids.length := by
  simp only [colIdx] at h
  split at h
  · rename_i hlt; cases h; exact hlt
  · cases h

theorem colIdx_get {T : Table} {c : Comp} {i : Nat} (h : T.colIdx c = some i) :
    T.ids[i]? = some c := by
  unfold colIdx at h
  simp only at h
  split at h
  · rename_i hlt
    injection h with h; subst h
    rw [List.getElem?_eq_getElem hlt]
    congr 1
    exact List.getElem_idxOf hlt
  · cases h

theorem copyToEnd_shape {t src : Table} (h : t.Shape) (hs : src.Shape) (c : Comp) (count : Nat)
    (hct : count ≤ t.len) (hcs : count ≤ src.len) : (t.copyToEnd c src count).Shape := by
  cases hi : t.colIdx c with
  | none => simp only [copyToEnd, hi]; exact h
  | some i =>
    cases hj : src.colIdx c with
    | none => simp only [copyToEnd, hi, hj]; exact h
    | some j =>
      simp only [copyToEnd, hi, hj]
      cases hz : t.zst.getD i false with
      | true => simp only [if_true]; exact h
      | false =>
        simp only [Bool.false_eq_true, if_false]
        obtain ⟨b, hb1, _, hb3⟩ := hs.col_lt (colIdx_lt hj)
        have hb : src.cols.getD j [] = b := by simp [List.getD_eq_getElem?_getD, hb1]
        rw [hb]
        have hbl : count ≤ b.length := hb3 ▸ Nat.le_trans hcs hs.len_le
        have hal : ∀ a ∈ t.cols, t.len - count + count ≤ a.length := fun a ha => by
          rw [Nat.sub_add_cancel hct, h.col_len a ha]; exact h.len_le
        apply modifyCol_shape h i _ hz
        · intro a ha
          exact length_splice a b _ _ (hal a ha) hbl
        · intro a ha r hr
          rw [getD_splice a b _ _ r 0 (hal a ha) hbl, Nat.sub_add_cancel hct,
            if_neg (Nat.not_lt.2 (Nat.le_trans (Nat.sub_le _ _) hr)), if_neg (Nat.not_lt.2 hr)]

/-- **values survive a cross-table move**: after `copyToEnd`, the last `count` rows of the
    component's column hold the first `count` rows of the source column, every other cell of
    the table is unchanged. -/
theorem copyToEnd_cell {t src : Table} (h : t.Shape) (hs : src.Shape) (c : Comp) (count : Nat)
    (hct : count ≤ t.len) (hcs : count ≤ src.len) {i j : Nat}
    (hi : t.colIdx c = some i) (hj : src.colIdx c = some j)
    (hz : t.zst.getD i false = false) (k r : Nat) :
    (t.copyToEnd c src count).cell k r =
      if k = i ∧ t.len - count ≤ r ∧ r < t.len then src.cell j (r - (t.len - count))
      else t.cell k r := by
  simp only [copyToEnd, hi, hj, hz, Bool.false_eq_true, if_false]
  obtain ⟨b, hb1, _, hb3⟩ := hs.col_lt (colIdx_lt hj)
  obtain ⟨a, ha1, ha2, ha3⟩ := h.col_lt (colIdx_lt hi)
  have hb : src.cols.getD j [] = b := by simp [List.getD_eq_getElem?_getD, hb1]
  rw [hb]
  have hbl : count ≤ b.length := hb3 ▸ Nat.le_trans hcs hs.len_le
  by_cases hk : k = i
  · subst hk
    rw [cell_modify_self k _ ha1,
      getD_splice a b _ _ r 0 (by rw [Nat.sub_add_cancel hct, ha3]; exact h.len_le) hbl,
      Nat.sub_add_cancel hct, cell_some hb1, cell_some ha1]
    by_cases h1 : r < t.len - count
    · rw [if_pos h1, if_neg (fun hh => Nat.not_le.2 h1 hh.2.1)]
    · rw [if_neg h1]
      by_cases h2 : r < t.len
      · rw [if_pos h2, if_pos ⟨rfl, Nat.le_of_not_lt h1, h2⟩]
      · rw [if_neg h2, if_neg (fun hh => h2 hh.2.2)]
  · rw [cell_modify_ne t i _ k r hk, if_neg (fun hh => hk hh.1)]

/-- `go` does not hit the nil dereference when every relation names a column. -/
theorem matchesRels_go_ne_none (t : Table) (rels : List RelID)
    (h : ∀ (r : RelID), r ∈ rels → (t.colIdx r.comp).isSome = true) :
    matchesRels.go t rels ≠ none := by
  induction rels with
  | nil => simp [matchesRels.go]
  | cons r rest ih =>
    unfold matchesRels.go
    have h1 := h r List.mem_cons_self
    cases hc : t.colIdx r.comp with
    | none => rw [hc] at h1; cases h1
    | some i =>
      simp only
      split
      · simp
      · exact ih (fun r' hr' => h r' (List.mem_cons_of_mem _ hr'))

theorem matchesRels_ne_none (t : Table) (rels : List RelID)
    (h : ∀ (r : RelID), r ∈ rels → (t.colIdx r.comp).isSome = true) :
    t.matchesRels rels ≠ none := by
  unfold matchesRels
  split
  · simp
  · exact matchesRels_go_ne_none t rels h

end Table

end Ark
