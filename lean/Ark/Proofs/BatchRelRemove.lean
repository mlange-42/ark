/-
  C06 + C04 with relations: `World.RemoveEntities(batch, nil)` when some of the removed entities are
  relation targets.  The batch un-indexes and recycles ALL selected entities first and only then runs
  `cleanupArchetypes` for every one that carried the target flag, so the cleanup of `g` meets tables
  that still target other dead entities: the edit `zeroDead`, the invariant `RInvExcept` up to the
  key of `g`, one iteration of the inner loop (`cleanTable_stepD`), the loops
  (`cleanupArchetypes_specD`), and the batch as `removeTablesW` followed by `cleanupAll`
  (`unindexed_base`).
-/
import Ark.Proofs.QueryRelAssign
import Ark.Proofs.BatchRemove

section

/-! ## §1 the cleanup of one target while others are pending

C06 + C04 with relations: the cleanup of a removed relation target
  while OTHER removed targets are still pending.

  `RemoveEntities(batch)` un-indexes and recycles ALL selected entities first and only then runs
  `cleanupArchetypes e` for every selected entity that carried the target flag.  During the
  cleanup of `g` the tables may therefore still target other dead entities; the filter of
  `cleanupArchetypes` (`r.target.id == g.id || !alive r.target`, the repaired defect D2) resets
  those as well: `zeroDead`.  The relation-index invariant `RInvExcept w a g.id` ("up to key
  `g.id`") is what holds while the tables listed under `g` are freed, whatever else is pending.
-/

set_option autoImplicit false

namespace Ark

open World Ark.Props.C01World

/-- the pending targets are dead and none of them is the zero entity -/
structure DeadSet (p : Pool) (D : List Ent) : Prop where
  dead : ∀ (d : Ent), d ∈ D → p.alive d = false
  nz : ∀ (d : Ent), d ∈ D → d.id ≠ 0

/-- the new target of a column whose target was `h`: dead targets are reset -/
def zeroDead (p : Pool) (h : Ent) : Ent :=
  if (!h.isZero && !p.alive h) = true then Ent.zero else h

theorem zeroDead_idem (p : Pool) (h : Ent) : zeroDead p (zeroDead p h) = zeroDead p h := by
  unfold zeroDead
  by_cases hc : (!h.isZero && !p.alive h) = true
  · rw [if_pos hc]; rfl
  · rw [if_neg hc, if_neg hc]

theorem DeadSet.tail {p : Pool} {g : Ent} {D : List Ent} (h : DeadSet p (g :: D)) : DeadSet p D :=
  ⟨fun d hd => h.dead d (List.mem_cons_of_mem _ hd), fun d hd => h.nz d (List.mem_cons_of_mem _ hd)⟩

/-- the filter of `cleanupArchetypes g` selects exactly the relations with a dead target -/
theorem cleanFilterD_iff {w : World} {D : List Ent} {g h : Ent} (hk : OKTs w D h)
    (hD : DeadSet w.pool D) (hg : g ∈ D) :
    (h.id == g.id || (!h.isZero && !w.alive h)) = true ↔ (!h.isZero && !w.alive h) = true := by
  constructor
  · intro hf
    rcases hk with h1 | ⟨_, h2⟩ | h1
    · simp only [Ent.isZero, beq_iff_eq] at h1
      simp only [Ent.isZero, h1, beq_self_eq_true, Bool.not_true, Bool.false_and, Bool.or_false,
        beq_iff_eq] at hf
      exact absurd hf.symm (hD.nz g hg)
    · rcases Bool.or_eq_true_iff.1 hf with h3 | h3
      · exact absurd (beq_iff_eq.1 h3) (h2 g hg)
      · exact h3
    · have hd : w.alive h = false := hD.dead h h1
      have hz : h.isZero = false := by
        simp only [Ent.isZero, beq_eq_false_iff_ne]; exact hD.nz h h1
      rw [hd, hz]; rfl
  · intro hf; rw [hf, Bool.or_true]

theorem cleanEdit_eq_zeroDead {w : World} {D : List Ent} {g h : Ent} (hk : OKTs w D h)
    (hD : DeadSet w.pool D) (hg : g ∈ D) : cleanEdit w g h = zeroDead w.pool h := by
  unfold cleanEdit zeroDead
  by_cases hc : (!h.isZero && !w.alive h) = true
  · rw [if_pos ((cleanFilterD_iff hk hD hg).2 hc)]; exact (if_pos hc).symm
  · rw [if_neg fun hf => hc ((cleanFilterD_iff hk hD hg).1 hf)]; exact (if_neg hc).symm

theorem OKTs.zeroDead_of_id {w : World} {D : List Ent} {g h : Ent} (hk : OKTs w D h)
    (hD : DeadSet w.pool D) (hg : g ∈ D) (hid : h.id = g.id) : zeroDead w.pool h = Ent.zero := by
  rcases hk with h1 | ⟨_, h2⟩ | h1
  · simp only [Ent.isZero, beq_iff_eq] at h1
    rw [hid] at h1; exact absurd h1 (hD.nz g hg)
  · exact absurd hid (h2 g hg)
  · have hd : w.pool.alive h = false := hD.dead h h1
    have hz : h.isZero = false := by
      simp only [Ent.isZero, beq_eq_false_iff_ne]; exact hD.nz h h1
    unfold zeroDead
    rw [hd, hz]; rfl

end Ark

end

section

/-! ## §2 one iteration of the inner loop

C06 + C04 with relations: one iteration of the inner loop of
  `cleanupArchetypes g` while the dead targets `D ∋ g` are pending (`cleanTable_stepD`): the rows
  of a table with a column targeting `g` move to the table with EVERY dead target replaced by the
  zero entity (`cleanTable_stepE` of `Ark.Proofs.TargetsStep` with the edit `zeroDead`), the
  table is freed; `QKeep` holds across it.
-/

set_option autoImplicit false

namespace Ark

open World Ark.Props.C01World QueryRel

/-! ### what the entities see of the cleanup -/

/-- one step of the cleanup changes a target not at all, or resets it if it is dead -/
def TgtStepP (p : Pool) (o o' : Option Ent) : Prop := o' = o ∨ o' = o.map (zeroDead p)

theorem TgtStepP.refl (p : Pool) (o : Option Ent) : TgtStepP p o o := Or.inl rfl

theorem TgtStepP.trans {p : Pool} {a b c : Option Ent} (h1 : TgtStepP p a b)
    (h2 : TgtStepP p b c) : TgtStepP p a c := by
  rcases h1 with rfl | rfl
  · exact h2
  · rcases h2 with rfl | rfl
    · exact Or.inr rfl
    · right
      cases a with
      | none => rfl
      | some x => simp only [Option.map_some, zeroDead_idem]

/-- how a world `w` reached during the cleanup relates to the world `w0` it started from -/
structure CleanFrameD (w0 w : World) : Prop where
  pool : w.pool = w0.pool
  isTarget : w.isTarget = w0.isTarget
  kinds : w.kinds = w0.kinds
  maxComps : w.maxComps = w0.maxComps
  relationArchetypes : w.relationArchetypes = w0.relationArchetypes
  obs : w.obs = w0.obs
  locks : w.locks = w0.locks
  archLen : w.archetypes.length = w0.archetypes.length
  idxSame : IdxSame w0 w
  same : ∀ (j : Nat), SameEnt w0 w j
  tgt : ∀ (j : Nat) (c : Comp), TgtStepP w0.pool (targetOf w0 j c) (targetOf w j c)
  tablesLe : w0.tables.length ≤ w.tables.length

theorem CleanFrameE.pending {w0 w : World} (h : CleanFrameE (zeroDead w0.pool) w0 w) :
    CleanFrameD w0 w :=
  { pool := h.pool, isTarget := h.isTarget, kinds := h.kinds, maxComps := h.maxComps,
    relationArchetypes := h.relationArchetypes, obs := h.obs, locks := h.locks,
    archLen := h.archLen, idxSame := h.idxSame, same := h.same, tgt := h.tgt,
    tablesLe := h.tablesLe }

/-! ### one iteration of the inner loop -/

/-- what one iteration of the inner loop of `cleanupArchetypes g` (table `tid` of archetype `a`)
    guarantees -/
structure CleanStepD (D : List Ent) (g : Ent) (a tid : Nat) (w w' : World) : Prop where
  base : CleanBaseD D w'
  exc : RInvExcept w' a g.id
  frame : CleanFrameD w w'
  /-- an active table afterwards is an old one other than `tid` with its targets, or has no
      column targeting `g` -/
  act : ∀ (t : Nat), t ∈ (w'.arch a).tables.tables →
    (t ∈ (w.arch a).tables.tables ∧ t ≠ tid ∧ (w'.tbl t).targets = (w.tbl t).targets) ∨
    (∀ (i : Nat), (w.arch a).isRel.getD i false = true →
      ((w'.tbl t).targets.getD i Ent.zero).id ≠ g.id)
  keep : ∀ (t : Nat), t ∈ (w.arch a).tables.tables → t ≠ tid →
    t ∈ (w'.arch a).tables.tables ∧ (w'.tbl t).targets = (w.tbl t).targets
  isRel : (w'.arch a).isRel = (w.arch a).isRel
  otherArchs : ∀ (b : Nat), b ≠ a → w'.archetypes[b]? = w.archetypes[b]?
  hasFree : (w'.arch a).freeTables ≠ []
  lenB : w'.tables.length ≤ w.tables.length + 1
  lenFresh : w'.tables.length = w.tables.length + 1 → (w.arch a).freeTables = []

theorem CleanStepE.pending {D : List Ent} {g : Ent} {a tid : Nat} {w w' : World}
    (h : CleanStepE D g (zeroDead w.pool) a tid w w') : CleanStepD D g a tid w w' :=
  { base := h.base, exc := h.exc, frame := h.frame.pending
    act := h.act, keep := h.keep, isRel := h.isRel, otherArchs := h.otherArchs,
    hasFree := h.hasFree, lenB := h.lenB, lenFresh := h.lenFresh }

theorem cleanTable_stepD {D : List Ent} {g : Ent} {a tid : Nat} {w : World} (hB : CleanBaseD D w)
    (hD : DeadSet w.pool D) (hg : g ∈ D)
    (hX : RInvExcept w a g.id) (ha : a < w.archetypes.length)
    (hact : tid ∈ (w.arch a).tables.tables)
    (htg : ∃ (i0 : Nat), (w.arch a).isRel.getD i0 false = true ∧
      ((w.tbl tid).targets.getD i0 Ent.zero).id = g.id)
    (hfew : w.tables.length + 1 ≤ maxU32) (hrows : 2 * w.entities.length < 2 ^ 32) :
    ∃ (w' : World), cleanTable g a tid w = .ok () w' ∧ CleanStepD D g a tid w w' ∧ QKeep w w' := by
  obtain ⟨w', hok, st, hq⟩ := cleanTable_stepE cleanKeeps_qkeep (ed := zeroDead w.pool) hB hX
    (hD.nz g hg) ha hact htg hfew hrows (fun _ hk => cleanEdit_eq_zeroDead hk hD hg)
  exact ⟨w', hok, st.pending, hq⟩

end Ark

end

section

/-! ## §3 the loops

C06 + C04 with relations: `cleanupArchetypes g` while the dead
  targets `D ∋ g` are pending (`cleanupArchetypes_specD`): the loops of `Ark.Proofs.TargetsLoops`
  with the edit `zeroDead` and the kept relation `QKeep`.
-/

set_option autoImplicit false

namespace Ark

open World Ark.Props.C01World QueryRel

/-- the invariant of the inner loop over the tables `rest` still to be processed -/
structure InnerInvD (D : List Ent) (g : Ent) (a N : Nat) (w0 : World) (rest : List Nat) (w : World) : Prop where
  base : CleanBaseD D w
  qk : QKeep w0 w
  exc : RInvExcept w a g.id
  frame : CleanFrameD w0 w
  alt : a < w.archetypes.length
  nodup : rest.Nodup
  sound : ∀ (t : Nat), t ∈ rest → t ∈ (w.arch a).tables.tables ∧
    ∃ (i0 : Nat), (w.arch a).isRel.getD i0 false = true ∧
      ((w.tbl t).targets.getD i0 Ent.zero).id = g.id
  complete : ∀ (t : Nat), t ∈ (w.arch a).tables.tables →
    (∃ (i : Nat), (w.arch a).isRel.getD i false = true ∧
      ((w.tbl t).targets.getD i Ent.zero).id = g.id) → t ∈ rest
  others : ∀ (b : Nat), b ≠ a → w.archetypes[b]? = w0.archetypes[b]?
  len1 : w.tables.length ≤ N + 1
  len0 : (w.arch a).freeTables = [] → w.tables.length ≤ N

/-- what processing one archetype in `cleanupArchetypes g` guarantees -/
structure CleanedArchD (D : List Ent) (g : Ent) (a : Nat) (w w' : World) : Prop where
  base : CleanBaseD D w'
  qk : QKeep w w'
  rinv : RInv w'
  frame : CleanFrameD w w'
  lenB : w'.tables.length ≤ w.tables.length + 1
  /-- the archetype no longer lists any table for `g` -/
  noKey : AL.find? (w'.arch a).targetTables g.id = none
  others : ∀ (b : Nat), b ≠ a → w'.archetypes[b]? = w.archetypes[b]?

/-- what `cleanupArchetypes g` guarantees -/
structure CleanedD (D : List Ent) (g : Ent) (w w' : World) : Prop where
  base : CleanBaseD D w'
  qk : QKeep w w'
  rinv : RInv w'
  frame : CleanFrameD w w'
  noTarget : NoTarget w' g.id
  len : w'.tables.length ≤ w.tables.length + w.relationArchetypes.length

/-- **`cleanupArchetypes g` never panics**, keeps the cleanup invariants, restores the full
    relation-index invariant, and afterwards no non-free table targets `g`. -/
theorem cleanupArchetypes_specD {D : List Ent} {g : Ent} {w : World} (hB : CleanBaseD D w)
    (hD : DeadSet w.pool D) (hg : g ∈ D) (hR : RInv w) (hfew : w.tables.length + w.relationArchetypes.length + 1 ≤ maxU32)
    (hrows : 2 * w.entities.length < 2 ^ 32) :
    ∃ (w' : World), cleanupArchetypes g w = .ok () w' ∧ CleanedD D g w w' := by
  obtain ⟨w', hok, cl, hq⟩ := cleanupArchetypes_specE cleanKeeps_qkeep (ed := zeroDead w.pool) hB hR
    (hD.nz g hg) (zeroDead_idem _) (fun _ hk => cleanEdit_eq_zeroDead hk hD hg) hfew hrows
  exact ⟨w', hok, cl.base, hq, cl.rinv, cl.frame.pending, cl.noTarget, cl.len⟩

end Ark

end

section

/-! ## §4 the batch

C06 + C04 with relations: `World.RemoveEntities(batch, nil)` on a
  world WITH relations, when some of the removed entities are relation targets.  Without
  observers and callback the batch is the un-indexing loop `removeTablesW w ts` (of
  `Ark.Proofs.BatchRemove`) over the selected tables followed by `cleanupAll (cleanupList w ts)`:
  `cleanupArchetypes e` and the reset of the target flag for every selected entity that carried
  the flag, in table/row order; after the first loop the cleanup invariants hold for the pending
  dead targets (`unindexed_base`).
-/

set_option autoImplicit false

namespace Ark

open World Ark.Props.C01World QueryRel

/-! ### the batch removal as un-indexing followed by the cleanups -/

namespace World

theorem forIn_unit_forM' {α : Type} (f : α → W Unit) (g : α → PUnit → W (ForInStep PUnit))
    (hg : ∀ (a : α) (w : World), g a PUnit.unit w =
      match f a w with
      | .ok _ s => .ok (ForInStep.yield PUnit.unit) s
      | .panic k s => .panic k s) :
    ∀ (l : List α) (w : World),
      (forIn l PUnit.unit g : W PUnit) w =
        match M.forM' l f w with
        | .ok _ s => .ok PUnit.unit s
        | .panic k s => .panic k s
  | [], _ => rfl
  | a :: l, w => by
    rw [List.forIn_cons, M.bind_apply, hg a w]
    simp only [M.forM', bind, M.bind]
    cases f a w with
    | panic k s => rfl
    | ok u s => exact forIn_unit_forM' f g hg l s

/-- the entities `RemoveEntities` collects for cleanup: the selected entities that carry the
    target flag, in table/row order -/
def cleanupList (w : World) (ts : List Nat) : List Ent :=
  (ts.flatMap (rowsOf w)).filter fun e => w.isTarget.getD e.id false

/-- one iteration of the cleanup loop of `RemoveEntities` -/
def cleanupOne (e : Ent) : W Unit := do
  cleanupArchetypes e
  M.modify fun w => { w with isTarget := w.isTarget.set e.id false }

/-- the cleanup loop of `RemoveEntities` -/
def cleanupAll (l : List Ent) : W Unit := M.forM' l cleanupOne

theorem cleanupOne_eq (e : Ent) (w : World) :
    cleanupOne e w =
      match cleanupArchetypes e w with
      | .panic k s => .panic k s
      | .ok _ s => .ok () (unflagW s e) := by
  simp only [cleanupOne, bind, M.bind, M.modify]
  cases cleanupArchetypes e w <;> rfl

theorem removeTableW_tbl_ne (w : World) {t t' : Nat} (h : t ≠ t') :
    (removeTableW w t).tbl t' = w.tbl t' := by
  rw [removeTableW_eq]
  exact tbl_set_ne rfl h

theorem foldSt_cleanup (I : List Bool) : ∀ (ts : List Nat) (s : List Ent) (w : World), ts.Nodup →
    foldSt removeTableW (fun s W t => s ++ (rowsOf W t).filter fun e => I.getD e.id false) ts s w =
      s ++ (ts.flatMap (rowsOf w)).filter fun e => I.getD e.id false
  | [], s, _, _ => by simp [foldSt]
  | t :: ts, s, w, hnd => by
    have hnd' := List.nodup_cons.mp hnd
    rw [foldSt, foldSt_cleanup I ts _ _ hnd'.2]
    have hrows : ts.flatMap (rowsOf (removeTableW w t)) = ts.flatMap (rowsOf w) := by
      apply flatMap_congr'
      intro t' ht'
      exact rowsOf_congr (removeTableW_tbl_ne w (fun hh => hnd'.1 (hh ▸ ht')))
    rw [hrows, List.flatMap_cons, List.filter_append, List.append_assoc]

/-- **the batch removal, relations allowed**: without observers and callback,
    `RemoveEntities(batch, nil)` is the un-indexing loop over the tables the filter selects,
    followed by the cleanup of every selected entity that carried the target flag -/
theorem opRemoveEntities_eq_rel (run : ProbeRunner) (fo : FilterObj) (extra : List RelID) (w : World)
    (hl : w.isLocked = false) (hno : ∀ (evt : Nat), w.obs.hasObservers evt = false)
    {ts : List Nat} (hts : getBatchTables fo extra w = .ok ts w) (hnd : ts.Nodup) :
    opRemoveEntities run fo extra false w = cleanupAll (cleanupList w ts) (removeTablesW w ts) := by
  unfold opRemoveEntities
  simp only [M.bind_apply, checkLocked_unlocked w hl, M.get_apply, hno, Bool.or_self,
    Bool.false_eq_true, if_false, M.pure_apply, hts]
  erw [removeLoop_eq w.isTarget ts [] w rfl]
  simp only [foldSt_cleanup w.isTarget ts [] w hnd, List.nil_append]
  rw [forIn_unit_forM' cleanupOne _ ?_]
  · simp only [cleanupAll, cleanupList]
    generalize M.forM' (List.filter _ _) cleanupOne _ = r
    cases r <;> rfl
  · intro a W
    simp only [cleanupOne, bind, M.bind, M.modify, M.pure_apply]
    cases cleanupArchetypes a W <;> rfl

end World

/-! ### the world after the un-indexing loop (`removeTablesW_link` of `Ark.Proofs.BatchRemove`) -/

theorem targetOf_zero_or_alive {w : World} (hI : IdxInv w) (hE : FreeEmpty w) (hT : TargetsOK w) {j : Nat}
    {c : Comp} {x : Ent} (h : targetOf w j c = some x) : x.isZero = true ∨ w.alive x = true := by
  obtain ⟨t, k, T, hT', hf, hk, he⟩ := targetOf_col hI hE h
  exact he ▸ hT t T hT' hf k hk

/-- **the world after the un-indexing loop satisfies the cleanup invariants** for the pending
    dead targets `cleanupList w ts` -/
theorem unindexed_base {w : World} {fl : List Nat} (h : TInv w fl) (hR : RowsAlive w)
    {ts : List Nat} (S : TableSet w ts) :
    CleanBaseD (cleanupList w ts) (removeTablesW w ts) ∧ RInv (removeTablesW w ts) ∧
    DeadSet (removeTablesW w ts).pool (cleanupList w ts) := by
  have u := removeTablesW_link h.link hR S
  have hmemD : ∀ (x : Ent), x ∈ cleanupList w ts ↔
      x ∈ ts.flatMap (rowsOf w) ∧ w.isTarget.getD x.id false = true := by
    intro x; simp only [cleanupList, List.mem_filter]
  have hE' : FreeEmpty (removeTablesW w ts) := by
    intro t T hT hf
    by_cases ht : t ∈ ts
    · rw [← tbl_of_get hT, u.tblIn t ht]; rfl
    · rw [u.tblOut t ht] at hT; exact h.freeEmpty t T hT hf
  have hT' : TargetsSat (OKTs (removeTablesW w ts) (cleanupList w ts)) (removeTablesW w ts) :=
    TargetsSat.of_metaStep (fun t T hT hf i hi => by
      rcases h.rel.aux.targets t T hT hf i hi with h1 | h1
      · exact Or.inl h1
      · by_cases hm : (T.targets.getD i Ent.zero).id ∈ (ts.flatMap (rowsOf w)).map (·.id)
        · right; right
          obtain ⟨e, he, hid⟩ := List.mem_map.mp hm
          have heq : e = T.targets.getD i Ent.zero :=
            h.link.alive_inj (u.live e he).2.2.1 h1 hid
          rw [← heq]
          refine (hmemD e).2 ⟨he, ?_⟩
          have hz : (T.targets.getD i Ent.zero).isZero = false := by
            rw [← heq]
            simp only [Ent.isZero, beq_eq_false_iff_ne]
            have := (u.live e he).1; omega
          have := h.flags t T hT hf i hi hz
          rw [← heq] at this; exact this
        · right; left
          refine ⟨by rw [u.aliveFrame _ hm]; exact h1, ?_⟩
          intro d hd hid
          exact hm (hid ▸ List.mem_map_of_mem ((hmemD d).1 hd).1)) u.ms
  obtain ⟨hB, hR'⟩ := h.cleanBaseD u.ms u.link.idx (fun i hi => by rw [u.isTarget]; exact hi) hE' hT'
  refine ⟨hB, hR', ?_⟩
  constructor
  · intro d hd
    obtain ⟨hd1, _⟩ := (hmemD d).1 hd
    show (removeTablesW w ts).alive d = false
    rw [u.removedAlive d hd1 d rfl]
    simp
  · intro d hd
    have := (u.live d ((hmemD d).1 hd).1).1
    omega

/-! ### the cleanup loop over the pending targets -/

namespace World

theorem unflagW_fields (w : World) (e : Ent) :
    (unflagW w e).tables = w.tables ∧ (unflagW w e).entities = w.entities ∧
    (unflagW w e).archetypes = w.archetypes ∧ (unflagW w e).kinds = w.kinds ∧
    (unflagW w e).pool = w.pool ∧ (unflagW w e).cache = w.cache ∧
    (unflagW w e).relationArchetypes = w.relationArchetypes ∧
    (unflagW w e).maxComps = w.maxComps ∧ (unflagW w e).obs = w.obs ∧
    (unflagW w e).locks = w.locks ∧ (unflagW w e).componentIndex = w.componentIndex :=
  ⟨rfl, rfl, rfl, rfl, rfl, rfl, rfl, rfl, rfl, rfl, rfl⟩

end World

/-- the invariant of the cleanup loop of `RemoveEntities`: `w0` = the world after the un-indexing
    loop, `Dall` = all collected targets, `rest` = the targets still pending -/
structure AllInv (Dall : List Ent) (N : Nat) (w0 : World) (rest : List Ent) (w : World) : Prop where
  base : CleanBaseD rest w
  rinv : RInv w
  qk : QKeep w0 w
  pool : w.pool = w0.pool
  kinds : w.kinds = w0.kinds
  maxComps : w.maxComps = w0.maxComps
  relationArchetypes : w.relationArchetypes = w0.relationArchetypes
  obs : w.obs = w0.obs
  locks : w.locks = w0.locks
  idxSame : IdxSame w0 w
  same : ∀ (j : Nat), SameEnt w0 w j
  tgt : ∀ (j : Nat) (c : Comp), TgtStepP w0.pool (targetOf w0 j c) (targetOf w j c)
  flagLen : w.isTarget.length = w0.isTarget.length
  /-- only the flags of collected targets change -/
  flagOut : ∀ (i : Nat), (∀ (d : Ent), d ∈ Dall → d.id ≠ i) →
    w.isTarget.getD i false = w0.isTarget.getD i false
  sub : ∀ (d : Ent), d ∈ rest → d ∈ Dall
  len : w.tables.length + rest.length * w0.relationArchetypes.length ≤ N

/-- **the cleanup loop**: `cleanupArchetypes e` and the reset of the flag for every pending
    target, in order — never panics; afterwards nothing is pending -/
theorem cleanupAll_spec {Dall : List Ent} {N : Nat} {w0 : World} (hD : DeadSet w0.pool Dall)
    (hN : N + 1 ≤ maxU32) (hrows : 2 * w0.entities.length < 2 ^ 32) :
    ∀ (rest : List Ent) (w : World), AllInv Dall N w0 rest w →
      ∃ (w' : World), cleanupAll rest w = .ok () w' ∧ AllInv Dall N w0 [] w' := by
  apply forM'_hoare
  intro g rest w hI
  have hlen := hI.len
  simp only [List.length_cons, Nat.add_mul, Nat.one_mul] at hlen
  have hDw : DeadSet w.pool (g :: rest) := by
    rw [hI.pool]
    exact ⟨fun d hd => hD.dead d (hI.sub d hd), fun d hd => hD.nz d (hI.sub d hd)⟩
  obtain ⟨w1, hok, cl⟩ := cleanupArchetypes_specD hI.base hDw List.mem_cons_self hI.rinv
    (by rw [hI.relationArchetypes]; omega) (by rw [hI.idxSame.len]; exact hrows)
  refine ⟨unflagW w1 g, by rw [cleanupOne_eq, hok], ?_⟩
  have hg0 : g.id ≠ 0 := hDw.nz g List.mem_cons_self
  refine
    { base := cl.base.unflag cl.noTarget
      rinv := cl.rinv.congr rfl rfl
      qk := (hI.qk.trans cl.qk).trans (unflagW_qkeep w1 g)
      pool := cl.frame.pool.trans hI.pool
      kinds := cl.frame.kinds.trans hI.kinds
      maxComps := cl.frame.maxComps.trans hI.maxComps
      relationArchetypes := cl.frame.relationArchetypes.trans hI.relationArchetypes
      obs := cl.frame.obs.trans hI.obs
      locks := cl.frame.locks.trans hI.locks
      idxSame := hI.idxSame.trans (cl.frame.idxSame.trans (IdxSame.of_eq rfl))
      same := fun j => (hI.same j).trans ((cl.frame.same j).congr rfl rfl)
      tgt := ?_
      flagLen := ?_
      flagOut := ?_
      sub := fun d hd => hI.sub d (List.mem_cons_of_mem _ hd)
      len := ?_ }
  · intro j c
    have h1 := hI.tgt j c
    have h2 := cl.frame.tgt j c
    rw [hI.pool] at h2
    exact h1.trans h2
  · show (w1.isTarget.set g.id false).length = w0.isTarget.length
    rw [List.length_set, cl.frame.isTarget]; exact hI.flagLen
  · intro i hi
    have hne : g.id ≠ i := hi g (hI.sub g List.mem_cons_self)
    show (w1.isTarget.set g.id false).getD i false = w0.isTarget.getD i false
    rw [List.getD_eq_getElem?_getD, List.getElem?_set_ne hne, ← List.getD_eq_getElem?_getD,
      cl.frame.isTarget]
    exact hI.flagOut i hi
  · show w1.tables.length + rest.length * w0.relationArchetypes.length ≤ N
    have := cl.len
    rw [hI.relationArchetypes] at this
    omega

/-! ### what removing a set of entities guarantees in a world with relations -/

/-- a target among the removed entities reads as the zero entity -/
def zeroIn (es : List Ent) (x : Ent) : Ent := if x ∈ es then Ent.zero else x

theorem zeroIn_nil (x : Ent) : zeroIn [] x = x := by simp [zeroIn]

theorem zeroIn_of_mem {es : List Ent} {x : Ent} (h : x ∈ es) : zeroIn es x = Ent.zero := by
  simp [zeroIn, h]

theorem zeroIn_of_not_mem {es : List Ent} {x : Ent} (h : x ∉ es) : zeroIn es x = x := by
  simp [zeroIn, h]

theorem zeroIn_zero (es : List Ent) : zeroIn es Ent.zero = Ent.zero := by
  unfold zeroIn
  split <;> rfl

theorem zeroIn_congr {es es' : List Ent} (hmem : ∀ (e : Ent), e ∈ es ↔ e ∈ es') (x : Ent) :
    zeroIn es x = zeroIn es' x := by
  unfold zeroIn
  by_cases hx : x ∈ es
  · rw [if_pos hx, if_pos ((hmem x).1 hx)]
  · rw [if_neg hx, if_neg (fun hh => hx ((hmem x).2 hh))]

/-- zeroing `e`, then the entities `es`, is zeroing `e :: es` -/
theorem zeroIn_cons (e : Ent) (es : List Ent) (x : Ent) :
    zeroIn es (if x = e then Ent.zero else x) = zeroIn (e :: es) x := by
  by_cases h : x = e
  · rw [if_pos h, zeroIn_zero, zeroIn_of_mem (h ▸ List.mem_cons_self)]
  · rw [if_neg h]
    by_cases hm : x ∈ es
    · rw [zeroIn_of_mem hm, zeroIn_of_mem (List.mem_cons_of_mem _ hm)]
    · rw [zeroIn_of_not_mem hm, zeroIn_of_not_mem fun hh => (List.mem_cons.mp hh).elim h hm]

/-- the observable outcome of removing the entities `es` (alive, distinct IDs) from a world with
    relations, in the order of the list; only `pool` and the free list depend on the order -/
structure RemovedAllRelPost (w : World) (fl : List Nat) (es : List Ent) (w' : World) : Prop where
  /-- all invariants are kept; the IDs are pushed on the free list in order -/
  tinv : TInv w' (es.reverse.map (·.id) ++ fl)
  pool : w'.pool = es.foldl Pool.recycle w.pool
  /-- a handle with the ID of a removed entity is alive iff it carries the next generation -/
  removedAlive : ∀ (e : Ent), e ∈ es → ∀ (x : Ent), x.id = e.id → w'.alive x = (e.gen + 1 == x.gen)
  aliveFrame : ∀ (x : Ent), x.id ∉ es.map (·.id) → w'.alive x = w.alive x
  /-- every other entity keeps components and values; a target among the removed entities reads
      as the zero entity, every other target is kept -/
  frame : ∀ (j : Nat), j ∉ es.map (·.id) → SameEnt w w' j ∧
    ∀ (c : Comp), targetOf w' j c = (targetOf w j c).map (zeroIn es)
  /-- the removed IDs point at no table any more -/
  unindexed : ∀ (e : Ent), e ∈ es → (∀ (c : Comp), valOf w' e.id c = none) ∧
    compsOf w' e.id = none ∧ ∀ (c : Comp), targetOf w' e.id c = none
  obs : w'.obs = w.obs
  locks : w'.locks = w.locks
  kinds : w'.kinds = w.kinds
  maxComps : w'.maxComps = w.maxComps
  relationArchetypes : w'.relationArchetypes = w.relationArchetypes
  entitiesLen : w'.entities.length = w.entities.length
  tablesLen : w'.tables.length ≤ w.tables.length + es.length * w.relationArchetypes.length
  /-- rows hold alive handles, the component index and the empty cache carry over -/
  qk : QKeep w w'

theorem RemovedAllRelPost.dead {w w' : World} {fl : List Nat} {es : List Ent}
    (p : RemovedAllRelPost w fl es w') : ∀ (e : Ent), e ∈ es → w'.alive e = false := by
  intro e he
  rw [p.removedAlive e he e rfl]
  simp

theorem zeroDead_of_ok {p : Pool} {x : Ent} (h : x.isZero = true ∨ p.alive x = true) :
    zeroDead p x = x := by
  unfold zeroDead
  rcases h with h | h <;> simp [h]

/-- **the batch removal under `TInv`**: the un-indexing loop over the existing tables `ts` (no
    table twice) followed by the cleanup of the flagged entities never fails and removes exactly
    the entities in the rows of `ts` -/
theorem removeBatch_rel_spec {w : World} {fl : List Nat} (h : TInv w fl) (hR : RowsAlive w)
    {ts : List Nat} (S : TableSet w ts)
    (hfew : w.tables.length + (cleanupList w ts).length * w.relationArchetypes.length + 1 ≤ maxU32)
    (hrows : 2 * w.entities.length < 2 ^ 32) :
    ∃ (w' : World), cleanupAll (cleanupList w ts) (removeTablesW w ts) = .ok () w' ∧
      RemovedAllRelPost w fl (ts.flatMap (rowsOf w)) w' := by
  -- `u`: what the un-indexing loop did; its result starts the cleanup loop's invariant, with
  -- all of `cleanupList w ts` pending and nothing changed yet
  have u := removeTablesW_link h.link hR S
  obtain ⟨hB, hRi, hDd⟩ := unindexed_base h hR S
  have hinit : AllInv (cleanupList w ts)
      (w.tables.length + (cleanupList w ts).length * w.relationArchetypes.length)
      (removeTablesW w ts) (cleanupList w ts) (removeTablesW w ts) :=
    { base := hB, rinv := hRi, qk := QKeep.refl _, pool := rfl, kinds := rfl, maxComps := rfl,
      relationArchetypes := rfl, obs := rfl, locks := rfl, idxSame := IdxSame.refl _,
      same := fun _ => ⟨fun _ => rfl, rfl⟩, tgt := fun _ _ => TgtStepP.refl _ _, flagLen := rfl,
      flagOut := fun _ _ => rfl, sub := fun _ hd => hd
      len := by rw [u.ms.len, u.ms.relationArchetypes]; exact Nat.le_refl _ }
  -- so the cleanup runs through; `hI` relates its result `w'` to the world after the un-indexing
  obtain ⟨w', hok, hI⟩ := cleanupAll_spec hDd hfew (by rw [u.entitiesLen]; exact hrows) _ _ hinit
  refine ⟨w', hok, ?_⟩
  have hlen' : w'.tables.length ≤
      w.tables.length + (cleanupList w ts).length * w.relationArchetypes.length := by
    have := hI.len; simpa using this
  have hal : ∀ (x : Ent), w'.alive x = (removeTablesW w ts).alive x := fun x => by
    simp only [World.alive, hI.pool]
  have hrel := hI.base.relInv hI.rinv
  have qk0 : QKeep w (removeTablesW w ts) :=
    ⟨fun _ => u.rowsAlive,
     fun hc => hc.of_frame ⟨u.componentIndex, u.ms.kinds, by rw [u.ms.archetypes],
       fun a => by rw [arch_congr u.ms.archetypes]⟩,
     fun he => he.of_eq u.ms.cache⟩
  -- every field composes the un-indexing loop (`u`) with the cleanup (`hI`)
  refine
    { tinv :=
        { rel := hrel
          flags := hI.base.flags
          freeEmpty := hI.base.freeEmpty
          link := u.link.transfer hI.base.idx hI.pool hI.idxSame hI.flagLen (by omega)
          kindsLe := by rw [hI.kinds, hI.maxComps, u.ms.kinds, u.maxComps]; exact h.kindsLe }
      pool := by rw [hI.pool]; exact u.pool
      removedAlive := fun e he x hx => by rw [hal]; exact u.removedAlive e he x hx
      aliveFrame := fun x hx => by rw [hal]; exact u.aliveFrame x hx
      frame := ?_
      unindexed := ?_
      obs := hI.obs.trans u.obs
      locks := hI.locks.trans u.locks
      kinds := hI.kinds.trans u.ms.kinds
      maxComps := hI.maxComps.trans u.maxComps
      relationArchetypes := hI.relationArchetypes.trans u.ms.relationArchetypes
      entitiesLen := hI.idxSame.len.trans u.entitiesLen
      tablesLen := by
        refine Nat.le_trans hlen' (Nat.add_le_add_left (Nat.mul_le_mul_right _ ?_) _)
        exact List.length_filter_le _ _
      qk := qk0.trans hI.qk }
  -- `frame`: the un-indexing loop keeps the targets of a surviving entity (`t0`), the cleanup
  -- zeroes the dead ones (`t1`), and a target of `w` is dead by then iff it was removed
  · intro j hj
    refine ⟨(u.frame j hj).trans (hI.same j), fun c => ?_⟩
    have t0 : targetOf (removeTablesW w ts) j c = targetOf w j c := u.ms.targetOf (u.entryOut j hj) c
    -- the cleanup resets exactly the dead targets
    have t1 : targetOf w' j c = (targetOf w j c).map (zeroDead (removeTablesW w ts).pool) := by
      rcases hI.tgt j c with k | k
      -- a target the cleanup did not touch is zero or alive in `w'`: `zeroDead` leaves it alone
      · rw [k, t0]
        cases ho : targetOf w j c with
        | none => rfl
        | some x =>
          have hx : targetOf w' j c = some x := by rw [k, t0, ho]
          have := targetOf_zero_or_alive hI.base.idx hI.base.freeEmpty hrel.aux.targets hx
          rw [hal] at this
          rw [Option.map_some, zeroDead_of_ok this]
      · rw [k, t0]
    -- on a target of `w` (zero or alive there, `hx`) `zeroDead` after the un-indexing is `zeroIn`
    rw [t1]
    cases ho : targetOf w j c with
    | none => rfl
    | some x =>
      simp only [Option.map_some, Option.some.injEq]
      have hx := targetOf_zero_or_alive h.link.idx h.freeEmpty h.rel.aux.targets ho
      unfold zeroIn
      by_cases hm : x ∈ ts.flatMap (rowsOf w)
      · rw [if_pos hm]
        have hd : (removeTablesW w ts).pool.alive x = false := by
          have := u.removedAlive x hm x rfl
          simp only [World.alive] at this
          rw [this]; simp
        have hz : x.isZero = false := by
          simp only [Ent.isZero, beq_eq_false_iff_ne]
          have := (u.live x hm).1; omega
        unfold zeroDead
        rw [hd, hz]; rfl
      · rw [if_neg hm]
        apply zeroDead_of_ok
        rcases hx with h1 | h1
        · exact Or.inl h1
        · right
          have hni : x.id ∉ (ts.flatMap (rowsOf w)).map (·.id) := by
            intro hmm
            obtain ⟨e, he, hid⟩ := List.mem_map.mp hmm
            have := h.link.alive_inj (u.live e he).2.2.1 h1 hid
            exact hm (this ▸ he)
          have := u.aliveFrame x hni
          simp only [World.alive] at this h1
          rw [this]; exact h1
  -- `unindexed`: the un-indexing loop left the entry `(maxU32, r)`; the cleanup moves only
  -- entries of real tables, so it is still there and every read is `none`
  · intro e he
    obtain ⟨r, hr⟩ := u.entryIn e.id (List.mem_map_of_mem he)
    have hentry : w'.entities[e.id]? = some (maxU32, r) := by
      rcases hI.idxSame.entry e.id with k | ⟨t0, r0, _, _, k1, k2, _⟩
      · rw [k]; exact hr
      · rw [hr] at k1
        exact absurd (Prod.mk.inj (Option.some.inj k1)).1.symm k2
    exact ⟨fun c => by simp only [valOf, hentry, if_true],
      by simp only [compsOf, hentry, if_true], fun c => by simp only [targetOf, hentry, if_true]⟩

/-- the table budget of the cleanups, from a bound on the number of selected entities -/
theorem cleanup_budget {w : World} {ts : List Nat} {n : Nat} (hn : (ts.flatMap (rowsOf w)).length ≤ n)
    (hfew : w.tables.length + n * w.relationArchetypes.length + 1 ≤ maxU32) :
    w.tables.length + (cleanupList w ts).length * w.relationArchetypes.length + 1 ≤ maxU32 := by
  have := Nat.mul_le_mul_right w.relationArchetypes.length
    (Nat.le_trans (List.length_filter_le (fun e => w.isTarget.getD e.id false) _) hn)
  unfold cleanupList
  omega

/-- **C06 + C04, `RemoveEntities(batch, nil)` with relation targets among the removed**: on an
    unlocked world without observers satisfying `TInv` whose rows hold alive handles, for a batch
    whose table selection succeeded with the duplicate-free list `ts` of existing tables: the
    call never fails, `TInv` holds for the free list extended by the removed IDs, every entity in
    the rows of `ts` is dead and un-indexed, every other entity keeps liveness, components and
    values, and its targets are unchanged except that a removed target reads as the zero entity. -/
theorem opRemoveEntities_rel_spec (run : ProbeRunner) {w : World} {fl : List Nat} (h : TInv w fl)
    (hR : RowsAlive w) (hl : w.isLocked = false)
    (hno : ∀ (evt : Nat), w.obs.hasObservers evt = false) (fo : FilterObj) (extra : List RelID)
    {ts : List Nat} (hts : getBatchTables fo extra w = .ok ts w) (S : TableSet w ts)
    (hfew : w.tables.length + (cleanupList w ts).length * w.relationArchetypes.length + 1 ≤ maxU32)
    (hrows : 2 * w.entities.length < 2 ^ 32) :
    ∃ (w' : World), opRemoveEntities run fo extra false w = .ok () w' ∧
      RemovedAllRelPost w fl (ts.flatMap (rowsOf w)) w' := by
  rw [opRemoveEntities_eq_rel run fo extra w hl hno hts S.nodup]
  exact removeBatch_rel_spec h hR S hfew hrows

end Ark

end

