/-
  Ark.Proofs.RelSpecs — C01 + C04 at world level, for worlds WITH relations: what the
  `*_rel_spec` theorems of `Ark/Proofs/Targets*.lean` leave open and the refinement machine of
  `Ark/Proofs/RelRefine.lean` needs: for `SetRelations` pool, `maxComps` and relation archetypes
  (`SetRelMore`), `Set` and `registerComponent` under `TInv`; which components carry a target and
  the mask of a live entity; lookups that refuse and give the world back unchanged.
  (The other `*More` records stand with their operations: `NewRelMore` in `TargetsCreate`,
  `AddRelMore` in `TargetsAdd`, `RemovedRelMore` in `TargetsHist`; `Remove`: `RelRemove`; `Exchange`:
  `RelExchangeOp`.)
-/
import Ark.Proofs.TargetsSetRel

set_option autoImplicit false

namespace Ark

open World Ark.Props.C01World

structure SetRelMore (w w' : World) : Prop where
  pool : w'.pool = w.pool
  maxComps : w'.maxComps = w.maxComps
  relArchs : w'.relationArchetypes = w.relationArchetypes

theorem setRelationsCore_more (run : ProbeRunner) {w : World} {fl : List Nat} (h : TInv w fl)
    (hl : w.isLocked = false) (hno : ∀ (evt : Nat), w.obs.hasObservers evt = false) {e : Ent}
    (h2 : 2 ≤ e.id) (hnf : e.id ∉ fl) (ha : w.alive e = true)
    (hsl : e.id < w.pool.ents.length) {rels : List RelID}
    (hne : rels.isEmpty = false) (hnd : (rels.map (·.comp)).Nodup)
    (hhas : ∀ (r : RelID), r ∈ rels → (targetOf w e.id r.comp).isSome = true)
    {w' : World} (hok : setRelationsCore run e rels w = .ok () w') : SetRelMore w w' := by
  obtain ⟨oldT, row, _, _, _, _, _, hcase⟩ :=
    h.set_lookup run hl hno h2 hnf ha hsl hne hnd hhas hok
  rcases hcase with ⟨_, rfl⟩ | ⟨nt, w1, _, _, _, _, _, cg, _, rfl⟩
  · exact ⟨rfl, rfl, rfl⟩
  obtain ⟨fp, _, _, fu⟩ := addMove_fields w1 e oldT row nt (w1.arch (w.tbl oldT).arch).mask
  obtain ⟨fra, _⟩ := addMove_more w1 e oldT row nt (w1.arch (w.tbl oldT).arch).mask
  refine ⟨?_, ?_, ?_⟩
  · show (addMove w1 e oldT row nt (w1.arch (w.tbl oldT).arch).mask).pool = w.pool
    rw [fp, cg.pool]
  · show (addMove w1 e oldT row nt (w1.arch (w.tbl oldT).arch).mask).maxComps = w.maxComps
    rw [fu.maxComps, cg.maxComps]
  · show (addMove w1 e oldT row nt (w1.arch (w.tbl oldT).arch).mask).relationArchetypes = _
    rw [fra, cg.relationArchetypes]

theorem opSetRelations_more (run : ProbeRunner) (p : Path) {w : World} {fl : List Nat}
    (h : TInv w fl) (hl : w.isLocked = false) (hno : ∀ (evt : Nat), w.obs.hasObservers evt = false)
    {e : Ent} (h2 : 2 ≤ e.id) (hnf : e.id ∉ fl) (ha : w.alive e = true)
    (hsl : e.id < w.pool.ents.length) {mapperIds : List Comp}
    {rels : List RelID} (hne : rels.isEmpty = false) (hnd : (rels.map (·.comp)).Nodup)
    (hhas : ∀ (r : RelID), r ∈ rels → (targetOf w e.id r.comp).isSome = true)
    {w' : World} (hok : opSetRelations run p e mapperIds rels w = .ok () w') :
    SetRelMore w w' :=
  setRelationsCore_more run h hl hno h2 hnf ha hsl hne hnd hhas (opSetRelations_ok_core hok)

theorem TInv.compsOf_live {w : World} {fl : List Nat} (h : TInv w fl) {e : Ent} (h2 : 2 ≤ e.id)
    (hnf : e.id ∉ fl) (ha : w.alive e = true) (hsl : e.id < w.pool.ents.length) :
    ∃ (cs : List Comp), compsOf w e.id = some cs := by
  obtain ⟨t, row, he, htm, _⟩ := h.link.live_entry h2 hnf ha hsl
  obtain ⟨hT, _, _⟩ := h.link.idx.indexed he htm
  exact ⟨(w.tbl t).ids, compsOf_of_entry he htm hT⟩

theorem TInv.has_iff_comps {w : World} {fl : List Nat} (h : TInv w fl) {e : Ent} (h2 : 2 ≤ e.id)
    (hnf : e.id ∉ fl) (ha : w.alive e = true)
    (hsl : e.id < w.pool.ents.length) {cs : List Comp} (hcs : compsOf w e.id = some cs)
    (c : Comp) : (w.tbl (w.index e.id).1).has c = true ↔ c ∈ cs := by
  obtain ⟨t, row, he, htm, _⟩ := h.link.live_entry h2 hnf ha hsl
  obtain ⟨hT, _, _⟩ := h.link.idx.indexed he htm
  rw [compsOf_of_entry he htm hT] at hcs
  rw [index_of_get he, Table.has_iff_mem, Option.some.inj hcs]

theorem TInv.mask_iff_comps {w : World} {fl : List Nat} (h : TInv w fl) {e : Ent} (h2 : 2 ≤ e.id)
    (hnf : e.id ∉ fl) (ha : w.alive e = true)
    (hsl : e.id < w.pool.ents.length) {cs : List Comp} (hcs : compsOf w e.id = some cs)
    (c : Comp) : (w.maskOf e).get c = true ↔ c ∈ cs :=
  h.link.mask_iff_comps h.rel.sinv.toSInvMid h2 hnf ha hsl hcs c

theorem opSet_rel_spec (run : ProbeRunner) {w : World} {fl : List Nat} (h : TInv w fl)
    (hno : ∀ (evt : Nat), w.obs.hasObservers evt = false) {e : Ent}
    (h2 : 2 ≤ e.id) (hnf : e.id ∉ fl) (ha : w.alive e = true)
    (hsl : e.id < w.pool.ents.length) {cs : List Comp}
    (hcs : compsOf w e.id = some cs) {ids : List Comp} (hhas : ∀ (c : Comp), c ∈ ids → c ∈ cs)
    (vals : List (Comp × Val)) :
    ∃ (w' : World), opSet run e ids vals w = .ok () w' ∧ WriteRelPost w fl e vals w' := by
  refine ⟨_, opSet_eq run w e ids vals ha ?_ (hno _), h.writeValsRel h2 hnf ha hsl vals⟩
  rw [List.all_eq_true]
  intro c hc
  exact (h.has_iff_comps h2 hnf ha hsl hcs c).mpr (hhas c hc)

theorem opSet_rel_missing (run : ProbeRunner) {w : World} {fl : List Nat} (h : TInv w fl) {e : Ent}
    (h2 : 2 ≤ e.id) (hnf : e.id ∉ fl) (ha : w.alive e = true)
    (hsl : e.id < w.pool.ents.length) {cs : List Comp}
    (hcs : compsOf w e.id = some cs) {ids : List Comp}
    (hmiss : ¬ ∀ (c : Comp), c ∈ ids → c ∈ cs) (vals : List (Comp × Val)) :
    opSet run e ids vals w = .panic .missing w := by
  apply opSet_missing run w e ids vals ha
  cases hall : (ids.all fun c => (w.tbl (w.index e.id).1).has c) with
  | false => rfl
  | true =>
    exfalso
    apply hmiss
    intro c hc
    exact (h.has_iff_comps h2 hnf ha hsl hcs c).mp (List.all_eq_true.mp hall c hc)

theorem registerComponent_rel_frame {w w' : World} {k : CompKind} {n : Nat}
    (hr : World.registerComponent k w = .ok n w') :
    (∀ (j : Nat), SameEnt w w' j ∧ ∀ (c : Comp), targetOf w' j c = targetOf w j c) ∧
    w'.maxComps = w.maxComps ∧ w'.relationArchetypes = w.relationArchetypes ∧
    w'.tables.length = w.tables.length ∧ w'.entities.length = w.entities.length := by
  obtain ⟨_, _, _, htab, hent, _, _⟩ := registerComponent_ok hr
  obtain ⟨hu, hra, _⟩ := registerComponent_fields hr
  refine ⟨fun j => ⟨⟨fun c => valOf_congr hent htab j c, compsOf_congr hent htab j⟩, fun c => ?_⟩,
    hu.maxComps, hra, by rw [htab], by rw [hent]⟩
  simp only [targetOf, hent, htab]

theorem TInv.targetOf_isSome_iff {w : World} {fl : List Nat} (h : TInv w fl) {i : Nat}
    {cs : List Comp} (hcs : compsOf w i = some cs) (c : Comp) :
    (targetOf w i c).isSome = true ↔ c ∈ cs ∧ w.isRelComp c = true := by
  have hS := h.rel.sinv.toSInvMid
  obtain ⟨t, r, hx, htm, hlt, rfl⟩ := entry_of_compsOf hcs
  have hT := get_of_lt hlt
  rw [targetOf_of_entry hx htm hT]
  constructor
  · intro hs
    obtain ⟨x, hx⟩ := Option.isSome_iff_exists.1 hs
    obtain ⟨k, hc, hk, _⟩ := Table.col_of_targetAt hx
    exact ⟨colIdx_some_iff_mem.1 ⟨k, hc⟩, hS.isRelComp_of_col hT (Table.colIdx_get hc) hk⟩
  · rintro ⟨hm, hr⟩
    obtain ⟨k, hc⟩ := colIdx_some_iff_mem.mpr hm
    have hk : (w.tbl t).isRel.getD k false = true := by
      rw [hS.isRel_col hT (Table.colIdx_get hc)]; exact hr
    rw [Table.targetAt_of_col hc hk]; rfl

namespace World

theorem getExchangeTargets_go_bad (T : Table) (w : World) : ∀ (rels : List RelID) (ts : List Ent)
    (ch : Bool) (cm : Mask) (seen : List Comp),
    (∃ (r : RelID), r ∈ rels ∧ ¬ ∃ (i : Nat), T.colIdx r.comp = some i ∧
      T.isRel.getD i false = true) →
    ∃ (k : PanicKind), getExchangeTargets.go T w ts ch cm seen rels = .panic k w
  | [], _, _, _, _, h => by obtain ⟨r, hr, _⟩ := h; cases hr
  | r :: rest, ts, ch, cm, seen, h => by
    simp only [getExchangeTargets.go]
    cases hs : seen.contains r.comp with
    | true => exact ⟨_, rfl⟩
    | false =>
      simp only [Bool.false_eq_true, if_false]
      cases hc : T.colIdx r.comp with
      | none => exact ⟨_, rfl⟩
      | some i =>
        simp only
        cases hi : T.isRel.getD i false with
        | false => exact ⟨_, rfl⟩
        | true =>
          have hrest : ∃ (r' : RelID), r' ∈ rest ∧ ¬ ∃ (i : Nat), T.colIdx r'.comp = some i ∧
              T.isRel.getD i false = true := by
            obtain ⟨r', hr', hbad⟩ := h
            rcases List.mem_cons.1 hr' with rfl | hm
            · exact absurd ⟨i, hc, hi⟩ hbad
            · exact ⟨r', hm, hbad⟩
          simp only [Bool.not_true, Bool.false_eq_true, if_false]
          split
          · exact getExchangeTargets_go_bad T w rest _ _ _ _ hrest
          · exact getExchangeTargets_go_bad T w rest _ _ _ _ hrest

theorem getExchangeTargets_bad (T : Table) (rels : List RelID) (w : World)
    (h : ∃ (r : RelID), r ∈ rels ∧ ¬ ∃ (i : Nat), T.colIdx r.comp = some i ∧
      T.isRel.getD i false = true) :
    ∃ (k : PanicKind), getExchangeTargets T rels w = .panic k w := by
  obtain ⟨k, hk⟩ := getExchangeTargets_go_bad T w rels T.targets false Mask.empty [] h
  exact ⟨k, by unfold getExchangeTargets; rw [hk]⟩

end World

theorem World.getOrCreate_panic_state {a : Nat} {rels : List RelID} {w s : World} {k : PanicKind}
    (h : getOrCreate a rels w = .panic k s) (hnv : ¬ RelsValid w rels) : s = w := by
  simp only [getOrCreate, bind, M.bind] at h
  cases hg : getTable a rels w with
  | panic k' s' =>
    rw [hg] at h
    simp only at h
    injection h with _ e2
    have := getTable_state a rels w
    rw [hg] at this
    rw [← e2]; exact this
  | ok r s' =>
    have hs := getTable_ok_state hg
    subst hs
    rw [hg] at h
    cases r with
    | some t => simp only [pure, M.pure] at h; cases h
    | none =>
      simp only at h
      rw [createTable_eq] at h
      -- `split` also rewrites `if RelsValid w rels` with `hnv` from the context: only that branch
      -- of `createTable_eq` (`ctFinish`) changes the world, the three left are panics on `w`.
      split at h
      · injection h with _ e2; exact e2.symm
      · split at h
        · injection h with _ e2; exact e2.symm
        · injection h with _ e2; exact e2.symm

end Ark
