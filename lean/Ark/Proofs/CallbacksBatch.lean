/-
  The batches `NewBatch` and `RemoveEntities` with observers.  The batch idiom of the events.go
  callers (`for i in rows: if !fire(row i, earlyOut) break; earlyOut = false`) loses no callback
  (`fireRows_rounds`): whether an observer fires depends on masks only, which are the same for all
  rows of a table, so if the first row notifies nobody no row would.  `NewBatch`: all creation
  callbacks run AFTER all entities are created, on the locked world.  `RemoveEntities`: all removal
  callbacks run BEFORE any entity is removed, on the locked, otherwise unchanged world.  The lock
  is taken only if there are observers; `lockIf_eq`/`unlockIf_eq` say so in one formula, so that an
  operation is run once, on worlds of the form `Z.reframe w.obs LG LK`.
-/
import Ark.Proofs.BatchRemove
import Ark.Proofs.CallbacksOps
import Ark.Proofs.CallbacksRounds

set_option autoImplicit false

namespace Ark

open World Spec Ark.Props.C01World QueryExact

/-- what notifying the observers `fired` for every entity of `ents` in turn appends to the log
    (newest first) -/
def rowsLog (rec : World → Nat → Ent → Probe → List LogEv) (fired : List Nat) :
    List Ent → World → List LogEv
  | [], _ => []
  | e :: es, w =>
    rowsLog rec fired es (w.addLog (notifyAll rec e fired w)) ++ notifyAll rec e fired w

theorem rowsLog_eq {rec : World → Nat → Ent → Probe → List LogEv} (fired : List Nat) :
    ∀ (ents : List Ent) (w : World),
    rowsLog rec fired ents w = roundsLog rec (rowRounds fired ents) w
  | [], _ => rfl
  | e :: es, w => by
    simp only [rowsLog, rowRounds, List.map_cons, roundsLog]
    exact congrArg (· ++ _) (rowsLog_eq fired es _)

/-! ## `NewBatch` -/

namespace World

theorem createStep_log (t start : Nat) (w : World) (k : Nat) : (createStep t start w k).log = w.log := by
  rw [createStep_upd]; rfl

theorem createEntitiesW_log (w : World) (t n : Nat) : (createEntitiesW w t n).log = w.log :=
  foldl_createStep_keep (·.log) t _ (createStep_log t _) _ _

def rowEnts (w : World) (t start count : Nat) : List Ent :=
  (List.range count).map fun i => (w.tbl t).getEntity (start + i)

theorem createStep_reframe (t start : Nat) (w : World) (k : Nat) (o : ObsMgr) (lg : List LogEv)
    (lk : Lock) :
    createStep t start (w.reframe o lg lk) k = (createStep t start w k).reframe o lg lk := by
  rw [createStep_upd, createStep_upd]; rfl

theorem createEntitiesW_reframe (w : World) (t n : Nat) (o : ObsMgr) (lg : List LogEv) (lk : Lock) :
    createEntitiesW (w.reframe o lg lk) t n = (createEntitiesW w t n).reframe o lg lk := by
  unfold createEntitiesW createPrefix
  have h1 : (w.reframe o lg lk).tbl t = w.tbl t := rfl
  have h2 : (w.reframe o lg lk).modTbl t (fun T => T.alloc n)
      = (w.modTbl t fun T => T.alloc n).reframe o lg lk := rfl
  rw [h1, h2, foldl_reframe _ o lg lk fun w k => createStep_reframe t _ w k o lg lk]

end World

/-! ## the optional lock -/

section

/-- `Lock()` if `c`: one formula for both cases -/
theorem lockIf_eq {L l1 l2 : Lock} {b : Nat} (hL : LockCycle L l1 b l2) (c : Bool) (Z : World)
    (o : ObsMgr) (LG : List LogEv) :
    (if c = true then lock else pure 0) (Z.reframe o LG L)
      = .ok (if c then b else 0) (Z.reframe o LG (if c then l1 else L)) := by
  cases c
  · rfl
  · exact lock_of_cycle (w := Z.reframe o LG L) hL

theorem unlockIf_eq {L l1 l2 : Lock} {b : Nat} (hL : LockCycle L l1 b l2) (c : Bool) (Z : World)
    (o : ObsMgr) (LG : List LogEv) :
    (if c = true then unlock (if c then b else 0) else pure ()) (Z.reframe o LG (if c then l1 else L))
      = .ok () (Z.reframe o LG (if c then l2 else L)) := by
  cases c
  · rfl
  · exact unlock_of_cycle hL rfl

end

section

variable {run : ProbeRunner} {S : Probe → Prop} {rec : World → Nat → Ent → Probe → List LogEv}

/-- **`NewBatch(count, ids…)` with observers** (equation; no callback function, no relations):
    after the table lookup (`w1`) ALL entities are created (`createEntitiesW`); then, if
    `OnCreateEntity` observers are registered, the world is locked and for every new entity in row
    order the observers selected by the documented rule for the mask of `ids` are notified — on
    the LOCKED world with ALL entities created — and the lock is released. -/
theorem opNewBatch_obs_eq (hro : ReadOnly run S rec) (p : Path) (count : Nat) (ids : List Comp)
    (vals : List (Comp × Val)) (w : World) (hs : ScriptsIn w.obs S) (hok : ObsOK w.obs)
    (hl : w.isLocked = false) {t a : Nat} {m : Mask} {w1 : World}
    (hfoc : findOrCreateTableAdd 0 Mask.empty ids [] w = .ok (t, a, m) w1)
    {l1 l2 : Lock} {b : Nat} (hL : LockCycle w.locks l1 b l2) :
    opNewBatch run p count ids vals [] false w = .ok (t, (w1.tbl t).len)
      ((createEntitiesW w1 t count).reframe w.obs
        (roundsLog rec (rowRounds (firing w.obs Ev.onCreateEntity (.entity (Mask.ofList ids)))
          (rowEnts (createEntitiesW w1 t count) t (w1.tbl t).len count))
          ((createEntitiesW w1 t count).withLocks l1) ++ w.log)
        (lockAfter w Ev.onCreateEntity l2)) := by
  obtain ⟨hobs, hlog, hlocks⟩ : w1.obs = w.obs ∧ w1.log = w.log ∧ w1.locks = w.locks := by
    have := (frames_findOrCreateTableAdd 0 Mask.empty ids []).state_frame w
    rw [hfoc] at this; exact this
  -- the world after the creation, in the form `Z.reframe w.obs LG LK`
  obtain ⟨Z, hZ⟩ : ∃ Z : World, Z = createEntitiesW w1 t count := ⟨_, rfl⟩
  have hC : createEntitiesW w1 t count = Z.reframe w.obs w.log w.locks := by
    rw [hZ]
    exact (reframe_eq_self (by rw [createEntitiesW_obs, hobs]) (by rw [createEntitiesW_log, hlog])
      (by rw [createEntitiesW_locks, hlocks])).symm
  have hnob : w.obs.hasObservers Ev.onCreateEntity = false →
      firing w.obs Ev.onCreateEntity (.entity (Mask.ofList ids)) = [] :=
    fun h => firing_nil_of_no_observers (hok.agg _) h _
  have hRows : ∀ (LG : List LogEv) (LK : Lock),
      (if w.obs.hasObservers Ev.onCreateEntity = true then
        (M.get >>= fun w' => fireRows (fun e eo => fireCreateEntity run e (Mask.ofList ids) eo)
          (List.map (fun i => (w'.tbl t).getEntity ((w1.tbl t).len + i)) (List.range count)) : W PUnit)
       else pure PUnit.unit) (Z.reframe w.obs LG LK)
        = .ok PUnit.unit (Z.reframe w.obs
            (roundsLog rec (rowRounds (firing w.obs Ev.onCreateEntity (.entity (Mask.ofList ids)))
              (rowEnts Z t (w1.tbl t).len count)) (Z.reframe w.obs LG LK) ++ LG) LK) := by
    intro LG LK
    cases hh : w.obs.hasObservers Ev.onCreateEntity with
    | false =>
      rw [hnob hh, roundsLog_nobody _ _ (by simp [rowRounds])]
      rfl
    | true =>
      rw [if_pos rfl, M.bind_apply, M.get_apply]
      exact fireRows_rounds (rec := rec) _ _ w.obs
        (fun e eo => fireCreateEntity_readOnly hro hs hok e _ eo)
        _ _ rfl
  unfold opNewBatch lockAfter
  simp only [ite_then_bind, ite_get_then_bind, ite_bind_same]
  simp only [M.bind_apply, checkLocked_unlocked w hl, preCheck_nil_apply, hfoc, M.get_apply,
    createEntities_eq, registerTargets_nil, hC, List.isEmpty_nil, Bool.not_true,
    Bool.false_and, Bool.or_false, M.pure_apply]
  -- the flags are read after the creation; `rw` also rewrites the instances of the `if`s
  rw [show (Z.reframe w.obs w.log w.locks).obs = w.obs from rfl]
  simp only [Bool.false_eq_true, if_false, M.pure_apply, lockIf_eq hL, hRows,
    unlockIf_eq hL, reframe_reframe]
  cases hh : w.obs.hasObservers Ev.onCreateEntity with
  | false =>
    rw [hnob hh, roundsLog_nobody _ _ (by simp [rowRounds]), roundsLog_nobody _ _ (by simp [rowRounds])]
  | true => rfl
end

/-! ## `RemoveEntities` -/

namespace World

theorem killStep_reframe (w : World) (e : Ent) (o : ObsMgr) (lg : List LogEv) (lk : Lock) :
    killStep (w.reframe o lg lk) e = (killStep w e).reframe o lg lk := rfl

theorem removeTableW_reframe (w : World) (t : Nat) (o : ObsMgr) (lg : List LogEv) (lk : Lock) :
    removeTableW (w.reframe o lg lk) t = (removeTableW w t).reframe o lg lk := by
  unfold removeTableW
  have h1 : (w.reframe o lg lk).tbl t = w.tbl t := rfl
  rw [h1, foldl_reframe _ o lg lk fun _ _ => rfl]
  rfl

theorem removeTablesW_reframe (o : ObsMgr) (lg : List LogEv) (lk : Lock) (ts : List Nat) (w : World) :
    removeTablesW (w.reframe o lg lk) ts = (removeTablesW w ts).reframe o lg lk :=
  foldl_reframe _ o lg lk (fun w t => removeTableW_reframe w t o lg lk) ts w

theorem NoTargets.addLog {X : World} (h : NoTargets X) (lg : List LogEv) : NoTargets (X.addLog lg) := h

end World

/-- the rounds of the entity-removal callbacks of a batch: table by table, row by row -/
def tableRounds (m : ObsMgr) (ts : List Nat) (X : World) : List Round :=
  ts.flatMap fun t =>
    rowRounds (firing m Ev.onRemoveEntity (.entity (X.arch (X.tbl t).arch).mask))
      ((List.range (X.tbl t).len).map (X.tbl t).getEntity)

section
variable {run : ProbeRunner} {S : Probe → Prop} {rec : World → Nat → Ent → Probe → List LogEv}

/-- the removal loops of `RemoveEntities` on a world without relation targets -/
theorem opRemoveEntities_loop (ts : List Nat) (X : World) (hX : NoTargets X) :
      (forIn ts ([] : List Ent) (fun t (__s : List Ent) => (do
          let w ← M.get
          let __s ← forIn (List.range (w.tbl t).len) __s fun i (__s : List Ent) => (do
            let w_1 ← M.get
            if w_1.isTarget.getD ((w.tbl t).getEntity i).id false = true then do
              M.modify fun w_2 => { w_2 with
                entities := w_2.entities.modify ((w.tbl t).getEntity i).id fun x => (maxU32, x.snd)
                pool := w_2.pool.recycle ((w.tbl t).getEntity i) }
              pure (ForInStep.yield (__s ++ [(w.tbl t).getEntity i]))
            else do
              M.modify fun w_2 => { w_2 with
                entities := w_2.entities.modify ((w.tbl t).getEntity i).id fun x => (maxU32, x.snd)
                pool := w_2.pool.recycle ((w.tbl t).getEntity i) }
              pure (ForInStep.yield __s) : W (ForInStep (List Ent)))
          M.modify fun w => w.modTbl t Table.reset
          pure (ForInStep.yield __s) : W (ForInStep (List Ent)))) : W (List Ent)) X
        = .ok [] (removeTablesW X ts) := by
  erw [removeLoop_eq X.isTarget ts [] X rfl]
  rw [foldSt_noTargets hX]

/-- **`RemoveEntities(batch)` with observers** (equation; no callback function, no relation
    targets, the selected tables without relation columns): if `OnRemoveEntity` or
    `OnRemoveRelations` observers are registered the world is locked; then for every selected
    table, for every row, the `OnRemoveEntity` observers the documented rule selects for the
    table's mask are notified — ALL of them on the locked, otherwise unchanged world, before any
    entity is removed; then all entities are removed and the lock is released. -/
theorem opRemoveEntities_obs_eq (hro : ReadOnly run S rec) (fo : FilterObj) (extra : List RelID)
    (w : World) (hs : ScriptsIn w.obs S) (hok : ObsOK w.obs) (hl : w.isLocked = false)
    (hT : NoTargets w) {ts : List Nat} (hts : getBatchTables fo extra w = .ok ts w)
    (hnr : ∀ t ∈ ts, (w.tbl t).hasRelations = false)
    {l1 l2 : Lock} {b : Nat} (hL : LockCycle w.locks l1 b l2) :
    opRemoveEntities run fo extra false w = .ok ()
      ((removeTablesW w ts).reframe w.obs
        (roundsLog rec (tableRounds w.obs ts w) (w.withLocks l1) ++ w.log)
        (if w.obs.hasObservers Ev.onRemoveEntity || w.obs.hasObservers Ev.onRemoveRelations
          then l2 else w.locks)) := by
  have hnob : w.obs.hasObservers Ev.onRemoveEntity = false →
      ∀ r ∈ tableRounds w.obs ts w, r.2 = [] := by
    intro hE r hr
    simp only [tableRounds, rowRounds, List.mem_flatMap, List.mem_map] at hr
    obtain ⟨_, _, _, _, rfl⟩ := hr
    exact firing_nil_of_no_observers (hok.agg _) hE _
  -- every world from here on in the form `Z.reframe w.obs LG LK`; each guarded loop in one formula
  have hEnt : ∀ (LG : List LogEv) (LK : Lock), _ = Res.ok PUnit.unit (w.reframe w.obs
      (roundsLog rec (tableRounds w.obs ts w) (w.reframe w.obs LG LK) ++ LG) LK) :=
    fun LG LK => guardedRounds (rec := rec) hok Ev.onRemoveEntity
      (fun Y t => .entity (Y.arch (Y.tbl t).arch).mask)
      (fun Y t => (List.range (Y.tbl t).len).map (Y.tbl t).getEntity) (fun _ _ _ => rfl)
      (fun _ _ _ => rfl) (fun Y t e eo => fireRemoveEntity run e (Y.arch (Y.tbl t).arch).mask eo)
      (fun _ _ e eo => fireRemoveEntity_readOnly hro hs hok e _ eo) ts (w.reframe w.obs LG LK) rfl
  have hRel : ∀ (LG : List LogEv) (LK : Lock),
      (if w.obs.hasObservers Ev.onRemoveRelations = true then
        (forIn ts PUnit.unit (fun t (_ : PUnit) => (do
          let w ← M.get
          if (!(w.tbl t).hasRelations) = true then pure (ForInStep.yield PUnit.unit)
          else do
            fireRows (fun e eo => fireRemoveEntityRel run e (w.arch (w.tbl t).arch).mask eo)
              (List.map (w.tbl t).getEntity (List.range (w.tbl t).len))
            pure (ForInStep.yield PUnit.unit) : W (ForInStep PUnit))) : W PUnit)
       else pure PUnit.unit) (w.reframe w.obs LG LK) = .ok PUnit.unit (w.reframe w.obs LG LK) := by
    intro LG LK
    split
    · have key : ∀ (X : World) (l : List Nat), (∀ t ∈ l, (X.tbl t).hasRelations = false) →
          (forIn l PUnit.unit (fun t (_ : PUnit) => (do
            let w ← M.get
            if (!(w.tbl t).hasRelations) = true then pure (ForInStep.yield PUnit.unit)
            else do
              fireRows (fun e eo => fireRemoveEntityRel run e (w.arch (w.tbl t).arch).mask eo)
                (List.map (w.tbl t).getEntity (List.range (w.tbl t).len))
              pure (ForInStep.yield PUnit.unit) : W (ForInStep PUnit))) : W PUnit) X
            = .ok PUnit.unit X := by
        intro X l
        induction l with
        | nil => intro _; rfl
        | cons t l ih =>
          intro h
          rw [List.forIn_cons, M.bind_apply, M.bind_apply, M.get_apply]
          simp only [h t List.mem_cons_self, Bool.not_false, if_true, M.pure_apply]
          exact ih (fun t' ht' => h t' (List.mem_cons_of_mem _ ht'))
      exact key _ ts hnr
    · rfl
  have hRem := fun (LG : List LogEv) (LK : Lock) =>
    opRemoveEntities_loop ts (w.reframe w.obs LG LK) hT
  have htsL : ∀ (LG : List LogEv) (LK : Lock), getBatchTables fo extra (w.reframe w.obs LG LK)
      = .ok ts (w.reframe w.obs LG LK) := by
    intro LG LK
    have := frames_getBatchTables fo extra w w.obs LG LK
    rw [hts] at this
    exact this
  have hlock : ∀ c : Bool, (if c = true then lock else pure 0) w
      = .ok (if c then b else 0) (w.reframe w.obs w.log (if c then l1 else w.locks)) :=
    fun c => lockIf_eq hL c w w.obs w.log
  unfold opRemoveEntities
  simp only [ite_then_bind, ite_bind_same]
  simp only [M.bind_apply, checkLocked_unlocked w hl, M.get_apply, Bool.or_false, Bool.false_eq_true,
    if_false, M.pure_apply, hlock, htsL, hEnt, hRel, hRem, removeTablesW_reframe, List.forIn_nil,
    unlockIf_eq hL]
  cases hE : w.obs.hasObservers Ev.onRemoveEntity with
  | false => rw [roundsLog_nobody _ _ (hnob hE), roundsLog_nobody _ _ (hnob hE)]
  | true => rfl

end

end Ark
