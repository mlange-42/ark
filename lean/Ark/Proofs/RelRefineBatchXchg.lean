/-
  `Exchange` with relation targets (`OpRB.xchg`) and the exchange batch over relation tables
  (`OpRB.xchgb`) as steps of the machine with batch steps: the entry point with the pre-validation (a
  relation list that fails, and both component lists empty, are refused with the world unchanged), and
  the steps.
-/
import Ark.Proofs.RelExchangeBatchSpec
import Ark.Proofs.RelRefineBatchSet

section

/-! ## §1 the entry point with the pre-validation

The entry point of the exchange batch with the pre-validation: a relation list that fails it, and a
  call with both component lists empty, are refused with the world unchanged.
-/

set_option autoImplicit false

namespace Ark

open World Ark.Props.C01World QueryRel

namespace World

theorem opExchangeBatch_refused (run : ProbeRunner) (p : Path) (fo : FilterObj)
    (extra : List RelID) (add rem : List Comp) (rels : List RelID)
    (vals : Option (List (Comp × Val))) (w : World) {k : PanicKind}
    (h : relsVerdict w (checkMask p add) rels = some k) :
    opExchangeBatch run p fo extra add rem rels vals w = .panic k w := by
  have hpre : preCheck p add rels w = .panic k w := by rw [preCheck_eq, h]
  simp only [opExchangeBatch, bind, M.bind, hpre]

/-- a batch with both component lists empty is refused before anything is touched (by the
    pre-validation if the relation list fails it, else with `noComponents`) -/
theorem opExchangeBatch_noComponents (run : ProbeRunner) (p : Path) (fo : FilterObj)
    (extra : List RelID) (rels : List RelID) (vals : Option (List (Comp × Val))) (w : World)
    (hl : w.isLocked = false) :
    ∃ (k : PanicKind), opExchangeBatch run p fo extra [] [] rels vals w = .panic k w := by
  rcases preCheck_cases p [] rels w with h1 | ⟨k, h1⟩
  · refine ⟨.noComponents, ?_⟩
    simp only [opExchangeBatch, bind, M.bind, h1, exchangeBatch, checkLocked_unlocked w hl,
      M.assert, List.isEmpty_nil, Bool.and_self, Bool.not_true, Bool.false_eq_true, if_false]
  · exact ⟨k, by simp only [opExchangeBatch, bind, M.bind, h1]⟩

end World

end Ark

end

section

/-! ## §2 the steps

`Exchange` with relation targets (`OpRB.xchg`: `RelRefine3.xchg_base` with what `HInvRB` adds) and
  the exchange batch over relation tables (`AddBatch` / `RemoveBatch` / `ExchangeBatch`, callback
  `nil`; `OpRB.xchgb`) as steps of the machine.  A batch whose precondition fails is rejected with
  nothing changed (both lists empty: `noComponents`; a removed entity as target, a relation on a
  component that is not a relation component or not added: refused by the pre-validation); one whose
  precondition holds succeeds, the specification step is the fold of the single `Exchange` steps over
  the selection; `runOpsRB_xchgs`: the run of the single `xchg` steps is the sequence of single
  exchanges (for `xchgb_is_singles` of Ark/Props/C01RelBatch.lean).
-/

set_option autoImplicit false

namespace Ark

open World Ark.Props.C01World QueryRel

namespace RelRefineB

open RelRefine RelRefine2 RelRefine3
open Refine (Comps keys sortedIds writeComps zeros)

/-! ### the single `Exchange` -/

/-- the conclusion of the step lemma of the single `Exchange` -/
def XchgGoalRB (run : ProbeRunner) (s : St) (p : Path) (e : Ent) (add : List Comp) (vals : Comps)
    (rem : List Comp) (rels : Rels) : Prop :=
  (∃ fl', HInvRB (stepRB run s (.xchg p e add vals rem rels)) fl') ∧
  ((stepRB run s (.xchg p e add vals rem rels)).w.tables.length ≤ s.w.tables.length + 1 ∧
    (stepRB run s (.xchg p e add vals rem rels)).w.relationArchetypes.length ≤
      s.w.relationArchetypes.length + 1 ∧
    (stepRB run s (.xchg p e add vals rem rels)).w.entities.length = s.w.entities.length) ∧
  (guardXchg s p e add rels = true → ¬ preXchg s.ss e add rem rels →
    (∃ k, opExchange run p e add vals rem rels s.w = .panic k s.w) ∧
    stepRB run s (.xchg p e add vals rem rels) = s) ∧
  (guardXchg s p e add rels = true → preXchg s.ss e add rem rels →
    ∃ w', opExchange run p e add vals rem rels s.w = .ok () w')

theorem stepRB_xchg_rejected (run : ProbeRunner) {s : St} {p : Path} {e : Ent} {add : List Comp}
    {vals : Comps} {rem : List Comp} {rels : Rels} (hg : guardXchg s p e add rels = true)
    {k : PanicKind} (hop : opExchange run p e add vals rem rels s.w = .panic k s.w)
    (hnp : ¬ preXchg s.ss e add rem rels) : stepRB run s (.xchg p e add vals rem rels) = s :=
  stepBatch_panic run hg k (by simp only [execRB, hop]) (specXchg_of_not_pre _ _ _ _ _ _ hnp)

theorem step_xchg (run : ProbeRunner) {s : St} {fl : List Nat} (H : HInvRB s fl)
    (hfew : s.w.tables.length < maxU32) (hent : s.w.entities.length + 1 < 2 ^ 32)
    (p : Path) (e : Ent) (add : List Comp) (vals : Comps) (rem : List Comp) (rels : Rels) :
    XchgGoalRB run s p e add vals rem rels := by
  by_cases hg : guardXchg s p e add rels = true
  case neg =>
    have : stepRB run s (.xchg p e add vals rem rels) = s :=
      if_neg (show ¬ guardRB s (.xchg p e add vals rem rels) = true from hg)
    exact ⟨⟨fl, by rw [this]; exact H⟩, by rw [this]; exact ⟨Nat.le_succ _, Nat.le_succ _, rfl⟩,
      fun h => absurd h hg, fun h => absurd h hg⟩
  rcases xchg_base run H.hinv hfew hent vals rem hg with
    ⟨hnp, k, hop⟩ | ⟨hp, w', hop, hinv, post, qk, _⟩
  · have := stepRB_xchg_rejected run hg hop hnp
    exact ⟨⟨fl, by rw [this]; exact H⟩, by rw [this]; exact ⟨Nat.le_succ _, Nat.le_succ _, rfl⟩,
      fun _ _ => ⟨⟨k, hop⟩, this⟩, fun _ hp => absurd hp hnp⟩
  · have hstep : stepRB run s (.xchg p e add vals rem rels) =
        ⟨w', s.issued, specXchg s.ss e add vals rem rels⟩ :=
      stepBatch_ok run (op := .xchg p e add vals rem rels) hg w' (by simp only [execRB, hop])
    rw [XchgGoalRB, hstep]
    exact ⟨⟨fl, hinv, qk.rows H.rows, by
        show ∃ (lf : List Nat), Lock.LInv ⟨w'.locks, []⟩ lf
        rw [post.locks]; exact H.lock⟩,
      ⟨post.tablesLen, post.relArchs, post.entitiesLen⟩,
      fun _ hnp => absurd hp hnp, fun _ _ => ⟨w', hop⟩⟩

/-! ### specification level: the fold of the single `Exchange` steps -/

/-- the part of the precondition of `Exchange` that does not depend on the entity -/
def XchgGlobal (ss : SS) (add rem : List Comp) (rels : Rels) : Prop :=
  ¬ (add = [] ∧ rem = []) ∧ (∀ c ∈ add, c < ss.zst.length) ∧ RelsWF ss.isRel add rels ∧
    TargetsValid ss.ents rels

theorem xchgOK_of {ss : SS} {en : Entry} {add rem : List Comp} {rels : Rels}
    (hgl : XchgGlobal ss add rem rels) (hl : XchgLocal en add rem) : XchgOK ss en add rem rels :=
  ⟨⟨hgl.1, hl.1, hl.2.1, hl.2.2.1, fun c hc => ⟨hgl.2.1 c hc, hl.2.2.2 c hc⟩⟩, hgl.2.2.1, hgl.2.2.2⟩

/-! `specXchg` is a guarded update (`updIf`), `specXchgAll` their fold. -/

theorem xchgOK_keys (add rem : List Comp) (rels : Rels) (ss : SS) (E : Spec) (en : Entry)
    (hk : E.map (·.1) = ss.ents.map (·.1)) (h : XchgOK ss en add rem rels) :
    XchgOK { ss with ents := E } en add rem rels :=
  ⟨h.1, h.2.1, targetsValid_of_keys hk h.2.2⟩

theorem specXchg_zst (ss : SS) (e : Ent) (add : List Comp) (vals : Comps) (rem : List Comp)
    (rels : Rels) : (specXchg ss e add vals rem rels).zst = ss.zst ∧
      (specXchg ss e add vals rem rels).isRel = ss.isRel :=
  updIf_zst (P := fun ss en => XchgOK ss en add rem rels)
    (g := fun z => xchgEntry z add vals rem rels) ss e

theorem specXchgAll_zst (ss : SS) (add rem : List Comp) (rels : Rels) (es : List Ent) :
    (specXchgAll ss add rem rels es).zst = ss.zst ∧
      (specXchgAll ss add rem rels es).isRel = ss.isRel :=
  foldl_updIf_zst (P := fun ss en => XchgOK ss en add rem rels)
    (g := fun z => xchgEntry z add [] rem rels) es ss

theorem specXchgAll_ok (add rem : List Comp) (rels : Rels) (es : List Ent) (ss : SS)
    (hes : es.Nodup) (hall : ∀ e ∈ es, ∃ en, find ss.ents e = some en ∧ XchgOK ss en add rem rels) :
    (specXchgAll ss add rem rels es).ents =
      ss.ents.map fun x => if x.1 ∈ es then (x.1, xchgEntry ss.zst add [] rem rels x.2) else x :=
  foldl_updIf_ok (g := fun z => xchgEntry z add [] rem rels) (xchgOK_keys add rem rels) es ss hes
    hall

theorem specXchgAll_rej (add rem : List Comp) (rels : Rels) (es : List Ent) (ss : SS)
    (hall : ∀ e ∈ es, ∀ en, find ss.ents e = some en → ¬ XchgOK ss en add rem rels) :
    specXchgAll ss add rem rels es = ss :=
  foldl_updIf_rej (g := fun z => xchgEntry z add [] rem rels) es ss hall

theorem specXchgAll_frame (add rem : List Comp) (rels : Rels) (x : Ent) (es : List Ent) (ss : SS)
    (hx : x ∉ es) : find (specXchgAll ss add rem rels es).ents x = find ss.ents x :=
  foldl_updIf_frame (P := fun ss en => XchgOK ss en add rem rels)
    (g := fun z => xchgEntry z add [] rem rels) x es ss hx

theorem specXchgAll_perm {ss : SS} (add rem : List Comp) (rels : Rels) {es es' : List Ent}
    (hes : es.Nodup) (hes' : es'.Nodup)
    (hall : ∀ e ∈ es, ∃ en, find ss.ents e = some en ∧ XchgOK ss en add rem rels)
    (hmem : ∀ (e : Ent), e ∈ es ↔ e ∈ es') :
    specXchgAll ss add rem rels es = specXchgAll ss add rem rels es' :=
  foldl_updIf_perm (g := fun z => xchgEntry z add [] rem rels) (xchgOK_keys add rem rels) hes hes'
    hall hmem

/-! ### any world that exchanged on `es` realises the fold of the single exchanges -/

/-- **the exchange on a duplicate-free list of specified handles keeps the invariant**, whatever
    produced the world (`XchgAllPost`, pool and mask width kept) -/
theorem HInv.xchgAll {s : St} {fl : List Nat} (H : HInv s fl) {es : List Ent}
    {add rem : List Comp} {rels : Rels} {w' : World}
    (hsub : ∀ e ∈ es, e ∈ s.ss.ents.map (·.1))
    (hgl : XchgGlobal s.ss add rem rels)
    (hall : ∀ (e : Ent) (en : Entry), e ∈ es → (e, en) ∈ s.ss.ents → XchgLocal en add rem)
    (post : XchgAllPost s.w fl es add rem rels w')
    (hpool : w'.pool = s.w.pool) (hmax : w'.maxComps = s.w.maxComps) :
    HInv ⟨w', s.issued,
      ⟨s.ss.ents.map fun x => if x.1 ∈ es then (x.1, xchgEntry s.ss.zst add [] rem rels x.2) else x,
        s.ss.zst, s.ss.isRel⟩⟩ fl := by
  obtain ⟨hne, hreg, hwf, hv⟩ := hgl
  have hreg' : ∀ (c : Comp), c ∈ add → c < s.w.kinds.length := by rw [← H.zlen]; exact hreg
  refine HInv.mapAll H hsub post.tinv (by rw [post.unlocked]; exact H.unlocked) post.obs post.kinds
    hpool hmax (fun x en hxin hx0 => ?_) (fun j hj => post.frame j hj)
  obtain ⟨hremnd, hremhas, haddnd, haddnew⟩ := hall x en hxin hx0
  constructor
  · exact (H.ok x en hx0).xchg haddnd haddnew hreg' hwf (post.comps x hxin)
      (fun c v h1 h2 => by
        rw [post.kept x hxin c v h1 h2]; simp only [applyVals, List.foldl_nil, ite_self])
      (fun c hc => by
        rw [post.added x hxin c hc]; simp only [applyVals, List.foldl_nil, ite_self])
      (fun r hr => (post.targetIff x hxin r.comp r.target).mpr (Or.inr hr))
      (fun c t h1 h2 => (post.targetIff x hxin c t).mpr (Or.inl ⟨h2, h1⟩))
  · intro r hr
    rcases List.mem_append.mp
      (show r ∈ (en.rels.filter fun r => decide (r.comp ∉ rem)) ++ rels from hr) with h1 | h1
    · exact H.tgtsOK x en hx0 r (List.mem_filter.mp h1).1
    · exact hv r h1

/-! ### the batch step -/

theorem guard_xchgb {s : St} {p : Path} {f : Filter} {frels : Rels} {add rem : List Comp}
    {rels : Rels} (hg : guardRB s (.xchgb p f frels add rem rels) = true) :
    frelsExpr s.ss f frels = true ∧ (∀ c ∈ add, c < s.ss.zst.length) ∧
      RelsStep s.ss.isRel p add rels ∧ tgtsExpr s rels = true ∧
      ((add = [] ∧ rem = []) ∨ ∀ (x : Ent) (en : Entry), (x, en) ∈ s.ss.ents →
        entryMatches f frels en = true → XchgLocal en add rem) := by
  simp only [guardRB, Bool.and_eq_true, Bool.or_eq_true, List.all_eq_true, decide_eq_true_eq,
    List.isEmpty_iff, Bool.not_eq_true'] at hg
  refine ⟨hg.1.1.1.1, hg.1.1.1.2, hg.1.1.2, hg.1.2, ?_⟩
  rcases hg.2 with k | k
  · exact Or.inl k
  · right
    intro x en hx hm
    rcases k (x, en) hx with k1 | k1
    · rw [hm] at k1; cases k1
    · exact k1

theorem step_xchgb (run : ProbeRunner) {s : St} {fl : List Nat} (H : HInvRB s fl) (p : Path)
    (f : Filter) (frels : Rels) (add rem : List Comp) (rels : Rels)
    (hg : guardRB s (.xchgb p f frels add rem rels) = true)
    (hroom : Room s (.xchgb p f frels add rem rels)) :
    (¬ preRB s.ss (.xchgb p f frels add rem rels) →
      (∃ k, opExchangeBatch run p (foOf f frels) [] add rem rels none s.w = .panic k s.w) ∧
      stepRB run s (.xchgb p f frels add rem rels) = s) ∧
    (preRB s.ss (.xchgb p f frels add rem rels) →
      ∃ w' : World,
        opExchangeBatch run p (foOf f frels) [] add rem rels none s.w = .ok () w' ∧
        stepRB run s (.xchgb p f frels add rem rels) =
          ⟨w', s.issued, specStepRB s.ss [] (.xchgb p f frels add rem rels)⟩ ∧
        XchgAllPost s.w fl (selEnts s.w f frels) add rem rels w' ∧
        XchgAllMore s.w w' s.w.tables.length ∧
        specStepRB s.ss [] (.xchgb p f frels add rem rels) =
          specXchgAll s.ss add rem rels (selEnts s.w f frels) ∧
        (specStepRB s.ss [] (.xchgb p f frels add rem rels)).ents = (s.ss.ents.map fun x =>
          if x.1 ∈ matching s.ss f frels then (x.1, xchgEntry s.ss.zst add [] rem rels x.2)
          else x) ∧
        HInvRB (stepRB run s (.xchgb p f frels add rem rels)) fl) := by
  have h := H.hinv.tinv
  have HB := H.hinv
  obtain ⟨hgx, hreg, hst, hx, hcase⟩ := guard_xchgb hg
  obtain ⟨hrnd, hrmap, hrall⟩ := hst
  obtain ⟨hfew, hrows⟩ := hroom
  have hnd := HB.ginv.live_nodup
  obtain ⟨ts, hts, S, hsel, hiff, hids, hlen⟩ := sel_spec H hgx
  have hreg' : ∀ (c : Comp), c ∈ add → c < s.w.kinds.length := by rw [← HB.zlen]; exact hreg
  constructor
  · -- rejected
    intro hnp
    -- any panic that leaves the world unchanged will do, provided no match admits the single
    -- exchange: then the fold of the specification changes nothing either
    have hrej : ∀ {k : PanicKind},
        opExchangeBatch run p (foOf f frels) [] add rem rels none s.w = .panic k s.w →
        (∀ e ∈ matching s.ss f frels, ∀ en, find s.ss.ents e = some en →
          ¬ XchgOK s.ss en add rem rels) →
        (∃ k, opExchangeBatch run p (foOf f frels) [] add rem rels none s.w = .panic k s.w) ∧
          stepRB run s (.xchgb p f frels add rem rels) = s := by
      intro k hop hall
      refine ⟨⟨k, hop⟩, ?_⟩
      exact stepBatch_panic run hg k (by simp only [execRB, hop])
        (specXchgAll_rej add rem rels _ s.ss hall)
    -- a valid single step would make the precondition of the batch hold
    have hnone : ∀ e ∈ matching s.ss f frels, ∀ en, find s.ss.ents e = some en →
        ¬ XchgOK s.ss en add rem rels := by
      intro e _ en _ hok
      exact hnp ⟨hok.1.1, hok.2.1.2.1, hok.2.2⟩
    by_cases hne : add = [] ∧ rem = []
    · obtain ⟨rfl, rfl⟩ := hne
      obtain ⟨k, hop⟩ := opExchangeBatch_noComponents run p (foOf f frels) [] rels none s.w
        HB.unlocked
      exact hrej hop hnone
    · cases hvd : relsVerdict s.w (checkMask p add) rels with
      | some k =>
        exact hrej (opExchangeBatch_refused run p (foOf f frels) [] add rem rels none s.w hvd) hnone
      | none =>
        -- the pre-validation passes: then the precondition holds
        obtain ⟨hv, hrel, hin⟩ := HB.valid_of_verdict hx hvd
        exact absurd ⟨hne, fun r hr => ⟨by
          by_cases hp : p = .map1
          · exact hrmap hp r hr
          · exact hin hp r hr, hrel r hr⟩, hv⟩ hnp
  · -- accepted
    rintro ⟨hne, hrin, hv⟩
    -- the precondition of the single exchange in two parts: what does not depend on the entity
    -- (guard and `preRB`), and its component set, from the guard as not both lists are empty
    have hgl : XchgGlobal s.ss add rem rels := ⟨hne, hreg, ⟨hrnd, hrin, hrall⟩, hv⟩
    have hloc : ∀ (x : Ent) (en : Entry), (x, en) ∈ s.ss.ents → entryMatches f frels en = true →
        XchgLocal en add rem := by
      rcases hcase with k | k
      · exact absurd k hne
      · exact k
    -- the pre-validation passes, so the entry point is `exchangeBatch` itself (`heq`)
    have hrc : ∀ r ∈ rels, s.w.isRelComp r.comp = true := fun r hr => by
      rw [← HB.rget]; exact (hrin r hr).2
    have hval := HB.targets_alive hv
    have hpre : preCheck p add rels s.w = .ok () s.w :=
      preCheck_ok_of_mem p hval fun r hr =>
        ⟨hrc r hr, HB.reg256 (hreg' r.comp (hrin r hr).1), (hrin r hr).1⟩
    have heq := World.opExchangeBatch_rel_eq run p (foOf f frels) [] add rem rels none s.w hpre
    obtain ⟨l1, b, l2, hcyc, hl2, lf2, hl2inv⟩ := QueryExact.LockCycle.of_free H.lock
    -- the selection once more, for what `sel_spec` does not export: it is complete (`hokT`),
    -- every non-empty matching table is in `ts`
    have hr := relsTyped_of_expr HB hgx
    obtain ⟨ts2, hts2, _, hokT, _⟩ := getBatchTables_rel h (foOf f frels) [] rfl hr
    rw [hts] at hts2
    injection hts2 with e1 _
    subst e1
    have hokE : ∀ e ∈ selEnts s.w f frels, ∃ en, (e, en) ∈ s.ss.ents ∧
        XchgOK s.ss en add rem rels := by
      intro e he
      obtain ⟨en, hm, hmm⟩ := mem_matching.mp ((hiff e).mp he)
      exact ⟨en, hm, xchgOK_of hgl (hloc e en hm hmm)⟩
    -- `exchangeBatch_rel_full` asks the precondition on the mask of every non-empty selected
    -- table: read it off the entity in row 0, which is selected and has the table's mask
    have hpreM : ∀ (t : Nat), t < s.w.tables.length →
        TblMatch s.w (foOf f frels).filter ((foOf f frels).rels ++ []) t → (s.w.tbl t).len ≠ 0 →
        XchgPreM s.w (tmask s.w t) add rem rels := by
      intro t hlt hmatch hlen0
      have ht : t ∈ ts := hokT.complete t hlt hlen0 hmatch
      have hr0 : 0 < (s.w.tbl t).len := by omega
      have he : (s.w.tbl t).getEntity 0 ∈ selEnts s.w f frels := by
        rw [hsel]; exact mem_rows.mpr ⟨t, 0, ht, hr0, rfl⟩
      obtain ⟨en, hm, hok⟩ := hokE _ he
      have hxx := (h.link.row_live_id hlt hr0).2.2
      have hmk : s.w.maskOf ((s.w.tbl t).getEntity 0) = tmask s.w t := by
        simp only [maskOf, index_of_get hxx, tmask]
      rw [← hmk]
      exact (xchgPre_of_ok HB hm hok).toM
    obtain ⟨ts3, w', hts3, hb, pb, hlk, more⟩ := exchangeBatch_rel_full run h HB.unlocked HB.noObs
      (foOf f frels) [] rfl hr hne hpreM (HB.targets_in hv) hcyc hl2 hfew hrows
    rw [hts] at hts3
    injection hts3 with e1 _
    subst e1
    rw [← hsel] at pb
    have hop : opExchangeBatch run p (foOf f frels) [] add rem rels none s.w = .ok () w' := by
      rw [heq]; exact hb
    have hstep : stepRB run s (.xchgb p f frels add rem rels) = _ :=
      stepBatch_ok run hg w' (by simp only [execRB, hop])
    -- specification side: `matching` and `selEnts` have the same members, neither a duplicate, and
    -- every member passes, so the two folds agree (`hspec`) and have the closed form `hents`
    have hallM : ∀ e ∈ matching s.ss f frels, ∃ en, find s.ss.ents e = some en ∧
        XchgOK s.ss en add rem rels := by
      intro e he
      obtain ⟨en, hm, hmm⟩ := mem_matching.mp he
      exact ⟨en, find_of_mem hnd hm, xchgOK_of hgl (hloc e en hm hmm)⟩
    have hspec : specStepRB s.ss [] (.xchgb p f frels add rem rels) =
        specXchgAll s.ss add rem rels (selEnts s.w f frels) :=
      specXchgAll_perm add rem rels (matching_nodup hnd f frels) (nodup_of_ids hids) hallM
        (fun e => (hiff e).symm)
    have hents : (specStepRB s.ss [] (.xchgb p f frels add rem rels)).ents = (s.ss.ents.map fun x =>
        if x.1 ∈ matching s.ss f frels then (x.1, xchgEntry s.ss.zst add [] rem rels x.2)
        else x) :=
      specXchgAll_ok add rem rels _ s.ss (matching_nodup hnd f frels) hallM
    refine ⟨w', hop, hstep, pb, more, hspec, hents, ?_⟩
    rw [hstep]
    rw [SS.eq_mk hents (specXchgAll_zst s.ss add rem rels (matching s.ss f frels))]
    -- the postcondition restated over `matching` (same members as `selEnts`), the list the
    -- specification state now mentions and `HInv.xchgAll` is applied to
    have pbM : XchgAllPost s.w fl (matching s.ss f frels) add rem rels w' :=
      { pb with
        comps := fun e he => pb.comps e ((hiff e).mpr he)
        kept := fun e he => pb.kept e ((hiff e).mpr he)
        added := fun e he => pb.added e ((hiff e).mpr he)
        targetIff := fun e he => pb.targetIff e ((hiff e).mpr he)
        frame := fun j hj => pb.frame j (fun hh => hj (by
          obtain ⟨e, he, rfl⟩ := List.mem_map.mp hh
          exact List.mem_map.mpr ⟨e, (hiff e).mp he, rfl⟩)) }
    refine ⟨HInv.xchgAll HB (fun e he => matching_sub he) hgl ?_ pbM more.pool more.maxComps,
      ?_, lf2, by rw [hlk]; exact hl2inv⟩
    · intro e en he hm
      exact hloc e en hm ((mem_matching_of_mem hnd f frels hm).mp he)
    · exact more.rows H.rows

/-! ### the run of the single steps -/

theorem runOpsRB_xchgs (run : ProbeRunner) (p : Path) (add rem : List Comp) (rels : Rels) :
    ∀ (es : List Ent) (s : St) (w'' : World),
    (∀ e ∈ es, e ∈ s.issued) → (∀ c ∈ add, c < s.ss.zst.length) → RelsStep s.ss.isRel p add rels →
    tgtsExpr s rels = true → xchgSeq run p add rem rels es s.w = .ok () w'' →
    runOpsRB run s (es.map fun e => .xchg p e add [] rem rels) =
      ⟨w'', s.issued, specXchgAll s.ss add rem rels es⟩
  | [], s, w'', _, _, _, _, h => by
    simp only [xchgSeq, M.forM', pure, M.pure] at h
    injection h with _ hw
    subst hw
    rfl
  | e :: es, s, w'', hi, hreg, hst, hx, h => by
    simp only [xchgSeq, M.forM', bind, M.bind] at h
    cases hop : opExchange run p e add [] rem rels s.w with
    | panic k w1 => rw [hop] at h; cases h
    | ok u w1 =>
      rw [hop] at h
      have hg : guardRB s (.xchg p e add [] rem rels) = true :=
        guardXchg_iff.mpr ⟨⟨⟨hi e List.mem_cons_self, hreg⟩, hst⟩, hx⟩
      have hstep : stepRB run s (.xchg p e add [] rem rels) =
          ⟨w1, s.issued, specXchg s.ss e add [] rem rels⟩ :=
        stepBatch_ok run hg w1 (by simp only [execRB, hop])
      show runOpsRB run (stepRB run s (.xchg p e add [] rem rels))
        (es.map fun e => .xchg p e add [] rem rels) = _
      rw [hstep]
      have hz := specXchg_zst s.ss e add [] rem rels
      exact runOpsRB_xchgs run p add rem rels es ⟨w1, s.issued, specXchg s.ss e add [] rem rels⟩ w''
        (fun e' he' => hi e' (List.mem_cons_of_mem _ he'))
        (by show ∀ c ∈ add, c < (specXchg s.ss e add [] rem rels).zst.length; rw [hz.1]; exact hreg)
        (by show RelsStep (specXchg s.ss e add [] rem rels).isRel p add rels; rw [hz.2]; exact hst)
        hx h

end RelRefineB

end Ark

end

