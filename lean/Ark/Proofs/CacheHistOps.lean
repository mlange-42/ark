/-
  Property C05 over whole histories of the relation-free fragment: the filter-side invariant `FInv`
  (cache, relation index, agreement of the filter heap with the cache, component index, lock pool,
  cache ID pool) and the history machine with filter operations (`Op2`, `step2`, `HInv2`).  A
  successful entity operation has one of three shapes (`Evolves`, `exec_evolves`), each of which
  keeps `FInv`; the filter operations change only cache and filter heap (`SameButCF`).
-/
import Ark.Proofs.CacheKeep
import Ark.Proofs.FilterOps
import Ark.Proofs.QueryCached
import Ark.Proofs.Refine

set_option autoImplicit false

namespace Ark

open World RelRefine2

structure Quiet (w w' : World) : Prop where
  archetypes : w'.archetypes = w.archetypes
  cache : w'.cache = w.cache
  filters : w'.filters = w.filters
  componentIndex : w'.componentIndex = w.componentIndex
  locks : w'.locks = w.locks
  kinds : w'.kinds = w.kinds
  obs : w'.obs = w.obs

namespace Quiet

theorem refl (w : World) : Quiet w w := ⟨rfl, rfl, rfl, rfl, rfl, rfl, rfl⟩

theorem trans {a b c : World} (h1 : Quiet a b) (h2 : Quiet b c) : Quiet a c :=
  ⟨h2.archetypes.trans h1.archetypes, h2.cache.trans h1.cache, h2.filters.trans h1.filters,
    h2.componentIndex.trans h1.componentIndex, h2.locks.trans h1.locks, h2.kinds.trans h1.kinds,
    h2.obs.trans h1.obs⟩

theorem placedW (w : World) (t : Nat) (rt : Bool) : Quiet w (placedW w t rt) := by
  simp only [World.placedW]
  split <;> exact ⟨rfl, rfl, rfl, rfl, rfl, rfl, rfl⟩

theorem writeValsW (w : World) (e : Ent) (vals : List (Comp × Val)) :
    Quiet w (writeValsW w e vals) := ⟨rfl, rfl, rfl, rfl, rfl, rfl, rfl⟩

theorem moveRowW (w : World) (e : Ent) (oldT row newT newIndex : Nat) (keep : Mask) :
    Quiet w (moveRowW w e oldT row newT newIndex keep) := by
  unfold World.moveRowW
  dsimp only
  split <;> exact ⟨rfl, rfl, rfl, rfl, rfl, rfl, rfl⟩

theorem addMove (w : World) (e : Ent) (oldT row newT : Nat) (keep : Mask) :
    Quiet w (addMove w e oldT row newT keep) :=
  trans (b := w.setTbl newT ((w.tbl newT).add e).1) ⟨rfl, rfl, rfl, rfl, rfl, rfl, rfl⟩
    (moveRowW _ e oldT row newT _ keep)

theorem removeRowOf (w : World) (e : Ent) (t row : Nat) : Quiet w (removeRowOf w e t row) := by
  simp only [World.removeRowOf]
  split <;> exact ⟨rfl, rfl, rfl, rfl, rfl, rfl, rfl⟩

theorem copiedW (w : World) (t row idx : Nat) : Quiet w (copiedW w t row idx) :=
  ⟨rfl, rfl, rfl, rfl, rfl, rfl, rfl⟩

end Quiet

theorem Archetype.IndexInv.noRel_tgt {a : Archetype} {tgt tgt' : Nat → List Ent}
    (h : a.IndexInv tgt) (h0 : a.hasRelations = false) : a.IndexInv tgt' := by
  have hn : a.numRel = 0 := by simpa [Archetype.hasRelations] using h0
  exact
    { toStruct := h.toStruct
      toMapsInv := h.toMapsInv.congr
        (fun i hi => absurd hi (h.toStruct.no_rel hn i))
        (fun g t => by
          unfold Archetype.tgtP
          constructor
          · rintro ⟨_, i, hi, _⟩; exact absurd hi (h.toStruct.no_rel hn i)
          · rintro ⟨_, i, hi, _⟩; exact absurd hi (h.toStruct.no_rel hn i)) }

theorem RInv.quiet {w w' : World} (hR : RInv w) (hn : NoRelW w)
    (ha : w'.archetypes = w.archetypes) : RInv w' := by
  intro a A hA
  rw [ha] at hA
  exact (hR a A hA).noRel_tgt (hn.arch hA)

/-- **the filter heap agrees with the cache** (`reg`, `inj`: those of `HeapReg`); the component
    list of a typed filter object names registered components, all of which are in the filter's
    mask. -/
structure HeapOK (w : World) : Prop where
  reg : ∀ (f : Nat) (fo : FilterObj) (id : Nat), AL.find? w.filters f = some fo →
    fo.cache = some id →
    ∃ (e : CacheEntry), e ∈ w.cache.filters ∧ e.id = id ∧ e.filter = fo.filter ∧ e.rels = fo.rels
  inj : ∀ (f g : Nat) (fo go : FilterObj) (id : Nat), AL.find? w.filters f = some fo →
    AL.find? w.filters g = some go → fo.cache = some id → go.cache = some id → f = g
  typed : ∀ (f : Nat) (fo : FilterObj), AL.find? w.filters f = some fo → fo.typed = true →
    ∀ (c : Comp), c ∈ fo.ids → c < w.kinds.length ∧ fo.filter.mask.get c = true

theorem HeapOK.toReg {w : World} (h : HeapOK w) : HeapReg w := ⟨h.reg, h.inj⟩

structure FInv (w : World) : Prop where
  cache : CacheInv w
  rinv : RInv w
  heap : HeapOK w
  cidx : CIdxH w
  /-- the lock-bit pool is consistent and no bit is outstanding -/
  lock : ∃ (lf : List Nat), Lock.LInv ⟨w.locks, []⟩ lf
  pool : CachePoolOK w

theorem finv_init (cap rel : Nat) : FInv (World.init cap rel) where
  cache := cacheInv_init cap rel 256
  rinv := RInv.init cap rel 256
  heap := by
    refine ⟨?_, ?_, ?_⟩
    · intro f fo id h; cases h
    · intro f g fo go id h; cases h
    · intro f fo h; cases h
  cidx := CIdxH.init cap rel
  lock := ⟨[], Lock.linv_init⟩
  pool := ⟨rfl, fun id i h => by cases h⟩

/-- across a step that keeps the cache (`CKeep`), the registry and the lock: every shape of a
    successful entity operation but registration and `Reset` is one -/
theorem FInv.kept {w w' : World} (h : FInv w) (c : CKeep w w') (hr : RInv w') (hx : CIdxH w')
    (hk : w'.kinds = w.kinds) (hl : w'.locks = w.locks) : FInv w' where
  cache := c.cache h.cache
  rinv := hr
  heap := by
    refine ⟨fun f fo id hfo hc => ?_, by rw [c.filters]; exact h.heap.inj,
      by rw [c.filters, hk]; exact h.heap.typed⟩
    rw [c.filters] at hfo
    obtain ⟨e, hm, h1, h2, h3⟩ := h.heap.reg f fo id hfo hc
    obtain ⟨e', hm', g1, g2, g3⟩ := entry_of_cacheKeys c.keys hm
    exact ⟨e', hm', g1.trans h1, g2.trans h2, g3.trans h3⟩
  cidx := hx
  lock := by rw [hl]; exact h.lock
  pool := ⟨by rw [c.pool]; exact h.pool.avail, by rw [c.indices, c.pool]; exact h.pool.bound⟩

theorem FInv.quiet {w w' : World} (h : FInv w) (hn : NoRelW w) (hn' : NoRelW w')
    (q : Quiet w w') : FInv w' :=
  h.kept
    (CKeep.of_selected q.cache q.filters fun f rels t => by
      rw [hn.selected_iff, hn'.selected_iff, q.archetypes])
    (h.rinv.quiet hn q.archetypes)
    (h.cidx.congr q.kinds q.componentIndex (by rw [q.archetypes])
      (fun a _ => by rw [arch_congr q.archetypes]))
    q.kinds q.locks

structure FocStep (w w' : World) : Prop where
  shape : ∃ (w1 : World), FocShape w w1 w'
  sinv : SInv w'
  rinv : RInv w'
  kinds : w'.kinds = w.kinds
  untouched : Untouched w w'

theorem SInv.focStep {w w' : World} (h : SInv w) (hR : RInv w) {oldT : Nat} {startMask : Mask}
    {add : List Comp} {rels : List RelID} {r : Nat × Nat × Mask}
    (hstart : ∀ (c : Nat), startMask.get c = true → c < w.kinds.length)
    (hreg : ∀ (c : Comp), c ∈ add → c < w.kinds.length)
    (hok : World.findOrCreateTableAdd oldT startMask add rels w = .ok r w') : FocStep w w' := by
  have hs := h.foc_shape hstart hreg hok
  have hu := findOrCreateTableAdd_untouched hok
  obtain ⟨t, a, mask⟩ := r
  obtain ⟨_, fc, hR'⟩ := h.findOrCreateTableAdd_of_ok_rinv hR hstart hreg hok
  exact ⟨hs, fc.sinv, hR', fc.kinds, hu⟩

namespace FocShape

variable {w w1 w' : World}

theorem entries (s : FocShape w w1 w') :
    w'.cache.indices = w.cache.indices ∧ w'.cache.pool = w.cache.pool ∧
    ∀ (e : CacheEntry), e ∈ w.cache.filters →
      ∃ (e' : CacheEntry), e' ∈ w'.cache.filters ∧ e'.id = e.id ∧ e'.filter = e.filter ∧
        e'.rels = e.rels :=
  ⟨s.ckeep.indices, s.ckeep.pool, fun _ he => entry_of_cacheKeys s.ckeep.keys he⟩

end FocShape

theorem FInv.foc {w w' : World} (h : FInv w) (st : FocStep w w') : FInv w' := by
  obtain ⟨w1, s⟩ := st.shape
  exact h.kept s.ckeep st.rinv (s.cidx h.cidx) st.kinds st.untouched.locks

theorem FInv.reg {w w' : World} (h : FInv w) (hS : SInvMid w) {k : CompKind} {n : Nat}
    (hr : World.registerComponent k w = .ok n w') : FInv w' := by
  have hci := h.cidx.registerComponent hS hr
  have e := registerComponent_ok_eq hr
  subst e
  exact
    { cache := h.cache.congr rfl rfl rfl
      rinv := h.rinv.congr rfl rfl
      heap := by
        refine ⟨h.heap.reg, h.heap.inj, ?_⟩
        intro f fo hf ht c hc
        obtain ⟨h1, h2⟩ := h.heap.typed f fo hf ht c hc
        refine ⟨?_, h2⟩
        show c < (w.kinds ++ [k]).length
        rw [List.length_append]
        exact Nat.lt_add_right _ h1
      cidx := hci
      lock := h.lock
      pool := ⟨h.pool.avail, h.pool.bound⟩ }

/-- stated with what `Ark.Proofs.ShrinkInv` proves about the world after `Shrink` (`ShrinkRel`);
    relations allowed -/
theorem FInv.shrink {w w' : World} (h : FInv w) (r : ShrinkRel w w') (hr : RInv w')
    (hc : CacheInv w → CacheInv w') : FInv w' :=
  h.kept ⟨hc, r.cacheKeys, r.cacheIdx, r.cachePool, r.frame.filters⟩ hr
    (h.cidx.congr r.frame.kinds r.frame.componentIndex r.alen (fun a _ => (r.arch a).mask))
    r.frame.kinds r.frame.locks

/-- after `Reset` the cache is empty, every filter object is unregistered, the lock pool and the
    cache's ID pool start afresh -/
theorem FInv.reset {w : World} (h : FInv w) (hn : NoRelW w) : FInv (resetW w) := by
  obtain ⟨hc, hr, hp⟩ := cacheReset_core h.cache h.heap.toReg h.pool (resetW_cache w)
    (resetW_filters w)
  exact
    { cache := hc
      rinv := RInv.resetW hn.sinv h.rinv
      heap := by
        refine ⟨hr.reg, hr.inj, fun f fo hf ht c hcm => ?_⟩
        rw [resetW_filters, cacheReset_filters h.cache h.heap.toReg] at hf
        obtain ⟨fo0, hf0, rfl⟩ := Option.map_eq_some_iff.mp hf
        rw [resetW_kinds]
        exact h.heap.typed f fo0 hf0 ht c hcm
      cidx := by
        refine h.cidx.congr (resetW_kinds w) (resetW_componentIndex w)
          (by rw [resetW_archetypes hn.sinv, List.length_map]) (fun a ha => ?_)
        rw [resetW_arch hn.sinv a, resetArchOf_nonRel (hn.arch (aget_of_lt ha))]
      lock := by
        obtain ⟨lf, g⟩ := h.lock
        rw [resetW_locks]
        exact ⟨[], Lock.reset_inv ⟨w.locks, []⟩ lf g⟩
      pool := hp }

inductive Grow (w : World) : World → Prop
  | same : Grow w w
  | foc {w' : World} (st : FocStep w w') : Grow w w'
  | reg {k : CompKind} {n : Nat} {w' : World} (hk : k.isRel = false)
      (hr : World.registerComponent k w = .ok n w') : Grow w w'

/-- **the shapes of a successful entity operation**, seen from the filter side: nothing, one
    `findOrCreateTableAdd` or one `registerComponent` (`Grow`), followed by row-level steps
    (`Quiet`: they touch neither archetypes, cache, filter heap, component index, locks, registry
    nor observers); `Shrink` (tables, archetypes and cache change as `ShrinkRel` allows); `Reset`.
    All eleven operations of the machine of `Ark.Proofs.Refine` are of these shapes
    (`exec_evolves`). -/
inductive Evolves (w : World) : World → Prop
  | rows {w1 w' : World} (g : Grow w w1) (q : Quiet w1 w') : Evolves w w'
  | shrink {w' : World} (r : ShrinkRel w w') (hs : SInv w') (hr : RInv w')
      (hc : CacheInv w → CacheInv w') : Evolves w w'
  | reset : Evolves w (resetW w)

theorem Evolves.of_does {w w' : World} {fl : List Nat} (h : CInv w fl) (hR : RInv w)
    (hl : w.isLocked = false) (hrows : ∀ t : Nat, (w.tbl t).len + 1 < 2 ^ 32)
    (d : Does w fl w') : Evolves w w' := by
  cases d with
  | reg hk hr => exact .rows (.reg hk hr) (Quiet.refl _)
  | created e vals hok _ hreg =>
    exact .rows (.foc (h.sinv.focStep hR (startMask := Mask.empty)
      (fun c hcc => by simp [Mask.empty, Mask.get] at hcc) hreg hok))
      ((Quiet.placedW _ _ false).trans (Quiet.writeValsW _ _ _))
  | created0 => exact .rows .same (Quiet.placedW _ _ _)
  | moved vals _ _ _ hok _ hm _ =>
    exact .rows (.foc (h.sinv.focStep hR (add := []) hm (fun _ hcc => nomatch hcc) hok))
      ((Quiet.addMove _ _ _ _ _ _).trans (Quiet.writeValsW _ _ _))
  | written e vals => exact .rows .same (Quiet.writeValsW _ _ _)
  | removed => exact .rows .same (Quiet.removeRowOf _ _ _ _)
  | copied => exact .rows .same ((Quiet.placedW _ _ _).trans (Quiet.copiedW _ _ _ _))
  | shrink hop =>
    rename_i bounded b
    rw [opShrink_eq bounded w hl] at hop
    cases hop
    have hb : RowsBounded w := fun t => by have := hrows t; omega
    obtain ⟨hs, hr'⟩ := shrinkPure_sinv h.sinv hR bounded
    exact .shrink (shrinkPure_rel h.idx hb bounded).2 hs hr' fun hcc =>
      (shrinkPure_induct (fun w' => SInv w' ∧ RInv w' ∧ CacheInv w')
        (fun _ t ⟨a, b, c⟩ => shrinkStep_struct a b c t) bounded w ⟨h.sinv, hR, hcc⟩).2.2
  | reset hop =>
    rw [opReset_eq w hl] at hop
    cases hop
    exact .reset

open Refine in
theorem exec_evolves (run : ProbeRunner) {s : Refine.St} {fl : List Nat} (H : Refine.HInv s fl)
    (hR : RInv s.w) (hent : s.w.entities.length + 1 < 2 ^ 32) {op : Refine.Op}
    (hg : Refine.guard s op = true) {r : Option Ent} {w' : World}
    (hex : Refine.exec run s.w op = .ok r w') : Evolves s.w w' := by
  -- the call succeeded, so its precondition held
  have hp : Refine.pre s.ss op := Classical.byContradiction fun hnp => by
    rw [Refine.exec_rej run H hg hnp] at hex; cases hex
  exact Evolves.of_does H.cinv hR H.unlocked (H.hrows hent) (Refine.exec_does run H hp hex)

open Ark.Props.C01World in
theorem Refine.HInv.setCF {s : Refine.St} {fl : List Nat} (H : Refine.HInv s fl) (c : Cache)
    (f : AL FilterObj) :
    Refine.HInv ⟨{ s.w with cache := c, filters := f }, s.issued, s.ss⟩ fl :=
  H.of_kinds (QueryExact.CInv.of_cache H.cinv rfl rfl rfl rfl rfl ⟨rfl, rfl, rfl, rfl⟩) H.ginv
    H.unlocked H.nodup rfl rfl fun e cs hm =>
      (H.ok e cs hm).frame ⟨fun c => valOf_congr rfl rfl _ c, compsOf_congr rfl rfl _⟩

/-- `w'` is `w` but for `cache` and `filters`.  With `w'` on both sides, `rfl` proves it for every
    `{ w with cache := c, filters := F }`, and `rw` turns a goal about `w'` into one about such a record. -/
def SameButCF (w w' : World) : Prop := w' = { w with cache := w'.cache, filters := w'.filters }

theorem SameButCF.refl (w : World) : SameButCF w w := rfl

theorem Refine.HInv.sameButCF {s : Refine.St} {fl : List Nat} (H : Refine.HInv s fl) {w' : World}
    (h : SameButCF s.w w') : Refine.HInv ⟨w', s.issued, s.ss⟩ fl := by
  rw [h]; exact H.setCF _ _

theorem FInv.ofCacheHeap {w w2 : World} (h : FInv w) (hA : w2.archetypes = w.archetypes)
    (hT : w2.tables = w.tables) (hK : w2.kinds = w.kinds)
    (hCI : w2.componentIndex = w.componentIndex) (hL : w2.locks = w.locks)
    (hcache : CacheInv w2) (hheap : HeapOK w2) (hpool : CachePoolOK w2) : FInv w2 where
  cache := hcache
  rinv := h.rinv.congr hA hT
  heap := hheap
  cidx := h.cidx.congr hK hCI (by rw [hA]) (fun a _ => by rw [arch_congr hA])
  lock := by rw [hL]; exact h.lock
  pool := hpool

theorem FInv.setFilters {w : World} (h : FInv w) (F : AL FilterObj)
    (hheap : HeapOK { w with filters := F }) : FInv { w with filters := F } :=
  h.ofCacheHeap rfl rfl rfl rfl rfl (h.cache.congr rfl rfl rfl) hheap ⟨h.pool.avail, h.pool.bound⟩

namespace CacheHist

/-- what a client can construct: a fresh (unregistered) filter object; for a typed filter the
    component list consists of registered components and the mask contains them (`FilterN` is
    built from its type parameters). -/
def guardF (w : World) (fo : FilterObj) : Bool :=
  fo.cache.isNone &&
    (!fo.typed || fo.ids.all fun c => decide (c < w.kinds.length) && fo.filter.mask.get c)

/-- the `filter` line of the driver: the typed constructor validates the fixed relations; on
    success the object is stored under label `f` (replacing what was there) -/
def defFilter (f : Nat) (fo : FilterObj) (w : World) : World :=
  match (if fo.typed then preCheckTyped fo.filter.mask fo.rels else pure ()) w with
  | .ok _ w' => { w' with filters := AL.insert w'.filters f fo }
  | .panic _ w' => w'

theorem defFilter_cases (f : Nat) (fo : FilterObj) (w : World) :
    defFilter f fo w = w ∨ defFilter f fo w = { w with filters := AL.insert w.filters f fo } := by
  unfold defFilter
  cases ht : fo.typed with
  | false => exact Or.inr rfl
  | true =>
    simp only [if_true]
    rcases preCheckTyped_cases fo.filter.mask w fo.rels with h | ⟨k, h⟩
    · rw [h]; exact Or.inr rfl
    · rw [h]; exact Or.inl rfl

/-- the filter object the driver builds from a `filter` line -/
def mkFilterObj (ids : List Comp) (wo : Option (List Comp)) (excl typed : Bool)
    (rels : List RelID) : FilterObj :=
  let f : Filter := { mask := Mask.ofList ids }
  let f := match wo with | some l => if l.isEmpty then f else f.withoutList l | none => f
  let f := if excl then f.exclusive else f
  { filter := f, ids, rels, typed }

theorem mkFilterObj_mask (ids : List Comp) (wo : Option (List Comp)) (excl typed : Bool)
    (rels : List RelID) : (mkFilterObj ids wo excl typed rels).filter.mask = Mask.ofList ids := by
  unfold mkFilterObj
  cases wo with
  | none => cases excl <;> rfl
  | some l =>
    cases hl : l.isEmpty <;> cases excl <;>
      simp [hl, Filter.withoutList, Filter.exclusive]

theorem guardF_mkFilterObj {w : World} (hk : w.kinds.length ≤ 256) (ids : List Comp)
    (wo : Option (List Comp)) (excl typed : Bool) (rels : List RelID)
    (hreg : ∀ (c : Comp), c ∈ ids → c < w.kinds.length) :
    guardF w (mkFilterObj ids wo excl typed rels) = true := by
  have hc : (mkFilterObj ids wo excl typed rels).cache = none := rfl
  have hi : (mkFilterObj ids wo excl typed rels).ids = ids := rfl
  simp only [guardF, hc, Option.isNone_none, Bool.true_and, Bool.or_eq_true, Bool.not_eq_true',
    List.all_eq_true, Bool.and_eq_true, decide_eq_true_eq, mkFilterObj_mask, hi]
  refine Or.inr fun c hcm => ⟨hreg c hcm, ?_⟩
  rw [Mask.get_ofList]
  have h256 : c < 256 := Nat.lt_of_lt_of_le (hreg c hcm) hk
  simp [hcm, h256]

end CacheHist

theorem FInv.defFilter {w : World} (h : FInv w) (f : Nat) (fo : FilterObj)
    (hg : CacheHist.guardF w fo = true) : FInv (CacheHist.defFilter f fo w) := by
  rcases CacheHist.defFilter_cases f fo w with he | he
  · rw [he]; exact h
  · rw [he]
    simp only [CacheHist.guardF, Bool.and_eq_true, Option.isNone_iff_eq_none, Bool.or_eq_true,
      Bool.not_eq_true', List.all_eq_true, decide_eq_true_eq] at hg
    obtain ⟨hc, hty⟩ := hg
    have hr : HeapReg { w with filters := AL.insert w.filters f fo } :=
      h.heap.toReg.insert rfl (fun _ he _ => he) (fun id hid => by rw [hc] at hid; cases hid)
    refine h.setFilters _ ⟨hr.reg, hr.inj, fun g go hgo ht => ?_⟩
    rcases AL.find?_insert_elim hgo with ⟨_, rfl⟩ | ⟨_, hg'⟩
    · rcases hty with hty | hty
      · rw [hty] at ht; cases ht
      · exact hty
    · exact h.heap.typed g go hg' ht

def World.foAt (w : World) (f : Nat) : FilterObj := (AL.find? w.filters f).getD {}

/-- a typed object stays typed-correct when only its `cache` field changes -/
theorem HeapOK.typed_insert {w : World} (h : HeapOK w) (f : Nat) (c : Option Nat) :
    ∀ (g : Nat) (go : FilterObj),
      AL.find? (AL.insert w.filters f { w.foAt f with cache := c }) g = some go → go.typed = true →
      ∀ (x : Comp), x ∈ go.ids → x < w.kinds.length ∧ go.filter.mask.get x = true :=
  heapStatic_insert (fun fo => fo.typed = true → ∀ (x : Comp), x ∈ fo.ids →
      x < w.kinds.length ∧ fo.filter.mask.get x = true)
    (fun _ hfo => hfo) (fun _ x hx => by cases hx) h.typed

theorem FInv.filterRegister {w : World} (h : FInv w) (hn : NoRelW w) (f : Nat) :
    FInv (opFilterRegister f w).state ∧ SameButCF w (opFilterRegister f w).state := by
  cases hc : (w.foAt f).cache with
  | some id0 =>
    rw [opFilterRegister_registered f w hc]
    exact ⟨h, SameButCF.refl w⟩
  | none =>
    obtain ⟨ts, w', hop, rfl, hci, hr, hp⟩ := filterRegister_core h.cache h.heap.toReg h.pool
      (hn.tablesInv h.rinv) f hc (hn.relsOK _ _)
    rw [hop]
    exact ⟨h.ofCacheHeap rfl rfl rfl rfl rfl hci ⟨hr.reg, hr.inj, h.heap.typed_insert f _⟩ hp, rfl⟩

theorem FInv.filterUnregister {w : World} (h : FInv w) (f : Nat) :
    FInv (opFilterUnregister f w).state ∧ SameButCF w (opFilterUnregister f w).state := by
  cases hc : (w.foAt f).cache with
  | none =>
    rw [opFilterUnregister_unregistered f w hc]
    exact ⟨h, SameButCF.refl w⟩
  | some id =>
    obtain ⟨F, I, w', hop, rfl, hci, hr, hp, _⟩ :=
      filterUnregister_core h.cache h.heap.toReg h.pool f hc
    rw [hop]
    exact ⟨h.ofCacheHeap rfl rfl rfl rfl rfl hci ⟨hr.reg, hr.inj, h.heap.typed_insert f _⟩ hp, rfl⟩

namespace CacheHist

open Refine

/-- the operations: those of the entity machine, plus the three filter operations -/
inductive Op2
  /-- an operation of `Ark.Refine` (`reg`, `new p`, `new0`, `add p`, `rem p`, `xchg p`, `set`,
      `del`, `copy`, `shrink`, `reset`) -/
  | base (op : Refine.Op)
  /-- a filter object is constructed and stored under label `f` (the driver's `filter` line) -/
  | fdef (f : Nat) (fo : FilterObj)
  /-- `FilterN.Register` on the object under label `f` -/
  | freg (f : Nat)
  /-- `FilterN.Unregister` on the object under label `f` -/
  | funreg (f : Nat)
  deriving Repr

/-- one step.  Filter operations leave the ghost history and the specification alone; a panic
    keeps the state the model reached (Go `recover`). -/
def step2 (run : ProbeRunner) (s : St) : Op2 → St
  | .base op => Refine.step run s op
  | .fdef f fo => if guardF s.w fo = true then { s with w := defFilter f fo s.w } else s
  | .freg f => { s with w := (opFilterRegister f s.w).state }
  | .funreg f => { s with w := (opFilterUnregister f s.w).state }

def runOps2 (run : ProbeRunner) (s : St) (ops : List Op2) : St := ops.foldl (step2 run) s

def reach2 (run : ProbeRunner) (cap rel : Nat) (ops : List Op2) : St :=
  runOps2 run (St.init cap rel) ops

/-- **the inductive invariant of the machine with filters**: the invariant of the entity machine
    (`HInv` ⊇ `CInv` ⊇ `SInv`, `IdxInv`) and the filter-side invariant (`CacheInv`, `RInv`,
    `HeapOK`, `CIdxH`, lock pool, cache ID pool).  `TablesInv` follows (`HInv2.tablesInv`). -/
structure HInv2 (s : St) (fl : List Nat) : Prop where
  base : HInv s fl
  finv : FInv s.w

theorem hinv2_init (cap rel : Nat) : HInv2 (St.init cap rel) [] :=
  ⟨hinv_init cap rel, finv_init cap rel⟩

namespace HInv2

variable {s : St} {fl : List Nat}

theorem noRelW (H : HInv2 s fl) : NoRelW s.w := H.base.cinv.noRelW

theorem cacheInv (H : HInv2 s fl) : CacheInv s.w := H.finv.cache

theorem tablesInv (H : HInv2 s fl) : TablesInv s.w := H.noRelW.tablesInv H.finv.rinv

theorem relsOK (H : HInv2 s fl) (f : Filter) (rels : List RelID) : RelsOK s.w f rels :=
  H.noRelW.relsOK f rels

end HInv2

theorem sameButCF_sizes {w w' : World} (h : SameButCF w w') :
    w'.tables = w.tables ∧ w'.entities = w.entities := by
  unfold SameButCF at h
  exact ⟨by rw [h], by rw [h]⟩

theorem finv_step (run : ProbeRunner) {s : St} {fl fl1 : List Nat} (H : HInv2 s fl)
    (hent : s.w.entities.length + 1 < 2 ^ 32) (op : Refine.Op)
    (G : StepGoal run s op) (H1 : HInv (Refine.step run s op) fl1) :
    FInv (Refine.step run s op).w := by
  obtain ⟨_, _, _, g4, g5, _⟩ := G
  by_cases hg : Refine.guard s op = true
  case neg =>
    have : Refine.step run s op = s := by rw [Refine.step, if_neg hg]
    rw [this]; exact H.finv
  have hw : (Refine.step run s op).w = (exec run s.w op).state := by rw [step_of_guard hg]
  rcases Classical.em (pre s.ss op) with hp | hnp
  · obtain ⟨r, w', hex⟩ := g5 hg hp
    have hw' : (Refine.step run s op).w = w' := by rw [hw, hex]; rfl
    have hn' : NoRelW w' := by rw [← hw']; exact H1.cinv.noRelW
    rw [hw']
    cases exec_evolves run H.base H.finv.rinv hent hg hex with
    | rows hgrow hq =>
      cases hgrow with
      | same => exact H.finv.quiet H.noRelW hn' hq
      | foc st =>
        rename_i w1
        have hn1 : NoRelW w1 := ⟨st.sinv, by rw [st.kinds]; exact H.base.cinv.noRelKinds⟩
        exact (H.finv.foc st).quiet hn1 hn' hq
      | reg hk hr =>
        rename_i w1 _ _
        have hn1 : NoRelW w1 := (H.base.cinv.registerComponent hk hr).1.noRelW
        exact (H.finv.reg H.base.cinv.sinv.toSInvMid hr).quiet hn1 hn' hq
    | shrink r hs hr hc => exact H.finv.shrink r hr hc
    | reset => exact H.finv.reset H.noRelW
  · obtain ⟨k, hex⟩ := g4 hg hnp
    have hw' : (Refine.step run s op).w = s.w := by rw [hw, hex]; rfl
    rw [hw']; exact H.finv

theorem step2_inv (run : ProbeRunner) {s : St} {fl : List Nat} (H : HInv2 s fl)
    (hfew : s.w.tables.length < maxU32) (hent : s.w.entities.length + 1 < 2 ^ 32) (op : Op2) :
    (∃ fl', HInv2 (step2 run s op) fl') ∧
    (step2 run s op).w.tables.length ≤ s.w.tables.length + 1 ∧
    (step2 run s op).w.entities.length ≤ s.w.entities.length + 1 := by
  have cf : ∀ (w' : World), FInv w' → SameButCF s.w w' →
      (∃ fl', HInv2 ⟨w', s.issued, s.ss⟩ fl') ∧ w'.tables.length ≤ s.w.tables.length + 1 ∧
      w'.entities.length ≤ s.w.entities.length + 1 := by
    intro w' hf hs
    obtain ⟨h1, h2⟩ := sameButCF_sizes hs
    exact ⟨⟨fl, H.base.sameButCF hs, hf⟩, by rw [h1]; exact Nat.le_succ _,
      by rw [h2]; exact Nat.le_succ _⟩
  cases op with
  | base op =>
    have G := step_goal run H.base hfew hent op
    obtain ⟨⟨fl1, h1⟩, g1, g2, _, _, _⟩ := id G
    exact ⟨⟨fl1, h1, finv_step run H hent op G h1⟩, g1, g2⟩
  | fdef f fo =>
    by_cases hg : guardF s.w fo = true
    · simp only [step2, if_pos hg]
      refine cf _ (H.finv.defFilter f fo hg) ?_
      rcases defFilter_cases f fo s.w with he | he
      · rw [he]; exact SameButCF.refl _
      · rw [he]; rfl
    · simp only [step2, if_neg hg]
      exact ⟨⟨fl, H⟩, Nat.le_succ _, Nat.le_succ _⟩
  | freg f =>
    obtain ⟨hf, hs⟩ := H.finv.filterRegister H.noRelW f
    exact cf _ hf hs
  | funreg f =>
    obtain ⟨hf, hs⟩ := H.finv.filterUnregister f
    exact cf _ hf hs

theorem run2_inv (run : ProbeRunner) (ops : List Op2) : ∀ (s : St) (fl : List Nat), HInv2 s fl →
    s.w.tables.length + ops.length ≤ maxU32 → s.w.entities.length + ops.length < 2 ^ 32 →
    ∃ fl', HInv2 (runOps2 run s ops) fl' := fun s fl h hb1 hb2 =>
  (run_of_step (step2 run) (·.w.tables.length) (·.w.entities.length) (fun _ s => ∃ fl, HInv2 s fl)
    (fun _ _ op ⟨_, h⟩ hf he => step2_inv run h hf he op) ops 0 s ⟨fl, h⟩ hb1 hb2).1

theorem reach2_inv (run : ProbeRunner) (cap rel : Nat) (ops : List Op2)
    (hlen : ops.length < 2 ^ 32 - 2) : ∃ fl, HInv2 (reach2 run cap rel ops) fl :=
  run2_inv run ops _ [] (hinv2_init cap rel)
    (init_fits cap rel hlen).1 (init_fits cap rel hlen).2

theorem reach2_snoc (run : ProbeRunner) (cap rel : Nat) (ops : List Op2) (op : Op2) :
    reach2 run cap rel (ops ++ [op]) = step2 run (reach2 run cap rel ops) op := by
  simp only [reach2, runOps2, List.foldl_append, List.foldl_cons, List.foldl_nil]

end CacheHist

end Ark
