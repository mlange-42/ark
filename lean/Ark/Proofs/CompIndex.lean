/-
  The component index `storage.componentIndex`, and the typed walk that uses it.

  A typed filter with type parameters (`FilterN`, `N ≥ 1`) does not walk all archetypes: it picks
  the RARE component of its type parameters (`registry.rareComponent`: the one with the fewest
  archetypes) and walks `componentIndex[rare]`.  That this list contains every archetype the
  filter can match is the invariant `CIdx`: one entry per registered component, a duplicate-free
  list of exactly the archetypes whose mask has the bit.  Only `registerComponent` and
  `createArchetype` write the index; everything else is a frame (`CIFrame`).
-/
import Ark.Proofs.QueryExact

set_option autoImplicit false

namespace Ark

open World

/-! ## 1. the invariant -/

structure CIdx (w : World) : Prop where
  len : w.componentIndex.length = w.kinds.length
  nodup : ∀ c : Nat, (w.componentIndex.getD c []).Nodup
  mem : ∀ c a : Nat, c < w.kinds.length →
    (a ∈ w.componentIndex.getD c [] ↔ a < w.archetypes.length ∧ (w.arch a).mask.get c = true)

/-- frame condition for `CIdx` -/
structure CIFrame (w w' : World) : Prop where
  ci : w'.componentIndex = w.componentIndex
  kinds : w'.kinds = w.kinds
  alen : w'.archetypes.length = w.archetypes.length
  masks : ∀ a : Nat, (w'.arch a).mask = (w.arch a).mask

theorem CIFrame.refl (w : World) : CIFrame w w := ⟨rfl, rfl, rfl, fun _ => rfl⟩

theorem CIFrame.trans {a b c : World} (h1 : CIFrame a b) (h2 : CIFrame b c) : CIFrame a c :=
  ⟨h2.ci.trans h1.ci, h2.kinds.trans h1.kinds, h2.alen.trans h1.alen,
    fun x => (h2.masks x).trans (h1.masks x)⟩

theorem CIFrame.of_archs {w w' : World} (hci : w'.componentIndex = w.componentIndex)
    (hk : w'.kinds = w.kinds) (ha : w'.archetypes = w.archetypes) : CIFrame w w' :=
  ⟨hci, hk, by rw [ha], fun a => by rw [arch_congr ha]⟩

theorem CIdx.of_frame {w w' : World} (h : CIdx w) (f : CIFrame w w') : CIdx w' where
  len := by rw [f.ci, f.kinds]; exact h.len
  nodup := by rw [f.ci]; exact h.nodup
  mem := by
    intro c a hc
    rw [f.ci, f.alen, f.masks]
    rw [f.kinds] at hc
    exact h.mem c a hc

theorem CIdx.init (cap rel : Nat) (maxComps : Nat := 256) : CIdx (World.init cap rel maxComps) where
  len := rfl
  nodup := by intro c; show (([] : List (List Nat)).getD c []).Nodup; simp
  mem := by
    intro c a hc
    have : (World.init cap rel maxComps).kinds.length = 0 := rfl
    omega

theorem CIdx.lt_of_mem {w : World} (h : CIdx w) {c a : Nat}
    (ha : a ∈ w.componentIndex.getD c []) : c < w.kinds.length ∧ a < w.archetypes.length := by
  rcases Nat.lt_or_ge c w.kinds.length with hc | hc
  · exact ⟨hc, ((h.mem c a hc).mp ha).1⟩
  · rw [List.getD_eq_getElem?_getD, List.getElem?_eq_none (by rw [h.len]; exact hc)] at ha
    cases ha

/-! ## 2. `registerComponent` -/

theorem World.registerComponent_ok_eq {k : CompKind} {w w' : World} {n : Nat}
    (h : registerComponent k w = .ok n w') :
    w' = { w with kinds := w.kinds ++ [k], archCount := w.archCount ++ [0],
                  componentIndex := w.componentIndex ++ [[]] } := by
  unfold registerComponent at h
  simp only at h
  split at h
  · cases h
  · split at h
    · cases h
    · injection h with _ h2; exact h2.symm

theorem CIdx.registerComponent {w w' : World} (h : CIdx w)
    (hreg : ∀ (a : Nat) (A : Archetype), w.archetypes[a]? = some A →
      ∀ (c : Nat), A.mask.get c = true → c < w.kinds.length)
    {k : CompKind} {n : Nat} (hr : World.registerComponent k w = .ok n w') : CIdx w' := by
  rw [registerComponent_ok_eq hr]
  -- the new entry is empty, as is the entry of a component outside the registry
  have hget : ∀ c : Nat, (w.componentIndex ++ [[]]).getD c [] = w.componentIndex.getD c [] := by
    intro c
    simp only [List.getD_eq_getElem?_getD]
    rcases Nat.lt_or_ge c w.componentIndex.length with hc | hc
    · rw [List.getElem?_append_left hc]
    · rw [List.getElem?_append_right hc, List.getElem?_eq_none hc]
      cases c - w.componentIndex.length <;> rfl
  refine ⟨?_, ?_, ?_⟩
  · show (w.componentIndex ++ [[]]).length = (w.kinds ++ [k]).length
    rw [List.length_append, List.length_append, h.len]; rfl
  · intro c
    show ((w.componentIndex ++ [[]]).getD c []).Nodup
    rw [hget]; exact h.nodup c
  · intro c a _
    show a ∈ (w.componentIndex ++ [[]]).getD c [] ↔
      a < w.archetypes.length ∧ (w.arch a).mask.get c = true
    rw [hget]
    rcases Nat.lt_or_ge c w.kinds.length with hlt | hge
    · exact h.mem c a hlt
    · constructor
      · intro ha; exact absurd (h.lt_of_mem ha).1 (Nat.not_lt.mpr hge)
      · rintro ⟨ha, hg⟩
        exact absurd (hreg a _ (aget_of_lt ha) c hg) (Nat.not_lt.mpr hge)

/-! ## 3. `createArchetype` -/

namespace World

/-- the `componentIndex` part of the registration loop of `createArchetype` -/
def ciStep (id : Nat) (ci : List (List Nat)) (c : Comp) : List (List Nat) :=
  ci.modify c (· ++ [id])

theorem foldl_caStep_ci (id : Nat) : ∀ (cs : List Comp) (w : World),
    (cs.foldl (caStep id) w).componentIndex = cs.foldl (ciStep id) w.componentIndex
  | [], _ => rfl
  | c :: cs, w => by rw [List.foldl_cons, List.foldl_cons, foldl_caStep_ci id cs]; rfl

theorem createArchetypeW_ci (w : World) (mask : Mask) :
    (createArchetypeW w mask).componentIndex =
      (mask.toList w.kinds.length).foldl (ciStep w.archetypes.length) w.componentIndex := by
  unfold createArchetypeW
  simp only
  split
  · exact foldl_caStep_ci _ _ _
  · exact foldl_caStep_ci _ _ _

theorem foldl_ciStep_length (id : Nat) : ∀ (cs : List Comp) (ci : List (List Nat)),
    (cs.foldl (ciStep id) ci).length = ci.length
  | [], _ => rfl
  | c :: cs, ci => by
    rw [List.foldl_cons, foldl_ciStep_length id cs]; simp only [ciStep, List.length_modify]

theorem foldl_ciStep_getD (id : Nat) : ∀ (cs : List Comp) (ci : List (List Nat)) (c : Nat),
    cs.Nodup → (cs.foldl (ciStep id) ci).getD c [] =
      if c ∈ cs ∧ c < ci.length then ci.getD c [] ++ [id] else ci.getD c [] := by
  intro cs
  induction cs with
  | nil => intro ci c _; simp
  | cons x cs ih =>
    intro ci c hnd
    obtain ⟨hx, hnd'⟩ := List.nodup_cons.mp hnd
    rw [List.foldl_cons, ih _ c hnd']
    have hlen : (ciStep id ci x).length = ci.length := by simp only [ciStep, List.length_modify]
    have hget : (ciStep id ci x).getD c [] =
        if x = c ∧ c < ci.length then ci.getD c [] ++ [id] else ci.getD c [] := by
      simp only [ciStep, List.getD_eq_getElem?_getD, List.getElem?_modify]
      by_cases hxc : x = c
      · subst hxc
        rcases Nat.lt_or_ge x ci.length with hlt | hge
        · simp [hlt]
        · simp [Nat.not_lt.mpr hge]
      · cases ci[c]? <;> simp [hxc]
    rw [hlen, hget]
    by_cases hc : c ∈ cs
    · have hxc : x ≠ c := fun hh => hx (hh ▸ hc)
      simp [hc, hxc]
    · by_cases hxc : x = c
      · subst hxc; simp [hc]
      · have : ¬ c = x := fun hh => hxc hh.symm
        simp [hc, hxc, this]

end World

theorem CIdx.createArchetypeW {w : World} (h : CIdx w) (mask : Mask) :
    CIdx (World.createArchetypeW w mask) := by
  have harchs : (World.createArchetypeW w mask).archetypes = w.archetypes ++ [newArch w mask] :=
    createArchetypeW_proj (·.archetypes) (fun _ _ _ => rfl) (fun _ _ => rfl) w mask
  have hk : (World.createArchetypeW w mask).kinds = w.kinds :=
    createArchetypeW_proj (·.kinds) (fun _ _ _ => rfl) (fun _ _ => rfl) w mask
  have hci := createArchetypeW_ci w mask
  have hnd := Mask.toList_nodup mask w.kinds.length
  have hget : ∀ c : Nat, (World.createArchetypeW w mask).componentIndex.getD c [] =
      if c < w.kinds.length ∧ mask.get c = true then
        w.componentIndex.getD c [] ++ [w.archetypes.length] else w.componentIndex.getD c [] := by
    intro c
    rw [hci, foldl_ciStep_getD _ _ _ c hnd]
    simp only [Mask.mem_toList, h.len]
    by_cases h1 : c < w.kinds.length ∧ mask.get c = true
    · rw [if_pos ⟨h1, h1.1⟩, if_pos h1]
    · rw [if_neg (fun hh => h1 hh.1), if_neg h1]
  have hold : ∀ c a : Nat, a ∈ w.componentIndex.getD c [] → a < w.archetypes.length :=
    fun c a ha => (h.lt_of_mem ha).2
  have harch_old : ∀ a : Nat, a < w.archetypes.length → (World.createArchetypeW w mask).arch a = w.arch a := by
    intro a ha
    simp only [arch, harchs, List.getD_eq_getElem?_getD, List.getElem?_append_left ha]
  have harch_new : ((World.createArchetypeW w mask).arch w.archetypes.length).mask = mask := by
    have : (World.createArchetypeW w mask).arch w.archetypes.length = newArch w mask := by
      apply arch_of_get; rw [harchs]; exact List.getElem?_concat_length
    rw [this]; rfl
  have halen : (World.createArchetypeW w mask).archetypes.length = w.archetypes.length + 1 := by
    rw [harchs]; simp
  refine ⟨?_, ?_, ?_⟩
  · rw [hci, foldl_ciStep_length, hk]; exact h.len
  · intro c
    rw [hget]
    split
    · rw [List.nodup_append]
      refine ⟨h.nodup c, by simp, ?_⟩
      intro a ha b hb hab
      simp only [List.mem_singleton] at hb
      have := hold c a ha
      omega
    · exact h.nodup c
  · intro c a hc
    rw [hk] at hc
    have hmem : a ∈ (World.createArchetypeW w mask).componentIndex.getD c [] ↔
        a ∈ w.componentIndex.getD c [] ∨ (mask.get c = true ∧ a = w.archetypes.length) := by
      rw [hget]
      split
      · rename_i h1; simp [h1.2]
      · rename_i h1
        have : ¬ mask.get c = true := fun hh => h1 ⟨hc, hh⟩
        simp [this]
    rw [hmem, h.mem c a hc, halen]
    constructor
    · rintro (⟨h1, h2⟩ | ⟨h1, rfl⟩)
      · exact ⟨by omega, by rw [harch_old a h1]; exact h2⟩
      · exact ⟨by omega, by rw [harch_new]; exact h1⟩
    · rintro ⟨h1, h2⟩
      rcases Nat.lt_or_ge a w.archetypes.length with hlt | hge
      · exact Or.inl ⟨hlt, by rw [← harch_old a hlt]; exact h2⟩
      · have : a = w.archetypes.length := by omega
        subst this
        rw [harch_new] at h2
        exact Or.inr ⟨h2, rfl⟩

theorem CIdx.findOrCreateArch {w w' : World} (h : CIdx w) {mask : Mask} {a : Nat}
    (ha : World.findOrCreateArch mask w = .ok a w') : CIdx w' := by
  rcases findOrCreateArch_ok_cases ha with rfl | rfl
  · exact h
  · exact h.createArchetypeW mask

/-! ## 4. frames: table creation and the row-moving transformers -/

namespace World

theorem setArch_ciFrame (w : World) (a : Nat) (A : Archetype) (hA : A.mask = (w.arch a).mask) :
    CIFrame w (w.setArch a A) := by
  refine ⟨rfl, rfl, by simp [setArch], ?_⟩
  intro b
  simp only [arch, setArch, List.getD_eq_getElem?_getD, List.getElem?_set]
  by_cases hab : a = b
  · subst hab
    rcases Nat.lt_or_ge a w.archetypes.length with hlt | hge
    · simp only [if_true, hlt, Option.getD_some]
      rw [hA]; simp only [arch, List.getD_eq_getElem?_getD]
    · simp [Nat.not_lt.mpr hge]
  · simp [hab]

theorem modArch_ciFrame (w : World) (a : Nat) (f : Archetype → Archetype)
    (hf : ∀ A : Archetype, (f A).mask = A.mask) : CIFrame w (w.modArch a f) :=
  setArch_ciFrame w a _ (hf _)

theorem setTbl_ciFrame (w : World) (t : Nat) (T : Table) : CIFrame w (w.setTbl t T) :=
  ⟨rfl, rfl, rfl, fun _ => rfl⟩

theorem modTbl_ciFrame (w : World) (t : Nat) (f : Table → Table) : CIFrame w (w.modTbl t f) :=
  ⟨rfl, rfl, rfl, fun _ => rfl⟩

/-- `placedW` touches `tables`, `pool`, `entities` and `isTarget` only -/
theorem placedW_keep {β : Type} (p : World → β)
    (hp : ∀ (w : World) (ts : List Table) (pl : Pool) (es : List (Nat × Nat)) (it : List Bool),
      p { w with tables := ts, pool := pl, entities := es, isTarget := it } = p w)
    (w : World) (t : Nat) (rt : Bool) : p (placedW w t rt) = p w := by
  rw [placedW_eq]; exact hp w _ _ _ _

/-- `removeRowOf` touches `tables`, `pool` and `entities` only -/
theorem removeRowOf_keep {β : Type} (p : World → β)
    (hp : ∀ (w : World) (ts : List Table) (pl : Pool) (es : List (Nat × Nat)),
      p { w with tables := ts, pool := pl, entities := es } = p w)
    (w : World) (e : Ent) (t row : Nat) : p (removeRowOf w e t row) = p w := by
  rw [removeRowOf_eq, unplace_eq]; exact hp w _ _ _

theorem placedW_ciFrame (w : World) (t : Nat) (rt : Bool) : CIFrame w (placedW w t rt) :=
  CIFrame.of_archs (placedW_keep (·.componentIndex) (fun _ _ _ _ _ => rfl) w t rt)
    (placedW_fields w t rt).1 (placedW_fields w t rt).2.1

theorem addMove_ciFrame (w : World) (e : Ent) (oldT row newT : Nat) (keep : Mask) :
    CIFrame w (addMove w e oldT row newT keep) := by
  apply CIFrame.of_archs
  · simp only [addMove, moveRowW]; split <;> rfl
  · exact (addMove_fields w e oldT row newT keep).2.1
  · exact (addMove_fields w e oldT row newT keep).2.2.1

theorem removeRowOf_ciFrame (w : World) (e : Ent) (t row : Nat) :
    CIFrame w (removeRowOf w e t row) :=
  CIFrame.of_archs (removeRowOf_keep (·.componentIndex) (fun _ _ _ _ => rfl) w e t row)
    (removeRowOf_fields w e t row).1 (removeRowOf_fields w e t row).2.1

theorem writeValsW_ciFrame (w : World) (e : Ent) (vals : List (Comp × Val)) :
    CIFrame w (writeValsW w e vals) := modTbl_ciFrame _ _ _

end World

theorem World.createTable_ciFrame {a : Nat} {rels : List RelID} {w w' : World} {t : Nat}
    (hct : World.createTable a rels w = .ok t w') : CIFrame w w' :=
  ⟨(createTable_sameFrame hct).componentIndex, (createTable_sameFrame hct).kinds,
    (createTable_archRel hct).1, fun b => ((createTable_archRel hct).2 b).mask⟩

theorem CIdx.createTable {w w' : World} (h : CIdx w) {a : Nat} {rels : List RelID} {t : Nat}
    (hct : World.createTable a rels w = .ok t w') : CIdx w' :=
  h.of_frame (createTable_ciFrame hct)

/-! ## 5. the table lookups -/

theorem CIdx.lookups :
    (∀ {oldT : Nat} {startMask : Mask} {add : List Comp} {rels : List RelID} {w w' : World}
        {r : Nat × Nat × Mask},
        World.findOrCreateTableAdd oldT startMask add rels w = .ok r w' → CIdx w → CIdx w') ∧
    (∀ {oldT : Nat} {startMask : Mask} {rem : List Comp} {w w' : World}
        {r : Nat × Nat × Mask × Bool},
        World.findOrCreateTableRemove oldT startMask rem w = .ok r w' → CIdx w → CIdx w') ∧
    (∀ {oldT : Nat} {startMask : Mask} {add rem : List Comp} {rels : List RelID} {w w' : World}
        {r : Nat × Nat × Mask × Bool},
        World.findOrCreateTable oldT startMask add rem rels w = .ok r w' → CIdx w → CIdx w') :=
  lookup_induct (fun w w' => CIdx w → CIdx w') (fun h1 h2 h => h2 (h1 h))
    (fun ha h => h.findOrCreateArch ha) (fun hct h => h.createTable hct)

theorem CIdx.findOrCreateTableAdd {w w' : World} (h : CIdx w) {oldT : Nat} {startMask : Mask}
    {add : List Comp} {rels : List RelID} {r : Nat × Nat × Mask}
    (hok : World.findOrCreateTableAdd oldT startMask add rels w = .ok r w') : CIdx w' :=
  CIdx.lookups.1 hok h

/-- the lookup of `exchange` (not used by the operations of the history machine) -/
theorem CIdx.findOrCreateTable {w w' : World} (h : CIdx w) {oldT : Nat} {startMask : Mask}
    {add rem : List Comp} {rels : List RelID} {r : Nat × Nat × Mask × Bool}
    (hok : World.findOrCreateTable oldT startMask add rem rels w = .ok r w') : CIdx w' :=
  CIdx.lookups.2.2 hok h

/-! ## 6. the rare component -/

namespace World

theorem rareComponent_go_mem (w : World) : ∀ (ids : List Comp) (best : Comp) (bc : Option Nat),
    rareComponent.go w best bc ids = best ∨ rareComponent.go w best bc ids ∈ ids := by
  intro ids
  induction ids with
  | nil => intro best bc; left; rfl
  | cons c rest ih =>
    intro best bc
    unfold rareComponent.go
    cases bc with
    | none => exact Or.inr (List.mem_cons.mpr (ih c _))
    | some m =>
      simp only
      split
      · exact Or.inr (List.mem_cons.mpr (ih c _))
      · exact (ih best (some m)).imp_right (List.mem_cons_of_mem _)

/-- `registry.rareComponent(ids)` is one of the `ids` -/
theorem rareComponent_mem (w : World) {ids : List Comp} (hne : ids ≠ []) :
    w.rareComponent ids ∈ ids := by
  cases ids with
  | nil => exact absurd rfl hne
  | cons c rest =>
    show rareComponent.go w 0 none (c :: rest) ∈ c :: rest
    unfold rareComponent.go
    exact List.mem_cons.mpr (rareComponent_go_mem w rest c _)

end World

/-! ## 7. the typed walk -/

namespace QueryExact

open Drain

/-- the filter requires each of the type parameters of the filter object (true of every `FilterN`
    by construction: `ids` are the type parameters and `mask` is built from them) -/
def FilterOK (fo : FilterObj) : Prop := ∀ c ∈ fo.ids, fo.filter.mask.get c = true

/-- the archetype list of a component the filter requires is good for the walk.  (For an
    unregistered component the list is empty, and so is the set of matching archetypes: every
    mask bit is a registered component, `SInvMid.maskReg`.) -/
theorem ArchsOK.rare {w : World} (hx : CIdx w)
    (hreg : ∀ (a : Nat) (A : Archetype), w.archetypes[a]? = some A →
      ∀ (c : Nat), A.mask.get c = true → c < w.kinds.length)
    (f : Filter) {c : Comp} (hreq : f.mask.get c = true) : ArchsOK w f (w.archList (some c)) where
  nodup := hx.nodup c
  lt := fun a ha => (hx.lt_of_mem ha).2
  complete := by
    intro a ha hm
    have hg := ((Filter.matchesMask_iff f _).mp hm).1 c hreq
    have hc := hreg a _ (aget_of_lt ha) c hg
    exact (hx.mem c a hc).mpr ⟨ha, hg⟩

theorem ArchsOK.of_filterOK {w : World} (hx : CIdx w)
    (hreg : ∀ (a : Nat) (A : Archetype), w.archetypes[a]? = some A →
      ∀ (c : Nat), A.mask.get c = true → c < w.kinds.length)
    (fo : FilterObj) (hok : FilterOK fo) :
    ArchsOK w fo.filter (w.archList (rareOf fo w)) := by
  unfold rareOf
  split
  · rename_i ht
    have hne : fo.ids ≠ [] := by
      intro hh; rw [hh] at ht; simp at ht
    exact ArchsOK.rare hx hreg fo.filter (hok _ (rareComponent_mem w hne))
  · exact ArchsOK.all w fo.filter

/-- **all unregistered filter objects**: under `CInv` and `CIdx`, for a filter object
    whose mask requires its type parameters, `drain` visits exactly the matching alive entities,
    each once. -/
theorem drain_exact {w : World} {fl : List Nat} (h : CInv w fl) (hx : CIdx w) (fo : FilterObj)
    (hc : fo.cache = none) (hok : FilterOK fo) {l1 l2 : Lock} {b : Nat}
    (hL : LockCycle w.locks l1 b l2) :
    ∃ q visits, QueryExactOn w fl fo (w.withLocks l1) q visits (w.withLocks l2) :=
  drain_exact_of_archs h fo hc hL (ArchsOK.of_filterOK hx h.sinv.maskReg fo hok)

/-- **the typed walk with a rare component** (`fo.typed = true`, `fo.ids ≠ []`): the
    query walks `componentIndex[rare]`.  (That the type parameters are registered is not needed:
    see `ArchsOK.rare`.) -/
theorem drain_exact_typed {w : World} {fl : List Nat} (h : CInv w fl) (hx : CIdx w)
    (fo : FilterObj) (hc : fo.cache = none) (_ht : fo.typed = true) (_hne : fo.ids ≠ [])
    (hreq : ∀ c ∈ fo.ids, fo.filter.mask.get c = true)
    {l1 l2 : Lock} {b : Nat} (hL : LockCycle w.locks l1 b l2) :
    ∃ q visits, QueryExactOn w fl fo (w.withLocks l1) q visits (w.withLocks l2) :=
  drain_exact h hx fo hc hreq hL

end QueryExact
end Ark
