/-
  C06 at world level: the add / remove / exchange batches with a callback that writes values into
  every moved row, what the callback records, and the comparison of the batches (with and without
  callback) with `Exchange` applied to every selected entity.
-/
import Ark.Proofs.BatchExchangeSpec
set_option autoImplicit false
namespace Ark
open Ark.Props.C01World
namespace World

/-! ## the callback of the exchange batches -/

/-- what writing `vs` into the rows `start … start+n-1` of table `t` guarantees -/
structure RowsWrittenPost (X : World) (fl : List Nat) (t start n : Nat) (vs : List (Comp × Val))
    (X' : World) : Prop where
  cinv : CInv X' fl
  rowsLive : RowsLive X'
  pool : X'.pool = X.pool
  kinds : X'.kinds = X.kinds
  maxComps : X'.maxComps = X.maxComps
  archetypes : X'.archetypes = X.archetypes
  entities : X'.entities = X.entities
  tablesLen : X'.tables.length = X.tables.length
  locks : X'.locks = X.locks
  log : X'.log = X.log
  ents : ∀ t' : Nat, (X'.tbl t').ents = (X.tbl t').ents ∧ (X'.tbl t').len = (X.tbl t').len ∧
    (X'.tbl t').ids = (X.tbl t').ids
  others : ∀ t' : Nat, t' ≠ t → X'.tbl t' = X.tbl t'
  wrote : ∀ i : Nat, i < n →
    compsOf X' ((X.tbl t).getEntity (start + i)).id = compsOf X ((X.tbl t).getEntity (start + i)).id ∧
    ∀ c : Comp, valOf X' ((X.tbl t).getEntity (start + i)).id c =
      (valOf X ((X.tbl t).getEntity (start + i)).id c).map (written X vs c)
  frame : ∀ j : Nat, (∀ i : Nat, i < n → ((X.tbl t).getEntity (start + i)).id ≠ j) → SameEnt X X' j

theorem writeRows_post {X : World} {fl : List Nat} (h : CInv X fl) (hR : RowsLive X) {t start : Nat}
    (ht : t < X.tables.length) (vs : List (Comp × Val)) : ∀ n : Nat, start + n ≤ (X.tbl t).len →
    RowsWrittenPost X fl t start n vs (writeRows X t start n vs)
  | 0, _ =>
    { cinv := h, rowsLive := hR, pool := rfl, kinds := rfl, maxComps := rfl, archetypes := rfl,
      entities := rfl, tablesLen := rfl, locks := rfl, log := rfl,
      ents := fun _ => ⟨rfl, rfl, rfl⟩, others := fun _ _ => rfl,
      wrote := (fun i hi => absurd hi (Nat.not_lt_zero _)),
      frame := fun _ _ => ⟨fun _ => rfl, rfl⟩ }
  | n + 1, hn => by
    -- the last row is written on `Y`, the world after the first `n` rows; `ip` is what holds of `Y`
    have ip := writeRows_post (start := start) h hR ht vs n (by omega)
    rw [writeRows_succ]
    generalize hY : writeRows X t start n vs = Y at ip
    have htY : t < Y.tables.length := by rw [ip.tablesLen]; exact ht
    have hrowY : start + n < (Y.tbl t).len := by rw [(ip.ents t).2.1]; omega
    -- row `start + n` of `Y` holds the handle it held in `X`, live and indexed at this very row:
    -- writing the row is `writeValsW` on that handle, and `CInv.writeVals` speaks for it (`wp`)
    have hge : (Y.tbl t).getEntity (start + n) = (X.tbl t).getEntity (start + n) := by
      simp only [Table.getEntity, (ip.ents t).1]
    obtain ⟨a1, a2, a3, a4, a5⟩ := row_handle_live ip.cinv ip.rowsLive htY hrowY
    rw [hge] at a1 a2 a3 a4 a5
    have hWR : writeRow Y t (start + n) vs =
        writeValsW Y ((X.tbl t).getEntity (start + n)) vs := by
      simp only [writeValsW, index_of_get a4, writeRow]
    have wp := ip.cinv.writeVals a1 a2 a3 a5 vs
    rw [← hWR] at wp
    -- a write through the component pointers keeps `ents`, `len` and `ids` of every table
    have hwrel := writeVals_writeRel (Y.tbl t) (start + n) vs hrowY
    have htblt : (writeRow Y t (start + n) vs).tbl t =
        vs.foldl (fun T (cv : Comp × Val) => T.setComp cv.1 (start + n) cv.2) (Y.tbl t) :=
      writeRow_tbl_self htY _ _
    have hents : ∀ t' : Nat, ((writeRow Y t (start + n) vs).tbl t').ents = (X.tbl t').ents ∧
        ((writeRow Y t (start + n) vs).tbl t').len = (X.tbl t').len ∧
        ((writeRow Y t (start + n) vs).tbl t').ids = (X.tbl t').ids := by
      intro t'
      by_cases htt : t' = t
      · subst htt
        rw [htblt, hwrel.ents, hwrel.len, hwrel.ids]; exact ip.ents t'
      · rw [writeRow_tbl_ne Y (Ne.symm htt)]; exact ip.ents t'
    -- the rows written before hold other IDs than the last one (`row_inj` in `X`): each side is
    -- in the other's frame
    have hrowne : ∀ i : Nat, i < n →
        ((X.tbl t).getEntity (start + i)).id ≠ ((X.tbl t).getEntity (start + n)).id := by
      intro i hi heq
      have := h.idx.row_inj (get_of_lt ht) (get_of_lt ht) (by omega) (by omega) heq
      omega
    exact
      { cinv := wp.cinv
        rowsLive := by
          intro t' r ht' hr
          rw [wp.tablesLen] at ht'
          have he' := hents t'
          have hy := ip.ents t'
          have hr' : r < (Y.tbl t').len := by rw [hy.2.1, ← he'.2.1]; exact hr
          have := ip.rowsLive t' r ht' hr'
          simp only [Table.getEntity, he'.1, hy.1] at this ⊢
          rw [wp.pool]; exact this
        pool := wp.pool.trans ip.pool
        kinds := wp.kinds.trans ip.kinds
        maxComps := wp.maxComps.trans ip.maxComps
        archetypes := ip.archetypes
        entities := ip.entities
        tablesLen := wp.tablesLen.trans ip.tablesLen
        locks := ip.locks
        log := ip.log
        ents := hents
        others := fun t' ht' => by rw [writeRow_tbl_ne Y (Ne.symm ht')]; exact ip.others t' ht'
        wrote := by
          intro i hi
          rcases Nat.lt_succ_iff_lt_or_eq.mp hi with hi' | rfl
          -- an earlier row: `ip`, carried over the last write by its frame; the last row: carried
          -- from `X` to `Y` by the frame of `ip`, then written (`wp.vals`, `wp.absent`)
          · obtain ⟨w1, w2⟩ := ip.wrote i hi'
            have hfr := wp.frame _ (hrowne i hi')
            exact ⟨hfr.2.trans w1, fun c => by rw [hfr.1 c]; exact w2 c⟩
          · have hfr := ip.frame _ (fun i' hi' heq => hrowne i' hi' heq)
            refine ⟨wp.comps.trans hfr.2, fun c => ?_⟩
            cases hv : valOf X ((X.tbl t).getEntity (start + i)).id c with
            | none =>
              rw [wp.absent c (by rw [hfr.1 c]; exact hv)]; rfl
            | some v =>
              rw [wp.vals c v (by rw [hfr.1 c]; exact hv), ip.kinds]; rfl
        frame := by
          intro j hj
          have h1 := ip.frame j (fun i hi => hj i (Nat.lt_succ_of_lt hi))
          exact h1.trans (wp.frame j (fun heq => hj n (Nat.lt_succ_self n) heq.symm)) }

/-- the values a batch callback writes (`none`: no callback) -/
def valsOf : Option (List (Comp × Val)) → List (Comp × Val)
  | none => []
  | some vs => vs

/-- the callback records of one table move, newest first -/
def stepEvents (W : World) (b : BatchTable) : Option (List (Comp × Val)) → List LogEv
  | none => []
  | some vs => fnEvents (exchangeTableW W b.oldT b.newT) b.newT (W.tbl b.newT).len vs (W.tbl b.oldT).len

theorem rowsLive_tableMoved {W W' : World} {fl : List Nat} {oldT newT : Nat} (hR : RowsLive W)
    (ho : oldT < W.tables.length) (hn : newT < W.tables.length)
    (tp : TableMovedPost W fl oldT newT W') : RowsLive W' := by
  intro t r ht hr
  rw [tp.tablesLen] at ht
  rw [tp.pool]
  by_cases h1 : t = oldT
  · subst h1; rw [tp.srcEmpty] at hr; exact absurd hr (Nat.not_lt_zero _)
  · by_cases h2 : t = newT
    · subst h2
      rw [tp.dstLen] at hr
      rw [tp.dstRows r hr]
      split
      · rename_i hlt; exact hR t r hn hlt
      · exact hR oldT _ ho (by omega)
    · rw [tp.others t h1 h2] at hr ⊢
      exact hR t r ht hr

/-- what one iteration of the move loop guarantees (`vs` the values the callback writes) -/
structure TableStepPost (W : World) (fl : List Nat) (oldT newT : Nat) (vs : List (Comp × Val))
    (W' : World) : Prop where
  cinv : CInv W' fl
  rowsLive : RowsLive W'
  pool : W'.pool = W.pool
  kinds : W'.kinds = W.kinds
  maxComps : W'.maxComps = W.maxComps
  archetypes : W'.archetypes = W.archetypes
  tablesLen : W'.tables.length = W.tables.length
  entitiesLen : W'.entities.length = W.entities.length
  locks : W'.locks = W.locks
  moved : ∀ k : Nat, k < (W.tbl oldT).len →
    compsOf W' ((W.tbl oldT).getEntity k).id = some (W.tbl newT).ids ∧
    ∀ c : Comp, c ∈ (W.tbl newT).ids →
      valOf W' ((W.tbl oldT).getEntity k).id c =
        (if c ∈ (W.tbl oldT).ids then valOf W ((W.tbl oldT).getEntity k).id c else some 0).map
          (written W vs c)
  frame : ∀ j : Nat, (∀ k : Nat, k < (W.tbl oldT).len → ((W.tbl oldT).getEntity k).id ≠ j) →
    SameEnt W W' j
  others : ∀ t : Nat, t ≠ oldT → t ≠ newT → W'.tbl t = W.tbl t

/-- the callback on the rows a table move has appended, in any world `X` that satisfies the
    postcondition of the move -/
theorem tableStep_written {W X : World} {fl : List Nat} (hR : RowsLive W) {oldT newT : Nat}
    (ho : oldT < W.tables.length) (hn : newT < W.tables.length)
    (tp : TableMovedPost W fl oldT newT X) (hlocks : X.locks = W.locks) (vs : List (Comp × Val)) :
    TableStepPost W fl oldT newT vs (batchFnW X newT (W.tbl newT).len (W.tbl oldT).len vs) := by
  have hR1 := rowsLive_tableMoved hR ho hn tp
  have wp := writeRows_post tp.cinv hR1 (by rw [tp.tablesLen]; exact hn) vs
    (start := (W.tbl newT).len) (W.tbl oldT).len (by rw [tp.dstLen]; exact Nat.le_refl _)
  -- the rows written are the moved entities
  have hrow : ∀ k : Nat, k < (W.tbl oldT).len →
      (X.tbl newT).getEntity ((W.tbl newT).len + k) = (W.tbl oldT).getEntity k := by
    intro k hk
    rw [tp.dstRows _ (by omega), if_neg (by omega), Nat.add_sub_cancel_left]
  rw [batchFnW_closed]
  generalize fnEvents X newT (W.tbl newT).len vs (W.tbl oldT).len ++ X.log = lg
  generalize hY : writeRows X newT (W.tbl newT).len (W.tbl oldT).len vs = Y at wp
  have hv : ∀ (j : Nat) (c : Comp), valOf ({ Y with log := lg } : World) j c = valOf Y j c :=
    fun j c => valOf_congr rfl rfl j c
  have hcm : ∀ j : Nat, compsOf ({ Y with log := lg } : World) j = compsOf Y j :=
    fun j => compsOf_congr rfl rfl j
  exact
    { cinv := cinv_withLocks wp.cinv _ _
      rowsLive := wp.rowsLive
      pool := wp.pool.trans tp.pool
      kinds := wp.kinds.trans tp.kinds
      maxComps := wp.maxComps.trans tp.maxComps
      archetypes := wp.archetypes.trans tp.archetypes
      tablesLen := wp.tablesLen.trans tp.tablesLen
      entitiesLen := (congrArg List.length wp.entities).trans tp.entitiesLen
      locks := wp.locks.trans hlocks
      moved := by
        intro k hk
        obtain ⟨_, m2, m3⟩ := tp.moved k hk
        obtain ⟨w1, w2⟩ := wp.wrote k hk
        rw [hrow k hk] at w1 w2
        refine ⟨by rw [hcm, w1, m2], fun c hc => ?_⟩
        rw [hv, w2 c, m3 c hc]
        have : written X vs c = written W vs c := by
          funext v; simp only [written, tp.kinds]
        rw [this]
      frame := by
        intro j hj
        have h1 := (tp.frame j hj).1
        have h2 := wp.frame j (fun i hi heq => hj i hi (by rw [← hrow i hi]; exact heq))
        exact ⟨fun c => by rw [hv]; exact (h1.trans h2).1 c, by rw [hcm]; exact (h1.trans h2).2⟩
      others := fun t h1 h2 => (wp.others t h2).trans (tp.others t h1 h2) }

/-- **one iteration of the move loop**: move the table, then the callback on the moved rows -/
theorem CInv.tableStep {W : World} {fl : List Nat} (h : CInv W fl) (hR : RowsLive W)
    {b : BatchTable} (hne : b.oldT ≠ b.newT) (ho : b.oldT < W.tables.length)
    (hn : b.newT < W.tables.length) (hb : (W.tbl b.newT).len + (W.tbl b.oldT).len < 2 ^ 32)
    (vals : Option (List (Comp × Val))) :
    TableStepPost W fl b.oldT b.newT (valsOf vals) (moveStep vals W b) ∧
    (moveStep vals W b).log = stepEvents W b vals ++ W.log := by
  have tp := CInv.tableMoved h hne ho hn hb
  have hlog1 := (exchangeTableW_rest W b.oldT b.newT).2.2.2.2.2
  cases vals with
  | none =>
    refine ⟨?_, hlog1⟩
    exact
      { cinv := tp.cinv, rowsLive := rowsLive_tableMoved hR ho hn tp, pool := tp.pool,
        kinds := tp.kinds, maxComps := tp.maxComps, archetypes := tp.archetypes,
        tablesLen := tp.tablesLen, entitiesLen := tp.entitiesLen,
        locks := exchangeTableW_locks W _ _,
        moved := by
          intro k hk
          obtain ⟨_, m2, m3⟩ := tp.moved k hk
          refine ⟨m2, fun c hc => ?_⟩
          show valOf (exchangeTableW W b.oldT b.newT) _ c = _
          rw [m3 c hc, show valsOf none = [] from rfl, written_nil, Option.map_id]; rfl
        frame := fun j hj => (tp.frame j hj).1
        others := tp.others }
  | some vs =>
    refine ⟨tableStep_written hR ho hn tp (exchangeTableW_locks W _ _) vs, ?_⟩
    show (batchFnW _ _ _ _ _).log = _
    rw [batchFnW_closed, hlog1]; rfl

/-- the callback records of the move loop, newest first -/
def loopEvents (vals : Option (List (Comp × Val))) : World → List BatchTable → List LogEv
  | _, [] => []
  | W, b :: bts => loopEvents vals (moveStep vals W b) bts ++ stepEvents W b vals

structure MovedAllPost' (W : World) (fl : List Nat) (bts : List BatchTable) (vs : List (Comp × Val))
    (W' : World) : Prop where
  cinv : CInv W' fl
  rowsLive : RowsLive W'
  pool : W'.pool = W.pool
  kinds : W'.kinds = W.kinds
  maxComps : W'.maxComps = W.maxComps
  archetypes : W'.archetypes = W.archetypes
  tablesLen : W'.tables.length = W.tables.length
  entitiesLen : W'.entities.length = W.entities.length
  locks : W'.locks = W.locks
  moved : ∀ b ∈ bts, ∀ k : Nat, k < (W.tbl b.oldT).len →
    compsOf W' ((W.tbl b.oldT).getEntity k).id = some (W.tbl b.newT).ids ∧
    ∀ c : Comp, c ∈ (W.tbl b.newT).ids →
      valOf W' ((W.tbl b.oldT).getEntity k).id c =
        (if c ∈ (W.tbl b.oldT).ids then valOf W ((W.tbl b.oldT).getEntity k).id c else some 0).map
          (written W vs c)
  frame : ∀ j : Nat, j ∉ srcIds W bts → SameEnt W W' j

theorem moveLoop_post' {fl : List Nat} (vals : Option (List (Comp × Val))) :
    ∀ (bts : List BatchTable) {W : World}, CInv W fl → RowsLive W → MovesOK W bts →
    2 * W.entities.length < 2 ^ 32 →
    MovedAllPost' W fl bts (valsOf vals) (bts.foldl (moveStep vals) W) ∧
    (bts.foldl (moveStep vals) W).log = loopEvents vals W bts ++ W.log
  | [], W, h, hR, _, _ =>
    ⟨{ cinv := h, rowsLive := hR, pool := rfl, kinds := rfl, maxComps := rfl, archetypes := rfl,
       tablesLen := rfl, entitiesLen := rfl, locks := rfl, moved := (fun b hb => by cases hb),
       frame := fun _ _ => ⟨fun _ => rfl, rfl⟩ }, rfl⟩
  | b :: bts, W, h, hR, ok, hent => by
    obtain ⟨hbo, hbn, hne, hother⟩ := ok.head
    obtain ⟨tp, hlogstep⟩ := CInv.tableStep h hR hne hbo hbn (CInv.rows_add_lt h hent _ _) vals
    have hsrc' : ∀ b' ∈ bts, (moveStep vals W b).tbl b'.oldT = W.tbl b'.oldT :=
      fun b' hb' => tp.others _ (hother b' hb').1 (hother b' hb').2.1
    have hdst' : ∀ b' ∈ bts, (moveStep vals W b).tbl b'.newT = W.tbl b'.newT :=
      fun b' hb' => tp.others _ (hother b' hb').2.2.1 (hother b' hb').2.2.2
    obtain ⟨ip, hlogrest⟩ := moveLoop_post' vals bts tp.cinv tp.rowsLive (ok.tail tp.tablesLen)
      (by rw [tp.entitiesLen]; exact hent)
    obtain ⟨hsep, hsep'⟩ := srcIds_step h.idx ok.srcNodup ok.src hsrc'
    have hwr : ∀ c : Comp, written (moveStep vals W b) (valsOf vals) c = written W (valsOf vals) c := by
      intro c; funext v; simp only [written, tp.kinds]
    constructor
    · show MovedAllPost' W fl (b :: bts) (valsOf vals) (bts.foldl (moveStep vals) (moveStep vals W b))
      exact
        { cinv := ip.cinv
          rowsLive := ip.rowsLive
          pool := ip.pool.trans tp.pool
          kinds := ip.kinds.trans tp.kinds
          maxComps := ip.maxComps.trans tp.maxComps
          archetypes := ip.archetypes.trans tp.archetypes
          tablesLen := ip.tablesLen.trans tp.tablesLen
          entitiesLen := ip.entitiesLen.trans tp.entitiesLen
          locks := ip.locks.trans tp.locks
          moved := by
            intro b1 hb1 k hk
            rcases List.mem_cons.mp hb1 with rfl | hb1
            · obtain ⟨m2, m3⟩ := tp.moved k hk
              have hs := ip.frame _ (hsep k hk)
              exact ⟨by rw [hs.2]; exact m2, fun c hc => by rw [hs.1 c]; exact m3 c hc⟩
            · have hk' : k < ((moveStep vals W b).tbl b1.oldT).len := by
                rw [hsrc' b1 hb1]; exact hk
              obtain ⟨m2, m3⟩ := ip.moved b1 hb1 k hk'
              rw [hsrc' b1 hb1, hdst' b1 hb1] at m2 m3
              have hfr := tp.frame _ fun k' hk' => srcRows_ne h.idx ok.srcNodup ok.src hb1 hk' hk
              exact ⟨m2, fun c hc => by rw [m3 c hc, hfr.1 c, hwr c]⟩
          frame := by
            intro j hj
            obtain ⟨h1, h2⟩ := hsep' j hj
            exact (tp.frame j h1).trans (ip.frame j h2) }
    · show (bts.foldl (moveStep vals) (moveStep vals W b)).log = _
      rw [hlogrest, hlogstep, loopEvents, List.append_assoc]


/-! ## what the callback of the exchange batches records -/

/-- what the callback sees in a row is what `valOf` reads for the entity indexed to that row -/
theorem fnEvent_valOf {X : World} {t r : Nat} {e : Ent} (ht : t ≠ maxU32) (hlt : t < X.tables.length)
    (he : X.entities[e.id]? = some (t, r)) (hge : (X.tbl t).getEntity r = e)
    (vs : List (Comp × Val)) :
    fnEvent X t r vs = LogEv.fn e X.isLocked (vs.map fun cv => (cv.1, (valOf X e.id cv.1).getD 0)) := by
  simp only [fnEvent, hge]
  congr 1
  apply List.map_congr_left
  intro cv _
  rw [valOf_of_entry he ht (get_of_lt hlt)]

/-- the value of component `c` the callback sees for row `k` of the source table of `b`, right
    after the move: the kept value, zero for an added component (and for a component the
    destination lacks) -/
def seenAfterFn (W : World) (b : BatchTable) (k : Nat) (c : Comp) : Val :=
  (if c ∈ (W.tbl b.newT).ids then
    (if c ∈ (W.tbl b.oldT).ids then valOf W ((W.tbl b.oldT).getEntity k).id c else some 0)
   else none).getD 0

/-- the callback records for one source table, oldest first -/
def tableEvents (W : World) (vs : List (Comp × Val)) (b : BatchTable) : List LogEv :=
  (List.range (W.tbl b.oldT).len).map fun k =>
    LogEv.fn ((W.tbl b.oldT).getEntity k) W.isLocked (vs.map fun cv => (cv.1, seenAfterFn W b k cv.1))

theorem stepEvents_eq {W : World} {fl : List Nat} (h : CInv W fl) {b : BatchTable}
    (hne : b.oldT ≠ b.newT) (ho : b.oldT < W.tables.length) (hn : b.newT < W.tables.length)
    (hb : (W.tbl b.newT).len + (W.tbl b.oldT).len < 2 ^ 32) (vs : List (Comp × Val)) :
    (stepEvents W b (some vs)).reverse = tableEvents W vs b := by
  have tp := CInv.tableMoved h hne ho hn hb
  have hnX : b.newT < (exchangeTableW W b.oldT b.newT).tables.length := by
    rw [tp.tablesLen]; exact hn
  have hXS := tp.cinv.idx.shape b.newT _ (get_of_lt hnX)
  have htm : b.newT ≠ maxU32 := by have := h.fewTables; omega
  simp only [stepEvents]
  rw [fnEvents_pre hnX hXS _ vs _ (by rw [tp.dstLen]; exact Nat.le_refl _), ← List.map_reverse,
    List.reverse_reverse, tableEvents]
  apply List.map_congr_left
  intro k hk
  have hk' := List.mem_range.mp hk
  obtain ⟨m1, m2, m3⟩ := tp.moved k hk'
  have hge : ((exchangeTableW W b.oldT b.newT).tbl b.newT).getEntity ((W.tbl b.newT).len + k) =
      (W.tbl b.oldT).getEntity k := by
    rw [tp.dstRows _ (by omega), if_neg (by omega), Nat.add_sub_cancel_left]
  have hlk : (exchangeTableW W b.oldT b.newT).isLocked = W.isLocked :=
    congrArg Lock.isLocked (exchangeTableW_locks W _ _)
  rw [fnEvent_valOf htm hnX m1 hge vs, hlk]
  refine congrArg _ (List.map_congr_left fun cv _ => congrArg (fun o => (cv.1, Option.getD o 0)) ?_)
  by_cases hc : cv.1 ∈ (W.tbl b.newT).ids
  · rw [if_pos hc, m3 cv.1 hc]
  · rw [if_neg hc, valOf_none_of_comps m2 hc]

/-- **what the callback records**: for every source table in order, for every row in order, the
    handle of the row, "locked", and the values right after the move -/
theorem loopEvents_eq {fl : List Nat} (vs : List (Comp × Val)) : ∀ (bts : List BatchTable) {W : World},
    CInv W fl → RowsLive W → MovesOK W bts → 2 * W.entities.length < 2 ^ 32 →
    (loopEvents (some vs) W bts).reverse = bts.flatMap (tableEvents W vs)
  | [], _, _, _, _, _ => rfl
  | b :: bts, W, h, hR, ok, hent => by
    obtain ⟨hbo, hbn, hne, hother⟩ := ok.head
    have hb := CInv.rows_add_lt h hent b.newT b.oldT
    obtain ⟨tp, _⟩ := CInv.tableStep h hR hne hbo hbn hb (some vs)
    have ih := loopEvents_eq vs bts tp.cinv tp.rowsLive (ok.tail tp.tablesLen)
      (by rw [tp.entitiesLen]; exact hent)
    show (loopEvents (some vs) (moveStep (some vs) W b) bts ++ stepEvents W b (some vs)).reverse = _
    rw [List.reverse_append, ih, stepEvents_eq h hne hbo hbn hb vs, List.flatMap_cons]
    refine congrArg (_ ++ ·) (flatMap_congr' _ fun b' hb' => ?_)
    have e1 : (moveStep (some vs) W b).tbl b'.oldT = W.tbl b'.oldT :=
      tp.others _ (hother b' hb').1 (hother b' hb').2.1
    have e2 : (moveStep (some vs) W b).tbl b'.newT = W.tbl b'.newT :=
      tp.others _ (hother b' hb').2.2.1 (hother b' hb').2.2.2
    have hlk : (moveStep (some vs) W b).isLocked = W.isLocked := congrArg Lock.isLocked tp.locks
    simp only [tableEvents, e1, hlk]
    refine List.map_congr_left fun k hk => congrArg _ (List.map_congr_left fun cv _ =>
      congrArg (Prod.mk cv.1) ?_)
    have hk' := List.mem_range.mp hk
    simp only [seenAfterFn, e1, e2]
    rw [(tp.frame _ fun k' hk'' => srcRows_ne h.idx ok.srcNodup ok.src hb' hk'' hk').1 cv.1]

/-- the value of component `c` of entity `e` that the callback of an exchange batch sees: the
    value of a component that stays; zero for an added (or absent) one -/
def seenVal (w : World) (rem : List Comp) (e : Ent) (c : Comp) : Val :=
  if (w.maskOf e).get c = true ∧ c ∉ rem then (valOf w e.id c).getD 0 else 0

/-- **what the callback of an exchange batch records** (newest first): one record per selected
    entity, in the batch's order, with the entity's handle, "world locked", and for every component
    the callback writes the value it sees there -/
def batchEvents (w : World) (f : Filter) (rem : List Comp) : Option (List (Comp × Val)) → List LogEv
  | none => []
  | some vs => ((selEnts w f).map fun e =>
      LogEv.fn e true (vs.map fun cv => (cv.1, seenVal w rem e cv.1))).reverse

theorem loopEvents_none : ∀ (W : World) (bts : List BatchTable), loopEvents none W bts = []
  | _, [] => rfl
  | W, b :: bts => by
    show loopEvents none (moveStep none W b) bts ++ stepEvents W b none = []
    rw [loopEvents_none]; rfl

/-- `exchangeBatch_post'`, and the batch creates at most one table per selected table -/
theorem exchangeBatch_post'_tables (run : ProbeRunner) {w : World} {fl : List Nat} (h : CInv w fl)
    (hR : RowsLive w) (hl : w.isLocked = false) (hL : LockFree w.locks) (fo : FilterObj) (extra : List RelID)
    (hc : fo.cache = none) {add rem : List Comp} (hne : ¬ (add = [] ∧ rem = []))
    (hok : ∀ t ∈ selTables w fo.filter, (w.tbl t).len ≠ 0 →
      ExchOK w.kinds.length add rem (tmask w t))
    (hfew : w.tables.length + (selTables w fo.filter).length < maxU32)
    (hent : 2 * w.entities.length < 2 ^ 32) (vals : Option (List (Comp × Val))) :
    ∃ Wf : World,
      exchangeBatch run fo extra add rem [] vals w = .ok () Wf ∧
      ExchangedAllPost w fl (selEnts w fo.filter) add rem (valsOf vals) Wf ∧ LockFree Wf.locks ∧
      Wf.log = batchEvents w fo.filter rem vals ++ w.log ∧ RowsLive Wf ∧
      Wf.tables.length ≤ w.tables.length + (selTables w fo.filter).length := by
  -- the plan `P` of the lookup loop, then the move loop with callback run from `w1` (`mp`):
  -- `P.post` on `mp` gives every clause but the one on the log
  obtain ⟨l', l'', bts, w1, P⟩ := exchangeBatch_plan run h hl hL fo extra hc hne hok hfew
  have hwl : CInv { w with locks := l' } fl := cinv_withLocks h l' w.log
  have hR1 : RowsLive w1 :=
    rowsLive_ext hwl P.cinv hR (fun _ ht => P.ext.tbl ht) P.ext.entities P.ext.pool
  obtain ⟨mp, hlogloop⟩ := moveLoop_post' vals bts P.cinv hR1 P.moves
    (by rw [P.ext.entities]; exact hent)
  refine ⟨_, P.eq vals, P.post h hl hok mp.cinv mp.pool mp.kinds mp.maxComps mp.entitiesLen mp.moved
    mp.frame, P.free, ?_, mp.rowsLive, Nat.le_trans (Nat.le_of_eq mp.tablesLen) P.tablesLe⟩
  -- the log: what the move loop pushed (`loopEvents`) on top of `w1.log = w.log`
  have S := selTables_tableSet h fo.filter
  have htbl1 : ∀ t : Nat, t < w.tables.length → w1.tbl t = w.tbl t := fun t ht => P.ext.tbl ht
  have hk1 : w1.kinds = w.kinds := P.ext.kinds
  show (bts.foldl (moveStep vals) w1).log = _
  rw [hlogloop, P.ext.log]
  refine congrArg (· ++ w.log) ?_
  cases vals with
  | none => exact loopEvents_none w1 bts
  | some vs =>
    -- oldest first, the loop's records are `tableEvents w1` of every move in turn; both sides are
    -- newest first, so compare the reversals
    have hrev := loopEvents_eq vs bts P.cinv hR1 P.moves (by rw [P.ext.entities]; exact hent)
    rw [← List.reverse_reverse (loopEvents (some vs) w1 bts), hrev]
    show _ = (List.map _ (selEnts w fo.filter)).reverse
    refine congrArg List.reverse ?_
    -- per table: the records in terms of `w`
    have htab : ∀ b0 ∈ bts, tableEvents w1 vs b0 = (rowsOf w b0.oldT).map (fun e =>
        LogEv.fn e true (vs.map fun cv => (cv.1, seenVal w rem e cv.1))) := by
      intro b0 hb0
      have hlt := S.lt _ (P.src_mem hb0).1
      have hd := P.dest b0 hb0
      have ok := hok _ (P.src_mem hb0).1 (P.src_mem hb0).2
      have hlk : w1.isLocked = true := by
        show w1.locks.isLocked = true
        rw [P.ext.untouched.locks]; exact P.locked
      simp only [tableEvents, rowsOf, List.map_map, htbl1 _ hlt, hlk]
      refine List.map_congr_left fun k hk => congrArg _ (List.map_congr_left fun cv _ =>
        congrArg (Prod.mk cv.1) ?_)
      have hk' := List.mem_range.mp hk
      have hm := maskOf_row h hlt hk'
      have hids := P.dst_ids hb0
      have hmemO : cv.1 ∈ (w.tbl b0.oldT).ids ↔ (tmask w b0.oldT).get cv.1 = true :=
        mem_tbl_ids_iff h hlt
      have hsw1 : SameEnt w w1 ((w.tbl b0.oldT).getEntity k).id :=
        same_of_prefix hwl.idx P.ext.entities P.ext.tables _
      simp only [seenAfterFn, seenVal, htbl1 _ hlt, hids, hm, Mask.mem_toList, hsw1.1 cv.1]
      -- one cell, `seenAfterFn` against `seenVal`: in the source and kept, the old value; in the
      -- source and removed, or not in the source (added or absent), zero on both sides
      by_cases hmc : (tmask w b0.oldT).get cv.1 = true
      · have hcn := tmask_reg h hlt hmc
        by_cases hr : cv.1 ∈ rem
        · have hx0 : (xmask add rem (tmask w b0.oldT)).get cv.1 = false := by
            rw [xmask_get]
            have hna : cv.1 ∉ add := fun hca => by
              have := ok.new cv.1 hca
              rw [hmc] at this; cases this
            simp [hr, hna]
          simp [hx0, hr]
        · have hx1 : (xmask add rem (tmask w b0.oldT)).get cv.1 = true := by
            rw [xmask_get, hmc]; simp [hr]
          simp [hx1, hcn, hmemO.mpr hmc, hmc, hr]
      · have hno : cv.1 ∉ (w.tbl b0.oldT).ids := fun hh => hmc (hmemO.mp hh)
        simp only [hmc, Bool.false_eq_true, false_and, if_false, hno]
        split <;> rfl
    rw [flatMap_congr' bts htab]
    -- the rows of the non-empty selected tables are the rows of the selected tables
    have hfm : ∀ (g : Ent → LogEv), bts.flatMap (fun b0 => (rowsOf w b0.oldT).map g) =
        ((bts.map (·.oldT)).flatMap (rowsOf w)).map g := by
      intro g
      rw [List.map_flatMap, List.flatMap_map]
    rw [hfm, P.srcs, selEnts]
    refine congrArg _ ?_
    have hfilt : ∀ (l : List Nat),
        (l.filter fun t => (w.tbl t).len != 0).flatMap (rowsOf w) = l.flatMap (rowsOf w) := by
      intro l
      induction l with
      | nil => rfl
      | cons t l ih =>
        rw [List.filter_cons]
        cases h0 : ((w.tbl t).len != 0) with
        | true => simp only [if_true, List.flatMap_cons, ih]
        | false =>
          have hz : (w.tbl t).len = 0 := by simpa using h0
          have : rowsOf w t = [] := by simp only [rowsOf, hz, List.range_zero, List.map_nil]
          simp only [Bool.false_eq_true, if_false, List.flatMap_cons, this, List.nil_append, ih]
    exact hfilt _

/-- **the exchange batch with callback** on an unlocked world of the fragment with live rows: every
    selected entity gets `Exchange(add, rem)` and the values the callback writes; the rest is
    untouched; `log` grows by the callback records -/
theorem exchangeBatch_post' (run : ProbeRunner) {w : World} {fl : List Nat} (h : CInv w fl)
    (hR : RowsLive w) (hl : w.isLocked = false) (hL : LockFree w.locks) (fo : FilterObj) (extra : List RelID)
    (hc : fo.cache = none) {add rem : List Comp} (hne : ¬ (add = [] ∧ rem = []))
    (hok : ∀ t ∈ selTables w fo.filter, (w.tbl t).len ≠ 0 →
      ExchOK w.kinds.length add rem (tmask w t))
    (hfew : w.tables.length + (selTables w fo.filter).length < maxU32)
    (hent : 2 * w.entities.length < 2 ^ 32) (vals : Option (List (Comp × Val))) :
    ∃ Wf : World,
      exchangeBatch run fo extra add rem [] vals w = .ok () Wf ∧
      ExchangedAllPost w fl (selEnts w fo.filter) add rem (valsOf vals) Wf ∧ LockFree Wf.locks ∧
      Wf.log = batchEvents w fo.filter rem vals ++ w.log ∧ RowsLive Wf := by
  obtain ⟨Wf, h1, h2, h3, h4, h5, _⟩ :=
    exchangeBatch_post'_tables run h hR hl hL fo extra hc hne hok hfew hent vals
  exact ⟨Wf, h1, h2, h3, h4, h5⟩

/-- **C06, the add / remove / exchange batches WITH callback**: the batch whose callback writes
    `vs` into every moved row, and `Exchange` writing `vs` applied to every selected entity, both
    succeed and satisfy `ExchangedAllPost … vs`: same pool, same liveness, same components and
    values of every entity.  The callback ran exactly once per selected entity, in the batch's
    order, with that entity's handle, on a locked world, and saw the entity's current values
    (`batchEvents`, pushed on `log`); the singles leave `log` alone.  `hfew` leaves room for one
    new table per selected table (the batch) and one per selected entity (the singles). -/
theorem opExchangeBatchFn_eq_singles (run : ProbeRunner) (p : Path) {w : World} {fl : List Nat}
    (h : CInv w fl) (hR : RowsLive w) (hl : w.isLocked = false) (hL : LockFree w.locks)
    (fo : FilterObj) (extra : List RelID) (hc : fo.cache = none) {add rem : List Comp}
    (hne : ¬ (add = [] ∧ rem = []))
    (hok : ∀ t ∈ selTables w fo.filter, (w.tbl t).len ≠ 0 →
      ExchOK w.kinds.length add rem (tmask w t))
    (hfew : w.tables.length + (selTables w fo.filter).length + (selEnts w fo.filter).length < maxU32)
    (hent : 2 * w.entities.length < 2 ^ 32) (vals : Option (List (Comp × Val))) :
    ∃ Wb Ws : World,
      opExchangeBatch run p fo extra add rem [] vals w = .ok () Wb ∧
      exchangeSeq run p add rem (valsOf vals) (selEnts w fo.filter) w = .ok () Ws ∧
      ExchangedAllPost w fl (selEnts w fo.filter) add rem (valsOf vals) Wb ∧
      ExchangedAllPost w fl (selEnts w fo.filter) add rem (valsOf vals) Ws ∧
      Wb.pool = Ws.pool ∧ (∀ x : Ent, Wb.alive x = Ws.alive x) ∧
      (∀ (i : Nat) (c : Comp), valOf Wb i c = valOf Ws i c) ∧
      (∀ i : Nat, compsOf Wb i = compsOf Ws i) ∧ Wb.isLocked = Ws.isLocked ∧
      LockFree Wb.locks ∧ RowsLive Wb ∧ Wb.log = batchEvents w fo.filter rem vals ++ w.log := by
  have S := selTables_tableSet h fo.filter
  obtain ⟨Wb, hb, pb, hLb, hlogb, hRb⟩ := exchangeBatch_post' run h hR hl hL fo extra hc hne hok
    (by omega) hent vals
  have hlive : ∀ e ∈ selEnts w fo.filter, 2 ≤ e.id ∧ e.id ∉ fl ∧ w.alive e = true ∧
      e.id < w.pool.ents.length ∧ ExchOK w.kinds.length add rem (w.maskOf e) := by
    intro e he
    obtain ⟨a, b, c, d, _⟩ := (mem_selEnts_iff h hR fo.filter e).mp he
    obtain ⟨t, k, ht, hk, rfl⟩ := mem_selEnts.mp he
    exact ⟨a, b, d, c, by rw [maskOf_row h (S.lt t ht) hk]; exact hok t ht (by omega)⟩
  obtain ⟨Ws, hs, ps⟩ := exchangeSeq_post run p hne (valsOf vals) (selEnts w fo.filter) h hl hlive
    (rows_ids_nodup h.idx S) (by omega) (by omega)
  have hcomps : ∀ e ∈ selEnts w fo.filter,
      compsOf w e.id = some ((w.maskOf e).toList w.kinds.length) := by
    intro e he
    obtain ⟨a, b, c, d, _⟩ := hlive e he
    exact (h.comps_of_live a b c d).1
  obtain ⟨o1, o2, o3, o4, o5, _⟩ := pb.obs_eq ps (fun _ => Iff.rfl) hcomps
  exact ⟨Wb, Ws, by rw [opExchangeBatch_eq_exchangeBatch]; exact hb, hs, pb, ps, o1, o2, o3,
    o4, o5, hLb, hRb, hlogb⟩

/-- **C06, the add / remove / exchange batches (no callback)**: on an unlocked world of the fragment
    with live rows, for an uncached filter, when every non-empty selected table satisfies the
    precondition of `Exchange(add, rem)`: the batch and `Exchange` applied to every selected entity
    (in the batch's order — or any other, see `exchangeSeq_post`) both succeed and satisfy
    `ExchangedAllPost`; the two worlds have the same pool and agree on the liveness of every handle
    and on the components and values of every entity. -/
theorem opExchangeBatch_eq_singles (run : ProbeRunner) (p : Path) {w : World} {fl : List Nat}
    (h : CInv w fl) (hR : RowsLive w) (hl : w.isLocked = false) (hL : LockFree w.locks)
    (fo : FilterObj) (extra : List RelID) (hc : fo.cache = none) {add rem : List Comp}
    (hne : ¬ (add = [] ∧ rem = []))
    (hok : ∀ t ∈ selTables w fo.filter, (w.tbl t).len ≠ 0 →
      ExchOK w.kinds.length add rem (tmask w t))
    (hfew : w.tables.length + (selTables w fo.filter).length + (selEnts w fo.filter).length < maxU32)
    (hent : 2 * w.entities.length < 2 ^ 32) :
    ∃ Wb Ws : World,
      opExchangeBatch run p fo extra add rem [] none w = .ok () Wb ∧
      exchangeSeq run p add rem [] (selEnts w fo.filter) w = .ok () Ws ∧
      ExchangedAllPost w fl (selEnts w fo.filter) add rem [] Wb ∧
      ExchangedAllPost w fl (selEnts w fo.filter) add rem [] Ws ∧
      Wb.pool = Ws.pool ∧ (∀ x : Ent, Wb.alive x = Ws.alive x) ∧
      (∀ (i : Nat) (c : Comp), valOf Wb i c = valOf Ws i c) ∧
      (∀ i : Nat, compsOf Wb i = compsOf Ws i) ∧ Wb.isLocked = Ws.isLocked ∧
      LockFree Wb.locks ∧ Wb.log = w.log := by
  obtain ⟨Wb, Ws, h1, h2, h3, h4, h5, h6, h7, h8, h9, h10, _, h12⟩ :=
    opExchangeBatchFn_eq_singles run p h hR hl hL fo extra hc hne hok hfew hent none
  exact ⟨Wb, Ws, h1, h2, h3, h4, h5, h6, h7, h8, h9, h10, h12⟩

end World
end Ark
