/-
  The relation indices of an archetype (`relationTables`, `targetTables` of archetype.go) stay
  consistent with the set of active tables and their relation targets under table creation,
  freeing, recycling and target removal (supports C04/C05).  A lookup is characterised by a
  membership predicate (`MapInv m P`); `AddTable` and `removeTableRelations` are passes over the
  relation columns, described column by column (`colStep`, `colFold`).  `ArchRel`, `SameShape`:
  what the operations on the table lists and lookups leave alone.
-/
import Ark.Proofs.TableIDs

set_option autoImplicit false

namespace Ark

/-- The tables stored under a map entry; an absent key means "no table" (the Go code creates
    the entries lazily). -/
def tablesOf : Option TableIDs → List Nat
  | none => []
  | some ts => ts.tables

@[simp] theorem tablesOf_none : tablesOf none = [] := rfl
@[simp] theorem tablesOf_some (ts : TableIDs) : tablesOf (some ts) = ts.tables := rfl

/-- Invariant of one `map[entityID]tableIDs`: unique keys, every stored `tableIDs` is
    well-formed, and table `t` is stored under key `g` exactly when `P g t`. -/
structure MapInv (m : AL TableIDs) (P : Nat → Nat → Prop) : Prop where
  uniq : AL.Uniq m
  wf : ∀ (g : Nat) (ts : TableIDs), AL.find? m g = some ts → ts.WF
  mem : ∀ (g t : Nat), t ∈ tablesOf (AL.find? m g) ↔ P g t

namespace MapInv

theorem nil : MapInv [] (fun _ _ => False) :=
  ⟨AL.uniq_nil, by intro g ts h; simp at h, by intro g t; simp⟩

theorem congr {m : AL TableIDs} {P Q : Nat → Nat → Prop} (h : MapInv m P)
    (hpq : ∀ (g t : Nat), P g t ↔ Q g t) : MapInv m Q :=
  ⟨h.uniq, h.wf, fun g t => (h.mem g t).trans (hpq g t)⟩

theorem insert {m : AL TableIDs} {P : Nat → Nat → Prop} (h : MapInv m P) (g : Nat)
    (ts : TableIDs) (hts : ts.WF) :
    MapInv (AL.insert m g ts) (fun g' t => if g' = g then t ∈ ts.tables else P g' t) where
  uniq := h.uniq.insert _ _
  wf := by
    intro g' ts' hf
    rw [AL.find?_insert] at hf
    by_cases hg : g' = g
    · rw [if_pos hg] at hf; injection hf with hf; subst hf; exact hts
    · rw [if_neg hg] at hf; exact h.wf _ _ hf
  mem := by
    intro g' t
    rw [AL.find?_insert]
    by_cases hg : g' = g
    · rw [if_pos hg, if_pos hg]; rfl
    · rw [if_neg hg, if_neg hg]; exact h.mem g' t

theorem not_of_find?_none {m : AL TableIDs} {P : Nat → Nat → Prop} (h : MapInv m P) {g : Nat}
    (hf : AL.find? m g = none) (t : Nat) : ¬ P g t := by
  intro hp
  have := (h.mem g t).2 hp
  rw [hf] at this
  simp at this

theorem mem_of_find? {m : AL TableIDs} {P : Nat → Nat → Prop} (h : MapInv m P) {g : Nat}
    {ts : TableIDs} (hf : AL.find? m g = some ts) (t : Nat) : t ∈ ts.tables ↔ P g t := by
  have := h.mem g t
  rw [hf] at this
  exact this

end MapInv

/-- `AddTable` on one map: append `tid` to the entry of `g`, creating it if needed. -/
def mapAdd (m : AL TableIDs) (g tid : Nat) : AL TableIDs :=
  match AL.find? m g with
  | some ts => AL.insert m g (ts.append tid)
  | none => AL.insert m g (TableIDs.ofList [tid])

/-- `AddTable` on `targetTables`: as `mapAdd`, but skip when `tid` is already indexed there
    (two relation columns of the table with the same target). -/
def mapAddIfAbsent (m : AL TableIDs) (g tid : Nat) : AL TableIDs :=
  match AL.find? m g with
  | some ts => if ts.hasIndex tid then m else AL.insert m g (ts.append tid)
  | none => AL.insert m g (TableIDs.ofList [tid])

/-- `removeTableRelations` on one map: remove `tid` from the entry of `g` (if any). -/
def mapRemove (m : AL TableIDs) (g tid : Nat) : AL TableIDs :=
  match AL.find? m g with
  | some ts => AL.insert m g (ts.remove tid).1
  | none => m

namespace MapInv

theorem mapAdd {m : AL TableIDs} {P : Nat → Nat → Prop} (h : MapInv m P) (g tid : Nat)
    (hn : ¬ P g tid) :
    MapInv (mapAdd m g tid) (fun g' t => P g' t ∨ (g' = g ∧ t = tid)) := by
  unfold Ark.mapAdd
  cases hf : AL.find? m g with
  | none =>
    refine (h.insert g _ (TableIDs.wf_singleton tid)).congr ?_
    intro g' t
    by_cases hg : g' = g
    · subst hg
      have := h.not_of_find?_none hf t
      simp [TableIDs.ofList_tables, this]
    · simp [hg]
  | some ts =>
    have hnm : tid ∉ ts.tables := fun hm => hn ((h.mem_of_find? hf tid).1 hm)
    refine (h.insert g _ ((h.wf g ts hf).append hnm)).congr ?_
    intro g' t
    by_cases hg : g' = g
    · subst hg
      simp [TableIDs.append_tables, h.mem_of_find? hf t]
    · simp [hg]

theorem mapAddIfAbsent {m : AL TableIDs} {P : Nat → Nat → Prop} (h : MapInv m P) (g tid : Nat) :
    MapInv (mapAddIfAbsent m g tid) (fun g' t => P g' t ∨ (g' = g ∧ t = tid)) := by
  by_cases hp : P g tid
  · -- already indexed: the map stays as it is
    have hm : Ark.mapAddIfAbsent m g tid = m := by
      unfold Ark.mapAddIfAbsent
      cases hf : AL.find? m g with
      | none => exact absurd hp (h.not_of_find?_none hf tid)
      | some ts =>
        exact if_pos (((h.wf g ts hf).hasIndex_iff tid).2 ((h.mem_of_find? hf tid).2 hp))
    rw [hm]
    refine h.congr fun g' t => ⟨Or.inl, ?_⟩
    rintro (h1 | ⟨rfl, rfl⟩)
    · exact h1
    · exact hp
  · have hm : Ark.mapAddIfAbsent m g tid = Ark.mapAdd m g tid := by
      unfold Ark.mapAddIfAbsent Ark.mapAdd
      cases hf : AL.find? m g with
      | none => rfl
      | some ts =>
        exact if_neg fun hi =>
          hp ((h.mem_of_find? hf tid).1 (((h.wf g ts hf).hasIndex_iff tid).1 hi))
    rw [hm]
    exact h.mapAdd g tid hp

theorem mapRemove {m : AL TableIDs} {P : Nat → Nat → Prop} (h : MapInv m P) (g tid : Nat) :
    MapInv (mapRemove m g tid) (fun g' t => P g' t ∧ ¬ (g' = g ∧ t = tid)) := by
  unfold Ark.mapRemove
  cases hf : AL.find? m g with
  | none =>
    refine h.congr ?_
    intro g' t
    constructor
    · intro hp
      refine ⟨hp, ?_⟩
      rintro ⟨h1, _⟩
      subst h1
      exact h.not_of_find?_none hf t hp
    · exact fun hp => hp.1
  | some ts =>
    have hw := h.wf g ts hf
    refine (h.insert g _ (hw.remove tid)).congr ?_
    intro g' t
    by_cases hg : g' = g
    · subst hg
      simp [hw.mem_remove, h.mem_of_find? hf t]
    · simp [hg]

/-- `FreeTable` with several relations: remove `tid` from every entry. -/
theorem mapVals_remove {m : AL TableIDs} {P : Nat → Nat → Prop} (h : MapInv m P) (tid : Nat) :
    MapInv (AL.mapVals m fun v => (v.remove tid).1) (fun g t => P g t ∧ t ≠ tid) where
  uniq := h.uniq.mapVals _
  wf := by
    intro g ts hf
    rw [AL.find?_mapVals] at hf
    cases hf' : AL.find? m g with
    | none => rw [hf'] at hf; simp at hf
    | some ts' =>
      rw [hf'] at hf
      simp at hf
      subst hf
      exact (h.wf g ts' hf').remove tid
  mem := by
    intro g t
    rw [AL.find?_mapVals]
    cases hf' : AL.find? m g with
    | none =>
      simp
      intro hp
      exact absurd hp (h.not_of_find?_none hf' t)
    | some ts' =>
      simp [(h.wf g ts' hf').mem_remove, h.mem_of_find? hf' t]

/-- `RemoveTarget`: drop the entry of `g`. -/
theorem erase {m : AL TableIDs} {P : Nat → Nat → Prop} (h : MapInv m P) (g : Nat) :
    MapInv (AL.erase m g) (fun g' t => P g' t ∧ g' ≠ g) where
  uniq := h.uniq.erase _
  wf := by
    intro g' ts hf
    rw [AL.find?_erase] at hf
    by_cases hg : g' = g
    · rw [if_pos hg] at hf; cases hf
    · rw [if_neg hg] at hf; exact h.wf _ _ hf
  mem := by
    intro g' t
    rw [AL.find?_erase]
    by_cases hg : g' = g
    · rw [if_pos hg]; simp [hg]
    · rw [if_neg hg]; simp [hg, h.mem g' t]

theorem foldl_addIfAbsent (tid : Nat) (key : Nat → Nat) : ∀ (l : List Nat) {m : AL TableIDs}
    {P : Nat → Nat → Prop}, MapInv m P →
    MapInv (l.foldl (fun m i => Ark.mapAddIfAbsent m (key i) tid) m)
      (fun g t => P g t ∨ (t = tid ∧ ∃ (i : Nat), i ∈ l ∧ g = key i))
  | [], _, _, h => h.congr fun g t => by simp
  | x :: l, _, _, h => by
    refine (foldl_addIfAbsent tid key l (h.mapAddIfAbsent (key x) tid)).congr fun g t => ?_
    simp only [List.mem_cons, exists_eq_or_imp]
    constructor
    · rintro ((h1 | ⟨h1, h2⟩) | ⟨h1, h2⟩)
      · exact Or.inl h1
      · exact Or.inr ⟨h2, Or.inl h1⟩
      · exact Or.inr ⟨h1, Or.inr h2⟩
    · rintro (h1 | ⟨h1, h2 | h2⟩)
      · exact Or.inl (Or.inl h1)
      · exact Or.inl (Or.inr ⟨h2, h1⟩)
      · exact Or.inr ⟨h1, h2⟩

theorem foldl_remove (tid : Nat) (key : Nat → Nat) : ∀ (l : List Nat) {m : AL TableIDs}
    {P : Nat → Nat → Prop}, MapInv m P →
    MapInv (l.foldl (fun m i => Ark.mapRemove m (key i) tid) m)
      (fun g t => P g t ∧ ¬ (t = tid ∧ ∃ (i : Nat), i ∈ l ∧ g = key i))
  | [], _, _, h => h.congr fun g t => by simp
  | x :: l, _, _, h => by
    refine (foldl_remove tid key l (h.mapRemove (key x) tid)).congr fun g t => ?_
    simp only [List.mem_cons, exists_eq_or_imp]
    constructor
    · rintro ⟨⟨h1, h2⟩, h3⟩
      exact ⟨h1, fun ⟨e, h4⟩ => h4.elim (fun h5 => h2 ⟨h5, e⟩) (fun h5 => h3 ⟨e, h5⟩)⟩
    · rintro ⟨h1, h2⟩
      exact ⟨⟨h1, fun ⟨e1, e2⟩ => h2 ⟨e2, Or.inl e1⟩⟩, fun ⟨e, h4⟩ => h2 ⟨e, Or.inr h4⟩⟩

end MapInv

namespace Archetype

/-- The part of the archetype invariant that does not look into the index maps: the two table
    lists, the lengths of `relationTables` and `isRel`, `numRel` (`IndexInv` = `Struct` +
    `MapsInv`). -/
structure Struct (a : Archetype) : Prop where
  tablesWF : a.tables.WF
  freeNodup : a.freeTables.Nodup
  disjoint : ∀ (t : Nat), t ∈ a.tables.tables → t ∉ a.freeTables
  lenRel : a.relationTables.length = a.comps.length
  lenIsRel : a.isRel.length = a.comps.length
  numRelEq : a.numRel = (a.isRel.filter fun b => b).length

/-- Index part, relative to membership predicates: `R i g t` — "table `t` is listed in
    `relationTables[i][g]`", `T g t` — "table `t` is listed in `targetTables[g]`".
    Columns are read with `getD … []` and no length is asked: a column beyond
    `relationTables.length` counts as empty.  That every component has a slot, so that the
    `List.set` of `colStep` does write, is `Struct.lenRel` (the `hlt` of `MapsInv.addTable`). -/
structure MapsInv (a : Archetype) (R : Nat → Nat → Nat → Prop) (T : Nat → Nat → Prop) :
    Prop where
  rel : ∀ (i : Nat), a.isRel.getD i false = true → MapInv (a.relationTables.getD i []) (R i)
  nonRel : ∀ (i : Nat), a.isRel.getD i false = false → a.relationTables.getD i [] = []
  target : MapInv a.targetTables T

def relP (a : Archetype) (tgt : Nat → List Ent) (i g t : Nat) : Prop :=
  t ∈ a.tables.tables ∧ ((tgt t).getD i Ent.zero).id = g

def tgtP (a : Archetype) (tgt : Nat → List Ent) (g t : Nat) : Prop :=
  t ∈ a.tables.tables ∧ ∃ (i : Nat), a.isRel.getD i false = true ∧ ((tgt t).getD i Ent.zero).id = g

/-- The index invariant of an archetype relative to `tgt`, the per-column relation targets of
    each table (`fun t => world.tables[t].targets` in the full model). -/
structure IndexInv (a : Archetype) (tgt : Nat → List Ent) : Prop
  extends Struct a, MapsInv a (relP a tgt) (tgtP a tgt)

theorem MapsInv.congr {a : Archetype} {R R' : Nat → Nat → Nat → Prop} {T T' : Nat → Nat → Prop}
    (h : MapsInv a R T)
    (hr : ∀ (i : Nat), a.isRel.getD i false = true → ∀ (g t : Nat), R i g t ↔ R' i g t)
    (ht : ∀ (g t : Nat), T g t ↔ T' g t) : MapsInv a R' T' :=
  ⟨fun i hi => (h.rel i hi).congr (hr i hi), h.nonRel, h.target.congr ht⟩

theorem isRel_lt {a : Archetype} {i : Nat} (h : a.isRel.getD i false = true) :
    i < a.isRel.length := by
  by_cases hi : i < a.isRel.length
  · exact hi
  · rw [List.getD_eq_getElem?_getD, List.getElem?_eq_none (by omega)] at h
    simp at h

/-- `a'` agrees with `a` on everything `Struct` reads: of the two index maps only the contents
    may differ (`id`, `mask`, `zst` are `ArchRel`'s business). -/
structure SameShape (a a' : Archetype) : Prop where
  comps : a'.comps = a.comps
  isRel : a'.isRel = a.isRel
  numRel : a'.numRel = a.numRel
  tables : a'.tables = a.tables
  freeTables : a'.freeTables = a.freeTables
  lenRel : a'.relationTables.length = a.relationTables.length

theorem SameShape.refl (a : Archetype) : SameShape a a := ⟨rfl, rfl, rfl, rfl, rfl, rfl⟩

theorem SameShape.trans {a b c : Archetype} (h1 : SameShape a b) (h2 : SameShape b c) :
    SameShape a c :=
  ⟨h2.comps.trans h1.comps, h2.isRel.trans h1.isRel, h2.numRel.trans h1.numRel,
   h2.tables.trans h1.tables, h2.freeTables.trans h1.freeTables, h2.lenRel.trans h1.lenRel⟩

theorem Struct.of_sameShape {a a' : Archetype} (h : Struct a) (s : SameShape a a') :
    Struct a' := by
  refine ⟨?_, ?_, ?_, ?_, ?_, ?_⟩
  · rw [s.tables]; exact h.tablesWF
  · rw [s.freeTables]; exact h.freeNodup
  · rw [s.tables, s.freeTables]; exact h.disjoint
  · rw [s.lenRel, s.comps]; exact h.lenRel
  · rw [s.isRel, s.comps]; exact h.lenIsRel
  · rw [s.numRel, s.isRel]; exact h.numRelEq

/-- the fields of an archetype that no operation on tables changes -/
structure ArchRel (A A' : Archetype) : Prop where
  id : A'.id = A.id
  mask : A'.mask = A.mask
  comps : A'.comps = A.comps
  isRel : A'.isRel = A.isRel
  zst : A'.zst = A.zst
  numRel : A'.numRel = A.numRel

theorem ArchRel.refl (A : Archetype) : ArchRel A A := ⟨rfl, rfl, rfl, rfl, rfl, rfl⟩

theorem ArchRel.trans {A B C : Archetype} (h1 : ArchRel A B) (h2 : ArchRel B C) : ArchRel A C :=
  ⟨h2.id.trans h1.id, h2.mask.trans h1.mask, h2.comps.trans h1.comps, h2.isRel.trans h1.isRel,
    h2.zst.trans h1.zst, h2.numRel.trans h1.numRel⟩

theorem ArchRel.hasRelations {A A' : Archetype} (h : ArchRel A A') :
    A'.hasRelations = A.hasRelations := by
  simp only [Archetype.hasRelations, h.numRel]

theorem getD_set {α : Type} (l : List α) (k i : Nat) (v d : α) :
    (l.set k v).getD i d = if i = k ∧ k < l.length then v else l.getD i d := by
  simp only [List.getD_eq_getElem?_getD, List.getElem?_set]
  by_cases h1 : k = i
  · subst h1
    by_cases h2 : k < l.length
    · simp [h2]
    · simp [h2]
  · have : ¬ i = k := fun e => h1 e.symm
    simp [h1, this]

theorem struct_new (id : Nat) (mask : Mask) (comps : List Comp) (isRel zst : List Bool)
    (hlen : isRel.length = comps.length) : Struct (Archetype.new id mask comps isRel zst []) :=
  ⟨TableIDs.wf_empty, List.nodup_nil, by intro t h; simp [Archetype.new, TableIDs.ofList] at h,
   by simp [Archetype.new], hlen, rfl⟩

theorem indexInv_new (id : Nat) (mask : Mask) (comps : List Comp) (isRel zst : List Bool)
    (hlen : isRel.length = comps.length) (tgt : Nat → List Ent) :
    IndexInv (Archetype.new id mask comps isRel zst []) tgt := by
  have hempty : ∀ (i : Nat), (comps.map fun _ => ([] : AL TableIDs)).getD i [] = [] := by
    intro i
    rw [List.getD_eq_getElem?_getD, List.getElem?_map]
    cases comps[i]? <;> rfl
  have hno : ∀ (t : Nat), t ∉ (Archetype.new id mask comps isRel zst []).tables.tables := by
    intro t h; simp [Archetype.new, TableIDs.ofList] at h
  refine { struct_new id mask comps isRel zst hlen with rel := ?_, nonRel := ?_, target := ?_ }
  · intro i _
    show MapInv ((comps.map fun _ => ([] : AL TableIDs)).getD i []) _
    rw [hempty]
    exact MapInv.nil.congr (fun g t => ⟨False.elim, fun h => hno t h.1⟩)
  · intro i _; exact hempty i
  · exact MapInv.nil.congr (fun g t => ⟨False.elim, fun h => hno t h.1⟩)

theorem Struct.no_rel {a : Archetype} (h : Struct a) (h0 : a.numRel = 0) (i : Nat) :
    a.isRel.getD i false ≠ true := by
  intro hi
  have hlt := isRel_lt hi
  rw [List.getD_eq_getElem?_getD, List.getElem?_eq_getElem hlt] at hi
  simp at hi
  have hm : true ∈ a.isRel.filter fun b => b := by
    rw [List.mem_filter]; exact ⟨hi ▸ List.getElem_mem hlt, rfl⟩
  have := h.numRelEq
  rw [h0] at this
  rw [List.eq_nil_of_length_eq_zero this.symm] at hm
  simp at hm

theorem Struct.hasRelations_of_rel {a : Archetype} (h : Struct a) {i : Nat}
    (hi : a.isRel.getD i false = true) : a.hasRelations = true := by
  unfold hasRelations
  have : a.numRel ≠ 0 := fun h0 => h.no_rel h0 i hi
  simp; omega

/-- one column of a pass over the relation columns: `f i` on the map of column `i`, `g i` on the
    target map (`AddTable`: `mapAdd`/`mapAddIfAbsent`; `removeTableRelations`: `mapRemove` twice) -/
def colStep (f g : Nat → AL TableIDs → AL TableIDs) (a : Archetype) (i : Nat) : Archetype :=
  if !(a.isRel.getD i false) then a else
  { a with
    relationTables := a.relationTables.set i (f i (a.relationTables.getD i []))
    targetTables := g i a.targetTables }

/-- **the pass over the columns `0 … n-1`**: only the two lookups change; column `i` of
    `relationTables` is `f i` of what it was if `i` is a relation column below `n`, and the target
    map is the fold of the `g i` over the relation columns below `n`. -/
theorem colFold (f g : Nat → AL TableIDs → AL TableIDs) (a : Archetype) : ∀ (n : Nat),
    ∃ (rt : List (AL TableIDs)),
      (List.range n).foldl (colStep f g) a =
        { a with
          relationTables := rt
          targetTables := ((List.range n).filter fun i => a.isRel.getD i false).foldl
            (fun m i => g i m) a.targetTables } ∧
      rt.length = a.relationTables.length ∧
      ∀ (i : Nat), rt.getD i [] =
        if i < n ∧ a.isRel.getD i false = true ∧ i < a.relationTables.length
        then f i (a.relationTables.getD i []) else a.relationTables.getD i []
  | 0 => ⟨a.relationTables, rfl, rfl, fun i => by simp⟩
  | n + 1 => by
    obtain ⟨rt, e, hl, hp⟩ := colFold f g a n
    rw [List.range_succ, List.foldl_append, List.filter_append, List.foldl_append, e]
    simp only [List.foldl_cons, List.foldl_nil, colStep, List.filter_cons, List.filter_nil]
    have hs : ∀ {i : Nat}, i ≠ n → (i < n + 1 ↔ i < n) := fun h => by omega
    cases hn : a.isRel.getD n false with
    | false =>
      refine ⟨rt, by simp, hl, fun i => ?_⟩
      rw [hp i]
      by_cases ei : i = n
      · subst ei
        rw [if_neg (fun h => Nat.lt_irrefl _ h.1), if_neg (fun h => by rw [hn] at h; cases h.2.1)]
      · simp only [hs ei]
    | true =>
      refine ⟨rt.set n (f n (rt.getD n [])), by simp, by rw [List.length_set, hl], fun i => ?_⟩
      rw [getD_set, hl]
      by_cases ei : i = n
      · subst ei
        have hpi := hp i
        rw [if_neg (fun h => Nat.lt_irrefl _ h.1)] at hpi
        rw [hpi]
        by_cases hlt : i < a.relationTables.length
        · rw [if_pos ⟨rfl, hlt⟩, if_pos ⟨Nat.lt_succ_self _, hn, hlt⟩]
        · rw [if_neg (fun h => hlt h.2), if_neg (fun h => hlt h.2.2)]
      · rw [if_neg (fun h => ei h.1), hp i]; simp only [hs ei]

theorem mem_relCols {a : Archetype} {n i : Nat} :
    (i ∈ (List.range n).filter fun i => a.isRel.getD i false) ↔
      i < n ∧ a.isRel.getD i false = true := by
  rw [List.mem_filter, List.mem_range]

/-- a pass changes the two lookups only -/
theorem colFold_keeps (f g : Nat → AL TableIDs → AL TableIDs) (a : Archetype) (n : Nat) :
    SameShape a ((List.range n).foldl (colStep f g) a) ∧
      ArchRel a ((List.range n).foldl (colStep f g) a) := by
  obtain ⟨rt, e, hl, _⟩ := colFold f g a n
  rw [e]
  exact ⟨⟨rfl, rfl, rfl, rfl, rfl, hl⟩, ⟨rfl, rfl, rfl, rfl, rfl, rfl⟩⟩

theorem addTable_eq (a : Archetype) (tid : Nat) (targets : List Ent) :
    a.addTable tid targets =
      if !a.hasRelations then { a with tables := a.tables.append tid }
      else (List.range a.comps.length).foldl
        (colStep (fun i m => mapAdd m (targets.getD i Ent.zero).id tid)
          (fun i m => mapAddIfAbsent m (targets.getD i Ent.zero).id tid))
        { a with tables := a.tables.append tid } := rfl

/-- `AddTable` = append to the table list, then edit only the two relation indices -/
theorem addTable_sameShape (a : Archetype) (tid : Nat) (targets : List Ent) :
    SameShape { a with tables := a.tables.append tid } (a.addTable tid targets) := by
  rw [addTable_eq]
  split
  · exact SameShape.refl _
  · exact (colFold_keeps _ _ _ _).1

theorem addTable_archRel (a : Archetype) (tid : Nat) (targets : List Ent) :
    ArchRel a (a.addTable tid targets) := by
  have h0 : ArchRel a { a with tables := a.tables.append tid } := ⟨rfl, rfl, rfl, rfl, rfl, rfl⟩
  rw [addTable_eq]
  split
  · exact h0
  · exact h0.trans (colFold_keeps _ _ _ _).2

theorem relP_addTable {a a' : Archetype} (tgt : Nat → List Ent) (tid : Nat) (targets : List Ent)
    (htab : ∀ (t : Nat), t ∈ a'.tables.tables ↔ t ∈ a.tables.tables ∨ t = tid)
    (hact : tid ∉ a.tables.tables) (n i : Nat) (hil : i < n) (g t : Nat) :
    relP a tgt i g t ∨ (i < n ∧ g = (targets.getD i Ent.zero).id ∧ t = tid) ↔
      relP a' (fun t => if t = tid then targets else tgt t) i g t := by
  unfold relP
  rw [htab]
  by_cases ht : t = tid
  · subst ht
    simp [hact, hil, eq_comm]
  · simp [ht]

theorem tgtP_addTable {a a' : Archetype} (tgt : Nat → List Ent) (tid : Nat) (targets : List Ent)
    (htab : ∀ (t : Nat), t ∈ a'.tables.tables ↔ t ∈ a.tables.tables ∨ t = tid)
    (hrel : a'.isRel = a.isRel)
    (hact : tid ∉ a.tables.tables) (n : Nat)
    (hn : ∀ (i : Nat), a.isRel.getD i false = true → i < n) (g t : Nat) :
    (tgtP a tgt g t ∨ ∃ (i : Nat), i < n ∧ a.isRel.getD i false = true ∧
        g = (targets.getD i Ent.zero).id ∧ t = tid) ↔
      tgtP a' (fun t => if t = tid then targets else tgt t) g t := by
  unfold tgtP
  rw [htab, hrel]
  by_cases ht : t = tid
  · subst ht
    simp only [hact, false_and, false_or, true_and, or_true, if_true]
    constructor
    · rintro ⟨i, _, h1, h2, _⟩; exact ⟨i, h1, h2.symm⟩
    · rintro ⟨i, h1, h2⟩
      exact ⟨i, hn i h1, h1, h2.symm, trivial⟩
  · simp [ht]

theorem Struct.append_table {a : Archetype} (h : Struct a) {tid : Nat}
    (hact : tid ∉ a.tables.tables) (hfree : tid ∉ a.freeTables) :
    Struct { a with tables := a.tables.append tid } := by
  refine ⟨h.tablesWF.append hact, h.freeNodup, ?_, h.lenRel, h.lenIsRel, h.numRelEq⟩
  intro t ht
  rw [show ({ a with tables := a.tables.append tid } : Archetype).tables.tables
      = a.tables.tables ++ [tid] from rfl] at ht
  rcases List.mem_append.1 ht with h1 | h1
  · exact h.disjoint t h1
  · rw [List.mem_singleton.1 h1]; exact hfree

/-- `AddTable` on the index maps, for any membership predicates: column `i` gains the entry of
    `tid` under its target. -/
theorem MapsInv.addTable {a : Archetype} {R : Nat → Nat → Nat → Prop} {T : Nat → Nat → Prop}
    (hm : MapsInv a R T) (hS : Struct a) (tid : Nat) (targets : List Ent)
    (hn : ∀ (i : Nat), a.isRel.getD i false = true → ¬ R i (targets.getD i Ent.zero).id tid) :
    SameShape { a with tables := a.tables.append tid } (a.addTable tid targets) ∧
    MapsInv (a.addTable tid targets)
      (fun i g t => R i g t ∨ (i < a.comps.length ∧ g = (targets.getD i Ent.zero).id ∧ t = tid))
      (fun g t => T g t ∨ ∃ (i : Nat), i < a.comps.length ∧ a.isRel.getD i false = true ∧
        g = (targets.getD i Ent.zero).id ∧ t = tid) := by
  rw [addTable_eq]
  by_cases hr : a.hasRelations = true
  · rw [if_neg (by simp [hr])]
    obtain ⟨rt, e, hl, hp⟩ := colFold (fun i m => mapAdd m (targets.getD i Ent.zero).id tid)
      (fun i m => mapAddIfAbsent m (targets.getD i Ent.zero).id tid)
      { a with tables := a.tables.append tid } a.comps.length
    rw [e]
    have hlt : ∀ {i : Nat}, a.isRel.getD i false = true →
        i < a.comps.length ∧ i < a.relationTables.length := fun hi =>
      ⟨hS.lenIsRel ▸ isRel_lt hi, hS.lenRel ▸ hS.lenIsRel ▸ isRel_lt hi⟩
    refine ⟨⟨rfl, rfl, rfl, rfl, rfl, hl⟩, fun i hi => ?_, fun i hi => ?_, ?_⟩
    · show MapInv (rt.getD i []) _
      rw [hp i, if_pos ⟨(hlt hi).1, hi, (hlt hi).2⟩]
      exact ((hm.rel i hi).mapAdd _ tid (hn i hi)).congr fun g t => by simp [(hlt hi).1]
    · show rt.getD i [] = []
      rw [hp i, if_neg (fun h => by rw [h.2.1] at hi; cases hi)]; exact hm.nonRel i hi
    · refine (hm.target.foldl_addIfAbsent tid (fun i => (targets.getD i Ent.zero).id) _).congr
        fun g t => or_congr_right ?_
      simp only [mem_relCols]
      exact ⟨fun ⟨e, i, ⟨h1, h2⟩, h3⟩ => ⟨i, h1, h2, h3, e⟩,
        fun ⟨i, h1, h2, h3, e⟩ => ⟨e, i, ⟨h1, h2⟩, h3⟩⟩
  · rw [if_pos (by simpa using hr)]
    have h0 : a.numRel = 0 := by
      unfold hasRelations at hr; simp at hr; exact hr
    refine ⟨SameShape.refl _, ⟨fun i hi => absurd hi (hS.no_rel h0 i), hm.nonRel,
      hm.target.congr fun g t => ?_⟩⟩
    exact ⟨Or.inl, fun h => h.elim (fun x => x) fun ⟨i, _, h1, _⟩ => absurd h1 (hS.no_rel h0 i)⟩

theorem mem_addTable_of_sameShape {a a' : Archetype} {tid : Nat}
    (hs : SameShape { a with tables := a.tables.append tid } a') (t : Nat) :
    t ∈ a'.tables.tables ↔ t ∈ a.tables.tables ∨ t = tid := by
  rw [hs.tables]
  show t ∈ a.tables.tables ++ [tid] ↔ _
  simp

theorem IndexInv.addTable {a : Archetype} {tgt : Nat → List Ent} (h : IndexInv a tgt)
    (tid : Nat) (targets : List Ent) (hact : tid ∉ a.tables.tables) (hfree : tid ∉ a.freeTables) :
    IndexInv (a.addTable tid targets) (fun t => if t = tid then targets else tgt t) := by
  obtain ⟨hs, hm⟩ := h.toMapsInv.addTable h.toStruct tid targets (fun i _ hh => hact hh.1)
  have htab := mem_addTable_of_sameShape hs
  refine { (h.toStruct.append_table hact hfree).of_sameShape hs with
    rel := ?_, nonRel := hm.nonRel, target := ?_ }
  · intro i hi
    refine (hm.rel i hi).congr ?_
    intro g t
    rw [hs.isRel] at hi
    exact relP_addTable tgt tid targets htab hact _ i (h.lenIsRel ▸ isRel_lt hi) g t
  · refine hm.target.congr ?_
    intro g t
    exact tgtP_addTable tgt tid targets htab hs.isRel hact _
      (fun i hi => h.lenIsRel ▸ isRel_lt hi) g t

theorem getTables_nil (a : Archetype) : a.getTables [] = some a.tables.tables := by
  unfold getTables; split <;> rfl

theorem getTables_noRel (a : Archetype) (h0 : a.numRel = 0) (rels : List RelID) :
    a.getTables rels = some a.tables.tables := by
  unfold getTables
  rw [if_pos (by simp [hasRelations, h0])]

/-- The Go runtime panic: the first relation's component is not a column. -/
theorem getTables_noColumn (a : Archetype) (hr : a.hasRelations = true) (r : RelID)
    (rest : List RelID) (hc : a.colIdx r.comp = none) : a.getTables (r :: rest) = none := by
  unfold getTables
  rw [if_neg (by simp [hr])]
  simp only [hc]

theorem getTables_col (a : Archetype) (hr : a.hasRelations = true) (r : RelID)
    (rest : List RelID) (i : Nat) (hc : a.colIdx r.comp = some i) :
    a.getTables (r :: rest) =
      some (tablesOf (AL.find? (a.relationTables.getD i []) r.target.id)) := by
  unfold getTables
  rw [if_neg (by simp [hr])]
  simp only [hc]
  cases AL.find? (a.relationTables.getD i []) r.target.id <;> rfl

/-- Under the invariant, `GetTables` for a first relation on relation column `i` returns
    exactly the active tables whose column `i` targets `r.target.id`, without duplicates. -/
theorem IndexInv.getTables_complete {a : Archetype} {tgt : Nat → List Ent} (h : IndexInv a tgt)
    (r : RelID) (rest : List RelID) (i : Nat) (hc : a.colIdx r.comp = some i)
    (hi : a.isRel.getD i false = true) :
    ∃ (ts : List Nat), a.getTables (r :: rest) = some ts ∧ ts.Nodup ∧
      ∀ (t : Nat), t ∈ ts ↔
        t ∈ a.tables.tables ∧ ((tgt t).getD i Ent.zero).id = r.target.id := by
  refine ⟨_, getTables_col a (h.toStruct.hasRelations_of_rel hi) r rest i hc, ?_, ?_⟩
  · cases hf : AL.find? (a.relationTables.getD i []) r.target.id with
    | none => exact List.nodup_nil
    | some ts => exact ((h.rel i hi).wf _ ts hf).nodup
  · intro t
    exact (h.rel i hi).mem r.target.id t

/-- With no relations given, or for an archetype without relation columns, `GetTables`
    returns all active tables (without duplicates). -/
theorem IndexInv.getTables_all {a : Archetype} {tgt : Nat → List Ent} (h : IndexInv a tgt)
    (rels : List RelID) (hr : rels = [] ∨ a.numRel = 0) :
    a.getTables rels = some a.tables.tables ∧ a.tables.tables.Nodup := by
  refine ⟨?_, h.tablesWF.nodup⟩
  rcases hr with hr | hr
  · subst hr; exact getTables_nil a
  · exact getTables_noRel a hr rels

/-- A first relation on a non-relation column finds nothing (Go: lookup in a nil map). -/
theorem IndexInv.getTables_nonRelCol {a : Archetype} {tgt : Nat → List Ent} (h : IndexInv a tgt)
    (hr : a.hasRelations = true) (r : RelID) (rest : List RelID) (i : Nat)
    (hc : a.colIdx r.comp = some i) (hi : a.isRel.getD i false = false) :
    a.getTables (r :: rest) = some [] := by
  rw [getTables_col a hr r rest i hc, h.nonRel i hi]; rfl

theorem eq_dropLast_append_of_getLast? (l : List Nat) (x : Nat) (h : l.getLast? = some x) :
    l = l.dropLast ++ [x] := by
  have hne : l ≠ [] := by intro e; subst e; simp at h
  rw [List.getLast?_eq_some_getLast hne] at h
  injection h with h; subst h; exact (List.dropLast_concat_getLast hne).symm

theorem getFreeTable_some {a a' : Archetype} {t : Nat} (hg : a.getFreeTable = some (a', t)) :
    a' = { a with freeTables := a.freeTables.dropLast } ∧
      a.freeTables = a.freeTables.dropLast ++ [t] := by
  unfold Archetype.getFreeTable at hg
  cases hl : a.freeTables.getLast? with
  | none => rw [hl] at hg; cases hg
  | some x =>
    rw [hl] at hg
    injection hg with hg
    injection hg with ha ht
    subst ht
    exact ⟨ha.symm, eq_dropLast_append_of_getLast? _ x hl⟩

theorem getFreeTable_archRel {a a' : Archetype} {t : Nat} (hg : a.getFreeTable = some (a', t)) :
    ArchRel a a' := by
  obtain ⟨rfl, _⟩ := getFreeTable_some hg
  exact ⟨rfl, rfl, rfl, rfl, rfl, rfl⟩

/-- the popped table is afterwards neither free nor active, so it can be handed to `AddTable` -/
theorem Struct.getFreeTable {a a' : Archetype} {t : Nat} (h : Struct a)
    (hg : a.getFreeTable = some (a', t)) :
    Struct a' ∧ a.freeTables = a'.freeTables ++ [t] ∧ a'.tables = a.tables ∧
      t ∉ a'.freeTables ∧ t ∉ a'.tables.tables := by
  obtain ⟨rfl, hsplit⟩ := getFreeTable_some hg
  have hnd := h.freeNodup
  rw [hsplit] at hnd
  have hnd' := List.nodup_append.1 hnd
  refine ⟨⟨h.tablesWF, hnd'.1, ?_, h.lenRel, h.lenIsRel, h.numRelEq⟩, hsplit, rfl, ?_, ?_⟩
  · intro x hx hm
    exact h.disjoint x hx (by rw [hsplit]; exact List.mem_append_left _ hm)
  · intro hm
    exact hnd'.2.2 t hm t (List.mem_singleton.2 rfl) rfl
  · intro hm
    exact h.disjoint t hm (by rw [hsplit]; simp)

theorem IndexInv.getFreeTable {a : Archetype} {tgt : Nat → List Ent} (h : IndexInv a tgt)
    {a' : Archetype} {t : Nat} (hg : a.getFreeTable = some (a', t)) :
    IndexInv a' tgt ∧ a.freeTables = a'.freeTables ++ [t] ∧ a'.tables = a.tables ∧
      t ∉ a'.freeTables ∧ t ∉ a'.tables.tables := by
  obtain ⟨hS, h1, h2, h3, h4⟩ := h.toStruct.getFreeTable hg
  obtain ⟨rfl, _⟩ := getFreeTable_some hg
  exact ⟨{ hS with rel := h.rel, nonRel := h.nonRel, target := h.target }, h1, h2, h3, h4⟩

theorem IndexInv.recycle {a : Archetype} {tgt : Nat → List Ent} (h : IndexInv a tgt)
    {a' : Archetype} {t : Nat} (hg : a.getFreeTable = some (a', t)) (targets : List Ent) :
    IndexInv (a'.addTable t targets) (fun t' => if t' = t then targets else tgt t') := by
  obtain ⟨h', _, _, hf, ha⟩ := h.getFreeTable hg
  exact h'.addTable t targets ha hf

theorem getD_map_nil {ν : Type} (l : List (AL ν)) (f : AL ν → AL ν) (hf : f [] = []) (i : Nat) :
    (l.map f).getD i [] = f (l.getD i []) := by
  rw [List.getD_eq_getElem?_getD, List.getD_eq_getElem?_getD, List.getElem?_map]
  cases l[i]? with
  | none => exact hf.symm
  | some v => rfl

theorem freeTable_eq (a : Archetype) (tid : Nat) :
    a.freeTable tid =
      if a.numRel ≤ 1 then
        { a with tables := (a.tables.remove tid).1, freeTables := a.freeTables ++ [tid] }
      else
        { a with
          tables := (a.tables.remove tid).1, freeTables := a.freeTables ++ [tid]
          relationTables := a.relationTables.map fun m => m.mapVals fun v => (v.remove tid).1
          targetTables := a.targetTables.mapVals fun v => (v.remove tid).1 } := rfl

theorem freeTable_tables (a : Archetype) (tid : Nat) :
    (a.freeTable tid).tables = (a.tables.remove tid).1 := by
  rw [freeTable_eq]; split <;> rfl

theorem freeTable_freeTables (a : Archetype) (tid : Nat) :
    (a.freeTable tid).freeTables = a.freeTables ++ [tid] := by
  rw [freeTable_eq]; split <;> rfl

theorem freeTable_archRel (a : Archetype) (tid : Nat) : ArchRel a (a.freeTable tid) := by
  rw [freeTable_eq]; split <;> exact ⟨rfl, rfl, rfl, rfl, rfl, rfl⟩

theorem freeTable_lenRel (a : Archetype) (tid : Nat) :
    (a.freeTable tid).relationTables.length = a.relationTables.length := by
  rw [freeTable_eq]; split
  · rfl
  · simp

theorem Struct.freeTable {a : Archetype} (h : Struct a) (tid : Nat) (hfree : tid ∉ a.freeTables) :
    Struct (a.freeTable tid) := by
  refine ⟨?_, ?_, ?_, ?_, ?_, ?_⟩
  · rw [freeTable_tables]; exact h.tablesWF.remove tid
  · rw [freeTable_freeTables]
    refine List.nodup_append.2 ⟨h.freeNodup, by simp, ?_⟩
    intro x hx y hy e
    rw [List.mem_singleton.1 hy] at e
    exact hfree (e ▸ hx)
  · intro t ht
    rw [freeTable_tables, h.tablesWF.mem_remove] at ht
    rw [freeTable_freeTables]
    intro hm
    rcases List.mem_append.1 hm with h1 | h1
    · exact h.disjoint t ht.1 h1
    · exact ht.2 (List.mem_singleton.1 h1)
  · rw [freeTable_lenRel, (freeTable_archRel a tid).comps]; exact h.lenRel
  · rw [(freeTable_archRel a tid).isRel, (freeTable_archRel a tid).comps]; exact h.lenIsRel
  · rw [(freeTable_archRel a tid).numRel, (freeTable_archRel a tid).isRel]; exact h.numRelEq

/-- `FreeTable` on the index maps: with at most one relation column they are untouched, with
    several `tid` is removed from every entry. -/
theorem MapsInv.freeTable {a : Archetype} {R : Nat → Nat → Nat → Prop} {T : Nat → Nat → Prop}
    (h : MapsInv a R T) (tid : Nat) :
    MapsInv (a.freeTable tid) (fun i g t => R i g t ∧ (a.numRel ≤ 1 ∨ t ≠ tid))
      (fun g t => T g t ∧ (a.numRel ≤ 1 ∨ t ≠ tid)) := by
  rw [freeTable_eq]
  by_cases hn : a.numRel ≤ 1
  · rw [if_pos hn]
    have h' : MapsInv ({ a with
        tables := (a.tables.remove tid).1
        freeTables := a.freeTables ++ [tid] } : Archetype) R T := ⟨h.rel, h.nonRel, h.target⟩
    exact h'.congr (fun i _ g t => by simp [hn]) (fun g t => by simp [hn])
  · rw [if_neg hn]
    refine ⟨?_, ?_, ?_⟩
    · intro i hi
      show MapInv ((a.relationTables.map fun m => m.mapVals fun v => (v.remove tid).1).getD i []) _
      rw [getD_map_nil _ _ rfl]
      exact ((h.rel i hi).mapVals_remove tid).congr (fun g t => by simp [hn])
    · intro i hi
      show (a.relationTables.map fun m => m.mapVals fun v => (v.remove tid).1).getD i [] = []
      rw [getD_map_nil _ _ rfl, h.nonRel i hi]; rfl
    · exact (h.target.mapVals_remove tid).congr (fun g t => by simp [hn])

theorem removeTableRelations_eq (a : Archetype) (tid : Nat) (targets : List Ent) :
    a.removeTableRelations tid targets =
      (List.range a.comps.length).foldl
        (colStep (fun i m => mapRemove m (targets.getD i Ent.zero).id tid)
          (fun i m => mapRemove m (targets.getD i Ent.zero).id tid)) a := rfl

theorem removeTableRelations_sameShape (a : Archetype) (tid : Nat) (targets : List Ent) :
    SameShape a (a.removeTableRelations tid targets) := by
  rw [removeTableRelations_eq]; exact (colFold_keeps _ _ _ _).1

theorem removeTableRelations_archRel (a : Archetype) (tid : Nat) (targets : List Ent) :
    ArchRel a (a.removeTableRelations tid targets) := by
  rw [removeTableRelations_eq]; exact (colFold_keeps _ _ _ _).2

/-- `removeTableRelations` on the index maps, for any membership predicates: column `i` loses the
    entry of `tid` under its target. -/
theorem MapsInv.removeTableRelations (tid : Nat) (targets : List Ent) {a : Archetype}
    {R : Nat → Nat → Nat → Prop} {T : Nat → Nat → Prop} (h : MapsInv a R T) (hS : Struct a) :
    SameShape a (a.removeTableRelations tid targets) ∧
    MapsInv (a.removeTableRelations tid targets)
      (fun i g t => R i g t ∧
        ¬ (i < a.comps.length ∧ g = (targets.getD i Ent.zero).id ∧ t = tid))
      (fun g t => T g t ∧ ¬ ∃ (i : Nat), i < a.comps.length ∧ a.isRel.getD i false = true ∧
        g = (targets.getD i Ent.zero).id ∧ t = tid) := by
  rw [removeTableRelations_eq]
  obtain ⟨rt, e, hl, hp⟩ := colFold (fun i m => mapRemove m (targets.getD i Ent.zero).id tid)
    (fun i m => mapRemove m (targets.getD i Ent.zero).id tid) a a.comps.length
  rw [e]
  have hlt : ∀ {i : Nat}, a.isRel.getD i false = true →
      i < a.comps.length ∧ i < a.relationTables.length := fun hi =>
    ⟨hS.lenIsRel ▸ isRel_lt hi, hS.lenRel ▸ hS.lenIsRel ▸ isRel_lt hi⟩
  refine ⟨⟨rfl, rfl, rfl, rfl, rfl, hl⟩, fun i hi => ?_, fun i hi => ?_, ?_⟩
  · show MapInv (rt.getD i []) _
    rw [hp i, if_pos ⟨(hlt hi).1, hi, (hlt hi).2⟩]
    exact ((h.rel i hi).mapRemove _ tid).congr fun g t => by simp [(hlt hi).1]
  · show rt.getD i [] = []
    rw [hp i, if_neg (fun h' => by rw [h'.2.1] at hi; cases hi)]; exact h.nonRel i hi
  · refine (h.target.foldl_remove tid (fun i => (targets.getD i Ent.zero).id) _).congr
      fun g t => and_congr_right fun _ => not_congr ?_
    simp only [mem_relCols]
    exact ⟨fun ⟨e, i, ⟨h1, h2⟩, h3⟩ => ⟨i, h1, h2, h3, e⟩,
      fun ⟨i, h1, h2, h3, e⟩ => ⟨e, i, ⟨h1, h2⟩, h3⟩⟩

/-- `FreeTable tid` followed by `removeTableRelations tid (tgt tid)`, the pair `storage.Shrink`
    calls on an emptied relation table (defect D1: `FreeTable` alone is not enough, see
    `freeTable_alone_breaks`), keeps the invariant; `tid` moves from the active to the free
    tables. -/
theorem IndexInv.freeTable_removeTableRelations {a : Archetype} {tgt : Nat → List Ent}
    (h : IndexInv a tgt) (tid : Nat) (hfree : tid ∉ a.freeTables) :
    IndexInv ((a.freeTable tid).removeTableRelations tid (tgt tid)) tgt ∧
    ((a.freeTable tid).removeTableRelations tid (tgt tid)).freeTables = a.freeTables ++ [tid] ∧
    ∀ (t : Nat), t ∈ ((a.freeTable tid).removeTableRelations tid (tgt tid)).tables.tables ↔
      t ∈ a.tables.tables ∧ t ≠ tid := by
  have hs1 := h.toStruct.freeTable tid hfree
  have hm1 := h.toMapsInv.freeTable tid
  obtain ⟨hs, hm⟩ := hm1.removeTableRelations tid (tgt tid) hs1
  have htab : ∀ (t : Nat),
      t ∈ ((a.freeTable tid).removeTableRelations tid (tgt tid)).tables.tables ↔
        t ∈ a.tables.tables ∧ t ≠ tid := by
    intro t
    rw [hs.tables, freeTable_tables, h.tablesWF.mem_remove]
  refine ⟨?_, ?_, htab⟩
  · refine { hs1.of_sameShape hs with rel := ?_, nonRel := hm.nonRel, target := ?_ }
    · intro i hi
      refine (hm.rel i hi).congr ?_
      intro g t
      rw [hs.isRel, (freeTable_archRel _ _).isRel] at hi
      have hil : i < (a.freeTable tid).comps.length := by
        rw [(freeTable_archRel _ _).comps]; exact h.lenIsRel ▸ isRel_lt hi
      unfold relP
      rw [htab]
      by_cases ht : t = tid
      · subst ht
        constructor
        · rintro ⟨⟨⟨_, h1⟩, _⟩, h2⟩; exact absurd ⟨hil, h1.symm, rfl⟩ h2
        · rintro ⟨⟨_, h1⟩, _⟩; exact absurd rfl h1
      · simp [ht]
    · refine hm.target.congr ?_
      intro g t
      unfold tgtP
      rw [htab, hs.isRel, (freeTable_archRel _ _).isRel]
      by_cases ht : t = tid
      · subst ht
        constructor
        · rintro ⟨⟨⟨_, i, h1, h2⟩, _⟩, h3⟩
          exact absurd ⟨i, by rw [(freeTable_archRel _ _).comps]; exact h.lenIsRel ▸ isRel_lt h1, h1,
            h2.symm, rfl⟩ h3
        · rintro ⟨⟨_, h1⟩, _⟩; exact absurd rfl h1
      · simp [ht]
  · rw [hs.freeTables, freeTable_freeTables]

theorem getD_zip_erase (g : Nat) : ∀ (rt : List (AL TableIDs)) (ir : List Bool),
    rt.length = ir.length → ∀ (i : Nat),
    ((rt.zip ir).map fun p => if p.2 = true then AL.erase p.1 g else p.1).getD i [] =
      if ir.getD i false = true then AL.erase (rt.getD i []) g else rt.getD i [] := by
  intro rt ir h i
  rcases Nat.lt_or_ge i rt.length with hlt | hge
  · have h1 : rt[i]? = some rt[i] := List.getElem?_eq_getElem hlt
    have h2 : ir[i]? = some (ir[i]'(h ▸ hlt)) := List.getElem?_eq_getElem _
    have h3 : (rt.zip ir)[i]? = some (rt[i], ir[i]'(h ▸ hlt)) :=
      List.getElem?_zip_eq_some.mpr ⟨h1, h2⟩
    simp only [List.getD_eq_getElem?_getD, List.getElem?_map, h1, h2, h3, Option.map_some,
      Option.getD_some]
  · have h1 : rt[i]? = none := List.getElem?_eq_none hge
    have h2 : ir[i]? = none := List.getElem?_eq_none (h ▸ hge)
    have h3 : (rt.zip ir)[i]? = none :=
      List.getElem?_eq_none (by rw [List.length_zip, ← h, Nat.min_self]; exact hge)
    simp only [List.getD_eq_getElem?_getD, List.getElem?_map, h1, h2, h3, Option.map_none,
      Option.getD_none]
    rfl

theorem removeTarget_eq (a : Archetype) (e : Ent) :
    a.removeTarget e = { a with
      relationTables := (a.relationTables.zip a.isRel).map fun p =>
        if p.2 = true then AL.erase p.1 e.id else p.1
      targetTables := AL.erase a.targetTables e.id } := rfl

theorem removeTarget_sameShape (a : Archetype) (e : Ent)
    (hlen : a.relationTables.length = a.isRel.length) : SameShape a (a.removeTarget e) := by
  rw [removeTarget_eq]
  exact ⟨rfl, rfl, rfl, rfl, rfl, by simp [hlen]⟩

theorem removeTarget_archRel (a : Archetype) (g : Ent) : ArchRel a (a.removeTarget g) :=
  ⟨rfl, rfl, rfl, rfl, rfl, rfl⟩

theorem MapsInv.removeTarget {a : Archetype} {R : Nat → Nat → Nat → Prop} {T : Nat → Nat → Prop}
    (h : MapsInv a R T) (hlen : a.relationTables.length = a.isRel.length) (e : Ent) :
    MapsInv (a.removeTarget e) (fun i g t => R i g t ∧ g ≠ e.id) (fun g t => T g t ∧ g ≠ e.id) := by
  rw [removeTarget_eq]
  refine ⟨?_, ?_, ?_⟩
  · intro i hi
    change a.isRel.getD i false = true at hi
    show MapInv (((a.relationTables.zip a.isRel).map _).getD i []) _
    rw [getD_zip_erase e.id _ _ hlen, if_pos hi]
    exact (h.rel i hi).erase e.id
  · intro i hi
    change a.isRel.getD i false = false at hi
    show ((a.relationTables.zip a.isRel).map _).getD i [] = []
    rw [getD_zip_erase e.id _ _ hlen, if_neg (by rw [hi]; decide)]
    exact h.nonRel i hi
  · exact h.target.erase e.id

/-! ### The `cleanupArchetypes` pattern: `FreeTable` alone, then `RemoveTarget`

`FreeTable` alone leaves the per-target maps untouched when the archetype has at most one
relation column, so the entries of the freed table's target go stale.  `cleanupArchetypes`
frees every table listed under `targetTables[g]` and then calls `RemoveTarget g`, which drops
exactly the stale entries.  `IndexInvExcept a tgt g` is the invariant "up to key `g`". -/

/-- The index invariant with the entries of key `g` unconstrained (apart from unique keys and
    well-formedness of the stored `tableIDs`). -/
structure IndexInvExcept (a : Archetype) (tgt : Nat → List Ent) (g : Nat) : Prop
    extends Struct a where
  maps : ∃ (S : Nat → Nat → Prop) (S' : Nat → Prop),
    MapsInv a (fun i g' t => if g' = g then S i t else relP a tgt i g' t)
      (fun g' t => if g' = g then S' t else tgtP a tgt g' t)

theorem IndexInv.toExcept {a : Archetype} {tgt : Nat → List Ent} (h : IndexInv a tgt) (g : Nat) :
    IndexInvExcept a tgt g := by
  refine { h.toStruct with maps := ⟨fun i t => relP a tgt i g t, fun t => tgtP a tgt g t, ?_⟩ }
  refine h.toMapsInv.congr ?_ ?_
  · intro i _ g' t
    by_cases hg : g' = g
    · subst hg; simp
    · simp [hg]
  · intro g' t
    by_cases hg : g' = g
    · subst hg; simp
    · simp [hg]

theorem IndexInvExcept.freeTable {a : Archetype} {tgt : Nat → List Ent} {g : Nat}
    (h : IndexInvExcept a tgt g) (tid : Nat) (hfree : tid ∉ a.freeTables)
    (hsingle : a.numRel ≤ 1 → ∀ (i : Nat), a.isRel.getD i false = true →
      ((tgt tid).getD i Ent.zero).id = g) :
    IndexInvExcept (a.freeTable tid) tgt g := by
  obtain ⟨S, S', hm⟩ := h.maps
  have hm1 := hm.freeTable tid
  have htab : ∀ (t : Nat), t ∈ (a.freeTable tid).tables.tables ↔ t ∈ a.tables.tables ∧ t ≠ tid := by
    intro t; rw [freeTable_tables, h.tablesWF.mem_remove]
  refine { h.toStruct.freeTable tid hfree with maps :=
    ⟨fun i t => S i t ∧ (a.numRel ≤ 1 ∨ t ≠ tid), fun t => S' t ∧ (a.numRel ≤ 1 ∨ t ≠ tid), ?_⟩ }
  refine hm1.congr ?_ ?_
  · intro i hi g' t
    rw [(freeTable_archRel _ _).isRel] at hi
    by_cases hg : g' = g
    · simp [hg]
    · simp only [hg, if_false]
      unfold relP
      rw [htab]
      constructor
      · rintro ⟨⟨h1, h2⟩, h3⟩
        refine ⟨⟨h1, ?_⟩, h2⟩
        intro ht
        rcases h3 with h3 | h3
        · subst ht; exact hg (h2.symm.trans (hsingle h3 i hi))
        · exact h3 ht
      · rintro ⟨⟨h1, h2⟩, h3⟩
        exact ⟨⟨h1, h3⟩, Or.inr h2⟩
  · intro g' t
    by_cases hg : g' = g
    · simp [hg]
    · simp only [hg, if_false]
      unfold tgtP
      rw [htab, (freeTable_archRel _ _).isRel]
      constructor
      · rintro ⟨⟨h1, i, h2, h3⟩, h4⟩
        refine ⟨⟨h1, ?_⟩, i, h2, h3⟩
        intro ht
        rcases h4 with h4 | h4
        · subst ht; exact hg (h3.symm.trans (hsingle h4 i h2))
        · exact h4 ht
      · rintro ⟨⟨h1, h2⟩, h3⟩
        exact ⟨⟨h1, h3⟩, Or.inr h2⟩

theorem IndexInvExcept.removeTarget {a : Archetype} {tgt : Nat → List Ent} {e : Ent}
    (h : IndexInvExcept a tgt e.id)
    (hno : ∀ (t : Nat), t ∈ a.tables.tables → ∀ (i : Nat), a.isRel.getD i false = true →
      ((tgt t).getD i Ent.zero).id ≠ e.id) :
    IndexInv (a.removeTarget e) tgt := by
  obtain ⟨S, S', hm0⟩ := h.maps
  have hlen : a.relationTables.length = a.isRel.length := h.lenRel.trans h.lenIsRel.symm
  have hs := removeTarget_sameShape a e hlen
  have hm := hm0.removeTarget hlen e
  refine { h.toStruct.of_sameShape hs with rel := ?_, nonRel := hm.nonRel, target := ?_ }
  · intro i hi
    refine (hm.rel i hi).congr ?_
    intro g t
    rw [hs.isRel] at hi
    show (if g = e.id then S i t else relP a tgt i g t) ∧ g ≠ e.id ↔ relP a tgt i g t
    by_cases hg : g = e.id
    · simp only [hg, if_true, ne_eq, not_true_eq_false, and_false, false_iff]
      intro h1
      exact hno t h1.1 i hi h1.2
    · simp [hg]
  · refine hm.target.congr ?_
    intro g t
    show (if g = e.id then S' t else tgtP a tgt g t) ∧ g ≠ e.id ↔ tgtP a tgt g t
    by_cases hg : g = e.id
    · simp only [hg, if_true, ne_eq, not_true_eq_false, and_false, false_iff]
      rintro ⟨h1, i, h2, h3⟩
      exact hno t h1 i h2 h3
    · simp [hg]

theorem IndexInv.removeTarget {a : Archetype} {tgt : Nat → List Ent} (h : IndexInv a tgt)
    (e : Ent)
    (hno : ∀ (t : Nat), t ∈ a.tables.tables → ∀ (i : Nat), a.isRel.getD i false = true →
      ((tgt t).getD i Ent.zero).id ≠ e.id) :
    IndexInv (a.removeTarget e) tgt :=
  (h.toExcept e.id).removeTarget hno

/-- the `createTable` inside the `cleanupArchetypes` loop -/
theorem IndexInvExcept.addTable {a : Archetype} {tgt : Nat → List Ent} {g : Nat}
    (h : IndexInvExcept a tgt g) (tid : Nat) (targets : List Ent)
    (hact : tid ∉ a.tables.tables) (hfree : tid ∉ a.freeTables)
    (htg : ∀ (i : Nat), a.isRel.getD i false = true → (targets.getD i Ent.zero).id ≠ g) :
    IndexInvExcept (a.addTable tid targets) (fun t => if t = tid then targets else tgt t) g := by
  obtain ⟨S, S', hm⟩ := h.maps
  obtain ⟨hs, hm'⟩ := hm.addTable h.toStruct tid targets (fun i hi => by
    show ¬ (if (targets.getD i Ent.zero).id = g then _ else _)
    rw [if_neg (htg i hi)]
    exact fun hh => hact hh.1)
  have htab := mem_addTable_of_sameShape hs
  refine { (h.toStruct.append_table hact hfree).of_sameShape hs with maps := ⟨S, S', ?_⟩ }
  refine hm'.congr ?_ ?_
  · intro i hi g' t
    rw [hs.isRel] at hi
    have hi' : a.isRel.getD i false = true := hi
    have hil : i < a.comps.length := h.lenIsRel ▸ isRel_lt hi'
    by_cases hg : g' = g
    · simp only [hg, if_true]
      constructor
      · rintro (h1 | ⟨_, h1, _⟩)
        · exact h1
        · exact absurd h1.symm (htg i hi')
      · exact Or.inl
    · simp only [hg, if_false]
      exact relP_addTable tgt tid targets htab hact _ i hil g' t
  · intro g' t
    by_cases hg : g' = g
    · simp only [hg, if_true]
      constructor
      · rintro (h1 | ⟨i, _, h1, h2, _⟩)
        · exact h1
        · exact absurd h2.symm (htg i h1)
      · exact Or.inl
    · simp only [hg, if_false]
      exact tgtP_addTable tgt tid targets htab hs.isRel hact _
        (fun i hi => h.lenIsRel ▸ isRel_lt hi) g' t

theorem IndexInvExcept.getFreeTable {a : Archetype} {tgt : Nat → List Ent} {g : Nat}
    (h : IndexInvExcept a tgt g) {a' : Archetype} {t : Nat}
    (hg : a.getFreeTable = some (a', t)) :
    IndexInvExcept a' tgt g ∧ a.freeTables = a'.freeTables ++ [t] ∧ a'.tables = a.tables ∧
      t ∉ a'.freeTables ∧ t ∉ a'.tables.tables := by
  obtain ⟨hS, h1, h2, h3, h4⟩ := h.toStruct.getFreeTable hg
  obtain ⟨rfl, _⟩ := getFreeTable_some hg
  obtain ⟨S, S', hm⟩ := h.maps
  exact ⟨{ hS with maps := ⟨S, S', ⟨hm.rel, hm.nonRel, hm.target⟩⟩ }, h1, h2, h3, h4⟩

theorem Struct.freeAllTables {a : Archetype} (h : a.Struct) : a.freeAllTables.Struct := by
  refine { tablesWF := TableIDs.wf_empty, freeNodup := ?_,
           disjoint := fun t ht => absurd ht (by simp [Archetype.freeAllTables]),
           lenRel := ?_, lenIsRel := h.lenIsRel, numRelEq := h.numRelEq }
  · show (a.freeTables ++ a.tables.tables).Nodup
    refine List.nodup_append.2 ⟨h.freeNodup, h.tablesWF.nodup, ?_⟩
    intro x hx y hy e
    subst e
    exact h.disjoint x hy hx
  · show (a.relationTables.map fun _ => ([] : AL TableIDs)).length = a.comps.length
    rw [List.length_map]; exact h.lenRel

theorem IndexInv.freeAllTables {a : Archetype} {tgt : Nat → List Ent} (h : IndexInv a tgt) :
    IndexInv a.freeAllTables tgt := by
  have hempty : ∀ (i : Nat), (a.relationTables.map fun _ => ([] : AL TableIDs)).getD i [] = [] :=
    fun i => by rw [getD_map_nil _ _ rfl]
  have hno : ∀ (t : Nat), t ∉ a.freeAllTables.tables.tables := by
    intro t ht; exact absurd ht (by simp [Archetype.freeAllTables])
  refine { h.toStruct.freeAllTables with rel := ?_, nonRel := ?_, target := ?_ }
  · intro i _
    show MapInv ((a.relationTables.map fun _ => ([] : AL TableIDs)).getD i []) _
    rw [hempty]
    exact MapInv.nil.congr (fun g t => ⟨False.elim, fun h1 => hno t h1.1⟩)
  · intro i _; exact hempty i
  · exact MapInv.nil.congr (fun g t => ⟨False.elim, fun h1 => hno t h1.1⟩)

/-! ### `FreeTable` alone is not enough (defect D1)

With at most one relation column `FreeTable` leaves the freed table listed in the per-target
maps.  Concrete witness: one relation column, one table `5` targeting entity ID `7`. -/

def d1Witness : Archetype :=
  (Archetype.new 0 default [0] [true] [false] []).addTable 5 [⟨7, 0⟩]

theorem d1Witness_inv :
    IndexInv d1Witness (fun t => if t = 5 then [⟨7, 0⟩] else []) :=
  (indexInv_new 0 default [0] [true] [false] rfl (fun _ => [])).addTable 5 [⟨7, 0⟩]
    (by simp [Archetype.new, TableIDs.ofList]) (by simp [Archetype.new])

/-- After `FreeTable 5` alone the freed table is still returned by `GetTables` for its target,
    so the invariant fails for every target function. -/
theorem freeTable_alone_breaks (tgt : Nat → List Ent) :
    (d1Witness.freeTable 5).getTables [⟨0, ⟨7, 0⟩⟩] = some [5] ∧
    (d1Witness.freeTable 5).tables.tables = [] ∧
    ¬ IndexInv (d1Witness.freeTable 5) tgt := by
  refine ⟨by decide, by decide, ?_⟩
  intro h
  have hm := (h.rel 0 (by decide)).mem 7 5
  have h5 : 5 ∈ tablesOf (AL.find? ((d1Witness.freeTable 5).relationTables.getD 0 []) 7) := by
    decide
  have := (hm.1 h5).1
  have hnil : (d1Witness.freeTable 5).tables.tables = [] := by decide
  rw [hnil] at this
  simp at this

end Archetype

end Ark
