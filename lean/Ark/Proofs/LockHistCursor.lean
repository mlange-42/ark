/-
  Property C07 over whole histories: an open query sees a frozen world.  While some query
  is open, every step of the machine of `Ark.Proofs.LockHistQ` changes only the lock and `Set`'s
  writes into component columns (`Frozen`, `stepQ_frozen`); a query open before and after a
  history kept its lock bit, and the rows it had to visit before are rows it visited in between
  followed by the rows it still has to visit (`run_span`, `opened_span`).
-/
import Ark.Proofs.LockHistQ

set_option autoImplicit false

namespace Ark

open World Ark.Props.C01World Refine

namespace LockHist

/-! ## 1. a finished or closed query is never open again -/

theorem isSome_find?_insert (cs : AL QueryObj) (q q' : Nat) (c : QueryObj)
    (hk : (AL.find? cs q).isSome = true) : (AL.find? (AL.insert cs q' c) q).isSome = true := by
  rw [AL.find?_insert]
  split
  · rfl
  · exact hk

theorem stepQ_known (run : ProbeRunner) (s : QSt) (op : OpQ) {q : Nat}
    (hk : (AL.find? s.cursors q).isSome = true) :
    (AL.find? (stepQ run s op).cursors q).isSome = true := by
  cases op with
  | base op =>
    simp only [stepQ]
    split
    · split <;> exact hk
    · exact hk
  | qopen q' fo =>
    simp only [stepQ]
    split
    · split
      · exact isSome_find?_insert _ _ _ _ hk
      · exact hk
    · exact hk
  | qnext q' =>
    simp only [stepQ]
    split
    · exact hk
    · split
      · exact isSome_find?_insert _ _ _ _ hk
      · exact hk
  | qclose q' =>
    simp only [stepQ]
    split
    · exact hk
    · split
      · exact isSome_find?_insert _ _ _ _ hk
      · exact hk
  | emit evt comps e => exact hk

/-- a query that is known and not open is not open after the step: names are not re-used, and
    only `Query()` opens a query -/
theorem stepQ_closed_stays (run : ProbeRunner) (s : QSt) (op : OpQ) {q : Nat}
    (hk : (AL.find? s.cursors q).isSome = true) (hq : q ∉ s.openQ) :
    q ∉ (stepQ run s op).openQ := by
  cases op with
  | base op =>
    simp only [stepQ]
    split
    · split <;> exact hq
    · exact hq
  | qopen q' fo =>
    simp only [stepQ]
    split
    · rename_i hg
      simp only [guardQ, Bool.and_eq_true, Option.isNone_iff_eq_none] at hg
      have hne : q ≠ q' := by
        intro h; subst h
        rw [hg.1] at hk; cases hk
      split
      · show q ∉ q' :: s.openQ
        simp only [List.mem_cons, not_or]
        exact ⟨hne, hq⟩
      · exact hq
    · exact hq
  | qnext q' =>
    simp only [stepQ]
    split
    · exact hq
    · split
      · rename_i c' more w' _
        show q ∉ (if more = true then s.openQ else s.openQ.erase q')
        split
        · exact hq
        · exact fun h => hq (List.mem_of_mem_erase h)
      · exact hq
  | qclose q' =>
    simp only [stepQ]
    split
    · exact hq
    · split
      · exact fun h => hq (List.mem_of_mem_erase h)
      · exact hq
  | emit evt comps e => exact hq

theorem runQ_closed_stays (run : ProbeRunner) (ops : List OpQ) : ∀ (s : QSt) {q : Nat},
    (AL.find? s.cursors q).isSome = true → q ∉ s.openQ → q ∉ (runQ run s ops).openQ := by
  induction ops with
  | nil => intro s q _ hq; exact hq
  | cons op ops ih =>
    intro s q hk hq
    exact ih (stepQ run s op) (stepQ_known run s op hk) (stepQ_closed_stays run s op hk hq)

/-! ## 2. the world is frozen while a query is open -/

theorem stepQ_frozen (run : ProbeRunner) {s : QSt} {fl lfl : List Nat} (H : HInvQ s fl lfl)
    (h1 : s.openQ ≠ []) (op : OpQ) : Frozen s.w (stepQ run s op).w := by
  by_cases hg : guardQ s op = true
  case neg => rw [stepQ_no_guard run s op hg]; exact Frozen.refl _
  cases op with
  | base op =>
    cases hs : op.structural with
    | true => rw [(step_base_locked run H h1 op hs).2]; exact Frozen.refl _
    | false =>
      cases op <;> try (cases hs)
      rename_i e vals
      have hstep : stepQ run s (.base (.set e vals)) =
          { s with base := Refine.step run s.base (.set e vals) } := by
        simp only [stepQ, Op.structural, Bool.false_eq_true, and_false, if_false]
      rw [hstep]
      exact frozen_set run s.base (H.hinv.cinv.noObs _) e vals
  | qopen q fo =>
    rcases step_qopen run H q fo hg with ⟨_, _, h⟩ | ⟨_, l, b, _, _, _, _, h, _⟩ <;> rw [h]
    · exact Frozen.refl _
    · exact Frozen.withLocks _ l
  | qnext q =>
    obtain ⟨c, hc⟩ : ∃ c, AL.find? s.cursors q = some c := Option.isSome_iff_exists.mp hg
    by_cases hq : q ∈ s.openQ
    · rcases step_qnext_open run H hc hq with ⟨c', _, _, _, h, _⟩ | ⟨c', l', _, _, _, h, _⟩ <;> rw [h]
      · exact Frozen.refl _
      · exact Frozen.withLocks _ l'
    · rw [(step_qnext_closed run H hc hq).2]; exact Frozen.refl _
  | qclose q =>
    obtain ⟨c, hc⟩ : ∃ c, AL.find? s.cursors q = some c := Option.isSome_iff_exists.mp hg
    by_cases hq : q ∈ s.openQ
    · obtain ⟨l', _, _, h, _⟩ := step_qclose_open run H hc hq
      rw [h]; exact Frozen.withLocks _ l'
    · rw [(step_qclose_closed run H hc hq).2]; exact Frozen.refl _
  | emit evt comps e => rw [(step_emit run H evt comps e).2]; exact Frozen.refl _

/-! ## 3. an open query across a history -/

/-- **one step of an open query**: if `q` is open before and after the step, the query object
    after the step has the same lock bit, and the rows `q` had to visit before are at most one
    visited row (`q.Next()` returned `true` for it) followed by the rows it still has to visit -/
theorem step_span (run : ProbeRunner) {s : QSt} {fl lfl : List Nat} (H : HInvQ s fl lfl) (op : OpQ)
    {q : Nat} {c : QueryObj} (hc : AL.find? s.cursors q = some c) (hq : q ∈ s.openQ)
    (hq' : q ∈ (stepQ run s op).openQ) :
    ∃ (c' : QueryObj) (pre rest : List (Nat × Nat)),
      AL.find? (stepQ run s op).cursors q = some c' ∧ c'.lockBit = c.lockBit ∧
      Drain.remaining s.w c = some (pre ++ rest) ∧
      Drain.remaining (stepQ run s op).w c' = some rest ∧
      (pre = [] ∨ (op = .qnext q ∧ pre = [(c'.cur.getD 0, c'.index)])) := by
  have h1 : s.openQ ≠ [] := fun h => by rw [h] at hq; cases hq
  obtain ⟨x, hx, hxt⟩ := (H.open_iff q).mp hq
  rw [hc] at hx; cases hx
  obtain ⟨rows, hrem⟩ := (H.cur q c hc hxt).rem
  have hfz := stepQ_frozen run H h1 op
  -- the query object of `q` is untouched
  have keep : AL.find? (stepQ run s op).cursors q = some c →
      ∃ (c' : QueryObj) (pre rest : List (Nat × Nat)),
        AL.find? (stepQ run s op).cursors q = some c' ∧ c'.lockBit = c.lockBit ∧
        Drain.remaining s.w c = some (pre ++ rest) ∧
        Drain.remaining (stepQ run s op).w c' = some rest ∧
        (pre = [] ∨ (op = .qnext q ∧ pre = [(c'.cur.getD 0, c'.index)])) :=
    fun h => ⟨c, [], rows, h, rfl, hrem, by rw [hfz.remaining]; exact hrem, Or.inl rfl⟩
  -- … also when another query object is replaced
  have other : ∀ {q2 : Nat} (c2 : QueryObj), q ≠ q2 →
      AL.find? (AL.insert s.cursors q2 c2) q = some c :=
    fun c2 hne => by rw [AL.find?_insert_ne _ _ _ _ hne]; exact hc
  by_cases hg : guardQ s op = true
  case neg => exact keep (by rw [stepQ_no_guard run s op hg]; exact hc)
  cases op with
  | base op =>
    apply keep
    simp only [stepQ]
    split
    · split <;> exact hc
    · exact hc
  | qopen q2 fo =>
    apply keep
    rcases step_qopen run H q2 fo hg with ⟨_, _, h⟩ | ⟨_, l, b, _, _, _, _, h, _⟩ <;> rw [h]
    · exact hc
    · have hg' := hg
      simp only [guardQ, Bool.and_eq_true, Option.isNone_iff_eq_none] at hg'
      have hne : q ≠ q2 := by
        intro hh; subst hh
        rw [hg'.1] at hc; cases hc
      exact other _ hne
  | qnext q2 =>
    obtain ⟨c2, hc2⟩ : ∃ c, AL.find? s.cursors q2 = some c := Option.isSome_iff_exists.mp hg
    by_cases hq2 : q2 ∈ s.openQ
    · rcases step_qnext_open run H hc2 hq2 with
        ⟨c', r, rs, _, h, hb, _, hr, hcur, hidx, hrs, _⟩ | ⟨c', l', _, _, _, h, _⟩
      · by_cases hne : q = q2
        · subst hne
          rw [hc] at hc2; cases hc2
          refine ⟨c', [r], rs, by rw [h]; exact AL.find?_insert_self _ _ _, hb, hr, ?_, Or.inr ⟨rfl, ?_⟩⟩
          · rw [h]; exact hrs
          · rw [hcur, hidx]; rfl
        · apply keep
          rw [h]
          exact other _ hne
      · by_cases hne : q = q2
        · subst hne
          rw [h] at hq'
          exact absurd hq' (List.Nodup.not_mem_erase H.openNodup)
        · apply keep
          rw [h]
          exact other _ hne
    · apply keep
      rw [(step_qnext_closed run H hc2 hq2).2]; exact hc
  | qclose q2 =>
    obtain ⟨c2, hc2⟩ : ∃ c, AL.find? s.cursors q2 = some c := Option.isSome_iff_exists.mp hg
    by_cases hq2 : q2 ∈ s.openQ
    · obtain ⟨l', _, _, h, _⟩ := step_qclose_open run H hc2 hq2
      by_cases hne : q = q2
      · subst hne
        rw [h] at hq'
        exact absurd hq' (List.Nodup.not_mem_erase H.openNodup)
      · apply keep
        rw [h]
        exact other _ hne
    · apply keep
      rw [(step_qclose_closed run H hc2 hq2).2]; exact hc
  | emit evt comps e =>
    apply keep
    rw [(step_emit run H evt comps e).2]; exact hc

/-- **an open query across a history**: if `q` is open before and after the history `ops`, then
    the world is frozen across it, `q` kept its lock bit, and the rows `q` had to visit before are
    rows it visited in between followed by the rows it still has to visit -/
theorem run_span (run : ProbeRunner) (ops : List OpQ) : ∀ (s : QSt) (fl lfl : List Nat),
    HInvQ s fl lfl → s.w.tables.length + ops.length ≤ maxU32 →
    s.w.entities.length + ops.length < 2 ^ 32 →
    ∀ {q : Nat} {c : QueryObj}, AL.find? s.cursors q = some c → q ∈ s.openQ →
    q ∈ (runQ run s ops).openQ →
    Frozen s.w (runQ run s ops).w ∧
    ∃ (c' : QueryObj) (pre rest : List (Nat × Nat)),
      AL.find? (runQ run s ops).cursors q = some c' ∧ c'.lockBit = c.lockBit ∧
      Drain.remaining s.w c = some (pre ++ rest) ∧
      Drain.remaining (runQ run s ops).w c' = some rest := by
  induction ops with
  | nil =>
    intro s fl lfl H _ _ q c hc hq _
    obtain ⟨x, hx, hxt⟩ := (H.open_iff q).mp hq
    rw [hc] at hx; cases hx
    obtain ⟨rows, hrem⟩ := (H.cur q c hc hxt).rem
    exact ⟨Frozen.refl _, c, [], rows, hc, rfl, hrem, hrem⟩
  | cons op ops ih =>
    intro s fl lfl H hb1 hb2 q c hc hq hq'
    simp only [List.length_cons] at hb1 hb2
    have h1 : s.openQ ≠ [] := fun h => by rw [h] at hq; cases hq
    have hk : (AL.find? s.cursors q).isSome = true := by rw [hc]; rfl
    -- `q` is still open after the first step
    have hq1 : q ∈ (stepQ run s op).openQ := by
      false_or_by_contra
      rename_i hn
      exact runQ_closed_stays run ops (stepQ run s op) (stepQ_known run s op hk) hn hq'
    obtain ⟨⟨fl1, lfl1, H1⟩, g1, g2⟩ := stepQ_inv run H (by omega) (by omega) op
    obtain ⟨c1, pre1, rest1, hc1, hb, hr, hr1, _⟩ := step_span run H op hc hq hq1
    obtain ⟨hfz, c', pre, rest, hc', hb', hr', hrest⟩ :=
      ih (stepQ run s op) fl1 lfl1 H1 (by omega) (by omega) hc1 hq1 hq'
    refine ⟨(stepQ_frozen run H h1 op).trans hfz, c', pre1 ++ pre, rest, hc', hb'.trans hb, ?_, hrest⟩
    rw [hr, List.append_assoc]
    rw [hr1] at hr'
    rw [Option.some.inj hr']

/-! ## 4. from `Query()` on -/

open QueryExact in
/-- **the cursor sees a frozen world**: a query opened by `qopen q fo` (fewer than 64 queries
    open) that is still open after the history `ops` has, as rows still to visit, a suffix of
    the rows `Drain.expected` computed in the world right after `Query()`; the world has been
    frozen since; the query kept its lock bit -/
theorem opened_span (run : ProbeRunner) {s : QSt} {fl lfl : List Nat} (H : HInvQ s fl lfl)
    (q : Nat) (fo : FilterObj) (ops : List OpQ)
    (hb1 : s.w.tables.length + ops.length ≤ maxU32) (hb2 : s.w.entities.length + ops.length < 2 ^ 32)
    (hg : guardQ s (.qopen q fo) = true) (hlt : s.openQ.length < 64)
    (hq' : q ∈ (runQ run (stepQ run s (.qopen q fo)) ops).openQ) :
    ∃ (c1 c2 : QueryObj) (pre rest : List (Nat × Nat)),
      AL.find? (stepQ run s (.qopen q fo)).cursors q = some c1 ∧
      AL.find? (runQ run (stepQ run s (.qopen q fo)) ops).cursors q = some c2 ∧
      c2.lockBit = c1.lockBit ∧
      Drain.expected (stepQ run s (.qopen q fo)).w c1 = some (pre ++ rest) ∧
      Drain.remaining (runQ run (stepQ run s (.qopen q fo)) ops).w c2 = some rest ∧
      Frozen (stepQ run s (.qopen q fo)).w (runQ run (stepQ run s (.qopen q fo)) ops).w := by
  rcases step_qopen run H q fo hg with ⟨h64, _⟩ | ⟨_, l, b, _, _, _, _, h, lfl', HI⟩
  · omega
  · rw [h] at hq' ⊢
    have hc1 : AL.find? (AL.insert s.cursors q (openedQ fo s.w b)) q = some (openedQ fo s.w b) :=
      AL.find?_insert_self _ _ _
    obtain ⟨hfz, c2, pre, rest, hc2, hb, hr, hrest⟩ :=
      run_span run ops _ fl lfl' HI hb1 hb2 (q := q) hc1 List.mem_cons_self hq'
    obtain ⟨rows, he, hrem⟩ := opened_expected H.hinv.cinv fo b
    exact ⟨_, c2, pre, rest, hc1, hc2, hb,
      he.trans (hrem.symm.trans (((Frozen.withLocks s.w l).remaining _).symm.trans hr)), hrest, hfz⟩

end LockHist

end Ark
