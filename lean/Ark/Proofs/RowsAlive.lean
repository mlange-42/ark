/-
  **The handle stored in a row is the alive handle of that ID**, at the level of the world
  transformers.

  `CInv` relates table rows and the entity index through IDs only ("the index knows IDs only",
  see `CInv.row_live_id`).  A query reports the HANDLE stored in the entity column, so C03 needs
  `RowsAlive w`: every handle stored in a row in use (`r < T.len`) is alive; under `CInv` the
  stored handle is then the one in the pool slot of its ID (`RowsAlive.slot`), i.e. it carries
  the current generation.  It survives `placeNew` because the handle just taken from the pool is
  alive and no row holds its ID, and `RemoveEntity` because `Pool.recycle e` changes `Alive` only
  for handles with the ID of `e`, and the only row with that ID is the removed one.
-/
import Ark.Proofs.RefineCore

set_option autoImplicit false

namespace Ark

open World

/-! ## 1. definition -/

def RowsAlive (w : World) : Prop :=
  ∀ (t : Nat) (T : Table) (r : Nat), w.tables[t]? = some T → r < T.len →
    w.alive (T.getEntity r) = true

theorem World.tbl_len_pos_lt {w : World} {t r : Nat} (hr : r < (w.tbl t).len) :
    t < w.tables.length := by
  rcases Nat.lt_or_ge t w.tables.length with h | h
  · exact h
  · rw [tbl_of_ge h] at hr
    exact absurd hr (Nat.not_lt_zero r)

theorem RowsAlive.tbl {w : World} (h : RowsAlive w) {t r : Nat} (hr : r < (w.tbl t).len) :
    w.alive ((w.tbl t).getEntity r) = true :=
  h t _ r (get_of_lt (tbl_len_pos_lt hr)) hr

theorem rowsAlive_of_tbl {w : World}
    (h : ∀ t r : Nat, r < (w.tbl t).len → w.alive ((w.tbl t).getEntity r) = true) :
    RowsAlive w := by
  intro t T r hT hr
  have := tbl_of_get hT
  subst this
  exact h t r hr

theorem rowsAlive_of_set {w w' : World} {t : Nat} {T' : Table} (hTab : w'.tables = w.tables.set t T')
    (hnew : ∀ r : Nat, r < T'.len → w'.alive (T'.getEntity r) = true)
    (hold : ∀ t1 : Nat, t1 ≠ t → ∀ r : Nat, r < (w.tbl t1).len →
      w'.alive ((w.tbl t1).getEntity r) = true) : RowsAlive w' := by
  apply rowsAlive_of_tbl
  intro t1 r hr
  rw [tbl_of_set hTab] at hr ⊢
  by_cases h1 : t1 = t
  · subst h1
    by_cases h2 : t1 < w.tables.length
    · rw [if_pos ⟨rfl, h2⟩] at hr ⊢; exact hnew r hr
    · rw [if_neg (fun hh => h2 hh.2)] at hr; exact absurd (tbl_len_pos_lt hr) h2
  · rw [if_neg (fun hh => h1 hh.1)] at hr ⊢; exact hold t1 h1 r hr

theorem RowsAlive.slot {w : World} {fl : List Nat} (h : RowsAlive w) (hc : CInv w fl) {t r : Nat}
    (hr : r < (w.tbl t).len) :
    w.pool.ents[((w.tbl t).getEntity r).id]? = some ((w.tbl t).getEntity r) := by
  obtain ⟨_, hnf, hlt, _⟩ := hc.row_live_id (tbl_len_pos_lt hr) hr
  exact (hc.aliveIff _ hnf (by rw [← hc.lenEq]; exact hlt)).mp (h.tbl hr)

theorem rowsAlive_iff_slot {w : World} {fl : List Nat} (hc : CInv w fl) :
    RowsAlive w ↔ ∀ t r : Nat, r < (w.tbl t).len →
      w.pool.ents[((w.tbl t).getEntity r).id]? = some ((w.tbl t).getEntity r) := by
  constructor
  · intro h t r hr; exact h.slot hc hr
  · intro h
    apply rowsAlive_of_tbl
    intro t r hr
    obtain ⟨_, hnf, hlt, _⟩ := hc.row_live_id (tbl_len_pos_lt hr) hr
    exact (hc.aliveIff _ hnf (by rw [← hc.lenEq]; exact hlt)).mpr (h t r hr)

theorem RowsAlive.init (cap rel : Nat) (maxComps : Nat := 256) :
    RowsAlive (World.init cap rel maxComps) := by
  intro t T r hT hr
  have hlt : t < 1 := lt_of_get hT
  have ht0 : t = 0 := by omega
  subst ht0
  have : T = Table.new 0 0 [] [] [] cap [] [] := by
    have h0 : (World.init cap rel maxComps).tables[0]? = some (Table.new 0 0 [] [] [] cap [] []) := rfl
    rw [h0] at hT; exact (Option.some.inj hT).symm
  subst this
  exact absurd hr (Nat.not_lt_zero r)

/-! ## 2. the table lookups -/

/-- what a table lookup keeps: the pool, and the rows in use of every table (a table created by
    the lookup is empty, a recycled one keeps its rows) -/
structure LookupKeeps (w w' : World) : Prop where
  pool : w'.pool = w.pool
  rows : ∀ t r : Nat, r < (w'.tbl t).len →
    r < (w.tbl t).len ∧ (w'.tbl t).getEntity r = (w.tbl t).getEntity r

theorem LookupKeeps.refl (w : World) : LookupKeeps w w := ⟨rfl, fun _ _ h => ⟨h, rfl⟩⟩

theorem LookupKeeps.trans {a b c : World} (h1 : LookupKeeps a b) (h2 : LookupKeeps b c) :
    LookupKeeps a c :=
  ⟨h2.pool.trans h1.pool, fun t r hr => by
    obtain ⟨x1, x2⟩ := h2.rows t r hr
    obtain ⟨y1, y2⟩ := h1.rows t r x1
    exact ⟨y1, x2.trans y2⟩⟩

theorem LookupKeeps.of_tables {w w' : World} (hp : w'.pool = w.pool) (ht : w'.tables = w.tables) :
    LookupKeeps w w' :=
  ⟨hp, fun t r hr => by
    have : w'.tbl t = w.tbl t := tbl_congr ht _
    rw [this] at hr ⊢; exact ⟨hr, rfl⟩⟩

namespace World

theorem createTableS_keeps (w : World) (a : Nat) (rels : List RelID) :
    LookupKeeps w (createTableS w a rels).1 := by
  unfold createTableS
  split
  · rename_i A' t hf
    refine ⟨rfl, ?_⟩
    intro t' r hr
    have : (((w.setArch a A').modTbl t fun T => T.recycle (ctTargets (w.arch a) rels) rels).modArch a
        fun A => A.addTable t (ctTargets (w.arch a) rels)).tbl t' =
        ((w.setArch a A').modTbl t fun T => T.recycle (ctTargets (w.arch a) rels) rels).tbl t' := rfl
    rw [this, modTbl_tbl] at hr ⊢
    split at hr
    · rename_i hc
      rw [if_pos hc]
      obtain ⟨rfl, _⟩ := hc
      exact ⟨hr, rfl⟩
    · rename_i hc
      rw [if_neg hc]
      exact ⟨hr, rfl⟩
  · refine ⟨rfl, ?_⟩
    intro t' r hr
    have hT : ∀ x : Table, (({ w with tables := w.tables ++ [x] } : World).modArch a
        fun A => A.addTable w.tables.length (ctTargets (w.arch a) rels)).tbl t' =
        (w.tables ++ [x]).getD t' default := fun _ => rfl
    rw [hT] at hr ⊢
    rcases Nat.lt_or_ge t' w.tables.length with hlt | hge
    · have : (w.tables ++ [Table.new w.tables.length a (w.arch a).comps (w.arch a).isRel (w.arch a).zst
          (if (w.arch a).hasRelations then w.initCapRel else w.initCap)
          (ctTargets (w.arch a) rels) rels]).getD t' default = w.tbl t' := by
        simp only [tbl, List.getD_eq_getElem?_getD, List.getElem?_append_left hlt]
      rw [this] at hr ⊢
      exact ⟨hr, rfl⟩
    · exfalso
      simp only [List.getD_eq_getElem?_getD, List.getElem?_append_right hge] at hr
      cases hd : t' - w.tables.length with
      | zero => rw [hd] at hr; simp [Table.new] at hr
      | succ n =>
        rw [hd] at hr
        simp only [List.getElem?_cons_succ, List.getElem?_nil, Option.getD_none] at hr
        exact absurd hr (Nat.not_lt_zero r)

theorem createTable_keeps {a : Nat} {rels : List RelID} {w w' : World} {t : Nat}
    (h : createTable a rels w = .ok t w') : LookupKeeps w w' := by
  obtain ⟨_, _, _, _, h5⟩ := createTable_ok h
  obtain ⟨_, ht, _, _, hp⟩ := cacheAddTable_frame h5
  exact (createTableS_keeps w a rels).trans (LookupKeeps.of_tables hp ht)

theorem findOrCreateArch_keeps {mask : Mask} {w w' : World} {a : Nat}
    (h : findOrCreateArch mask w = .ok a w') : LookupKeeps w w' := by
  refine LookupKeeps.of_tables ?_ (findOrCreateArch_tables h)
  rcases findOrCreateArch_ok_cases h with rfl | rfl
  · rfl
  · exact createArchetypeW_proj (·.pool) (fun _ _ _ => rfl) (fun _ _ => rfl) w mask

theorem findOrCreateTableAdd_keeps {oldT : Nat} {startMask : Mask} {add : List Comp}
    {rels : List RelID} {w w' : World} {r : Nat × Nat × Mask}
    (h : findOrCreateTableAdd oldT startMask add rels w = .ok r w') : LookupKeeps w w' :=
  (lookup_induct LookupKeeps LookupKeeps.trans findOrCreateArch_keeps createTable_keeps).1 h

theorem findOrCreateTable_keeps {oldT : Nat} {startMask : Mask} {add rem : List Comp}
    {rels : List RelID} {w w' : World} {r : Nat × Nat × Mask × Bool}
    (h : findOrCreateTable oldT startMask add rem rels w = .ok r w') : LookupKeeps w w' :=
  (lookup_induct LookupKeeps LookupKeeps.trans findOrCreateArch_keeps createTable_keeps).2.2 h

end World

theorem RowsAlive.lookup {w w' : World} (h : RowsAlive w) (k : LookupKeeps w w') : RowsAlive w' := by
  apply rowsAlive_of_tbl
  intro t r hr
  obtain ⟨h1, h2⟩ := k.rows t r hr
  rw [h2]
  simp only [World.alive, k.pool]
  exact h.tbl h1

/-! ## 3. writes -/

namespace Table

theorem setComp_len_ents (T : Table) (c : Comp) (row : Nat) (v : Val) :
    (T.setComp c row v).len = T.len ∧ (T.setComp c row v).ents = T.ents := by
  simp only [setComp]
  split
  · simp only [setCell]
    split <;> exact ⟨rfl, rfl⟩
  · exact ⟨rfl, rfl⟩

theorem writeFold_len_ents (row : Nat) : ∀ (vals : List (Comp × Val)) (T : Table),
    (vals.foldl (fun T (cv : Comp × Val) => T.setComp cv.1 row cv.2) T).len = T.len ∧
    (vals.foldl (fun T (cv : Comp × Val) => T.setComp cv.1 row cv.2) T).ents = T.ents
  | [], _ => ⟨rfl, rfl⟩
  | cv :: vals, T => by
    rw [List.foldl_cons]
    obtain ⟨h1, h2⟩ := writeFold_len_ents row vals (T.setComp cv.1 row cv.2)
    obtain ⟨g1, g2⟩ := setComp_len_ents T cv.1 row cv.2
    exact ⟨h1.trans g1, h2.trans g2⟩

theorem add_rows {T : Table} (hS : T.Shape) (e : Ent) (hb : T.len + 1 < 2 ^ 32) {r : Nat}
    (hr : r < (T.add e).1.len) :
    (r < T.len ∧ (T.add e).1.getEntity r = T.getEntity r) ∨ (T.add e).1.getEntity r = e := by
  rw [add_fst_len] at hr
  by_cases hrl : r < T.len
  · exact Or.inl ⟨hrl, add_getEntity_lt T e r hrl⟩
  · have hre : r = (T.add e).2 := by rw [add_snd]; omega
    rw [hre]; exact Or.inr (add_getEntity_new hS e hb)

theorem remove_rows {T : Table} (hS : T.Shape) {row : Nat} (hrow : row < T.len) {r : Nat}
    (hr : r < (T.remove row).1.len) :
    ∃ r' : Nat, r' < T.len ∧ r' ≠ row ∧ (T.remove row).1.getEntity r = T.getEntity r' := by
  rw [remove_len] at hr
  rw [remove_getEntity hS row hrow r hr]
  split
  · exact ⟨T.len - 1, by omega, by omega, rfl⟩
  · rename_i hne; exact ⟨r, by omega, hne, rfl⟩

end Table

theorem RowsAlive.modTbl {w : World} (h : RowsAlive w) (t : Nat) {f : Table → Table}
    (hf : (f (w.tbl t)).len = (w.tbl t).len ∧ (f (w.tbl t)).ents = (w.tbl t).ents) :
    RowsAlive (w.modTbl t f) := by
  refine rowsAlive_of_set (w := w) rfl ?_ (fun t1 _ r hr => h.tbl hr)
  intro r hr
  rw [hf.1] at hr
  have : (f (w.tbl t)).getEntity r = (w.tbl t).getEntity r := by simp only [Table.getEntity, hf.2]
  rw [this]; exact h.tbl hr

theorem RowsAlive.writeVals {w : World} (h : RowsAlive w) (e : Ent) (vals : List (Comp × Val)) :
    RowsAlive (writeValsW w e vals) :=
  h.modTbl _ (Table.writeFold_len_ents _ vals _)

/-! ## 4. `placeNew` -/

/-- table `t` gets a row holding the handle `e`, whose ID was unused (`hun`; `hlive`: the IDs in
    the rows are in use); `e` is alive afterwards, handles with other IDs are as before -/
theorem RowsAlive.placeRow {w w' : World} {fl : List Nat} (h : RowsAlive w) (hI : IdxInv w)
    {t : Nat} {e : Ent} (hlt : t < w.tables.length) (hb : (w.tbl t).len + 1 < 2 ^ 32)
    (hTab : w'.tables = w.tables.set t ((w.tbl t).add e).1) (he : w'.alive e = true)
    (hfr : ∀ x : Ent, x.id ≠ e.id → w'.alive x = w.alive x)
    (hlive : ∀ t1 r : Nat, r < (w.tbl t1).len →
      ((w.tbl t1).getEntity r).id ∉ fl ∧ ((w.tbl t1).getEntity r).id < w.entities.length)
    (hun : (e.id = w.entities.length ∧ fl = [] ∧ e.gen = 0) ∨
      (e.id < w.entities.length ∧ fl = e.id :: fl.tail)) : RowsAlive w' := by
  have hold : ∀ t1 r : Nat, r < (w.tbl t1).len → w'.alive ((w.tbl t1).getEntity r) = true := by
    intro t1 r hr
    obtain ⟨hnf, hl⟩ := hlive t1 r hr
    have hne : ((w.tbl t1).getEntity r).id ≠ e.id := by
      intro heq
      rcases hun with ⟨a, _, _⟩ | ⟨_, b⟩
      · omega
      · apply hnf; rw [heq, b]; exact List.mem_cons_self
    rw [hfr _ hne]; exact h.tbl hr
  refine rowsAlive_of_set hTab ?_ (fun t1 _ => hold t1)
  intro r hr
  rcases Table.add_rows (hI.shape t _ (get_of_lt hlt)) e hb hr with ⟨h1, h2⟩ | h2
  · rw [h2]; exact hold t r h1
  · rw [h2]; exact he

theorem RowsAlive.placed {w : World} {fl : List Nat} (h : RowsAlive w) (L : PLink w fl) {t : Nat}
    (hlt : t < w.tables.length) (rt : Bool) (hb : (w.tbl t).len + 1 < 2 ^ 32) :
    RowsAlive (placedW w t rt) := by
  have pp := L.placed hlt rt hb
  refine h.placeRow L.idx hlt hb pp.tables pp.alive pp.aliveFrame ?_ pp.unused
  intro t1 r hr
  obtain ⟨_, hnf, hx⟩ := L.row_live_id (tbl_len_pos_lt hr) hr
  exact ⟨hnf, (List.getElem?_eq_some_iff.mp hx).1⟩

/-! ## 5. `add` + `moveRow` -/

theorem copyRow_len_ents (O : Table) (row newIndex : Nat) (keep : Mask) (N : Table) :
    (copyRow O row newIndex keep N).len = N.len ∧ (copyRow O row newIndex keep N).ents = N.ents := by
  unfold copyRow
  generalize O.ids = ids
  induction ids generalizing N with
  | nil => exact ⟨rfl, rfl⟩
  | cons c cs ih =>
    rw [List.foldl_cons]
    split
    · split
      · obtain ⟨h1, h2⟩ := ih (N.setComp c newIndex _)
        obtain ⟨g1, g2⟩ := Table.setComp_len_ents N c newIndex (by assumption)
        exact ⟨h1.trans g1, h2.trans g2⟩
      · exact ih N
    · exact ih N

theorem RowsAlive.moved {w : World} (h : RowsAlive w) (hI : IdxInv w) {e : Ent}
    {oldT row newT : Nat} (keep : Mask) (ha : w.alive e = true)
    (he : w.entities[e.id]? = some (oldT, row)) (ht : oldT ≠ maxU32) (hne : oldT ≠ newT)
    (hnl : newT < w.tables.length) (hb : (w.tbl newT).len + 1 < 2 ^ 32) :
    RowsAlive (addMove w e oldT row newT keep) := by
  obtain ⟨hTo, hrow, _⟩ := hI.indexed he ht
  obtain ⟨_, tOld, tNew, tOther⟩ := addMove_tbl w e oldT row newT keep hne hnl (lt_of_get hTo)
    (List.getElem?_eq_some_iff.mp he).1
  have hal : (addMove w e oldT row newT keep).alive = w.alive := by
    funext x; simp only [World.alive, (addMove_fields w e oldT row newT keep).1]
  apply rowsAlive_of_tbl
  intro t r hr
  rw [hal]
  by_cases h1 : t = oldT
  · subst h1
    rw [tOld] at hr ⊢
    obtain ⟨r', a, _, c⟩ := Table.remove_rows (hI.shape t _ hTo) hrow hr
    rw [c]; exact h.tbl a
  · by_cases h2 : t = newT
    · subst h2
      rw [tNew] at hr ⊢
      obtain ⟨c1, c2⟩ := copyRow_len_ents (w.tbl oldT) row (w.tbl t).len keep ((w.tbl t).add e).1
      have hge : (copyRow (w.tbl oldT) row (w.tbl t).len keep ((w.tbl t).add e).1).getEntity r =
          ((w.tbl t).add e).1.getEntity r := by simp only [Table.getEntity, c2]
      rw [c1] at hr
      rw [hge]
      rcases Table.add_rows (hI.shape t _ (get_of_lt hnl)) e hb hr with ⟨a, b⟩ | b
      · rw [b]; exact h.tbl a
      · rw [b]; exact ha
    · rw [tOther t h1 h2] at hr ⊢
      exact h.tbl hr

/-! ## 6. `RemoveEntity` -/

/-- row `row` of table `t`, the row of `e`, is swap-removed; handles with other IDs are as
    before (the only row holding the ID of `e` is the removed one) -/
theorem RowsAlive.removeRow {w w' : World} (h : RowsAlive w) (hI : IdxInv w) {e : Ent}
    {t row : Nat} (he : w.entities[e.id]? = some (t, row)) (ht : t ≠ maxU32)
    (hTab : w'.tables = w.tables.set t ((w.tbl t).remove row).1)
    (hfr : ∀ x : Ent, x.id ≠ e.id → w'.alive x = w.alive x) : RowsAlive w' := by
  obtain ⟨hTt, hrow, _⟩ := hI.indexed he ht
  have hold : ∀ t1 r : Nat, r < (w.tbl t1).len → (t1 = t → r ≠ row) →
      w'.alive ((w.tbl t1).getEntity r) = true := by
    intro t1 r hr hdiff
    have hne : ((w.tbl t1).getEntity r).id ≠ e.id := by
      intro heq
      have hx := hI.rowIdx t1 _ r (get_of_lt (tbl_len_pos_lt hr)) hr
      rw [heq, he] at hx
      obtain ⟨rfl, rfl⟩ := Prod.mk.inj (Option.some.inj hx)
      exact hdiff rfl rfl
    rw [hfr _ hne]; exact h.tbl hr
  refine rowsAlive_of_set hTab ?_ (fun t1 h1 r hr => hold t1 r hr (fun hh => absurd hh h1))
  intro r hr
  obtain ⟨r', h1, h2, h3⟩ := Table.remove_rows (hI.shape t _ hTt) hrow hr
  rw [h3]; exact hold t r' h1 (fun _ => h2)

theorem RowsAlive.removed {w : World} {fl : List Nat} (h : RowsAlive w) (hc : CInv w fl) {e : Ent}
    (h2 : 2 ≤ e.id) (hnf : e.id ∉ fl) (ha : w.alive e = true) (hin : e.id < w.pool.ents.length)
    {t row : Nat} (hix : w.index e.id = (t, row)) : RowsAlive (removeRowOf w e t row) := by
  obtain ⟨t', row', hix', rl⟩ := hc.link.removed h2 hnf ha hin
  rw [hix] at hix'
  obtain ⟨rfl, rfl⟩ := Prod.mk.inj hix'
  exact h.removeRow hc.idx rl.entry rl.tne rl.tables rl.aliveFrame

end Ark
