/-
  The relation rounds of `Remove(e, ids…)` and `RemoveEntity(e)`: `OnRemoveRelations` after
  `OnRemoveComponents` / `OnRemoveEntity`, both under ONE lock, before the change.  Transfer from
  the observer-free call (the clean-up of the relation tables of a removed target neither reads
  nor writes observers, log and lock) and the statements under `TInvObs`: the relation round
  happens exactly when some removed component is a relation component of the entity
  (`removesRel`), resp. when the entity's table has relation columns (`hasRelComps`).  The table
  lookup is analysed once, for `World.exchange` (`exchangeCore_looked`); `World.remove` is the case
  with nothing added.
-/
import Ark.Proofs.CallbacksCbs
import Ark.Proofs.CallbacksRel
import Ark.Proofs.RelRemove

set_option autoImplicit false

namespace Ark

open World Spec Ark.Props.C01World QueryExact

section Ops

variable {run : ProbeRunner} {S : Probe → Prop} {rec : World → Nat → Ent → Probe → List LogEv}

/-! ### `Remove` under the invariant -/

/-- **whether `Remove(e, rem…)` removes a relation**: some removed component is a relation
    component of the entity -/
def removesRel (w : World) (e : Ent) (rem : List Comp) : Bool :=
  rem.any fun c => (targetOf w e.id c).isSome

/-- a relation column of the entity's table goes iff some removed component is a relation
    component of the entity; `m0` is the new mask, which on relation columns says "not removed" -/
theorem relRemoved_iff {w : World} {fl : List Nat} (h : TInv w fl) {e : Ent} {oldT row : Nat}
    (he : w.entities[e.id]? = some (oldT, row)) (htm : oldT ≠ maxU32)
    (hT : w.tables[oldT]? = some (w.tbl oldT)) (hTf : (w.tbl oldT).isFree = false)
    {m0 : Mask} {rem : List Comp}
    (hm0 : ∀ (r : RelID), r ∈ (w.tbl oldT).relIDs → m0.get r.comp = !decide (r.comp ∈ rem)) :
    ((w.tbl oldT).relIDs.any fun r => !m0.get r.comp) = removesRel w e rem := by
  have hTex := h.rel.aux.rels oldT _ hT hTf
  unfold removesRel
  rw [Bool.eq_iff_iff, List.any_eq_true, List.any_eq_true]
  constructor
  · rintro ⟨r, hr, hb⟩
    obtain ⟨i, k1, k2, _⟩ := hTex.sound r hr
    refine ⟨r.comp, by rw [hm0 r hr] at hb; simpa using hb, ?_⟩
    rw [targetOf_of_entry he htm hT, Table.targetAt_of_col
      (Table.colIdx_of_get (h.rel.sinv.toSInvMid.ids_nodup hT) k1) k2]
    rfl
  · rintro ⟨c, hc, hs⟩
    obtain ⟨t0, r0, k, T, g1, _, g3, g4, g5⟩ := targetOf_isSome hs
    rw [he] at g1
    obtain ⟨rfl, rfl⟩ := Prod.mk.inj (Option.some.inj g1)
    rw [hT] at g3
    obtain rfl := Option.some.inj g3
    have hmem := hTex.complete k c (Table.colIdx_get g4) g5
    refine ⟨⟨c, (w.tbl oldT).targets.getD k Ent.zero⟩, hmem, ?_⟩
    rw [hm0 _ hmem]
    simp [hc]

/-- the table lookup of `World.exchange` under the invariant and the documented preconditions:
    the new mask `(maskOf e ∖ rem) ∪ add`, whether a relation is removed, and every entity as
    before -/
theorem exchangeCore_looked {w : World} {fl : List Nat} (h : TInv w fl) {e : Ent} (h2 : 2 ≤ e.id)
    (hnf : e.id ∉ fl) (ha : w.alive e = true) (hsl : e.id < w.pool.ents.length)
    {add rem : List Comp} {rels : List RelID}
    (hp : XchgPre w e add rem rels) {t a : Nat} {m : Mask} {rr : Bool} {w1 : World}
    (hf : findOrCreateTable (w.index e.id).1 (w.maskOf e) add rem rels w = .ok (t, a, m, rr) w1) :
    m = add.foldl Mask.set (rem.foldl Mask.clear (w.maskOf e)) ∧ rr = removesRel w e rem ∧
    (∀ (j : Nat), SameEnt w w1 j ∧ ∀ (c : Comp), targetOf w1 j c = targetOf w j c) ∧
    (∀ (x : Ent), w1.alive x = w.alive x) := by
  obtain ⟨oldT, row, he, htm, hT, _, hTf⟩ := h.live_table h2 hnf ha hsl
  have hix := index_of_get he
  have hI := h.link.idx
  have hlt := lt_of_get hT
  have hS := h.rel.sinv.toSInvMid
  have hmo : w.maskOf e = tmask w oldT := maskOf_eq hix
  obtain ⟨t', a', w1', lk⟩ := xchgLookup h.rel (h.flags.upTo rels) h.freeEmpty
    (Nat.le_trans h.kindsLe.1 h.kindsLe.2) hlt hTf (hmo ▸ hp.toM)
  rw [hix] at hf
  simp only [] at hf
  rw [hmo, lk.call] at hf
  injection hf with h1 hw
  subst hw
  obtain ⟨rfl, rfl, rfl, rfl⟩ : t' = t ∧ a' = a ∧ xmask add rem (tmask w oldT) = m ∧
      xchgRelRemoved (w.tbl oldT) (xmask add rem (tmask w oldT)) rem = rr := by
    simp only [Prod.mk.injEq] at h1
    exact h1
  refine ⟨by rw [hmo]; rfl, ?_, lk.ar.frame hI h.freeEmpty,
    fun x => by simp only [World.alive, lk.ar.foc.pool]⟩
  -- a relation is removed iff some removed component is a relation column of the table
  unfold xchgRelRemoved
  cases hre : rem.isEmpty with
  | true =>
    have : rem = [] := by
      cases rem with
      | nil => rfl
      | cons _ _ => cases hre
    subst this
    rfl
  | false =>
    simp only [Bool.not_false, if_true]
    refine relRemoved_iff h he htm hT hTf fun r hr => ?_
    obtain ⟨i, hi, _⟩ := hS.relCols oldT _ hT r hr
    have hom : (tmask w oldT).get r.comp = true :=
      (tbl_ids_iff_tmask hS hlt _).1 (List.mem_of_getElem? hi)
    have hna : decide (r.comp ∈ add) = false :=
      decide_eq_false fun hca => by have := hp.addNew _ hca; rw [hmo, hom] at this; cases this
    rw [xmask_get, hom, hna, Bool.true_and, Bool.and_false, Bool.or_false]

/-- the table lookup of `World.remove` is that of `World.exchange` with nothing added
    (`findOrCreateTable_nil_add`) -/
theorem removeCore_looked {w : World} {fl : List Nat} (h : TInv w fl) {e : Ent} (h2 : 2 ≤ e.id)
    (hnf : e.id ∉ fl) (ha : w.alive e = true) (hsl : e.id < w.pool.ents.length)
    {rem : List Comp} (hne : rem ≠ []) (hnd : rem.Nodup)
    (hpres : ∀ (c : Comp), c ∈ rem → (w.maskOf e).get c = true)
    {t a : Nat} {m : Mask} {rr : Bool} {w1 : World}
    (hf : findOrCreateTableRemove (w.index e.id).1 (w.maskOf e) rem w = .ok (t, a, m, rr) w1) :
    m = rem.foldl Mask.clear (w.maskOf e) ∧ rr = removesRel w e rem ∧
    (∀ (j : Nat), SameEnt w w1 j ∧ ∀ (c : Comp), targetOf w1 j c = targetOf w j c) ∧
    (∀ (x : Ent), w1.alive x = w.alive x) := by
  have hemp : rem.isEmpty = false := by
    cases rem with
    | nil => exact absurd rfl hne
    | cons _ _ => rfl
  rw [← findOrCreateTable_nil_add _ _ _ hemp] at hf
  exact exchangeCore_looked h h2 hnf ha hsl (XchgPre.ofRemove hne hnd hpres) hf

/-- **`Remove(e, rem…)` with observers under the invariant, relation components included**
    (C08 + C09 for the relation round of `Remove`).  `w1` is the world without observers after the
    table lookup — every entity as before the call —, `w0` the result of the observer-free call
    (`RemRelPost`).  With observers the call succeeds as well; its result is `w0` with the
    observers of `w`, the log extended by the `OnRemoveComponents` observers the documented rule
    selects for `.remove (maskOf e) (maskOf e ∖ rem)` and then — exactly when some removed
    component is a relation component of `e` (`removesRel`) — the `OnRemoveRelations` observers
    selected for the same instance, all run on `w1` LOCKED (one lock for both rounds), i.e. before
    the entity is moved. -/
theorem opRemove_rel_callbacks (hro : ReadOnly run S rec) (run0 : ProbeRunner) (p : Path)
    {w : World} {fl : List Nat} (hs : ScriptsIn w.obs S) (h : TInvObs w fl)
    (hl : w.isLocked = false) {e : Ent} (h2 : 2 ≤ e.id) (hnf : e.id ∉ fl) (ha : w.alive e = true)
    (hsl : e.id < w.pool.ents.length) {rem : List Comp} (hne : rem ≠ []) (hnd : rem.Nodup)
    (hpres : ∀ (c : Comp), c ∈ rem → (w.maskOf e).get c = true)
    (hfew : w.tables.length < maxU32) (hrows : w.entities.length + 1 < 2 ^ 32)
    {l1 l2 : Lock} {b : Nat} (hL : LockCycle w.locks l1 b l2) :
    ∃ (w1 w0 : World),
      (∀ (j : Nat), SameEnt w.noObs w1 j ∧ ∀ (c : Comp), targetOf w1 j c = targetOf w.noObs j c) ∧
      (∀ (x : Ent), w1.alive x = w.alive x) ∧
      opRemove run0 p e rem w.noObs = .ok () w0 ∧ RemRelPost w.noObs fl e rem w0 ∧
      opRemove run p e rem w = .ok () (w0.reframe w.obs
        (remRounds rec w.obs e Ev.onRemoveComponents
          (.remove (w.maskOf e) (rem.foldl Mask.clear (w.maskOf e))) (removesRel w e rem)
          (.remove (w.maskOf e) (rem.foldl Mask.clear (w.maskOf e)))
          (w1.reframe w.obs w.log l1) ++ w.log)
        (lockAfter2 w Ev.onRemoveComponents (removesRel w e rem) l2)) := by
  obtain ⟨w0, hop0, post⟩ := opRemove_rel_spec run0 p h.tinv hl (noObs_hasObservers w) h2 hnf ha
    hsl hne hnd hpres hfew hrows
  have hL0 : LockCycle w.noObs.locks l1 b l2 := hL
  obtain ⟨t, a, m, rr, w1, hf, _, hop⟩ :=
    (opRemove_lifts run run0 p e rem w.obs w.log w.noObs
      (removeCore_lifts run run0 e rem w.obs w.log w.noObs)).ok hop0 hro hs h.obs hL0
  obtain ⟨em, err, hframe, hal⟩ := removeCore_looked h.tinv h2 hnf ha hsl hne hnd hpres hf
  have em' : m = rem.foldl Mask.clear (w.maskOf e) := em
  have err' : rr = removesRel w e rem := err
  subst em' err'
  exact ⟨w1, w0, hframe, hal, hop0, post, hop⟩

end Ops

/-! ## `RemoveEntity`: the clean-up does not look at observers, log and lock -/

namespace World

theorem commutes_cleanTable (g : Ent) (a tid : Nat) : Commutes put4 (cleanTable g a tid) := by
  unfold cleanTable
  refine Commutes.get_bind (fun _ _ => rfl) fun w => ?_
  dsimp only
  have tail : Commutes put4 ((M.modify fun w => (w.modArch a fun A => A.freeTable tid).modTbl tid
      fun T => { T with isFree := true }) >>= fun _ =>
        (M.modify fun w => w.cacheRemoveTable tid : W Unit)) :=
    Commutes.bind (Commutes.modify fun _ _ => rfl) fun _ => Commutes.modify fun _ _ => rfl
  apply Commutes.ite
  · split
    · exact Commutes.bind (Commutes.panic _) fun _ => tail
    · refine Commutes.bind (commutes_getTable _ _) fun r => ?_
      cases r with
      | some t =>
        exact Commutes.bind (Commutes.pure t) fun nt =>
          Commutes.bind (commutes_moveEntities _ nt _) fun _ => tail
      | none =>
        exact Commutes.bind (commutes_createTable _ _) fun nt =>
          Commutes.bind (commutes_moveEntities _ nt _) fun _ => tail
  · exact tail

theorem commutes_cleanArch (g : Ent) (a : Nat) : Commutes put4 (cleanArch g a) := by
  unfold cleanArch
  refine Commutes.get_bind (fun _ _ => rfl) fun w => ?_
  split
  · exact Commutes.pure _
  · exact Commutes.bind (Commutes.forM' (commutes_cleanTable g a) _) fun _ =>
      Commutes.modify fun _ _ => rfl

/-- **the clean-up of the relation tables of a removed target neither reads nor writes observers,
    log, lock and statistics object** -/
theorem commutes_cleanupArchetypes (g : Ent) : Commutes put4 (cleanupArchetypes g) := by
  have h : Commutes put4 (M.get >>= fun w => M.forM' w.relationArchetypes (cleanArch g)) :=
    Commutes.get_bind (fun _ _ => rfl) fun w => Commutes.forM' (commutes_cleanArch g) _
  exact h

theorem commutes_removeEntityTail (e : Ent) (t row : Nat) :
    Commutes put4 (removeEntityTail e t row) := by
  unfold removeEntityTail
  refine Commutes.bind (Commutes.modify (g := (removeRowOf · e t row))
    fun w x => removeRowOf_put4 x w e t row) fun _ => ?_
  refine Commutes.get_bind (fun _ _ => rfl) fun w => ?_
  split
  · exact Commutes.bind (commutes_cleanupArchetypes e) fun _ => Commutes.modify fun _ _ => rfl
  · exact Commutes.pure ()

end World

section Ops2

variable {run : ProbeRunner} {S : Probe → Prop} {rec : World → Nat → Ent → Probe → List LogEv}

theorem opRemoveEntity_noObs_eq (run : ProbeRunner) (w : World) (e : Ent) (hl : w.isLocked = false)
    (ha : w.alive e = true) {t row : Nat} (hix : w.index e.id = (t, row))
    (hno : ∀ (evt : Nat), w.obs.hasObservers evt = false) :
    opRemoveEntity run e w = removeEntityTail e t row w := by
  simp only [opRemoveEntity, bind, M.bind, checkLocked_unlocked w hl, M.get, M.assert, ha, if_true,
    hix, hno, Bool.and_false, Bool.or_false, Bool.false_eq_true, if_false, removeEntityTail, pure]

/-- **`RemoveEntity` with observers, from the observer-free call** (unlocked world, alive entity,
    a lock that hands out a bit): whatever the observer-free call does — success or a panic of the
    clean-up — the call with observers does, on the world with the observers of `w` put back, the
    log extended by the two rounds (run on `w` LOCKED) and the lock state `lockAfter2`. -/
theorem opRemoveEntity_transfer (hro : ReadOnly run S rec) (run0 : ProbeRunner) (w : World) (e : Ent)
    (hs : ScriptsIn w.obs S) (hok : ObsOK w.obs) (hl : w.isLocked = false)
    (ha : w.alive e = true) {l1 l2 : Lock} {b : Nat} (hL : LockCycle w.locks l1 b l2) :
    opRemoveEntity run e w = (opRemoveEntity run0 e w.noObs).mapS fun s => s.reframe w.obs
      (remRounds rec w.obs e Ev.onRemoveEntity (.entity (w.maskOf e))
        (w.tbl (w.index e.id).1).hasRelations (.entityRel (w.maskOf e)) (w.withLocks l1) ++ w.log)
      (lockAfter2 w Ev.onRemoveEntity (w.tbl (w.index e.id).1).hasRelations l2) := by
  cases hix : w.index e.id with
  | mk t row =>
  have hm := maskOf_eq hix
  rw [opRemoveEntity_rel_obs_eq hro w e hs hok hl ha hix hL,
    opRemoveEntity_noObs_eq run0 w.noObs e hl ha hix (noObs_hasObservers w), hm]
  exact (commutes_removeEntityTail e t row).frames w.noObs _ _ _

/-- **whether the entity has relation components**: its table has relation columns -/
def hasRelComps (w : World) (e : Ent) : Bool := (w.tbl (w.index e.id).1).hasRelations

/-- **`RemoveEntity` with observers under the invariant, relation components and relation
    targets included** (C08 + C09 for the relation round of `RemoveEntity`).  `w0` is the result of
    the observer-free call (`RemovedRelPost`: the entity is dead, its relation tables cleaned up).
    With observers the call succeeds as well; its result is `w0` with the observers of `w`, the log
    extended by the `OnRemoveEntity` observers the documented rule selects for
    `.entity (maskOf e)` and then — exactly when `e` has a relation component (`hasRelComps`) — the
    `OnRemoveRelations` observers selected for `.entityRel (maskOf e)`, all run on `w` LOCKED (one
    lock for both rounds): the world before the removal. -/
theorem opRemoveEntity_rel_callbacks (hro : ReadOnly run S rec) (run0 : ProbeRunner) {w : World}
    {fl : List Nat} (hs : ScriptsIn w.obs S) (h : TInvObs w fl) (hl : w.isLocked = false)
    {e : Ent} (h2 : 2 ≤ e.id) (hnf : e.id ∉ fl) (ha : w.alive e = true)
    (hsl : e.id < w.pool.ents.length)
    (hfew : w.tables.length + w.relationArchetypes.length + 1 ≤ maxU32)
    (hrows : 2 * w.entities.length < 2 ^ 32)
    {l1 l2 : Lock} {b : Nat} (hL : LockCycle w.locks l1 b l2) :
    ∃ (w0 : World),
      opRemoveEntity run0 e w.noObs = .ok () w0 ∧ RemovedRelPost w.noObs fl e w0 ∧
      opRemoveEntity run e w = .ok () (w0.reframe w.obs
        (remRounds rec w.obs e Ev.onRemoveEntity (.entity (w.maskOf e)) (hasRelComps w e)
          (.entityRel (w.maskOf e)) (w.withLocks l1) ++ w.log)
        (lockAfter2 w Ev.onRemoveEntity (hasRelComps w e) l2)) := by
  obtain ⟨w0, hop0, post⟩ := opRemoveEntity_rel_spec run0 h.tinv hl (noObs_hasObservers w) h2 hnf ha
    hsl hfew hrows
  refine ⟨w0, hop0, post, ?_⟩
  rw [opRemoveEntity_transfer hro run0 w e hs h.obs hl ha hL, hop0]
  rfl

end Ops2

end Ark
