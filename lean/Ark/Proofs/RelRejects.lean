/-
  Ark.Proofs.RelRejects — C10 for relation arguments: EVERY access path of `NewEntity` / `Add` /
  `Exchange` / `SetRelations` (`Unsafe` through `ToCheckedRelationIDsForUnsafe`) validates its
  relation arguments before the operation proper starts (before the lock check, before the
  archetype lookup), so a refusal leaves the world exactly as it was — whatever state the world is
  in (no invariant, locked or not, observers or not).  The refusal is the verdict `relsVerdict`
  (`Ark/Proofs/PreCheck.lean`) on the list; a removed entity among the targets always draws one.

  Per entry point (the ORDER of the checks; membership in the given components is part of the
  verdict on the paths `.typed` and `.unsafe_`, `Map[T]` has no such check):
    * `NewEntity(ids, rels)`            verdict (membership in `ids`, also when `ids` is empty),
                                        then `World.newEntity`;
    * `Add(e, ids, rels)`               `Unsafe` / `Map`: `Alive(e)` first (`deadEntity`); then the
                                        verdict — `Unsafe` with no components: without membership
                                        (`Path.addCheck`), the call is refused with `noComponents`
                                        right afterwards —; then `World.add`;
    * `Exchange(e, add, rem, rels)`     `Unsafe`: `Alive(e)` first; then the verdict (membership in
                                        `add`, always: a pure removal admits no relations); then
                                        `World.exchange`;
    * `SetRelations(e, rels)`           verdict (`Unsafe`, `Map`: without membership,
                                        `Path.setRelCheck`; `MapN`: the mapper's components), then
                                        `World.setRelations`.
-/
import Ark.Proofs.PreCheck
import Ark.Proofs.MaskLemmas

set_option autoImplicit false

namespace Ark
namespace World

theorem opNewEntity_refused (run : ProbeRunner) (p : Path) (ids : List Comp)
    (vals : List (Comp × Val)) (rels : List RelID) (w : World) {k : PanicKind}
    (h : relsVerdict w (checkMask p ids) rels = some k) :
    opNewEntity run p ids vals rels w = .panic k w := by
  have hpre : preCheck p ids rels w = .panic k w := by rw [preCheck_eq, h]
  simp only [opNewEntity, bind, M.bind, hpre]

/-- `ha`: `Unsafe.Add` and `Map.Add` test `Alive(e)` before the pre-validation; `MapN.Add` checks
    the entity after the relations, inside `World.add`. -/
theorem opAdd_preCheck_panic (run : ProbeRunner) {p : Path} {e : Ent} {ids : List Comp}
    (vals : List (Comp × Val)) {rels : List RelID} {w w1 : World}
    (ha : p = .typed ∨ w.alive e = true) {k : PanicKind}
    (hpre : preCheck (p.addCheck ids) ids rels w = .panic k w1) :
    opAdd run p e ids vals rels w = .panic k w1 := by
  cases p with
  | typed => simp [opAdd, bind, M.bind, hpre]
  | unsafe_ =>
    have ha' : w.alive e = true := by rcases ha with h | h; cases h; exact h
    simp [opAdd, bind, M.bind, M.get, M.assert, ha', hpre]
  | map1 =>
    have ha' : w.alive e = true := by rcases ha with h | h; cases h; exact h
    simp [opAdd, bind, M.bind, M.get, M.assert, ha', hpre]

theorem opAdd_core_panic (run : ProbeRunner) {p : Path} {e : Ent} {ids : List Comp}
    (vals : List (Comp × Val)) {rels : List RelID} {w w1 : World}
    (ha : p = .typed ∨ w.alive e = true)
    (hpre : preCheck (p.addCheck ids) ids rels w = .ok () w) {k : PanicKind}
    (hcore : addCore e ids rels w = .panic k w1) :
    opAdd run p e ids vals rels w = .panic k w1 := by
  cases p with
  | typed => simp [opAdd, bind, M.bind, hpre, hcore]
  | unsafe_ =>
    have ha' : w.alive e = true := by rcases ha with h | h; cases h; exact h
    simp [opAdd, bind, M.bind, M.get, M.assert, ha', hpre, hcore]
  | map1 =>
    have ha' : w.alive e = true := by rcases ha with h | h; cases h; exact h
    simp [opAdd, bind, M.bind, M.get, M.assert, ha', hpre, hcore]

theorem opAdd_refused (run : ProbeRunner) (p : Path) (e : Ent) (ids : List Comp)
    (vals : List (Comp × Val)) (rels : List RelID) (w : World)
    (ha : p = .typed ∨ w.alive e = true) {k : PanicKind}
    (h : relsVerdict w (checkMask (p.addCheck ids) ids) rels = some k) :
    opAdd run p e ids vals rels w = .panic k w :=
  opAdd_preCheck_panic run vals ha (by rw [preCheck_eq, h])

theorem opAdd_dead_first (run : ProbeRunner) (p : Path) (hp : p ≠ .typed) (e : Ent)
    (ids : List Comp) (vals : List (Comp × Val)) (rels : List RelID) (w : World)
    (hd : w.alive e = false) : opAdd run p e ids vals rels w = .panic .deadEntity w := by
  cases p <;>
  first
  | exact absurd rfl hp
  | simp [opAdd, bind, M.bind, M.get, M.assert, hd]

/-- `ha`: only `Unsafe.Exchange` tests `Alive(e)` before the pre-validation. -/
theorem opExchange_preCheck_panic (run : ProbeRunner) (p : Path) (e : Ent) (add : List Comp)
    (vals : List (Comp × Val)) (rem : List Comp) (rels : List RelID) (w : World)
    (ha : p ≠ .unsafe_ ∨ w.alive e = true) {k : PanicKind} {w1 : World}
    (hpre : preCheck p add rels w = .panic k w1) :
    opExchange run p e add vals rem rels w = .panic k w1 := by
  cases p with
  | typed => simp [opExchange, bind, M.bind, hpre]
  | map1 => simp [opExchange, bind, M.bind, hpre]
  | unsafe_ =>
    have ha' : w.alive e = true := by rcases ha with h | h; exact absurd rfl h; exact h
    simp [opExchange, bind, M.bind, M.get, M.assert, ha', hpre]

theorem opExchange_core_panic (run : ProbeRunner) (p : Path) (e : Ent) (add : List Comp)
    (vals : List (Comp × Val)) (rem : List Comp) (rels : List RelID) (w : World)
    (ha : p ≠ .unsafe_ ∨ w.alive e = true) (hpre : preCheck p add rels w = .ok () w)
    {k : PanicKind} {s : World} (hcore : exchangeCore run e add rem rels w = .panic k s) :
    opExchange run p e add vals rem rels w = .panic k s := by
  cases p with
  | typed => simp [opExchange, bind, M.bind, hpre, hcore]
  | map1 => simp [opExchange, bind, M.bind, hpre, hcore]
  | unsafe_ =>
    have ha' : w.alive e = true := by rcases ha with h | h; exact absurd rfl h; exact h
    simp [opExchange, bind, M.bind, M.get, M.assert, ha', hpre, hcore]

theorem opExchange_refused (run : ProbeRunner) (p : Path) (e : Ent) (add : List Comp)
    (vals : List (Comp × Val)) (rem : List Comp) (rels : List RelID) (w : World)
    (ha : p ≠ .unsafe_ ∨ w.alive e = true) {k : PanicKind}
    (h : relsVerdict w (checkMask p add) rels = some k) :
    opExchange run p e add vals rem rels w = .panic k w :=
  opExchange_preCheck_panic run p e add vals rem rels w ha (by rw [preCheck_eq, h])

theorem opExchange_dead_first (run : ProbeRunner) (e : Ent) (add : List Comp)
    (vals : List (Comp × Val)) (rem : List Comp) (rels : List RelID) (w : World)
    (hd : w.alive e = false) :
    opExchange run .unsafe_ e add vals rem rels w = .panic .deadEntity w := by
  simp [opExchange, bind, M.bind, M.get, M.assert, hd]

/-- No hypothesis on `e`: the relations are validated before `World.setRelations` looks at the
    entity. -/
theorem opSetRelations_refused (run : ProbeRunner) (p : Path) (e : Ent) (mapperIds : List Comp)
    (rels : List RelID) (w : World) {k : PanicKind}
    (h : relsVerdict w (checkMask p.setRelCheck mapperIds) rels = some k) :
    opSetRelations run p e mapperIds rels w = .panic k w := by
  have hpre : preCheck p.setRelCheck mapperIds rels w = .panic k w := by rw [preCheck_eq, h]
  simp only [opSetRelations, bind, M.bind, hpre]

def Removed (w : World) (t : Ent) : Prop := t.isZero = false ∧ w.alive t = false

instance (w : World) (t : Ent) : Decidable (Removed w t) := by unfold Removed; infer_instance

theorem relsVerdict_removed (w : World) (m : Option Mask) {rels : List RelID}
    (hd : ∃ (r : RelID), r ∈ rels ∧ Removed w r.target) :
    ∃ (k : PanicKind), relsVerdict w m rels = some k ∧
      (k = .deadTarget ∨ k = .notRelation ∨ k = .relNotInMask) := by
  obtain ⟨r, hr, hz, ha⟩ := hd
  have hs := relsVerdict_isSome (m := m) hr (by rw [relVerdict_dead m hz ha]; rfl)
  cases hv : relsVerdict w m rels with
  | none => rw [hv] at hs; cases hs
  | some k => exact ⟨k, rfl, relsVerdict_class hv⟩

theorem relsVerdict_removed_first (w : World) (m : Option Mask) (pre : List RelID) (r : RelID)
    (post : List RelID) (hpre : ∀ (x : RelID), x ∈ pre → relVerdict w m x = none)
    (hd : Removed w r.target) : relsVerdict w m (pre ++ r :: post) = some .deadTarget :=
  relsVerdict_first pre r post hpre (relVerdict_dead m hd.1 hd.2)

theorem relVerdict_notIn {w : World} {m : Mask} {r : RelID}
    (ht : r.target.isZero = true ∨ w.alive r.target = true) (hc : w.isRelComp r.comp = true)
    (hm : m.get r.comp = false) : relVerdict w (some m) r = some .relNotInMask := by
  have h1 : (!r.target.isZero && !w.alive r.target) = false := by
    rcases ht with h | h <;> simp [h]
  simp [relVerdict, h1, hc, hm]

theorem relVerdict_notIn_list {w : World} {ids : List Comp} {r : RelID}
    (ht : r.target.isZero = true ∨ w.alive r.target = true) (hc : w.isRelComp r.comp = true)
    (hm : r.comp ∉ ids) : relVerdict w (some (Mask.ofList ids)) r = some .relNotInMask :=
  relVerdict_notIn ht hc (by rw [Mask.get_ofList]; simp [hm])

end World
end Ark
