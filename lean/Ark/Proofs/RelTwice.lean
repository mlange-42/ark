/-
  Ark.Proofs.RelTwice — the table lookup refuses a relation list that names one relation component
  twice (`archetype.getTableSlowPath`, since the repair of defect D26; `World.getTable`,
  `World.namedTwice`): right after the count check it panics "relation component %d specified more
  than once" (`relTwice`), the world unchanged.  The check is needed there: the duplicate satisfies
  the count `len(relations) < numRelations` and `MatchesExact` matches both entries against the
  same column, which would give the entity a target for a relation component nobody specified;
  `createTable` has the same check (D18) but is only reached when no table matches.
  A LATE finding remains: when the archetype does not exist yet, or exists without an active
  table, `GetTable` answers "no table" before any check, and `createTable` refuses the list after
  `findOrCreateArch` has created the archetype (`Ark/Props/C04Hist.lean` § 7 (f)).
-/
import Ark.Proofs.TargetsMove
import Ark.Proofs.RelRejects

set_option autoImplicit false

namespace Ark
namespace World

theorem findOrCreateArch_found {w : World} {mask : Mask} {a : Nat}
    (hf : w.findArch mask = some a) : findOrCreateArch mask w = .ok a w := by
  simp only [findOrCreateArch, hf]

/-- The table lookup of `NewEntity` / `Add`.  `hr`, `hne`, `hlen`: the archetype has relation
    columns and an active table, and the list (the old table's relations, then the given ones)
    passes the count check — otherwise `getTable` answers before it gets to the test. -/
theorem findOrCreateTableAdd_relTwice (oldT : Nat) (m : Mask) (add : List Comp)
    (rels : List RelID) (w : World)
    (hnew : ∀ (c : Comp), c ∈ add → m.get c = false) (hnd : add.Nodup) {a : Nat}
    (hf : w.findArch (add.foldl Mask.set m) = some a)
    (hr : (w.arch a).hasRelations = true) (hne : (w.arch a).tables.tables.isEmpty = false)
    (hlen : (w.arch a).numRel ≤ (relsForAdd (w.tbl oldT) rels).length)
    (hd : ¬ ((relsForAdd (w.tbl oldT) rels).map (·.comp)).Nodup) :
    findOrCreateTableAdd oldT m add rels w = .panic .relTwice w := by
  simp only [findOrCreateTableAdd, bind, M.bind, graphFindAdd_ok m add w hnew hnd,
    findOrCreateArch_found hf, M.get, getTable_rel_twice hr hne hlen hd]

/-- Whether the table existed (`getTable`, the check of D26) or was created (`createTable`, the
    check of D18). -/
theorem findOrCreateTableAdd_ok_nodup {oldT : Nat} {m : Mask} {add : List Comp}
    {rels : List RelID} {w w' : World} {t a : Nat} {mask : Mask}
    (h : findOrCreateTableAdd oldT m add rels w = .ok (t, a, mask) w')
    (hr : (w'.arch a).hasRelations = true) :
    ((relsForAdd (w.tbl oldT) rels).map (·.comp)).Nodup := by
  obtain ⟨w1, _, hgo⟩ := tableFor_ok_iff.1 (findOrCreateTableAdd_ok h).2.2
  rcases getOrCreate_ok_iff.1 hgo with ⟨hgt, rfl⟩ | ⟨_, hct⟩
  · exact getTable_some_nodup hr hgt
  · exact createTable_ok_nodup hct

theorem newEntityCore_relTwice (ids : List Comp) (rels : List RelID) (w : World)
    (hl : w.isLocked = false) (hnd : ids.Nodup) {a : Nat}
    (hf : w.findArch (ids.foldl Mask.set Mask.empty) = some a)
    (hr : (w.arch a).hasRelations = true) (hne : (w.arch a).tables.tables.isEmpty = false)
    (hlen : (w.arch a).numRel ≤ (relsForAdd (w.tbl 0) rels).length)
    (hd : ¬ ((relsForAdd (w.tbl 0) rels).map (·.comp)).Nodup) :
    newEntityCore ids rels w = .panic .relTwice w := by
  simp only [newEntityCore, bind, M.bind, checkLocked_unlocked w hl,
    findOrCreateTableAdd_relTwice 0 Mask.empty ids rels w (fun c _ => Mask.get_empty c) hnd hf hr
      hne hlen hd]

theorem opNewEntity_relTwice (run : ProbeRunner) (p : Path) (ids : List Comp)
    (vals : List (Comp × Val)) (rels : List RelID) (w : World)
    (hpre : relsVerdict w (checkMask p ids) rels = none)
    (hl : w.isLocked = false) (hnd : ids.Nodup) {a : Nat}
    (hf : w.findArch (ids.foldl Mask.set Mask.empty) = some a)
    (hr : (w.arch a).hasRelations = true) (hne : (w.arch a).tables.tables.isEmpty = false)
    (hlen : (w.arch a).numRel ≤ (relsForAdd (w.tbl 0) rels).length)
    (hd : ¬ ((relsForAdd (w.tbl 0) rels).map (·.comp)).Nodup) :
    opNewEntity run p ids vals rels w = .panic .relTwice w := by
  have hp : preCheck p ids rels w = .ok () w := by rw [preCheck_eq, hpre]
  simp only [opNewEntity, bind, M.bind, hp,
    newEntityCore_relTwice ids rels w hl hnd hf hr hne hlen hd]

theorem addCore_relTwice (e : Ent) (ids : List Comp) (rels : List RelID) (w : World)
    (hl : w.isLocked = false) (ha : w.alive e = true) (hne0 : ids ≠ [])
    (hnew : ∀ (c : Comp), c ∈ ids → (w.maskOf e).get c = false) (hnd : ids.Nodup) {a : Nat}
    (hf : w.findArch (ids.foldl Mask.set (w.maskOf e)) = some a)
    (hr : (w.arch a).hasRelations = true) (hne : (w.arch a).tables.tables.isEmpty = false)
    (hlen : (w.arch a).numRel ≤ (relsForAdd (w.tbl (w.index e.id).1) rels).length)
    (hd : ¬ ((relsForAdd (w.tbl (w.index e.id).1) rels).map (·.comp)).Nodup) :
    addCore e ids rels w = .panic .relTwice w := by
  have hemp : ids.isEmpty = false := List.isEmpty_eq_false_iff.mpr hne0
  have hm : (w.arch (w.tbl (w.index e.id).1).arch).mask = w.maskOf e := rfl
  have := findOrCreateTableAdd_relTwice (w.index e.id).1 (w.maskOf e) ids rels w hnew hnd hf hr
    hne hlen hd
  simp only [addCore, bind, M.bind, checkLocked_unlocked w hl, M.get, M.assert, ha, hemp,
    Bool.not_false, if_true, hm, this]

theorem opAdd_relTwice (run : ProbeRunner) (p : Path) (e : Ent) (ids : List Comp)
    (vals : List (Comp × Val)) (rels : List RelID) (w : World)
    (hpre : relsVerdict w (checkMask (p.addCheck ids) ids) rels = none)
    (hl : w.isLocked = false) (ha : w.alive e = true) (hne0 : ids ≠ [])
    (hnew : ∀ (c : Comp), c ∈ ids → (w.maskOf e).get c = false) (hnd : ids.Nodup) {a : Nat}
    (hf : w.findArch (ids.foldl Mask.set (w.maskOf e)) = some a)
    (hr : (w.arch a).hasRelations = true) (hne : (w.arch a).tables.tables.isEmpty = false)
    (hlen : (w.arch a).numRel ≤ (relsForAdd (w.tbl (w.index e.id).1) rels).length)
    (hd : ¬ ((relsForAdd (w.tbl (w.index e.id).1) rels).map (·.comp)).Nodup) :
    opAdd run p e ids vals rels w = .panic .relTwice w := by
  have hp : preCheck (p.addCheck ids) ids rels w = .ok () w := by rw [preCheck_eq, hpre]
  exact opAdd_core_panic run vals (Or.inr ha) hp
    (addCore_relTwice e ids rels w hl ha hne0 hnew hnd hf hr hne hlen hd)

end World
end Ark
