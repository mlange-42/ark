/-
  `ObsOK` (what the callback proofs assume of the observer manager) is established by
  `Observer.Register` and kept by `Observer.Unregister` (`opObsRegister_spec`,
  `opObsUnregister_spec`: which lists and objects change, and that nothing outside the observer
  manager does); the swap-remove of `Unregister` removes exactly the element at the recorded index
  (`mem_removedObs`).  `regAll_spec`: a decidable check per registration establishes `ObsOK` for a
  concrete world.
-/
import Ark.Proofs.AL
import Ark.Proofs.Callbacks

set_option autoImplicit false

namespace Ark

open World Spec

namespace ObsMgr

theorem added_observers (es : EvtState) (l : Nat) (d : ObsData) (ent : Bool) :
    (es.added l d ent).observers = es.observers ++ [l] := by
  unfold EvtState.added
  simp only []
  split <;> split <;> (try split) <;> rfl

theorem addComputed_obj' (m : ObsMgr) (l : Nat) (o : ObsObj) (oid : Nat) (d : ObsData) (x : Nat) :
    (m.addComputed l o oid d).obj x
      = if x = l then { o with data := d, oid := some oid } else m.obj x := by
  unfold addComputed
  simp only [obj_setEvt]
  by_cases hx : x = l
  · subst hx
    simp only [if_true]
    show (m.setObj x { o with data := d, oid := some oid }).obj x = _
    rw [obj_setObj_self]
  · simp only [hx, if_false]
    show (m.setObj l { o with data := d, oid := some oid }).obj x = m.obj x
    rw [obj_setObj_ne _ _ _ _ hx]

theorem removeAt_obj (m : ObsMgr) (l oid idx x : Nat) :
    (m.removeAt l oid idx).obj x = if x = l then { (m.obj l) with oid := none } else m.obj x := by
  have key : ∀ (M1 : ObsMgr), M1.objs = AL.insert m.objs l { m.obj l with oid := none } →
      M1.obj x = if x = l then { (m.obj l) with oid := none } else m.obj x := by
    intro M1 h
    have : M1.obj x = (m.setObj l { m.obj l with oid := none }).obj x := by
      simp only [obj, setObj, h]
    rw [this]
    by_cases hx : x = l
    · subst hx; rw [obj_setObj_self, if_pos rfl]
    · rw [obj_setObj_ne _ _ _ _ hx, if_neg hx]
  unfold removeAt
  simp only []
  split <;> split <;> simp only [obj_setEvt] <;> exact key _ rfl

theorem removeAt_spec (m : ObsMgr) (l oid idx x : Nat) :
    ((m.removeAt l oid idx).obj x).spec = (m.obj x).spec := by
  rw [removeAt_obj]
  split
  · rename_i hx; rw [hx]
  · rfl

theorem removedES_observers (m : ObsMgr) (es : EvtState) (idx : Nat) (ent : Bool) :
    (removedES m es idx ent).observers = removedObs es.observers idx := by
  unfold removedES
  simp only []
  split <;> rfl

end ObsMgr

/-! ### the swap-remove -/

theorem nodup_set_of_not_mem {l : List Nat} {x : Nat} (h : l.Nodup) (hx : x ∉ l) (i : Nat) :
    (l.set i x).Nodup := by
  induction l generalizing i with
  | nil => exact List.nodup_nil
  | cons a as ih =>
    rw [List.nodup_cons] at h
    cases i with
    | zero =>
      simp only [List.set_cons_zero, List.nodup_cons]
      exact ⟨fun hm => hx (List.mem_cons_of_mem _ hm), h.2⟩
    | succ n =>
      simp only [List.set_cons_succ, List.nodup_cons]
      refine ⟨fun hm => ?_, ih h.2 (fun hm => hx (List.mem_cons_of_mem _ hm)) n⟩
      rcases List.mem_or_eq_of_mem_set hm with h1 | h1
      · exact h.1 h1
      · exact hx (h1 ▸ List.mem_cons_self)

theorem getLast_not_mem_take {l : List Nat} (h : l.Nodup) (hne : l ≠ []) :
    l.getD (l.length - 1) 0 ∉ l.take (l.length - 1) := by
  intro hm
  obtain ⟨i, hi, hget⟩ := List.getElem_of_mem hm
  have hi' : i < l.length - 1 := by simpa [List.length_take] using hi
  have hlen : 0 < l.length := List.length_pos_iff.mpr hne
  have h1 : l[i]'(by omega) = l.getD (l.length - 1) 0 := by
    rw [← hget, List.getElem_take]
  rw [List.getD_eq_getElem?_getD, List.getElem?_eq_getElem (by omega), Option.getD_some] at h1
  have := (List.getElem_inj h).mp h1
  omega

/-- the swap-removed list, when something is removed: the initial segment with position `idx`
    overwritten by the last element -/
theorem removedObs_eq (obs : List Nat) (idx : Nat) :
    ObsMgr.removedObs obs idx =
      if idx = obs.length - 1 then obs.take (obs.length - 1)
      else (obs.take (obs.length - 1)).set idx (obs.getD (obs.length - 1) 0) := by
  unfold ObsMgr.removedObs
  simp only []
  by_cases h : idx = obs.length - 1
  · simp [h]
  · have : (idx != obs.length - 1) = true := by simp [h]
    rw [if_pos this, if_neg h, List.take_set_of_le (Nat.le_refl _), List.take_set]

theorem removedObs_nodup {obs : List Nat} (h : obs.Nodup) (idx : Nat) :
    (ObsMgr.removedObs obs idx).Nodup := by
  rw [removedObs_eq]
  have ht : (obs.take (obs.length - 1)).Nodup := h.sublist (List.take_sublist _ _)
  split
  · exact ht
  · by_cases hne : obs = []
    · subst hne; exact List.nodup_nil
    · exact nodup_set_of_not_mem ht (getLast_not_mem_take h hne) idx

/-- **the swap-remove removes exactly the element at `idx`** (duplicate-free list, valid index) -/
theorem mem_removedObs {obs : List Nat} (h : obs.Nodup) {idx : Nat} (hidx : idx < obs.length)
    (x : Nat) : x ∈ ObsMgr.removedObs obs idx ↔ x ∈ obs ∧ obs[idx]? ≠ some x := by
  have hlen : 0 < obs.length := by omega
  have hne : obs ≠ [] := List.length_pos_iff.mp hlen
  rw [removedObs_eq]
  have hlast : obs.getD (obs.length - 1) 0 = obs[obs.length - 1]'(by omega) := by
    rw [List.getD_eq_getElem?_getD, List.getElem?_eq_getElem (by omega), Option.getD_some]
  -- every element is in the initial segment or is the last one
  have hsplit : ∀ y, y ∈ obs ↔ y ∈ obs.take (obs.length - 1) ∨ y = obs[obs.length - 1]'(by omega) := by
    intro y
    constructor
    · intro hy
      obtain ⟨i, hi, hget⟩ := List.getElem_of_mem hy
      by_cases hil : i = obs.length - 1
      · right; subst hil; exact hget.symm
      · left
        rw [← hget]
        have : i < (obs.take (obs.length - 1)).length := by simp [List.length_take]; omega
        have h2 := List.getElem_mem this
        rwa [List.getElem_take] at h2
    · rintro (hy | hy)
      · exact List.mem_of_mem_take hy
      · rw [hy]; exact List.getElem_mem _
  have hlastnot := getLast_not_mem_take h hne
  rw [hlast] at hlastnot
  split
  · rename_i hil
    subst hil
    rw [hsplit x, List.getElem?_eq_getElem (by omega)]
    constructor
    · intro hx
      refine ⟨Or.inl hx, fun heq => ?_⟩
      have := Option.some.inj heq
      exact hlastnot (this ▸ hx)
    · rintro ⟨hx | hx, hneq⟩
      · exact hx
      · exact absurd (by rw [hx]) hneq
  · rename_i hil
    have hidx' : idx < (obs.take (obs.length - 1)).length := by simp [List.length_take]; omega
    rw [hlast, List.getElem?_eq_getElem hidx]
    constructor
    · intro hx
      rcases List.mem_or_eq_of_mem_set hx with h1 | h1
      · refine ⟨List.mem_of_mem_take h1, fun heq => ?_⟩
        -- x sits at position idx of obs and somewhere in the overwritten segment
        have hxi : obs[idx] = x := Option.some.inj heq
        obtain ⟨j, hj, hgj⟩ := List.getElem_of_mem hx
        rw [List.length_set] at hj
        rw [List.getElem_set] at hgj
        split at hgj
        · -- j = idx: then x is the last element, but it equals obs[idx], idx ≠ last
          rw [← hxi] at hgj
          have := (List.getElem_inj h).mp hgj
          omega
        · rename_i hji
          rw [List.getElem_take, ← hxi] at hgj
          have := (List.getElem_inj h).mp hgj
          omega
      · refine ⟨by rw [h1]; exact List.getElem_mem _, fun heq => ?_⟩
        have hxi : obs[idx] = x := Option.some.inj heq
        rw [h1] at hxi
        have := (List.getElem_inj h).mp hxi
        omega
    · rintro ⟨hx, hneq⟩
      rcases (hsplit x).mp hx with h1 | h1
      · -- x in the initial segment, not at idx: it survives the overwrite
        obtain ⟨j, hj, hgj⟩ := List.getElem_of_mem h1
        have hji : j ≠ idx := by
          intro hh
          subst hh
          rw [List.getElem_take] at hgj
          exact hneq (by rw [hgj])
        have hj' : j < ((obs.take (obs.length - 1)).set idx (obs[obs.length - 1]'(by omega))).length := by
          rw [List.length_set]; exact hj
        have := List.getElem_mem hj'
        rw [List.getElem_set, if_neg (Ne.symm hji), hgj] at this
        exact this
      · rw [h1]
        exact List.mem_set hidx' _

/-! ### `Observer.Register` / `Observer.Unregister` -/

/-- the observer manager after `AddObserver` of object `l` with computed data `d` -/
def ObsMgr.registered (m : ObsMgr) (l : Nat) (d : ObsData) : ObsMgr :=
  let o := m.obj l
  let m1 : ObsMgr := { m with pool := (m.pool.get).1 }
  (m1.setObj l { o with oid := some (m.pool.get).2 }).addComputed l o (m.pool.get).2 d

namespace ObsMgr

theorem registered_obj (m : ObsMgr) (l : Nat) (d : ObsData) (x : Nat) :
    (m.registered l d).obj x
      = if x = l then { (m.obj l) with data := d, oid := some (m.pool.get).2 } else m.obj x := by
  unfold registered
  simp only []
  rw [addComputed_obj']
  split
  · rfl
  · rename_i hx
    exact obj_setObj_ne _ _ _ _ hx

theorem registered_pool (m : ObsMgr) (l : Nat) (d : ObsData) :
    (m.registered l d).pool = (m.pool.get).1 := by
  unfold registered addComputed
  simp only []
  rfl

theorem registered_indices (m : ObsMgr) (l : Nat) (d : ObsData) :
    (m.registered l d).indices
      = AL.insert m.indices (m.pool.get).2 (m.evt (m.obj l).spec.event).observers.length := by
  unfold registered addComputed
  simp only []
  rfl

theorem registered_evt_self (m : ObsMgr) (l : Nat) (d : ObsData) :
    ((m.registered l d).evt (m.obj l).spec.event).observers
      = (m.evt (m.obj l).spec.event).observers ++ [l] := by
  unfold registered
  simp only []
  rw [addComputed_evt_self, added_observers]
  rfl

theorem registered_evt_ne (m : ObsMgr) (l : Nat) (d : ObsData) (e : Nat)
    (h : e ≠ (m.obj l).spec.event) : (m.registered l d).evt e = m.evt e := by
  unfold registered
  simp only []
  rw [addComputed_evt_ne _ _ _ _ _ _ h]
  rfl

theorem registered_spec (m : ObsMgr) (l : Nat) (d : ObsData) (x : Nat) :
    ((m.registered l d).obj x).spec = (m.obj x).spec := by
  rw [registered_obj]; split
  · rename_i hx; subst hx; rfl
  · rfl

end ObsMgr

theorem opObsRegister_ok {w w' : World} {l : Nat} (hok : opObsRegister l w = .ok () w') :
    (w.obs.obj l).oid = none ∧
    ∃ d, ObsMgr.computeData (w.obs.obj l).spec (fun c => w.isRelComp c) = some d ∧
      w' = { w with obs := w.obs.registered l d } := by
  simp only [opObsRegister, bind, M.bind, M.get, M.assert] at hok
  split at hok
  · rename_i hc
    refine ⟨?_, ?_⟩
    · cases hx : (w.obs.obj l).oid with
      | none => rfl
      | some _ => rw [hx] at hc; cases hc
    split at hok
    · cases hd : ObsMgr.computeData (w.obs.obj l).spec (fun c => w.isRelComp c) with
      | none => rw [hd] at hok; cases hok
      | some d =>
        rw [hd] at hok
        refine ⟨d, rfl, ?_⟩
        simp only [M.set] at hok
        injection hok with _ h
        exact h.symm
    · cases hok
  · cases hok

/-- **`Register` keeps `ObsOK`**: for an observer object that is listed nowhere, with
    component IDs below 256. -/
theorem opObsRegister_spec {w w' : World} {l : Nat} (h : ObsOK w.obs)
    (hok : opObsRegister l w = .ok () w') (hids : IdsOK (w.obs.obj l).spec)
    (hfresh : ∀ evt : Nat, l ∉ (w.obs.evt evt).observers) :
    ObsOK w'.obs ∧ w' = { w with obs := w'.obs } ∧
    (w'.obs.evt (w.obs.obj l).spec.event).observers
      = (w.obs.evt (w.obs.obj l).spec.event).observers ++ [l] ∧
    (∀ evt : Nat, evt ≠ (w.obs.obj l).spec.event →
      (w'.obs.evt evt).observers = (w.obs.evt evt).observers) ∧
    (∀ x : Nat, (w'.obs.obj x).spec = (w.obs.obj x).spec) := by
  obtain ⟨_, d, hd, hw'⟩ := opObsRegister_ok hok
  have hobjN := ObsMgr.registered_obj w.obs l d
  have hevtSelf := ObsMgr.registered_evt_self w.obs l d
  have hevtNe := ObsMgr.registered_evt_ne w.obs l d
  rw [show w'.obs = w.obs.registered l d by rw [hw']]
  refine ⟨ObsOK.mk ?_ ?_ ?_, by rw [hw'], hevtSelf, fun evt hne => by rw [hevtNe evt hne],
    ObsMgr.registered_spec w.obs l d⟩
  · intro evt
    -- the manager before `addComputed` has the lists and the data of `w.obs`
    exact AggInv.addComputed l _ _ d (ObsMgr.computeData_wf _ _ d hids hd) (fun _ => hfresh evt)
      (AggInvES.congr (fun x _ => ObsMgr.data_setObj_same _ l x _ rfl) (h.agg evt))
  · intro evt x hx
    have hx' : x ∈ (w.obs.evt evt).observers ∨ (x = l ∧ evt = (w.obs.obj l).spec.event) := by
      by_cases hev : evt = (w.obs.obj l).spec.event
      · subst hev
        rw [hevtSelf] at hx
        exact (List.mem_append.mp hx).imp id fun hx => ⟨by simpa using hx, rfl⟩
      · rw [hevtNe evt hev] at hx; exact Or.inl hx
    rcases hx' with hx' | ⟨rfl, rfl⟩
    · have hxl : x ≠ l := fun hh => hfresh _ (hh ▸ hx')
      rw [hobjN, if_neg hxl]
      exact h.reg _ x hx'
    · rw [hobjN, if_pos rfl]
      exact ⟨rfl, hids, computeData_eq _ _ d hd⟩
  · intro evt
    by_cases hev : evt = (w.obs.obj l).spec.event
    · subst hev
      rw [hevtSelf, List.nodup_append]
      refine ⟨h.nodup _, by simp, fun a ha b hb => ?_⟩
      have : b = l := by simpa using hb
      subst this
      exact fun hab => hfresh _ (hab ▸ ha)
    · rw [hevtNe evt hev]; exact h.nodup evt

theorem opObsUnregister_ok {w w' : World} {l : Nat} (hok : opObsUnregister l w = .ok () w') :
    ∃ oid idx, (w.obs.obj l).oid = some oid ∧ AL.find? w.obs.indices oid = some idx ∧
      w' = { w with obs := w.obs.removeAt l oid idx } := by
  simp only [opObsUnregister, bind, M.bind, M.get] at hok
  cases ho : (w.obs.obj l).oid with
  | none => rw [ho] at hok; cases hok
  | some oid =>
    rw [ho] at hok
    simp only at hok
    cases hi : AL.find? w.obs.indices oid with
    | none => rw [hi] at hok; cases hok
    | some idx =>
      rw [hi] at hok
      simp only [M.set] at hok
      injection hok with _ h
      exact ⟨oid, idx, rfl, hi, h.symm⟩

/-- **`Unregister` keeps `ObsOK`**; only the list of the observer's event type changes (by
    the swap-remove at the index the manager recorded for it). -/
theorem opObsUnregister_spec {w w' : World} {l : Nat} (h : ObsOK w.obs)
    (hok : opObsUnregister l w = .ok () w') :
    ObsOK w'.obs ∧ w' = { w with obs := w'.obs } ∧
    (∃ oid idx, (w.obs.obj l).oid = some oid ∧ AL.find? w.obs.indices oid = some idx ∧
      (w'.obs.evt (w.obs.obj l).spec.event).observers
        = ObsMgr.removedObs (w.obs.evt (w.obs.obj l).spec.event).observers idx) ∧
    (∀ evt : Nat, evt ≠ (w.obs.obj l).spec.event →
      (w'.obs.evt evt).observers = (w.obs.evt evt).observers) ∧
    (∀ x : Nat, (w'.obs.obj x).spec = (w.obs.obj x).spec) := by
  obtain ⟨oid, idx, ho, hi, hw'⟩ := opObsUnregister_ok hok
  have hobs : w'.obs = w.obs.removeAt l oid idx := by rw [hw']
  have hself : (w'.obs.evt (w.obs.obj l).spec.event).observers
      = ObsMgr.removedObs (w.obs.evt (w.obs.obj l).spec.event).observers idx := by
    rw [hobs, ObsMgr.removeAt_evt_self, ObsMgr.removedES_observers]
  have hne : ∀ evt, evt ≠ (w.obs.obj l).spec.event → w'.obs.evt evt = w.obs.evt evt := by
    intro evt hev; rw [hobs, ObsMgr.removeAt_evt_ne _ _ _ _ _ hev]
  have hspec : ∀ x, (w'.obs.obj x).spec = (w.obs.obj x).spec := by
    intro x; rw [hobs]; exact ObsMgr.removeAt_spec _ _ _ _ x
  have hdata : ∀ x, (w'.obs.obj x).data = (w.obs.obj x).data := by
    intro x; rw [hobs]; exact ObsMgr.removeAt_data _ _ _ _ x
  refine ⟨ObsOK.mk ?_ ?_ ?_, by rw [hw'], ⟨oid, idx, ho, hi, hself⟩,
    fun evt hev => by rw [hne evt hev], hspec⟩
  · intro evt; rw [hobs]; exact AggInv.removeAt l oid idx (h.agg evt)
  · intro evt x hx
    have hx' : x ∈ (w.obs.evt evt).observers := by
      by_cases hev : evt = (w.obs.obj l).spec.event
      · subst hev; rw [hself] at hx; exact ObsMgr.removedObs_subset _ _ x hx
      · rw [hne evt hev] at hx; exact hx
    obtain ⟨a1, a2, a3⟩ := h.reg evt x hx'
    rw [hspec, hdata]
    exact ⟨a1, a2, a3⟩
  · intro evt
    by_cases hev : evt = (w.obs.obj l).spec.event
    · subst hev; rw [hself]; exact removedObs_nodup (h.nodup _) idx
    · rw [hne evt hev]; exact h.nodup evt

end Ark

/-! ### establishing `ObsOK` for a concrete world: a decidable check per registration -/

namespace Ark

open World Spec

theorem evt_observers_of_events {m : ObsMgr} {l : Nat}
    (h : ∀ p ∈ m.events, l ∉ p.2.observers) (evt : Nat) : l ∉ (m.evt evt).observers := by
  unfold ObsMgr.evt
  cases hf : AL.find? m.events evt with
  | none => exact List.not_mem_nil
  | some es => exact h (evt, es) (AL.mem_of_find? _ _ _ hf)

theorem scriptsIn_of_objs {m : ObsMgr} {S : Probe → Prop}
    (h : ∀ q ∈ m.objs, ∀ p ∈ q.2.spec.script, S p) : ScriptsIn m S := by
  intro l
  unfold ObsMgr.obj
  cases hf : AL.find? m.objs l with
  | none => exact fun _ hp => nomatch hp
  | some ob => exact h (l, ob) (AL.mem_of_find? _ _ _ hf)

/-- a manager without registrations (the observer objects may exist already) satisfies `ObsOK` -/
theorem obsOK_of_no_events {m : ObsMgr} (h : m.events = []) : ObsOK m := by
  have hevt : ∀ evt, m.evt evt = {} := by
    intro evt; simp [ObsMgr.evt, h]
  refine ⟨fun evt => ?_, fun evt l hl => ?_, fun evt => ?_⟩
  · unfold AggInv; rw [hevt]; exact AggInvES.empty _ _
  · rw [hevt] at hl; cases hl
  · rw [hevt]; exact List.nodup_nil

def Res.isOk {σ α : Type} : Res σ α → Bool
  | .ok _ _ => true
  | .panic _ _ => false

/-- the (decidable) side conditions of `opObsRegister_spec` for registering `l` on `w` -/
def RegOK (l : Nat) (w : World) : Prop :=
  (opObsRegister l w).isOk = true ∧ IdsOK (w.obs.obj l).spec ∧
    ∀ p ∈ w.obs.events, l ∉ p.2.observers

instance (l : Nat) (w : World) : Decidable (RegOK l w) := by unfold RegOK IdsOK; infer_instance

def regAll : List Nat → World → World
  | [], w => w
  | l :: ls, w => regAll ls (opObsRegister l w).state

def RegAllOK : List Nat → World → Prop
  | [], _ => True
  | l :: ls, w => RegOK l w ∧ RegAllOK ls (opObsRegister l w).state

instance : ∀ (ls : List Nat) (w : World), Decidable (RegAllOK ls w)
  | [], _ => isTrue trivial
  | l :: ls, w =>
    have := instDecidableRegAllOK ls (opObsRegister l w).state
    by unfold RegAllOK; infer_instance

/-- **registrations establish `ObsOK`**: if the (decidable) side conditions hold along the
    way, the world after registering `ls` is the same world with an observer manager satisfying
    `ObsOK` -/
theorem regAll_spec : ∀ (ls : List Nat) (w : World), ObsOK w.obs → RegAllOK ls w →
    ObsOK (regAll ls w).obs ∧ regAll ls w = { w with obs := (regAll ls w).obs }
  | [], w, h, _ => ⟨h, rfl⟩
  | l :: ls, w, h, hr => by
    obtain ⟨⟨h1, h2, h3⟩, hrest⟩ := hr
    cases hop : opObsRegister l w with
    | panic k s => rw [hop] at h1; cases h1
    | ok u w1 =>
      cases u
      obtain ⟨a1, a2, _⟩ := opObsRegister_spec h hop h2 (evt_observers_of_events h3)
      have hst : (opObsRegister l w).state = w1 := by rw [hop]; rfl
      rw [hst] at hrest
      obtain ⟨b1, b2⟩ := regAll_spec ls w1 a1 hrest
      simp only [regAll]
      rw [hst]
      refine ⟨b1, ?_⟩
      have e2 := congrArg (fun y : World => ({ y with obs := (regAll ls w1).obs } : World)) a2
      exact (b2.trans e2).trans rfl

end Ark
