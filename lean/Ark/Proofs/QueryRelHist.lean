/-
  Property C03 with RELATION TARGETS: the complete iteration `World.drain fo extra` — with `RowsAlive`
  the visited handles are exactly the alive entities whose components pass the mask test and whose
  targets are the ones asked for — and `QGood w` (`Good w` with `CIdx`, `RowsAlive` and the lock
  invariant), the states in which the C03 theorems apply and which a complete iteration leaves.
-/
import Ark.Proofs.CompIndex
import Ark.Proofs.QueryRel
import Ark.Proofs.RowsAlive
import Ark.Proofs.TargetsHist

section

/-! ## §1 from the selected tables to the visited entities

The exactness statement is `ExactRelVisits.visited_iff`; a typed filter validates its per-call
  relations first (`ExtraOK`, `drain_rejected`).
-/

set_option autoImplicit false

namespace Ark
namespace QueryRel

open World Drain Ark.Props.C01World QueryExact

section
variable {w : World} {fl : List Nat}

theorem _root_.Ark.PLink.table_of_entry (h : PLink w fl) {i t r : Nat}
    (hi : w.entities[i]? = some (t, r)) (ht : t ≠ maxU32) :
    t < w.tables.length ∧ r < (w.tbl t).len ∧ ((w.tbl t).getEntity r).id = i := by
  obtain ⟨T, hT, hr, hid⟩ := h.idx.idxRow i t r hi ht
  have := tbl_of_get hT
  subst this
  exact ⟨lt_of_get hT, hr, hid⟩

end

/-- what a complete iteration of a query with filter `f` and relations `rels` over the world `w`
    must deliver; `fl` is the ghost free list of the entity pool (the IDs `≥ 2` outside `fl` are
    the alive ones).  `data` and `targets` compare random access through the index (`valOf`,
    `targetOf`) with what the cursor reads in the visited row. -/
structure ExactRelVisits (w : World) (fl : List Nat) (f : Filter) (rels : List RelID)
    (visits : List Visit) : Prop where
  nodup : (visits.map (·.e.id)).Nodup
  sound : ∀ (v : Visit), v ∈ visits → 2 ≤ v.e.id ∧ v.e.id ∉ fl ∧
    w.entities[v.e.id]? = some (v.table, v.row) ∧
    v.table ≠ maxU32 ∧ v.table < w.tables.length ∧ v.row < (w.tbl v.table).len ∧
    v.e = (w.tbl v.table).getEntity v.row ∧
    f.matchesMask (w.arch (w.tbl v.table).arch).mask = true ∧
    ∀ (r : RelID), r ∈ rels → targetOf w v.e.id r.comp = some r.target
  complete : ∀ (i t r : Nat), 2 ≤ i → i ∉ fl → w.entities[i]? = some (t, r) → t ≠ maxU32 →
    f.matchesMask (w.arch (w.tbl t).arch).mask = true →
    (∀ (rl : RelID), rl ∈ rels → targetOf w i rl.comp = some rl.target) →
    ∃ (v : Visit), v ∈ visits ∧ v.e.id = i ∧ v.table = t ∧ v.row = r
  data : ∀ (v : Visit), v ∈ visits → ∀ (c : Comp),
    valOf w v.e.id c = (w.tbl v.table).getComp c v.row
  targets : ∀ (v : Visit), v ∈ visits → ∀ (c : Comp),
    targetOf w v.e.id c = (w.tbl v.table).targetAt c

theorem exact_of_rows_rel {w : World} {fl : List Nat} (L : PLink w fl) (f : Filter)
    (rels : List RelID) (ts : List Nat) (hok : RelTablesOK w f rels ts) (visits : List Visit)
    (h3 : visits.map (fun v => (v.table, v.row)) = ts.flatMap (rowsOf w))
    (h4 : visits.map (·.e) = (ts.flatMap (rowsOf w)).map
      (fun p => (w.tbl p.1).getEntity p.2)) :
    ExactRelVisits w fl f rels visits := by
  obtain ⟨x1, x2, x3, x4⟩ := exact_of_rows_gen L.fewTables L.row_live_id L.table_of_entry
    (TblMatch w f rels) hok.nodup hok.sound hok.complete h3 h4
  have htgt : ∀ (v : Visit), v ∈ visits → ∀ (c : Comp),
      targetOf w v.e.id c = (w.tbl v.table).targetAt c := by
    intro v hvm c
    obtain ⟨_, _, s3, s4, s5, _⟩ := x2 v hvm
    exact targetOf_of_entry s3 s4 (get_of_lt s5) c
  refine ⟨x1, ?_, ?_, x4, htgt⟩
  · intro v hvm
    obtain ⟨s1, s2, s3, s4, s5, s6, s7, s8, s9⟩ := x2 v hvm
    refine ⟨s1, s2, s3, s4, s5, s6, s7, s8, ?_⟩
    intro r hr
    rw [htgt v hvm]; exact s9 r hr
  · intro i t r _ _ hi htm hmatch hall
    refine x3 i t r hi htm ⟨hmatch, ?_⟩
    intro rl hrl
    rw [← targetOf_of_entry hi htm (get_of_lt (L.table_of_entry hi htm).1)]; exact hall rl hrl

theorem ExactRelVisits.alive {w : World} {fl : List Nat} {f : Filter} {rels : List RelID}
    {visits : List Visit} (X : ExactRelVisits w fl f rels visits) (hra : RowsAlive w) :
    ∀ (v : Visit), v ∈ visits → w.alive v.e = true := by
  intro v hv
  obtain ⟨_, _, _, _, _, s6, s7, _⟩ := X.sound v hv
  rw [s7]; exact hra.tbl s6

theorem ExactRelVisits.target_ok {w : World} {fl : List Nat} {f : Filter} {rels : List RelID}
    {visits : List Visit} (X : ExactRelVisits w fl f rels visits) (hT : TargetsOK w)
    (hfe : FreeEmpty w) {v : Visit} (hv : v ∈ visits) {c : Comp} {g : Ent}
    (hg : (w.tbl v.table).targetAt c = some g) : g.isZero = true ∨ w.alive g = true := by
  obtain ⟨_, _, _, _, s5, s6, _⟩ := X.sound v hv
  have hnf := notFree_of_rows hfe s5 (by omega)
  simp only [Table.targetAt] at hg
  cases hc : (w.tbl v.table).colIdx c with
  | none => rw [hc] at hg; cases hg
  | some k =>
    rw [hc] at hg
    simp only [Option.bind_some] at hg
    split at hg
    · rename_i hk
      have := hT _ _ (get_of_lt s5) hnf k hk
      rw [Option.some.inj hg] at this; exact this
    · cases hg

/-- `compsOf w i = some cs` (the column list of the entity's table, read through the index) also
    says that the ID is indexed to a table -/
def EntMatches (w : World) (f : Filter) (rels : List RelID) (i : Nat) : Prop :=
  (∃ (cs : List Comp), compsOf w i = some cs ∧ f.matchesMask (Mask.ofList cs) = true) ∧
  ∀ (r : RelID), r ∈ rels → targetOf w i r.comp = some r.target

theorem ofList_ids {w : World} (h : SInvMid w) {t : Nat} {T : Table}
    (hT : w.tables[t]? = some T) : Mask.ofList T.ids = (w.arch T.arch).mask := by
  obtain ⟨A, hA, e1, _⟩ := h.tblArch t T hT
  rw [arch_of_get hA, e1, (h.comps _ A hA).1]
  apply Mask.ext_get
  intro c hc
  rw [Mask.get_ofList, Bool.eq_iff_iff]
  simp only [hc, decide_true, Bool.true_and, decide_eq_true_eq, Mask.mem_toList]
  exact ⟨fun h1 => h1.2, fun hg => ⟨h.maskReg _ A hA c hg, hg⟩⟩

/-- needs `RowsAlive`: the index knows IDs only, the handle reported is the one stored in the row -/
theorem ExactRelVisits.visited_iff {w : World} {fl : List Nat} {f : Filter} {rels : List RelID}
    {visits : List Visit} (X : ExactRelVisits w fl f rels visits) (h : TInv w fl)
    (hra : RowsAlive w) :
    (visits.map (·.e)).Nodup ∧
    ∀ (e : Ent), e ∈ visits.map (·.e) ↔ w.alive e = true ∧ EntMatches w f rels e.id := by
  have hS := h.rel.sinv.toSInvMid
  refine ⟨?_, ?_⟩
  · have := X.nodup
    exact nodup_map_of_nodup_map visits (fun v => v.e.id) (fun v => v.e) this
      (fun a _ b _ hab => congrArg Ent.id hab)
  · intro e
    constructor
    · intro he
      obtain ⟨v, hv, rfl⟩ := List.mem_map.mp he
      obtain ⟨_, _, s3, s4, s5, _, _, s8, s9⟩ := X.sound v hv
      refine ⟨X.alive hra v hv, ⟨_, compsOf_of_entry s3 s4 (get_of_lt s5), ?_⟩, s9⟩
      rw [ofList_ids hS (get_of_lt s5)]; exact s8
    · rintro ⟨hal, ⟨cs, hcs, hm⟩, hall⟩
      obtain ⟨t, r, hi, htm, hlt, rfl⟩ := entry_of_compsOf hcs
      obtain ⟨h2, hnf⟩ := h.link.indexed_live hi htm
      rw [ofList_ids hS (get_of_lt hlt)] at hm
      obtain ⟨v, hv, hid, _, _⟩ := X.complete e.id t r h2 hnf hi htm hm hall
      have := h.link.alive_inj (X.alive hra v hv) hal hid
      exact List.mem_map.mpr ⟨v, hv, this⟩

/-- what `Query(rel…)` of a typed filter checks of the per-call relations (`preCheckTyped`) -/
def ExtraOK (w : World) (m : Mask) (extra : List RelID) : Prop :=
  ∀ (r : RelID), r ∈ extra → (r.target.isZero = true ∨ w.alive r.target = true) ∧
    w.isRelComp r.comp = true ∧ m.get r.comp = true

theorem relVerdict_eq_none_iff (w : World) (m : Mask) (r : RelID) :
    relVerdict w (some m) r = none ↔
      (r.target.isZero = true ∨ w.alive r.target = true) ∧ w.isRelComp r.comp = true ∧
        m.get r.comp = true := by
  rw [relVerdict_none_iff]
  simp

theorem preCheckTyped_ok_iff (m : Mask) (w : World) (extra : List RelID) :
    preCheckTyped m extra w = .ok () w ↔ ExtraOK w m extra := by
  rw [preCheckTyped_eq]
  unfold relsVerdict ExtraOK
  cases hv : extra.findSome? (relVerdict w (some m)) with
  | none =>
    rw [List.findSome?_eq_none_iff] at hv
    exact ⟨fun _ r hr => (relVerdict_eq_none_iff w m r).mp (hv r hr), fun _ => rfl⟩
  | some k =>
    refine ⟨fun h => (by cases h), fun h => ?_⟩
    obtain ⟨r, hr, hk⟩ := List.exists_of_findSome?_eq_some hv
    rw [(relVerdict_eq_none_iff w m r).mpr (h r hr)] at hk
    cases hk

/-- `Query(rel…)` panics before taking the lock: nothing is visited, the world is unchanged -/
theorem drain_rejected (fo : FilterObj) (extra : List RelID) (w : World) (ht : fo.typed = true)
    (hbad : ¬ ExtraOK w fo.filter.mask extra) :
    ∃ (k : PanicKind), qOpen fo extra w = .panic k w ∧ drain fo extra w = .panic k w := by
  rcases preCheckTyped_cases fo.filter.mask w extra with h | ⟨k, h⟩
  · exact absurd ((preCheckTyped_ok_iff _ w extra).mp h) hbad
  · exact ⟨k, qOpen_rejected ht h, drain_of_qOpen_panic (qOpen_rejected ht h)⟩

theorem ExtraOK.relsTyped {w : World} {f : Filter} {extra : List RelID}
    (h : ExtraOK w f.mask extra) : RelsTyped w f extra :=
  fun r hr => (h r hr).2

/-- what C03 says about one query with relations on the world `w` before the query: the opened
    query `q` lives on the locked world `w1`; the iteration returns `visits` and leaves `w2`. -/
structure RelQueryExactOn (w : World) (fl : List Nat) (fo : FilterObj) (extra : List RelID)
    (w1 : World) (q : QueryObj) (visits : List Visit) (w2 : World) : Prop where
  opened : qOpen fo extra w = .ok q w1
  drained : drain fo extra w = .ok visits w2
  exact : ExactRelVisits w fl fo.filter (fo.rels ++ extra) visits
  count : qCount w1 q = some visits.length
  entityAt : ∀ (i : Nat) (hi : i < visits.length), qEntityAt w1 q i = some (some visits[i].e)
  entityAtOut : ∀ (i : Nat), visits.length ≤ i → qEntityAt w1 q i = some none

theorem drain_rel_of_selected {w : World} {fl : List Nat} (L : PLink w fl) (fo : FilterObj)
    (extra : List RelID) {l1 l2 : Lock} {b : Nat} (hu : l1.unlock b = some l2) {q : QueryObj}
    (ho : qOpen fo extra w = .ok q (w.withLocks l1)) (hqb : q.lockBit = b) {ts : List Nat}
    (hsel : qSelected (w.withLocks l1) q = some ts)
    (hok : RelTablesOK w fo.filter (fo.rels ++ extra) ts) :
    ∃ (visits : List Visit),
      RelQueryExactOn w fl fo extra (w.withLocks l1) q visits (w.withLocks l2) := by
  obtain ⟨visits, hd, h3, h4, hcnt, hat, hout⟩ :=
    drain_rows_of_selected fo extra hu ho hqb hsel hok.nodup
  exact ⟨visits, ho, hd, exact_of_rows_rel L fo.filter _ _ hok visits h3 h4, hcnt, hat, hout⟩

theorem drain_rel_of_archs {w : World} {fl : List Nat} (h : TInv w fl) (fo : FilterObj)
    (extra : List RelID) (hc : fo.cache = none)
    (hpre : fo.typed = true → ExtraOK w fo.filter.mask extra)
    (hr : RelsTyped w fo.filter (fo.rels ++ extra))
    {l1 l2 : Lock} {b : Nat} (hL : LockCycle w.locks l1 b l2)
    (harchs : ArchsOK w fo.filter (w.archList (rareOf fo w))) :
    ∃ (q : QueryObj) (visits : List Visit),
      RelQueryExactOn w fl fo extra (w.withLocks l1) q visits (w.withLocks l2) := by
  have ho := qOpen_eq fo extra w (fun ht => (preCheckTyped_ok_iff _ w extra).mpr (hpre ht))
    (cacheTablesOf_uncached w hc) hL.lock
  have H := tablesInv_of_rel h.rel
  have hok := relsOK_of_typed h.rel.sinv.toSInvMid hr
  have hsel : qSelected (w.withLocks l1) (openedWith fo extra none w b) =
      some (relSel w fo.filter (fo.rels ++ extra) (w.archList (rareOf fo w))) := by
    have hrels : (openedWith fo extra none w b).rels = fo.rels ++ extra := effRels_uncached hc extra
    rw [qSelected_withLocks, qSelected_rel H _ rfl (by rw [hrels]; exact hok) harchs.lt, hrels]
    rfl
  obtain ⟨visits, Q⟩ := drain_rel_of_selected h.link fo extra hL.unlock ho rfl hsel
    (RelTablesOK.of_archs h.rel h.freeEmpty hr harchs)
  exact ⟨_, visits, Q⟩

/-- `UnsafeFilter`, or a typed filter without type parameters: the query walks all archetypes -/
theorem drain_rel_untyped {w : World} {fl : List Nat} (h : TInv w fl) (fo : FilterObj)
    (extra : List RelID) (hc : fo.cache = none) (hu : fo.typed = false ∨ fo.ids = [])
    (hpre : fo.typed = true → ExtraOK w fo.filter.mask extra)
    (hr : RelsTyped w fo.filter (fo.rels ++ extra))
    {l1 l2 : Lock} {b : Nat} (hL : LockCycle w.locks l1 b l2) :
    ∃ (q : QueryObj) (visits : List Visit),
      RelQueryExactOn w fl fo extra (w.withLocks l1) q visits (w.withLocks l2) :=
  drain_rel_of_archs h fo extra hc hpre hr hL (ArchsOK.of_untyped w fo hu)

/-- a typed filter with type parameters walks `componentIndex[rare]`, hence `CIdx` and `FilterOK`
    (the mask requires the type parameters) -/
theorem drain_rel {w : World} {fl : List Nat} (h : TInv w fl) (hx : CIdx w) (fo : FilterObj)
    (extra : List RelID) (hc : fo.cache = none) (hokf : FilterOK fo)
    (hpre : fo.typed = true → ExtraOK w fo.filter.mask extra)
    (hr : RelsTyped w fo.filter (fo.rels ++ extra))
    {l1 l2 : Lock} {b : Nat} (hL : LockCycle w.locks l1 b l2) :
    ∃ (q : QueryObj) (visits : List Visit),
      RelQueryExactOn w fl fo extra (w.withLocks l1) q visits (w.withLocks l2) :=
  drain_rel_of_archs h fo extra hc hpre hr hL
    (ArchsOK.of_filterOK hx h.rel.sinv.maskReg fo hokf)

/-- the cache entry lists the `Selected` tables for the FIXED relations (`CacheInv`); the per-call
    relations are matched by the cursor -/
theorem drain_rel_cached {w : World} {fl : List Nat} (h : TInv w fl) (hC : CacheInv w)
    (fo : FilterObj) (extra : List RelID) {id : Nat} {ce : CacheEntry} (hc : fo.cache = some id)
    (he : w.cacheEntry? id = some ce) (hf : ce.filter = fo.filter) (hrl : ce.rels = fo.rels)
    (hpre : fo.typed = true → ExtraOK w fo.filter.mask extra)
    (hr : RelsTyped w fo.filter (fo.rels ++ extra))
    {l1 l2 : Lock} {b : Nat} (hL : LockCycle w.locks l1 b l2) :
    ∃ (q : QueryObj) (visits : List Visit),
      RelQueryExactOn w fl fo extra (w.withLocks l1) q visits (w.withLocks l2) := by
  have ho := qOpen_eq fo extra w (fun ht => (preCheckTyped_ok_iff _ w extra).mpr (hpre ht))
    (cacheTablesOf_cached hc he) hL.lock
  obtain ⟨hmem, _⟩ := hC.entry_of_lookup he
  have hr' : RelsTyped w ce.filter (ce.rels ++ extra) := by rw [hf, hrl]; exact hr
  obtain ⟨hnone, hok⟩ := RelTablesOK.of_cached h.rel h.freeEmpty hC hmem hr'
  rw [hf, hrl] at hok
  have hsel : qSelected (w.withLocks l1) (openedWith fo extra (some ce.tables.tables) w b) =
      some (cachedSel w extra ce.tables.tables) := by
    have hrels : (openedWith fo extra (some ce.tables.tables) w b).rels = extra :=
      effRels_cached hc extra
    rw [qSelected_withLocks, qSelected_cached w _ _ rfl (fun t ht _ => by rw [hrels]; exact hnone t ht),
      hrels]
  obtain ⟨visits, Q⟩ := drain_rel_of_selected h.link fo extra hL.unlock ho rfl hsel hok
  exact ⟨_, visits, Q⟩

end QueryRel
end Ark

end

section

/-! ## §2 queries along a chain of `Good` steps

A complete iteration on a `QGood` world leaves a `QGood` world, so queries can be interleaved
  freely with the `Good` steps (`QGood.query`, `QGood.query_cached`).  `cidxB` / `rowsAliveB` check
  `CIdx` / `RowsAlive` on a concrete world.
-/

set_option autoImplicit false

namespace Ark
namespace QueryRel

open World Drain Ark.Props.C01World QueryExact

theorem _root_.Ark.TInv.withLocks {w : World} {fl : List Nat} (h : TInv w fl) (l : Lock) :
    TInv (w.withLocks l) fl where
  rel := h.rel.of_metaStep (MetaStep.of_tables_eq rfl rfl rfl rfl rfl) (fun _ ha => ha)
  flags := h.flags
  freeEmpty := h.freeEmpty
  link := h.link.congr (h.link.idx.congr rfl rfl) rfl rfl rfl rfl
  kindsLe := h.kindsLe

/-- the joint invariant reads the cache only through `CacheRelsOK`, the filter heap not at all -/
theorem _root_.Ark.TInv.setCF {w : World} {fl : List Nat} (h : TInv w fl) (c : Cache)
    (F : AL FilterObj)
    (hc : ∀ (e : CacheEntry), e ∈ c.filters → ∀ (r : RelID), r ∈ e.rels →
      e.filter.mask.get r.comp = true) :
    TInv { w with cache := c, filters := F } fl where
  rel :=
    { sinv := h.rel.sinv.congr rfl rfl rfl
      rinv := h.rel.rinv.congr rfl rfl
      aux :=
        { targets := h.rel.aux.targets
          rels := h.rel.aux.rels
          relArchs := h.rel.aux.relArchs
          cacheRels := hc } }
  flags := h.flags
  freeEmpty := h.freeEmpty
  link := h.link.congr (h.link.idx.congr rfl rfl) rfl rfl rfl rfl
  kindsLe := h.kindsLe

theorem _root_.Ark.CIdx.withLocks {w : World} (h : CIdx w) (l : Lock) : CIdx (w.withLocks l) :=
  h.of_frame ⟨rfl, rfl, rfl, fun _ => rfl⟩

theorem _root_.Ark.RowsAlive.withLocks {w : World} (h : RowsAlive w) (l : Lock) :
    RowsAlive (w.withLocks l) := h

def cidxB (w : World) : Bool :=
  (w.componentIndex.length == w.kinds.length) &&
  (List.range w.kinds.length).all fun c =>
    let l := w.componentIndex.getD c []
    decide l.Nodup &&
    l.all (fun a => decide (a < w.archetypes.length) && (w.arch a).mask.get c) &&
    (List.range w.archetypes.length).all fun a => !(w.arch a).mask.get c || l.contains a

theorem cidx_of_check {w : World} (h : cidxB w = true) : CIdx w := by
  simp only [cidxB, Bool.and_eq_true, beq_iff_eq, List.all_eq_true, List.mem_range,
    decide_eq_true_eq, Bool.or_eq_true, Bool.not_eq_true', List.contains_iff_mem] at h
  obtain ⟨hlen, hall⟩ := h
  refine ⟨hlen, ?_, ?_⟩
  · intro c
    rcases Nat.lt_or_ge c w.kinds.length with hc | hc
    · exact (hall c hc).1.1
    · have : w.componentIndex.getD c [] = [] := by
        rw [List.getD_eq_getElem?_getD, List.getElem?_eq_none (by rw [hlen]; exact hc)]; rfl
      rw [this]; exact List.nodup_nil
  · intro c a hc
    obtain ⟨⟨_, h2⟩, h3⟩ := hall c hc
    constructor
    · intro ha; exact h2 a ha
    · rintro ⟨ha, hg⟩
      rcases h3 a ha with h | h
      · rw [hg] at h; cases h
      · exact h

def rowsAliveB (w : World) : Bool :=
  w.tables.all fun T => (List.range T.len).all fun r => w.alive (T.getEntity r)

theorem rowsAlive_of_check {w : World} (h : rowsAliveB w = true) : RowsAlive w := by
  simp only [rowsAliveB, List.all_eq_true, List.mem_range] at h
  intro t T r hT hr
  exact h T (List.mem_of_getElem? hT) r hr

/-- the states in which the C03 theorems apply; `lock`: the lock's bit pool is consistent with no
    bit outstanding (`[]`: no query open) -/
structure QGood (w : World) : Prop where
  good : Good w
  cidx : CIdx w
  rows : RowsAlive w
  lock : ∃ (lf : List Nat), Lock.LInv ⟨w.locks, []⟩ lf

theorem qgood_init (cap rel : Nat) : QGood (World.init cap rel) :=
  ⟨good_init cap rel, CIdx.init cap rel, RowsAlive.init cap rel, [], Lock.linv_init⟩

theorem QGood.lockCycle {w : World} (g : QGood w) :
    ∃ (l1 l2 : Lock) (b : Nat), LockCycle w.locks l1 b l2 ∧ QGood (w.withLocks l2) := by
  obtain ⟨l1, b, l2, hc, hul2, hl2⟩ := LockCycle.of_free g.lock
  obtain ⟨fl, ht, _, hno⟩ := g.good
  exact ⟨l1, l2, b, hc, ⟨fl, ht.withLocks l2, hul2, hno⟩, g.cidx.withLocks l2, g.rows.withLocks l2,
    hl2⟩

/-- what a client learns from one complete iteration on a world `w` (`Count` and `EntityAt` on the
    locked world `w1`, with the opened query `q`); `data` and `targets` compare random access
    (`valOf`, `targetOf`) with what is read at the visited row -/
structure Observed (w : World) (fo : FilterObj) (extra : List RelID) (w1 : World) (q : QueryObj)
    (visits : List Visit) : Prop where
  opened : qOpen fo extra w = .ok q w1
  nodup : (visits.map (·.e)).Nodup
  exact : ∀ (e : Ent), e ∈ visits.map (·.e) ↔
    w.alive e = true ∧ EntMatches w fo.filter (fo.rels ++ extra) e.id
  index : ∀ (v : Visit), v ∈ visits → w.entities[v.e.id]? = some (v.table, v.row) ∧
    v.table ≠ maxU32 ∧ v.e = (w.tbl v.table).getEntity v.row
  data : ∀ (v : Visit), v ∈ visits → ∀ (c : Comp),
    valOf w v.e.id c = (w.tbl v.table).getComp c v.row
  targets : ∀ (v : Visit), v ∈ visits → ∀ (c : Comp),
    targetOf w v.e.id c = (w.tbl v.table).targetAt c ∧
    ∀ (g : Ent), targetOf w v.e.id c = some g → g.isZero = true ∨ w.alive g = true
  count : qCount w1 q = some visits.length
  entityAt : ∀ (i : Nat) (hi : i < visits.length), qEntityAt w1 q i = some (some visits[i].e)
  entityAtOut : ∀ (i : Nat), visits.length ≤ i → qEntityAt w1 q i = some none

theorem Observed.of_exact {w : World} {fl : List Nat} (h : TInv w fl) (hra : RowsAlive w)
    {fo : FilterObj} {extra : List RelID} {w1 w2 : World} {q : QueryObj} {visits : List Visit}
    (Q : RelQueryExactOn w fl fo extra w1 q visits w2) : Observed w fo extra w1 q visits := by
  obtain ⟨hnd, hiff⟩ := Q.exact.visited_iff h hra
  refine ⟨Q.opened, hnd, hiff, ?_, Q.exact.data, ?_, Q.count, Q.entityAt, Q.entityAtOut⟩
  · intro v hv
    obtain ⟨_, _, s3, s4, _, _, s7, _⟩ := Q.exact.sound v hv
    exact ⟨s3, s4, s7⟩
  · intro v hv c
    refine ⟨Q.exact.targets v hv c, fun g hg => ?_⟩
    rw [Q.exact.targets v hv c] at hg
    exact Q.exact.target_ok h.rel.aux.targets h.freeEmpty hv hg

/-- **C03 with relation targets, unregistered filters**: on a `QGood` world `drain` succeeds,
    changes nothing but the lock's bit pool, leaves a `QGood` world, and the visits are as
    `Observed` says -/
theorem QGood.query {w : World} (g : QGood w) (fo : FilterObj) (extra : List RelID)
    (hc : fo.cache = none) (hokf : FilterOK fo)
    (hpre : fo.typed = true → ExtraOK w fo.filter.mask extra)
    (hr : RelsTyped w fo.filter (fo.rels ++ extra)) :
    ∃ (l1 l2 : Lock) (q : QueryObj) (visits : List Visit),
      drain fo extra w = .ok visits (w.withLocks l2) ∧ QGood (w.withLocks l2) ∧
      Observed w fo extra (w.withLocks l1) q visits := by
  obtain ⟨l1, l2, b, hL, g2⟩ := g.lockCycle
  obtain ⟨fl, ht, _, _⟩ := g.good
  obtain ⟨q, visits, Q⟩ := drain_rel ht g.cidx fo extra hc hokf hpre hr hL
  exact ⟨l1, l2, q, visits, Q.drained, g2, Observed.of_exact ht g.rows Q⟩

theorem QGood.query_cached {w : World} (g : QGood w) (hC : CacheInv w) (fo : FilterObj)
    (extra : List RelID) {id : Nat} {ce : CacheEntry} (hc : fo.cache = some id)
    (he : w.cacheEntry? id = some ce) (hf : ce.filter = fo.filter) (hrl : ce.rels = fo.rels)
    (hpre : fo.typed = true → ExtraOK w fo.filter.mask extra)
    (hr : RelsTyped w fo.filter (fo.rels ++ extra)) :
    ∃ (l1 l2 : Lock) (q : QueryObj) (visits : List Visit),
      drain fo extra w = .ok visits (w.withLocks l2) ∧ QGood (w.withLocks l2) ∧
      CacheInv (w.withLocks l2) ∧ Observed w fo extra (w.withLocks l1) q visits := by
  obtain ⟨l1, l2, b, hL, g2⟩ := g.lockCycle
  obtain ⟨fl, ht, _, _⟩ := g.good
  obtain ⟨q, visits, Q⟩ := drain_rel_cached ht hC fo extra hc he hf hrl hpre hr hL
  refine ⟨l1, l2, q, visits, Q.drained, g2, ?_, Observed.of_exact ht g.rows Q⟩
  exact hC.congr rfl rfl rfl

/-- `hfresh`: the cache's ID pool hands out an unused ID -/
theorem QGood.cacheRegister {w : World} (g : QGood w) (hC : CacheInv w) (f : Filter)
    (rels : List RelID) (hr : RelsTyped w f rels)
    (hfresh : AL.find? w.cache.indices (w.cache.pool.get).2 = none) :
    ∃ (w' : World) (ce : CacheEntry),
      cacheRegister f rels w = .ok (w.cache.pool.get).2 w' ∧ QGood w' ∧ CacheInv w' ∧
      w'.cacheEntry? (w.cache.pool.get).2 = some ce ∧ ce.filter = f ∧ ce.rels = rels ∧
      w'.entities = w.entities ∧ w'.tables = w.tables ∧ w'.archetypes = w.archetypes ∧
      w'.kinds = w.kinds ∧ w'.pool = w.pool := by
  obtain ⟨fl, ht, hul, hno⟩ := g.good
  have H := tablesInv_of_rel ht.rel
  have hok := relsOK_of_typed ht.rel.sinv.toSInvMid hr
  obtain ⟨ts, hts, _, _⟩ := getCacheTables_spec H hok
  obtain ⟨w', ce, hreg, hC', _, _, hce, _, hcf, hcr, _⟩ := cacheRegister_inv hC H hok hfresh
  have heq := cacheRegister_eq w f rels ts hts
  rw [heq] at hreg
  injection hreg with _ hw
  subst hw
  have ht' : TInv (registered w f rels ts) fl := by
    refine ht.setCF _ w.filters fun e he => ?_
    replace he : e ∈ w.cache.filters ++ [newEntry w f rels ts] := he
    rcases List.mem_append.mp he with he | he
    · exact ht.rel.aux.cacheRels e he
    · rw [List.mem_singleton.mp he]
      intro r hrm; exact (hr r hrm).2
  refine ⟨_, ce, heq, ⟨⟨fl, ht', hul, hno⟩, g.cidx.of_frame ⟨rfl, rfl, rfl, fun _ => rfl⟩, g.rows,
    g.lock⟩, hC', hce, hcf, hcr, rfl, rfl, rfl, rfl, rfl⟩

end QueryRel
end Ark

end

