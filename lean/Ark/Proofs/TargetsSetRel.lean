/-
  Ark.Proofs.TargetsSetRel — C04 at world level: `World.setRelations`
  (`setRelationsCore` / `opSetRelations`): an accepted call keeps the invariants, gives the
  entity the targets named (its other targets, its components and values are kept) and changes
  no other entity; a valid call never fails; `Good` is kept.  On the way: the scan
  `getExchangeTargets`, the normal form `setRelationsCore_eq` (the one place where the function is
  opened; `setRelTail` names what follows the table lookup), the lookup of the table with the edited targets (`relAssign_of_ok`,
  `TInv.set_lookup`), and the tail shared with `Add` / `Remove` / `Exchange` (move the row,
  `registerTargets`): `movedTail`, and `ReadyToMove.moved`, which reads it after any lookup as
  components, values and targets of the moved entity (`MovedTo`).
-/
import Ark.Proofs.TargetsHist
import Ark.Proofs.Commutes

set_option autoImplicit false

namespace Ark

open World Ark.Props.C01World

/-! ## 1. `getExchangeTargets` -/

namespace World

/-- the scan of `getExchangeTargets`: when every relation names a relation column and no
    component is named twice nor is in `seen` (the repetition check of the scan, there since the
    repair of defect D19) it returns the edited target list; it reports a change exactly when
    some step found a different target -/
theorem getExchangeTargets_go_spec (T : Table) (w : World) : ∀ (rels : List RelID) (ts : List Ent)
    (ch : Bool) (cm : Mask) (seen : List Comp),
    (∀ (r : RelID), r ∈ rels → ∃ (i : Nat), T.colIdx r.comp = some i ∧
      T.isRel.getD i false = true) →
    (rels.map (·.comp)).Nodup → (∀ (r : RelID), r ∈ rels → r.comp ∉ seen) →
    ∃ (ch' : Bool) (cm' : Mask),
      getExchangeTargets.go T w ts ch cm seen rels = .ok (setTargets T.colIdx rels ts, ch', cm') w ∧
      (ch' = false → ch = false ∧ setTargets T.colIdx rels ts = ts) ∧
      (ch' = true → ch = true ∨ ∃ (r : RelID), r ∈ rels ∧ ∃ (i : Nat),
        T.colIdx r.comp = some i ∧ r.target ≠ ts.getD i Ent.zero)
  | [], ts, ch, cm, _, _, _, _ => ⟨ch, cm, rfl, fun h => ⟨h, rfl⟩, fun h => Or.inl h⟩
  | r :: rest, ts, ch, cm, seen, h, hnd, hns => by
    obtain ⟨i, hc, hr⟩ := h r List.mem_cons_self
    have hrest := fun r' hr' => h r' (List.mem_cons_of_mem _ hr')
    rw [List.map_cons, List.nodup_cons] at hnd
    have hseen : seen.contains r.comp = false := by
      cases hh : seen.contains r.comp with
      | false => rfl
      | true => exact absurd (List.contains_iff_mem.1 hh) (hns r List.mem_cons_self)
    have hns' : ∀ (r' : RelID), r' ∈ rest → r'.comp ∉ r.comp :: seen := by
      intro r' hr' hin
      rcases List.mem_cons.1 hin with he | hm
      · exact hnd.1 (List.mem_map.2 ⟨r', hr', he⟩)
      · exact hns r' (List.mem_cons_of_mem _ hr') hm
    simp only [getExchangeTargets.go, hseen, hc, hr, Bool.not_true, Bool.false_eq_true, if_false]
    by_cases heq : (r.target == ts.getD i Ent.zero) = true
    · rw [if_pos heq]
      have heq' : r.target = ts.getD i Ent.zero := by simpa using heq
      have hstep : setStep T.colIdx ts r = ts := by
        unfold setStep
        rw [hc]
        simp only
        rcases Nat.lt_or_ge i ts.length with hlt | hge
        · rw [heq', List.getD_eq_getElem?_getD, List.getElem?_eq_getElem hlt]
          exact List.set_getElem_self hlt
        · exact List.set_eq_of_length_le hge
      obtain ⟨ch', cm', e1, e2, e3⟩ :=
        getExchangeTargets_go_spec T w rest ts ch cm (r.comp :: seen) hrest hnd.2 hns'
      refine ⟨ch', cm', ?_, ?_, ?_⟩
      · rw [setTargets_cons, hstep]; exact e1
      · intro hh; rw [setTargets_cons, hstep]; exact e2 hh
      · intro hh
        rcases e3 hh with k | ⟨r', hr', k⟩
        · exact Or.inl k
        · exact Or.inr ⟨r', List.mem_cons_of_mem _ hr', k⟩
    · rw [if_neg heq]
      have hne : r.target ≠ ts.getD i Ent.zero := by simpa using heq
      have hstep : setStep T.colIdx ts r = ts.set i r.target := by
        unfold setStep; rw [hc]
      obtain ⟨ch', cm', e1, e2, _⟩ :=
        getExchangeTargets_go_spec T w rest (ts.set i r.target) true (cm.set r.comp)
          (r.comp :: seen) hrest hnd.2 hns'
      refine ⟨ch', cm', ?_, ?_, ?_⟩
      · rw [setTargets_cons, hstep]; exact e1
      · intro hh; exact absurd (e2 hh).1 (by simp)
      · intro _; exact Or.inr ⟨r, List.mem_cons_self, i, hc, hne⟩

theorem getExchangeTargets_spec (T : Table) (rels : List RelID) (w : World)
    (h : ∀ (r : RelID), r ∈ rels → ∃ (i : Nat), T.colIdx r.comp = some i ∧
      T.isRel.getD i false = true)
    (hnd : (rels.map (·.comp)).Nodup) :
    ∃ (ch : Bool) (cm : Mask),
      getExchangeTargets T rels w =
        .ok (if ch then colRels T.ids (setTargets T.colIdx rels T.targets) T.isRel else [], ch, cm) w ∧
      (ch = false → setTargets T.colIdx rels T.targets = T.targets) ∧
      (ch = true → ∃ (r : RelID), r ∈ rels ∧ ∃ (i : Nat),
        T.colIdx r.comp = some i ∧ r.target ≠ T.targets.getD i Ent.zero) := by
  obtain ⟨ch, cm, e1, e2, e3⟩ :=
    getExchangeTargets_go_spec T w rels T.targets false Mask.empty [] h hnd
      (fun _ _ hm => by cases hm)
  refine ⟨ch, cm, ?_, fun hh => (e2 hh).2, fun hh => ?_⟩
  · unfold getExchangeTargets
    rw [e1]
    cases ch with
    | false => rfl
    | true => rfl
  · rcases e3 hh with k | k
    · cases k
    · exact k

/-- the scan refuses a relation list that names a component twice (or one seen before), without
    effect (`.relTwice` at the first repetition unless an earlier relation names no relation
    column) -/
theorem getExchangeTargets_go_not_nodup (T : Table) (w : World) : ∀ (rels : List RelID)
    (ts : List Ent) (ch : Bool) (cm : Mask) (seen : List Comp),
    ¬ ((rels.map (·.comp)).Nodup ∧ ∀ (r : RelID), r ∈ rels → r.comp ∉ seen) →
    ∃ (k : PanicKind), getExchangeTargets.go T w ts ch cm seen rels = .panic k w
  | [], _, _, _, _, h => by
    exact absurd ⟨List.nodup_nil, fun _ hr => by cases hr⟩ h
  | r :: rest, ts, ch, cm, seen, h => by
    simp only [getExchangeTargets.go]
    cases hs : seen.contains r.comp with
    | true => exact ⟨_, rfl⟩
    | false =>
      simp only [Bool.false_eq_true, if_false]
      have hs' : r.comp ∉ seen := fun hm => by
        rw [List.contains_iff_mem.2 hm] at hs; cases hs
      cases hc : T.colIdx r.comp with
      | none => exact ⟨_, rfl⟩
      | some i =>
        simp only
        have hrest : ¬ ((rest.map (·.comp)).Nodup ∧
            ∀ (r' : RelID), r' ∈ rest → r'.comp ∉ r.comp :: seen) := by
          rintro ⟨h1, h2⟩
          apply h
          refine ⟨?_, ?_⟩
          · rw [List.map_cons, List.nodup_cons]
            refine ⟨?_, h1⟩
            intro hm
            obtain ⟨r', hr', he⟩ := List.mem_map.1 hm
            exact h2 r' hr' (by rw [he]; exact List.mem_cons_self)
          · intro r' hr'
            rcases List.mem_cons.1 hr' with rfl | hm
            · exact hs'
            · exact fun hin => h2 r' hm (List.mem_cons_of_mem _ hin)
        split
        · exact ⟨_, rfl⟩
        · split
          · exact getExchangeTargets_go_not_nodup T w rest _ _ _ _ hrest
          · exact getExchangeTargets_go_not_nodup T w rest _ _ _ _ hrest

/-- **the repair of defect D19**: `getExchangeTargets` refuses a relation list naming one
    component twice, the state unchanged -/
theorem getExchangeTargets_not_nodup (T : Table) (rels : List RelID) (w : World)
    (h : ¬ (rels.map (·.comp)).Nodup) :
    ∃ (k : PanicKind), getExchangeTargets T rels w = .panic k w := by
  obtain ⟨k, hk⟩ := getExchangeTargets_go_not_nodup T w rels T.targets false Mask.empty []
    (fun hh => h hh.1)
  exact ⟨k, by unfold getExchangeTargets; rw [hk]⟩

end World

/-! ## 2. finding or creating the table with the edited targets -/

theorem Archetype.IndexInv.listed {a : Archetype} {tgt : Nat → List Ent} (h : a.IndexInv tgt)
    {i : Nat} (hi : a.isRel.getD i false = true) {k : Nat} {ts : TableIDs}
    (hf : AL.find? (a.relationTables.getD i []) k = some ts) {t : Nat} (ht : t ∈ ts.tables) :
    t ∈ a.tables.tables ∧ ((tgt t).getD i Ent.zero).id = k :=
  ((h.rel i hi).mem_of_find? hf t).1 ht

/-- **`getOrCreate` on the relation list read off edited targets `ts'`** of the non-free table
    `tid` (archetype `a`, with relation columns): when it returns, all invariants are kept and
    the returned table is another active table of `a` whose relation columns hold `ts'`; the
    accepted targets are zero or alive. -/
theorem relGet_of_ok {w w1 : World} {a tid nt : Nat} {ts' : List Ent} {rels0 : List RelID}
    (hR : RelInv w) (hI : IdxInv w) (hF : FlagsOKUpTo w rels0) (hE : FreeEmpty w)
    (hlt : tid < w.tables.length) (hTa : (w.tbl tid).arch = a) (hTf : (w.tbl tid).isFree = false)
    (hrelA : (w.arch a).hasRelations = true) (hl : ts'.length = (w.tbl tid).ids.length)
    (hdiff : ∃ (i0 : Nat), (w.tbl tid).isRel.getD i0 false = true ∧
      ts'.getD i0 Ent.zero ≠ (w.tbl tid).targets.getD i0 Ent.zero)
    (hflag : ∀ (i : Nat), (w.tbl tid).isRel.getD i false = true →
      (ts'.getD i Ent.zero).isZero = false →
      w.isTarget.getD (ts'.getD i Ent.zero).id false = true ∨
      ∃ (r0 : RelID), r0 ∈ rels0 ∧ r0.target = ts'.getD i Ent.zero)
    (hok : getOrCreate a (colRels (w.tbl tid).ids ts' (w.tbl tid).isRel) w = .ok nt w1) :
    RelInv w1 ∧ IdxInv w1 ∧ FlagsOKUpTo w1 rels0 ∧ FreeEmpty w1 ∧ CleanGot w w1 a tid nt ts' ∧
    (∀ (i : Nat), (w.tbl tid).isRel.getD i false = true →
      (ts'.getD i Ent.zero).isZero = true ∨ w.alive (ts'.getD i Ent.zero) = true) := by
  have hS := hR.sinv.toSInvMid
  have halt : a < w.archetypes.length := hTa ▸ (hS.fits hlt).2.1
  have hA := aget_of_lt halt
  have hT := get_of_lt hlt
  have hir : (w.tbl tid).isRel = (w.arch a).isRel := hTa ▸ (hS.fits hlt).2.2.isRel
  rcases relGet_cases rfl hS hR.aux.rels hlt hTa hTf hrelA hl
      (fun i hi ts hf t ht => ((hR.rinv a _ hA).listed (by rw [← hir]; exact hi) hf ht).1) with
    ⟨t, hres, cg⟩ | ⟨hres, hnd, _, _, hnamed, hcreate⟩
  · rw [getOrCreate_found hres] at hok
    injection hok with e1 e2
    subst e1; subst e2
    have cg := cg hdiff
    refine ⟨hR, hI, hF, hE, cg, fun i hi => ?_⟩
    rw [← cg.ntTgt i hi]
    exact hR.aux.targets t _ (get_of_lt cg.ntLt) cg.ntFree i (by rw [cg.ntIsRel]; exact hi)
  · have hct : createTable a (colRels (w.tbl tid).ids ts' (w.tbl tid).isRel) w = .ok nt w1 := by
      rcases getOrCreate_ok_iff.1 hok with ⟨hgt, _⟩ | ⟨_, hct⟩
      · rw [hres] at hgt; cases hgt
      · exact hct
    obtain ⟨ct, _, cg⟩ := hcreate nt w1 hct
    have hu := createTable_untouched hct
    refine ⟨⟨ct.sinv (fun b _ => hR.sinv.settled b), ct.rinv hR.rinv,
      hR.aux.created halt ct hct hS hnd⟩, ct.idx hI, ?_, hE.created ct, cg, fun i hi => ?_⟩
    · apply hF.created ct hu.isTarget
      intro r hr hz
      obtain ⟨i, a2, a3⟩ := (hnamed r hr).2
      rw [← a3] at hz ⊢
      exact hflag i a2 hz
    · have hil : i < (w.tbl tid).ids.length := by
        rw [← hS.isRel_len hT]; exact lt_of_getD_true hi
      have hmem := (colRels_facts (ts := ts') (hS.ids_nodup hT) hl (hS.isRel_len hT)).2.2.2 i _
        (List.getElem?_eq_getElem hil) hi
      exact (ct.valid _ hmem).2

/-- `getOrCreate` on the relation list read off edited targets that are all zero or alive
    never panics -/
theorem relGet_total {w : World} {a tid : Nat} {ts' : List Ent} (hR : RelInv w)
    (hlt : tid < w.tables.length) (hTa : (w.tbl tid).arch = a) (hTf : (w.tbl tid).isFree = false)
    (hrelA : (w.arch a).hasRelations = true) (hl : ts'.length = (w.tbl tid).ids.length)
    (hgood : ∀ (i : Nat), (w.tbl tid).isRel.getD i false = true →
      (ts'.getD i Ent.zero).isZero = true ∨ w.alive (ts'.getD i Ent.zero) = true) :
    ∃ (nt : Nat) (w1 : World),
      getOrCreate a (colRels (w.tbl tid).ids ts' (w.tbl tid).isRel) w = .ok nt w1 := by
  have hS := hR.sinv.toSInvMid
  have halt : a < w.archetypes.length := hTa ▸ (hS.fits hlt).2.1
  have hir : (w.tbl tid).isRel = (w.arch a).isRel := hTa ▸ (hS.fits hlt).2.2.isRel
  rcases relGet_cases rfl hS hR.aux.rels hlt hTa hTf hrelA hl (fun i hi ts hf t ht =>
      ((hR.rinv a _ (aget_of_lt halt)).listed (by rw [← hir]; exact hi) hf ht).1) with
    ⟨nt, hres, _⟩ | ⟨hres, hnd, hlenA, hcols, hnamed, _⟩
  · exact ⟨nt, w, getOrCreate_found hres⟩
  · obtain ⟨nt, w1, hct, _⟩ := hS.createTable_total hR.aux.cacheRels halt
      (fun hf => by rw [hrelA] at hf; cases hf) hlenA hcols hnd (fun r hr => by
        obtain ⟨h1, i, a2, a3⟩ := hnamed r hr
        exact ⟨h1, a3 ▸ hgood i a2⟩)
    exact ⟨nt, w1, getOrCreate_created hres hct⟩

/-- every relation of `rels` names a relation column of table `T` -/
def RelCols (T : Table) (rels : List RelID) : Prop :=
  ∀ (r : RelID), r ∈ rels → ∃ (i : Nat), T.colIdx r.comp = some i ∧ T.isRel.getD i false = true

/-- the targets of table `T` after the assignment `rels` -/
def editT (T : Table) (rels : List RelID) : List Ent := setTargets T.colIdx rels T.targets

/-- the assignment changes a target of table `T` -/
def Changes (T : Table) (rels : List RelID) : Prop :=
  ∃ (r : RelID), r ∈ rels ∧ ∃ (i : Nat), T.colIdx r.comp = some i ∧ r.target ≠ T.targets.getD i Ent.zero

theorem editT_named {T : Table} {rels : List RelID} (htl : T.targets.length = T.ids.length)
    (hnd : (rels.map (·.comp)).Nodup) {r : RelID} (hr : r ∈ rels) {i : Nat}
    (hi : T.colIdx r.comp = some i) : (editT T rels).getD i Ent.zero = r.target := by
  apply setTargets_getD_eq
  · rw [htl]; exact Table.colIdx_lt hi
  · intro r' hr' hc'
    have : r'.comp = r.comp := colIdx_inj hc' hi
    rw [eq_of_nodup_map (·.comp) rels hnd r' r hr' hr this]
  · exact Or.inl ⟨r, hr, hi⟩

theorem editT_kept {T : Table} {rels : List RelID} {c : Comp}
    (hc : ∀ (r : RelID), r ∈ rels → r.comp ≠ c) {i : Nat} (hi : T.colIdx c = some i) :
    (editT T rels).getD i Ent.zero = T.targets.getD i Ent.zero := by
  apply setTargets_getD_keep
  intro r hr hri
  exact hc r hr (colIdx_inj hri hi)

/-- **the lookup of an assignment that changes table `t`**, on success: `relGet_of_ok` for the
    edited targets of `t`; the accepted targets are zero or alive -/
theorem relAssign_of_ok {w w1 : World} {t nt : Nat} {rels : List RelID} (hR : RelInv w)
    (hI : IdxInv w) (hF : FlagsOKUpTo w rels) (hE : FreeEmpty w) (hlt : t < w.tables.length)
    (hTf : (w.tbl t).isFree = false) (hnd : (rels.map (·.comp)).Nodup)
    (hcols : RelCols (w.tbl t) rels) (hch : Changes (w.tbl t) rels)
    (hok : getOrCreate (w.tbl t).arch
      (colRels (w.tbl t).ids (editT (w.tbl t) rels) (w.tbl t).isRel) w = .ok nt w1) :
    RelInv w1 ∧ IdxInv w1 ∧ FlagsOKUpTo w1 rels ∧ FreeEmpty w1 ∧
    CleanGot w w1 (w.tbl t).arch t nt (editT (w.tbl t) rels) ∧
    ∀ (r : RelID), r ∈ rels → r.target.isZero = true ∨ w.alive r.target = true := by
  have hT := get_of_lt hlt
  have htl := (hR.aux.rels t _ hT hTf).tlen
  obtain ⟨r1, hr1, i1, hi1, hne1⟩ := hch
  obtain ⟨i, hi, hi1r⟩ := hcols r1 hr1
  obtain rfl : i = i1 := Option.some.inj (hi.symm.trans hi1)
  obtain ⟨rel1, hI1, hF1, hE1, cg, hvalid⟩ := relGet_of_ok (rels0 := rels) hR hI hF hE hlt rfl hTf
    (hR.sinv.toSInvMid.hasRelations_of_col hT hi1r) (by rw [editT, setTargets_length, htl])
    ⟨i, hi1r, by rw [editT_named htl hnd hr1 hi]; exact hne1⟩
    (by
      intro j hj hz
      rcases setTargets_getD_cases (w.tbl t).colIdx j Ent.zero rels (w.tbl t).targets with k | ⟨r, hr, k⟩
      · rw [editT, k] at hz ⊢; exact hF t _ hT hTf j hj hz
      · exact Or.inr ⟨r, hr, k.symm⟩) hok
  refine ⟨rel1, hI1, hF1, hE1, cg, fun r hr => ?_⟩
  obtain ⟨j, hj, hjr⟩ := hcols r hr
  have := hvalid j hjr
  rwa [editT_named htl hnd hr hj] at this

theorem relAssign_total {w : World} {t : Nat} {rels : List RelID} (hR : RelInv w)
    (hlt : t < w.tables.length) (hTf : (w.tbl t).isFree = false) (hcols : RelCols (w.tbl t) rels)
    (hch : Changes (w.tbl t) rels)
    (hval : ∀ (r : RelID), r ∈ rels → r.target.isZero = true ∨ w.alive r.target = true) :
    ∃ (nt : Nat) (w1 : World), getOrCreate (w.tbl t).arch
      (colRels (w.tbl t).ids (editT (w.tbl t) rels) (w.tbl t).isRel) w = .ok nt w1 := by
  have hT := get_of_lt hlt
  obtain ⟨r1, hr1, i1, hi1, _⟩ := hch
  obtain ⟨i, hi, hi1r⟩ := hcols r1 hr1
  refine relGet_total hR hlt rfl hTf (hR.sinv.toSInvMid.hasRelations_of_col hT hi1r)
    (by rw [editT, setTargets_length, (hR.aux.rels t _ hT hTf).tlen]) fun j hj => ?_
  rcases setTargets_getD_cases (w.tbl t).colIdx j Ent.zero rels (w.tbl t).targets with k | ⟨r, hr, k⟩
  · rw [editT, k]; exact hR.aux.targets t _ hT hTf j hj
  · rw [editT, k]; exact hval r hr

/-! ## 3. `World.setRelations` in normal form -/

namespace World

/-- the part of `World.setRelations` after the destination table `newT` is known (verbatim; `a` the
    entity's archetype, `cm` the mask of the changed relation components) -/
def setRelTail (run : ProbeRunner) (e : Ent) (rels : List RelID) (oldT row newT a : Nat)
    (cm : Mask) : W Unit := do
  let w ← M.get
  if w.obs.hasObservers Ev.onRemoveRelations then
    let l ← lock
    let _ ← fireSet run Ev.onRemoveRelations e cm (w.arch a).mask true
    unlock l
  let newIndex ← (fun w => let (N, i) := (w.tbl newT).add e; Res.ok i (w.setTbl newT N) : W Nat)
  moveRow e oldT row newT newIndex (w.arch a).mask
  registerTargets rels
  let w ← M.get
  if w.obs.hasObservers Ev.onAddRelations then
    let _ ← fireSet run Ev.onAddRelations e cm (w.arch a).mask true

/-- without observers the tail is: add `e` to the new table, `moveRow`, `registerTargets` -/
theorem setRelTail_eq (run : ProbeRunner) (e : Ent) (rels : List RelID) (oldT row nt a : Nat)
    (cm : Mask) (w1 : World) (hno1 : ∀ (evt : Nat), w1.obs.hasObservers evt = false) :
    setRelTail run e rels oldT row nt a cm w1 =
      .ok () (registerW (addMove w1 e oldT row nt (w1.arch a).mask) rels) := by
  have hno2 : (registerW (addMove w1 e oldT row nt (w1.arch a).mask) rels).obs.hasObservers
      Ev.onAddRelations = false := by
    show (addMove w1 e oldT row nt _).obs.hasObservers _ = false
    rw [(addMove_fields w1 e oldT row nt _).2.2.2.obs]; exact hno1 _
  simp only [setRelTail, bind, M.bind, M.get, hno1, Bool.false_eq_true, if_false, moveRow_eq,
    registerTargets_eq]
  have : registerW (moveRowW (w1.setTbl nt ((w1.tbl nt).add e).fst) e oldT row nt
      ((w1.tbl nt).add e).snd (w1.arch a).mask) rels =
      registerW (addMove w1 e oldT row nt (w1.arch a).mask) rels := rfl
  rw [this, hno2]
  rfl

/-- **`World.setRelations` in normal form** (live entity, unlocked world; observers or not): the scan
    of the targets; if one changes, the table for the edited targets, then `setRelTail` -/
theorem setRelationsCore_eq (run : ProbeRunner) (e : Ent) (rels : List RelID) (w : World)
    (hl : w.isLocked = false) (ha : w.alive e = true) (hne : rels.isEmpty = false)
    {oldT row : Nat} (hix : w.index e.id = (oldT, row)) :
    setRelationsCore run e rels w =
      match getExchangeTargets (w.tbl oldT) rels w with
      | .panic k s => .panic k s
      | .ok (_, false, _) s => .ok () s
      | .ok (newRels, true, cm) s =>
        M.bind (getOrCreate (w.tbl oldT).arch newRels)
          (fun nt => setRelTail run e rels oldT row nt (w.tbl oldT).arch cm) s := by
  simp only [setRelationsCore, bind, M.bind, checkLocked_unlocked w hl, M.get, M.assert, ha, hne,
    if_true, Bool.not_false, hix]
  cases hx : getExchangeTargets (w.tbl oldT) rels w with
  | panic k s => rfl
  | ok r s =>
    obtain ⟨newRels, ch, cm⟩ := r
    cases ch with
    | false => rfl
    | true =>
      simp only [Bool.not_true, Bool.false_eq_true, if_false]
      exact congrFun (getOrCreate_bind _ _ _) s

theorem setRelationsCore_changed (run : ProbeRunner) (e : Ent) (rels : List RelID) (w : World)
    (hl : w.isLocked = false) (ha : w.alive e = true) (hne : rels.isEmpty = false)
    {oldT row : Nat} (hix : w.index e.id = (oldT, row)) {newRels : List RelID} {cm : Mask}
    (hx : getExchangeTargets (w.tbl oldT) rels w = .ok (newRels, true, cm) w) {nt : Nat} {w1 : World}
    (hgo : getOrCreate (w.tbl oldT).arch newRels w = .ok nt w1)
    (hno1 : ∀ (evt : Nat), w1.obs.hasObservers evt = false) :
    setRelationsCore run e rels w =
      .ok () (registerW (addMove w1 e oldT row nt (w1.arch (w.tbl oldT).arch).mask) rels) := by
  rw [setRelationsCore_eq run e rels w hl ha hne hix, hx]
  simp only [M.bind, hgo]
  exact setRelTail_eq run e rels oldT row nt _ cm w1 hno1

theorem setRelationsCore_unchanged (run : ProbeRunner) (e : Ent) (rels : List RelID) (w : World)
    (hl : w.isLocked = false) (ha : w.alive e = true) (hne : rels.isEmpty = false)
    {oldT row : Nat} (hix : w.index e.id = (oldT, row)) {newRels : List RelID} {cm : Mask}
    (hx : getExchangeTargets (w.tbl oldT) rels w = .ok (newRels, false, cm) w) :
    setRelationsCore run e rels w = .ok () w := by
  rw [setRelationsCore_eq run e rels w hl ha hne hix, hx]

theorem setRelationsCore_panic_get (run : ProbeRunner) (e : Ent) (rels : List RelID) (w : World)
    (hl : w.isLocked = false) (ha : w.alive e = true) (hne : rels.isEmpty = false)
    {oldT row : Nat} (hix : w.index e.id = (oldT, row)) {newRels : List RelID} {cm : Mask}
    (hx : getExchangeTargets (w.tbl oldT) rels w = .ok (newRels, true, cm) w) {k : PanicKind}
    {s : World} (hgo : getOrCreate (w.tbl oldT).arch newRels w = .panic k s) :
    setRelationsCore run e rels w = .panic k s := by
  rw [setRelationsCore_eq run e rels w hl ha hne hix, hx]
  simp only [M.bind, hgo]

theorem setRelationsCore_panic_x (run : ProbeRunner) (e : Ent) (rels : List RelID) (w : World)
    (hl : w.isLocked = false) (ha : w.alive e = true) (hne : rels.isEmpty = false)
    {oldT row : Nat} (hix : w.index e.id = (oldT, row)) {k : PanicKind} {s : World}
    (hx : getExchangeTargets (w.tbl oldT) rels w = .panic k s) :
    setRelationsCore run e rels w = .panic k s := by
  rw [setRelationsCore_eq run e rels w hl ha hne hix, hx]

/-- **the repair of defect D19**: `setRelations` naming one relation component twice is refused,
    the world unchanged (accepted, such a call could "move" the entity into its own table) -/
theorem setRelationsCore_not_nodup (run : ProbeRunner) (e : Ent) (rels : List RelID) (w : World)
    (hl : w.isLocked = false) (ha : w.alive e = true) (hne : rels.isEmpty = false)
    (h : ¬ (rels.map (·.comp)).Nodup) :
    ∃ (k : PanicKind), setRelationsCore run e rels w = .panic k w := by
  cases hix : w.index e.id with
  | mk oldT row =>
    obtain ⟨k, hk⟩ := getExchangeTargets_not_nodup (w.tbl oldT) rels w h
    exact ⟨k, setRelationsCore_panic_x run e rels w hl ha hne hix hk⟩

end World

/-! ## 4. the tail "add `e` to the new table, `moveRow`, `registerTargets`" -/

/-- `w1`: the world after the table lookup, `w3`: the world after `registerTargets` -/
structure MovedTail (w1 w3 : World) (fl : List Nat) (e : Ent) (newT : Nat) : Prop where
  rel : RelInv w3
  flags : FlagsOK w3
  freeEmpty : FreeEmpty w3
  link : PLink w3 fl
  idx2 : IdxInv w3
  entry : w3.entities[e.id]? = some (newT, (w1.tbl newT).len)
  tgtSelf : ∀ (c : Comp), targetOf w3 e.id c = (w1.tbl newT).targetAt c
  frame : ∀ (j : Nat), j ≠ e.id → SameEnt w1 w3 j ∧ ∀ (c : Comp), targetOf w3 j c = targetOf w1 j c
  alive : ∀ (x : Ent), w3.alive x = w1.alive x
  obs : w3.obs = w1.obs
  locks : w3.locks = w1.locks
  kinds : w3.kinds = w1.kinds
  maxComps : w3.maxComps = w1.maxComps
  tablesLen : w3.tables.length = w1.tables.length
  entitiesLen : w3.entities.length = w1.entities.length
  tmeta : ∀ (t : Nat), t < w1.tables.length → Table.SameMeta (w1.tbl t) (w3.tbl t)

theorem movedTail {w1 : World} {fl : List Nat} {e : Ent} {oldT row newT : Nat} {rels : List RelID}
    (keep : Mask) (rel1 : RelInv w1) (hF1 : FlagsOKUpTo w1 rels) (hE1 : FreeEmpty w1)
    (link1 : PLink w1 fl) (he1 : w1.entities[e.id]? = some (oldT, row)) (htm : oldT ≠ maxU32)
    (hne : oldT ≠ newT) (hnl : newT < w1.tables.length)
    (hnf : (w1.tbl newT).isFree = false) (hof : (w1.tbl oldT).isFree = false)
    (hb1 : (w1.tbl newT).len + 1 < 2 ^ 32)
    (hreg : ∀ (r : RelID), r ∈ rels → r.target.isZero = false → r.target.id < w1.isTarget.length) :
    MovedTail w1 (registerW (addMove w1 e oldT row newT keep) rels) fl e newT := by
  have hlt1 : oldT < w1.tables.length := lt_of_get (link1.idx.indexed he1 htm).1
  have mv := link1.moved keep he1 htm hne hnl hb1 (rel1.sinv.toSInvMid.zst_agree hlt1 hnl)
  have hntm : newT ≠ maxU32 := Nat.ne_of_lt (Nat.lt_of_lt_of_le hnl link1.fewTables)
  have ms12 := mv.step
  have fu := mv.untouched
  generalize addMove w1 e oldT row newT keep = w2 at *
  have hms := ms12.trans (registerW_metaStep w2 rels)
  have hal : ∀ (x : Ent), w2.alive x = w1.alive x := fun x => by simp only [World.alive, mv.pool]
  have hT3 : ∀ {t : Nat}, t < w1.tables.length → (registerW w2 rels).tables[t]? = some (w2.tbl t) :=
    fun ht => get_of_lt (ms12.len ▸ ht)
  refine
    { rel := rel1.of_metaStep hms (fun x hx => (hal x).trans hx)
      flags := (hF1.of_metaStep ms12 (fun i hi => by rw [fu.isTarget]; exact hi)).register
        (fun r hr hz => by rw [fu.isTarget]; exact hreg r hr hz)
      freeEmpty := ?_
      link := mv.link.register rels
      idx2 := mv.link.idx.congr rfl rfl
      entry := mv.entry
      tgtSelf := fun c => by
        rw [targetOf_of_entry (w := registerW w2 rels) mv.entry hntm (hT3 hnl),
          Table.targetAt_sameMeta (ms12.tmeta newT hnl)]
      frame := ?_
      alive := hal
      obs := fu.obs
      locks := fu.locks
      kinds := ms12.kinds
      maxComps := fu.maxComps
      tablesLen := ms12.len
      entitiesLen := mv.entitiesLen
      tmeta := hms.tmeta }
  · -- the two tables of the move are in use; every other table keeps its rows
    intro t0 T0 hT0 hf
    have hT0' : w2.tables[t0]? = some T0 := hT0
    have hlt0 : t0 < w1.tables.length := ms12.len ▸ lt_of_get hT0'
    have hm := ms12.tmeta t0 hlt0
    rw [tbl_of_get hT0'] at hm
    by_cases e1 : t0 = oldT
    · subst e1; rw [hm.isFree, hof] at hf; cases hf
    · by_cases e2 : t0 = newT
      · subst e2; rw [hm.isFree, hnf] at hf; cases hf
      · have := mv.others t0 e1 e2
        rw [tbl_of_get hT0'] at this
        exact this ▸ hE1 t0 _ (get_of_lt hlt0) (this ▸ hf)
  · intro j hj
    refine ⟨mv.frame j hj, fun c => ?_⟩
    rcases mv.lookup j hj with ⟨a, b⟩ | b
    · -- the entity swapped into the vacated row: same table, same metadata
      rw [targetOf_of_entry (w := registerW w2 rels) a htm (hT3 hlt1),
        targetOf_of_entry b htm (get_of_lt hlt1)]
      exact Table.targetAt_sameMeta (ms12.tmeta oldT hlt1) c
    · exact hms.targetOf b c

/-! ## 5. the move in the entity view, after any lookup -/

/-- What the table lookup of an operation that moves one entity delivers, whichever lookup it was
    (`w` before, `w1` after): all invariants but the flags of the targets of `rels0` (which
    `registerTargets` is about to set); no entity has changed; `newT` is a table in use, another one
    than `oldT`, and `oldT` is as it was. -/
structure ReadyToMove (w w1 : World) (fl : List Nat) (rels0 : List RelID) (oldT newT : Nat) : Prop where
  rel : RelInv w1
  flags : FlagsOKUpTo w1 rels0
  freeEmpty : FreeEmpty w1
  link : PLink w1 fl
  frame : ∀ (j : Nat), SameEnt w w1 j ∧ ∀ (c : Comp), targetOf w1 j c = targetOf w j c
  entities : w1.entities = w.entities
  pool : w1.pool = w.pool
  kinds : w1.kinds = w.kinds
  untouched : Untouched w w1
  ne : oldT ≠ newT
  newLt : newT < w1.tables.length
  newFree : (w1.tbl newT).isFree = false
  old : w1.tbl oldT = w.tbl oldT
  tablesLen : w1.tables.length ≤ w.tables.length + 1

/-- the lookups of `add` / `remove` / `exchange` (`findOrCreateTableAdd`, directly or from the root
    table) -/
theorem AddedRelU.ready {w w1 : World} {fl : List Nat} {o : Nat} {rels rels0 : List RelID}
    {mask : Mask} {t a : Nat} (ar : AddedRelU w w1 o rels rels0 mask t a) (h : TInv w fl)
    {oldT : Nat} (hlt : oldT < w.tables.length) (hne : oldT ≠ t) (hfew : w.tables.length < maxU32) :
    ReadyToMove w w1 fl rels0 oldT t where
  rel := ar.rel
  flags := ar.flags
  freeEmpty := ar.freeEmpty
  link := h.link.of_lookup ar.foc ar.untouched ar.tablesLen hfew
  frame := ar.frame h.link.idx h.freeEmpty
  entities := ar.foc.entities
  pool := ar.foc.pool
  kinds := ar.foc.kinds
  untouched := ar.untouched
  ne := hne
  newLt := ar.foc.tblLt
  newFree := ar.foc.tblFree
  old := tbl_eq_of_get (ar.foc.others oldT hlt hne)
  tablesLen := ar.tablesLen

/-- the lookup of `setRelations`: `getOrCreate` on edited targets -/
theorem CleanGot.ready {w w1 : World} {fl : List Nat} {a tid nt : Nat} {ts' : List Ent}
    {rels0 : List RelID} (cg : CleanGot w w1 a tid nt ts') (h : TInv w fl) (rel1 : RelInv w1)
    (hI1 : IdxInv w1) (hF1 : FlagsOKUpTo w1 rels0) (hE1 : FreeEmpty w1)
    (hfew : w.tables.length < maxU32) : ReadyToMove w w1 fl rels0 tid nt where
  rel := rel1
  flags := hF1
  freeEmpty := hE1
  link := h.link.transfer hI1 cg.pool (IdxSame.of_eq cg.entities) (by rw [cg.isTarget])
    (by have := cg.lenB; omega)
  frame := cg.frame h.link.idx h.freeEmpty
  entities := cg.entities
  pool := cg.pool
  kinds := cg.kinds
  untouched := ⟨cg.obs, cg.locks, cg.isTarget, cg.maxComps⟩
  ne := Ne.symm cg.ntNe
  newLt := cg.ntLt
  newFree := cg.ntFree
  old := tbl_eq_of_get (cg.others tid (Ne.symm cg.ntNe))
  tablesLen := cg.lenB

/-- What the world looks like after entity `e` has been moved to a row of a table with the
    metadata of `N` (`w` before the operation, `w'` after): in the entity view, `e` has the
    columns and the relation targets of `N`, keeps the values of the components it had and reads
    zero for the others; nobody else has changed. -/
structure MovedTo (w : World) (fl : List Nat) (e : Ent) (N : Table) (w' : World) : Prop where
  tinv : TInv w' fl
  comps : compsOf w' e.id = some N.ids
  targets : ∀ (c : Comp), targetOf w' e.id c = N.targetAt c
  vals : ∀ (cs : List Comp), compsOf w e.id = some cs → ∀ (c : Comp), c ∈ N.ids →
    valOf w' e.id c = if c ∈ cs then valOf w e.id c else some 0
  frame : ∀ (j : Nat), j ≠ e.id → SameEnt w w' j ∧ ∀ (c : Comp), targetOf w' j c = targetOf w j c
  indexed : ∃ (t r : Nat), w'.entities[e.id]? = some (t, r) ∧ t ≠ maxU32
  pool : w'.pool = w.pool
  obs : w'.obs = w.obs
  locks : w'.locks = w.locks
  kinds : w'.kinds = w.kinds
  maxComps : w'.maxComps = w.maxComps
  tablesLen : w'.tables.length ≤ w.tables.length + 1
  entitiesLen : w'.entities.length = w.entities.length

/-- **the move**: after any lookup (`ReadyToMove`), "add `e` to `newT`, `moveRow`, `registerTargets`"
    with a keep mask that covers the columns of `newT` gives `MovedTo`. -/
theorem ReadyToMove.moved {w w1 : World} {fl : List Nat} {rels : List RelID} {oldT newT row : Nat}
    {e : Ent} (lk : ReadyToMove w w1 fl rels oldT newT) (h : TInv w fl)
    (he : w.entities[e.id]? = some (oldT, row)) (htm : oldT ≠ maxU32)
    (hTf : (w.tbl oldT).isFree = false) (keep : Mask)
    (hkeep : ∀ (c : Comp), c ∈ (w1.tbl newT).ids → keep.get c = true)
    (htin : ∀ (r : RelID), r ∈ rels → r.target.isZero = false → r.target.id < w.pool.ents.length)
    (hrows : w.entities.length + 1 < 2 ^ 32) :
    MovedTo w fl e (w1.tbl newT) (registerW (addMove w1 e oldT row newT keep) rels) := by
  have hI1 := lk.link.idx
  have hT := (h.link.idx.indexed he htm).1
  have he1 : w1.entities[e.id]? = some (oldT, row) := by rw [lk.entities]; exact he
  have hlt1 : oldT < w1.tables.length := lt_of_get (hI1.indexed he1 htm).1
  have hb1 : (w1.tbl newT).len + 1 < 2 ^ 32 := by
    have := hI1.rows_le newT
    rw [lk.entities] at this; omega
  have hntm : newT ≠ maxU32 := by have := lk.newLt; have := lk.link.fewTables; omega
  have mt := movedTail (rels := rels) keep lk.rel lk.flags lk.freeEmpty lk.link he1 htm lk.ne
    lk.newLt lk.newFree (by rw [lk.old]; exact hTf) hb1 (by
      intro r hr hz
      rw [lk.untouched.isTarget, h.link.tgtLen]
      exact h.link.lt_of_in (htin r hr hz))
  have hS1 := lk.rel.sinv.toSInvMid
  have hzst : ∀ (c' : Comp) (i' j' : Nat), (w1.tbl oldT).colIdx c' = some i' →
      (w1.tbl newT).colIdx c' = some j' →
      (w1.tbl newT).zst.getD j' false = (w1.tbl oldT).zst.getD i' false := fun c' i' j' k1 k2 => by
    rw [hS1.tbl_zst (get_of_lt lk.newLt) k2, hS1.tbl_zst (get_of_lt hlt1) k1]
  have hT3 := get_of_lt (show newT < (registerW (addMove w1 e oldT row newT keep) rels).tables.length
    by rw [mt.tablesLen]; exact lk.newLt)
  exact
    { tinv := ⟨mt.rel, mt.flags, mt.freeEmpty, mt.link, by
        rw [mt.kinds, mt.maxComps, lk.kinds, lk.untouched.maxComps]; exact h.kindsLe⟩
      comps := by rw [compsOf_of_entry mt.entry hntm hT3, (mt.tmeta newT lk.newLt).ids]
      targets := mt.tgtSelf
      vals := by
        intro cs hcs c hc
        obtain rfl : (w.tbl oldT).ids = cs :=
          Option.some.inj ((compsOf_of_entry he htm hT).symm.trans hcs)
        rw [(registerW_sameEnt _ rels e.id).1 c,
          move_keeps_values hI1 keep lk.ne he1 htm lk.newLt hntm hb1 hzst (Table.has_iff_mem.2 hc),
          lk.old, (lk.frame e.id).1.1 c]
        simp only [hkeep c hc, true_and, Table.has_iff_mem]
      frame := fun j hj =>
        ⟨(lk.frame j).1.trans (mt.frame j hj).1, fun c => by rw [(mt.frame j hj).2, (lk.frame j).2]⟩
      indexed := ⟨_, _, mt.entry, hntm⟩
      pool := by
        show (addMove w1 e oldT row newT keep).pool = w.pool
        rw [(addMove_fields w1 e oldT row newT keep).1, lk.pool]
      obs := by rw [mt.obs, lk.untouched.obs]
      locks := by rw [mt.locks, lk.untouched.locks]
      kinds := by rw [mt.kinds, lk.kinds]
      maxComps := by rw [mt.maxComps, lk.untouched.maxComps]
      tablesLen := by rw [mt.tablesLen]; exact lk.tablesLen
      entitiesLen := by rw [mt.entitiesLen, lk.entities] }

/-! ## 6. the lookup of an accepted `World.setRelations` -/

theorem relCols_of_has {w : World} {e : Ent} {oldT row : Nat} {rels : List RelID}
    (he : w.entities[e.id]? = some (oldT, row)) (hT : w.tables[oldT]? = some (w.tbl oldT))
    (hhas : ∀ (r : RelID), r ∈ rels → (targetOf w e.id r.comp).isSome = true) :
    RelCols (w.tbl oldT) rels := by
  intro r hr
  obtain ⟨t, r', k, T, h1, _, h3, h4, h5⟩ := targetOf_isSome (hhas r hr)
  rw [he] at h1
  obtain ⟨rfl, rfl⟩ := Prod.mk.inj (Option.some.inj h1)
  rw [hT] at h3
  obtain rfl := Option.some.inj h3
  exact ⟨k, h4, h5⟩

/-- **the lookup of an accepted `setRelations e rels`** (live `e`, relation components it has,
    none twice, no observers): `e` sits in row `row` of the non-free table `oldT`, whose relation
    columns `rels` names; either the assignment changes no target and nothing happens, or
    `getOrCreate` returns the table `nt` with the edited targets (`relAssign_of_ok`) and the
    result is the move of `e` to `nt` followed by `registerTargets`. -/
theorem TInv.set_lookup (run : ProbeRunner) {w : World} {fl : List Nat} (h : TInv w fl)
    (hl : w.isLocked = false) (hno : ∀ (evt : Nat), w.obs.hasObservers evt = false) {e : Ent}
    (h2 : 2 ≤ e.id) (hnf : e.id ∉ fl) (ha : w.alive e = true) (hin : e.id < w.pool.ents.length)
    {rels : List RelID} (hne : rels.isEmpty = false) (hnd : (rels.map (·.comp)).Nodup)
    (hhas : ∀ (r : RelID), r ∈ rels → (targetOf w e.id r.comp).isSome = true)
    {w' : World} (hok : setRelationsCore run e rels w = .ok () w') :
    ∃ (oldT row : Nat), w.entities[e.id]? = some (oldT, row) ∧ oldT ≠ maxU32 ∧
      w.tables[oldT]? = some (w.tbl oldT) ∧ (w.tbl oldT).isFree = false ∧
      RelCols (w.tbl oldT) rels ∧
      ((editT (w.tbl oldT) rels = (w.tbl oldT).targets ∧ w' = w) ∨
       ∃ (nt : Nat) (w1 : World),
        getOrCreate (w.tbl oldT).arch
          (colRels (w.tbl oldT).ids (editT (w.tbl oldT) rels) (w.tbl oldT).isRel) w = .ok nt w1 ∧
        RelInv w1 ∧ IdxInv w1 ∧ FlagsOKUpTo w1 rels ∧ FreeEmpty w1 ∧
        CleanGot w w1 (w.tbl oldT).arch oldT nt (editT (w.tbl oldT) rels) ∧
        (∀ (r : RelID), r ∈ rels → r.target.isZero = true ∨ w.alive r.target = true) ∧
        w' = registerW (addMove w1 e oldT row nt (w1.arch (w.tbl oldT).arch).mask) rels) := by
  obtain ⟨oldT, row, he, htm, hT, _, hTf⟩ := h.live_table h2 hnf ha hin
  have hix := index_of_get he
  have hcols := relCols_of_has he hT hhas
  refine ⟨oldT, row, he, htm, hT, hTf, hcols, ?_⟩
  -- `getExchangeTargets_spec` spells out the bodies of `RelCols`, `editT` and `Changes`; its
  -- facts are used below under these names, which unfold to them
  obtain ⟨ch, cm, hx, hfalse, htrue⟩ := getExchangeTargets_spec (w.tbl oldT) rels w hcols hnd
  cases ch with
  | false =>
    rw [setRelationsCore_unchanged run e rels w hl ha hne hix hx] at hok
    injection hok with _ hw
    exact Or.inl ⟨hfalse rfl, hw.symm⟩
  | true =>
    simp only [if_true] at hx
    cases hgo : getOrCreate (w.tbl oldT).arch
        (colRels (w.tbl oldT).ids (editT (w.tbl oldT) rels) (w.tbl oldT).isRel) w with
    | panic k s =>
      rw [setRelationsCore_panic_get run e rels w hl ha hne hix hx hgo] at hok
      cases hok
    | ok nt w1 =>
      obtain ⟨rel1, hI1, hF1, hE1, cg, hvalid⟩ := relAssign_of_ok h.rel h.link.idx
        (h.flags.upTo rels) h.freeEmpty (lt_of_get hT) hTf hnd hcols (htrue rfl) hgo
      rw [setRelationsCore_changed run e rels w hl ha hne hix hx hgo
        (fun evt => by rw [cg.obs]; exact hno evt)] at hok
      injection hok with _ hw
      exact Or.inr ⟨nt, w1, rfl, rel1, hI1, hF1, hE1, cg, hvalid, hw.symm⟩

/-! ## 7. the specification of `World.setRelations` -/

structure SetRelPost (w : World) (fl : List Nat) (e : Ent) (rels : List RelID) (w' : World) :
    Prop where
  tinv : TInv w' fl
  aliveSame : ∀ (x : Ent), w'.alive x = w.alive x
  valid : ∀ (r : RelID), r ∈ rels → r.target.isZero = true ∨ w.alive r.target = true
  targets : ∀ (r : RelID), r ∈ rels → targetOf w' e.id r.comp = some r.target
  otherTargets : ∀ (c : Comp), (∀ (r : RelID), r ∈ rels → r.comp ≠ c) →
    targetOf w' e.id c = targetOf w e.id c
  self : SameEnt w w' e.id
  frame : ∀ (j : Nat), j ≠ e.id → SameEnt w w' j ∧ ∀ (c : Comp), targetOf w' j c = targetOf w j c
  obs : w'.obs = w.obs
  locks : w'.locks = w.locks
  kinds : w'.kinds = w.kinds
  tablesLen : w'.tables.length ≤ w.tables.length + 1
  entitiesLen : w'.entities.length = w.entities.length

/-- `setRelationsCore_valid` and `setRelationsCore_spec` share this proof; only the second asks for
    the IDs of the targets inside the pool slice -/
theorem setRelationsCore_core (run : ProbeRunner) {w : World} {fl : List Nat} (h : TInv w fl)
    (hl : w.isLocked = false) (hno : ∀ (evt : Nat), w.obs.hasObservers evt = false) {e : Ent}
    (h2 : 2 ≤ e.id) (hnf : e.id ∉ fl) (ha : w.alive e = true) (hin : e.id < w.pool.ents.length)
    {rels : List RelID}
    (hne : rels.isEmpty = false) (hnd : (rels.map (·.comp)).Nodup)
    (hhas : ∀ (r : RelID), r ∈ rels → (targetOf w e.id r.comp).isSome = true)
    (hfew : w.tables.length < maxU32) (hrows : w.entities.length + 1 < 2 ^ 32)
    {w' : World} (hok : setRelationsCore run e rels w = .ok () w') :
    (∀ (r : RelID), r ∈ rels → r.target.isZero = true ∨ w.alive r.target = true) ∧
    ((∀ (r : RelID), r ∈ rels → r.target.id < w.pool.ents.length) → SetRelPost w fl e rels w') := by
  obtain ⟨oldT, row, he, htm, hT, hTf, hcols, hcase⟩ :=
    h.set_lookup run hl hno h2 hnf ha hin hne hnd hhas hok
  have htl := (h.rel.aux.rels oldT _ hT hTf).tlen
  rcases hcase with ⟨heq, rfl⟩ | ⟨nt, w1, hgo, rel1, hI1, hF1, hE1, cg, hvalidR, rfl⟩
  · have htof : ∀ (r : RelID), r ∈ rels → targetOf w' e.id r.comp = some r.target := by
      intro r hr
      obtain ⟨i, hi, hir⟩ := hcols r hr
      rw [targetOf_of_entry he htm hT, Table.targetAt_of_col hi hir, ← editT_named htl hnd hr hi,
        heq]
    have hv0 : ∀ (r : RelID), r ∈ rels → r.target.isZero = true ∨ w'.alive r.target = true := by
      intro r hr
      obtain ⟨i, hi, hir⟩ := hcols r hr
      have := h.rel.aux.targets oldT _ hT hTf i hir
      rwa [← heq, editT_named htl hnd hr hi] at this
    exact ⟨hv0, fun _ =>
      { tinv := h, aliveSame := fun _ => rfl
        valid := hv0
        targets := htof
        otherTargets := fun _ _ => rfl
        self := ⟨fun _ => rfl, rfl⟩
        frame := fun _ _ => ⟨⟨fun _ => rfl, rfl⟩, fun _ => rfl⟩
        obs := rfl, locks := rfl, kinds := rfl, tablesLen := Nat.le_succ _, entitiesLen := rfl }⟩
  · refine ⟨hvalidR, fun htin => ?_⟩
    have hids : ∀ (c : Comp), c ∈ (w1.tbl nt).ids ↔ c ∈ (w.tbl oldT).ids := fun c => by rw [cg.ntIds]
    have mv := (cg.ready h rel1 hI1 hF1 hE1 hfew).moved h he htm hTf
      (w1.arch (w.tbl oldT).arch).mask
      (fun c hc => cg.ntArch ▸ (rel1.sinv.toSInvMid.mem_ids_iff cg.ntLt c).1 hc)
      (fun r hr _ => htin r hr) hrows
    have hcs := compsOf_of_entry he htm hT
    have hcolNt : ∀ (c : Comp), (w1.tbl nt).colIdx c = (w.tbl oldT).colIdx c := by
      intro c; simp only [Table.colIdx, cg.ntIds]
    exact
      { tinv := mv.tinv
        aliveSame := fun x => by rw [World.alive, mv.pool]; rfl
        valid := hvalidR
        targets := fun r hr => by
          obtain ⟨i, hi, hir⟩ := hcols r hr
          rw [mv.targets, Table.targetAt_of_col (by rw [hcolNt]; exact hi)
            (by rw [cg.ntIsRel]; exact hir), cg.ntTgt i hir, editT_named htl hnd hr hi]
        otherTargets := fun c hc => by
          rw [mv.targets, targetOf_of_entry he htm hT]
          simp only [Table.targetAt, hcolNt, cg.ntIsRel]
          cases hci : (w.tbl oldT).colIdx c with
          | none => rfl
          | some i =>
            simp only [Option.bind_some]
            split
            · rename_i hir
              rw [cg.ntTgt i hir, editT_kept hc hci]
            · rfl
        self := ⟨fun c => by
            by_cases hc : c ∈ (w.tbl oldT).ids
            · rw [mv.vals _ hcs c ((hids c).2 hc), if_pos hc]
            · rw [valOf_none_of_comps mv.comps (fun hh => hc ((hids c).1 hh)),
                valOf_none_of_comps hcs hc],
          by rw [mv.comps, cg.ntIds, hcs]⟩
        frame := mv.frame
        obs := mv.obs, locks := mv.locks, kinds := mv.kinds
        tablesLen := mv.tablesLen, entitiesLen := mv.entitiesLen }

/-- **an accepted `setRelations e rels` named only zero or alive targets** (no condition on the
    IDs of the targets) -/
theorem setRelationsCore_valid (run : ProbeRunner) {w : World} {fl : List Nat} (h : TInv w fl)
    (hl : w.isLocked = false) (hno : ∀ (evt : Nat), w.obs.hasObservers evt = false) {e : Ent}
    (h2 : 2 ≤ e.id) (hnf : e.id ∉ fl) (ha : w.alive e = true) (hin : e.id < w.pool.ents.length)
    {rels : List RelID}
    (hne : rels.isEmpty = false) (hnd : (rels.map (·.comp)).Nodup)
    (hhas : ∀ (r : RelID), r ∈ rels → (targetOf w e.id r.comp).isSome = true)
    (hfew : w.tables.length < maxU32) (hrows : w.entities.length + 1 < 2 ^ 32)
    {w' : World} (hok : setRelationsCore run e rels w = .ok () w') :
    ∀ (r : RelID), r ∈ rels → r.target.isZero = true ∨ w.alive r.target = true :=
  (setRelationsCore_core run h hl hno h2 hnf ha hin hne hnd hhas hfew hrows hok).1

/-- **C04, assignment**: an accepted `setRelations e rels` for a live entity `e` (ID inside the
    pool slice) that has the relation components named (none twice), with targets whose IDs lie
    inside the pool slice, no observers: all invariants are kept, `e` has the targets named, keeps
    its other targets, components and values, no other entity changes. -/
theorem setRelationsCore_spec (run : ProbeRunner) {w : World} {fl : List Nat} (h : TInv w fl)
    (hl : w.isLocked = false) (hno : ∀ (evt : Nat), w.obs.hasObservers evt = false) {e : Ent}
    (h2 : 2 ≤ e.id) (hnf : e.id ∉ fl) (ha : w.alive e = true) (hin : e.id < w.pool.ents.length)
    {rels : List RelID}
    (hne : rels.isEmpty = false) (hnd : (rels.map (·.comp)).Nodup)
    (hhas : ∀ (r : RelID), r ∈ rels → (targetOf w e.id r.comp).isSome = true)
    (htin : ∀ (r : RelID), r ∈ rels → r.target.id < w.pool.ents.length)
    (hfew : w.tables.length < maxU32) (hrows : w.entities.length + 1 < 2 ^ 32)
    {w' : World} (hok : setRelationsCore run e rels w = .ok () w') : SetRelPost w fl e rels w' :=
  (setRelationsCore_core run h hl hno h2 hnf ha hin hne hnd hhas hfew hrows hok).2 htin

theorem opSetRelations_ok_preCheck {run : ProbeRunner} {p : Path} {e : Ent} {mapperIds : List Comp}
    {rels : List RelID} {w w' : World} (hok : opSetRelations run p e mapperIds rels w = .ok () w') :
    preCheck p.setRelCheck mapperIds rels w = .ok () w := by
  rcases preCheck_cases p.setRelCheck mapperIds rels w with h1 | ⟨k, h1⟩
  · exact h1
  · simp [opSetRelations, bind, M.bind, h1] at hok

theorem opSetRelations_ok_core {run : ProbeRunner} {p : Path} {e : Ent} {mapperIds : List Comp}
    {rels : List RelID} {w w' : World} (hok : opSetRelations run p e mapperIds rels w = .ok () w') :
    setRelationsCore run e rels w = .ok () w' := by
  simpa only [opSetRelations, bind, M.bind, opSetRelations_ok_preCheck hok] using hok

/-- an accepted `SetRelations` named only zero or alive targets: the pre-validation of every path
    checks each target, whatever the world -/
theorem opSetRelations_ok_valid {run : ProbeRunner} {p : Path} {e : Ent} {mapperIds : List Comp}
    {rels : List RelID} {w w' : World} (hok : opSetRelations run p e mapperIds rels w = .ok () w') :
    ∀ (r : RelID), r ∈ rels → r.target.isZero = true ∨ w.alive r.target = true :=
  fun r hr => (preCheck_ok_valid _ mapperIds w rels (opSetRelations_ok_preCheck hok) r hr).1

/-- `opSetRelations_ok_valid` under the hypotheses of `opSetRelations_spec` other than `htin` -/
theorem opSetRelations_valid (run : ProbeRunner) (p : Path) {w : World} {fl : List Nat}
    (h : TInv w fl) (hl : w.isLocked = false) (hno : ∀ (evt : Nat), w.obs.hasObservers evt = false)
    {e : Ent} (h2 : 2 ≤ e.id) (hnf : e.id ∉ fl) (ha : w.alive e = true)
    (hin : e.id < w.pool.ents.length) {mapperIds : List Comp}
    {rels : List RelID} (hne : rels.isEmpty = false) (hnd : (rels.map (·.comp)).Nodup)
    (hhas : ∀ (r : RelID), r ∈ rels → (targetOf w e.id r.comp).isSome = true)
    (hfew : w.tables.length < maxU32) (hrows : w.entities.length + 1 < 2 ^ 32)
    {w' : World} (hok : opSetRelations run p e mapperIds rels w = .ok () w') :
    ∀ (r : RelID), r ∈ rels → r.target.isZero = true ∨ w.alive r.target = true :=
  opSetRelations_ok_valid hok

/-- **C04, assignment through the API** (`SetRelations` on any path) -/
theorem opSetRelations_spec (run : ProbeRunner) (p : Path) {w : World} {fl : List Nat}
    (h : TInv w fl) (hl : w.isLocked = false) (hno : ∀ (evt : Nat), w.obs.hasObservers evt = false)
    {e : Ent} (h2 : 2 ≤ e.id) (hnf : e.id ∉ fl) (ha : w.alive e = true)
    (hin : e.id < w.pool.ents.length) {mapperIds : List Comp}
    {rels : List RelID} (hne : rels.isEmpty = false) (hnd : (rels.map (·.comp)).Nodup)
    (hhas : ∀ (r : RelID), r ∈ rels → (targetOf w e.id r.comp).isSome = true)
    (htin : ∀ (r : RelID), r ∈ rels → r.target.id < w.pool.ents.length)
    (hfew : w.tables.length < maxU32) (hrows : w.entities.length + 1 < 2 ^ 32)
    {w' : World} (hok : opSetRelations run p e mapperIds rels w = .ok () w') :
    SetRelPost w fl e rels w' :=
  setRelationsCore_spec run h hl hno h2 hnf ha hin hne hnd hhas htin hfew hrows
    (opSetRelations_ok_core hok)

/-- **rejection** (every path; `Unsafe` too since the repair of defect D24): `SetRelations` naming
    a dead target is refused with `deadTarget`, the world unchanged.  The relations must name
    relation components — and, through `MapN` (`.typed`) only, components of the mapper —,
    otherwise an earlier relation in the list may be refused for that reason first. -/
theorem opSetRelations_deadTarget (run : ProbeRunner) (p : Path) (e : Ent)
    (mapperIds : List Comp) (rels : List RelID) (w : World)
    (hv : ∀ (r : RelID), r ∈ rels →
      w.isRelComp r.comp = true ∧ (p = .typed → (Mask.ofList mapperIds).get r.comp = true))
    (hd : ∃ (r : RelID), r ∈ rels ∧ r.target.isZero = false ∧ w.alive r.target = false) :
    opSetRelations run p e mapperIds rels w = .panic .deadTarget w := by
  have := preCheck_deadTarget' p.setRelCheck mapperIds w rels
    (fun r hr => ⟨(hv r hr).1, fun hp => (hv r hr).2 (by cases p <;> first | rfl | exact absurd rfl hp)⟩) hd
  simp only [opSetRelations, bind, M.bind, this]

/-! ## 8. totality: a valid `setRelations` never fails; `Good` is kept -/

/-- **a valid `setRelations` never fails**: live entity, relation components it has, none
    twice, targets zero or alive, no observers -/
theorem setRelationsCore_total (run : ProbeRunner) {w : World} {fl : List Nat} (h : TInv w fl)
    (hl : w.isLocked = false) (hno : ∀ (evt : Nat), w.obs.hasObservers evt = false) {e : Ent}
    (h2 : 2 ≤ e.id) (hnf : e.id ∉ fl) (ha : w.alive e = true) (hin : e.id < w.pool.ents.length)
    {rels : List RelID}
    (hne : rels.isEmpty = false) (hnd : (rels.map (·.comp)).Nodup)
    (hhas : ∀ (r : RelID), r ∈ rels → (targetOf w e.id r.comp).isSome = true)
    (hval : ∀ (r : RelID), r ∈ rels → r.target.isZero = true ∨ w.alive r.target = true) :
    ∃ (w' : World), setRelationsCore run e rels w = .ok () w' := by
  obtain ⟨oldT, row, he, htm, hT, _, hTf⟩ := h.live_table h2 hnf ha hin
  have hix := index_of_get he
  have hcols := relCols_of_has he hT hhas
  obtain ⟨ch, cm, hx, _, htrue⟩ := getExchangeTargets_spec (w.tbl oldT) rels w hcols hnd
  cases ch with
  | false => exact ⟨w, setRelationsCore_unchanged run e rels w hl ha hne hix hx⟩
  | true =>
    simp only [if_true] at hx
    obtain ⟨nt, w1, hgo⟩ := relAssign_total h.rel (lt_of_get hT) hTf hcols (htrue rfl) hval
    have hno1 : ∀ (evt : Nat), w1.obs.hasObservers evt = false := fun evt => by
      rw [getOrCreate_obs hgo]; exact hno evt
    exact ⟨_, setRelationsCore_changed run e rels w hl ha hne hix hx hgo hno1⟩

theorem Good.setRelations (run : ProbeRunner) (p : Path) {w : World} (h : Good w) {e : Ent}
    (ha : w.alive e = true) (hidx : (w.index e.id).1 ≠ maxU32) (hlt : e.id < w.entities.length)
    {mapperIds : List Comp} {rels : List RelID} (hne : rels.isEmpty = false)
    (hnd : (rels.map (·.comp)).Nodup)
    (hhas : ∀ (r : RelID), r ∈ rels → (targetOf w e.id r.comp).isSome = true)
    (htin : ∀ (r : RelID), r ∈ rels → r.target.id < w.pool.ents.length)
    (hfew : w.tables.length < maxU32) (hrows : w.entities.length + 1 < 2 ^ 32)
    (hnp : panicOf (opSetRelations run p e mapperIds rels w) = none) :
    Good (opSetRelations run p e mapperIds rels w).state := by
  obtain ⟨fl, ht, hl, hno⟩ := h
  obtain ⟨h2, hnf⟩ := live_of_indexed ht hidx hlt
  obtain ⟨u, hr⟩ := ok_of_panicOf hnp
  have post := opSetRelations_spec run p ht hl hno h2 hnf ha
    (by rw [← ht.link.lenEq]; exact hlt) hne hnd hhas htin hfew hrows hr
  exact Good.of_frame post.tinv post.locks post.obs hl hno

/-! ## the lookups of `SetRelations` neither read nor write observers, log, lock and statistics -/

namespace World

theorem getExchangeTargets_go_any (T : Table) (w w' : World) : ∀ (rels : List RelID)
    (ts : List Ent) (ch : Bool) (cm : Mask) (seen : List Comp),
    getExchangeTargets.go T w' ts ch cm seen rels
      = (getExchangeTargets.go T w ts ch cm seen rels).mapS fun _ => w'
  | [], _, _, _, _ => rfl
  | r :: rest, ts, ch, cm, seen => by
    simp only [getExchangeTargets.go]
    split
    · rfl
    · split
      · rfl
      · split
        · rfl
        · split
          · exact getExchangeTargets_go_any T w w' rest _ _ _ _
          · exact getExchangeTargets_go_any T w w' rest _ _ _ _

/-- `getExchangeTargets` only passes the world through -/
theorem getExchangeTargets_any (T : Table) (rels : List RelID) (w w' : World) :
    getExchangeTargets T rels w' = (getExchangeTargets T rels w).mapS fun _ => w' := by
  unfold getExchangeTargets
  rw [getExchangeTargets_go_any T w w']
  cases getExchangeTargets.go T w T.targets false Mask.empty [] rels with
  | panic k s => rfl
  | ok r s =>
    obtain ⟨ts, ch, cm⟩ := r
    simp only [Res.mapS_ok]
    cases ch <;> rfl

theorem getExchangeTargets_state (T : Table) (rels : List RelID) (w : World) :
    (getExchangeTargets T rels w).state = w := by
  rw [getExchangeTargets_any T rels w w]
  cases getExchangeTargets T rels w <;> rfl

end World

end Ark
