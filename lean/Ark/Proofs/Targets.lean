/-
  Ark.Proofs.Targets — C04 at world level: the vocabulary for worlds with relation targets
  (`TargetsOK`, `FlagsOK`, `RelListsOK`, `RelArchsOK`, `targetOf`) and the list / table level facts
  under it (`setTargets`, `colRels`, `MatchesExact`, the columns of a table under `SInvMid`).
  `RelsExact` / `RelListsOK` demand that the relation list `relIDs` of a table agrees with its
  columns, because the cleanup of a removed target reads `relIDs`, not the columns; `createTable`
  establishes it because it rejects a call naming a relation component twice (`relTwice`, the
  repair of defect D18; `Ark/Props/C04World.lean` § 4).
-/
import Ark.Proofs.RefineCore

set_option autoImplicit false

namespace Ark

open World Ark.Props.C01World

def setStep (col : Comp → Option Nat) (ts : List Ent) (r : RelID) : List Ent :=
  match col r.comp with
  | some i => ts.set i r.target
  | none => ts

/-- the loop `targets[idx(r.comp)] = r.target` shared by `createTable` and
    `getExchangeTargets(Unchecked)` -/
def setTargets (col : Comp → Option Nat) (rels : List RelID) (ts : List Ent) : List Ent :=
  rels.foldl (setStep col) ts

theorem setTargets_nil (col : Comp → Option Nat) (ts : List Ent) : setTargets col [] ts = ts := rfl

theorem setTargets_cons (col : Comp → Option Nat) (r : RelID) (rels : List RelID) (ts : List Ent) :
    setTargets col (r :: rels) ts = setTargets col rels (setStep col ts r) := rfl

theorem setStep_length (col : Comp → Option Nat) (ts : List Ent) (r : RelID) :
    (setStep col ts r).length = ts.length := by
  unfold setStep; split
  · exact List.length_set
  · rfl

theorem setStep_getD (col : Comp → Option Nat) (ts : List Ent) (r : RelID) (i : Nat) (d : Ent) :
    (setStep col ts r).getD i d =
      if col r.comp = some i ∧ i < ts.length then r.target else ts.getD i d := by
  unfold setStep
  cases hc : col r.comp with
  | none => simp
  | some j =>
    simp only [Archetype.getD_set, Option.some.injEq]
    by_cases h : j = i
    · subst h; simp
    · have : ¬ i = j := fun e => h e.symm
      simp [h, this]

theorem setTargets_length (col : Comp → Option Nat) (rels : List RelID) (ts : List Ent) :
    (setTargets col rels ts).length = ts.length := by
  induction rels generalizing ts with
  | nil => rfl
  | cons r rest ih => rw [setTargets_cons, ih, setStep_length]

theorem setTargets_getD_keep (col : Comp → Option Nat) (i : Nat) (d : Ent) :
    ∀ (rels : List RelID) (ts : List Ent), (∀ (r : RelID), r ∈ rels → col r.comp ≠ some i) →
      (setTargets col rels ts).getD i d = ts.getD i d
  | [], _, _ => rfl
  | r :: rest, ts, h => by
    rw [setTargets_cons, setTargets_getD_keep col i d rest _
      (fun r' hr' => h r' (List.mem_cons_of_mem _ hr')), setStep_getD,
      if_neg (fun hh => h r List.mem_cons_self hh.1)]

theorem setTargets_getD_eq (col : Comp → Option Nat) (i : Nat) (v : Ent) :
    ∀ (rels : List RelID) (ts : List Ent), i < ts.length →
      (∀ (r : RelID), r ∈ rels → col r.comp = some i → r.target = v) →
      ((∃ (r : RelID), r ∈ rels ∧ col r.comp = some i) ∨ ts.getD i Ent.zero = v) →
      (setTargets col rels ts).getD i Ent.zero = v
  | [], ts, _, _, hex => by
    rcases hex with ⟨r, hr, _⟩ | h
    · cases hr
    · exact h
  | r :: rest, ts, hi, hall, hex => by
    rw [setTargets_cons]
    apply setTargets_getD_eq col i v rest
    · rw [setStep_length]; exact hi
    · exact fun r' hr' => hall r' (List.mem_cons_of_mem _ hr')
    · rw [setStep_getD]
      by_cases hc : col r.comp = some i
      · right
        rw [if_pos ⟨hc, hi⟩]
        exact hall r List.mem_cons_self hc
      · rw [if_neg (fun hh => hc hh.1)]
        rcases hex with ⟨r', hr', hc'⟩ | h
        · rcases List.mem_cons.1 hr' with rfl | hm
          · exact absurd hc' hc
          · exact Or.inl ⟨r', hm, hc'⟩
        · exact Or.inr h

theorem setTargets_getD_cases (col : Comp → Option Nat) (i : Nat) (d : Ent) :
    ∀ (rels : List RelID) (ts : List Ent),
      (setTargets col rels ts).getD i d = ts.getD i d ∨
      ∃ (r : RelID), r ∈ rels ∧ (setTargets col rels ts).getD i d = r.target
  | [], _ => Or.inl rfl
  | r :: rest, ts => by
    rw [setTargets_cons]
    rcases setTargets_getD_cases col i d rest (setStep col ts r) with h | ⟨r', hr', h⟩
    · rw [h, setStep_getD]
      split
      · exact Or.inr ⟨r, List.mem_cons_self, rfl⟩
      · exact Or.inl rfl
    · exact Or.inr ⟨r', List.mem_cons_of_mem _ hr', h⟩

/-- the relation list read off the columns (`getExchangeTargets(Unchecked)`) -/
def colRels (ids : List Comp) (targets : List Ent) (isRel : List Bool) : List RelID :=
  ((ids.zip targets).zip isRel).filterMap fun ((c, e), r) =>
    if r then some ⟨c, e⟩ else none

theorem colRels_cons (c : Comp) (ids : List Comp) (e : Ent) (ts : List Ent) (b : Bool)
    (bs : List Bool) :
    colRels (c :: ids) (e :: ts) (b :: bs) = (if b then [⟨c, e⟩] else []) ++ colRels ids ts bs := by
  cases b <;> simp [colRels, List.zip_cons_cons]

theorem colRels_nil_left (ts : List Ent) (bs : List Bool) : colRels [] ts bs = [] := by
  simp [colRels]

theorem mem_colRels {ids : List Comp} {ts : List Ent} {bs : List Bool} {r : RelID} :
    r ∈ colRels ids ts bs ↔
      ∃ (i : Nat), ids[i]? = some r.comp ∧ ts[i]? = some r.target ∧ bs[i]? = some true := by
  induction ids generalizing ts bs with
  | nil => simp [colRels_nil_left]
  | cons c ids ih =>
    cases ts with
    | nil => simp [colRels]
    | cons e ts =>
      cases bs with
      | nil => simp [colRels]
      | cons b bs =>
        rw [colRels_cons, List.mem_append, ih]
        constructor
        · rintro (h | ⟨i, h1, h2, h3⟩)
          · cases b with
            | false => simp at h
            | true =>
              simp only [if_true, List.mem_singleton] at h
              subst h
              exact ⟨0, rfl, rfl, rfl⟩
          · exact ⟨i + 1, by simpa using h1, by simpa using h2, by simpa using h3⟩
        · rintro ⟨i, h1, h2, h3⟩
          cases i with
          | zero =>
            simp only [List.getElem?_cons_zero, Option.some.injEq] at h1 h2 h3
            left
            subst h3
            simp only [if_true, List.mem_singleton]
            cases r; simp_all
          | succ i =>
            right
            exact ⟨i, by simpa using h1, by simpa using h2, by simpa using h3⟩

theorem colRels_length : ∀ (ids : List Comp) (ts : List Ent) (bs : List Bool),
    ts.length = ids.length → bs.length = ids.length →
      (colRels ids ts bs).length = (bs.filter fun b => b).length
  | [], _, bs, _, h2 => by
    have : bs = [] := List.length_eq_zero_iff.1 (by simpa using h2)
    subst this; simp [colRels_nil_left]
  | c :: ids, [], _, h1, _ => by simp at h1
  | c :: ids, e :: ts, [], _, h2 => by simp at h2
  | c :: ids, e :: ts, b :: bs, h1, h2 => by
    rw [colRels_cons, List.length_append,
      colRels_length ids ts bs (by simpa using h1) (by simpa using h2)]
    cases b <;> simp <;> omega

theorem colRels_comps_sublist : ∀ (ids : List Comp) (ts : List Ent) (bs : List Bool),
    List.Sublist ((colRels ids ts bs).map (·.comp)) ids
  | [], _, _ => by simp [colRels_nil_left]
  | c :: ids, [], _ => by simp [colRels]
  | c :: ids, e :: ts, [] => by simp [colRels]
  | c :: ids, e :: ts, b :: bs => by
    rw [colRels_cons]
    cases b with
    | false =>
      simp only [Bool.false_eq_true, if_false, List.nil_append]
      exact (colRels_comps_sublist ids ts bs).cons c
    | true =>
      simp only [if_true, List.cons_append, List.nil_append, List.map_cons]
      exact (colRels_comps_sublist ids ts bs).cons_cons c

theorem colRels_comps_nodup {ids : List Comp} (h : ids.Nodup) (ts : List Ent) (bs : List Bool) :
    ((colRels ids ts bs).map (·.comp)).Nodup :=
  (colRels_comps_sublist ids ts bs).nodup h

theorem subset_of_nodup_length_le {α : Type} [DecidableEq α] {l r : List α} (hl : l.Nodup)
    (hsub : ∀ (x : α), x ∈ l → x ∈ r) (hlen : r.length ≤ l.length) :
    ∀ (x : α), x ∈ r → x ∈ l := by
  intro x hx
  apply Classical.byContradiction
  intro hnx
  have hsub' : l ⊆ r.erase x := by
    intro y hy
    have hne : y ≠ x := fun e => hnx (e ▸ hy)
    exact (List.mem_erase_of_ne hne).2 (hsub y hy)
  have := List.Nodup.length_le_of_subset hl hsub'
  rw [List.length_erase_of_mem hx] at this
  have : 0 < r.length := List.length_pos_of_mem hx
  omega

theorem eq_of_nodup_map {α β : Type} (f : α → β) : ∀ (l : List α), (l.map f).Nodup →
    ∀ (a b : α), a ∈ l → b ∈ l → f a = f b → a = b
  | [], _, _, _, ha, _, _ => by cases ha
  | x :: l, hnd, a, b, ha, hb, hf => by
    rw [List.map_cons, List.nodup_cons] at hnd
    rcases List.mem_cons.1 ha with rfl | ha'
    · rcases List.mem_cons.1 hb with rfl | hb'
      · rfl
      · exact absurd (hf ▸ List.mem_map_of_mem hb') hnd.1
    · rcases List.mem_cons.1 hb with rfl | hb'
      · exact absurd (hf ▸ List.mem_map_of_mem ha') hnd.1
      · exact eq_of_nodup_map f l hnd.2 a b ha' hb' hf

theorem getD_false_eq_true_iff (l : List Bool) (i : Nat) : l.getD i false = true ↔ l[i]? = some true := by
  rw [List.getD_eq_getElem?_getD]
  cases l[i]? with
  | none => simp
  | some b => simp

/-- the components of the relation columns as a list, so that `RelsExact.of_created` can count
    them against `relIDs` -/
def relComps (ids : List Comp) (isRel : List Bool) : List Comp :=
  (colRels ids (List.replicate ids.length Ent.zero) isRel).map (·.comp)

theorem mem_relComps {ids : List Comp} {isRel : List Bool} {c : Comp} :
    c ∈ relComps ids isRel ↔ ∃ (i : Nat), ids[i]? = some c ∧ isRel.getD i false = true := by
  simp only [relComps, List.mem_map, mem_colRels, getD_false_eq_true_iff]
  constructor
  · rintro ⟨r, ⟨i, h1, _, h3⟩, rfl⟩
    exact ⟨i, h1, h3⟩
  · rintro ⟨i, h1, h3⟩
    refine ⟨⟨c, Ent.zero⟩, ⟨i, h1, ?_, h3⟩, rfl⟩
    have hi : i < ids.length := (List.getElem?_eq_some_iff.1 h1).1
    simp [hi]

theorem relComps_length {ids : List Comp} {isRel : List Bool} (h : isRel.length = ids.length) :
    (relComps ids isRel).length = (isRel.filter fun b => b).length := by
  rw [relComps, List.length_map, colRels_length _ _ _ (by simp) h]

theorem relComps_nodup {ids : List Comp} (h : ids.Nodup) (isRel : List Bool) :
    (relComps ids isRel).Nodup := colRels_comps_nodup h _ _

def TargetsOK (w : World) : Prop :=
  ∀ (t : Nat) (T : Table), w.tables[t]? = some T → T.isFree = false →
    ∀ (i : Nat), T.isRel.getD i false = true →
      (T.targets.getD i Ent.zero).isZero = true ∨ w.alive (T.targets.getD i Ent.zero) = true

/-- `isTarget` is the flag that makes `RemoveEntity` run `cleanupArchetypes` -/
def FlagsOK (w : World) : Prop :=
  ∀ (t : Nat) (T : Table), w.tables[t]? = some T → T.isFree = false →
    ∀ (i : Nat), T.isRel.getD i false = true → (T.targets.getD i Ent.zero).isZero = false →
      w.isTarget.getD (T.targets.getD i Ent.zero).id false = true

namespace Table

structure RelsExact (T : Table) : Prop where
  tlen : T.targets.length = T.ids.length
  sound : ∀ (r : RelID), r ∈ T.relIDs → ∃ (i : Nat), T.ids[i]? = some r.comp ∧
    T.isRel.getD i false = true ∧ T.targets.getD i Ent.zero = r.target
  complete : ∀ (i : Nat) (c : Comp), T.ids[i]? = some c → T.isRel.getD i false = true →
    (⟨c, T.targets.getD i Ent.zero⟩ : RelID) ∈ T.relIDs
  nodup : (T.relIDs.map (·.comp)).Nodup

theorem colIdx_of_get {T : Table} (hnd : T.ids.Nodup) {i : Nat} {c : Comp}
    (h : T.ids[i]? = some c) : T.colIdx c = some i := by
  obtain ⟨hi, he⟩ := List.getElem?_eq_some_iff.1 h
  have := hnd.idxOf_getElem i hi
  rw [he] at this
  simp only [Table.colIdx, this, hi, if_true]

theorem colIdx_iff {T : Table} (hnd : T.ids.Nodup) {i : Nat} {c : Comp} :
    T.colIdx c = some i ↔ T.ids[i]? = some c :=
  ⟨Table.colIdx_get, colIdx_of_get hnd⟩

theorem RelsExact.col {T : Table} (h : T.RelsExact) (hnd : T.ids.Nodup) {r : RelID}
    (hr : r ∈ T.relIDs) {i : Nat} (hi : T.colIdx r.comp = some i) :
    T.isRel.getD i false = true ∧ T.targets.getD i Ent.zero = r.target := by
  obtain ⟨j, h1, h2, h3⟩ := h.sound r hr
  have := colIdx_of_get hnd h1
  rw [hi] at this
  obtain rfl := Option.some.inj this
  exact ⟨h2, h3⟩

theorem RelsExact.length_le {T : Table} (h : T.RelsExact) (hil : T.isRel.length = T.ids.length) :
    T.relIDs.length ≤ (T.isRel.filter fun b => b).length := by
  rw [← relComps_length hil, ← List.length_map (f := (·.comp))]
  apply List.Nodup.length_le_of_subset h.nodup
  intro c hc
  obtain ⟨r, hr, rfl⟩ := List.mem_map.1 hc
  obtain ⟨i, h1, h2, _⟩ := h.sound r hr
  exact mem_relComps.2 ⟨i, h1, h2⟩

theorem RelsExact.of_created {T : Table} (hnd : T.ids.Nodup) (hil : T.isRel.length = T.ids.length)
    (htg : T.targets = setTargets T.colIdx T.relIDs (List.replicate T.ids.length Ent.zero))
    (hndr : (T.relIDs.map (·.comp)).Nodup)
    (hcol : ∀ (r : RelID), r ∈ T.relIDs →
      ∃ (i : Nat), T.ids[i]? = some r.comp ∧ T.isRel.getD i false = true)
    (hlen : (T.isRel.filter fun b => b).length ≤ T.relIDs.length) : T.RelsExact := by
  have key : ∀ (r : RelID), r ∈ T.relIDs → ∀ (i : Nat), T.ids[i]? = some r.comp →
      T.targets.getD i Ent.zero = r.target := by
    intro r hr i hi
    rw [htg]
    apply setTargets_getD_eq
    · rw [List.length_replicate]; exact (List.getElem?_eq_some_iff.1 hi).1
    · intro r' hr' hc
      have h1 := Table.colIdx_get hc
      rw [hi] at h1
      have := eq_of_nodup_map (·.comp) T.relIDs hndr r r' hr hr' (Option.some.inj h1)
      rw [this]
    · exact Or.inl ⟨r, hr, colIdx_of_get hnd hi⟩
  refine ⟨?_, ?_, ?_, hndr⟩
  · rw [htg, setTargets_length, List.length_replicate]
  · intro r hr
    obtain ⟨i, h1, h2⟩ := hcol r hr
    exact ⟨i, h1, h2, key r hr i h1⟩
  · intro i c h1 h2
    -- pigeonhole: the components `relIDs` names are distinct and all relation columns (`hsub`), and
    -- `hlen` (`createTable`'s check `rels.length < numRel`) says there are no fewer of them than
    -- relation columns, so every relation column is named
    have hsub : ∀ (x : Comp), x ∈ T.relIDs.map (·.comp) → x ∈ relComps T.ids T.isRel := by
      intro x hx
      obtain ⟨r, hr, rfl⟩ := List.mem_map.1 hx
      obtain ⟨j, h3, h4⟩ := hcol r hr
      exact mem_relComps.2 ⟨j, h3, h4⟩
    have hc : c ∈ T.relIDs.map (·.comp) :=
      subset_of_nodup_length_le hndr hsub (by rw [relComps_length hil, List.length_map]; exact hlen)
        c (mem_relComps.2 ⟨i, h1, h2⟩)
    obtain ⟨r, hr, rfl⟩ := List.mem_map.1 hc
    rw [key r hr i h1]
    exact hr

theorem matchesExact_go_yes (T : Table) : ∀ (rels : List RelID), matchesExact.go T rels = .yes →
    ∀ (r : RelID), r ∈ rels → ∀ (i : Nat), T.colIdx r.comp = some i →
      T.isRel.getD i false = true ∧ T.targets.getD i Ent.zero = r.target
  | [], _, r, hr, _, _ => by cases hr
  | x :: rest, h, r, hr, i, hi => by
    simp only [matchesExact.go] at h
    cases hx : T.colIdx x.comp with
    | none =>
      rw [hx] at h
      rcases List.mem_cons.1 hr with rfl | hm
      · rw [hx] at hi; cases hi
      · exact matchesExact_go_yes T rest h r hm i hi
    | some j =>
      rw [hx] at h
      simp only at h
      split at h
      · cases h
      · rename_i h1
        split at h
        · cases h
        · rename_i h2
          rcases List.mem_cons.1 hr with rfl | hm
          · rw [hx] at hi
            obtain rfl := Option.some.inj hi
            refine ⟨by simpa using h1, ?_⟩
            have : ¬ (r.target != T.targets.getD j Ent.zero) = true := h2
            simp only [bne_iff_ne, ne_eq, Decidable.not_not] at this
            exact this.symm
          · exact matchesExact_go_yes T rest h r hm i hi

theorem matchesExact_yes {T : Table} {rels : List RelID} (h : T.matchesExact rels = .yes) :
    T.relIDs.length ≤ rels.length ∧
    ∀ (r : RelID), r ∈ rels → ∀ (i : Nat), T.colIdx r.comp = some i →
      T.isRel.getD i false = true ∧ T.targets.getD i Ent.zero = r.target := by
  unfold matchesExact at h
  split at h
  · cases h
  · rename_i hl
    exact ⟨by omega, matchesExact_go_yes T rels h⟩

theorem matchesExact_go_total (T : Table) : ∀ (rels : List RelID),
    (∀ (r : RelID), r ∈ rels → ∀ (i : Nat), T.colIdx r.comp = some i → T.isRel.getD i false = true) →
    matchesExact.go T rels = .yes ∨ matchesExact.go T rels = .no
  | [], _ => Or.inl rfl
  | x :: rest, h => by
    simp only [matchesExact.go]
    have ih := matchesExact_go_total T rest (fun r hr => h r (List.mem_cons_of_mem _ hr))
    cases hx : T.colIdx x.comp with
    | none => exact ih
    | some j =>
      simp only
      rw [h x List.mem_cons_self j hx]
      simp only [Bool.not_true, Bool.false_eq_true, if_false]
      split
      · exact Or.inr rfl
      · exact ih

theorem matchesExact_total {T : Table} {rels : List RelID} (hlen : T.relIDs.length ≤ rels.length)
    (h : ∀ (r : RelID), r ∈ rels → ∀ (i : Nat), T.colIdx r.comp = some i →
      T.isRel.getD i false = true) :
    T.matchesExact rels = .yes ∨ T.matchesExact rels = .no := by
  unfold matchesExact
  rw [if_neg (by omega)]
  exact matchesExact_go_total T rels h

end Table

def RelListsOK (w : World) : Prop :=
  ∀ (t : Nat) (T : Table), w.tables[t]? = some T → T.isFree = false → T.RelsExact


/-- `relationArchetypes` is the list `cleanupArchetypes` walks -/
def RelArchsOK (w : World) : Prop :=
  ∀ (a : Nat) (A : Archetype), w.archetypes[a]? = some A → A.hasRelations = true →
    a ∈ w.relationArchetypes

def Table.targetAt (T : Table) (c : Comp) : Option Ent :=
  (T.colIdx c).bind fun k => if T.isRel.getD k false then some (T.targets.getD k Ent.zero) else none

theorem Table.targetAt_of_col {T : Table} {c : Comp} {i : Nat} (hc : T.colIdx c = some i)
    (hr : T.isRel.getD i false = true) : T.targetAt c = some (T.targets.getD i Ent.zero) := by
  simp only [targetAt, hc, Option.bind_some, hr, if_true]

/-- the target of relation component `c` of the entity with ID `i`, read through the entity index
    like `valOf` / `compsOf` of `Ark/Props/C01World.lean` -/
def targetOf (w : World) (i : Nat) (c : Comp) : Option Ent :=
  match w.entities[i]? with
  | some (t, _) => if t = maxU32 then none else (w.tables[t]?).bind fun T => T.targetAt c
  | none => none

/-! ## 2. what `SInvMid` says about the columns of a table -/

namespace SInvMid

theorem ids_nodup {w : World} (h : SInvMid w) {t : Nat} {T : Table} (hT : w.tables[t]? = some T) :
    T.ids.Nodup := by
  obtain ⟨A, hA, e1, _⟩ := h.tblArch t T hT
  rw [e1, (h.comps _ A hA).1]; exact Mask.toList_nodup _ _

theorem isRel_len {w : World} (h : SInvMid w) {t : Nat} {T : Table} (hT : w.tables[t]? = some T) :
    T.isRel.length = T.ids.length := by
  obtain ⟨A, hA, e1, e2, _⟩ := h.tblArch t T hT
  rw [e1, e2]; exact (h.comps _ A hA).2.1

theorem numRel_eq {w : World} (h : SInvMid w) {t : Nat} {T : Table} (hT : w.tables[t]? = some T) :
    (w.arch T.arch).numRel = (T.isRel.filter fun b => b).length := by
  obtain ⟨A, hA, _, e2, _⟩ := h.tblArch t T hT
  rw [arch_of_get hA, e2]; exact (h.astruct _ A hA).numRelEq

theorem isRel_col {w : World} (h : SInvMid w) {t : Nat} {T : Table}
    (hT : w.tables[t]? = some T) {i : Nat} {c : Comp} (hc : T.ids[i]? = some c) :
    T.isRel.getD i false = w.isRelComp c := by
  obtain ⟨A, hA, e1, e2, _⟩ := h.tblArch t T hT
  rw [e1] at hc
  rw [e2, World.isRelComp, (h.kindsOf _ A i c hA hc).1]

theorem isRelComp_of_col {w : World} (h : SInvMid w) {t : Nat} {T : Table}
    (hT : w.tables[t]? = some T) {i : Nat} {c : Comp} (hc : T.ids[i]? = some c)
    (hr : T.isRel.getD i false = true) : w.isRelComp c = true := by
  rw [← h.isRel_col hT hc]; exact hr

theorem tblMask_reg {w : World} (h : SInvMid w) {t : Nat} {T : Table}
    (hT : w.tables[t]? = some T) (c : Nat) (hc : (w.arch T.arch).mask.get c = true) :
    c < w.kinds.length := by
  obtain ⟨A, hA, _⟩ := h.tblArch t T hT
  rw [arch_of_get hA] at hc
  exact h.maskReg _ A hA c hc

theorem relIDs_mask {w : World} (h : SInvMid w) {t : Nat} {T : Table}
    (hT : w.tables[t]? = some T) (r : RelID) (hr : r ∈ T.relIDs) :
    (w.arch T.arch).mask.get r.comp = true := by
  obtain ⟨A, hA, i1, _⟩ := h.tblArch t T hT
  obtain ⟨i, hi, _⟩ := h.relCols t T hT r hr
  rw [arch_of_get hA]
  exact (h.mem_comps hA r.comp).1 (by rw [← i1]; exact List.mem_of_getElem? hi)

theorem mem_ids_iff {w : World} (h : SInvMid w) {t : Nat} (ht : t < w.tables.length)
    (c : Comp) : c ∈ (w.tbl t).ids ↔ (w.arch (w.tbl t).arch).mask.get c = true := by
  obtain ⟨A, hA, i1, _⟩ := h.tblArch t _ (get_of_lt ht)
  rw [i1, arch_of_get hA]
  exact h.mem_comps hA c

theorem relID_of_mask {w : World} (h : SInvMid w) {t : Nat} (ht : t < w.tables.length)
    (hex : (w.tbl t).RelsExact) {c : Comp} (hc : (w.arch (w.tbl t).arch).mask.get c = true)
    (hrel : w.isRelComp c = true) :
    ∃ (i : Nat), (w.tbl t).colIdx c = some i ∧ (w.tbl t).isRel.getD i false = true ∧
      (⟨c, (w.tbl t).targets.getD i Ent.zero⟩ : RelID) ∈ (w.tbl t).relIDs := by
  obtain ⟨i, hi⟩ := colIdx_some_iff_mem.mpr ((h.mem_ids_iff ht c).2 hc)
  have hir : (w.tbl t).isRel.getD i false = true := by
    rw [h.isRel_col (get_of_lt ht) (Table.colIdx_get hi)]; exact hrel
  exact ⟨i, hi, hir, hex.complete i c (Table.colIdx_get hi) hir⟩

theorem hasRelations_of_col {w : World} (h : SInvMid w) {t : Nat} {T : Table}
    (hT : w.tables[t]? = some T) {i : Nat} (hr : T.isRel.getD i false = true) :
    (w.arch T.arch).hasRelations = true := by
  obtain ⟨A, hA, _, e2, _⟩ := h.tblArch t T hT
  rw [arch_of_get hA]
  exact (h.astruct _ A hA).hasRelations_of_rel (by rw [← e2]; exact hr)

end SInvMid

/-- the mask of a live entity lists its components -/
theorem PLink.mask_iff_comps {w : World} {fl : List Nat} (L : PLink w fl) (hS : SInvMid w) {e : Ent}
    (h2 : 2 ≤ e.id) (hnf : e.id ∉ fl) (ha : w.alive e = true) (hsl : e.id < w.pool.ents.length)
    {cs : List Comp} (hcs : compsOf w e.id = some cs) (c : Comp) :
    (w.maskOf e).get c = true ↔ c ∈ cs := by
  obtain ⟨t, row, he, htm, _⟩ := L.live_entry h2 hnf ha hsl
  obtain ⟨hT, _, _⟩ := L.idx.indexed he htm
  rw [compsOf_of_entry he htm hT] at hcs
  rw [maskOf_eq (index_of_get he), ← Option.some.inj hcs]
  exact (hS.mem_ids_iff (lt_of_get hT) c).symm

/-- … so it is determined by the component list: equal lists in two worlds, equal masks -/
theorem PLink.maskOf_get_congr {w w' : World} {fl fl' : List Nat} (L : PLink w fl) (hS : SInvMid w)
    (L' : PLink w' fl') (hS' : SInvMid w') {e : Ent} (h2 : 2 ≤ e.id) (hnf : e.id ∉ fl)
    (ha : w.alive e = true) (hsl : e.id < w.pool.ents.length) (hnf' : e.id ∉ fl')
    (ha' : w'.alive e = true) (hsl' : e.id < w'.pool.ents.length)
    (hc : compsOf w' e.id = compsOf w e.id) (c : Comp) :
    (w'.maskOf e).get c = (w.maskOf e).get c := by
  obtain ⟨t, row, he, htm, _⟩ := L.live_entry h2 hnf ha hsl
  have hcs := compsOf_of_entry he htm (L.idx.indexed he htm).1
  exact Bool.eq_iff_iff.mpr ((L'.mask_iff_comps hS' h2 hnf' ha' hsl' (hc.trans hcs) c).trans
    (L.mask_iff_comps hS h2 hnf ha hsl hcs c).symm)

end Ark
