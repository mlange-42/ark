/-
  Ark.Proofs.RelTotal — totality ("never fails for a valid call") of `NewEntity(ids…, rels…)`,
  `Add(e, ids…, rels…)` and `SetRelations` in worlds with relations, with the same result through
  every access path.  The work is in the table lookup (`RelInv.lookup_total`): a relation list that
  names each relation component of the new mask once, with valid targets, passes every check of
  `getTable` and `createTable`.
-/
import Ark.Proofs.TargetsSetRel

set_option autoImplicit false

namespace Ark

open World Ark.Props.C01World

/-- the pre-validation of any path passes relations with zero or alive targets on relation
    components among `ids` (inside the mask width) -/
theorem World.preCheck_ok_of_mem (p : Path) {ids : List Comp} {rels : List RelID} {w : World}
    (hval : ∀ (r : RelID), r ∈ rels → r.target.isZero = true ∨ w.alive r.target = true)
    (hrc : ∀ (r : RelID), r ∈ rels → w.isRelComp r.comp = true)
    (hin : ∀ (r : RelID), r ∈ rels → r.comp ∈ ids) (hlt : ∀ (r : RelID), r ∈ rels → r.comp < 256) :
    preCheck p ids rels w = .ok () w :=
  preCheck_ok_of_valid p ids w rels fun r hr => ⟨hval r hr, hrc r hr, by
    rw [Mask.get_ofList]; simp [hlt r hr, hin r hr]⟩

theorem Archetype.colIdx_isSome_of_mem_comps {A : Archetype} {c : Comp} (h : c ∈ A.comps) :
    (A.colIdx c).isSome = true := by
  unfold Archetype.colIdx
  simp only
  rw [if_pos (List.idxOf_lt_length_of_mem h)]; rfl

theorem RelInv.lookup_total {w : World} (hR : RelInv w) {mask : Mask}
    (hmreg : ∀ (c : Nat), mask.get c = true → c < w.kinds.length) {L : List RelID}
    (hcolsM : ∀ (r : RelID), r ∈ L → mask.get r.comp = true)
    (hnamedM : ∀ (c : Comp), mask.get c = true → w.isRelComp c = true → c ∈ L.map (·.comp))
    (hndL : (L.map (·.comp)).Nodup) (hvalid0 : RelsValid w L) :
    ∃ (t a : Nat) (w' : World), tableFor mask L w = .ok (t, a) w' := by
  -- `findOrCreateArch` cannot fail; the rest concerns its archetype `a` in `w1`, where the hypotheses on
  -- `mask` and `L` read: `L` names columns of `a` (`hcols`), validly (`hvalid`), and every relation
  -- column of `a` is named (`hnamed`)
  obtain ⟨a, w1, ha, hmid, _, halt, hmask1, _, _, ht, hk, _, hp, _, _⟩ :=
    hR.sinv.findOrCreateArch mask hmreg
  have aux1 : RelAux w1 := hR.aux.findOrCreateArch ha
  have rinv1 : RInv w1 := hR.rinv.findOrCreateArch ha
  have hal1 : ∀ (x : Ent), w1.alive x = w.alive x := fun x => by simp only [World.alive, hp]
  have hrc1 : ∀ (c : Comp), w1.isRelComp c = w.isRelComp c := fun c => by
    simp only [World.isRelComp, hk]
  have hA1 := aget_of_lt halt
  have hcomps1 := (hmid.comps a _ hA1).1
  have hmemA : ∀ (c : Comp), c ∈ (w1.arch a).comps ↔ mask.get c = true := by
    intro c; rw [hmid.mem_comps hA1 c, hmask1]
  have hcols : ∀ (r : RelID), r ∈ L → r.comp ∈ (w1.arch a).comps :=
    fun r hr => (hmemA r.comp).2 (hcolsM r hr)
  have hvalid : RelsValid w1 L := by
    intro r hr; rw [hrc1, hal1]; exact hvalid0 r hr
  have hnamed : ∀ (c : Comp), c ∈ relComps (w1.arch a).comps (w1.arch a).isRel →
      c ∈ L.map (·.comp) := by
    intro c hc
    obtain ⟨i, hi, hir⟩ := mem_relComps.1 hc
    have hrel : w.isRelComp c = true := by
      rw [← hrc1, World.isRelComp, ← (hmid.kindsOf a _ i c hA1 hi).1]; exact hir
    exact hnamedM c ((hmemA c).1 (List.mem_of_getElem? hi)) hrel
  -- the count check of `getTable` / `createTable`: the relation columns of `a` are distinct and each
  -- is named in `L` (`hnamed`), so there are at most `L.length` (cf. `RelsExact.of_created`)
  have hnum : (w1.arch a).numRel ≤ L.length := by
    rw [(hmid.astruct a _ hA1).numRelEq, ← relComps_length (hmid.astruct a _ hA1).lenIsRel,
      ← List.length_map (f := (·.comp)) (as := L)]
    apply List.Nodup.length_le_of_subset
      (relComps_nodup (by rw [hcomps1]; exact Mask.toList_nodup _ _) _)
    intro c hc
    exact hnamed c hc
  -- `getTable` does not panic: the tables it runs `matchesExact` on are active tables of `a`
  -- (`RInv`), with exact relation lists and the columns of `a`: never `tooFew` / `notRelation`
  have hget : ∃ (r : Option Nat), getTable a L w1 = .ok r w1 := by
    cases hrel : (w1.arch a).hasRelations with
    | false => exact ⟨_, getTable_noRel _ hrel⟩
    | true =>
      cases hall' : L with
      | nil =>
        -- an archetype with relations has `numRel > 0`: by the count `L` is not empty
        rw [hall'] at hnum
        simp [Archetype.hasRelations] at hrel
        simp at hnum
        omega
      | cons r0 rest =>
        rw [hall'] at hnum
        have hr0 : r0 ∈ L := by rw [hall']; exact List.mem_cons_self
        obtain ⟨ic, hic⟩ :=
          Option.isSome_iff_exists.1 (Archetype.colIdx_isSome_of_mem_comps (hcols r0 hr0))
        apply getTable_rel_total hrel hnum hic (by rw [← hall']; exact hndL)
        intro ts hf t htm
        have hic' : (w1.arch a).comps[ic]? = some r0.comp := Archetype.colIdx_get hic
        have hicr : (w1.arch a).isRel.getD ic false = true := by
          rw [(hmid.kindsOf a _ ic r0.comp hA1 hic').1, ← World.isRelComp]
          exact (hvalid r0 hr0).1
        have hact := ((rinv1 a _ hA1).listed hicr hf htm).1
        obtain ⟨Tt, hTt, hTta⟩ := hmid.owned a _ t hA1 (Or.inl hact)
        obtain ⟨A', hA', k1, k2, _, _⟩ := hmid.tblArch t Tt hTt
        rw [hTta, hA1] at hA'
        obtain rfl := Option.some.inj hA'
        have hfree := (hmid.member t Tt hTt).1
        rw [hTta] at hfree
        rw [tbl_of_get hTt]
        apply Table.matchesExact_total
        · have := (aux1.rels t Tt hTt (hfree.2 hact)).length_le (hmid.isRel_len hTt)
          rw [k2, ← (hmid.astruct a _ hA1).numRelEq] at this
          omega
        · intro r hr j hj
          rw [← hall'] at hr
          have hj' := Table.colIdx_get hj
          rw [k1] at hj'
          rw [k2, (hmid.kindsOf a _ j r.comp hA1 hj').1, ← World.isRelComp]
          exact (hvalid r hr).1
  -- found or not, `tableFor` succeeds: `createTable`'s checks on `L` fall to the same facts
  obtain ⟨res, hres⟩ := hget
  cases res with
  | some t => exact ⟨t, a, w1, tableFor_ok_iff.2 ⟨w1, ha, getOrCreate_ok_iff.2 (Or.inl ⟨hres, rfl⟩)⟩⟩
  | none =>
    obtain ⟨t, w', hct, _⟩ := hmid.createTable_total aux1.cacheRels halt (getTable_none_noRel hres)
      hnum (fun r hr => Archetype.colIdx_isSome_of_mem_comps (hcols r hr)) hndL hvalid
    exact ⟨t, a, w', tableFor_ok_iff.2 ⟨w1, ha, getOrCreate_ok_iff.2 (Or.inr ⟨hres, hct⟩)⟩⟩

theorem RelInv.findOrCreateTableAdd_total {w : World} (hR : RelInv w)
    (hk256 : w.kinds.length ≤ 256) {oldT : Nat} {startMask : Mask} {add : List Comp}
    {rels : List RelID}
    (hreg : ∀ (c : Comp), c ∈ add → c < w.kinds.length)
    (hold : oldT < w.tables.length) (hofree : (w.tbl oldT).isFree = false)
    (homask : (w.arch (w.tbl oldT).arch).mask = startMask)
    (hnd : add.Nodup) (hnew : ∀ (c : Comp), c ∈ add → startMask.get c = false)
    (hrnd : (rels.map (·.comp)).Nodup) (hin : ∀ (r : RelID), r ∈ rels → r.comp ∈ add)
    (hrc : ∀ (r : RelID), r ∈ rels → w.isRelComp r.comp = true)
    (hall : ∀ (c : Comp), c ∈ add → w.isRelComp c = true → c ∈ rels.map (·.comp))
    (hval : ∀ (r : RelID), r ∈ rels → r.target.isZero = true ∨ w.alive r.target = true) :
    ∃ (t a : Nat) (w' : World),
      World.findOrCreateTableAdd oldT startMask add rels w =
        .ok (t, a, add.foldl Mask.set startMask) w' := by
  have hS := hR.sinv.toSInvMid
  have hOT := get_of_lt hold
  have hstart : ∀ (c : Nat), startMask.get c = true → c < w.kinds.length :=
    fun c hc => hS.tblMask_reg hOT c (homask ▸ hc)
  have hOex := hR.aux.rels oldT _ hOT hofree
  have hg := graphFindAdd_ok startMask add w hnew hnd
  have hmaskGet : ∀ (c : Comp), (add.foldl Mask.set startMask).get c = true ↔
      (startMask.get c = true ∨ c ∈ add) := by
    intro c
    rw [Mask.get_ofList_foldl]
    constructor
    · intro hh
      cases hs : startMask.get c with
      | true => exact Or.inl rfl
      | false =>
        rw [hs] at hh
        simp only [Bool.false_or, Bool.and_eq_true, decide_eq_true_eq] at hh
        exact Or.inr hh.2
    · rintro (hh | hh)
      · rw [hh]; rfl
      · have : c < 256 := Nat.lt_of_lt_of_le (hreg c hh) hk256
        simp [this, hh]
  have holdCol : ∀ (r : RelID), r ∈ (w.tbl oldT).relIDs → startMask.get r.comp = true :=
    fun r hr => homask ▸ hS.relIDs_mask hOT r hr
  obtain ⟨t, a, w', hlook⟩ := hR.lookup_total (mask := add.foldl Mask.set startMask)
    (Mask.get_foldl_set_reg hstart hreg) (L := (w.tbl oldT).relIDs ++ rels)
    (by
      intro r hr
      rcases List.mem_append.1 hr with k | k
      · exact (hmaskGet r.comp).2 (Or.inl (holdCol r k))
      · exact (hmaskGet r.comp).2 (Or.inr (hin r k)))
    (by
      intro c hc hrel
      rw [List.map_append, List.mem_append]
      rcases (hmaskGet c).1 hc with k | k
      · left
        obtain ⟨j, _, _, hmem⟩ := hS.relID_of_mask hold hOex (homask ▸ k) hrel
        exact List.mem_map.2 ⟨_, hmem, rfl⟩
      · exact Or.inr (hall c k hrel))
    (by
      rw [List.map_append, List.nodup_append]
      refine ⟨hOex.nodup, hrnd, ?_⟩
      intro c hc1 c' hc2 heq
      obtain ⟨r1, hr1, rfl⟩ := List.mem_map.1 hc1
      obtain ⟨r2, hr2, rfl⟩ := List.mem_map.1 hc2
      have h1 := holdCol r1 hr1
      have h2 := hnew r2.comp (hin r2 hr2)
      rw [← heq, h1] at h2; cases h2)
    (by
      intro r hr
      rcases List.mem_append.1 hr with k | k
      · obtain ⟨i, h1, h2, h3⟩ := hOex.sound r k
        refine ⟨hS.isRelComp_of_col hOT h1 h2, ?_⟩
        rw [← h3]; exact hR.aux.targets oldT _ hOT hofree i h2
      · exact ⟨hrc r k, hval r k⟩)
  exact ⟨t, a, w', findOrCreateTableAdd_of_tableFor hg (by rw [relsForAdd_eq]; exact hlook)⟩

theorem opNewEntity_rel_ok (run : ProbeRunner) {w : World} {fl : List Nat}
    (h : TInv w fl) (hl : w.isLocked = false) (hno : ∀ (evt : Nat), w.obs.hasObservers evt = false)
    {ids : List Comp} {vals : List (Comp × Val)} {rels : List RelID}
    (hnd : ids.Nodup) (hreg : ∀ (c : Comp), c ∈ ids → c < w.kinds.length)
    (hrnd : (rels.map (·.comp)).Nodup) (hin : ∀ (r : RelID), r ∈ rels → r.comp ∈ ids)
    (hrc : ∀ (r : RelID), r ∈ rels → w.isRelComp r.comp = true)
    (hall : ∀ (c : Comp), c ∈ ids → w.isRelComp c = true → c ∈ rels.map (·.comp))
    (hval : ∀ (r : RelID), r ∈ rels → r.target.isZero = true ∨ w.alive r.target = true) :
    ∃ (e : Ent) (w' : World), ∀ (p : Path), opNewEntity run p ids vals rels w = .ok e w' := by
  have hk256 : w.kinds.length ≤ 256 := Nat.le_trans h.kindsLe.1 h.kindsLe.2
  have hpre : ∀ (p : Path), preCheck p ids rels w = .ok () w := fun p =>
    preCheck_ok_of_mem p hval hrc hin fun r hr => Nat.lt_of_lt_of_le (hreg r.comp (hin r hr)) hk256
  have hS := h.rel.sinv
  obtain ⟨t, a, w1, hf⟩ := h.rel.findOrCreateTableAdd_total hk256 (oldT := 0)
    (startMask := Mask.empty) hreg hS.root.1 hS.toSInvMid.root_notFree
    (by rw [hS.root.2.1]; exact hS.root.2.2) hnd (fun c _ => by simp) hrnd hin hrc hall hval
  have hu := findOrCreateTableAdd_untouched hf
  have hno1 : ∀ (evt : Nat), w1.obs.hasObservers evt = false := by
    intro evt; rw [hu.obs]; exact hno evt
  exact ⟨_, _, fun p => opNewEntity_rel_eq run p ids vals rels w hl (hpre p) hf hno1⟩

theorem opAdd_rel_ok (run : ProbeRunner) {w : World} {fl : List Nat} (h : TInv w fl)
    (hl : w.isLocked = false) (hno : ∀ (evt : Nat), w.obs.hasObservers evt = false) {e : Ent}
    (h2 : 2 ≤ e.id) (hnf : e.id ∉ fl) (ha : w.alive e = true)
    (hsl : e.id < w.pool.ents.length) {ids : List Comp}
    {vals : List (Comp × Val)} {rels : List RelID}
    (hne : ids ≠ []) (hnd : ids.Nodup) (hreg : ∀ (c : Comp), c ∈ ids → c < w.kinds.length)
    (hnew : ∀ (c : Comp), c ∈ ids → (w.maskOf e).get c = false)
    (hrnd : (rels.map (·.comp)).Nodup) (hin : ∀ (r : RelID), r ∈ rels → r.comp ∈ ids)
    (hrc : ∀ (r : RelID), r ∈ rels → w.isRelComp r.comp = true)
    (hall : ∀ (c : Comp), c ∈ ids → w.isRelComp c = true → c ∈ rels.map (·.comp))
    (hval : ∀ (r : RelID), r ∈ rels → r.target.isZero = true ∨ w.alive r.target = true) :
    ∃ (w' : World), ∀ (p : Path), opAdd run p e ids vals rels w = .ok () w' := by
  have hk256 : w.kinds.length ≤ 256 := Nat.le_trans h.kindsLe.1 h.kindsLe.2
  have hpre : ∀ (p : Path), preCheck (p.addCheck ids) ids rels w = .ok () w := fun p =>
    preCheck_ok_of_mem _ hval hrc hin fun r hr => Nat.lt_of_lt_of_le (hreg r.comp (hin r hr)) hk256
  obtain ⟨oldT, row, he, htm, hT, _, hTf⟩ := h.live_table h2 hnf ha hsl
  have hix := index_of_get he
  have hlt := lt_of_get hT
  have hemp : ids.isEmpty = false := List.isEmpty_eq_false_iff.mpr hne
  have hm := maskOf_eq hix
  obtain ⟨t, a, w1, hf⟩ := h.rel.findOrCreateTableAdd_total hk256 (oldT := oldT)
    (startMask := (w.arch (w.tbl oldT).arch).mask) hreg hlt hTf rfl hnd
    (fun c hc => by rw [← hm]; exact hnew c hc) hrnd hin hrc hall hval
  have hu := findOrCreateTableAdd_untouched hf
  have hcore := addCore_rel_eq e ids rels w hl ha hemp hix hf
  have hno3 : ∀ (evt : Nat), (registerW (addMove w1 e oldT row t
      (ids.foldl Mask.set (w.arch (w.tbl oldT).arch).mask)) rels).obs.hasObservers evt = false := by
    intro evt
    show (addMove w1 e oldT row t _).obs.hasObservers evt = false
    rw [(addMove_fields w1 e oldT row t _).2.2.2.obs, hu.obs]; exact hno evt
  exact ⟨_, fun p => opAdd_rel_eq run p e ids vals rels w ha (hpre p) hcore hno3⟩

/-- `mapperIds` is taken to be exactly the components named, so that the membership check of the
    typed path passes. -/
theorem opSetRelations_total (run : ProbeRunner) (p : Path) {w : World} {fl : List Nat}
    (h : TInv w fl) (hl : w.isLocked = false) (hno : ∀ (evt : Nat), w.obs.hasObservers evt = false)
    {e : Ent} (h2 : 2 ≤ e.id) (hnf : e.id ∉ fl) (ha : w.alive e = true)
    (hsl : e.id < w.pool.ents.length) {rels : List RelID}
    (hne : rels.isEmpty = false) (hnd : (rels.map (·.comp)).Nodup)
    (hhas : ∀ (r : RelID), r ∈ rels → (targetOf w e.id r.comp).isSome = true)
    (hval : ∀ (r : RelID), r ∈ rels → r.target.isZero = true ∨ w.alive r.target = true)
    (hreg : ∀ (r : RelID), r ∈ rels → w.isRelComp r.comp = true ∧ r.comp < 256) :
    ∃ (w' : World), opSetRelations run p e (rels.map (·.comp)) rels w = .ok () w' := by
  have hpre : preCheck p.setRelCheck (rels.map (·.comp)) rels w = .ok () w :=
    preCheck_ok_of_mem _ hval (fun r hr => (hreg r hr).1)
      (fun r hr => List.mem_map.mpr ⟨r, hr, rfl⟩) fun r hr => (hreg r hr).2
  obtain ⟨w', hok⟩ := setRelationsCore_total run h hl hno h2 hnf ha hsl hne hnd hhas hval
  exact ⟨w', by simp only [opSetRelations, bind, M.bind, hpre, hok]⟩

theorem opSetRelations_path_indep (run : ProbeRunner) (p q : Path) (e : Ent) {w : World}
    {rels : List RelID}
    (hval : ∀ (r : RelID), r ∈ rels → r.target.isZero = true ∨ w.alive r.target = true)
    (hreg : ∀ (r : RelID), r ∈ rels → w.isRelComp r.comp = true ∧ r.comp < 256) :
    opSetRelations run p e (rels.map (·.comp)) rels w =
      opSetRelations run q e (rels.map (·.comp)) rels w := by
  have hpre : ∀ (p' : Path), preCheck p'.setRelCheck (rels.map (·.comp)) rels w = .ok () w :=
    fun p' => preCheck_ok_of_mem _ hval (fun r hr => (hreg r hr).1)
      (fun r hr => List.mem_map.mpr ⟨r, hr, rfl⟩) fun r hr => (hreg r hr).2
  simp only [opSetRelations, bind, M.bind, hpre p, hpre q]

end Ark
