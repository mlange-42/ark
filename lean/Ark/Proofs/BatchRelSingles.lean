/-
  C06 + C04 with relations: `RemoveEntities(batch, nil)` against `RemoveEntity` applied to every
  selected entity, where some of the removed entities are relation targets: both satisfy
  `RemovedAllRelPost`, two worlds obtained by removing the same set are observationally equal; and the
  batch removal along chains of `QGood` steps.
-/
import Ark.Proofs.BatchRelRemove
import Ark.Proofs.RelSpecs

section

/-! ## §1 batch against singles

C06 + C04 with relations: `RemoveEntities(batch, nil)` against
  `RemoveEntity` applied to every selected entity, in a world WITH relations where some of the
  removed entities are relation targets: both satisfy `RemovedAllRelPost`, and two worlds
  obtained by removing the same set of entities are observationally equal.
-/

set_option autoImplicit false

namespace Ark

open World Ark.Props.C01World QueryRel

/-! ### the single removals -/

theorem map_zeroIn_cons (e : Ent) (l : List Ent) (o : Option Ent) :
    (zeroed e o).map (zeroIn l) = o.map (zeroIn (e :: l)) := by
  cases o with
  | none => simp [zeroed]
  | some x =>
    rw [Option.map_some, ← zeroIn_cons e l x]
    unfold zeroed
    by_cases h : x = e
    · rw [if_pos (congrArg some h), if_pos h]; rfl
    · rw [if_neg fun hh => h (Option.some.inj hh), if_neg h]; rfl

/-- **the singles**: `RemoveEntity` applied, in any order, to alive handles with distinct IDs, in
    a world with relations (targets among them or not) -/
theorem removeSeq_rel_post (run : ProbeRunner) : ∀ (l : List Ent) {w : World} {fl : List Nat},
    TInv w fl → RowsAlive w → w.isLocked = false →
    (∀ (evt : Nat), w.obs.hasObservers evt = false) →
    (∀ (e : Ent), e ∈ l → 2 ≤ e.id ∧ e.id ∉ fl ∧ w.alive e = true) →
    (∀ (e : Ent), e ∈ l → e.id < w.pool.ents.length) →
    (l.map (·.id)).Nodup →
    w.tables.length + l.length * w.relationArchetypes.length + 1 ≤ maxU32 →
    2 * w.entities.length < 2 ^ 32 →
    ∃ (w'' : World), removeSeq run l w = .ok () w'' ∧ RemovedAllRelPost w fl l w''
  | [], w, fl, h, _, _, _, _, _, _, _, _ =>
    ⟨w, rfl,
      { tinv := by simpa using h
        pool := rfl
        removedAlive := by intro e he; cases he
        aliveFrame := fun _ _ => rfl
        frame := fun j _ => ⟨⟨fun _ => rfl, rfl⟩, fun c => by
          cases targetOf w j c with
          | none => rfl
          | some x => simp [zeroIn]⟩
        unindexed := by intro e he; cases he
        obs := rfl, locks := rfl, kinds := rfl, maxComps := rfl, relationArchetypes := rfl
        entitiesLen := rfl
        tablesLen := by simp
        qk := QKeep.refl w }⟩
  | e :: l, w, fl, h, hR, hl, hno, hlive, hlin, hnd, hfew, hrows => by
    obtain ⟨h2, hnf, ha⟩ := hlive e List.mem_cons_self
    have hsl := hlin e List.mem_cons_self
    have hnd' : e.id ∉ l.map (·.id) ∧ (l.map (·.id)).Nodup := by
      rw [List.map_cons] at hnd; exact List.nodup_cons.mp hnd
    have hfew1 : w.tables.length + w.relationArchetypes.length + 1 ≤ maxU32 := by
      simp only [List.length_cons, Nat.add_mul, Nat.one_mul] at hfew; omega
    -- the head alone: `rp`/`more` are the single removal's postcondition (free list `e.id :: fl`),
    -- `q1` what the same run keeps for queries
    obtain ⟨w1, hok, rp, more⟩ := opRemoveEntity_rel_full run h hl hno h2 hnf ha hsl hfew1 hrows
    obtain ⟨_, hok', q1, _⟩ := opRemoveEntity_qkeep run h hl hno h2 hnf ha hsl hfew1 hrows
    cases hok.symm.trans hok'
    -- what the tail needs in `w1`: the other handles differ from `e` in ID, so they are still alive and
    -- off the longer free list; one removal has used at most one step's worth of the table budget
    obtain ⟨t0, r0, he, ht, hs⟩ := h.link.live_entry h2 hnf ha hsl
    have hin : e.id < w.pool.ents.length := (List.getElem?_eq_some_iff.mp hs).1
    have hne : ∀ (e' : Ent), e' ∈ l → e'.id ≠ e.id := by
      intro e' he' heq
      exact hnd'.1 (heq ▸ List.mem_map_of_mem he')
    have hlive1 : ∀ (e' : Ent), e' ∈ l → 2 ≤ e'.id ∧ e'.id ∉ e.id :: fl ∧ w1.alive e' = true := by
      intro e' he'
      obtain ⟨a, b, c⟩ := hlive e' (List.mem_cons_of_mem _ he')
      refine ⟨a, ?_, by rw [rp.aliveFrame e' (hne e' he')]; exact c⟩
      intro hm
      rcases List.mem_cons.mp hm with hm | hm
      · exact hne e' he' hm
      · exact b hm
    have hfew2 : w1.tables.length + l.length * w1.relationArchetypes.length + 1 ≤ maxU32 := by
      have := rp.tablesLen
      rw [more.relArchs]
      simp only [List.length_cons, Nat.add_mul, Nat.one_mul] at hfew
      omega
    obtain ⟨w'', hrest, ip⟩ := removeSeq_rel_post run l rp.tinv (q1.rows hR)
      (by show w1.locks.isLocked = false; rw [rp.locks]; exact hl)
      (fun evt => by rw [rp.obs]; exact hno evt) hlive1
      (fun e' he' => by
        rw [more.pool, (Pool.recycle_spec w.pool fl e h.link.pool h2 hnf hs).2.2.2.1]
        exact hlin e' (List.mem_cons_of_mem _ he')) hnd'.2 hfew2
      (by rw [rp.entitiesLen]; exact hrows)
    refine ⟨w'', ?_, ?_⟩
    · simp only [removeSeq, M.forM', bind, M.bind, hok]
      exact hrest
    -- `rp` then `ip`; the tail pushed its IDs on top of `e.id :: fl`, which is the batch's list (`hfl`)
    · have hfl : (e :: l).reverse.map (·.id) ++ fl = l.reverse.map (·.id) ++ e.id :: fl := by simp
      exact
        { tinv := by rw [hfl]; exact ip.tinv
          pool := by rw [ip.pool, more.pool]; rfl
          removedAlive := by
            intro e' he' x hx
            rcases List.mem_cons.mp he' with rfl | he'
            -- `e`'s own slot: set by its recycling, and no later removal has its ID
            · rw [ip.aliveFrame x (by rw [hx]; exact hnd'.1)]
              obtain ⟨_, rslot, _, rlen, _, _⟩ := Pool.recycle_spec w.pool fl e' h.link.pool h2 hnf hs
              show w1.pool.alive x = _
              rw [Pool.alive_of_lt x (by rw [hx, more.pool, rlen]; exact hin), more.pool, hx, rslot]
            · exact ip.removedAlive e' he' x hx
          aliveFrame := by
            intro x hx
            simp only [List.map_cons, List.mem_cons, not_or] at hx
            rw [ip.aliveFrame x hx.2, rp.aliveFrame x hx.1]
          frame := by
            intro j hj
            simp only [List.map_cons, List.mem_cons, not_or] at hj
            -- an outside ID: zeroed for `e`, then for `l`; `map_zeroIn_cons` makes it one zeroing
            refine ⟨((rp.frame j hj.1).1).trans (ip.frame j hj.2).1, fun c => ?_⟩
            rw [(ip.frame j hj.2).2 c, (rp.frame j hj.1).2 c]
            exact map_zeroIn_cons e l _
          unindexed := by
            intro e' he'
            rcases List.mem_cons.mp he' with rfl | he'
            -- `e` is outside the tail's batch, so `ip.frame` carries its unindexed state over
            · have hs' := ip.frame e'.id hnd'.1
              refine ⟨fun c => by rw [hs'.1.1 c]; exact rp.unindexed.1 c,
                by rw [hs'.1.2]; exact rp.unindexed.2.1, fun c => ?_⟩
              rw [hs'.2 c, rp.unindexed.2.2 c]; rfl
            · exact ip.unindexed e' he'
          obs := ip.obs.trans rp.obs
          locks := ip.locks.trans rp.locks
          kinds := ip.kinds.trans rp.kinds
          maxComps := ip.maxComps.trans more.maxComps
          relationArchetypes := ip.relationArchetypes.trans more.relArchs
          entitiesLen := ip.entitiesLen.trans rp.entitiesLen
          tablesLen := by
            have h1 := ip.tablesLen
            have h2' := rp.tablesLen
            rw [more.relArchs] at h1
            simp only [List.length_cons, Nat.add_mul, Nat.one_mul]
            omega
          qk := q1.trans ip.qk }

/-! ### removing the same set of entities gives observationally equal worlds -/

/-- two worlds obtained from `w` by removing the same entities (in whatever order, by the batch
    or one by one) are observationally equal: same liveness of every handle, same components,
    values and relation targets of every ID; the rest of the observable state is that of `w` -/
theorem RemovedAllRelPost.obs_eq {w w' w'' : World} {fl : List Nat} {es es' : List Ent}
    (p' : RemovedAllRelPost w fl es w') (p'' : RemovedAllRelPost w fl es' w'')
    (hmem : ∀ (e : Ent), e ∈ es ↔ e ∈ es') :
    (∀ (x : Ent), w'.alive x = w''.alive x) ∧
    (∀ (i : Nat) (c : Comp), valOf w' i c = valOf w'' i c) ∧
    (∀ (i : Nat), compsOf w' i = compsOf w'' i) ∧
    (∀ (i : Nat) (c : Comp), targetOf w' i c = targetOf w'' i c) ∧
    w'.isLocked = w''.isLocked ∧ w'.kinds = w''.kinds := by
  have hids := mem_ids_congr hmem
  refine ⟨?_, ?_, ?_, ?_, ?_, by rw [p'.kinds, p''.kinds]⟩
  · intro x
    by_cases hx : x.id ∈ es.map (·.id)
    · obtain ⟨e, he, hi⟩ := List.mem_map.mp hx
      rw [p'.removedAlive e he x hi.symm, p''.removedAlive e ((hmem e).mp he) x hi.symm]
    · rw [p'.aliveFrame x hx, p''.aliveFrame x (fun hh => hx ((hids _).mpr hh))]
  · intro i c
    by_cases hx : i ∈ es.map (·.id)
    · obtain ⟨e, he, hi⟩ := List.mem_map.mp hx
      rw [← hi, (p'.unindexed e he).1 c, (p''.unindexed e ((hmem e).mp he)).1 c]
    · rw [(p'.frame i hx).1.1 c, (p''.frame i (fun hh => hx ((hids _).mpr hh))).1.1 c]
  · intro i
    by_cases hx : i ∈ es.map (·.id)
    · obtain ⟨e, he, hi⟩ := List.mem_map.mp hx
      rw [← hi, (p'.unindexed e he).2.1, (p''.unindexed e ((hmem e).mp he)).2.1]
    · rw [(p'.frame i hx).1.2, (p''.frame i (fun hh => hx ((hids _).mpr hh))).1.2]
  · intro i c
    by_cases hx : i ∈ es.map (·.id)
    · obtain ⟨e, he, hi⟩ := List.mem_map.mp hx
      rw [← hi, (p'.unindexed e he).2.2 c, (p''.unindexed e ((hmem e).mp he)).2.2 c]
    · rw [(p'.frame i hx).2 c, (p''.frame i (fun hh => hx ((hids _).mpr hh))).2 c]
      cases targetOf w i c with
      | none => rfl
      | some x => simp only [Option.map_some, zeroIn_congr hmem]
  · show w'.locks.isLocked = w''.locks.isLocked
    rw [p'.locks, p''.locks]

/-! ### the selection of a batch with relation constraints -/

/-- **the table selection of an uncached batch** whose relations (fixed by the filter and per
    call) are typed: `getBatchTables` succeeds without changing the world; the list has no
    duplicates, consists of existing non-free tables that match (`TblMatch`: archetype mask and
    the targets asked for) and contains every non-empty matching table -/
theorem getBatchTables_rel {w : World} {fl : List Nat} (h : TInv w fl) (fo : FilterObj)
    (extra : List RelID) (hc : fo.cache = none)
    (hr : RelsTyped w fo.filter (fo.rels ++ extra)) :
    ∃ (ts : List Nat), getBatchTables fo extra w = .ok ts w ∧ TableSet w ts ∧
      RelTablesOK w fo.filter (fo.rels ++ extra) ts ∧
      ∀ (t : Nat), t ∈ ts → (w.tbl t).isFree = false := by
  have H := tablesInv_of_rel h.rel
  have hok := relsOK_of_typed h.rel.sinv.toSInvMid hr
  obtain ⟨ts, hts, hnd, hmem⟩ := getCacheTables_spec H hok
  refine ⟨ts, ?_, ?_, ?_, fun t ht => ((selected_iff_match h.rel hr t).mp ((hmem t).mp ht)).2.1⟩
  · rw [getBatchTables_uncached fo extra w hc, hts]
  · exact ⟨hnd, fun t ht => ((selected_iff_match h.rel hr t).mp ((hmem t).mp ht)).1⟩
  · refine ⟨hnd, ?_, ?_⟩
    · intro t ht
      have := (selected_iff_match h.rel hr t).mp ((hmem t).mp ht)
      exact ⟨this.1, this.2.2⟩
    · intro t ht hl hm
      exact (hmem t).mpr ((selected_iff_match h.rel hr t).mpr ⟨ht, notFree_of_rows h.freeEmpty ht hl, hm⟩)

/-- **the selected entities are exactly the alive entities that match**: the handles stored in
    the rows of a good table list are the alive entities whose component set passes the filter's
    mask test and whose relation targets are the ones asked for -/
theorem mem_rows_iff_matches {w : World} {fl : List Nat} (h : TInv w fl) (hR : RowsAlive w)
    {f : Filter} {rels : List RelID} {ts : List Nat} (hok : RelTablesOK w f rels ts) (e : Ent) :
    e ∈ ts.flatMap (rowsOf w) ↔ w.alive e = true ∧ EntMatches w f rels e.id := by
  have hS := h.rel.sinv.toSInvMid
  have hfew := h.link.fewTables
  rw [mem_rows]
  constructor
  · rintro ⟨t, r, ht, hr, rfl⟩
    obtain ⟨hlt, hm, htg⟩ := hok.sound t ht
    obtain ⟨_, _, hx⟩ := h.link.row_live_id hlt hr
    have htm : t ≠ maxU32 := by omega
    refine ⟨hR.tbl hr, ⟨_, compsOf_of_entry hx htm (get_of_lt hlt), ?_⟩, ?_⟩
    · rw [ofList_ids hS (get_of_lt hlt)]; exact hm
    · intro rl hrl
      rw [targetOf_of_entry hx htm (get_of_lt hlt)]; exact htg rl hrl
  · rintro ⟨hal, ⟨cs, hcs, hm⟩, hall⟩
    obtain ⟨t, r, hi, htm, hlt, rfl⟩ := entry_of_compsOf hcs
    rw [ofList_ids hS (get_of_lt hlt)] at hm
    obtain ⟨_, hrow, hid⟩ := h.link.idx.indexed hi htm
    have hts : t ∈ ts := by
      refine hok.complete t hlt (by omega) ⟨hm, ?_⟩
      intro rl hrl
      rw [← targetOf_of_entry hi htm (get_of_lt hlt)]; exact hall rl hrl
    refine ⟨t, r, hts, hrow, ?_⟩
    exact h.link.alive_inj (hR.tbl hrow) hal hid

/-! ### batch = singles -/

/-- **C06 + C04, removal with relation targets among the removed**: `RemoveEntities(batch, nil)`
    on an unlocked world without observers satisfying `TInv` whose rows hold alive handles, for an
    uncached filter with typed relation constraints.  The batch selects exactly the alive
    entities that match (`mem_rows_iff_matches`); both the batch and `RemoveEntity` applied to
    these handles in the batch's order succeed and satisfy `RemovedAllRelPost`: every selected
    entity is dead and un-indexed, every other entity keeps liveness, components and values, its
    targets are unchanged except that a removed target reads as the zero entity, `TInv` holds
    with the IDs pushed on the free list in table/row order, and the two pools are EQUAL. -/
theorem opRemoveEntities_rel_eq_singles (run : ProbeRunner) {w : World} {fl : List Nat}
    (h : TInv w fl) (hR : RowsAlive w) (hl : w.isLocked = false)
    (hno : ∀ (evt : Nat), w.obs.hasObservers evt = false) (fo : FilterObj) (extra : List RelID)
    (hc : fo.cache = none) (hr : RelsTyped w fo.filter (fo.rels ++ extra))
    (hrows : 2 * w.entities.length < 2 ^ 32) :
    ∃ (ts : List Nat), getBatchTables fo extra w = .ok ts w ∧
      (∀ (e : Ent), e ∈ ts.flatMap (rowsOf w) ↔
        w.alive e = true ∧ EntMatches w fo.filter (fo.rels ++ extra) e.id) ∧
      (w.tables.length + (ts.flatMap (rowsOf w)).length * w.relationArchetypes.length + 1 ≤ maxU32 →
        ∃ (w' w'' : World), opRemoveEntities run fo extra false w = .ok () w' ∧
          removeSeq run (ts.flatMap (rowsOf w)) w = .ok () w'' ∧
          RemovedAllRelPost w fl (ts.flatMap (rowsOf w)) w' ∧
          RemovedAllRelPost w fl (ts.flatMap (rowsOf w)) w'' ∧ w'.pool = w''.pool) := by
  obtain ⟨ts, hts, S, hok, _⟩ := getBatchTables_rel h fo extra hc hr
  refine ⟨ts, hts, mem_rows_iff_matches h hR hok, ?_⟩
  intro hfew
  obtain ⟨w', hb, pb⟩ := opRemoveEntities_rel_spec run h hR hl hno fo extra hts S
    (cleanup_budget (Nat.le_refl _) hfew) hrows
  obtain ⟨w'', hs, ps⟩ := removeSeq_rel_post run (ts.flatMap (rowsOf w)) h hR hl hno
    (fun e he => let ⟨a1, a2, a3, _⟩ := h.link.rows_live hR S he; ⟨a1, a2, a3⟩)
    (fun e he => (h.link.rows_live hR S he).2.2.2.1) (rows_ids_nodup h.link.idx S) hfew hrows
  exact ⟨w', w'', hb, hs, pb, ps, by rw [pb.pool, ps.pool]⟩

/-- **order independence**: removing the selected entities one by one in ANY order gives a world
    with the same liveness, components, values and relation targets as the batch; only the
    free-list order (hence the identity of handles issued later) differs -/
theorem opRemoveEntities_rel_any_order (run : ProbeRunner) {w : World} {fl : List Nat}
    (h : TInv w fl) (hR : RowsAlive w) (hl : w.isLocked = false)
    (hno : ∀ (evt : Nat), w.obs.hasObservers evt = false) (fo : FilterObj) (extra : List RelID)
    (hc : fo.cache = none) (hr : RelsTyped w fo.filter (fo.rels ++ extra))
    (hrows : 2 * w.entities.length < 2 ^ 32) :
    ∃ (ts : List Nat), getBatchTables fo extra w = .ok ts w ∧
      ∀ (es' : List Ent), es'.Perm (ts.flatMap (rowsOf w)) →
        w.tables.length + es'.length * w.relationArchetypes.length + 1 ≤ maxU32 →
        ∃ (w' w'' : World), opRemoveEntities run fo extra false w = .ok () w' ∧
          removeSeq run es' w = .ok () w'' ∧
          RemovedAllRelPost w fl (ts.flatMap (rowsOf w)) w' ∧ RemovedAllRelPost w fl es' w'' ∧
          (∀ (x : Ent), w'.alive x = w''.alive x) ∧
          (∀ (i : Nat) (c : Comp), valOf w' i c = valOf w'' i c) ∧
          (∀ (i : Nat), compsOf w' i = compsOf w'' i) ∧
          (∀ (i : Nat) (c : Comp), targetOf w' i c = targetOf w'' i c) ∧
          w'.isLocked = w''.isLocked := by
  obtain ⟨ts, hts, S, _, _⟩ := getBatchTables_rel h fo extra hc hr
  refine ⟨ts, hts, ?_⟩
  intro es' hperm hfew
  obtain ⟨w', hb, pb⟩ := opRemoveEntities_rel_spec run h hR hl hno fo extra hts S
    (cleanup_budget (Nat.le_of_eq hperm.length_eq.symm) hfew) hrows
  obtain ⟨w'', hs, ps⟩ := removeSeq_rel_post run es' h hR hl hno
    (fun e he => let ⟨a1, a2, a3, _⟩ := h.link.rows_live hR S (hperm.mem_iff.mp he); ⟨a1, a2, a3⟩)
    (fun e he => (h.link.rows_live hR S (hperm.mem_iff.mp he)).2.2.2.1)
    ((hperm.map (·.id)).nodup_iff.mpr (rows_ids_nodup h.link.idx S)) hfew hrows
  obtain ⟨o1, o2, o3, o4, o5, _⟩ := pb.obs_eq ps (fun e => hperm.mem_iff.symm)
  exact ⟨w', w'', hb, hs, pb, ps, o1, o2, o3, o4, o5⟩

end Ark

end

section

/-! ## §2 along chains of `QGood` steps

C06 + C04 with relations: the batch removal along chains of `QGood`
  steps (`QGood` of `Ark.Proofs.QueryRelHist`: `TInv` for some free list, unlocked, no observers,
  exact component index, rows hold alive handles).
-/

set_option autoImplicit false

namespace Ark

open World Ark.Props.C01World QueryRel

theorem BatchRel.nodup_length_le_of_lt {l : List Nat} {n : Nat} (hnd : l.Nodup)
    (hlt : ∀ (i : Nat), i ∈ l → i < n) : l.length ≤ n := by
  have := List.Nodup.length_le_of_subset (l₂ := List.range n) hnd
    (fun i hi => List.mem_range.2 (hlt i hi))
  rwa [List.length_range] at this

/-- so that the table budget of a batch can be stated without knowing the selection -/
theorem rows_length_le {w : World} {fl : List Nat} (L : PLink w fl) (hR : RowsAlive w)
    {ts : List Nat} (S : TableSet w ts) : (ts.flatMap (rowsOf w)).length ≤ w.entities.length := by
  have := BatchRel.nodup_length_le_of_lt (rows_ids_nodup L.idx S) (n := w.entities.length) (by
    intro i hi
    obtain ⟨e, he, rfl⟩ := List.mem_map.mp hi
    rw [L.lenEq]; exact (L.rows_live hR S he).2.2.2.1)
  rwa [List.length_map] at this

/-- **`RemoveEntities(batch, nil)` keeps `QGood`** — also when relation targets are among the
    removed entities (uncached filter, typed relation constraints): it never panics -/
theorem QueryRel.QGood.removeEntities (run : ProbeRunner) {w : World} (q : QGood w) (fo : FilterObj)
    (extra : List RelID) (hc : fo.cache = none) (hr : RelsTyped w fo.filter (fo.rels ++ extra))
    (hfew : w.tables.length + w.entities.length * w.relationArchetypes.length + 1 ≤ maxU32)
    (hrows : 2 * w.entities.length < 2 ^ 32) :
    panicOf (opRemoveEntities run fo extra false w) = none ∧
    QGood (opRemoveEntities run fo extra false w).state ∧
    (CacheEmpty w → CacheEmpty (opRemoveEntities run fo extra false w).state) := by
  obtain ⟨fl, h, hl, hno⟩ := q.good
  obtain ⟨ts, hts, S, _, _⟩ := getBatchTables_rel h fo extra hc hr
  obtain ⟨w', hb, pb⟩ := opRemoveEntities_rel_spec run h q.rows hl hno fo extra hts S
    (cleanup_budget (rows_length_le h.link q.rows S) hfew) hrows
  rw [hb]
  refine ⟨rfl, ⟨Good.of_frame pb.tinv pb.locks pb.obs hl hno,
    pb.qk.cidx q.cidx, pb.qk.rows q.rows, by
      show ∃ (lf : List Nat), Lock.LInv ⟨w'.locks, []⟩ lf
      rw [pb.locks]; exact q.lock⟩, pb.qk.cache⟩

end Ark

end

