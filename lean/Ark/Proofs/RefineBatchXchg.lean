/-
  The batch removal and the add / remove / exchange batches as steps of the refinement machine: the
  entities the model selects (table by table, row by row) are those whose entry the filter matches in
  the specification; the fold of the single steps over the matching entries rewrites exactly these
  entries.
-/
import Ark.Proofs.RefineBatch

section

/-! ## §1 the batch removal

The batch removal `World.RemoveEntities(batch, nil)` as a step of the refinement machine: the
  entities the model selects (table by table, row by row) are those whose entry the filter matches
  in the specification; the removed IDs go on the free list in the batch order.
-/

set_option autoImplicit false

namespace Ark

open World Ark.Props.C01World

namespace RefineB

open Refine

/-- **model selection = specification selection** -/
theorem selEnts_iff_matching {s : St} {fl : List Nat} (H : HInvB s fl) (f : Filter) (e : Ent) :
    e ∈ selEnts s.w f ↔ e ∈ matching s.ss f := by
  have hC := H.hinv.cinv
  rw [mem_selEnts_iff hC H.rowsLive f e, mem_matching]
  constructor
  · rintro ⟨h2, hnf, hin, ha, hm⟩
    have hsl : s.w.pool.ents[e.id]? = some e := (hC.aliveIff e hnf hin).mp ha
    have hl : e ∈ s.ps.live := (H.hinv.ginv.live_iff e).mpr ⟨h2, hnf, hsl⟩
    obtain ⟨x, hx, rfl⟩ := List.mem_map.mp hl
    refine ⟨x.2, hx, ?_⟩
    rw [← H.hinv.maskOf_ofList (show (x.1, x.2) ∈ s.ss.ents from hx)]
    exact hm
  · rintro ⟨cs, hx, hm⟩
    obtain ⟨_, ha, h2, hnf, _, hsl⟩ := H.hinv.live_facts hx
    refine ⟨h2, hnf, (List.getElem?_eq_some_iff.mp hsl).1, ha, ?_⟩
    rw [H.hinv.maskOf_ofList hx]
    exact hm

theorem selEnts_entry {s : St} {fl : List Nat} (H : HInvB s fl) (f : Filter) {e : Ent}
    (he : e ∈ selEnts s.w f) : e ∈ s.issued ∧ ∃ cs, (e, cs) ∈ s.ss.ents ∧
      f.matchesMask (Mask.ofList (keys cs)) = true := by
  obtain ⟨cs, hx, hm⟩ := mem_matching.mp ((selEnts_iff_matching H f e).mp he)
  exact ⟨(H.hinv.live_facts hx).1, cs, hx, hm⟩

theorem not_sel_of_not_match {s : St} {fl : List Nat} (H : HInvB s fl) (f : Filter) {x : Ent}
    {cs : Comps} (hx : (x, cs) ∈ s.ss.ents) (hm : f.matchesMask (Mask.ofList (keys cs)) = false) :
    x.id ∉ (selEnts s.w f).map (·.id) := by
  intro hmem
  obtain ⟨e, he, hid⟩ := List.mem_map.mp hmem
  obtain ⟨cs', hx', hm'⟩ := mem_matching.mp ((selEnts_iff_matching H f e).mp he)
  have heq : e = x := H.hinv.id_inj hx' hx hid
  subst heq
  have h1 := find_of_mem H.hinv.ginv.live_nodup hx
  have h2 := find_of_mem H.hinv.ginv.live_nodup hx'
  rw [h1] at h2
  rw [← Option.some.inj h2, hm] at hm'
  cases hm'

theorem selEnts_nodup {s : St} {fl : List Nat} (H : HInvB s fl) (f : Filter) :
    (selEnts s.w f).Nodup :=
  nodup_of_map (·.id) (selEnts_ids_nodup H.hinv.cinv f)

theorem step_delb (run : ProbeRunner) {s : St} {fl : List Nat} (H : HInvB s fl) (f : Filter) :
    ∃ w' : World,
      opRemoveEntities run (foOf f) [] false s.w = .ok () w' ∧
      stepB run s (.delb f) = ⟨w', s.issued, specStepB s.ss [] (.delb f)⟩ ∧
      RemovedAllPost s.w fl (selEnts s.w f) w' ∧ w'.locks = s.w.locks ∧
      HInvB (stepB run s (.delb f)) ((selEnts s.w f).reverse.map (·.id) ++ fl) := by
  have hC := H.hinv.cinv
  have hR := H.rowsLive
  have hl := H.hinv.unlocked
  have S := selTables_tableSet hC f
  have hb : opRemoveEntities run (foOf f) [] false s.w = .ok () (removeTablesW s.w (selTables s.w f)) :=
    opRemoveEntities_eq run (foOf f) [] s.w hl hC.noObs hC.noTargets
      (getBatchTables_frag hC (foOf f) [] rfl)
  have pb : RemovedAllPost s.w fl (selEnts s.w f) (removeTablesW s.w (selTables s.w f)) :=
    removeTablesW_post hC hR S
  obtain ⟨_, _, _, _, _, _, _, _, _, fL, _, _⟩ := removeTablesW_fields (w := s.w) S.nodup
  have hstep : stepB run s (.delb f) =
      ⟨removeTablesW s.w (selTables s.w f), s.issued, specStepB s.ss [] (.delb f)⟩ :=
    stepBatch_ok run (s := s) (op := .delb f) rfl
      (show execB run s.w (.delb f) = .ok [] _ by simp only [execB, hb])
  refine ⟨_, hb, hstep, pb, fL, ?_⟩
  rw [hstep]
  have hnd := H.hinv.ginv.live_nodup
  have hents := specStepB_delb_ents s.ss [] f hnd
  have hzst : (specStepB s.ss [] (.delb f)).zst = s.ss.zst := specDelAll_zst _ _
  have hstay : ∀ (x : Ent) (cs : Comps), (x, cs) ∈ (specStepB s.ss [] (.delb f)).ents →
      (x, cs) ∈ s.ss.ents ∧ f.matchesMask (Mask.ofList (keys cs)) = false := by
    intro x cs hx
    rw [hents, List.mem_filter] at hx
    exact ⟨hx.1, by simpa using hx.2⟩
  have hlive : ∀ e ∈ selEnts s.w f, e ∈ s.ps.live := fun e he =>
    let ⟨_, cs, hx, _⟩ := selEnts_entry H f he
    List.mem_map.mpr ⟨(e, cs), hx, rfl⟩
  have g2 : Pool.GInv ⟨(removeTablesW s.w (selTables s.w f)).pool, s.issued,
      (specStepB s.ss [] (.delb f)).ents.map (·.1)⟩ ((selEnts s.w f).reverse.map (·.id) ++ fl) := by
    rw [pb.pool]
    refine ginv_of_mem (ginv_recycleAll _ s.ps fl H.hinv.ginv hlive (selEnts_nodup H f))
      (by rw [hents]; exact (List.Sublist.map _ List.filter_sublist).nodup hnd) fun x => ?_
    rw [mem_foldl_erase _ _ hnd]
    constructor
    · intro hx
      obtain ⟨y, hy, rfl⟩ := List.mem_map.mp hx
      obtain ⟨hy1, hy2⟩ := hstay y.1 y.2 hy
      exact ⟨List.mem_map.mpr ⟨y, hy1, rfl⟩, fun hsel =>
        not_sel_of_not_match H f hy1 hy2 (List.mem_map_of_mem hsel)⟩
    · rintro ⟨hx, hns⟩
      obtain ⟨y, hy, rfl⟩ := List.mem_map.mp hx
      refine List.mem_map.mpr ⟨y, ?_, rfl⟩
      rw [hents, List.mem_filter]
      refine ⟨hy, ?_⟩
      cases hm : f.matchesMask (Mask.ofList (keys y.2)) with
      | false => rfl
      | true =>
        exact absurd ((selEnts_iff_matching H f y.1).mpr (mem_matching.mpr ⟨y.2, hy, hm⟩)) hns
  refine ⟨?_, rowsAlive_of_rowsLive pb.cinv pb.rowsLive, fL ▸ H.yinv.lock⟩
  have := H.hinv.of_kinds pb.cinv g2 (pb.unlocked.trans hl) H.hinv.nodup pb.kinds pb.maxComps
    fun x cs hx => (H.hinv.ok x cs (hstay x cs hx).1).frame
      (pb.frame x.id (not_sel_of_not_match H f (hstay x cs hx).1 (hstay x cs hx).2))
  rw [← hzst] at this
  exact this

end RefineB

end Ark

end

section

/-! ## §2 the add / remove / exchange batches

The add / remove / exchange batches (`AddBatch`, `RemoveBatch`, `ExchangeBatch` and their `…Fn`
  forms) as steps of the refinement machine: at most one table per selected table and no index
  slot is created; `add = rem = []` is rejected with the world unchanged; otherwise the fold of
  the single `Exchange` steps over the matching entries rewrites exactly these entries.
-/

set_option autoImplicit false

namespace Ark

open World Ark.Props.C01World

namespace RefineB

open Refine

/-- what `Exchange(add, rem)` writing `vals` does to an entry of the specification -/
def xf (z : List Bool) (add rem : List Comp) (vals : Comps) (cs : Comps) : Comps :=
  writeComps z vals ((cs.filter fun cv => decide (cv.1 ∉ rem)) ++ zeros add)

theorem mem_matching_of_mem {ss : SS} (hnd : (ss.ents.map (·.1)).Nodup) (f : Filter)
    {x : Ent × Comps} (hx : x ∈ ss.ents) :
    x.1 ∈ matching ss f ↔ f.matchesMask (Mask.ofList (keys x.2)) = true := by
  constructor
  · intro hmem
    obtain ⟨cs, hx', hm'⟩ := mem_matching.mp hmem
    have h1 := find_of_mem hnd hx'
    have h2 := find_of_mem hnd (show (x.1, x.2) ∈ ss.ents from hx)
    rw [h1] at h2
    rw [← Option.some.inj h2]; exact hm'
  · intro hm
    exact mem_matching.mpr ⟨x.2, hx, hm⟩

theorem matching_nodup {ss : SS} (hnd : (ss.ents.map (·.1)).Nodup) (f : Filter) :
    (matching ss f).Nodup :=
  (List.Sublist.map _ List.filter_sublist).nodup hnd

theorem specXchgAll_nil (p : Path) (vals : Comps) : ∀ (es : List Ent) (ss : SS),
    specXchgAll ss p [] [] vals es = ss
  | [], _ => rfl
  | e :: es, ss => by
    show specXchgAll (specStep ss default (.xchg p e [] [] vals)) p [] [] vals es = ss
    have : specStep ss default (.xchg p e [] [] vals) = ss := by
      simp only [specStep]
      cases find ss.ents e with
      | none => rfl
      | some cs =>
        have hn : ¬ XchgOK ss.zst.length cs [] [] := fun hv => hv.1 ⟨rfl, rfl⟩
        simp only [if_neg hn]
    rw [this]; exact specXchgAll_nil p vals es ss

/-- **the exchange batch in the specification**: the fold of the single `Exchange` steps over
    distinct handles whose entries satisfy the precondition rewrites exactly these entries -/
theorem specXchgAll_spec (p : Path) (add rem : List Comp) (vals : Comps) : ∀ (es : List Ent)
    (ss : SS), (ss.ents.map (·.1)).Nodup → es.Nodup →
    (∀ e ∈ es, ∃ cs, find ss.ents e = some cs ∧ XchgOK ss.zst.length cs add rem) →
    (specXchgAll ss p add rem vals es).zst = ss.zst ∧
    (specXchgAll ss p add rem vals es).ents =
      ss.ents.map fun x => if x.1 ∈ es then (x.1, xf ss.zst add rem vals x.2) else x
  | [], ss, _, _, _ => by
    refine ⟨rfl, ?_⟩
    show ss.ents = _
    simp
  | e :: es, ss, hnd, hes, hall => by
    obtain ⟨cs, hf, hv⟩ := hall e List.mem_cons_self
    obtain ⟨hne, hes'⟩ := List.nodup_cons.mp hes
    have h1 : specStep ss default (.xchg p e add rem vals) =
        { ss with ents := upd ss.ents e (xf ss.zst add rem vals) } := by
      simp only [specStep, hf, if_pos hv]
      rfl
    have hnd1 : (({ ss with ents := upd ss.ents e (xf ss.zst add rem vals) } : SS).ents.map
        (·.1)).Nodup := by
      show ((upd ss.ents e _).map (·.1)).Nodup
      rw [upd_keys]; exact hnd
    have hall1 : ∀ e' ∈ es, ∃ cs',
        find ({ ss with ents := upd ss.ents e (xf ss.zst add rem vals) } : SS).ents e' = some cs' ∧
        XchgOK ({ ss with ents := upd ss.ents e (xf ss.zst add rem vals) } : SS).zst.length
          cs' add rem := by
      intro e' he'
      obtain ⟨cs', hf', hv'⟩ := hall e' (List.mem_cons_of_mem _ he')
      have hne' : e' ≠ e := fun hh => hne (hh ▸ he')
      exact ⟨cs', by show find (upd ss.ents e _) e' = _; rw [find_upd_ne _ _ hne']; exact hf', hv'⟩
    obtain ⟨i1, i2⟩ := specXchgAll_spec p add rem vals es _ hnd1 hes' hall1
    show (specXchgAll (specStep ss default (.xchg p e add rem vals)) p add rem vals es).zst = _ ∧
      (specXchgAll (specStep ss default (.xchg p e add rem vals)) p add rem vals es).ents = _
    rw [h1]
    refine ⟨i1, ?_⟩
    rw [i2]
    show (upd ss.ents e (xf ss.zst add rem vals)).map _ = _
    simp only [Refine.upd, List.map_map]
    apply List.map_congr_left
    intro x _
    simp only [Function.comp, List.mem_cons]
    by_cases hx : x.1 = e
    · have hn : x.1 ∉ es := by rw [hx]; exact hne
      simp only [hx, if_true, true_or]
      rw [if_neg hne]
    · simp only [hx, if_false, false_or]

/-- the specification's precondition on the matching entries gives the model's precondition on
    the non-empty selected tables -/
theorem hok_of_spec {s : St} {fl : List Nat} (H : HInvB s fl) (f : Filter) {add rem : List Comp}
    (hall : ∀ x ∈ s.ss.ents, f.matchesMask (Mask.ofList (keys x.2)) = true →
      XchgOK s.ss.zst.length x.2 add rem) :
    ∀ t ∈ selTables s.w f, (s.w.tbl t).len ≠ 0 →
      ExchOK s.w.kinds.length add rem (tmask s.w t) := by
  intro t ht h0
  have hC := H.hinv.cinv
  have h0' : 0 < (s.w.tbl t).len := Nat.pos_of_ne_zero h0
  have htl := ((mem_selTables hC f t).mp ht).1
  have he : (s.w.tbl t).getEntity 0 ∈ selEnts s.w f := mem_selEnts.mpr ⟨t, 0, ht, h0', rfl⟩
  obtain ⟨cs, hx, hm⟩ := mem_matching.mp ((selEnts_iff_matching H f _).mp he)
  have hv := hall _ hx hm
  have hrow := hC.idx.rowIdx t _ 0 (get_of_lt htl) h0'
  have hmask : s.w.maskOf ((s.w.tbl t).getEntity 0) = tmask s.w t := by
    simp only [maskOf, index_of_get hrow, tmask]
  obtain ⟨_, hrnd, hrall, hand, hadd⟩ := hv
  rw [← hmask]
  exact
    { remNodup := hrnd
      pres := fun c hc => (H.hinv.mask_iff hx c).mpr (hrall c hc)
      addNodup := hand
      reg := fun c hc => by rw [← H.hinv.zlen]; exact (hadd c hc).1
      new := by
        intro c hc
        cases hgc : (s.w.maskOf ((s.w.tbl t).getEntity 0)).get c with
        | false => rfl
        | true => exact absurd ((H.hinv.mask_iff hx c).mp hgc) (hadd c hc).2 }

/-- what the guard of an exchange batch that exchanges something says: the added components are
    registered, and every entry the filter matches satisfies the precondition of `Exchange` -/
theorem xchgOK_of_guard {s : St} {p : Path} {f : Filter} {add rem : List Comp}
    {vals : Option Comps} (hg : guardB s (.xchgb p f add vals rem) = true)
    (hne : ¬ (add = [] ∧ rem = [])) :
    (∀ c ∈ add, c < s.ss.zst.length) ∧
    (∀ x ∈ s.ss.ents, f.matchesMask (Mask.ofList (keys x.2)) = true →
      XchgOK s.ss.zst.length x.2 add rem) ∧
    ((s.ss.ents.map (·.1)).Nodup → ∀ e ∈ matching s.ss f, ∃ cs, find s.ss.ents e = some cs ∧
      XchgOK s.ss.zst.length cs add rem) := by
  simp only [guardB, Bool.and_eq_true, Bool.or_eq_true, List.all_eq_true, decide_eq_true_eq,
    Bool.not_eq_true'] at hg
  obtain ⟨hreg, hcase⟩ := hg
  have hall : ∀ x ∈ s.ss.ents, f.matchesMask (Mask.ofList (keys x.2)) = true →
      XchgOK s.ss.zst.length x.2 add rem := by
    rcases hcase with ⟨ha, hr⟩ | hcase
    · exact absurd ⟨List.isEmpty_iff.mp ha, List.isEmpty_iff.mp hr⟩ hne
    · intro x hx hm
      rcases hcase x hx with h1 | h1
      · rw [hm] at h1; cases h1
      · exact h1
  refine ⟨hreg, hall, fun hnd e he => ?_⟩
  obtain ⟨cs, hx, hm⟩ := mem_matching.mp he
  exact ⟨cs, find_of_mem hnd hx, hall _ hx hm⟩

theorem step_xchgb (run : ProbeRunner) {s : St} {fl : List Nat} (H : HInvB s fl)
    (p : Path) (f : Filter) (add : List Comp) (vals : Option Comps) (rem : List Comp)
    (hroom : Room s (.xchgb p f add vals rem)) :
    (∃ fl', HInvB (stepB run s (.xchgb p f add vals rem)) fl') ∧
    (stepB run s (.xchgb p f add vals rem)).w.tables.length ≤
      s.w.tables.length + (selTables s.w f).length ∧
    (stepB run s (.xchgb p f add vals rem)).w.entities.length = s.w.entities.length ∧
    (guardB s (.xchgb p f add vals rem) = true → ¬ preB s.ss (.xchgb p f add vals rem) →
      (∃ k, execB run s.w (.xchgb p f add vals rem) = .panic k s.w) ∧
      stepB run s (.xchgb p f add vals rem) = s) ∧
    (guardB s (.xchgb p f add vals rem) = true → preB s.ss (.xchgb p f add vals rem) →
      ∃ w', execB run s.w (.xchgb p f add vals rem) = .ok [] w' ∧
        ExchangedAllPost s.w fl (selEnts s.w f) add rem (valsOf vals) w' ∧
        stepB run s (.xchgb p f add vals rem) =
          ⟨w', s.issued, specStepB s.ss [] (.xchgb p f add vals rem)⟩) := by
  have hC := H.hinv.cinv
  have hl := H.hinv.unlocked
  by_cases hg : guardB s (.xchgb p f add vals rem) = true
  case neg =>
    -- a refused step leaves the state as it is; the two guarded clauses hold vacuously
    have : stepB run s (.xchgb p f add vals rem) = s := stepBatch_of_not_guard run hg
    rw [this]
    exact ⟨⟨fl, H⟩, Nat.le_add_right _ _, rfl, fun h => absurd h hg, fun h => absurd h hg⟩
  by_cases hne : add = [] ∧ rem = []
  · -- rejected before anything happens
    obtain ⟨rfl, rfl⟩ := hne
    have hop : opExchangeBatch run p (foOf f) [] [] [] [] vals s.w = .panic .noComponents s.w := by
      rw [opExchangeBatch_eq_exchangeBatch]; exact exchangeBatch_rejects_empty run _ _ [] [] [] vals s.w hl rfl
    have hex : execB run s.w (.xchgb p f [] vals []) = .panic .noComponents s.w := by
      simp only [execB, hop]
    have hst : stepB run s (.xchgb p f [] vals []) = s :=
      stepBatch_panic run hg hex (specXchgAll_nil p _ _ _)
    rw [hst]
    exact ⟨⟨fl, H⟩, Nat.le_add_right _ _, rfl, fun _ _ => ⟨⟨_, hex⟩, rfl⟩,
      fun _ hp => absurd ⟨rfl, rfl⟩ hp⟩
  · -- the batch runs
    have hnd := H.hinv.ginv.live_nodup
    obtain ⟨_, hall, hmall⟩ := xchgOK_of_guard hg hne
    obtain ⟨hfew, hent⟩ := hroom
    -- the guard speaks of spec entries; the world-level batch wants `ExchOK` on the non-empty
    -- selected tables
    have hok := hok_of_spec H f hall
    obtain ⟨Wf, hb, post, hLf, _, hRf, htl⟩ := exchangeBatch_post'_tables run hC H.rowsLive hl
      H.yinv.lock (foOf f) [] rfl hne hok hfew hent vals
    have hop : opExchangeBatch run p (foOf f) [] add rem [] vals s.w = .ok () Wf := by
      rw [opExchangeBatch_eq_exchangeBatch]; exact hb
    have hex : execB run s.w (.xchgb p f add vals rem) = .ok [] Wf := by
      simp only [execB, hop]
    have hst : stepB run s (.xchgb p f add vals rem) =
        ⟨Wf, s.issued, specStepB s.ss [] (.xchgb p f add vals rem)⟩ := stepBatch_ok run hg hex
    -- the specification side in closed form: `xf` on the matching entries, the others and all
    -- keys as before
    obtain ⟨hzst, hents⟩ := specXchgAll_spec p add rem (valsOf vals) (matching s.ss f) s.ss hnd
      (matching_nodup hnd f) (hmall hnd)
    have hzst' : (specStepB s.ss [] (.xchgb p f add vals rem)).zst = s.ss.zst := hzst
    have hents' : (specStepB s.ss [] (.xchgb p f add vals rem)).ents =
        s.ss.ents.map fun x =>
          if x.1 ∈ matching s.ss f then (x.1, xf s.ss.zst add rem (valsOf vals) x.2) else x := hents
    have hkeys : (specStepB s.ss [] (.xchgb p f add vals rem)).ents.map (·.1) =
        s.ss.ents.map (·.1) := by
      rw [hents', List.map_map]
      apply List.map_congr_left
      intro x _
      simp only [Function.comp]
      split <;> rfl
    rw [hst]
    refine ⟨⟨fl, ?_, rowsAlive_of_rowsLive post.cinv hRf, hLf⟩, htl, post.entitiesLen,
      fun _ hnp => absurd hne hnp, fun _ _ => ⟨Wf, hex, post, rfl⟩⟩
    -- `HInv` of the new state from `post`: pool and keys unchanged give `GInv`; owed is `EntOK`
    -- of every new spec entry in `Wf`
    have := H.hinv.of_kinds (ents := (specStepB s.ss [] (.xchgb p f add vals rem)).ents) post.cinv
      (by rw [post.pool, hkeys]; exact H.hinv.ginv) (post.unlocked.trans hl) H.hinv.nodup
      post.kinds post.maxComps fun e cs' hmem => ?_
    · rw [← hzst'] at this; exact this
    rw [hents', List.mem_map] at hmem
    obtain ⟨⟨e0, cs⟩, hx, hxe⟩ := hmem
    by_cases hsel : e0 ∈ matching s.ss f
    · -- an exchanged entity
      rw [if_pos hsel] at hxe
      obtain ⟨rfl, rfl⟩ := Prod.mk.inj hxe
      have he : e0 ∈ selEnts s.w f := (selEnts_iff_matching H f e0).mpr hsel
      exact H.hinv.entOK_exchanged hx (hall _ hx ((mem_matching_of_mem hnd f hx).mp hsel))
        (post.comps e0 he) (post.kept e0 he) (post.added e0 he)
    · -- an entity the filter does not match
      rw [if_neg hsel] at hxe
      obtain ⟨rfl, rfl⟩ := Prod.mk.inj hxe
      have hm : f.matchesMask (Mask.ofList (keys cs)) = false :=
        Bool.eq_false_iff.mpr fun hmm => hsel ((mem_matching_of_mem hnd f hx).mpr hmm)
      exact (H.hinv.ok e0 cs hx).frame (post.frame e0.id (not_sel_of_not_match H f hx hm))

end RefineB

end Ark

end

