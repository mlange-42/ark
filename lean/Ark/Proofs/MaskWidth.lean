/-
  Ark.Proofs.MaskWidth — the 64-bit mask of the `ark_tiny` build simulates the 256-bit mask of
  the default build on component IDs below 64: `Mask64.embed` (zero extension) commutes with every
  mask operation except `not`; for `not` the exact relation is given, and the only way a complement
  is ever *used* (`containsAny` against the entity/archetype mask: `Exclusive` filters and
  observers) is shown to give the same answer at both widths.  The set-level view of `Mask64`
  comes from the same lemmas about `BitVec w` as that of `Mask` (Ark/Proofs/MaskLemmas.lean).
-/
import Ark.Model.Mask64
import Ark.Model.Observers
import Ark.Proofs.MaskLemmas

namespace Ark
namespace Mask64

/-! ## 1. Set-level view of `Mask64` -/

@[simp] theorem get_empty (c : Nat) : empty.get c = false := by
  simp [empty, get]

theorem get_ge (m : Mask64) (c : Nat) (h : 64 ≤ c) : m.get c = false := by
  simp only [get]
  exact BitVec.getLsbD_of_ge m c h

theorem get_lt (m : Mask64) (c : Nat) (h : m.get c = true) : c < 64 := by
  apply Classical.byContradiction
  intro hc
  rw [get_ge m c (by omega)] at h
  cases h

theorem get_bit (b c : Nat) : (bit b).get c = (decide (c < 64) && decide (c = b)) :=
  Bits.getLsbD_bit b c

theorem get_set (m : Mask64) (b c : Nat) :
    (m.set b).get c = (m.get c || (decide (c < 64) && decide (c = b))) := by
  simp only [set, get, BitVec.getLsbD_or]
  rw [show (bit b).getLsbD c = (bit b).get c from rfl, get_bit]

theorem get_clear (m : Mask64) (b c : Nat) :
    (m.clear b).get c = (m.get c && !(decide (c = b))) :=
  Bits.getLsbD_clear m b c

theorem get_or (a b : Mask64) (c : Nat) : (a.or b).get c = (a.get c || b.get c) := by
  simp [or, get, BitVec.getLsbD_or]

theorem get_not (a : Mask64) (c : Nat) : a.not.get c = (decide (c < 64) && !a.get c) := by
  simp [not, get, BitVec.getLsbD_not]

theorem ext_get (a b : Mask64) (h : ∀ c : Nat, c < 64 → a.get c = b.get c) : a = b := by
  apply BitVec.eq_of_getLsbD_eq
  intro i hi
  exact h i hi

theorem isZero_iff (m : Mask64) : m.isZero = true ↔ ∀ c, m.get c = false :=
  Bits.eq_zero_iff m

/-- `b.Contains(o)` ⇔ `o ⊆ b`. -/
theorem contains_iff (b o : Mask64) :
    b.contains o = true ↔ ∀ c, o.get c = true → b.get c = true :=
  Bits.contains_iff b o

/-- `b.ContainsAny(o)` ⇔ `b ∩ o ≠ ∅`. -/
theorem containsAny_iff (b o : Mask64) :
    b.containsAny o = true ↔ ∃ c, b.get c = true ∧ o.get c = true :=
  Bits.containsAny_iff b o

theorem containsAny_false_iff (b o : Mask64) :
    b.containsAny o = false ↔ ∀ c, b.get c = true → o.get c = false :=
  Bits.containsAny_false_iff b o

theorem get_ofList_foldl (cs : List Nat) (m : Mask64) (c : Nat) :
    (cs.foldl set m).get c = (m.get c || (decide (c < 64) && decide (c ∈ cs))) :=
  Bits.getLsbD_foldl_set cs m c

theorem get_ofList (cs : List Nat) (c : Nat) :
    (ofList cs).get c = (decide (c < 64) && decide (c ∈ cs)) := by
  simp [ofList, get_ofList_foldl]

theorem mem_toList (m : Mask64) (n c : Nat) : c ∈ m.toList n ↔ c < n ∧ m.get c = true := by
  simp [toList, List.mem_filter, List.mem_range]

/-! ## 2. The embedding -/

theorem get_embed (m : Mask64) (c : Nat) :
    (embed m).get c = (decide (c < 64) && m.get c) := by
  simp only [embed, Mask.get, get, BitVec.getLsbD_setWidth]
  by_cases h : c < 64
  · have : c < 256 := by omega
    simp [h, this]
  · have : m.getLsbD c = false := BitVec.getLsbD_of_ge m c (by omega)
    simp [this]

/-- `get_embed` without the guard (the guard is implied by `m.get c`). -/
theorem get_embed' (m : Mask64) (c : Nat) : (embed m).get c = m.get c := by
  rw [get_embed]
  by_cases h : c < 64
  · simp [h]
  · simp [h, get_ge m c (by omega)]

theorem get_embed_lt (m : Mask64) (c : Nat) (h : (embed m).get c = true) : c < 64 := by
  rw [get_embed'] at h
  exact get_lt m c h

theorem embed_empty : embed empty = Mask.empty := by
  apply Mask.ext_get
  intro c _
  simp [get_embed']

theorem embed_set (m : Mask64) (b : Nat) (hb : b < 64) : embed (m.set b) = (embed m).set b := by
  apply Mask.ext_get
  intro c hc
  rw [get_embed', Mask.get_set, get_set, get_embed']
  by_cases h : c = b
  · subst h; simp [hb, hc]
  · simp [h]

/-- `set` of an ID ≥ 64: a no-op in the tiny build (`1 << c` is 0), not in the default build. -/
theorem set_ge (m : Mask64) (b : Nat) (hb : 64 ≤ b) : m.set b = m := by
  apply ext_get
  intro c hc
  rw [get_set]
  have : c ≠ b := by omega
  simp [this]

theorem embed_clear (m : Mask64) (b : Nat) : embed (m.clear b) = (embed m).clear b := by
  apply Mask.ext_get
  intro c _
  rw [get_embed', Mask.get_clear, get_clear, get_embed']

theorem embed_or (a b : Mask64) : embed (a.or b) = (embed a).or (embed b) := by
  apply Mask.ext_get
  intro c _
  rw [get_embed', Mask.get_or, get_or, get_embed', get_embed']

theorem embed_foldl_set (cs : List Nat) (h : ∀ c ∈ cs, c < 64) (m : Mask64) :
    embed (cs.foldl set m) = cs.foldl Mask.set (embed m) := by
  induction cs generalizing m with
  | nil => rfl
  | cons x xs ih =>
    simp only [List.foldl_cons]
    rw [ih (fun c hc => h c (List.mem_cons_of_mem _ hc)), embed_set m x (h x List.mem_cons_self)]

theorem embed_ofList (cs : List Nat) (h : ∀ c ∈ cs, c < 64) :
    embed (ofList cs) = Mask.ofList cs := by
  simp only [ofList, Mask.ofList]
  rw [embed_foldl_set cs h, embed_empty]

theorem embed_injective (a b : Mask64) (h : embed a = embed b) : a = b := by
  apply ext_get
  intro c _
  rw [← get_embed', ← get_embed', h]

theorem embed_eq_iff (a b : Mask64) : embed a = embed b ↔ a = b :=
  ⟨embed_injective a b, fun h => by rw [h]⟩

theorem isZero_embed (m : Mask64) : (embed m).isZero = m.isZero := by
  rw [Bool.eq_iff_iff, Mask.isZero_iff, isZero_iff]
  simp only [get_embed']

theorem contains_embed (a b : Mask64) : (embed a).contains (embed b) = a.contains b := by
  rw [Bool.eq_iff_iff, Mask.contains_iff, contains_iff]
  simp only [get_embed']

theorem containsAny_embed (a b : Mask64) :
    (embed a).containsAny (embed b) = a.containsAny b := by
  rw [Bool.eq_iff_iff, Mask.containsAny_iff, containsAny_iff]
  simp only [get_embed']

theorem toList_embed (m : Mask64) (n : Nat) :
    (embed m).toList n = (List.range n).filter m.get := by
  simp only [Mask.toList]
  exact List.filter_congr (fun c _ => get_embed' m c)

/-! ### Complement -/

/-- The complement taken at width 256 of an embedded mask: additionally has all of 64…255. -/
theorem get_not_embed (m : Mask64) (c : Nat) :
    (embed m).not.get c = (decide (c < 256) && !(decide (c < 64) && m.get c)) := by
  rw [Mask.get_not, get_embed]

theorem get_embed_not (m : Mask64) (c : Nat) :
    (embed m.not).get c = (decide (c < 64) && !m.get c) := by
  rw [get_embed', get_not]

/-- `embed` never commutes with `not`: bit 64 tells the two apart. -/
theorem embed_not_ne (m : Mask64) : embed m.not ≠ (embed m).not := by
  intro h
  have h1 := get_embed_not m 64
  have h2 := get_not_embed m 64
  rw [h, h2] at h1
  simp at h1

/-- The exact relation: the 64-bit complement is the 256-bit one cut down to IDs below 64. -/
theorem embed_not (m : Mask64) : embed m.not = (embed m).not &&& embed empty.not := by
  apply Mask.ext_get
  intro c hc
  have hand : ((embed m).not &&& embed empty.not).get c =
      ((embed m).not.get c && (embed empty.not).get c) := by
    simp [Mask.get, BitVec.getLsbD_and]
  rw [hand, get_embed_not, get_embed_not, get_not_embed]
  by_cases h : c < 64 <;> simp [h, hc]

theorem get_not_embed_lt (m : Mask64) (c : Nat) (hc : c < 64) :
    (embed m).not.get c = (embed m.not).get c := by
  rw [get_not_embed, get_embed_not]
  have : c < 256 := by omega
  simp [hc, this]

/-- How a complement is used (`Exclusive`): intersected with an embedded mask, the width at
    which the complement was taken does not matter. -/
theorem containsAny_embed_not (a f : Mask64) :
    (embed a).containsAny (embed f).not = a.containsAny f.not := by
  rw [← containsAny_embed a f.not, Bool.eq_iff_iff, Mask.containsAny_iff, Mask.containsAny_iff]
  constructor
  · rintro ⟨c, h1, h2⟩
    exact ⟨c, h1, by rw [← get_not_embed_lt f c (get_embed_lt a c h1)]; exact h2⟩
  · rintro ⟨c, h1, h2⟩
    exact ⟨c, h1, by rw [get_not_embed_lt f c (get_embed_lt a c h1)]; exact h2⟩

theorem containsAny_not_embed (a f : Mask64) :
    (embed f).not.containsAny (embed a) = f.not.containsAny a := by
  rw [← containsAny_embed f.not a, Bool.eq_iff_iff, Mask.containsAny_iff, Mask.containsAny_iff]
  constructor
  · rintro ⟨c, h1, h2⟩
    exact ⟨c, by rw [← get_not_embed_lt f c (get_embed_lt a c h2)]; exact h1, h2⟩
  · rintro ⟨c, h1, h2⟩
    exact ⟨c, by rw [get_not_embed_lt f c (get_embed_lt a c h2)]; exact h1, h2⟩

/-- `contains` against a 256-bit complement does NOT simulate: an embedded mask never contains
    the 256-bit complement of an embedded mask (bit 64), whereas at width 64
    `a.contains f.not` holds e.g. for `a = f.not`. -/
theorem contains_embed_not (a f : Mask64) : (embed a).contains (embed f).not = false := by
  rw [← Bool.not_eq_true, Mask.contains_iff]
  intro h
  have h1 := h 64 (by rw [get_not_embed]; simp)
  have := get_embed_lt a 64 h1
  omega

/-- … while the complement of an embedded mask contains an embedded mask exactly when the 64-bit
    complement does. -/
theorem not_embed_contains (a f : Mask64) :
    (embed f).not.contains (embed a) = f.not.contains a := by
  rw [← contains_embed f.not a, Bool.eq_iff_iff, Mask.contains_iff, Mask.contains_iff]
  constructor
  · intro h c hc
    rw [← get_not_embed_lt f c (get_embed_lt a c hc)]; exact h c hc
  · intro h c hc
    rw [get_not_embed_lt f c (get_embed_lt a c hc)]; exact h c hc

end Mask64

/-! ## 3. Filters -/

namespace Filter64
open Mask64

theorem matchesMask_embed (f : Filter64) (a : Mask64) :
    f.embed.matchesMask (Mask64.embed a) = f.matchesMask a := by
  simp only [Filter.matchesMask, matchesMask, embed, contains_embed, containsAny_embed]

/-- `Exclusive` applied in the default build (complement at width 256) to the embedded filter
    matches an embedded mask iff `Exclusive` applied in the tiny build (complement at width 64)
    matches the mask. -/
theorem exclusive_matchesMask_embed (f : Filter64) (a : Mask64) :
    f.embed.exclusive.matchesMask (Mask64.embed a) = f.exclusive.matchesMask a := by
  simp only [Filter.matchesMask, matchesMask, embed, Filter.exclusive, exclusive, contains_embed,
    containsAny_embed_not]

/-- The two `Exclusive` filters are nevertheless different objects. -/
theorem exclusive_embed_ne (f : Filter64) : f.exclusive.embed ≠ f.embed.exclusive := by
  intro h
  have : (f.exclusive.embed).without = (f.embed.exclusive).without := by rw [h]
  exact embed_not_ne f.mask this

theorem withoutList_embed (f : Filter64) (cs : List Nat) (h : ∀ c ∈ cs, c < 64) :
    (f.withoutList cs).embed = f.embed.withoutList cs := by
  simp only [withoutList, Filter.withoutList, embed, embed_ofList cs h]

theorem exclusive_matches_iff (f : Filter64) (a : Mask64) :
    f.exclusive.matchesMask a = true ↔ a = f.mask := by
  rw [← exclusive_matchesMask_embed, Filter.exclusive_matches_iff]
  exact embed_eq_iff a f.mask

end Filter64

/-! ## 4. Observer predicates -/

/-- `observerData` of the default build for the observer whose tiny-build data is `d`.
    `excl = true`: the observer is `Exclusive`, `AddObserver` sets
    `withoutMask := withMask.not` — at width 256 here. -/
def ObsData64.embed (excl : Bool) (d : ObsData64) : ObsData :=
  { compsMask := d.compsMask.embed
    withMask := d.withMask.embed
    withoutMask := if excl then d.withMask.embed.not else d.withoutMask.embed
    hasComps := d.hasComps
    hasWith := d.hasWith
    hasWithout := d.hasWithout }

/-- The tiny-build side of `excl`: for an exclusive observer `withoutMask` is the complement
    of `withMask` at width 64. -/
def ObsData64.ExclOK (excl : Bool) (d : ObsData64) : Prop :=
  excl = true → d.withoutMask = d.withMask.not

namespace Pred64
open Mask64

theorem containsAny_withoutMask (excl : Bool) (d : ObsData64) (h : d.ExclOK excl) (m : Mask64) :
    (Mask64.embed m).containsAny (d.embed excl).withoutMask = m.containsAny d.withoutMask := by
  cases excl with
  | false =>
    show (Mask64.embed m).containsAny d.withoutMask.embed = _
    exact containsAny_embed m d.withoutMask
  | true =>
    rw [h rfl]
    show (Mask64.embed m).containsAny d.withMask.embed.not = _
    exact containsAny_embed_not m d.withMask

theorem entity_embed (excl : Bool) (d : ObsData64) (h : d.ExclOK excl) (m : Mask64) :
    Pred.entity (d.embed excl) (Mask64.embed m) = entity d m := by
  simp only [Pred.entity, entity, containsAny_withoutMask excl d h]
  simp only [ObsData64.embed, contains_embed]

theorem entityRel_embed (excl : Bool) (d : ObsData64) (h : d.ExclOK excl) (m : Mask64) :
    Pred.entityRel (d.embed excl) (Mask64.embed m) = entityRel d m := by
  simp only [Pred.entityRel, entityRel, containsAny_withoutMask excl d h]
  simp only [ObsData64.embed, contains_embed]

theorem add_embed (excl : Bool) (d : ObsData64) (h : d.ExclOK excl) (old new : Mask64) :
    Pred.add (d.embed excl) (Mask64.embed old) (Mask64.embed new) = add d old new := by
  simp only [Pred.add, add, containsAny_withoutMask excl d h]
  simp only [ObsData64.embed, contains_embed, containsAny_embed]

theorem remove_embed (excl : Bool) (d : ObsData64) (h : d.ExclOK excl) (old new : Mask64) :
    Pred.remove (d.embed excl) (Mask64.embed old) (Mask64.embed new) = remove d old new := by
  simp only [Pred.remove, remove, containsAny_withoutMask excl d h]
  simp only [ObsData64.embed, contains_embed, containsAny_embed]

theorem set_embed (excl : Bool) (d : ObsData64) (h : d.ExclOK excl) (mask emask : Mask64) :
    Pred.set (d.embed excl) (Mask64.embed mask) (Mask64.embed emask) = set d mask emask := by
  simp only [Pred.set, set, containsAny_withoutMask excl d h]
  simp only [ObsData64.embed, contains_embed]

end Pred64

/-! ## 5. Early-outs (only embedded masks are involved: `allWith`/`allComps` are `or`s of
    `withMask`/`compsMask`, never of a complement) -/

/-- The default-build event state with the embedded masks; the non-mask fields are arbitrary. -/
def EvtMasks64.embed (es : EvtMasks64) (observers : List Nat) (hasObservers : Bool) : EvtState :=
  { observers := observers
    hasObservers := hasObservers
    allComps := es.allComps.embed
    allWith := es.allWith.embed
    anyNoComps := es.anyNoComps
    anyNoWith := es.anyNoWith }

namespace Early64
open Mask64

theorem entity_embed (es : EvtMasks64) (os : List Nat) (ho : Bool) (m : Mask64) :
    Early.entity (es.embed os ho) (Mask64.embed m) = entity es m := by
  simp only [Early.entity, entity, EvtMasks64.embed, containsAny_embed]

theorem entityRel_embed (es : EvtMasks64) (os : List Nat) (ho : Bool) (m : Mask64) :
    Early.entityRel (es.embed os ho) (Mask64.embed m) = entityRel es m := by
  simp only [Early.entityRel, entityRel, EvtMasks64.embed, containsAny_embed]

theorem add_embed (es : EvtMasks64) (os : List Nat) (ho : Bool) (old new : Mask64) :
    Early.add (es.embed os ho) (Mask64.embed old) (Mask64.embed new) = add es old new := by
  simp only [Early.add, add, EvtMasks64.embed, containsAny_embed, contains_embed]

theorem remove_embed (es : EvtMasks64) (os : List Nat) (ho : Bool) (old new : Mask64) :
    Early.remove (es.embed os ho) (Mask64.embed old) (Mask64.embed new) = remove es old new := by
  simp only [Early.remove, remove, EvtMasks64.embed, containsAny_embed, contains_embed]

theorem set_embed (es : EvtMasks64) (os : List Nat) (ho : Bool) (mask emask : Mask64) :
    Early.set (es.embed os ho) (Mask64.embed mask) (Mask64.embed emask) = set es mask emask := by
  simp only [Early.set, set, EvtMasks64.embed, containsAny_embed]

end Early64

end Ark
