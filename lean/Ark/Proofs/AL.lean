/-
  Association lists `AL ν` model Go maps: what `find?` returns after `mapVals`/`insert`/`erase`,
  and the keys-unique invariant `AL.Uniq`, under which `find?` is list membership.
  `CacheIdx.IsIndex`: a slice with a map from key to position, as Go keeps it for swap-remove
  (`cache.filters`/`cache.indices` of cache.go, `tableIDs.tables`/`tableIDs.indices` of
  archetype.go), under append, drop-last and overwrite.
-/
import Ark.Basic

set_option autoImplicit false

namespace Ark
namespace AL
variable {ν : Type}

def Uniq (m : AL ν) : Prop := (m.map (·.1)).Nodup

theorem uniq_nil : Uniq ([] : AL ν) := List.nodup_nil

theorem uniq_cons {k : Nat} {v : ν} {rest : AL ν} :
    Uniq ((k, v) :: rest) ↔ k ∉ rest.map (·.1) ∧ Uniq rest := List.nodup_cons

@[simp] theorem find?_cons (k' k : Nat) (v : ν) (rest : AL ν) :
    find? ((k', v) :: rest) k = if k' = k then some v else find? rest k := rfl

theorem find?_mapVals (m : AL ν) (f : ν → ν) (k : Nat) :
    find? (mapVals m f) k = (find? m k).map f := by
  induction m with
  | nil => rfl
  | cons p rest ih =>
    obtain ⟨k', v'⟩ := p
    have ih' : find? (List.map (fun x : Nat × ν => (x.1, f x.2)) rest) k
        = (find? rest k).map f := ih
    by_cases h : k' = k <;> simp [mapVals, h, ih']

theorem find?_insert (m : AL ν) (k k2 : Nat) (v : ν) :
    find? (insert m k v) k2 = if k2 = k then some v else find? m k2 := by
  by_cases h : k2 = k
  · subst h; simp [find?_insert_self]
  · simp [h, find?_insert_ne m k k2 v h]

theorem find?_erase (m : AL ν) (k k2 : Nat) :
    find? (erase m k) k2 = if k2 = k then none else find? m k2 := by
  by_cases h : k2 = k
  · subst h; simp [find?_erase_self]
  · simp [h, find?_erase_ne m k k2 h]

theorem keys_mapVals (m : AL ν) (f : ν → ν) :
    (mapVals m f).map (·.1) = m.map (·.1) := by
  simp [mapVals, List.map_map, Function.comp_def]

theorem mem_keys_insert (m : AL ν) (k k2 : Nat) (v : ν) :
    k2 ∈ (insert m k v).map (·.1) ↔ k2 = k ∨ k2 ∈ m.map (·.1) := by
  induction m with
  | nil => simp [insert]
  | cons p rest ih =>
    obtain ⟨k', v'⟩ := p
    by_cases h : k' = k
    · subst h; simp [insert]
    · simp only [insert, h, if_false, List.map_cons, List.mem_cons, ih]
      constructor
      · rintro (h1 | h1 | h1)
        · exact Or.inr (Or.inl h1)
        · exact Or.inl h1
        · exact Or.inr (Or.inr h1)
      · rintro (h1 | h1 | h1)
        · exact Or.inr (Or.inl h1)
        · exact Or.inl h1
        · exact Or.inr (Or.inr h1)

theorem mem_keys_erase (m : AL ν) (k k2 : Nat) :
    k2 ∈ (erase m k).map (·.1) ↔ k2 ≠ k ∧ k2 ∈ m.map (·.1) := by
  induction m with
  | nil => simp [erase]
  | cons p rest ih =>
    obtain ⟨k', v'⟩ := p
    by_cases h : k' = k
    · subst h
      simp only [erase, if_true, ih, List.map_cons, List.mem_cons]
      constructor
      · rintro ⟨h1, h2⟩; exact ⟨h1, Or.inr h2⟩
      · rintro ⟨h1, h2 | h2⟩
        · exact absurd h2 h1
        · exact ⟨h1, h2⟩
    · simp only [erase, h, if_false, List.map_cons, List.mem_cons, ih]
      constructor
      · rintro (h1 | ⟨h1, h2⟩)
        · subst h1; exact ⟨h, Or.inl rfl⟩
        · exact ⟨h1, Or.inr h2⟩
      · rintro ⟨h1, h2 | h2⟩
        · exact Or.inl h2
        · exact Or.inr ⟨h1, h2⟩

theorem find?_eq_none_iff (m : AL ν) (k : Nat) :
    find? m k = none ↔ k ∉ m.map (·.1) := by
  induction m with
  | nil => simp
  | cons p rest ih =>
    obtain ⟨k', v'⟩ := p
    by_cases h : k' = k
    · subst h; simp
    · have h' : ¬ k = k' := fun e => h e.symm
      simp [h, h', ih]

theorem find?_isSome_iff (m : AL ν) (k : Nat) :
    (find? m k).isSome = true ↔ k ∈ m.map (·.1) := by
  cases hf : find? m k with
  | none => simp [(find?_eq_none_iff m k).1 hf]
  | some v =>
    have : ¬ (k ∉ m.map (·.1)) := fun hn => by
      rw [(find?_eq_none_iff m k).2 hn] at hf; cases hf
    simp only [Option.isSome_some, true_iff]
    exact Classical.not_not.1 this

theorem contains_iff (m : AL ν) (k : Nat) :
    contains m k = true ↔ k ∈ m.map (·.1) := find?_isSome_iff m k

theorem mem_of_find? (m : AL ν) (k : Nat) (v : ν) (h : find? m k = some v) : (k, v) ∈ m := by
  induction m with
  | nil => simp at h
  | cons p rest ih =>
    obtain ⟨k', v'⟩ := p
    by_cases hk : k' = k
    · subst hk
      simp at h; subst h; exact List.mem_cons_self
    · simp [hk] at h
      exact List.mem_cons_of_mem _ (ih h)

theorem find?_of_mem (m : AL ν) (hu : Uniq m) (k : Nat) (v : ν) (h : (k, v) ∈ m) :
    find? m k = some v := by
  induction m with
  | nil => simp at h
  | cons p rest ih =>
    obtain ⟨k', v'⟩ := p
    have hu' := uniq_cons.1 hu
    rcases List.mem_cons.1 h with h1 | h1
    · injection h1 with h1 h2; subst h1; subst h2; simp
    · by_cases hk : k' = k
      · subst hk
        exact absurd (List.mem_map.2 ⟨(k', v), h1, rfl⟩) hu'.1
      · simp [hk, ih hu'.2 h1]

theorem find?_eq_some_iff (m : AL ν) (hu : Uniq m) (k : Nat) (v : ν) :
    find? m k = some v ↔ (k, v) ∈ m :=
  ⟨mem_of_find? m k v, find?_of_mem m hu k v⟩

theorem erase_of_find?_none (m : AL ν) (k : Nat) (h : find? m k = none) : erase m k = m := by
  induction m with
  | nil => rfl
  | cons p rest ih =>
    obtain ⟨k', v'⟩ := p
    by_cases hk : k' = k
    · subst hk; simp at h
    · simp [hk] at h
      simp [erase, hk, ih h]

theorem erase_of_not_mem (m : AL ν) (k : Nat) (h : k ∉ m.map (·.1)) : erase m k = m :=
  erase_of_find?_none m k ((find?_eq_none_iff m k).2 h)

theorem insert_of_find?_none (m : AL ν) (k : Nat) (v : ν) (h : find? m k = none) :
    insert m k v = m ++ [(k, v)] := by
  induction m with
  | nil => rfl
  | cons p rest ih =>
    obtain ⟨k', v'⟩ := p
    by_cases hk : k' = k
    · subst hk; simp at h
    · simp [hk] at h
      simp [insert, hk, ih h]

theorem Uniq.mapVals {m : AL ν} (h : Uniq m) (f : ν → ν) : Uniq (mapVals m f) := by
  unfold Uniq; rw [keys_mapVals]; exact h

theorem Uniq.insert {m : AL ν} (h : Uniq m) (k : Nat) (v : ν) : Uniq (insert m k v) := by
  induction m with
  | nil => simp [AL.insert, Uniq]
  | cons p rest ih =>
    obtain ⟨k', v'⟩ := p
    have hu' := uniq_cons.1 h
    by_cases hk : k' = k
    · subst hk; rw [AL.insert, if_pos rfl]; exact uniq_cons.2 hu'
    · have h1 : k' ∉ (AL.insert rest k v).map (·.1) := by
        rw [mem_keys_insert]; rintro (h1 | h1)
        · exact hk h1
        · exact hu'.1 h1
      rw [AL.insert, if_neg hk]; exact uniq_cons.2 ⟨h1, ih hu'.2⟩

theorem Uniq.erase {m : AL ν} (h : Uniq m) (k : Nat) : Uniq (erase m k) := by
  induction m with
  | nil => simp [AL.erase, Uniq]
  | cons p rest ih =>
    obtain ⟨k', v'⟩ := p
    have hu' := uniq_cons.1 h
    by_cases hk : k' = k
    · rw [AL.erase, if_pos hk]; exact ih hu'.2
    · have h1 : k' ∉ (AL.erase rest k).map (·.1) := by
        rw [mem_keys_erase]; rintro ⟨_, h1⟩; exact hu'.1 h1
      rw [AL.erase, if_neg hk]; exact uniq_cons.2 ⟨h1, ih hu'.2⟩

theorem mem_iff_of_find?_eq {m m' : AL ν} (hu : Uniq m) (hu' : Uniq m')
    (h : ∀ k, find? m k = find? m' k) (p : Nat × ν) : p ∈ m ↔ p ∈ m' := by
  obtain ⟨k, v⟩ := p
  rw [← find?_eq_some_iff m hu, ← find?_eq_some_iff m' hu', h]

end AL

namespace CacheIdx

variable {α : Type} {key : α → Nat} {F : List α} {ind ind' : AL Nat}

/-- `ind` is exactly the position map of the slice `F`, keyed by `key`.  Generic in the entry
    type: used for the filter cache (the namespace is named after it) and, with `key := id`, for
    `tableIDs` (`TableIDs.WF.isIndex`). -/
def IsIndex (key : α → Nat) (F : List α) (ind : AL Nat) : Prop :=
  ∀ (k i : Nat), AL.find? ind k = some i ↔ ∃ e, F[i]? = some e ∧ key e = k

theorem IsIndex.lt (h : IsIndex key F ind) {k i : Nat} (hk : AL.find? ind k = some i) :
    i < F.length := by
  obtain ⟨e, he, _⟩ := (h k i).1 hk
  exact (List.getElem?_eq_some_iff.1 he).1

theorem IsIndex.pos_inj (h : IsIndex key F ind) {i j : Nat} {e e' : α} (hi : F[i]? = some e)
    (hj : F[j]? = some e') (hk : key e = key e') : i = j :=
  Option.some.inj (((h _ i).2 ⟨e, hi, rfl⟩).symm.trans ((h _ j).2 ⟨e', hj, hk.symm⟩))

/-- appending an entry with a fresh key (`cache.register`, `tableIDs.Append`) -/
theorem IsIndex.append (h : IsIndex key F ind) (e : α) (hfresh : AL.find? ind (key e) = none)
    (hfind : ∀ k, AL.find? ind' k = if k = key e then some F.length else AL.find? ind k) :
    IsIndex key (F ++ [e]) ind' := by
  intro k i
  rw [hfind, List.getElem?_append]
  by_cases hi : i < F.length
  · rw [if_pos hi, ← h k i]
    split
    · rename_i hk; subst hk; rw [hfresh]
      exact ⟨fun hh => absurd (Option.some.inj hh) (Nat.ne_of_gt hi), fun hh => nomatch hh⟩
    · exact Iff.rfl
  · rw [if_neg hi, List.getElem?_singleton]
    constructor
    · intro hh
      split at hh
      · rename_i hk; cases Option.some.inj hh; exact ⟨e, by rw [Nat.sub_self, if_pos rfl], hk.symm⟩
      · exact absurd (h.lt hh) hi
    · rintro ⟨e', he', hk⟩
      split at he'
      · rename_i h0; cases Option.some.inj he'
        rw [if_pos hk.symm, Nat.le_antisymm (Nat.le_of_sub_eq_zero h0) (Nat.le_of_not_lt hi)]
      · cases he'

theorem IsIndex.key_inj (h : IsIndex key F ind) {k k' i : Nat} (hk : AL.find? ind k = some i)
    (hk' : AL.find? ind k' = some i) : k = k' := by
  obtain ⟨e, he, rfl⟩ := (h k i).1 hk
  obtain ⟨e', he', rfl⟩ := (h k' i).1 hk'
  rw [he] at he'; rw [Option.some.inj he']

/-- dropping the last entry `b`: its key is forgotten -/
theorem IsIndex.dropLast (h : IsIndex key F ind) {b : α} (hb : F[F.length - 1]? = some b)
    (hfind : ∀ k, AL.find? ind' k = if k = key b then none else AL.find? ind k) :
    IsIndex key (F.take (F.length - 1)) ind' := by
  intro k i
  rw [hfind, List.getElem?_take]
  by_cases hk : k = key b
  · rw [if_pos hk]
    refine ⟨fun hh => (nomatch hh), ?_⟩
    rintro ⟨e, he, hke⟩
    split at he
    · rename_i hi
      exact absurd (h.pos_inj he hb (hke.trans hk)) (Nat.ne_of_lt hi)
    · cases he
  · rw [if_neg hk, h k i]
    constructor
    · rintro ⟨e, he, hke⟩
      have hne : i ≠ F.length - 1 := by
        rintro rfl; rw [hb] at he; exact hk (by rw [← hke, Option.some.inj he])
      have hi := Nat.lt_of_le_of_ne (Nat.le_sub_one_of_lt (List.getElem?_eq_some_iff.1 he).1) hne
      exact ⟨e, by rw [if_pos hi]; exact he, hke⟩
    · rintro ⟨e, he, hke⟩
      split at he
      · exact ⟨e, he, hke⟩
      · cases he

/-- overwriting the entry with key `id` at `idx` by an entry `b` with a new key -/
theorem IsIndex.set (h : IsIndex key F ind) {id idx : Nat} (hf : AL.find? ind id = some idx)
    {b : α} (hfresh : AL.find? ind (key b) = none)
    (hfind : ∀ k, AL.find? ind' k =
      if k = key b then some idx else if k = id then none else AL.find? ind k) :
    IsIndex key (F.set idx b) ind' := by
  intro k i
  rw [hfind, List.getElem?_set]
  by_cases hk : k = key b
  · -- the new key is found at `idx`, and nowhere else
    rw [if_pos hk]
    by_cases hi : idx = i
    · rw [if_pos hi, if_pos (h.lt hf), hi]
      exact ⟨fun _ => ⟨b, rfl, hk.symm⟩, fun _ => rfl⟩
    · rw [if_neg hi]
      refine ⟨fun hh => absurd (Option.some.inj hh) hi, ?_⟩
      rintro ⟨e, he, hke⟩
      have := (h _ i).2 ⟨e, he, hke.trans hk⟩
      rw [hfresh] at this; cases this
  rw [if_neg hk]
  by_cases hkid : k = id
  · -- the overwritten key is gone
    rw [if_pos hkid]
    refine ⟨fun hh => (nomatch hh), ?_⟩
    rintro ⟨e, he, hke⟩
    by_cases hi : idx = i
    · rw [if_pos hi, if_pos (h.lt hf)] at he
      exact (hk (by rw [← hke, ← Option.some.inj he])).elim
    · rw [if_neg hi] at he
      have := (h k i).2 ⟨e, he, hke⟩
      rw [hkid, hf] at this; exact (hi (Option.some.inj this)).elim
  -- every other key is where it was, which is not `idx`
  rw [if_neg hkid, h k i]
  by_cases hi : idx = i
  · rw [if_pos hi, if_pos (h.lt hf)]
    constructor
    · rintro ⟨e, he, hke⟩
      exact absurd (h.key_inj ((h k i).2 ⟨e, he, hke⟩) (hi ▸ hf)) hkid
    · rintro ⟨e, he, hke⟩
      exact absurd (by rw [← hke, ← Option.some.inj he]) hk
  · rw [if_neg hi]

theorem IsIndex.map (h : IsIndex key F ind) (g : α → α) (hg : ∀ e, key (g e) = key e) :
    IsIndex key (F.map g) ind := by
  intro k i
  rw [h k i, List.getElem?_map]
  constructor
  · rintro ⟨e, he, hk⟩
    exact ⟨g e, by rw [he]; rfl, (hg e).trans hk⟩
  · rintro ⟨e', he', hk⟩
    cases hq : F[i]? with
    | none => rw [hq] at he'; cases he'
    | some e =>
      rw [hq] at he'
      cases Option.some.inj he'
      exact ⟨e, rfl, (hg e).symm.trans hk⟩

end CacheIdx

end Ark
