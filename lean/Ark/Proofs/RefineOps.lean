/-
  Further operations of the non-relation, observer-free fragment under `CInv`: `Exchange`
  (`graph.Find` as a decision procedure) with `Add` and `Remove` as its cases `rem = []`, `add = []`,
  `CopyEntity`, `Shrink`, `Reset`; the three access paths (`Unsafe`, `Map`, `MapN`) give the same
  result; `OpsKeep P`: the world transformers the operations are made of keep `P`.
-/
import Ark.Proofs.RefineCore
import Ark.Proofs.ResetInv
import Ark.Proofs.ShrinkInv

set_option autoImplicit false

namespace Ark

open World Ark.Props.C01World

namespace World

/-- **rejection**: `Add` on a dead handle, through any path: `Unsafe.Add` and `Map.Add` check
    `Alive` first, `MapN.Add` leaves it to `World.add`; without relations nothing happens in
    between, so the result is the same -/
theorem opAdd_dead_any (run : ProbeRunner) (p : Path) (e : Ent) (ids : List Comp)
    (vals : List (Comp × Val)) (w : World) (hl : w.isLocked = false) (hd : w.alive e = false) :
    opAdd run p e ids vals [] w = .panic .deadEntity w := by
  have hcore := addCore_dead w hl e hd ids []
  cases p <;>
  simp [opAdd, preCheck_nil, bind, M.bind, M.get, M.assert, hd,
    hcore, pure, M.pure]

theorem opRemove_dead_any (run : ProbeRunner) (p : Path) (e : Ent) (ids : List Comp) (w : World)
    (hl : w.isLocked = false) (hd : w.alive e = false) :
    opRemove run p e ids w = .panic .deadEntity w := by
  have hcore := removeCore_dead run w hl e hd ids
  cases p <;> simp [opRemove, bind, M.bind, M.get, M.assert, hd, hcore]

end World

namespace World

theorem graphFind_go_ok (start : Mask) (w : World) : ∀ (add : List Comp) (m : Mask),
    (∀ (c : Comp), c ∈ add → c < 256) → add.Nodup →
    (∀ (c : Comp), c ∈ add → m.get c = false ∧ start.get c = false) →
    graphFind.go start w m add = .ok (add.foldl Mask.set m) w
  | [], _, _, _, _ => rfl
  | c :: rest, m, hb, hnd, hp => by
    obtain ⟨h1, h2⟩ := hp c List.mem_cons_self
    simp only [graphFind.go, h1, h2, Bool.false_eq_true, if_false, List.foldl_cons]
    apply graphFind_go_ok start w rest (m.set c) (fun c' hc' => hb c' (List.mem_cons_of_mem _ hc'))
      (List.nodup_cons.1 hnd).2
    intro c' hc'
    obtain ⟨a, b⟩ := hp c' (List.mem_cons_of_mem _ hc')
    refine ⟨?_, b⟩
    have hne : c' ≠ c := by
      rintro rfl
      exact (List.nodup_cons.1 hnd).1 hc'
    rw [Mask.get_set, a]
    simp [hne]

theorem graphFind_go_bad (start : Mask) (w : World) : ∀ (add : List Comp) (m : Mask),
    (∀ (c : Comp), c ∈ add → c < 256) →
    ¬ (add.Nodup ∧ ∀ (c : Comp), c ∈ add → m.get c = false ∧ start.get c = false) →
    graphFind.go start w m add = .panic .alreadyHas w ∨
    graphFind.go start w m add = .panic .addedAndRemoved w
  | [], _, _, h => absurd ⟨List.nodup_nil, fun _ hc => by cases hc⟩ h
  | c :: rest, m, hb, h => by
    simp only [graphFind.go]
    cases hc : m.get c with
    | true => left; rfl
    | false =>
      simp only [Bool.false_eq_true, if_false]
      cases hs : start.get c with
      | true => right; rfl
      | false =>
        simp only [Bool.false_eq_true, if_false]
        refine graphFind_go_bad start w rest (m.set c)
          (fun c' hc' => hb c' (List.mem_cons_of_mem _ hc'))
          fun hh => h (nodup_cons_of_walk ?_ ⟨hc, hs⟩ hh)
        intro c' hc' hg
        rw [Mask.get_set] at hg
        by_cases he : c' = c
        · subst he; simp [hb c' (List.mem_cons_of_mem _ hc')] at hg
        · exact ⟨he, by simpa [he] using hg.1, hg.2⟩

theorem graphFind_ok (start : Mask) (add rem : List Comp) (w : World)
    (hb : ∀ (c : Comp), c ∈ add → c < 256) (hrnd : rem.Nodup)
    (hpres : ∀ (c : Comp), c ∈ rem → start.get c = true) (hand : add.Nodup)
    (hnew : ∀ (c : Comp), c ∈ add → start.get c = false) :
    graphFind start start add rem w =
      .ok (add.foldl Mask.set (rem.foldl Mask.clear start)) w := by
  simp only [graphFind, graphFindRemove_ok start rem w hpres hrnd]
  apply graphFind_go_ok start w add _ hb hand
  intro c hc
  refine ⟨?_, hnew c hc⟩
  rw [Mask.get_foldl_clear, hnew c hc]; rfl

/-- **rejection** of `graph.Find`: lists that fail the precondition are refused, state unchanged.
    The walk reports `missing` for a removed component that is absent (or listed twice),
    `alreadyHas` for an added one that is present after the removal (or listed twice),
    `addedAndRemoved` for one that is both removed and added; the statement only says that the
    class is one of the three -/
theorem graphFind_bad (start : Mask) (add rem : List Comp) (w : World)
    (hb : ∀ (c : Comp), c ∈ add → c < 256)
    (h : ¬ (rem.Nodup ∧ (∀ (c : Comp), c ∈ rem → start.get c = true) ∧ add.Nodup ∧
      ∀ (c : Comp), c ∈ add → start.get c = false)) :
    ∃ k, (k = .missing ∨ k = .alreadyHas ∨ k = .addedAndRemoved) ∧
      graphFind start start add rem w = .panic k w := by
  by_cases hr : rem.Nodup ∧ ∀ (c : Comp), c ∈ rem → start.get c = true
  · simp only [graphFind, graphFindRemove_ok start rem w hr.2 hr.1]
    have hbad : ¬ (add.Nodup ∧ ∀ (c : Comp), c ∈ add →
        (rem.foldl Mask.clear start).get c = false ∧ start.get c = false) :=
      fun hh => h ⟨hr.1, hr.2, hh.1, fun c hc => (hh.2 c hc).2⟩
    rcases graphFind_go_bad start w add _ hb hbad with hk | hk
    · exact ⟨_, Or.inr (Or.inl rfl), hk⟩
    · exact ⟨_, Or.inr (Or.inr rfl), hk⟩
  · refine ⟨_, Or.inl rfl, ?_⟩
    simp only [graphFind, graphFindRemove_bad start rem w hr]

/-- when the old table lists no relation, `findOrCreateTable` (exchange) is the mask walk followed
    by the tail of `findOrCreateTableAdd` for the resulting mask -/
theorem findOrCreateTable_eq_add (oldT : Nat) (startMask m : Mask) (add rem : List Comp)
    (w : World) (hg : graphFind startMask startMask add rem w = .ok m w)
    (hrel0 : (w.tbl oldT).relIDs = []) :
    findOrCreateTable oldT startMask add rem [] w =
      match findOrCreateTableAdd oldT m [] [] w with
      | .ok r w' => .ok (r.1, r.2.1, r.2.2, false) w'
      | .panic k w' => .panic k w' := by
  have hx : xchgRels (w.tbl oldT) m rem [] = [] ∧ xchgRelRemoved (w.tbl oldT) m rem = false := by
    unfold xchgRels xchgRelRemoved relsForAdd
    rw [hrel0]; split <;> exact ⟨rfl, rfl⟩
  simp only [findOrCreateTable_eq, findOrCreateTableAdd_eq, bind, M.bind, hg, hx.1, hx.2, hrel0,
    relsForAdd, graphFindAdd, graphFindAdd.go, List.isEmpty_nil, if_true]
  cases tableFor m [] w <;> rfl

end World

namespace World

theorem exchangeCore_eq (run : ProbeRunner) (e : Ent) (add rem : List Comp) (w : World)
    (hl : w.isLocked = false) (ha : w.alive e = true) (hne : ¬ (add = [] ∧ rem = []))
    {oldT row : Nat} (hix : w.index e.id = (oldT, row)) {t a : Nat} {m : Mask} {rr : Bool}
    {w1 : World}
    (hfoc : findOrCreateTable oldT (w.arch (w.tbl oldT).arch).mask add rem [] w =
      .ok (t, a, m, rr) w1)
    (hno : ∀ evt : Nat, w1.obs.hasObservers evt = false) :
    exchangeCore run e add rem [] w =
      .ok ((w.arch (w.tbl oldT).arch).mask, ((addMove w1 e oldT row t m).arch a).mask)
        (addMove w1 e oldT row t m) := by
  have := exchangeCore_rel_eq run e add rem [] w hl ha hne hix hfoc hno
  rwa [registerW_nil] at this

/-- a mask walk that fails fails `World.exchange`, with its class and the world as it was -/
theorem exchangeCore_reject_kind (run : ProbeRunner) (e : Ent) (add rem : List Comp)
    (rels : List RelID) (w : World) (hl : w.isLocked = false) (ha : w.alive e = true)
    (hne : ¬ (add = [] ∧ rem = [])) {k : PanicKind}
    (hg : graphFind (w.maskOf e) (w.maskOf e) add rem w = .panic k w) :
    exchangeCore run e add rem rels w = .panic k w := by
  have hemp := isEmpty_and_eq_false hne
  cases hix : w.index e.id with
  | mk oldT row =>
    rw [maskOf_eq hix] at hg
    simp only [exchangeCore, bind, M.bind, checkLocked_unlocked w hl, M.get, M.assert, ha, if_true,
      hemp, Bool.not_false, hix, findOrCreateTable_eq, hg]

theorem exchangeCore_reject (run : ProbeRunner) (e : Ent) (add rem : List Comp) (rels : List RelID)
    (w : World) (hl : w.isLocked = false) (ha : w.alive e = true) (hne : ¬ (add = [] ∧ rem = []))
    (hb : ∀ (c : Comp), c ∈ add → c < 256)
    (h : ¬ (rem.Nodup ∧ (∀ (c : Comp), c ∈ rem → (w.maskOf e).get c = true) ∧ add.Nodup ∧
      ∀ (c : Comp), c ∈ add → (w.maskOf e).get c = false)) :
    ∃ k, (k = .missing ∨ k = .alreadyHas ∨ k = .addedAndRemoved) ∧
      exchangeCore run e add rem rels w = .panic k w := by
  obtain ⟨k, hk, hg⟩ := graphFind_bad (w.maskOf e) add rem w hb h
  exact ⟨k, hk, exchangeCore_reject_kind run e add rem rels w hl ha hne hg⟩

end World

structure ExchangePost (w : World) (fl : List Nat) (e : Ent) (add rem : List Comp) (w' : World) :
    Prop where
  cinv : CInv w' fl
  unlocked : w'.isLocked = w.isLocked
  kinds : w'.kinds = w.kinds
  pool : w'.pool = w.pool
  maxComps : w'.maxComps = w.maxComps
  aliveSame : ∀ x : Ent, w'.alive x = w.alive x
  comps : compsOf w' e.id =
    some ((add.foldl Mask.set (rem.foldl Mask.clear (w.maskOf e))).toList w.kinds.length)
  kept : ∀ c : Comp, (w.maskOf e).get c = true → c ∉ rem → valOf w' e.id c = valOf w e.id c
  gone : ∀ c : Comp, c ∈ rem → valOf w' e.id c = none
  added : ∀ c : Comp, c ∈ add → valOf w' e.id c = some 0
  frame : ∀ j : Nat, j ≠ e.id → SameEnt w w' j
  tablesLen : w'.tables.length ≤ w.tables.length + 1
  entitiesLen : w'.entities.length = w.entities.length

/-- exchanging components changes the mask: a mask that has the components of `rem` and lacks those
    of `add` differs from the exchanged one in the first component listed -/
theorem Mask.exchange_ne {m : Mask} {add rem : List Comp} (hne : ¬ (add = [] ∧ rem = []))
    (hpres : ∀ (c : Comp), c ∈ rem → m.get c = true) (hb256 : ∀ (c : Comp), c ∈ add → c < 256)
    (hnew : ∀ (c : Comp), c ∈ add → m.get c = false) :
    add.foldl Mask.set (rem.foldl Mask.clear m) ≠ m := by
  intro heq
  have hgc := fun c => congrArg (fun m => Mask.get m c) heq
  simp only [Mask.get_ofList_foldl, Mask.get_foldl_clear] at hgc
  cases add with
  | cons c rest =>
    have := hgc c
    rw [hnew c List.mem_cons_self] at this
    simp [hb256 c List.mem_cons_self] at this
  | nil =>
    cases rem with
    | nil => exact hne ⟨rfl, rfl⟩
    | cons c rest =>
      have := hgc c
      rw [hpres c List.mem_cons_self] at this
      simp at this

/-- **the table lookup of `World.exchange`, from a table** `t` of the fragment whose mask satisfies the
    precondition of `Exchange(add, rem)`: the mask walk succeeds, and `findOrCreateTable` returns the
    table `d` (another one than `t`) of the archetype with the new mask; tables that existed are
    unchanged.  The single operation looks up from the table of its entity (`CInv.exchange_lookup`),
    the batches from every non-empty selected table. -/
theorem CInv.table_lookup {w : World} {fl : List Nat} (h : CInv w fl) {t : Nat}
    (ht : t < w.tables.length) {m : Mask} (hm : (w.arch (w.tbl t).arch).mask = m)
    {add rem : List Comp} (hne : ¬ (add = [] ∧ rem = [])) (hrnd : rem.Nodup)
    (hpres : ∀ (c : Comp), c ∈ rem → m.get c = true) (hand : add.Nodup)
    (hreg : ∀ (c : Comp), c ∈ add → c < w.kinds.length)
    (hnew : ∀ (c : Comp), c ∈ add → m.get c = false) :
    ∃ (d a : Nat) (w1 : World),
      findOrCreateTableAdd t (add.foldl Mask.set (rem.foldl Mask.clear m)) [] [] w =
        .ok (d, a, add.foldl Mask.set (rem.foldl Mask.clear m)) w1 ∧
      findOrCreateTable t m add rem [] w =
        .ok (d, a, add.foldl Mask.set (rem.foldl Mask.clear m), false) w1 ∧
      FoundOrCreated w w1 (add.foldl Mask.set (rem.foldl Mask.clear m)) d a ∧
      IdxInv w1 ∧ (∀ (t' : Nat), t' < w.tables.length → w1.tables[t']? = w.tables[t']?) ∧ d ≠ t := by
  subst hm
  obtain ⟨A, hA, _⟩ := h.sinv.tblArch t _ (get_of_lt ht)
  have hb256 : ∀ (c : Comp), c ∈ add → c < 256 := fun c hc => h.reg_lt_256 (hreg c hc)
  have hrel0 : (w.tbl t).relIDs = [] := h.relIDs_nil ht
  have hg := graphFind_ok _ add rem w hb256 hrnd hpres hand hnew
  have hregM : ∀ c : Nat, (add.foldl Mask.set
      (rem.foldl Mask.clear (w.arch (w.tbl t).arch).mask)).get c = true → c < w.kinds.length :=
    Mask.get_foldl_set_reg (fun c hc => by
      rw [Mask.get_foldl_clear, Bool.and_eq_true, arch_of_get hA] at hc
      exact h.sinv.maskReg _ A hA c hc.1) hreg
  obtain ⟨d, a, w1, hok, fc, hI1, hsame⟩ := h.sinv.foc_nil_spec h.idx h.noRelKinds hrel0 hregM
  exact ⟨d, a, w1, hok, by rw [findOrCreateTable_eq_add t _ _ add rem w hg hrel0, hok], fc, hI1, hsame,
    fc.ne_old h.sinv ht (Mask.exchange_ne hne hpres hb256 hnew)⟩

/-- … for a live entity: the lookup from its table -/
theorem CInv.exchange_lookup {w : World} {fl : List Nat} (h : CInv w fl) {e : Ent} (h2 : 2 ≤ e.id)
    (hnf : e.id ∉ fl) (ha : w.alive e = true) (hin : e.id < w.pool.ents.length)
    {add rem : List Comp} (hne : ¬ (add = [] ∧ rem = [])) (hrnd : rem.Nodup)
    (hpres : ∀ (c : Comp), c ∈ rem → (w.maskOf e).get c = true) (hand : add.Nodup)
    (hreg : ∀ (c : Comp), c ∈ add → c < w.kinds.length)
    (hnew : ∀ (c : Comp), c ∈ add → (w.maskOf e).get c = false) :
    ∃ (oldT row t a : Nat) (w1 : World), w.entities[e.id]? = some (oldT, row) ∧ oldT ≠ maxU32 ∧
      w.maskOf e = (w.arch (w.tbl oldT).arch).mask ∧
      findOrCreateTableAdd oldT (add.foldl Mask.set (rem.foldl Mask.clear (w.maskOf e))) [] [] w =
        .ok (t, a, add.foldl Mask.set (rem.foldl Mask.clear (w.maskOf e))) w1 ∧
      findOrCreateTable oldT (w.maskOf e) add rem [] w =
        .ok (t, a, add.foldl Mask.set (rem.foldl Mask.clear (w.maskOf e)), false) w1 ∧
      FoundOrCreated w w1 (add.foldl Mask.set (rem.foldl Mask.clear (w.maskOf e))) t a ∧
      IdxInv w1 ∧ (∀ (t' : Nat), t' < w.tables.length → w1.tables[t']? = w.tables[t']?) ∧
      t ≠ oldT := by
  obtain ⟨oldT, row, he, ht, _⟩ := h.live_entry h2 hnf ha hin
  have hm := maskOf_eq (index_of_get he)
  obtain ⟨t, a, w1, r⟩ :=
    h.table_lookup (h.table_of_entry he ht).1 hm.symm hne hrnd hpres hand hreg hnew
  exact ⟨oldT, row, t, a, w1, he, ht, hm, r⟩

/-- `World.exchange` without relations on a live entity: if not both lists are empty, `rem` is
    distinct and present, `add` distinct, registered and absent, and there is room for one more
    table and row, it succeeds, returns the old and the new mask, and `ExchangePost` holds -/
theorem exchangeCore_spec (run : ProbeRunner) {w : World} {fl : List Nat} (h : CInv w fl)
    (hl : w.isLocked = false) {e : Ent} (h2 : 2 ≤ e.id) (hnf : e.id ∉ fl) (ha : w.alive e = true)
    (hin : e.id < w.pool.ents.length)
    {add rem : List Comp} (hne : ¬ (add = [] ∧ rem = [])) (hrnd : rem.Nodup)
    (hpres : ∀ (c : Comp), c ∈ rem → (w.maskOf e).get c = true) (hand : add.Nodup)
    (hreg : ∀ (c : Comp), c ∈ add → c < w.kinds.length)
    (hnew : ∀ (c : Comp), c ∈ add → (w.maskOf e).get c = false)
    (hfew : w.tables.length < maxU32) (hrows : ∀ t : Nat, (w.tbl t).len + 1 < 2 ^ 32) :
    ∃ w', exchangeCore run e add rem [] w =
        .ok (w.maskOf e, add.foldl Mask.set (rem.foldl Mask.clear (w.maskOf e))) w' ∧
      ExchangePost w fl e add rem w' := by
  obtain ⟨oldT, row, t, a, w1, he, ht, hm, hok, hfoc, fc, _, hsame, hneT⟩ :=
    h.exchange_lookup h2 hnf ha hin hne hrnd hpres hand hreg hnew
  have hix := index_of_get he
  have hb256 : ∀ (c : Comp), c ∈ add → c < 256 := fun c hc => h.reg_lt_256 (hreg c hc)
  have hu := findOrCreateTableAdd_untouched hok
  have hlen1 := findOrCreateTableAdd_tables_len hok
  obtain ⟨mp, hma⟩ := h.move_spec he ht fc hu hsame hneT hlen1 hfew hrows
  -- no observers: the event block is skipped
  have heq := exchangeCore_eq run e add rem w hl ha hne hix (hm ▸ hfoc)
    (by rw [hu.obs]; exact h.noObs)
  rw [← hm, hma] at heq
  rw [← hm] at mp
  obtain ⟨hkept, hgone, hadded⟩ := mp.exchange (h.comps_of_live h2 hnf ha hin).2 hreg hb256 hnew
  exact ⟨_, heq,
    { cinv := mp.cinv
      unlocked := mp.unlocked
      kinds := mp.kinds
      pool := mp.pool
      maxComps := mp.maxComps
      aliveSame := mp.aliveSame
      comps := mp.comps
      kept := hkept
      gone := fun c hc => hgone c hc fun hca => by
        have := hnew c hca
        rw [hpres c hc] at this; cases this
      added := hadded
      frame := mp.frame
      tablesLen := mp.tablesLen
      entitiesLen := mp.entitiesLen }⟩

/-! ### `World.add` and `World.remove`: `World.exchange` with one list empty

(`addCore_eq_exchangeCore`, `removeCore_eq_exchangeCore` in `Proofs/ExchangeCases`) -/

structure AddPost (w : World) (fl : List Nat) (e : Ent) (add : List Comp) (w' : World) : Prop where
  cinv : CInv w' fl
  unlocked : w'.isLocked = w.isLocked
  kinds : w'.kinds = w.kinds
  pool : w'.pool = w.pool
  maxComps : w'.maxComps = w.maxComps
  aliveSame : ∀ x : Ent, w'.alive x = w.alive x
  comps : compsOf w' e.id = some ((add.foldl Mask.set (w.maskOf e)).toList w.kinds.length)
  kept : ∀ c : Comp, (w.maskOf e).get c = true → valOf w' e.id c = valOf w e.id c
  added : ∀ c : Comp, c ∈ add → valOf w' e.id c = some 0
  frame : ∀ j : Nat, j ≠ e.id → SameEnt w w' j
  tablesLen : w'.tables.length ≤ w.tables.length + 1
  entitiesLen : w'.entities.length = w.entities.length

structure RemovePost (w : World) (fl : List Nat) (e : Ent) (rem : List Comp) (w' : World) : Prop where
  cinv : CInv w' fl
  unlocked : w'.isLocked = w.isLocked
  kinds : w'.kinds = w.kinds
  pool : w'.pool = w.pool
  maxComps : w'.maxComps = w.maxComps
  aliveSame : ∀ x : Ent, w'.alive x = w.alive x
  comps : compsOf w' e.id = some ((rem.foldl Mask.clear (w.maskOf e)).toList w.kinds.length)
  kept : ∀ c : Comp, (w.maskOf e).get c = true → c ∉ rem → valOf w' e.id c = valOf w e.id c
  gone : ∀ c : Comp, c ∈ rem → valOf w' e.id c = none
  frame : ∀ j : Nat, j ≠ e.id → SameEnt w w' j
  tablesLen : w'.tables.length ≤ w.tables.length + 1
  entitiesLen : w'.entities.length = w.entities.length

theorem removeCore_spec (run : ProbeRunner) {w : World} {fl : List Nat} (h : CInv w fl)
    (hl : w.isLocked = false) {e : Ent} (h2 : 2 ≤ e.id) (hnf : e.id ∉ fl) (ha : w.alive e = true)
    (hin : e.id < w.pool.ents.length)
    {rem : List Comp} (hne : rem ≠ []) (hnd : rem.Nodup)
    (hpres : ∀ (c : Comp), c ∈ rem → (w.maskOf e).get c = true)
    (hfew : w.tables.length < maxU32) (hrows : ∀ t : Nat, (w.tbl t).len + 1 < 2 ^ 32) :
    ∃ w', removeCore run e rem w = .ok () w' ∧ RemovePost w fl e rem w' := by
  obtain ⟨w', hx, ep⟩ := exchangeCore_spec run h hl h2 hnf ha hin (add := [])
    (fun hh => hne hh.2) hnd hpres List.nodup_nil (fun _ hc => nomatch hc) (fun _ hc => nomatch hc)
    hfew hrows
  exact ⟨w', by rw [removeCore_eq_exchangeCore, M.bind, hx]; rfl,
    { cinv := ep.cinv, unlocked := ep.unlocked, kinds := ep.kinds, pool := ep.pool
      maxComps := ep.maxComps, aliveSame := ep.aliveSame, comps := ep.comps
      kept := ep.kept, gone := ep.gone, frame := ep.frame, tablesLen := ep.tablesLen
      entitiesLen := ep.entitiesLen }⟩

namespace World

theorem opExchange_rel_eq (run : ProbeRunner) (p : Path) (e : Ent) (add : List Comp)
    (vals : List (Comp × Val)) (rem : List Comp) (rels : List RelID) (w : World)
    (ha : w.alive e = true) (hpre : preCheck p add rels w = .ok () w) {old new : Mask} {w2 : World}
    (hcore : exchangeCore run e add rem rels w = .ok (old, new) w2)
    (hno : ∀ (evt : Nat), w2.obs.hasObservers evt = false) :
    opExchange run p e add vals rem rels w = .ok () (writeValsW w2 e vals) := by
  have hno2 : ∀ (evt : Nat), (writeValsW w2 e vals).obs.hasObservers evt = false := hno
  cases hre : rels.isEmpty <;> cases hae : add.isEmpty <;> cases p <;>
  simp [opExchange, hpre, bind, M.bind, M.get, M.assert, ha, hcore, writeVals_eq, fireAddIfHas_none,
    hno, hno2, hre, hae, pure, M.pure]

theorem opExchange_eq (run : ProbeRunner) (p : Path) (e : Ent) (add : List Comp)
    (vals : List (Comp × Val)) (rem : List Comp) (w : World) (ha : w.alive e = true)
    {old new : Mask} {w' : World}
    (hcore : exchangeCore run e add rem [] w = .ok (old, new) w')
    (hno : ∀ evt : Nat, w'.obs.hasObservers evt = false) :
    opExchange run p e add vals rem [] w = .ok () (writeValsW w' e vals) :=
  opExchange_rel_eq run p e add vals rem [] w ha (preCheck_nil_apply p add w) hcore hno

theorem opExchange_panic (run : ProbeRunner) (p : Path) (e : Ent) (add : List Comp)
    (vals : List (Comp × Val)) (rem : List Comp) (w : World) (ha : w.alive e = true)
    {k : PanicKind} {w' : World} (hcore : exchangeCore run e add rem [] w = .panic k w') :
    opExchange run p e add vals rem [] w = .panic k w' := by
  cases p <;>
  simp [opExchange, preCheck, preCheckMap, preCheckTyped, M.forM', bind, M.bind, M.get, M.assert,
    ha, hcore, pure, M.pure]

/-- **rejection**: `Exchange` on a dead handle, through any path (`Unsafe.Exchange` checks `Alive`
    first, `ExchangeN.Exchange` leaves it to `World.exchange`) -/
theorem opExchange_dead_any (run : ProbeRunner) (p : Path) (e : Ent) (add : List Comp)
    (vals : List (Comp × Val)) (rem : List Comp) (w : World) (hl : w.isLocked = false)
    (hd : w.alive e = false) :
    opExchange run p e add vals rem [] w = .panic .deadEntity w := by
  have hcore := exchangeCore_dead run w hl e hd add rem []
  cases p <;>
  simp [opExchange, preCheck, preCheckMap, preCheckTyped, M.forM', bind, M.bind, M.get, M.assert,
    hd, hcore, pure, M.pure]

end World

structure OpExchangePost (w : World) (fl : List Nat) (e : Ent) (add rem : List Comp)
    (vals : List (Comp × Val)) (w' : World) : Prop where
  cinv : CInv w' fl
  unlocked : w'.isLocked = w.isLocked
  kinds : w'.kinds = w.kinds
  pool : w'.pool = w.pool
  maxComps : w'.maxComps = w.maxComps
  aliveSame : ∀ x : Ent, w'.alive x = w.alive x
  comps : compsOf w' e.id =
    some ((add.foldl Mask.set (rem.foldl Mask.clear (w.maskOf e))).toList w.kinds.length)
  /-- a component that stays: its old value, overwritten by the last write to it (if any) -/
  kept : ∀ (c : Comp) (v : Val), (w.maskOf e).get c = true → c ∉ rem → valOf w e.id c = some v →
    valOf w' e.id c = some (if (w.kinds.getD c {}).zst = true then v else applyVals v vals c)
  /-- a removed component is gone (a write to it has no effect) -/
  gone : ∀ c : Comp, c ∈ rem → valOf w' e.id c = none
  /-- an added component: the last value written to it, zero if none (always zero if zero-size) -/
  added : ∀ c : Comp, c ∈ add →
    valOf w' e.id c = some (if (w.kinds.getD c {}).zst = true then 0 else applyVals 0 vals c)
  frame : ∀ j : Nat, j ≠ e.id → SameEnt w w' j
  tablesLen : w'.tables.length ≤ w.tables.length + 1
  entitiesLen : w'.entities.length = w.entities.length

/-- **`Exchange` accepted**, through any path: `World.exchange` succeeds with `ExchangePost`, and the
    call is that followed by the writes, with `OpExchangePost` -/
theorem opExchange_spec (run : ProbeRunner) (p : Path) {w : World} {fl : List Nat} (h : CInv w fl)
    (hl : w.isLocked = false) {e : Ent} (h2 : 2 ≤ e.id) (hnf : e.id ∉ fl) (ha : w.alive e = true)
    (hin : e.id < w.pool.ents.length)
    {add rem : List Comp} (hne : ¬ (add = [] ∧ rem = [])) (hrnd : rem.Nodup)
    (hpres : ∀ (c : Comp), c ∈ rem → (w.maskOf e).get c = true) (hand : add.Nodup)
    (hreg : ∀ (c : Comp), c ∈ add → c < w.kinds.length)
    (hnew : ∀ (c : Comp), c ∈ add → (w.maskOf e).get c = false) (vals : List (Comp × Val))
    (hfew : w.tables.length < maxU32) (hrows : ∀ t : Nat, (w.tbl t).len + 1 < 2 ^ 32) :
    ∃ w1 : World, exchangeCore run e add rem [] w =
        .ok (w.maskOf e, add.foldl Mask.set (rem.foldl Mask.clear (w.maskOf e))) w1 ∧
      ExchangePost w fl e add rem w1 ∧
      opExchange run p e add vals rem [] w = .ok () (writeValsW w1 e vals) ∧
      OpExchangePost w fl e add rem vals (writeValsW w1 e vals) := by
  obtain ⟨w1, hcore, ep⟩ :=
    exchangeCore_spec run h hl h2 hnf ha hin hne hrnd hpres hand hreg hnew hfew hrows
  have ha1 : w1.alive e = true := by rw [ep.aliveSame]; exact ha
  have wp := ep.cinv.writeVals h2 hnf ha1 (by rw [ep.pool]; exact hin) vals
  refine ⟨w1, hcore, ep, opExchange_eq run p e add vals rem w ha hcore ep.cinv.noObs, ?_⟩
  exact
    { cinv := wp.cinv
      unlocked := wp.unlocked.trans ep.unlocked
      kinds := wp.kinds.trans ep.kinds
      pool := wp.pool.trans ep.pool
      maxComps := wp.maxComps.trans ep.maxComps
      aliveSame := fun x => (wp.aliveSame x).trans (ep.aliveSame x)
      comps := wp.comps.trans ep.comps
      kept := by
        intro c v hc hnr hv
        rw [wp.vals c v (by rw [ep.kept c hc hnr]; exact hv), ep.kinds]
      gone := fun c hc => wp.absent c (ep.gone c hc)
      added := by
        intro c hc
        rw [wp.vals c 0 (ep.added c hc), ep.kinds]
      frame := fun j hj => (ep.frame j hj).trans (wp.frame j hj)
      tablesLen := by rw [wp.tablesLen]; exact ep.tablesLen
      entitiesLen := wp.entitiesLen.trans ep.entitiesLen }

structure OpAddPost (w : World) (fl : List Nat) (e : Ent) (add : List Comp)
    (vals : List (Comp × Val)) (w' : World) : Prop where
  cinv : CInv w' fl
  unlocked : w'.isLocked = w.isLocked
  kinds : w'.kinds = w.kinds
  pool : w'.pool = w.pool
  maxComps : w'.maxComps = w.maxComps
  aliveSame : ∀ x : Ent, w'.alive x = w.alive x
  comps : compsOf w' e.id = some ((add.foldl Mask.set (w.maskOf e)).toList w.kinds.length)
  /-- a component the entity had: its old value, overwritten by the last write to it (if any) -/
  kept : ∀ (c : Comp) (v : Val), (w.maskOf e).get c = true → valOf w e.id c = some v →
    valOf w' e.id c = some (if (w.kinds.getD c {}).zst = true then v else applyVals v vals c)
  /-- an added component: the last value written to it, zero if none (always zero if zero-size) -/
  added : ∀ c : Comp, c ∈ add →
    valOf w' e.id c = some (if (w.kinds.getD c {}).zst = true then 0 else applyVals 0 vals c)
  frame : ∀ j : Nat, j ≠ e.id → SameEnt w w' j
  tablesLen : w'.tables.length ≤ w.tables.length + 1
  entitiesLen : w'.entities.length = w.entities.length

/-- **`Add` accepted**: the case `rem = []` of `opExchange_spec` -/
theorem opAdd_spec (run : ProbeRunner) (p : Path) {w : World} {fl : List Nat} (h : CInv w fl)
    (hl : w.isLocked = false) {e : Ent} (h2 : 2 ≤ e.id) (hnf : e.id ∉ fl) (ha : w.alive e = true)
    (hin : e.id < w.pool.ents.length)
    {add : List Comp} (hne : add ≠ []) (hnd : add.Nodup)
    (hreg : ∀ (c : Comp), c ∈ add → c < w.kinds.length)
    (hnew : ∀ (c : Comp), c ∈ add → (w.maskOf e).get c = false) (vals : List (Comp × Val))
    (hfew : w.tables.length < maxU32) (hrows : ∀ t : Nat, (w.tbl t).len + 1 < 2 ^ 32) :
    ∃ w1 : World, addCore e add [] w = .ok (w.maskOf e, add.foldl Mask.set (w.maskOf e)) w1 ∧
      AddPost w fl e add w1 ∧ opAdd run p e add vals [] w = .ok () (writeValsW w1 e vals) ∧
      OpAddPost w fl e add vals (writeValsW w1 e vals) := by
  obtain ⟨w1, hx, ep, _, xp⟩ := opExchange_spec run p h hl h2 hnf ha hin (rem := [])
    (fun hh => hne hh.1) List.nodup_nil (fun _ hc => nomatch hc) hnd hreg hnew vals hfew hrows
  have hcore : addCore e add [] w = .ok (w.maskOf e, add.foldl Mask.set (w.maskOf e)) w1 := by
    rw [addCore_eq_exchangeCore run]; exact hx
  exact ⟨w1, hcore,
    { cinv := ep.cinv, unlocked := ep.unlocked, kinds := ep.kinds, pool := ep.pool
      maxComps := ep.maxComps, aliveSame := ep.aliveSame, comps := ep.comps
      kept := fun c hc => ep.kept c hc List.not_mem_nil
      added := ep.added, frame := ep.frame, tablesLen := ep.tablesLen
      entitiesLen := ep.entitiesLen },
    opAdd_eq run p e add vals w ha hcore ep.cinv.noObs,
    { cinv := xp.cinv, unlocked := xp.unlocked, kinds := xp.kinds, pool := xp.pool
      maxComps := xp.maxComps, aliveSame := xp.aliveSame, comps := xp.comps
      kept := fun c v hc hv => xp.kept c v hc List.not_mem_nil hv
      added := xp.added, frame := xp.frame, tablesLen := xp.tablesLen
      entitiesLen := xp.entitiesLen }⟩

theorem opRemove_spec (run : ProbeRunner) (p : Path) {w : World} {fl : List Nat} (h : CInv w fl)
    (hl : w.isLocked = false) {e : Ent} (h2 : 2 ≤ e.id) (hnf : e.id ∉ fl) (ha : w.alive e = true)
    (hin : e.id < w.pool.ents.length)
    {rem : List Comp} (hne : rem ≠ []) (hnd : rem.Nodup)
    (hpres : ∀ (c : Comp), c ∈ rem → (w.maskOf e).get c = true)
    (hfew : w.tables.length < maxU32) (hrows : ∀ t : Nat, (w.tbl t).len + 1 < 2 ^ 32) :
    ∃ w', opRemove run p e rem w = .ok () w' ∧ RemovePost w fl e rem w' := by
  rw [opRemove_eq run p e rem w ha]
  exact removeCore_spec run h hl h2 hnf ha hin hne hnd hpres hfew hrows

namespace Table

theorem copyCells_spec (row idx : Nat) (hne : row ≠ idx) : ∀ (l : List Nat) (T : Table),
    T.Shape → idx < T.len →
    (∀ i ∈ l, i < T.ids.length) →
    WriteRel idx T (l.foldl (fun T i => T.setCell i idx (T.cell i row)) T) ∧
    ∀ j ∈ l, (l.foldl (fun T i => T.setCell i idx (T.cell i row)) T).cell j idx = T.cell j row
  | [], T, _, _, _ => ⟨WriteRel.refl idx T, fun _ hj => by cases hj⟩
  | i :: rest, T, hS, hidx, hl => by
    have hw1 := setCell_writeRel T i idx (T.cell i row) hidx
    have hS1 := hw1.shape hS
    obtain ⟨hw2, hc2⟩ := copyCells_spec row idx hne rest (T.setCell i idx (T.cell i row)) hS1
      (by rw [hw1.len]; exact hidx)
      (fun k hk => by rw [hw1.ids]; exact hl k (List.mem_cons_of_mem _ hk))
    simp only [List.foldl_cons]
    refine ⟨hw1.trans hw2, fun j hj => ?_⟩
    by_cases hjr : j ∈ rest
    · rw [hc2 j hjr]; exact hw1.other j row hne
    · have hji : j = i := by
        rcases List.mem_cons.mp hj with h1 | h1
        · exact h1
        · exact absurd h1 hjr
      subst hji
      -- the cell is not touched by the rest of the loop
      have hkeep : ∀ (l : List Nat) (U : Table), j ∉ l →
          (l.foldl (fun T i => T.setCell i idx (T.cell i row)) U).cell j idx = U.cell j idx := by
        intro l
        induction l with
        | nil => intro U _; rfl
        | cons k l ih =>
          intro U hk
          simp only [List.foldl_cons]
          rw [ih _ (fun hh => hk (List.mem_cons_of_mem _ hh))]
          exact setCell_cell_ne U k idx _ j idx
            (Or.inl (fun hh => hk (by rw [hh]; exact List.mem_cons_self)))
      rw [hkeep rest _ hjr]
      cases hz : T.zst.getD j false with
      | true =>
        rw [setCell_zst T j idx _ hz, hS.zst_zero j hz idx, hS.zst_zero j hz row]
      | false =>
        exact setCell_cell_self hS j idx _ (hl j List.mem_cons_self) hz
          (Nat.lt_of_lt_of_le hidx hS.len_le)

end Table

namespace World

/-- the state change of the copy loop of `CopyEntity` (a verbatim copy of the `M.modify`
    argument) -/
def copiedW (w : World) (t row idx : Nat) : World :=
  w.modTbl t fun T =>
    (List.range T.ids.length).foldl (fun T i => T.setCell i idx (T.cell i row)) T

theorem copiedW_metaStep (w : World) (t row idx : Nat) : MetaStep w (copiedW w t row idx) :=
  MetaStep.of_set rfl rfl rfl rfl rfl fun _ =>
    Table.foldl_sameMeta _ (fun T i => Table.setCell_sameMeta T i _ _) _ _

theorem opCopyEntity_eq (run : ProbeRunner) (w : World) (src : Ent) (hl : w.isLocked = false)
    (ha : w.alive src = true) {t row : Nat} (hix : w.index src.id = (t, row))
    (hno : ∀ evt : Nat, w.obs.hasObservers evt = false) :
    opCopyEntity run src w =
      .ok (w.pool.get).2 (copiedW (placedW w t false) t row (w.tbl t).len) := by
  have hno2 : ∀ evt : Nat,
      (copiedW (placedW w t false) t row (w.tbl t).len).obs.hasObservers evt = false := by
    intro evt
    show (placedW w t false).obs.hasObservers evt = false
    rw [placedW_obs]; exact hno evt
  have hrel : ∀ (e : Ent) (m : Mask),
      fireCreateEntityRelIfHas run e m (copiedW (placedW w t false) t row (w.tbl t).len) =
        .ok () (copiedW (placedW w t false) t row (w.tbl t).len) := by
    intro e m
    simp only [fireCreateEntityRelIfHas, bind, M.bind, M.get, hno2, Bool.false_eq_true, if_false,
      pure, M.pure]
  simp only [copiedW] at hno2 hrel ⊢
  simp only [opCopyEntity, bind, M.bind, checkLocked_unlocked w hl, M.get, M.assert, ha, if_true,
    hix, placeNew_eq, M.modify, fireCreateEntityIfHas_none run _ _ _ (hno2 _), pure]
  split <;> simp only [M.bind, hrel, M.pure]

end World

structure CopyPost (w : World) (fl : List Nat) (src e : Ent) (w' : World) : Prop where
  cinv : CInv w' fl.tail
  unlocked : w'.isLocked = w.isLocked
  kinds : w'.kinds = w.kinds
  maxComps : w'.maxComps = w.maxComps
  pool : w'.pool = (w.pool.get).1
  ge2 : 2 ≤ e.id
  /-- the ID was not in use: a brand-new slot, or the head of the free list -/
  unused : (e.id = w.entities.length ∧ fl = [] ∧ e.gen = 0) ∨
    (e.id < w.entities.length ∧ fl = e.id :: fl.tail)
  notin : e.id ∉ fl.tail
  alive : w'.alive e = true
  inPool : w'.pool.ents[e.id]? = some e
  aliveFrame : ∀ h : Ent, h.id ≠ e.id → w'.alive h = w.alive h
  frame : ∀ j : Nat, j ≠ e.id → SameEnt w w' j
  /-- every previously alive handle (the source among them) is another entity, stays alive and
      keeps everything -/
  live : ∀ h : Ent, h.id ∉ fl → w.alive h = true → h.id < w.pool.ents.length →
    h ≠ e ∧ h.id ≠ e.id ∧ w'.alive h = true ∧ SameEnt w w' h.id
  comps : compsOf w' e.id = compsOf w src.id
  /-- the values are those of the source as it was before the call -/
  vals : ∀ c : Comp, valOf w' e.id c = valOf w src.id c
  tablesLen : w'.tables.length = w.tables.length
  entitiesLen : w'.entities.length ≤ w.entities.length + 1

/-- **the copy under the pool link**: the fresh handle is placed in the new last row of the table
    `t` of `src` (`PLink.placed`), then the copy loop writes the cells of row `row` of `src` there.
    The loop keeps the link and the other entities of the placed world; the new entity has the
    columns and the values of `src`. -/
theorem PLink.copied {w : World} {fl : List Nat} (L : PLink w fl) {src : Ent} {t row : Nat}
    (he : w.entities[src.id]? = some (t, row)) (ht : t ≠ maxU32)
    (hb : (w.tbl t).len + 1 < 2 ^ 32) :
    PLink (copiedW (placedW w t false) t row (w.tbl t).len) fl.tail ∧
    compsOf (copiedW (placedW w t false) t row (w.tbl t).len) (w.pool.get).2.id =
      compsOf w src.id ∧
    (∀ (c : Comp), valOf (copiedW (placedW w t false) t row (w.tbl t).len) (w.pool.get).2.id c =
      valOf w src.id c) ∧
    ∀ (j : Nat), j ≠ (w.pool.get).2.id →
      SameEnt (placedW w t false) (copiedW (placedW w t false) t row (w.tbl t).len) j := by
  obtain ⟨hTt, hrow, _⟩ := L.idx.indexed he ht
  have hlt := lt_of_get hTt
  have hSt := L.idx.shape t _ hTt
  have pp := L.placed hlt false hb
  have hlen1 : (placedW w t false).tables.length = w.tables.length :=
    (placedW_metaStep w t false).len
  -- all that is used of the placed world; from here on it is a variable
  generalize placedW w t false = w1 at *
  have hlt1 : t < w1.tables.length := by rw [hlen1]; exact hlt
  have hT1 : w1.tbl t = ((w.tbl t).add (w.pool.get).2).1 := tbl_set_self pp.tables hlt
  have hS1 : (w1.tbl t).Shape := by rw [hT1]; exact Table.add_shape hSt _ hb
  obtain ⟨hw, hcells⟩ := Table.copyCells_spec row (w.tbl t).len (by omega)
    (List.range (w1.tbl t).ids.length) _ hS1 (by rw [hT1, Table.add_fst_len]; omega)
    (fun i hi => List.mem_range.mp hi)
  have hCW : copiedW w1 t row (w.tbl t).len =
      w1.setTbl t ((List.range (w1.tbl t).ids.length).foldl
        (fun T i => T.setCell i (w.tbl t).len (T.cell i row)) (w1.tbl t)) := rfl
  have hent2 : (copiedW w1 t row (w.tbl t).len).entities[(w.pool.get).2.id]? =
      some (t, (w.tbl t).len) := by
    show w1.entities[(w.pool.get).2.id]? = _
    rw [pp.lookup, if_pos rfl]
  have htab2 := get_of_lt (w := copiedW w1 t row (w.tbl t).len) (t := t)
    (by rw [hCW, setTbl_tables, List.length_set]; exact hlt1)
  have htbl2 := setTbl_tbl_self (w := w1) ((List.range (w1.tbl t).ids.length).foldl
    (fun T i => T.setCell i (w.tbl t).len (T.cell i row)) (w1.tbl t)) hlt1
  rw [← hCW] at htbl2
  have hids2 : ((copiedW w1 t row (w.tbl t).len).tbl t).ids = (w.tbl t).ids := by
    rw [htbl2, hw.ids, hT1, Table.add_ids]
  refine ⟨?_, ?_, fun c => ?_, fun j hj => ?_⟩
  · rw [hCW]
    exact pp.link.congr (pp.link.idx.of_same_rows t _ (hw.shape hS1) hw.id hw.len
      (fun r _ => hw.getEntity r)) rfl rfl rfl (by rw [setTbl_tables, List.length_set])
  · rw [compsOf_of_entry hent2 ht htab2, compsOf_of_entry he ht hTt, hids2]
  · simp only [valOf_of_entry hent2 ht htab2, valOf_of_entry he ht hTt, Table.getComp,
      Table.colIdx, hids2]
    split
    · rename_i hj
      rw [Option.map_some, Option.map_some, htbl2,
        hcells _ (List.mem_range.mpr (by rw [hT1, Table.add_ids]; exact hj)), hT1,
        Table.add_cell_lt _ _ _ _ hrow]
    · rw [Option.map_none, Option.map_none]
  · rw [hCW]
    refine same_write pp.link.idx hw fun hh => hj ?_
    rw [← hh, hT1, ← Table.add_snd (w.tbl t) (w.pool.get).2, Table.add_getEntity_new hSt _ hb]

/-- **the copy**: placement of a fresh handle in the table of the live entity `src`, then the copy
    loop -/
theorem CInv.copied {w : World} {fl : List Nat} (h : CInv w fl) {src : Ent} (h2 : 2 ≤ src.id)
    (hnf : src.id ∉ fl) (ha : w.alive src = true) (hin : src.id < w.pool.ents.length)
    (hrows : ∀ t : Nat, (w.tbl t).len + 1 < 2 ^ 32) :
    ∃ t row, w.index src.id = (t, row) ∧
      CopyPost w fl src (w.pool.get).2 (copiedW (placedW w t false) t row (w.tbl t).len) := by
  obtain ⟨t, row, he, ht, _⟩ := h.live_entry h2 hnf ha hin
  refine ⟨t, row, index_of_get he, ?_⟩
  have pp := h.placed (h.table_of_entry he ht).1 false (hrows t)
  obtain ⟨hL2, hcomps, hvals, hFr2⟩ := h.link.copied he ht (hrows t)
  -- the placed world as a variable: the loop writes `tables` only, the other fields are its own
  generalize placedW w t false = w1 at *
  have ms := copiedW_metaStep w1 t row (w.tbl t).len
  exact
    { cinv := pp.cinv.of_link hL2 (pp.cinv.sinv.of_metaStep ms) rfl rfl rfl (fun _ hi => hi)
      unlocked := pp.unlocked
      kinds := pp.kinds
      maxComps := pp.maxComps
      pool := pp.pool
      ge2 := pp.ge2
      unused := pp.unused
      notin := pp.notin
      alive := pp.alive
      inPool := pp.inPool
      aliveFrame := pp.aliveFrame
      frame := fun j hj => (pp.frame j hj).trans (hFr2 j hj)
      live := by
        intro x hxf hxa hxin
        obtain ⟨a1, a2, a3, a4⟩ := pp.live x hxf hxa hxin
        exact ⟨a1, a2, a3, a4.trans (hFr2 x.id a2)⟩
      comps := hcomps
      vals := hvals
      tablesLen := ms.len.trans pp.tablesLen
      entitiesLen := pp.entitiesLen }

theorem opCopyEntity_spec (run : ProbeRunner) {w : World} {fl : List Nat} (h : CInv w fl)
    (hl : w.isLocked = false) {src : Ent} (h2 : 2 ≤ src.id) (hnf : src.id ∉ fl)
    (ha : w.alive src = true) (hin : src.id < w.pool.ents.length)
    (hrows : ∀ t : Nat, (w.tbl t).len + 1 < 2 ^ 32) :
    ∃ w', opCopyEntity run src w = .ok (w.pool.get).2 w' ∧ CopyPost w fl src (w.pool.get).2 w' := by
  obtain ⟨t, row, hix, cp⟩ := h.copied h2 hnf ha hin hrows
  exact ⟨_, opCopyEntity_eq run w src hl ha hix h.noObs, cp⟩

namespace World

/-- in the relation-free fragment every loop step of `storage.Shrink` only replaces a table by
    its shrunk version: the structural invariant is kept (the relation-index invariant `RInv`,
    which the general theorem `shrinkStep_sinv` needs, is not consulted) -/
theorem shrinkStep_sinv_noRel {w : World} (h : SInv w)
    (hk : ∀ c : Comp, (w.kinds.getD c {}).isRel = false) (t : Nat) :
    SInv (shrinkStep w t).1 ∧ (shrinkStep w t).1.kinds = w.kinds := by
  refine shrinkStep_cases (fun w' => SInv w' ∧ w'.kinds = w.kinds) w t ⟨h, rfl⟩ ?_
  intro hl
  have hT := get_of_lt hl
  obtain ⟨A, hA, _⟩ := h.tblArch t _ hT
  have hnr : (w.arch (w.tbl t).arch).hasRelations = false := by
    rw [arch_of_get hA]; exact h.toSInvMid.hasRelations_false_of_kinds hA (fun c _ => hk c)
  have hrel0 : (w.tbl t).relIDs = [] := h.toSInvMid.relIDs_nil hT hnr
  have hhr : (w.tbl t).hasRelations = false := by simp [Table.hasRelations, hrel0]
  have heq : (shrinkStep w t).1 = w.setTbl t ((w.tbl t).shrink w.initCap).1 := by
    simp only [shrinkStep, hhr, Bool.not_false, if_true]
  rw [heq]
  refine ⟨?_, rfl⟩
  exact h.of_set (w' := w.setTbl t ((w.tbl t).shrink w.initCap).1) rfl rfl rfl
    (Table.shrink_sameMeta _ _)

end World

structure ShrinkPost (w : World) (fl : List Nat) (w' : World) : Prop where
  cinv : CInv w' fl
  unlocked : w'.isLocked = w.isLocked
  kinds : w'.kinds = w.kinds
  pool : w'.pool = w.pool
  maxComps : w'.maxComps = w.maxComps
  entities : w'.entities = w.entities
  same : ∀ j : Nat, SameEnt w w' j
  tablesLen : w'.tables.length = w.tables.length

theorem opShrink_spec {w : World} {fl : List Nat} (h : CInv w fl) (hl : w.isLocked = false)
    (hrows : ∀ t : Nat, (w.tbl t).len + 1 < 2 ^ 32) (bounded : Bool) :
    ∃ (b : Bool) (w' : World), opShrink bounded w = .ok b w' ∧ ShrinkPost w fl w' := by
  have hb : RowsBounded w := fun t => by have := hrows t; omega
  obtain ⟨hI, hrel⟩ := shrinkPure_rel h.idx hb bounded
  have hS := shrinkPure_induct (fun w' => SInv w' ∧ w'.kinds = w.kinds)
    (fun w' t ⟨a, b⟩ =>
      ⟨(shrinkStep_sinv_noRel a (by rw [b]; exact h.noRelKinds) t).1,
        (shrinkStep_sinv_noRel a (by rw [b]; exact h.noRelKinds) t).2.trans b⟩)
    bounded w ⟨h.sinv, rfl⟩
  have hu := hrel.frame.untouched.1
  refine ⟨_, _, opShrink_eq bounded w hl, ?_⟩
  exact
    { cinv := h.transfer hI hS.1 hrel.frame.pool
        ⟨by rw [hrel.frame.entities], fun i => Or.inl (by rw [hrel.frame.entities])⟩
        hrel.frame.kinds hu (by rw [hrel.tlen]; exact h.fewTables)
      unlocked := hrel.frame.isLocked
      kinds := hrel.frame.kinds
      pool := hrel.frame.pool
      maxComps := hu.maxComps
      entities := hrel.frame.entities
      same := fun j => ⟨fun c => hrel.valOf j c, hrel.compsOf j⟩
      tablesLen := hrel.tlen }

/-- what `Reset` leaves under `CInv` (the `C`; `ResetPost` of `Proofs/ResetInv` is the statement
    for the full model) -/
structure ResetPostC (w : World) (w' : World) : Prop where
  cinv : CInv w' []
  unlocked : w'.isLocked = false
  kinds : w'.kinds = w.kinds
  maxComps : w'.maxComps = w.maxComps
  pool : w'.pool = w.pool.reset
  /-- only the two reserved index entries are left -/
  entitiesLen : w'.entities.length = 2
  tablesLen : w'.tables.length = w.tables.length
  unindexed : ∀ i : Nat, compsOf w' i = none ∧ ∀ c : Comp, valOf w' i c = none
  /-- the handles of the ended epoch are dead (until `NewEntity` re-issues them) -/
  dead : ∀ h : Ent, 2 ≤ h.id → h.id < w.pool.ents.length → h.gen ≠ maxU32 → w'.alive h = false

theorem opReset_spec {w : World} {fl : List Nat} (h : CInv w fl) (hl : w.isLocked = false) :
    opReset w = .ok () (resetW w) ∧ ResetPostC w (resetW w) := by
  refine ⟨opReset_eq w hl, ?_⟩
  have hS := h.sinv
  -- no table is on a free list
  have hFE : FreeEmpty w := by
    intro t T hT hf
    exfalso
    obtain ⟨A, hA, _⟩ := hS.tblArch t T hT
    have hnr : A.hasRelations = false := h.noRelArch hA
    have := ((hS.member t T hT).2).1 hf
    rw [arch_of_get hA, (hS.nonRelLe _ A hA hnr).2] at this
    cases this
  obtain ⟨L, hEl⟩ := h.link.afterReset hS hFE
  exact
    { cinv :=
        { L with
          sinv := SInv.resetW hS
          noRelKinds := by rw [resetW_kinds]; exact h.noRelKinds
          kindsLe := by rw [resetW_kinds, (resetW_caps w).2.2]; exact h.kindsLe
          noTargets := noTargets_resetW h.noTargets
          noObs := fun evt => by
            show ((resetW w).obs.evt evt).hasObservers = false
            rw [resetW_obs]; exact ObsMgr.reset_noObs h.noObs evt }
      unlocked := by
        show (resetW w).locks.isLocked = false
        rw [resetW_locks]; rfl
      kinds := resetW_kinds w
      maxComps := (resetW_caps w).2.2
      pool := resetW_pool w
      entitiesLen := hEl
      tablesLen := by rw [resetW_tables hS, List.length_map]
      unindexed := fun i => (L.unindexed hEl i).2
      dead := by
        intro x h2 _ hg
        show (resetW w).pool.alive x = false
        rw [resetW_pool]; exact Ark.Props.C02.reset_kills w.pool h.stale x h2 hg }

namespace World

theorem findOrCreateTable_untouched {oldT : Nat} {startMask : Mask} {add rem : List Comp}
    {rels : List RelID} {w w' : World} {r : Nat × Nat × Mask × Bool}
    (hok : findOrCreateTable oldT startMask add rem rels w = .ok r w') : Untouched w w' :=
  (lookup_induct Untouched Untouched.trans findOrCreateArch_untouched createTable_untouched).2.2 hok

theorem exchangeCore_untouched (run : ProbeRunner) {e : Ent} {add rem : List Comp} {w w' : World}
    {r : Mask × Mask} (hno : ∀ evt : Nat, w.obs.hasObservers evt = false)
    (hok : exchangeCore run e add rem [] w = .ok r w') : Untouched w w' := by
  cases hl : w.isLocked with
  | true => rw [exchangeCore_locked run w hl] at hok; cases hok
  | false =>
    cases ha : w.alive e with
    | false => rw [exchangeCore_dead run w hl e ha] at hok; cases hok
    | true =>
      by_cases hne : add = [] ∧ rem = []
      · obtain ⟨rfl, rfl⟩ := hne
        rw [exchangeCore_noComponents run w hl e ha] at hok; cases hok
      · cases hix : w.index e.id with
        | mk oldT row =>
          cases hfoc : findOrCreateTable oldT (w.arch (w.tbl oldT).arch).mask add rem [] w with
          | panic k w1 =>
            have hemp := isEmpty_and_eq_false hne
            simp only [exchangeCore, bind, M.bind, checkLocked_unlocked w hl, M.get, M.assert, ha,
              if_true, hemp, Bool.not_false, hix, hfoc] at hok
            cases hok
          | ok r1 w1 =>
            obtain ⟨t, a, m, rr⟩ := r1
            have u1 := findOrCreateTable_untouched hfoc
            rw [exchangeCore_eq run e add rem w hl ha hne hix hfoc
              (by rw [u1.obs]; exact hno)] at hok
            injection hok with _ h2
            subst h2
            exact u1.trans (addMove_fields w1 e oldT row t m).2.2.2

theorem addCore_untouched {e : Ent} {add : List Comp} {w w' : World} {r : Mask × Mask}
    (hno : ∀ evt : Nat, w.obs.hasObservers evt = false) (hok : addCore e add [] w = .ok r w') :
    Untouched w w' :=
  exchangeCore_untouched (fun _ _ _ => pure ()) hno (addCore_eq_exchangeCore _ e add [] ▸ hok)

/-- **any access path** — without relations and observers, `NewEntity` gives the same result
    through `Unsafe.NewEntity` + writes, `Map.NewEntity` and `MapN.NewEntity` (the typed paths
    write the values before the events fire, `Unsafe` afterwards) -/
theorem opNewEntity_path_indep (run : ProbeRunner) (p p' : Path) (ids : List Comp)
    (vals : List (Comp × Val)) (w : World) (hno : ∀ evt : Nat, w.obs.hasObservers evt = false) :
    opNewEntity run p ids vals [] w = opNewEntity run p' ids vals [] w := by
  cases hl : w.isLocked with
  | true =>
    have hc := newEntityCore_locked w hl ids []
    have : ∀ q : Path, opNewEntity run q ids vals [] w = .panic .locked w := by
      intro q
      cases q <;>
      simp [opNewEntity, preCheck, preCheckMap, preCheckTyped, M.forM', bind, M.bind, hc, pure,
        M.pure]
    rw [this p, this p']
  | false =>
    cases hfoc : findOrCreateTableAdd 0 Mask.empty ids [] w with
    | panic k w1 =>
      have : ∀ q : Path, opNewEntity run q ids vals [] w = .panic k w1 := by
        intro q
        cases q <;>
        simp [opNewEntity, newEntityCore, preCheck, preCheckMap, preCheckTyped, M.forM', bind,
          M.bind, checkLocked_unlocked w hl, hfoc, pure, M.pure]
      rw [this p, this p']
    | ok r1 w1 =>
      obtain ⟨t, a, m⟩ := r1
      have hno1 : ∀ evt : Nat, w1.obs.hasObservers evt = false := by
        rw [(findOrCreateTableAdd_untouched hfoc).obs]; exact hno
      rw [opNewEntity_eq run p ids vals w hl hfoc hno1, opNewEntity_eq run p' ids vals w hl hfoc hno1]

/-- **any access path** — `Add` (the dead-handle check sits in different places, see `opAdd`) -/
theorem opAdd_path_indep (run : ProbeRunner) (p p' : Path) (e : Ent) (ids : List Comp)
    (vals : List (Comp × Val)) (w : World) (hl : w.isLocked = false)
    (hno : ∀ evt : Nat, w.obs.hasObservers evt = false) :
    opAdd run p e ids vals [] w = opAdd run p' e ids vals [] w := by
  cases ha : w.alive e with
  | false => rw [opAdd_dead_any run p e ids vals w hl ha, opAdd_dead_any run p' e ids vals w hl ha]
  | true =>
    cases hcore : addCore e ids [] w with
    | panic k w1 => rw [opAdd_panic run p e ids vals w ha hcore, opAdd_panic run p' e ids vals w ha hcore]
    | ok r1 w1 =>
      obtain ⟨old, new⟩ := r1
      have hno1 : ∀ evt : Nat, w1.obs.hasObservers evt = false := by
        rw [(addCore_untouched hno hcore).obs]; exact hno
      rw [opAdd_eq run p e ids vals w ha hcore hno1, opAdd_eq run p' e ids vals w ha hcore hno1]

theorem opRemove_path_indep (run : ProbeRunner) (p p' : Path) (e : Ent) (ids : List Comp)
    (w : World) (hl : w.isLocked = false) :
    opRemove run p e ids w = opRemove run p' e ids w := by
  cases ha : w.alive e with
  | false => rw [opRemove_dead_any run p e ids w hl ha, opRemove_dead_any run p' e ids w hl ha]
  | true => rw [opRemove_eq run p e ids w ha, opRemove_eq run p' e ids w ha]

/-- **any access path** — `Exchange` (`Unsafe.Exchange` + writes, `ExchangeN.Exchange`) -/
theorem opExchange_path_indep (run : ProbeRunner) (p p' : Path) (e : Ent) (add : List Comp)
    (vals : List (Comp × Val)) (rem : List Comp) (w : World) (hl : w.isLocked = false)
    (hno : ∀ evt : Nat, w.obs.hasObservers evt = false) :
    opExchange run p e add vals rem [] w = opExchange run p' e add vals rem [] w := by
  cases ha : w.alive e with
  | false =>
    rw [opExchange_dead_any run p e add vals rem w hl ha,
      opExchange_dead_any run p' e add vals rem w hl ha]
  | true =>
    cases hcore : exchangeCore run e add rem [] w with
    | panic k w1 =>
      rw [opExchange_panic run p e add vals rem w ha hcore,
        opExchange_panic run p' e add vals rem w ha hcore]
    | ok r1 w1 =>
      obtain ⟨old, new⟩ := r1
      have hno1 : ∀ evt : Nat, w1.obs.hasObservers evt = false := by
        rw [(exchangeCore_untouched run hno hcore).obs]; exact hno
      rw [opExchange_eq run p e add vals rem w ha hcore hno1,
        opExchange_eq run p' e add vals rem w ha hcore hno1]

end World

/-- **the world transformers the operations are made of** keep `P`: the table lookup, `placeNew`,
    "add to the new table and `moveRow`", the writes, the copy loop, the removal block,
    registration, `Shrink`, `Reset`.  (`OpsKeep.of_does`, `OpsKeep.step`: every successful step of
    the history machine then keeps `P`.)  For predicates of the world alone; an invariant that relates world
    and specification goes through `Refine.step_goal`. -/
structure OpsKeep (P : World → Prop) : Prop where
  lookup : ∀ {w w1 : World} {oldT t a : Nat} {m m' : Mask} {add : List Comp},
    findOrCreateTableAdd oldT m add [] w = .ok (t, a, m') w1 → FoundOrCreated w w1 m' t a →
    Untouched w w1 → P w → P w1
  placed : ∀ {w : World} {fl : List Nat} {t : Nat} (rt : Bool), CInv w fl → t < w.tables.length →
    (w.tbl t).len + 1 < 2 ^ 32 → P w → P (placedW w t rt)
  /-- asks `IdxInv` and `alive` where `placed` and `removed` ask `CInv`: `w` is the world after
      the lookup (`OpsKeep.relocated`), where `CInv` would cost the bound on the number of tables
      (`hfew` of `CInv.of_lookup`) -/
  moved : ∀ {w : World} {e : Ent} {oldT row newT : Nat} (keep : Mask), IdxInv w →
    w.alive e = true → w.entities[e.id]? = some (oldT, row) → oldT ≠ maxU32 → oldT ≠ newT →
    oldT < w.tables.length → newT < w.tables.length → (w.tbl newT).len + 1 < 2 ^ 32 →
    P w → P (addMove w e oldT row newT keep)
  writeVals : ∀ {w : World} (e : Ent) (vals : List (Comp × Val)), P w → P (writeValsW w e vals)
  copied : ∀ {w : World} (t row idx : Nat), P w → P (copiedW w t row idx)
  removed : ∀ {w : World} {fl : List Nat} {e : Ent} {t row : Nat}, CInv w fl → 2 ≤ e.id →
    e.id ∉ fl → w.alive e = true → e.id < w.pool.ents.length → w.index e.id = (t, row) →
    P w → P (removeRowOf w e t row)
  reg : ∀ {w w' : World} {fl : List Nat} {k : CompKind} {n : Nat}, CInv w fl →
    World.registerComponent k w = .ok n w' → P w → P w'
  shrink : ∀ {w w' : World} {fl : List Nat} {bounded b : Bool}, CInv w fl → w.isLocked = false →
    (∀ t : Nat, (w.tbl t).len + 1 < 2 ^ 32) → opShrink bounded w = .ok b w' → P w → P w'
  reset : ∀ {w w' : World} {fl : List Nat}, CInv w fl → w.isLocked = false →
    opReset w = .ok () w' → P w → P w'

theorem OpsKeep.relocated {P : World → Prop} (K : OpsKeep P) {w w1 : World} {fl : List Nat}
    (h : CInv w fl) {m : Mask} {t a : Nat} (fc : FoundOrCreated w w1 m t a) {e : Ent}
    {oldT row : Nat} (ha : w.alive e = true) (he : w.entities[e.id]? = some (oldT, row))
    (ht : oldT ≠ maxU32) (hne : t ≠ oldT) (hrows : ∀ t : Nat, (w.tbl t).len + 1 < 2 ^ 32)
    (hP : P w1) : P (addMove w1 e oldT row t m) :=
  K.moved m (fc.idx h.idx) (by simp only [World.alive, fc.pool]; exact ha)
    (by rw [fc.entities]; exact he) ht (Ne.symm hne)
    (Nat.lt_of_lt_of_le (h.table_of_entry he ht).1 fc.tablesLen) fc.tblLt (fc.room hrows) hP

end Ark
