/-
  Ark.Proofs.MaskWords — the regenerated word-level mask code (`Ark/Generated/Words.lean`:
  `bitMask256` over `[4]uint64`, `bitMask64` over one `uint64`) computes exactly the mask
  operations of the model (`Ark/Model/Mask.lean`, `Ark/Model/Mask64.lean`).

  `abs` reads the four words as one 256-bit vector (word 0 = bits 0…63); `abs64` is the word.
  Kernel-only: every theorem depends on `propext`, `Classical.choice`, `Quot.sound` at most.
-/
import Ark.Generated.Words
import Ark.Model.Mask64
import Ark.Proofs.MaskLemmas

namespace Ark.MaskWords
open Ark Ark.Words Ark.Generated

/-! ## Word-array lemmas -/

theorem getLsbD_append_add {n m : Nat} (x : BitVec n) (y : BitVec m) (r : Nat) :
    (x ++ y).getLsbD (r + m) = x.getLsbD r := by
  rw [BitVec.getLsbD_append, if_neg (Nat.not_lt.mpr (Nat.le_add_left m r)), Nat.add_sub_cancel]

theorem getLsbD_append_lt {n m : Nat} (x : BitVec n) (y : BitVec m) (r : Nat) (h : r < m) :
    (x ++ y).getLsbD r = y.getLsbD r := by
  rw [BitVec.getLsbD_append, if_pos h]

theorem getLsbD_abs_word (a : Arr4) (r : Nat) (hr : r < 64) :
    a.abs.getLsbD r = a.w0.getLsbD r ∧ a.abs.getLsbD (r + 64) = a.w1.getLsbD r ∧
    a.abs.getLsbD (r + 128) = a.w2.getLsbD r ∧ a.abs.getLsbD (r + 192) = a.w3.getLsbD r :=
  ⟨getLsbD_append_lt _ _ r hr,
   (getLsbD_append_add _ a.w0 r).trans (getLsbD_append_lt _ _ r hr),
   (getLsbD_append_add _ a.w0 (r + 64)).trans
     ((getLsbD_append_add _ a.w1 r).trans (getLsbD_append_lt _ _ r hr)),
   (getLsbD_append_add _ a.w0 (r + 128)).trans
     ((getLsbD_append_add _ a.w1 (r + 64)).trans (getLsbD_append_add _ a.w2 r))⟩

@[simp] theorem get_0 (a : Arr4) : a.get 0#8 = a.w0 := rfl
@[simp] theorem get_1 (a : Arr4) : a.get 1#8 = a.w1 := rfl
@[simp] theorem get_2 (a : Arr4) : a.get 2#8 = a.w2 := rfl
@[simp] theorem get_3 (a : Arr4) : a.get 3#8 = a.w3 := rfl
@[simp] theorem set_0 (a : Arr4) (v) : a.set 0#8 v = { a with w0 := v } := rfl
@[simp] theorem set_1 (a : Arr4) (v) : a.set 1#8 v = { a with w1 := v } := rfl
@[simp] theorem set_2 (a : Arr4) (v) : a.set 2#8 v = { a with w2 := v } := rfl
@[simp] theorem set_3 (a : Arr4) (v) : a.set 3#8 v = { a with w3 := v } := rfl

theorem getLsbD_abs_get_add (a : Arr4) (i : BitVec 8) (hi : i.toNat < 4) (r : Nat) (hr : r < 64) :
    a.abs.getLsbD (r + 64 * i.toNat) = (a.get i).getLsbD r := by
  obtain ⟨h0, h1, h2, h3⟩ := getLsbD_abs_word a r hr
  have h4 : i.toNat = 0 ∨ i.toNat = 1 ∨ i.toNat = 2 ∨ i.toNat = 3 := by omega
  unfold Arr4.get
  rcases h4 with h | h | h | h <;> rw [h]
  · exact h0
  · exact h1
  · exact h2
  · exact h3

theorem getLsbD_abs_get (a : Arr4) (n : Nat) (hn : n < 256) (i : BitVec 8)
    (hi : i.toNat = n / 64) : a.abs.getLsbD n = (a.get i).getLsbD (n % 64) := by
  have := getLsbD_abs_get_add a i (by omega) (n % 64) (Nat.mod_lt _ (by decide))
  rwa [hi, Nat.mod_add_div] at this

theorem get_set (a : Arr4) (i k : BitVec 8) (hi : i.toNat < 4) (v : BitVec 64) :
    (a.set i v).get k = if k.toNat = i.toNat then v else a.get k := by
  have h4 : i.toNat = 0 ∨ i.toNat = 1 ∨ i.toNat = 2 ∨ i.toNat = 3 := by omega
  unfold Arr4.get Arr4.set
  generalize k.toNat = m
  rcases h4 with h | h | h | h <;> rw [h] <;> rcases m with _ | _ | _ | _ | m <;> rfl

theorem getLsbD_abs_set (a : Arr4) (i : BitVec 8) (hi : i.toNat < 4) (v : BitVec 64)
    (j : Nat) (hj : j < 256) :
    (a.set i v).abs.getLsbD j =
      if j / 64 = i.toNat then v.getLsbD (j % 64) else a.abs.getLsbD j := by
  have hk : (BitVec.ofNat 8 (j / 64)).toNat = j / 64 :=
    (BitVec.toNat_ofNat _ _).trans (Nat.mod_eq_of_lt (by omega))
  rw [getLsbD_abs_get _ j hj _ hk, getLsbD_abs_get a j hj _ hk, get_set a i _ hi, hk]
  split <;> rfl

theorem append_inj {w v : Nat} {x₁ x₂ : BitVec w} {y₁ y₂ : BitVec v} (h : x₁ ++ y₁ = x₂ ++ y₂) :
    x₁ = x₂ ∧ y₁ = y₂ := by
  have hy : y₁ = y₂ := by
    have := congrArg (BitVec.setWidth v) h
    rwa [BitVec.setWidth_append_eq_right, BitVec.setWidth_append_eq_right] at this
  subst hy
  exact ⟨(BitVec.append_left_inj _).mp h, rfl⟩

theorem abs_words_inj (a b : Arr4) (h : a.abs = b.abs) : a = b := by
  cases a; cases b
  obtain ⟨h, rfl⟩ := append_inj h
  obtain ⟨h, rfl⟩ := append_inj h
  obtain ⟨rfl, rfl⟩ := append_inj h
  rfl

theorem abs_words_eq_iff (a b : Arr4) :
    a.abs = b.abs ↔ a.w0 = b.w0 ∧ a.w1 = b.w1 ∧ a.w2 = b.w2 ∧ a.w3 = b.w3 := by
  constructor
  · intro h; have := abs_words_inj a b h; subst this; exact ⟨rfl, rfl, rfl, rfl⟩
  · intro ⟨h0, h1, h2, h3⟩
    cases a; cases b; simp only at h0 h1 h2 h3; subst h0 h1 h2 h3; rfl

-- the widths are given because `256` is not of the form `w + v` for the rewriter
theorem abs_mk_and (a b : Arr4) :
    a.abs &&& b.abs = (Arr4.mk (a.w0 &&& b.w0) (a.w1 &&& b.w1) (a.w2 &&& b.w2) (a.w3 &&& b.w3)).abs := by
  simp only [Arr4.abs]
  rw [BitVec.and_append (w := 192), BitVec.and_append (w := 128), BitVec.and_append (w := 64)]

theorem abs_mk_or (a b : Arr4) :
    a.abs ||| b.abs = (Arr4.mk (a.w0 ||| b.w0) (a.w1 ||| b.w1) (a.w2 ||| b.w2) (a.w3 ||| b.w3)).abs := by
  simp only [Arr4.abs]
  rw [BitVec.or_append (w := 192), BitVec.or_append (w := 128), BitVec.or_append (w := 64)]

theorem abs_mk_not (a : Arr4) :
    ~~~ a.abs = (Arr4.mk (~~~ a.w0) (~~~ a.w1) (~~~ a.w2) (~~~ a.w3)).abs := by
  simp only [Arr4.abs]
  rw [BitVec.not_append (w := 192), BitVec.not_append (w := 128), BitVec.not_append (w := 64)]

theorem abs_zero : (Arr4.mk 0#64 0#64 0#64 0#64).abs = 0#256 := by
  simp [Arr4.abs]

/-! ## Index arithmetic and the single-bit mask -/

theorem idx_toNat (bit : BitVec 8) : (bit >>> 6).toNat = bit.toNat / 64 := by
  simp [BitVec.toNat_ushiftRight, Nat.shiftRight_eq_div_pow]

theorem off_toNat (bit : BitVec 8) : (bit &&& 63#8).toNat = bit.toNat % 64 := by
  have : (63 : Nat) = 2 ^ 6 - 1 := by decide
  simp only [BitVec.toNat_and, BitVec.toNat_ofNat]
  rw [show (63 % 2 ^ 8 : Nat) = 2 ^ 6 - 1 from by decide, Nat.and_two_pow_sub_one_eq_mod]

theorem idx_lt (bit : BitVec 8) : (bit >>> 6).toNat < 4 := by
  rw [idx_toNat]; have := bit.isLt; omega

/-- the Go idiom `x & mask == mask` for a one-bit mask tests that bit -/
theorem and_one_shl_beq (x : BitVec 64) (k : Nat) (hk : k < 64) :
    ((x &&& ((1#64) <<< k)) == ((1#64) <<< k)) = x.getLsbD k := by
  cases hx : x.getLsbD k
  · apply beq_eq_false_iff_ne.mpr
    intro h
    have := congrArg (fun v => v.getLsbD k) h
    simp only [BitVec.getLsbD_and, Bits.getLsbD_bit, hx, hk] at this
    simp at this
  · apply beq_iff_eq.mpr
    apply BitVec.eq_of_getLsbD_eq
    intro j hj
    rw [BitVec.getLsbD_and, Bits.getLsbD_bit]
    by_cases h2 : j = k
    · subst h2; simp [hx, hj]
    · simp [h2]

/-- the other Go idiom for the same test, `x & mask != 0` -/
theorem and_one_shl_bne (x : BitVec 64) (k : Nat) (hk : k < 64) :
    ((x &&& ((1#64) <<< k)) != 0#64) = x.getLsbD k := by
  cases hx : x.getLsbD k
  · have : (x &&& ((1#64) <<< k)) = 0#64 := by
      apply BitVec.eq_of_getLsbD_eq
      intro j hj
      rw [BitVec.getLsbD_and, Bits.getLsbD_bit]
      by_cases h2 : j = k
      · subst h2; simp [hx]
      · simp [h2]
    simp [this]
  · apply bne_iff_ne.mpr
    intro h
    have := congrArg (fun v => v.getLsbD k) h
    simp only [BitVec.getLsbD_and, Bits.getLsbD_bit, hx, hk] at this
    simp at this

/-! ## popcount -/

theorem countP_range_add (p : Nat → Bool) (n m : Nat) :
    (List.range (n + m)).countP p = (List.range n).countP p + (List.range m).countP (fun i => p (i + n)) := by
  rw [List.range_add, List.countP_append, List.countP_map]
  congr 2
  funext i
  exact congrArg p (Nat.add_comm n i)

theorem popCount_eq (x : BitVec 64) : Words.popCount x = ((List.range 64).filter x.getLsbD).length := by
  simp only [Words.popCount, List.countP_eq_length_filter]

/-! ## `bitMask256` -/

/-- the 256-bit value of a `bitMask256` -/
def abs (m : M256) : Mask := m.bits.abs

theorem abs_injective {a b : M256} (h : abs a = abs b) : a = b := by
  cases a with | mk x => cases b with | mk y =>
  have := abs_words_inj x y h
  subst this; rfl

theorem get_inRange (b : M256) (bit : BitVec 8) : M256.Get_inRange b bit := idx_lt bit
theorem set_inRange (b : M256) (bit : BitVec 8) : M256.Set_inRange b bit := idx_lt bit
theorem clear_inRange (b : M256) (bit : BitVec 8) : M256.Clear_inRange b bit := idx_lt bit

theorem get_eq (b : M256) (bit : BitVec 8) : M256.Get b bit = (abs b).get bit.toNat := by
  have hoff : bit.toNat % 64 < 64 := Nat.mod_lt _ (by decide)
  simp only [M256.Get, abs, Mask.get, BitVec.shiftLeft_eq', off_toNat]
  first
    | rw [and_one_shl_beq _ _ hoff, getLsbD_abs_get b.bits bit.toNat bit.isLt (bit >>> 6) (idx_toNat bit)]
    | rw [and_one_shl_bne _ _ hoff, getLsbD_abs_get b.bits bit.toNat bit.isLt (bit >>> 6) (idx_toNat bit)]

/-- word `bit / 64` combined bitwise (`f`) with the one-bit word mask is the 256-bit value combined
    with the one-bit 256-bit mask, provided `f` ignores a mask bit that is not set -/
theorem abs_set_bitwise (a : Arr4) (bit : BitVec 8) (f : Bool → Bool → Bool)
    (hf : ∀ x, f x false = x) (v : BitVec 64) (V : Mask)
    (hv : ∀ j, j < 64 → v.getLsbD j = f ((a.get (bit >>> 6)).getLsbD j) (decide (j = bit.toNat % 64)))
    (hV : ∀ j, j < 256 → V.getLsbD j = f (a.abs.getLsbD j) (decide (j = bit.toNat))) :
    (a.set (bit >>> 6) v).abs = V := by
  apply BitVec.eq_of_getLsbD_eq; intro j hj
  rw [getLsbD_abs_set _ _ (idx_lt bit) _ _ hj, idx_toNat, hV j hj]
  by_cases h : j / 64 = bit.toNat / 64
  · have hm : j % 64 < 64 := Nat.mod_lt _ (by decide)
    have e : (j % 64 = bit.toNat % 64) = (j = bit.toNat) := by
      apply propext; constructor <;> intro <;> omega
    rw [if_pos h, hv _ hm, getLsbD_abs_get a j hj (bit >>> 6) (by rw [idx_toNat, h])]
    simp only [e]
  · have e : ¬ j = bit.toNat := by intro e; subst e; exact h rfl
    rw [if_neg h, decide_eq_false e, hf]

theorem set_eq (b : M256) (bit : BitVec 8) : abs (M256.Set b bit) = (abs b).set bit.toNat :=
  abs_set_bitwise b.bits bit (· || ·) Bool.or_false _ _
    (fun j hj => by simp only [BitVec.getLsbD_or, BitVec.shiftLeft_eq', off_toNat, Bits.getLsbD_bit,
      hj, decide_true, Bool.true_and])
    (fun j hj => by simp only [abs, Mask.set, Mask.bit, BitVec.getLsbD_or, Bits.getLsbD_bit,
      hj, decide_true, Bool.true_and])

theorem clear_eq (b : M256) (bit : BitVec 8) :
    abs (M256.Clear b bit) = (abs b).clear bit.toNat :=
  abs_set_bitwise b.bits bit (fun x m => x && !m) (fun x => by simp) _ _
    (fun j hj => by simp only [BitVec.getLsbD_and, BitVec.getLsbD_not, BitVec.shiftLeft_eq', off_toNat,
      Bits.getLsbD_bit, hj, decide_true, Bool.true_and])
    (fun j hj => by simp only [abs, Mask.clear, Mask.bit, BitVec.getLsbD_and, BitVec.getLsbD_not,
      Bits.getLsbD_bit, hj, decide_true, Bool.true_and])

theorem not_eq (b : M256) : abs (M256.Not b) = (abs b).not := by
  simp only [M256.Not, abs, Mask.not, abs_mk_not, get_0, get_1, get_2, get_3]

theorem orI_eq (b o : M256) : abs (M256.OrI b o) = (abs b).or (abs o) := by
  simp only [M256.OrI, abs, Mask.or, abs_mk_or, get_0, get_1, get_2, get_3, set_0, set_1,
    set_2, set_3]

theorem reset_eq (b : M256) : abs (M256.Reset b) = Mask.empty := by
  simp only [M256.Reset, abs, Mask.empty, abs_zero]

theorem abs_eq_zero_iff (a : Arr4) :
    a.abs = 0#256 ↔ a.w0 = 0#64 ∧ a.w1 = 0#64 ∧ a.w2 = 0#64 ∧ a.w3 = 0#64 := by
  rw [← abs_zero, abs_words_eq_iff]

theorem isZero_eq (b : M256) : M256.IsZero b = (abs b).isZero := by
  simp only [M256.IsZero, abs, Mask.isZero, get_0, get_1, get_2, get_3]
  rw [Bool.eq_iff_iff]
  simp only [Bool.and_eq_true, beq_iff_eq, abs_eq_zero_iff, and_assoc]

theorem contains_eq (b o : M256) : M256.Contains b o = (abs b).contains (abs o) := by
  simp only [M256.Contains, abs, Mask.contains, get_0, get_1, get_2, get_3, abs_mk_and]
  rw [Bool.eq_iff_iff]
  simp only [Bool.and_eq_true, beq_iff_eq, abs_words_eq_iff, and_assoc]

theorem containsAny_eq (b o : M256) :
    M256.ContainsAny b o = (abs b).containsAny (abs o) := by
  simp only [M256.ContainsAny, abs, Mask.containsAny, get_0, get_1, get_2, get_3, abs_mk_and]
  rw [Bool.eq_iff_iff]
  simp only [Bool.or_eq_true, bne_iff_ne, ne_eq, abs_eq_zero_iff]
  generalize b.bits.w0 &&& o.bits.w0 = x0
  generalize b.bits.w1 &&& o.bits.w1 = x1
  generalize b.bits.w2 &&& o.bits.w2 = x2
  generalize b.bits.w3 &&& o.bits.w3 = x3
  by_cases h0 : x0 = 0#64 <;> by_cases h1 : x1 = 0#64 <;> by_cases h2 : x2 = 0#64 <;>
    by_cases h3 : x3 = 0#64 <;> simp [h0, h1, h2, h3]

theorem equals_eq (b o : M256) : M256.Equals b o = decide (abs b = abs o) := by
  by_cases h : abs b = abs o
  · rw [decide_eq_true h]
    have := abs_injective h
    subst this
    simp only [M256.Equals, beq_self_eq_true]
  · rw [decide_eq_false h]
    simp only [M256.Equals, beq_eq_false_iff_ne, ne_eq]
    intro e; apply h; simp only [abs, e]

theorem totalBitsSet_eq (b : M256) : M256.TotalBitsSet b = ((abs b).toList 256).length := by
  have key : ∀ p : Nat → Bool, (List.range 256).countP p =
      (List.range 64).countP p + (List.range 64).countP (fun i => p (i + 64)) +
      (List.range 64).countP (fun i => p (i + 128)) +
      (List.range 64).countP (fun i => p (i + 192)) := by
    intro p
    rw [show (256 : Nat) = 192 + 64 from rfl, countP_range_add,
      show (192 : Nat) = 128 + 64 from rfl, countP_range_add,
      show (128 : Nat) = 64 + 64 from rfl, countP_range_add]
  have hw := fun i (hi : i ∈ List.range 64) => getLsbD_abs_word b.bits i (List.mem_range.mp hi)
  simp only [M256.TotalBitsSet, Mask.toList, ← List.countP_eq_length_filter, key,
    Words.popCount, get_0, get_1, get_2, get_3, abs, Mask.get]
  congr 1
  · congr 1
    · congr 1
      · exact List.countP_congr fun i hi => by rw [← (hw i hi).1]; rfl
      · exact List.countP_congr fun i hi => by rw [← (hw i hi).2.1]
    · exact List.countP_congr fun i hi => by rw [← (hw i hi).2.2.1]
  · exact List.countP_congr fun i hi => by rw [← (hw i hi).2.2.2]

theorem abs_foldl_set (ids : List (BitVec 8)) (m : M256) :
    abs (ids.foldl M256.Set m) = (ids.map (·.toNat)).foldl Mask.set (abs m) := by
  induction ids generalizing m with
  | nil => rfl
  | cons x xs ih => simp only [List.foldl_cons, List.map_cons, ih, set_eq]

theorem ofIDs_eq (ids : List (BitVec 8)) :
    abs (M256.ofIDs ids) = Mask.ofList (ids.map (·.toNat)) := by
  simp only [M256.ofIDs, Mask.ofList, abs_foldl_set]
  rfl

/-! ## `bitMask64` -/

/-- the value of a `bitMask64` -/
def abs64 (m : M64) : Mask64 := m.bits

theorem abs64_injective {a b : M64} (h : abs64 a = abs64 b) : a = b := by
  cases a; cases b; simp only [abs64] at h; subst h; rfl

theorem get64_eq (b : M64) (bit : BitVec 8) (h : bit.toNat < 64) :
    M64.Get b bit = (abs64 b).get bit.toNat := by
  simp only [M64.Get, abs64, Mask64.get, BitVec.shiftLeft_eq']
  exact and_one_shl_beq _ _ h

/-- for a bit ≥ 64 the Go code answers `true` (the mask `1 << bit` is 0), whereas the model
    answers `false`.  The tiny build never has component IDs ≥ 64 (its registry is full at 64). -/
theorem get64_out_of_range (b : M64) (bit : BitVec 8) (h : 64 ≤ bit.toNat) :
    M64.Get b bit = true := by
  simp only [M64.Get, BitVec.shiftLeft_eq', BitVec.shiftLeft_eq_zero h, BitVec.and_zero,
    beq_self_eq_true]

theorem set64_eq (b : M64) (bit : BitVec 8) :
    abs64 (M64.Set b bit) = (abs64 b).set bit.toNat := rfl

theorem clear64_eq (b : M64) (bit : BitVec 8) :
    abs64 (M64.Clear b bit) = (abs64 b).clear bit.toNat := rfl

theorem not64_eq (b : M64) : abs64 (M64.Not b) = (abs64 b).not := rfl

theorem orI64_eq (b o : M64) : abs64 (M64.OrI b o) = (abs64 b).or (abs64 o) := rfl

theorem reset64_eq (b : M64) : abs64 (M64.Reset b) = Mask64.empty := rfl

theorem isZero64_eq (b : M64) : M64.IsZero b = (abs64 b).isZero := rfl

theorem contains64_eq (b o : M64) : M64.Contains b o = (abs64 b).contains (abs64 o) := rfl

theorem containsAny64_eq (b o : M64) :
    M64.ContainsAny b o = (abs64 b).containsAny (abs64 o) := rfl

theorem equals64_eq (b o : M64) : M64.Equals b o = decide (abs64 b = abs64 o) := by
  by_cases h : abs64 b = abs64 o
  · rw [decide_eq_true h]
    have := abs64_injective h
    subst this
    simp only [M64.Equals, beq_self_eq_true]
  · rw [decide_eq_false h]
    simp only [M64.Equals, beq_eq_false_iff_ne, ne_eq]
    intro e; apply h; simp only [abs64, e]

theorem totalBitsSet64_eq (b : M64) :
    M64.TotalBitsSet b = ((abs64 b).toList 64).length := by
  simp only [M64.TotalBitsSet, abs64, Mask64.toList, Words.popCount,
    List.countP_eq_length_filter]
  rfl

theorem abs64_foldl_set (ids : List (BitVec 8)) (m : M64) :
    abs64 (ids.foldl M64.Set m) = (ids.map (·.toNat)).foldl Mask64.set (abs64 m) := by
  induction ids generalizing m with
  | nil => rfl
  | cons x xs ih => simp only [List.foldl_cons, List.map_cons, ih, set64_eq]

theorem ofIDs64_eq (ids : List (BitVec 8)) :
    abs64 (M64.ofIDs ids) = Mask64.ofList (ids.map (·.toNat)) := by
  simp only [M64.ofIDs, Mask64.ofList, abs64_foldl_set]
  rfl

end Ark.MaskWords
