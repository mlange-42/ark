/-
  Ark.Proofs.MaskLemmas — the set-level view of `Mask` (BitVec 256): every operation is
  characterised by what it does to `get`.  The facts that do not depend on the width are proved
  once, for `BitVec w` (`Ark.Bits`); `Mask64` (Ark/Proofs/MaskWidth.lean) uses them at width 64.
-/
import Ark.Model.Mask

set_option autoImplicit false

namespace Ark

namespace Bits
variable {w : Nat}

theorem getLsbD_bit (b c : Nat) :
    ((1#w) <<< b).getLsbD c = (decide (c < w) && decide (c = b)) := by
  simp only [BitVec.getLsbD_shiftLeft, BitVec.getLsbD_one]
  by_cases h1 : c < w
  · by_cases h2 : c = b
    · subst h2; simp [h1, Nat.zero_lt_of_lt h1]
    · by_cases h3 : c < b
      · simp [h1, h2, h3]
      · have : c - b ≠ 0 := by omega
        simp [h1, h2, h3, this]
  · simp [h1]

theorem getLsbD_clear (m : BitVec w) (b c : Nat) :
    (m &&& ~~~((1#w) <<< b)).getLsbD c = (m.getLsbD c && !(decide (c = b))) := by
  rw [BitVec.getLsbD_and, BitVec.getLsbD_not, getLsbD_bit]
  by_cases h1 : c < w
  · simp [h1]
  · simp [BitVec.getLsbD_of_ge m c (Nat.le_of_not_lt h1)]

theorem eq_zero_iff (m : BitVec w) : (m == 0#w) = true ↔ ∀ c, m.getLsbD c = false := by
  rw [beq_iff_eq]
  constructor
  · intro h c; subst h; exact BitVec.getLsbD_zero
  · intro h
    apply BitVec.eq_of_getLsbD_eq
    intro c _
    rw [h c, BitVec.getLsbD_zero]

theorem contains_iff (b o : BitVec w) :
    ((b &&& o) == o) = true ↔ ∀ c, o.getLsbD c = true → b.getLsbD c = true := by
  rw [beq_iff_eq]
  constructor
  · intro h c hc
    have : (b &&& o).getLsbD c = o.getLsbD c := by rw [h]
    rw [BitVec.getLsbD_and, hc, Bool.and_true] at this
    exact this
  · intro h
    apply BitVec.eq_of_getLsbD_eq
    intro i _
    rw [BitVec.getLsbD_and]
    cases ho : o.getLsbD i with
    | false => exact Bool.and_false _
    | true => rw [h i ho]; rfl

theorem containsAny_iff (b o : BitVec w) :
    ((b &&& o) != 0#w) = true ↔ ∃ c, b.getLsbD c = true ∧ o.getLsbD c = true := by
  rw [bne_iff_ne, ne_eq, ← beq_iff_eq, eq_zero_iff]
  simp only [BitVec.getLsbD_and, Bool.and_eq_false_imp, Classical.not_forall, Bool.not_eq_false,
    exists_prop]

theorem containsAny_false_iff (b o : BitVec w) :
    ((b &&& o) != 0#w) = false ↔ ∀ c, b.getLsbD c = true → o.getLsbD c = false := by
  rw [← Bool.not_eq_true, containsAny_iff]
  simp only [not_exists, not_and, Bool.not_eq_true]

theorem getLsbD_foldl_set (cs : List Nat) (m : BitVec w) (c : Nat) :
    (cs.foldl (fun m b => m ||| (1#w) <<< b) m).getLsbD c =
      (m.getLsbD c || (decide (c < w) && decide (c ∈ cs))) := by
  induction cs generalizing m with
  | nil => simp
  | cons x xs ih =>
    rw [List.foldl_cons, ih, BitVec.getLsbD_or, getLsbD_bit]
    by_cases h1 : c < w
    · by_cases h2 : c = x
      · subst h2; simp [h1]
      · by_cases h3 : c ∈ xs <;> simp [h1, h2, h3]
    · simp [h1]

end Bits

namespace Mask

@[simp] theorem get_empty (c : Nat) : empty.get c = false := by
  simp [empty, get]

theorem get_ge (m : Mask) (c : Nat) (h : 256 ≤ c) : m.get c = false := by
  simp only [get]
  exact BitVec.getLsbD_of_ge m c h

theorem get_bit (b c : Nat) : (bit b).get c = (decide (c < 256) && decide (c = b)) :=
  Bits.getLsbD_bit b c

theorem get_set (m : Mask) (b c : Nat) :
    (m.set b).get c = (m.get c || (decide (c < 256) && decide (c = b))) := by
  simp only [set, get, BitVec.getLsbD_or]
  rw [show (bit b).getLsbD c = (bit b).get c from rfl, get_bit]

theorem get_clear (m : Mask) (b c : Nat) :
    (m.clear b).get c = (m.get c && !(decide (c = b))) :=
  Bits.getLsbD_clear m b c

theorem get_or (a b : Mask) (c : Nat) : (a.or b).get c = (a.get c || b.get c) := by
  simp [or, get, BitVec.getLsbD_or]

theorem get_not (a : Mask) (c : Nat) : a.not.get c = (decide (c < 256) && !a.get c) := by
  simp [not, get, BitVec.getLsbD_not]

theorem ext_get (a b : Mask) (h : ∀ c, c < 256 → a.get c = b.get c) : a = b := by
  apply BitVec.eq_of_getLsbD_eq
  intro i hi
  exact h i hi

theorem isZero_iff (m : Mask) : m.isZero = true ↔ ∀ c, m.get c = false :=
  Bits.eq_zero_iff m

/-- `b.Contains(o)` ⇔ `o ⊆ b`. -/
theorem contains_iff (b o : Mask) : b.contains o = true ↔ ∀ c, o.get c = true → b.get c = true :=
  Bits.contains_iff b o

/-- `b.ContainsAny(o)` ⇔ `b ∩ o ≠ ∅`. -/
theorem containsAny_iff (b o : Mask) : b.containsAny o = true ↔ ∃ c, b.get c = true ∧ o.get c = true :=
  Bits.containsAny_iff b o

theorem containsAny_false_iff (b o : Mask) :
    b.containsAny o = false ↔ ∀ c, b.get c = true → o.get c = false :=
  Bits.containsAny_false_iff b o

theorem get_ofList_foldl (cs : List Nat) (m : Mask) (c : Nat) :
    (cs.foldl set m).get c = (m.get c || (decide (c < 256) && decide (c ∈ cs))) :=
  Bits.getLsbD_foldl_set cs m c

theorem get_ofList (cs : List Nat) (c : Nat) :
    (ofList cs).get c = (decide (c < 256) && decide (c ∈ cs)) := by
  simp [ofList, get_ofList_foldl]

theorem mem_toList (m : Mask) (n c : Nat) : c ∈ m.toList n ↔ c < n ∧ m.get c = true := by
  simp [toList, List.mem_filter, List.mem_range]

theorem toList_nodup (m : Mask) (n : Nat) : (m.toList n).Nodup :=
  List.filter_sublist.nodup List.nodup_range

end Mask

namespace Filter

/-- `filter.matches` at the set level: all required components present, no excluded one. -/
theorem matchesMask_iff (f : Filter) (m : Mask) :
    f.matchesMask m = true ↔
      (∀ c, f.mask.get c = true → m.get c = true) ∧
      (f.hasWithout = true → ∀ c, m.get c = true → f.without.get c = false) := by
  simp only [matchesMask, Bool.and_eq_true, Bool.or_eq_true, Bool.not_eq_true', Mask.contains_iff]
  constructor
  · rintro ⟨h1, h2⟩
    refine ⟨h1, fun hw => ?_⟩
    rcases h2 with h2 | h2
    · rw [hw] at h2; cases h2
    · exact (Mask.containsAny_false_iff _ _).mp h2
  · rintro ⟨h1, h2⟩
    refine ⟨h1, ?_⟩
    cases hw : f.hasWithout with
    | false => left; rfl
    | true => right; exact (Mask.containsAny_false_iff _ _).mpr (h2 hw)

/-- `Exclusive`: matches exactly the masks equal to the filter's mask. -/
theorem exclusive_matches_iff (f : Filter) (m : Mask) :
    f.exclusive.matchesMask m = true ↔ m = f.mask := by
  rw [matchesMask_iff]
  simp only [exclusive, Mask.get_not]
  constructor
  · rintro ⟨h1, h2⟩
    apply Mask.ext_get
    intro c hc
    cases hm : m.get c with
    | true =>
      have := h2 trivial c hm
      simp [hc] at this
      exact this.symm
    | false =>
      cases hf : f.mask.get c with
      | false => rfl
      | true => rw [h1 c hf] at hm; cases hm
  · rintro rfl
    refine ⟨fun _ h => h, fun _ c hc => ?_⟩
    simp [hc]

end Filter
end Ark
