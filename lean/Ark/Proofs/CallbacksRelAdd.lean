/-
  The relation events under the joint invariant with observers (`TInvObs`): `SetRelations`
  (`changedRels`: an accepted observer-free call is accepted with observers, and fires exactly when a
  target changes), and the relation rounds of `NewEntity(ids…, rels…)` and `Add(e, ids…, rels…)`
  (`OnAddRelations` after `OnCreateEntity` / `OnAddComponents`, only if the call names relations).
-/
import Ark.Proofs.CallbacksCbs
import Ark.Proofs.CallbacksRel
import Ark.Proofs.TargetsAdd

section

/-! ## §1 `SetRelations`

`SetRelations` under the joint invariant of the relation fragment with observers (`TInvObs`).
  `changedRels w e rels`: the relation components named whose target CHANGES.  `RelLooked w w1`:
  what the table lookup leaves — every entity as in `w`.  An accepted observer-free call is
  accepted with observers: either no target changes and the world (log included) is untouched, or
  the result is the observer-free one with the observers put back and the two rounds logged, for
  the event instance `.set (Mask.ofList (changedRels w e rels)) (w.maskOf e)`.
-/

set_option autoImplicit false

namespace Ark

open World Spec Ark.Props.C01World QueryExact

/-! ### the table lookup keeps the archetype's mask -/

namespace World

theorem getOrCreate_arch_mask {a : Nat} {rels : List RelID} {w w1 : World} {nt : Nat}
    (h : getOrCreate a rels w = .ok nt w1) : (w1.arch a).mask = (w.arch a).mask :=
  getOrCreate_induct (fun w w1 => (w1.arch a).mask = (w.arch a).mask) (fun _ => rfl)
    (fun h => ((createTable_archRel h).2 a).mask) h

end World

/-! ### the relation components whose target changes -/

/-- **the relation components named by `rels` whose target CHANGES** for entity `e`: the stored
    target differs from the one given -/
def changedRels (w : World) (e : Ent) (rels : List RelID) : List Comp :=
  (rels.filter fun r => decide (targetOf w e.id r.comp ≠ some r.target)).map (·.comp)

theorem changedRels_noObs (w : World) (e : Ent) (rels : List RelID) :
    changedRels w.noObs e rels = changedRels w e rels := rfl

/-- `w1` is `w` after the table lookup of `SetRelations`: the destination table exists (created,
    recycled or found; empty or not), and every entity is as in `w` — components, values,
    relation targets, liveness -/
structure RelLooked (w w1 : World) : Prop where
  entities : w1.entities = w.entities
  pool : w1.pool = w.pool
  kinds : w1.kinds = w.kinds
  isTarget : w1.isTarget = w.isTarget
  same : ∀ (j : Nat), SameEnt w w1 j
  targets : ∀ (j : Nat) (c : Comp), targetOf w1 j c = targetOf w j c
  alive : ∀ (x : Ent), w1.alive x = w.alive x
  tablesLen : w.tables.length ≤ w1.tables.length ∧ w1.tables.length ≤ w.tables.length + 1
  idx : IdxInv w1
  rel : RelInv w1

/-- the analysis of `World.setRelations` under the invariant up to the table lookup: the entity's
    table, the outcome of the scan (`ch` = some target differs; the change mask is read off
    `changedRels`), and what a successful table lookup leaves -/
theorem setRel_setup {w : World} {fl : List Nat} (h : TInv w fl) {e : Ent} (h2 : 2 ≤ e.id)
    (hnf : e.id ∉ fl) (ha : w.alive e = true) (hsl : e.id < w.pool.ents.length)
    {rels : List RelID}
    (hnd : (rels.map (·.comp)).Nodup)
    (hhas : ∀ (r : RelID), r ∈ rels → (targetOf w e.id r.comp).isSome = true) :
    ∃ (oldT row : Nat), w.index e.id = (oldT, row) ∧
      w.maskOf e = (w.arch (w.tbl oldT).arch).mask ∧
      changedComps (w.tbl oldT) rels = changedRels w e rels ∧
      ∃ (ch : Bool) (cm : Mask),
        getExchangeTargets (w.tbl oldT) rels w =
          .ok (if ch then colRels (w.tbl oldT).ids
            (setTargets (w.tbl oldT).colIdx rels (w.tbl oldT).targets) (w.tbl oldT).isRel else [],
            ch, cm) w ∧
        (ch = true → ∀ (nt : Nat) (w1 : World),
          getOrCreate (w.tbl oldT).arch (colRels (w.tbl oldT).ids
            (setTargets (w.tbl oldT).colIdx rels (w.tbl oldT).targets) (w.tbl oldT).isRel) w
            = .ok nt w1 →
          RelLooked w w1 ∧ (w1.arch (w.tbl oldT).arch).mask = w.maskOf e) := by
  obtain ⟨oldT, row, he, htm, hT, _, hTf⟩ := h.live_table h2 hnf ha hsl
  have hix := index_of_get he
  have hI := h.link.idx
  have hcols := relCols_of_has he hT hhas
  have hmask := maskOf_eq hix
  obtain ⟨A, hA, _⟩ := h.rel.sinv.toSInvMid.tblArch oldT _ hT
  refine ⟨oldT, row, hix, hmask, ?_, ?_⟩
  · -- the change list, read through `targetOf`
    unfold changedComps changedRels
    congr 1
    apply List.filter_congr
    intro r hr
    obtain ⟨i, hi, hir⟩ := hcols r hr
    rw [targetOf_of_entry he htm hT, Table.targetAt_of_col hi hir]
    simp only [relDiffers, hi]
    by_cases heq : r.target = (w.tbl oldT).targets.getD i Ent.zero
    · rw [← heq]; simp
    · have h1 : (r.target == (w.tbl oldT).targets.getD i Ent.zero) = false := by
        simpa using heq
      have h2 : some ((w.tbl oldT).targets.getD i Ent.zero) ≠ some r.target :=
        fun hh => heq (Option.some.inj hh).symm
      rw [h1]
      exact (decide_eq_true h2).symm
  · obtain ⟨ch, cm, hx, _, htrue⟩ := getExchangeTargets_spec (w.tbl oldT) rels w hcols hnd
    refine ⟨ch, cm, hx, fun hch nt w1 hgo => ?_⟩
    obtain ⟨rel1, hI1, _, _, cg, _⟩ := relAssign_of_ok h.rel hI (h.flags.upTo rels) h.freeEmpty
      (lt_of_get hT) hTf hnd hcols (htrue hch) hgo
    refine ⟨⟨cg.entities, cg.pool, cg.kinds, cg.isTarget, fun j => (cg.frame hI h.freeEmpty j).1,
      fun j => (cg.frame hI h.freeEmpty j).2, fun x => by simp only [World.alive, cg.pool],
      ⟨cg.tablesLe, cg.lenB⟩, hI1, rel1⟩, ?_⟩
    rw [hmask]
    exact getOrCreate_arch_mask hgo

/-! ### `SetRelations` with observers under the invariant -/

section Ops

variable {run : ProbeRunner} {S : Probe → Prop} {rec : World → Nat → Ent → Probe → List LogEv}

/-- **`SetRelations` with observers under the invariant** (C08 + C09 for `SetRelations`), through
    any path.  `w0` is the result of the accepted observer-free call, with everything
    `opSetRelations_spec` says about it (`SetRelPost`).  With observers the call is accepted as
    well.  If no target changes (`changedRels w e rels = []`) the world is returned untouched — log
    included: no observer is notified.  Otherwise, with `w1` the world after the table lookup
    (`RelLooked`: every entity as before the call), the result is `setRelResult`: `w0` with the
    observers of `w`, the lock's bit pool after one `Lock()`/`Unlock()` cycle (if there are
    `OnRemoveRelations` observers), and the log extended, in this order, by the notifications of
    the `OnRemoveRelations` observers the documented rule selects for the event instance
    `.set (changed relation components) (mask of e)` — each run on `w1` LOCKED, the entity still
    in its old table — and then of the `OnAddRelations` observers the rule selects for the same
    instance — each run on the result, after the move. -/
theorem opSetRelations_callbacks (hro : ReadOnly run S rec) (run0 : ProbeRunner) (p : Path)
    {w : World} {fl : List Nat} (hs : ScriptsIn w.obs S) (h : TInvObs w fl)
    (hl : w.isLocked = false) {e : Ent} (h2 : 2 ≤ e.id) (hnf : e.id ∉ fl) (ha : w.alive e = true)
    (hsl : e.id < w.pool.ents.length) {mapperIds : List Comp} {rels : List RelID}
    (hne : rels.isEmpty = false) (hnd : (rels.map (·.comp)).Nodup)
    (hhas : ∀ (r : RelID), r ∈ rels → (targetOf w e.id r.comp).isSome = true)
    (htin : ∀ (r : RelID), r ∈ rels → r.target.id < w.pool.ents.length)
    (hfew : w.tables.length < maxU32) (hrows : w.entities.length + 1 < 2 ^ 32)
    {l1 l2 : Lock} {b : Nat} (hL : LockCycle w.locks l1 b l2) {w0 : World}
    (h0 : opSetRelations run0 p e mapperIds rels w.noObs = .ok () w0) :
    SetRelPost w.noObs fl e rels w0 ∧
    ((changedRels w e rels = [] ∧ w0 = w.noObs ∧
        opSetRelations run p e mapperIds rels w = .ok () w) ∨
     (changedRels w e rels ≠ [] ∧ ∃ (w1 : World), RelLooked w.noObs w1 ∧
        opSetRelations run p e mapperIds rels w = .ok ()
          (setRelResult rec w w1 w0 e (Mask.ofList (changedRels w e rels)) (w.maskOf e) l1 l2))) := by
  refine ⟨opSetRelations_spec run0 p h.tinv hl (noObs_hasObservers w) h2 hnf ha hsl hne hnd hhas
    htin hfew hrows h0, ?_⟩
  obtain ⟨oldT, row, hix, _, hcc, ch, cm, hx, hlook⟩ := setRel_setup h.tinv h2 hnf ha hsl hnd hhas
  have ht := (opSetRelations_lifts run run0 p e mapperIds rels w.obs w.log w.noObs
    (setRelationsCore_lifts run run0 e rels w.obs w.log w.noObs)).ok h0 hro hs h.obs hL
  simp only [show w.noObs.index e.id = (oldT, row) from hix,
    show changedComps (w.noObs.tbl oldT) rels = changedRels w e rels from hcc] at ht
  rcases ht with hsame | ⟨hc, newRels, cm', nt, w1, hx', hg, _, hop⟩
  · exact Or.inl hsame
  · -- the scan is the one `setRel_setup` analysed: some target differs, the new relations are known
    rw [hx] at hx'
    injection hx' with e1 _
    obtain ⟨e1, e2, _⟩ := Prod.mk.inj e1 |>.imp id Prod.mk.inj
    subst e2
    simp only [if_true] at e1
    subst e1
    obtain ⟨lk, hm1⟩ := hlook rfl nt w1 hg
    have hm1' : (w1.arch (w.noObs.tbl oldT).arch).mask = w.maskOf e := hm1
    rw [hm1'] at hop
    exact Or.inr ⟨hc, w1, lk, hop⟩

/-- the observers `SetRelations` notifies under the event type `evt` (`OnRemoveRelations`, then
    `OnAddRelations`): none when no target changes; otherwise those the documented rule selects
    for the set of changed relation components and the entity's mask -/
def firingRel (m : ObsMgr) (evt : Nat) (changed : List Comp) (mask : Mask) : List Nat :=
  if changed = [] then [] else firing m evt (.set (Mask.ofList changed) mask)

/-- the lock state after `SetRelations`: one `Lock()`/`Unlock()` cycle if some target changes and
    there are `OnRemoveRelations` observers, untouched otherwise -/
def lockAfterRel (w : World) (changed : List Comp) (l2 : Lock) : Lock :=
  if changed = [] then w.locks else lockAfter w Ev.onRemoveRelations l2

/-- **the setting of C08/C09 for worlds with relations**: a callback runner that is read-only on
    the probes `S` and writes no `cb` records of its own; observers whose scripts consist of such
    probes; a world satisfying `TInvObs` (the joint invariant `TInv` of the relation fragment with
    any set of registered observers whose aggregates are consistent) -/
structure SettingRel (run : ProbeRunner) (S : Probe → Prop)
    (rec : World → Nat → Ent → Probe → List LogEv) (w : World) (fl : List Nat) : Prop where
  ro : ReadOnly run S rec
  noCb : NoCb rec
  scripts : ScriptsIn w.obs S
  inv : TInvObs w fl

/-- the setting carries over to the result: same runner, same observers, the invariant of the
    observer-free result -/
theorem SettingRel.frame {w w0 w' : World} {fl fl' : List Nat} (st : SettingRel run S rec w fl)
    (hf : FrameOf w0 w w') (h0 : TInv w0 fl') : SettingRel run S rec w' fl' where
  ro := st.ro
  noCb := st.noCb
  scripts := by rw [hf.obs]; exact st.scripts
  inv := by rw [hf]; exact st.inv.frame h0 _ _

end Ops

end Ark

end

section

/-! ## §2 `NewEntity` and `Add` with relations

The relation rounds of `NewEntity(ids…, rels…)` and `Add(e, ids…, rels…)`: `OnAddRelations`
  after `OnCreateEntity` / `OnAddComponents`, only if the call names relations, each round on the
  world after the change (`opNewEntity_lifts`, `opAdd_lifts` of Ark/Proofs/CallbacksOps.lean).
  Here: the statements under `TInvObs`, with the event instances in terms of the call:
  `.entity/.entityRel (Mask.ofList ids)`, `.add (maskOf e) (ids.foldl Mask.set (maskOf e))`.
-/

set_option autoImplicit false

namespace Ark

open World Spec Ark.Props.C01World QueryExact

section Ops

variable {run : ProbeRunner} {S : Probe → Prop} {rec : World → Nat → Ent → Probe → List LogEv}

/-- the mask `World.newEntity` returns, read off the table lookup (`TInv.new_lookup`) -/
theorem newEntityCore_mask (run : ProbeRunner) (p : Path) {w : World} {fl : List Nat} (h : TInv w fl)
    (hl : w.isLocked = false) (hno : ∀ (evt : Nat), w.obs.hasObservers evt = false)
    {ids : List Comp} {vals : List (Comp × Val)} {rels : List RelID}
    (hreg : ∀ (c : Comp), c ∈ ids → c < w.kinds.length)
    (hnd : (rels.map (·.comp)).Nodup) (hin : ∀ (r : RelID), r ∈ rels → r.comp ∈ ids)
    (hfew : w.tables.length < maxU32) (hrows : w.entities.length + 1 < 2 ^ 32)
    {e0 : Ent} {w' : World} (hok : opNewEntity run p ids vals rels w = .ok e0 w')
    {e : Ent} {mask : Mask} {w1 : World} (hcore : newEntityCore ids rels w = .ok (e, mask) w1) :
    mask = Mask.ofList ids := by
  obtain ⟨t, a, m, wf, hf, hmask, ar, _⟩ := h.new_lookup run p hl hno hreg hnd hin hfew hrows hok
  simp only [newEntityCore, bind, M.bind, checkLocked_unlocked w hl, hf, placeNew_eq,
    registerTargets_eq, M.get, pure, M.pure] at hcore
  injection hcore with h1 _
  have h2 := (Prod.mk.inj h1).2
  have harch : ((registerW (placedW wf t false) rels).arch a).mask = (wf.arch a).mask := by
    show ((placedW wf t false).arch a).mask = _
    rw [placedW_eq]; rfl
  rw [← h2, harch, ar.foc.archMask, hmask]
  rfl

/-- **`NewEntity(ids…, rels…)` with observers under the invariant** (C08 + C09 for the relation
    round of `NewEntity`).  `w0` is the result of the accepted observer-free call (with
    everything `opNewEntity_rel_spec` says: `NewRelPost`), `w1` the observer-free world after
    `World.newEntity` (before the writes).  With observers the call is accepted with the same
    handle; the result is `w0` with the observers of `w` and the log extended by: the
    `OnCreateEntity` observers the documented rule selects for `.entity (Mask.ofList ids)`, then —
    only if `rels` is not empty — the `OnAddRelations` observers selected for
    `.entityRel (Mask.ofList ids)`; each round run on the world after the creation (`seenAfter`:
    values written for the typed paths). -/
theorem opNewEntity_rel_callbacks (hro : ReadOnly run S rec) (run0 : ProbeRunner) (p : Path)
    {w : World} {fl : List Nat} (hs : ScriptsIn w.obs S) (h : TInvObs w fl)
    (hl : w.isLocked = false) {ids : List Comp} {vals : List (Comp × Val)} {rels : List RelID}
    (hreg : ∀ (c : Comp), c ∈ ids → c < w.kinds.length)
    (hnd : (rels.map (·.comp)).Nodup) (hin : ∀ (r : RelID), r ∈ rels → r.comp ∈ ids)
    (hrc : ∀ (r : RelID), r ∈ rels → w.isRelComp r.comp = true)
    (htin : ∀ (r : RelID), r ∈ rels → r.target.id < w.pool.ents.length)
    (hfew : w.tables.length < maxU32) (hrows : w.entities.length + 1 < 2 ^ 32)
    {e : Ent} {w0 : World} (h0 : opNewEntity run0 p ids vals rels w.noObs = .ok e w0) :
    NewRelPost w.noObs fl rels e w0 ∧
    ∃ (w1 : World), newEntityCore ids rels w.noObs = .ok (e, Mask.ofList ids) w1 ∧
      w0 = writeValsW w1 e vals ∧
      opNewEntity run p ids vals rels w = .ok e (w0.relog w.obs
        (addRounds rec w.obs e Ev.onCreateEntity (.entity (Mask.ofList ids)) rels
          (.entityRel (Mask.ofList ids)) ((seenAfter p w1 e vals).relog w.obs w.log) ++ w.log)) := by
  have post := opNewEntity_rel_spec run0 p h.tinv hl (noObs_hasObservers w) hreg hnd hin hrc htin
    hfew hrows h0
  obtain ⟨mask, w1, hc, hw0, hop⟩ :=
    (opNewEntity_lifts run run0 p ids vals rels w.obs w.log w.noObs).ok h0 hro hs h.obs
  have hm := newEntityCore_mask run0 p h.tinv hl (noObs_hasObservers w) hreg hnd hin hfew hrows h0 hc
  subst hm
  exact ⟨post, w1, hc, hw0, hop⟩

/-- the two masks `World.add` returns, read off the table lookup (`TInv.add_lookup`) -/
theorem addCore_masks (run : ProbeRunner) (p : Path) {w : World} {fl : List Nat} (h : TInv w fl)
    (hl : w.isLocked = false) (hno : ∀ (evt : Nat), w.obs.hasObservers evt = false) {e : Ent}
    (h2 : 2 ≤ e.id) (hnf : e.id ∉ fl) (ha : w.alive e = true) (hsl : e.id < w.pool.ents.length)
    {ids : List Comp} {vals : List (Comp × Val)} {rels : List RelID}
    (hreg : ∀ (c : Comp), c ∈ ids → c < w.kinds.length)
    (hnd : (rels.map (·.comp)).Nodup) (hin : ∀ (r : RelID), r ∈ rels → r.comp ∈ ids)
    {w' : World} (hok : opAdd run p e ids vals rels w = .ok () w')
    {old new : Mask} {w1 : World} (hcore : addCore e ids rels w = .ok (old, new) w1) :
    old = w.maskOf e ∧ new = ids.foldl Mask.set (w.maskOf e) := by
  obtain ⟨oldT, row, newT, newA, mask, wf, he, _, _, _, hemp, hf, hmask, ar, _, _⟩ :=
    h.add_lookup run p hl hno h2 hnf ha hsl hreg hnd hin hok
  have hix := index_of_get he
  have hmo := maskOf_eq hix
  rw [addCore_rel_eq e ids rels w hl ha hemp hix hf] at hcore
  injection hcore with h1 _
  obtain ⟨e1, e2⟩ := Prod.mk.inj h1
  have harch : ((registerW (addMove wf e oldT row newT mask) rels).arch newA).mask
      = (wf.arch newA).mask := by
    show ((addMove wf e oldT row newT mask).archetypes.getD newA default).mask = _
    rw [(addMove_fields wf e oldT row newT mask).2.2.1]
    rfl
  refine ⟨by rw [← e1, hmo], ?_⟩
  rw [← e2, harch, ar.foc.archMask, hmask, hmo]

/-- **`Add(e, ids…, rels…)` with observers under the invariant** (C08 + C09 for the relation
    round of `Add`).  `w0` is the result of the accepted observer-free call (`AddRelPost`), `w1`
    the observer-free world after `World.add`.  With observers the call is accepted; the result
    is `w0` with the observers of `w` and the log extended by: the `OnAddComponents` observers the
    documented rule selects for `.add (maskOf e) (maskOf e ∪ ids)`, then — only if `rels` is not
    empty — the `OnAddRelations` observers selected for the same instance; each round run on the
    world after the change. -/
theorem opAdd_rel_callbacks (hro : ReadOnly run S rec) (run0 : ProbeRunner) (p : Path)
    {w : World} {fl : List Nat} (hs : ScriptsIn w.obs S) (h : TInvObs w fl)
    (hl : w.isLocked = false) {e : Ent} (h2 : 2 ≤ e.id) (hnf : e.id ∉ fl) (ha : w.alive e = true)
    (hsl : e.id < w.pool.ents.length)
    {ids : List Comp} {vals : List (Comp × Val)} {rels : List RelID}
    (hreg : ∀ (c : Comp), c ∈ ids → c < w.kinds.length)
    (hnd : (rels.map (·.comp)).Nodup) (hin : ∀ (r : RelID), r ∈ rels → r.comp ∈ ids)
    (hrc : ∀ (r : RelID), r ∈ rels → w.isRelComp r.comp = true)
    (htin : ∀ (r : RelID), r ∈ rels → r.target.id < w.pool.ents.length)
    (hfew : w.tables.length < maxU32) (hrows : w.entities.length + 1 < 2 ^ 32)
    {w0 : World} (h0 : opAdd run0 p e ids vals rels w.noObs = .ok () w0) :
    AddRelPost w.noObs fl e ids vals rels w0 ∧
    ∃ (w1 : World),
      addCore e ids rels w.noObs = .ok (w.maskOf e, ids.foldl Mask.set (w.maskOf e)) w1 ∧
      w0 = writeValsW w1 e vals ∧
      opAdd run p e ids vals rels w = .ok () (w0.relog w.obs
        (addRounds rec w.obs e Ev.onAddComponents
          (.add (w.maskOf e) (ids.foldl Mask.set (w.maskOf e))) rels
          (.add (w.maskOf e) (ids.foldl Mask.set (w.maskOf e)))
          ((seenAfter p w1 e vals).relog w.obs w.log) ++ w.log)) := by
  have post := opAdd_rel_spec run0 p h.tinv hl (noObs_hasObservers w) h2 hnf ha hsl hreg hnd hin hrc
    htin hfew hrows h0
  obtain ⟨old, new, w1, hc, hw0, hop⟩ :=
    (opAdd_lifts run run0 p e ids vals rels w.obs w.log w.noObs).ok h0 hro hs h.obs
  obtain ⟨e1, e2⟩ := addCore_masks run0 p h.tinv hl (noObs_hasObservers w) h2 hnf ha hsl hreg hnd hin h0 hc
  have e1' : old = w.maskOf e := e1
  have e2' : new = ids.foldl Mask.set (w.maskOf e) := e2
  subst e1' e2'
  exact ⟨post, w1, hc, hw0, hop⟩

end Ops

end Ark

end

