/-
  Ark.Proofs.QueryRel — property C03 with RELATION TARGETS: which tables a query with
  relations selects, on a world satisfying the structural part `RelInv` (`SInv ∧ RInv ∧ RelAux`) of
  the joint invariant `TInv` of `Ark.Proofs.TargetsInv`.

  The uncached counting walk selects, archetype by archetype, the tables `GetTables` hands out
  (per-target lookup by the FIRST relation's target ID, or all tables) filtered by `Matches`; the
  entry of a registered filter lists the tables selected for the FIXED relations, the cursor
  matches the per-call ones.  With typed relations (`RelsTyped`: what the typed API enforces)
  neither can hit a nil dereference, and "selected" can be read off the columns (`TblMatch`).
  That a non-free table "has relations" iff its archetype does needs the exact relation lists
  `RelListsOK` (`hasRelations_eq`).
-/
import Ark.Proofs.QueryCached
import Ark.Proofs.TargetsInv

set_option autoImplicit false

namespace Ark
namespace QueryRel

open World Drain Ark.Props.C01World QueryExact

theorem exists_true_of_filter_pos : ∀ (l : List Bool), 0 < (l.filter fun b => b).length →
    ∃ (i : Nat), l.getD i false = true
  | [], h => by simp at h
  | true :: _, _ => ⟨0, rfl⟩
  | false :: rest, h => by
    obtain ⟨i, hi⟩ := exists_true_of_filter_pos rest (by simpa using h)
    exact ⟨i + 1, by simpa using hi⟩

theorem hasRelations_eq {w : World} (h : RelInv w) {t : Nat} {T : Table}
    (hT : w.tables[t]? = some T) (hf : T.isFree = false) :
    T.hasRelations = (w.arch T.arch).hasRelations := by
  have hex := h.aux.rels t T hT hf
  have hil := h.sinv.toSInvMid.isRel_len hT
  have hnum := h.sinv.toSInvMid.numRel_eq hT
  have hle := hex.length_le hil
  simp only [Table.hasRelations, Archetype.hasRelations, hnum]
  cases hr : T.relIDs with
  | cons r rest =>
    rw [hr] at hle
    simp only [List.length_cons] at hle
    simp only [List.isEmpty_cons, Bool.not_false]
    exact (decide_eq_true (by omega)).symm
  | nil =>
    simp only [List.isEmpty_nil, Bool.not_true]
    apply Eq.symm
    apply decide_eq_false
    intro hpos
    obtain ⟨i, hi⟩ := exists_true_of_filter_pos T.isRel hpos
    have hlt : i < T.ids.length := by rw [← hil]; exact lt_of_getD_true hi
    have := hex.complete i T.ids[i] (List.getElem?_eq_getElem hlt) hi
    rw [hr] at this; cases this

theorem tablesInv_of_rel {w : World} (h : RelInv w) : TablesInv w := by
  refine TablesInv.of_sinv h.sinv h.rinv ?_
  intro a A hA t ht
  obtain ⟨hlt, hta, hf⟩ := (h.sinv.active_iff hA).1 ht
  rw [hasRelations_eq h (get_of_lt hlt) hf, hta, arch_of_get hA]

/-- **what the typed API guarantees of the relations of a query** (`fo.rels` from
    `.Relations(…)`, `extra` from `.Query(rel…)`; `ToRelations` / `preCheckTyped`): every relation
    names a relation component that the filter's mask requires -/
def RelsTyped (w : World) (f : Filter) (rels : List RelID) : Prop :=
  ∀ (r : RelID), r ∈ rels → w.isRelComp r.comp = true ∧ f.mask.get r.comp = true

theorem RelsTyped.append {w : World} {f : Filter} {r1 r2 : List RelID} (h1 : RelsTyped w f r1)
    (h2 : RelsTyped w f r2) : RelsTyped w f (r1 ++ r2) := by
  intro r hr
  rcases List.mem_append.mp hr with h | h
  · exact h1 r h
  · exact h2 r h

theorem RelsTyped.nil (w : World) (f : Filter) : RelsTyped w f [] := fun _ h => by cases h

theorem col_of_required {w : World} (h : SInvMid w) {t : Nat} {T : Table}
    (hT : w.tables[t]? = some T) {f : Filter} (hm : f.matchesMask (w.arch T.arch).mask = true)
    {c : Comp} (hc : f.mask.get c = true) :
    ∃ (i : Nat), T.colIdx c = some i ∧ T.isRel.getD i false = w.isRelComp c := by
  obtain ⟨A, hA, e1, e2, _⟩ := h.tblArch t T hT
  rw [arch_of_get hA] at hm
  have hg := ((Filter.matchesMask_iff f _).mp hm).1 c hc
  have hreg := h.maskReg _ A hA c hg
  have hmem : c ∈ T.ids := by
    rw [e1, (h.comps _ A hA).1]; exact (Mask.mem_toList _ _ _).mpr ⟨hreg, hg⟩
  have hlt : T.ids.idxOf c < T.ids.length := List.idxOf_lt_length_of_mem hmem
  have hci : T.colIdx c = some (T.ids.idxOf c) := by simp [Table.colIdx, hlt]
  refine ⟨_, hci, ?_⟩
  have hget := Table.colIdx_get hci
  rw [e1] at hget
  rw [e2, e1]
  exact (h.kindsOf _ A _ c hA hget).1

theorem acol_of_required {w : World} (h : SInvMid w) {a : Nat} {A : Archetype}
    (hA : w.archetypes[a]? = some A) {f : Filter} (hm : f.matchesMask A.mask = true)
    {c : Comp} (hc : f.mask.get c = true) :
    ∃ (i : Nat), A.colIdx c = some i ∧ A.isRel.getD i false = w.isRelComp c := by
  have hg := ((Filter.matchesMask_iff f _).mp hm).1 c hc
  have hreg := h.maskReg _ A hA c hg
  have hmem : c ∈ A.comps := by
    rw [(h.comps _ A hA).1]; exact (Mask.mem_toList _ _ _).mpr ⟨hreg, hg⟩
  have hlt : A.comps.idxOf c < A.comps.length := List.idxOf_lt_length_of_mem hmem
  have hci : A.colIdx c = some (A.comps.idxOf c) := by simp [Archetype.colIdx, hlt]
  exact ⟨_, hci, (h.kindsOf _ A _ c hA (Archetype.colIdx_get hci)).1⟩

/-- **panic-freedom**: with typed relations neither `GetTables` nor `Matches` can hit a nil
    dereference -/
theorem relsOK_of_typed {w : World} (h : SInvMid w) {f : Filter} {rels : List RelID}
    (hr : RelsTyped w f rels) : RelsOK w f rels := by
  intro a A hA hm _
  refine ⟨?_, ?_⟩
  · intro r hrm
    obtain ⟨i, hi, _⟩ := acol_of_required h hA hm (hr r hrm).2
    rw [hi]; rfl
  · intro r hhead
    have hrm : r ∈ rels := by
      cases rels with
      | nil => cases hhead
      | cons x xs => simp only [List.head?_cons, Option.some.injEq] at hhead; subst hhead; exact List.mem_cons_self
    obtain ⟨i, hi, hi2⟩ := acol_of_required h hA hm (hr r hrm).2
    exact ⟨i, hi, by rw [hi2]; exact (hr r hrm).1⟩

def TblMatch (w : World) (f : Filter) (rels : List RelID) (t : Nat) : Prop :=
  f.matchesMask (w.arch (w.tbl t).arch).mask = true ∧
  ∀ (r : RelID), r ∈ rels → (w.tbl t).targetAt r.comp = some r.target

theorem matchesRels_iff_targets {w : World} (h : RelInv w) {f : Filter} {rels : List RelID}
    (hr : RelsTyped w f rels) {t : Nat} {T : Table} (hT : w.tables[t]? = some T)
    (hf : T.isFree = false) (hm : f.matchesMask (w.arch T.arch).mask = true) :
    T.matchesRels rels ≠ none ∧
    (T.matchesRels rels = some true ↔
      ∀ (r : RelID), r ∈ rels → T.targetAt r.comp = some r.target) := by
  have hS := h.sinv.toSInvMid
  refine ⟨?_, ?_⟩
  · apply Table.matchesRels_ne_none
    intro r hrm
    obtain ⟨i, hi, _⟩ := col_of_required hS hT hm (hr r hrm).2
    rw [hi]; rfl
  cases hrels : rels with
  | nil => simp [Table.matchesRels_nil]
  | cons r0 rest =>
    rw [← hrels]
    have hr0 : r0 ∈ rels := by rw [hrels]; exact List.mem_cons_self
    obtain ⟨i0, hi0, hi0r⟩ := col_of_required hS hT hm (hr r0 hr0).2
    rw [(hr r0 hr0).1] at hi0r
    have hAr : (w.arch T.arch).hasRelations = true := by
      obtain ⟨A, hA, _, e2, _⟩ := hS.tblArch t T hT
      rw [arch_of_get hA]
      exact (hS.astruct _ A hA).hasRelations_of_rel (by rw [← e2]; exact hi0r)
    have hTr : T.hasRelations = true := by rw [hasRelations_eq h hT hf]; exact hAr
    have hgo : T.matchesRels rels = Table.matchesRels.go T rels := by
      rw [hrels]; exact Table.matchesRels_eq_go T hTr r0 rest
    rw [hgo, Table.go_eq_true_iff]
    constructor
    · intro hall r hrm
      obtain ⟨i, hi, hti⟩ := hall r hrm
      obtain ⟨j, hj, hjr⟩ := col_of_required hS hT hm (hr r hrm).2
      rw [hi] at hj; obtain rfl := Option.some.inj hj
      rw [(hr r hrm).1] at hjr
      simp only [Table.targetAt, hi, Option.bind_some, hjr, if_true, hti]
    · intro hall r hrm
      have := hall r hrm
      obtain ⟨j, hj, hjr⟩ := col_of_required hS hT hm (hr r hrm).2
      rw [(hr r hrm).1] at hjr
      simp only [Table.targetAt, hj, Option.bind_some, hjr, if_true, Option.some.injEq] at this
      exact ⟨j, hj, this.symm⟩

theorem selected_iff_match {w : World} (h : RelInv w) {f : Filter} {rels : List RelID}
    (hr : RelsTyped w f rels) (t : Nat) :
    Selected w f rels t ↔
      t < w.tables.length ∧ (w.tbl t).isFree = false ∧ TblMatch w f rels t := by
  have hS := h.sinv.toSInvMid
  constructor
  · rintro ⟨a, A, hA, hmem, hm, hmr⟩
    obtain ⟨hlt, hta, hf⟩ := (hS.active_iff hA).1 hmem
    have hm' : f.matchesMask (w.arch (w.tbl t).arch).mask = true := by
      rw [hta, arch_of_get hA]; exact hm
    exact ⟨hlt, hf, hm', (matchesRels_iff_targets h hr (get_of_lt hlt) hf hm').2.mp hmr⟩
  · rintro ⟨hlt, hf, hm, hall⟩
    have hT := get_of_lt hlt
    obtain ⟨A, hA, _⟩ := hS.tblArch t _ hT
    refine ⟨_, A, hA, ?_, ?_, ?_⟩
    · exact (hS.active_iff hA).2 ⟨hlt, rfl, hf⟩
    · rw [← arch_of_get hA]; exact hm
    · exact (matchesRels_iff_targets h hr hT hf hm).2.mpr hall

theorem tblMatch_append {w : World} {f : Filter} {r1 r2 : List RelID} {t : Nat} :
    TblMatch w f (r1 ++ r2) t ↔
      TblMatch w f r1 t ∧ ∀ (r : RelID), r ∈ r2 → (w.tbl t).targetAt r.comp = some r.target := by
  simp only [TblMatch, List.mem_append]
  constructor
  · rintro ⟨h1, h2⟩
    exact ⟨⟨h1, fun r hr => h2 r (Or.inl hr)⟩, fun r hr => h2 r (Or.inr hr)⟩
  · rintro ⟨⟨h1, h2⟩, h3⟩
    exact ⟨h1, fun r hr => hr.elim (h2 r) (h3 r)⟩

structure RelTablesOK (w : World) (f : Filter) (rels : List RelID) (ts : List Nat) : Prop where
  nodup : ts.Nodup
  sound : ∀ (t : Nat), t ∈ ts → t < w.tables.length ∧ TblMatch w f rels t
  complete : ∀ (t : Nat), t < w.tables.length → (w.tbl t).len ≠ 0 → TblMatch w f rels t → t ∈ ts

theorem notFree_of_rows {w : World} (hfe : FreeEmpty w) {t : Nat} (ht : t < w.tables.length)
    (hl : (w.tbl t).len ≠ 0) : (w.tbl t).isFree = false := by
  cases hf : (w.tbl t).isFree with
  | false => rfl
  | true => exact absurd (hfe t _ (get_of_lt ht) hf) hl

theorem RelTablesOK.of_archs {w : World} (h : RelInv w) (hfe : FreeEmpty w) {f : Filter}
    {rels : List RelID} (hr : RelsTyped w f rels) {as : List Nat} (harchs : ArchsOK w f as) :
    RelTablesOK w f rels (relSel w f rels as) := by
  have H := tablesInv_of_rel h
  have hok := relsOK_of_typed h.sinv.toSInvMid hr
  refine ⟨relSel_nodup H hok harchs.nodup harchs.lt, ?_, ?_⟩
  · intro t ht
    have := (selected_iff_match h hr t).mp ((mem_relSel_iff_selected H hok harchs).mp ht)
    exact ⟨this.1, this.2.2⟩
  · intro t ht hl hm
    exact (mem_relSel_iff_selected H hok harchs).mpr
      ((selected_iff_match h hr t).mpr ⟨ht, notFree_of_rows hfe ht hl, hm⟩)

theorem RelTablesOK.of_cached {w : World} (h : RelInv w) (hfe : FreeEmpty w) (hC : CacheInv w)
    {ce : CacheEntry} (hmem : ce ∈ w.cache.filters) {extra : List RelID}
    (hr : RelsTyped w ce.filter (ce.rels ++ extra)) :
    (∀ (t : Nat), t ∈ ce.tables.tables → (w.tbl t).matchesRels extra ≠ none) ∧
    RelTablesOK w ce.filter (ce.rels ++ extra) (cachedSel w extra ce.tables.tables) := by
  obtain ⟨hwf, hsel⟩ := hC.entries ce hmem
  have hr1 : RelsTyped w ce.filter ce.rels := fun r hrm => hr r (List.mem_append_left _ hrm)
  have hr2 : RelsTyped w ce.filter extra := fun r hrm => hr r (List.mem_append_right _ hrm)
  have hfacts : ∀ (t : Nat), t ∈ ce.tables.tables →
      t < w.tables.length ∧ (w.tbl t).isFree = false ∧ TblMatch w ce.filter ce.rels t :=
    fun t ht => (selected_iff_match h hr1 t).mp ((hsel t).mp ht)
  have hex : ∀ (t : Nat), t < w.tables.length → (w.tbl t).isFree = false →
      ce.filter.matchesMask (w.arch (w.tbl t).arch).mask = true →
      (w.tbl t).matchesRels extra ≠ none ∧
      ((w.tbl t).matchesRels extra = some true ↔
        ∀ (r : RelID), r ∈ extra → (w.tbl t).targetAt r.comp = some r.target) :=
    fun t hlt hf hm => matchesRels_iff_targets h hr2 (get_of_lt hlt) hf hm
  refine ⟨?_, List.Pairwise.filter _ hwf.nodup, ?_, ?_⟩
  · intro t ht
    obtain ⟨h1, h2, h3, _⟩ := hfacts t ht
    exact (hex t h1 h2 h3).1
  · intro t ht
    simp only [cachedSel, List.mem_filter, Bool.and_eq_true, beq_iff_eq] at ht
    obtain ⟨ht1, _, ht3⟩ := ht
    obtain ⟨h1, h2, h3⟩ := hfacts t ht1
    exact ⟨h1, tblMatch_append.mpr ⟨h3, (hex t h1 h2 h3.1).2.mp ht3⟩⟩
  · intro t hlt hl hm
    obtain ⟨hm1, hm2⟩ := tblMatch_append.mp hm
    have hf := notFree_of_rows hfe hlt hl
    have hin : t ∈ ce.tables.tables :=
      (hsel t).mpr ((selected_iff_match h hr1 t).mpr ⟨hlt, hf, hm1⟩)
    simp only [cachedSel, List.mem_filter, Bool.and_eq_true, beq_iff_eq, bne_iff_ne, ne_eq]
    exact ⟨hin, hl, (hex t hlt hf hm1.1).2.mpr hm2⟩

end QueryRel
end Ark
