/-
  C06 at world level: `exchangeBatch` (the add / remove / exchange batches) as a pure function,
  and the effect of moving one table.

  The normal form is stated once, for any relations `rels` and any callback `vals`
  (`exchangeBatch_rel_after_find`, lookup loop `findLoopX`, move step `moveStepXF`); the batches
  without relations (`findLoop`, `moveStep`) are its case `rels = []`.

  The batch takes the world lock only after the lookup loop (defect D27):
  `exchangeBatch_eq_planFirst` is the operation in the order in which it runs.  Table selection and
  lookup loop neither read nor write the lock, so `exchangeBatch_eq` (`Lock` first) is an equation
  too — the form the specifications downstream are proved from; the two orders differ exactly when
  the lookup loop panics (`exchangeBatch_findLoop_panic`).

  One table move is described by `exchangeTableW_core` from the index invariant and the table
  metadata alone (an instance of `TableMovedCore.of_rows`, Ark.Proofs.TableMove);
  `CInv.tableMoved` adds what the fragment without relations knows.
-/
import Ark.Proofs.BatchNewFn
import Ark.Proofs.CallbacksFrame
import Ark.Proofs.TableMove
import Ark.Proofs.Targets
set_option autoImplicit false
namespace Ark
open Ark.Props.C01World
namespace World

/-! ## 1. `exchangeTable`, `exchangeBatch` as pure functions -/

def exIdxStep (O : Table) (newT start : Nat) (w : World) (i : Nat) : World :=
  { w with entities := w.entities.set (O.getEntity i).id (newT, start + i) }

/-- the state change of `exchangeTable oldT newT []` -/
def exchangeTableW (w : World) (oldT newT : Nat) : World :=
  let O := w.tbl oldT
  let mask := (w.arch (w.tbl newT).arch).mask
  let start := (w.tbl newT).len
  let count := O.len
  let w1 := (List.range count).foldl (exIdxStep O newT start) w
  let w2 := w1.modTbl newT fun N => N.addAllEntities O count
  let w3 := w2.modTbl newT fun N =>
    O.ids.foldl (fun N c => if mask.get c then N.copyToEnd c O count else N) N
  w3.modTbl oldT Table.reset

theorem exchangeTable_rel_eq (oldT newT : Nat) (rels : List RelID) (w : World) :
    exchangeTable oldT newT rels w =
      .ok ((w.tbl newT).len, (w.tbl oldT).len) (registerW (exchangeTableW w oldT newT) rels) :=
  rfl

theorem exchangeTable_eq (oldT newT : Nat) (w : World) :
    exchangeTable oldT newT [] w = .ok ((w.tbl newT).len, (w.tbl oldT).len) (exchangeTableW w oldT newT) :=
  (exchangeTable_rel_eq oldT newT [] w).trans (by rw [registerW_nil])

/-- one iteration of the second loop of `exchangeBatch`: move the table, run the callback on the
    moved rows -/
def moveStep (vals : Option (List (Comp × Val))) (w : World) (b : BatchTable) : World :=
  match vals with
  | some vs => batchFnW (exchangeTableW w b.oldT b.newT) b.newT (w.tbl b.newT).len (w.tbl b.oldT).len vs
  | none => exchangeTableW w b.oldT b.newT

/-- one iteration of the move loop of `exchangeBatch` (no callback): move the table, flag the
    targets -/
def moveStepX (rels : List RelID) (w : World) (b : BatchTable) : World :=
  registerW (exchangeTableW w b.oldT b.newT) rels

/-- one iteration of the move loop of `exchangeBatch`: move the table, flag the targets of `rels`,
    run the callback on the moved rows.  `moveStep` is `rels = []`, `moveStepX` is `vals = none`. -/
def moveStepXF (rels : List RelID) (vals : Option (List (Comp × Val))) (w : World) (b : BatchTable) :
    World :=
  match vals with
  | some vs => batchFnW (moveStepX rels w b) b.newT (w.tbl b.newT).len (w.tbl b.oldT).len vs
  | none => moveStepX rels w b

theorem moveStepX_nil (w : World) (b : BatchTable) :
    moveStepX [] w b = exchangeTableW w b.oldT b.newT := registerW_nil _

theorem moveStepXF_nil (vals : Option (List (Comp × Val))) : moveStepXF [] vals = moveStep vals := by
  funext w b; cases vals <;> simp only [moveStepXF, moveStep, moveStepX_nil]

theorem moveStepXF_none (rels : List RelID) : moveStepXF rels none = moveStepX rels := rfl

/-- the lookup loop of `exchangeBatch`: look up / create the destination of every non-empty
    selected table -/
def findLoopX (add rem : List Comp) (rels : List RelID) :
    List Nat → Bool × List BatchTable → W (Bool × List BatchTable)
  | [], s => pure s
  | t :: ts, s => fun w =>
    if ((w.tbl t).len == 0) = true then findLoopX add rem rels ts s w
    else
      match findOrCreateTable t (w.arch (w.tbl t).arch).mask add rem rels w with
      | .ok x w' =>
        findLoopX add rem rels ts
          (if x.2.2.2 = true then (true, s.2 ++ [{ oldT := t, newT := x.1, len := (w.tbl t).len }])
            else (s.1, s.2 ++ [{ oldT := t, newT := x.1, len := (w.tbl t).len }])) w'
      | .panic k w' => .panic k w'

/-- `findLoopX` for the batches without relations, written out (`findLoop_eq`) -/
def findLoop (add rem : List Comp) : List Nat → Bool × List BatchTable → W (Bool × List BatchTable)
  | [], s => pure s
  | t :: ts, s => fun w =>
    if ((w.tbl t).len == 0) = true then findLoop add rem ts s w
    else
      match findOrCreateTable t (w.arch (w.tbl t).arch).mask add rem [] w with
      | .ok x w' =>
        findLoop add rem ts
          (if x.2.2.2 = true then (true, s.2 ++ [{ oldT := t, newT := x.1, len := (w.tbl t).len }])
            else (s.1, s.2 ++ [{ oldT := t, newT := x.1, len := (w.tbl t).len }])) w'
      | .panic k w' => .panic k w'

theorem findLoop_eq (add rem : List Comp) : ∀ (ts : List Nat) (s : Bool × List BatchTable),
    findLoop add rem ts s = findLoopX add rem [] ts s
  | [], _ => rfl
  | t :: ts, s => by
    funext w
    simp only [findLoop, findLoopX, findLoop_eq add rem ts]

theorem foldl_exIdxStep (O : Table) (newT start : Nat) : ∀ (l : List Nat) (w : World),
    l.foldl (exIdxStep O newT start) w =
      { w with entities := l.foldl (fun E k => E.set (O.getEntity k).id (newT, start + k)) w.entities }
  | [], _ => rfl
  | k :: l, w => by rw [List.foldl_cons, foldl_exIdxStep O newT start l]; rfl

theorem exchangeTableW_frame (w : World) (oldT newT : Nat) :
    ∃ ts es, exchangeTableW w oldT newT = { w with tables := ts, entities := es } := by
  simp only [exchangeTableW, foldl_exIdxStep]
  exact ⟨_, _, rfl⟩

theorem exchangeTableW_obs (w : World) (oldT newT : Nat) : (exchangeTableW w oldT newT).obs = w.obs := by
  obtain ⟨_, _, h⟩ := exchangeTableW_frame w oldT newT
  rw [h]

theorem exchangeTableW_locks (w : World) (oldT newT : Nat) :
    (exchangeTableW w oldT newT).locks = w.locks := by
  obtain ⟨_, _, h⟩ := exchangeTableW_frame w oldT newT
  rw [h]

theorem registerW_obs_locks (w : World) (rels : List RelID) :
    (registerW w rels).obs = w.obs ∧ (registerW w rels).locks = w.locks := ⟨rfl, rfl⟩

theorem moveStepX_obs (rels : List RelID) (w : World) (b : BatchTable) :
    (moveStepX rels w b).obs = w.obs :=
  (registerW_obs_locks _ rels).1.trans (exchangeTableW_obs w _ _)

theorem moveStepX_locks (rels : List RelID) (w : World) (b : BatchTable) :
    (moveStepX rels w b).locks = w.locks :=
  (registerW_obs_locks _ rels).2.trans (exchangeTableW_locks w _ _)

theorem moveStepXF_obs (rels : List RelID) (vals : Option (List (Comp × Val))) (w : World)
    (b : BatchTable) : (moveStepXF rels vals w b).obs = w.obs := by
  cases vals with
  | none => exact moveStepX_obs rels w b
  | some vs => simp only [moveStepXF, batchFnW_obs, moveStepX_obs]

theorem moveStepXF_locks (rels : List RelID) (vals : Option (List (Comp × Val))) (w : World)
    (b : BatchTable) : (moveStepXF rels vals w b).locks = w.locks := by
  cases vals with
  | none => exact moveStepX_locks rels w b
  | some vs => simp only [moveStepXF, batchFnW_locks, moveStepX_locks]

theorem foldl_moveStepXF_obs (rels : List RelID) (vals : Option (List (Comp × Val))) :
    ∀ (bts : List BatchTable) (w : World), (bts.foldl (moveStepXF rels vals) w).obs = w.obs :=
  foldl_keep _ (·.obs) (moveStepXF_obs rels vals)

theorem foldl_moveStepXF_locks (rels : List RelID) (vals : Option (List (Comp × Val))) :
    ∀ (bts : List BatchTable) (w : World), (bts.foldl (moveStepXF rels vals) w).locks = w.locks :=
  foldl_keep _ (·.locks) (moveStepXF_locks rels vals)

theorem foldl_moveStep_locks (vals : Option (List (Comp × Val))) (bts : List BatchTable) (w : World) :
    (bts.foldl (moveStep vals) w).locks = w.locks := by
  rw [← moveStepXF_nil]; exact foldl_moveStepXF_locks [] vals bts w

theorem foldl_moveStepX_locks (rels : List RelID) :
    ∀ (bts : List BatchTable) (w : World), (bts.foldl (moveStepX rels) w).locks = w.locks :=
  foldl_moveStepXF_locks rels none

theorem forIn_findLoopX (add rem : List Comp) (rels : List RelID) :
    ∀ (ts : List Nat) (s : Bool × List BatchTable) (w : World),
    (forIn ts s (fun t (__s : Bool × List BatchTable) => (do
      let w ← (M.get : W World)
      if ((w.tbl t).len == 0) = true then pure (ForInStep.yield (__s.fst, __s.snd))
      else do
        let __x ← findOrCreateTable t (w.arch (w.tbl t).arch).mask add rem rels
        if __x.2.2.snd = true then
          pure (ForInStep.yield (true, __s.snd ++ [{ oldT := t, newT := __x.fst, len := (w.tbl t).len }]))
        else
          pure (ForInStep.yield (__s.fst, __s.snd ++ [{ oldT := t, newT := __x.fst, len := (w.tbl t).len }]))
      : W (ForInStep (Bool × List BatchTable)))) : W (Bool × List BatchTable)) w =
    findLoopX add rem rels ts s w
  | [], _, _ => rfl
  | t :: ts, s, w => by
    rw [List.forIn_cons, M.bind_apply, M.bind_apply, M.get_apply]
    simp only [findLoopX]
    cases h0 : ((w.tbl t).len == 0) with
    | true =>
      simp only [if_true, M.pure_apply]
      exact forIn_findLoopX add rem rels ts _ w
    | false =>
      simp only [Bool.false_eq_true, if_false, M.bind_apply]
      cases hf : findOrCreateTable t (w.arch (w.tbl t).arch).mask add rem rels w with
      | panic k w' => rfl
      | ok x w' =>
        simp only
        cases hx : x.2.2.2 with
        | true =>
          simp only [if_true, M.pure_apply]
          exact forIn_findLoopX add rem rels ts _ w'
        | false =>
          simp only [Bool.false_eq_true, if_false, M.pure_apply]
          exact forIn_findLoopX add rem rels ts _ w'

/-- `exchangeBatch.match_1` in the statement is the matcher Lean generated for the `match vals` in
    the body of the model's `exchangeBatch`: the loop is stated as it is elaborated there, and the
    statement has to follow when that `match` changes. -/
theorem loop2XF (rels : List RelID) (vals : Option (List (Comp × Val))) (bts : List BatchTable)
    (s : List BatchTable) (w : World) :
    ∃ s', (forIn bts s (fun (b : BatchTable) (__s : List BatchTable) => (do
      let __x ← exchangeTable b.oldT b.newT rels
      exchangeBatch.match_1 (fun _ => W (ForInStep (List BatchTable))) vals
        (fun vs => do
          batchFn b.newT __x.fst __x.snd vs
          pure (ForInStep.yield
            (__s ++ [{ oldT := b.oldT, newT := b.newT, start := __x.fst, len := __x.snd }])))
        (fun _ => pure (ForInStep.yield
          (__s ++ [{ oldT := b.oldT, newT := b.newT, start := __x.fst, len := __x.snd }])))
      : W (ForInStep (List BatchTable)))) : W (List BatchTable)) w =
      .ok s' (bts.foldl (moveStepXF rels vals) w) :=
  ⟨_, forIn_foldSt (fun _ _ => True) (moveStepXF rels vals)
    (fun s w b => s ++ [BatchTable.mk b.oldT b.newT (w.tbl b.newT).len (w.tbl b.oldT).len]) _
    (fun b s w _ => by cases vals <;>
      simp only [M.bind_apply, exchangeTable_rel_eq, batchFn_eq, M.pure_apply, moveStepXF, moveStepX])
    (fun _ _ _ _ => trivial) bts s w trivial⟩

theorem registerTargets_nil_apply (w : World) : registerTargets [] w = .ok () w := rfl

/-- the lookup loop neither reads nor writes observers, log, lock and statistics object -/
theorem commutes_findLoopX (add rem : List Comp) (rels : List RelID) :
    ∀ (ts : List Nat) (s : Bool × List BatchTable), Commutes put4 (findLoopX add rem rels ts s)
  | [], s => Commutes.pure s
  | t :: ts, s => by
    intro w x
    simp only [findLoopX]
    have h1 : (w.put4 x).tbl t = w.tbl t := rfl
    have h2 : ∀ a, (w.put4 x).arch a = w.arch a := fun _ => rfl
    rw [h1, h2]
    split
    · exact commutes_findLoopX add rem rels ts s w x
    · rw [commutes_findOrCreateTable t _ add rem rels w x]
      cases findOrCreateTable t (w.arch (w.tbl t).arch).mask add rem rels w with
      | panic k s' => rfl
      | ok y w' => exact commutes_findLoopX add rem rels ts _ w' x

theorem frames_findLoop (add rem : List Comp) (ts : List Nat) (s : Bool × List BatchTable) :
    Frames (findLoop add rem ts s) := by
  rw [findLoop_eq]; exact (commutes_findLoopX add rem [] ts s).frames

/-- **`exchangeBatch` without observers, any relations, with or without callback**, in the order in
    which it runs: the table selection, the lookup loop,
    `registerTargets` (ONCE, unconditionally), `Lock`, the move loop, `Unlock` -/
theorem exchangeBatch_rel_after_find (run : ProbeRunner) (fo : FilterObj) (extra : List RelID)
    (add rem : List Comp) (rels : List RelID) (vals : Option (List (Comp × Val))) (w : World)
    (hl : w.isLocked = false) (hne : (add.isEmpty && rem.isEmpty) = false) {ts : List Nat}
    (hts : getBatchTables fo extra w = .ok ts w)
    {rr : Bool} {bts : List BatchTable} {w1 : World}
    (hfind : findLoopX add rem rels ts (false, []) w = .ok (rr, bts) w1)
    {l' : Lock} {b : Nat} (hlk : w1.locks.lock = some (l', b))
    (hno : ∀ evt : Nat, w1.obs.hasObservers evt = false) :
    exchangeBatch run fo extra add rem rels vals w =
      unlock b (bts.foldl (moveStepXF rels vals) { registerW w1 rels with locks := l' }) := by
  have hlk' : (registerW w1 rels).locks.lock = some (l', b) := hlk
  have hno1 : ∀ evt : Nat,
      ({ registerW w1 rels with locks := l' } : World).obs.hasObservers evt = false := hno
  have hno2 : ∀ evt : Nat,
      (bts.foldl (moveStepXF rels vals) { registerW w1 rels with locks := l' }).obs.hasObservers evt
        = false := by
    intro evt; rw [foldl_moveStepXF_obs]; exact hno evt
  obtain ⟨s2, h2⟩ := loop2XF rels vals bts [] { registerW w1 rels with locks := l' }
  unfold exchangeBatch
  simp only [M.bind_apply, checkLocked_unlocked w hl, M.assert_apply, hne, Bool.not_false, if_true, hts,
    forIn_findLoopX, hfind, registerTargets_eq, lock_ok hlk']
  -- the case split comes after the common prefix has been run, and on hypotheses only
  rcases Bool.eq_false_or_eq_true rem.isEmpty with hr | hr <;>
    rcases Bool.eq_false_or_eq_true add.isEmpty with ha | ha
  · exact absurd hne (by rw [hr, ha]; decide)
  all_goals simp only [hr, ha, M.bind_apply, Bool.not_false, Bool.not_true, if_true, M.get_apply, hno1,
    Bool.false_eq_true, if_false, h2, hno2, Bool.and_false]

/-- when the lookup loop panics, `exchangeBatch` panics with the same class and the same state:
    the lock has not been taken -/
theorem exchangeBatch_rel_findLoop_panic (run : ProbeRunner) (fo : FilterObj) (extra : List RelID)
    (add rem : List Comp) (rels : List RelID) (vals : Option (List (Comp × Val))) (w : World)
    (hl : w.isLocked = false) (hne : (add.isEmpty && rem.isEmpty) = false) {ts : List Nat}
    (hts : getBatchTables fo extra w = .ok ts w) {k : PanicKind} {w1 : World}
    (hfind : findLoopX add rem rels ts (false, []) w = .panic k w1) :
    exchangeBatch run fo extra add rem rels vals w = .panic k w1 := by
  unfold exchangeBatch
  simp only [M.bind_apply, checkLocked_unlocked w hl, M.assert_apply, hne, Bool.not_false, if_true,
    hts, forIn_findLoopX, hfind]

/-- **… with `Lock` FIRST**: an equation of the operation too, because the table selection and the
    lookup loop neither read nor write the lock -/
theorem exchangeBatch_rel_lockFirst (run : ProbeRunner) (fo : FilterObj) (extra : List RelID)
    (add rem : List Comp) (rels : List RelID) (vals : Option (List (Comp × Val))) (w : World)
    (hl : w.isLocked = false) (hne : (add.isEmpty && rem.isEmpty) = false) {l' : Lock} {b : Nat}
    (hlk : w.locks.lock = some (l', b)) {ts : List Nat}
    (hts : getBatchTables fo extra { w with locks := l' } = .ok ts { w with locks := l' })
    {rr : Bool} {bts : List BatchTable} {w1 : World}
    (hfind : findLoopX add rem rels ts (false, []) { w with locks := l' } = .ok (rr, bts) w1)
    (hno : ∀ evt : Nat, w1.obs.hasObservers evt = false) :
    exchangeBatch run fo extra add rem rels vals w =
      unlock b (bts.foldl (moveStepXF rels vals) (registerW w1 rels)) := by
  have hts' : getBatchTables fo extra w = .ok ts w :=
    ((commutes_getBatchTables fo extra).frames.of_reframe_ok (w := w) (o := w.obs) (lg := w.log) (lk := l')
      hts).1
  obtain ⟨hfind', hw1⟩ := (commutes_findLoopX add rem rels ts (false, [])).frames.of_reframe_ok
    (w := w) (o := w.obs) (lg := w.log) (lk := l') hfind
  have hlocks : (w1.reframe w.obs w.log w.locks).locks.lock = some (l', b) := hlk
  have hobs : w1.obs = w.obs := congrArg (·.obs) hw1
  have hno' : ∀ evt : Nat, (w1.reframe w.obs w.log w.locks).obs.hasObservers evt = false :=
    fun evt => by rw [← hobs]; exact hno evt
  rw [exchangeBatch_rel_after_find run fo extra add rem rels vals w hl hne hts' hfind' hlocks hno']
  have e : ({ registerW (w1.reframe w.obs w.log w.locks) rels with locks := l' } : World)
      = registerW w1 rels := congrArg (fun X => registerW X rels) hw1.symm
  rw [e]

/-- without observers, `exchangeBatch` (no relations) is, in the order in which it runs: the table
    selection, the lookup loop, (`registerTargets []`: nothing to register without relations,)
    `Lock`, the move loop (with the callback), `Unlock` -/
theorem exchangeBatch_eq_planFirst (run : ProbeRunner) (fo : FilterObj) (extra : List RelID)
    (add rem : List Comp) (vals : Option (List (Comp × Val))) (w : World) (hl : w.isLocked = false)
    (hne : (add.isEmpty && rem.isEmpty) = false) {ts : List Nat}
    (hts : getBatchTables fo extra w = .ok ts w)
    {rr : Bool} {bts : List BatchTable} {w1 : World}
    (hfind : findLoop add rem ts (false, []) w = .ok (rr, bts) w1)
    {l' : Lock} {b : Nat} (hlk : w1.locks.lock = some (l', b))
    (hno : ∀ evt : Nat, w1.obs.hasObservers evt = false) :
    exchangeBatch run fo extra add rem [] vals w =
      unlock b (bts.foldl (moveStep vals) { w1 with locks := l' }) := by
  rw [findLoop_eq] at hfind
  rw [← moveStepXF_nil]
  exact exchangeBatch_rel_after_find run fo extra add rem [] vals w hl hne hts hfind hlk hno

theorem exchangeBatch_rejects_empty (run : ProbeRunner) (fo : FilterObj) (extra : List RelID)
    (add rem : List Comp) (rels : List RelID) (vals : Option (List (Comp × Val))) (w : World)
    (hl : w.isLocked = false) (he : (add.isEmpty && rem.isEmpty) = true) :
    exchangeBatch run fo extra add rem rels vals w = .panic .noComponents w := by
  unfold exchangeBatch
  simp only [M.bind_apply, checkLocked_unlocked w hl, M.assert_apply, he, Bool.not_true,
    Bool.false_eq_true, if_false]

/-- when the lookup loop panics, `exchangeBatch` panics with the same class and the same state:
    the lock has not been taken -/
theorem exchangeBatch_findLoop_panic (run : ProbeRunner) (fo : FilterObj) (extra : List RelID)
    (add rem : List Comp) (vals : Option (List (Comp × Val))) (w : World) (hl : w.isLocked = false)
    (hne : (add.isEmpty && rem.isEmpty) = false) {ts : List Nat}
    (hts : getBatchTables fo extra w = .ok ts w) {k : PanicKind} {w1 : World}
    (hfind : findLoop add rem ts (false, []) w = .panic k w1) :
    exchangeBatch run fo extra add rem [] vals w = .panic k w1 := by
  rw [findLoop_eq] at hfind
  exact exchangeBatch_rel_findLoop_panic run fo extra add rem [] vals w hl hne hts hfind

/-- without observers, `exchangeBatch` (no relations) is also: `Lock`, the table selection, the
    lookup loop, the move loop (with the callback), `Unlock` — not the order in which it runs
    (`exchangeBatch_eq_planFirst`), but the selection and the lookup loop neither read nor write
    the lock -/
theorem exchangeBatch_eq (run : ProbeRunner) (fo : FilterObj) (extra : List RelID)
    (add rem : List Comp) (vals : Option (List (Comp × Val))) (w : World) (hl : w.isLocked = false)
    (hne : (add.isEmpty && rem.isEmpty) = false) {l' : Lock} {b : Nat}
    (hlk : w.locks.lock = some (l', b)) {ts : List Nat}
    (hts : getBatchTables fo extra { w with locks := l' } = .ok ts { w with locks := l' })
    {rr : Bool} {bts : List BatchTable} {w1 : World}
    (hfind : findLoop add rem ts (false, []) { w with locks := l' } = .ok (rr, bts) w1)
    (hno : ∀ evt : Nat, w1.obs.hasObservers evt = false) :
    exchangeBatch run fo extra add rem [] vals w = unlock b (bts.foldl (moveStep vals) w1) := by
  rw [findLoop_eq] at hfind
  rw [← moveStepXF_nil]
  exact exchangeBatch_rel_lockFirst run fo extra add rem [] vals w hl hne hlk hts hfind hno

end World

/-! ## 2. moving one table: columns, index -/

namespace Table

/-- the column copies of `exchangeTable`: every component of `O` that the new mask keeps is copied
    to the last `count` rows of `N` -/
def copyCols (O : Table) (mask : Mask) (count : Nat) (l : List Comp) (N : Table) : Table :=
  l.foldl (fun N c => if mask.get c then N.copyToEnd c O count else N) N

structure CopyRel (N N' : Table) : Prop where
  sm : SameMeta N N'
  len : N'.len = N.len
  ents : N'.ents = N.ents
  cap : N'.cap = N.cap

theorem CopyRel.refl (N : Table) : CopyRel N N := ⟨SameMeta.refl N, rfl, rfl, rfl⟩

theorem CopyRel.trans {A B C : Table} (h1 : CopyRel A B) (h2 : CopyRel B C) : CopyRel A C :=
  ⟨h1.sm.trans h2.sm, h2.len.trans h1.len, h2.ents.trans h1.ents, h2.cap.trans h1.cap⟩

theorem copyToEnd_rel (t : Table) (c : Comp) (src : Table) (count : Nat) :
    CopyRel t (t.copyToEnd c src count) := by
  simp only [copyToEnd]
  split
  · split
    · exact CopyRel.refl t
    · exact ⟨⟨rfl, rfl, rfl, rfl, rfl, rfl, rfl, rfl⟩, rfl, rfl, rfl⟩
  · exact CopyRel.refl t

theorem copyToEnd_len (t : Table) (c : Comp) (src : Table) (count : Nat) :
    (t.copyToEnd c src count).len = t.len := (copyToEnd_rel t c src count).len

theorem copyCols_rel (O : Table) (mask : Mask) (count : Nat) : ∀ (l : List Comp) (N : Table),
    CopyRel N (copyCols O mask count l N)
  | [], N => CopyRel.refl N
  | c :: l, N => by
    show CopyRel N (copyCols O mask count l (if mask.get c then N.copyToEnd c O count else N))
    refine CopyRel.trans ?_ (copyCols_rel O mask count l _)
    split
    · exact copyToEnd_rel _ _ _ _
    · exact CopyRel.refl N

theorem copyCols_shape {O : Table} (hO : O.Shape) (mask : Mask) {count : Nat} (hcs : count ≤ O.len) :
    ∀ (l : List Comp) {N : Table}, N.Shape → count ≤ N.len → (copyCols O mask count l N).Shape
  | [], _, h, _ => h
  | c :: l, N, h, hct => by
    show (copyCols O mask count l (if mask.get c then N.copyToEnd c O count else N)).Shape
    split
    · exact copyCols_shape hO mask hcs l (copyToEnd_shape h hO c count hct hcs)
        (by rw [copyToEnd_len]; exact hct)
    · exact copyCols_shape hO mask hcs l h hct

/-- a column copy does nothing, or copies a column both tables have and that has a size -/
theorem copyToEnd_cases (t : Table) (c : Comp) (src : Table) (count : Nat) :
    t.copyToEnd c src count = t ∨
    ∃ i j, t.colIdx c = some i ∧ src.colIdx c = some j ∧ t.zst.getD i false = false := by
  cases hi : t.colIdx c with
  | none => exact Or.inl (by simp only [copyToEnd, hi])
  | some i =>
    cases hj : src.colIdx c with
    | none => exact Or.inl (by simp only [copyToEnd, hi, hj])
    | some j =>
      cases hz : t.zst.getD i false with
      | true => exact Or.inl (by simp only [copyToEnd, hi, hj, hz, if_true])
      | false => exact Or.inr ⟨i, j, rfl, rfl, hz⟩

theorem copyToEnd_cell_other {t src : Table} (h : t.Shape) (hs : src.Shape) (c : Comp) (count : Nat)
    (hct : count ≤ t.len) (hcs : count ≤ src.len) (k r : Nat) (hk : t.colIdx c ≠ some k) :
    (t.copyToEnd c src count).cell k r = t.cell k r := by
  rcases copyToEnd_cases t c src count with he | ⟨i, j, hi, hj, hz⟩
  · rw [he]
  · rw [copyToEnd_cell h hs c count hct hcs hi hj hz, if_neg]
    exact fun hh => hk (by rw [hi, hh.1])

theorem copyToEnd_cell_zst {t src : Table} (c : Comp) (count : Nat) {i : Nat}
    (hi : t.colIdx c = some i) (hz : t.zst.getD i false = true) :
    t.copyToEnd c src count = t := by
  rcases copyToEnd_cases t c src count with he | ⟨i', j, hi', _, hz'⟩
  · exact he
  · rw [hi] at hi'
    rw [Option.some.inj hi', hz'] at hz
    cases hz

/-- the cells of a column of `N` whose component `O` has too, after the column copies -/
theorem copyCols_cell {O : Table} (hO : O.Shape) (mask : Mask) {count : Nat} (hcs : count ≤ O.len)
    {c : Comp} {j : Nat} (hj : O.colIdx c = some j) : ∀ (l : List Comp) {N : Table}, N.Shape →
    count ≤ N.len → ∀ {k : Nat}, N.colIdx c = some k → N.zst.getD k false = false → ∀ r : Nat,
    (copyCols O mask count l N).cell k r =
      if (c ∈ l ∧ mask.get c = true) ∧ N.len - count ≤ r ∧ r < N.len then
        O.cell j (r - (N.len - count))
      else N.cell k r
  | [], N, _, _, k, _, _, r => by simp [copyCols]
  | c' :: l, N, hN, hct, k, hk, hz, r => by
    show (copyCols O mask count l (if mask.get c' then N.copyToEnd c' O count else N)).cell k r = _
    by_cases hm : mask.get c' = true
    · rw [if_pos hm]
      have hN1 := copyToEnd_shape hN hO c' count hct hcs
      have hrel := copyToEnd_rel N c' O count
      have hk1 : (N.copyToEnd c' O count).colIdx c = some k := by
        simp only [colIdx, hrel.sm.ids]; exact hk
      rw [copyCols_cell hO mask hcs hj l hN1 (by rw [hrel.len]; exact hct) hk1
        (by rw [hrel.sm.zst]; exact hz) r, hrel.len]
      by_cases hcc : c' = c
      · subst hcc
        rw [copyToEnd_cell hN hO c' count hct hcs hk hj hz]
        by_cases hr : N.len - count ≤ r ∧ r < N.len
        · rw [if_pos (⟨⟨List.mem_cons_self, hm⟩, hr⟩ : (c' ∈ c' :: l ∧ mask.get c' = true) ∧ _),
            if_pos (⟨rfl, hr⟩ : k = k ∧ _)]
          split <;> rfl
        · rw [if_neg (fun hh => hr hh.2), if_neg (fun hh => hr hh.2), if_neg (fun hh => hr hh.2)]
      · rw [copyToEnd_cell_other hN hO c' count hct hcs k r (by
          intro hh
          have h1 := colIdx_get hh
          have h2 := colIdx_get hk
          rw [h1] at h2
          exact hcc (Option.some.inj h2))]
        simp only [List.mem_cons, show ¬ c = c' from fun hh => hcc hh.symm, false_or]
    · rw [if_neg hm]
      rw [copyCols_cell hO mask hcs hj l hN hct hk hz r]
      by_cases hcc : c' = c
      · subst hcc
        rw [if_neg (fun hh => hm hh.1.2), if_neg (fun hh => hm hh.1.2)]
      · simp only [List.mem_cons, show ¬ c = c' from fun hh => hcc hh.symm, false_or]

/-- a column of `N` whose component `O` lacks (or a zero-size column) is not touched -/
theorem copyCols_cell_keep {O : Table} (hO : O.Shape) (mask : Mask) {count : Nat} (hcs : count ≤ O.len)
    {c : Comp} : ∀ (l : List Comp) {N : Table}, N.Shape → count ≤ N.len → ∀ {k : Nat},
    N.colIdx c = some k → (O.colIdx c = none ∨ N.zst.getD k false = true) → ∀ r : Nat,
    (copyCols O mask count l N).cell k r = N.cell k r
  | [], _, _, _, _, _, _, _ => rfl
  | c' :: l, N, hN, hct, k, hk, hor, r => by
    show (copyCols O mask count l (if mask.get c' then N.copyToEnd c' O count else N)).cell k r = _
    by_cases hm : mask.get c' = true
    · rw [if_pos hm]
      have hN1 := copyToEnd_shape hN hO c' count hct hcs
      have hrel := copyToEnd_rel N c' O count
      have hk1 : (N.copyToEnd c' O count).colIdx c = some k := by
        simp only [colIdx, hrel.sm.ids]; exact hk
      rw [copyCols_cell_keep hO mask hcs l hN1 (by rw [hrel.len]; exact hct) hk1
        (by rw [hrel.sm.zst]; exact hor) r]
      by_cases hcc : c' = c
      · subst hcc
        rcases hor with h1 | h1
        · simp only [copyToEnd, hk, h1]
        · rw [copyToEnd_cell_zst c' count hk h1]
      · exact copyToEnd_cell_other hN hO c' count hct hcs k r (by
          intro hh
          have h1 := colIdx_get hh
          have h2 := colIdx_get hk
          rw [h1] at h2
          exact hcc (Option.some.inj h2))
    · rw [if_neg hm]
      exact copyCols_cell_keep hO mask hcs l hN hct hk hor r

end Table

namespace World

/-- the destination table after `exchangeTable oldT newT` -/
def movedTable (w : World) (oldT newT : Nat) : Table :=
  Table.copyCols (w.tbl oldT) (w.arch (w.tbl newT).arch).mask (w.tbl oldT).len (w.tbl oldT).ids
    ((w.tbl newT).addAllEntities (w.tbl oldT) (w.tbl oldT).len)

/-- `exchangeTable` in closed form: the tables and the index afterwards -/
theorem exchangeTableW_spec (w : World) {oldT newT : Nat} (hne : oldT ≠ newT)
    (hn : newT < w.tables.length) :
    (exchangeTableW w oldT newT).tables =
      (w.tables.set newT (movedTable w oldT newT)).set oldT (w.tbl oldT).reset ∧
    (exchangeTableW w oldT newT).entities =
      (List.range (w.tbl oldT).len).foldl
        (fun E k => E.set ((w.tbl oldT).getEntity k).id (newT, (w.tbl newT).len + k)) w.entities := by
  have hf := foldl_exIdxStep (w.tbl oldT) newT (w.tbl newT).len (List.range (w.tbl oldT).len) w
  generalize hW1 : (List.range (w.tbl oldT).len).foldl (exIdxStep (w.tbl oldT) newT (w.tbl newT).len) w
    = W1 at hf
  have h1 : W1.tables = w.tables := by rw [hf]
  have hdef : exchangeTableW w oldT newT =
      ((W1.modTbl newT fun N => N.addAllEntities (w.tbl oldT) (w.tbl oldT).len).modTbl newT
        fun N => Table.copyCols (w.tbl oldT) (w.arch (w.tbl newT).arch).mask (w.tbl oldT).len
          (w.tbl oldT).ids N).modTbl oldT Table.reset := by
    rw [← hW1]; rfl
  have hn1 : newT < W1.tables.length := by rw [h1]; exact hn
  have e1 : W1.tbl newT = w.tbl newT := tbl_congr h1 _
  have e2 : (W1.modTbl newT fun N => N.addAllEntities (w.tbl oldT) (w.tbl oldT).len).tbl newT =
      (w.tbl newT).addAllEntities (w.tbl oldT) (w.tbl oldT).len := by
    rw [modTbl_tbl_self _ hn1, e1]
  constructor
  · rw [hdef, modTbl_tables, modTbl_tables, modTbl_tables, e2, h1, List.set_set]
    have e3 : ((W1.modTbl newT fun N => N.addAllEntities (w.tbl oldT) (w.tbl oldT).len).modTbl newT
        fun N => Table.copyCols (w.tbl oldT) (w.arch (w.tbl newT).arch).mask (w.tbl oldT).len
          (w.tbl oldT).ids N).tbl oldT = w.tbl oldT := by
      rw [modTbl_tbl_ne _ _ (Ne.symm hne), modTbl_tbl_ne _ _ (Ne.symm hne), tbl_congr h1]
    rw [e3]
    rfl
  · rw [hdef]
    show W1.entities = _
    rw [hf]

end World

/-! ## 3. moving one table: the postcondition -/

namespace Table

theorem addAllEntities_getEntity {t src : Table} (h : t.Shape) (hs : src.Shape)
    (count : Nat) (hc : count ≤ src.len) (hb : t.len + count < 2 ^ 32) (r : Nat)
    (hr : r < t.len + count) :
    (t.addAllEntities src count).getEntity r =
      if r < t.len then t.getEntity r else src.getEntity (r - t.len) := by
  have := addAll_getEntity h hs count hc hb r hr
  simp only [getEntity] at this ⊢
  rw [addAllEntities_ents]; exact this

theorem copyToEnd_cell_below {t src : Table} (h : t.Shape) (hs : src.Shape) (c : Comp) (count : Nat)
    (hct : count ≤ t.len) (hcs : count ≤ src.len) (k r : Nat) (hr : r < t.len - count) :
    (t.copyToEnd c src count).cell k r = t.cell k r := by
  rcases copyToEnd_cases t c src count with he | ⟨i, j, hi, hj, hz⟩
  · rw [he]
  · rw [copyToEnd_cell h hs c count hct hcs hi hj hz, if_neg]
    intro hh; omega

/-- the column copies leave the rows below the last `count` alone -/
theorem copyCols_cell_below {O : Table} (hO : O.Shape) (mask : Mask) {count : Nat} (hcs : count ≤ O.len) :
    ∀ (l : List Comp) {N : Table}, N.Shape → count ≤ N.len → ∀ k r : Nat, r < N.len - count →
    (copyCols O mask count l N).cell k r = N.cell k r
  | [], _, _, _, _, _, _ => rfl
  | c' :: l, N, hN, hct, k, r, hr => by
    show (copyCols O mask count l (if mask.get c' then N.copyToEnd c' O count else N)).cell k r = _
    split
    · rw [copyCols_cell_below hO mask hcs l (copyToEnd_shape hN hO c' count hct hcs)
        (by rw [copyToEnd_len]; exact hct) k r (by rw [copyToEnd_len]; exact hr)]
      exact copyToEnd_cell_below hN hO c' count hct hcs k r hr
    · exact copyCols_cell_below hO mask hcs l hN hct k r hr

end Table

namespace World

/-- what `exchangeTable oldT newT` guarantees (`O`, `N` the two tables before) -/
structure TableMovedPost (w : World) (fl : List Nat) (oldT newT : Nat) (w' : World) : Prop where
  cinv : CInv w' fl
  pool : w'.pool = w.pool
  kinds : w'.kinds = w.kinds
  maxComps : w'.maxComps = w.maxComps
  archetypes : w'.archetypes = w.archetypes
  /-- every moved entity has the components of the destination; a component the source had keeps
      its value, the others read zero -/
  moved : ∀ k : Nat, k < (w.tbl oldT).len →
    w'.entities[((w.tbl oldT).getEntity k).id]? = some (newT, (w.tbl newT).len + k) ∧
    compsOf w' ((w.tbl oldT).getEntity k).id = some (w.tbl newT).ids ∧
    ∀ c : Comp, c ∈ (w.tbl newT).ids →
      valOf w' ((w.tbl oldT).getEntity k).id c =
        if c ∈ (w.tbl oldT).ids then valOf w ((w.tbl oldT).getEntity k).id c else some 0
  /-- every other entity is unchanged -/
  frame : ∀ j : Nat, (∀ k : Nat, k < (w.tbl oldT).len → ((w.tbl oldT).getEntity k).id ≠ j) →
    SameEnt w w' j ∧ w'.entities[j]? = w.entities[j]?
  tablesLen : w'.tables.length = w.tables.length
  entitiesLen : w'.entities.length = w.entities.length
  srcEmpty : (w'.tbl oldT).len = 0
  dstLen : (w'.tbl newT).len = (w.tbl newT).len + (w.tbl oldT).len
  dstRows : ∀ r : Nat, r < (w.tbl newT).len + (w.tbl oldT).len → (w'.tbl newT).getEntity r =
    if r < (w.tbl newT).len then (w.tbl newT).getEntity r
    else (w.tbl oldT).getEntity (r - (w.tbl newT).len)
  dstIds : (w'.tbl newT).ids = (w.tbl newT).ids
  others : ∀ t : Nat, t ≠ oldT → t ≠ newT → w'.tbl t = w.tbl t

theorem exchangeTableW_rest (w : World) (oldT newT : Nat) :
    (exchangeTableW w oldT newT).pool = w.pool ∧ (exchangeTableW w oldT newT).kinds = w.kinds ∧
    (exchangeTableW w oldT newT).archetypes = w.archetypes ∧
    (exchangeTableW w oldT newT).isTarget = w.isTarget ∧
    (exchangeTableW w oldT newT).maxComps = w.maxComps ∧ (exchangeTableW w oldT newT).log = w.log := by
  obtain ⟨_, _, h⟩ := exchangeTableW_frame w oldT newT
  rw [h]
  exact ⟨rfl, rfl, rfl, rfl, rfl, rfl⟩

/-- **one table move**, for any world whose index and table metadata are in order: the column
    copies put the kept values of the source, and zeros, into the new rows -/
theorem exchangeTableW_core {w : World} (hI : IdxInv w) (hS : SInvMid w)
    (hfew : w.tables.length ≤ maxU32) {oldT newT : Nat}
    (hne : oldT ≠ newT) (ho : oldT < w.tables.length) (hn : newT < w.tables.length)
    (hb : (w.tbl newT).len + (w.tbl oldT).len < 2 ^ 32) :
    TableMovedCore w oldT newT (exchangeTableW w oldT newT) := by
  obtain ⟨hT, hE⟩ := exchangeTableW_spec w hne hn
  have hOt := get_of_lt ho
  have hNt := get_of_lt hn
  have hOS := hI.shape oldT _ hOt
  have hNS := hI.shape newT _ hNt
  have hD0S := Table.addAllEntities_shape hNS hOS (w.tbl oldT).len (Nat.le_refl _) hb
  have hD0len := Table.addAllEntities_len (w.tbl newT) (w.tbl oldT) (w.tbl oldT).len
  have hD0sm := Table.addAllEntities_sameMeta (w.tbl newT) (w.tbl oldT) (w.tbl oldT).len
  have hrel := Table.copyCols_rel (w.tbl oldT) (w.arch (w.tbl newT).arch).mask (w.tbl oldT).len
    (w.tbl oldT).ids ((w.tbl newT).addAllEntities (w.tbl oldT) (w.tbl oldT).len)
  have hDlen : (movedTable w oldT newT).len = (w.tbl newT).len + (w.tbl oldT).len := by
    show (Table.copyCols _ _ _ _ _).len = _
    rw [hrel.len, hD0len]
  refine TableMovedCore.of_rows hI hne ho hn (by omega) (by omega)
    (rowsMoved_of_fold hI ho hT (fun _ _ => rfl) hE)
    (Table.copyCols_shape hOS _ (Nat.le_refl _) _ hD0S (by rw [hD0len]; omega))
    (hD0sm.trans hrel.sm) hDlen ?_ ?_ ?_
  · intro r hr
    rw [hDlen] at hr
    have : (movedTable w oldT newT).getEntity r =
        ((w.tbl newT).addAllEntities (w.tbl oldT) (w.tbl oldT).len).getEntity r := by
      simp only [Table.getEntity, movedTable, hrel.ents]
    rw [this]
    exact Table.addAllEntities_getEntity hNS hOS _ (Nat.le_refl _) hb r hr
  · intro i r hr
    show (Table.copyCols _ _ _ _ _).cell i r = _
    rw [Table.copyCols_cell_below hOS _ (Nat.le_refl _) _ hD0S (by rw [hD0len]; omega) i r
      (by rw [hD0len]; omega), Table.addAllEntities_cell, Table.alloc_cell_eq,
      Table.extend_cell_lt _ _ _ _ hr]
  · intro c kk hkk k hk
    have hkkD0 : ((w.tbl newT).addAllEntities (w.tbl oldT) (w.tbl oldT).len).colIdx c = some kk := by
      simp only [Table.colIdx, hD0sm.ids]; exact hkk
    have hzero : ((w.tbl newT).addAllEntities (w.tbl oldT) (w.tbl oldT).len).cell kk
        ((w.tbl newT).len + k) = 0 :=
      Table.addAllEntities_new_rows_zero hNS _ _ _ _ (by omega)
    show (Table.copyCols _ _ _ _ _).cell kk _ = _
    cases hj : (w.tbl oldT).colIdx c with
    | none =>
      rw [Table.copyCols_cell_keep hOS _ (Nat.le_refl _) _ hD0S (by rw [hD0len]; omega) hkkD0
        (Or.inl hj), hzero]
    | some j =>
      have hco : c ∈ (w.tbl oldT).ids := colIdx_some_iff_mem.mp ⟨j, hj⟩
      cases hz : (w.tbl newT).zst.getD kk false with
      | false =>
        have hmask : (w.arch (w.tbl newT).arch).mask.get c = true :=
          (hS.mem_ids_iff (lt_of_get hNt) c).1 (colIdx_some_iff_mem.mp ⟨kk, hkk⟩)
        rw [Table.copyCols_cell hOS _ (Nat.le_refl _) hj _ hD0S (by rw [hD0len]; omega) hkkD0
          (by rw [hD0sm.zst]; exact hz), hD0len,
          if_pos ⟨⟨hco, hmask⟩, by omega, by omega⟩, Nat.add_sub_cancel, Nat.add_sub_cancel_left]
      | true =>
        rw [Table.copyCols_cell_keep hOS _ (Nat.le_refl _) _ hD0S (by rw [hD0len]; omega) hkkD0
          (Or.inr (by rw [hD0sm.zst]; exact hz)), hzero]
        have hzO : (w.tbl oldT).zst.getD j false = true := by
          rw [hS.tbl_zst hOt hj, ← hS.tbl_zst hNt hkk]; exact hz
        exact (hOS.zst_zero j hzO k).symm

/-- **one table move**: `exchangeTable oldT newT` for two existing, different tables of the
    fragment -/
theorem CInv.tableMoved {w : World} {fl : List Nat} (h : CInv w fl) {oldT newT : Nat}
    (hne : oldT ≠ newT) (ho : oldT < w.tables.length) (hn : newT < w.tables.length)
    (hb : (w.tbl newT).len + (w.tbl oldT).len < 2 ^ 32) :
    TableMovedPost w fl oldT newT (exchangeTableW w oldT newT) := by
  have c := exchangeTableW_core h.idx h.sinv.toSInvMid h.fewTables hne ho hn hb
  obtain ⟨fP, fK, fA, fI, fM, _⟩ := exchangeTableW_rest w oldT newT
  have fO := exchangeTableW_obs w oldT newT
  have fL := exchangeTableW_locks w oldT newT
  generalize exchangeTableW w oldT newT = X at c fP fK fA fI fM fO fL ⊢
  exact
    { cinv := h.transfer c.idx (h.sinv.of_sameMeta fA fK c.tablesLen c.tmeta) fP c.idxSame fK
        ⟨fO, fL, fI, fM⟩ (by rw [c.tablesLen]; exact h.fewTables)
      pool := fP, kinds := fK, maxComps := fM, archetypes := fA
      moved := c.moved, frame := c.frame, tablesLen := c.tablesLen, entitiesLen := c.idxSame.len
      srcEmpty := by rw [c.srcTbl]; rfl
      dstLen := c.dstLen, dstRows := c.dstRows
      dstIds := (c.tmeta newT hn).ids
      others := c.others }

end World
end Ark
