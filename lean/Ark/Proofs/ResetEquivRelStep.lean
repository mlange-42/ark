/-
  C16 for the relation machines, the steps.  The outcome of every operation of `Ark.RelRefine` is a
  function of the specification state and of the next handle of the entity pool (`specOutcome`,
  `exec_outcome`); every step of `Ark.RelRefine2` is described by what later operations depend on:
  specification, issued handles, registry, entity pool, filter objects of the heap — one equation
  per part (`step_eq`, `copy_eq`, `freg_eq`, `funreg_eq`, the `*_desc`).
-/
import Ark.Proofs.RelRefine2Reset

section

/-! ## §1 the outcome of an operation as a function of the specification

What `Ark/Proofs/ResetEquiv.lean` is for the relation-free machine; the closed forms it rests on
  are in `Ark/Proofs/RelRefineKind.lean` and `RelRefineSteps.lean` (`exec_facts`).  Before that:
  `setRelationsCore` naming a dead target is refused with `deadTarget` as such.  Every access path
  refuses a dead target in its pre-validation, so `exec_rej` does not need this fact.
-/

set_option autoImplicit false

namespace Ark

open World Ark.Props.C01World

namespace RelRefine

open Refine (Comps keys sortedIds writeComps zeros Outcome outcome)

theorem relPanic_deadTarget (w : World) : ∀ (rels : List RelID),
    (∀ (r : RelID), r ∈ rels → w.isRelComp r.comp = true) → ¬ RelsValid w rels →
    relPanic w rels = .deadTarget
  | [], _, hnv => absurd (fun r hr => absurd hr List.not_mem_nil) hnv
  | r :: rest, hrc, hnv => by
    have h1 := hrc r List.mem_cons_self
    by_cases hd : r.target.isZero = true ∨ w.alive r.target = true
    · have hok : relCheck r w = .ok () w := by
        rcases relCheck_cases r w with ⟨_, _, h3⟩ | ⟨hbad, _⟩
        · exact h3
        · exact absurd ⟨h1, hd⟩ hbad
      have hrest : ¬ RelsValid w rest := fun hv => hnv fun r' hr' => by
        rcases List.mem_cons.1 hr' with rfl | hm
        · exact ⟨h1, hd⟩
        · exact hv r' hm
      have ih := relPanic_deadTarget w rest (fun r' hr' => hrc r' (List.mem_cons_of_mem _ hr')) hrest
      simp only [relPanic, M.forM', bind, M.bind, hok] at ih ⊢
      exact ih
    · have hz : r.target.isZero = false := by
        cases hzz : r.target.isZero with
        | false => rfl
        | true => exact absurd (Or.inl hzz) hd
      have hal : w.alive r.target = false := by
        cases haa : w.alive r.target with
        | false => rfl
        | true => exact absurd (Or.inr haa) hd
      have hp : relCheck r w = .panic .deadTarget w := by
        simp [relCheck, checkRelationComponent, checkRelationTarget, M.bind, h1, hz, hal]
      simp only [relPanic, M.forM', bind, M.bind, hp]

theorem relGet_panic_kind {w : World} {a tid : Nat} {ts' : List Ent} (hR : RelInv w)
    (hlt : tid < w.tables.length) (hTa : (w.tbl tid).arch = a)
    (hTf : (w.tbl tid).isFree = false)
    (hrelA : (w.arch a).hasRelations = true) (hl : ts'.length = (w.tbl tid).ids.length)
    (hnv : ¬ RelsValid w (colRels (w.tbl tid).ids ts' (w.tbl tid).isRel))
    {k : PanicKind} {s : World}
    (hgo : getOrCreate a (colRels (w.tbl tid).ids ts' (w.tbl tid).isRel) w = .panic k s) :
    k = .deadTarget := by
  have hS := hR.sinv.toSInvMid
  obtain ⟨_, halt, ff⟩ := hS.fits hlt
  rw [hTa] at halt ff
  -- the lookup never panics (`relGet_cases`); of `createTable`'s checks only the validity of the
  -- targets can fail
  rcases relGet_cases rfl hS hR.aux.rels hlt hTa hTf hrelA hl (fun i hi ts hf t ht =>
      ((hR.rinv a _ (aget_of_lt halt)).listed (by rw [← ff.isRel]; exact hi) hf ht).1) with
    ⟨nt, hg, _⟩ | ⟨hg, hnd, hnum, hcols, hrc, _⟩
  · rw [getOrCreate_found hg] at hgo; cases hgo
  · simp only [getOrCreate, bind, M.bind, hg] at hgo
    rw [createTable_eq, if_neg (by omega),
      (checkRelList_nil_eq_none_iff (w.arch a) _).mpr ⟨hnd, hcols⟩] at hgo
    simp only [if_neg hnv] at hgo
    injection hgo with hk _
    rw [← hk]
    exact relPanic_deadTarget w _ (fun r hr => (hrc r hr).1) hnv

/-- **rejection with its class**: `setRelations` naming a dead target — on relation components the
    live entity has, none twice — is refused with `deadTarget` and the world unchanged (so also
    when the pre-validation is bypassed) -/
theorem setRelationsCore_deadTarget_kind (run : ProbeRunner) {w : World} {fl : List Nat}
    (h : TInv w fl)
    (hl : w.isLocked = false) {e : Ent} (h2 : 2 ≤ e.id) (hnf : e.id ∉ fl) (ha : w.alive e = true)
    (hsl : e.id < w.pool.ents.length)
    {rels : List RelID} (hne : rels.isEmpty = false) (hnd : (rels.map (·.comp)).Nodup)
    (hhas : ∀ (r : RelID), r ∈ rels → (targetOf w e.id r.comp).isSome = true)
    (hd : ∃ (r : RelID), r ∈ rels ∧ r.target.isZero = false ∧ w.alive r.target = false) :
    setRelationsCore run e rels w = .panic .deadTarget w := by
  obtain ⟨oldT, row, he, _, hT, _, hTf⟩ := h.live_table h2 hnf ha hsl
  have hix := index_of_get he
  have hS := h.rel.sinv.toSInvMid
  have htl := (h.rel.aux.rels oldT _ hT hTf).tlen
  have hcols := relCols_of_has he hT hhas
  obtain ⟨rd, hrd, hdz, hda⟩ := hd
  obtain ⟨id, hid, hidr⟩ := hcols rd hrd
  have hnamed := editT_named htl hnd hrd hid
  have nogood : ¬ (rd.target.isZero = true ∨ w.alive rd.target = true) := by rw [hdz, hda]; simp
  obtain ⟨ch, cm, hx, hfalse, htrue⟩ := getExchangeTargets_spec (w.tbl oldT) rels w hcols hnd
  cases ch with
  | false =>
    -- the dead target would already be stored in the entity's table
    have := h.rel.aux.targets oldT _ hT hTf id hidr
    rw [editT, hfalse rfl] at hnamed
    rw [hnamed] at this
    exact absurd this nogood
  | true =>
    simp only [if_true] at hx
    have hlen : (editT (w.tbl oldT) rels).length = (w.tbl oldT).ids.length := by
      rw [editT, setTargets_length, htl]
    have hnv : ¬ RelsValid w (colRels (w.tbl oldT).ids (editT (w.tbl oldT) rels)
        (w.tbl oldT).isRel) := fun hv => by
      obtain ⟨_, _, _, f4⟩ := colRels_facts (ts := editT (w.tbl oldT) rels) (hS.ids_nodup hT) hlen
        (hS.isRel_len hT)
      have hmem := f4 id rd.comp (Table.colIdx_get hid) hidr
      rw [hnamed] at hmem
      exact nogood (hv _ hmem).2
    cases hgo : getOrCreate (w.tbl oldT).arch
        (colRels (w.tbl oldT).ids (editT (w.tbl oldT) rels) (w.tbl oldT).isRel) w with
    | panic k s =>
      obtain rfl := getOrCreate_panic_state hgo hnv
      obtain rfl := relGet_panic_kind h.rel (lt_of_get hT) rfl hTf (hS.hasRelations_of_col hT hidr)
        hlen hnv hgo
      exact setRelationsCore_panic_get run e rels _ hl ha hne hix hx hgo
    | ok nt w1 =>
      exact absurd ((relAssign_of_ok h.rel h.link.idx (h.flags.upTo rels) h.freeEmpty (lt_of_get hT)
        hTf hnd hcols (htrue rfl) hgo).2.2.2.2.2 rd hrd) nogood

def decSome (o : Option Entry) (P : Entry → Prop) [∀ en, Decidable (P en)] :
    Decidable (∃ en, o = some en ∧ P en) :=
  match o with
  | none => isFalse (by rintro ⟨_, h, _⟩; cases h)
  | some en =>
    if h : P en then isTrue ⟨en, rfl, h⟩
    else isFalse (by rintro ⟨en', h', hp⟩; cases h'; exact h hp)

def decSome' (o : Option Entry) : Decidable (∃ en, o = some en) :=
  match o with
  | none => isFalse (by rintro ⟨_, h⟩; cases h)
  | some en => isTrue ⟨en, rfl⟩

instance instDecidablePre (ss : SS) : (op : Op) → Decidable (pre ss op)
  | .reg _ _ _ => inferInstanceAs (Decidable (ss.zst.length < 256))
  | .new _ ids _ rels => inferInstanceAs (Decidable (NewOK ss ids rels))
  | .add _ e ids _ rels => decSome (find ss.ents e) (fun en => AddOK ss en ids rels)
  | .rem _ e ids => decSome (find ss.ents e)
      (fun en => ids ≠ [] ∧ ids.Nodup ∧ ∀ c ∈ ids, c ∈ keys en.comps)
  | .setrel _ e rels => decSome (find ss.ents e) (fun en => SetRelOK ss en rels)
  | .set e vals => decSome (find ss.ents e) (fun en => ∀ cv ∈ vals, cv.1 ∈ keys en.comps)
  | .del e => decSome' (find ss.ents e)

def specOutcome (ss : SS) (fresh : Ent) (op : Op) : Outcome :=
  if pre ss op then .ok (retSpec fresh op) else .panic (rejKind ss op)

/-- the issued handles after an ACCEPTED operation (`fresh` = the pool's next handle) -/
def issuedSpec (issued : List Ent) (fresh : Ent) (op : Op) : List Ent :=
  match retSpec fresh op with
  | some e => e :: issued
  | none => issued

/-- **one expressible step of the entity operations, by the specification**: the specification,
    the issued handles, the pool and the registry after it and the outcome of the call are
    functions of those parts before it; the filter heap is not touched -/
theorem step_eq (run : ProbeRunner) {s : St} {fl : List Nat} (H : HInv s fl)
    (hfew : s.w.tables.length + s.w.relationArchetypes.length + 1 ≤ maxU32)
    (hent : 2 * s.w.entities.length < 2 ^ 32) (op : Op) (hg : guard s op = true) :
    (step run s op).ss = specStep s.ss ((retSpec (s.w.pool.get).2 op).getD default) op ∧
    (step run s op).issued =
      (if pre s.ss op then issuedSpec s.issued (s.w.pool.get).2 op else s.issued) ∧
    (step run s op).w.pool = (if pre s.ss op then poolAfter s.w.pool op else s.w.pool) ∧
    (step run s op).w.kinds = (if pre s.ss op then kindsAfter s.w.kinds op else s.w.kinds) ∧
    (step run s op).w.filters = s.w.filters ∧
    outcome (exec run s.w op) = specOutcome s.ss (s.w.pool.get).2 op := by
  have F := exec_facts run H hfew hent op hg
  rw [step_of_guard hg, specOutcome]
  by_cases hp : pre s.ss op
  · obtain ⟨w', hex, hpool, hk⟩ := F.acc hp
    have hkept := RelRefine2.exec_kept run H hfew hent hg hp hex
    simp only [hex, if_pos hp]
    exact ⟨rfl, rfl, hpool, hk, hkept.c.filters, rfl⟩
  · simp only [F.rej hp, if_neg hp, Res.state, retOf, issuedAfter,
      specStep_of_not_pre s.ss _ op hp]
    exact ⟨trivial, trivial, trivial, trivial, trivial, rfl⟩

theorem exec_outcome (run : ProbeRunner) {s : St} {fl : List Nat} (H : HInv s fl)
    (hfew : s.w.tables.length + s.w.relationArchetypes.length + 1 ≤ maxU32)
    (hent : 2 * s.w.entities.length < 2 ^ 32) (op : Op) (hg : guard s op = true) :
    outcome (exec run s.w op) = specOutcome s.ss (s.w.pool.get).2 op :=
  (step_eq run H hfew hent op hg).2.2.2.2.2

end RelRefine

end Ark

end

section

/-! ## §2 every step, described by what later operations depend on

`RelRefine.step_eq` (§1) for the entity operations comes from `RelRefine.exec_facts`; each
  other description is read off the exact step of its constructor (`step2_*_eq`, `step2_reset_spec`,
  `opFilter*_filters` of `Ark/Proofs/RelRefine2{Inv,Machine,Reset}.lean`; for `fdef` it is
  `defFilter_eq`, which stands here).
-/

set_option autoImplicit false

namespace Ark

open World Ark.Props.C01World

namespace RelRefine2

open QueryRel QueryExact RelRefine
open Refine (Outcome)

def outcomeU : Res World Unit → Outcome
  | .ok _ _ => .ok none
  | .panic k _ => .panic k

def outcomeE : Res World Ent → Outcome
  | .ok e _ => .ok (some e)
  | .panic k _ => .panic k

structure Same (s s' : St) : Prop where
  ss : s'.ss = s.ss
  issued : s'.issued = s.issued
  pool : s'.w.pool = s.w.pool
  kinds : s'.w.kinds = s.w.kinds

theorem Same.refl (s : St) : Same s s := ⟨rfl, rfl, rfl, rfl⟩

theorem Same.of_sameButCF {s : St} {w' : World} (h : SameButCF s.w w') :
    Same s ⟨w', s.issued, s.ss⟩ := by
  obtain ⟨_, _, _, hk, _, _, hp, _⟩ := sameButCF_fields h
  exact ⟨rfl, rfl, hp, hk⟩

variable (run : ProbeRunner)

/-- `CopyEntity` of a handle the client holds, by the specification: accepted iff the handle has
    an entry, which the pool's next handle then gets too -/
theorem copy_eq {s : St} {fl : List Nat} (H : HInv2 s fl)
    (hent : 2 * s.w.entities.length < 2 ^ 32) {e : Ent} (hi : e ∈ s.issued) :
    (step2 run s (.copy e)).ss =
      (match find s.ss.ents e with
        | some en => ⟨((s.w.pool.get).2, en) :: s.ss.ents, s.ss.zst, s.ss.isRel⟩
        | none => s.ss) ∧
    (step2 run s (.copy e)).issued =
      (if (find s.ss.ents e).isSome = true then (s.w.pool.get).2 :: s.issued else s.issued) ∧
    (step2 run s (.copy e)).w.pool =
      (if (find s.ss.ents e).isSome = true then (s.w.pool.get).1 else s.w.pool) ∧
    (step2 run s (.copy e)).w.kinds = s.w.kinds ∧
    (step2 run s (.copy e)).w.filters = s.w.filters ∧
    outcomeE (opCopyEntity run e s.w) =
      (if (find s.ss.ents e).isSome = true then .ok (some (s.w.pool.get).2)
        else .panic .deadEntity) := by
  obtain ⟨acc, rej⟩ := step2_copy_eq run H hent hi
  cases hf : find s.ss.ents e with
  | some en =>
    obtain ⟨w', hop, post, hstep⟩ := acc en hf
    rw [hstep, hop]
    exact ⟨rfl, rfl, post.pool, post.kinds, post.ckeep.filters, rfl⟩
  | none =>
    obtain ⟨hop, hstep⟩ := rej hf
    rw [hop, hstep]
    exact ⟨rfl, rfl, rfl, rfl, rfl, rfl⟩

theorem shrink_desc {s : St} {fl : List Nat} (H : HInv2 s fl)
    (hent : 2 * s.w.entities.length < 2 ^ 32) (bounded : Bool) :
    Same s (step2 run s (.shrink bounded)) ∧
    (step2 run s (.shrink bounded)).w.filters = s.w.filters := by
  obtain ⟨hstep, _, hrel⟩ := step2_shrink_eq run H hent bounded
  rw [hstep]
  exact ⟨⟨rfl, rfl, hrel.frame.pool, hrel.frame.kinds⟩, hrel.frame.filters⟩

theorem reset_desc {s : St} {fl : List Nat} (H : HInv2 s fl) :
    (step2 run s .reset).ss = ⟨[], s.ss.zst, s.ss.isRel⟩ ∧
    (step2 run s .reset).issued = [] ∧
    (step2 run s .reset).w.pool = s.w.pool.reset ∧
    (step2 run s .reset).w.kinds = s.w.kinds ∧
    (∀ (f : Nat), foAt (step2 run s .reset).w f = { foAt s.w f with cache := none }) ∧
    outcomeU (opReset s.w) = .ok none := by
  have post := step2_reset_spec run H
  rw [post.state, opReset_eq s.w H.base.unlocked]
  refine ⟨rfl, rfl, resetW_pool s.w, resetW_kinds s.w, fun f => ?_, rfl⟩
  show (AL.find? (resetW s.w).filters f).getD {} = _
  rw [resetW_filters, cacheReset_filters H.finv.cache H.finv.heap.toReg]
  unfold foAt
  cases AL.find? s.w.filters f <;> rfl

/-- does the driver's `filter` line (`fdef`) store the object?  (the typed constructor validates
    the fixed relations) -/
def fdefStores (w : World) (fo : FilterObj) : Bool :=
  match (if fo.typed then preCheckTyped fo.filter.mask fo.rels else pure ()) w with
  | .ok _ _ => true
  | .panic _ _ => false

theorem foAt_of_insert {w w' : World} {f : Nat} {fo : FilterObj}
    (h : w'.filters = AL.insert w.filters f fo) (g : Nat) :
    foAt w' g = if g = f then fo else foAt w g := by
  show (AL.find? w'.filters g).getD {} = _
  rw [h, AL.find?_insert]
  split <;> rfl

/-- the exact step of `fdef`: the validation never changes the world -/
theorem defFilter_eq (f : Nat) (fo : FilterObj) (w : World) :
    defFilter f fo w =
      if fdefStores w fo = true then { w with filters := AL.insert w.filters f fo } else w := by
  unfold defFilter fdefStores
  cases ht : fo.typed with
  | false => rfl
  | true =>
    simp only [if_true]
    rcases preCheckTyped_cases fo.filter.mask w fo.rels with h | ⟨k, h⟩ <;> rw [h] <;> rfl

theorem fdef_desc (s : St) (f : Nat) (fo : FilterObj) :
    Same s (step2 run s (.fdef f fo)) ∧
    ∀ (g : Nat), foAt (step2 run s (.fdef f fo)).w g =
      if guardF s.w fo = true ∧ fdefStores s.w fo = true ∧ g = f then fo else foAt s.w g := by
  by_cases hg : guardF s.w fo = true
  · have hstep : step2 run s (.fdef f fo) = { s with w := defFilter f fo s.w } := by
      simp only [step2, if_pos hg]
    rw [hstep]
    refine ⟨Same.of_sameButCF (defFilter_sameButCF f fo s.w).1, fun g => ?_⟩
    show foAt (defFilter f fo s.w) g = _
    rw [defFilter_eq]
    by_cases hs : fdefStores s.w fo = true
    · rw [if_pos hs]
      simp only [hg, hs, true_and]
      exact foAt_of_insert rfl g
    · rw [if_neg hs]
      simp only [hs, Bool.false_eq_true, false_and, and_false, if_false]
  · simp only [step2, if_neg hg]
    exact ⟨Same.refl s, fun g => by simp only [hg, Bool.false_eq_true, false_and, if_false]⟩

/-- `Register` on the object under `f`, whatever its state: afterwards the object is marked
    registered and no other label has changed; the call is refused iff it was marked before -/
theorem freg_eq {s : St} {fl : List Nat} (H : HInv2 s fl) (f : Nat) :
    Same s (step2 run s (.freg f)) ∧
    (∃ (c : Option Nat), c.isSome = true ∧ ∀ (g : Nat), foAt (step2 run s (.freg f)).w g =
      if g = f then { foAt s.w f with cache := c } else foAt s.w g) ∧
    outcomeU (opFilterRegister f s.w) =
      (if (foAt s.w f).cache.isSome = true then .panic .filterRegistered else .ok none) := by
  refine ⟨Same.of_sameButCF (H.finv.filterRegister H.base.tinv f).2.1, ?_⟩
  cases hc : (foAt s.w f).cache with
  | none =>
    obtain ⟨w', hop, hfil⟩ := opFilterRegister_filters H.finv H.base.tinv f hc
    simp only [step2, hop, Res.state]
    exact ⟨⟨_, rfl, foAt_of_insert hfil⟩, rfl⟩
  | some id =>
    have hop := opFilterRegister_registered f s.w hc
    simp only [step2, hop, Res.state]
    refine ⟨⟨some id, rfl, fun g => ?_⟩, rfl⟩
    split
    · subst g; rw [← hc]
    · rfl

/-- `Unregister` on the object under `f`, whatever its state: afterwards the object is not marked
    and no other label has changed; the call is refused iff it was not marked before -/
theorem funreg_eq {s : St} {fl : List Nat} (H : HInv2 s fl) (f : Nat) :
    Same s (step2 run s (.funreg f)) ∧
    (∀ (g : Nat), foAt (step2 run s (.funreg f)).w g =
      if g = f then { foAt s.w f with cache := none } else foAt s.w g) ∧
    outcomeU (opFilterUnregister f s.w) =
      (if (foAt s.w f).cache.isSome = true then .ok none else .panic .filterNotRegistered) := by
  refine ⟨Same.of_sameButCF (H.finv.filterUnregister H.base.tinv f).2.1, ?_⟩
  cases hc : (foAt s.w f).cache with
  | some id =>
    obtain ⟨w', hop, hfil⟩ := opFilterUnregister_filters H.finv f hc
    simp only [step2, hop, Res.state]
    exact ⟨foAt_of_insert hfil, rfl⟩
  | none =>
    have hop := opFilterUnregister_unregistered f s.w hc
    simp only [step2, hop, Res.state]
    refine ⟨fun g => ?_, rfl⟩
    split
    · subst g; rw [← hc]
    · rfl

theorem query_frame {s : St} {fl : List Nat} (H : HInv2 s fl) (f : Nat) (extra : List RelID) :
    Same s (step2 run s (.query f extra)) ∧
    (step2 run s (.query f extra)).w.filters = s.w.filters := by
  rcases step2_query_eq run H f extra with h | ⟨l2, _, h⟩ <;> rw [h]
  · exact ⟨Same.refl s, rfl⟩
  · exact ⟨⟨rfl, rfl, rfl, rfl⟩, rfl⟩

end RelRefine2

end Ark

end

