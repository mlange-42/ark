/-
  The batch removal `World.RemoveEntities(batch, nil)` on a world with relations as a step of the
  machine (`OpRB.delb`): removed entities may be relation TARGETS of others (also of each other),
  whose relations are zeroed.  Any world that satisfies `RemovedAllRelPost` for a duplicate-free list
  of specified handles — the batch's, or that of the single removals in any order — realises
  `specDelAll` (`HInv.removedAll`); hence the step lemma; `runOps_dels`: the run of the single `del`
  steps is the sequence of single removals (for `delb_is_singles` of Ark/Props/C01RelBatch.lean).
-/
import Ark.Proofs.RelRefineBatch

set_option autoImplicit false

namespace Ark

open World Ark.Props.C01World QueryRel

namespace RelRefineB

open RelRefine
open Refine (Comps keys sortedIds writeComps zeros)

/-! ## model selection = specification selection -/

theorem ofList_sortedIds {n : Nat} {ks : List Comp} (h : ∀ c ∈ ks, c < n) :
    Mask.ofList (sortedIds n ks) = Mask.ofList ks := by
  apply Mask.ext_get
  intro c _
  rw [Mask.get_ofList, Mask.get_ofList]
  have hiff : c ∈ sortedIds n ks ↔ c ∈ ks :=
    ⟨fun hh => (Refine.mem_sortedIds.mp hh).2, fun hh => Refine.mem_sortedIds.mpr ⟨h c hh, hh⟩⟩
  by_cases hc : c ∈ ks
  · simp [hc, hiff.mpr hc]
  · have hn : c ∉ sortedIds n ks := fun hh => hc (hiff.mp hh)
    simp [hc, hn]

theorem relsTyped_of_expr {s : St} {fl : List Nat} (H : HInv s fl) {f : Filter} {frels : Rels}
    (h : frelsExpr s.ss f frels = true) :
    RelsTyped s.w (foOf f frels).filter ((foOf f frels).rels ++ []) := by
  intro r hr
  rw [List.append_nil] at hr
  have := List.all_eq_true.mp h r hr
  rw [Bool.and_eq_true] at this
  exact ⟨by rw [← H.rget]; exact this.1, this.2⟩

/-- **for a specified entity, the model's test is the specification's test** -/
theorem entMatches_iff {s : St} {fl : List Nat} (H : HInv s fl) {e : Ent} {en : Entry}
    (hm : (e, en) ∈ s.ss.ents) (f : Filter) (frels : Rels) :
    EntMatches s.w f frels e.id ↔ entryMatches f frels en = true := by
  have ok := H.ok e en hm
  simp only [EntMatches, entryMatches, Bool.and_eq_true, List.all_eq_true, decide_eq_true_eq]
  constructor
  · rintro ⟨⟨cs, hcs, hmm⟩, hall⟩
    rw [ok.comps] at hcs
    injection hcs with hcs
    subst hcs
    rw [ofList_sortedIds ok.reg] at hmm
    refine ⟨hmm, fun r hr => ?_⟩
    have ht := hall r hr
    have hs : (targetOf s.w e.id r.comp).isSome = true := by rw [ht]; rfl
    obtain ⟨r', hr', hc⟩ := List.mem_map.mp ((H.target_isSome_iff hm r.comp).mp hs)
    have h1 := ok.tgts r' hr'
    rw [hc, ht] at h1
    have h2 : r' = r := by
      obtain ⟨c1, t1⟩ := r'
      obtain ⟨c2, t2⟩ := r
      simp only at hc h1
      injection h1 with h1
      subst hc; subst h1; rfl
    exact h2 ▸ hr'
  · rintro ⟨hmm, hall⟩
    exact ⟨⟨_, ok.comps, by rw [ofList_sortedIds ok.reg]; exact hmm⟩,
      fun r hr => ok.tgts r (hall r hr)⟩

/-- **the selection of a batch**: the table selection succeeds without changing the world, and the
    handles in the rows of the selected tables are exactly the specified entities the filter
    matches; their IDs are pairwise different -/
theorem sel_spec {s : St} {fl : List Nat} (H : HInvRB s fl) {f : Filter} {frels : Rels}
    (hg : frelsExpr s.ss f frels = true) :
    ∃ ts, getBatchTables (foOf f frels) [] s.w = .ok ts s.w ∧ TableSet s.w ts ∧
      selEnts s.w f frels = ts.flatMap (rowsOf s.w) ∧
      (∀ e, e ∈ selEnts s.w f frels ↔ e ∈ matching s.ss f frels) ∧
      ((selEnts s.w f frels).map (·.id)).Nodup ∧
      (selEnts s.w f frels).length ≤ s.w.entities.length := by
  have h := H.hinv.tinv
  have hr := relsTyped_of_expr H.hinv hg
  obtain ⟨ts, hts, S, hok, _⟩ := getBatchTables_rel h (foOf f frels) [] rfl hr
  have hsel : selEnts s.w f frels = ts.flatMap (rowsOf s.w) := by simp only [selEnts, hts]
  refine ⟨ts, hts, S, hsel, ?_, by rw [hsel]; exact rows_ids_nodup h.link.idx S,
    by rw [hsel]; exact rows_length_le h.link H.rows S⟩
  intro e
  rw [hsel, mem_matching]
  have hmr := mem_rows_iff_matches h H.rows hok e
  have hfr : (foOf f frels).rels ++ [] = frels := List.append_nil _
  rw [hfr] at hmr
  constructor
  · intro he
    obtain ⟨h2, hnf, ha, hin, _⟩ := h.link.rows_live H.rows S he
    obtain ⟨_, _, _, _, hs⟩ := h.link.live_entry h2 hnf ha hin
    have hl : e ∈ s.ps.live := (H.hinv.ginv.live_iff e).mpr ⟨h2, hnf, hs⟩
    obtain ⟨x, hx', rfl⟩ := List.mem_map.mp hl
    exact ⟨x.2, hx', (entMatches_iff H.hinv hx' f frels).mp (hmr.mp he).2⟩
  · rintro ⟨en, hx, hmm⟩
    exact hmr.mpr ⟨(H.hinv.live_facts hx).2.1, (entMatches_iff H.hinv hx f frels).mpr hmm⟩

theorem nodup_of_ids {l : List Ent} (h : (l.map (·.id)).Nodup) : l.Nodup :=
  nodup_of_map (·.id) h

/-! ## any world that removed `es` realises the fold of the single removals -/

/-- **the removal of a duplicate-free list of specified handles keeps the invariant**, whatever
    produced the world (`RemovedAllRelPost`: the batch, or the single removals in any order):
    the specification is the fold of the single `del` steps — the entries of `es` dropped, every
    target among `es` zeroed — and the removed IDs are pushed on the free list in order -/
theorem HInv.removedAll {s : St} {fl : List Nat} (H : HInv s fl) {es : List Ent} {w' : World}
    (hsub : ∀ e ∈ es, e ∈ s.ss.ents.map (·.1)) (hes : es.Nodup)
    (p : RemovedAllRelPost s.w fl es w') :
    HInv ⟨w', s.issued, specDelAll s.ss es⟩ (es.reverse.map (·.id) ++ fl) := by
  have hnd := H.ginv.live_nodup
  have hmem := @mem_specDelAll s.ss hnd es hsub hes
  have hkeys : ∀ x : Ent, x ∈ (specDelAll s.ss es).ents.map (·.1) ↔
      x ∈ s.ss.ents.map (·.1) ∧ x ∉ es := by
    intro x
    constructor
    · intro hx
      obtain ⟨y, hy, rfl⟩ := List.mem_map.mp hx
      obtain ⟨en, h1, h2, _⟩ := hmem.mp (show (y.1, y.2) ∈ _ from hy)
      exact ⟨List.mem_map.mpr ⟨(y.1, en), h1, rfl⟩, h2⟩
    · rintro ⟨hx, hne⟩
      obtain ⟨y, hy, rfl⟩ := List.mem_map.mp hx
      exact List.mem_map.mpr ⟨(y.1, detachAll es y.2), hmem.mpr ⟨y.2, hy, hne, rfl⟩, rfl⟩
  have hkeysNd : ((specDelAll s.ss es).ents.map (·.1)).Nodup := by
    rw [specDelAll_ents es s.ss hnd hsub hes, List.map_map]
    exact (List.Sublist.map _ List.filter_sublist).nodup hnd
  -- an entry that stays has an ID different from the removed ones
  have hid : ∀ (x : Ent) (en : Entry), (x, en) ∈ s.ss.ents → x ∉ es → x.id ∉ es.map (·.id) := by
    intro x en hx hne hmm
    obtain ⟨e, he, heq⟩ := List.mem_map.mp hmm
    obtain ⟨y, hy, hy1⟩ := List.mem_map.mp (hsub e he)
    have : e = x := H.id_inj (show (e, y.2) ∈ s.ss.ents from hy1 ▸ hy) hx heq
    exact hne (this ▸ he)
  rw [SS.eq_mk rfl ⟨specDelAll_zst s.ss es, specDelAll_isRel s.ss es⟩]
  refine H.of_kinds p.tinv ?_ p.locks p.obs H.nodup p.kinds p.maxComps (fun x en' hx => ?_)
    (fun x en' hx r' hr' => ?_)
  · have hlive : ∀ e ∈ es, e ∈ s.ps.live := hsub
    rw [p.pool]
    refine ginv_of_mem (ginv_recycleAll es s.ps fl H.ginv hlive hes) hkeysNd ?_
    intro x
    rw [mem_foldl_erase _ _ hnd]
    exact hkeys x
  · obtain ⟨en, hx0, hne, rfl⟩ := hmem.mp hx
    have ok := H.ok x en hx0
    obtain ⟨hsame, htg⟩ := p.frame x.id (hid x en hx0 hne)
    refine ok.withRels hsame (by rw [List.map_map]; rfl) fun r' hr' => ?_
    obtain ⟨r, hr, rfl⟩ := List.mem_map.mp hr'
    show targetOf w' x.id r.comp = some (zeroIn es r.target)
    rw [htg r.comp, ok.tgts r hr]; rfl
  · obtain ⟨en, hx0, hne, rfl⟩ := hmem.mp hx
    obtain ⟨r, hr, rfl⟩ := List.mem_map.mp (show r' ∈ en.rels.map (zeroInRel es) from hr')
    show (zeroIn es r.target).isZero = true ∨
      (find (specDelAll s.ss es).ents (zeroIn es r.target)).isSome = true
    by_cases hm : r.target ∈ es
    · left; rw [zeroIn_of_mem hm]; rfl
    · rw [zeroIn_of_not_mem hm]
      rcases H.tgtsOK x en hx0 r hr with k | k
      · exact Or.inl k
      · right
        rw [find_isSome_iff] at k ⊢
        exact (hkeys _).mpr ⟨k, hm⟩

theorem sel_live {s : St} {fl : List Nat} (H : HInvRB s fl) {f : Filter} {frels : Rels}
    (hgx : frelsExpr s.ss f frels = true) {e : Ent} (he : e ∈ selEnts s.w f frels) :
    2 ≤ e.id ∧ e.id ∉ fl ∧ s.w.alive e = true ∧ e.id < s.w.pool.ents.length ∧ e ∈ s.issued ∧
      ∃ en, (e, en) ∈ s.ss.ents ∧ entryMatches f frels en = true := by
  obtain ⟨ts, _, S, hsel, hiff, _, _⟩ := sel_spec H hgx
  have hm := (hiff e).mp he
  rw [hsel] at he
  obtain ⟨h2, hnf, ha, hin, _⟩ := H.hinv.tinv.link.rows_live H.rows S he
  exact ⟨h2, hnf, ha, hin, H.hinv.ginv.live_issued e (matching_sub hm), mem_matching.mp hm⟩

/-! ## the step -/

/-- **the batch removal as a step of the machine.**  For an expressible filter and within the
    size bound: the model operation succeeds; the specification step is the fold of the single
    `RemoveEntity` steps over the selection; the world satisfies `RemovedAllRelPost` for the
    selected entities; the invariant `HInvRB` is kept with the removed IDs pushed on the free list
    in the batch's order. -/
theorem step_delb (run : ProbeRunner) {s : St} {fl : List Nat} (H : HInvRB s fl) (f : Filter)
    (frels : Rels) (hg : guardRB s (.delb f frels) = true) (hroom : Room s (.delb f frels)) :
    ∃ w' : World,
      opRemoveEntities run (foOf f frels) [] false s.w = .ok () w' ∧
      stepRB run s (.delb f frels) = ⟨w', s.issued, specStepRB s.ss [] (.delb f frels)⟩ ∧
      RemovedAllRelPost s.w fl (selEnts s.w f frels) w' ∧
      specStepRB s.ss [] (.delb f frels) = specDelAll s.ss (selEnts s.w f frels) ∧
      HInvRB (stepRB run s (.delb f frels)) ((selEnts s.w f frels).reverse.map (·.id) ++ fl) := by
  have h := H.hinv.tinv
  have hgx : frelsExpr s.ss f frels = true := hg
  obtain ⟨hfew, hrows⟩ := hroom
  obtain ⟨ts, hts, S, hsel, hiff, hids, hlen⟩ := sel_spec H hgx
  obtain ⟨w', hb, pb⟩ := opRemoveEntities_rel_spec run h H.rows H.hinv.unlocked H.hinv.noObs
    (foOf f frels) [] hts S (cleanup_budget (hsel ▸ hlen) hfew) hrows
  rw [← hsel] at pb
  have hstep : stepRB run s (.delb f frels) = _ := stepBatch_ok run hg w' (by simp only [execRB, hb])
  have hnd := H.hinv.ginv.live_nodup
  have hsub : ∀ e ∈ selEnts s.w f frels, e ∈ s.ss.ents.map (·.1) :=
    fun e he => matching_sub ((hiff e).mp he)
  have hspec : specStepRB s.ss [] (.delb f frels) = specDelAll s.ss (selEnts s.w f frels) :=
    specDelAll_perm hnd (fun e he => matching_sub he) (matching_nodup hnd f frels)
      (nodup_of_ids hids) (fun e => (hiff e).symm)
  refine ⟨w', hb, hstep, pb, hspec, ?_⟩
  rw [hstep, hspec]
  exact ⟨HInv.removedAll H.hinv hsub (nodup_of_ids hids) pb, pb.qk.rows H.rows, by
    show ∃ (lf : List Nat), Lock.LInv ⟨w'.locks, []⟩ lf
    rw [pb.locks]; exact H.lock⟩

/-! ## the run of the single steps -/

theorem runOps_dels (run : ProbeRunner) : ∀ (es : List Ent) (s : St) (w'' : World),
    (∀ e ∈ es, e ∈ s.issued) → removeSeq run es s.w = .ok () w'' →
    runOps run s (es.map .del) = ⟨w'', s.issued, specDelAll s.ss es⟩
  | [], s, w'', _, h => by
    simp only [removeSeq, M.forM', pure, M.pure] at h
    injection h with _ hw
    subst hw
    rfl
  | e :: es, s, w'', hi, h => by
    simp only [removeSeq, M.forM', bind, M.bind] at h
    cases hop : opRemoveEntity run e s.w with
    | panic k w1 => rw [hop] at h; cases h
    | ok u w1 =>
      rw [hop] at h
      have hg : guard s (.del e) = true := by
        simp only [RelRefine.guard, decide_eq_true_eq]; exact hi e List.mem_cons_self
      have hst : step run s (.del e) = ⟨w1, s.issued, specStep s.ss default (.del e)⟩ := by
        rw [step_of_guard hg]
        simp only [exec, hop, Res.state, retOf, issuedAfter, Option.getD_none]
      show runOps run (step run s (.del e)) (es.map .del) = _
      rw [hst]
      exact runOps_dels run es ⟨w1, s.issued, specStep s.ss default (.del e)⟩ w''
        (fun e' he' => hi e' (List.mem_cons_of_mem _ he')) h

end RelRefineB

end Ark
