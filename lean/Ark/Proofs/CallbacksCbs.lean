/-
  The setting of C08/C09 at world level (`Setting`, `Live`, `FrameOf`) and what the property
  theorems of Ark/Props/C08World.lean and C09World.lean read off Ark/Proofs/CallbacksOps.lean with:
  the `cb` records of a notification round (`cbsOf_round`) and, for a log-blind runner, its records
  as functions of ONE world (`log_round`).  Independence: whether an observer's callback runs
  depends only on its own specification and on whether it is registered; registering or
  unregistering ANOTHER observer does not change it.
-/
import Ark.Proofs.CallbacksFrame
import Ark.Proofs.CallbacksSetting
import Ark.Proofs.QueryExact

set_option autoImplicit false

namespace Ark

open World Spec Ark.Props.C01World QueryExact

/-- **the setting of C08/C09 at world level**: a callback runner that is read-only on the probes
    `S` and writes no `cb` records of its own; observers whose scripts consist of such probes,
    whose aggregates are consistent (`ObsOK`); a world of the non-relation fragment (`CInvObs`). -/
structure Setting (run : ProbeRunner) (S : Probe → Prop)
    (rec : World → Nat → Ent → Probe → List LogEv) (w : World) (fl : List Nat) : Prop where
  ro : ReadOnly run S rec
  noCb : NoCb rec
  scripts : ScriptsIn w.obs S
  obs : ObsOK w.obs
  inv : CInvObs w fl

/-- a live handle: ID ≥ 2, not on the free list, tests alive, inside the pool slice -/
structure Live (w : World) (fl : List Nat) (e : Ent) : Prop where
  ge2 : 2 ≤ e.id
  notFree : e.id ∉ fl
  alive : w.alive e = true
  inPool : e.id < w.pool.ents.length

/-- `w'` is the world `w0` (a result on the world without observers) with the observers of `w`
    put back; the log and the lock state are those of `w'` -/
def FrameOf (w0 w w' : World) : Prop := w' = w0.reframe w.obs w'.log w'.locks

theorem FrameOf.obs {w0 w w' : World} (h : FrameOf w0 w w') : w'.obs = w.obs := by rw [h]; rfl

theorem frameOf_reframe (w0 w : World) (lg : List LogEv) (lk : Lock) :
    FrameOf w0 w (w0.reframe w.obs lg lk) := rfl

theorem frameOf_relog (w0 w : World) (lg : List LogEv) : FrameOf w0 w (w0.relog w.obs lg) := rfl

/-- the setting carries over to the result: same runner, same observers, the invariant of the
    observer-free result -/
theorem Setting.frame {run : ProbeRunner} {S : Probe → Prop}
    {rec : World → Nat → Ent → Probe → List LogEv} {w w0 w' : World} {fl fl' : List Nat}
    (st : Setting run S rec w fl) (hf : FrameOf w0 w w') (h0 : CInv w0 fl') :
    Setting run S rec w' fl' where
  ro := st.ro
  noCb := st.noCb
  scripts := by rw [hf.obs]; exact st.scripts
  obs := by rw [hf.obs]; exact st.obs
  inv := by rw [hf]; exact h0.toObs.reframe _ _ _

theorem cbsOf_round {rec : World → Nat → Ent → Probe → List LogEv} (hn : NoCb rec) (e : Ent)
    (ls : List Nat) (X : World) (lg : List LogEv) :
    cbsOf (notifyAll rec e ls X ++ lg) = (ls.map fun l => (l, e)).reverse ++ cbsOf lg := by
  rw [cbsOf_append, cbsOf_notifyAll hn]

/-- the complete log of a notification round for a log-blind runner: for every notified observer
    (in order; the log is newest-first, hence reversed) its `cb` record and the records of its
    script, ALL of them functions of the one world `seen` -/
theorem log_round {rec : World → Nat → Ent → Probe → List LogEv} (hb : LogBlind rec) (e : Ent)
    (ls : List Nat) (seen : World) (lg : List LogEv) :
    notifyAll rec e ls seen ++ lg = (ls.reverse.flatMap fun l => notifyFlat rec l e seen) ++ lg := by
  rw [notifyAll_blind hb]

/-! ## independence -/

theorem mem_firing_congr {m m' : ObsMgr} {evt : Nat} {l : Nat}
    (hl : l ∈ (m'.evt evt).observers ↔ l ∈ (m.evt evt).observers)
    (hs : (m'.obj l).spec = (m.obj l).spec) (ev : EvInst) :
    l ∈ firing m' evt ev ↔ l ∈ firing m evt ev := by
  rw [mem_firing, mem_firing, hl, hs]

/-- **independence** (C08): the number of callbacks of observer `l` in a notification round —
    one if it is registered for the event type and its specification fires, zero otherwise — is
    the same under any two observer managers that agree on `l` (whether it is listed, and its
    specification), whatever else is or was registered.  With the `*_callbacks` theorems of
    Ark/Props/C08World.lean (whose event instance is computed from the world without observers)
    this holds for every operation. -/
theorem observer_independent {m m' : ObsMgr} (h : ObsOK m) (h' : ObsOK m') {evt : Nat} {l : Nat}
    (hl : l ∈ (m'.evt evt).observers ↔ l ∈ (m.evt evt).observers)
    (hs : (m'.obj l).spec = (m.obj l).spec) (ev : EvInst) (e : Ent) :
    (((firing m' evt ev).map fun x => (x, e)).reverse).count (l, e)
      = (((firing m evt ev).map fun x => (x, e)).reverse).count (l, e) := by
  rw [count_cbs_firing h', count_cbs_firing h]
  by_cases hm : l ∈ firing m evt ev
  · rw [if_pos hm, if_pos ((mem_firing_congr hl hs ev).mpr hm)]
  · rw [if_neg hm, if_neg (fun hh => hm ((mem_firing_congr hl hs ev).mp hh))]

/-- **registering another observer** changes neither the rest of the world nor, for any event
    type, whether `l` is listed, nor any specification -/
theorem register_other {w w' : World} {l l' : Nat} (h : ObsOK w.obs)
    (hok : opObsRegister l' w = .ok () w') (hids : IdsOK (w.obs.obj l').spec)
    (hfresh : ∀ evt : Nat, l' ∉ (w.obs.evt evt).observers) (hne : l ≠ l') :
    ObsOK w'.obs ∧ w' = { w with obs := w'.obs } ∧
    (∀ evt : Nat, l ∈ (w'.obs.evt evt).observers ↔ l ∈ (w.obs.evt evt).observers) ∧
    (w'.obs.obj l).spec = (w.obs.obj l).spec := by
  obtain ⟨h1, h2, h3, h4, h5⟩ := opObsRegister_spec h hok hids hfresh
  refine ⟨h1, h2, fun evt => ?_, h5 l⟩
  by_cases hev : evt = (w.obs.obj l').spec.event
  · subst hev
    rw [h3, List.mem_append]
    constructor
    · rintro (hh | hh)
      · exact hh
      · exact absurd (by simpa using hh) hne
    · exact fun hh => Or.inl hh
  · rw [h4 evt hev]

/-- the index the manager keeps for observer `l'` points at `l'` in the list of its event type -/
def IndexOK (m : ObsMgr) (l' : Nat) : Prop :=
  ∀ oid idx, (m.obj l').oid = some oid → AL.find? m.indices oid = some idx →
    (m.evt (m.obj l').spec.event).observers[idx]? = some l'

/-- **unregistering another observer** (whose recorded index points at it) changes neither the
    rest of the world nor whether `l` is listed, nor any specification — although the swap-remove
    may move `l` to another position of the list -/
theorem unregister_other {w w' : World} {l l' : Nat} (h : ObsOK w.obs)
    (hok : opObsUnregister l' w = .ok () w') (hidx : IndexOK w.obs l') (hne : l ≠ l') :
    ObsOK w'.obs ∧ w' = { w with obs := w'.obs } ∧
    (∀ evt : Nat, l ∈ (w'.obs.evt evt).observers ↔ l ∈ (w.obs.evt evt).observers) ∧
    (w'.obs.obj l).spec = (w.obs.obj l).spec := by
  obtain ⟨h1, h2, ⟨oid, idx, ho, hi, h3⟩, h4, h5⟩ := opObsUnregister_spec h hok
  refine ⟨h1, h2, fun evt => ?_, h5 l⟩
  by_cases hev : evt = (w.obs.obj l').spec.event
  · subst hev
    have hat := hidx oid idx ho hi
    have hlt : idx < (w.obs.evt (w.obs.obj l').spec.event).observers.length :=
      (List.getElem?_eq_some_iff.mp hat).1
    rw [h3, mem_removedObs (h.nodup _) hlt]
    constructor
    · exact fun hh => hh.1
    · intro hh
      refine ⟨hh, fun heq => ?_⟩
      rw [hat] at heq
      exact hne (Option.some.inj heq).symm
  · rw [h4 evt hev]

end Ark
