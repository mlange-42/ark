/-
  Ark.Proofs.QueryOps — what a query needs beyond `CInv` (world level).  `QKeep w w'`: the handle
  stored in a row in use stays alive (`RowsAlive`), the component index stays exact (`CIdx`) and no
  filter gets registered (`CacheEmpty`) from `w` to `w'` — shown once per world transformer.
  `XInv w` adds the lock in its initial state (`w.locks = {}`: no operation of the fragment takes a
  lock, and `Reset` of the initial lock is the initial lock) and the relation-index invariant `RInv`
  (for the cached variant).  The world transformers the operations are made of keep it
  (`xinv_opsKeep`), hence so does every successful step of the history machine (`OpsKeep.step` of
  `Ark.Proofs.Refine`).
-/
import Ark.Proofs.CompIndex
import Ark.Proofs.RefineOps
import Ark.Proofs.RowsAlive

set_option autoImplicit false

namespace Ark

open World Ark.Props.C01World

/-! ## 0. `QKeep`: what the world transformers keep of `RowsAlive`, `CIdx` and the (empty) filter cache -/

namespace World

theorem placedW_cache (w : World) (t : Nat) (rt : Bool) : (placedW w t rt).cache = w.cache :=
  placedW_keep (·.cache) (fun _ _ _ _ _ => rfl) w t rt

theorem addMove_cache (w : World) (e : Ent) (oldT row newT : Nat) (keep : Mask) :
    (addMove w e oldT row newT keep).cache = w.cache := by
  rw [addMove_frame]

theorem removeRowOf_cache (w : World) (e : Ent) (t row : Nat) :
    (removeRowOf w e t row).cache = w.cache :=
  removeRowOf_keep (·.cache) (fun _ _ _ _ => rfl) w e t row

end World

/-- no filter is registered (the history machine has no `Register` operation) -/
def CacheEmpty (w : World) : Prop := w.cache.indices = [] ∧ w.cache.filters = []

theorem CacheEmpty.of_eq {w w' : World} (h : CacheEmpty w) (hc : w'.cache = w.cache) :
    CacheEmpty w' := by unfold CacheEmpty; rw [hc]; exact h

theorem CacheEmpty.cacheInv {w : World} (h : CacheEmpty w) : CacheInv w :=
  cacheInv_of_empty h.1 h.2

namespace World

theorem createTable_cacheEmpty {a : Nat} {rels : List RelID} {w w' : World} {t : Nat}
    (h : createTable a rels w = .ok t w') (he : CacheEmpty w) : CacheEmpty w' := by
  obtain ⟨_, _, _, _, h5⟩ := createTable_ok h
  have he1 := he.of_eq (createTableS_cache w a rels)
  -- no filter is registered: `cacheAddTable` has nothing to add the table to
  unfold cacheAddTable at h5
  simp only [he1.2, List.foldl_nil] at h5
  injection h5 with h5; subst h5
  exact ⟨he1.1, rfl⟩

theorem findOrCreateArch_cache {mask : Mask} {w w' : World} {a : Nat}
    (h : findOrCreateArch mask w = .ok a w') : w'.cache = w.cache := by
  rcases findOrCreateArch_ok_cases h with rfl | rfl
  · rfl
  · exact createArchetypeW_proj (·.cache) (fun _ _ _ => rfl) (fun _ _ => rfl) w mask

end World

namespace Table

theorem setCell_len_ents (T : Table) (col row : Nat) (v : Val) :
    (T.setCell col row v).len = T.len ∧ (T.setCell col row v).ents = T.ents := by
  simp only [setCell]
  split <;> exact ⟨rfl, rfl⟩

theorem copyFold_len_ents (row idx : Nat) : ∀ (l : List Nat) (T : Table),
    (l.foldl (fun T i => T.setCell i idx (T.cell i row)) T).len = T.len ∧
    (l.foldl (fun T i => T.setCell i idx (T.cell i row)) T).ents = T.ents
  | [], _ => ⟨rfl, rfl⟩
  | i :: l, T => by
    rw [List.foldl_cons]
    obtain ⟨h1, h2⟩ := copyFold_len_ents row idx l (T.setCell i idx (T.cell i row))
    obtain ⟨g1, g2⟩ := setCell_len_ents T i idx (T.cell i row)
    exact ⟨h1.trans g1, h2.trans g2⟩

end Table

theorem RowsAlive.copied {w : World} (h : RowsAlive w) (t row idx : Nat) :
    RowsAlive (copiedW w t row idx) :=
  h.modTbl t (Table.copyFold_len_ents row idx _ _)

namespace QueryRel

/-- the three world predicates a query needs that carry over from `w` to `w'`; shown once per world
    transformer (`…_qkeep`), for the relation-free machine (`xinv_opsKeep`) and the operations with
    relation targets (`Ark.Proofs.QueryRelAssign`) alike -/
structure QKeep (w w' : World) : Prop where
  rows : RowsAlive w → RowsAlive w'
  cidx : CIdx w → CIdx w'
  cache : CacheEmpty w → CacheEmpty w'

theorem QKeep.refl (w : World) : QKeep w w := ⟨id, id, id⟩

theorem QKeep.trans {a b c : World} (h1 : QKeep a b) (h2 : QKeep b c) : QKeep a c :=
  ⟨fun h => h2.rows (h1.rows h), fun h => h2.cidx (h1.cidx h), fun h => h2.cache (h1.cache h)⟩

theorem findOrCreateArch_qkeep {mask : Mask} {w w' : World} {a : Nat}
    (h : findOrCreateArch mask w = .ok a w') : QKeep w w' :=
  ⟨fun hr => hr.lookup (findOrCreateArch_keeps h), fun hc => hc.findOrCreateArch h,
   fun he => he.of_eq (findOrCreateArch_cache h)⟩

theorem createTable_qkeep {a : Nat} {rels : List RelID} {w w' : World} {t : Nat}
    (h : createTable a rels w = .ok t w') : QKeep w w' :=
  ⟨fun hr => hr.lookup (createTable_keeps h), fun hc => hc.createTable h, createTable_cacheEmpty h⟩

theorem findOrCreateTableAdd_qkeep {oldT : Nat} {startMask : Mask} {add : List Comp}
    {rels : List RelID} {w w' : World} {r : Nat × Nat × Mask}
    (h : findOrCreateTableAdd oldT startMask add rels w = .ok r w') : QKeep w w' :=
  (lookup_induct QKeep QKeep.trans findOrCreateArch_qkeep createTable_qkeep).1 h

theorem getOrCreate_qkeep {a : Nat} {rels : List RelID} {w w1 : World} {nt : Nat}
    (h : getOrCreate a rels w = .ok nt w1) : QKeep w w1 :=
  getOrCreate_induct QKeep QKeep.refl createTable_qkeep h

theorem placedW_qkeep {w : World} {fl : List Nat} (L : PLink w fl) {t : Nat}
    (hlt : t < w.tables.length) (rt : Bool) (hb : (w.tbl t).len + 1 < 2 ^ 32) :
    QKeep w (placedW w t rt) :=
  ⟨fun hr => hr.placed L hlt rt hb, fun hc => hc.of_frame (placedW_ciFrame w t rt),
   fun he => he.of_eq (placedW_cache w t rt)⟩

theorem addMove_qkeep {w : World} (hI : IdxInv w) {e : Ent} {oldT row newT : Nat} (keep : Mask)
    (ha : w.alive e = true) (he : w.entities[e.id]? = some (oldT, row)) (ht : oldT ≠ maxU32)
    (hne : oldT ≠ newT) (hnl : newT < w.tables.length) (hb : (w.tbl newT).len + 1 < 2 ^ 32) :
    QKeep w (addMove w e oldT row newT keep) :=
  ⟨fun hr => hr.moved hI keep ha he ht hne hnl hb,
   fun hc => hc.of_frame (addMove_ciFrame w e oldT row newT keep),
   fun hce => hce.of_eq (addMove_cache w e oldT row newT keep)⟩

/-- `hr`: the removed row is the only one holding the ID of `e` (`RowsAlive.removeRow`) -/
theorem removeRowOf_qkeep (w : World) (e : Ent) (t row : Nat)
    (hr : RowsAlive w → RowsAlive (removeRowOf w e t row)) : QKeep w (removeRowOf w e t row) :=
  ⟨hr, fun hc => hc.of_frame (removeRowOf_ciFrame w e t row),
   fun he => he.of_eq (removeRowOf_cache w e t row)⟩

theorem writeValsW_qkeep (w : World) (e : Ent) (vals : List (Comp × Val)) :
    QKeep w (writeValsW w e vals) :=
  ⟨fun hr => hr.writeVals e vals, fun hc => hc.of_frame (writeValsW_ciFrame w e vals),
   fun he => he⟩

theorem copiedW_qkeep (w : World) (t row idx : Nat) : QKeep w (copiedW w t row idx) :=
  ⟨fun hr => hr.copied t row idx, fun hc => hc.of_frame (modTbl_ciFrame _ _ _), fun he => he⟩

theorem registerW_qkeep (w : World) (rels : List RelID) : QKeep w (registerW w rels) :=
  ⟨fun hr => hr, fun hc => hc.of_frame ⟨rfl, rfl, rfl, fun _ => rfl⟩, fun he => he⟩

end QueryRel

open QueryRel

/-! ## 1. the extra invariant -/

/-- what a query needs beyond `CInv`: `cidx`, `rows`, `locks` for the uncached query; `rinv` and
    `cache` make the hypotheses of the cached variant available (a filter can be registered,
    `cacheRegister_exact`) -/
structure XInv (w : World) : Prop where
  cidx : CIdx w
  rows : RowsAlive w
  locks : w.locks = {}
  rinv : RInv w
  cache : CacheEmpty w

theorem xinv_init (cap rel : Nat) : XInv (World.init cap rel) :=
  ⟨CIdx.init cap rel, RowsAlive.init cap rel, rfl, RInv.init cap rel 256, ⟨rfl, rfl⟩⟩

theorem XInv.kept {w w' : World} (X : XInv w) (q : QKeep w w') (hr : RInv w')
    (hl : w'.locks = w.locks) : XInv w' :=
  ⟨q.cidx X.cidx, q.rows X.rows, hl.trans X.locks, hr, q.cache X.cache⟩

/-! ## 2. registration, `Shrink`, `Reset` -/

theorem XInv.registerComponent {w w' : World} {fl : List Nat} (h : CInv w fl) (X : XInv w)
    {k : CompKind} {n : Nat} (hr : World.registerComponent k w = .ok n w') : XInv w' := by
  refine ⟨X.cidx.registerComponent h.sinv.maskReg hr, ?_, ?_, X.rinv.registerComponent hr, ?_⟩
  · obtain ⟨_, _, _, ht, _, hp, _⟩ := registerComponent_ok hr
    exact X.rows.lookup (LookupKeeps.of_tables hp ht)
  · rw [registerComponent_ok_eq hr]; exact X.locks
  · rw [registerComponent_ok_eq hr]; exact X.cache

/-- `Shrink` (Op `shrink`), hypotheses of `opShrink_spec`: capacities change, nothing else a query
    looks at -/
theorem XInv.opShrink {w : World} {fl : List Nat} (h : CInv w fl) (X : XInv w)
    (hl : w.isLocked = false) (hrows : ∀ t : Nat, (w.tbl t).len + 1 < 2 ^ 32) (bounded : Bool)
    {b : Bool} {w' : World} (hop : opShrink bounded w = .ok b w') : XInv w' := by
  rw [opShrink_eq bounded w hl] at hop
  injection hop with _ hw
  subst hw
  have hb : RowsBounded w := fun t => by have := hrows t; omega
  obtain ⟨_, hrel⟩ := shrinkPure_rel h.idx hb bounded
  have hu := hrel.frame.untouched.1
  have hfr := hrel.frame
  obtain ⟨ts, as, c, hw⟩ := hfr
  refine ⟨?_, ?_, ?_, (shrinkPure_sinv h.sinv X.rinv bounded).2, ?_⟩
  · exact X.cidx.of_frame ⟨by rw [hw], by rw [hw], hrel.alen, fun a => (hrel.arch a).mask⟩
  · refine X.rows.lookup ⟨hrel.frame.pool, ?_⟩
    intro t r hr
    rw [(hrel.tbl t).len] at hr
    exact ⟨hr, (hrel.tbl t).ent r hr⟩
  · rw [hu.locks]; exact X.locks
  · refine ⟨by rw [hrel.cacheIdx]; exact X.cache.1, ?_⟩
    have hk := hrel.cacheKeys
    simp only [cacheKeys, X.cache.2, List.map_nil] at hk
    exact List.map_eq_nil_iff.mp hk

/-- `Reset` (Op `reset`), hypotheses of `opReset_spec`: every table is emptied (so `RowsAlive`
    holds trivially), archetypes and the component index survive, the lock and the (empty) filter
    cache are reset to what they were -/
theorem XInv.opReset {w : World} {fl : List Nat} (h : CInv w fl) (X : XInv w)
    (hl : w.isLocked = false) {w' : World} (hop : opReset w = .ok () w') : XInv w' := by
  have post := (opReset_spec h hl).2
  rw [opReset_eq w hl] at hop
  injection hop with _ hw
  subst hw
  have harchs := resetW_archetypes h.sinv
  refine ⟨?_, ?_, ?_, RInv.resetW h.sinv X.rinv, ?_⟩
  · refine X.cidx.of_frame ⟨?_, resetW_kinds w, by rw [harchs, List.length_map], ?_⟩
    · exact (resetW_proj (·.componentIndex) (fun _ _ _ => rfl) (fun _ _ _ => rfl)
        (fun _ _ => rfl) w).trans (by simp only [resetPre, cacheReset]; split <;> rfl)
    · intro a
      simp only [arch, harchs, List.getD_eq_getElem?_getD, List.getElem?_map]
      cases w.archetypes[a]? with
      | none => rfl
      | some A =>
        simp only [Option.map_some, Option.getD_some, resetArchOf]
        split <;> rfl
  · intro t T r hT hr
    have hlt := lt_of_get hT
    have := tbl_of_get hT
    subst this
    obtain ⟨g2, _, g3, _⟩ := post.cinv.row_live_id hlt hr
    rw [post.entitiesLen] at g3
    omega
  · rw [resetW_locks, X.locks]; rfl
  · have hc : (resetW w).cache = w.cache := by
      rw [resetW_cache]
      simp only [cacheReset, X.cache.1, List.isEmpty_nil, if_true]
    exact X.cache.of_eq hc

/-! ## 3. the world transformers the operations are made of -/

theorem xinv_opsKeep : OpsKeep XInv where
  lookup hok fc hu X := X.kept (findOrCreateTableAdd_qkeep hok) (fc.rinv X.rinv) hu.locks
  placed {w _ t} rt h hlt hb X :=
    X.kept (placedW_qkeep h.link hlt rt hb) (X.rinv.of_metaStep (placedW_metaStep w t rt))
      (placedW_locks w t rt)
  moved {w e _ row _} keep hI ha he ht hne hol hnl hb X :=
    X.kept (addMove_qkeep hI keep ha he ht hne hnl hb)
      (X.rinv.of_metaStep
        (addMove_metaStep w e row keep hne hnl hol (List.getElem?_eq_some_iff.mp he).1))
      (addMove_fields _ _ _ _ _ _).2.2.2.locks
  writeVals {w} e vals X :=
    X.kept (writeValsW_qkeep w e vals) (X.rinv.of_metaStep (writeValsW_metaStep w e vals)) rfl
  copied {w} t row idx X :=
    X.kept (copiedW_qkeep w t row idx) (X.rinv.of_metaStep (copiedW_metaStep w t row idx)) rfl
  removed {w _ e t row} h h2 hnf ha hin hix X :=
    X.kept (removeRowOf_qkeep w e t row fun hr => hr.removed h h2 hnf ha hin hix)
      (X.rinv.of_metaStep (removeRowOf_metaStep w e t row)) (removeRowOf_locks _ _ _ _)
  reg h hr X := X.registerComponent h hr
  shrink h hl hrows hop X := X.opShrink h hl hrows _ hop
  reset h hl hop X := X.opReset h hl hop

end Ark
