/-
  Histories of the machine `Ark.RelRefine3` (the operations of `Ark.RelRefine2` and `Exchange`): the
  invariant `HInv2` at every reachable state, the histories without `Exchange` as histories of
  `Ark.RelRefine2`, and C05 (cached = uncached) at every reachable state.  Refinement and what an
  `xchg` step does: Ark/Props/C01Xchg.lean.
-/
import Ark.Proofs.RelExchangeMachine
import Ark.Proofs.RelRefine2Reset

set_option autoImplicit false

namespace Ark

namespace RelRefine3

open World Ark.Props.C01World QueryRel QueryExact RelRefine RelRefine2
open Refine (Comps keys sortedIds writeComps zeros)

def Op3.isReset : Op3 → Bool
  | .base2 op => op.isReset
  | .xchg _ _ _ _ _ _ => false

theorem step3_inv (run : ProbeRunner) {s : St} {fl : List Nat} (H : HInv2 s fl)
    (hfew : s.w.tables.length + s.w.relationArchetypes.length + 1 ≤ maxU32)
    (hent : 2 * s.w.entities.length < 2 ^ 32) (op : Op3) :
    (∃ fl', HInv2 (step3 run s op) fl') ∧ Grows s (step3 run s op) := by
  cases op with
  | base2 op => exact step2_inv run H hfew hent op
  | xchg p e add vals rem rels =>
    obtain ⟨h1, h2, _, _⟩ := step3_xchg run H (by omega) (by omega) p e add vals rem rels
    exact ⟨h1, h2⟩

theorem reach3_sized (run : ProbeRunner) (cap rel : Nat) (ops : List Op3)
    (hlen : ops.length < 2 ^ 16) :
    ∃ fl, HInv2 (reach3 run cap rel ops) fl ∧
      (reach3 run cap rel ops).w.tables.length ≤ 1 + ops.length * ops.length ∧
      (reach3 run cap rel ops).w.relationArchetypes.length ≤ ops.length ∧
      (reach3 run cap rel ops).w.entities.length ≤ 2 + ops.length :=
  init_sizes HInv2 (fun _ _ op H hfew hent =>
    let ⟨a, g1, g2, g3⟩ := step3_inv run H hfew hent op; ⟨a, g1, g2, g3⟩) (hinv2_init cap rel) ops hlen

/-- The bound `2 ^ 16` is that of `RelRefine.reach_hinv`: the number of tables is bounded by
    `1 + n * n` only (`reach3_sized`) and has to stay below `maxU32`. -/
theorem reach3_inv (run : ProbeRunner) (cap rel : Nat) (ops : List Op3)
    (hlen : ops.length < 2 ^ 16) :
    ∃ fl, HInv2 (reach3 run cap rel ops) fl :=
  let ⟨fl, h, _⟩ := reach3_sized run cap rel ops hlen
  ⟨fl, h⟩

theorem reach3_fits (run : ProbeRunner) (cap rel : Nat) (ops : List Op3)
    (hlen : ops.length + 1 < 2 ^ 16) :
    (reach3 run cap rel ops).w.tables.length + (reach3 run cap rel ops).w.relationArchetypes.length +
      1 ≤ maxU32 ∧ 2 * (reach3 run cap rel ops).w.entities.length < 2 ^ 32 :=
  let ⟨_, _, b1, b2, b3⟩ := reach3_sized run cap rel ops (by omega); fits_of_bounds hlen b1 b2 b3

/-- the hypotheses of the step lemmas of `step3`: the invariant and the room for one more step -/
def Ready (s : St) : Prop :=
  ∃ fl, HInv2 s fl ∧ s.w.tables.length + s.w.relationArchetypes.length + 1 ≤ maxU32 ∧
    2 * s.w.entities.length < 2 ^ 32

/-- a history within the length bound is `Ready` before each of its steps -/
theorem reach3_along (run : ProbeRunner) (cap rel : Nat) (ops A : List Op3)
    (h : (A ++ ops).length < 2 ^ 16) :
    Refine.Along (step3 run) Ready (reach3 run cap rel A) ops :=
  Refine.along_of_reach (step3 run) Ready (St.init cap rel) (2 ^ 16 - 1)
    (fun A hA =>
      let ⟨fl, H⟩ := reach3_inv run cap rel A (by omega)
      ⟨fl, H, reach3_fits run cap rel A (by omega)⟩) ops A (by omega)

variable (run : ProbeRunner) (cap rel : Nat)

theorem base2_step (ops : List Op3) (op : Op2) :
    reach3 run cap rel (ops ++ [.base2 op]) = step2 run (reach3 run cap rel ops) op := by
  rw [reach3_snoc]; rfl

theorem reach3_base2 (ops : List Op2) :
    reach3 run cap rel (ops.map .base2) = reach2 run cap rel ops := by
  simp only [reach3, reach2, runOps3, runOps2, List.foldl_map]
  rfl

theorem reach3_tinv (ops : List Op3) (hlen : ops.length < 2 ^ 16)
    : ∃ fl, TInv (reach3 run cap rel ops).w fl := by
  obtain ⟨fl, H⟩ := reach3_inv run cap rel ops hlen
  exact ⟨fl, H.base.tinv⟩

/-- **C05 with relations and `Exchange`** — the headline of `Ark.RelRefine2` at every state
    reachable by a history that may contain `Exchange` and `Reset`: for every registered filter
    object and any admissible per-call relations the cached table list has the members of the
    uncached walk, and the cached and the uncached iteration visit the same entities -/
theorem reach3_cached_agrees (ops : List Op3)
    (hlen : ops.length < 2 ^ 16)
    {f : Nat} {fo : FilterObj} {id : Nat}
    (hfind : AL.find? (reach3 run cap rel ops).w.filters f = some fo) (hc : fo.cache = some id)
    {extra : List RelID} (hx : ExtraAdmissible (reach3 run cap rel ops).w fo extra) :
    ∃ (ce : CacheEntry), (reach3 run cap rel ops).w.cacheEntry? id = some ce ∧
      ce.filter = fo.filter ∧ ce.rels = fo.rels ∧
      (∃ (ts : List Nat), (reach3 run cap rel ops).w.getCacheTables fo.filter fo.rels = some ts ∧
        ts.Nodup ∧ ce.tables.tables.Nodup ∧ ∀ (t : Nat), t ∈ ce.tables.tables ↔ t ∈ ts) ∧
      ∃ (l1 l2 : Lock) (q qu : QueryObj) (visits visitsU : List Visit),
        drain fo extra (reach3 run cap rel ops).w =
          .ok visits ((reach3 run cap rel ops).w.withLocks l2) ∧
        drain { fo with cache := none } extra (reach3 run cap rel ops).w =
          .ok visitsU ((reach3 run cap rel ops).w.withLocks l2) ∧
        Observed (reach3 run cap rel ops).w fo extra ((reach3 run cap rel ops).w.withLocks l1) q
          visits ∧
        Observed (reach3 run cap rel ops).w { fo with cache := none } extra
          ((reach3 run cap rel ops).w.withLocks l1) qu visitsU ∧
        (visits.map (·.e)).Perm (visitsU.map (·.e)) := by
  obtain ⟨fl, H⟩ := reach3_inv run cap rel ops hlen
  exact H.cached_agrees hfind hc hx

end RelRefine3
end Ark
