/-
  The events of `Exchange(e, add, rem, rels)` in a world WITH relation components: first without any
  invariant (after the lookup ONE lock around the `OnRemoveComponents` and `OnRemoveRelations` rounds,
  then the move, then the add rounds), then under `TInvObs` and the documented preconditions `XchgPre`,
  with all event instances in terms of the call.
-/
import Ark.Proofs.CallbacksRelRemove

section

/-! ## §1 the events, without any invariant

The events of `Exchange(e, add, rem, rels)` in a world WITH relation components, without any
  invariant.  `World.exchange`: after the table lookup, if `rem ≠ []`, ONE lock around the
  `OnRemoveComponents` round and — if a relation component is removed — the `OnRemoveRelations`
  round, both for `.remove oldMask newMask` (`newMask` = the mask after the COMPLETE exchange);
  then the move.  `Exchange`: then the writes of the typed path, the `OnAddComponents` round and —
  if relation targets are given — the `OnAddRelations` round, both for `.add oldMask newMask`; the
  `Unsafe` path skips BOTH addition rounds when `add = []`.  Here: how the rounds of `Exchange`
  (`xRemRounds`, `xAddRounds`) relate to those of `Remove` and `Add`; the
  transfer from the observer-free call is `exchangeCore_lifts` / `opExchange_lifts`.
-/

set_option autoImplicit false

namespace Ark

open World Spec Ark.Props.C01World QueryExact

/-! ### what the rounds append -/

theorem xRemRounds_eq_remRounds (rec : World → Nat → Ent → Probe → List LogEv) (m : ObsMgr) (e : Ent)
    {rem : List Comp} (hne : rem ≠ []) (rr : Bool) (ev : EvInst) (seen : World) :
    xRemRounds rec m e rem rr ev seen = remRounds rec m e Ev.onRemoveComponents ev rr ev seen := by
  cases rem with
  | nil => exact absurd rfl hne
  | cons _ _ => rfl

theorem xRemRounds_nil (rec : World → Nat → Ent → Probe → List LogEv) (m : ObsMgr) (e : Ent)
    (rr : Bool) (ev : EvInst) (seen : World) : xRemRounds rec m e [] rr ev seen = [] := rfl

theorem xAddRounds_eq_addRounds (rec : World → Nat → Ent → Probe → List LogEv) (m : ObsMgr)
    (p : Path) (e : Ent) {add : List Comp} (h : p ≠ .unsafe_ ∨ add ≠ []) (rels : List RelID)
    (ev : EvInst) (seen : World) :
    xAddRounds rec m p e add rels ev seen = addRounds rec m e Ev.onAddComponents ev rels ev seen := by
  have : ¬ (p = .unsafe_ ∧ add = []) := by
    rintro ⟨h1, h2⟩
    rcases h with h | h
    · exact h h1
    · exact h h2
  simp only [xAddRounds, firingXAdd, firingXAddRel, this, if_false, addRounds]

theorem xAddRounds_unsafe_nil (rec : World → Nat → Ent → Probe → List LogEv) (m : ObsMgr) (e : Ent)
    (rels : List RelID) (ev : EvInst) (seen : World) :
    xAddRounds rec m .unsafe_ e [] rels ev seen = [] := rfl

end Ark

end

section

/-! ## §2 under the joint invariant with observers

`Exchange(e, add, rem, rels)` in a world WITH relation components under the joint invariant with
  observers (`TInvObs`).  Under the documented preconditions `XchgPre` the table lookup computes
  the mask `(maskOf e ∖ rem) ∪ add`, its `relationRemoved` flag is `removesRel w e rem`, and every
  entity is as before (`exchangeCore_looked`, Ark/Proofs/CallbacksRelRemove.lean); hence all event
  instances in terms of the call: removal rounds on `.remove (maskOf e) new`, addition rounds on `.add (maskOf e) new`
  (`opExchange_rel_callbacks`, from which Ark/Props/C08Xchg.lean reads C08, C09 and acceptance),
  and which observers the two instances select.
-/

set_option autoImplicit false

namespace Ark

open World Spec Ark.Props.C01World QueryExact

/-- the mask of `e` after `Exchange(e, add, rem, …)`: `(maskOf e ∖ rem) ∪ add` -/
def xchgMask (w : World) (e : Ent) (add rem : List Comp) : Mask :=
  add.foldl Mask.set (rem.foldl Mask.clear (w.maskOf e))

theorem XchgPre.noObs {w : World} {e : Ent} {add rem : List Comp} {rels : List RelID}
    (hp : XchgPre w e add rem rels) : XchgPre w.noObs e add rem rels :=
  ⟨hp.nonempty, hp.remNodup, hp.remHas, hp.addNodup, hp.addReg, hp.addNew, hp.relsNodup, hp.relsIn,
    hp.relsRel, hp.relsAll, hp.targets⟩

section Ops

variable {run : ProbeRunner} {S : Probe → Prop} {rec : World → Nat → Ent → Probe → List LogEv}

/-- **`Exchange(e, add, rem, rels)` with observers under the invariant, relation components
    included** (C08 + C09 for `Exchange`).  For a live entity and arguments satisfying the
    documented preconditions `XchgPre`: `w1` is the world without observers after the table lookup
    — every entity as before the call —, `w2` the observer-free result of `World.exchange`
    (`XchgCorePost`), `w0 = writeValsW w2 e vals` the observer-free result of the call
    (`XchgRelPost`).  With observers the call succeeds as well; its result is `xchgResult`: `w0`
    with the observers of `w`, the lock state `lockAfterX2`, and the log extended, in this order, by
    * (if `rem ≠ []`) the `OnRemoveComponents` observers the documented rule selects for
      `.remove (maskOf e) new` and then — exactly when some removed component is a relation
      component of `e` (`removesRel`) — the `OnRemoveRelations` observers selected for the same
      instance, all run on `w1` LOCKED (one lock for both rounds), before the entity is moved;
    * (unless the path is `Unsafe` and `add = []`) the `OnAddComponents` observers selected for
      `.add (maskOf e) new` and then — exactly when relation targets are given — the
      `OnAddRelations` observers selected for the same instance, run on `w2` (with the values
      written on the typed path);
    where `new = (maskOf e ∖ rem) ∪ add` is the mask after the COMPLETE exchange. -/
theorem opExchange_rel_callbacks (hro : ReadOnly run S rec) (run0 : ProbeRunner) (p : Path)
    {w : World} {fl : List Nat} (hs : ScriptsIn w.obs S) (h : TInvObs w fl)
    (hl : w.isLocked = false) {e : Ent} (h2 : 2 ≤ e.id) (hnf : e.id ∉ fl) (ha : w.alive e = true)
    (hsl : e.id < w.pool.ents.length)
    {add rem : List Comp} {rels : List RelID} (hp : XchgPre w e add rem rels)
    (vals : List (Comp × Val))
    (htin : ∀ (r : RelID), r ∈ rels → r.target.id < w.pool.ents.length)
    (hfew : w.tables.length < maxU32) (hrows : w.entities.length + 1 < 2 ^ 32)
    {l1 l2 : Lock} {b : Nat} (hL : LockCycle w.locks l1 b l2) :
    ∃ (w1 w2 w0 : World),
      (∀ (j : Nat), SameEnt w.noObs w1 j ∧ ∀ (c : Comp), targetOf w1 j c = targetOf w.noObs j c) ∧
      (∀ (x : Ent), w1.alive x = w.alive x) ∧
      exchangeCore run0 e add rem rels w.noObs = .ok (w.maskOf e, xchgMask w e add rem) w2 ∧
      XchgCorePost w.noObs fl e add rem rels w2 ∧
      opExchange run0 p e add vals rem rels w.noObs = .ok () w0 ∧ w0 = writeValsW w2 e vals ∧
      XchgRelPost w.noObs fl e add rem vals rels w0 ∧
      opExchange run p e add vals rem rels w = .ok ()
        (xchgResult rec w w1 w2 p e add vals rem rels (removesRel w e rem) (w.maskOf e)
          (xchgMask w e add rem) (xchgMask w e add rem) l1 l2) := by
  have hp0 := hp.noObs
  obtain ⟨w2', hcore0, cp⟩ := exchangeCore_rel_spec run0 h.tinv hl (noObs_hasObservers w) h2 hnf ha
    hsl hp0 htin hfew hrows
  obtain ⟨w0, hop0, post⟩ := opExchange_rel_spec run0 p h.tinv hl (noObs_hasObservers w) h2 hnf ha
    hsl hp0 vals htin hfew hrows
  obtain ⟨old, new, m, t, a, rr, w1, w2, hf, hc, _, _, _, hw0, hop⟩ :=
    (opExchange_lifts run run0 p e add vals rem rels w.obs w.log w.noObs).ok hop0 hro hs h.obs hL
  rw [hcore0] at hc
  injection hc with e1 e2
  obtain ⟨e3, e4⟩ := Prod.mk.inj e1
  subst e2
  obtain ⟨em, err, hframe, hal⟩ := exchangeCore_looked h.tinv h2 hnf ha hsl hp0 hf
  have em' : m = xchgMask w e add rem := em
  have err' : rr = removesRel w e rem := err
  have e3' : old = w.maskOf e := e3.symm
  have e4' : new = xchgMask w e add rem := e4.symm
  subst em' err' e3' e4'
  exact ⟨w1, w2', w0, hframe, hal, hcore0, cp, hop0, hw0, post, hop⟩

end Ops

/-! ### which mask pairs the rounds are evaluated on, in terms of the call -/

theorem xchgMask_get (w : World) (e : Ent) (add rem : List Comp) (c : Comp) :
    (xchgMask w e add rem).get c =
      (((w.maskOf e).get c && !decide (c ∈ rem)) || (decide (c < 256) && decide (c ∈ add))) := by
  unfold xchgMask
  rw [Mask.get_ofList_foldl, Mask.get_foldl_clear]

/-- with nothing added the new mask is a subset of the old one: the instance `.add old new` then
    selects only observers WITHOUT `For` components (wildcards) -/
theorem fires_add_shrunk {s : ObsSpec} {old new : Mask}
    (hsub : ∀ (c : Comp), new.get c = true → old.get c = true)
    (h : Spec.fires s (.add old new)) : s.comps = [] := by
  unfold Spec.fires at h
  rcases h.1 with h1 | ⟨h1, h2⟩
  · exact h1
  · cases hc : s.comps with
    | nil => rfl
    | cons c cs =>
      have hm : c ∈ s.comps := by rw [hc]; exact List.mem_cons_self
      have k1 := hsub c (h1 c hm)
      rw [h2 c hm] at k1; cases k1

/-- **the path matters exactly for pure removals** (`add = []`): then `Unsafe.Exchange` runs no
    addition round at all, while the typed path runs the `OnAddComponents` round — which can only
    select observers without `For` components -/
theorem firingXAdd_nil_add {m : ObsMgr} {p : Path} {w : World} {e : Ent} {rem : List Comp} {l : Nat}
    (h : l ∈ firingXAdd m p [] (.add (w.maskOf e) (xchgMask w e [] rem))) :
    p ≠ .unsafe_ ∧ (m.obj l).spec.comps = [] := by
  unfold firingXAdd at h
  split at h
  · cases h
  · rename_i hn
    refine ⟨fun hp => hn ⟨hp, rfl⟩, ?_⟩
    refine fires_add_shrunk (fun c hc => ?_) (mem_firing.1 h).2
    rw [xchgMask_get] at hc
    simp at hc
    exact hc.1

/-- under the documented preconditions a pure removal names no relation: the `OnAddRelations`
    round is never at stake when the path matters -/
theorem XchgPre.rels_nil_of_add_nil {w : World} {e : Ent} {rem : List Comp} {rels : List RelID}
    (hp : XchgPre w e [] rem rels) : rels = [] := by
  cases rels with
  | nil => rfl
  | cons r rs => exact absurd (hp.relsIn r List.mem_cons_self) (by simp)

end Ark

end

