/-
  C16, second sentence, for the history machine `Ark.RelRefine2`.  What a complete query iteration
  yields (`QOut`), compared between two states with the same specification (`query_congr`: equivalent
  results, up to the order of the visits), and the simulation `Sim L`, kept by every step with
  equivalent outputs (`sim_step2`).  `Ark/Proofs/ResetEquivRelXchg.lean` applies it to the state
  after `pre ++ [reset]` and the state after the registrations of `pre` on a new world.
-/
import Ark.Proofs.ResetEquiv
import Ark.Proofs.ResetEquivRelStep

section

/-! ## §1 what a complete query iteration yields

`QOut`: the panic class of a rejected `Query(rel…)`, or per visit, in iteration order, the entity
  with the value and the relation target of every registered component.
-/

set_option autoImplicit false

namespace Ark

open World Ark.Props.C01World

namespace RelRefine2

open QueryRel QueryExact RelRefine
open Refine (Outcome keys sortedIds)

/-- what the client reads at one visit: the entity, and per registered component ID (ascending)
    the value (`Query.Get`) and the relation target (`Query.GetRelation`) in the visited table -/
structure VisitRec where
  e : Ent
  vals : List (Option Val)
  tgts : List (Option Ent)
  deriving DecidableEq, Repr

def visitRec (w : World) (v : Visit) : VisitRec :=
  ⟨v.e, (List.range w.kinds.length).map fun c => (w.tbl v.table).getComp c v.row,
    (List.range w.kinds.length).map fun c => (w.tbl v.table).targetAt c⟩

def entRec (w : World) (e : Ent) : VisitRec :=
  ⟨e, (List.range w.kinds.length).map fun c => valOf w e.id c,
    (List.range w.kinds.length).map fun c => targetOf w e.id c⟩

theorem _root_.Ark.QueryRel.Observed.visitRec_eq {w w1 : World} {fo : FilterObj} {extra : List RelID} {q : QueryObj}
    {visits : List Visit} (ob : Observed w fo extra w1 q visits) :
    visits.map (visitRec w) = (visits.map (·.e)).map (entRec w) := by
  rw [List.map_map]
  apply List.map_congr_left
  intro v hv
  simp only [visitRec, entRec, Function.comp]
  congr 1
  · apply List.map_congr_left
    intro c _
    exact (ob.data v hv c).symm
  · apply List.map_congr_left
    intro c _
    exact ((ob.targets v hv c).1).symm

/-- an alive handle whose ID is indexed to a table has an entry in the specification — whether or
    not the client was ever given the handle (the memory `Reset` keeps behind the pool slice makes
    handles of generation `maxU32` "alive", but their IDs are not indexed) -/
theorem _root_.Ark.RelRefine.HInv.spec_of_alive_indexed {s : St} {fl : List Nat} (H : HInv s fl)
    {e : Ent} (ha : s.w.alive e = true) {cs : List Comp} (hcs : compsOf s.w e.id = some cs) :
    ∃ (en : Entry), (e, en) ∈ s.ss.ents := by
  have L := H.tinv.link
  obtain ⟨t, r, hi, htm, _, _⟩ := entry_of_compsOf hcs
  have hlt : e.id < s.w.entities.length := (List.getElem?_eq_some_iff.mp hi).1
  obtain ⟨h2, hnf⟩ := L.indexed_live hi htm
  have hin : e.id < s.w.pool.ents.length := by rw [← L.lenEq]; exact hlt
  have hsl := (L.aliveIff e hnf hin).mp ha
  have hl : e ∈ s.ps.live := (H.ginv.live_iff e).mpr ⟨h2, hnf, hsl⟩
  obtain ⟨x, hx, hxe⟩ := List.mem_map.mp hl
  exact ⟨x.2, by rw [← hxe]; exact hx⟩

theorem spec_reads_agree {s1 s2 : St} {fl1 fl2 : List Nat} (H1 : HInv s1 fl1) (H2 : HInv s2 fl2)
    (hss : s1.ss = s2.ss) (hk : s1.w.kinds = s2.w.kinds) {e : Ent} {en : Entry}
    (hm : (e, en) ∈ s1.ss.ents) :
    compsOf s1.w e.id = compsOf s2.w e.id ∧
    (∀ (c : Comp), valOf s1.w e.id c = valOf s2.w e.id c) ∧
    (∀ (c : Comp), targetOf s1.w e.id c = targetOf s2.w e.id c) := by
  have hm2 : (e, en) ∈ s2.ss.ents := by rw [← hss]; exact hm
  have ok1 := H1.ok e en hm
  have ok2 := H2.ok e en hm2
  have c1 := ok1.comps
  have c2 := ok2.comps
  rw [← hk] at c2
  refine ⟨c1.trans c2.symm, fun c => ?_, fun c => ?_⟩
  · by_cases hkc : c ∈ keys en.comps
    · obtain ⟨cv, hcv, rfl⟩ := List.mem_map.mp hkc
      exact (ok1.vals cv hcv).trans (ok2.vals cv hcv).symm
    · have hn : c ∉ sortedIds s1.w.kinds.length (keys en.comps) :=
        fun hh => hkc (Refine.mem_sortedIds.mp hh).2
      rw [valOf_none_of_comps c1 hn, valOf_none_of_comps c2 hn]
  · by_cases hr : c ∈ en.rels.map (·.comp)
    · obtain ⟨r, hr', rfl⟩ := List.mem_map.mp hr
      exact (ok1.tgts r hr').trans (ok2.tgts r hr').symm
    · have n1 : targetOf s1.w e.id c = none := by
        cases ht : targetOf s1.w e.id c with
        | none => rfl
        | some x => exact absurd ((H1.target_isSome_iff hm c).mp (by rw [ht]; rfl)) hr
      have n2 : targetOf s2.w e.id c = none := by
        cases ht : targetOf s2.w e.id c with
        | none => rfl
        | some x => exact absurd ((H2.target_isSome_iff hm2 c).mp (by rw [ht]; rfl)) hr
      rw [n1, n2]

theorem matches_transfer {s1 s2 : St} {fl1 fl2 : List Nat} (H1 : HInv s1 fl1) (H2 : HInv s2 fl2)
    (hss : s1.ss = s2.ss) (hk : s1.w.kinds = s2.w.kinds) (f : Filter) (rels : List RelID)
    {e : Ent} (h : s1.w.alive e = true ∧ EntMatches s1.w f rels e.id) :
    (s2.w.alive e = true ∧ EntMatches s2.w f rels e.id) ∧ entRec s1.w e = entRec s2.w e := by
  obtain ⟨ha, ⟨cs, hcs, hmm⟩, htg⟩ := h
  obtain ⟨en, hm⟩ := H1.spec_of_alive_indexed ha hcs
  have hm2 : (e, en) ∈ s2.ss.ents := by rw [← hss]; exact hm
  obtain ⟨a1, a2, a3⟩ := spec_reads_agree H1 H2 hss hk hm
  obtain ⟨_, ha2, _⟩ := H2.live_facts hm2
  refine ⟨⟨ha2, ⟨cs, by rw [← a1]; exact hcs, hmm⟩, fun r hr => by rw [← a3]; exact htg r hr⟩, ?_⟩
  simp only [entRec, hk]
  congr 1
  · exact List.map_congr_left fun c _ => a2 c
  · exact List.map_congr_left fun c _ => a3 c

inductive QOut
  | rejected (k : PanicKind)
  | visited (vs : List VisitRec)
  deriving DecidableEq, Repr

def qOut (w : World) : Res World (List Visit) → QOut
  | .ok vs _ => .visited (vs.map (visitRec w))
  | .panic k _ => .rejected k

def QOut.Equiv : QOut → QOut → Prop
  | .rejected a, .rejected b => a = b
  | .visited a, .visited b => a.Perm b
  | _, _ => False

theorem QOut.Equiv.refl : ∀ (a : QOut), a.Equiv a
  | .rejected _ => rfl
  | .visited _ => List.Perm.refl _

/-- the filter objects agree up to the cache ID -/
structure FoRel (a b : FilterObj) : Prop where
  filter : a.filter = b.filter
  ids : a.ids = b.ids
  rels : a.rels = b.rels
  typed : a.typed = b.typed
  cache : a.cache.isSome = b.cache.isSome

theorem FoRel.refl (a : FilterObj) : FoRel a a := ⟨rfl, rfl, rfl, rfl, rfl⟩

/-- the per-call relations of `Query(extra…)` on the object under label `f` are expressible: the
    machine's own condition (`guardQ`) and targets the client can name -/
def qExpr (s : St) (f : Nat) (extra : List RelID) : Bool :=
  guardQ s.w (foAt s.w f) extra && tgtsExpr s extra

theorem query_desc {s : St} {fl : List Nat} (H : HInv2 s fl) (f : Nat) {extra : List RelID}
    (hg : guardQ s.w (foAt s.w f) extra = true) (hx : tgtsExpr s extra = true) :
    (∀ (k : PanicKind), (foAt s.w f).typed = true →
      preKind s.ss (some (foAt s.w f).filter.mask) extra = some k →
      drain (foAt s.w f) extra s.w = .panic k s.w) ∧
    (((foAt s.w f).typed = true → preKind s.ss (some (foAt s.w f).filter.mask) extra = none) →
      ∃ (l1 l2 : Lock) (q : QueryObj) (visits : List Visit),
        drain (foAt s.w f) extra s.w = .ok visits (s.w.withLocks l2) ∧
        Observed s.w (foAt s.w f) extra (s.w.withLocks l1) q visits) := by
  have hpk := H.base.preCheckTyped_kind (foAt s.w f).filter.mask extra hx
  constructor
  · intro k ht hk
    rw [hk] at hpk
    exact Drain.drain_of_qOpen_panic (Drain.qOpen_rejected ht hpk)
  · intro hnone
    have hadm : ExtraAdmissible s.w (foAt s.w f) extra := by
      refine ⟨fun ht => ?_, fun ht r hr => ?_⟩
      · rw [hnone ht] at hpk
        exact (preCheckTyped_ok_iff _ s.w extra).mp hpk
      · simp only [guardQ, ht, Bool.false_or, List.all_eq_true, Bool.and_eq_true] at hg
        exact hg r hr
    obtain ⟨l1, l2, q, visits, hd, _, ob⟩ := H.drain_ok f hadm
    exact ⟨l1, l2, q, visits, hd, ob⟩

/-- the visit records of the two sides are permutations of each other: table IDs and iteration
    order may differ between the two worlds -/
theorem query_congr {s1 s2 : St} {fl1 fl2 : List Nat} (H1 : HInv2 s1 fl1) (H2 : HInv2 s2 fl2)
    (hss : s1.ss = s2.ss) (hiss : s1.issued = s2.issued) (hk : s1.w.kinds = s2.w.kinds)
    (f : Nat) (R : FoRel (foAt s1.w f) (foAt s2.w f)) {extra : List RelID}
    (hq : qExpr s1 f extra = true) :
    qExpr s2 f extra = true ∧
    (qOut s1.w (drain (foAt s1.w f) extra s1.w)).Equiv
      (qOut s2.w (drain (foAt s2.w f) extra s2.w)) := by
  simp only [qExpr, Bool.and_eq_true] at hq
  obtain ⟨hg1, hx1⟩ := hq
  have hx2 : tgtsExpr s2 extra = true := by
    simp only [tgtsExpr, ← hiss] at hx1 ⊢; exact hx1
  have hrc : ∀ (c : Comp), s1.w.isRelComp c = s2.w.isRelComp c := fun c => by
    simp only [World.isRelComp, hk]
  have hg2 : guardQ s2.w (foAt s2.w f) extra = true := by
    simp only [guardQ, ← R.typed, ← R.filter, ← hrc] at hg1 ⊢; exact hg1
  refine ⟨by simp only [qExpr, hg2, hx2, Bool.and_self], ?_⟩
  obtain ⟨r1, a1⟩ := query_desc H1 f hg1 hx1
  obtain ⟨r2, a2⟩ := query_desc H2 f hg2 hx2
  have hpk : preKind s1.ss (some (foAt s1.w f).filter.mask) extra =
      preKind s2.ss (some (foAt s2.w f).filter.mask) extra := by rw [hss, R.filter]
  by_cases hrej : (foAt s1.w f).typed = true ∧
      ∃ (k : PanicKind), preKind s1.ss (some (foAt s1.w f).filter.mask) extra = some k
  · obtain ⟨ht, k, hk1⟩ := hrej
    rw [r1 k ht hk1, r2 k (by rw [← R.typed]; exact ht) (by rw [← hpk]; exact hk1)]
    exact rfl
  · have hn1 : (foAt s1.w f).typed = true →
        preKind s1.ss (some (foAt s1.w f).filter.mask) extra = none := by
      intro ht
      cases hp : preKind s1.ss (some (foAt s1.w f).filter.mask) extra with
      | none => rfl
      | some k => exact absurd ⟨ht, k, hp⟩ hrej
    have hn2 : (foAt s2.w f).typed = true →
        preKind s2.ss (some (foAt s2.w f).filter.mask) extra = none := by
      intro ht
      rw [← hpk]; exact hn1 (by rw [R.typed]; exact ht)
    obtain ⟨l1, l2, q, v1, d1, ob1⟩ := a1 hn1
    obtain ⟨m1, m2, q', v2, d2, ob2⟩ := a2 hn2
    rw [d1, d2]
    show ((v1.map (visitRec s1.w))).Perm (v2.map (visitRec s2.w))
    rw [ob1.visitRec_eq, ob2.visitRec_eq]
    have hmem : ∀ (e : Ent), e ∈ v1.map (·.e) ↔ e ∈ v2.map (·.e) := by
      intro e
      rw [ob1.exact e, ob2.exact e, ← R.filter, ← R.rels]
      constructor
      · intro h
        exact (matches_transfer H1.base H2.base hss hk _ _ h).1
      · intro h
        exact (matches_transfer H2.base H1.base hss.symm hk.symm _ _ h).1
    have hperm : (v1.map (·.e)).Perm (v2.map (·.e)) :=
      (List.perm_ext_iff_of_nodup ob1.nodup ob2.nodup).2 hmem
    have hrec : (v1.map (·.e)).map (entRec s1.w) = (v1.map (·.e)).map (entRec s2.w) := by
      apply List.map_congr_left
      intro e he
      exact (matches_transfer H1.base H2.base hss hk _ _ ((ob1.exact e).mp he)).2
    rw [hrec]
    exact hperm.map _

end RelRefine2

end Ark

end

section

/-! ## §2 the simulation

After a `Reset` the world is NOT a new world: archetypes and tables persist (the tables of
  relation archetypes sit in free lists and are recycled in LIFO order, so table IDs differ),
  capacities persist, the pool keeps invalidated handles behind its slice, and cache IDs restart at
  0 only if a filter was registered at the moment of the `Reset` (`cache.Reset` returns early
  otherwise and the ID pool goes on).
  `Sim L` therefore says nothing about archetypes, tables, capacities or the cache.
-/

set_option autoImplicit false

namespace Ark

open World Ark.Props.C01World

namespace RelRefine2

open QueryRel QueryExact RelRefine
open Refine (Outcome outcome Reserved2)

inductive Out
  /-- a call: the returned handle (if any) or the panic class -/
  | call (o : Outcome)
  /-- an operation without a result the comparison looks at (the construction of a filter
      object; `Shrink`, whose boolean "more work left" depends on capacities — they persist over
      `Reset`, see `Ark.Props.C16Rel.shrink_result_differs`) -/
  | done
  | query (q : QOut)
  deriving DecidableEq, Repr

def Out.Equiv : Out → Out → Prop
  | .call a, .call b => a = b
  | .done, .done => True
  | .query a, .query b => a.Equiv b
  | _, _ => False

def OutEq : Option Out → Option Out → Prop
  | none, none => True
  | some a, some b => a.Equiv b
  | _, _ => False

def TraceEq : List (Option Out) → List (Option Out) → Prop
  | [], [] => True
  | a :: as, b :: bs => OutEq a b ∧ TraceEq as bs
  | _, _ => False

theorem OutEq.call_refl (o : Outcome) : OutEq (some (.call o)) (some (.call o)) := rfl

theorem OutEq.none_refl : OutEq none none := trivial

theorem OutEq.done_refl : OutEq (some .done) (some .done) := trivial

/-- the filter labels usable after `op`: a filter object constructed by an expressible `fdef`
    (fixed targets the client can name) joins; one constructed with fixed targets the client
    cannot name leaves -/
def labelsAfter (L : List Nat) (s : St) : Op2 → List Nat
  | .fdef f fo =>
    if guardF s.w fo = true then
      (if tgtsExpr s fo.rels = true then (if fdefStores s.w fo = true then f :: L else L)
       else L.filter fun g => decide (g ≠ f))
    else L
  | _ => L

/-- what the client sees of one operation; `none`: not expressible.  An entity operation is
    expressible as in `Ark.RelRefine` (`guard`), `copy` on a handle the client holds, the filter
    operations and queries on labels in `L`, a query with per-call relations as in `qExpr`. -/
def stepOut2 (run : ProbeRunner) (L : List Nat) (s : St) : Op2 → Option Out
  | .base op => if guard s op = true then some (.call (outcome (exec run s.w op))) else none
  | .copy e => if e ∈ s.issued then some (.call (outcomeE (opCopyEntity run e s.w))) else none
  | .shrink _ => some .done
  | .reset => some (.call (outcomeU (opReset s.w)))
  | .fdef _ _ => some .done
  | .freg f => if f ∈ L then some (.call (outcomeU (opFilterRegister f s.w))) else none
  | .funreg f => if f ∈ L then some (.call (outcomeU (opFilterUnregister f s.w))) else none
  | .query f extra =>
    if f ∈ L ∧ qExpr s f extra = true then
      some (.query (qOut s.w (drain (foAt s.w f) extra s.w)))
    else none

def trace2 (run : ProbeRunner) : List Nat → St → List Op2 → List (Option Out)
  | _, _, [] => []
  | L, s, op :: ops => stepOut2 run L s op :: trace2 run (labelsAfter L s op) (step2 run s op) ops

def labels2 (run : ProbeRunner) : List Nat → St → List Op2 → List Nat
  | L, _, [] => L
  | L, s, op :: ops => labels2 run (labelsAfter L s op) (step2 run s op) ops

theorem trace2_length (run : ProbeRunner) (ops : List Op2) :
    ∀ (L : List Nat) (s : St), (trace2 run L s ops).length = ops.length := by
  induction ops with
  | nil => intro L s; rfl
  | cons op ops ih => intro L s; simp only [trace2, List.length_cons, ih]

/-- the two machine states agree on everything later operations depend on: the specification, the
    handles the client holds, the registry, the core of the entity pool, and the filter objects
    under the labels in `L` (up to the cache ID) -/
structure Sim (L : List Nat) (s1 s2 : St) : Prop where
  ss : s1.ss = s2.ss
  issued : s1.issued = s2.issued
  kinds : s1.w.kinds = s2.w.kinds
  core : s1.w.pool.Core = s2.w.pool.Core
  heap : ∀ (f : Nat), f ∈ L → FoRel (foAt s1.w f) (foAt s2.w f)

theorem foAt_congr {w w' : World} (h : w'.filters = w.filters) (f : Nat) : foAt w' f = foAt w f := by
  simp only [foAt, h]

theorem guard_congr {s1 s2 : St} (hss : s1.ss = s2.ss) (hi : s1.issued = s2.issued) (op : Op) :
    guard s1 op = guard s2 op := by
  cases op <;> simp only [RelRefine.guard, tgtsExpr, hss, hi]

theorem poolAfter_core {p q : Pool} (h : p.Core = q.Core) (op : Op) :
    (poolAfter p op).Core = (poolAfter q op).Core := by
  cases op with
  | new _ _ _ _ => exact (Pool.get_core h).2
  | del e => exact Pool.recycle_core h e
  | reg _ _ _ => exact h
  | add _ _ _ _ _ => exact h
  | rem _ _ _ => exact h
  | setrel _ _ _ => exact h
  | set _ _ => exact h

theorem reset_core {p q : Pool} (h : p.Core = q.Core) : p.reset.Core = q.reset.Core := by
  obtain ⟨he, _, _⟩ := Pool.core_eq_iff.mp h
  simp only [Pool.reset, Pool.Core, he]

def SimGoal (run1 run2 : ProbeRunner) (L : List Nat) (s1 s2 : St) (op : Op2) : Prop :=
  Sim (labelsAfter L s1 op) (step2 run1 s1 op) (step2 run2 s2 op) ∧
  labelsAfter L s1 op = labelsAfter L s2 op ∧
  OutEq (stepOut2 run1 L s1 op) (stepOut2 run2 L s2 op)

section Steps

variable (run1 run2 : ProbeRunner) {L : List Nat} {s1 s2 : St} {fl1 fl2 : List Nat}

theorem sim_base (H1 : HInv2 s1 fl1) (H2 : HInv2 s2 fl2)
    (hf1 : s1.w.tables.length + s1.w.relationArchetypes.length + 1 ≤ maxU32)
    (he1 : 2 * s1.w.entities.length < 2 ^ 32)
    (hf2 : s2.w.tables.length + s2.w.relationArchetypes.length + 1 ≤ maxU32)
    (he2 : 2 * s2.w.entities.length < 2 ^ 32) (S : Sim L s1 s2) (op : Op) :
    SimGoal run1 run2 L s1 s2 (.base op) := by
  have hgc := guard_congr S.ss S.issued op
  show Sim L (RelRefine.step run1 s1 op) (RelRefine.step run2 s2 op) ∧ L = L ∧
    OutEq (stepOut2 run1 L s1 (.base op)) (stepOut2 run2 L s2 (.base op))
  by_cases hg : guard s1 op = true
  · have hg2 : guard s2 op = true := hgc ▸ hg
    obtain ⟨a1, a2, a3, a4, a5, a6⟩ := step_eq run1 H1.base hf1 he1 op hg
    obtain ⟨b1, b2, b3, b4, b5, b6⟩ := step_eq run2 H2.base hf2 he2 op hg2
    have hfresh : (s1.w.pool.get).2 = (s2.w.pool.get).2 := (Pool.get_core S.core).1
    simp only [stepOut2, if_pos hg, if_pos hg2]
    refine ⟨⟨by rw [a1, b1, S.ss, hfresh], by rw [a2, b2, S.ss, S.issued, hfresh],
      by rw [a4, b4, S.ss, S.kinds], ?_,
      fun f hf => by rw [foAt_congr a5, foAt_congr b5]; exact S.heap f hf⟩, trivial,
      by rw [a6, b6, S.ss, hfresh]; exact OutEq.call_refl _⟩
    rw [a3, b3, S.ss]
    split
    · exact poolAfter_core S.core op
    · exact S.core
  · have hg2 : ¬ guard s2 op = true := by rw [← hgc]; exact hg
    rw [RelRefine.step, RelRefine.step, if_neg hg, if_neg hg2]
    simp only [stepOut2, if_neg hg, if_neg hg2]
    exact ⟨S, trivial, OutEq.none_refl⟩

theorem sim_copy (H1 : HInv2 s1 fl1) (H2 : HInv2 s2 fl2)
    (he1 : 2 * s1.w.entities.length < 2 ^ 32) (he2 : 2 * s2.w.entities.length < 2 ^ 32)
    (S : Sim L s1 s2) (e : Ent) : SimGoal run1 run2 L s1 s2 (.copy e) := by
  show Sim L _ _ ∧ L = L ∧ _
  by_cases hi : e ∈ s1.issued
  · have hi2 : e ∈ s2.issued := by rw [← S.issued]; exact hi
    obtain ⟨a1, a2, a3, a4, a5, a6⟩ := copy_eq run1 H1 he1 hi
    obtain ⟨b1, b2, b3, b4, b5, b6⟩ := copy_eq run2 H2 he2 hi2
    have hfresh : (s1.w.pool.get).2 = (s2.w.pool.get).2 := (Pool.get_core S.core).1
    simp only [stepOut2, if_pos hi, if_pos hi2]
    refine ⟨⟨by rw [a1, b1, S.ss, hfresh], by rw [a2, b2, S.ss, S.issued, hfresh],
      by rw [a4, b4, S.kinds], ?_,
      fun f hf => by rw [foAt_congr a5, foAt_congr b5]; exact S.heap f hf⟩, trivial,
      by rw [a6, b6, S.ss, hfresh]; exact OutEq.call_refl _⟩
    rw [a3, b3, S.ss]
    split
    · exact (Pool.get_core S.core).2
    · exact S.core
  · have hi2 : e ∉ s2.issued := by rw [← S.issued]; exact hi
    have e1 : step2 run1 s1 (.copy e) = s1 := by simp only [step2, decide_eq_true_eq, if_neg hi]
    have e2 : step2 run2 s2 (.copy e) = s2 := by simp only [step2, decide_eq_true_eq, if_neg hi2]
    rw [e1, e2]
    simp only [stepOut2, if_neg hi, if_neg hi2]
    exact ⟨S, trivial, OutEq.none_refl⟩

theorem Sim.of_heap {L' : List Nat} {s1' s2' : St} (S : Sim L s1 s2) (A : Same s1 s1')
    (B : Same s2 s2') (h : ∀ (f : Nat), f ∈ L' → FoRel (foAt s1'.w f) (foAt s2'.w f)) :
    Sim L' s1' s2' :=
  ⟨by rw [A.ss, B.ss]; exact S.ss, by rw [A.issued, B.issued]; exact S.issued,
    by rw [A.kinds, B.kinds]; exact S.kinds, by rw [A.pool, B.pool]; exact S.core, h⟩

theorem Sim.of_same {s1' s2' : St} (S : Sim L s1 s2) (A : Same s1 s1') (B : Same s2 s2')
    (hA : ∀ (f : Nat), f ∈ L → foAt s1'.w f = foAt s1.w f)
    (hB : ∀ (f : Nat), f ∈ L → foAt s2'.w f = foAt s2.w f) : Sim L s1' s2' :=
  S.of_heap A B fun f hf => by rw [hA f hf, hB f hf]; exact S.heap f hf

theorem sim_shrink (H1 : HInv2 s1 fl1) (H2 : HInv2 s2 fl2)
    (he1 : 2 * s1.w.entities.length < 2 ^ 32) (he2 : 2 * s2.w.entities.length < 2 ^ 32)
    (S : Sim L s1 s2) (b : Bool) : SimGoal run1 run2 L s1 s2 (.shrink b) := by
  obtain ⟨A, a⟩ := shrink_desc run1 H1 he1 b
  obtain ⟨B, b'⟩ := shrink_desc run2 H2 he2 b
  exact ⟨S.of_same A B (fun f _ => foAt_congr a f) (fun f _ => foAt_congr b' f), rfl,
    OutEq.done_refl⟩

theorem sim_reset (H1 : HInv2 s1 fl1) (H2 : HInv2 s2 fl2) (S : Sim L s1 s2) :
    SimGoal run1 run2 L s1 s2 .reset := by
  obtain ⟨b1, b2, b3, b4, b5, b6⟩ := reset_desc run1 H1
  obtain ⟨c1, c2, c3, c4, c5, c6⟩ := reset_desc run2 H2
  refine ⟨⟨?_, ?_, ?_, ?_, ?_⟩, rfl, ?_⟩
  · rw [b1, c1, S.ss]
  · rw [b2, c2]
  · rw [b4, c4, S.kinds]
  · rw [b3, c3]; exact reset_core S.core
  · intro f hf
    have R := S.heap f hf
    rw [b5 f, c5 f]
    exact ⟨R.filter, R.ids, R.rels, R.typed, rfl⟩
  · show OutEq (some (.call (outcomeU (opReset s1.w)))) (some (.call (outcomeU (opReset s2.w))))
    rw [b6, c6]; exact OutEq.call_refl _

theorem fdefStores_congr (H1 : HInv2 s1 fl1) (H2 : HInv2 s2 fl2) (S : Sim L s1 s2)
    (fo : FilterObj) (hx : tgtsExpr s1 fo.rels = true) :
    fdefStores s1.w fo = fdefStores s2.w fo := by
  have hx2 : tgtsExpr s2 fo.rels = true := by
    simp only [tgtsExpr, ← S.issued] at hx ⊢; exact hx
  unfold fdefStores
  cases ht : fo.typed with
  | false => rfl
  | true =>
    simp only [if_true]
    rw [H1.base.preCheckTyped_kind fo.filter.mask fo.rels hx,
      H2.base.preCheckTyped_kind fo.filter.mask fo.rels hx2, S.ss]
    cases preKind s2.ss (some fo.filter.mask) fo.rels <;> rfl

theorem sim_fdef (H1 : HInv2 s1 fl1) (H2 : HInv2 s2 fl2) (S : Sim L s1 s2) (f : Nat)
    (fo : FilterObj) : SimGoal run1 run2 L s1 s2 (.fdef f fo) := by
  obtain ⟨A, a⟩ := fdef_desc run1 s1 f fo
  obtain ⟨B, b⟩ := fdef_desc run2 s2 f fo
  have hgF : guardF s1.w fo = guardF s2.w fo := by simp only [guardF, World.isRelComp, S.kinds]
  have hxe : tgtsExpr s1 fo.rels = tgtsExpr s2 fo.rels := by simp only [tgtsExpr, S.issued]
  refine ⟨?_, ?_, OutEq.done_refl⟩
  · by_cases hg : guardF s1.w fo = true
    · have hg2 : guardF s2.w fo = true := by rw [← hgF]; exact hg
      by_cases hx : tgtsExpr s1 fo.rels = true
      · have hst := fdefStores_congr H1 H2 S fo hx
        by_cases hs : fdefStores s1.w fo = true
        · have hs2 : fdefStores s2.w fo = true := by rw [← hst]; exact hs
          simp only [labelsAfter, if_pos hg, if_pos hx, if_pos hs]
          refine S.of_heap A B ?_
          intro g hgm
          rw [a g, b g]
          by_cases hgf : g = f
          · rw [if_pos ⟨hg, hs, hgf⟩, if_pos ⟨hg2, hs2, hgf⟩]; exact FoRel.refl fo
          · rw [if_neg (fun h => hgf h.2.2), if_neg (fun h => hgf h.2.2)]
            rcases List.mem_cons.mp hgm with h | h
            · exact absurd h hgf
            · exact S.heap g h
        · have hs2 : ¬ fdefStores s2.w fo = true := by rw [← hst]; exact hs
          simp only [labelsAfter, if_pos hg, if_pos hx, if_neg hs]
          refine S.of_same A B (fun g _ => ?_) (fun g _ => ?_)
          · rw [a g, if_neg (fun h => hs h.2.1)]
          · rw [b g, if_neg (fun h => hs2 h.2.1)]
      · simp only [labelsAfter, if_pos hg, if_neg hx]
        refine S.of_heap A B ?_
        intro g hgm
        obtain ⟨hgL, hgf⟩ := List.mem_filter.mp hgm
        have hgf' : g ≠ f := by simpa using hgf
        rw [a g, b g, if_neg (fun h => hgf' h.2.2), if_neg (fun h => hgf' h.2.2)]
        exact S.heap g hgL
    · have hg2 : ¬ guardF s2.w fo = true := by rw [← hgF]; exact hg
      simp only [labelsAfter, if_neg hg]
      refine S.of_same A B (fun g _ => ?_) (fun g _ => ?_)
      · rw [a g, if_neg (fun h => hg h.1)]
      · rw [b g, if_neg (fun h => hg2 h.1)]
  · show labelsAfter L s1 (.fdef f fo) = labelsAfter L s2 (.fdef f fo)
    simp only [labelsAfter, ← hgF, ← hxe]
    by_cases hg : guardF s1.w fo = true
    · rw [if_pos hg, if_pos hg]
      by_cases hx : tgtsExpr s1 fo.rels = true
      · rw [if_pos hx, if_pos hx, fdefStores_congr H1 H2 S fo hx]
      · rw [if_neg hx, if_neg hx]
    · rw [if_neg hg, if_neg hg]

theorem Sim.heap_setCache (S : Sim L s1 s2) {w1 w2 : World} {f : Nat} {c1 c2 : Option Nat}
    (hf : f ∈ L)
    (h1 : ∀ (g : Nat), foAt w1 g = if g = f then { foAt s1.w f with cache := c1 } else foAt s1.w g)
    (h2 : ∀ (g : Nat), foAt w2 g = if g = f then { foAt s2.w f with cache := c2 } else foAt s2.w g)
    (hc : c1.isSome = c2.isSome) (g : Nat) (hg : g ∈ L) : FoRel (foAt w1 g) (foAt w2 g) := by
  have R := S.heap f hf
  rw [h1 g, h2 g]
  by_cases hgf : g = f
  · rw [if_pos hgf, if_pos hgf]
    exact ⟨R.filter, R.ids, R.rels, R.typed, hc⟩
  · rw [if_neg hgf, if_neg hgf]; exact S.heap g hg

theorem sim_freg (H1 : HInv2 s1 fl1) (H2 : HInv2 s2 fl2) (S : Sim L s1 s2) (f : Nat) :
    SimGoal run1 run2 L s1 s2 (.freg f) := by
  obtain ⟨A, ⟨c1, hc1, h1⟩, o1⟩ := freg_eq run1 H1 f
  obtain ⟨B, ⟨c2, hc2, h2⟩, o2⟩ := freg_eq run2 H2 f
  show Sim L _ _ ∧ L = L ∧ _
  by_cases hfL : f ∈ L
  · refine ⟨S.of_heap A B (S.heap_setCache hfL h1 h2 (hc1.trans hc2.symm)), rfl, ?_⟩
    simp only [stepOut2, if_pos hfL, o1, o2, (S.heap f hfL).cache]
    exact OutEq.call_refl _
  · simp only [stepOut2, if_neg hfL]
    exact ⟨S.of_same A B (fun g hg => by rw [h1 g, if_neg fun (h : g = f) => hfL (h ▸ hg)])
      (fun g hg => by rw [h2 g, if_neg fun (h : g = f) => hfL (h ▸ hg)]), trivial,
      OutEq.none_refl⟩

theorem sim_funreg (H1 : HInv2 s1 fl1) (H2 : HInv2 s2 fl2) (S : Sim L s1 s2) (f : Nat) :
    SimGoal run1 run2 L s1 s2 (.funreg f) := by
  obtain ⟨A, h1, o1⟩ := funreg_eq run1 H1 f
  obtain ⟨B, h2, o2⟩ := funreg_eq run2 H2 f
  show Sim L _ _ ∧ L = L ∧ _
  by_cases hfL : f ∈ L
  · refine ⟨S.of_heap A B (S.heap_setCache hfL h1 h2 rfl), rfl, ?_⟩
    simp only [stepOut2, if_pos hfL, o1, o2, (S.heap f hfL).cache]
    exact OutEq.call_refl _
  · simp only [stepOut2, if_neg hfL]
    exact ⟨S.of_same A B (fun g hg => by rw [h1 g, if_neg fun (h : g = f) => hfL (h ▸ hg)])
      (fun g hg => by rw [h2 g, if_neg fun (h : g = f) => hfL (h ▸ hg)]), trivial,
      OutEq.none_refl⟩

theorem FoRel.symm {a b : FilterObj} (h : FoRel a b) : FoRel b a :=
  ⟨h.filter.symm, h.ids.symm, h.rels.symm, h.typed.symm, h.cache.symm⟩

theorem sim_query (H1 : HInv2 s1 fl1) (H2 : HInv2 s2 fl2) (S : Sim L s1 s2) (f : Nat)
    (extra : List RelID) : SimGoal run1 run2 L s1 s2 (.query f extra) := by
  obtain ⟨A, a⟩ := query_frame run1 H1 f extra
  obtain ⟨B, b⟩ := query_frame run2 H2 f extra
  refine ⟨S.of_same A B (fun g _ => foAt_congr a g) (fun g _ => foAt_congr b g), rfl, ?_⟩
  simp only [stepOut2]
  by_cases hfL : f ∈ L
  · have R := S.heap f hfL
    by_cases hq : qExpr s1 f extra = true
    · obtain ⟨hq2, heq⟩ := query_congr H1 H2 S.ss S.issued S.kinds f R hq
      rw [if_pos ⟨hfL, hq⟩, if_pos ⟨hfL, hq2⟩]
      exact heq
    · have hq2 : ¬ qExpr s2 f extra = true := fun h =>
        hq (query_congr H2 H1 S.ss.symm S.issued.symm S.kinds.symm f R.symm h).1
      rw [if_neg (fun h => hq h.2), if_neg (fun h => hq2 h.2)]
      exact OutEq.none_refl
  · rw [if_neg (fun h => hfL h.1), if_neg (fun h => hfL h.1)]
    exact OutEq.none_refl

end Steps

theorem sim_step2 (run1 run2 : ProbeRunner) {L : List Nat} {s1 s2 : St} {fl1 fl2 : List Nat}
    (H1 : HInv2 s1 fl1) (H2 : HInv2 s2 fl2)
    (hf1 : s1.w.tables.length + s1.w.relationArchetypes.length + 1 ≤ maxU32)
    (he1 : 2 * s1.w.entities.length < 2 ^ 32)
    (hf2 : s2.w.tables.length + s2.w.relationArchetypes.length + 1 ≤ maxU32)
    (he2 : 2 * s2.w.entities.length < 2 ^ 32) (S : Sim L s1 s2) (op : Op2) :
    SimGoal run1 run2 L s1 s2 op := by
  cases op with
  | base op => exact sim_base run1 run2 H1 H2 hf1 he1 hf2 he2 S op
  | copy e => exact sim_copy run1 run2 H1 H2 he1 he2 S e
  | shrink b => exact sim_shrink run1 run2 H1 H2 he1 he2 S b
  | reset => exact sim_reset run1 run2 H1 H2 S
  | fdef f fo => exact sim_fdef run1 run2 H1 H2 S f fo
  | freg f => exact sim_freg run1 run2 H1 H2 S f
  | funreg f => exact sim_funreg run1 run2 H1 H2 S f
  | query f extra => exact sim_query run1 run2 H1 H2 S f extra

end RelRefine2

end Ark

end

