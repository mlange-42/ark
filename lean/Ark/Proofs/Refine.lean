/-
  The abstract specification (alive handle ↦ component ↦ value) and the history machine for the
  non-relation, observer-free fragment WITH components: a step runs the model operation and the
  specification step in lock step.  The invariant `HInv` (`CInv`, the pool's ghost history, every
  entry of the specification realised by the world) is kept by every step: a call the
  specification refuses panics with the world unchanged (`exec_rej`), an accepted one succeeds
  given room for one more table and index slot (`step_full`), hence all histories within the size
  bounds (`run_of_step`).  The access path of a call does not matter (`step_path_indep`), and no
  generation exceeds the length of the history (`reach_genBound`).  `Does` names the world an
  accepted step produces, for predicates kept along histories (`OpsKeep.step`).  The property
  theorems are in Ark/Props/C01Refine.lean.
-/
import Ark.Proofs.RefineOps

set_option autoImplicit false

namespace Ark

open World Ark.Props.C01World

namespace Refine

abbrev Comps := List (Comp × Val)

/-- **the abstract specification state**: alive handle ↦ component ↦ value -/
abbrev Spec := List (Ent × Comps)

def keys (cs : Comps) : List Comp := cs.map (·.1)

def sortedIds (n : Nat) (ks : List Comp) : List Comp := (List.range n).filter fun c => decide (c ∈ ks)

/-- spec-level write: the last pair for a component wins; zero-size components are not written -/
def writeComps (z : List Bool) (vals : Comps) (cs : Comps) : Comps :=
  cs.map fun cv => (cv.1, if z.getD cv.1 false = true then cv.2 else applyVals cv.2 vals cv.1)

/-- fresh components read zero -/
def zeros (ids : List Comp) : Comps := ids.map fun c => (c, 0)

def find : Spec → Ent → Option Comps
  | [], _ => none
  | x :: rest, e => if x.1 = e then some x.2 else find rest e

def upd (s : Spec) (e : Ent) (f : Comps → Comps) : Spec :=
  s.map fun x => if x.1 = e then (x.1, f x.2) else x

def del : Spec → Ent → Spec
  | [], _ => []
  | x :: rest, e => if x.1 = e then rest else x :: del rest e

inductive Op
  /-- register a (non-relation) component type of the given size -/
  | reg (size : Nat) (zst : Bool)
  /-- `NewEntity` with the components `ids` through the access path `p` (`Unsafe.NewEntity` +
      writes, `Map.NewEntity`, `MapN.NewEntity`), writing `vals` -/
  | new (p : Path) (ids : List Comp) (vals : Comps)
  /-- `World.NewEntity()`: an entity without components -/
  | new0
  /-- `Add(e, ids…)` through the access path `p`, writing `vals` -/
  | add (p : Path) (e : Ent) (ids : List Comp) (vals : Comps)
  /-- `Remove(e, ids…)` through the access path `p` -/
  | rem (p : Path) (e : Ent) (ids : List Comp)
  /-- `Exchange(e, add, rem)` through the access path `p` (`Unsafe.Exchange` + writes,
      `ExchangeN.Exchange`): remove `rem`, add `add`, writing `vals` -/
  | xchg (p : Path) (e : Ent) (add rem : List Comp) (vals : Comps)
  /-- `Set(e, …)` for the components mentioned in `vals` -/
  | set (e : Ent) (vals : Comps)
  /-- `RemoveEntity(e)` -/
  | del (e : Ent)
  /-- `CopyEntity(e)`: a new entity with the components and values of `e` -/
  | copy (e : Ent)
  /-- `World.Shrink` (`bounded`: stop after the first table with work) -/
  | shrink (bounded : Bool)
  /-- `World.Reset`: removes all entities; registry, archetypes and tables are kept -/
  | reset
  deriving Repr

/-- the precondition of `Exchange(e, add, rem)` on an entity with the components `cs` (`n`
    registered component types), as `graph.Find` enforces it: not both lists empty; `rem` distinct
    and all present; `add` distinct, registered and all absent — absent from the entity as it is
    BEFORE the removal, so a component that is both removed and added is refused -/
def XchgOK (n : Nat) (cs : Comps) (add rem : List Comp) : Prop :=
  ¬ (add = [] ∧ rem = []) ∧ rem.Nodup ∧ (∀ c ∈ rem, c ∈ keys cs) ∧ add.Nodup ∧
    ∀ c ∈ add, c < n ∧ c ∉ keys cs

instance (n : Nat) (cs : Comps) (add rem : List Comp) : Decidable (XchgOK n cs add rem) :=
  inferInstanceAs (Decidable (¬ (add = [] ∧ rem = []) ∧ rem.Nodup ∧ (∀ c ∈ rem, c ∈ keys cs) ∧
    add.Nodup ∧ ∀ c ∈ add, c < n ∧ c ∉ keys cs))

/-- the specification state: entities, and the registry (zero-size flag per component ID) -/
structure SS where
  ents : Spec
  zst : List Bool

theorem SS.ext {a b : SS} (he : a.ents = b.ents) (hz : a.zst = b.zst) : a = b := by
  cases a; cases b; cases he; cases hz; rfl

/-- **the specification step.**  `fresh` is the handle a successful `new`/`new0`/`copy` returns.
    An operation whose precondition fails (unknown/dead handle, component present/absent, a
    component both removed and added, empty or duplicate list, unregistered component, registry
    full) leaves the specification unchanged.  `shrink` is invisible; `reset` removes every entity
    and keeps the registry.  The registry bound 256 is `maxComps` of the default build, the only
    one the machine starts from (`HInv.maxc`; `World.init` can be given 64, the tiny build). -/
def specStep (ss : SS) (fresh : Ent) : Op → SS
  | .reg _ z => if ss.zst.length < 256 then { ss with zst := ss.zst ++ [z] } else ss
  | .new _ ids vals =>
    if ids.Nodup ∧ ∀ c ∈ ids, c < ss.zst.length then
      { ss with ents := (fresh, writeComps ss.zst vals (zeros ids)) :: ss.ents }
    else ss
  | .new0 => { ss with ents := (fresh, []) :: ss.ents }
  | .add _ e ids vals =>
    match find ss.ents e with
    | none => ss
    | some cs =>
      if ids ≠ [] ∧ ids.Nodup ∧ ∀ c ∈ ids, c < ss.zst.length ∧ c ∉ keys cs then
        { ss with ents := upd ss.ents e fun cs => writeComps ss.zst vals (cs ++ zeros ids) }
      else ss
  | .rem _ e ids =>
    match find ss.ents e with
    | none => ss
    | some cs =>
      if ids ≠ [] ∧ ids.Nodup ∧ ∀ c ∈ ids, c ∈ keys cs then
        { ss with ents := upd ss.ents e fun cs => cs.filter fun cv => decide (cv.1 ∉ ids) }
      else ss
  | .xchg _ e add rem vals =>
    match find ss.ents e with
    | none => ss
    | some cs =>
      if XchgOK ss.zst.length cs add rem then
        { ss with ents := upd ss.ents e fun cs =>
            writeComps ss.zst vals ((cs.filter fun cv => decide (cv.1 ∉ rem)) ++ zeros add) }
      else ss
  | .set e vals =>
    match find ss.ents e with
    | none => ss
    | some cs =>
      if ∀ cv ∈ vals, cv.1 ∈ keys cs then { ss with ents := upd ss.ents e (writeComps ss.zst vals) }
      else ss
  | .del e =>
    match find ss.ents e with
    | none => ss
    | some _ => { ss with ents := del ss.ents e }
  | .copy e =>
    match find ss.ents e with
    | none => ss
    | some cs => { ss with ents := (fresh, cs) :: ss.ents }
  | .shrink _ => ss
  | .reset => { ss with ents := [] }

/-- run one model operation (through the access path the operation names, without relations);
    the result carries the returned handle -/
def exec (run : ProbeRunner) (w : World) : Op → Res World (Option Ent)
  | .reg size z =>
    match registerComponent { isRel := false, zst := z, size := size } w with
    | .ok _ w' => .ok none w'
    | .panic k w' => .panic k w'
  | .new p ids vals =>
    match opNewEntity run p ids vals [] w with
    | .ok e w' => .ok (some e) w'
    | .panic k w' => .panic k w'
  | .new0 =>
    match opNewEntity0 run w with
    | .ok e w' => .ok (some e) w'
    | .panic k w' => .panic k w'
  | .add p e ids vals =>
    match opAdd run p e ids vals [] w with
    | .ok _ w' => .ok none w'
    | .panic k w' => .panic k w'
  | .rem p e ids =>
    match opRemove run p e ids w with
    | .ok _ w' => .ok none w'
    | .panic k w' => .panic k w'
  | .xchg p e add rem vals =>
    match opExchange run p e add vals rem [] w with
    | .ok _ w' => .ok none w'
    | .panic k w' => .panic k w'
  | .set e vals =>
    match opSet run e (keys vals) vals w with
    | .ok _ w' => .ok none w'
    | .panic k w' => .panic k w'
  | .del e =>
    match opRemoveEntity run e w with
    | .ok _ w' => .ok none w'
    | .panic k w' => .panic k w'
  | .copy e =>
    match opCopyEntity run e w with
    | .ok e' w' => .ok (some e') w'
    | .panic k w' => .panic k w'
  | .shrink bounded =>
    match opShrink bounded w with
    | .ok _ w' => .ok none w'
    | .panic k w' => .panic k w'
  | .reset =>
    match opReset w with
    | .ok _ w' => .ok none w'
    | .panic k w' => .panic k w'

/-- world + ghost history + specification -/
structure St where
  w : World
  /-- handles returned so far, newest first -/
  issued : List Ent
  ss : SS

/-- what a client of the API can express: handles it was given (`Entity` is opaque) and
    component IDs it obtained by registration.  Other calls are not steps of the machine. -/
def guard (s : St) : Op → Bool
  | .reg _ _ => true
  | .new _ ids _ => ids.all fun c => decide (c < s.ss.zst.length)
  | .new0 => true
  | .add _ e ids _ => decide (e ∈ s.issued) && ids.all fun c => decide (c < s.ss.zst.length)
  | .rem _ e _ => decide (e ∈ s.issued)
  | .xchg _ e add _ _ => decide (e ∈ s.issued) && add.all fun c => decide (c < s.ss.zst.length)
  | .set e _ => decide (e ∈ s.issued)
  | .del e => decide (e ∈ s.issued)
  | .copy e => decide (e ∈ s.issued)
  | .shrink _ => true
  | .reset => true

def retOf : Res World (Option Ent) → Option Ent
  | .ok r _ => r
  | .panic _ _ => none

/-- `Reset` is the one operation that is about the whole world -/
def Op.isReset : Op → Bool
  | .reset => true
  | _ => false

/-- the handles the client holds after a call: a creating call adds the returned handle; a
    successful `Reset` ends the epoch — every handle issued so far is dead, and `NewEntity` will
    issue the very same handles (ID and generation) again, so the ghost history starts afresh -/
def issuedAfter (issued : List Ent) (op : Op) : Res World (Option Ent) → List Ent
  | .panic _ _ => issued
  | .ok ret _ =>
    if op.isReset = true then [] else
    match ret with
    | some e => e :: issued
    | none => issued

/-- one step in lock step: the model operation and the specification step.  A panic keeps the
    state the model reached (Go `recover`); that a rejected call leaves the world unchanged is
    a theorem (`exec_rej`), not part of the definition.  `specStep` gets the returned handle as
    `fresh`, `default` if there is none: only a creating operation whose precondition holds reads
    it (`specStep_of_not_pre`), and that call succeeds and returns a handle (`step_full`). -/
def step (run : ProbeRunner) (s : St) (op : Op) : St :=
  if guard s op = true then
    let r := exec run s.w op
    ⟨r.state, issuedAfter s.issued op r, specStep s.ss ((retOf r).getD default) op⟩
  else s

def runOps (run : ProbeRunner) (s : St) (ops : List Op) : St := ops.foldl (step run) s

def St.init (cap rel : Nat) : St := ⟨World.init cap rel, [], ⟨[], []⟩⟩

/-- the state reached from `NewWorld(cap, rel)` by the history `ops` -/
def reach (run : ProbeRunner) (cap rel : Nat) (ops : List Op) : St := runOps run (St.init cap rel) ops

theorem find_some_mem {s : Spec} {e : Ent} {cs : Comps} (h : find s e = some cs) : (e, cs) ∈ s := by
  induction s with
  | nil => cases h
  | cons x rest ih =>
    simp only [find] at h
    split at h
    · rename_i hx
      injection h with h
      obtain ⟨a, b⟩ := x
      simp only at hx h
      subst hx; subst h
      exact List.mem_cons_self
    · exact List.mem_cons_of_mem _ (ih h)

theorem find_none_iff {s : Spec} {e : Ent} : find s e = none ↔ e ∉ s.map (·.1) := by
  induction s with
  | nil => simp [find]
  | cons x rest ih =>
    simp only [find, List.map_cons, List.mem_cons, not_or]
    split
    · rename_i hx
      simp only [reduceCtorEq, false_iff, not_and]
      intro hne; exact absurd hx.symm hne
    · rename_i hx
      rw [ih]
      exact ⟨fun hh => ⟨fun he => hx he.symm, hh⟩, fun hh => hh.2⟩

theorem find_of_mem {s : Spec} (hnd : (s.map (·.1)).Nodup) {e : Ent} {cs : Comps}
    (h : (e, cs) ∈ s) : find s e = some cs := by
  induction s with
  | nil => cases h
  | cons x rest ih =>
    simp only [List.map_cons, List.nodup_cons] at hnd
    simp only [find]
    rcases List.mem_cons.mp h with rfl | hm
    · simp
    · have hne : x.1 ≠ e := by
        intro hx
        apply hnd.1
        rw [hx]
        exact List.mem_map.mpr ⟨(e, cs), hm, rfl⟩
      rw [if_neg hne]
      exact ih hnd.2 hm

theorem upd_keys (s : Spec) (e : Ent) (f : Comps → Comps) : (upd s e f).map (·.1) = s.map (·.1) := by
  simp only [upd, List.map_map]
  apply List.map_congr_left
  intro x _
  simp only [Function.comp]
  split <;> rfl

theorem mem_upd {s : Spec} {e : Ent} {f : Comps → Comps} {x : Ent} {cs : Comps}
    (h : (x, cs) ∈ upd s e f) :
    (x = e ∧ ∃ cs0, (e, cs0) ∈ s ∧ cs = f cs0) ∨ (x ≠ e ∧ (x, cs) ∈ s) := by
  simp only [upd, List.mem_map] at h
  obtain ⟨y, hy, heq⟩ := h
  split at heq
  · rename_i hye
    injection heq with h1 h2
    obtain ⟨a, b⟩ := y
    simp only at hye h1 h2
    subst hye
    exact Or.inl ⟨h1.symm, b, hy, h2.symm⟩
  · rename_i hye
    subst heq
    exact Or.inr ⟨hye, hy⟩

theorem find_upd_self {s : Spec} {e : Ent} {cs : Comps} (f : Comps → Comps)
    (h : find s e = some cs) : find (upd s e f) e = some (f cs) := by
  induction s with
  | nil => cases h
  | cons x rest ih =>
    simp only [find] at h
    simp only [upd, List.map_cons]
    by_cases hx : x.1 = e
    · rw [if_pos hx] at h
      injection h with h
      simp only [hx, if_true, find, h]
    · rw [if_neg hx] at h
      simp only [hx, if_false, find]
      exact ih h

theorem find_upd_ne (s : Spec) {e x : Ent} (f : Comps → Comps) (hne : x ≠ e) :
    find (upd s e f) x = find s x := by
  induction s with
  | nil => rfl
  | cons y rest ih =>
    simp only [upd, List.map_cons]
    by_cases hy : y.1 = e
    · simp only [hy, if_true, find]
      rw [if_neg (fun hh => hne hh.symm), if_neg (fun hh => hne hh.symm)]
      exact ih
    · simp only [hy, if_false, find]
      split
      · rfl
      · exact ih

theorem del_keys (s : Spec) (e : Ent) : (del s e).map (·.1) = (s.map (·.1)).erase e := by
  induction s with
  | nil => rfl
  | cons x rest ih =>
    simp only [del, List.map_cons, List.erase_cons]
    by_cases hx : x.1 = e
    · simp [hx]
    · have : (x.1 == e) = false := by simpa using hx
      simp [hx, this, ih]

theorem mem_del {s : Spec} {e : Ent} {x : Ent × Comps} (h : x ∈ del s e) : x ∈ s := by
  induction s with
  | nil => cases h
  | cons y rest ih =>
    simp only [del] at h
    split at h
    · exact List.mem_cons_of_mem _ h
    · rcases List.mem_cons.mp h with rfl | hm
      · exact List.mem_cons_self
      · exact List.mem_cons_of_mem _ (ih hm)

theorem find_del_ne (s : Spec) {e x : Ent} (hne : x ≠ e) : find (del s e) x = find s x := by
  induction s with
  | nil => rfl
  | cons y rest ih =>
    simp only [del]
    by_cases hy : y.1 = e
    · simp only [hy, if_true, find]
      rw [if_neg (fun hh => hne hh.symm)]
    · simp only [hy, if_false, find]
      split
      · rfl
      · exact ih

theorem mem_sortedIds {n : Nat} {ks : List Comp} {c : Comp} :
    c ∈ sortedIds n ks ↔ c < n ∧ c ∈ ks := by
  simp [sortedIds, List.mem_filter, List.mem_range]

theorem toList_eq_sortedIds (m : Mask) (n : Nat) (ks : List Comp)
    (h : ∀ c : Nat, c < n → (m.get c = true ↔ c ∈ ks)) : m.toList n = sortedIds n ks := by
  simp only [Mask.toList, sortedIds]
  apply List.filter_congr
  intro c hc
  have hlt := List.mem_range.mp hc
  cases hg : m.get c with
  | true => exact (decide_eq_true ((h c hlt).mp hg)).symm
  | false =>
    have : c ∉ ks := fun hm => by rw [(h c hlt).mpr hm] at hg; cases hg
    exact (decide_eq_false this).symm

theorem sortedIds_succ {n : Nat} {ks : List Comp} (h : ∀ c ∈ ks, c < n) :
    sortedIds (n + 1) ks = sortedIds n ks := by
  simp only [sortedIds, List.range_succ, List.filter_append, List.filter_cons, List.filter_nil]
  have : n ∉ ks := fun hm => Nat.lt_irrefl _ (h n hm)
  simp [this]

theorem sortedIds_add {n : Nat} {ks : List Comp} (h : ∀ c ∈ ks, c < n) (k : Nat) :
    sortedIds (n + k) ks = sortedIds n ks := by
  induction k with
  | zero => rfl
  | succ k ih =>
    rw [← Nat.add_assoc, sortedIds_succ (fun c hc => Nat.lt_of_lt_of_le (h c hc) (Nat.le_add_right _ _)), ih]

theorem sortedIds_eq_of_bound {n n' : Nat} {ks : List Comp} (h1 : ∀ c ∈ ks, c < n)
    (h2 : ∀ c ∈ ks, c < n') : sortedIds n' ks = sortedIds n ks := by
  rcases Nat.le_total n n' with hle | hle
  · obtain ⟨k, rfl⟩ := Nat.le.dest hle
    exact sortedIds_add h1 k
  · obtain ⟨k, rfl⟩ := Nat.le.dest hle
    exact (sortedIds_add h2 k).symm

theorem keys_writeComps (z : List Bool) (vals cs : Comps) : keys (writeComps z vals cs) = keys cs := by
  simp only [keys, writeComps, List.map_map]
  rfl

theorem keys_zeros (ids : List Comp) : keys (zeros ids) = ids := by
  simp only [keys, zeros, List.map_map]
  exact List.map_id' ids

theorem writeComps_nil (z : List Bool) (cs : Comps) : writeComps z [] cs = cs := by
  simp only [writeComps]
  have : (fun cv : Comp × Val =>
      (cv.1, if z.getD cv.1 false = true then cv.2 else applyVals cv.2 [] cv.1)) = id := by
    funext cv
    show (cv.1, if z.getD cv.1 false = true then cv.2 else cv.2) = cv
    split <;> rfl
  rw [this, List.map_id]

theorem mem_writeComps {z : List Bool} {vals cs : Comps} {cv : Comp × Val}
    (h : cv ∈ writeComps z vals cs) :
    ∃ v, (cv.1, v) ∈ cs ∧ cv.2 = if z.getD cv.1 false = true then v else applyVals v vals cv.1 := by
  simp only [writeComps, List.mem_map] at h
  obtain ⟨x, hx, rfl⟩ := h
  exact ⟨x.2, hx, rfl⟩

/-- what is read where `writeComps` is realised: the last value written, else the old one -/
theorem writeComps_reads {w : World} {i : Nat} {z : List Bool} {vals cs : Comps}
    (hv : ∀ cv ∈ writeComps z vals cs, valOf w i cv.1 = some cv.2) {c : Comp} {v : Val}
    (hc : (c, v) ∈ cs) :
    valOf w i c = some (if z.getD c false = true then v else (lastVal vals c).getD v) := by
  have := hv _ (List.mem_map.mpr ⟨(c, v), hc, rfl⟩)
  rw [this, applyVals_eq_lastVal]

end Refine

namespace World

theorem registerComponent_ok_of (k : CompKind) (w : World) (hlt : w.kinds.length < w.maxComps)
    (hl : w.isLocked = false) : ∃ w', registerComponent k w = .ok w.kinds.length w' := by
  unfold registerComponent
  simp only
  rw [if_neg (by omega), if_neg (by rw [hl]; simp)]
  exact ⟨_, rfl⟩

theorem registerComponent_full (k : CompKind) (w : World) (h : w.maxComps ≤ w.kinds.length) :
    registerComponent k w = .panic .registryFull w := by
  unfold registerComponent
  simp only
  rw [if_pos h]

end World

namespace Refine

/-- what the specification says about one entity agrees with the world (`n` = number of
    registered component types) -/
structure EntOK (w : World) (n : Nat) (e : Ent) (cs : Comps) : Prop where
  nodup : (keys cs).Nodup
  reg : ∀ c ∈ keys cs, c < n
  comps : compsOf w e.id = some (sortedIds n (keys cs))
  vals : ∀ cv ∈ cs, valOf w e.id cv.1 = some cv.2

theorem EntOK.frame {w w' : World} {n : Nat} {e : Ent} {cs : Comps} (ok : EntOK w n e cs)
    (hs : SameEnt w w' e.id) : EntOK w' n e cs :=
  ⟨ok.nodup, ok.reg, by rw [hs.2]; exact ok.comps, fun cv hcv => by rw [hs.1]; exact ok.vals cv hcv⟩

/-- two worlds that realise the same entry, for `e` and for `e'`, agree on components and values -/
theorem EntOK.same {w w' : World} {n n' : Nat} {e e' : Ent} {cs : Comps} (a : EntOK w n e cs)
    (b : EntOK w' n' e' cs) :
    compsOf w' e'.id = compsOf w e.id ∧ ∀ c : Comp, valOf w' e'.id c = valOf w e.id c := by
  have hs : sortedIds n' (keys cs) = sortedIds n (keys cs) := sortedIds_eq_of_bound a.reg b.reg
  refine ⟨by rw [a.comps, b.comps, hs], fun c => ?_⟩
  by_cases hc : c ∈ keys cs
  · obtain ⟨cv, hcv, rfl⟩ := List.mem_map.mp hc
    rw [a.vals cv hcv, b.vals cv hcv]
  · rw [valOf_none_of_comps a.comps (fun hh => hc (mem_sortedIds.mp hh).2),
      valOf_none_of_comps b.comps (fun hh => hc (mem_sortedIds.mp hh).2)]

/-- the pool with the ghost history, as in `Ark.Proofs.PoolHistory` -/
def St.ps (s : St) : Pool.PS := ⟨s.w.pool, s.issued, s.ss.ents.map (·.1)⟩

def pre (ss : SS) : Op → Prop
  | .reg _ _ => ss.zst.length < 256
  | .new _ ids _ => ids.Nodup ∧ ∀ c ∈ ids, c < ss.zst.length
  | .new0 => True
  | .add _ e ids _ => ∃ cs, find ss.ents e = some cs ∧
      (ids ≠ [] ∧ ids.Nodup ∧ ∀ c ∈ ids, c < ss.zst.length ∧ c ∉ keys cs)
  | .rem _ e ids => ∃ cs, find ss.ents e = some cs ∧ (ids ≠ [] ∧ ids.Nodup ∧ ∀ c ∈ ids, c ∈ keys cs)
  | .xchg _ e add rem _ => ∃ cs, find ss.ents e = some cs ∧ XchgOK ss.zst.length cs add rem
  | .set e vals => ∃ cs, find ss.ents e = some cs ∧ ∀ cv ∈ vals, cv.1 ∈ keys cs
  | .del e => ∃ cs, find ss.ents e = some cs
  | .copy e => ∃ cs, find ss.ents e = some cs
  | .shrink _ => True
  | .reset => True

structure HInv (s : St) (fl : List Nat) : Prop where
  cinv : CInv s.w fl
  ginv : Pool.GInv s.ps fl
  unlocked : s.w.isLocked = false
  nodup : s.issued.Nodup
  zstEq : s.ss.zst = s.w.kinds.map (·.zst)
  /-- the default build (`St.init` leaves `maxComps` of `World.init` at its default); the tiny
      build (64 component types, see `World.maxComps`) is not a start state of this machine -/
  maxc : s.w.maxComps = 256
  /-- **refinement**: every entry of the specification is realised by the world -/
  ok : ∀ (e : Ent) (cs : Comps), (e, cs) ∈ s.ss.ents → EntOK s.w s.w.kinds.length e cs

theorem hinv_init (cap rel : Nat) : HInv (St.init cap rel) [] where
  cinv := cinv_init cap rel
  ginv := Pool.ginv_init
  unlocked := rfl
  nodup := List.nodup_nil
  zstEq := rfl
  maxc := rfl
  ok := by intro e cs h; cases h

namespace HInv

variable {s : St} {fl : List Nat}

theorem zlen (H : HInv s fl) : s.ss.zst.length = s.w.kinds.length := by
  rw [H.zstEq, List.length_map]

theorem zget (H : HInv s fl) (c : Comp) : s.ss.zst.getD c false = (s.w.kinds.getD c {}).zst := by
  rw [H.zstEq]
  simp only [List.getD_eq_getElem?_getD, List.getElem?_map]
  cases s.w.kinds[c]? <;> rfl

theorem live_facts (H : HInv s fl) {e : Ent} {cs : Comps} (hm : (e, cs) ∈ s.ss.ents) :
    e ∈ s.issued ∧ s.w.alive e = true ∧ 2 ≤ e.id ∧ e.id ∉ fl ∧ find s.ss.ents e = some cs ∧
    s.w.pool.ents[e.id]? = some e := by
  have hl : e ∈ s.ps.live := List.mem_map.mpr ⟨(e, cs), hm, rfl⟩
  have hi := H.ginv.live_issued e hl
  obtain ⟨a, b, c⟩ := (H.ginv.live_iff e).mp hl
  exact ⟨hi, (Pool.alive_iff_live s.ps fl H.ginv e hi).mpr hl, a, b,
    find_of_mem H.ginv.live_nodup hm, c⟩

theorem find_of_alive (H : HInv s fl) {e : Ent} (hi : e ∈ s.issued) (ha : s.w.alive e = true) :
    ∃ cs, find s.ss.ents e = some cs ∧ (e, cs) ∈ s.ss.ents := by
  have hl : e ∈ s.ps.live := (Pool.alive_iff_live s.ps fl H.ginv e hi).mp ha
  cases hf : find s.ss.ents e with
  | none => exact absurd hl (find_none_iff.mp hf)
  | some cs => exact ⟨cs, rfl, find_some_mem hf⟩

theorem find_of_dead (H : HInv s fl) {e : Ent} (hi : e ∈ s.issued) (hd : s.w.alive e = false) :
    find s.ss.ents e = none := by
  apply find_none_iff.mpr
  intro hl
  have : s.w.alive e = true := (Pool.alive_iff_live s.ps fl H.ginv e hi).mpr hl
  rw [hd] at this; cases this

theorem find_not_issued (H : HInv s fl) {e : Ent} (hi : e ∉ s.issued) : find s.ss.ents e = none :=
  find_none_iff.mpr (fun hl => hi (H.ginv.live_issued e hl))

theorem id_inj (H : HInv s fl) {x y : Ent} {cs cs' : Comps} (hx : (x, cs) ∈ s.ss.ents)
    (hy : (y, cs') ∈ s.ss.ents) (hid : x.id = y.id) : x = y := by
  obtain ⟨_, _, _, _, _, h1⟩ := H.live_facts hx
  obtain ⟨_, _, _, _, _, h2⟩ := H.live_facts hy
  rw [hid, h2] at h1
  exact (Option.some.inj h1).symm

theorem mask_iff (H : HInv s fl) {e : Ent} {cs : Comps} (hm : (e, cs) ∈ s.ss.ents) (c : Comp) :
    (s.w.maskOf e).get c = true ↔ c ∈ keys cs := by
  obtain ⟨_, ha, h2, hnf, _, hsl⟩ := H.live_facts hm
  obtain ⟨hc, hreg⟩ := H.cinv.comps_of_live h2 hnf ha (List.getElem?_eq_some_iff.mp hsl).1
  have ok := H.ok e cs hm
  have heq : (s.w.maskOf e).toList s.w.kinds.length = sortedIds s.w.kinds.length (keys cs) :=
    Option.some.inj (hc.symm.trans ok.comps)
  constructor
  · intro hg
    have : c ∈ (s.w.maskOf e).toList s.w.kinds.length :=
      (Mask.mem_toList _ _ _).mpr ⟨hreg c hg, hg⟩
    rw [heq] at this
    exact (mem_sortedIds.mp this).2
  · intro hk
    have : c ∈ sortedIds s.w.kinds.length (keys cs) := mem_sortedIds.mpr ⟨ok.reg c hk, hk⟩
    rw [← heq] at this
    exact ((Mask.mem_toList _ _ _).mp this).2

theorem hrows (H : HInv s fl) (hent : s.w.entities.length + 1 < 2 ^ 32) (t : Nat) :
    (s.w.tbl t).len + 1 < 2 ^ 32 := by
  have := H.cinv.idx.rows_le t
  omega

theorem of_kinds (H : HInv s fl) {w' : World} {issued : List Ent} {ents : Spec} {fl' : List Nat}
    (hc : CInv w' fl') (hg : Pool.GInv ⟨w'.pool, issued, ents.map (·.1)⟩ fl')
    (hl : w'.isLocked = false) (hnd : issued.Nodup) (hk : w'.kinds = s.w.kinds)
    (hmax : w'.maxComps = s.w.maxComps)
    (hok : ∀ (e : Ent) (cs : Comps), (e, cs) ∈ ents → EntOK w' s.w.kinds.length e cs) :
    HInv ⟨w', issued, ⟨ents, s.ss.zst⟩⟩ fl' :=
  ⟨hc, hg, hl, hnd, H.zstEq.trans (hk ▸ rfl), hmax.trans H.maxc, hk.symm ▸ hok⟩

/-- **single-entity update**: the world changes only entity `e` (pool, registry, locks kept),
    the specification changes only `e`'s entry, and the new entry is realised -/
theorem update (H : HInv s fl) {e : Ent} {cs : Comps} (hm : (e, cs) ∈ s.ss.ents) {w' : World}
    (f : Comps → Comps) (hc : CInv w' fl) (hpool : w'.pool = s.w.pool)
    (hl : w'.isLocked = s.w.isLocked) (hk : w'.kinds = s.w.kinds)
    (hmax : w'.maxComps = s.w.maxComps) (hfr : ∀ j : Nat, j ≠ e.id → SameEnt s.w w' j)
    (hok : EntOK w' s.w.kinds.length e (f cs)) :
    HInv ⟨w', s.issued, ⟨upd s.ss.ents e f, s.ss.zst⟩⟩ fl := by
  refine H.of_kinds hc (by rw [hpool, upd_keys]; exact H.ginv) (hl.trans H.unlocked) H.nodup hk hmax
    fun x cs' hx => ?_
  rcases mem_upd hx with ⟨rfl, cs0, h0, rfl⟩ | ⟨hne, hx'⟩
  · have h1 := find_of_mem H.ginv.live_nodup h0
    rw [find_of_mem H.ginv.live_nodup hm] at h1
    rw [← Option.some.inj h1]; exact hok
  · exact (H.ok x cs' hx').frame (hfr x.id fun hh => hne (H.id_inj hx' hm hh))

end HInv

/-- what a client sees of one call: the returned handle (if any), or the panic class -/
inductive Outcome
  | ok (ret : Option Ent)
  | panic (k : PanicKind)
  deriving DecidableEq, Repr

def outcome : Res World (Option Ent) → Outcome
  | .ok r _ => .ok r
  | .panic k _ => .panic k

def Op.creates : Op → Bool
  | .new _ _ _ => true
  | .new0 => true
  | .copy _ => true
  | _ => false

/-- the value an accepted operation returns (`fresh` = the next handle of the pool) -/
def retSpec (fresh : Ent) (op : Op) : Option Ent := if op.creates = true then some fresh else none

/-- the panic class of the mask walk of `graph.Find` from the mask `m` (meaningful when the walk
    fails) -/
def findKind (m : Mask) (add rem : List Comp) : PanicKind :=
  match graphFind m m add rem default with
  | .panic k _ => k
  | .ok _ _ => .other

theorem findKind_of_panic {m : Mask} {add rem : List Comp} {w w1 : World} {k : PanicKind}
    (h : graphFind m m add rem w = .panic k w1) : findKind m add rem = k := by
  have := graphFind_any m m add rem w default
  rw [h] at this
  simp only [findKind, this, Res.mapS_panic]

/-- **the panic class of a rejected call**, from the specification alone: a full registry; a
    duplicate in the list of a `new`; an unknown or dead handle; an empty list; a component
    already present (or listed twice) / absent (or listed twice); for `Exchange` the class the mask
    walk reports (`missing`, `alreadyHas`, `addedAndRemoved` — in the order `graph.Find` checks) -/
def rejKind (ss : SS) : Op → PanicKind
  | .reg _ _ => .registryFull
  | .new _ _ _ => .alreadyHas
  | .new0 => .other
  | .add _ e ids _ =>
    match find ss.ents e with
    | none => .deadEntity
    | some _ => if ids = [] then .noComponents else .alreadyHas
  | .rem _ e ids =>
    match find ss.ents e with
    | none => .deadEntity
    | some _ => if ids = [] then .noComponents else .missing
  | .xchg _ e add rem _ =>
    match find ss.ents e with
    | none => .deadEntity
    | some cs =>
      if add = [] ∧ rem = [] then .noComponents else findKind (Mask.ofList (keys cs)) add rem
  | .set e _ =>
    match find ss.ents e with
    | none => .deadEntity
    | some _ => .missing
  | .del _ => .deadEntity
  | .copy _ => .deadEntity
  | .shrink _ => .other
  | .reset => .other

def poolAfter (p : Pool) : Op → Pool
  | .new _ _ _ => (p.get).1
  | .new0 => (p.get).1
  | .copy _ => (p.get).1
  | .del e => p.recycle e
  | .reset => p.reset
  | _ => p

def kindsAfter (ks : List CompKind) : Op → List CompKind
  | .reg size z => ks ++ [{ isRel := false, zst := z, size := size }]
  | _ => ks

/-- the outcome of an expressible call, from the specification and the pool alone: accepted, it
    returns `retSpec` and leaves the pool `poolAfter` and the registry `kindsAfter`; refused, it
    panics with `rejKind` and leaves the world as it was -/
structure ExecFacts (run : ProbeRunner) (s : St) (op : Op) : Prop where
  acc : pre s.ss op → ∃ w', exec run s.w op = .ok (retSpec (s.w.pool.get).2 op) w' ∧
    w'.pool = poolAfter s.w.pool op ∧ w'.kinds = kindsAfter s.w.kinds op
  rej : ¬ pre s.ss op → exec run s.w op = .panic (rejKind s.ss op) s.w

/-- what one operation does to the entity pool: nothing, one `Get`, one `Recycle` of a handle that
    sits in its slot, or `Reset` -/
def PoolStep (p p' : Pool) : Prop :=
  p' = p ∨ p' = (p.get).1 ∨ (∃ e : Ent, p.ents[e.id]? = some e ∧ p' = p.recycle e) ∨ p' = p.reset

/-- the conclusion of every step lemma: the invariant is kept, at most one table and one index
    slot are created, a call whose precondition fails is rejected with the world unchanged, a
    call whose precondition holds succeeds, and the pool makes at most one move -/
def StepGoal (run : ProbeRunner) (s : St) (op : Op) : Prop :=
  (∃ fl', HInv (step run s op) fl') ∧
  (step run s op).w.tables.length ≤ s.w.tables.length + 1 ∧
  (step run s op).w.entities.length ≤ s.w.entities.length + 1 ∧
  (guard s op = true → ¬ pre s.ss op → ∃ k, exec run s.w op = .panic k s.w) ∧
  (guard s op = true → pre s.ss op → ∃ r w', exec run s.w op = .ok r w') ∧
  PoolStep s.w.pool (step run s op).w.pool

theorem step_of_guard {run : ProbeRunner} {s : St} {op : Op} (hg : guard s op = true) :
    step run s op = ⟨(exec run s.w op).state, issuedAfter s.issued op (exec run s.w op),
      specStep s.ss ((retOf (exec run s.w op)).getD default) op⟩ := by
  rw [step, if_pos hg]

theorem issuedAfter_nr (issued : List Ent) {op : Op} (hr : op.isReset = false)
    (r : Res World (Option Ent)) :
    issuedAfter issued op r = match retOf r with | some e => e :: issued | none => issued := by
  cases r with
  | panic k w => rfl
  | ok ret w => simp only [issuedAfter, hr, Bool.false_eq_true, if_false, retOf]

theorem step_of_guard_nr {run : ProbeRunner} {s : St} {op : Op} (hg : guard s op = true)
    (hr : op.isReset = false) :
    step run s op = ⟨(exec run s.w op).state,
      (match retOf (exec run s.w op) with | some e => e :: s.issued | none => s.issued),
      specStep s.ss ((retOf (exec run s.w op)).getD default) op⟩ := by
  rw [step_of_guard hg, issuedAfter_nr _ hr]

theorem specStep_of_not_pre (ss : SS) (fresh : Ent) (op : Op) (h : ¬ pre ss op) :
    specStep ss fresh op = ss := by
  cases op with
  | reg size z => simp only [specStep]; exact if_neg h
  | new p ids vals => simp only [specStep]; exact if_neg h
  | new0 => exact absurd trivial h
  | add p e ids vals =>
    simp only [specStep]
    cases hf : find ss.ents e with
    | none => rfl
    | some cs => exact if_neg (fun hv => h ⟨cs, hf, hv⟩)
  | rem p e ids =>
    simp only [specStep]
    cases hf : find ss.ents e with
    | none => rfl
    | some cs => exact if_neg (fun hv => h ⟨cs, hf, hv⟩)
  | xchg p e add rem vals =>
    simp only [specStep]
    cases hf : find ss.ents e with
    | none => rfl
    | some cs => exact if_neg (fun hv => h ⟨cs, hf, hv⟩)
  | set e vals =>
    simp only [specStep]
    cases hf : find ss.ents e with
    | none => rfl
    | some cs => exact if_neg (fun hv => h ⟨cs, hf, hv⟩)
  | del e =>
    simp only [specStep]
    cases hf : find ss.ents e with
    | none => rfl
    | some cs => exact absurd ⟨cs, hf⟩ h
  | copy e =>
    simp only [specStep]
    cases hf : find ss.ents e with
    | none => rfl
    | some cs => exact absurd ⟨cs, hf⟩ h
  | shrink bounded => rfl
  | reset => exact absurd trivial h

/-- **creation step**: the world `w'` results from taking the handle `(s.w.pool.get).2` from the
    pool (`PlacedPost`-style facts), and the specification gets the new entry `cs` -/
theorem HInv.created {s : St} {fl : List Nat} (H : HInv s fl) {w' : World} {cs : Comps}
    (hc : CInv w' fl.tail) (hpool : w'.pool = (s.w.pool.get).1)
    (hl : w'.isLocked = s.w.isLocked) (hk : w'.kinds = s.w.kinds)
    (hmax : w'.maxComps = s.w.maxComps)
    (hlive : ∀ h : Ent, h.id ∉ fl → s.w.alive h = true → h.id < s.w.pool.ents.length →
      SameEnt s.w w' h.id)
    (hok : EntOK w' s.w.kinds.length (s.w.pool.get).2 cs) :
    HInv ⟨w', (s.w.pool.get).2 :: s.issued, ⟨((s.w.pool.get).2, cs) :: s.ss.ents, s.ss.zst⟩⟩
      fl.tail := by
  have g2 : Pool.GInv ⟨w'.pool, (s.w.pool.get).2 :: s.issued,
      (((s.w.pool.get).2, cs) :: s.ss.ents).map (·.1)⟩ fl.tail := hpool ▸ H.ginv.get
  refine H.of_kinds hc g2 (hl.trans H.unlocked) (List.nodup_cons.mpr ⟨H.ginv.fresh_get, H.nodup⟩) hk
    hmax fun x cs' hx => ?_
  rcases List.mem_cons.mp hx with heq | hx'
  · obtain ⟨rfl, rfl⟩ := Prod.mk.inj heq
    exact hok
  · obtain ⟨_, ha, _, hnf, _, hsl⟩ := H.live_facts hx'
    exact (H.ok x cs' hx').frame (hlive x hnf ha (List.getElem?_eq_some_iff.mp hsl).1)

/-- what a step lemma establishes: `StepGoal`, and for an expressible call the outcome in closed
    form — the returned handle, the panic class, the pool and the registry afterwards
    (`ExecFacts`) -/
def StepFull (run : ProbeRunner) (s : St) (op : Op) : Prop :=
  StepGoal run s op ∧ (guard s op = true → ExecFacts run s op)

namespace StepFull

variable {run : ProbeRunner} {s : St} {fl : List Nat} {op : Op}

theorem no_guard (H : HInv s fl) (hg : ¬ guard s op = true) : StepFull run s op := by
  have : step run s op = s := by rw [step, if_neg hg]
  exact ⟨⟨⟨fl, by rw [this]; exact H⟩, by rw [this]; exact Nat.le_succ _,
    by rw [this]; exact Nat.le_succ _, fun h => absurd h hg, fun h => absurd h hg,
    by rw [this]; exact Or.inl rfl⟩, fun h => absurd h hg⟩

theorem rejected (H : HInv s fl) (hg : guard s op = true)
    (hex : exec run s.w op = .panic (rejKind s.ss op) s.w) (hnp : ¬ pre s.ss op) :
    StepFull run s op := by
  have : step run s op = s := by
    rw [step_of_guard hg, hex]
    simp only [Res.state, retOf, issuedAfter, specStep_of_not_pre _ _ op hnp]
  exact ⟨⟨⟨fl, by rw [this]; exact H⟩, by rw [this]; exact Nat.le_succ _,
    by rw [this]; exact Nat.le_succ _, fun _ _ => ⟨_, hex⟩, fun _ hp => absurd hp hnp,
    by rw [this]; exact Or.inl rfl⟩, fun _ => ⟨fun hp => absurd hp hnp, fun _ => hex⟩⟩

theorem ok {s' : St} (hp : pre s.ss op)
    (hex : exec run s.w op = .ok (retSpec (s.w.pool.get).2 op) s'.w) (hstep : step run s op = s')
    (hinv : ∃ fl', HInv s' fl') (htl : s'.w.tables.length ≤ s.w.tables.length + 1)
    (hel : s'.w.entities.length ≤ s.w.entities.length + 1)
    (hpool : PoolStep s.w.pool s'.w.pool) (hpa : s'.w.pool = poolAfter s.w.pool op)
    (hk : s'.w.kinds = kindsAfter s.w.kinds op) : StepFull run s op := by
  refine ⟨?_, fun _ => ⟨fun _ => ⟨s'.w, hex, hpa, hk⟩, fun hnp => absurd hp hnp⟩⟩
  unfold StepGoal
  rw [hstep]
  exact ⟨hinv, htl, hel, fun _ hnp => absurd hp hnp, fun _ _ => ⟨_, _, hex⟩, hpool⟩

/-- an accepted call that changes one entity and neither the pool nor the registry (`hret`, `hpa`,
    `hka` hold by `rfl` for such an operation) -/
theorem update (H : HInv s fl) (hg : guard s op = true) (hr : op.isReset = false)
    (hp : pre s.ss op) {e : Ent} {cs : Comps} (hm : (e, cs) ∈ s.ss.ents) (f : Comps → Comps)
    {w' : World} (hex : exec run s.w op = .ok none w')
    (hret : retSpec (s.w.pool.get).2 op = none) (hpa : poolAfter s.w.pool op = s.w.pool)
    (hka : kindsAfter s.w.kinds op = s.w.kinds)
    (hspec : ∀ fresh, specStep s.ss fresh op = ⟨upd s.ss.ents e f, s.ss.zst⟩)
    (hc : CInv w' fl) (hpool : w'.pool = s.w.pool) (hl : w'.isLocked = s.w.isLocked)
    (hk : w'.kinds = s.w.kinds) (hmax : w'.maxComps = s.w.maxComps)
    (hfr : ∀ j : Nat, j ≠ e.id → SameEnt s.w w' j)
    (htl : w'.tables.length ≤ s.w.tables.length + 1)
    (hel : w'.entities.length = s.w.entities.length)
    (hok : EntOK w' s.w.kinds.length e (f cs)) : StepFull run s op := by
  refine ok (s' := ⟨w', s.issued, ⟨upd s.ss.ents e f, s.ss.zst⟩⟩) hp (hret ▸ hex) ?_
    ⟨fl, H.update hm f hc hpool hl hk hmax hfr hok⟩ htl
    (Nat.le_trans (Nat.le_of_eq hel) (Nat.le_succ _)) (Or.inl hpool) (hpool.trans hpa.symm)
    (hk.trans hka.symm)
  rw [step_of_guard_nr hg hr, hex]
  simp only [Res.state, retOf, hspec]

/-- an accepted creation: the call returns the pool's next handle, which gets the entry `cs` -/
theorem created (H : HInv s fl) (hg : guard s op = true) (hr : op.isReset = false)
    (hp : pre s.ss op) {w' : World} {cs : Comps}
    (hex : exec run s.w op = .ok (some (s.w.pool.get).2) w')
    (hret : retSpec (s.w.pool.get).2 op = some (s.w.pool.get).2)
    (hpa : poolAfter s.w.pool op = (s.w.pool.get).1) (hka : kindsAfter s.w.kinds op = s.w.kinds)
    (hspec : specStep s.ss (s.w.pool.get).2 op =
      ⟨((s.w.pool.get).2, cs) :: s.ss.ents, s.ss.zst⟩)
    (hc : CInv w' fl.tail) (hpool : w'.pool = (s.w.pool.get).1)
    (hl : w'.isLocked = s.w.isLocked) (hk : w'.kinds = s.w.kinds)
    (hmax : w'.maxComps = s.w.maxComps)
    (hlive : ∀ h : Ent, h.id ∉ fl → s.w.alive h = true → h.id < s.w.pool.ents.length →
      SameEnt s.w w' h.id)
    (htl : w'.tables.length ≤ s.w.tables.length + 1)
    (hel : w'.entities.length ≤ s.w.entities.length + 1)
    (hok : EntOK w' s.w.kinds.length (s.w.pool.get).2 cs) : StepFull run s op := by
  refine ok (s' := ⟨w', (s.w.pool.get).2 :: s.issued,
      ⟨((s.w.pool.get).2, cs) :: s.ss.ents, s.ss.zst⟩⟩) hp (hret ▸ hex) ?_
    ⟨fl.tail, H.created hc hpool hl hk hmax hlive hok⟩ htl hel (Or.inr (Or.inl hpool))
    (hpool.trans hpa.symm) (hk.trans hka.symm)
  rw [step_of_guard_nr hg hr, hex]
  simp only [Res.state, retOf, Option.getD_some, hspec]

end StepFull

theorem keys_append (a b : Comps) : keys (a ++ b) = keys a ++ keys b := by
  simp only [keys, List.map_append]

/-- the entry `writeComps z vals (kept ++ zeros add)` is realised by a world in which the entity has
    the components of a mask with exactly the bits `keys kept ++ add`, a kept component reads its
    recorded value and an added one zero, each overwritten by the last write to it -/
theorem EntOK.written {w' : World} {n : Nat} {e : Ent} {z : List Bool} {ks : List CompKind}
    {vals kept : Comps} {add : List Comp} {m : Mask}
    (hz : ∀ c : Comp, z.getD c false = (ks.getD c {}).zst)
    (hnd : (keys kept ++ add).Nodup) (hreg : ∀ c ∈ keys kept ++ add, c < n)
    (hcomps : compsOf w' e.id = some (m.toList n))
    (hm : ∀ c : Nat, c < n → (m.get c = true ↔ c ∈ keys kept ++ add))
    (hkept : ∀ cv ∈ kept, valOf w' e.id cv.1 =
      some (if (ks.getD cv.1 {}).zst = true then cv.2 else applyVals cv.2 vals cv.1))
    (hadded : ∀ c ∈ add, valOf w' e.id c =
      some (if (ks.getD c {}).zst = true then 0 else applyVals 0 vals c)) :
    EntOK w' n e (writeComps z vals (kept ++ zeros add)) := by
  have hk : keys (writeComps z vals (kept ++ zeros add)) = keys kept ++ add := by
    rw [keys_writeComps, keys_append, keys_zeros]
  refine ⟨hk ▸ hnd, hk ▸ hreg, ?_, fun cv hcv => ?_⟩
  · rw [hcomps, hk, toList_eq_sortedIds m n _ hm]
  · obtain ⟨v, hv, hval⟩ := mem_writeComps hcv
    rw [hval, hz]
    rcases List.mem_append.mp hv with h1 | h1
    · exact hkept (cv.1, v) h1
    · obtain ⟨c, hc, hcv'⟩ := List.mem_map.mp h1
      obtain ⟨rfl, rfl⟩ := Prod.mk.inj hcv'
      exact hadded _ hc

theorem HInv.dead {s : St} {fl : List Nat} (H : HInv s fl) {e : Ent} (hi : e ∈ s.issued)
    (hf : find s.ss.ents e = none) : s.w.alive e = false := by
  cases ha : s.w.alive e with
  | false => rfl
  | true =>
    obtain ⟨cs, hcs, _⟩ := H.find_of_alive hi ha
    rw [hf] at hcs; cases hcs

theorem HInv.maskOf_ofList {s : St} {fl : List Nat} (H : HInv s fl) {e : Ent} {cs : Comps}
    (hm : (e, cs) ∈ s.ss.ents) : s.w.maskOf e = Mask.ofList (keys cs) := by
  apply Mask.ext_get
  intro c hc
  rw [Mask.get_ofList, Bool.eq_iff_iff, H.mask_iff hm c]
  simp [hc]

/-- **an expressible call whose precondition fails panics with the class `rejKind`**, the world as
    it was — whatever the sizes -/
theorem exec_rej (run : ProbeRunner) {s : St} {fl : List Nat} (H : HInv s fl) {op : Op}
    (hg : guard s op = true) (hnp : ¬ pre s.ss op) :
    exec run s.w op = .panic (rejKind s.ss op) s.w := by
  have hl := H.unlocked
  have alive : ∀ {e : Ent} {cs : Comps}, find s.ss.ents e = some cs → s.w.alive e = true :=
    fun hf => (H.live_facts (find_some_mem hf)).2.1
  -- each case: the conjunct of `pre` that fails selects the operation's panic lemma, and `rejKind`
  -- splits the same way on the specification; an issued handle unknown to it is dead (`H.dead`)
  cases op with
  | reg size z =>
    have hlt : ¬ s.ss.zst.length < 256 := hnp
    -- the specification's bound 256 is the world's `maxComps`, its `zst` as long as `kinds`
    have hfull : s.w.maxComps ≤ s.w.kinds.length := by rw [H.maxc, ← H.zlen]; omega
    simp only [exec, registerComponent_full { isRel := false, zst := z, size := size } s.w hfull,
      rejKind]
  | new p ids vals =>
    have hreg : ∀ c ∈ ids, c < s.ss.zst.length := by
      simpa only [guard, List.all_eq_true, decide_eq_true_eq] using hg
    have hop := opNewEntity_dup run p ids vals s.w hl
      (fun c hc => H.cinv.reg_lt_256 (H.zlen ▸ hreg c hc)) (fun hnd => hnp ⟨hnd, hreg⟩)
    simp only [exec, hop, rejKind]
  | new0 => exact absurd trivial hnp
  | add p e ids vals =>
    have hg' : e ∈ s.issued ∧ ∀ c ∈ ids, c < s.ss.zst.length := by
      simpa only [guard, Bool.and_eq_true, List.all_eq_true, decide_eq_true_eq] using hg
    obtain ⟨hi, hreg⟩ := hg'
    cases hf : find s.ss.ents e with
    | none => simp only [exec, opAdd_dead_any run p e ids vals s.w hl (H.dead hi hf), rejKind, hf]
    | some cs =>
      have ha := alive hf
      by_cases hne : ids = []
      · subst hne
        have hop := opAdd_panic run p e [] vals s.w ha (addCore_noComponents s.w hl e ha [])
        simp only [exec, hop, rejKind, hf, if_true]
      -- the model refuses unless `ids` is duplicate-free and new to the entity's mask, which would
      -- be `pre`: the mask is the specified components (`H.mask_iff`); so in `rem`, `xchg`, `set`
      · have hop := opAdd_panic run p e ids vals s.w ha
          (addCore_alreadyHas e ids [] s.w hl ha hne
            (fun c hc => H.cinv.reg_lt_256 (H.zlen ▸ hreg c hc)) (by
            rintro ⟨hnd, hnew⟩
            refine hnp ⟨cs, hf, hne, hnd, fun c hc => ⟨hreg c hc, fun hk => ?_⟩⟩
            have := (H.mask_iff (find_some_mem hf) c).mpr hk
            rw [hnew c hc] at this; cases this))
        simp only [exec, hop, rejKind, hf, if_neg hne]
  | rem p e ids =>
    have hi : e ∈ s.issued := by simpa only [guard, decide_eq_true_eq] using hg
    cases hf : find s.ss.ents e with
    | none => simp only [exec, opRemove_dead_any run p e ids s.w hl (H.dead hi hf), rejKind, hf]
    | some cs =>
      have ha := alive hf
      simp only [exec, opRemove_eq run _ e ids s.w ha, rejKind, hf]
      by_cases hne : ids = []
      · subst hne
        rw [removeCore_noComponents run s.w hl e ha, if_pos rfl]
      · rw [if_neg hne, removeCore_missing run e ids s.w hl ha hne fun ⟨hnd, hp⟩ =>
          hnp ⟨cs, hf, hne, hnd, fun c hc => (H.mask_iff (find_some_mem hf) c).mp (hp c hc)⟩]
  | xchg p e add rem vals =>
    have hg' : e ∈ s.issued ∧ ∀ c ∈ add, c < s.ss.zst.length := by
      simpa only [guard, Bool.and_eq_true, List.all_eq_true, decide_eq_true_eq] using hg
    obtain ⟨hi, hreg⟩ := hg'
    cases hf : find s.ss.ents e with
    | none =>
      simp only [exec, opExchange_dead_any run p e add vals rem s.w hl (H.dead hi hf), rejKind, hf]
    | some cs =>
      have ha := alive hf
      have hm := find_some_mem hf
      by_cases hne : add = [] ∧ rem = []
      · obtain ⟨rfl, rfl⟩ := hne
        have hop := opExchange_panic run p e [] vals [] s.w ha
          (exchangeCore_noComponents run s.w hl e ha [])
        simp only [exec, hop, rejKind, hf, and_self, if_true]
      · -- the class is the one the mask walk reports from the entity's mask, which is the mask of
        -- its specified components
        obtain ⟨k, _, hk⟩ := graphFind_bad (s.w.maskOf e) add rem s.w
          (fun c hc => H.cinv.reg_lt_256 (H.zlen ▸ hreg c hc)) (by
          rintro ⟨hrnd, hpres, hand, hnew⟩
          refine hnp ⟨cs, hf, hne, hrnd, fun c hc => (H.mask_iff hm c).mp (hpres c hc), hand,
            fun c hc => ⟨hreg c hc, fun hk => ?_⟩⟩
          have := (H.mask_iff hm c).mpr hk
          rw [hnew c hc] at this; cases this)
        have hop := opExchange_panic run p e add vals rem s.w ha
          (exchangeCore_reject_kind run e add rem [] s.w hl ha hne hk)
        have hkind : findKind (Mask.ofList (keys cs)) add rem = k := by
          rw [← H.maskOf_ofList hm]; exact findKind_of_panic hk
        simp only [exec, hop, rejKind, hf, if_neg hne, hkind]
  | set e vals =>
    have hi : e ∈ s.issued := by simpa only [guard, decide_eq_true_eq] using hg
    cases hf : find s.ss.ents e with
    | none =>
      simp only [exec, World.opSet_dead run s.w e (H.dead hi hf) (keys vals) vals, rejKind, hf]
    | some cs =>
      have hm := find_some_mem hf
      obtain ⟨_, ha, h2, hnf, _, hsl⟩ := H.live_facts hm
      have hop := opSet_missing_c run H.cinv h2 hnf ha (List.getElem?_eq_some_iff.mp hsl).1
        (ids := keys vals) (fun hh => hnp ⟨cs, hf, fun cv hcv =>
          (H.mask_iff hm cv.1).mp (hh cv.1 (List.mem_map.mpr ⟨cv, hcv, rfl⟩))⟩) vals
      simp only [exec, hop, rejKind, hf]
  | del e =>
    have hi : e ∈ s.issued := by simpa only [guard, decide_eq_true_eq] using hg
    cases hf : find s.ss.ents e with
    | none => simp only [exec, opRemoveEntity_dead run s.w hl e (H.dead hi hf), rejKind]
    | some cs => exact absurd ⟨cs, hf⟩ hnp
  | copy e =>
    have hi : e ∈ s.issued := by simpa only [guard, decide_eq_true_eq] using hg
    cases hf : find s.ss.ents e with
    | none => simp only [exec, opCopyEntity_dead run s.w hl e (H.dead hi hf), rejKind]
    | some cs => exact absurd ⟨cs, hf⟩ hnp
  | shrink _ => exact absurd trivial hnp
  | reset => exact absurd trivial hnp

/-- a step lemma is owed for an expressible call whose precondition holds only -/
theorem StepFull.split {run : ProbeRunner} {s : St} {fl : List Nat} {op : Op} (H : HInv s fl)
    (hacc : guard s op = true → pre s.ss op → StepFull run s op) : StepFull run s op := by
  by_cases hg : guard s op = true
  case neg => exact StepFull.no_guard H hg
  by_cases hp : pre s.ss op
  case neg => exact StepFull.rejected H hg (exec_rej run H hg hp) hp
  exact hacc hg hp

theorem acc_reg (run : ProbeRunner) {s : St} {fl : List Nat} (H : HInv s fl) (size : Nat)
    (z : Bool) (hlt : s.ss.zst.length < 256) : StepFull run s (.reg size z) := by
  have hg : guard s (.reg size z) = true := rfl
  have hlt' : s.w.kinds.length < s.w.maxComps := by rw [H.maxc, ← H.zlen]; exact hlt
  obtain ⟨w', hr⟩ := registerComponent_ok_of { isRel := false, zst := z, size := size } s.w hlt'
    H.unlocked
  obtain ⟨hc, _, hks, hl, hal, hsame, htab, hent, hpool, hmax⟩ :=
    H.cinv.registerComponent (k := { isRel := false, zst := z, size := size }) rfl hr
  have hex : exec run s.w (.reg size z) = .ok none w' := by simp only [exec, hr]
  refine StepFull.ok hlt hex (s' := ⟨w', s.issued, ⟨s.ss.ents, s.ss.zst ++ [z]⟩⟩)
    (by rw [step_of_guard_nr hg rfl, hex]; simp only [Res.state, retOf, specStep, if_pos hlt])
    ⟨fl, hc, by rw [St.ps, hpool]; exact H.ginv, hl.trans H.unlocked, H.nodup, ?_,
      hmax.trans H.maxc, fun e cs hm => ?_⟩
    (Nat.le_trans (Nat.le_of_eq (congrArg List.length htab)) (Nat.le_succ _))
    (Nat.le_trans (Nat.le_of_eq (congrArg List.length hent)) (Nat.le_succ _)) (Or.inl hpool)
    hpool hks
  · show s.ss.zst ++ [z] = w'.kinds.map (·.zst)
    rw [hks, List.map_append, H.zstEq]; rfl
  · show EntOK w' w'.kinds.length e cs
    have ok := H.ok e cs hm
    rw [hks, List.length_append, List.length_singleton]
    exact ⟨ok.nodup, fun c hc => Nat.lt_succ_of_lt (ok.reg c hc),
      by rw [(hsame e.id).2, sortedIds_succ ok.reg]; exact ok.comps,
      fun cv hcv => by rw [(hsame e.id).1]; exact ok.vals cv hcv⟩

theorem mask_ofList_iff {ids : List Comp} {n : Nat} (hn : n ≤ 256) (c : Nat) (hc : c < n) :
    (Mask.ofList ids).get c = true ↔ c ∈ ids := by
  rw [Mask.get_ofList]
  have : c < 256 := by omega
  simp [this]

theorem acc_new (run : ProbeRunner) {s : St} {fl : List Nat} (H : HInv s fl)
    (hfew : s.w.tables.length < maxU32) (hent : s.w.entities.length + 1 < 2 ^ 32)
    (p : Path) (ids : List Comp) (vals : Comps) (hnd : ids.Nodup)
    (hreg : ∀ c ∈ ids, c < s.ss.zst.length) (hg : guard s (.new p ids vals) = true) :
    StepFull run s (.new p ids vals) := by
  have hreg' : ∀ (c : Comp), c ∈ ids → c < s.w.kinds.length := by rw [← H.zlen]; exact hreg
  obtain ⟨w1, _, _, hop, post⟩ := opNewEntity_spec run p H.cinv H.unlocked hnd hreg' vals hfew
    (H.hrows hent)
  refine StepFull.created (cs := writeComps s.ss.zst vals (zeros ids)) H hg rfl ⟨hnd, hreg⟩
    (by simp only [exec, hop]) rfl rfl rfl
    (by simp only [specStep, if_pos (And.intro hnd hreg)]) post.cinv post.pool post.unlocked
    post.kinds post.maxComps (fun x hnf ha hxin => (post.live x hnf ha hxin).2.2.2)
    post.tablesLen post.entitiesLen ?_
  exact EntOK.written (kept := []) H.zget hnd hreg' post.comps
    (fun c hc => mask_ofList_iff H.cinv.kindsLe.2 c (Nat.lt_of_lt_of_le hc H.cinv.kindsLe.1))
    (fun _ h => nomatch h) post.vals

theorem sortedIds_nil (n : Nat) : sortedIds n [] = [] := by
  simp [sortedIds]

theorem acc_new0 (run : ProbeRunner) {s : St} {fl : List Nat} (H : HInv s fl)
    (hent : s.w.entities.length + 1 < 2 ^ 32) : StepFull run s .new0 := by
  obtain ⟨hop, post, hcomps⟩ := opNewEntity0_spec run H.cinv H.unlocked (H.hrows hent 0)
  exact StepFull.created (cs := []) H rfl rfl trivial (by simp only [exec, hop]) rfl rfl rfl rfl
    post.cinv post.pool post.unlocked post.kinds post.maxComps
    (fun x hnf ha hxin => (post.live x hnf ha hxin).2.2.2)
    (Nat.le_trans (Nat.le_of_eq post.tablesLen) (Nat.le_succ _)) post.entitiesLen
    { nodup := List.nodup_nil
      reg := fun _ hc => nomatch hc
      comps := by rw [hcomps]; show some [] = some (sortedIds _ []); rw [sortedIds_nil]
      vals := fun _ hcv => nomatch hcv }

theorem acc_copy (run : ProbeRunner) {s : St} {fl : List Nat} (H : HInv s fl)
    (hent : s.w.entities.length + 1 < 2 ^ 32) (e : Ent) {cs : Comps}
    (hf : find s.ss.ents e = some cs) (hg : guard s (.copy e) = true) :
    StepFull run s (.copy e) := by
  have hm := find_some_mem hf
  obtain ⟨_, ha, h2, hnf, _, hsl⟩ := H.live_facts hm
  have ok := H.ok e cs hm
  obtain ⟨w', hop, post⟩ := opCopyEntity_spec run H.cinv H.unlocked h2 hnf ha
    (List.getElem?_eq_some_iff.mp hsl).1 (H.hrows hent)
  exact StepFull.created (cs := cs) H hg rfl ⟨cs, hf⟩ (by simp only [exec, hop]) rfl rfl rfl
    (by simp only [specStep, hf]) post.cinv post.pool post.unlocked post.kinds post.maxComps
    (fun x hxf hxa hxin => (post.live x hxf hxa hxin).2.2.2)
    (Nat.le_trans (Nat.le_of_eq post.tablesLen) (Nat.le_succ _)) post.entitiesLen
    { nodup := ok.nodup
      reg := ok.reg
      comps := by rw [post.comps]; exact ok.comps
      vals := fun cv hcv => by rw [post.vals]; exact ok.vals cv hcv }

theorem acc_del (run : ProbeRunner) {s : St} {fl : List Nat} (H : HInv s fl) (e : Ent)
    {cs : Comps} (hf : find s.ss.ents e = some cs) (hg : guard s (.del e) = true) :
    StepFull run s (.del e) := by
  have hi : e ∈ s.issued := by simpa only [guard, decide_eq_true_eq] using hg
  have hm := find_some_mem hf
  obtain ⟨_, ha, h2, hnf, _, hsl⟩ := H.live_facts hm
  have hin := (List.getElem?_eq_some_iff.mp hsl).1
  obtain ⟨w', hop, post⟩ := opRemoveEntity_spec run H.cinv H.unlocked h2 hnf ha hin
  refine StepFull.ok ⟨cs, hf⟩ (s' := ⟨w', s.issued, ⟨del s.ss.ents e, s.ss.zst⟩⟩)
    (show exec run s.w (.del e) = .ok none w' by simp only [exec, hop])
    (by rw [step_of_guard_nr hg rfl]; simp only [exec, hop, Res.state, retOf, specStep, hf])
    ⟨e.id :: fl, ?_⟩ (Nat.le_trans (Nat.le_of_eq post.tablesLen) (Nat.le_succ _))
    (Nat.le_trans (Nat.le_of_eq post.entitiesLen) (Nat.le_succ _))
    (Or.inr (Or.inr (Or.inl ⟨e, hsl, post.pool⟩))) post.pool post.kinds
  have g2 : Pool.GInv ⟨w'.pool, s.issued, (del s.ss.ents e).map (·.1)⟩ (e.id :: fl) := by
    rw [post.pool, del_keys]; exact H.ginv.recycle hi ha
  refine H.of_kinds post.cinv g2 (post.unlocked.trans H.unlocked) H.nodup post.kinds post.maxComps
    fun x cs' hx => ?_
  have hx' := mem_del hx
  have hne : x ≠ e := by
    rintro rfl
    have hk : x ∈ (del s.ss.ents x).map (·.1) := List.mem_map.mpr ⟨(x, cs'), hx, rfl⟩
    rw [del_keys] at hk
    exact List.Nodup.not_mem_erase H.ginv.live_nodup hk
  obtain ⟨_, hxa, _, hxnf, _, hxsl⟩ := H.live_facts hx'
  exact (H.ok x cs' hx').frame
    (post.live x hxnf hxa (List.getElem?_eq_some_iff.mp hxsl).1 hne).2.2

theorem acc_shrink (run : ProbeRunner) {s : St} {fl : List Nat} (H : HInv s fl)
    (hent : s.w.entities.length + 1 < 2 ^ 32) (bounded : Bool) :
    StepFull run s (.shrink bounded) := by
  have hg : guard s (.shrink bounded) = true := rfl
  obtain ⟨b, w', hop, post⟩ := opShrink_spec H.cinv H.unlocked (H.hrows hent) bounded
  exact StepFull.ok trivial (s' := ⟨w', s.issued, s.ss⟩)
    (show exec run s.w (.shrink bounded) = .ok none w' by simp only [exec, hop])
    (by rw [step_of_guard_nr hg rfl]; simp only [exec, hop, Res.state, retOf, specStep])
    ⟨fl, H.of_kinds post.cinv (by rw [post.pool]; exact H.ginv) (post.unlocked.trans H.unlocked)
      H.nodup post.kinds post.maxComps fun x cs hx => (H.ok x cs hx).frame (post.same x.id)⟩
    (Nat.le_trans (Nat.le_of_eq post.tablesLen) (Nat.le_succ _))
    (Nat.le_trans (Nat.le_of_eq (congrArg List.length post.entities)) (Nat.le_succ _))
    (Or.inl post.pool) post.pool post.kinds

theorem ginv_reset {p : Pool} {fl : List Nat} (h : Pool.PInv p fl) :
    Pool.GInv ⟨p.reset, [], []⟩ [] := by
  have hl : (p.ents.take Pool.reserved).length = 2 := by
    rw [List.length_take]; have := h.len2; show min 2 _ = 2; omega
  refine ⟨h.reset, ?_, List.nodup_nil, (fun x hx => by cases hx), (fun x hx => by cases hx), ?_⟩
  · intro x
    constructor
    · intro hx; cases hx
    · rintro ⟨h2, _, hs⟩
      have hs' : (p.ents.take Pool.reserved)[x.id]? = some x := hs
      have := (List.getElem?_eq_some_iff.mp hs').1
      omega
  · show (p.ents.take Pool.reserved).length = 2 + 0 + 0
    omega

theorem step_reset_eq (run : ProbeRunner) {s : St} (hl : s.w.isLocked = false) :
    step run s .reset = ⟨resetW s.w, [], ⟨[], s.ss.zst⟩⟩ := by
  rw [step_of_guard (show guard s .reset = true from rfl)]
  simp only [exec, opReset_eq s.w hl, Res.state, issuedAfter, Op.isReset, if_true, specStep]

theorem acc_reset (run : ProbeRunner) {s : St} {fl : List Nat} (H : HInv s fl) :
    StepFull run s .reset := by
  obtain ⟨hop, post⟩ := opReset_spec H.cinv H.unlocked
  exact StepFull.ok trivial (s' := ⟨resetW s.w, [], ⟨[], s.ss.zst⟩⟩)
    (show exec run s.w .reset = .ok none _ by simp only [exec, hop])
    (step_reset_eq run H.unlocked)
    ⟨[], H.of_kinds post.cinv (by rw [post.pool]; exact ginv_reset H.cinv.pool) post.unlocked
      List.nodup_nil post.kinds post.maxComps fun _ _ hx => nomatch hx⟩
    (Nat.le_trans (Nat.le_of_eq post.tablesLen) (Nat.le_succ _))
    (Nat.le_trans (Nat.le_of_eq post.entitiesLen)
      (Nat.le_succ_of_le (H.cinv.lenEq ▸ H.cinv.pool.len2)))
    (Or.inr (Or.inr (Or.inr post.pool))) post.pool post.kinds

theorem mem_keys_filter {cs : Comps} {ids : List Comp} {c : Comp} :
    c ∈ keys (cs.filter fun cv => decide (cv.1 ∉ ids)) ↔ c ∈ keys cs ∧ c ∉ ids := by
  simp only [keys, List.mem_map, List.mem_filter, decide_eq_true_eq]
  constructor
  · rintro ⟨cv, ⟨h1, h2⟩, rfl⟩
    exact ⟨⟨cv, h1, rfl⟩, h2⟩
  · rintro ⟨⟨cv, h1, rfl⟩, h2⟩
    exact ⟨cv, ⟨h1, h2⟩, rfl⟩

theorem HInv.entOK_exchanged {s : St} {fl : List Nat} (H : HInv s fl) {e : Ent} {cs : Comps}
    (hm : (e, cs) ∈ s.ss.ents) {add rem : List Comp} {vals : Comps}
    (hv : XchgOK s.ss.zst.length cs add rem) {w' : World}
    (hcomps : compsOf w' e.id = some
      ((add.foldl Mask.set (rem.foldl Mask.clear (s.w.maskOf e))).toList s.w.kinds.length))
    (hkept : ∀ (c : Comp) (v : Val), (s.w.maskOf e).get c = true → c ∉ rem →
      valOf s.w e.id c = some v → valOf w' e.id c =
        some (if (s.w.kinds.getD c {}).zst = true then v else applyVals v vals c))
    (hadded : ∀ c : Comp, c ∈ add → valOf w' e.id c =
      some (if (s.w.kinds.getD c {}).zst = true then 0 else applyVals 0 vals c)) :
    EntOK w' s.w.kinds.length e
      (writeComps s.ss.zst vals ((cs.filter fun cv => decide (cv.1 ∉ rem)) ++ zeros add)) := by
  obtain ⟨_, _, _, hand, hall⟩ := hv
  have ok := H.ok e cs hm
  have hreg : ∀ (c : Comp), c ∈ add → c < s.w.kinds.length := fun c hc => H.zlen ▸ (hall c hc).1
  exact EntOK.written H.zget
    (List.nodup_append.mpr
      ⟨List.Nodup.sublist (List.Sublist.map _ List.filter_sublist) ok.nodup, hand,
        fun a ha b hb hab => (hall b hb).2 (hab ▸ (mem_keys_filter.mp ha).1)⟩)
    (fun c hc => (List.mem_append.mp hc).elim (fun h1 => ok.reg c (mem_keys_filter.mp h1).1)
      (hreg c)) hcomps
    (fun c hc => by
      rw [Mask.get_ofList_foldl, Mask.get_foldl_clear, List.mem_append, mem_keys_filter,
        Bool.or_eq_true, Bool.and_eq_true, H.mask_iff hm c]
      simp [H.cinv.reg_lt_256 hc])
    (fun cv hcv => by
      obtain ⟨h1, h3⟩ := List.mem_filter.mp hcv
      exact hkept cv.1 cv.2 ((H.mask_iff hm cv.1).mpr (List.mem_map.mpr ⟨cv, h1, rfl⟩))
        (by simpa using h3) (ok.vals cv h1))
    hadded

theorem filter_notMem_nil (cs : Comps) : (cs.filter fun cv => decide (cv.1 ∉ ([] : List Comp))) = cs :=
  List.filter_eq_self.2 fun _ _ => by simp

/-- **`Add`, `Remove` and `Exchange` accepted.**  The three are `World.exchange` (for the first two
    with `rem = []`, resp. `add = []` and no writes) followed by the writes: `op` is the call, `hex`
    its normal form on the path it takes, `hspec` what the specification does with it -/
theorem acc_move (run : ProbeRunner) {s : St} {fl : List Nat} (H : HInv s fl)
    (hfew : s.w.tables.length < maxU32) (hent : s.w.entities.length + 1 < 2 ^ 32) {op : Op}
    (hg : guard s op = true) (hp : pre s.ss op) (hr : op.isReset = false)
    (hret : retSpec (s.w.pool.get).2 op = none) (hpa : poolAfter s.w.pool op = s.w.pool)
    (hka : kindsAfter s.w.kinds op = s.w.kinds) {e : Ent} {cs : Comps}
    (hf : find s.ss.ents e = some cs) {add rem : List Comp}
    (hv : XchgOK s.ss.zst.length cs add rem) (vals : Comps)
    (hspec : ∀ fresh, specStep s.ss fresh op = ⟨upd s.ss.ents e fun cs =>
      writeComps s.ss.zst vals ((cs.filter fun cv => decide (cv.1 ∉ rem)) ++ zeros add), s.ss.zst⟩)
    (hex : s.w.alive e = true → ∀ {old new : Mask} {w2 : World},
      exchangeCore run e add rem [] s.w = .ok (old, new) w2 →
      (∀ evt : Nat, w2.obs.hasObservers evt = false) →
      exec run s.w op = .ok none (writeValsW w2 e vals)) : StepFull run s op := by
  have hm := find_some_mem hf
  obtain ⟨_, ha, h2, hnf, _, hsl⟩ := H.live_facts hm
  obtain ⟨hne, hrnd, hrall, hand, hall⟩ := id hv
  obtain ⟨w2, hcore, ep, _, post⟩ := opExchange_spec run .typed H.cinv H.unlocked h2 hnf ha
    (List.getElem?_eq_some_iff.mp hsl).1 hne hrnd
    (fun c hc => (H.mask_iff hm c).mpr (hrall c hc)) hand
    (fun c hc => H.zlen ▸ (hall c hc).1)
    (fun c hc => Bool.eq_false_iff.mpr fun hgc => (hall c hc).2 ((H.mask_iff hm c).mp hgc))
    vals hfew (H.hrows hent)
  exact StepFull.update H hg hr hp hm _ (hex ha hcore ep.cinv.noObs) hret hpa hka hspec
    post.cinv post.pool post.unlocked post.kinds post.maxComps post.frame post.tablesLen
    post.entitiesLen (H.entOK_exchanged hm hv post.comps post.kept post.added)

theorem acc_add (run : ProbeRunner) {s : St} {fl : List Nat} (H : HInv s fl)
    (hfew : s.w.tables.length < maxU32) (hent : s.w.entities.length + 1 < 2 ^ 32)
    (p : Path) (e : Ent) (ids : List Comp) (vals : Comps) {cs : Comps}
    (hf : find s.ss.ents e = some cs) (hne : ids ≠ []) (hnd : ids.Nodup)
    (hall : ∀ c ∈ ids, c < s.ss.zst.length ∧ c ∉ keys cs)
    (hg : guard s (.add p e ids vals) = true) : StepFull run s (.add p e ids vals) :=
  acc_move run H hfew hent hg ⟨cs, hf, hne, hnd, hall⟩ rfl rfl rfl rfl hf (rem := [])
    ⟨fun hh => hne hh.1, List.nodup_nil, (fun _ hc => nomatch hc), hnd, hall⟩ vals
    (fun _ => by
      simp only [specStep, hf, if_pos (And.intro hne (And.intro hnd hall)), filter_notMem_nil])
    fun ha _ _ _ hc hno => by
      simp only [exec, opAdd_eq run p e ids vals s.w ha (addCore_eq_exchangeCore run e ids [] ▸ hc) hno]

theorem acc_rem (run : ProbeRunner) {s : St} {fl : List Nat} (H : HInv s fl)
    (hfew : s.w.tables.length < maxU32) (hent : s.w.entities.length + 1 < 2 ^ 32)
    (p : Path) (e : Ent) (ids : List Comp) {cs : Comps} (hf : find s.ss.ents e = some cs)
    (hne : ids ≠ []) (hnd : ids.Nodup) (hall : ∀ c ∈ ids, c ∈ keys cs)
    (hg : guard s (.rem p e ids) = true) : StepFull run s (.rem p e ids) :=
  acc_move run H hfew hent hg ⟨cs, hf, hne, hnd, hall⟩ rfl rfl rfl rfl hf (add := [])
    ⟨fun hh => hne hh.2, hnd, hall, List.nodup_nil, fun _ hc => nomatch hc⟩ []
    (fun _ => by
      simp only [specStep, hf, if_pos (And.intro hne (And.intro hnd hall)), writeComps_nil, zeros,
        List.map_nil, List.append_nil])
    fun ha _ _ _ hc _ => by
      simp only [exec, opRemove_eq run p e ids s.w ha, removeCore_eq_exchangeCore, M.bind, hc,
        M.pure, writeValsW_nil]

theorem acc_xchg (run : ProbeRunner) {s : St} {fl : List Nat} (H : HInv s fl)
    (hfew : s.w.tables.length < maxU32) (hent : s.w.entities.length + 1 < 2 ^ 32)
    (p : Path) (e : Ent) (add rem : List Comp) (vals : Comps) {cs : Comps}
    (hf : find s.ss.ents e = some cs) (hv : XchgOK s.ss.zst.length cs add rem)
    (hg : guard s (.xchg p e add rem vals) = true) : StepFull run s (.xchg p e add rem vals) :=
  acc_move run H hfew hent hg ⟨cs, hf, hv⟩ rfl rfl rfl rfl hf hv vals
    (fun _ => by simp only [specStep, hf, if_pos hv])
    fun ha _ _ _ hc hno => by simp only [exec, opExchange_eq run p e add vals rem s.w ha hc hno]

theorem acc_set (run : ProbeRunner) {s : St} {fl : List Nat} (H : HInv s fl)
    (e : Ent) (vals : Comps) {cs : Comps} (hf : find s.ss.ents e = some cs)
    (hv : ∀ cv ∈ vals, cv.1 ∈ keys cs) (hg : guard s (.set e vals) = true) :
    StepFull run s (.set e vals) := by
  have hm := find_some_mem hf
  obtain ⟨_, ha, h2, hnf, _, hsl⟩ := H.live_facts hm
  have hin := (List.getElem?_eq_some_iff.mp hsl).1
  have ok := H.ok e cs hm
  obtain ⟨w', hop, post⟩ := opSet_spec_c run H.cinv h2 hnf ha hin (ids := keys vals) (fun c hc => by
    obtain ⟨cv, hcv, rfl⟩ := List.mem_map.mp hc
    exact (H.mask_iff hm cv.1).mpr (hv cv hcv)) vals
  refine StepFull.update H hg rfl ⟨cs, hf, hv⟩ hm (writeComps s.ss.zst vals)
    (by simp only [exec, hop]) rfl rfl rfl
    (fun _ => by simp only [specStep, hf, if_pos hv])
    post.cinv post.pool post.unlocked post.kinds post.maxComps post.frame
    (Nat.le_trans (Nat.le_of_eq post.tablesLen) (Nat.le_succ _)) post.entitiesLen ?_
  exact
    { nodup := by rw [keys_writeComps]; exact ok.nodup
      reg := by rw [keys_writeComps]; exact ok.reg
      comps := by rw [post.comps, keys_writeComps]; exact ok.comps
      vals := by
        intro cv hcv
        obtain ⟨v, hv', hval⟩ := mem_writeComps hcv
        rw [post.vals cv.1 v (ok.vals (cv.1, v) hv'), hval, H.zget] }

theorem step_full (run : ProbeRunner) {s : St} {fl : List Nat} (H : HInv s fl)
    (hfew : s.w.tables.length < maxU32) (hent : s.w.entities.length + 1 < 2 ^ 32) (op : Op) :
    StepFull run s op := by
  refine StepFull.split H fun hg hp => ?_
  cases op with
  | reg size z => exact acc_reg run H size z hp
  | new p ids vals => exact acc_new run H hfew hent p ids vals hp.1 hp.2 hg
  | new0 => exact acc_new0 run H hent
  | add p e ids vals =>
    obtain ⟨cs, hf, hne, hnd, hall⟩ := hp
    exact acc_add run H hfew hent p e ids vals hf hne hnd hall hg
  | rem p e ids =>
    obtain ⟨cs, hf, hne, hnd, hall⟩ := hp
    exact acc_rem run H hfew hent p e ids hf hne hnd hall hg
  | xchg p e add rem vals =>
    obtain ⟨cs, hf, hv⟩ := hp
    exact acc_xchg run H hfew hent p e add rem vals hf hv hg
  | set e vals =>
    obtain ⟨cs, hf, hv⟩ := hp
    exact acc_set run H e vals hf hv hg
  | del e =>
    obtain ⟨cs, hf⟩ := hp
    exact acc_del run H e hf hg
  | copy e =>
    obtain ⟨cs, hf⟩ := hp
    exact acc_copy run H hent e hf hg
  | shrink bounded => exact acc_shrink run H hent bounded
  | reset => exact acc_reset run H

theorem step_goal (run : ProbeRunner) {s : St} {fl : List Nat} (H : HInv s fl)
    (hfew : s.w.tables.length < maxU32) (hent : s.w.entities.length + 1 < 2 ^ 32) (op : Op) :
    StepGoal run s op :=
  (step_full run H hfew hent op).1

/-- `step_goal` for `set` with no size hypothesis (`hfew`, `hent`): `Set` creates neither a table
    nor an index slot, so the step can be taken where no room is left -/
theorem step_set (run : ProbeRunner) {s : St} {fl : List Nat} (H : HInv s fl)
    (e : Ent) (vals : Comps) : StepGoal run s (.set e vals) :=
  (StepFull.split (op := .set e vals) H fun hg hp => by
    obtain ⟨_, hf, hv⟩ := hp
    exact acc_set run H e vals hf hv hg).1

/-- likewise `reset`: no size hypothesis -/
theorem step_reset (run : ProbeRunner) {s : St} {fl : List Nat} (H : HInv s fl) :
    StepGoal run s .reset :=
  (acc_reset run H).1

/-- **the outcome of an expressible call** — returned handle or panic class, pool and registry
    afterwards — in closed form -/
theorem exec_facts (run : ProbeRunner) {s : St} {fl : List Nat} (H : HInv s fl)
    (hfew : s.w.tables.length < maxU32) (hent : s.w.entities.length + 1 < 2 ^ 32) (op : Op)
    (hg : guard s op = true) : ExecFacts run s op :=
  (step_full run H hfew hent op).2 hg

/-- **histories within the size bounds.**  A machine `step` whose step keeps an invariant `Inv k`
    (`k` counts the steps made), needs room for one more table and index slot (`tl`, `el`: the two
    sizes) and creates at most one of each, can run any history the bounds leave room for. -/
theorem run_of_step {S O : Type} (step : S → O → S) (tl el : S → Nat) (Inv : Nat → S → Prop)
    (hstep : ∀ (k : Nat) (s : S) (op : O), Inv k s → tl s < maxU32 → el s + 1 < 2 ^ 32 →
      Inv (k + 1) (step s op) ∧ tl (step s op) ≤ tl s + 1 ∧ el (step s op) ≤ el s + 1) :
    ∀ (ops : List O) (k : Nat) (s : S), Inv k s → tl s + ops.length ≤ maxU32 →
      el s + ops.length < 2 ^ 32 →
      Inv (k + ops.length) (ops.foldl step s) ∧ tl (ops.foldl step s) ≤ tl s + ops.length ∧
      el (ops.foldl step s) ≤ el s + ops.length
  | [], _, _, h, _, _ => ⟨h, Nat.le_refl _, Nat.le_refl _⟩
  | op :: ops, k, s, h, hb1, hb2 => by
    have e1 : ∀ x : Nat, x + 1 + ops.length = x + (ops.length + 1) := fun x => by
      rw [Nat.add_assoc, Nat.add_comm 1]
    obtain ⟨h1, g1, g2⟩ := hstep k s op h
      (Nat.lt_of_lt_of_le (Nat.lt_add_of_pos_right (Nat.succ_pos _)) hb1)
      (Nat.lt_of_le_of_lt (Nat.add_le_add_left (Nat.succ_le_succ (Nat.zero_le _)) _) hb2)
    obtain ⟨h2, b1, b2⟩ := run_of_step step tl el Inv hstep ops (k + 1) (step s op) h1
      (Nat.le_trans (Nat.add_le_add_right g1 _) (e1 _ ▸ hb1))
      (Nat.lt_of_le_of_lt (Nat.add_le_add_right g2 _) (e1 _ ▸ hb2))
    exact ⟨e1 k ▸ h2, Nat.le_trans b1 (e1 _ ▸ Nat.add_le_add_right g1 _),
      Nat.le_trans b2 (e1 _ ▸ Nat.add_le_add_right g2 _)⟩

/-- `P` holds before every step of the run of `ops` from `s`: what a proof that follows a run
    step by step — two runs side by side, a run and a filtered run — assumes of it -/
def Along {S O : Type} (step : S → O → S) (P : S → Prop) : S → List O → Prop
  | _, [] => True
  | s, op :: ops => P s ∧ Along step P (step s op) ops

/-- what holds of every state a short history reaches from `s0` holds along every continuation
    of such a history -/
theorem along_of_reach {S O : Type} (step : S → O → S) (P : S → Prop) (s0 : S) (n : Nat)
    (h : ∀ (A : List O), A.length < n → P (A.foldl step s0)) :
    ∀ (ops A : List O), (A ++ ops).length ≤ n → Along step P (A.foldl step s0) ops
  | [], _, _ => trivial
  | op :: ops, A, hl => by
    rw [List.length_append, List.length_cons] at hl
    refine ⟨h A (by omega), ?_⟩
    have := along_of_reach step P s0 n h ops (A ++ [op])
      (by rw [List.append_assoc, List.length_append]; exact hl)
    rwa [List.foldl_append] at this

/-- a history below the length bound fits the sizes of `NewWorld(cap, rel)` -/
theorem init_fits (cap rel : Nat) {n : Nat} (h : n < 2 ^ 32 - 2) :
    (St.init cap rel).w.tables.length + n ≤ maxU32 ∧
      (St.init cap rel).w.entities.length + n < 2 ^ 32 :=
  ⟨by show 1 + n ≤ maxU32; simp only [maxU32]; omega, by show 2 + n < 2 ^ 32; omega⟩

theorem run_inv (run : ProbeRunner) (ops : List Op) : ∀ (s : St) (fl : List Nat), HInv s fl →
    s.w.tables.length + ops.length ≤ maxU32 → s.w.entities.length + ops.length < 2 ^ 32 →
    ∃ fl', HInv (runOps run s ops) fl' ∧
      (runOps run s ops).w.tables.length ≤ s.w.tables.length + ops.length ∧
      (runOps run s ops).w.entities.length ≤ s.w.entities.length + ops.length := by
  intro s fl h hb1 hb2
  obtain ⟨⟨fl', h'⟩, b⟩ := run_of_step (step run) (·.w.tables.length) (·.w.entities.length)
    (fun _ s => ∃ fl, HInv s fl)
    (fun _ s op ⟨fl, h⟩ hf he => by
      obtain ⟨g0, g1, g2, _⟩ := step_goal run h hf he op
      exact ⟨g0, g1, g2⟩) ops 0 s ⟨fl, h⟩ hb1 hb2
  exact ⟨fl', h', b⟩

theorem reach_hinv (run : ProbeRunner) (cap rel : Nat) (ops : List Op)
    (hlen : ops.length < 2 ^ 32 - 2) : ∃ fl, HInv (reach run cap rel ops) fl := by
  obtain ⟨fl, h, _⟩ := run_inv run ops _ [] (hinv_init cap rel)
    (init_fits cap rel hlen).1 (init_fits cap rel hlen).2
  exact ⟨fl, h⟩

theorem reach_bounds (run : ProbeRunner) (cap rel : Nat) (ops : List Op)
    (hlen : ops.length < 2 ^ 32 - 2) :
    (reach run cap rel ops).w.tables.length ≤ 1 + ops.length ∧
    (reach run cap rel ops).w.entities.length ≤ 2 + ops.length := by
  obtain ⟨fl, _, b1, b2⟩ := run_inv run ops _ [] (hinv_init cap rel)
    (init_fits cap rel hlen).1 (init_fits cap rel hlen).2
  exact ⟨b1, b2⟩

theorem reach_snoc (run : ProbeRunner) (cap rel : Nat) (ops : List Op) (op : Op) :
    reach run cap rel (ops ++ [op]) = step run (reach run cap rel ops) op := by
  simp only [reach, runOps, List.foldl_append, List.foldl_cons, List.foldl_nil]

def Op.withPath (p : Path) : Op → Op
  | .new _ ids vals => .new p ids vals
  | .add _ e ids vals => .add p e ids vals
  | .rem _ e ids => .rem p e ids
  | .xchg _ e adds rems vals => .xchg p e adds rems vals
  | op => op

/-- **any access path** — on an unlocked world without observers the model gives the same result
    (world, returned handle, or panic) whichever access path the operation takes -/
theorem exec_path_indep (run : ProbeRunner) (w : World) (hl : w.isLocked = false)
    (hno : ∀ evt : Nat, w.obs.hasObservers evt = false) (p : Path) (op : Op) :
    exec run w (op.withPath p) = exec run w op := by
  cases op with
  | new q ids vals => simp only [Op.withPath, exec, opNewEntity_path_indep run p q ids vals w hno]
  | add q e ids vals => simp only [Op.withPath, exec, opAdd_path_indep run p q e ids vals w hl hno]
  | rem q e ids => simp only [Op.withPath, exec, opRemove_path_indep run p q e ids w hl]
  | xchg q e add rem vals =>
    simp only [Op.withPath, exec, opExchange_path_indep run p q e add vals rem w hl hno]
  | reg _ _ => rfl
  | new0 => rfl
  | set _ _ => rfl
  | del _ => rfl
  | copy _ => rfl
  | shrink _ => rfl
  | reset => rfl

theorem step_path_indep (run : ProbeRunner) {s : St} {fl : List Nat} (H : HInv s fl) (p : Path)
    (op : Op) : step run s (op.withPath p) = step run s op := by
  have hex := exec_path_indep run s.w H.unlocked H.cinv.noObs p op
  have hgd : guard s (op.withPath p) = guard s op := by cases op <;> rfl
  have hsp : ∀ fresh, specStep s.ss fresh (op.withPath p) = specStep s.ss fresh op := by
    intro fresh; cases op <;> rfl
  have hir : (op.withPath p).isReset = op.isReset := by cases op <;> rfl
  have hia : ∀ r, issuedAfter s.issued (op.withPath p) r = issuedAfter s.issued op r := by
    intro r; cases r <;> simp only [issuedAfter, hir]
  simp only [step, hgd, hex, hsp, hia]

/-- no generation in a non-reserved pool slot exceeds `n`; along a history `n` is its length
    (`reach_genBound`) -/
def GenBound (n : Nat) (p : Pool) : Prop :=
  ∀ (i : Nat) (e : Ent), p.ents[i]? = some e → 2 ≤ i → e.gen ≤ n

theorem GenBound.init : GenBound 0 Pool.init := by
  intro i e he h2
  have := (List.getElem?_eq_some_iff.mp (show ([⟨0, maxU32⟩, ⟨1, maxU32⟩] : List Ent)[i]? = some e from he)).1
  simp only [List.length_cons, List.length_nil] at this
  omega

/-- a `Get` hands out a new slot with generation 0 or a free one with the generation it has
    (`Pool.get_spec`), a `Recycle` adds one to the generation of its slot, `Reset` keeps the
    reserved slots only -/
theorem GenBound.step {n : Nat} {p p' : Pool} {fl : List Nat} (h : GenBound n p)
    (hp : Pool.PInv p fl) (hs : PoolStep p p') : GenBound (n + 1) p' := by
  rcases hs with rfl | rfl | ⟨x, hx, rfl⟩ | rfl
  · intro i e he h2; exact Nat.le_succ_of_le (h i e he h2)
  · intro i e he h2
    have g := Pool.get_spec p fl hp
    by_cases hi : i = (p.get).2.id
    · subst hi
      rw [g.slot] at he
      rw [← Option.some.inj he]
      rcases g.cases with ⟨_, _, h0⟩ | ⟨_, _, sl, hsl, hg⟩
      · rw [h0]; exact Nat.zero_le _
      · rw [← hg]; exact Nat.le_succ_of_le (h _ sl hsl h2)
    · rw [g.other i hi] at he; exact Nat.le_succ_of_le (h i e he h2)
  · intro i e he h2
    simp only [Pool.recycle] at he
    by_cases hi : x.id = i
    · have hlt : i < p.ents.length := by
        have := (List.getElem?_eq_some_iff.mp he).1
        simpa using this
      rw [hi, List.getElem?_set_self hlt] at he
      have hgd : p.ents.getD i default = x := by
        rw [List.getD_eq_getElem?_getD, ← hi, hx]; rfl
      rw [← Option.some.inj he]
      show (p.ents.getD i default).gen + 1 ≤ n + 1
      rw [hgd]
      exact Nat.succ_le_succ (h x.id x hx (by rw [hi]; exact h2))
    · rw [List.getElem?_set_ne hi] at he
      exact Nat.le_succ_of_le (h i e he h2)
  · intro i e he h2
    have he' : (p.ents.take Pool.reserved)[i]? = some e := he
    have := (List.getElem?_eq_some_iff.mp he').1
    rw [List.length_take] at this
    have : i < 2 := Nat.lt_of_lt_of_le this (Nat.min_le_left _ _)
    omega

/-- below the sentinel no issued handle carries a generation above the bound, so none carries the
    sentinel generation `maxU32` -/
theorem GenBound.issued {n : Nat} {ps : Pool.PS} {fl : List Nat} (hb : GenBound n ps.p)
    (g : Pool.GInv ps fl) (hn : n < maxU32) : ∀ h ∈ ps.issued, h.gen ≤ n ∧ h.gen ≠ maxU32 := by
  intro h hi
  obtain ⟨h2, sl, hsl, hle, _⟩ := g.issued_bound h hi
  have hle' : h.gen ≤ n := Nat.le_trans hle (hb h.id sl hsl h2)
  exact ⟨hle', fun hh => Nat.lt_irrefl _ (Nat.lt_of_le_of_lt (hh ▸ hle') hn)⟩

theorem run_genBound (run : ProbeRunner) (ops : List Op) : ∀ (s : St) (fl : List Nat) (n : Nat),
    HInv s fl → s.w.tables.length + ops.length ≤ maxU32 → s.w.entities.length + ops.length < 2 ^ 32 →
    GenBound n s.w.pool → GenBound (n + ops.length) (runOps run s ops).w.pool := by
  intro s fl n h hb1 hb2 hb
  have := (run_of_step (step run) (·.w.tables.length) (·.w.entities.length)
    (fun k s => (∃ fl, HInv s fl) ∧ GenBound (n + k) s.w.pool)
    (fun _ s op ⟨⟨fl, h⟩, hb⟩ hf he => by
      obtain ⟨g0, g1, g2, _, _, hp⟩ := step_goal run h hf he op
      exact ⟨⟨g0, hb.step h.cinv.pool hp⟩, g1, g2⟩) ops 0 s ⟨⟨fl, h⟩, hb⟩ hb1 hb2).1.2
  rw [Nat.zero_add] at this
  exact this

/-- after a history of `n` operations no generation exceeds `n`; in particular (the history bound)
    no handle that was issued carries the sentinel generation `maxU32` -/
theorem reach_genBound (run : ProbeRunner) (cap rel : Nat) (ops : List Op)
    (hlen : ops.length < 2 ^ 32 - 2) :
    GenBound ops.length (reach run cap rel ops).w.pool ∧
    ∀ h ∈ (reach run cap rel ops).issued, h.gen ≤ ops.length ∧ h.gen ≠ maxU32 := by
  have hb : GenBound ops.length (reach run cap rel ops).w.pool := by
    have := run_genBound run ops _ [] 0 (hinv_init cap rel)
      (init_fits cap rel hlen).1 (init_fits cap rel hlen).2 GenBound.init
    rwa [Nat.zero_add] at this
  obtain ⟨fl, hinv⟩ := reach_hinv run cap rel ops hlen
  exact ⟨hb, hb.issued hinv.ginv (by simp only [maxU32]; omega)⟩

/-- the entity an operation is about (`fresh` = the handle a successful `new` returns) -/
def target (fresh : Ent) : Op → Option Ent
  | .reg _ _ => none
  | .new _ _ _ => some fresh
  | .new0 => some fresh
  | .add _ e _ _ => some e
  | .rem _ e _ => some e
  | .xchg _ e _ _ _ => some e
  | .set e _ => some e
  | .del e => some e
  | .copy _ => some fresh
  | .shrink _ => none
  | .reset => none

theorem find_ite_upd (ss : SS) (c : Prop) [Decidable c] {e x : Ent} (f : Comps → Comps)
    (hne : x ≠ e) :
    find (if c then { ss with ents := upd ss.ents e f } else ss).ents x = find ss.ents x := by
  by_cases hc : c
  · rw [if_pos hc]; exact find_upd_ne ss.ents f hne
  · rw [if_neg hc]

/-- **frame** (specification): the step for an operation on `e` changes only `e`'s entry
    (`Reset`, the one operation about the whole world, is excluded) -/
theorem specStep_frame (ss : SS) (fresh : Ent) (op : Op) (x : Ent) (hr : op.isReset = false)
    (hx : target fresh op ≠ some x) : find (specStep ss fresh op).ents x = find ss.ents x := by
  cases op with
  | reg size z => simp only [specStep]; split <;> rfl
  | new p ids vals =>
    have hne : fresh ≠ x := fun hh => hx (by rw [hh]; rfl)
    simp only [specStep]
    split
    · simp only [find, if_neg hne]
    · rfl
  | new0 =>
    have hne : fresh ≠ x := fun hh => hx (by rw [hh]; rfl)
    simp only [specStep, find, if_neg hne]
  | add p e ids vals =>
    have hne : x ≠ e := fun hh => hx (by rw [hh]; rfl)
    simp only [specStep]
    cases find ss.ents e with
    | none => rfl
    | some cs => exact find_ite_upd ss _ _ hne
  | rem p e ids =>
    have hne : x ≠ e := fun hh => hx (by rw [hh]; rfl)
    simp only [specStep]
    cases find ss.ents e with
    | none => rfl
    | some cs => exact find_ite_upd ss _ _ hne
  | xchg p e add rem vals =>
    have hne : x ≠ e := fun hh => hx (by rw [hh]; rfl)
    simp only [specStep]
    cases find ss.ents e with
    | none => rfl
    | some cs => exact find_ite_upd ss _ _ hne
  | set e vals =>
    have hne : x ≠ e := fun hh => hx (by rw [hh]; rfl)
    simp only [specStep]
    cases find ss.ents e with
    | none => rfl
    | some cs => exact find_ite_upd ss _ _ hne
  | del e =>
    have hne : x ≠ e := fun hh => hx (by rw [hh]; rfl)
    simp only [specStep]
    cases find ss.ents e with
    | none => rfl
    | some cs => exact find_del_ne _ hne
  | copy e =>
    have hne : fresh ≠ x := fun hh => hx (by rw [hh]; rfl)
    simp only [specStep]
    cases find ss.ents e with
    | none => rfl
    | some cs => simp only [find, if_neg hne]
  | shrink bounded => rfl
  | reset => cases hr

end Refine

/-- **what an accepted, successful operation of the entity machine does to the world**: the
    result world written out — which table lookup (if any), which transformers, with which
    arguments — together with the facts about the lookup that hold without size bounds.  It only
    NAMES the result world (`Refine.exec_does`); what holds in it is proved by `Refine.step_full`.
    The preservation arguments about the machine (`OpsKeep.of_does`, `Evolves.of_does`) are case
    analyses over this relation, not over the model's operations. -/
inductive Does (w : World) (fl : List Nat) : World → Prop
  | reg {k : CompKind} {n : Nat} {w' : World} (hk : k.isRel = false)
      (hr : World.registerComponent k w = .ok n w') : Does w fl w'
  /-- `NewEntity`: look the table up, place the next handle of the pool, write -/
  | created {w1 : World} {t a : Nat} {m : Mask} {ids : List Comp} (e : Ent)
      (vals : List (Comp × Val))
      (hok : findOrCreateTableAdd 0 Mask.empty ids [] w = .ok (t, a, m) w1)
      (fc : FoundOrCreated w w1 m t a) (hreg : ∀ (c : Comp), c ∈ ids → c < w.kinds.length) :
      Does w fl (writeValsW (placedW w1 t false) e vals)
  | created0 : Does w fl (placedW w 0 true)
  /-- `Add`, `Remove`, `Exchange`: look up the table of the new mask `m` (another one), move
      the entity's row there, write.  The lookup is named from the NEW mask with nothing left to
      add, `findOrCreateTableAdd oldT m [] []`: after the mask walk the exchange lookup is that
      (`findOrCreateTable_eq_add`, `Proofs/RefineOps`), which makes the three operations one case -/
  | moved {w1 : World} {e : Ent} {oldT row t a : Nat} {m : Mask} (vals : List (Comp × Val))
      (ha : w.alive e = true) (he : w.entities[e.id]? = some (oldT, row)) (ht : oldT ≠ maxU32)
      (hok : findOrCreateTableAdd oldT m [] [] w = .ok (t, a, m) w1)
      (fc : FoundOrCreated w w1 m t a) (hm : ∀ (c : Nat), m.get c = true → c < w.kinds.length)
      (hne : t ≠ oldT) : Does w fl (writeValsW (addMove w1 e oldT row t m) e vals)
  | written (e : Ent) (vals : List (Comp × Val)) : Does w fl (writeValsW w e vals)
  | removed {e : Ent} {t row : Nat} (h2 : 2 ≤ e.id) (hnf : e.id ∉ fl)
      (ha : w.alive e = true) (hin : e.id < w.pool.ents.length) (hix : w.index e.id = (t, row)) :
      Does w fl (removeRowOf w e t row)
  | copied {t row : Nat} (hlt : t < w.tables.length) :
      Does w fl (copiedW (placedW w t false) t row (w.tbl t).len)
  | shrink {bounded b : Bool} {w' : World} (hop : opShrink bounded w = .ok b w') : Does w fl w'
  | reset {w' : World} (hop : opReset w = .ok () w') : Does w fl w'

/-- what the transformers keep is kept by what an operation does -/
theorem OpsKeep.of_does {P : World → Prop} (K : OpsKeep P) {w w' : World} {fl : List Nat}
    (h : CInv w fl) (hl : w.isLocked = false) (hfew : w.tables.length < maxU32)
    (hrows : ∀ t : Nat, (w.tbl t).len + 1 < 2 ^ 32) (d : Does w fl w') (hP : P w) : P w' := by
  cases d with
  | reg _ hr => exact K.reg h hr hP
  | created e vals hok fc _ =>
    have hu := findOrCreateTableAdd_untouched hok
    exact K.writeVals _ _ (K.placed false
      (h.of_lookup fc hu (findOrCreateTableAdd_tables_len hok) hfew) fc.tblLt (fc.room hrows)
      (K.lookup hok fc hu hP))
  | created0 => exact K.placed true h h.sinv.root.1 (hrows 0) hP
  | moved vals ha he ht hok fc _ hne =>
    exact K.writeVals _ _ (K.relocated h fc ha he ht hne hrows
      (K.lookup hok fc (findOrCreateTableAdd_untouched hok) hP))
  | written e vals => exact K.writeVals _ _ hP
  | removed h2 hnf ha hin hix => exact K.removed h h2 hnf ha hin hix hP
  | copied hlt => exact K.copied _ _ _ (K.placed false h hlt (hrows _) hP)
  | shrink hop => exact K.shrink h hl hrows hop hP
  | reset hop => exact K.reset h hl hop hP

/-- **`World.exchange` accepted**, the result written out: the row of `e` moves to the table `t`
    looked up for the new mask -/
theorem CInv.exchange_does (run : ProbeRunner) {w : World} {fl : List Nat} (h : CInv w fl)
    (hl : w.isLocked = false) {e : Ent} (h2 : 2 ≤ e.id) (hnf : e.id ∉ fl) (ha : w.alive e = true)
    (hin : e.id < w.pool.ents.length) {add rem : List Comp} (hne : ¬ (add = [] ∧ rem = []))
    (hrnd : rem.Nodup) (hpres : ∀ (c : Comp), c ∈ rem → (w.maskOf e).get c = true)
    (hand : add.Nodup) (hreg : ∀ (c : Comp), c ∈ add → c < w.kinds.length)
    (hnew : ∀ (c : Comp), c ∈ add → (w.maskOf e).get c = false) (vals : List (Comp × Val)) :
    ∃ (old new : Mask) (w2 : World), exchangeCore run e add rem [] w = .ok (old, new) w2 ∧
      (∀ evt : Nat, w2.obs.hasObservers evt = false) ∧ Does w fl (writeValsW w2 e vals) := by
  obtain ⟨oldT, row, t, a, w1, he, ht, hmk, hok, hfoc, fc, _, _, hneT⟩ :=
    h.exchange_lookup h2 hnf ha hin hne hrnd hpres hand hreg hnew
  have hu := findOrCreateTableAdd_untouched hok
  have hno : ∀ evt : Nat, (addMove w1 e oldT row t
      (add.foldl Mask.set (rem.foldl Mask.clear (w.maskOf e)))).obs.hasObservers evt = false := by
    rw [(addMove_fields _ _ _ _ _ _).2.2.2.obs, hu.obs]; exact h.noObs
  have hcore := exchangeCore_eq run e add rem w hl ha hne (index_of_get he) (hmk ▸ hfoc)
    (by rw [hu.obs]; exact h.noObs)
  rw [← hmk] at hcore
  refine ⟨_, _, _, hcore, hno, .moved vals ha he ht hok fc (fun c hc => ?_) hneT⟩
  rw [Mask.get_ofList_foldl, Mask.get_foldl_clear] at hc
  cases hs : (w.maskOf e).get c with
  | true => exact (h.comps_of_live h2 hnf ha hin).2 c hs
  | false =>
    rw [hs] at hc
    simp at hc
    exact hreg c hc.2

namespace Refine

/-- `Add`, `Remove` and `Exchange` are one case: an accepted `World.exchange` moves the row of `e` -/
theorem does_move (run : ProbeRunner) {s : St} {fl : List Nat} (H : HInv s fl) {e : Ent}
    {cs : Comps} (hf : find s.ss.ents e = some cs) {add rem : List Comp}
    (hv : XchgOK s.ss.zst.length cs add rem) (vals : Comps) :
    s.w.alive e = true ∧ ∃ (old new : Mask) (w2 : World),
      exchangeCore run e add rem [] s.w = .ok (old, new) w2 ∧
      (∀ evt : Nat, w2.obs.hasObservers evt = false) ∧ Does s.w fl (writeValsW w2 e vals) := by
  have hm := find_some_mem hf
  obtain ⟨_, ha, h2, hnf, _, hsl⟩ := H.live_facts hm
  obtain ⟨hne, hrnd, hrall, hand, hall⟩ := hv
  exact ⟨ha, H.cinv.exchange_does run H.unlocked h2 hnf ha (List.getElem?_eq_some_iff.mp hsl).1 hne
    hrnd (fun c hc => (H.mask_iff hm c).mpr (hrall c hc)) hand (fun c hc => H.zlen ▸ (hall c hc).1)
    (fun c hc => Bool.eq_false_iff.mpr fun hg => (hall c hc).2 ((H.mask_iff hm c).mp hg)) vals⟩

/-- **what an accepted, successful step does to the world**: each case opens the operation into
    the lookup and the transformers it is made of -/
theorem exec_does (run : ProbeRunner) {s : St} {fl : List Nat} (H : HInv s fl) {op : Op}
    (hpre : pre s.ss op) {r : Option Ent} {w' : World} (hex : exec run s.w op = .ok r w') :
    Does s.w fl w' := by
  have hC := H.cinv
  have hl := H.unlocked
  have live : ∀ {e : Ent} {cs : Comps}, find s.ss.ents e = some cs → (e, cs) ∈ s.ss.ents ∧
      s.w.alive e = true ∧ 2 ≤ e.id ∧ e.id ∉ fl ∧ e.id < s.w.pool.ents.length := by
    intro e cs hf
    obtain ⟨_, ha, h2, hnf, _, hsl⟩ := H.live_facts (find_some_mem hf)
    exact ⟨find_some_mem hf, ha, h2, hnf, (List.getElem?_eq_some_iff.mp hsl).1⟩
  -- each case: `hex` inverted is `hop`, the operation returned `w'`; the operation's closed form
  -- (`op…_eq`, side conditions from `pre` and the invariant) names `w'`, a constructor of `Does`
  cases op with
  | reg size z =>
    simp only [exec] at hex
    split at hex <;> cases hex
    rename_i n hr
    exact .reg rfl hr
  | new p ids vals =>
    obtain ⟨hnd, hreg⟩ := hpre
    rw [H.zlen] at hreg
    simp only [exec] at hex
    split at hex <;> cases hex
    rename_i e hop
    -- the lookup from the empty mask succeeds whatever the sizes, and leaves the observers absent
    obtain ⟨t, a, w1, hok, fc, _⟩ :=
      hC.sinv.findOrCreateTableAdd_spec_new hC.idx hnd hreg (fun c _ => hC.noRelKinds c)
    rw [opNewEntity_eq run p ids vals s.w hl hok (by
      rw [(findOrCreateTableAdd_untouched hok).obs]; exact hC.noObs)] at hop
    cases hop
    exact .created _ vals hok fc hreg
  | new0 =>
    simp only [exec] at hex
    split at hex <;> cases hex
    rename_i e hop
    rw [opNewEntity0_eq run s.w hl (hC.noObs _)] at hop
    cases hop
    exact .created0
  | add p e ids vals =>
    obtain ⟨cs, hf, hne, hnd, hall⟩ := hpre
    simp only [exec] at hex
    split at hex <;> cases hex
    rename_i u hop
    -- `Add` is the move with nothing removed: `addCore` is `exchangeCore` with `rem = []`
    obtain ⟨ha, _, _, w2, hcore, hno, d⟩ := does_move run H hf (rem := [])
      ⟨fun hh => hne hh.1, List.nodup_nil, (fun _ hc => nomatch hc), hnd, hall⟩ vals
    rw [opAdd_eq run p e ids vals s.w ha (addCore_eq_exchangeCore run e ids [] ▸ hcore) hno] at hop
    cases hop
    exact d
  | rem p e ids =>
    obtain ⟨cs, hf, hne, hnd, hall⟩ := hpre
    simp only [exec] at hex
    split at hex <;> cases hex
    rename_i u hop
    -- `Remove` is the move with nothing added and nothing written
    obtain ⟨ha, _, _, w2, hcore, _, d⟩ := does_move run H hf (add := [])
      ⟨fun hh => hne hh.2, hnd, hall, List.nodup_nil, fun _ hc => nomatch hc⟩ []
    rw [writeValsW_nil] at d
    rw [opRemove_eq run p e ids s.w ha, removeCore_eq_exchangeCore, M.bind, hcore] at hop
    cases hop
    exact d
  | xchg p e add rem vals =>
    obtain ⟨cs, hf, hv⟩ := hpre
    simp only [exec] at hex
    split at hex <;> cases hex
    rename_i u hop
    obtain ⟨ha, _, _, w2, hcore, hno, d⟩ := does_move run H hf hv vals
    rw [opExchange_eq run p e add vals rem s.w ha hcore hno] at hop
    cases hop
    exact d
  | set e vals =>
    obtain ⟨cs, hf, hv⟩ := hpre
    obtain ⟨hm, ha, h2, hnf, hin⟩ := live hf
    simp only [exec] at hex
    split at hex <;> cases hex
    rename_i u hop
    -- `opSet` first checks that `e` has every component written: `pre`, read in the world's mask
    rw [opSet_eq run s.w e (keys vals) vals ha (by
      rw [List.all_eq_true]
      intro c hc
      obtain ⟨cv, hcv, rfl⟩ := List.mem_map.mp hc
      exact (hC.has_iff h2 hnf ha hin cv.1).mpr ((H.mask_iff hm cv.1).mpr (hv cv hcv)))
      (hC.noObs _)] at hop
    cases hop
    exact .written _ _
  | del e =>
    obtain ⟨cs, hf⟩ := hpre
    obtain ⟨_, ha, h2, hnf, hin⟩ := live hf
    simp only [exec] at hex
    split at hex <;> cases hex
    rename_i u hop
    obtain ⟨t, row, hix, _⟩ := hC.removed h2 hnf ha hin
    rw [opRemoveEntity_eq run s.w e hl ha hix hC.noObs (hC.noTargets _)] at hop
    cases hop
    exact .removed h2 hnf ha hin hix
  | copy e =>
    obtain ⟨cs, hf⟩ := hpre
    obtain ⟨_, ha, h2, hnf, hin⟩ := live hf
    simp only [exec] at hex
    split at hex <;> cases hex
    rename_i e' hop
    obtain ⟨t, row, he, ht, _⟩ := hC.live_entry h2 hnf ha hin
    rw [opCopyEntity_eq run s.w e hl ha (index_of_get he) hC.noObs] at hop
    cases hop
    exact .copied (hC.table_of_entry he ht).1
  | shrink bounded =>
    simp only [exec] at hex
    split at hex <;> cases hex
    rename_i b hop
    exact .shrink hop
  | reset =>
    simp only [exec] at hex
    split at hex <;> cases hex
    rename_i u hop
    exact .reset hop

/-- **every accepted, successful step keeps what the world transformers keep** -/
theorem _root_.Ark.OpsKeep.step {P : World → Prop} (K : OpsKeep P) (run : ProbeRunner) {s : St}
    {fl : List Nat}
    (H : HInv s fl) (hfew : s.w.tables.length < maxU32) (hent : s.w.entities.length + 1 < 2 ^ 32)
    {op : Op} (hpre : pre s.ss op) {r : Option Ent} {w' : World}
    (hex : exec run s.w op = .ok r w') (hP : P s.w) : P w' :=
  K.of_does H.cinv H.unlocked hfew (H.hrows hent) (exec_does run H hpre hex) hP

end Refine

end Ark
