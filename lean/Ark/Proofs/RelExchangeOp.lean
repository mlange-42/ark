/-
  `Exchange` in a world with relation components: the specification of `World.exchange`
  (§1: `exchangeCore_rel_spec` under the documented preconditions `XchgPre` — the table lookup
  `xchgLookup` followed by the move of the row `ReadyToMove.moved`), and the call through the access
  paths `Unsafe.Exchange` / `ExchangeN.Exchange` with the values written (§2: `opExchange_rel_spec`;
  `opExchange_rel_panic_same`: a rejection of `World.exchange` that leaves the world unchanged is
  one of the call; `Good.exchange`).
-/
import Ark.Proofs.Refine
import Ark.Proofs.RelExchangeLookup
import Ark.Proofs.RelSpecs

section

/-! ## §1 `World.exchange` -/

set_option autoImplicit false

namespace Ark

open World Ark.Props.C01World

structure XchgPre (w : World) (e : Ent) (add rem : List Comp) (rels : List RelID) : Prop where
  nonempty : ¬ (add = [] ∧ rem = [])
  remNodup : rem.Nodup
  remHas : ∀ (c : Comp), c ∈ rem → (w.maskOf e).get c = true
  addNodup : add.Nodup
  addReg : ∀ (c : Comp), c ∈ add → c < w.kinds.length
  addNew : ∀ (c : Comp), c ∈ add → (w.maskOf e).get c = false
  relsNodup : (rels.map (·.comp)).Nodup
  relsIn : ∀ (r : RelID), r ∈ rels → r.comp ∈ add
  relsRel : ∀ (r : RelID), r ∈ rels → w.isRelComp r.comp = true
  relsAll : ∀ (c : Comp), c ∈ add → w.isRelComp c = true → c ∈ rels.map (·.comp)
  targets : ∀ (r : RelID), r ∈ rels → r.target.isZero = true ∨ w.alive r.target = true

theorem XchgPre.toM {w : World} {e : Ent} {add rem : List Comp} {rels : List RelID}
    (h : XchgPre w e add rem rels) : XchgPreM w (w.maskOf e) add rem rels :=
  ⟨h.nonempty, h.remNodup, h.remHas, h.addNodup, h.addReg, h.addNew, h.relsNodup, h.relsIn,
    h.relsRel, h.relsAll, h.targets⟩

theorem XchgPreM.toPre {w : World} {e : Ent} {add rem : List Comp} {rels : List RelID}
    (h : XchgPreM w (w.maskOf e) add rem rels) : XchgPre w e add rem rels :=
  ⟨h.nonempty, h.remNodup, h.remHas, h.addNodup, h.addReg, h.addNew, h.relsNodup, h.relsIn,
    h.relsRel, h.relsAll, h.targets⟩

/-- `World.exchange` as a chain of world transformers — the lookup tail of `findOrCreateTableAdd`
    from the root table (new mask `m`, relation list `L`; result `w1`, table `t`), `addMove` of the
    row of `e` from `oldT` to `t`, `registerW` — for the proofs that follow the chain step by step. -/
def XchgShape (w : World) (e : Ent) (rels : List RelID) (w' : World) : Prop :=
  ∃ (oldT row t a : Nat) (m : Mask) (L : List RelID) (w1 : World),
    w.entities[e.id]? = some (oldT, row) ∧ oldT ≠ maxU32 ∧ oldT ≠ t ∧
    (∀ (c : Nat), m.get c = true → c < w.kinds.length) ∧
    World.findOrCreateTableAdd 0 m [] L w = .ok (t, a, m) w1 ∧
    w' = registerW (addMove w1 e oldT row t m) rels

structure XchgCorePost (w : World) (fl : List Nat) (e : Ent) (add rem : List Comp)
    (rels : List RelID) (w' : World) : Prop where
  tinv : TInv w' fl
  shape : XchgShape w e rels w'
  pool : w'.pool = w.pool
  obs : w'.obs = w.obs
  locks : w'.locks = w.locks
  kinds : w'.kinds = w.kinds
  maxComps : w'.maxComps = w.maxComps
  relArchs : w'.relationArchetypes.length ≤ w.relationArchetypes.length + 1
  comps : ∀ (cs : List Comp), compsOf w e.id = some cs →
    compsOf w' e.id =
      some (Refine.sortedIds w.kinds.length ((cs.filter fun c => decide (c ∉ rem)) ++ add))
  kept : ∀ (c : Comp) (v : Val), valOf w e.id c = some v → c ∉ rem → valOf w' e.id c = some v
  added : ∀ (c : Comp), c ∈ add → valOf w' e.id c = some 0
  gone : ∀ (c : Comp), c ∈ rem → valOf w' e.id c = none ∧ targetOf w' e.id c = none
  targets : ∀ (r : RelID), r ∈ rels → targetOf w' e.id r.comp = some r.target
  oldTargets : ∀ (c : Comp) (x : Ent), targetOf w e.id c = some x → c ∉ rem →
    targetOf w' e.id c = some x
  targetsOnly : ∀ (c : Comp) (x : Ent), targetOf w' e.id c = some x →
    (c ∉ rem ∧ targetOf w e.id c = some x) ∨ (⟨c, x⟩ : RelID) ∈ rels
  frame : ∀ (j : Nat), j ≠ e.id → SameEnt w w' j ∧ ∀ (c : Comp), targetOf w' j c = targetOf w j c
  tablesLen : w'.tables.length ≤ w.tables.length + 1
  entitiesLen : w'.entities.length = w.entities.length

/-- **C01 + C04, `World.exchange`**: under `XchgPre` (entity and targets inside the pool slice,
    unlocked, no observers) the call never fails and returns the old and the new mask. -/
theorem exchangeCore_rel_spec (run : ProbeRunner) {w : World} {fl : List Nat} (h : TInv w fl)
    (hl : w.isLocked = false) (hno : ∀ (evt : Nat), w.obs.hasObservers evt = false) {e : Ent}
    (h2 : 2 ≤ e.id) (hnf : e.id ∉ fl) (ha : w.alive e = true) (hsl : e.id < w.pool.ents.length)
    {add rem : List Comp} {rels : List RelID} (hp : XchgPre w e add rem rels)
    (htin : ∀ (r : RelID), r ∈ rels → r.target.id < w.pool.ents.length)
    (hfew : w.tables.length < maxU32) (hrows : w.entities.length + 1 < 2 ^ 32) :
    ∃ (w' : World),
      exchangeCore run e add rem rels w =
        .ok (w.maskOf e, add.foldl Mask.set (rem.foldl Mask.clear (w.maskOf e))) w' ∧
      XchgCorePost w fl e add rem rels w' := by
  -- `e` is alive and off the free list: it has a row in an in-use table `oldT`, whose mask is `maskOf e`
  obtain ⟨oldT, row, he, htm, hT, _, hTf⟩ := h.live_table h2 hnf ha hsl
  have hix := index_of_get he
  have hlt := lt_of_get hT
  have hmo : w.maskOf e = tmask w oldT := maskOf_eq hix
  have hpm : XchgPreM w (tmask w oldT) add rem rels := hmo ▸ hp.toM
  -- the destination `t` is looked up (`w1`, `lk`); `mv` is then what moving the row and registering the
  -- targets does, stated on the transformers `addMove`, `registerW`
  obtain ⟨t, a, w1, lk⟩ := xchgLookup h.rel (h.flags.upTo rels) h.freeEmpty
    (Nat.le_trans h.kindsLe.1 h.kindsLe.2) hlt hTf hpm
  have L := lk.ar.ready h hlt lk.ne hfew
  have hmget : ∀ (c : Comp), c ∈ (w1.tbl t).ids → (xmask add rem (tmask w oldT)).get c = true :=
    fun c hc => by rw [lk.idsEq, Mask.mem_toList] at hc; exact hc.2
  have mv := L.moved h he htm hTf (xmask add rem (tmask w oldT)) hmget (fun r hr _ => htin r hr) hrows
  have hcs := compsOf_of_entry he htm hT
  have holdIds := tbl_ids_iff_tmask h.rel.sinv.toSInvMid hlt
  -- the monadic run is that chain of transformers
  have hcore := exchangeCore_rel_eq run e add rem rels w hl ha hp.nonempty hix lk.call
    (fun evt => by rw [lk.ar.untouched.obs]; exact hno evt)
  have hroot := lk.root
  have hmreg := lk.mreg
  have hidsEq := lk.idsEq
  have hra := lk.relArchs
  -- all that is used of the new mask; from here on it is a variable, which keeps the terms below
  -- short (`hm` where its value is needed).  `generalize` does not reach inside `lk`, whose type
  -- does not show the mask: hence the copies of its fields above.
  generalize hm : xmask add rem (tmask w oldT) = m at mv hcore hroot hmreg hidsEq
  obtain ⟨_, _, fa, _⟩ := addMove_fields w1 e oldT row t m
  obtain ⟨fra, _⟩ := addMove_more w1 e oldT row t m
  have harch : ((registerW (addMove w1 e oldT row t m) rels).arch a).mask = m := by
    have : (registerW (addMove w1 e oldT row t m) rels).arch a = w1.arch a := by
      show (addMove w1 e oldT row t m).archetypes.getD a default = w1.archetypes.getD a default
      rw [fa]
    rw [this]; exact lk.ar.foc.archMask.trans hm
  refine ⟨registerW (addMove w1 e oldT row t m) rels, by
    rw [hcore, harch, hmo, ← hm]; rfl, ?_⟩
  -- the four target fields below are readings of this one equivalence: the moved row has the targets
  -- of its table `t`, which the lookup characterises
  have htgt : ∀ (c : Comp) (x : Ent),
      targetOf (registerW (addMove w1 e oldT row t m) rels) e.id c = some x ↔
      ((c ∉ rem ∧ targetOf w e.id c = some x) ∨ (⟨c, x⟩ : RelID) ∈ rels) := fun c x => by
    rw [mv.targets, lk.targetAt_iff, targetOf_of_entry he htm hT]
  exact
    { tinv := mv.tinv
      shape := ⟨oldT, row, t, a, m, _, w1, he, htm, lk.ne, hmreg, hroot, rfl⟩
      pool := mv.pool, obs := mv.obs, locks := mv.locks, kinds := mv.kinds, maxComps := mv.maxComps
      relArchs := by
        show (addMove w1 e oldT row t m).relationArchetypes.length ≤ _
        rw [fra]; exact hra
      comps := by
        intro cs hcs'
        obtain rfl := Option.some.inj (hcs.symm.trans hcs')
        -- `t`'s columns are `m` listed in order; what is in `m` is `lk.ids`
        rw [mv.comps, hidsEq]
        refine congrArg some (Refine.toList_eq_sortedIds _ _ _ fun c hcn => ?_)
        have : m.get c = true ↔ c ∈ (w1.tbl t).ids := by
          rw [hidsEq, Mask.mem_toList]; exact ⟨fun hh => ⟨hcn, hh⟩, fun hh => hh.2⟩
        rw [this, lk.ids, List.mem_append, List.mem_filter, holdIds c]
        simp only [decide_eq_true_eq]
      kept := fun c v hv hnr => by
        have hc := mem_comps_of_valOf hcs hv
        rw [mv.vals _ hcs c ((lk.ids c).2 (Or.inl ⟨(holdIds c).1 hc, hnr⟩)), if_pos hc, hv]
      added := fun c hc => by
        rw [mv.vals _ hcs c ((lk.ids c).2 (Or.inr hc)), if_neg]
        intro hh
        have := hpm.addNew c hc
        rw [(holdIds c).1 hh] at this; cases this
      gone := by
        intro c hc
        -- a removed component was in the old mask: not kept, and nothing of `add` was in the old mask
        have hnc : c ∉ (w1.tbl t).ids := by
          intro hh
          rcases (lk.ids c).1 hh with k | k
          · exact k.2 hc
          · have := hpm.addNew c k
            rw [hpm.remHas c hc] at this; cases this
        refine ⟨valOf_none_of_comps mv.comps hnc, ?_⟩
        cases hx : targetOf (registerW (addMove w1 e oldT row t m) rels) e.id c with
        | none => rfl
        | some x =>
          exfalso
          rcases (htgt c x).1 hx with k | k
          · exact k.1 hc
          · have := hpm.addNew c (hpm.relsIn _ k)
            rw [hpm.remHas c hc] at this; cases this
      targets := fun r hr => (htgt r.comp r.target).2 (Or.inr hr)
      oldTargets := fun c x hx hnr => (htgt c x).2 (Or.inl ⟨hnr, hx⟩)
      targetsOnly := fun c x hx => (htgt c x).1 hx
      frame := mv.frame
      tablesLen := mv.tablesLen
      entitiesLen := mv.entitiesLen }

end Ark

end

section

/-! ## §2 the access paths

A dead target, a non-relation component and a relation on a component that is not added are
  refused by the pre-validation on EVERY path, without effect (the rejection theorems:
  Ark/Props/C01Xchg.lean §1).  What only `GetTable` / `createTable` notice, AFTER the archetype was
  created — refused, but not without effect — is a relation component of the new archetype for
  which no relation is given and a relation component named twice (as for `Add` and `NewEntity`,
  see `Ark/Proofs/RelRefine.lean`, `guard`).
-/

set_option autoImplicit false

namespace Ark

open World Ark.Props.C01World

structure XchgRelPost (w : World) (fl : List Nat) (e : Ent) (add rem : List Comp)
    (vals : List (Comp × Val)) (rels : List RelID) (w' : World) : Prop where
  tinv : TInv w' fl
  pool : w'.pool = w.pool
  obs : w'.obs = w.obs
  locks : w'.locks = w.locks
  kinds : w'.kinds = w.kinds
  maxComps : w'.maxComps = w.maxComps
  relArchs : w'.relationArchetypes.length ≤ w.relationArchetypes.length + 1
  aliveSame : ∀ (x : Ent), w'.alive x = w.alive x
  comps : ∀ (cs : List Comp), compsOf w e.id = some cs →
    compsOf w' e.id =
      some (Refine.sortedIds w.kinds.length ((cs.filter fun c => decide (c ∉ rem)) ++ add))
  /-- a component that stays: its old value, overwritten by the last write to it (if any) -/
  kept : ∀ (c : Comp) (v : Val), valOf w e.id c = some v → c ∉ rem →
    valOf w' e.id c = some (if (w.kinds.getD c {}).zst = true then v else applyVals v vals c)
  /-- an added component: the last value written to it, zero if none (always zero if zero-size) -/
  added : ∀ (c : Comp), c ∈ add →
    valOf w' e.id c = some (if (w.kinds.getD c {}).zst = true then 0 else applyVals 0 vals c)
  /-- a removed component is gone, with its target (a write to it has no effect) -/
  gone : ∀ (c : Comp), c ∈ rem → valOf w' e.id c = none ∧ targetOf w' e.id c = none
  targets : ∀ (r : RelID), r ∈ rels → targetOf w' e.id r.comp = some r.target
  oldTargets : ∀ (c : Comp) (x : Ent), targetOf w e.id c = some x → c ∉ rem →
    targetOf w' e.id c = some x
  targetsOnly : ∀ (c : Comp) (x : Ent), targetOf w' e.id c = some x →
    (c ∉ rem ∧ targetOf w e.id c = some x) ∨ (⟨c, x⟩ : RelID) ∈ rels
  frame : ∀ (j : Nat), j ≠ e.id → SameEnt w w' j ∧ ∀ (c : Comp), targetOf w' j c = targetOf w j c
  tablesLen : w'.tables.length ≤ w.tables.length + 1
  entitiesLen : w'.entities.length = w.entities.length

theorem XchgPre.preCheck_ok {w : World} {e : Ent} {add rem : List Comp} {rels : List RelID}
    (hp : XchgPre w e add rem rels) (p : Path) (hk256 : w.kinds.length ≤ 256) :
    preCheck p add rels w = .ok () w :=
  preCheck_ok_of_mem p hp.targets hp.relsRel hp.relsIn fun r hr =>
    Nat.lt_of_lt_of_le (hp.addReg r.comp (hp.relsIn r hr)) hk256

/-- the writes after `World.exchange`: what the call guarantees, read off what its core does -/
theorem XchgCorePost.written {w : World} {fl : List Nat} (h : TInv w fl) {e : Ent} (h2 : 2 ≤ e.id)
    (hnf : e.id ∉ fl) (ha : w.alive e = true) (hsl : e.id < w.pool.ents.length)
    {add rem : List Comp} {rels : List RelID} (hp : XchgPre w e add rem rels) {w2 : World}
    (cp : XchgCorePost w fl e add rem rels w2) (vals : List (Comp × Val)) :
    XchgRelPost w fl e add rem vals rels (writeValsW w2 e vals) := by
  have hal2 : ∀ (x : Ent), w2.alive x = w.alive x := fun x => by simp only [World.alive, cp.pool]
  have ha2 : w2.alive e = true := by rw [hal2]; exact ha
  have wp := cp.tinv.writeValsRel h2 hnf ha2 (by rw [cp.pool]; exact hsl) vals
  obtain ⟨cs, hcs⟩ := h.compsOf_live h2 hnf ha hsl
  exact
    { tinv := wp.tinv
      pool := wp.pool.trans cp.pool
      obs := wp.obs.trans cp.obs
      locks := wp.locks.trans cp.locks
      kinds := wp.kinds.trans cp.kinds
      maxComps := wp.maxComps.trans cp.maxComps
      relArchs := by rw [wp.relArchs]; exact cp.relArchs
      aliveSame := fun x => by
        show (writeValsW w2 e vals).pool.alive x = w.pool.alive x
        rw [wp.pool, cp.pool]
      comps := fun cs hcs => by rw [wp.comps]; exact cp.comps cs hcs
      kept := by
        intro c v hv hnr
        rw [wp.vals c v (cp.kept c v hv hnr), cp.kinds]
      added := by
        intro c hc
        rw [wp.vals c 0 (cp.added c hc), cp.kinds]
      gone := by
        intro c hc
        refine ⟨?_, by rw [wp.targets]; exact (cp.gone c hc).2⟩
        apply valOf_none_of_comps (by rw [wp.comps]; exact cp.comps cs hcs)
        intro hm
        rcases List.mem_append.1 (Refine.mem_sortedIds.1 hm).2 with k | k
        · have := (List.mem_filter.1 k).2
          simp only [decide_eq_true_eq] at this
          exact this hc
        · have := hp.addNew c k
          rw [hp.remHas c hc] at this; cases this
      targets := fun r hr => by rw [wp.targets]; exact cp.targets r hr
      oldTargets := fun c x hx hnr => by rw [wp.targets]; exact cp.oldTargets c x hx hnr
      targetsOnly := fun c x hx => by rw [wp.targets] at hx; exact cp.targetsOnly c x hx
      frame := by
        intro j hj
        obtain ⟨s1, g1⟩ := cp.frame j hj
        exact ⟨s1.trans (wp.frame j hj), fun c => by rw [wp.targets]; exact g1 c⟩
      tablesLen := by rw [wp.tablesLen]; exact cp.tablesLen
      entitiesLen := wp.entitiesLen.trans cp.entitiesLen }

/-- **C01 + C04, `Exchange` with relations**, through any access path, writing `vals`: under the
    documented preconditions `XchgPre` (unlocked, no observers) the call never fails. -/
theorem opExchange_rel_spec (run : ProbeRunner) (p : Path) {w : World} {fl : List Nat}
    (h : TInv w fl) (hl : w.isLocked = false) (hno : ∀ (evt : Nat), w.obs.hasObservers evt = false)
    {e : Ent} (h2 : 2 ≤ e.id) (hnf : e.id ∉ fl) (ha : w.alive e = true)
    (hsl : e.id < w.pool.ents.length) {add rem : List Comp}
    {rels : List RelID} (hp : XchgPre w e add rem rels) (vals : List (Comp × Val))
    (htin : ∀ (r : RelID), r ∈ rels → r.target.id < w.pool.ents.length)
    (hfew : w.tables.length < maxU32) (hrows : w.entities.length + 1 < 2 ^ 32) :
    ∃ (w' : World), opExchange run p e add vals rem rels w = .ok () w' ∧
      XchgRelPost w fl e add rem vals rels w' := by
  obtain ⟨w2, hcore, cp⟩ := exchangeCore_rel_spec run h hl hno h2 hnf ha hsl hp htin hfew hrows
  exact ⟨_, opExchange_rel_eq run p e add vals rem rels w ha
    (hp.preCheck_ok p (Nat.le_trans h.kindsLe.1 h.kindsLe.2)) hcore
    (fun evt => by rw [cp.obs]; exact hno evt), cp.written h h2 hnf ha hsl hp vals⟩

namespace World

theorem opExchange_rel_panic_same (run : ProbeRunner) (p : Path) (e : Ent) (add : List Comp)
    (vals : List (Comp × Val)) (rem : List Comp) (rels : List RelID) (w : World) {k : PanicKind}
    (hcore : exchangeCore run e add rem rels w = .panic k w) :
    ∃ (k' : PanicKind), opExchange run p e add vals rem rels w = .panic k' w := by
  -- `Unsafe.Exchange` of a dead handle answers before the validation; otherwise the validation
  -- speaks first, then the core
  by_cases ha : p ≠ .unsafe_ ∨ w.alive e = true
  · rcases preCheck_cases p add rels w with h1 | ⟨k1, h1⟩
    · exact ⟨k, opExchange_core_panic run p e add vals rem rels w ha h1 hcore⟩
    · exact ⟨k1, opExchange_preCheck_panic run p e add vals rem rels w ha h1⟩
  · have hp : p = .unsafe_ := Decidable.not_not.1 fun h => ha (Or.inl h)
    subst hp
    exact ⟨_, opExchange_dead_first run e add vals rem rels w
      (Bool.eq_false_iff.mpr fun h => ha (Or.inr h))⟩

end World

theorem Good.exchange (run : ProbeRunner) (p : Path) {w : World} (h : Good w) {e : Ent}
    (ha : w.alive e = true) (hidx : (w.index e.id).1 ≠ maxU32) (hlt : e.id < w.entities.length)
    {add rem : List Comp} {rels : List RelID} (hp : XchgPre w e add rem rels)
    (vals : List (Comp × Val))
    (htin : ∀ (r : RelID), r ∈ rels → r.target.id < w.pool.ents.length)
    (hfew : w.tables.length < maxU32) (hrows : w.entities.length + 1 < 2 ^ 32) :
    panicOf (opExchange run p e add vals rem rels w) = none ∧
      Good (opExchange run p e add vals rem rels w).state := by
  obtain ⟨fl, ht, hl, hno⟩ := h
  obtain ⟨h2, hnf⟩ := live_of_indexed ht hidx hlt
  obtain ⟨w', hok, post⟩ := opExchange_rel_spec run p ht hl hno h2 hnf ha
    (by rw [← ht.link.lenEq]; exact hlt) hp vals htin hfew hrows
  rw [hok]
  exact ⟨rfl, Good.of_frame post.tinv post.locks post.obs hl hno⟩

end Ark

end

