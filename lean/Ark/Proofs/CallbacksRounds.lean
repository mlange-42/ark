/-
  One log function for every notification.  A ROUND is an entity with the observers notified for
  it, in order; `roundsLog rec rs X` is what running the rounds `rs` one after the other appends
  to the log of `X` (each on the world with the records of the earlier ones logged).  Its `cb`
  records (`roundCbs`) and, for a log-blind runner, its flat form (`roundFlat`) are proved once; the
  per-row loop of the batches (`fireRows_rounds`) and the guarded loop over tables around it
  (`guardedRounds`) run to `addLog (roundsLog …)`.
-/
import Ark.Proofs.Callbacks

set_option autoImplicit false

namespace Ark

open World Spec

abbrev Round := Ent × List Nat

/-- what the rounds `rs`, run one after the other, append to the log of `X` (newest first) -/
def roundsLog (rec : World → Nat → Ent → Probe → List LogEv) : List Round → World → List LogEv
  | [], _ => []
  | r :: rs, X => roundsLog rec rs (X.addLog (notifyAll rec r.1 r.2 X)) ++ notifyAll rec r.1 r.2 X

/-- the `cb` records of rounds, oldest first -/
def roundCbs (rs : List Round) : List (Nat × Ent) := rs.flatMap fun r => r.2.map fun l => (l, r.1)

section

variable {rec : World → Nat → Ent → Probe → List LogEv}

theorem roundsLog_append : ∀ (A B : List Round) (X : World),
    roundsLog rec (A ++ B) X = roundsLog rec B (X.addLog (roundsLog rec A X)) ++ roundsLog rec A X
  | [], _, _ => by simp only [List.nil_append, roundsLog, addLog_nil, List.append_nil]
  | r :: A, B, X => by
    simp only [List.cons_append, roundsLog, roundsLog_append A B, addLog_addLog, List.append_assoc]

theorem cbsOf_roundsLog (hn : NoCb rec) : ∀ (rs : List Round) (X : World),
    cbsOf (roundsLog rec rs X) = (roundCbs rs).reverse
  | [], _ => rfl
  | r :: rs, X => by
    rw [roundsLog, cbsOf_append, cbsOf_roundsLog hn rs, cbsOf_notifyAll hn]
    simp only [roundCbs, List.flatMap_cons, List.reverse_append]

/-- the flat records of rounds, all functions of `X` -/
def roundFlat (rec : World → Nat → Ent → Probe → List LogEv) (X : World) (rs : List Round) :
    List LogEv :=
  rs.reverse.flatMap fun r => r.2.reverse.flatMap fun l => notifyFlat rec l r.1 X

/-- for a log-blind runner every record of the rounds is a function of the ONE world `X` -/
theorem roundsLog_blind (hb : LogBlind rec) : ∀ (rs : List Round) (X : World),
    roundsLog rec rs X = roundFlat rec X rs
  | [], _ => rfl
  | r :: rs, X => by
    rw [roundsLog, roundsLog_blind hb rs, notifyAll_blind hb]
    unfold roundFlat
    rw [List.reverse_cons, List.flatMap_append, List.flatMap_singleton]
    exact congrArg (· ++ _) (flatMap_congr' fun x _ => flatMap_congr' fun l _ =>
      notifyFlat_addLog hb l x.1 X _)

theorem roundsLog_nobody : ∀ (rs : List Round) (X : World), (∀ r ∈ rs, r.2 = []) →
    roundsLog rec rs X = []
  | [], _, _ => rfl
  | r :: rs, X, h => by
    rw [roundsLog, h r List.mem_cons_self]
    simp only [notifyAll, addLog_nil, List.append_nil]
    exact roundsLog_nobody rs X fun r hr => h r (List.mem_cons_of_mem _ hr)

/-- the rounds of a batch notification over the rows of one table: the same observers for every
    entity -/
def rowRounds (fired : List Nat) (ents : List Ent) : List Round := ents.map fun e => (e, fired)

/-- **the batch idiom loses no callback** (`for i in rows: if !fire(row i, earlyOut) break;
    earlyOut = false`): `fire e earlyOut` notifies `fired` — the same list for every row, whatever
    `earlyOut` is — and reports whether there were any -/
theorem fireRows_rounds (fire : Ent → Bool → W Bool) (fired : List Nat) (o : ObsMgr)
    (hfire : ∀ (e : Ent) (eo : Bool) (w : World), w.obs = o →
      fire e eo w = .ok (!fired.isEmpty) (w.addLog (notifyAll rec e fired w))) :
    ∀ (ents : List Ent) (w : World), w.obs = o →
      fireRows fire ents w = .ok () (w.addLog (roundsLog rec (rowRounds fired ents) w)) := by
  have loop : ∀ (ents : List Ent) (eo : Bool) (w : World), w.obs = o →
      ∃ s, (forIn ents eo (fun e (s : Bool) => (do
          let found ← fire e s
          if (!found) = true then pure (ForInStep.done s)
          else pure (ForInStep.yield false) : W (ForInStep Bool))) : W Bool) w
        = .ok s (w.addLog (roundsLog rec (rowRounds fired ents) w)) := by
    intro ents
    induction ents with
    | nil => intro eo w _; exact ⟨eo, rfl⟩
    | cons e es ih =>
      intro eo w hw
      rw [List.forIn_cons, M.bind_apply, M.bind_apply, hfire e eo w hw]
      cases hf : fired with
      | nil =>
        -- the loop breaks at the first row; the log claimed for ALL rows is empty all the same,
        -- every round being `(e, [])`: this case is the whole content of "loses no callback"
        refine ⟨eo, ?_⟩
        rw [roundsLog_nobody _ _ (by simp [rowRounds])]
        rfl
      | cons x xs =>
        obtain ⟨s, hs⟩ := ih false (w.addLog (notifyAll rec e (x :: xs) w)) (by rw [← hw]; rfl)
        refine ⟨s, ?_⟩
        simp only [List.isEmpty_cons, Bool.not_false, Bool.not_true, Bool.false_eq_true, if_false,
          M.pure_apply]
        rw [← hf] at hs ⊢
        rw [hs]
        simp only [rowRounds, List.map_cons, roundsLog, addLog_addLog]
  intro ents w hw
  obtain ⟨s, hs⟩ := loop ents true w hw
  unfold fireRows
  simp only [M.bind_apply]
  rw [hs]
  rfl

/-- **a guarded loop of event rounds** (`if hasObservers evt { for b in bs { for the rows of b } }`):
    item by item, row by row, the observers the documented rule selects for the instance `ev w b`
    (instance and rows are read off the world, not off its log).  Without observers of the event
    type nobody would be selected: the guard loses no callback. -/
theorem guardedRounds {β : Type} {o : ObsMgr} (hok : ObsOK o) (evt : Nat) (ev : World → β → EvInst)
    (ents : World → β → List Ent)
    (hev : ∀ (Y : World) (lg : List LogEv) (b : β), ev (Y.addLog lg) b = ev Y b)
    (hents : ∀ (Y : World) (lg : List LogEv) (b : β), ents (Y.addLog lg) b = ents Y b)
    (fire : World → β → Ent → Bool → W Bool)
    (hfire : ∀ (Y : World) (b : β) (e : Ent) (eo : Bool) (Z : World), Z.obs = o →
      fire Y b e eo Z = .ok (!(firing o evt (ev Y b)).isEmpty)
        (Z.addLog (notifyAll rec e (firing o evt (ev Y b)) Z)))
    (bs : List β) (X : World) (hX : X.obs = o) :
    (if o.hasObservers evt = true then
        (forIn bs PUnit.unit (fun b (_ : PUnit) => (do
          let w ← M.get
          fireRows (fire w b) (ents w b)
          pure (ForInStep.yield PUnit.unit) : W (ForInStep PUnit))) : W PUnit)
      else pure PUnit.unit) X
      = .ok PUnit.unit (X.addLog (roundsLog rec
          (bs.flatMap fun b => rowRounds (firing o evt (ev X b)) (ents X b)) X)) := by
  cases hE : o.hasObservers evt with
  | false =>
    rw [roundsLog_nobody _ _ (by
      intro r hr
      simp only [rowRounds, List.mem_flatMap, List.mem_map] at hr
      obtain ⟨_, _, _, _, rfl⟩ := hr
      exact firing_nil_of_no_observers (hok.agg _) hE _)]
    rfl
  | true =>
    rw [if_pos rfl]
    induction bs generalizing X with
    | nil => rfl
    | cons b bs ih =>
      rw [List.forIn_cons, M.bind_apply]
      simp only [M.bind_apply, M.get_apply]
      rw [fireRows_rounds (rec := rec) _ _ o (hfire X b) _ X hX]
      simp only [M.pure_apply]
      rw [ih (X.addLog _) hX, List.flatMap_cons, roundsLog_append, addLog_addLog]
      simp only [hev, hents]

theorem roundCbs_flatMap {α : Type} (as : List α) (R : α → List Round) :
    roundCbs (as.flatMap R) = as.flatMap fun a => roundCbs (R a) := List.flatMap_assoc

theorem roundCbs_rowRounds (fired : List Nat) (ents : List Ent) :
    roundCbs (rowRounds fired ents) = ents.flatMap fun e => fired.map fun l => (l, e) :=
  List.flatMap_map _ _ _

theorem roundFlat_addLog (hb : LogBlind rec) (X : World) (lg : List LogEv) (rs : List Round) :
    roundFlat rec (X.addLog lg) rs = roundFlat rec X rs :=
  flatMap_congr' fun r _ => flatMap_congr' fun l _ => notifyFlat_addLog hb l r.1 X lg

theorem roundFlat_flatMap {α : Type} (X : World) (as : List α) (R : α → List Round) :
    roundFlat rec X (as.flatMap R) = as.reverse.flatMap fun a => roundFlat rec X (R a) := by
  unfold roundFlat
  rw [List.reverse_flatMap, List.flatMap_assoc]
  rfl

theorem roundFlat_rowRounds (X : World) (fired : List Nat) (ents : List Ent) :
    roundFlat rec X (rowRounds fired ents)
      = ents.reverse.flatMap fun e => fired.reverse.flatMap fun l => notifyFlat rec l e X := by
  unfold roundFlat rowRounds
  rw [← List.map_reverse, List.flatMap_map]

end

end Ark
