/-
  Property C19 for worlds WITH relation tables, the state level: a relation archetype has any number of
  active tables, and `archetype.UpdateStats` follows it; the figures `Stats()` reports agree with the
  contents of a state of the relation machine (`AgreeRel`); and the per-table list of
  `archetype.UpdateStats` loop by loop on the RE-USED slice, as the Go code works.
-/
import Ark.Proofs.QueryRelHist
import Ark.Proofs.RelRefine
import Ark.Proofs.StatsCount

section

/-! ## §1 the state level

  A relation archetype has any number of ACTIVE tables (one per combination of relation
  targets); the number shrinks (a target dies → `cleanupArchetypes` frees the table; `Shrink`
  frees empty relation tables; `Reset` frees all) and grows again (a freed table is recycled, a
  new one appended).  `archetype.UpdateStats` re-uses the per-table list of the stored object.

  The weakest condition on the stored object: `statsUpdate w st = statsFresh w ↔ AgreesOn st w`
  (every stored archetype entry that has an archetype at its position carries that archetype's
  three immutable figures); nothing is demanded of the stored per-table lists, of the stored
  counters, or of the NUMBER of stored archetype entries.  Then the counting at a state of the
  relation machine, through `Rows` of `Ark.Proofs.StatsCount`.
-/

set_option autoImplicit false

namespace Ark

open World Ark.Props.C01World

namespace World

/-! ### the weakest condition on the stored object -/

/-- **whatever the stored entry looks like** — more table entries than the archetype has active
    tables now (tables were freed), fewer (tables were created or recycled), or as many — the
    updated entry lists exactly the active tables, in the archetype's order, each with its
    current length and capacity -/
theorem archStatsUpdate_tables (w : World) (A : Archetype) (s : ArchStats) :
    (w.archStatsUpdate A s).tables =
      A.tables.tables.map fun t => tableStats (w.tbl t) s.memoryPerEntity := by
  simp only [archStatsUpdate, map_take_append_map_drop]

theorem archStatsUpdate_tables_length (w : World) (A : Archetype) (s : ArchStats) :
    (w.archStatsUpdate A s).tables.length = A.tables.tables.length := by
  rw [archStatsUpdate_tables, List.length_map]

theorem archStatsUpdate_table_entry (w : World) (A : Archetype) (s : ArchStats) (j t : Nat)
    (h : A.tables.tables[j]? = some t) :
    (w.archStatsUpdate A s).tables[j]? = some
      { size := (w.tbl t).len, capacity := (w.tbl t).cap
        memory := (w.tbl t).cap * s.memoryPerEntity
        memoryUsed := (w.tbl t).len * s.memoryPerEntity } := by
  simp [archStatsUpdate_tables, h, tableStats]

theorem archStatsUpdate_figures (w : World) (A : Archetype) (s : ArchStats) :
    (w.archStatsUpdate A s).size = (A.tables.tables.map fun t => (w.tbl t).len).sum ∧
    (w.archStatsUpdate A s).capacity =
      (A.tables.tables.map fun t => (w.tbl t).cap).sum +
        (A.freeTables.map fun t => (w.tbl t).cap).sum ∧
    (w.archStatsUpdate A s).freeTables = A.freeTables.length ∧
    (w.archStatsUpdate A s).memoryPerEntity = s.memoryPerEntity ∧
    (w.archStatsUpdate A s).componentIDs = s.componentIDs ∧
    (w.archStatsUpdate A s).numRelations = s.numRelations := by
  refine ⟨?_, ?_, rfl, rfl, rfl, rfl⟩
  · simp [archStatsUpdate, foldl_add_zero, tableStats, Function.comp_def]
  · simp [archStatsUpdate, foldl_add_zero, tableStats, Function.comp_def]

/-- **the weakest condition** on a stored statistics object: every stored archetype entry that
    has an archetype at its position carries that archetype's `memoryPerEntity`, `componentIDs`
    and `numRelations`.  (`Compatible` of `Ark.Proofs.Stats` is this plus "no more entries than
    archetypes", which the Go code needs not to index out of range but the result does not.) -/
def AgreesOn (st : WorldStats) (w : World) : Prop :=
  ∀ (i : Nat) (s : ArchStats) (A : Archetype),
    st.archetypes[i]? = some s → w.archetypes[i]? = some A → StatAgrees w s A

theorem Compatible.agreesOn {st : WorldStats} {w : World} (h : Compatible st w) : AgreesOn st w :=
  h.2

/-- **C19 with relations, state level, incremental = fresh: an equivalence.**  For ANY world and
    ANY stored statistics object: `World.Stats()` computes the fresh statistics iff the stored
    object satisfies `AgreesOn`. -/
theorem statsUpdate_eq_fresh_iff (w : World) (st : WorldStats) :
    w.statsUpdate st = w.statsFresh ↔ AgreesOn st w := by
  constructor
  · intro h
    have ha : (w.statsUpdate st).archetypes = w.statsFresh.archetypes := by rw [h]
    exact (zip_update_eq_fresh_iff w st.archetypes w.archetypes).mp ha
  · intro h
    have hz := (zip_update_eq_fresh_iff w st.archetypes w.archetypes).mpr h
    simp only [statsUpdate, statsFresh, hz]

theorem opStats_of_agreesOn (w : World) (h : AgreesOn w.stats w) :
    opStats w = .ok w.statsFresh { w with stats := w.statsFresh } := by
  simp only [opStats, (statsUpdate_eq_fresh_iff w w.stats).mpr h]

/-- a stored object with more archetype entries than the world has archetypes (not producible by
    `Stats()` on an earlier state, archetypes are never removed) is still repaired -/
theorem agreesOn_fresh_self (w : World) : AgreesOn w.statsFresh w := (compatible_fresh_self w).2

end World

/-! ### counting at a state of the relation machine -/

namespace RelRefine

open Refine (Comps keys sortedIds)

variable {s : St} {fl : List Nat}

theorem HInv.used_eq (H : HInv s fl) : s.w.pool.len = s.ss.ents.length :=
  H.ginv.used_eq.trans (List.length_map _)

theorem HInv.total_eq (H : HInv s fl) : s.w.pool.len + s.w.pool.available = s.w.pool.cap :=
  H.ginv.total_eq

theorem HInv.alive_count (H : HInv s fl) :
    (s.issued.filter fun e => s.w.alive e).length = s.ss.ents.length :=
  (H.ginv.alive_count H.nodup).trans (List.length_map _)

/-- the component set the specification records for an entry, as the world lists it -/
def specComps (s : St) (x : Ent × Entry) : List Comp := sortedIds s.ss.zst.length (keys x.2.comps)

/-- rows ↔ specification entries at a state of the relation machine: an entry lives in an
    ACTIVE table of the archetype with its component set -/
theorem HInv.rows (H : HInv s fl) : Rows s.w s.ss.ents (specComps s) where
  sinv := H.tinv.rel.sinv.toSInvMid
  ids := H.ginv.ids_nodup
  row := fun ht hr => by
    obtain ⟨r2, rnf, rix⟩ := H.tinv.link.row_live_id ht hr
    obtain ⟨e, he, hid⟩ := H.ginv.live_of_slot r2 rnf
      (H.tinv.link.lenEq ▸ (List.getElem?_eq_some_iff.mp rix).1)
    obtain ⟨x, hx, hx1⟩ := List.mem_map.mp he
    exact ⟨rix, x, hx, by rw [hx1]; exact hid⟩
  entry := fun x hx => by
    obtain ⟨hiss, ha, h2, hnf, _, _⟩ := H.live_facts (e := x.1) (en := x.2) hx
    obtain ⟨t, r, hentry, htm, _⟩ := H.tinv.link.live_entry h2 hnf ha (H.issued_in hiss)
    obtain ⟨hTlt, hr, hid⟩ := H.tinv.link.table_of_entry hentry htm
    have hT := get_of_lt hTlt
    have hS := H.tinv.rel.sinv.toSInvMid
    obtain ⟨A, hA, e1, _⟩ := hS.tblArch t _ hT
    have hco := (H.ok x.1 x.2 hx).comps
    rw [compsOf_of_entry hentry htm hT, Option.some.injEq] at hco
    have hfree : (s.w.tbl t).isFree = false := by
      cases hf : (s.w.tbl t).isFree with
      | false => rfl
      | true => have := H.tinv.freeEmpty t _ hT hf; omega
    refine ⟨t, r, hentry, hr, hid, alt_of_get hA, ?_, ((hS.member t _ hT).1).mp hfree⟩
    rw [specComps, H.zlen, ← hco, e1, arch_of_get hA]

theorem HInv.table_count (H : HInv s fl) {t : Nat} (ht : t < s.w.tables.length) :
    (s.w.tbl t).len = (s.ss.ents.filter fun x => decide ((s.w.index x.1.id).1 = t)).length :=
  H.rows.table_count ht

theorem HInv.comps_of_table (H : HInv s fl) {a t : Nat} (ha : a < s.w.archetypes.length)
    (ht : t ∈ (s.w.arch a).tables.tables) {x : Ent × Entry} (hx : x ∈ s.ss.ents)
    (hi : (s.w.index x.1.id).1 = t) : specComps s x = (s.w.arch a).comps :=
  H.rows.comps_of_table ha ht hx hi

theorem HInv.arch_count (H : HInv s fl) {a : Nat} (ha : a < s.w.archetypes.length) :
    (s.w.archStatsFresh (s.w.arch a)).size =
      (s.ss.ents.filter fun x => decide (specComps s x = (s.w.arch a).comps)).length :=
  H.rows.arch_count ha

/-- **what a table entry counts**: an entity indexed to table `t` has exactly the relation
    targets the table lists (and, `comps_of_table`, the component set of the table's archetype) -/
theorem HInv.table_rels (H : HInv s fl) {x : Ent × Entry} (hx : x ∈ s.ss.ents) (r : RelID) :
    r ∈ (s.w.tbl (s.w.index x.1.id).1).relIDs ↔ r ∈ x.2.rels := by
  obtain ⟨e, en⟩ := x
  obtain ⟨hiss, ha, h2, hnf, _, _⟩ := H.live_facts hx
  obtain ⟨t, row, hentry, htm, _⟩ := H.tinv.link.live_entry h2 hnf ha (H.issued_in hiss)
  obtain ⟨hTlt, _, _⟩ := H.tinv.link.table_of_entry hentry htm
  have hT := get_of_lt hTlt
  have hS := H.tinv.rel.sinv.toSInvMid
  have hnd : (s.w.tbl t).ids.Nodup := hS.ids_nodup hT
  have hfree : (s.w.tbl t).isFree = false := by
    cases hf : (s.w.tbl t).isFree with
    | false => rfl
    | true => have := H.tinv.freeEmpty t _ hT hf; have := (H.tinv.link.table_of_entry hentry htm).2.1; omega
  have hex := H.tinv.rel.aux.rels t _ hT hfree
  have ok := H.ok e en hx
  have htgt : ∀ (c : Comp), targetOf s.w e.id c = (s.w.tbl t).targetAt c :=
    fun c => targetOf_of_entry hentry htm hT c
  show r ∈ (s.w.tbl (s.w.index e.id).1).relIDs ↔ r ∈ en.rels
  rw [index_of_get hentry]
  simp only
  constructor
  · intro hr
    obtain ⟨i, h1, h2, h3⟩ := hex.sound r hr
    have hat : (s.w.tbl t).targetAt r.comp = some r.target := by
      simp only [Table.targetAt, Table.colIdx_of_get hnd h1, Option.bind_some, h2, if_true, h3]
    have hsome : (targetOf s.w e.id r.comp).isSome = true := by rw [htgt, hat]; rfl
    have hmem := (H.target_isSome_iff hx r.comp).mp hsome
    obtain ⟨r', hr', hc⟩ := List.mem_map.mp hmem
    have h4 := ok.tgts r' hr'
    rw [hc, htgt, hat] at h4
    have : r' = r := by
      cases r; cases r'
      simp only at hc
      subst hc
      simp only at h4
      rw [Option.some.inj h4]
    rw [← this]; exact hr'
  · intro hr
    have h4 := ok.tgts r hr
    rw [htgt] at h4
    obtain ⟨k, hc, hk, hx⟩ := Table.col_of_targetAt h4
    have := hex.complete k r.comp ((Table.colIdx_iff hnd).mp hc) hk
    rw [hx] at this
    exact this

theorem HInv.sum_arch_sizes (H : HInv s fl) :
    ((s.w.archetypes.map s.w.archStatsFresh).map (·.size)).sum = s.ss.ents.length :=
  H.rows.sum_arch_sizes

end RelRefine

end Ark

end

section

/-! ## §2 the reported figures agree with the state

Property C19 for worlds WITH relation tables: the figures `Stats()`
  reports agree with the contents of a state of the relation machine (`AgreeRel`).  Against
  `StatsHist.Agree` (one table per archetype for ever): the entry at position `i` describes
  archetype `i` with one table entry per ACTIVE table, in the archetype's order, `size` = Σ over
  the active tables, `capacity` = Σ over active and free tables.  Hence for ANY stored object
  satisfying `AgreesOn`, `Stats()` returns (and stores) statistics that agree
  (`stats_exact_state` of Ark/Props/C19Rel.lean).
-/

set_option autoImplicit false

namespace Ark

open World Ark.Props.C01World

/-! ### list facts -/

/-- a flag list that is pointwise the image of a key list -/
theorem eq_map_of_getD {α : Type} (f : α → Bool) :
    ∀ (bs : List Bool) (cs : List α), bs.length = cs.length →
      (∀ (i : Nat) (c : α), cs[i]? = some c → bs.getD i false = f c) → bs = cs.map f := by
  intro bs
  induction bs with
  | nil =>
    intro cs hl _
    cases cs with
    | nil => rfl
    | cons c cs => simp at hl
  | cons b bs ih =>
    intro cs hl h
    cases cs with
    | nil => simp at hl
    | cons c cs =>
      have h0 := h 0 c rfl
      simp only [List.getD_cons_zero] at h0
      rw [List.map_cons, h0, ih cs (by simpa using hl)
        (fun i c' hc => by simpa using h (i + 1) c' (by simpa using hc))]

theorem length_filter_map_id {α : Type} (f : α → Bool) (cs : List α) :
    ((cs.map f).filter fun b => b).length = (cs.filter f).length := by
  induction cs with
  | nil => rfl
  | cons c cs ih =>
    simp only [List.map_cons, List.filter_cons]
    cases f c <;> simp [ih]

namespace RelRefine

open Refine (Comps keys sortedIds)

/-- **what C19 demands of the statistics `st` reported at the state `s`** of the relation
    machine. -/
structure AgreeRel (s : St) (st : WorldStats) : Prop where
  /-- `used` = number of specification entries … -/
  used_spec : st.used = s.ss.ents.length
  /-- … = number of issued handles that are alive … -/
  used_alive : st.used = (s.issued.filter fun e => s.w.alive e).length
  /-- … = Σ archetype sizes … -/
  used_archs : st.used = (st.archetypes.map (·.size)).sum
  /-- … = Σ table sizes (over the entries of all ACTIVE tables) -/
  used_tables : st.used = ((st.archetypes.flatMap (·.tables)).map (·.size)).sum
  /-- `total = used + recycled` -/
  total : st.total = st.used + st.recycled
  /-- one archetype entry per archetype of the world -/
  arch_len : st.archetypes.length = s.w.archetypes.length
  /-- per archetype: `size` = number of specification entries with exactly its component set -/
  arch_size : ∀ (a : ArchStats), a ∈ st.archetypes →
    a.size = (s.ss.ents.filter fun x => decide (specComps s x = a.componentIDs)).length
  /-- no two archetype entries have the same component list -/
  arch_unique : ∀ (i j : Nat) (a b : ArchStats), st.archetypes[i]? = some a →
    st.archetypes[j]? = some b → a.componentIDs = b.componentIDs → i = j
  /-- the component set of every entity is the component list of an archetype entry -/
  arch_complete : ∀ (x : Ent × Entry), x ∈ s.ss.ents →
    ∃ (a : ArchStats), a ∈ st.archetypes ∧ a.componentIDs = specComps s x
  /-- the component lists name registered components -/
  arch_reg : ∀ (a : ArchStats), a ∈ st.archetypes → ∀ (c : Comp), c ∈ a.componentIDs →
    c < s.ss.zst.length
  /-- **the entry at position `i` describes archetype `i`**: component list, relation count,
      number of free tables; ONE TABLE ENTRY PER ACTIVE TABLE, in the archetype's order, with
      the table's length (= the number of specification entries indexed to it) and capacity;
      `size` = Σ table entries, `capacity` = Σ table entries + Σ capacities of the free tables -/
  arch_entry : ∀ (i : Nat) (A : Archetype), s.w.archetypes[i]? = some A →
    ∃ (a : ArchStats), st.archetypes[i]? = some a ∧
      a.componentIDs = A.comps ∧ a.numRelations = A.numRel ∧
      a.freeTables = A.freeTables.length ∧
      a.tables.length = A.tables.tables.length ∧
      (∀ (j t : Nat), A.tables.tables[j]? = some t → ∃ (ts : TableStats),
        a.tables[j]? = some ts ∧ ts.size = (s.w.tbl t).len ∧ ts.capacity = (s.w.tbl t).cap ∧
        ts.size = (s.ss.ents.filter fun x => decide ((s.w.index x.1.id).1 = t)).length) ∧
      a.size = (a.tables.map (·.size)).sum ∧
      a.capacity = (a.tables.map (·.capacity)).sum +
        (A.freeTables.map fun t => (s.w.tbl t).cap).sum
  /-- the relation count is the number of relation components among the component IDs -/
  num_rel : ∀ (a : ArchStats), a ∈ st.archetypes →
    a.numRelations = (a.componentIDs.filter fun c => s.ss.isRel.getD c false).length
  /-- an archetype without relation component has exactly one table, no free one -/
  nonrel_shape : ∀ (a : ArchStats), a ∈ st.archetypes → a.numRelations = 0 →
    ∃ (t : TableStats), a.tables = [t] ∧ t.size = a.size ∧ t.capacity = a.capacity ∧
      a.freeTables = 0
  /-- every table: `size ≤ capacity` -/
  table_le : ∀ (a : ArchStats), a ∈ st.archetypes → ∀ (t : TableStats), t ∈ a.tables →
    t.size ≤ t.capacity
  /-- memory per entity: 8 bytes for the handle plus the registered sizes of the components -/
  mpe : ∀ (a : ArchStats), a ∈ st.archetypes →
    a.memoryPerEntity = 8 + (a.componentIDs.map fun c => (s.w.kinds.getD c {}).size).sum
  arch_memory : ∀ (a : ArchStats), a ∈ st.archetypes →
    a.memory = a.memoryPerEntity * a.capacity ∧ a.memoryUsed = a.memoryPerEntity * a.size
  table_memory : ∀ (a : ArchStats), a ∈ st.archetypes → ∀ (t : TableStats), t ∈ a.tables →
    t.memory = t.capacity * a.memoryPerEntity ∧ t.memoryUsed = t.size * a.memoryPerEntity
  memory : st.memory = (st.archetypes.map (·.memory)).sum ∧
    st.memoryUsed = (st.archetypes.map (·.memoryUsed)).sum ∧ st.memoryUsed ≤ st.memory
  /-- filter, observer, lock and registry figures -/
  cachedFilters : st.cachedFilters = s.w.cache.filters.length
  observers : st.observers = s.w.obs.totalCount
  locked : st.locked = false
  numComponents : st.numComponents = s.ss.zst.length

theorem tables_le {s : St} {fl : List Nat} (H : HInv s fl) (t : Nat) :
    (s.w.tbl t).len ≤ (s.w.tbl t).cap :=
  (IdxInv_tbl_shape H.tinv.link.idx t).len_le

/-- the relation count of an archetype, from the registry -/
theorem HInv.numRel_spec {s : St} {fl : List Nat} (H : HInv s fl) {i : Nat} {A : Archetype}
    (hA : s.w.archetypes[i]? = some A) :
    A.numRel = (A.comps.filter fun c => s.ss.isRel.getD c false).length := by
  have hS := H.tinv.rel.sinv.toSInvMid
  have hisRel : A.isRel = A.comps.map fun c => s.ss.isRel.getD c false := by
    apply eq_map_of_getD _ _ _ (hS.comps i A hA).2.1
    intro j c hc
    rw [(hS.kindsOf i A j c hA hc).1, H.rget]; rfl
  rw [(hS.astruct i A hA).numRelEq, hisRel, length_filter_map_id]

/-- **the fresh statistics of a state satisfying the invariant agree with its contents** -/
theorem agreeRel_fresh {s : St} {fl : List Nat} (H : HInv s fl) : AgreeRel s (statsFresh s.w) := by
  have hS := H.tinv.rel.sinv
  have R := H.rows
  have hused : (statsFresh s.w).used = s.ss.ents.length := H.used_eq
  exact
    { used_spec := hused
      used_alive := hused.trans H.alive_count.symm
      used_archs := hused.trans R.fresh_sum.symm
      used_tables := by
        rw [hused, ← R.fresh_sum]
        exact (sum_flatMap_tables _ (forall_fresh fun _ _ => fresh_size_tables s.w _)).symm
      total := H.total_eq.symm
      arch_len := by rw [world_archetypes, List.length_map]
      arch_size := forall_fresh fun _ hi => R.arch_count hi
      arch_unique := R.sinv.fresh_unique
      arch_complete := R.fresh_complete
      arch_reg := forall_fresh fun i hi c hcm => by
        rw [H.zlen]; exact R.sinv.comps_lt (List.mem_of_getElem? (aget_of_lt hi)) hcm
      arch_entry := fun i A hA => by
        have hAi : s.w.arch i = A := arch_of_get hA
        refine ⟨s.w.archStatsFresh A, ?_, rfl, rfl, rfl, fresh_tables_length s.w A, ?_,
          fresh_size_tables s.w A, fresh_capacity_tables s.w A⟩
        · rw [world_archetypes, List.getElem?_map, hA]; rfl
        · intro j t hj
          have ht : t ∈ (s.w.arch i).tables.tables := by rw [hAi]; exact List.mem_of_getElem? hj
          exact ⟨_, fresh_table_entry_get s.w A j t hj, rfl, rfl,
            H.table_count (R.sinv.active (alt_of_get hA) ht).1⟩
      num_rel := forall_fresh fun i hi => H.numRel_spec (aget_of_lt hi)
      nonrel_shape := forall_fresh fun i hi hnr => by
        have hnr' : (s.w.arch i).hasRelations = false := by
          have : (s.w.arch i).numRel = 0 := hnr
          simp [Archetype.hasRelations, this]
        obtain ⟨h1, hfree⟩ := hS.nonRel i _ (aget_of_lt hi) hnr'
        obtain ⟨t, hts⟩ := List.length_eq_one_iff.mp h1
        exact fresh_one_table hts hfree
      table_le := forall_fresh fun _ _ =>
        fresh_table_size_le s.w _ fun t _ => tables_le H t
      mpe := forall_fresh fun _ _ => World.memPerEntity_eq s.w _
      arch_memory := forall_fresh fun _ _ => ⟨fresh_memory s.w _, fresh_memoryUsed s.w _⟩
      table_memory := forall_fresh fun _ _ => fresh_table_entry s.w _
      memory := ⟨World.world_memory s.w, World.world_memoryUsed s.w,
        World.world_memoryUsed_le s.w fun _ _ t _ => tables_le H t⟩
      cachedFilters := rfl
      observers := rfl
      locked := H.unlocked
      numComponents := H.zlen.symm }

theorem AgreeRel.setStats {s : St} {st : WorldStats} (A : AgreeRel s st) (st' : WorldStats) :
    AgreeRel ⟨{ s.w with stats := st' }, s.issued, s.ss⟩ st :=
  ⟨A.used_spec, A.used_alive, A.used_archs, A.used_tables, A.total, A.arch_len, A.arch_size,
    A.arch_unique, A.arch_complete, A.arch_reg, A.arch_entry, A.num_rel, A.nonrel_shape,
    A.table_le, A.mpe, A.arch_memory, A.table_memory, A.memory, A.cachedFilters, A.observers,
    A.locked, A.numComponents⟩

end RelRefine

end Ark

end

section

/-! ## §3 the per-table list, loop by loop on the re-used slice

  The model's `archStatsUpdate` writes the new table list as `upd ++ app` where both parts are
  computed from the archetype's active tables; the Go code works on the re-used slice
  `stats.Tables` itself:

      cntOld := len(stats.Tables); cntNew := len(tables)
      if cntNew < cntOld { stats.Tables = stats.Tables[:cntNew]; cntOld = cntNew }
      for i := range cntOld       { tables[i].UpdateStats(mpe, &stats.Tables[i]) }   // in place
      for i = cntOld; i < cntNew; i++ { stats.Tables = append(stats.Tables, tables[i].Stats(mpe)) }

  `tablesGo truncate w A s` is these loops, literally, on the stored list `s.tables`
  (`truncate = false`: the truncation line dropped and `cntOld := min(cntOld, cntNew)`, which keeps
  all indices in range).  With the truncation they compute the model's list; without it the stale
  tail `s.tables.drop cntNew` survives, so the truncation is needed exactly in the situation that
  only relation archetypes produce: fewer active tables than at the previous call.
-/

set_option autoImplicit false

namespace Ark
namespace World

/-- the first loop: entries `0 … k-1` of the re-used slice are overwritten in place -/
def updLoop (g : Nat → TableStats) (k : Nat) (old : List TableStats) : List TableStats :=
  (List.range k).foldl (fun ts i => ts.set i (g i)) old

/-- the second loop: entries `lo … hi-1` are appended -/
def appLoop (g : Nat → TableStats) (lo hi : Nat) (ts : List TableStats) : List TableStats :=
  (List.range (hi - lo)).foldl (fun ts k => ts ++ [g (lo + k)]) ts

/-- `archetype.UpdateStats`, the per-table list, on the re-used slice `s.tables` -/
def tablesGo (truncate : Bool) (w : World) (A : Archetype) (s : ArchStats) : List TableStats :=
  let tables := A.tables.tables
  let g : Nat → TableStats := fun i => tableStats (w.tbl (tables.getD i 0)) s.memoryPerEntity
  let cntNew := tables.length
  let old := if cntNew < s.tables.length ∧ truncate = true then s.tables.take cntNew else s.tables
  let cntOld := min s.tables.length cntNew
  appLoop g cntOld cntNew (updLoop g cntOld old)

theorem updLoop_eq (g : Nat → TableStats) : ∀ (k : Nat) (old : List TableStats), k ≤ old.length →
    updLoop g k old = (List.range k).map g ++ old.drop k := by
  intro k
  induction k with
  | zero => intro old _; simp [updLoop]
  | succ k ih =>
    intro old hk
    have ih' := ih old (by omega)
    unfold updLoop at ih' ⊢
    rw [List.range_succ, List.foldl_append, List.foldl_cons, List.foldl_nil, ih']
    have hlen : ((List.range k).map g).length = k := by simp
    rw [List.set_append_right _ _ (by rw [hlen]; exact Nat.le_refl _), hlen, Nat.sub_self]
    have hd : old.drop k = old[k] :: old.drop (k + 1) := by
      rw [List.drop_eq_getElem_cons (by omega)]
    rw [hd, List.set_cons_zero, List.map_append, List.map_cons, List.map_nil,
      List.append_assoc, List.singleton_append]

theorem appLoop_eq (g : Nat → TableStats) (lo : Nat) : ∀ (n : Nat) (ts : List TableStats),
    (List.range n).foldl (fun ts k => ts ++ [g (lo + k)]) ts =
      ts ++ (List.range n).map fun k => g (lo + k) := by
  intro n
  induction n with
  | zero => intro ts; simp
  | succ n ih =>
    intro ts
    rw [List.range_succ, List.foldl_append, List.foldl_cons, List.foldl_nil, ih,
      List.map_append, List.map_cons, List.map_nil, List.append_assoc]

theorem range_map_getD (f : Nat → TableStats) (l : List Nat) :
    ((List.range l.length).map fun i => f (l.getD i 0)) = l.map f := by
  apply List.ext_getElem
  · simp
  · intro i h1 h2
    have hi : i < l.length := by simpa using h1
    simp [List.getD_eq_getElem?_getD, List.getElem?_eq_getElem hi]

/-- both loops together, for a re-used slice `old` with at least `k ≤ n` entries: the first `k`
    entries are rewritten, what lay behind them STAYS, the entries `k … n-1` are appended -/
theorem loops_eq (g : Nat → TableStats) (k n : Nat) (old : List TableStats) (hk : k ≤ old.length) :
    appLoop g k n (updLoop g k old) = (List.range k).map g ++ old.drop k ++
      (List.range (n - k)).map fun j => g (k + j) := by
  unfold appLoop
  rw [appLoop_eq, updLoop_eq g k old hk]

theorem range_split (g : Nat → TableStats) (k n : Nat) (hkn : k ≤ n) :
    (List.range k).map g ++ ((List.range (n - k)).map fun j => g (k + j)) = (List.range n).map g := by
  apply List.ext_getElem
  · simp; omega
  · intro i h1 h2
    have hi : i < n := by simpa using h2
    by_cases hik : i < k
    · rw [List.getElem_append_left (by simpa using hik)]
      simp
    · rw [List.getElem_append_right (by simpa using hik)]
      simp only [List.length_map, List.length_range, List.getElem_map, List.getElem_range]
      congr 1
      omega

/-- the result of the loops, with and without truncation: the model's list, followed — when the
    truncation is dropped — by the stale tail of the stored list -/
theorem tablesGo_eq (truncate : Bool) (w : World) (A : Archetype) (s : ArchStats) :
    tablesGo truncate w A s = (w.archStatsUpdate A s).tables ++
      (if truncate = true then [] else s.tables.drop A.tables.tables.length) := by
  rw [archStatsUpdate_tables]
  unfold tablesGo
  simp only
  have hmap := range_map_getD (fun t => tableStats (w.tbl t) s.memoryPerEntity) A.tables.tables
  rcases Nat.lt_or_ge A.tables.tables.length s.tables.length with hlt | hge
  · -- fewer active tables than stored entries
    have hmin : min s.tables.length A.tables.tables.length = A.tables.tables.length :=
      Nat.min_eq_right (Nat.le_of_lt hlt)
    rw [hmin]
    cases truncate with
    | true =>
      simp only [hlt, and_self, if_true]
      rw [loops_eq _ _ _ _ (by rw [List.length_take]; omega), Nat.sub_self]
      have : (List.take A.tables.tables.length s.tables).drop A.tables.tables.length = [] := by
        rw [List.drop_eq_nil_iff, List.length_take]; omega
      rw [this, hmap]; simp
    | false =>
      simp only [Bool.false_eq_true, and_false, if_false]
      rw [loops_eq _ _ _ _ (Nat.le_of_lt hlt), Nat.sub_self, hmap]; simp
  · -- at least as many active tables as stored entries
    have hmin : min s.tables.length A.tables.tables.length = s.tables.length :=
      Nat.min_eq_left hge
    rw [hmin]
    have hnot : ¬ (A.tables.tables.length < s.tables.length ∧ truncate = true) :=
      fun h => absurd h.1 (by omega)
    rw [if_neg hnot, loops_eq _ _ _ _ (Nat.le_refl _)]
    have h1 : s.tables.drop s.tables.length = [] := List.drop_length
    have h2 : s.tables.drop A.tables.tables.length = [] := by
      rw [List.drop_eq_nil_iff]; exact hge
    rw [h1, List.append_nil, range_split _ _ _ hge, hmap, h2]
    cases truncate <;> simp

/-- **the loops with the truncation compute the model's per-table list**, for every stored entry -/
theorem tablesGo_true (w : World) (A : Archetype) (s : ArchStats) :
    tablesGo true w A s = (w.archStatsUpdate A s).tables := by
  rw [tablesGo_eq]; simp

theorem tablesGo_true_fresh (w : World) (A : Archetype) (s : ArchStats) (h : StatAgrees w s A) :
    tablesGo true w A s = (w.archStatsFresh A).tables := by
  rw [tablesGo_true, archStatsUpdate_eq_fresh w A s h]

/-- without the truncation the stale tail of the stored list survives -/
theorem tablesGo_false (w : World) (A : Archetype) (s : ArchStats) :
    tablesGo false w A s =
      (w.archStatsUpdate A s).tables ++ s.tables.drop A.tables.tables.length := by
  rw [tablesGo_eq]; simp

/-- **the truncation is needed exactly when the archetype has fewer active tables than at the
    previous call** -/
theorem tablesGo_false_eq_iff (w : World) (A : Archetype) (s : ArchStats) :
    tablesGo false w A s = (w.archStatsUpdate A s).tables ↔
      s.tables.length ≤ A.tables.tables.length := by
  rw [tablesGo_false]
  constructor
  · intro h
    have := congrArg List.length h
    rw [List.length_append, List.length_drop] at this
    omega
  · intro h
    rw [List.drop_eq_nil_iff.mpr h, List.append_nil]

theorem tablesGo_false_length (w : World) (A : Archetype) (s : ArchStats) :
    (tablesGo false w A s).length = max s.tables.length A.tables.tables.length := by
  rw [tablesGo_false, List.length_append, archStatsUpdate_tables_length, List.length_drop]
  omega


/-! ### a finding about the model

`World.archStatsUpdate` (Ark/Model/Stats.lean) computes `upd ++ app` from the archetype's
active tables alone; the stored list enters only through its LENGTH.  So the model's
definition with the truncation branch removed computes the same list: no theorem about
`archStatsUpdate` can notice that the truncation is missing — `tablesGo` above can. -/

/-- the per-table list of the model's `archStatsUpdate` with `old := st.tables` instead of
    `if cntNew < st.tables.length then st.tables.take cntNew else st.tables` -/
def modelTablesNoTrunc (w : World) (A : Archetype) (st : ArchStats) : List TableStats :=
  let tables := A.tables.tables
  let cntOld := st.tables.length
  (tables.take cntOld).map (fun t => tableStats (w.tbl t) st.memoryPerEntity) ++
    (tables.drop cntOld).map (fun t => tableStats (w.tbl t) st.memoryPerEntity)

/-- **finding**: the model is blind to the truncation of the re-used slice -/
theorem modelTablesNoTrunc_eq (w : World) (A : Archetype) (st : ArchStats) :
    modelTablesNoTrunc w A st = (w.archStatsUpdate A st).tables := by
  rw [archStatsUpdate_tables]
  simp only [modelTablesNoTrunc, map_take_append_map_drop]

end World
end Ark

end

