/-
  Property C05 over whole histories of the relation-free fragment: what a client observes.  At every
  state satisfying `HInv2`, a registered filter object of the heap is compared with the identical
  unregistered object `{ fo with cache := none }`, for per-call relations `extra`: the cache entry
  lists the tables of the uncached walk (`cached_eq_uncached`); both queries open on the same world
  with the same `Count` (`open_agree`); both complete iterations visit the same rows
  (`drain_agree`); the batch selections agree (`batch_agree`).
-/
import Ark.Proofs.CacheHistOps

set_option autoImplicit false

namespace Ark

open World Drain QueryExact

namespace World

/-- the validation `FilterN.Query(rel…)` runs before anything else (typed filters only) -/
def queryPreCheck (fo : FilterObj) (extra : List RelID) : W Unit :=
  if fo.typed then preCheckTyped fo.filter.mask extra else pure ()

theorem queryPreCheck_nil (fo : FilterObj) (w : World) : queryPreCheck fo [] w = .ok () w := by
  unfold queryPreCheck
  cases fo.typed <;> rfl

theorem queryPreCheck_cases (fo : FilterObj) (extra : List RelID) (w : World) :
    queryPreCheck fo extra w = .ok () w ∨
    ∃ (k : PanicKind), queryPreCheck fo extra w = .panic k w := by
  unfold queryPreCheck
  cases fo.typed with
  | false => exact Or.inl rfl
  | true => exact preCheckTyped_cases fo.filter.mask w extra

theorem queryPreCheck_typed {fo : FilterObj} {extra : List RelID} {w : World}
    (h : queryPreCheck fo extra w = .ok () w) (ht : fo.typed = true) :
    preCheckTyped fo.filter.mask extra w = .ok () w := by
  unfold queryPreCheck at h
  rw [ht] at h
  exact h

theorem qOpen_precheck_panic (fo : FilterObj) (extra : List RelID) (w : World) {k : PanicKind}
    (hpc : queryPreCheck fo extra w = .panic k w) :
    qOpen fo extra w = .panic k w ∧ drain fo extra w = .panic k w := by
  have h1 : qOpen fo extra w = .panic k w := by
    unfold queryPreCheck at hpc
    rw [qOpen_closed, hpc]
  exact ⟨h1, drain_of_qOpen_panic h1⟩

/-- without relation components a typed query rejects every non-empty list of per-call
    relations -/
theorem queryPreCheck_typed_cons (fo : FilterObj) (r : RelID) (rest : List RelID) (w : World)
    (ht : fo.typed = true) (hk : ∀ (c : Comp), (w.kinds.getD c {}).isRel = false) :
    ∃ (k : PanicKind), queryPreCheck fo (r :: rest) w = .panic k w := by
  unfold queryPreCheck preCheckTyped
  have hr : w.isRelComp r.comp = false := hk r.comp
  simp only [ht, if_true, M.forM', bind, M.bind, checkRelationTarget, checkRelationComponent]
  by_cases h1 : (!r.target.isZero && !w.alive r.target) = true
  · simp only [h1, if_true]; exact ⟨_, rfl⟩
  · simp only [h1, Bool.false_eq_true, if_false, hr]; exact ⟨_, rfl⟩

theorem queryPreCheck_unsafe (fo : FilterObj) (extra : List RelID) (w : World)
    (ht : fo.typed = false) : queryPreCheck fo extra w = .ok () w := by
  unfold queryPreCheck
  rw [ht]; rfl

end World

theorem CIdxH.toCIdx {w : World} (h : CIdxH w) : CIdx w where
  len := h.len
  nodup := fun c => by
    rcases Nat.lt_or_ge c w.kinds.length with hc | hc
    · rw [h.idx c hc]; exact List.Pairwise.filter _ List.nodup_range
    · rw [List.getD_eq_getElem?_getD, List.getElem?_eq_none (by rw [h.len]; exact hc)]
      exact List.nodup_nil
  mem := fun c a hc => by rw [h.idx c hc, List.mem_filter, List.mem_range]

namespace CacheHist

open Refine

/-- what `open_agree` and `drain_agree` share.  Witnesses: the cache entry `e`; the locks `l1` after
    taking bit `b`, `l2` after returning it; the cached and the uncached query `qc`, `qu`; the tables
    they select `tsC`, `tsU`.  Conjuncts: 3 on `e`, the 2 `qOpen`, the 2 lock bits, 3 on `l2`, the 2
    `qSelected`, 2 `Nodup`, 2 memberships. -/
theorem HInv2.open_core {s : St} {fl : List Nat} (H : HInv2 s fl) {f : Nat} {fo : FilterObj}
    {id : Nat} (hf : AL.find? s.w.filters f = some fo) (hc : fo.cache = some id)
    (extra : List RelID) (hpc : queryPreCheck fo extra s.w = .ok () s.w) :
    ∃ (e : CacheEntry) (l1 : Lock) (b : Nat) (l2 : Lock) (qc qu : QueryObj) (tsC tsU : List Nat),
      s.w.cacheEntry? id = some e ∧ e.filter = fo.filter ∧ e.rels = fo.rels ∧
      qOpen fo extra s.w = .ok qc { s.w with locks := l1 } ∧
      qOpen { fo with cache := none } extra s.w = .ok qu { s.w with locks := l1 } ∧
      qc.lockBit = b ∧ qu.lockBit = b ∧ l1.unlock b = some l2 ∧ l2.isLocked = false ∧
      (∃ (lf' : List Nat), Lock.LInv ⟨l2, []⟩ lf') ∧
      qSelected { s.w with locks := l1 } qc = some tsC ∧
      qSelected { s.w with locks := l1 } qu = some tsU ∧
      tsC.Nodup ∧ tsU.Nodup ∧
      (∀ (t : Nat), t ∈ tsC ↔ Selected s.w fo.filter fo.rels t ∧ (s.w.tbl t).len ≠ 0) ∧
      (∀ (t : Nat), t ∈ tsU ↔ Selected s.w fo.filter fo.rels t) := by
  obtain ⟨e, hmem, heid, hef, her⟩ := H.finv.heap.reg f fo id hf hc
  have he : s.w.cacheEntry? id = some e := by rw [← heid]; exact H.finv.cache.lookup_of_mem hmem
  obtain ⟨hwf, hsel⟩ := H.finv.cache.entries e hmem
  obtain ⟨l1, b, l2, hL, hunl, g2⟩ := LockCycle.of_free H.finv.lock
  -- the archetype list either query walks
  have harchs : ArchsOK s.w fo.filter (s.w.archList (rareOf fo s.w)) := by
    cases ht : fo.typed with
    | true =>
      exact ArchsOK.of_filterOK H.finv.cidx.toCIdx H.base.cinv.sinv.maskReg fo
        (fun c hcm => (H.finv.heap.typed f fo hf ht c hcm).2)
    | false => exact ArchsOK.of_untyped s.w fo (Or.inl ht)
  -- the tables of the entry have no relation column: they match any relations
  have hmat : ∀ (rels : List RelID) (t : Nat), t ∈ e.tables.tables →
      (s.w.tbl t).matchesRels rels = some true := by
    intro rels t ht
    obtain ⟨a, A, hA, htA, _⟩ := (hsel t).1 ht
    exact Table.matchesRels_noRel _ (H.noRelW.tblNoRel hA htA) rels
  obtain ⟨tsU, hsu, hndu, hmu⟩ := uncached_selected H.tablesInv
    (openedWith { fo with cache := none } extra none s.w b) rfl (H.relsOK _ _) harchs
  refine ⟨e, l1, b, l2, _, _, _, tsU, he, hef, her,
    qOpen_eq fo extra s.w (queryPreCheck_typed hpc) (cacheTablesOf_cached hc he) hL.lock,
    qOpen_eq { fo with cache := none } extra s.w (queryPreCheck_typed hpc)
      (cacheTablesOf_uncached s.w rfl) hL.lock,
    rfl, rfl, hL.unlock, hunl, g2,
    qSelected_cached s.w (openedWith fo extra (some e.tables.tables) s.w b) _ rfl
      (fun t ht _ hn => by cases (hmat _ t ht).symm.trans hn),
    hsu, List.Pairwise.filter _ hwf.nodup, hndu, fun t => ?_, fun t => ?_⟩
  · rw [mem_cachedSel_of_matches (hmat _), hsel, hef, her]
  · rw [hmu]
    show Selected s.w fo.filter (fo.rels ++ extra) t ↔ _
    rw [H.noRelW.selected_iff, H.noRelW.selected_iff]

/-- **cached = uncached at every state of the machine.**  The cache entry of a registered
    filter object exists, carries the object's filter and relations, and its table list is
    duplicate-free with the same members as the uncached walk, which succeeds. -/
theorem HInv2.cached_eq_uncached {s : St} {fl : List Nat} (H : HInv2 s fl) {f : Nat}
    {fo : FilterObj} {id : Nat} (hf : AL.find? s.w.filters f = some fo) (hc : fo.cache = some id) :
    ∃ (e : CacheEntry), s.w.cacheEntry? id = some e ∧ e.id = id ∧ e.filter = fo.filter ∧
      e.rels = fo.rels ∧ e.tables.tables.Nodup ∧
      ∃ (ts : List Nat), s.w.getCacheTables fo.filter fo.rels = some ts ∧ ts.Nodup ∧
        ∀ (t : Nat), t ∈ e.tables.tables ↔ t ∈ ts := by
  obtain ⟨e, hmem, heid, hef, her⟩ := H.finv.heap.reg f fo id hf hc
  have he : s.w.cacheEntry? id = some e := by rw [← heid]; exact H.finv.cache.lookup_of_mem hmem
  obtain ⟨h1, h2, ts, h3, h4, h5⟩ := H.finv.cache.cached_eq_uncached H.tablesInv he
    (H.relsOK e.filter e.rels)
  rw [hef, her] at h3
  exact ⟨e, he, h1, hef, her, h2, ts, h3, h4, h5⟩

def SelRow (w : World) (fo : FilterObj) (p : Nat × Nat) : Prop :=
  Selected w fo.filter fo.rels p.1 ∧ p.2 < (w.tbl p.1).len

theorem rows_agree {w : World} {fo : FilterObj} {tsC tsU : List Nat} (hndC : tsC.Nodup)
    (hndU : tsU.Nodup)
    (hC : ∀ (t : Nat), t ∈ tsC ↔ Selected w fo.filter fo.rels t ∧ (w.tbl t).len ≠ 0)
    (hU : ∀ (t : Nat), t ∈ tsU ↔ Selected w fo.filter fo.rels t) :
    (tsC.flatMap (rowsOf w)).Nodup ∧ (tsU.flatMap (rowsOf w)).Nodup ∧
    (∀ (p : Nat × Nat), p ∈ tsC.flatMap (rowsOf w) ↔ SelRow w fo p) ∧
    (∀ (p : Nat × Nat), p ∈ tsU.flatMap (rowsOf w) ↔ SelRow w fo p) ∧
    (tsC.flatMap (rowsOf w)).Perm (tsU.flatMap (rowsOf w)) := by
  have h1 : ∀ (p : Nat × Nat), p ∈ tsC.flatMap (rowsOf w) ↔ SelRow w fo p := by
    intro p
    rw [mem_rows, hC]
    unfold SelRow
    constructor
    · rintro ⟨⟨a, _⟩, c⟩; exact ⟨a, c⟩
    · rintro ⟨a, c⟩; exact ⟨⟨a, by omega⟩, c⟩
  have h2 : ∀ (p : Nat × Nat), p ∈ tsU.flatMap (rowsOf w) ↔ SelRow w fo p := by
    intro p
    rw [mem_rows, hU]
    rfl
  have n1 := rows_nodup w tsC hndC
  have n2 := rows_nodup w tsU hndU
  exact ⟨n1, n2, h1, h2, (List.perm_ext_iff_of_nodup n1 n2).2 fun p => (h1 p).trans (h2 p).symm⟩

theorem qCount_of_selected (w : World) (q : QueryObj) (ts : List Nat)
    (h : qSelected w q = some ts) : qCount w q = some (ts.flatMap (rowsOf w)).length := by
  simp only [qCount, h, Option.map_some, flatMap_rowsOf_length, foldl_add_eq_sum]

theorem entityAt_mem (w : World) (q : QueryObj) (rows : List (Nat × Nat))
    (h : expected w q = some rows) (ent : Ent) :
    (∃ (i : Nat), qEntityAt w q i = some (some ent)) ↔
      ent ∈ rows.map fun p => (w.tbl p.1).getEntity p.2 := by
  simp only [entityAt_eq, h, Option.map_some, Option.some.injEq]
  rw [List.mem_iff_getElem?]
  simp only [List.getElem?_map]

/-- **the open queries agree.**  Both queries open, on the same locked world; `Count` is the
    same number; the rows the two cursors are expected to visit are duplicate-free, are exactly
    the rows of the selected tables, and are permutations of each other; `EntityAt` enumerates
    the same entities. -/
theorem HInv2.open_agree {s : St} {fl : List Nat} (H : HInv2 s fl) {f : Nat} {fo : FilterObj}
    {id : Nat} (hf : AL.find? s.w.filters f = some fo) (hc : fo.cache = some id)
    (extra : List RelID) (hpc : queryPreCheck fo extra s.w = .ok () s.w) :
    ∃ (qc qu : QueryObj) (wl : World) (rowsC rowsU : List (Nat × Nat)),
      qOpen fo extra s.w = .ok qc wl ∧ qOpen { fo with cache := none } extra s.w = .ok qu wl ∧
      wl = { s.w with locks := wl.locks } ∧
      expected wl qc = some rowsC ∧ expected wl qu = some rowsU ∧
      rowsC.Nodup ∧ rowsU.Nodup ∧ rowsC.Perm rowsU ∧
      (∀ (p : Nat × Nat), p ∈ rowsC ↔ SelRow s.w fo p) ∧
      qCount wl qc = some rowsC.length ∧ qCount wl qu = some rowsC.length ∧
      (∀ (ent : Ent), (∃ (i : Nat), qEntityAt wl qc i = some (some ent)) ↔
        ∃ (i : Nat), qEntityAt wl qu i = some (some ent)) := by
  obtain ⟨e, l1, b, l2, qc, qu, tsC, tsU, _, _, _, hoc, hou, _, _, _, _, _, hsc, hsu, hnc, hnu,
    hmc, hmu⟩ := H.open_core hf hc extra hpc
  obtain ⟨n1, n2, m1, _, hperm⟩ := rows_agree (w := s.w) hnc hnu hmc hmu
  have hec : expected { s.w with locks := l1 } qc = some (tsC.flatMap (rowsOf s.w)) := by
    simp only [expected, hsc, Option.map_some]; rfl
  have heu : expected { s.w with locks := l1 } qu = some (tsU.flatMap (rowsOf s.w)) := by
    simp only [expected, hsu, Option.map_some]; rfl
  refine ⟨qc, qu, { s.w with locks := l1 }, _, _, hoc, hou, rfl, hec, heu, n1, n2, hperm, m1,
    qCount_of_selected _ _ _ hsc, ?_, ?_⟩
  · rw [qCount_of_selected _ _ _ hsu]
    exact congrArg some hperm.length_eq.symm
  · intro ent
    rw [entityAt_mem _ _ _ hec, entityAt_mem _ _ _ heu]
    exact (hperm.map _).mem_iff

/-- **the complete iterations agree.**  `World.drain` succeeds for the registered filter
    object and for its unregistered twin; the final worlds are the initial one up to the free
    list of the lock-bit pool, equal to each other, and unlocked; every visit reports the entity
    stored in its row; the visited rows are duplicate-free, exactly the rows of the selected
    tables, and the two visit sequences are permutations of each other (rows and entities). -/
theorem HInv2.drain_agree {s : St} {fl : List Nat} (H : HInv2 s fl) {f : Nat} {fo : FilterObj}
    {id : Nat} (hf : AL.find? s.w.filters f = some fo) (hc : fo.cache = some id)
    (extra : List RelID) (hpc : queryPreCheck fo extra s.w = .ok () s.w) :
    ∃ (vc vu : List Visit) (wf : World),
      drain fo extra s.w = .ok vc wf ∧ drain { fo with cache := none } extra s.w = .ok vu wf ∧
      wf = { s.w with locks := wf.locks } ∧ wf.isLocked = false ∧
      (∃ (lf : List Nat), Lock.LInv ⟨wf.locks, []⟩ lf) ∧
      (∀ (v : Visit), v ∈ vc → v.e = (s.w.tbl v.table).getEntity v.row) ∧
      (∀ (v : Visit), v ∈ vu → v.e = (s.w.tbl v.table).getEntity v.row) ∧
      (vc.map fun v => (v.table, v.row)).Nodup ∧ (vu.map fun v => (v.table, v.row)).Nodup ∧
      (∀ (p : Nat × Nat), p ∈ vc.map (fun v => (v.table, v.row)) ↔ SelRow s.w fo p) ∧
      (vc.map fun v => (v.table, v.row)).Perm (vu.map fun v => (v.table, v.row)) ∧
      (vc.map (·.e)).Perm (vu.map (·.e)) := by
  obtain ⟨e, l1, b, l2, qc, qu, tsC, tsU, _, _, _, hoc, hou, hbc, hbu, hun, hunl, g2, hsc, hsu,
    hnc, hnu, hmc, hmu⟩ := H.open_core hf hc extra hpc
  obtain ⟨n1, n2, m1, _, hperm⟩ := rows_agree (w := s.w) hnc hnu hmc hmu
  obtain ⟨vc, hdc, hrc, hentc⟩ := drain_rows_monadic fo extra s.w _ qc tsC l2 hoc hsc hnc
    (by rw [hbc]; exact hun)
  obtain ⟨vu, hdu, hru, hentu⟩ := drain_rows_monadic { fo with cache := none } extra s.w _ qu tsU
    l2 hou hsu hnu (by rw [hbu]; exact hun)
  replace hrc : vc.map (fun v => (v.table, v.row)) = tsC.flatMap (rowsOf s.w) := hrc
  replace hru : vu.map (fun v => (v.table, v.row)) = tsU.flatMap (rowsOf s.w) := hru
  replace hentc : vc.map (·.e) =
      (tsC.flatMap (rowsOf s.w)).map fun p => (s.w.tbl p.1).getEntity p.2 := hentc
  replace hentu : vu.map (·.e) =
      (tsU.flatMap (rowsOf s.w)).map fun p => (s.w.tbl p.1).getEntity p.2 := hentu
  have hvis : ∀ (vs : List Visit) (rows : List (Nat × Nat)),
      vs.map (fun v => (v.table, v.row)) = rows →
      vs.map (·.e) = rows.map (fun p => (s.w.tbl p.1).getEntity p.2) →
      ∀ (v : Visit), v ∈ vs → v.e = (s.w.tbl v.table).getEntity v.row := by
    intro vs rows h1 h2 v hv
    obtain ⟨i, hi⟩ := List.getElem?_of_mem hv
    have a1 : (vs.map fun v => (v.table, v.row))[i]? = some (v.table, v.row) := by
      rw [List.getElem?_map, hi]; rfl
    have a2 : (vs.map (·.e))[i]? = some v.e := by rw [List.getElem?_map, hi]; rfl
    rw [h1] at a1
    rw [h2, List.getElem?_map, a1] at a2
    exact (Option.some.inj a2).symm
  refine ⟨vc, vu, { s.w with locks := l2 }, hdc, hdu, rfl, hunl, g2, hvis vc _ hrc hentc,
    hvis vu _ hru hentu, by rw [hrc]; exact n1, by rw [hru]; exact n2,
    fun p => by rw [hrc]; exact m1 p, by rw [hrc, hru]; exact hperm, ?_⟩
  rw [hentc, hentu]
  exact hperm.map _

/-- **the batch selections agree** (any per-call relations; `getBatchTables` itself does not
    validate them).  `getBatchTables` succeeds for both objects without changing the world; both
    selections are duplicate-free; the cached one is the uncached one restricted to the non-empty
    tables (the cached walk skips empty tables, the uncached walk of `getCacheTables` does not
    — every consumer skips them). -/
theorem HInv2.batch_agree {s : St} {fl : List Nat} (H : HInv2 s fl) {f : Nat} {fo : FilterObj}
    {id : Nat} (hf : AL.find? s.w.filters f = some fo) (hc : fo.cache = some id)
    (extra : List RelID) :
    ∃ (tc tu : List Nat),
      getBatchTables fo extra s.w = .ok tc s.w ∧
      getBatchTables { fo with cache := none } extra s.w = .ok tu s.w ∧
      tc.Nodup ∧ tu.Nodup ∧
      (∀ (t : Nat), t ∈ tu ↔ Selected s.w fo.filter fo.rels t) ∧
      (∀ (t : Nat), t ∈ tc ↔ t ∈ tu ∧ (s.w.tbl t).len ≠ 0) := by
  obtain ⟨e, hmem, heid, hef, her⟩ := H.finv.heap.reg f fo id hf hc
  have he : s.w.cacheEntry? id = some e := by rw [← heid]; exact H.finv.cache.lookup_of_mem hmem
  obtain ⟨hwf, hsel⟩ := H.finv.cache.entries e hmem
  have hmat : ∀ (rels : List RelID) (t : Nat), t ∈ e.tables.tables →
      (s.w.tbl t).matchesRels rels = some true := by
    intro rels t ht
    obtain ⟨a, A, hA, htA, _⟩ := (hsel t).1 ht
    exact Table.matchesRels_noRel _ (H.noRelW.tblNoRel hA htA) rels
  obtain ⟨tu, htu, hndu, hmu⟩ :=
    getCacheTables_spec H.tablesInv (H.relsOK fo.filter (fo.rels ++ extra))
  have hcached : getBatchTables fo extra s.w =
      .ok (cachedSel s.w (effRels fo extra) e.tables.tables) s.w := by
    have key : getBatchTables fo extra s.w =
        match e.tables.tables.foldl (selC s.w (effRels fo extra)) (some []) with
        | none => .panic .runtime s.w
        | some ts => .ok ts s.w := by
      simp only [getBatchTables, hc, he]; rfl
    rw [key, foldl_selC_rel s.w _ _ [] (fun t ht _ hn => by cases (hmat _ t ht).symm.trans hn),
      List.nil_append]
  have huncached : getBatchTables { fo with cache := none } extra s.w = .ok tu s.w := by
    have hr' : effRels { fo with cache := none } extra = fo.rels ++ extra := by simp [effRels]
    simp only [getBatchTables, hr', htu]
  have hmu' : ∀ (t : Nat), t ∈ tu ↔ Selected s.w fo.filter fo.rels t := by
    intro t
    rw [hmu, H.noRelW.selected_iff, H.noRelW.selected_iff]
  refine ⟨_, tu, hcached, huncached, List.Pairwise.filter _ hwf.nodup, hndu, hmu', fun t => ?_⟩
  rw [mem_cachedSel_of_matches (hmat _), hsel, hef, her, hmu']

end CacheHist

end Ark
