/-
  The refinement machine of `Ark.Refine` WITH the batch operations as steps (`NewBatch`,
  `RemoveEntities`, `AddBatch` / `RemoveBatch` / `ExchangeBatch` on an uncached filter).  `YInv w`: the
  handle stored in a row in use is alive and the world lock is well formed with no lock outstanding
  (the part of `XInv` that survives the exchange batches); the specification step of a batch is the
  single step folded over the selected entities; the invariant `HInvB` is `Refine.HInv` with `YInv`.
-/
import Ark.Proofs.BatchExchangeFn
import Ark.Proofs.QueryHist

section

/-! ## §1 what the batch operations need beyond `CInv`

What the BATCH operations need beyond `CInv`.  `YInv w`: the handle stored in a row in use is
  alive, and the world lock is well formed with no lock outstanding.  This is the part of `XInv`
  (Ark/Proofs/QueryOps.lean) a batch needs, WITHOUT `w.locks = {}`: the exchange batches take and
  release the world lock, after which the bit pool of the lock is no longer the initial one, so
  `XInv` does not survive them.
-/

set_option autoImplicit false

namespace Ark

open World Ark.Props.C01World

structure YInv (w : World) : Prop where
  rows : RowsAlive w
  lock : LockFree w.locks

theorem yinv_init (cap rel : Nat) : YInv (World.init cap rel) :=
  ⟨RowsAlive.init cap rel, lockFree_init⟩

theorem YInv.rowsLive {w : World} {fl : List Nat} (Y : YInv w) (h : CInv w fl) : RowsLive w := by
  intro t r _ hr
  exact Y.rows.slot h hr

theorem YInv.registerComponent {w w' : World} {fl : List Nat} (_h : CInv w fl) (X : YInv w)
    {k : CompKind} {n : Nat} (hr : World.registerComponent k w = .ok n w') : YInv w' := by
  refine ⟨?_, ?_⟩
  · obtain ⟨_, _, _, ht, _, hp, _⟩ := registerComponent_ok hr
    exact X.rows.lookup (LookupKeeps.of_tables hp ht)
  · rw [registerComponent_ok_eq hr]; exact X.lock

theorem YInv.opShrink {w : World} {fl : List Nat} (h : CInv w fl) (X : YInv w)
    (hl : w.isLocked = false) (hrows : ∀ t : Nat, (w.tbl t).len + 1 < 2 ^ 32) (bounded : Bool)
    {b : Bool} {w' : World} (hop : opShrink bounded w = .ok b w') : YInv w' := by
  rw [opShrink_eq bounded w hl] at hop
  injection hop with _ hw
  subst hw
  have hb : RowsBounded w := fun t => by have := hrows t; omega
  obtain ⟨_, hrel⟩ := shrinkPure_rel h.idx hb bounded
  have hu := hrel.frame.untouched.1
  refine ⟨?_, ?_⟩
  · refine X.rows.lookup ⟨hrel.frame.pool, ?_⟩
    intro t r hr
    rw [(hrel.tbl t).len] at hr
    exact ⟨hr, (hrel.tbl t).ent r hr⟩
  · rw [hu.locks]; exact X.lock

theorem YInv.opReset {w : World} {fl : List Nat} (h : CInv w fl) (X : YInv w)
    (hl : w.isLocked = false) {w' : World} (hop : opReset w = .ok () w') : YInv w' := by
  have post := (opReset_spec h hl).2
  rw [opReset_eq w hl] at hop
  injection hop with _ hw
  subst hw
  refine ⟨?_, ?_⟩
  · intro t T r hT hr
    have hlt := lt_of_get hT
    have := tbl_of_get hT
    subst this
    obtain ⟨g2, _, g3, _⟩ := post.cinv.row_live_id hlt hr
    rw [post.entitiesLen] at g3
    omega
  · rw [resetW_locks]
    obtain ⟨lfl, g⟩ := X.lock
    exact ⟨[], Lock.reset_inv ⟨w.locks, []⟩ lfl g⟩

theorem yinv_opsKeep : OpsKeep YInv where
  lookup hok _ hu Y := ⟨Y.rows.lookup (findOrCreateTableAdd_keeps hok), hu.locks ▸ Y.lock⟩
  placed rt h hlt hb Y := ⟨Y.rows.placed h.link hlt rt hb, by rw [placedW_locks]; exact Y.lock⟩
  moved keep hI ha he ht hne _ hnl hb Y :=
    ⟨Y.rows.moved hI keep ha he ht hne hnl hb, by
      rw [(addMove_fields _ _ _ _ _ _).2.2.2.locks]; exact Y.lock⟩
  writeVals e vals Y := ⟨Y.rows.writeVals e vals, Y.lock⟩
  copied t row idx Y := ⟨Y.rows.copied t row idx, Y.lock⟩
  removed h h2 hnf ha hin hix Y :=
    ⟨Y.rows.removed h h2 hnf ha hin hix, by rw [removeRowOf_locks]; exact Y.lock⟩
  reg h hr Y := Y.registerComponent h hr
  shrink h hl hrows hop Y := Y.opShrink h hl hrows _ hop
  reset h hl hop Y := Y.opReset h hl hop

namespace Refine

/-- **every step of the machine keeps `YInv`** (accepted or not, successful or rejected) -/
theorem step_yinv (run : ProbeRunner) {s : St} {fl : List Nat} (H : HInv s fl)
    (hfew : s.w.tables.length < maxU32) (hent : s.w.entities.length + 1 < 2 ^ 32) (op : Op)
    (X : YInv s.w) : YInv (step run s op).w :=
  run_ext run YInv (fun _ _ _ _ _ H hf he _ hpre X hex => yinv_opsKeep.step run H hf he hpre hex X)
    [op] s fl H (by simp only [List.length_singleton]; omega)
    (by simp only [List.length_singleton]; omega) X

end Refine

end Ark

end

section

/-! ## §2 the machine

The refinement machine of `Ark.Refine` WITH the batch operations as steps (`NewBatch`,
  `RemoveEntities`, `AddBatch` / `RemoveBatch` / `ExchangeBatch` on an uncached filter).  The
  specification step of a batch is the step of the single operation folded over the selected
  entities; the invariant `HInvB` is `Refine.HInv` together with `YInv`.
-/

set_option autoImplicit false

namespace Ark

open World Ark.Props.C01World

namespace RefineB

open Refine

/-- the filter object of the uncached filter `f` (no relation constraints) -/
def foOf (f : Filter) : FilterObj := { filter := f }

inductive OpB
  /-- an operation of `Ark.Refine` -/
  | base (op : Refine.Op)
  /-- `NewBatch(n, ids…)` through the access path `p`, without callback (`vals` is what the
      harness passes along; without a callback nothing is written: the components read zero) -/
  | newb (p : Path) (n : Nat) (ids : List Comp) (vals : Comps)
  /-- `World.RemoveEntities(batch, nil)` for the uncached filter `f` -/
  | delb (f : Filter)
  /-- `AddBatch` (`rem = []`) / `RemoveBatch` (`add = []`) / `ExchangeBatch` for the uncached filter
      `f` through the access path `p`; `vals = some vs`: the `…Fn` form, the callback writes `vs` -/
  | xchgb (p : Path) (f : Filter) (add : List Comp) (vals : Option Comps) (rem : List Comp)
  deriving Repr

/-- **the selection of a batch, in the specification**: the specified entities whose key set the
    filter matches, in the order of the specification -/
def matching (ss : SS) (f : Filter) : List Ent :=
  (ss.ents.filter fun x => f.matchesMask (Mask.ofList (keys x.2))).map (·.1)

/-- `n` creations: the `i`-th one returns `fresh[i]` -/
def specNewAll (ss : SS) (p : Path) (ids : List Comp) (fresh : List Ent) (n : Nat) : SS :=
  (List.range n).foldl (fun ss i => specStep ss (fresh.getD i default) (.new p ids [])) ss

/-- `RemoveEntity` for every entity of `es` -/
def specDelAll (ss : SS) (es : List Ent) : SS :=
  es.foldl (fun ss e => specStep ss default (.del e)) ss

/-- `Exchange(add, rem)` writing `vals` for every entity of `es` -/
def specXchgAll (ss : SS) (p : Path) (add rem : List Comp) (vals : Comps) (es : List Ent) : SS :=
  es.foldl (fun ss e => specStep ss default (.xchg p e add rem vals)) ss

/-- **the specification step.**  `fresh` are the handles a successful creating call returns.  A
    batch is the single operation applied to every selected entity. -/
def specStepB (ss : SS) (fresh : List Ent) : OpB → SS
  | .base op => specStep ss (fresh.headD default) op
  | .newb p n ids _ => specNewAll ss p ids fresh n
  | .delb f => specDelAll ss (matching ss f)
  | .xchgb p f add vals rem => specXchgAll ss p add rem (valsOf vals) (matching ss f)

/-- run one model operation; the result carries the returned handles (for `newb`: the entities in
    the rows `start … start+n-1` of the table `NewBatch` reports, i.e. what the `Batch` yields) -/
def execB (run : ProbeRunner) (w : World) : OpB → Res World (List Ent)
  | .base op =>
    match exec run w op with
    | .ok r w' => .ok r.toList w'
    | .panic k w' => .panic k w'
  | .newb p n ids vals =>
    match opNewBatch run p n ids vals [] false w with
    | .ok (t, start) w' => .ok ((List.range n).map fun i => (w'.tbl t).getEntity (start + i)) w'
    | .panic k w' => .panic k w'
  | .delb f =>
    match opRemoveEntities run (foOf f) [] false w with
    | .ok _ w' => .ok [] w'
    | .panic k w' => .panic k w'
  | .xchgb p f add vals rem =>
    match opExchangeBatch run p (foOf f) [] add rem [] vals w with
    | .ok _ w' => .ok [] w'
    | .panic k w' => .panic k w'

/-- what a client can express, and — for the exchange batches — whose precondition holds on every
    selected entity.  (An exchange batch whose precondition fails on some selected entity panics
    in the lookup loop, after that loop has created the destination archetypes and tables of the
    EARLIER source tables.  The world lock is taken only after the lookup loop (defect D27
    repaired), so the call does not leave the world locked: it is rejected with the lock state as
    before and without changing any entity — `Ark.Props.C07Batch.exchangeBatch_panic_unlocked`, and
    the finding in Ark/Props/C01Batch.lean.  But the archetypes and tables created before the
    panic are not undone, so "the world comes back unchanged" — what every rejected step of this
    machine satisfies — does not hold for such a call, and it is not a step of the machine.  The
    one clean rejection, `add = rem = []`, is a step.) -/
def guardB (s : St) : OpB → Bool
  | .base op => guard s op
  | .newb _ _ ids _ => ids.all fun c => decide (c < s.ss.zst.length)
  | .delb _ => true
  | .xchgb _ f add _ rem =>
    (add.all fun c => decide (c < s.ss.zst.length)) &&
      ((add.isEmpty && rem.isEmpty) ||
        s.ss.ents.all fun x => !f.matchesMask (Mask.ofList (keys x.2)) ||
          decide (XchgOK s.ss.zst.length x.2 add rem))

def preB (ss : SS) : OpB → Prop
  | .base op => pre ss op
  | .newb _ _ ids _ => ids.Nodup ∧ ∀ c ∈ ids, c < ss.zst.length
  | .delb _ => True
  | .xchgb _ _ add _ rem => ¬ (add = [] ∧ rem = [])

def retB : Res World (List Ent) → List Ent
  | .ok r _ => r
  | .panic _ _ => []

/-- a batch step: the model operation and the specification step; the returned handles are
    added to the issued ones (newest first) -/
def stepBatch (run : ProbeRunner) (s : St) (op : OpB) : St :=
  if guardB s op = true then
    let r := execB run s.w op
    ⟨r.state, (retB r).reverse ++ s.issued, specStepB s.ss (retB r) op⟩
  else s

def stepB (run : ProbeRunner) (s : St) : OpB → St
  | .base op => step run s op
  | .newb p n ids vals => stepBatch run s (.newb p n ids vals)
  | .delb f => stepBatch run s (.delb f)
  | .xchgb p f add vals rem => stepBatch run s (.xchgb p f add vals rem)

/-- an accepted batch step whose operation succeeds -/
theorem stepBatch_ok (run : ProbeRunner) {s : St} {op : OpB} (hg : guardB s op = true)
    {r : List Ent} {w' : World} (hex : execB run s.w op = .ok r w') :
    stepBatch run s op = ⟨w', r.reverse ++ s.issued, specStepB s.ss r op⟩ := by
  simp only [stepBatch, hg, if_true, hex, Res.state, retB]

/-- an accepted batch step whose operation is rejected, the specification not moving either -/
theorem stepBatch_panic (run : ProbeRunner) {s : St} {op : OpB} (hg : guardB s op = true)
    {k : PanicKind} (hex : execB run s.w op = .panic k s.w) (hss : specStepB s.ss [] op = s.ss) :
    stepBatch run s op = s := by
  simp only [stepBatch, hg, if_true, hex, Res.state, retB, List.reverse_nil, List.nil_append, hss]

theorem stepBatch_of_not_guard (run : ProbeRunner) {s : St} {op : OpB} (hg : ¬ guardB s op = true) :
    stepBatch run s op = s := if_neg hg

def runOpsB (run : ProbeRunner) (s : St) (ops : List OpB) : St := ops.foldl (stepB run) s

def reachB (run : ProbeRunner) (cap rel : Nat) (ops : List OpB) : St :=
  runOpsB run (St.init cap rel) ops

theorem reachB_snoc (run : ProbeRunner) (cap rel : Nat) (ops : List OpB) (op : OpB) :
    reachB run cap rel (ops ++ [op]) = stepB run (reachB run cap rel ops) op := by
  simp only [reachB, runOpsB, List.foldl_append, List.foldl_cons, List.foldl_nil]

theorem runOpsB_base (run : ProbeRunner) (ops : List Op) : ∀ s : St,
    runOpsB run s (ops.map .base) = runOps run s ops := by
  induction ops with
  | nil => intro s; rfl
  | cons op ops ih => intro s; exact ih (step run s op)

theorem reachB_base (run : ProbeRunner) (cap rel : Nat) (ops : List Op) :
    reachB run cap rel (ops.map .base) = reach run cap rel ops :=
  runOpsB_base run ops _

/-- **the inductive invariant**: that of `Ark.Refine`, and what the batches need -/
structure HInvB (s : St) (fl : List Nat) : Prop where
  hinv : HInv s fl
  yinv : YInv s.w

theorem hinvB_init (cap rel : Nat) : HInvB (St.init cap rel) [] :=
  ⟨hinv_init cap rel, yinv_init cap rel⟩

theorem HInvB.rowsLive {s : St} {fl : List Nat} (H : HInvB s fl) : RowsLive s.w :=
  H.yinv.rowsLive H.hinv.cinv

/-- the size requirement of one step: table IDs and row numbers fit `uint32` -/
def Room (s : St) : OpB → Prop
  | .base _ => s.w.tables.length < maxU32 ∧ s.w.entities.length + 1 < 2 ^ 32
  | .newb _ n _ _ => s.w.tables.length < maxU32 ∧ s.w.tables.length + n ≤ maxU32 ∧
      s.w.entities.length + n < 2 ^ 32
  | .delb _ => True
  | .xchgb _ f _ _ _ => s.w.tables.length + (selTables s.w f).length < maxU32 ∧
      2 * s.w.entities.length < 2 ^ 32

/-! ### specification-level facts -/

theorem mem_matching {ss : SS} {f : Filter} {e : Ent} :
    e ∈ matching ss f ↔ ∃ cs, (e, cs) ∈ ss.ents ∧ f.matchesMask (Mask.ofList (keys cs)) = true := by
  simp only [matching, List.mem_map, List.mem_filter]
  constructor
  · rintro ⟨x, ⟨hx, hm⟩, rfl⟩; exact ⟨x.2, hx, hm⟩
  · rintro ⟨cs, hx, hm⟩; exact ⟨(e, cs), ⟨hx, hm⟩, rfl⟩

theorem specDelAll_zst (ss : SS) (es : List Ent) : (specDelAll ss es).zst = ss.zst := by
  induction es generalizing ss with
  | nil => rfl
  | cons e es ih =>
    show (specDelAll (specStep ss default (.del e)) es).zst = ss.zst
    rw [ih]
    simp only [specStep]
    split <;> rfl

theorem del_of_not_mem : ∀ (s : Spec) (e : Ent), e ∉ s.map (·.1) → del s e = s
  | [], _, _ => rfl
  | x :: rest, e, hn => by
    simp only [List.map_cons, List.mem_cons, not_or] at hn
    simp only [del]
    rw [if_neg (fun hh => hn.1 hh.symm), del_of_not_mem rest e hn.2]

theorem specStep_del_ents (ss : SS) (fresh : Ent) (e : Ent) :
    (specStep ss fresh (.del e)).ents = del ss.ents e := by
  simp only [specStep]
  cases hf : find ss.ents e with
  | some cs => rfl
  | none => exact (del_of_not_mem _ _ (find_none_iff.mp hf)).symm

theorem del_eq_filter : ∀ (s : Spec) (e : Ent), (s.map (·.1)).Nodup →
    del s e = s.filter fun x => decide (x.1 ≠ e)
  | [], _, _ => rfl
  | x :: rest, e, hnd => by
    simp only [List.map_cons, List.nodup_cons] at hnd
    simp only [del, List.filter_cons]
    by_cases hx : x.1 = e
    · rw [if_pos hx]
      have : decide (x.1 ≠ e) = false := by simp [hx]
      rw [this]
      simp only [Bool.false_eq_true, if_false]
      symm
      apply List.filter_eq_self.mpr
      intro y hy
      have : y.1 ≠ e := by
        intro hh
        apply hnd.1
        rw [hx, ← hh]
        exact List.mem_map_of_mem hy
      simpa using this
    · rw [if_neg hx]
      have : decide (x.1 ≠ e) = true := by simp [hx]
      rw [this]
      simp only [if_true]
      rw [del_eq_filter rest e hnd.2]

theorem specDelAll_ents : ∀ (es : List Ent) (ss : SS), (ss.ents.map (·.1)).Nodup →
    (specDelAll ss es).ents = ss.ents.filter fun x => decide (x.1 ∉ es)
  | [], ss, _ => by
    show ss.ents = _
    symm
    apply List.filter_eq_self.mpr
    intro y _; simp
  | e :: es, ss, hnd => by
    show (specDelAll (specStep ss default (.del e)) es).ents = _
    have h1 : (specStep ss default (.del e)).ents = ss.ents.filter fun x => decide (x.1 ≠ e) := by
      rw [specStep_del_ents, del_eq_filter _ _ hnd]
    have hnd1 : ((specStep ss default (.del e)).ents.map (·.1)).Nodup := by
      rw [h1]
      exact (List.Sublist.map _ List.filter_sublist).nodup hnd
    rw [specDelAll_ents es _ hnd1, h1, List.filter_filter]
    apply List.filter_congr
    intro x _
    simp only [List.mem_cons, not_or, ne_eq, Bool.decide_and, Bool.and_comm]

theorem specStepB_delb_ents (ss : SS) (fresh : List Ent) (f : Filter)
    (hnd : (ss.ents.map (·.1)).Nodup) :
    (specStepB ss fresh (.delb f)).ents =
      ss.ents.filter fun x => !f.matchesMask (Mask.ofList (keys x.2)) := by
  show (specDelAll ss (matching ss f)).ents = _
  rw [specDelAll_ents _ _ hnd]
  apply List.filter_congr
  intro x hx
  cases hm : f.matchesMask (Mask.ofList (keys x.2)) with
  | true =>
    have : x.1 ∈ matching ss f := mem_matching.mpr ⟨x.2, hx, hm⟩
    simp [this]
  | false =>
    have : x.1 ∉ matching ss f := by
      intro hmem
      obtain ⟨cs, hx', hm'⟩ := mem_matching.mp hmem
      have h1 := find_of_mem hnd hx'
      have h2 := find_of_mem hnd (show (x.1, x.2) ∈ ss.ents from hx)
      rw [h1] at h2
      rw [Option.some.inj h2, hm] at hm'
      cases hm'
    simp [this]

/-! ### list facts -/

theorem nodup_of_reverse {α : Type} {l : List α} (h : l.reverse.Nodup) : l.Nodup := by
  unfold List.Nodup at h ⊢
  rw [List.pairwise_reverse] at h
  exact h.imp (fun hne => Ne.symm hne)

theorem nodup_foldl_erase {α : Type} [DecidableEq α] : ∀ (l live : List α), live.Nodup →
    (l.foldl List.erase live).Nodup
  | [], _, h => h
  | e :: l, _, h => nodup_foldl_erase l _ (h.erase e)

end RefineB

end Ark

end

