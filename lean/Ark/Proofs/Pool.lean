/-
  Ark.Proofs.Pool — implicit free lists (`chainBy`, shared with the bit pool of the lock), the
  free-list invariant `PInv` of `entityPool`, and what `Get` (`GetSpec`) and `Recycle` do to a pool
  that satisfies it: handles are fresh, liveness is exact, the count is exact.
-/
import Ark.Model.Pool

set_option autoImplicit false

namespace Ark

/-- Follow an implicit free list: the `n` slots reached from `s`, where slot `i` holds `slot i`
    and points to `nxt` of it. -/
def chainBy {α : Type} (slot : Nat → Option α) (nxt : α → Nat) : Nat → Nat → Option (List Nat)
  | _, 0 => some []
  | s, n + 1 =>
    match slot s with
    | none => none
    | some e =>
      match chainBy slot nxt (nxt e) n with
      | none => none
      | some l => some (s :: l)

section
variable {α : Type} {slot slot' : Nat → Option α} {nxt : α → Nat}

theorem chainBy_succ {s n : Nat} {l : List Nat} :
    chainBy slot nxt s (n + 1) = some l ↔
      ∃ e l', slot s = some e ∧ chainBy slot nxt (nxt e) n = some l' ∧ l = s :: l' := by
  simp only [chainBy]
  constructor
  · intro h
    split at h
    · cases h
    · rename_i e he
      split at h
      · cases h
      · rename_i l' hl'
        exact ⟨e, l', he, hl', (Option.some.inj h).symm⟩
  · rintro ⟨e, l', he, hl', rfl⟩
    rw [he]; simp only; rw [hl']

theorem chainBy_length : ∀ {n s : Nat} {l : List Nat},
    chainBy slot nxt s n = some l → l.length = n
  | 0, _, _, h => by cases h; rfl
  | n + 1, _, _, h => by
    obtain ⟨_, _, _, h', rfl⟩ := chainBy_succ.1 h
    rw [List.length_cons, chainBy_length h']

/-- the chain only reads the slots on it -/
theorem chainBy_congr : ∀ {n s : Nat} {l : List Nat},
    chainBy slot nxt s n = some l → (∀ i ∈ l, ∀ e, slot i = some e → slot' i = some e) →
    chainBy slot' nxt s n = some l
  | 0, _, _, h, _ => h
  | n + 1, _, _, h, hl => by
    obtain ⟨e, l', he, h', rfl⟩ := chainBy_succ.1 h
    exact chainBy_succ.2 ⟨e, l', hl _ List.mem_cons_self e he,
      chainBy_congr h' (fun i hi => hl i (List.mem_cons_of_mem _ hi)), rfl⟩

theorem chainBy_set {T : List α} {i : Nat} {v : α} {n s : Nat} {l : List Nat}
    (h : chainBy (T[·]?) nxt s n = some l) (hi : i ∉ l) :
    chainBy ((T.set i v)[·]?) nxt s n = some l :=
  chainBy_congr h fun j hj e he => by
    show (T.set i v)[j]? = some e
    rw [List.getElem?_set_ne (fun hh : i = j => hi (hh ▸ hj))]; exact he

end

namespace Pool

/-- Follow the implicit free list: `chain ents s n` is the list of the `n` slots reached from
    `s` through the `id` fields. -/
def chain (ents : List Ent) : Nat → Nat → Option (List Nat)
  | _, 0 => some []
  | s, n + 1 =>
    match ents[s]? with
    | none => none
    | some e =>
      match chain ents e.id n with
      | none => none
      | some l => some (s :: l)

theorem chain_eq (ents : List Ent) : ∀ (n s : Nat),
    chain ents s n = chainBy (ents[·]?) (·.id) s n
  | 0, _ => rfl
  | n + 1, s => by
    simp only [chain, chainBy, chain_eq ents n]
    cases ents[s]? with
    | none => rfl
    | some e => cases chainBy (ents[·]?) (·.id) e.id n <;> rfl

theorem chain_length (ents : List Ent) (n s : Nat) (l : List Nat)
    (h : chain ents s n = some l) : l.length = n :=
  chainBy_length (chain_eq ents n s ▸ h)

theorem chain_succ {ents : List Ent} {n s : Nat} {l : List Nat} :
    chain ents s (n + 1) = some l ↔
      ∃ e l', ents[s]? = some e ∧ chain ents e.id n = some l' ∧ l = s :: l' := by
  simp only [chain_eq]; exact chainBy_succ

theorem chain_set (ents : List Ent) (i : Nat) (v : Ent) (n s : Nat) (l : List Nat)
    (h : chain ents s n = some l) (hi : i ∉ l) : chain (ents.set i v) s n = some l := by
  rw [chain_eq] at h ⊢; exact chainBy_set h hi

theorem chain_append (ents : List Ent) (v : Ent) (n s : Nat) (l : List Nat)
    (h : chain ents s n = some l) : chain (ents ++ [v]) s n = some l := by
  rw [chain_eq] at h ⊢
  exact chainBy_congr h fun j _ e he => by
    show (ents ++ [v])[j]? = some e
    rw [List.getElem?_append_left (List.getElem?_eq_some_iff.1 he).1]; exact he

/-- The pool invariant (I1): the free list `fl` is the chain of length `available` from `next`,
    it is duplicate free, contains only non-reserved existing slots, and every other slot holds
    its own ID. -/
structure PInv (p : Pool) (fl : List Nat) : Prop where
  ch : chain p.ents p.next p.available = some fl
  nodup : fl.Nodup
  res : ∀ i ∈ fl, 2 ≤ i ∧ i < p.ents.length
  self : ∀ i e, p.ents[i]? = some e → i ∉ fl → e.id = i
  len2 : 2 ≤ p.ents.length

theorem pinv_init : PInv Pool.init [] := by
  refine ⟨rfl, List.nodup_nil, ?_, ?_, ?_⟩
  · intro i hi; cases hi
  · intro i e h _
    match i with
    | 0 => simp [Pool.init] at h; subst h; rfl
    | 1 => simp [Pool.init] at h; subst h; rfl
    | n + 2 => simp [Pool.init] at h
  · simp [Pool.init]

theorem PInv.avail (p : Pool) (fl : List Nat) (h : PInv p fl) : fl.length = p.available :=
  chain_length _ _ _ _ h.ch

theorem getNew_inv (p : Pool) (fl : List Nat) (h : PInv p fl) :
    PInv p.getNew.1 fl ∧ p.getNew.2 = ⟨p.ents.length, 0⟩ := by
  refine ⟨⟨?_, h.nodup, ?_, ?_, ?_⟩, rfl⟩
  · simpa [getNew] using chain_append p.ents _ _ _ _ h.ch
  · intro i hi
    have := h.res i hi
    exact ⟨this.1, by simp only [getNew, List.length_append]; exact Nat.lt_succ_of_lt this.2⟩
  · intro i e he hnot
    simp only [getNew] at he
    by_cases hlt : i < p.ents.length
    · rw [List.getElem?_append_left hlt] at he; exact h.self i e he hnot
    · rw [List.getElem?_append_right (Nat.le_of_not_lt hlt)] at he
      have hi : i - p.ents.length = 0 := by
        cases hh : i - p.ents.length with
        | zero => rfl
        | succ k => rw [hh] at he; simp at he
      rw [hi] at he
      simp at he
      subst he
      exact (Nat.sub_eq_iff_eq_add (Nat.le_of_not_lt hlt)).1 hi |>.trans (Nat.zero_add _) |>.symm
  · simp only [getNew, List.length_append]; exact Nat.le_succ_of_le h.len2

theorem recycle_inv (p : Pool) (fl : List Nat) (e : Ent) (h : PInv p fl)
    (hlt : e.id < p.ents.length) (hres : 2 ≤ e.id) (halive : e.id ∉ fl) :
    PInv (p.recycle e) (e.id :: fl) := by
  refine ⟨?_, ?_, ?_, ?_, ?_⟩
  · exact chain_succ.2 ⟨_, fl, List.getElem?_set_self hlt,
      chain_set p.ents e.id _ _ _ _ h.ch halive, rfl⟩
  · exact List.nodup_cons.mpr ⟨halive, h.nodup⟩
  · intro i hi
    simp only [recycle, List.length_set]
    rcases List.mem_cons.mp hi with rfl | hi
    · exact ⟨hres, hlt⟩
    · exact h.res i hi
  · intro i e' he hnot
    simp only [recycle] at he
    have hne : i ≠ e.id := fun hh => hnot (by simp [hh])
    have hnot' : i ∉ fl := fun hh => hnot (by simp [hh])
    rw [List.getElem?_set_ne (Ne.symm hne)] at he
    exact h.self i e' he hnot'
  · simpa [recycle] using h.len2

/-- The recycling branch of `Get` pops the head `x` of the free list: it returns `x` with the
    slot's (already bumped) generation and stores that handle in the slot. -/
theorem getRecycled_eq (p : Pool) (x : Nat) (fl : List Nat) (h : PInv p (x :: fl)) :
    x ∉ fl ∧ ∃ e, p.ents[x]? = some e ∧ p.getRecycled.2 = ⟨x, e.gen⟩ ∧
      p.getRecycled.1.ents = p.ents.set x ⟨x, e.gen⟩ ∧ PInv p.getRecycled.1 fl := by
  have hav : p.available = fl.length + 1 := h.avail.symm
  have hch := h.ch
  rw [hav] at hch
  obtain ⟨e, l', he, hl', hl⟩ := chain_succ.1 hch
  injection hl with hx hl
  subst hl hx
  have hxlt : p.next < p.ents.length := (List.getElem?_eq_some_iff.mp he).1
  have hxfl : p.next ∉ fl := (List.nodup_cons.mp h.nodup).1
  have hgetD : p.ents.getD p.next default = e := by
    rw [List.getD_eq_getElem?_getD, he]; rfl
  have hents : p.getRecycled.1.ents = p.ents.set p.next ⟨p.next, e.gen⟩ := by
    simp only [getRecycled, hgetD]
  refine ⟨hxfl, e, he, ?_, hents, ?_, (List.nodup_cons.mp h.nodup).2, ?_, ?_, ?_⟩
  · show (p.ents.set p.next { p.ents.getD p.next default with id := p.next }).getD p.next default = _
    rw [List.getD_eq_getElem?_getD, List.getElem?_set_self hxlt, hgetD]
    rfl
  · simp only [getRecycled, hgetD, hav, Nat.add_sub_cancel]
    exact chain_set p.ents p.next _ _ _ _ hl' hxfl
  · intro i hi
    rw [hents, List.length_set]
    exact h.res i (List.mem_cons_of_mem _ hi)
  · intro i e' he' hnot
    rw [hents] at he'
    by_cases hix : i = p.next
    · subst hix
      rw [List.getElem?_set_self hxlt] at he'
      injection he' with he'; subst he'; rfl
    · rw [List.getElem?_set_ne (Ne.symm hix)] at he'
      exact h.self i e' he' (by
        intro hm
        rcases List.mem_cons.mp hm with hm | hm
        · exact hix hm
        · exact hnot hm)
  · rw [hents, List.length_set]; exact h.len2

theorem getRecycled_inv (p : Pool) (x : Nat) (fl : List Nat) (h : PInv p (x :: fl)) :
    PInv p.getRecycled.1 fl ∧ p.getRecycled.2.id = x ∧ x ∉ fl ∧
    (∃ e, p.ents[x]? = some e ∧ p.getRecycled.2.gen = e.gen) := by
  obtain ⟨hxfl, e, hex, hret, _, pi⟩ := getRecycled_eq p x fl h
  exact ⟨pi, by rw [hret], hxfl, e, hex, by rw [hret]⟩

theorem PInv.unique {p : Pool} {fl fl' : List Nat} (h : PInv p fl) (h' : PInv p fl') : fl = fl' :=
  Option.some.inj (h.ch.symm.trans h'.ch)

/-- pigeonhole: the free list fits into the non-reserved slots -/
theorem PInv.avail_le {p : Pool} {fl : List Nat} (h : PInv p fl) : fl.length + 2 ≤ p.ents.length := by
  have hsub : fl ⊆ List.range' 2 (p.ents.length - 2) := by
    intro i hi
    have := h.res i hi
    exact List.mem_range'_1.mpr ⟨this.1, by omega⟩
  have := List.Nodup.length_le_of_subset h.nodup hsub
  rw [List.length_range'] at this
  have := h.len2
  omega

theorem alive_eq {p : Pool} (hst : p.stale = []) (e : Ent) :
    p.alive e = match p.ents[e.id]? with
      | some s => s.gen == e.gen
      | none => false := by
  simp only [alive, hst, List.append_nil]
  cases p.ents[e.id]? <;> rfl

theorem alive_congr {p p' : Pool} (hst : p.stale = []) (hst' : p'.stale = []) (e : Ent)
    (h : p'.ents[e.id]? = p.ents[e.id]?) : p'.alive e = p.alive e := by
  rw [alive_eq hst, alive_eq hst', h]

/-- behind the slice, only a handle of the sentinel generation can read as alive -/
theorem alive_beyond_stale {p : Pool} (hs : ∀ e ∈ p.stale, e.gen = maxU32) {h : Ent}
    (hg : h.gen ≠ maxU32) (hle : p.ents.length ≤ h.id) : p.alive h = false := by
  simp only [alive]
  rw [List.getElem?_append_right hle]
  cases hx : p.stale[h.id - p.ents.length]? with
  | none => rfl
  | some x =>
    simp only [hs x (List.mem_of_getElem? hx)]
    exact beq_false_of_ne (fun hh => hg hh.symm)

theorem PInv.alive_iff {p : Pool} {fl : List Nat} (h : PInv p fl) (hst : p.stale = []) (e : Ent)
    (hnf : e.id ∉ fl) : p.alive e = true ↔ p.ents[e.id]? = some e := by
  rw [alive_eq hst]
  cases hs : p.ents[e.id]? with
  | none => simp
  | some s =>
    have hid := h.self e.id s hs hnf
    simp only [beq_iff_eq, Option.some.injEq]
    constructor
    · intro hg; cases s; cases e; simp_all
    · intro he; rw [he]

/-- what `Get` does, uniformly for both branches (`r` = the result of `p.get`) -/
structure GetSpec (p : Pool) (fl : List Nat) (r : Pool × Ent) : Prop where
  pinv : PInv r.1 fl.tail
  cases : (r.2.id = p.ents.length ∧ fl = [] ∧ r.2.gen = 0) ∨
    (r.2.id < p.ents.length ∧ fl = r.2.id :: fl.tail ∧
      ∃ s, p.ents[r.2.id]? = some s ∧ s.gen = r.2.gen)
  ge2 : 2 ≤ r.2.id
  notin : r.2.id ∉ fl.tail
  slot : r.1.ents[r.2.id]? = some r.2
  other : ∀ i : Nat, i ≠ r.2.id → r.1.ents[i]? = p.ents[i]?
  length : r.1.ents.length =
    if r.2.id = p.ents.length then p.ents.length + 1 else p.ents.length
  stale : p.stale = [] → r.1.stale = []
  len : r.1.len = p.len + 1

theorem get_spec (p : Pool) (fl : List Nat) (h : PInv p fl) : GetSpec p fl p.get := by
  have hlen2 := h.len2
  by_cases hav : p.available = 0
  · have hget : p.get = p.getNew := by simp [get, hav]
    have hfl0 : fl = [] := by
      have := h.avail; rw [hav] at this
      exact List.length_eq_zero_iff.mp this
    subst hfl0
    obtain ⟨pi, he⟩ := getNew_inv p [] h
    rw [hget]
    have hents : p.getNew.1.ents = p.ents ++ [⟨p.ents.length, 0⟩] := rfl
    refine ⟨pi, Or.inl ⟨by rw [he], rfl, by rw [he]⟩, by rw [he]; exact hlen2, by simp, ?_, ?_, ?_, ?_, ?_⟩
    · rw [he, hents]; exact List.getElem?_concat_length
    · intro i hi
      rw [he] at hi
      rw [hents]
      rcases Nat.lt_or_ge i p.ents.length with h1 | h1
      · exact List.getElem?_append_left h1
      · rw [List.getElem?_eq_none h1, List.getElem?_eq_none]
        simp only [List.length_append, List.length_singleton]
        exact Nat.lt_of_le_of_ne h1 (Ne.symm hi)
    · rw [he, hents]; simp
    · intro hs; show p.stale.drop 1 = []; rw [hs]; rfl
    · simp only [Pool.len, hents, List.length_append, List.length_singleton, reserved]
      show _ - p.available = _ - p.available + 1
      rw [hav]; omega
  · have hget : p.get = p.getRecycled := by simp [get, hav]
    obtain ⟨x, fl', hfl⟩ : ∃ x fl', fl = x :: fl' := by
      cases fl with
      | nil => exact absurd h.avail.symm hav
      | cons x fl' => exact ⟨x, fl', rfl⟩
    subst hfl
    obtain ⟨hxfl, e, hex, hret, hents, pi⟩ := getRecycled_eq p x fl' h
    have hx2 := (h.res x (by simp)).1
    have hxlt := (h.res x (by simp)).2
    rw [hget]
    refine ⟨pi, Or.inr ⟨by rw [hret]; exact hxlt, by rw [hret]; rfl, e, by rw [hret]; exact hex, by rw [hret]⟩,
      by rw [hret]; exact hx2, by rw [hret]; exact hxfl, ?_, ?_, ?_, fun hs => hs, ?_⟩
    · rw [hret, hents]; exact List.getElem?_set_self hxlt
    · intro i hi
      rw [hret] at hi
      rw [hents]; exact List.getElem?_set_ne (Ne.symm hi)
    · rw [hret, hents, List.length_set, if_neg (Nat.ne_of_lt hxlt)]
    · have hle := h.avail_le
      have hav' := h.avail
      simp only [List.length_cons] at hle hav'
      simp only [Pool.len, hents, List.length_set, reserved]
      show _ - (p.available - 1) = _
      omega

theorem recycle_spec (p : Pool) (fl : List Nat) (e : Ent) (h : PInv p fl) (h2 : 2 ≤ e.id)
    (hnf : e.id ∉ fl) (hs : p.ents[e.id]? = some e) :
    PInv (p.recycle e) (e.id :: fl) ∧
    (p.recycle e).ents[e.id]? = some ⟨p.next, e.gen + 1⟩ ∧
    (∀ i : Nat, i ≠ e.id → (p.recycle e).ents[i]? = p.ents[i]?) ∧
    (p.recycle e).ents.length = p.ents.length ∧
    (p.recycle e).stale = p.stale ∧
    (p.recycle e).len + 1 = p.len := by
  have hlt : e.id < p.ents.length := (List.getElem?_eq_some_iff.mp hs).1
  have pi := recycle_inv p fl e h hlt h2 hnf
  have hgetD : p.ents.getD e.id default = e := by
    rw [List.getD_eq_getElem?_getD, hs]; rfl
  refine ⟨pi, ?_, ?_, ?_, rfl, ?_⟩
  · simp only [recycle, hgetD]; exact List.getElem?_set_self hlt
  · intro i hi; simp only [recycle]; exact List.getElem?_set_ne (Ne.symm hi)
  · simp only [recycle, List.length_set]
  · have hle := pi.avail_le
    have hav := h.avail
    have hl : (p.recycle e).ents.length = p.ents.length := by simp only [recycle, List.length_set]
    rw [hl] at hle
    simp only [List.length_cons] at hle
    simp only [Pool.len, hl, reserved]
    show _ - (p.available + 1) + 1 = _
    omega

end Pool
end Ark
