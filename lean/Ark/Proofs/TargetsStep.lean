/-
  Ark.Proofs.TargetsStep — C04 at world level: one iteration of the inner loop of
  `cleanupArchetypes`: move the rows of a table targeting the removed entity to the table with
  the targets the filter selects replaced by the zero entity, free the table.
  `cleanTable_stepE` is the iteration while a list `D` of removed targets is pending, with the
  edit `ed` the entities see (`CleanFrameE`) and a relation `K` kept by the primitive steps
  (`CleanKeeps`); `cleanTable_step` is the case `D = [g]` of `RemoveEntity`.
-/
import Ark.Proofs.ShrinkInv
import Ark.Proofs.TargetsCleanup

set_option autoImplicit false

namespace Ark

open World Ark.Props.C01World

/-! ## 1. what the entities see of the cleanup -/

/-- a target `o` as it reads after the cleanup of `g` -/
def zeroed (g : Ent) (o : Option Ent) : Option Ent := if o = some g then some Ent.zero else o

/-- one step of the cleanup changes a target not at all, or zeroes it -/
def TgtStep (g : Ent) (o o' : Option Ent) : Prop := o' = o ∨ o' = zeroed g o

/-- how a world `w` reached during the cleanup of `g` relates to the world `w0` it started
    from -/
structure CleanFrame (g : Ent) (w0 w : World) : Prop where
  pool : w.pool = w0.pool
  isTarget : w.isTarget = w0.isTarget
  kinds : w.kinds = w0.kinds
  maxComps : w.maxComps = w0.maxComps
  relationArchetypes : w.relationArchetypes = w0.relationArchetypes
  obs : w.obs = w0.obs
  locks : w.locks = w0.locks
  archLen : w.archetypes.length = w0.archetypes.length
  idxSame : IdxSame w0 w
  same : ∀ (j : Nat), SameEnt w0 w j
  tgt : ∀ (j : Nat) (c : Comp), TgtStep g (targetOf w0 j c) (targetOf w j c)
  tablesLe : w0.tables.length ≤ w.tables.length

/-- how a world `w` reached during a cleanup relates to the world `w0` it started from, when the
    entities see a target kept or edited by `ed`; `CleanFrame g` is the case `ed = zeroIf g` -/
structure CleanFrameE (ed : Ent → Ent) (w0 w : World) : Prop where
  pool : w.pool = w0.pool
  isTarget : w.isTarget = w0.isTarget
  kinds : w.kinds = w0.kinds
  maxComps : w.maxComps = w0.maxComps
  relationArchetypes : w.relationArchetypes = w0.relationArchetypes
  obs : w.obs = w0.obs
  locks : w.locks = w0.locks
  archLen : w.archetypes.length = w0.archetypes.length
  idxSame : IdxSame w0 w
  same : ∀ (j : Nat), SameEnt w0 w j
  tgt : ∀ (j : Nat) (c : Comp),
    targetOf w j c = targetOf w0 j c ∨ targetOf w j c = (targetOf w0 j c).map ed
  tablesLe : w0.tables.length ≤ w.tables.length

theorem CleanFrameE.refl (ed : Ent → Ent) (w : World) : CleanFrameE ed w w :=
  ⟨rfl, rfl, rfl, rfl, rfl, rfl, rfl, rfl, IdxSame.refl w,
    fun _ => ⟨fun _ => rfl, rfl⟩, fun _ _ => Or.inl rfl, Nat.le_refl _⟩

/-- frames compose when editing twice is editing once -/
theorem CleanFrameE.trans {ed : Ent → Ent} (hee : ∀ (h : Ent), ed (ed h) = ed h) {a b c : World}
    (h1 : CleanFrameE ed a b) (h2 : CleanFrameE ed b c) : CleanFrameE ed a c :=
  ⟨h2.pool.trans h1.pool, h2.isTarget.trans h1.isTarget, h2.kinds.trans h1.kinds,
    h2.maxComps.trans h1.maxComps, h2.relationArchetypes.trans h1.relationArchetypes,
    h2.obs.trans h1.obs, h2.locks.trans h1.locks, h2.archLen.trans h1.archLen,
    h1.idxSame.trans h2.idxSame, fun j => (h1.same j).trans (h2.same j),
    fun j c => by
      rcases h2.tgt j c with k2 | k2 <;> rcases h1.tgt j c with k1 | k1 <;> rw [k2, k1]
      · exact Or.inl rfl
      · exact Or.inr rfl
      · exact Or.inr rfl
      · right
        cases targetOf a j c with
        | none => rfl
        | some x => rw [Option.map_some, Option.map_some, hee],
    Nat.le_trans h1.tablesLe h2.tablesLe⟩

theorem map_zeroIf (g : Ent) (o : Option Ent) : o.map (zeroIf g) = zeroed g o := by
  unfold zeroed zeroIf
  cases o with
  | none => rfl
  | some h =>
    by_cases hg : h = g
    · rw [Option.map_some, if_pos hg, if_pos (by rw [hg])]
    · rw [Option.map_some, if_neg hg, if_neg (fun hh => hg (Option.some.inj hh))]

theorem zeroIf_idem {g : Ent} (hg0 : g.id ≠ 0) (h : Ent) : zeroIf g (zeroIf g h) = zeroIf g h := by
  unfold zeroIf
  by_cases hg : h = g
  · rw [if_pos hg, if_neg (fun hh => ent_ne_zero hg0 hh.symm)]
  · rw [if_neg hg, if_neg hg]

theorem CleanFrameE.single {g : Ent} {w0 w : World} (h : CleanFrameE (zeroIf g) w0 w) :
    CleanFrame g w0 w :=
  { pool := h.pool, isTarget := h.isTarget, kinds := h.kinds, maxComps := h.maxComps,
    relationArchetypes := h.relationArchetypes, obs := h.obs, locks := h.locks,
    archLen := h.archLen, idxSame := h.idxSame, same := h.same,
    tgt := fun j c => by have := h.tgt j c; rwa [map_zeroIf] at this
    tablesLe := h.tablesLe }

theorem CleanFrame.refl (g : Ent) (w : World) : CleanFrame g w w :=
  (CleanFrameE.refl (zeroIf g) w).single

theorem CleanGot.keepT {w w1 : World} {a tid nt : Nat} {ts' : List Ent}
    (cg : CleanGot w w1 a tid nt ts') {t : Nat} (htl : t < w.tables.length)
    (hf : (w.tbl t).isFree = false) : w1.tables[t]? = w.tables[t]? := by
  by_cases e : t = nt
  · subst e
    exact (cg.ntKeep htl).resolve_right (by rw [hf]; exact Bool.noConfusion)
  · exact cg.others t e

/-- a recycled table had no rows -/
theorem CleanGot.frame {w w1 : World} {a tid nt : Nat} {ts' : List Ent}
    (cg : CleanGot w w1 a tid nt ts') (hI : IdxInv w) (hE : FreeEmpty w) (j : Nat) :
    SameEnt w w1 j ∧ ∀ (c : Comp), targetOf w1 j c = targetOf w j c := by
  refine frame_of_rows hI cg.entities (fun t Tt hTt hpos => ?_) j
  have hf : (w.tbl t).isFree = false := by
    cases hf : (w.tbl t).isFree with
    | false => rfl
    | true => have := hE t Tt hTt (by rw [← tbl_of_get hTt]; exact hf); omega
  exact ⟨Tt, by rw [cg.keepT (lt_of_get hTt) hf]; exact hTt, rfl, rfl, rfl, rfl⟩

/-! ## 2. the freeing block -/

theorem filter_pos_of_getD_true {l : List Bool} {k : Nat} (h : l.getD k false = true) :
    0 < (l.filter fun b => b).length := by
  have hlt := lt_of_getD_true h
  rw [List.getD_eq_getElem?_getD, List.getElem?_eq_getElem hlt] at h
  exact List.length_pos_of_mem (List.mem_filter.2 ⟨List.getElem_mem hlt, h⟩)

theorem getD_true_unique : ∀ (l : List Bool), (l.filter fun b => b).length ≤ 1 → ∀ (i j : Nat),
    l.getD i false = true → l.getD j false = true → i = j
  | [], _, _, _, hi, _ => nomatch hi
  | _ :: _, _, 0, 0, _, _ => rfl
  | b :: l, h, 0, j + 1, hi, hj => by
    have hb : b = true := hi
    have := filter_pos_of_getD_true (l := l) hj
    rw [hb, List.filter_cons_of_pos rfl, List.length_cons] at h; omega
  | b :: l, h, i + 1, 0, hi, hj => by
    have hb : b = true := hj
    have := filter_pos_of_getD_true (l := l) hi
    rw [hb, List.filter_cons_of_pos rfl, List.length_cons] at h; omega
  | b :: l, h, i + 1, j + 1, hi, hj => by
    have h' : (l.filter fun b => b).length ≤ 1 :=
      Nat.le_trans (List.Sublist.length_le ((List.sublist_cons_self b l).filter _)) h
    rw [getD_true_unique l h' i j hi hj]

namespace Table

theorem setFree_shape {T : Table} (h : T.Shape) (b : Bool) : ({ T with isFree := b } : Table).Shape :=
  ⟨h.len_le, h.ents_len, h.cols_len, h.zst_len, h.col_len, h.zero_tail, h.zst_zero⟩

end Table

namespace World

theorem cacheRemoveTable_fields (w : World) (t : Nat) :
    (w.cacheRemoveTable t).archetypes = w.archetypes ∧ (w.cacheRemoveTable t).tables = w.tables ∧
    (w.cacheRemoveTable t).kinds = w.kinds ∧ (w.cacheRemoveTable t).entities = w.entities ∧
    (w.cacheRemoveTable t).pool = w.pool := ⟨rfl, rfl, rfl, rfl, rfl⟩

theorem cacheRemoveTable_relsOK {w : World} (h : CacheRelsOK w) (t : Nat) :
    CacheRelsOK (w.cacheRemoveTable t) := by
  intro e he r hr
  simp only [cacheRemoveTable, List.mem_map] at he
  obtain ⟨e0, he0, rfl⟩ := he
  exact h e0 he0 r hr

end World

structure Freed (w w' : World) (a tid : Nat) : Prop where
  entities : w'.entities = w.entities
  pool : w'.pool = w.pool
  isTarget : w'.isTarget = w.isTarget
  kinds : w'.kinds = w.kinds
  maxComps : w'.maxComps = w.maxComps
  relationArchetypes : w'.relationArchetypes = w.relationArchetypes
  obs : w'.obs = w.obs
  locks : w'.locks = w.locks
  tables : w'.tables = w.tables.set tid { w.tbl tid with isFree := true }
  archA : w'.arch a = (w.arch a).freeTable tid
  archLen : w'.archetypes.length = w.archetypes.length
  otherArchs : ∀ (b : Nat), b ≠ a → w'.archetypes[b]? = w.archetypes[b]?

theorem Freed.frame {w w' : World} {a tid : Nat} (fr : Freed w w' a tid) (hI : IdxInv w)
    (j : Nat) : SameEnt w w' j ∧ ∀ (c : Comp), targetOf w' j c = targetOf w j c := by
  refine frame_of_rows hI fr.entities (fun t Tt hTt _ => ?_) j
  rw [fr.tables]
  by_cases e : t = tid
  · subst e
    rw [List.getElem?_set_self (lt_of_get hTt), tbl_of_get hTt]
    exact ⟨_, rfl, rfl, rfl, rfl, rfl⟩
  · rw [List.getElem?_set_ne (fun x => e x.symm)]
    exact ⟨Tt, hTt, rfl, rfl, rfl, rfl⟩

/-- **the freeing block**: `FreeTable` on the archetype, `isFree := true` on the (empty, active)
    table, `cache.removeTable` — keeps the cleanup invariants.
    `hsingle`: on an archetype with at most one relation column Go's `FreeTable` leaves
    `relationTables` and `targetTables` alone (`Archetype.freeTable`), so the entries of `tid`
    stay behind; `RInvExcept` tolerates them only under the excepted key `g`. -/
theorem freeW_stepD {D : List Ent} {g : Ent} {a tid : Nat} {w : World} (hB : CleanBaseD D w)
    (hX : RInvExcept w a g.id) (ha : a < w.archetypes.length)
    (hact : tid ∈ (w.arch a).tables.tables) (hrelA : (w.arch a).hasRelations = true)
    (hlen0 : (w.tbl tid).len = 0)
    (hsingle : (w.arch a).numRel ≤ 1 → ∀ (i : Nat), (w.arch a).isRel.getD i false = true →
      ((w.tbl tid).targets.getD i Ent.zero).id = g.id) :
    CleanBaseD D (freeW w a tid) ∧ RInvExcept (freeW w a tid) a g.id ∧ Freed w (freeW w a tid) a tid := by
  have hS := hB.sinv.toSInvMid
  have hA := aget_of_lt ha
  obtain ⟨hlt, hTa', hTf⟩ := (hS.listed ha tid).1.1 hact
  -- `tid` is listed active, so it is not on the free list: a listed free table has `isFree = true`
  have hnf : tid ∉ (w.arch a).freeTables := fun hin => by
    have := ((hS.listed ha tid).2.1 hin).2.2
    rw [hTf] at this; cases this
  have hstruct := hS.astruct a _ hA
  -- the world before `cache.removeTable`
  have hsh : StepShape w ((w.modArch a fun A => A.freeTable tid).modTbl tid fun T => { T with isFree := true })
      tid { w.tbl tid with isFree := true } ((w.arch a).freeTable tid) := by
    refine
      { lt := hlt
        tables := rfl
        archs := by rw [hTa']; rfl
        kinds := rfl
        id := rfl, arch := rfl, ids := rfl, isRel := rfl, zst := rfl, targets := rfl, relIDs := rfl
        arel := by rw [hTa']; exact Archetype.freeTable_archRel _ _
        astruct := hstruct.freeTable tid hnf
        mem := ?_
        other := ?_
        nonRel := ?_ }
    · refine ⟨⟨fun e => Bool.noConfusion e, fun hin => ?_⟩, ⟨fun _ => ?_, fun _ => rfl⟩⟩
      · rw [Archetype.freeTable_tables, hstruct.tablesWF.mem_remove] at hin
        exact absurd rfl hin.2
      · rw [Archetype.freeTable_freeTables]; simp
    · intro t0 e
      rw [hTa']
      refine ⟨?_, ?_⟩
      · rw [Archetype.freeTable_tables, hstruct.tablesWF.mem_remove]
        exact ⟨fun hin => hin.1, fun hin => ⟨hin, e⟩⟩
      · rw [Archetype.freeTable_freeTables]; simp [e]
    · intro hno
      rw [hTa', hrelA] at hno; cases hno
  have hsinv1 := hsh.sinv hB.sinv
  have htab : (freeW w a tid).tables = w.tables.set tid { w.tbl tid with isFree := true } := rfl
  have harch : (freeW w a tid).archetypes = w.archetypes.set a ((w.arch a).freeTable tid) := rfl
  have harchA : (freeW w a tid).arch a = (w.arch a).freeTable tid := by
    simp only [arch, harch, List.getD_eq_getElem?_getD, List.getElem?_set_self ha, Option.getD_some]
  -- the per-table clauses of `CleanBaseD` speak of non-free tables only: afterwards those are
  -- old non-free tables, unchanged (`tid` has become free)
  have hget : ∀ (t0 : Nat) (T0 : Table), (freeW w a tid).tables[t0]? = some T0 →
      T0.isFree = false → w.tables[t0]? = some T0 := by
    intro t0 T0 h0 hf
    rw [htab] at h0
    by_cases e : t0 = tid
    · subst e
      rw [List.getElem?_set_self hlt] at h0
      rw [← Option.some.inj h0] at hf; cases hf
    · rwa [List.getElem?_set_ne (fun x => e x.symm)] at h0
  -- only `isFree` of `tid` changed: every target column reads as before, all `RInvExcept` looks at
  have htgfun : (fun t => ((freeW w a tid).tbl t).targets) = fun t => (w.tbl t).targets := by
    funext t
    by_cases e : t = tid
    · subst e
      rw [tbl_set_self htab hlt]
    · rw [tbl_set_ne htab (Ne.symm e)]
  refine ⟨?_, ?_, ?_⟩
  · refine
      { idx := ?_
        sinv := hsinv1.congr rfl rfl rfl
        tgts := fun t0 T0 h0 hf => hB.tgts t0 T0 (hget t0 T0 h0 hf) hf
        rels := fun t0 T0 h0 hf => hB.rels t0 T0 (hget t0 T0 h0 hf) hf
        cacheRels := cacheRemoveTable_relsOK hB.cacheRels tid
        flags := fun t0 T0 h0 hf => hB.flags t0 T0 (hget t0 T0 h0 hf) hf
        freeEmpty := ?_
        relArchs := ?_ }
    · have := hB.idx.of_same_rows tid { w.tbl tid with isFree := true }
        (Table.setFree_shape (hB.idx.shape tid _ (get_of_lt hlt)) true) rfl rfl (fun _ _ => rfl)
      exact this.congr rfl rfl
    · intro t0 T0 h0 hf
      rw [htab] at h0
      by_cases e : t0 = tid
      · subst e
        rw [List.getElem?_set_self hlt] at h0
        rw [← Option.some.inj h0]; exact hlen0
      · rw [List.getElem?_set_ne (fun x => e x.symm)] at h0
        exact hB.freeEmpty t0 T0 h0 hf
    -- `freeTable` keeps the relation columns: if `a` has relations afterwards it had them before
    · intro b B hB' hrel
      show b ∈ w.relationArchetypes
      rw [harch] at hB'
      by_cases e : b = a
      · subst e
        rw [List.getElem?_set_self ha] at hB'
        obtain rfl := Option.some.inj hB'
        apply hB.relArchs b _ hA
        simpa only [Archetype.hasRelations, (Archetype.freeTable_archRel _ _).numRel] using hrel
      · rw [List.getElem?_set_ne (fun x => e x.symm)] at hB'
        exact hB.relArchs b B hB' hrel
  · constructor
    -- on `a` the entries of `tid` may stay behind: `hsingle` puts them under the excepted key
    · intro A1 hA1
      rw [harch, List.getElem?_set_self ha] at hA1
      obtain rfl := Option.some.inj hA1
      rw [htgfun]
      exact (hX.1 _ hA).freeTable tid hnf hsingle
    · intro b B hb hB'
      rw [harch, List.getElem?_set_ne (fun x => hb x.symm)] at hB'
      rw [htgfun]
      exact hX.2 b B hb hB'
  · exact
      { entities := rfl, pool := rfl, isTarget := rfl, kinds := rfl, maxComps := rfl,
        relationArchetypes := rfl, obs := rfl, locks := rfl, tables := htab, archA := harchA,
        archLen := by rw [harch, List.length_set]
        otherArchs := fun b hb => by rw [harch, List.getElem?_set_ne (fun x => hb x.symm)] }

/-! ## 3. one iteration of the inner loop -/

theorem targetAt_edit {ed : Ent → Ent} {T N : Table} (hids : N.ids = T.ids)
    (hrel : N.isRel = T.isRel)
    (htg : ∀ (i : Nat), T.isRel.getD i false = true →
      N.targets.getD i Ent.zero = ed (T.targets.getD i Ent.zero)) (c : Comp) :
    N.targetAt c = (T.targetAt c).map ed := by
  simp only [Table.targetAt, Table.colIdx, hids, hrel]
  split
  · simp only [Option.bind_some]
    split
    · rename_i hr
      rw [htg _ hr]; rfl
    · rfl
  · rfl

structure CleanStep (g : Ent) (a tid : Nat) (w w' : World) : Prop where
  base : CleanBase g w'
  exc : RInvExcept w' a g.id
  frame : CleanFrame g w w'
  /-- an active table afterwards is an old one other than `tid` with its targets, or has no
      column targeting `g` -/
  act : ∀ (t : Nat), t ∈ (w'.arch a).tables.tables →
    (t ∈ (w.arch a).tables.tables ∧ t ≠ tid ∧ (w'.tbl t).targets = (w.tbl t).targets) ∨
    (∀ (i : Nat), (w.arch a).isRel.getD i false = true →
      ((w'.tbl t).targets.getD i Ent.zero).id ≠ g.id)
  keep : ∀ (t : Nat), t ∈ (w.arch a).tables.tables → t ≠ tid →
    t ∈ (w'.arch a).tables.tables ∧ (w'.tbl t).targets = (w.tbl t).targets
  isRel : (w'.arch a).isRel = (w.arch a).isRel
  otherArchs : ∀ (b : Nat), b ≠ a → w'.archetypes[b]? = w.archetypes[b]?
  hasFree : (w'.arch a).freeTables ≠ []
  lenB : w'.tables.length ≤ w.tables.length + 1
  lenFresh : w'.tables.length = w.tables.length + 1 → (w.arch a).freeTables = []

structure CleanStepE (D : List Ent) (g : Ent) (ed : Ent → Ent) (a tid : Nat) (w w' : World) :
    Prop where
  base : CleanBaseD D w'
  exc : RInvExcept w' a g.id
  frame : CleanFrameE ed w w'
  act : ∀ (t : Nat), t ∈ (w'.arch a).tables.tables →
    (t ∈ (w.arch a).tables.tables ∧ t ≠ tid ∧ (w'.tbl t).targets = (w.tbl t).targets) ∨
    (∀ (i : Nat), (w.arch a).isRel.getD i false = true →
      ((w'.tbl t).targets.getD i Ent.zero).id ≠ g.id)
  keep : ∀ (t : Nat), t ∈ (w.arch a).tables.tables → t ≠ tid →
    t ∈ (w'.arch a).tables.tables ∧ (w'.tbl t).targets = (w.tbl t).targets
  isRel : (w'.arch a).isRel = (w.arch a).isRel
  otherArchs : ∀ (b : Nat), b ≠ a → w'.archetypes[b]? = w.archetypes[b]?
  -- `createTable` appends a table only if `a` has no free table to recycle; afterwards `a` has
  -- one, the freed `tid`.  The inner loop counts its new tables with these three.
  hasFree : (w'.arch a).freeTables ≠ []
  lenB : w'.tables.length ≤ w.tables.length + 1
  lenFresh : w'.tables.length = w.tables.length + 1 → (w.arch a).freeTables = []

/-- a relation between worlds that composes and holds across the four primitive steps of
    `cleanupArchetypes`: finding or creating the destination table, moving the rows of a table,
    freeing a table, `RemoveTarget` on an archetype.  It then holds across the whole cleanup. -/
structure CleanKeeps (K : World → World → Prop) : Prop where
  refl : ∀ (w : World), K w w
  trans : ∀ {w1 w2 w3 : World}, K w1 w2 → K w2 w3 → K w1 w3
  got : ∀ {w w1 : World} {a nt : Nat} {rels : List RelID}, SInvMid w → a < w.archetypes.length →
    (w.arch a).hasRelations = true → getOrCreate a rels w = .ok nt w1 → K w w1
  moved : ∀ {w : World} {src dst : Nat}, IdxInv w → src ≠ dst → src < w.tables.length →
    dst < w.tables.length → (w.tbl dst).len + (w.tbl src).len < 2 ^ 32 →
    K w (moveEntitiesW w src dst (w.tbl src).len)
  freed : ∀ {w : World} {a tid : Nat}, SInvMid w → a < w.archetypes.length →
    tid ∈ (w.arch a).tables.tables → K w (freeW w a tid)
  untargeted : ∀ {w : World} {a : Nat} {g : Ent}, K w (w.modArch a fun A => A.removeTarget g)

theorem cleanKeeps_true : CleanKeeps fun _ _ => True :=
  ⟨fun _ => trivial, fun _ _ => trivial, fun _ _ _ _ => trivial, fun _ _ _ _ _ => trivial,
    fun _ _ _ => trivial, trivial⟩

/-- **One iteration of the inner loop**: the rows of a table with a column targeting `g` move to
    the table with every target edited by the filter (`ed` on the admitted targets), the table is
    freed.  `hrows`: a table has at most `entities.length` rows (`IdxInv.rows_le`), so source and
    destination together stay below the `2 ^ 32` rows the move asks for. -/
theorem cleanTable_stepE {D : List Ent} {g : Ent} {ed : Ent → Ent} {K : World → World → Prop}
    (hK : CleanKeeps K) {a tid : Nat} {w : World} (hB : CleanBaseD D w)
    (hX : RInvExcept w a g.id) (hg0 : g.id ≠ 0) (ha : a < w.archetypes.length)
    (hact : tid ∈ (w.arch a).tables.tables)
    (htg : ∃ (i0 : Nat), (w.arch a).isRel.getD i0 false = true ∧
      ((w.tbl tid).targets.getD i0 Ent.zero).id = g.id)
    (hfew : w.tables.length + 1 ≤ maxU32) (hrows : 2 * w.entities.length < 2 ^ 32)
    (he : ∀ (h : Ent), OKTs w D h → cleanEdit w g h = ed h) :
    ∃ (w' : World), cleanTable g a tid w = .ok () w' ∧ CleanStepE D g ed a tid w w' ∧ K w w' := by
  have hS := hB.sinv.toSInvMid
  have hA := aget_of_lt ha
  obtain ⟨hlt, hTa', hTf⟩ := (hS.listed ha tid).1.1 hact
  have i2 : (w.tbl tid).isRel = (w.arch a).isRel := hTa' ▸ (hS.fits hlt).2.2.isRel
  have hnd := hS.ids_nodup (get_of_lt hlt)
  have hrl := hS.isRel_len (get_of_lt hlt)
  have hTex := hB.rels tid _ (get_of_lt hlt) hTf
  have hokt : ∀ (i : Nat), (w.tbl tid).isRel.getD i false = true →
      OKTs w D ((w.tbl tid).targets.getD i Ent.zero) :=
    fun i hi => hB.tgts tid _ (get_of_lt hlt) hTf i hi
  obtain ⟨i0, hi0, hid0⟩ := htg
  have hi0' : (w.tbl tid).isRel.getD i0 false = true := by rw [i2]; exact hi0
  have hrelA : (w.arch a).hasRelations = true := (hS.astruct a _ hA).hasRelations_of_rel hi0
  -- with one relation column only, that column is `i0`, the one targeting `g`: what
  -- `freeW_stepD` asks before it lets the index entries of `tid` stay
  have hsingle : (w.arch a).numRel ≤ 1 → ∀ (i : Nat), (w.arch a).isRel.getD i false = true →
      ((w.tbl tid).targets.getD i Ent.zero).id = g.id := by
    intro h1 i hi
    have := getD_true_unique (w.arch a).isRel (by rw [← (hS.astruct a _ hA).numRelEq]; exact h1) i i0 hi hi0
    rw [this]; exact hid0
  -- `cleanRels` names columns of the table (`c1`); setting them keeps the width (`c2`) and edits
  -- every relation target by `cleanEdit` (`c3`)
  obtain ⟨c1, c2, c3⟩ := cleanRels_edit (w := w) (g := g) hTex hnd hrl
  rw [cleanTable_eq]
  by_cases hlen : (w.tbl tid).len > 0
  · rw [if_pos hlen, getExchangeTargetsUnchecked_eq _ _ c1]
    -- rows to move: the destination `nt` is found or created, giving `w1`; `nt ≠ tid`, so `tid`
    -- is the same table in `w1`
    obtain ⟨nt, w1, hgo, hB1, hX1, cg⟩ := cleanGetD hB hX hg0 hlt hTa' hTf ⟨i0, hi0', hid0⟩ c2 c3
    simp only [hgo]
    have htid1 : w1.tables[tid]? = w.tables[tid]? := cg.others tid (Ne.symm cg.ntNe)
    have htbl1 : w1.tbl tid = w.tbl tid := tbl_eq_of_get htid1
    have hlt1 : tid < w1.tables.length := Nat.lt_of_lt_of_le hlt cg.tablesLe
    have hlen1 : w1.tables.length ≤ maxU32 := by have := cg.lenB; omega
    have hI1 := hB1.idx
    have hrowsB : (w1.tbl nt).len + (w1.tbl tid).len < 2 ^ 32 := by
      have h1 := hI1.rows_le nt
      have h2 := hI1.rows_le tid
      rw [cg.entities] at h1 h2
      omega
    have mv := hI1.moved (src := tid) (dst := nt) (Ne.symm cg.ntNe) hlt1 cg.ntLt (by omega)
      (by have := cg.ntLt; omega) (by rw [htbl1, cg.ntIds]) (by rw [htbl1, cg.ntZst]) hrowsB
    rw [htbl1] at mv
    have mvq := hK.moved hI1 (Ne.symm cg.ntNe) hlt1 cg.ntLt hrowsB
    rw [htbl1] at mvq
    -- the worlds after the move and after the freeing block, as variables
    generalize moveEntitiesW w1 tid nt (w.tbl tid).len = w2 at mv mvq ⊢
    -- the move keeps the base invariant; `freeEmpty` alone counts rows: `tid` is emptied, `nt` is
    -- not free, the rest keep their length
    have hB2 : CleanBaseD D w2 := by
      refine
        { idx := mv.idx
          sinv := hB1.sinv.of_metaStep mv.ms
          tgts := (hB1.tgts.of_metaStep mv.ms).mono fun _ hk => hk.mono_alive mv.pool
          rels := hB1.rels.of_metaStep mv.ms
          cacheRels := by intro e he; rw [mv.ms.cache] at he; exact hB1.cacheRels e he
          flags := hB1.flags.of_metaStep mv.ms (fun i hi => by rw [mv.isTarget]; exact hi)
          freeEmpty := ?_
          relArchs := by
            intro b B hB' hrel
            rw [mv.ms.archetypes] at hB'
            rw [mv.ms.relationArchetypes]
            exact hB1.relArchs b B hB' hrel }
      · intro t0 T0 h0 hf
        by_cases e1 : t0 = tid
        · subst e1; rw [← tbl_of_get h0]; exact mv.srcLen
        · by_cases e2 : t0 = nt
          · subst e2
            have hlt0 : t0 < w1.tables.length := cg.ntLt
            have := (mv.ms.tmeta t0 hlt0).isFree
            rw [tbl_of_get h0, cg.ntFree] at this
            rw [this] at hf; cases hf
          · rw [mv.lenOther t0 e1 e2] at h0
            exact hB1.freeEmpty t0 T0 h0 hf
    have hX2 : RInvExcept w2 a g.id := by
      have hfun := targets_fun_eq mv.ms.len mv.ms.tmeta
      constructor
      · intro A1 hA1; rw [mv.ms.archetypes] at hA1; rw [hfun]; exact hX1.1 A1 hA1
      · intro b B hb hB'; rw [mv.ms.archetypes] at hB'; rw [hfun]; exact hX1.2 b B hb hB'
    -- the premises of `freeW_stepD` at `w2`, carried from `w` through `cg` and `mv`
    have harch2 : ∀ (b : Nat), w2.arch b = w1.arch b :=
      fun b => arch_congr mv.ms.archetypes _
    have ha2 : a < w2.archetypes.length := by
      rw [mv.ms.archetypes, cg.archLen]; exact ha
    have hact1 : tid ∈ (w1.arch a).tables.tables := (cg.actA tid).2 (Or.inl hact)
    have hmeta2 := mv.ms.tmeta tid hlt1
    have htg2 : (w2.tbl tid).targets = (w.tbl tid).targets := by
      rw [hmeta2.targets, htbl1]
    have hnumRel1 : (w1.arch a).numRel = (w.arch a).numRel := by
      have s1 := hB1.sinv.astruct a _ (aget_of_lt (by rw [cg.archLen]; exact ha))
      rw [s1.numRelEq, cg.archIsRel, ← (hS.astruct a _ hA).numRelEq]
    obtain ⟨hB3, hX3, fr⟩ := freeW_stepD hB2 hX2 ha2 (by rw [harch2]; exact hact1)
      (by rw [harch2]; simp only [Archetype.hasRelations, hnumRel1]; exact hrelA) mv.srcLen (by
        rw [harch2, hnumRel1, cg.archIsRel, htg2]; exact hsingle)
    have hq : K w (freeW w2 a tid) :=
      hK.trans (hK.trans (hK.got hS ha hrelA hgo) mvq)
        (hK.freed hB2.sinv.toSInvMid ha2 (by rw [harch2]; exact hact1))
    refine ⟨_, rfl, ?_, hq⟩
    generalize freeW w2 a tid = w3 at hB3 hX3 fr ⊢
    -- `w3` against `w`: `nt` holds the edited targets of `tid`, other non-free tables keep
    -- theirs, the active tables of `a` are the old ones and `nt`, without `tid`
    have htab3 : ∀ (t : Nat), t ≠ tid → w3.tbl t = w2.tbl t := by
      intro t ht
      exact tbl_eq_of_get (by rw [fr.tables, List.getElem?_set_ne (fun x => ht x.symm)])
    have htgt_nt : ∀ (i : Nat), (w.tbl tid).isRel.getD i false = true →
        (w3.tbl nt).targets.getD i Ent.zero =
          cleanEdit w g ((w.tbl tid).targets.getD i Ent.zero) := by
      intro i hi
      rw [htab3 nt cg.ntNe, (mv.ms.tmeta nt cg.ntLt).targets, cg.ntTgt i hi, c3 i hi]
    have hkeepT : ∀ (t : Nat), t < w.tables.length → t ≠ tid → (w.tbl t).isFree = false →
        (w3.tbl t).targets = (w.tbl t).targets := by
      intro t htl ht hf
      have h1 : w1.tbl t = w.tbl t := tbl_eq_of_get (cg.keepT htl hf)
      rw [htab3 t ht, (mv.ms.tmeta t (Nat.lt_of_lt_of_le htl cg.tablesLe)).targets, h1]
    have hactIff : ∀ (t : Nat),
        t ∈ (w3.arch a).tables.tables ↔
          (t ∈ (w.arch a).tables.tables ∨ t = nt) ∧ t ≠ tid := by
      intro t
      have s1 := hB1.sinv.astruct a _ (aget_of_lt (by rw [cg.archLen]; exact ha))
      rw [fr.archA, harch2, Archetype.freeTable_tables, s1.tablesWF.mem_remove, cg.actA]
    have hnonfree : ∀ (t : Nat), t ∈ (w.arch a).tables.tables →
        t < w.tables.length ∧ (w.tbl t).isFree = false := by
      intro t ht
      obtain ⟨k1, _, k2⟩ := (hS.listed ha t).1.1 ht
      exact ⟨k1, k2⟩
    have f1 := cg.frame hB.idx hB.freeEmpty
    have f3 := fr.frame hB2.idx
    refine
      { base := hB3, exc := hX3
        frame := ?_
        act := ?_, keep := ?_
        isRel := by rw [fr.archA, (Archetype.freeTable_archRel _ _).isRel, harch2, cg.archIsRel]
        otherArchs := fun b hb => by rw [fr.otherArchs b hb, mv.ms.archetypes, cg.otherArchs b hb]
        hasFree := by rw [fr.archA, Archetype.freeTable_freeTables]; simp
        lenB := by rw [fr.tables, List.length_set, mv.ms.len]; exact cg.lenB
        lenFresh := by
          rw [fr.tables, List.length_set, mv.ms.len]; exact cg.lenFresh }
    · refine
        { pool := by rw [fr.pool, mv.pool, cg.pool]
          isTarget := by rw [fr.isTarget, mv.isTarget, cg.isTarget]
          kinds := by rw [fr.kinds, mv.ms.kinds, cg.kinds]
          maxComps := by rw [fr.maxComps, mv.maxComps, cg.maxComps]
          relationArchetypes := by
            rw [fr.relationArchetypes, mv.ms.relationArchetypes, cg.relationArchetypes]
          obs := by rw [fr.obs, mv.obs, cg.obs]
          locks := by rw [fr.locks, mv.locks, cg.locks]
          archLen := by rw [fr.archLen, mv.ms.archetypes, cg.archLen]
          idxSame := ((IdxSame.of_eq cg.entities).trans mv.idxSame).trans (IdxSame.of_eq fr.entities)
          same := fun j => ((f1 j).1.trans (mv.same j)).trans (f3 j).1
          tgt := ?_
          tablesLe := by rw [fr.tables, List.length_set, mv.ms.len]; exact cg.tablesLe }
      -- what entity `j` reads in column `c`: a row that sat in `tid` reads the edited targets of
      -- `nt` (`he` turns `cleanEdit` into `ed`), any other row reads what it read
      intro j c
      rw [(f3 j).2 c, ← (f1 j).2 c]
      by_cases hin : ∃ (r : Nat), w1.entities[j]? = some (tid, r)
      · obtain ⟨r, hr⟩ := hin
        right
        rw [mv.tgtIn j r hr c, targetOf_of_entry hr (by omega) (get_of_lt hlt1), htbl1]
        exact targetAt_edit cg.ntIds cg.ntIsRel
          (fun i hi => by rw [cg.ntTgt i hi, c3 i hi]; exact he _ (hokt i hi)) c
      · left
        exact mv.tgtOut j (fun r hr => hin ⟨r, hr⟩) c
    · intro t ht
      obtain ⟨h1, h2⟩ := (hactIff t).1 ht
      -- `nt` has no column targeting `g` left (`cleanEdit_good`); any other active table is old
      by_cases hnt : t = nt
      · right
        subst hnt
        intro i hi
        have hi' : (w.tbl tid).isRel.getD i false = true := by rw [i2]; exact hi
        rw [htgt_nt i hi']
        exact ((hokt i hi').cleanEdit_good hg0).2.2
      · left
        rcases h1 with h1 | h1
        · obtain ⟨k1, k2⟩ := hnonfree t h1
          exact ⟨h1, h2, hkeepT t k1 h2 k2⟩
        · exact absurd h1 hnt
    · intro t ht hne
      obtain ⟨k1, k2⟩ := hnonfree t ht
      exact ⟨(hactIff t).2 ⟨Or.inl ht, hne⟩, hkeepT t k1 hne k2⟩
  -- no rows: nothing to look up or move, only the freeing
  · rw [if_neg hlen]
    have hlen0 : (w.tbl tid).len = 0 := by omega
    obtain ⟨hB3, hX3, fr⟩ := freeW_stepD hB hX ha hact hrelA hlen0 hsingle
    refine ⟨_, rfl, ?_, hK.freed hS ha hact⟩
    have htab3 : ∀ (t : Nat), t ≠ tid → (freeW w a tid).tbl t = w.tbl t := by
      intro t ht
      exact tbl_eq_of_get (by rw [fr.tables, List.getElem?_set_ne (fun x => ht x.symm)])
    have f3 := fr.frame hB.idx
    have hactIff : ∀ (t : Nat), t ∈ ((freeW w a tid).arch a).tables.tables ↔
        t ∈ (w.arch a).tables.tables ∧ t ≠ tid := by
      intro t
      rw [fr.archA, Archetype.freeTable_tables, (hS.astruct a _ hA).tablesWF.mem_remove]
    refine
      { base := hB3, exc := hX3
        frame :=
          { pool := fr.pool, isTarget := fr.isTarget, kinds := fr.kinds, maxComps := fr.maxComps,
            relationArchetypes := fr.relationArchetypes, obs := fr.obs, locks := fr.locks,
            archLen := fr.archLen, idxSame := IdxSame.of_eq fr.entities,
            same := fun j => (f3 j).1, tgt := fun j c => Or.inl ((f3 j).2 c),
            tablesLe := by rw [fr.tables, List.length_set]; exact Nat.le_refl _ }
        act := ?_, keep := ?_
        isRel := by rw [fr.archA, (Archetype.freeTable_archRel _ _).isRel]
        otherArchs := fr.otherArchs
        hasFree := by rw [fr.archA, Archetype.freeTable_freeTables]; simp
        lenB := by rw [fr.tables, List.length_set]; exact Nat.le_succ _
        lenFresh := by rw [fr.tables, List.length_set]; intro h; omega }
    · intro t ht
      obtain ⟨h1, h2⟩ := (hactIff t).1 ht
      exact Or.inl ⟨h1, h2, by rw [htab3 t h2]⟩
    · intro t ht hne
      exact ⟨(hactIff t).2 ⟨ht, hne⟩, by rw [htab3 t hne]⟩

theorem CleanStepE.single {g : Ent} {a tid : Nat} {w w' : World}
    (h : CleanStepE [g] g (zeroIf g) a tid w w') : CleanStep g a tid w w' :=
  { base := cleanBase_iff_single.2 h.base, exc := h.exc, frame := h.frame.single
    act := h.act, keep := h.keep, isRel := h.isRel, otherArchs := h.otherArchs,
    hasFree := h.hasFree, lenB := h.lenB, lenFresh := h.lenFresh }

theorem cleanTable_step {g : Ent} {a tid : Nat} {w : World} (hB : CleanBase g w)
    (hX : RInvExcept w a g.id) (hg0 : g.id ≠ 0) (ha : a < w.archetypes.length)
    (hact : tid ∈ (w.arch a).tables.tables)
    (htg : ∃ (i0 : Nat), (w.arch a).isRel.getD i0 false = true ∧
      ((w.tbl tid).targets.getD i0 Ent.zero).id = g.id)
    (hfew : w.tables.length + 1 ≤ maxU32) (hrows : 2 * w.entities.length < 2 ^ 32) :
    ∃ (w' : World), cleanTable g a tid w = .ok () w' ∧ CleanStep g a tid w w' := by
  obtain ⟨w', hok, st, _⟩ := cleanTable_stepE cleanKeeps_true (cleanBase_iff_single.1 hB)
    hX hg0 ha hact htg hfew hrows (fun _ hk => cleanEdit_eq_zeroIf (okt_iff_single.2 hk) hg0)
  exact ⟨w', hok, st.single⟩

end Ark
