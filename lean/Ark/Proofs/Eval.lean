/-
  Helpers for facts about concrete worlds that are proved by evaluation in the kernel.  The
  kernel's cache lives as long as one declaration is checked: what several facts share (the same
  history, say) is computed once when they are decided in one declaration, and once per
  declaration otherwise.
-/
import Ark.Model.Stats

namespace Ark

/-- `p ∧ q` from ONE evaluation, with each conjunct's `Decidable` instance found on its own: on a
    long conjunction instance synthesis gives up (its size limit), and splitting the goal would
    evaluate what the parts share once per part.
    Chained: `and_of_decide (and_of_decide of_decide_eq_true) (by decide +kernel) : p ∧ q ∧ r`. -/
theorem and_of_decide {p q : Prop} [Decidable p] {b : Bool} (hq : b = true → q)
    (h : (decide p && b) = true) : p ∧ q :=
  have h := (Bool.and_eq_true _ _).mp h
  ⟨of_decide_eq_true h.1, hq h.2⟩

/-! Equality tests for the statistics records that the kernel can run cheaply.  The instances that
`deriving DecidableEq` writes go on, after each equal field, through a cast `h ▸ …` of the rest of
the test; to reduce it the kernel has to see that the proof `h` is `rfl`, and does so by comparing
the two field TERMS once more, unevaluated, by definitional unfolding.  Between `statsFresh w` and
`statsUpdate w' st` of two worlds it starts by comparing `w` with `w'`, and that costs several
times the evaluation.  The instances here decide the conjunction of the field equalities and
never look at a proof.  Scoped: `open KernelEq in decide +kernel`. -/
namespace KernelEq

scoped instance (priority := high) : DecidableEq TableStats
  | .mk .., .mk .. => decidable_of_decidable_of_eq (TableStats.mk.injEq ..).symm

scoped instance (priority := high) : DecidableEq ArchStats
  | .mk .., .mk .. => decidable_of_decidable_of_eq (ArchStats.mk.injEq ..).symm

scoped instance (priority := high) : DecidableEq WorldStats
  | .mk .., .mk .. => decidable_of_decidable_of_eq (WorldStats.mk.injEq ..).symm

end KernelEq

end Ark
