/-
  `Exchange(e, add, rem, rels)` in a world with relation components, in normal form:
  `findOrCreateTable` (exchange) is the mask walk `graph.Find` followed by the lookup tail of
  `findOrCreateTableAdd` started at the root table, so the building blocks of `Add`
  (`RelInv.lookup_total`, `RelInv.findOrCreateTableAddU`, `ReadyToMove.moved`) apply.  Then what a
  panic of the lookup makes of `World.exchange` (a panic of the pre-validation or of the core:
  `opExchange_preCheck_panic`, `opExchange_core_panic` in `Proofs/RelRejects`; the accepted call
  is `exchangeCore_rel_eq`, `opExchange_rel_eq` in `Proofs/RefineCore`, `Proofs/RefineOps`).
-/
import Ark.Proofs.TargetsCreate
import Ark.Proofs.RelRejects

set_option autoImplicit false

namespace Ark

open World Ark.Props.C01World

namespace World

theorem xchgRels_eq (old : Table) (m : Mask) (rem : List Comp) (rels : List RelID)
    (h : rem = [] → ∀ (r : RelID), r ∈ old.relIDs → m.get r.comp = true) :
    xchgRels old m rem rels = (old.relIDs.filter fun r => m.get r.comp) ++ rels := by
  unfold xchgRels
  cases rem with
  | cons c rest => rfl
  | nil =>
    simp only [List.isEmpty_nil, Bool.not_true, Bool.false_eq_true, if_false]
    rw [relsForAdd_eq]
    congr 1
    symm
    apply List.filter_eq_self.2
    intro r hr
    exact h rfl r hr

/-- `hroot`: the root table lists no relation, so starting `findOrCreateTableAdd` there hands
    exactly `xchgRels` to the lookup tail. -/
theorem findOrCreateTable_eq_add_rel (oldT : Nat) (startMask m : Mask) (add rem : List Comp)
    (rels : List RelID) (w : World)
    (hg : graphFind startMask startMask add rem w = .ok m w)
    (hroot : (w.tbl 0).relIDs = []) :
    findOrCreateTable oldT startMask add rem rels w =
      match findOrCreateTableAdd 0 m [] (xchgRels (w.tbl oldT) m rem rels) w with
      | .ok r w' => .ok (r.1, r.2.1, r.2.2, xchgRelRemoved (w.tbl oldT) m rem) w'
      | .panic k w' => .panic k w' := by
  simp only [findOrCreateTable_eq, findOrCreateTableAdd_eq, bind, M.bind, hg, graphFindAdd,
    graphFindAdd.go, relsForAdd_eq, hroot, List.nil_append]
  cases tableFor m (xchgRels (w.tbl oldT) m rem rels) w <;> rfl

theorem exchangeCore_rel_panic (run : ProbeRunner) (e : Ent) (add rem : List Comp)
    (rels : List RelID) (w : World) (hl : w.isLocked = false) (ha : w.alive e = true)
    (hne : ¬ (add = [] ∧ rem = [])) {oldT row : Nat} (hix : w.index e.id = (oldT, row))
    {k : PanicKind} {s : World}
    (hfoc : findOrCreateTable oldT (w.arch (w.tbl oldT).arch).mask add rem rels w = .panic k s) :
    exchangeCore run e add rem rels w = .panic k s := by
  have hemp := isEmpty_and_eq_false hne
  simp only [exchangeCore, bind, M.bind, checkLocked_unlocked w hl, M.get, M.assert, ha, if_true,
    hemp, Bool.not_false, hix, hfoc]

end World

end Ark
