/-
  The observers, the log and the lock are a FRAME of the structural part of every operation:
  `Frames m` says that `m` neither reads nor writes these three fields — running it on a world
  with them replaced (`World.reframe`) gives the result with them replaced; `FramesOL` is the same
  for observers and log only (for what reads the lock).  Both are read off `Commutes put4` /
  `Commutes put3` (`Ark.Proofs.Commutes`), of which the frame is a sub-part
  (`Commutes.frames`, `Commutes.framesOL`); the pure row primitives commute with `reframe`.
  `CInvObs w fl := CInv w.noObs fl` is the joint invariant of the non-relation fragment without its
  `noObs` field, so that every specification proved for the world without observers transfers
  back.
-/
import Ark.Proofs.Commutes
import Ark.Proofs.RefineOps

set_option autoImplicit false

namespace Ark

open World Ark.Props.C01World

namespace World

def reframe (w : World) (o : ObsMgr) (lg : List LogEv) (lk : Lock) : World :=
  { w with obs := o, log := lg, locks := lk }

def noObs (w : World) : World := { w with obs := {} }

theorem noObs_eq_reframe (w : World) : w.noObs = w.reframe {} w.log w.locks := rfl

theorem reframe_self (w : World) : w.reframe w.obs w.log w.locks = w := rfl

theorem reframe_eq_self {X : World} {o : ObsMgr} {lg : List LogEv} {lk : Lock} (ho : X.obs = o)
    (hlg : X.log = lg) (hlk : X.locks = lk) : X.reframe o lg lk = X := by
  subst ho hlg hlk; rfl

@[simp] theorem reframe_reframe (w : World) (o o' : ObsMgr) (lg lg' : List LogEv) (lk lk' : Lock) :
    (w.reframe o lg lk).reframe o' lg' lk' = w.reframe o' lg' lk' := rfl

theorem reframe_obs (w : World) (o : ObsMgr) (lg : List LogEv) (lk : Lock) :
    (w.reframe o lg lk).obs = o := rfl

theorem reframe_log (w : World) (o : ObsMgr) (lg : List LogEv) (lk : Lock) :
    (w.reframe o lg lk).log = lg := rfl

theorem reframe_locks (w : World) (o : ObsMgr) (lg : List LogEv) (lk : Lock) :
    (w.reframe o lg lk).locks = lk := rfl

theorem arch_reframe (w : World) (o : ObsMgr) (lg : List LogEv) (lk : Lock) (a : Nat) :
    (w.reframe o lg lk).arch a = w.arch a := rfl

theorem tbl_reframe (w : World) (o : ObsMgr) (lg : List LogEv) (lk : Lock) (t : Nat) :
    (w.reframe o lg lk).tbl t = w.tbl t := rfl

/-- `m` neither reads nor writes observers, log and lock: run on a world with the three replaced,
    it gives its result with the three replaced -/
def Frames {α : Type} (m : W α) : Prop :=
  ∀ (w : World) (o : ObsMgr) (lg : List LogEv) (lk : Lock),
    m (w.reframe o lg lk) = (m w).mapS fun s => s.reframe o lg lk

theorem Frames.of_const {α : Type} {m : W α} (r : World → Res World α)
    (h : ∀ w, m w = r w) (hr : ∀ (w : World) o lg lk,
      r (w.reframe o lg lk) = (r w).mapS fun s => s.reframe o lg lk) : Frames m := by
  intro w o lg lk
  rw [h, h, hr]

/-- `reframe` replaces a sub-part of `put4`.  The arguments of `Commutes.sub`: the getter `get4`,
    its two lens laws, `reframe` as the smaller `put'`, and how a triple sits inside a quadruple
    (the statistics object `F.2.2.2` stays) -/
theorem _root_.Ark.Commutes.frames {α : Type} {m : W α} (h : Commutes put4 m) : Frames m :=
  fun w o lg lk =>
  h.sub get4 (fun _ => rfl) (fun _ _ => rfl)
    (put' := fun w (y : ObsMgr × List LogEv × Lock) => w.reframe y.1 y.2.1 y.2.2)
    (fun F y => (y.1, y.2.1, y.2.2, F.2.2.2)) (fun _ _ => rfl) w (o, lg, lk)

theorem reframe_of_put4 {g : World → World}
    (h : ∀ (x : ObsMgr × List LogEv × Lock × WorldStats) (w : World), g (w.put4 x) = (g w).put4 x)
    (w : World) (o : ObsMgr) (lg : List LogEv) (lk : Lock) :
    g (w.reframe o lg lk) = (g w).reframe o lg lk :=
  Res.ok.inj ((Commutes.modify fun w x => h x w).frames w o lg lk) |>.2

/-- a fold whose every step commutes with `reframe` does -/
theorem foldl_reframe {γ : Type} (F : World → γ → World) (o : ObsMgr) (lg : List LogEv) (lk : Lock)
    (hF : ∀ (w : World) (c : γ), F (w.reframe o lg lk) c = (F w c).reframe o lg lk) :
    ∀ (l : List γ) (w : World), l.foldl F (w.reframe o lg lk) = (l.foldl F w).reframe o lg lk
  | [], _ => rfl
  | c :: l, w => by
    rw [List.foldl_cons, List.foldl_cons, hF]
    exact foldl_reframe F o lg lk hF l _

theorem caStep_reframe (id : Nat) (w : World) (c : Comp) (o : ObsMgr) (lg : List LogEv) (lk : Lock) :
    caStep id (w.reframe o lg lk) c = (caStep id w c).reframe o lg lk := rfl

theorem frames_findOrCreateTableAdd (oldT : Nat) (startMask : Mask) (add : List Comp)
    (rels : List RelID) : Frames (findOrCreateTableAdd oldT startMask add rels) :=
  (commutes_findOrCreateTableAdd oldT startMask add rels).frames

/-! ### the pure row primitives -/

theorem addMove_reframe (w : World) (e : Ent) (oldT row newT : Nat) (keep : Mask) (o : ObsMgr)
    (lg : List LogEv) (lk : Lock) :
    addMove (w.reframe o lg lk) e oldT row newT keep
      = (addMove w e oldT row newT keep).reframe o lg lk :=
  reframe_of_put4 (g := (addMove · e oldT row newT keep)) (addMove_put4 · · e oldT row newT keep) w o lg lk

theorem placedW_reframe (w : World) (t : Nat) (rt : Bool) (o : ObsMgr) (lg : List LogEv) (lk : Lock) :
    placedW (w.reframe o lg lk) t rt = (placedW w t rt).reframe o lg lk :=
  reframe_of_put4 (g := (placedW · t rt)) (placedW_put4 · · t rt) w o lg lk

theorem removeRowOf_reframe (w : World) (e : Ent) (t row : Nat) (o : ObsMgr) (lg : List LogEv)
    (lk : Lock) :
    removeRowOf (w.reframe o lg lk) e t row = (removeRowOf w e t row).reframe o lg lk :=
  reframe_of_put4 (g := (removeRowOf · e t row)) (removeRowOf_put4 · · e t row) w o lg lk

theorem writeValsW_reframe (w : World) (e : Ent) (vals : List (Comp × Val)) (o : ObsMgr)
    (lg : List LogEv) (lk : Lock) :
    writeValsW (w.reframe o lg lk) e vals = (writeValsW w e vals).reframe o lg lk := rfl

theorem copiedW_reframe (w : World) (t row idx : Nat) (o : ObsMgr) (lg : List LogEv) (lk : Lock) :
    copiedW (w.reframe o lg lk) t row idx = (copiedW w t row idx).reframe o lg lk := rfl

/-! ### functions that read the lock: a frame of observers and log only -/

def relog (w : World) (o : ObsMgr) (lg : List LogEv) : World := { w with obs := o, log := lg }

theorem relog_eq_reframe (w : World) (o : ObsMgr) (lg : List LogEv) :
    w.relog o lg = w.reframe o lg w.locks := rfl

theorem noObs_eq_relog (w : World) : w.noObs = w.relog {} w.log := rfl

theorem relog_self (w : World) : w.relog w.obs w.log = w := rfl

@[simp] theorem relog_relog (w : World) (o o' : ObsMgr) (lg lg' : List LogEv) :
    (w.relog o lg).relog o' lg' = w.relog o' lg' := rfl

/-- the monadic function neither reads nor writes observers and log (it may read the lock) -/
def FramesOL {α : Type} (m : W α) : Prop :=
  ∀ (w : World) (o : ObsMgr) (lg : List LogEv), m (w.relog o lg) = (m w).mapS fun s => s.relog o lg

theorem Frames.state_frame {α : Type} {m : W α} (h : Frames m) (w : World) :
    (m w).state.obs = w.obs ∧ (m w).state.log = w.log ∧ (m w).state.locks = w.locks := by
  have hs : (m w).state = (m w).state.reframe w.obs w.log w.locks := by
    have := congrArg Res.state (h w w.obs w.log w.locks)
    rwa [reframe_self, Res.state_mapS] at this
  exact ⟨(congrArg World.obs hs :), (congrArg World.log hs :), (congrArg World.locks hs :)⟩

theorem FramesOL.state_frame {α : Type} {m : W α} (h : FramesOL m) (w : World) :
    (m w).state.obs = w.obs ∧ (m w).state.log = w.log := by
  have hs : (m w).state = (m w).state.relog w.obs w.log := by
    have := congrArg Res.state (h w w.obs w.log)
    rwa [relog_self, Res.state_mapS] at this
  exact ⟨(congrArg World.obs hs :), (congrArg World.log hs :)⟩

/-- `relog` replaces a sub-part of `put3` (`Commutes.sub` as for `frames`; the lock `F.2.2`
    stays) -/
theorem _root_.Ark.Commutes.framesOL {α : Type} {m : W α} (h : Commutes put3 m) : FramesOL m :=
  fun w o lg =>
  h.sub get3 (fun _ => rfl) (fun _ _ => rfl)
    (put' := fun w (y : ObsMgr × List LogEv) => w.relog y.1 y.2)
    (fun F y => (y.1, y.2, F.2.2)) (fun _ _ => rfl) w (o, lg)

theorem framesOL_writeVals (e : Ent) (vals : List (Comp × Val)) : FramesOL (writeVals e vals) :=
  fun _ _ _ => rfl

end World

/-! ## the joint invariant without its `noObs` field -/

/-- `CInv` does not read the log or the lock, and of the observers only "none registered" -/
theorem CInv.reframe {w : World} {fl : List Nat} (h : CInv w fl) (o : ObsMgr)
    (ho : ∀ evt : Nat, o.hasObservers evt = false) (lg : List LogEv) (lk : Lock) :
    CInv (w.reframe o lg lk) fl := h.put4 (o, lg, lk, w.stats) ho

/-- **the joint invariant of the non-relation fragment WITH observers**: `CInv` of the world
    without its observers, i.e. `CInv` minus the field `noObs` (`cinvObs_iff`) -/
def CInvObs (w : World) (fl : List Nat) : Prop := CInv w.noObs fl

theorem CInv.toObs {w : World} {fl : List Nat} (h : CInv w fl) : CInvObs w fl :=
  h.reframe {} (fun _ => rfl) w.log w.locks

theorem cinvObs_iff (w : World) (fl : List Nat) :
    CInvObs w fl ↔
      (IdxInv w ∧ SInv w ∧ Pool.PInv w.pool fl ∧ (∀ e ∈ w.pool.stale, e.gen = maxU32) ∧
       w.entities.length = w.pool.ents.length ∧ w.isTarget.length = w.entities.length ∧
       (∀ i ∈ fl, ∃ r, w.entities[i]? = some (maxU32, r)) ∧
       (∀ i : Nat, i < 2 → ∃ r, w.entities[i]? = some (maxU32, r)) ∧
       (∀ i : Nat, 2 ≤ i → i < w.entities.length → i ∉ fl →
          ∃ t r, w.entities[i]? = some (t, r) ∧ t ≠ maxU32) ∧
       w.tables.length ≤ maxU32 ∧ (∀ c : Comp, (w.kinds.getD c {}).isRel = false) ∧
       (w.kinds.length ≤ w.maxComps ∧ w.maxComps ≤ 256) ∧
       (∀ i : Nat, w.isTarget.getD i false = false)) := by
  constructor
  · intro h
    exact ⟨h.idx.congr rfl rfl, h.sinv.congr rfl rfl rfl, h.pool, h.stale, h.lenEq, h.tgtLen,
      h.freeUnindexed, h.reservedUnindexed, h.liveIndexed, h.fewTables, h.noRelKinds, h.kindsLe,
      h.noTargets⟩
  · rintro ⟨a1, a2, a3, a4, a5, a6, a7, a8, a9, a10, a11, a12, a13⟩
    exact { idx := a1.congr rfl rfl, sinv := a2.congr rfl rfl rfl, pool := a3, stale := a4,
            lenEq := a5, tgtLen := a6, freeUnindexed := a7, reservedUnindexed := a8,
            liveIndexed := a9, fewTables := a10, noRelKinds := a11, kindsLe := a12,
            noTargets := a13, noObs := fun _ => rfl }

theorem CInvObs.reframe {w : World} {fl : List Nat} (h : CInvObs w fl) (o : ObsMgr)
    (lg : List LogEv) (lk : Lock) : CInvObs (w.reframe o lg lk) fl :=
  CInv.reframe (w := w.noObs) h {} (fun _ => rfl) lg lk

theorem CInvObs.of_reframe {w : World} {fl : List Nat} {o : ObsMgr} {lg : List LogEv} {lk : Lock}
    (h : CInvObs (w.reframe o lg lk) fl) : CInvObs w fl :=
  CInv.reframe (w := (w.reframe o lg lk).noObs) h {} (fun _ => rfl) w.log w.locks

theorem cinvObs_init (cap rel : Nat) : CInvObs (World.init cap rel) [] := (cinv_init cap rel).toObs

/-! ### the observable content of a world does not depend on the frame -/

theorem valOf_reframe (w : World) (o : ObsMgr) (lg : List LogEv) (lk : Lock) (i : Nat) (c : Comp) :
    valOf (w.reframe o lg lk) i c = valOf w i c := rfl

theorem compsOf_reframe (w : World) (o : ObsMgr) (lg : List LogEv) (lk : Lock) (i : Nat) :
    compsOf (w.reframe o lg lk) i = compsOf w i := rfl

theorem sameEnt_reframe_right {w w' : World} {j : Nat} (h : SameEnt w w' j) (o : ObsMgr)
    (lg : List LogEv) (lk : Lock) : SameEnt w (w'.reframe o lg lk) j := h

theorem sameEnt_reframe_left {w w' : World} {j : Nat} (o : ObsMgr) (lg : List LogEv) (lk : Lock)
    (h : SameEnt (w.reframe o lg lk) w' j) : SameEnt w w' j := h

/-! ### the table selection of the batches; a framed function run on a world with another frame -/

namespace World

theorem commutes_getBatchTables (fo : FilterObj) (extra : List RelID) :
    Commutes put4 (getBatchTables fo extra) := by
  intro w x
  unfold getBatchTables
  simp only []
  have h1 : ∀ id, (w.put4 x).cacheEntry? id = w.cacheEntry? id := fun _ => rfl
  have h2 : ∀ f r, (w.put4 x).getCacheTables f r = w.getCacheTables f r := fun _ _ => rfl
  have h3 : ∀ t, (w.put4 x).tbl t = w.tbl t := fun _ => rfl
  cases fo.cache with
  | none =>
    simp only [h2]
    cases w.getCacheTables fo.filter (effRels fo extra) <;> rfl
  | some id =>
    simp only [h1]
    cases w.cacheEntry? id with
    | none => rfl
    | some ce =>
      simp only [h3]
      split <;> rfl

theorem frames_getBatchTables (fo : FilterObj) (extra : List RelID) :
    Frames (getBatchTables fo extra) := (commutes_getBatchTables fo extra).frames

theorem Frames.unframe {α : Type} {m : W α} (h : Frames m) (w : World) (o : ObsMgr)
    (lg : List LogEv) (lk : Lock) :
    m w = (m (w.reframe o lg lk)).mapS fun s => s.reframe w.obs w.log w.locks := by
  have := h (w.reframe o lg lk) w.obs w.log w.locks
  rwa [reframe_reframe, reframe_self] at this

theorem Frames.of_reframe_ok {α : Type} {m : W α} (h : Frames m) {w : World} {o : ObsMgr}
    {lg : List LogEv} {lk : Lock} {a : α} {w1 : World} (hm : m (w.reframe o lg lk) = .ok a w1) :
    m w = .ok a (w1.reframe w.obs w.log w.locks) ∧ w1 = (w1.reframe w.obs w.log w.locks).reframe o lg lk := by
  have hs := h.state_frame (w.reframe o lg lk)
  rw [hm] at hs
  refine ⟨by rw [h.unframe w o lg lk, hm]; rfl, ?_⟩
  rw [reframe_reframe]
  exact (reframe_eq_self hs.1 hs.2.1 hs.2.2).symm

theorem Frames.of_reframe_panic {α : Type} {m : W α} (h : Frames m) {w : World} {o : ObsMgr}
    {lg : List LogEv} {lk : Lock} {k : PanicKind} {w1 : World}
    (hm : m (w.reframe o lg lk) = .panic k w1) :
    m w = .panic k (w1.reframe w.obs w.log w.locks) ∧ w1 = (w1.reframe w.obs w.log w.locks).reframe o lg lk := by
  have hs := h.state_frame (w.reframe o lg lk)
  rw [hm] at hs
  refine ⟨by rw [h.unframe w o lg lk, hm]; rfl, ?_⟩
  rw [reframe_reframe]
  exact (reframe_eq_self hs.1 hs.2.1 hs.2.2).symm

end World

end Ark
