/-
  Ark.Proofs.StatsReplay — property C19 over whole histories of the entity machine `Ark.Refine`
  with filters and `Stats()` calls.  Every operation of the machine is an instance of an `Fr`
  operation of `Ark.Proofs.StatsOps`, so it neither reads nor writes the statistics object and
  keeps the stored object `Compatible` (`HInv3`): incremental = fresh at every `Stats()` call
  (`reach3_opStats`), and the history reaches the state the history without its `Stats()` calls
  reaches, up to `w.stats` (`replay`, `replay_stats`).
-/
import Ark.Proofs.StatsOps

set_option autoImplicit false

namespace Ark

open World

/-! ## 1. the operations and steps of the entity machine -/

namespace Refine

/-- **every operation of the entity machine** (`reg`, `new p`, `new0`, `add p`, `rem p`,
    `xchg p`, `set`, `del`, `copy`, `shrink`, `reset`) on an unlocked world without observers:
    it neither reads nor writes the statistics object, and on success only appends archetypes,
    keeps component list, relation count and registered sizes of the existing ones -/
theorem exec_frAt (run : ProbeRunner) {w : World} (hno : NoObs w) (hl : w.isLocked = false)
    (hS : SInv w) (op : Op) : FrAt (fun w => exec run w op) w := by
  cases op with
  | reg size z =>
    exact (frAt_registerComponent hS.toSInvMid _).of_map (fun _ => none) fun x => by
      cases h : registerComponent { isRel := false, zst := z, size := size } x <;> simp only [exec, h]
  | new p ids vals =>
    exact (fr_opNewEntity run p ids vals [] w hno).of_map some fun x => by
      cases h : opNewEntity run p ids vals [] x <;> simp only [exec, h]
  | new0 =>
    exact (fr_opNewEntity0 run w hno).of_map some fun x => by
      cases h : opNewEntity0 run x <;> simp only [exec, h]
  | add p e ids vals =>
    exact (fr_opAdd run p e ids vals [] w hno).of_map (fun _ => none) fun x => by
      cases h : opAdd run p e ids vals [] x <;> simp only [exec, h]
  | rem p e ids =>
    exact (fr_opRemove run p e ids w hno).of_map (fun _ => none) fun x => by
      cases h : opRemove run p e ids x <;> simp only [exec, h]
  | xchg p e add rem vals =>
    exact (fr_opExchange run p e add vals rem [] w hno).of_map (fun _ => none) fun x => by
      cases h : opExchange run p e add vals rem [] x <;> simp only [exec, h]
  | set e vals =>
    exact (fr_opSet run e (keys vals) vals w hno).of_map (fun _ => none) fun x => by
      cases h : opSet run e (keys vals) vals x <;> simp only [exec, h]
  | del e =>
    exact (fr_opRemoveEntity run e w hno).of_map (fun _ => none) fun x => by
      cases h : opRemoveEntity run e x <;> simp only [exec, h]
  | copy e =>
    exact (fr_opCopyEntity run e w hno).of_map some fun x => by
      cases h : opCopyEntity run e x <;> simp only [exec, h]
  | shrink bounded =>
    exact (frAt_opShrink hl bounded).of_map (fun _ => none) fun x => by
      cases h : opShrink bounded x <;> simp only [exec, h]
  | reset =>
    exact (frAt_opReset hl hS).of_map (fun _ => none) fun x => by
      cases h : opReset x <;> simp only [exec, h]

theorem HInv.exec_frAt (run : ProbeRunner) {s : St} {fl : List Nat} (H : HInv s fl) (op : Op) :
    FrAt (fun w => exec run w op) s.w :=
  Refine.exec_frAt run H.cinv.noObs H.unlocked H.cinv.sinv op

end Refine

open Refine in
/-- **Every successful entity operation** of the machine of `Ark.Proofs.Refine` only appends
    archetypes, keeps component list, relation count and registered component sizes of the
    existing ones, and does not touch the statistics object. -/
theorem exec_sstep (run : ProbeRunner) {s : Refine.St} {fl : List Nat} (H : Refine.HInv s fl)
    {op : Refine.Op} {r : Option Ent} {w' : World}
    (hex : Refine.exec run s.w op = .ok r w') : SStep s.w w' :=
  ((H.exec_frAt run op).2 r w' hex).sstep

open Refine in
/-- **No operation of the entity machine reads the statistics object**: a successful operation
    succeeds on the world with another statistics object too, returns the same handle, and
    leaves the same world up to `stats`. -/
theorem exec_setStats (run : ProbeRunner) {s : Refine.St} {fl : List Nat} (H : Refine.HInv s fl)
    {op : Refine.Op} {r : Option Ent} {w' : World}
    (hex : Refine.exec run s.w op = .ok r w') (st : WorldStats) :
    Refine.exec run (s.w.setStats st) op = .ok r (w'.setStats st) := by
  have h : exec run (s.w.setStats st) op = liftS st (exec run s.w op) := (H.exec_frAt run op).1 st
  rw [h, hex]; rfl

open Refine in
/-- **every step of the entity machine** (guard failing, call rejected, call succeeding) -/
theorem step_sstep (run : ProbeRunner) {s : Refine.St} {fl : List Nat} (H : Refine.HInv s fl)
    (hfew : s.w.tables.length < maxU32) (hent : s.w.entities.length + 1 < 2 ^ 32)
    (op : Refine.Op) : SStep s.w (Refine.step run s op).w := by
  obtain ⟨_, _, _, g4, g5, _⟩ := step_goal run H hfew hent op
  by_cases hg : Refine.guard s op = true
  case neg => rw [Refine.step, if_neg hg]; exact SStep.refl _
  rw [step_of_guard hg]
  rcases Classical.em (pre s.ss op) with hp | hnp
  · obtain ⟨r, w', hex⟩ := g5 hg hp
    rw [hex]; exact exec_sstep run H hex
  · obtain ⟨k, hex⟩ := g4 hg hnp
    rw [hex]; exact SStep.refl _

namespace Refine

def St.setStats (s : St) (st : WorldStats) : St := ⟨s.w.setStats st, s.issued, s.ss⟩

theorem step_setStats (run : ProbeRunner) {s : St} {fl : List Nat} (H : HInv s fl) (op : Op)
    (st : WorldStats) : step run (s.setStats st) op = (step run s op).setStats st := by
  have hgeq : guard (s.setStats st) op = guard s op := rfl
  by_cases hg : guard s op = true
  case neg => rw [step, step, if_neg hg, if_neg (hgeq ▸ hg)]
  rw [step_of_guard hg, step_of_guard (hgeq.trans hg),
    show exec run (s.setStats st).w op = liftS st (exec run s.w op) from (H.exec_frAt run op).1 st]
  cases exec run s.w op <;> rfl

end Refine

/-! ## 2. the history machine with `Stats()` calls -/

namespace StatsHist

open Refine CacheHist

/-- the operations: those of the machine with filters (`base op`, `fdef`, `freg`, `funreg`), plus
    `World.Stats()` -/
inductive Op3
  | op (o : CacheHist.Op2)
  /-- `World.Stats()`: updates the re-used object `w.stats` in place and returns it -/
  | stats
  deriving Repr

/-- one step; `Stats()` leaves the ghost history and the specification alone -/
def step3 (run : ProbeRunner) (s : St) : Op3 → St
  | .op o => step2 run s o
  | .stats => { s with w := (opStats s.w).state }

def runOps3 (run : ProbeRunner) (s : St) (ops : List Op3) : St := ops.foldl (step3 run) s

/-- the state reached from `NewWorld(cap, rel)` by the history `ops` -/
def reach3 (run : ProbeRunner) (cap rel : Nat) (ops : List Op3) : St :=
  runOps3 run (St.init cap rel) ops

/-- **the inductive invariant**: that of the machine with filters, and: the re-used statistics
    object is compatible with the world (what `incremental_eq_fresh` needs) -/
structure HInv3 (s : St) (fl : List Nat) : Prop where
  base : HInv2 s fl
  compat : Compatible s.w.stats s.w
  /-- the machine registers no observers -/
  obs0 : s.w.obs.totalCount = 0

theorem hinv3_init (cap rel : Nat) : HInv3 (St.init cap rel) [] :=
  ⟨hinv2_init cap rel, compatible_empty _, rfl⟩

theorem SameButCF.sstep {w w' : World} (h : SameButCF w w') : SStep w w' := by
  unfold SameButCF at h
  exact SStep.of_eq (by rw [h]) (by rw [h]) (by rw [h]) (by rw [h])

theorem step2_sstep (run : ProbeRunner) {s : St} {fl : List Nat} (H : HInv2 s fl)
    (hfew : s.w.tables.length < maxU32) (hent : s.w.entities.length + 1 < 2 ^ 32) (op : Op2) :
    SStep s.w (step2 run s op).w := by
  cases op with
  | base op => exact step_sstep run H.base hfew hent op
  | fdef f fo =>
    by_cases hg : guardF s.w fo = true
    · simp only [step2, if_pos hg]
      rcases defFilter_cases f fo s.w with he | he
      · rw [he]; exact SStep.refl _
      · rw [he]; exact SStep.of_eq rfl rfl rfl rfl
    · simp only [step2, if_neg hg]; exact SStep.refl _
  | freg f => exact SameButCF.sstep (H.finv.filterRegister H.noRelW f).2
  | funreg f => exact SameButCF.sstep (H.finv.filterUnregister f).2

theorem step3_stats_w (run : ProbeRunner) {s : St} (hc : Compatible s.w.stats s.w) :
    (step3 run s .stats).w = { s.w with stats := statsFresh s.w } := by
  show (opStats s.w).state = _
  rw [opStats_eq s.w hc]; rfl

theorem step3_inv (run : ProbeRunner) {s : St} {fl : List Nat} (H : HInv3 s fl)
    (hfew : s.w.tables.length < maxU32) (hent : s.w.entities.length + 1 < 2 ^ 32) (op : Op3) :
    (∃ fl', HInv3 (step3 run s op) fl') ∧
    (step3 run s op).w.tables.length ≤ s.w.tables.length + 1 ∧
    (step3 run s op).w.entities.length ≤ s.w.entities.length + 1 := by
  cases op with
  | op o =>
    obtain ⟨⟨fl1, h1⟩, g1, g2⟩ := step2_inv run H.base hfew hent o
    have ss := step2_sstep run H.base hfew hent o
    exact ⟨⟨fl1, h1, H.compat.sstep ss, ss.obs0 H.obs0⟩, g1, g2⟩
  | stats =>
    have hs : step3 run s .stats = ⟨{ s.w with stats := statsFresh s.w }, s.issued, s.ss⟩ := by
      show ({ s with w := (opStats s.w).state } : St) = _
      rw [opStats_eq s.w H.compat]; rfl
    rw [hs]
    exact ⟨⟨fl, ⟨H.base.base.setStats _, H.base.finv.setStats _⟩, compatible_fresh_self s.w,
      H.obs0⟩, Nat.le_succ _, Nat.le_succ _⟩

/-- **the invariant holds at every reachable state** (same length bound as `reach_hinv`) -/
theorem reach3_inv (run : ProbeRunner) (cap rel : Nat) (ops : List Op3)
    (hlen : ops.length < 2 ^ 32 - 2) : ∃ fl, HInv3 (reach3 run cap rel ops) fl :=
  (run_of_step (step3 run) (·.w.tables.length) (·.w.entities.length) (fun _ s => ∃ fl, HInv3 s fl)
    (fun _ _ op ⟨_, h⟩ hf he => step3_inv run h hf he op) ops 0 _ ⟨[], hinv3_init cap rel⟩
    (init_fits cap rel hlen).1 (init_fits cap rel hlen).2).1

theorem reach3_snoc (run : ProbeRunner) (cap rel : Nat) (ops : List Op3) (op : Op3) :
    reach3 run cap rel (ops ++ [op]) = step3 run (reach3 run cap rel ops) op := by
  simp only [reach3, runOps3, List.foldl_append, List.foldl_cons, List.foldl_nil]

/-- **incremental = fresh at every `Stats()` call of every history**: whatever entity and filter
    operations and earlier `Stats()` calls came before, the call returns (and stores) the
    statistics a world asked for the first time would report -/
theorem reach3_opStats (run : ProbeRunner) (cap rel : Nat) (ops : List Op3)
    (hlen : ops.length < 2 ^ 32 - 2) :
    opStats (reach3 run cap rel ops).w =
      .ok (statsFresh (reach3 run cap rel ops).w)
        { (reach3 run cap rel ops).w with stats := statsFresh (reach3 run cap rel ops).w } := by
  obtain ⟨fl, H⟩ := reach3_inv run cap rel ops hlen
  exact opStats_eq _ H.compat

/-! ## 3. replay -/

theorem step2_setStats (run : ProbeRunner) {s : St} {fl : List Nat} (H : HInv2 s fl)
    (op : Op2) (st : WorldStats) : step2 run (s.setStats st) op = (step2 run s op).setStats st := by
  cases op with
  | base op => exact step_setStats run H.base op st
  | fdef f fo =>
    show (if guardF (s.w.setStats st) fo = true then
        { s.setStats st with w := defFilter f fo (s.w.setStats st) } else s.setStats st) =
      (if guardF s.w fo = true then { s with w := defFilter f fo s.w } else s).setStats st
    rw [guardF_setStats, defFilter_setStats]
    split <;> rfl
  | freg f =>
    show ({ s.setStats st with w := (opFilterRegister f (s.w.setStats st)).state } : St) = _
    rw [indep_opFilterRegister f s.w st, liftS_state]
    rfl
  | funreg f =>
    show ({ s.setStats st with w := (opFilterUnregister f (s.w.setStats st)).state } : St) = _
    rw [indep_opFilterUnregister f s.w st, liftS_state]
    rfl

/-- the history without its `Stats()` calls -/
def strip : List Op3 → List Op2
  | [] => []
  | .op o :: rest => o :: strip rest
  | .stats :: rest => strip rest

theorem strip_length_le : ∀ (ops : List Op3), (strip ops).length ≤ ops.length
  | [] => Nat.le_refl _
  | .op _ :: rest => by simp only [strip, List.length_cons]; have := strip_length_le rest; omega
  | .stats :: rest => by simp only [strip, List.length_cons]; have := strip_length_le rest; omega

theorem step3_stats_eq (run : ProbeRunner) (s : St) :
    step3 run s .stats = s.setStats (s.w.statsUpdate s.w.stats) := rfl

/-- one step of the history with `Stats()` calls and, beside it, of the history without them -/
def stepBoth (run : ProbeRunner) (p : St × St) : Op3 → St × St
  | .op o => (step2 run p.1 o, step2 run p.2 o)
  | .stats => (step3 run p.1 .stats, p.2)

theorem foldl_stepBoth (run : ProbeRunner) : ∀ (ops : List Op3) (t s : St),
    ops.foldl (stepBoth run) (t, s) = (runOps3 run t ops, runOps2 run s (strip ops))
  | [], _, _ => rfl
  | .op _ :: ops, _, _ => foldl_stepBoth run ops _ _
  | .stats :: ops, _, _ => foldl_stepBoth run ops _ _

/-- **replay**: the state reached by a history with `Stats()` calls is the state reached by the
    same history without them, with another statistics object -/
theorem replay (run : ProbeRunner) (cap rel : Nat) (ops : List Op3)
    (hlen : ops.length < 2 ^ 32 - 2) :
    ∃ (st : WorldStats),
      reach3 run cap rel ops = (reach2 run cap rel (strip ops)).setStats st := by
  -- the two histories side by side: the states differ in the statistics object only
  obtain ⟨⟨_, st, _, h⟩, _⟩ := run_of_step (stepBoth run) (·.2.w.tables.length)
    (·.2.w.entities.length) (fun _ p => ∃ fl st, HInv2 p.2 fl ∧ p.1 = p.2.setStats st)
    (fun _ p op ⟨fl, st, H, h⟩ hf he => by
      obtain ⟨t, s⟩ := p
      have h : t = s.setStats st := h
      subst h
      cases op with
      | stats => exact ⟨⟨fl, _, H, step3_stats_eq run _⟩, Nat.le_succ _, Nat.le_succ _⟩
      | op o =>
        obtain ⟨⟨fl1, h1⟩, g⟩ := step2_inv run H hf he o
        exact ⟨⟨fl1, st, h1, step2_setStats run H o st⟩, g⟩)
    ops 0 (St.init cap rel, St.init cap rel) ⟨[], {}, hinv2_init cap rel, rfl⟩
    (init_fits cap rel hlen).1 (init_fits cap rel hlen).2
  rw [foldl_stepBoth] at h
  exact ⟨st, h⟩

/-- the replaying world was never asked: its statistics object is the initial, empty one -/
theorem reach2_stats_empty (run : ProbeRunner) (cap rel : Nat) (ops : List Op2)
    (hlen : ops.length < 2 ^ 32 - 2) : (reach2 run cap rel ops).w.stats = {} :=
  (run_of_step (step2 run) (·.w.tables.length) (·.w.entities.length)
    (fun _ s => (∃ fl, HInv2 s fl) ∧ s.w.stats = {})
    (fun _ _ op ⟨⟨_, H⟩, hs⟩ hf he =>
      ⟨⟨(step2_inv run H hf he op).1, (step2_sstep run H hf he op).stats.trans hs⟩,
        (step2_inv run H hf he op).2⟩)
    ops 0 _ ⟨⟨[], hinv2_init cap rel⟩, rfl⟩ (init_fits cap rel hlen).1
    (init_fits cap rel hlen).2).1.2

/-- **incremental = replay**: `Stats()` after a history with interleaved `Stats()` calls returns
    what `Stats()` returns in a world that replays the history without those calls and is asked
    once — namely the fresh statistics of the replaying world. -/
theorem replay_stats (run : ProbeRunner) (cap rel : Nat) (ops : List Op3)
    (hlen : ops.length < 2 ^ 32 - 2) :
    opStats (reach3 run cap rel ops).w =
      .ok (statsFresh (reach2 run cap rel (strip ops)).w)
        ((reach2 run cap rel (strip ops)).w.setStats
          (statsFresh (reach2 run cap rel (strip ops)).w)) ∧
    opStats (reach2 run cap rel (strip ops)).w =
      .ok (statsFresh (reach2 run cap rel (strip ops)).w)
        ((reach2 run cap rel (strip ops)).w.setStats
          (statsFresh (reach2 run cap rel (strip ops)).w)) ∧
    (reach2 run cap rel (strip ops)).w.stats = {} := by
  obtain ⟨st, hr⟩ := replay run cap rel ops hlen
  have hemp := reach2_stats_empty run cap rel (strip ops) (by have := strip_length_le ops; omega)
  obtain ⟨fl, H⟩ := reach3_inv run cap rel ops hlen
  have hc := H.compat
  rw [hr] at hc ⊢
  generalize reach2 run cap rel (strip ops) = s at hc hemp ⊢
  refine ⟨opStats_setStats s.w st hc, ?_, hemp⟩
  have h2 := opStats_setStats s.w s.w.stats (by rw [hemp]; exact compatible_empty _)
  rwa [setStats_self] at h2

end StatsHist

end Ark
