/-
  Ark.Proofs.PoolHistory — the entity pool as a state machine over arbitrary histories of
  `Get` and `Recycle`, with ghost state (handles issued, handles live).
-/
import Ark.Proofs.Pool

set_option autoImplicit false

namespace Ark
namespace Pool

/-- pool operations as the world issues them -/
inductive Op
  | get
  | recycle (e : Ent)
  deriving Repr

/-- pool + ghost history -/
structure PS where
  p : Pool
  issued : List Ent
  live : List Ent

def PS.init : PS := ⟨Pool.init, [], []⟩

/-- One step. `recycle e` is issued by the world only after its `Alive(e)` check, for a handle
    it has handed out; other calls are rejected there (panic) and leave the pool unchanged. -/
def PS.step (s : PS) : Op → PS
  | .get => ⟨s.p.get.1, s.p.get.2 :: s.issued, s.p.get.2 :: s.live⟩
  | .recycle e =>
    if e ∈ s.issued ∧ s.p.alive e = true then ⟨s.p.recycle e, s.issued, s.live.erase e⟩ else s

def PS.run (s : PS) (ops : List Op) : PS := ops.foldl PS.step s

structure GInv (s : PS) (fl : List Nat) : Prop where
  pinv : PInv s.p fl
  live_iff : ∀ h, h ∈ s.live ↔ (2 ≤ h.id ∧ h.id ∉ fl ∧ s.p.ents[h.id]? = some h)
  live_nodup : s.live.Nodup
  issued_bound : ∀ h ∈ s.issued, 2 ≤ h.id ∧ ∃ e, s.p.ents[h.id]? = some e ∧ h.gen ≤ e.gen ∧ (h.id ∈ fl → h.gen < e.gen)
  live_issued : ∀ h ∈ s.live, h ∈ s.issued
  /-- every non-reserved slot is either live or free -/
  count : s.p.ents.length = 2 + s.live.length + fl.length

theorem ginv_init : GInv PS.init [] := by
  refine ⟨pinv_init, ?_, List.nodup_nil, ?_, ?_, rfl⟩
  · intro h
    constructor
    · intro hh; cases hh
    · intro ⟨h2, _, h3⟩
      simp only [PS.init, Pool.init] at h3
      exact absurd (List.getElem?_eq_some_iff.mp h3).1 (Nat.not_lt.2 h2)
  · intro h hh; cases hh
  · intro h hh; cases hh

theorem alive_iff_live (s : PS) (fl : List Nat) (g : GInv s fl) (h : Ent) (hi : h ∈ s.issued) :
    s.p.alive h = true ↔ h ∈ s.live := by
  obtain ⟨h2, e, he, hle, hlt⟩ := g.issued_bound h hi
  have hlen : h.id < s.p.ents.length := (List.getElem?_eq_some_iff.mp he).1
  have hread : (s.p.ents ++ s.p.stale)[h.id]? = some e := by
    rw [List.getElem?_append_left hlen]; exact he
  simp only [alive, hread]
  rw [g.live_iff h]
  constructor
  · intro hg
    have hg : e.gen = h.gen := by simpa using hg
    by_cases hf : h.id ∈ fl
    · exact absurd (hg ▸ hlt hf) (Nat.lt_irrefl _)
    · refine ⟨h2, hf, ?_⟩
      have hid := g.pinv.self h.id e he hf
      rw [he]
      congr 1
      cases e; cases h; simp_all
  · intro ⟨_, _, hs⟩
    rw [he] at hs
    injection hs with hs
    subst hs
    simp

/-- a `Get` takes the head of the free list (if any) -/
theorem GInv.get {s : PS} {fl : List Nat} (g : GInv s fl) : GInv (s.step .get) fl.tail := by
  have r := get_spec s.p fl g.pinv
  -- the returned ID was not in use, and leaves the free list
  have hnew : s.p.get.2.id ∈ fl ∨ s.p.ents.length ≤ s.p.get.2.id := by
    rcases r.cases with ⟨a, _, _⟩ | ⟨_, b, _⟩
    · exact Or.inr (Nat.le_of_eq a.symm)
    · exact Or.inl (b ▸ List.mem_cons_self)
  have hmem : ∀ i, i ≠ s.p.get.2.id → (i ∈ fl ↔ i ∈ fl.tail) := by
    intro i hi
    rcases r.cases with ⟨_, b, _⟩ | ⟨_, b, _⟩
    · rw [b]; exact Iff.rfl
    · rw [b, List.tail_cons, List.mem_cons]
      exact ⟨fun h => h.resolve_left hi, Or.inr⟩
  have hold : ∀ h, h ∈ s.live → h.id ≠ s.p.get.2.id := by
    intro h hl heq
    obtain ⟨_, b, c⟩ := (g.live_iff h).mp hl
    rcases hnew with hn | hn
    · exact b (heq ▸ hn)
    · exact absurd (List.getElem?_eq_some_iff.mp c).1 (Nat.not_lt.2 (heq ▸ hn))
  refine ⟨r.pinv, ?_, List.nodup_cons.mpr ⟨fun hm => hold _ hm rfl, g.live_nodup⟩,
    ?_, ?_, ?_⟩
  · intro h
    show h ∈ s.p.get.2 :: s.live ↔ 2 ≤ h.id ∧ h.id ∉ fl.tail ∧ s.p.get.1.ents[h.id]? = some h
    rw [List.mem_cons]
    by_cases hid : h.id = s.p.get.2.id
    · rw [hid, r.slot]
      constructor
      · rintro (rfl | hl)
        · exact ⟨r.ge2, r.notin, rfl⟩
        · exact absurd hid (hold h hl)
      · rintro ⟨_, _, c⟩; exact Or.inl (Option.some.inj c).symm
    · rw [r.other _ hid, ← hmem _ hid, ← g.live_iff]
      exact ⟨fun hh => hh.resolve_left fun e => hid (e ▸ rfl), Or.inr⟩
  · intro h hm
    rcases List.mem_cons.mp hm with rfl | hm
    · exact ⟨r.ge2, _, r.slot, Nat.le_refl _, fun hh => absurd hh r.notin⟩
    · obtain ⟨a, e, b, c, d⟩ := g.issued_bound h hm
      by_cases hid : h.id = s.p.get.2.id
      · refine ⟨a, _, hid ▸ r.slot, ?_, fun hh => absurd (hid ▸ hh) r.notin⟩
        rcases r.cases with ⟨x, _, _⟩ | ⟨_, _, s0, hs0, hg⟩
        · exact absurd (List.getElem?_eq_some_iff.mp b).1 (Nat.not_lt.2 (Nat.le_of_eq (hid.trans x).symm))
        · rw [hid, hs0] at b; rw [← hg, Option.some.inj b]; exact c
      · exact ⟨a, e, (r.other _ hid).trans b, c, fun hh => d ((hmem _ hid).2 hh)⟩
  · intro h hm
    rcases List.mem_cons.mp hm with rfl | hm
    · exact List.mem_cons_self
    · exact List.mem_cons_of_mem _ (g.live_issued h hm)
  · show s.p.get.1.ents.length = 2 + (s.live.length + 1) + fl.tail.length
    rcases r.cases with ⟨a, b, _⟩ | ⟨a, b, _⟩
    · rw [r.length, if_pos a, g.count, b]; rfl
    · rw [r.length, if_neg (Nat.ne_of_lt a), g.count, congrArg List.length b]
      exact (Nat.add_right_comm _ 1 _).symm

/-- a `Recycle` of an issued, alive handle puts its ID on the free list -/
theorem GInv.recycle {s : PS} {fl : List Nat} (g : GInv s fl) {e : Ent} (hi : e ∈ s.issued)
    (ha : s.p.alive e = true) : GInv ⟨s.p.recycle e, s.issued, s.live.erase e⟩ (e.id :: fl) := by
  have hl := (alive_iff_live s fl g e hi).mp ha
  obtain ⟨h2, hnf, hs⟩ := (g.live_iff e).mp hl
  obtain ⟨rp, rslot, rother, rlen, _, _⟩ := recycle_spec s.p fl e g.pinv h2 hnf hs
  refine ⟨rp, ?_, g.live_nodup.erase e, ?_,
    fun h hm => g.live_issued h (List.mem_of_mem_erase hm), ?_⟩
  · intro h
    show h ∈ s.live.erase e ↔
      2 ≤ h.id ∧ h.id ∉ e.id :: fl ∧ (s.p.recycle e).ents[h.id]? = some h
    rw [g.live_nodup.mem_erase_iff, g.live_iff, List.mem_cons, not_or]
    by_cases hid : h.id = e.id
    · constructor
      · rintro ⟨hne, _, _, c⟩
        rw [hid, hs] at c; exact absurd (Option.some.inj c).symm hne
      · rintro ⟨_, ⟨b, _⟩, _⟩; exact absurd hid b
    · rw [rother _ hid]
      exact ⟨fun ⟨_, a, b, c⟩ => ⟨a, ⟨hid, b⟩, c⟩,
        fun ⟨a, ⟨_, b⟩, c⟩ => ⟨fun hh => hid (hh ▸ rfl), a, b, c⟩⟩
  · intro h hm
    obtain ⟨a, e', b, c, d⟩ := g.issued_bound h hm
    by_cases hid : h.id = e.id
    · rw [hid, hs] at b
      rw [← Option.some.inj b] at c
      exact ⟨a, _, hid ▸ rslot, Nat.le_succ_of_le c, fun _ => Nat.lt_succ_of_le c⟩
    · exact ⟨a, e', (rother _ hid).trans b, c,
        fun hm2 => d ((List.mem_cons.mp hm2).resolve_left hid)⟩
  · show (s.p.recycle e).ents.length = 2 + (s.live.erase e).length + (fl.length + 1)
    have hpos : 0 < s.live.length := List.length_pos_of_mem hl
    rw [rlen, g.count, List.length_erase_of_mem hl]
    omega

theorem step_inv (s : PS) (fl : List Nat) (g : GInv s fl) (op : Op) :
    ∃ fl', GInv (s.step op) fl' := by
  cases op with
  | get => exact ⟨_, g.get⟩
  | recycle e =>
    simp only [PS.step]
    split
    · rename_i hc; exact ⟨_, g.recycle hc.1 hc.2⟩
    · exact ⟨fl, g⟩

/-- the handle the pool hands out next was not issued before (its slot is past the end, or free
    with a generation above every issued one) -/
theorem GInv.fresh_get {ps : PS} {fl : List Nat} (g : GInv ps fl) : (ps.p.get).2 ∉ ps.issued := by
  have gs := get_spec ps.p fl g.pinv
  intro hm
  obtain ⟨_, sl, hsl, hle, hlt⟩ := g.issued_bound _ hm
  rcases gs.cases with ⟨a, _, _⟩ | ⟨_, b, sl', hsl'', hgen⟩
  · rw [a, List.getElem?_eq_none (Nat.le_refl _)] at hsl; cases hsl
  · have hmem : (ps.p.get).2.id ∈ fl := by rw [b]; exact List.mem_cons_self
    have := hlt hmem
    rw [hsl''] at hsl
    have : sl' = sl := Option.some.inj hsl
    subst this
    omega

theorem run_inv (ops : List Op) : ∀ (s : PS) (fl : List Nat), GInv s fl → ∃ fl', GInv (s.run ops) fl' := by
  induction ops with
  | nil => intro s fl g; exact ⟨fl, g⟩
  | cons op ops ih =>
    intro s fl g
    obtain ⟨fl1, g1⟩ := step_inv s fl g op
    exact ih _ _ g1

end Pool

-- Recycling a list of live handles: the ghost history of a batch removal.

theorem nodup_of_map {α β : Type} (f : α → β) {l : List α} (h : (l.map f).Nodup) : l.Nodup := by
  unfold List.Nodup at h ⊢
  rw [List.pairwise_map] at h
  exact h.imp (fun hne heq => hne (congrArg f heq))

theorem mem_foldl_erase {α : Type} [DecidableEq α] : ∀ (l live : List α), live.Nodup → ∀ x : α,
    (x ∈ l.foldl List.erase live ↔ x ∈ live ∧ x ∉ l)
  | [], _, _, x => by simp
  | e :: l, live, hnd, x => by
    rw [List.foldl_cons, mem_foldl_erase l _ (hnd.erase e) x, List.Nodup.mem_erase_iff hnd]
    simp only [List.mem_cons, not_or, ne_eq]
    constructor
    · rintro ⟨⟨a, b⟩, c⟩; exact ⟨b, a, c⟩
    · rintro ⟨a, b, c⟩; exact ⟨⟨b, a⟩, c⟩

theorem ginv_recycleAll : ∀ (l : List Ent) (s : Pool.PS) (fl : List Nat), Pool.GInv s fl →
    (∀ e ∈ l, e ∈ s.live) → l.Nodup →
    Pool.GInv ⟨l.foldl Pool.recycle s.p, s.issued, l.foldl List.erase s.live⟩
      (l.reverse.map (·.id) ++ fl)
  | [], _, _, g, _, _ => g
  | e :: l, s, fl, g, hl, hnd => by
    have he := hl e List.mem_cons_self
    have hi := g.live_issued e he
    obtain ⟨hne, hnd'⟩ := List.nodup_cons.mp hnd
    have := ginv_recycleAll l _ _ (g.recycle hi ((Pool.alive_iff_live s fl g e hi).mpr he))
      (fun e' he' => (List.mem_erase_of_ne fun (hh : e' = e) => hne (hh ▸ he')).mpr
        (hl e' (List.mem_cons_of_mem _ he'))) hnd'
    rwa [List.reverse_cons, List.map_append, List.append_assoc]

theorem ginv_of_mem {p : Pool} {issued live live' : List Ent} {fl : List Nat}
    (g : Pool.GInv ⟨p, issued, live⟩ fl) (hnd : live'.Nodup) (hm : ∀ x, x ∈ live' ↔ x ∈ live) :
    Pool.GInv ⟨p, issued, live'⟩ fl := by
  have hlen : live'.length = live.length := by
    apply Nat.le_antisymm
    · exact List.Nodup.length_le_of_subset hnd (fun x hx => (hm x).mp hx)
    · exact List.Nodup.length_le_of_subset g.live_nodup (fun x hx => (hm x).mpr hx)
  exact
    { pinv := g.pinv
      live_iff := fun h => (hm h).trans (g.live_iff h)
      live_nodup := hnd
      issued_bound := g.issued_bound
      live_issued := fun h hh => g.live_issued h ((hm h).mp hh)
      count := by show p.ents.length = 2 + live'.length + fl.length; rw [hlen]; exact g.count }

end Ark
