/-
  `FilterN.Register` / `FilterN.Unregister` / `cache.Reset` against the agreement of the filter heap
  with the cache (`HeapReg`), for ANY world: the storage enters only through `TablesInv` and `RelsOK`
  (what `getCacheTables_spec` needs).  Both C05 machines instantiate these.  Each of them extends
  `HeapReg` by conditions on the filter objects that do not read the `cache` field of an object
  (`HeapOK` in `CacheHistOps`, `RelRefine2.HeapOK` in `RelRefine2Inv`); these are carried by
  `heapStatic_insert` / `cacheReset_filters`.
-/
import Ark.Proofs.CacheInv
import Ark.Model.Ops

set_option autoImplicit false

namespace Ark

open World

namespace World

theorem opFilterRegister_registered (f : Nat) (w : World) {id : Nat}
    (hc : ((AL.find? w.filters f).getD {}).cache = some id) :
    opFilterRegister f w = .panic .filterRegistered w := by
  simp [opFilterRegister, bind, M.bind, M.get, M.assert, hc]

theorem opFilterRegister_eq (f : Nat) (w : World) (hc : ((AL.find? w.filters f).getD {}).cache = none) {id : Nat}
    {w1 : World} (hreg : cacheRegister ((AL.find? w.filters f).getD {}).filter ((AL.find? w.filters f).getD {}).rels w = .ok id w1) :
    opFilterRegister f w = .ok ()
      { w1 with filters := AL.insert w1.filters f { (AL.find? w.filters f).getD {} with cache := some id } } := by
  simp only [opFilterRegister, bind, M.bind, M.get, M.assert, hc, Option.isNone_none, if_true, hreg,
    M.modify]

theorem opFilterUnregister_unregistered (f : Nat) (w : World) (hc : ((AL.find? w.filters f).getD {}).cache = none) :
    opFilterUnregister f w = .panic .filterNotRegistered w := by
  simp [opFilterUnregister, bind, M.bind, M.get, hc]

theorem opFilterUnregister_eq (f : Nat) (w : World) {id : Nat} (hc : ((AL.find? w.filters f).getD {}).cache = some id)
    {w1 : World} (hun : cacheUnregister id w = .ok () w1) :
    opFilterUnregister f w = .ok ()
      { w1 with filters := AL.insert w1.filters f { (AL.find? w.filters f).getD {} with cache := none } } := by
  simp only [opFilterUnregister, bind, M.bind, M.get, hc, hun, M.modify]

end World

/-- the cache's ID pool never recycles (`unregister` does not return the ID): every registered
    ID is below the next fresh one -/
structure CachePoolOK (w : World) : Prop where
  avail : w.cache.pool.available = 0
  bound : ∀ (id i : Nat), AL.find? w.cache.indices id = some i → id < w.cache.pool.pool.length

theorem CachePoolOK.fresh {w : World} (h : CachePoolOK w) :
    (w.cache.pool.get).2 = w.cache.pool.pool.length ∧
    (w.cache.pool.get).1.available = 0 ∧
    (w.cache.pool.get).1.pool.length = w.cache.pool.pool.length + 1 ∧
    AL.find? w.cache.indices (w.cache.pool.get).2 = none := by
  have h1 : (w.cache.pool.get).2 = w.cache.pool.pool.length := by
    simp [IntPool.get, h.avail, IntPool.getNew]
  refine ⟨h1, by simp [IntPool.get, h.avail, IntPool.getNew],
    by simp [IntPool.get, h.avail, IntPool.getNew], ?_⟩
  cases hf : AL.find? w.cache.indices (w.cache.pool.get).2 with
  | none => rfl
  | some i =>
    have := h.bound _ i hf
    rw [h1] at this
    exact absurd this (Nat.lt_irrefl _)

/-- **registered filter objects and cache entries correspond**: an object that believes to be
    registered under `id` has the entry `id`, made for its filter and fixed relations; no two
    objects share an ID -/
structure HeapReg (w : World) : Prop where
  reg : ∀ (f : Nat) (fo : FilterObj) (id : Nat), AL.find? w.filters f = some fo →
    fo.cache = some id →
    ∃ (e : CacheEntry), e ∈ w.cache.filters ∧ e.id = id ∧ e.filter = fo.filter ∧ e.rels = fo.rels
  inj : ∀ (f g : Nat) (fo go : FilterObj) (id : Nat), AL.find? w.filters f = some fo →
    AL.find? w.filters g = some go → fo.cache = some id → go.cache = some id → f = g

theorem AL.find?_insert_elim {ν : Type} {m : AL ν} {f g : Nat} {v x : ν}
    (h : AL.find? (AL.insert m f v) g = some x) :
    (g = f ∧ x = v) ∨ (g ≠ f ∧ AL.find? m g = some x) := by
  rw [AL.find?_insert] at h
  by_cases hgf : g = f
  · rw [if_pos hgf] at h; exact Or.inl ⟨hgf, (Option.some.inj h).symm⟩
  · rw [if_neg hgf] at h; exact Or.inr ⟨hgf, h⟩

theorem HeapReg.insert {w w' : World} (h : HeapReg w) {f : Nat} {fo' : FilterObj}
    (hF : w'.filters = AL.insert w.filters f fo')
    (hkeep : ∀ (e : CacheEntry), e ∈ w.cache.filters →
      (∃ (g : Nat) (go : FilterObj), g ≠ f ∧ AL.find? w.filters g = some go ∧
        go.cache = some e.id) → e ∈ w'.cache.filters)
    (hnew : ∀ (id : Nat), fo'.cache = some id →
      (∃ (e : CacheEntry), e ∈ w'.cache.filters ∧ e.id = id ∧ e.filter = fo'.filter ∧
        e.rels = fo'.rels) ∧
      ∀ (g : Nat) (go : FilterObj), g ≠ f → AL.find? w.filters g = some go → go.cache ≠ some id) :
    HeapReg w' := by
  refine ⟨?_, ?_⟩
  · intro g go id hg hc
    rw [hF] at hg
    rcases AL.find?_insert_elim hg with ⟨_, rfl⟩ | ⟨hgf, hg'⟩
    · exact (hnew id hc).1
    · obtain ⟨e, he, g1, g2, g3⟩ := h.reg g go id hg' hc
      exact ⟨e, hkeep e he ⟨g, go, hgf, hg', g1 ▸ hc⟩, g1, g2, g3⟩
  · intro g1 g2 o1 o2 id h1 h2 c1 c2
    rw [hF] at h1 h2
    rcases AL.find?_insert_elim h1 with ⟨e1, rfl⟩ | ⟨n1, h1'⟩ <;>
    rcases AL.find?_insert_elim h2 with ⟨e2, rfl⟩ | ⟨n2, h2'⟩
    · rw [e1, e2]
    · exact absurd c2 ((hnew id c1).2 g2 o2 n2 h2')
    · exact absurd c1 ((hnew id c2).2 g1 o1 n1 h1')
    · exact h.inj g1 g2 o1 o2 id h1' h2' c1 c2

/-- a condition `P` that does not read the `cache` field (`hP`) and holds of the zero object and of
    every object of the heap holds of every object after `Register`/`Unregister` (`hg`: the heap
    these two write).  What the machines' `HeapOK` add to `HeapReg` is of this kind. -/
theorem heapStatic_insert {w : World} {f : Nat} {c : Option Nat} (P : FilterObj → Prop)
    (hP : ∀ (fo : FilterObj), P fo → P { fo with cache := c }) (h0 : P {})
    (hold : ∀ (g : Nat) (go : FilterObj), AL.find? w.filters g = some go → P go)
    (g : Nat) (go : FilterObj)
    (hg : AL.find? (AL.insert w.filters f { (AL.find? w.filters f).getD {} with cache := c }) g = some go) : P go := by
  rcases AL.find?_insert_elim hg with ⟨_, rfl⟩ | ⟨_, hg'⟩
  · apply hP
    cases hf : AL.find? w.filters f with
    | none => exact h0
    | some fo => exact hold f fo hf
  · exact hold g go hg'

/-- **`FilterN.Register`** of an unregistered object whose walk cannot panic: the world after it,
    and the cache-side facts there.  Only cache and filter heap change. -/
theorem filterRegister_core {w : World} (hC : CacheInv w) (hH : HeapReg w) (hP : CachePoolOK w)
    (H : TablesInv w) (f : Nat) (hc : ((AL.find? w.filters f).getD {}).cache = none)
    (hok : RelsOK w ((AL.find? w.filters f).getD {}).filter ((AL.find? w.filters f).getD {}).rels) :
    ∃ (ts : List Nat) (w' : World), opFilterRegister f w = .ok () w' ∧
      w' = { registered w ((AL.find? w.filters f).getD {}).filter ((AL.find? w.filters f).getD {}).rels ts with
        filters := AL.insert w.filters f { (AL.find? w.filters f).getD {} with cache := some (w.cache.pool.get).2 } } ∧
      CacheInv w' ∧ HeapReg w' ∧ CachePoolOK w' := by
  obtain ⟨hidEq, hav, hlen, hfresh⟩ := hP.fresh
  obtain ⟨ts, hts, _, _⟩ := getCacheTables_spec H hok
  have hreg := cacheRegister_eq w _ _ ts hts
  obtain ⟨w1, e, hreg', hci, _⟩ := cacheRegister_inv hC H hok hfresh
  obtain rfl : registered w ((AL.find? w.filters f).getD {}).filter ((AL.find? w.filters f).getD {}).rels ts = w1 := by
    rw [hreg] at hreg'
    injection hreg' with _ h2
  refine ⟨ts, _, opFilterRegister_eq f w hc hreg, rfl, ?_, ?_, hav, ?_⟩
  · exact hci.congr rfl rfl rfl
  · refine hH.insert rfl (fun e he _ => List.mem_append_left _ he) ?_
    intro id' hid
    obtain rfl : (w.cache.pool.get).2 = id' := Option.some.inj hid
    refine ⟨⟨newEntry w _ _ ts, List.mem_append_right _ (List.mem_singleton.mpr rfl), rfl, rfl,
      rfl⟩, fun g go _ hgo hco => ?_⟩
    -- an old object cannot carry the fresh ID
    obtain ⟨e0, he0, g1, _, _⟩ := hH.reg g go _ hgo hco
    obtain ⟨i, hi⟩ := hC.find_of_mem he0
    rw [g1, hfresh] at hi; cases hi
  · intro id' i hf
    replace hf : AL.find? (AL.insert w.cache.indices (w.cache.pool.get).2
      w.cache.filters.length) id' = some i := hf
    show id' < (w.cache.pool.get).1.pool.length
    rw [AL.find?_insert] at hf
    by_cases hid : id' = (w.cache.pool.get).2
    · rw [hlen, hid, hidEq]; exact Nat.lt_succ_self _
    · rw [if_neg hid] at hf
      rw [hlen]; exact Nat.lt_succ_of_lt (hP.bound id' i hf)

/-- **`FilterN.Unregister`** of a registered object: the world after it, and the cache-side facts
    there; every entry that is left was there before.  Only cache and filter heap change. -/
theorem filterUnregister_core {w : World} (hC : CacheInv w) (hH : HeapReg w) (hP : CachePoolOK w)
    (f : Nat) {id : Nat} (hc : ((AL.find? w.filters f).getD {}).cache = some id) :
    ∃ (F : List CacheEntry) (I : AL Nat) (w' : World), opFilterUnregister f w = .ok () w' ∧
      w' = { w with cache := { w.cache with filters := F, indices := I },
                    filters := AL.insert w.filters f { (AL.find? w.filters f).getD {} with cache := none } } ∧
      CacheInv w' ∧ HeapReg w' ∧ CachePoolOK w' ∧ ∀ (e : CacheEntry), e ∈ F → e ∈ w.cache.filters := by
  -- the object is in the heap (the zero object is unregistered)
  obtain ⟨fo, hfind⟩ : ∃ (fo : FilterObj), AL.find? w.filters f = some fo := by
    cases hfind : AL.find? w.filters f with
    | none => rw [hfind] at hc; cases hc
    | some fo => exact ⟨fo, rfl⟩
  have hfo : (AL.find? w.filters f).getD {} = fo := by rw [hfind]; rfl
  have hcfo : fo.cache = some id := by rw [← hfo]; exact hc
  obtain ⟨e0, he0, hid0, _, _⟩ := hH.reg f fo id hfind hcfo
  obtain ⟨idx, hidx⟩ := hC.find_of_mem he0
  rw [hid0] at hidx
  obtain ⟨w1, hun, hci, _, _, hgone, hoth⟩ := cacheUnregister_inv hC hidx
  obtain ⟨F, I, rfl⟩ := cacheUnregister_form hun
  -- entries of other IDs survive; every surviving entry is an old one
  have hkeep : ∀ (e : CacheEntry), e ∈ w.cache.filters → e.id ≠ id → e ∈ F := by
    intro e he hne
    have h1 := hC.lookup_of_mem he
    rw [← hoth e.id hne] at h1
    exact (hci.entry_of_lookup h1).1
  have hback : ∀ (e : CacheEntry), e ∈ F → e.id ≠ id ∧ e ∈ w.cache.filters := by
    intro e he
    have h1 := hci.lookup_of_mem (e := e) he
    have hne : e.id ≠ id := by
      intro hii; rw [hii, hgone] at h1; cases h1
    rw [hoth e.id hne] at h1
    exact ⟨hne, (hC.entry_of_lookup h1).1⟩
  refine ⟨F, I, _, opFilterUnregister_eq f w hc hun, rfl, ?_, ?_, ⟨hP.avail, ?_⟩,
    fun e he => (hback e he).2⟩
  · exact hci.congr rfl rfl rfl
  · refine hH.insert rfl ?_ (fun id' hid => by cases hid)
    rintro e he ⟨g, go, hgf, hgo, hgc⟩
    exact hkeep e he (fun hii => hgf (hH.inj g f go fo id hgo hfind (hii ▸ hgc) hcfo))
  · intro id' i hf
    obtain ⟨e1, he1, hid1⟩ := (hci.index id' i).1 hf
    obtain ⟨_, hm1⟩ := hback e1 (List.mem_of_getElem? he1)
    obtain ⟨j, hj⟩ := hC.find_of_mem hm1
    rw [hid1] at hj
    exact hP.bound id' j hj

namespace World

theorem FilterObj.eq_of_cache_none {fo : FilterObj} (hc : fo.cache = none) :
    fo = { fo with cache := none } := by
  cases fo
  simp only at hc
  subst hc
  rfl

/-- what `cache.Reset` does to the filter heap when it agrees with the cache: every filter
    object is unregistered; nothing else about it changes -/
theorem cacheReset_filters {w : World} (hC : CacheInv w) (hH : HeapReg w) (f : Nat) :
    AL.find? w.cacheReset.filters f =
      (AL.find? w.filters f).map fun fo => { fo with cache := none } := by
  unfold cacheReset
  by_cases h0 : w.cache.indices.isEmpty = true
  · -- no entry: no object can believe to be registered
    rw [if_pos h0]
    cases hfo : AL.find? w.filters f with
    | none => rfl
    | some fo =>
      refine congrArg some (FilterObj.eq_of_cache_none ?_)
      cases hc : fo.cache with
      | none => rfl
      | some id =>
        obtain ⟨e, he, _⟩ := hH.reg f fo id hfo hc
        rw [hC.filters_nil_of_indices_nil (List.isEmpty_iff.1 h0)] at he
        cases he
  · rw [if_neg h0]
    show AL.find? (AL.mapVals w.filters fun fo =>
        match fo.cache with
        | some id => if (w.cache.filters.map (·.id)).contains id then { fo with cache := none }
            else fo
        | none => fo) f = _
    rw [AL.find?_mapVals]
    cases hfo : AL.find? w.filters f with
    | none => rfl
    | some fo =>
      refine congrArg some ?_
      show (match fo.cache with
        | some id => if (w.cache.filters.map (·.id)).contains id then { fo with cache := none }
            else fo
        | none => fo) = { fo with cache := none }
      cases hc : fo.cache with
      | none => exact FilterObj.eq_of_cache_none hc
      | some id =>
        obtain ⟨e, he, hid, _, _⟩ := hH.reg f fo id hfo hc
        have : (w.cache.filters.map (·.id)).contains id = true := by
          rw [List.contains_iff_mem]; exact List.mem_map.2 ⟨e, he, hid⟩
        simp only [this, if_true]

end World

/-- for any `w'` with the cache and the filter heap of `w.cacheReset`: the cache is empty, no object
    is registered, and the ID pool starts afresh (or was never used) -/
theorem cacheReset_core {w : World} (hC : CacheInv w) (hH : HeapReg w) (hP : CachePoolOK w)
    {w' : World} (hcache : w'.cache = w.cacheReset.cache) (hfil : w'.filters = w.cacheReset.filters) :
    CacheInv w' ∧ HeapReg w' ∧ CachePoolOK w' := by
  have hnone : ∀ (f : Nat) (fo : FilterObj) (id : Nat), AL.find? w'.filters f = some fo →
      fo.cache ≠ some id := by
    intro f fo id hf hcid
    rw [hfil, cacheReset_filters hC hH] at hf
    obtain ⟨fo0, _, rfl⟩ := Option.map_eq_some_iff.mp hf
    cases hcid
  refine ⟨cacheInv_of_empty (by rw [hcache]; exact (cacheReset_empty hC).1)
    (by rw [hcache]; exact (cacheReset_empty hC).2),
    ⟨fun f fo id hf hcid => absurd hcid (hnone f fo id hf),
      fun f _ fo _ id hf _ hcid _ => absurd hcid (hnone f fo id hf)⟩, ?_⟩
  by_cases h0 : w.cache.indices.isEmpty = true
  · have e : w.cacheReset = w := by unfold cacheReset; rw [if_pos h0]
    rw [e] at hcache
    exact ⟨by rw [hcache]; exact hP.avail, by rw [hcache]; exact hP.bound⟩
  · have e : w.cacheReset.cache = { indices := [], filters := [], pool := w.cache.pool.reset } := by
      unfold cacheReset; rw [if_neg h0]
    rw [e] at hcache
    exact ⟨by rw [hcache]; rfl, fun id i hf => by rw [hcache] at hf; cases hf⟩

end Ark
