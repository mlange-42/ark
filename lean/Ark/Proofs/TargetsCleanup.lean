/-
  Ark.Proofs.TargetsCleanup — C04 at world level: what the proofs about `cleanupArchetypes`
  (`TargetsStep`, `TargetsLoops`, and `TargetsHist` for `RemoveEntity`) start from: its two loop
  bodies named (`cleanTable`, `cleanArch`), its edit of a table's targets (`cleanEdit`), the
  invariants that hold while it runs, the destination table of one step (`cleanGetD`).  The
  invariants are stated for a list `D` of removed targets still to be cleaned up (`OKTs`,
  `CleanBaseD`), as `RemoveEntities` needs them; a single `RemoveEntity` is the case `D = [g]`
  (`OKT`, `CleanBase`).  `relGet_cases`: `getTable` on the relation list read off edited targets
  of a table, shared with `setRelations` (`Ark.Proofs.TargetsSetRel`), as is `getOrCreate_bind`, which
  folds the inline "`GetTable`, else `createTable`" of a model function back into `getOrCreate`.
-/
import Ark.Proofs.TargetsMove

set_option autoImplicit false

namespace Ark

open World Ark.Props.C01World

/-! ## the loops of `cleanupArchetypes`, named -/

namespace World

/-- "`GetTable`, else `createTable`, then `k`" as the model writes it (do-notation copies the
    continuation into both branches) is `getOrCreate` followed by `k`.  Use it as
    `congrFun (getOrCreate_bind _ _ _) w`: `rw` does not find the pattern, the `match` of an unfolded
    model function being another matcher constant than the one of this statement. -/
theorem getOrCreate_bind {β : Type} (a : Nat) (rels : List RelID) (k : Nat → W β) :
    (M.bind (getTable a rels) fun ot =>
      match ot with
      | some t => M.bind (pure t) k
      | none => M.bind (createTable a rels) k) = M.bind (getOrCreate a rels) k := by
  funext w
  simp only [getOrCreate, bind, M.bind]
  cases getTable a rels w with
  | panic k s => rfl
  | ok ot s => cases ot <;> rfl

theorem getOrCreate_obs {a : Nat} {rels : List RelID} {w w' : World} {t : Nat}
    (h : getOrCreate a rels w = .ok t w') : w'.obs = w.obs :=
  getOrCreate_induct (fun w w' => w'.obs = w.obs) (fun _ => rfl)
    (fun h => (createTable_untouched h).obs) h

/-- the relations of `T` that `cleanupArchetypes g` resets to the zero entity -/
def cleanRels (w : World) (g : Ent) (T : Table) : List RelID :=
  (T.relIDs.filter fun r =>
      r.target.id == g.id || (!r.target.isZero && !w.alive r.target)).map
    fun r => (⟨r.comp, Ent.zero⟩ : RelID)

/-- the freeing block of the inner loop -/
def freeW (w : World) (a tid : Nat) : World :=
  ((w.modArch a fun A => A.freeTable tid).modTbl tid fun T => { T with isFree := true }).cacheRemoveTable tid

/-- the body of the inner loop of `cleanupArchetypes` -/
def cleanTable (g : Ent) (a tid : Nat) : W Unit := do
  let w ← M.get
  let T := w.tbl tid
  let newRels := (T.relIDs.filter fun r =>
      r.target.id == g.id || (!r.target.isZero && !w.alive r.target)).map
    fun r => (⟨r.comp, Ent.zero⟩ : RelID)
  if T.len > 0 then
    match getExchangeTargetsUnchecked T newRels with
    | none => M.panic .runtime
    | some all =>
      let nt ← match ← getTable a all with
        | some t => pure t
        | none => createTable a all
      moveEntities tid nt T.len
  M.modify fun w => (w.modArch a fun A => A.freeTable tid).modTbl tid fun T => { T with isFree := true }
  M.modify fun w => w.cacheRemoveTable tid

/-- the body of the outer loop of `cleanupArchetypes` -/
def cleanArch (g : Ent) (a : Nat) : W Unit := do
  let w ← M.get
  match AL.find? (w.arch a).targetTables g.id with
  | none => pure ()
  | some tables =>
    M.forM' tables.tables.reverse (cleanTable g a)
    M.modify fun w => w.modArch a fun A => A.removeTarget g

theorem cleanupArchetypes_eq (g : Ent) (w : World) :
    cleanupArchetypes g w = M.forM' w.relationArchetypes (cleanArch g) w := rfl

theorem cleanTable_eq (g : Ent) (a tid : Nat) (w : World) :
    cleanTable g a tid w =
      if (w.tbl tid).len > 0 then
        match getExchangeTargetsUnchecked (w.tbl tid) (cleanRels w g (w.tbl tid)) with
        | none => .panic .runtime w
        | some all =>
          match getOrCreate a all w with
          | .panic k s => .panic k s
          | .ok nt w1 => .ok () (freeW (moveEntitiesW w1 tid nt (w.tbl tid).len) a tid)
      else .ok () (freeW w a tid) := by
  simp only [cleanTable, bind, M.bind, M.get, cleanRels]
  split
  · cases hx : getExchangeTargetsUnchecked (w.tbl tid) _ with
    | none => rfl
    | some all =>
      refine (congrFun (getOrCreate_bind _ _ _) w).trans ?_
      simp only [M.bind]
      cases getOrCreate a all w <;> rfl
  · rfl

theorem cleanArch_eq (g : Ent) (a : Nat) (w : World) :
    cleanArch g a w =
      match AL.find? (w.arch a).targetTables g.id with
      | none => .ok () w
      | some tables =>
        match M.forM' tables.tables.reverse (cleanTable g a) w with
        | .panic k s => .panic k s
        | .ok _ s => .ok () (s.modArch a fun A => A.removeTarget g) := by
  simp only [cleanArch, bind, M.bind, M.get]
  cases AL.find? (w.arch a).targetTables g.id with
  | none => rfl
  | some tables =>
    simp only [M.bind]
    cases M.forM' tables.tables.reverse (cleanTable g a) w with
    | panic k s => rfl
    | ok u s => rfl

end World

/-! ## the relation list the cleanup builds for one table -/

/-- the targets a relation column may hold while `g` (already removed from the pool) is being
    cleaned up -/
def OKT (w : World) (g : Ent) (h : Ent) : Prop :=
  h.isZero = true ∨ (w.alive h = true ∧ h.id ≠ g.id) ∨ h = g

theorem OKT.eq_of_id {w : World} {g h : Ent} (hk : OKT w g h) (hg0 : g.id ≠ 0) (hid : h.id = g.id) :
    h = g := by
  rcases hk with h1 | ⟨_, h1⟩ | h1
  · simp only [Ent.isZero, beq_iff_eq] at h1; rw [hid] at h1; exact absurd h1 hg0
  · exact absurd hid h1
  · exact h1

/-- the filter of `cleanupArchetypes` selects exactly the relations targeting `g` -/
theorem cleanFilter_iff {w : World} {g h : Ent} (hk : OKT w g h) (hg0 : g.id ≠ 0) :
    (h.id == g.id || (!h.isZero && !w.alive h)) = true ↔ h = g := by
  constructor
  · intro hf
    rcases hk with h1 | ⟨h1, h2⟩ | h1
    · simp only [Ent.isZero, beq_iff_eq] at h1
      simp only [Ent.isZero, h1, beq_self_eq_true, Bool.not_true, Bool.false_and, Bool.or_false,
        beq_iff_eq] at hf
      exact absurd hf.symm hg0
    · simp only [h1, Bool.not_true, Bool.and_false, Bool.or_false, beq_iff_eq] at hf
      exact absurd hf h2
    · exact h1
  · rintro rfl; simp

/-- what the filter of `cleanupArchetypes g` makes of a column whose target was `h` -/
def cleanEdit (w : World) (g h : Ent) : Ent :=
  if (h.id == g.id || (!h.isZero && !w.alive h)) = true then Ent.zero else h

theorem cleanEdit_keep {w : World} {g h : Ent} (hz : (cleanEdit w g h).isZero = false) :
    cleanEdit w g h = h := by
  unfold cleanEdit at hz ⊢
  split
  · rename_i hc; rw [if_pos hc] at hz; cases hz
  · rfl

theorem cleanEdit_congr {w w' : World} (hp : w'.pool = w.pool) (g h : Ent) :
    cleanEdit w' g h = cleanEdit w g h := by
  have : w'.alive h = w.alive h := by simp only [World.alive, hp]
  unfold cleanEdit; rw [this]

def zeroIf (g h : Ent) : Ent := if h = g then Ent.zero else h

theorem cleanEdit_eq_zeroIf {w : World} {g h : Ent} (hk : OKT w g h) (hg0 : g.id ≠ 0) :
    cleanEdit w g h = zeroIf g h := by
  simp only [cleanEdit, zeroIf, cleanFilter_iff hk hg0]

/-- `OKT` while the dead targets `D` (already removed from the pool) are pending -/
def OKTs (w : World) (D : List Ent) (h : Ent) : Prop :=
  h.isZero = true ∨ (w.alive h = true ∧ ∀ (d : Ent), d ∈ D → h.id ≠ d.id) ∨ h ∈ D

theorem okt_iff_single {w : World} {g h : Ent} : OKT w g h ↔ OKTs w [g] h := by
  simp only [OKT, OKTs, List.mem_singleton, forall_eq]

theorem OKTs.mono_alive {w w' : World} {D : List Ent} {h : Ent} (hk : OKTs w D h)
    (hp : w'.pool = w.pool) : OKTs w' D h := by
  rcases hk with h1 | ⟨h1, h2⟩ | h1
  · exact Or.inl h1
  · exact Or.inr (Or.inl ⟨by simp only [World.alive, hp]; exact h1, h2⟩)
  · exact Or.inr (Or.inr h1)

theorem OKTs.cleanEdit_good {w : World} {D : List Ent} {g h : Ent} (hk : OKTs w D h)
    (hg0 : g.id ≠ 0) :
    OKTs w D (cleanEdit w g h) ∧
      ((cleanEdit w g h).isZero = true ∨ w.alive (cleanEdit w g h) = true) ∧
      (cleanEdit w g h).id ≠ g.id := by
  unfold cleanEdit
  split
  · exact ⟨Or.inl rfl, Or.inl rfl, fun e => hg0 e.symm⟩
  · rename_i hc
    refine ⟨hk, ?_, fun e => hc (by rw [e, beq_self_eq_true, Bool.true_or])⟩
    cases hz : h.isZero with
    | true => exact Or.inl rfl
    | false =>
      cases hal : w.alive h with
      | true => exact Or.inr rfl
      | false => exact absurd (by simp [hz, hal]) hc

theorem cleanRels_edit {w : World} {g : Ent} {T : Table} (hex : T.RelsExact) (hnd : T.ids.Nodup)
    (hrl : T.isRel.length = T.ids.length) :
    (∀ (r : RelID), r ∈ cleanRels w g T → (T.colIdx r.comp).isSome = true) ∧
    (setTargets T.colIdx (cleanRels w g T) T.targets).length = T.ids.length ∧
    ∀ (i : Nat), T.isRel.getD i false = true →
      (setTargets T.colIdx (cleanRels w g T) T.targets).getD i Ent.zero =
        cleanEdit w g (T.targets.getD i Ent.zero) := by
  have hmem : ∀ (r' : RelID), r' ∈ cleanRels w g T ↔ ∃ (r : RelID), r ∈ T.relIDs ∧
      (r.target.id == g.id || (!r.target.isZero && !w.alive r.target)) = true ∧
      r' = ⟨r.comp, Ent.zero⟩ := by
    intro r'
    simp only [cleanRels, List.mem_map, List.mem_filter]
    constructor
    · rintro ⟨r, ⟨hr, hf⟩, rfl⟩; exact ⟨r, hr, hf, rfl⟩
    · rintro ⟨r, hr, hf, rfl⟩; exact ⟨r, ⟨hr, hf⟩, rfl⟩
  refine ⟨?_, by rw [setTargets_length, hex.tlen], ?_⟩
  · intro r' hr'
    obtain ⟨r, hr, _, rfl⟩ := (hmem r').1 hr'
    obtain ⟨i, h1, _, _⟩ := hex.sound r hr
    rw [Table.colIdx_of_get hnd h1]; rfl
  · intro i hi
    have hil : i < T.ids.length := by rw [← hrl]; exact lt_of_getD_true hi
    unfold cleanEdit
    split
    · rename_i hf
      apply setTargets_getD_eq
      · rw [hex.tlen]; exact hil
      · intro r' hr' _
        obtain ⟨r, _, _, rfl⟩ := (hmem r').1 hr'
        rfl
      · left
        obtain ⟨c, hc⟩ : ∃ (c : Comp), T.ids[i]? = some c := ⟨_, List.getElem?_eq_getElem hil⟩
        exact ⟨⟨c, Ent.zero⟩, (hmem _).2 ⟨_, hex.complete i c hc hi, hf, rfl⟩,
          Table.colIdx_of_get hnd hc⟩
    · rename_i hf
      apply setTargets_getD_keep
      intro r' hr' hc
      obtain ⟨r, hr, hf', rfl⟩ := (hmem r').1 hr'
      rw [← (hex.col hnd hr hc).2] at hf'
      exact hf hf'

theorem colRels_facts {ids : List Comp} {ts : List Ent} {bs : List Bool} (hnd : ids.Nodup)
    (h1 : ts.length = ids.length) (h2 : bs.length = ids.length) :
    ((colRels ids ts bs).map (·.comp)).Nodup ∧
    (colRels ids ts bs).length = (bs.filter fun b => b).length ∧
    (∀ (r : RelID), r ∈ colRels ids ts bs → ∃ (i : Nat), ids[i]? = some r.comp ∧
      bs.getD i false = true ∧ ts.getD i Ent.zero = r.target) ∧
    (∀ (i : Nat) (c : Comp), ids[i]? = some c → bs.getD i false = true →
      (⟨c, ts.getD i Ent.zero⟩ : RelID) ∈ colRels ids ts bs) := by
  refine ⟨colRels_comps_nodup hnd ts bs, colRels_length ids ts bs h1 h2, ?_, ?_⟩
  · intro r hr
    obtain ⟨i, a1, a2, a3⟩ := mem_colRels.1 hr
    exact ⟨i, a1, (getD_false_eq_true_iff bs i).2 a3, by
      rw [List.getD_eq_getElem?_getD, a2]; rfl⟩
  · intro i c hc hb
    have hi : i < ids.length := (List.getElem?_eq_some_iff.1 hc).1
    refine mem_colRels.2 ⟨i, hc, ?_, (getD_false_eq_true_iff bs i).1 hb⟩
    rw [List.getD_eq_getElem?_getD, List.getElem?_eq_getElem (by rw [h1]; exact hi)]; rfl

namespace Archetype

theorem IndexInvExcept.congr_tgt {a : Archetype} {tgt tgt' : Nat → List Ent} {g : Nat}
    (h : a.IndexInvExcept tgt g) (he : ∀ (t : Nat), t ∈ a.tables.tables → tgt' t = tgt t) :
    a.IndexInvExcept tgt' g := by
  obtain ⟨S, S', hm⟩ := h.maps
  refine { h.toStruct with maps := ⟨S, S', hm.congr ?_ ?_⟩ }
  · intro i _ g' t
    by_cases hg : g' = g
    · simp [hg]
    · simp only [hg, if_false]
      unfold Archetype.relP
      constructor
      · rintro ⟨h1, h2⟩; exact ⟨h1, by rw [he t h1]; exact h2⟩
      · rintro ⟨h1, h2⟩; exact ⟨h1, by rw [he t h1] at h2; exact h2⟩
  · intro g' t
    by_cases hg : g' = g
    · simp [hg]
    · simp only [hg, if_false]
      unfold Archetype.tgtP
      constructor
      · rintro ⟨h1, i, h2, h3⟩; exact ⟨h1, i, h2, by rw [he t h1]; exact h3⟩
      · rintro ⟨h1, i, h2, h3⟩; exact ⟨h1, i, h2, by rw [he t h1] at h3; exact h3⟩

theorem IndexInvExcept.listed {a : Archetype} {tgt : Nat → List Ent} {g : Nat}
    (h : a.IndexInvExcept tgt g) {i : Nat} (hi : a.isRel.getD i false = true) {k : Nat} (hk : k ≠ g)
    {ts : TableIDs} (hf : AL.find? (a.relationTables.getD i []) k = some ts) {t : Nat}
    (ht : t ∈ ts.tables) : t ∈ a.tables.tables ∧ ((tgt t).getD i Ent.zero).id = k := by
  obtain ⟨S, S', hm⟩ := h.maps
  have := ((hm.rel i hi).mem_of_find? hf t).1 ht
  rw [if_neg hk] at this
  exact this

theorem IndexInv.targetListed {a : Archetype} {tgt : Nat → List Ent} (h : a.IndexInv tgt) {g : Nat}
    {ts : TableIDs} (hf : AL.find? a.targetTables g = some ts) (t : Nat) :
    t ∈ ts.tables ↔ tgtP a tgt g t := h.target.mem_of_find? hf t

theorem IndexInv.target_none {a : Archetype} {tgt : Nat → List Ent} (h : a.IndexInv tgt) {g : Nat}
    (hf : AL.find? a.targetTables g = none) (t : Nat) : ¬ tgtP a tgt g t :=
  h.target.not_of_find?_none hf t

end Archetype

namespace World

theorem modArch_arch_self (w : World) {a : Nat} (f : Archetype → Archetype)
    (h : a < w.archetypes.length) : (w.modArch a f).arch a = f (w.arch a) := by
  rw [modArch, setArch_arch, if_pos ⟨rfl, h⟩]

theorem modArch_arch_ne (w : World) {a b : Nat} (f : Archetype → Archetype) (h : a ≠ b) :
    (w.modArch a f).arch b = w.arch b := by
  rw [modArch, setArch_arch, if_neg (fun hh => h hh.1)]

/-- the archetype `createTable` leaves behind: `AddTable` on the archetype, after popping the
    free table if there is one -/
theorem createTableS_arch (w : World) {a : Nat} (rels : List RelID) (ha : a < w.archetypes.length) :
    (createTableS w a rels).1.arch a =
      match (w.arch a).getFreeTable with
      | none => (w.arch a).addTable w.tables.length (ctTargets (w.arch a) rels)
      | some (A', t) => A'.addTable t (ctTargets (w.arch a) rels) := by
  cases hf : (w.arch a).getFreeTable with
  | none =>
    rw [createTableS_none hf]
    exact modArch_arch_self _ _ ha
  | some p =>
    obtain ⟨A', t⟩ := p
    rw [createTableS_some hf]
    simp only
    rw [modArch_arch_self _ _ (by simpa [modTbl, setTbl, setArch] using ha)]
    congr 1
    show (w.setArch a A').arch a = A'
    rw [setArch_arch, if_pos ⟨rfl, ha⟩]

end World

/-- **`createTable` keeps the index invariant up to key `g`** of its archetype, when none of the
    new table's relation columns targets `g` -/
theorem SInvMid.createTableS_except {w : World} (h : SInvMid w) {a : Nat} {A : Archetype}
    (hA : w.archetypes[a]? = some A) (rels : List RelID) {g : Nat}
    (hX : A.IndexInvExcept (fun t => (w.tbl t).targets) g)
    (htg : ∀ (i : Nat), A.isRel.getD i false = true → ((ctTargets A rels).getD i Ent.zero).id ≠ g) :
    ((createTableS w a rels).1.arch a).IndexInvExcept
      (fun t => if t = (createTableS w a rels).2 then ctTargets A rels else (w.tbl t).targets) g := by
  have hAe : w.arch a = A := arch_of_get hA
  have halt := alt_of_get hA
  rw [createTableS_arch w rels halt, hAe]
  cases hf : A.getFreeTable with
  | none =>
    have h2 : (createTableS w a rels).2 = w.tables.length := by
      rw [createTableS_none (by rw [hAe]; exact hf)]
    rw [h2]
    exact hX.addTable _ _ (fun hm => Nat.lt_irrefl _ ((h.active_iff hA).1 hm).1)
      (fun hm => Nat.lt_irrefl _ ((h.free_iff hA).1 hm).1) htg
  | some p =>
    obtain ⟨A', t⟩ := p
    have h2 : (createTableS w a rels).2 = t := by
      rw [createTableS_some (by rw [hAe]; exact hf)]
    rw [h2]
    obtain ⟨hX', _, _, hnf, hnt⟩ := hX.getFreeTable hf
    have e4 := (Archetype.getFreeTable_archRel hf).isRel
    exact hX'.addTable t _ hnt hnf (fun i hi => htg i (by rw [← e4]; exact hi))

/-! ## the invariants of the cleanup -/

/-- what holds of the world while target `g` is being cleaned up (apart from the relation
    indices) -/
structure CleanBase (g : Ent) (w : World) : Prop where
  idx : IdxInv w
  sinv : SInv w
  tgts : TargetsSat (OKT w g) w
  rels : RelListsOK w
  cacheRels : CacheRelsOK w
  flags : FlagsOK w
  freeEmpty : FreeEmpty w
  relArchs : RelArchsOK w

/-- `CleanBase` while the dead targets `D` are pending -/
structure CleanBaseD (D : List Ent) (w : World) : Prop where
  idx : IdxInv w
  sinv : SInv w
  tgts : TargetsSat (OKTs w D) w
  rels : RelListsOK w
  cacheRels : CacheRelsOK w
  flags : FlagsOK w
  freeEmpty : FreeEmpty w
  relArchs : RelArchsOK w

theorem cleanBase_iff_single {g : Ent} {w : World} : CleanBase g w ↔ CleanBaseD [g] w :=
  ⟨fun h => ⟨h.idx, h.sinv, h.tgts.mono fun _ => okt_iff_single.1, h.rels, h.cacheRels, h.flags,
      h.freeEmpty, h.relArchs⟩,
    fun h => ⟨h.idx, h.sinv, h.tgts.mono fun _ => okt_iff_single.2, h.rels, h.cacheRels, h.flags,
      h.freeEmpty, h.relArchs⟩⟩

/-- the relation indices while archetype `a` is being cleaned of key `g`: `a` satisfies the
    invariant up to that key, every other archetype the full invariant -/
def RInvExcept (w : World) (a g : Nat) : Prop :=
  (∀ (A : Archetype), w.archetypes[a]? = some A →
    A.IndexInvExcept (fun t => (w.tbl t).targets) g) ∧
  (∀ (b : Nat) (B : Archetype), b ≠ a → w.archetypes[b]? = some B →
    B.IndexInv (fun t => (w.tbl t).targets))

theorem RInv.toExcept {w : World} (h : RInv w) (a g : Nat) : RInvExcept w a g :=
  ⟨fun A hA => (h a A hA).toExcept g, fun b B _ hB => h b B hB⟩

/-- archetypes with the same column list have the same relation / zero-size flags (both are
    read off the registry) -/
theorem SInvMid.flags_of_comps {w w' : World} (h : SInvMid w) (h' : SInvMid w')
    (hk : w'.kinds = w.kinds) {a a' : Nat} {A A' : Archetype} (hA : w.archetypes[a]? = some A)
    (hA' : w'.archetypes[a']? = some A') (hc : A'.comps = A.comps) :
    A'.isRel = A.isRel ∧ A'.zst = A.zst := by
  obtain ⟨_, l1, l2⟩ := h.comps a A hA
  obtain ⟨_, l1', l2'⟩ := h'.comps a' A' hA'
  constructor
  · apply List.ext_getElem (by rw [l1, l1', hc])
    intro i hi1 hi2
    have hi : i < A.comps.length := by rw [← l1]; exact hi2
    have hc1 : A.comps[i]? = some A.comps[i] := List.getElem?_eq_getElem hi
    have e1 := (h.kindsOf a A i _ hA hc1).1
    have e2 := (h'.kindsOf a' A' i _ hA' (by rw [hc]; exact hc1)).1
    rw [hk, ← e1] at e2
    simp only [List.getD_eq_getElem?_getD, List.getElem?_eq_getElem hi1,
      List.getElem?_eq_getElem hi2, Option.getD_some] at e2
    exact e2
  · apply List.ext_getElem (by rw [l2, l2', hc])
    intro i hi1 hi2
    have hi : i < A.comps.length := by rw [← l2]; exact hi2
    have hc1 : A.comps[i]? = some A.comps[i] := List.getElem?_eq_getElem hi
    have e1 := (h.kindsOf a A i _ hA hc1).2
    have e2 := (h'.kindsOf a' A' i _ hA' (by rw [hc]; exact hc1)).2
    rw [hk, ← e1] at e2
    simp only [List.getD_eq_getElem?_getD, List.getElem?_eq_getElem hi1,
      List.getElem?_eq_getElem hi2, Option.getD_some] at e2
    exact e2

/-! ## finding or creating the destination table -/

/-- what `getOrCreate` on the relation list read off edited targets `ts'` of table `tid` delivers
    (`nt`: another active table of `a`, with the columns of `tid` and `ts'` in its relation
    columns): the post-condition of the lookup in the cleanup (`cleanGetD`) and in `setRelations`
    (`relGet_of_ok`, `TInv.set_lookup` in `TargetsSetRel`) -/
structure CleanGot (w w1 : World) (a tid nt : Nat) (ts' : List Ent) : Prop where
  ntLt : nt < w1.tables.length
  ntNe : nt ≠ tid
  ntArch : (w1.tbl nt).arch = a
  ntFree : (w1.tbl nt).isFree = false
  ntActive : nt ∈ (w1.arch a).tables.tables
  ntIds : (w1.tbl nt).ids = (w.tbl tid).ids
  ntIsRel : (w1.tbl nt).isRel = (w.tbl tid).isRel
  ntZst : (w1.tbl nt).zst = (w.tbl tid).zst
  ntTgt : ∀ (i : Nat), (w.tbl tid).isRel.getD i false = true →
    (w1.tbl nt).targets.getD i Ent.zero = ts'.getD i Ent.zero
  others : ∀ (t : Nat), t ≠ nt → w1.tables[t]? = w.tables[t]?
  ntRows : nt < w.tables.length → ∃ (ts : List Ent) (rs : List RelID),
    w1.tbl nt = { w.tbl nt with targets := ts, relIDs := rs, isFree := false }
  ntKeep : nt < w.tables.length → w1.tables[nt]? = w.tables[nt]? ∨ (w.tbl nt).isFree = true
  entities : w1.entities = w.entities
  pool : w1.pool = w.pool
  isTarget : w1.isTarget = w.isTarget
  kinds : w1.kinds = w.kinds
  obs : w1.obs = w.obs
  locks : w1.locks = w.locks
  maxComps : w1.maxComps = w.maxComps
  relationArchetypes : w1.relationArchetypes = w.relationArchetypes
  archLen : w1.archetypes.length = w.archetypes.length
  otherArchs : ∀ (b : Nat), b ≠ a → w1.archetypes[b]? = w.archetypes[b]?
  actA : ∀ (t : Nat), t ∈ (w1.arch a).tables.tables ↔ t ∈ (w.arch a).tables.tables ∨ t = nt
  archIsRel : (w1.arch a).isRel = (w.arch a).isRel
  tablesLe : w.tables.length ≤ w1.tables.length
  lenB : w1.tables.length ≤ w.tables.length + 1
  lenFresh : w1.tables.length = w.tables.length + 1 → (w.arch a).freeTables = []

theorem Table.eta_free {T : Table} (h : T.isFree = false) :
    T = { T with targets := T.targets, relIDs := T.relIDs, isFree := false } := by
  cases T; simp_all

theorem getOrCreate_found {a : Nat} {rels : List RelID} {w : World} {t : Nat}
    (h : getTable a rels w = .ok (some t) w) : getOrCreate a rels w = .ok t w :=
  getOrCreate_ok_iff.2 (Or.inl ⟨h, rfl⟩)

theorem getOrCreate_created {a : Nat} {rels : List RelID} {w w' : World} {t : Nat}
    (h : getTable a rels w = .ok none w) (hc : createTable a rels w = .ok t w') :
    getOrCreate a rels w = .ok t w' :=
  getOrCreate_ok_iff.2 (Or.inr ⟨h, hc⟩)

theorem ent_ne_zero {g : Ent} (hg0 : g.id ≠ 0) : g ≠ Ent.zero := by
  intro h; rw [h] at hg0; exact hg0 rfl

theorem CleanGot.found {w : World} {a tid nt : Nat} {ts' : List Ent} {Tn : Table}
    (hTn : w.tables[nt]? = some Tn) (hne : nt ≠ tid) (hTna : Tn.arch = a)
    (hTnf : Tn.isFree = false) (hact : nt ∈ (w.arch a).tables.tables)
    (e1 : Tn.ids = (w.tbl tid).ids) (e2 : Tn.isRel = (w.tbl tid).isRel)
    (e3 : Tn.zst = (w.tbl tid).zst)
    (htgt : ∀ (i : Nat), (w.tbl tid).isRel.getD i false = true →
      (w.tbl nt).targets.getD i Ent.zero = ts'.getD i Ent.zero) : CleanGot w w a tid nt ts' := by
  have hTne := tbl_of_get hTn
  exact
    { ntLt := lt_of_get hTn
      ntNe := hne
      ntArch := by rw [hTne]; exact hTna
      ntFree := by rw [hTne]; exact hTnf
      ntActive := hact
      ntIds := by rw [hTne]; exact e1
      ntIsRel := by rw [hTne]; exact e2
      ntZst := by rw [hTne]; exact e3
      ntTgt := htgt
      others := fun _ _ => rfl
      ntRows := fun _ => ⟨_, _, Table.eta_free (by rw [hTne]; exact hTnf)⟩
      ntKeep := fun _ => Or.inl rfl
      entities := rfl, pool := rfl, isTarget := rfl, kinds := rfl, obs := rfl, locks := rfl,
      maxComps := rfl, relationArchetypes := rfl, archLen := rfl
      otherArchs := fun _ _ => rfl
      actA := fun t => ⟨Or.inl, fun h => h.elim id fun e => e ▸ hact⟩
      archIsRel := rfl
      tablesLe := Nat.le_refl _
      lenB := Nat.le_succ _
      lenFresh := fun h => absurd h (by omega) }

theorem CleanGot.created {w w1 : World} {a tid nt : Nat} {ts' : List Ent} {rels : List RelID}
    {A : Archetype} (hS : SInvMid w) (hA : w.archetypes[a]? = some A)
    (hT : w.tables[tid]? = some (w.tbl tid)) (hTa : (w.tbl tid).arch = a)
    (hTf : (w.tbl tid).isFree = false) (i1 : (w.tbl tid).ids = A.comps)
    (i2 : (w.tbl tid).isRel = A.isRel) (i3 : (w.tbl tid).zst = A.zst)
    (hct : createTable a rels w = .ok nt w1) (ct : CreatedTable w w1 a rels nt)
    (htgt : ∀ (i : Nat), (w.tbl tid).isRel.getD i false = true →
      (w1.tbl nt).targets.getD i Ent.zero = ts'.getD i Ent.zero) : CleanGot w w1 a tid nt ts' := by
  have hAe : w.arch a = A := arch_of_get hA
  obtain ⟨hTt, hTna, _, hTnf, _, hTi⟩ := ct.tbl
  have hu := createTable_untouched hct
  obtain ⟨A1, hA1, _, j2, j3, _⟩ := ct.sinvMid.tblArch nt _ hTt
  rw [hTna] at hA1
  have hc1 : A1.comps = A.comps := by rw [← arch_of_get hA1, ct.archA.2.1, hAe]
  obtain ⟨hir, hiz⟩ := hS.flags_of_comps ct.sinvMid ct.kinds hA hA1 hc1
  have htidAct : tid ∈ A.tables.tables := by
    have := (hS.member tid _ hT).1
    rw [hTa, hAe] at this
    exact this.1 hTf
  refine
    { ntLt := lt_of_get hTt
      ntNe := ?_
      ntArch := hTna
      ntFree := hTnf
      ntActive := ct.active
      ntIds := by rw [hTi, hAe, i1]
      ntIsRel := by rw [j2, hir, i2]
      ntZst := by rw [j3, hiz, i3]
      ntTgt := htgt
      others := ct.others
      ntRows := ?_
      ntKeep := ?_
      entities := ct.entities, pool := ct.pool, isTarget := hu.isTarget, kinds := ct.kinds,
      obs := hu.obs, locks := hu.locks, maxComps := hu.maxComps,
      relationArchetypes := (createTable_relArchs_cacheRels hct).1, archLen := ct.archLen
      otherArchs := ct.otherArchs
      actA := fun t => by rw [ct.archA.2.2.2.2]; simp
      archIsRel := by rw [arch_of_get hA1, hir, hAe]
      tablesLe := ?_
      lenB := ?_
      lenFresh := ?_ }
  · -- `nt ≠ tid`: a new table lies beyond the old ones; a recycled one was free, and `tid` is active
    rcases ct.kind with ⟨k1, _⟩ | ⟨_, _, k3, _⟩
    · have := lt_of_get hT; omega
    · rw [hAe] at k3
      intro hh
      exact (hS.astruct a A hA).disjoint tid htidAct (hh ▸ k3)
  · intro hlt'
    rcases ct.kind with ⟨k1, _⟩ | ⟨_, _, _, _, k5⟩
    · omega
    · exact ⟨_, _, k5⟩
  · intro hlt'
    rcases ct.kind with ⟨k1, _⟩ | ⟨_, _, _, k4, _⟩
    · omega
    · exact Or.inr k4
  · rcases ct.kind with ⟨_, k2, _⟩ | ⟨_, k2, _⟩ <;> omega
  · rcases ct.kind with ⟨_, k2, _⟩ | ⟨_, k2, _⟩ <;> omega
  · intro hh
    rcases ct.kind with ⟨_, _, _, k4⟩ | ⟨_, k2, _⟩
    · exact k4
    · omega

/-- **`getTable` on the relation list read off edited targets `ts'`** of the non-free table `tid`
    of a relation archetype `a`, when the tables the relation index lists under a looked-up key
    are active tables of `a` (`hlist`): it never panics.  Either it finds an active table of `a`
    whose relation columns hold `ts'` (another one than `tid` if `ts'` differs from its targets);
    or it finds none, every check of `createTable` but the validity of the targets passes, and
    whatever table `createTable` returns is as `CleanGot` says. -/
theorem relGet_cases {w : World} {a tid : Nat} {ts' : List Ent} {R : List RelID}
    (hR : R = colRels (w.tbl tid).ids ts' (w.tbl tid).isRel) (hS : SInvMid w) (hL : RelListsOK w)
    (hlt : tid < w.tables.length) (hTa : (w.tbl tid).arch = a) (hTf : (w.tbl tid).isFree = false)
    (hrelA : (w.arch a).hasRelations = true) (hl : ts'.length = (w.tbl tid).ids.length)
    (hlist : ∀ (i : Nat), (w.tbl tid).isRel.getD i false = true → ∀ (ts : TableIDs),
      AL.find? ((w.arch a).relationTables.getD i []) (ts'.getD i Ent.zero).id = some ts →
      ∀ (t : Nat), t ∈ ts.tables → t ∈ (w.arch a).tables.tables) :
    (∃ (nt : Nat), getTable a R w = .ok (some nt) w ∧
      ((∃ (i0 : Nat), (w.tbl tid).isRel.getD i0 false = true ∧
        ts'.getD i0 Ent.zero ≠ (w.tbl tid).targets.getD i0 Ent.zero) → CleanGot w w a tid nt ts')) ∨
    (getTable a R w = .ok none w ∧ (R.map (·.comp)).Nodup ∧ (w.arch a).numRel ≤ R.length ∧
      (∀ (r : RelID), r ∈ R → ((w.arch a).colIdx r.comp).isSome = true) ∧
      (∀ (r : RelID), r ∈ R → w.isRelComp r.comp = true ∧
        ∃ (i : Nat), (w.tbl tid).isRel.getD i false = true ∧ ts'.getD i Ent.zero = r.target) ∧
      ∀ (nt : Nat) (w1 : World), createTable a R w = .ok nt w1 →
        CreatedTable w w1 a R nt ∧ RelListsOK w1 ∧ CleanGot w w1 a tid nt ts') := by
  have hT := get_of_lt hlt
  obtain ⟨_, halt, ff⟩ := hS.fits hlt
  rw [hTa] at halt ff
  have hA := aget_of_lt halt
  have hnd := hS.ids_nodup hT
  have hrl := hS.isRel_len hT
  -- `R` is one entry per relation column of `tid`, components distinct (`f1`, `f2`): an entry
  -- names its column and what `ts'` holds there (`f3`), every relation column is named (`f4`)
  obtain ⟨f1, f2, f3, f4⟩ := colRels_facts (ts := ts') hnd hl hrl
  rw [← hR] at f1 f2 f3 f4
  have hnum : (w.arch a).numRel = R.length := by
    rw [f2, (hS.astruct a _ hA).numRelEq, ff.isRel]
  -- a table with the columns of `tid` that answers `R` holds `ts'` in its relation columns
  have hnamed : ∀ (N : Table), N.ids = (w.tbl tid).ids →
      (∀ (r : RelID), r ∈ R → ∀ (j : Nat), N.colIdx r.comp = some j →
        N.isRel.getD j false = true ∧ N.targets.getD j Ent.zero = r.target) →
      ∀ (i : Nat), (w.tbl tid).isRel.getD i false = true →
        N.targets.getD i Ent.zero = ts'.getD i Ent.zero := by
    intro N e1 hyes i hi
    have hil : i < (w.tbl tid).ids.length := by rw [← hrl]; exact lt_of_getD_true hi
    have hc : (w.tbl tid).ids[i]? = some (w.tbl tid).ids[i] := List.getElem?_eq_getElem hil
    exact (hyes _ (f4 i _ hc hi) i
      (Table.colIdx_of_get (by rw [e1]; exact hnd) (by rw [e1]; exact hc))).2
  cases hall : R with
  | nil =>
    -- `hnum` becomes `numRel = 0`, and `hasRelations` is `numRel > 0`: `simp` refutes `hrelA`
    rw [hall] at hnum
    simp [Archetype.hasRelations, hnum] at hrelA
  | cons r0 rest =>
    have hr0 : r0 ∈ R := by rw [hall]; exact List.mem_cons_self
    obtain ⟨ic, c1, c2, c3⟩ := f3 r0 hr0
    have hcolA : (w.arch a).colIdx r0.comp = some ic := by
      rw [← colIdx_fun_eq ff.ids]; exact Table.colIdx_of_get hnd c1
    have hlenA : (w.arch a).numRel ≤ (r0 :: rest).length := by rw [hnum, hall]; exact Nat.le_refl _
    -- the tables listed under the looked-up key: active tables of `a`, with the columns of `tid`
    have hlisted : ∀ (ts : TableIDs),
        AL.find? ((w.arch a).relationTables.getD ic []) r0.target.id = some ts → ∀ (t : Nat),
        t ∈ ts.tables → t ∈ (w.arch a).tables.tables ∧ t < w.tables.length ∧ (w.tbl t).arch = a ∧
          (w.tbl t).isFree = false ∧ (w.tbl t).ids = (w.tbl tid).ids ∧
          (w.tbl t).isRel = (w.tbl tid).isRel ∧ (w.tbl t).zst = (w.tbl tid).zst := by
      intro ts hf t ht
      have hact := hlist ic c2 ts (by rw [c3]; exact hf) t ht
      obtain ⟨htl, hta, htf⟩ := (hS.listed halt t).1.1 hact
      have ft := (hS.fits htl).2.2
      rw [hta] at ft
      exact ⟨hact, htl, hta, htf, ft.ids.trans ff.ids.symm, ft.isRel.trans ff.isRel.symm,
        ft.zst.trans ff.zst.symm⟩
    -- the lookup does not panic: a listed table has no more relations than `R` (`RelListsOK`) and
    -- a relation column wherever `R` names one, so `matchesExact` runs through on it
    obtain ⟨res, hres⟩ : ∃ (r : Option Nat), getTable a (r0 :: rest) w = .ok r w := by
      apply getTable_rel_total hrelA hlenA hcolA (by rw [← hall]; exact f1)
      intro ts hf t ht
      obtain ⟨_, htl, _, htf, e1, e2, _⟩ := hlisted ts hf t ht
      apply Table.matchesExact_total
      · have := (hL t _ (get_of_lt htl) htf).length_le (hS.isRel_len (get_of_lt htl))
        rw [e2] at this
        rw [← hall, f2]; exact this
      · intro r hr j hj
        rw [← hall] at hr
        obtain ⟨i, a1, a2, _⟩ := f3 r hr
        have hj' := Table.colIdx_get hj
        rw [e1] at hj'
        have := Table.colIdx_of_get hnd a1
        rw [Table.colIdx_of_get hnd hj'] at this
        obtain rfl := Option.some.inj this
        rw [e2]; exact a2
    cases res with
    | some nt =>
      -- found: `nt` sits under the looked-up key, so it is active in `a`; it matched `R`, so it
      -- holds `ts'` (`hnamed`) and cannot be `tid` where `ts'` differs from the targets of `tid`
      obtain ⟨ts, hf, hm⟩ := getTable_rel_some hrelA hcolA hres
      obtain ⟨hact, htl, hta, htf, e1, e2, e3⟩ := hlisted ts hf nt hm
      have hntTgt := hnamed (w.tbl nt) e1
        (by rw [hall]; exact (Table.matchesExact_yes (getTable_found hres hrelA)).2)
      refine Or.inl ⟨nt, hres, fun ⟨i0, hi0, hne0⟩ =>
        CleanGot.found (get_of_lt htl) ?_ hta htf hact e1 e2 e3 hntTgt⟩
      intro hh
      have h1 := hntTgt i0 hi0
      rw [hh] at h1
      exact hne0 h1.symm
    | none =>
      -- none found: the checks of `createTable` read off `f1`–`f3`; a table it creates carries `R`
      -- as its relations (`RelListsOK w1`), hence `ts'`, again by `hnamed`
      refine Or.inr ⟨hres, by rw [← hall]; exact f1, hlenA, ?_, ?_, ?_⟩
      · intro r hr
        rw [← hall] at hr
        obtain ⟨i, a1, _, _⟩ := f3 r hr
        rw [← colIdx_fun_eq ff.ids, Table.colIdx_of_get hnd a1]; rfl
      · intro r hr
        rw [← hall] at hr
        obtain ⟨i, a1, a2, a3⟩ := f3 r hr
        exact ⟨hS.isRelComp_of_col hT a1 a2, i, a2, a3⟩
      · intro nt w1 hct
        rw [← hall] at hct
        have ct := hS.createTable halt (fun hf => by rw [hrelA] at hf; cases hf) hct
        obtain ⟨hTt, _, hTr, hTnf, _, hTi⟩ := ct.tbl
        have hrels1 : RelListsOK w1 := hL.created halt ct hS f1
        have hntTgt := hnamed (w1.tbl nt) (by rw [hTi, ff.ids]) (fun r hr j hj =>
          (hrels1 nt _ hTt hTnf).col (ct.sinvMid.ids_nodup hTt) (by rw [hTr]; exact hr) hj)
        rw [← hall]
        exact ⟨ct, hrels1, CleanGot.created hS hA hT hTa hTf ff.ids ff.isRel ff.zst hct ct hntTgt⟩

/-- **the destination table of one cleanup step**: for the non-free table `tid` of archetype `a`
    with a column targeting `g`, `getOrCreate` on the relation list read off the edited targets
    never panics, keeps the cleanup invariants and returns another active table of `a` whose
    relation columns hold the edited targets. -/
theorem cleanGetD {D : List Ent} {g : Ent} {a tid : Nat} {w : World} {ts' : List Ent}
    (hB : CleanBaseD D w) (hX : RInvExcept w a g.id) (hg0 : g.id ≠ 0) (hlt : tid < w.tables.length)
    (hTa : (w.tbl tid).arch = a) (hTf : (w.tbl tid).isFree = false)
    (hcol0 : ∃ (i0 : Nat), (w.tbl tid).isRel.getD i0 false = true ∧
      ((w.tbl tid).targets.getD i0 Ent.zero).id = g.id)
    (hl : ts'.length = (w.tbl tid).ids.length)
    (hts : ∀ (i : Nat), (w.tbl tid).isRel.getD i false = true →
      ts'.getD i Ent.zero = cleanEdit w g ((w.tbl tid).targets.getD i Ent.zero)) :
    ∃ (nt : Nat) (w1 : World),
      getOrCreate a (colRels (w.tbl tid).ids ts' (w.tbl tid).isRel) w = .ok nt w1 ∧
      CleanBaseD D w1 ∧ RInvExcept w1 a g.id ∧ CleanGot w w1 a tid nt ts' := by
  have hS := hB.sinv.toSInvMid
  have hT := get_of_lt hlt
  obtain ⟨_, halt, ff⟩ := hS.fits hlt
  rw [hTa] at halt ff
  have hA := aget_of_lt halt
  obtain ⟨i0, hi0, hg0t⟩ := hcol0
  have hrelA : (w.arch a).hasRelations = true :=
    (hS.astruct a _ hA).hasRelations_of_rel (by rw [← ff.isRel]; exact hi0)
  -- the edited targets: admitted, zero or alive, and none carries the ID of `g`
  have hgood : ∀ (i : Nat), (w.tbl tid).isRel.getD i false = true →
      OKTs w D (ts'.getD i Ent.zero) ∧
      ((ts'.getD i Ent.zero).isZero = true ∨ w.alive (ts'.getD i Ent.zero) = true) ∧
      (ts'.getD i Ent.zero).id ≠ g.id := by
    intro i hi
    rw [hts i hi]
    exact (hB.tgts tid _ hT hTf i hi).cleanEdit_good hg0
  -- `hlist` of `relGet_cases`: a looked-up key is not the ID of `g`, so `RInvExcept` vouches for
  -- the tables listed under it
  rcases relGet_cases rfl hS hB.rels hlt hTa hTf hrelA hl (fun i hi ts hf t ht =>
      ((hX.1 _ hA).listed (by rw [← ff.isRel]; exact hi) (hgood i hi).2.2 hf ht).1) with
    ⟨nt, hres, cg⟩ | ⟨hres, hnd, hlenA, hcols, hnamed, hcreate⟩
  -- found, world unchanged; `tid` holds `g` in column `i0` and `ts'` does not, so `nt ≠ tid`
  · exact ⟨nt, w, getOrCreate_found hres, hB, hX,
      cg ⟨i0, hi0, fun e => (hgood i0 hi0).2.2 (e ▸ hg0t)⟩⟩
  -- to be created: the targets in `R` are the edited ones, so `createTable` accepts them
  · have hokt : ∀ (r : RelID), r ∈ colRels (w.tbl tid).ids ts' (w.tbl tid).isRel →
        OKTs w D r.target ∧ (r.target.isZero = true ∨ w.alive r.target = true) ∧
          r.target.id ≠ g.id := by
      intro r hr
      obtain ⟨i, a2, a3⟩ := (hnamed r hr).2
      rw [← a3]; exact hgood i a2
    obtain ⟨nt, w1, hct, _⟩ := hS.createTable_total hB.cacheRels halt
      (fun hf => by rw [hrelA] at hf; cases hf) hlenA hcols hnd
      (fun r hr => ⟨(hnamed r hr).1, (hokt r hr).2.1⟩)
    obtain ⟨ct, hrels1, cg⟩ := hcreate nt w1 hct
    obtain ⟨hTt, hTna, _, hTnf, hTg, _⟩ := ct.tbl
    have hu := createTable_untouched hct
    obtain ⟨hra, hcr⟩ := createTable_relArchs_cacheRels hct
    have hB1 : CleanBaseD D w1 := by
      refine
        { idx := ct.idx hB.idx
          sinv := ct.sinv (fun b _ => hB.sinv.settled b)
          tgts := (hB.tgts.created ct (Or.inl rfl) fun r hr => (hokt r hr).1).mono
            fun _ he => he.mono_alive ct.pool
          rels := hrels1
          cacheRels := hcr hB.cacheRels
          flags := ?_
          freeEmpty := hB.freeEmpty.created ct
          relArchs := hB.relArchs.created halt ct hra }
      -- `flags`: a nonzero target of the new table was kept by `cleanEdit` (`cleanEdit_keep`), so
      -- it is an old target of `tid` and already flagged
      have := (hB.flags.upTo []).created ct hu.isTarget (by
        intro r hr hz
        left
        obtain ⟨i, a2, a3⟩ := (hnamed r hr).2
        rw [← a3, hts i a2] at hz ⊢
        have hk := cleanEdit_keep hz
        rw [hk] at hz ⊢
        exact hB.flags tid _ hT hTf i a2 hz)
      intro t0 T0 hT0 hf i hi hz
      rcases this t0 T0 hT0 hf i hi hz with h1 | ⟨r, hr, _⟩
      · exact h1
      · cases hr
    -- `RInvExcept` after the creation: only `nt` has new targets, none with the ID of `g`, so its
    -- index entries are exact on `a`; a table of another archetype is not `nt`
    have htgfun : ∀ (t : Nat), (w1.tbl t).targets =
        if t = nt then ctTargets (w.arch a) (colRels (w.tbl tid).ids ts' (w.tbl tid).isRel)
        else (w.tbl t).targets := by
      intro t
      by_cases ht : t = nt
      · subst ht; rw [if_pos rfl, hTg]
      · rw [if_neg ht, tbl_eq_of_get (ct.others t ht)]
    have hX1 : RInvExcept w1 a g.id := by
      obtain ⟨_, _, _, h4, h5⟩ := createTable_ok hct
      obtain ⟨fa, _⟩ := cacheAddTable_frame h5
      constructor
      · intro A1' hA1'
        have hA1e : A1' = (createTableS w a (colRels (w.tbl tid).ids ts' (w.tbl tid).isRel)).1.arch a := by
          rw [← arch_of_get hA1']; simp only [arch, fa]
        have hexc := hS.createTableS_except hA _ (hX.1 _ hA) (by
          intro i hi
          have hi' : (w.tbl tid).isRel.getD i false = true := by rw [ff.isRel]; exact hi
          have := cg.ntTgt i hi'
          rw [hTg] at this
          rw [this]; exact (hgood i hi').2.2)
        rw [hA1e]
        rw [← h4] at hexc
        exact hexc.congr_tgt (fun t _ => htgfun t)
      · intro b B hb hB'
        have hBw : w.archetypes[b]? = some B := by rw [← ct.otherArchs b hb]; exact hB'
        refine (hX.2 b B hb hBw).congr_tgt ?_
        intro t ht
        have hne : t ≠ nt := by
          rintro rfl
          have hb1 : b < w1.archetypes.length := alt_of_get hB'
          have := ((ct.sinvMid.listed hb1 t).1.1 (by rw [arch_of_get hB']; exact ht)).2.1
          exact hb (this.symm.trans hTna)
        show (w1.tbl t).targets = (w.tbl t).targets
        rw [htgfun, if_neg hne]
    exact ⟨nt, w1, getOrCreate_created hres hct, hB1, hX1, cg⟩

end Ark
