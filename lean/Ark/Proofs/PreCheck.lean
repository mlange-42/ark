/-
  # The pre-validation of relation arguments — elementary facts

  Every access path validates its relation arguments before the operation proper starts — the
  `Unsafe` API too (`ToCheckedRelationIDsForUnsafe`, the repair of defect D24), which is why in
  the model `preCheck .unsafe_` is `preCheck .typed`:

  * `preCheck p ids rels` — `.typed` and `.unsafe_`: target, relation component, membership in
    `ids`; `.map1`: target, relation component;
  * `Add` uses `preCheck (p.addCheck ids) ids rels`: `Unsafe.AddRel` with no components skips the
    membership check (and is rejected with `noComponents` right afterwards);
  * `SetRelations` uses `preCheck p.setRelCheck mapperIds rels`: `Unsafe.SetRelations` has no
    component list, so membership is not checked.

  This file collects what the rest of the development needs about the two path adapters, about the
  empty relation list (the non-relation development: all checks are vacuous), and about the
  pre-validation as a pure verdict on the relation list (`preCheck_eq`), from which what a passed
  and what a failed pre-validation says is read off (`preCheck_ok_iff`, `preCheck_deadTarget'`).
-/
import Ark.Model.World

set_option autoImplicit false

namespace Ark
namespace World

@[simp] theorem preCheck_nil (p : Path) (ids : List Comp) : preCheck p ids [] = pure () := by
  cases p <;> rfl

theorem preCheck_nil_apply (p : Path) (ids : List Comp) (w : World) :
    preCheck p ids [] w = .ok () w := by
  rw [preCheck_nil]; rfl

/-- `Unsafe` validates like the typed API -/
theorem preCheck_unsafe (ids : List Comp) (rels : List RelID) :
    preCheck .unsafe_ ids rels = preCheck .typed ids rels := rfl

theorem preCheck_unsafe_eq (ids : List Comp) (rels : List RelID) :
    preCheck .unsafe_ ids rels = preCheckTyped (Mask.ofList ids) rels := rfl

theorem preCheck_typed_eq (ids : List Comp) (rels : List RelID) :
    preCheck .typed ids rels = preCheckTyped (Mask.ofList ids) rels := rfl

theorem preCheck_map1_eq (ids : List Comp) (rels : List RelID) :
    preCheck .map1 ids rels = preCheckMap rels := rfl

theorem Path.addCheck_typed (ids : List Comp) : Path.typed.addCheck ids = .typed := rfl
theorem Path.addCheck_map1 (ids : List Comp) : Path.map1.addCheck ids = .map1 := by
  simp [Path.addCheck]
theorem Path.addCheck_unsafe_nil : Path.unsafe_.addCheck [] = .map1 := rfl
theorem Path.addCheck_unsafe_cons (c : Comp) (cs : List Comp) :
    Path.unsafe_.addCheck (c :: cs) = .unsafe_ := rfl

/-- with at least one component to add — the only case in which `Add` can be accepted — the
    validation of `Add` is the validation of the path itself -/
theorem Path.addCheck_of_ne_nil (p : Path) {ids : List Comp} (h : ids ≠ []) :
    p.addCheck ids = p := by
  cases ids with
  | nil => exact absurd rfl h
  | cons c cs => cases p <;> rfl

theorem Path.addCheck_cases (p : Path) (ids : List Comp) :
    p.addCheck ids = p ∨ (p = .unsafe_ ∧ ids = [] ∧ p.addCheck ids = .map1) := by
  cases ids with
  | nil => cases p <;> simp [Path.addCheck]
  | cons c cs => exact Or.inl (Path.addCheck_of_ne_nil p (by simp))

theorem Path.setRelCheck_typed : Path.typed.setRelCheck = .typed := rfl
theorem Path.setRelCheck_map1 : Path.map1.setRelCheck = .map1 := rfl
theorem Path.setRelCheck_unsafe : Path.unsafe_.setRelCheck = .map1 := rfl

theorem Path.setRelCheck_of_ne (p : Path) (h : p ≠ .unsafe_) : p.setRelCheck = p := by
  cases p <;> first | rfl | exact absurd rfl h

/-! `preCheck` never changes the world, and its verdict is that of the FIRST relation of the list
that fails one of the checks, in the order target → relation component → membership. -/

/-- the components the relations must be among on path `p` (`none`: no membership check) -/
def checkMask (p : Path) (ids : List Comp) : Option Mask :=
  match p with
  | .map1 => none
  | _ => some (Mask.ofList ids)

/-- the verdict on one relation: `checkRelationTarget` (a removed entity — non-zero and not
    alive — as target), then `checkRelationComponent`, then membership -/
def relVerdict (w : World) (m : Option Mask) (r : RelID) : Option PanicKind :=
  if !r.target.isZero && !w.alive r.target then some .deadTarget
  else if !w.isRelComp r.comp then some .notRelation
  else match m with
    | some m => if m.get r.comp then none else some .relNotInMask
    | none => none

/-- the verdict on a relation list: that of the first relation that fails -/
def relsVerdict (w : World) (m : Option Mask) (rels : List RelID) : Option PanicKind :=
  rels.findSome? (relVerdict w m)

/-- a loop whose body only checks: the outcome is the verdict on the first element that fails -/
theorem forM'_verdict {α : Type} (f : α → W Unit) (v : α → Option PanicKind) (w : World)
    (hf : ∀ a, f a w = match v a with
      | none => .ok () w
      | some k => .panic k w) :
    ∀ (l : List α), M.forM' l f w =
      match l.findSome? v with
      | none => .ok () w
      | some k => .panic k w
  | [] => rfl
  | a :: l => by
    rw [M.forM', M.bind_apply, hf, List.findSome?_cons]
    cases v a with
    | some k => rfl
    | none => exact forM'_verdict f v w hf l

theorem preCheckTyped_eq (m : Mask) (w : World) (rels : List RelID) :
    preCheckTyped m rels w =
      match relsVerdict w (some m) rels with
      | none => .ok () w
      | some k => .panic k w :=
  forM'_verdict _ (relVerdict w (some m)) w (fun r => by
    simp only [bind, M.bind, checkRelationTarget, checkRelationComponent, M.assert, relVerdict]
    cases h1 : (!r.target.isZero && !w.alive r.target) <;> cases h2 : w.isRelComp r.comp <;>
      cases h3 : m.get r.comp <;> simp [*]) rels

theorem preCheckTyped_cases (m : Mask) (w : World) (rels : List RelID) :
    preCheckTyped m rels w = .ok () w ∨ ∃ (k : PanicKind), preCheckTyped m rels w = .panic k w := by
  rw [preCheckTyped_eq]
  cases relsVerdict w (some m) rels with
  | none => exact Or.inl rfl
  | some k => exact Or.inr ⟨k, rfl⟩

theorem preCheckMap_eq (w : World) (rels : List RelID) :
    preCheckMap rels w =
      match relsVerdict w none rels with
      | none => .ok () w
      | some k => .panic k w :=
  forM'_verdict _ (relVerdict w none) w (fun r => by
    simp only [bind, M.bind, checkRelationTarget, checkRelationComponent, relVerdict]
    cases h1 : (!r.target.isZero && !w.alive r.target) <;> cases h2 : w.isRelComp r.comp <;>
      simp [*]) rels

theorem preCheck_eq (p : Path) (ids : List Comp) (rels : List RelID) (w : World) :
    preCheck p ids rels w =
      match relsVerdict w (checkMask p ids) rels with
      | none => .ok () w
      | some k => .panic k w := by
  cases p with
  | unsafe_ => exact preCheckTyped_eq (Mask.ofList ids) w rels
  | map1 => exact preCheckMap_eq w rels
  | typed => exact preCheckTyped_eq (Mask.ofList ids) w rels

theorem relsVerdict_class {w : World} {m : Option Mask} {rels : List RelID} {k : PanicKind}
    (h : relsVerdict w m rels = some k) :
    k = .deadTarget ∨ k = .notRelation ∨ k = .relNotInMask := by
  obtain ⟨r, _, hr⟩ := List.exists_of_findSome?_eq_some h
  unfold relVerdict at hr
  split at hr
  · exact Or.inl (Option.some.inj hr).symm
  · split at hr
    · exact Or.inr (Or.inl (Option.some.inj hr).symm)
    · split at hr
      · split at hr
        · cases hr
        · exact Or.inr (Or.inr (Option.some.inj hr).symm)
      · cases hr

/-- a removed entity as target: the verdict on the relation is `deadTarget`, whatever else is
    wrong with it -/
theorem relVerdict_dead {w : World} (m : Option Mask) {r : RelID} (hz : r.target.isZero = false)
    (hd : w.alive r.target = false) : relVerdict w m r = some .deadTarget := by
  simp [relVerdict, hz, hd]

theorem relsVerdict_isSome {w : World} {m : Option Mask} {rels : List RelID} {r : RelID}
    (hr : r ∈ rels) (hbad : (relVerdict w m r).isSome = true) :
    (relsVerdict w m rels).isSome = true :=
  List.findSome?_isSome_iff.2 ⟨r, hr, hbad⟩

theorem relsVerdict_first {w : World} {m : Option Mask} (pre : List RelID) (r : RelID)
    (post : List RelID) (hpre : ∀ (x : RelID), x ∈ pre → relVerdict w m x = none) {k : PanicKind}
    (hr : relVerdict w m r = some k) : relsVerdict w m (pre ++ r :: post) = some k := by
  induction pre with
  | nil => simp [relsVerdict, hr]
  | cons x rest ih =>
    have hx := hpre x List.mem_cons_self
    have := ih (fun y hy => hpre y (List.mem_cons_of_mem _ hy))
    simpa [relsVerdict, List.findSome?_cons, hx] using this

theorem ite_some_eq_none {α : Type} {c : Prop} [Decidable c] {a : α} {x : Option α} :
    (if c then some a else x) = none ↔ ¬ c ∧ x = none := by
  split <;> simp [*]

theorem relVerdict_none_iff {w : World} {m : Option Mask} {r : RelID} :
    relVerdict w m r = none ↔
      (r.target.isZero = true ∨ w.alive r.target = true) ∧ w.isRelComp r.comp = true ∧
      ∀ (mm : Mask), m = some mm → mm.get r.comp = true := by
  unfold relVerdict
  rw [ite_some_eq_none, ite_some_eq_none]
  have key : ¬ (!r.target.isZero && !w.alive r.target) = true ↔
      (r.target.isZero = true ∨ w.alive r.target = true) := by
    cases r.target.isZero <;> simp
  rw [key]
  cases m <;> simp

theorem preCheck_ok_iff (p : Path) (ids : List Comp) (rels : List RelID) (w w' : World) :
    preCheck p ids rels w = .ok () w' ↔
      w' = w ∧ ∀ (r : RelID), r ∈ rels → relVerdict w (checkMask p ids) r = none := by
  rw [preCheck_eq]
  cases h : relsVerdict w (checkMask p ids) rels with
  | some k =>
    refine ⟨(fun hh => nomatch hh), fun hh => ?_⟩
    obtain ⟨r, hr, hk⟩ := List.exists_of_findSome?_eq_some h
    rw [hh.2 r hr] at hk; cases hk
  | none =>
    have := List.findSome?_eq_none_iff.1 h
    exact ⟨fun hh => by injection hh with _ e; exact ⟨e.symm, this⟩, fun hh => by rw [hh.1]⟩

theorem preCheck_cases (p : Path) (ids : List Comp) (rels : List RelID) (w : World) :
    preCheck p ids rels w = .ok () w ∨ ∃ (k : PanicKind), preCheck p ids rels w = .panic k w := by
  rw [preCheck_eq]
  cases relsVerdict w (checkMask p ids) rels with
  | none => exact Or.inl rfl
  | some k => exact Or.inr ⟨k, rfl⟩

/-- what a passed pre-validation says about the relations (every path; membership in the added
    components on `.typed` and `.unsafe_`) -/
theorem preCheck_ok_valid (p : Path) (ids : List Comp) (w : World) (rels : List RelID) {w' : World}
    (hok : preCheck p ids rels w = .ok () w') (r : RelID) (hr : r ∈ rels) :
    (r.target.isZero = true ∨ w.alive r.target = true) ∧
      w.isRelComp r.comp = true ∧ (p ≠ .map1 → (Mask.ofList ids).get r.comp = true) := by
  obtain ⟨h1, h2, h3⟩ := relVerdict_none_iff.1 (((preCheck_ok_iff p ids rels w w').1 hok).2 r hr)
  exact ⟨h1, h2, fun hp => h3 _ (by cases p <;> first | rfl | exact absurd rfl hp)⟩

theorem preCheck_ok_of_valid (p : Path) (ids : List Comp) (w : World) (rels : List RelID)
    (hv : ∀ (r : RelID), r ∈ rels → (r.target.isZero = true ∨ w.alive r.target = true) ∧
      w.isRelComp r.comp = true ∧ (Mask.ofList ids).get r.comp = true) :
    preCheck p ids rels w = .ok () w :=
  (preCheck_ok_iff p ids rels w w).2 ⟨rfl, fun r hr => relVerdict_none_iff.2
    ⟨(hv r hr).1, (hv r hr).2.1, fun mm hm => by
      cases p with
      | map1 => cases hm
      | unsafe_ => cases hm; exact (hv r hr).2.2
      | typed => cases hm; exact (hv r hr).2.2⟩⟩

/-- **rejection** (every path): a relation list whose components are valid but which names a dead
    target is refused with `deadTarget` before anything is touched -/
theorem preCheck_deadTarget' (p : Path) (ids : List Comp) (w : World) (rels : List RelID)
    (hv : ∀ (r : RelID), r ∈ rels →
      w.isRelComp r.comp = true ∧ (p ≠ .map1 → (Mask.ofList ids).get r.comp = true))
    (hd : ∃ (r : RelID), r ∈ rels ∧ r.target.isZero = false ∧ w.alive r.target = false) :
    preCheck p ids rels w = .panic .deadTarget w := by
  rw [preCheck_eq]
  obtain ⟨r, hr, hz, hdd⟩ := hd
  have hs := relsVerdict_isSome (m := checkMask p ids) hr (by rw [relVerdict_dead _ hz hdd]; rfl)
  cases h : relsVerdict w (checkMask p ids) rels with
  | none => rw [h] at hs; cases hs
  | some k =>
    -- the first relation that fails has valid components: its target is dead
    obtain ⟨r', hr', hk⟩ := List.exists_of_findSome?_eq_some h
    obtain ⟨v1, v2⟩ := hv r' hr'
    unfold relVerdict at hk
    split at hk
    · rw [← Option.some.inj hk]
    · exfalso
      simp only [v1, Bool.not_true, Bool.false_eq_true, if_false] at hk
      cases p <;> simp [checkMask, v2] at hk

/-- `preCheck_deadTarget'` with the membership hypothesis stated for every path (it is used by
    `.typed` and `.unsafe_` only) -/
theorem preCheck_deadTarget (p : Path) (ids : List Comp) (w : World) (rels : List RelID)
    (hv : ∀ (r : RelID), r ∈ rels →
      w.isRelComp r.comp = true ∧ (Mask.ofList ids).get r.comp = true)
    (hd : ∃ (r : RelID), r ∈ rels ∧ r.target.isZero = false ∧ w.alive r.target = false) :
    preCheck p ids rels w = .panic .deadTarget w :=
  preCheck_deadTarget' p ids w rels (fun r hr => ⟨(hv r hr).1, fun _ => (hv r hr).2⟩) hd

end World
end Ark
