/-
  The invariant of `tableIDs` (archetype.go): the `indices` map is exactly the position map of
  the `tables` slice.  `Remove` swap-removes THROUGH the map, so everything it does is only
  meaningful under this invariant.
-/
import Ark.Proofs.AL
import Ark.Model.Archetype

set_option autoImplicit false

namespace Ark
namespace TableIDs

structure WF (t : TableIDs) : Prop where
  nodup : t.tables.Nodup
  uniq : AL.Uniq t.indices
  index : ∀ (id i : Nat), AL.find? t.indices id = some i ↔ t.tables[i]? = some id

theorem nodup_of_index (l : List Nat) (m : AL Nat)
    (h : ∀ (id i : Nat), AL.find? m id = some i ↔ l[i]? = some id) : l.Nodup := by
  rw [List.nodup_iff_pairwise_ne, List.pairwise_iff_getElem]
  intro i j hi hj hij heq
  have h1 : AL.find? m l[i] = some i := (h _ _).2 (List.getElem?_eq_getElem hi)
  have h2 : AL.find? m l[i] = some j := (h _ _).2 (by rw [heq]; exact List.getElem?_eq_getElem hj)
  rw [h1] at h2
  injection h2 with h2
  omega

theorem idx_inj_of_nodup {l : List Nat} (hn : l.Nodup) {i j x : Nat}
    (hi : l[i]? = some x) (hj : l[j]? = some x) : i = j := by
  rw [List.nodup_iff_pairwise_ne, List.pairwise_iff_getElem] at hn
  obtain ⟨hil, hix⟩ := List.getElem?_eq_some_iff.1 hi
  obtain ⟨hjl, hjx⟩ := List.getElem?_eq_some_iff.1 hj
  rcases Nat.lt_trichotomy i j with h | h | h
  · exact absurd (hix.trans hjx.symm) (hn i j hil hjl h)
  · exact h
  · exact absurd (hjx.trans hix.symm) (hn j i hjl hil h)

theorem WF.mem_iff_find? {t : TableIDs} (h : WF t) (id : Nat) :
    id ∈ t.tables ↔ ∃ i, AL.find? t.indices id = some i := by
  rw [List.mem_iff_getElem?]
  constructor
  · rintro ⟨i, hi⟩; exact ⟨i, (h.index id i).2 hi⟩
  · rintro ⟨i, hi⟩; exact ⟨i, (h.index id i).1 hi⟩

theorem WF.find?_none_iff {t : TableIDs} (h : WF t) (id : Nat) :
    AL.find? t.indices id = none ↔ id ∉ t.tables := by
  rw [h.mem_iff_find?]
  cases AL.find? t.indices id <;> simp

theorem WF.hasIndex_iff {t : TableIDs} (h : WF t) (id : Nat) :
    t.hasIndex id = true ↔ id ∈ t.tables := by
  rw [h.mem_iff_find?]
  unfold hasIndex AL.contains
  cases AL.find? t.indices id <;> simp

theorem WF.isIndex {t : TableIDs} (h : WF t) : CacheIdx.IsIndex id t.tables t.indices :=
  fun k i => (h.index k i).trans ⟨fun e => ⟨k, e, rfl⟩, fun ⟨_, he, hk⟩ => hk ▸ he⟩

theorem wf_of_isIndex {t : TableIDs} (hu : AL.Uniq t.indices)
    (h : CacheIdx.IsIndex id t.tables t.indices) : WF t :=
  have hidx : ∀ (k i : Nat), AL.find? t.indices k = some i ↔ t.tables[i]? = some k :=
    fun k i => (h k i).trans ⟨fun ⟨_, he, hk⟩ => hk ▸ he, fun e => ⟨k, e, rfl⟩⟩
  ⟨nodup_of_index _ _ hidx, hu, hidx⟩

theorem wf_empty : WF {} :=
  ⟨List.nodup_nil, AL.uniq_nil, by intro id i; simp⟩

theorem append_tables (t : TableIDs) (id : Nat) : (t.append id).tables = t.tables ++ [id] := rfl

theorem append_indices (t : TableIDs) (id : Nat) :
    (t.append id).indices = AL.insert t.indices id t.tables.length := rfl

theorem WF.append {t : TableIDs} (h : WF t) {id : Nat} (hid : id ∉ t.tables) :
    WF (t.append id) :=
  wf_of_isIndex (h.uniq.insert _ _)
    (h.isIndex.append id ((h.find?_none_iff id).2 hid) fun _ => AL.find?_insert _ _ _ _)

theorem ofList_append (ts : List Nat) (x : Nat) : ofList (ts ++ [x]) = (ofList ts).append x := by
  simp [ofList, TableIDs.append, List.zipIdx_append, List.foldl_append]

theorem ofList_nil : ofList [] = {} := rfl

theorem ofList_tables (ts : List Nat) : (ofList ts).tables = ts := rfl

theorem wf_ofList (ts : List Nat) (h : ts.Nodup) : WF (ofList ts) := by
  have key : ∀ rs : List Nat, rs.reverse.Nodup → WF (ofList rs.reverse) := by
    intro rs
    induction rs with
    | nil => intro _; exact wf_empty
    | cons x rs ih =>
      intro hn
      rw [List.reverse_cons] at hn ⊢
      rw [ofList_append]
      have h' := List.nodup_append.1 hn
      refine (ih h'.1).append ?_
      rw [ofList_tables]
      intro hx
      exact h'.2.2 x hx x (List.mem_singleton.2 rfl) rfl
  have := key ts.reverse (by rwa [List.reverse_reverse])
  rwa [List.reverse_reverse] at this

theorem wf_singleton (x : Nat) : WF (ofList [x]) := wf_ofList [x] (by simp)

theorem remove_some (t : TableIDs) (id index : Nat) (h : AL.find? t.indices id = some index)
    (hlt : index < t.tables.length) :
    t.remove id =
      (if index = t.tables.length - 1 then
        { tables := t.tables.take (t.tables.length - 1), indices := AL.erase t.indices id }
       else
        { tables := ((t.tables.set index (t.tables.getD (t.tables.length - 1) 0)).set
              (t.tables.length - 1) (t.tables.getD index 0)).take (t.tables.length - 1),
          indices :=
            AL.erase (AL.insert t.indices (t.tables.getD (t.tables.length - 1) 0) index) id },
       true) := by
  unfold TableIDs.remove
  rw [h]
  by_cases hi : index = t.tables.length - 1
  · simp [hi]
  · have hget : ((t.tables.set index (t.tables.getD (t.tables.length - 1) 0)).set (t.tables.length - 1)
        (t.tables.getD index 0)).getD index 0 = t.tables.getD (t.tables.length - 1) 0 := by
      rw [List.getD_eq_getElem?_getD, List.getElem?_set_ne (Ne.symm hi), List.getElem?_set_self hlt]
      rfl
    have hne : (index != t.tables.length - 1) = true := by simpa using hi
    simp only [hne, if_true, hget, hi, if_false]

theorem remove_none (t : TableIDs) (id : Nat) (h : AL.find? t.indices id = none) :
    t.remove id = (t, false) := by
  unfold TableIDs.remove; rw [h]

theorem WF.index_lt {t : TableIDs} (h : WF t) {id index : Nat}
    (hf : AL.find? t.indices id = some index) : index < t.tables.length :=
  (List.getElem?_eq_some_iff.1 ((h.index id index).1 hf)).1

theorem WF.remove_of_not_mem {t : TableIDs} (h : WF t) {id : Nat} (hid : id ∉ t.tables) :
    t.remove id = (t, false) :=
  remove_none t id ((h.find?_none_iff id).2 hid)

theorem WF.remove_snd {t : TableIDs} (h : WF t) (id : Nat) :
    (t.remove id).2 = true ↔ id ∈ t.tables := by
  cases hf : AL.find? t.indices id with
  | none =>
    rw [remove_none t id hf]
    simp [(h.find?_none_iff id).1 hf]
  | some index =>
    rw [remove_some t id index hf (h.index_lt hf)]
    simp only [true_iff]
    exact (h.mem_iff_find? id).2 ⟨index, hf⟩

theorem WF.remove_length {t : TableIDs} (h : WF t) {id : Nat} (hid : id ∈ t.tables) :
    (t.remove id).1.tables.length = t.tables.length - 1 := by
  obtain ⟨index, hf⟩ := (h.mem_iff_find? id).1 hid
  have hidx := (h.index id index).1 hf
  obtain ⟨hlt, _⟩ := List.getElem?_eq_some_iff.1 hidx
  rw [remove_some t id index hf (h.index_lt hf)]
  by_cases hi : index = t.tables.length - 1
  · simp only [hi, if_true, List.length_take]; omega
  · simp only [hi, if_false, List.length_take, List.length_set]; omega

/-- the lookups of the index map after `Remove id`, for `id` stored at `index` -/
theorem WF.remove_find? {t : TableIDs} (h : WF t) {id index : Nat}
    (hf : AL.find? t.indices id = some index) (x : Nat) :
    AL.find? (t.remove id).1.indices x =
      if x = id then none
      else if index ≠ t.tables.length - 1 ∧ t.tables[t.tables.length - 1]? = some x then some index
      else AL.find? t.indices x := by
  have hlt := h.index_lt hf
  have hlast : t.tables[t.tables.length - 1]? = some (t.tables.getD (t.tables.length - 1) 0) := by
    rw [List.getD_eq_getElem?_getD, List.getElem?_eq_getElem (by omega)]; rfl
  rw [remove_some t id index hf hlt]
  by_cases hi : index = t.tables.length - 1
  · simp only [hi, if_true, AL.find?_erase, ne_eq, not_true_eq_false, false_and, if_false]
  · simp only [hi, if_false, AL.find?_erase, AL.find?_insert, hlast, ne_eq, not_false_eq_true,
      true_and, Option.some.injEq, eq_comm]

theorem WF.remove {t : TableIDs} (h : WF t) (id : Nat) : WF (t.remove id).1 := by
  cases hf : AL.find? t.indices id with
  | none => rw [remove_none t id hf]; exact h
  | some index =>
    have hidx := (h.index id index).1 hf
    have hlt := h.index_lt hf
    have hlast : t.tables[t.tables.length - 1]? = some (t.tables.getD (t.tables.length - 1) 0) := by
      rw [List.getD_eq_getElem?_getD, List.getElem?_eq_getElem (by omega)]; rfl
    rw [remove_some t id index hf hlt]
    by_cases hi : index = t.tables.length - 1
    · simp only [hi, if_true]
      exact wf_of_isIndex (h.uniq.erase _)
        (h.isIndex.dropLast (b := id) (hi ▸ hidx) fun _ => AL.find?_erase _ _ _)
    · simp only [hi, if_false]
      generalize t.tables.getD (t.tables.length - 1) 0 = last at hlast ⊢
      have hne : id ≠ last := fun e => hi (idx_inj_of_nodup h.nodup hidx (e ▸ hlast))
      have h1 := h.isIndex.dropLast (ind' := AL.erase t.indices last) hlast
        fun _ => AL.find?_erase _ _ _
      have h2 := h1.set (id := id) (idx := index) (b := last)
        (ind' := AL.erase (AL.insert t.indices last index) id)
        (by rw [AL.find?_erase, if_neg hne]; exact hf) (AL.find?_erase_self _ _) (by
          intro k
          simp only [AL.find?_erase, AL.find?_insert]
          by_cases hk : k = id
          · rw [if_pos hk, if_neg (hk ▸ hne), if_pos hk]
          · rw [if_neg hk, if_neg hk]
            show _ = if k = last then _ else _
            by_cases hl : k = last
            · rw [if_pos hl, if_pos hl]
            · rw [if_neg hl, if_neg hl, if_neg hl])
      rw [List.take_set_of_le (Nat.le_refl _), List.take_set]
      exact wf_of_isIndex ((h.uniq.insert _ _).erase _) h2

theorem WF.mem_remove {t : TableIDs} (h : WF t) (id x : Nat) :
    x ∈ (t.remove id).1.tables ↔ x ∈ t.tables ∧ x ≠ id := by
  cases hf : AL.find? t.indices id with
  | none =>
    have hid := (h.find?_none_iff id).1 hf
    rw [remove_none t id hf]
    exact ⟨fun hx => ⟨hx, fun e => hid (e ▸ hx)⟩, fun hx => hx.1⟩
  | some index =>
    rw [(h.remove id).mem_iff_find?, h.mem_iff_find?]
    simp only [h.remove_find? hf]
    by_cases hx : x = id
    · simp only [hx, if_true, ne_eq, not_true_eq_false, and_false]
      exact ⟨fun ⟨_, e⟩ => (nomatch e), False.elim⟩
    · simp only [hx, if_false, ne_eq, not_false_eq_true, and_true]
      split
      · rename_i hc
        exact ⟨fun _ => ⟨_, (h.index _ _).2 hc.2⟩, fun _ => ⟨_, rfl⟩⟩
      · exact Iff.rfl

theorem WF.remove_perm {t : TableIDs} (h : WF t) (id : Nat) :
    (t.remove id).1.tables.Perm (t.tables.erase id) := by
  rw [List.perm_ext_iff_of_nodup (h.remove id).nodup (h.nodup.erase id)]
  intro x
  rw [h.mem_remove, h.nodup.mem_erase_iff]
  exact And.comm

theorem WF.not_mem_remove {t : TableIDs} (h : WF t) (id : Nat) :
    id ∉ (t.remove id).1.tables := fun hx => ((h.mem_remove id id).1 hx).2 rfl

theorem clear_eq (t : TableIDs) : t.clear = {} := rfl

end TableIDs
end Ark
