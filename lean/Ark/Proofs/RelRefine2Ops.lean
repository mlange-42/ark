/-
  Property C05 with relations: the filter cache along everything an entity operation of the relation
  fragment does.  `CKeep w w'` (of `Ark.Proofs.CacheKeep`: `CacheInv` carries over, the cache keeps keys,
  ID map and ID pool, the filter heap is untouched) for the storage steps (§1), for `RemoveEntity` with
  `cleanupArchetypes` (§2), for each operation of the machine of `Ark.Proofs.RelRefine` (§3: one
  `…_ckeep` each; `Add`, `Remove`, `Exchange` as one move, `XchgShape.keep`, and `Set`, `opSet_keep`,
  with `QKeep` as well), and `CopyEntity` under the
  joint invariant `TInv` (§4: `TInv.copied`, `opCopyEntity_rel_spec`).
-/
import Ark.Proofs.CacheKeep
import Ark.Proofs.QueryRelAssign
import Ark.Proofs.RelRemove

section

/-! ## §1 the storage steps

A step that touches rows only keeps the cache because `Selected` reads the archetypes and the
  table METADATA only (`CKeep.of_metaStep`).
-/

set_option autoImplicit false

namespace Ark
namespace RelRefine2

open World Ark.Props.C01World QueryRel

theorem tbl_matchesRels_of_metaStep {w w' : World} (ms : MetaStep w w') (rels : List RelID)
    (t : Nat) : (w'.tbl t).matchesRels rels = (w.tbl t).matchesRels rels := by
  rcases Nat.lt_or_ge t w.tables.length with h | h
  · have sm := ms.tmeta t h
    exact matchesRels_core sm.ids sm.targets sm.relIDs rels
  · rw [tbl_of_ge h, tbl_of_ge (by rw [ms.len]; exact h)]

theorem selected_of_metaStep {w w' : World} (ms : MetaStep w w') (f : Filter) (rels : List RelID)
    (t : Nat) : Selected w' f rels t ↔ Selected w f rels t := by
  unfold Selected
  rw [tbl_matchesRels_of_metaStep ms, ms.archetypes]

theorem CKeep.of_metaStep {w w' : World} (ms : MetaStep w w') (hf : w'.filters = w.filters) :
    CKeep w w' :=
  CKeep.of_selected ms.cache hf (selected_of_metaStep ms)

theorem placedW_filters (w : World) (t : Nat) (rt : Bool) : (placedW w t rt).filters = w.filters := by
  simp only [placedW]; split <;> rfl

theorem addMove_filters (w : World) (e : Ent) (oldT row newT : Nat) (keep : Mask) :
    (addMove w e oldT row newT keep).filters = w.filters := by
  simp only [addMove, moveRowW]; split <;> rfl

theorem removeRowOf_filters (w : World) (e : Ent) (t row : Nat) :
    (removeRowOf w e t row).filters = w.filters := by
  simp only [removeRowOf]; split <;> rfl

theorem placedW_ckeep (w : World) (t : Nat) (rt : Bool) : CKeep w (placedW w t rt) :=
  CKeep.of_metaStep (placedW_metaStep w t rt) (placedW_filters w t rt)

theorem registerW_ckeep (w : World) (rels : List RelID) : CKeep w (registerW w rels) :=
  CKeep.of_metaStep (registerW_metaStep w rels) rfl

theorem writeValsW_ckeep (w : World) (e : Ent) (vals : List (Comp × Val)) :
    CKeep w (writeValsW w e vals) :=
  CKeep.of_metaStep (writeValsW_metaStep w e vals) rfl

theorem removeRowOf_ckeep (w : World) (e : Ent) (t row : Nat) : CKeep w (removeRowOf w e t row) :=
  CKeep.of_metaStep (removeRowOf_metaStep w e t row) (removeRowOf_filters w e t row)

theorem addMove_ckeep (w : World) (e : Ent) {oldT row newT : Nat} (keep : Mask)
    (hne : oldT ≠ newT) (hnl : newT < w.tables.length) (hol : oldT < w.tables.length)
    (hel : e.id < w.entities.length) : CKeep w (addMove w e oldT row newT keep) :=
  CKeep.of_metaStep (addMove_metaStep w e row keep hne hnl hol hel) (addMove_filters w e oldT row newT keep)

theorem unflagW_ckeep (w : World) (e : Ent) : CKeep w (unflagW w e) :=
  CKeep.of_metaStep (MetaStep.of_tables_eq rfl rfl rfl rfl rfl) rfl

/-- the lookup of `cleanupArchetypes` and of `SetRelations`: `GetTable`, else `createTable`, in an
    archetype WITH relation columns -/
theorem getOrCreate_ckeep {w w1 : World} (h : SInvMid w) {a : Nat} {rels : List RelID} {nt : Nat}
    (ha : a < w.archetypes.length) (hrel : (w.arch a).hasRelations = true)
    (hgo : getOrCreate a rels w = .ok nt w1) : CKeep w w1 := by
  rcases getOrCreate_ok_iff.1 hgo with ⟨_, rfl⟩ | ⟨_, hct⟩
  · exact CKeep.refl _
  · exact createTable_ckeep h ha (fun hno => by rw [hrel] at hno; cases hno) hct

theorem foc_ckeep {w w' : World} (h : SInv w) {oldT : Nat} {startMask : Mask}
    {add : List Comp} {rels : List RelID} {r : Nat × Nat × Mask}
    (hstart : ∀ (c : Nat), startMask.get c = true → c < w.kinds.length)
    (hreg : ∀ (c : Comp), c ∈ add → c < w.kinds.length)
    (hok : World.findOrCreateTableAdd oldT startMask add rels w = .ok r w') : CKeep w w' := by
  obtain ⟨w1, sh⟩ := h.foc_shape hstart hreg hok
  exact sh.ckeep

/-- `FreeTable` on the archetype and `isFree := true` on the table make the active table `tid` of
    archetype `a` inactive (`TableRemoved`), which is what `cache.removeTable` needs to restore
    `CacheInv` (`cacheRemoveTable_inv`) -/
theorem freeW_ckeep {w : World} (h : SInvMid w) {a tid : Nat} (ha : a < w.archetypes.length)
    (hact : tid ∈ (w.arch a).tables.tables) : CKeep w (freeW w a tid) := by
  have hA := aget_of_lt ha
  have hstruct := h.astruct a _ hA
  -- the world before `cache.removeTable`
  have harch : ((w.modArch a fun A => A.freeTable tid).modTbl tid
      fun T => { T with isFree := true }).archetypes = w.archetypes.set a ((w.arch a).freeTable tid) := rfl
  have htab : ((w.modArch a fun A => A.freeTable tid).modTbl tid
      fun T => { T with isFree := true }).tables = w.tables.set tid { w.tbl tid with isFree := true } := rfl
  have hd : TableRemoved w ((w.modArch a fun A => A.freeTable tid).modTbl tid
      fun T => { T with isFree := true }) a tid := by
    refine { other := ?_, here := ?_, tbl := ?_, cache := rfl, inactive := ?_ }
    · intro a' e
      rw [harch, List.getElem?_set_ne (fun x => e x.symm)]
    · refine ⟨_, _, hA, by rw [harch, List.getElem?_set_self ha], (Archetype.freeTable_archRel _ _).mask,
        fun t' e => ?_⟩
      rw [Archetype.freeTable_tables, hstruct.tablesWF.mem_remove]
      exact ⟨fun hin => hin.1, fun hin => ⟨hin, e⟩⟩
    · intro t' e
      exact tbl_set_ne htab (Ne.symm e)
    · intro a' B hB hin
      rw [harch] at hB
      by_cases e : a' = a
      · subst e
        rw [List.getElem?_set_self ha] at hB
        obtain rfl := Option.some.inj hB
        rw [Archetype.freeTable_tables, hstruct.tablesWF.mem_remove] at hin
        exact hin.2 rfl
      · rw [List.getElem?_set_ne (fun x => e x.symm)] at hB
        exact e (((h.active_iff hB).1 hin).2.1.symm.trans ((h.active_iff hA).1 hact).2.1)
  refine ⟨fun hc => (cacheRemoveTable_inv hc hd).1, ?_, rfl, rfl, rfl⟩
  simp only [cacheKeys, freeW, cacheRemoveTable, List.map_map]
  rfl

theorem selected_modArch {w : World} {a : Nat} (g : Archetype → Archetype)
    (hm : (g (w.arch a)).mask = (w.arch a).mask)
    (ht : (g (w.arch a)).tables = (w.arch a).tables) (f : Filter) (rels : List RelID) (t : Nat) :
    Selected (w.modArch a g) f rels t ↔ Selected w f rels t := by
  have harch : (w.modArch a g).archetypes = w.archetypes.set a (g (w.arch a)) := rfl
  have htbl : (w.modArch a g).tbl t = w.tbl t := rfl
  unfold Selected
  rw [htbl, harch]
  constructor
  · rintro ⟨b, B, hB, h1, h2, h3⟩
    by_cases e : b = a
    · subst e
      have hlt : b < w.archetypes.length := by
        have := (List.getElem?_eq_some_iff.1 hB).1
        rw [List.length_set] at this; exact this
      rw [List.getElem?_set_self hlt] at hB
      obtain rfl := Option.some.inj hB
      exact ⟨b, w.arch b, aget_of_lt hlt, by rw [← ht]; exact h1, by rw [← hm]; exact h2, h3⟩
    · rw [List.getElem?_set_ne (fun x => e x.symm)] at hB
      exact ⟨b, B, hB, h1, h2, h3⟩
  · rintro ⟨b, B, hB, h1, h2, h3⟩
    by_cases e : b = a
    · subst e
      have hlt := alt_of_get hB
      have hBe := arch_of_get hB
      subst hBe
      exact ⟨b, g (w.arch b), by rw [List.getElem?_set_self hlt], by rw [ht]; exact h1,
        by rw [hm]; exact h2, h3⟩
    · exact ⟨b, B, by rw [List.getElem?_set_ne (fun x => e x.symm)]; exact hB, h1, h2, h3⟩

theorem removeTarget_ckeep (w : World) (a : Nat) (g : Ent) :
    CKeep w (w.modArch a fun A => A.removeTarget g) :=
  CKeep.of_selected rfl rfl (selected_modArch _ rfl rfl)

theorem moved_ckeep {w : World} {src dst : Nat} (hne : src ≠ dst)
    (hs : src < w.tables.length) (hd : dst < w.tables.length) :
    CKeep w (moveEntitiesW w src dst (w.tbl src).len) := by
  obtain ⟨hTS, _⟩ := moveEntitiesW_spec w src dst (w.tbl src).len hne hd
  obtain ⟨fa, fk, fra, fc, _⟩ := moveEntitiesW_fields w src dst (w.tbl src).len
  have ff : (moveEntitiesW w src dst (w.tbl src).len).filters = w.filters :=
    moveEntitiesW_keep (·.filters) (fun _ _ _ => rfl) (fun _ _ _ _ => rfl) w src dst _
  have hlen : (moveEntitiesW w src dst (w.tbl src).len).tables.length = w.tables.length := by
    rw [hTS]; simp only [List.length_set]
  have ms : MetaStep w (moveEntitiesW w src dst (w.tbl src).len) := by
    refine ⟨fa, fk, fra, fc, hlen, fun t ht => ?_⟩
    have hget : (moveEntitiesW w src dst (w.tbl src).len).tables[t]? =
        ((w.tables.set dst ((w.tbl dst).addAll (w.tbl src) (w.tbl src).len)).set src
          (w.tbl src).reset)[t]? := by rw [hTS]
    by_cases e1 : t = src
    · subst e1
      rw [List.getElem?_set_self (by rw [List.length_set]; exact hs)] at hget
      rw [tbl_of_get hget]; exact Table.SameMeta.of_reset _
    · rw [List.getElem?_set_ne (fun x => e1 x.symm)] at hget
      by_cases e2 : t = dst
      · subst e2
        rw [List.getElem?_set_self hd] at hget
        rw [tbl_of_get hget]; exact Table.addAll_sameMeta _ _ _
      · rw [List.getElem?_set_ne (fun x => e2 x.symm)] at hget
        rw [tbl_eq_of_get hget]; exact Table.SameMeta.refl _
  exact CKeep.of_metaStep ms ff

end RelRefine2
end Ark

end

section

/-! ## §2 `RemoveEntity` with the cleanup of a relation target

`CKeep` holds across the four primitive steps of `cleanupArchetypes` (`cleanKeeps_ckeep`) —
  `getOrCreate` (a zero-target table is found, created or RECYCLED: `cache.addTable`),
  `moveEntities` (rows only), the freeing block (`FreeTable` + `cache.removeTable`),
  `RemoveTarget` —; `cleanupArchetypes_specK` of `Ark.Proofs.TargetsLoops` carries it through the
  loops, as `Ark.Proofs.QueryRelAssign` does for `RowsAlive` / `CIdx`.
-/

set_option autoImplicit false

namespace Ark
namespace RelRefine2

open World Ark.Props.C01World

theorem cleanKeeps_ckeep : CleanKeeps CKeep :=
  ⟨CKeep.refl, CKeep.trans, fun hS ha hrel h => getOrCreate_ckeep hS ha hrel h,
    fun _ hne hs hd _ => moved_ckeep hne hs hd, fun hS ha hact => freeW_ckeep hS ha hact,
    removeTarget_ckeep _ _ _⟩

theorem opRemoveEntity_ckeep (run : ProbeRunner) {w : World} {fl : List Nat} (h : TInv w fl)
    (hl : w.isLocked = false) (hno : ∀ (evt : Nat), w.obs.hasObservers evt = false) {g : Ent}
    (h2 : 2 ≤ g.id) (hnf : g.id ∉ fl) (ha : w.alive g = true) (hsl : g.id < w.pool.ents.length)
    (hfew : w.tables.length + w.relationArchetypes.length + 1 ≤ maxU32)
    (hrows : 2 * w.entities.length < 2 ^ 32) :
    ∃ (w3 : World), opRemoveEntity run g w = .ok () w3 ∧ CKeep w w3 := by
  obtain ⟨t, row, w2, _, _, _, _, q2, hok⟩ :=
    h.del_lookup run cleanKeeps_ckeep hl hno h2 hnf ha hsl hfew hrows
  exact ⟨_, hok, ((removeRowOf_ckeep w g t row).trans q2).trans (unflagW_ckeep w2 g)⟩

end RelRefine2
end Ark

end

section

/-! ## §3 the entity operations

One lemma per operation of the machine of `Ark.Proofs.RelRefine` (`RemoveEntity` is in §2),
  stated for ANY successful result under the hypotheses of the operation's specification theorem;
  `Add`, `Remove` and `Exchange` are one move (`XchgShape.keep`, with `QKeep`).  For `Set`, which
  `Ark.Proofs.QueryRelAssign` does not cover, also `QKeep` (`opSet_keep`).
-/

set_option autoImplicit false

namespace Ark
namespace RelRefine2

open World Ark.Props.C01World QueryRel

theorem registerComponent_ckeep {k : CompKind} {w w' : World} {n : Nat}
    (hr : World.registerComponent k w = .ok n w') : CKeep w w' := by
  have e := registerComponent_ok_eq hr
  subst e
  exact CKeep.of_selected rfl rfl (fun f rels t => Selected_congr rfl rfl f rels t)

theorem opNewEntity_ckeep (run : ProbeRunner) (p : Path) {w : World} {fl : List Nat}
    (h : TInv w fl) (hl : w.isLocked = false) (hno : ∀ (evt : Nat), w.obs.hasObservers evt = false)
    {ids : List Comp} {vals : List (Comp × Val)} {rels : List RelID}
    (hreg : ∀ (c : Comp), c ∈ ids → c < w.kinds.length)
    {e : Ent} {w' : World} (hok : opNewEntity run p ids vals rels w = .ok e w') : CKeep w w' := by
  obtain ⟨t, a, m, w1, hf, _, rfl⟩ := opNewEntity_ok_eq run hl hno hok
  have q1 : CKeep w w1 := foc_ckeep h.rel.sinv (fun c hc => by simp at hc) hreg hf
  exact ((q1.trans (placedW_ckeep w1 t false)).trans (registerW_ckeep _ rels)).trans
    (writeValsW_ckeep _ _ vals)

theorem setRelationsCore_ckeep (run : ProbeRunner) {w : World} {fl : List Nat} (h : TInv w fl)
    (hl : w.isLocked = false) (hno : ∀ (evt : Nat), w.obs.hasObservers evt = false) {e : Ent}
    (h2 : 2 ≤ e.id) (hnf : e.id ∉ fl) (ha : w.alive e = true)
    (hsl : e.id < w.pool.ents.length) {rels : List RelID}
    (hne : rels.isEmpty = false) (hnd : (rels.map (·.comp)).Nodup)
    (hhas : ∀ (r : RelID), r ∈ rels → (targetOf w e.id r.comp).isSome = true)
    {w' : World} (hok : setRelationsCore run e rels w = .ok () w') : CKeep w w' := by
  obtain ⟨oldT, row, he, _, hT, _, hcols, hcase⟩ :=
    h.set_lookup run hl hno h2 hnf ha hsl hne hnd hhas hok
  rcases hcase with ⟨_, rfl⟩ | ⟨nt, w1, hgo, _, _, _, _, cg, _, rfl⟩
  · exact CKeep.refl _
  have hS := h.rel.sinv.toSInvMid
  obtain ⟨A, hA, _, e2, _⟩ := hS.tblArch oldT _ hT
  -- `rels` is not empty, so the table has a relation column
  have hrelA : (w.arch (w.tbl oldT).arch).hasRelations = true := by
    obtain ⟨r, hr⟩ := List.exists_mem_of_ne_nil rels (List.isEmpty_eq_false_iff.mp hne)
    obtain ⟨i, _, hi⟩ := hcols r hr
    rw [arch_of_get hA]
    exact (hS.astruct _ A hA).hasRelations_of_rel (by rw [← e2]; exact hi)
  have hel1 : e.id < w1.entities.length := by
    rw [cg.entities]; exact (List.getElem?_eq_some_iff.1 he).1
  exact ((getOrCreate_ckeep hS (alt_of_get hA) hrelA hgo).trans
    (addMove_ckeep w1 e _ (Ne.symm cg.ntNe) cg.ntLt
      (Nat.lt_of_lt_of_le (lt_of_get hT) cg.tablesLe) hel1)).trans (registerW_ckeep _ rels)

theorem opSetRelations_ckeep (run : ProbeRunner) (p : Path) {w : World} {fl : List Nat}
    (h : TInv w fl) (hl : w.isLocked = false) (hno : ∀ (evt : Nat), w.obs.hasObservers evt = false)
    {e : Ent} (h2 : 2 ≤ e.id) (hnf : e.id ∉ fl) (ha : w.alive e = true)
    (hsl : e.id < w.pool.ents.length) {mapperIds : List Comp}
    {rels : List RelID} (hne : rels.isEmpty = false) (hnd : (rels.map (·.comp)).Nodup)
    (hhas : ∀ (r : RelID), r ∈ rels → (targetOf w e.id r.comp).isSome = true)
    {w' : World} (hok : opSetRelations run p e mapperIds rels w = .ok () w') : CKeep w w' :=
  setRelationsCore_ckeep run h hl hno h2 hnf ha hsl hne hnd hhas (opSetRelations_ok_core hok)

theorem opSet_keep (run : ProbeRunner) {w : World} {e : Ent} {ids : List Comp}
    {vals : List (Comp × Val)} (hno : ∀ (evt : Nat), w.obs.hasObservers evt = false)
    {w' : World} (hok : opSet run e ids vals w = .ok () w') :
    QKeep w w' ∧ CKeep w w' ∧ w'.locks = w.locks ∧ w'.kinds = w.kinds := by
  cases ha : w.alive e with
  | false => rw [World.opSet_dead run w e ha ids vals] at hok; cases hok
  | true =>
    cases hhas : (ids.all fun c => (w.tbl (w.index e.id).1).has c) with
    | false => rw [opSet_missing run w e ids vals ha hhas] at hok; cases hok
    | true =>
      rw [opSet_eq run w e ids vals ha hhas (hno _)] at hok
      injection hok with _ hw
      subst hw
      exact ⟨writeValsW_qkeep w e vals, writeValsW_ckeep w e vals, rfl, rfl⟩

/-- **the move of one entity keeps the filter-side state** — `Add`, `Remove` and `Exchange` are
    `World.exchange` and the writes (`XchgShape`: the lookup from the root table, the row move, the
    flags), and `QKeep` / `CKeep` are `trans` chains over these worlds -/
theorem _root_.Ark.XchgShape.keep {w : World} {fl : List Nat} (h : TInv w fl) {e : Ent}
    (ha : w.alive e = true) {rels : List RelID} {w2 : World} (sh : XchgShape w e rels w2)
    (vals : List (Comp × Val)) (hrows : w.entities.length + 1 < 2 ^ 32) :
    QKeep w (writeValsW w2 e vals) ∧ CKeep w (writeValsW w2 e vals) := by
  obtain ⟨oldT, row, t, a, m, L, w1, he, htm, hne', hmreg, hadd, rfl⟩ := sh
  have hSS := h.rel.sinv
  have hI := h.link.idx
  obtain ⟨hT, _, _⟩ := hI.indexed he htm
  have hlt := lt_of_get hT
  obtain ⟨_, foc, _⟩ := hSS.findOrCreateTableAdd_of_ok_rinv h.rel.rinv hmreg
    (fun c hc => by cases hc) hadd
  have hI1 : IdxInv w1 := foc.idx hI
  have he1 : w1.entities[e.id]? = some (oldT, row) := by rw [foc.entities]; exact he
  have hb1 : (w1.tbl t).len + 1 < 2 ^ 32 := by
    have := hI1.rows_le t
    rw [foc.entities] at this; omega
  have ha1 : w1.alive e = true := by simp only [World.alive, foc.pool]; exact ha
  have hel1 : e.id < w1.entities.length := (List.getElem?_eq_some_iff.1 he1).1
  have c1 : CKeep w w1 := foc_ckeep hSS hmreg (fun c hc => by cases hc) hadd
  exact ⟨(((findOrCreateTableAdd_qkeep hadd).trans
      (addMove_qkeep hI1 _ ha1 he1 htm hne' foc.tblLt hb1)).trans
      (registerW_qkeep _ rels)).trans (writeValsW_qkeep _ e vals),
    ((c1.trans (addMove_ckeep w1 e _ hne' foc.tblLt
      (Nat.lt_of_lt_of_le hlt foc.tablesLen) hel1)).trans
      (registerW_ckeep _ rels)).trans (writeValsW_ckeep _ e vals)⟩

end RelRefine2
end Ark

end

section

/-! ## §4 `CopyEntity`

C01 / C04 at world level; the counterpart of `CInv.copied` / `opCopyEntity_spec` of
  `Ark.Proofs.RefineOps` for the joint invariant `TInv`.  The fresh handle is placed in `src`'s
  table — so the copy has the components, the values AND the relation targets of `src` —, no table is
  created, and the filter-side state is kept (`QKeep`, `CKeep`: the table is cached already).
-/

set_option autoImplicit false

namespace Ark
namespace RelRefine2

open World Ark.Props.C01World QueryRel QueryExact

structure CopyRelPost (w : World) (fl : List Nat) (src e : Ent) (w' : World) : Prop where
  /-- the free list loses its head (if any) -/
  tinv : TInv w' fl.tail
  pool : w'.pool = (w.pool.get).1
  locks : w'.locks = w.locks
  obs : w'.obs = w.obs
  kinds : w'.kinds = w.kinds
  maxComps : w'.maxComps = w.maxComps
  comps : compsOf w' e.id = compsOf w src.id
  vals : ∀ (c : Comp), valOf w' e.id c = valOf w src.id c
  targets : ∀ (c : Comp), targetOf w' e.id c = targetOf w src.id c
  frame : ∀ (j : Nat), j ≠ e.id → SameEnt w w' j ∧ ∀ (c : Comp), targetOf w' j c = targetOf w j c
  tablesLen : w'.tables.length = w.tables.length
  relArchs : w'.relationArchetypes = w.relationArchetypes
  entitiesLen : w'.entities.length ≤ w.entities.length + 1
  qkeep : QKeep w w'
  ckeep : CKeep w w'

theorem _root_.Ark.TInv.copied {w : World} {fl : List Nat} (h : TInv w fl) {src : Ent}
    (h2 : 2 ≤ src.id) (hnf : src.id ∉ fl) (ha : w.alive src = true) (hsl : src.id < w.pool.ents.length)
    (hrows : w.entities.length + 1 < 2 ^ 32) :
    ∃ (t row : Nat), w.index src.id = (t, row) ∧
      CopyRelPost w fl src (w.pool.get).2 (copiedW (placedW w t false) t row (w.tbl t).len) := by
  obtain ⟨t, row, he, ht, _⟩ := h.link.live_entry h2 hnf ha hsl
  refine ⟨t, row, index_of_get he, ?_⟩
  have hI := h.link.idx
  obtain ⟨hTt, _, _⟩ := hI.indexed he ht
  have hlt := lt_of_get hTt
  have hb : (w.tbl t).len + 1 < 2 ^ 32 := by have := hI.rows_le t; omega
  -- link, column list and values of the copy do not depend on the relation columns: `PLink.copied`
  obtain ⟨hL2, hcomps, hvals, hFr2⟩ := h.link.copied he ht hb
  -- all that is used of the placed world; from here on it is a variable
  have pp := h.link.placed hlt false hb
  have ms2 := placedW_metaStep w t false
  have hmono := placedW_flags_mono w t
  obtain ⟨hkinds, _, hmaxc⟩ := placedW_fields w t false
  have hpool := placedW_pool w t false
  have hlocks := placedW_locks w t false
  have hobs := placedW_obs w t false
  have hplace := (placedW_place w t false).1
  have hqk := placedW_qkeep h.link hlt false hb
  have hck := placedW_ckeep w t false
  generalize placedW w t false = w1 at *
  have msC := copiedW_metaStep w1 t row (w.tbl t).len
  have ms := ms2.trans msC
  have hlt1 : t < w1.tables.length := by rw [ms2.len]; exact hlt
  have hT1 : w1.tbl t = ((w.tbl t).add (w.pool.get).2).1 := tbl_set_self pp.tables hlt
  have hTf : (w.tbl t).isFree = false := by
    cases hf : (w.tbl t).isFree with
    | false => rfl
    | true => have := h.freeEmpty t _ hTt hf; omega
  have hsm : Table.SameMeta (w1.tbl t)
      ((List.range (w1.tbl t).ids.length).foldl
        (fun T i => T.setCell i (w.tbl t).len (T.cell i row)) (w1.tbl t)) :=
    Table.foldl_sameMeta _ (fun T i => Table.setCell_sameMeta T i _ _) _ _
  have hfree3 : FreeEmpty (copiedW w1 t row (w.tbl t).len) :=
    (h.freeEmpty.of_set pp.tables (fun hf => by
      rw [(Table.add_sameMeta _ _).isFree, hTf] at hf; cases hf)).of_set (t := t) rfl (fun hf => by
      rw [hsm.isFree, hT1, (Table.add_sameMeta _ _).isFree, hTf] at hf; cases hf)
  have hent2 : (copiedW w1 t row (w.tbl t).len).entities[(w.pool.get).2.id]? =
      some (t, (w.tbl t).len) := by
    show w1.entities[(w.pool.get).2.id]? = _
    rw [pp.lookup, if_pos rfl]
  have htab2 := get_of_lt (w := copiedW w1 t row (w.tbl t).len) (t := t)
    (by rw [msC.len]; exact hlt1)
  exact
    { tinv :=
        { rel := h.rel.of_metaStep_in h.targetsIn ms (fun x hxin hx => pp.aliveMono x hxin hx)
          flags := (h.flags.of_metaStep ms2 hmono).of_metaStep msC (fun _ hi => hi)
          freeEmpty := hfree3
          link := hL2
          kindsLe := by
            show w1.kinds.length ≤ w1.maxComps ∧ w1.maxComps ≤ 256
            rw [hkinds, hmaxc]
            exact h.kindsLe }
      pool := hpool
      locks := hlocks
      obs := hobs
      kinds := hkinds
      maxComps := hmaxc
      comps := hcomps
      vals := hvals
      targets := by
        intro c
        rw [targetOf_of_entry hent2 ht htab2, targetOf_of_entry he ht hTt]
        exact Table.targetAt_sameMeta (ms.tmeta t hlt) c
      frame := by
        intro j hj
        refine ⟨(pp.frame j hj).trans (hFr2 j hj), fun c => ?_⟩
        exact ms.targetOf (by
          show w1.entities[j]? = w.entities[j]?
          rw [pp.lookup, if_neg hj]) c
      tablesLen := ms.len
      relArchs := ms.relationArchetypes
      entitiesLen := by
        show w1.entities.length ≤ _
        rw [hplace, place_entities]
        split
        · simp
        · simp
      qkeep := hqk.trans (copiedW_qkeep w1 t row (w.tbl t).len)
      ckeep := hck.trans (CKeep.of_metaStep msC rfl) }

/-- **C01 + C04, `CopyEntity`** in a world with relations: for a live entity, no observers, on
    an unlocked world it never fails; see `CopyRelPost` -/
theorem opCopyEntity_rel_spec (run : ProbeRunner) {w : World} {fl : List Nat} (h : TInv w fl)
    (hl : w.isLocked = false) (hno : ∀ (evt : Nat), w.obs.hasObservers evt = false) {src : Ent}
    (h2 : 2 ≤ src.id) (hnf : src.id ∉ fl) (ha : w.alive src = true) (hsl : src.id < w.pool.ents.length)
    (hrows : w.entities.length + 1 < 2 ^ 32) :
    ∃ (w' : World), opCopyEntity run src w = .ok (w.pool.get).2 w' ∧
      CopyRelPost w fl src (w.pool.get).2 w' := by
  obtain ⟨t, row, hix, cp⟩ := h.copied h2 hnf ha hsl hrows
  exact ⟨_, opCopyEntity_eq run w src hl ha hix hno, cp⟩

end RelRefine2
end Ark

end

