/-
  Ark.Proofs.StatsFrame — property C19, the frame of an action.  `Indep m`: the monadic action
  `m` neither reads nor writes `w.stats` (`m (w.setStats st) = liftS st (m w)`, for success AND
  panic).  `Fr m`: run on a world without observers, `m` is `Indep` and on success an `RStep`
  (an `SStep` that registers no observer).  `Indep` is `Commutes World.setStats`, so for the
  storage primitives, the table lookups and the row-level steps it is read off
  `Ark.Proofs.Commutes`; `Fr` has its own closure under the constructs of the `do` notation and is
  established by walking over the definitions of the model.
-/
import Ark.Proofs.StatsHist

set_option autoImplicit false

namespace Ark

open World

/-! ## 1. actions that do not look at the statistics object -/

namespace World

def setStats (w : World) (st : WorldStats) : World := { w with stats := st }

@[simp] theorem setStats_setStats (w : World) (a b : WorldStats) :
    (w.setStats a).setStats b = w.setStats b := rfl

theorem setStats_self (w : World) : w.setStats w.stats = w := rfl

theorem opStats_setStats (w : World) (st : WorldStats) (h : Compatible st w) :
    opStats (w.setStats st) = .ok (statsFresh w) (w.setStats (statsFresh w)) :=
  opStats_eq' w st h

end World

def liftS {α : Type} (st : WorldStats) : Res World α → Res World α
  | .ok a w => .ok a (w.setStats st)
  | .panic k w => .panic k (w.setStats st)

theorem liftS_eq {α : Type} (st : WorldStats) (r : Res World α) :
    liftS st r = r.mapS (·.setStats st) := by
  cases r <;> rfl

/-- the action neither reads nor writes `w.stats` -/
def Indep {α : Type} (m : W α) : Prop :=
  ∀ (w : World) (st : WorldStats), m (w.setStats st) = liftS st (m w)

theorem Commutes.indep {α : Type} {m : W α} (h : Commutes World.setStats m) : Indep m :=
  fun w st => (h w st).trans (liftS_eq st _).symm

/-- the statistics object is a sub-part of `put3` -/
theorem Commutes.stats3 {α : Type} {m : W α} (h : Commutes put3 m) : Commutes World.setStats m :=
  h.sub get3 (fun _ => rfl) (fun _ _ => rfl) (fun F st => (F.1, F.2.1, st)) fun _ _ => rfl

theorem Commutes.stats4 {α : Type} {m : W α} (h : Commutes put4 m) : Commutes World.setStats m :=
  h.to3.stats3

theorem setStats_of_put4 {g : World → World}
    (h : ∀ (x : ObsMgr × List LogEv × Lock × WorldStats) (w : World), g (w.put4 x) = (g w).put4 x)
    (w : World) (st : WorldStats) : g (w.setStats st) = (g w).setStats st :=
  Res.ok.inj ((Commutes.modify fun w x => h x w).stats4 w st) |>.2

namespace Indep

variable {α : Type}

theorem ok {m : W α} (h : Indep m) {w w' : World} {a : α} (hm : m w = .ok a w')
    (st : WorldStats) : m (w.setStats st) = .ok a (w'.setStats st) := by
  rw [h w st, hm]; rfl

theorem panic {m : W α} (h : Indep m) {w w' : World} {k : PanicKind} (hm : m w = .panic k w')
    (st : WorldStats) : m (w.setStats st) = .panic k (w'.setStats st) := by
  rw [h w st, hm]; rfl

end Indep

/-! ## 2. the table lookups, `registerComponent` -/

namespace World

theorem indep_findOrCreateTableAdd (oldT : Nat) (startMask : Mask) (add : List Comp)
    (rels : List RelID) : Indep (findOrCreateTableAdd oldT startMask add rels) :=
  (commutes_findOrCreateTableAdd oldT startMask add rels).stats4.indep

theorem indep_findOrCreateTableRemove (oldT : Nat) (startMask : Mask) (rem : List Comp) :
    Indep (findOrCreateTableRemove oldT startMask rem) :=
  (commutes_findOrCreateTableRemove oldT startMask rem).stats4.indep

theorem indep_findOrCreateTable (oldT : Nat) (startMask : Mask) (add rem : List Comp)
    (rels : List RelID) : Indep (findOrCreateTable oldT startMask add rem rels) :=
  (commutes_findOrCreateTable oldT startMask add rem rels).stats4.indep

theorem commutes_registerComponent (k : CompKind) : Commutes put3 (registerComponent k) :=
  fun w x => by
  unfold registerComponent
  simp only [show (w.put3 x).kinds = w.kinds from rfl, show (w.put3 x).maxComps = w.maxComps from rfl,
    show (w.put3 x).isLocked = w.isLocked from rfl]
  split
  · rfl
  · split <;> rfl

theorem indep_registerComponent (k : CompKind) : Indep (registerComponent k) :=
  (commutes_registerComponent k).stats3.indep

/-! ## 3. row-level steps, `Shrink`, `Reset` -/

theorem removeRowOf_setStats (w : World) (st : WorldStats) (e : Ent) (t row : Nat) :
    removeRowOf (w.setStats st) e t row = (removeRowOf w e t row).setStats st :=
  setStats_of_put4 (g := (removeRowOf · e t row)) (removeRowOf_put4 · · e t row) w st

theorem copiedW_setStats (w : World) (st : WorldStats) (t row idx : Nat) :
    copiedW (w.setStats st) t row idx = (copiedW w t row idx).setStats st := rfl

theorem shrinkStep_setStats (w : World) (st : WorldStats) (t : Nat) :
    shrinkStep (w.setStats st) t = ((shrinkStep w t).1.setStats st, (shrinkStep w t).2) := by
  unfold shrinkStep
  have h1 : (w.setStats st).tbl t = w.tbl t := rfl
  have h2 : (w.setStats st).initCap = w.initCap := rfl
  have h3 : (w.setStats st).initCapRel = w.initCapRel := rfl
  simp only [h1, h2, h3]
  split
  · rfl
  · split <;> rfl

theorem shrinkLoop_setStats (bounded : Bool) (st : WorldStats) :
    ∀ (ts : List Nat) (w : World) (s : Bool × Nat),
      shrinkLoop bounded ts (w.setStats st) s =
        ((shrinkLoop bounded ts w s).1.setStats st, (shrinkLoop bounded ts w s).2)
  | [], _, _ => rfl
  | t :: ts, w, s => by
    simp only [shrinkLoop, shrinkStep_setStats]
    split
    · rfl
    · exact shrinkLoop_setStats bounded st ts _ _

theorem hasWork_setStats (w : World) (st : WorldStats) (t : Nat) :
    (w.setStats st).hasWork t = w.hasWork t := rfl

theorem shrinkPure_setStats (w : World) (st : WorldStats) (bounded : Bool) :
    shrinkPure (w.setStats st) bounded =
      ((shrinkPure w bounded).1.setStats st, (shrinkPure w bounded).2) := by
  unfold shrinkPure
  have h1 : (w.setStats st).tables = w.tables := rfl
  simp only [h1, shrinkLoop_setStats]
  rfl

theorem cacheReset_setStats (w : World) (st : WorldStats) :
    (w.setStats st).cacheReset = w.cacheReset.setStats st := by
  unfold cacheReset
  have h1 : (w.setStats st).cache = w.cache := rfl
  simp only [h1]
  split <;> rfl

theorem resetPre_setStats (w : World) (st : WorldStats) :
    resetPre (w.setStats st) = (resetPre w).setStats st := by
  unfold resetPre
  dsimp only
  rw [show ({ w.setStats st with entities := (w.setStats st).entities.take 2, pool := (w.setStats st).pool.reset, isTarget := (w.setStats st).isTarget.take 2 } : World) = ({ w with entities := w.entities.take 2, pool := w.pool.reset, isTarget := w.isTarget.take 2 } : World).setStats st from rfl]
  rw [cacheReset_setStats]
  rfl

theorem foldl_modTbl_setStats (f : Table → Table) (st : WorldStats) :
    ∀ (ts : List Nat) (w : World),
      ts.foldl (fun (w : World) t => w.modTbl t f) (w.setStats st) =
        (ts.foldl (fun (w : World) t => w.modTbl t f) w).setStats st
  | [], _ => rfl
  | t :: ts, w => by
    rw [List.foldl_cons, List.foldl_cons]
    exact foldl_modTbl_setStats f st ts (w.modTbl t f)

theorem resetArchW_setStats (w : World) (st : WorldStats) (a : Nat) :
    resetArchW (w.setStats st) a = (resetArchW w a).setStats st := by
  unfold resetArchW
  have h1 : (w.setStats st).arch a = w.arch a := rfl
  simp only [h1]
  split
  · rfl
  · rw [foldl_modTbl_setStats]; rfl

theorem resetLoop_setStats (st : WorldStats) (n : Nat) (w : World) :
    resetLoop (w.setStats st) n = (resetLoop w n).setStats st := by
  unfold resetLoop
  generalize List.range n = l
  induction l generalizing w with
  | nil => rfl
  | cons a l ih => rw [List.foldl_cons, List.foldl_cons, resetArchW_setStats, ih]

theorem resetW_setStats (w : World) (st : WorldStats) :
    resetW (w.setStats st) = (resetW w).setStats st := by
  unfold resetW
  rw [resetPre_setStats]
  have h : ((resetPre w).setStats st).archetypes = (resetPre w).archetypes := rfl
  rw [h, resetLoop_setStats]
  rfl

/-! ## 4. the filter operations -/

/-- the part of `cache.register` after the ID was taken from the pool -/
def crBody (f : Filter) (rels : List RelID) (id : Nat) (w : World) : Res World Nat :=
  match w.getCacheTables f rels with
  | none => .panic .runtime w
  | some ts =>
    .ok id { w with cache := { w.cache with
      filters := w.cache.filters ++ [{ id, filter := f, rels, tables := TableIDs.ofList ts }],
      indices := AL.insert w.cache.indices id w.cache.filters.length } }

theorem cacheRegister_eq_crBody (f : Filter) (rels : List RelID) (w : World) :
    cacheRegister f rels w = crBody f rels w.cache.pool.get.2
      { w with cache := { w.cache with pool := w.cache.pool.get.1 } } := rfl

theorem commutes_cacheRegister (f : Filter) (rels : List RelID) :
    Commutes put4 (cacheRegister f rels) := fun w x => by
  rw [cacheRegister_eq_crBody, cacheRegister_eq_crBody]
  show crBody f rels w.cache.pool.get.2
    (({ w with cache := { w.cache with pool := w.cache.pool.get.1 } } : World).put4 x) = _
  generalize ({ w with cache := { w.cache with pool := w.cache.pool.get.1 } } : World) = w1
  unfold crBody
  rw [show (w1.put4 x).getCacheTables f rels = w1.getCacheTables f rels from rfl]
  cases w1.getCacheTables f rels <;> rfl

theorem commutes_cacheUnregister (id : Nat) : Commutes put4 (cacheUnregister id) := fun w x => by
  unfold cacheUnregister World.put4
  dsimp only
  split <;> rfl

theorem indep_opFilterRegister (f : Nat) : Indep (opFilterRegister f) := by
  refine (Commutes.stats4 ?_).indep
  unfold opFilterRegister
  refine Commutes.get_bind (fun _ _ => rfl) fun w0 => ?_
  refine Commutes.bind (Commutes.assert _ _) fun _ => ?_
  refine Commutes.bind (commutes_cacheRegister _ _) fun id => ?_
  exact Commutes.modify fun _ _ => rfl

theorem indep_opFilterUnregister (f : Nat) : Indep (opFilterUnregister f) := by
  refine (Commutes.stats4 ?_).indep
  unfold opFilterUnregister
  refine Commutes.get_bind (fun _ _ => rfl) fun w0 => ?_
  dsimp only
  split
  · exact fun _ _ => rfl
  · exact Commutes.bind (commutes_cacheUnregister _) fun _ => Commutes.modify fun _ _ => rfl

/-- the validation a typed filter object runs when it is defined -/
theorem indep_typedCheck (fo : FilterObj) :
    Indep (if fo.typed then preCheckTyped fo.filter.mask fo.rels else pure ()) :=
  (Commutes.ite (commutes_preCheckTyped _ _) (Commutes.pure ())).stats4.indep

end World

theorem CacheHist.defFilter_setStats (f : Nat) (fo : FilterObj) (w : World) (st : WorldStats) :
    CacheHist.defFilter f fo (w.setStats st) = (CacheHist.defFilter f fo w).setStats st := by
  unfold CacheHist.defFilter
  rw [indep_typedCheck fo w st]
  cases (if fo.typed then preCheckTyped fo.filter.mask fo.rels else pure ()) w <;> rfl

theorem CacheHist.guardF_setStats (w : World) (st : WorldStats) (fo : FilterObj) :
    CacheHist.guardF (w.setStats st) fo = CacheHist.guardF w fo := rfl

theorem liftS_state {α : Type} (st : WorldStats) (r : Res World α) :
    (liftS st r).state = r.state.setStats st := by
  cases r <;> rfl


/-! ## 5. `RStep` and `Fr` -/

def NoObs (w : World) : Prop := ∀ (evt : Nat), w.obs.hasObservers evt = false

theorem NoObs.setStats {w : World} (h : NoObs w) (st : WorldStats) : NoObs (w.setStats st) := h

/-- what `Stats()` relies on between two calls (`SStep`), and: no observer appears -/
structure RStep (w w' : World) : Prop where
  sstep : SStep w w'
  noObs : NoObs w → NoObs w'

namespace RStep

theorem refl (w : World) : RStep w w := ⟨SStep.refl w, id⟩

theorem trans {a b c : World} (h1 : RStep a b) (h2 : RStep b c) : RStep a c :=
  ⟨h1.sstep.trans h2.sstep, fun h => h2.noObs (h1.noObs h)⟩

theorem of_eq {w w' : World} (ha : w'.archetypes = w.archetypes) (hk : w'.kinds = w.kinds)
    (hs : w'.stats = w.stats) (ho : w'.obs = w.obs) : RStep w w' :=
  ⟨SStep.of_eq ha hk hs ho, fun h evt => by rw [ho]; exact h evt⟩

theorem of_sstep_obs {w w' : World} (h : SStep w w') (ho : w'.obs = w.obs) : RStep w w' :=
  ⟨h, fun hn evt => by rw [ho]; exact hn evt⟩

end RStep

/-- the action at the world `w`: commutes with replacing the statistics object; on success an
    `RStep` -/
def FrAt {α : Type} (m : W α) (w : World) : Prop :=
  (∀ (st : WorldStats), m (w.setStats st) = liftS st (m w)) ∧
  (∀ (a : α) (w' : World), m w = .ok a w' → RStep w w')

/-- the action on every world without observers -/
def Fr {α : Type} (m : W α) : Prop := ∀ (w : World), NoObs w → FrAt m w

namespace Fr

variable {α β : Type}

theorem pure (a : α) : Fr (Pure.pure a : W α) := fun w _ =>
  ⟨fun _ => rfl, fun _ _ h => by cases h; exact RStep.refl w⟩

theorem bind {m : W α} {f : α → W β} (hm : Fr m) (hf : ∀ (a : α), Fr (f a)) : Fr (m >>= f) := by
  intro w hno
  obtain ⟨h1, h2⟩ := hm w hno
  constructor
  · intro st
    rw [M.bind_apply, h1 st, M.bind_apply]
    cases hmw : m w with
    | ok a w' => exact (hf a w' ((h2 a w' hmw).noObs hno)).1 st
    | panic k w' => rfl
  · intro b w2 hok
    rw [M.bind_apply] at hok
    cases hmw : m w with
    | ok a w' =>
      rw [hmw] at hok
      have r1 := h2 a w' hmw
      exact r1.trans ((hf a w' (r1.noObs hno)).2 b w2 hok)
    | panic k w' => rw [hmw] at hok; cases hok

/-- `do let w ← get; f w`, where `f` reads fields other than `stats`; the body is examined at the
    world it was read from -/
theorem get_bind {f : World → W β} (hr : ∀ (w : World) (st : WorldStats), f (w.setStats st) = f w)
    (hf : ∀ (w : World), NoObs w → FrAt (f w) w) : Fr (M.get >>= f) := by
  intro w hno
  obtain ⟨h1, h2⟩ := hf w hno
  constructor
  · intro st
    show f (w.setStats st) (w.setStats st) = liftS st (f w w)
    rw [hr]; exact h1 st
  · intro b w2 hok
    exact h2 b w2 hok

/-- … when the body is `Fr` whatever value was read -/
theorem get_bind' {f : World → W β} (hr : ∀ (w : World) (st : WorldStats), f (w.setStats st) = f w)
    (hf : ∀ (w : World), Fr (f w)) : Fr (M.get >>= f) :=
  get_bind hr fun w hno => hf w w hno

/-- … when the body, read at a world without observers, is an action that is `Fr` -/
theorem get_bind_noObs {f g : World → W β}
    (hr : ∀ (w : World) (st : WorldStats), f (w.setStats st) = f w)
    (hfg : ∀ (w : World), NoObs w → f w = g w) (hg : ∀ (w : World), Fr (g w)) :
    Fr (M.get >>= f) :=
  get_bind hr fun w hno => by rw [hfg w hno]; exact hg w w hno

/-- an action that always succeeds, returning `a w` and leaving `g w` -/
theorem of_eq {m : W α} {a : World → α} {g : World → World}
    (hm : ∀ (w : World), m w = .ok (a w) (g w))
    (ha : ∀ (w : World) (st : WorldStats), a (w.setStats st) = a w)
    (hg : ∀ (w : World) (st : WorldStats), g (w.setStats st) = (g w).setStats st)
    (hs : ∀ (w : World), RStep w (g w)) : Fr m := fun w _ =>
  ⟨fun st => by rw [hm, hm, ha, hg]; rfl,
    fun _ _ h => by rw [hm] at h; injection h with _ h; subst h; exact hs w⟩

theorem modify {g : World → World}
    (hg : ∀ (w : World) (st : WorldStats), g (w.setStats st) = (g w).setStats st)
    (hs : ∀ (w : World), RStep w (g w)) : Fr (M.modify g) :=
  of_eq (fun _ => rfl) (fun _ _ => rfl) hg hs

theorem assert (c : Bool) (k : PanicKind) : Fr (M.assert c k : W Unit) := fun w _ =>
  ⟨fun st => (Commutes.assert c k).indep w st, fun _ _ h => by
    cases c with
    | true => cases h; exact RStep.refl w
    | false => cases h⟩

theorem panic (k : PanicKind) : Fr (M.panic k : W α) := fun w _ =>
  ⟨fun _ => rfl, fun _ _ h => by cases h⟩

theorem forM' {γ : Type} {g : γ → W Unit} : ∀ (l : List γ), (∀ (x : γ), Fr (g x)) → Fr (M.forM' l g)
  | [], _ => pure ()
  | x :: l, hg => bind (m := g x) (f := fun _ => M.forM' l g) (hg x) fun _ => forM' l hg

theorem ite {c : Prop} [Decidable c] {a b : W α} (ha : Fr a) (hb : Fr b) :
    Fr (if c then a else b) := by
  split
  · exact ha
  · exact hb

theorem when {c : Prop} [Decidable c] {x : W Unit} (hx : Fr x) :
    Fr (if c then x else Pure.pure ()) :=
  ite hx (pure ())

/-- `if c then x` followed by `k`, as the `do` notation writes it: `k` is a join point, not
    duplicated, so an operation with several such `if`s is walked through once -/
theorem when_then {c : Prop} [Decidable c] {x : W Unit} {k : Unit → W β} (hx : Fr x)
    (hk : ∀ (u : Unit), Fr (k u)) : Fr (if c then x >>= k else k ()) :=
  ite (bind hx hk) (hk ())

/-- the `Alive` check that some API paths make before anything else, followed by `k` -/
theorem alive_then {c : Prop} [Decidable c] (e : Ent) (pk : PanicKind) {k : Unit → W β}
    (hk : ∀ (u : Unit), Fr (k u)) :
    Fr (if c then (M.get >>= fun w => M.assert (w.alive e) pk >>= k) else k ()) :=
  ite (get_bind' (fun _ _ => rfl) fun _ => bind (assert _ _) hk) (hk ())

theorem of_indep_same {m : W α} (hi : Indep m)
    (hs : ∀ (w : World) (a : α) (w' : World), m w = .ok a w' → w' = w) : Fr m := fun w _ =>
  ⟨hi w, fun a w' h => by rw [hs w a w' h]; exact RStep.refl w⟩

theorem of_indep {m : W α} (hi : Indep m)
    (hs : ∀ (w : World) (a : α) (w' : World), m w = .ok a w' → RStep w w') : Fr m := fun w _ =>
  ⟨hi w, hs w⟩

/-- an action that without observers does nothing (an event that nobody listens to) -/
theorem of_skip {m : W α} {a : α} (h : ∀ (w : World), NoObs w → m w = .ok a w) : Fr m :=
  fun w hno =>
  ⟨fun st => by rw [h w hno, h (w.setStats st) (hno.setStats st)]; rfl,
    fun _ w' hok => by rw [h w hno] at hok; cases hok; exact RStep.refl w⟩

theorem congr {m m' : W α} (h : Fr m) (he : ∀ (w : World), NoObs w → m' w = m w)
    : Fr m' := fun w hno => by
  obtain ⟨h1, h2⟩ := h w hno
  refine ⟨fun st => ?_, fun a w' hok => h2 a w' (by rw [← he w hno]; exact hok)⟩
  rw [he _ (hno.setStats st), he w hno]; exact h1 st

end Fr

theorem FrAt.of_fr {α : Type} {m : W α} (h : Fr m) {w : World} (hno : NoObs w) : FrAt m w := h w hno

/-! ## 6. `Fr` of the storage primitives -/

namespace World

theorem fr_checkLocked : Fr checkLocked :=
  Fr.of_indep_same commutes_checkLocked.stats3.indep fun w a w' h => by
    unfold checkLocked at h
    split at h
    · cases h
    · injection h with _ h; exact h.symm

theorem fr_checkRelationComponent (c : Comp) : Fr (checkRelationComponent c) :=
  Fr.of_indep_same (commutes_checkRelationComponent c).stats4.indep fun w a w' h => by
    unfold checkRelationComponent at h
    split at h
    · injection h with _ h; exact h.symm
    · cases h

theorem fr_checkRelationTarget (t : Ent) : Fr (checkRelationTarget t) :=
  Fr.of_indep_same (commutes_checkRelationTarget t).stats4.indep fun w a w' h => by
    unfold checkRelationTarget at h
    split at h
    · cases h
    · injection h with _ h; exact h.symm

theorem fr_preCheckTyped (m : Mask) (rels : List RelID) : Fr (preCheckTyped m rels) :=
  Fr.forM' rels fun r => Fr.bind (fr_checkRelationTarget r.target) fun _ =>
    Fr.bind (fr_checkRelationComponent r.comp) fun _ => Fr.assert _ _

theorem fr_preCheckMap (rels : List RelID) : Fr (preCheckMap rels) :=
  Fr.forM' rels fun r => Fr.bind (fr_checkRelationTarget r.target) fun _ =>
    fr_checkRelationComponent r.comp

theorem fr_preCheck (p : Path) (ids : List Comp) (rels : List RelID) : Fr (preCheck p ids rels) := by
  cases p
  · exact fr_preCheckTyped _ rels
  · exact fr_preCheckMap rels
  · exact fr_preCheckTyped _ rels

/-! ### the table lookups -/

theorem rstep_findOrCreateArch {mask : Mask} {w w' : World} {a : Nat}
    (h : findOrCreateArch mask w = .ok a w') : RStep w w' :=
  RStep.of_sstep_obs (SStep.findOrCreateArch h) (findOrCreateArch_untouched h).obs

theorem rstep_createTable {a : Nat} {rels : List RelID} {w w' : World} {t : Nat}
    (h : createTable a rels w = .ok t w') : RStep w w' :=
  RStep.of_sstep_obs (SStep.createTable h) (createTable_untouched h).obs

theorem rstep_lookups :
    (∀ {oldT : Nat} {startMask : Mask} {add : List Comp} {rels : List RelID} {w w' : World}
        {r : Nat × Nat × Mask},
        findOrCreateTableAdd oldT startMask add rels w = .ok r w' → RStep w w') ∧
    (∀ {oldT : Nat} {startMask : Mask} {rem : List Comp} {w w' : World}
        {r : Nat × Nat × Mask × Bool},
        findOrCreateTableRemove oldT startMask rem w = .ok r w' → RStep w w') ∧
    (∀ {oldT : Nat} {startMask : Mask} {add rem : List Comp} {rels : List RelID} {w w' : World}
        {r : Nat × Nat × Mask × Bool},
        findOrCreateTable oldT startMask add rem rels w = .ok r w' → RStep w w') :=
  lookup_induct RStep RStep.trans rstep_findOrCreateArch rstep_createTable

theorem fr_findOrCreateTableAdd (oldT : Nat) (m : Mask) (add : List Comp) (rels : List RelID) :
    Fr (findOrCreateTableAdd oldT m add rels) :=
  Fr.of_indep (indep_findOrCreateTableAdd oldT m add rels) fun _ _ _ h => rstep_lookups.1 h

theorem fr_findOrCreateTableRemove (oldT : Nat) (m : Mask) (rem : List Comp) :
    Fr (findOrCreateTableRemove oldT m rem) :=
  Fr.of_indep (indep_findOrCreateTableRemove oldT m rem) fun _ _ _ h => rstep_lookups.2.1 h

theorem fr_findOrCreateTable (oldT : Nat) (m : Mask) (add rem : List Comp) (rels : List RelID) :
    Fr (findOrCreateTable oldT m add rem rels) :=
  Fr.of_indep (indep_findOrCreateTable oldT m add rem rels) fun _ _ _ h => rstep_lookups.2.2 h

theorem fr_getTable (a : Nat) (rels : List RelID) : Fr (getTable a rels) :=
  Fr.of_indep_same (commutes_getTable a rels).stats4.indep fun _ _ _ h => getTable_ok_state h

theorem fr_createTable (a : Nat) (rels : List RelID) : Fr (createTable a rels) :=
  Fr.of_indep (commutes_createTable a rels).stats4.indep fun _ _ _ h => rstep_createTable h

theorem fr_getOrCreate (a : Nat) (rels : List RelID) : Fr (getOrCreate a rels) := by
  unfold getOrCreate
  refine Fr.bind (fr_getTable a rels) fun r => ?_
  cases r with
  | some t => exact Fr.pure t
  | none => exact fr_createTable a rels

/-! ### row-level steps -/

theorem fr_placeNew (t : Nat) (rt : Bool) : Fr (placeNew t rt) :=
  Fr.of_eq (placeNew_eq t rt) (fun _ _ => rfl) (setStats_of_put4 (g := (placedW · t rt)) (placedW_put4 · · t rt)) fun w =>
    RStep.of_sstep_obs (SStep.placedW w t rt) (placedW_obs w t rt)

theorem fr_registerTargets (rels : List RelID) : Fr (registerTargets rels) :=
  Fr.modify (fun _ _ => rfl) fun _ => RStep.of_eq rfl rfl rfl rfl

theorem fr_writeVals (e : Ent) (vals : List (Comp × Val)) : Fr (writeVals e vals) :=
  Fr.of_eq (writeVals_eq e vals) (fun _ _ => rfl) (fun _ _ => rfl) fun w =>
    RStep.of_sstep_obs (SStep.writeValsW w e vals) (Quiet.writeValsW w e vals).obs

/-- "add `e` to `newT`, then `moveRow`" -/
theorem fr_addMove (e : Ent) (oldT row newT : Nat) (keep : Mask) :
    Fr ((fun w => let (N, i) := (w.tbl newT).add e; Res.ok i (w.setTbl newT N) : W Nat) >>=
      fun newIndex => moveRow e oldT row newT newIndex keep) :=
  Fr.of_eq (addMove_eq e oldT row newT keep) (fun _ _ => rfl)
    (setStats_of_put4 (g := (addMove · e oldT row newT keep)) (addMove_put4 · · e oldT row newT keep)) fun w =>
      RStep.of_sstep_obs (SStep.addMove w e oldT row newT keep)
        (Quiet.addMove w e oldT row newT keep).obs

/-- `M.bind_bind` in the `>>=` notation of the `do` blocks -/
theorem _root_.Ark.M.bind_assoc' {σ α β γ : Type} (m : M σ α) (f : α → M σ β) (g : β → M σ γ) :
    (m >>= f) >>= g = m >>= fun a => f a >>= g :=
  M.bind_bind m f g

/-- … followed by the rest of the operation -/
theorem fr_addMove_bind {β : Type} (e : Ent) (oldT row newT : Nat) (keep : Mask) {f : Unit → W β}
    (hf : ∀ (u : Unit), Fr (f u)) :
    Fr ((fun w => let (N, i) := (w.tbl newT).add e; Res.ok i (w.setTbl newT N) : W Nat) >>=
      fun newIndex => moveRow e oldT row newT newIndex keep >>= f) := by
  have h := Fr.bind (fr_addMove e oldT row newT keep) hf
  exact (M.bind_assoc' (σ := World) _ _ f) ▸ h

end World

end Ark
