/-
  Ark.Proofs.WInv — the joint world invariant (entity index ↔ table rows ↔ entity pool) and the
  first end-to-end operation-level specifications, for the fragment of the API without
  components, relations and observers: `World.NewEntity()`, `World.RemoveEntity`, `Map.Set`.
  `WInv` spells out the fields of the pool link `PLink` with a stronger `stale` (no memory behind
  the pool slice at all: the fragment has no `Reset`) and adds the fragment conditions `tab0`,
  `noTargets`, `noObs`; `WInv.link` gives the `PLink` back, `WInv.of_link` builds on one, and
  placement, removal and writes come from the lemmas about `PLink` (`Proofs/Link`).
-/
import Ark.Proofs.Link
import Ark.Proofs.Rejects

set_option autoImplicit false

namespace Ark

open Ark.Props.C01World

/-- **The joint world invariant** for the fragment without components, relations and
    observers.  `fl` is the (ghost) free list of the entity pool.
    * exactness of `Alive` is not a field but the derived theorem `WInv.aliveIff`, stated for IDs
      *outside* the free list only — for a freed ID the unrestricted statement is false
      (`Alive` compares generations only; see `Ark.Props.C01Hist.forged_alive`);
    * `stale` (no memory behind the pool slice) makes `Alive` read exactly the slot;
    * `tab0` (one table, no columns) is the fragment's table layout; it gives `compsOf = some []`,
      "rows of table 0 = Σ table sizes" and implies `fewTables` (a field because `PLink` has it). -/
structure WInv (w : World) (fl : List Nat) : Prop where
  /-- I2: entity index ↔ table rows -/
  idx : IdxInv w
  /-- I1: the pool's free list -/
  pool : Pool.PInv w.pool fl
  /-- no memory retained behind the pool slice (no `Reset` in this fragment) -/
  stale : w.pool.stale = []
  /-- index and pool arrays grow together -/
  lenEq : w.entities.length = w.pool.ents.length
  tgtLen : w.isTarget.length = w.entities.length
  /-- freed IDs point at no table -/
  freeUnindexed : ∀ i ∈ fl, ∃ r, w.entities[i]? = some (maxU32, r)
  reservedUnindexed : ∀ i : Nat, i < 2 → ∃ r, w.entities[i]? = some (maxU32, r)
  /-- IDs in use are indexed to a table -/
  liveIndexed : ∀ i : Nat, 2 ≤ i → i < w.entities.length → i ∉ fl →
    ∃ t r, w.entities[i]? = some (t, r) ∧ t ≠ maxU32
  fewTables : w.tables.length ≤ maxU32
  /-- fragment: the only table is table 0 of the empty archetype -/
  tab0 : ∃ T, w.tables = [T] ∧ T.ids = []
  /-- fragment: no relation targets -/
  noTargets : ∀ i : Nat, w.isTarget.getD i false = false
  /-- fragment: no observers registered -/
  noObs : ∀ evt : Nat, w.obs.hasObservers evt = false

namespace WInv

variable {w : World} {fl : List Nat}

/-- liveness is exact for IDs outside the free list: `Alive(e)` iff slot `e.id` holds `e`.
    (For an ID *on* the free list `Alive` compares against the bumped generation, so a handle
    that was never issued can test alive — see `Ark.Props.C01Hist.forged_alive`.) -/
theorem aliveIff (h : WInv w fl) (e : Ent) (hnf : e.id ∉ fl) :
    w.alive e = true ↔ (e.id < w.entities.length ∧ e.id ∉ fl ∧ w.pool.ents[e.id]? = some e) := by
  have := h.pool.alive_iff h.stale e hnf
  simp only [World.alive, this]
  constructor
  · intro hs
    exact ⟨by rw [h.lenEq]; exact (List.getElem?_eq_some_iff.mp hs).1, hnf, hs⟩
  · exact fun hh => hh.2.2

theorem tables_len (h : WInv w fl) : w.tables.length = 1 := by
  obtain ⟨T, hT, _⟩ := h.tab0; rw [hT]; rfl

theorem tab0_get (h : WInv w fl) : w.tables[0]? = some (w.tbl 0) ∧ (w.tbl 0).ids = [] := by
  obtain ⟨T, hT, hids⟩ := h.tab0
  have : w.tables[0]? = some T := by rw [hT]; rfl
  rw [World.tbl_of_get this]; exact ⟨this, hids⟩

theorem table_zero (h : WInv w fl) {i t r : Nat} (hi : w.entities[i]? = some (t, r))
    (ht : t ≠ maxU32) : t = 0 := by
  obtain ⟨T, hT, _, _⟩ := h.idx.idxRow i t r hi ht
  have := World.lt_of_get hT
  rw [h.tables_len] at this; omega

theorem live_entry (h : WInv w fl) {e : Ent} (h2 : 2 ≤ e.id) (hnf : e.id ∉ fl)
    (ha : w.alive e = true) :
    ∃ r, w.entities[e.id]? = some (0, r) ∧ w.pool.ents[e.id]? = some e := by
  obtain ⟨hlt, _, hs⟩ := (h.aliveIff e hnf).mp ha
  obtain ⟨t, r, hi, ht⟩ := h.liveIndexed e.id h2 hlt hnf
  have := h.table_zero hi ht
  subst this
  exact ⟨r, hi, hs⟩

theorem link (h : WInv w fl) : PLink w fl :=
  ⟨h.idx, h.pool, fun e he => (by rw [h.stale] at he; cases he), h.lenEq, h.tgtLen, h.freeUnindexed,
    h.reservedUnindexed, h.liveIndexed, h.fewTables⟩

/-- the fragment conditions travel along a step that keeps the one table without columns and the
    observers and sets no target flag -/
theorem of_link {w' : World} {fl' : List Nat} (h : WInv w fl) (hl : PLink w' fl')
    (hst : w'.pool.stale = []) {T : Table} (htab : w'.tables = [T]) (hids : T.ids = [])
    (ho : w'.obs = w.obs)
    (ht : ∀ (i : Nat), w'.isTarget.getD i false = true → w.isTarget.getD i false = true) :
    WInv w' fl' :=
  { idx := hl.idx, pool := hl.pool, stale := hst, lenEq := hl.lenEq, tgtLen := hl.tgtLen
    freeUnindexed := hl.freeUnindexed, reservedUnindexed := hl.reservedUnindexed
    liveIndexed := hl.liveIndexed, fewTables := hl.fewTables, tab0 := ⟨T, htab, hids⟩
    noTargets := fun i => Bool.eq_false_iff.mpr fun hi => by
      have := ht i hi; rw [h.noTargets i] at this; cases this
    noObs := ho ▸ h.noObs }

end WInv

theorem winv_init (cap rel : Nat) : WInv (World.init cap rel) [] where
  idx := IdxInv.init cap rel 256
  pool := Pool.pinv_init
  stale := rfl
  lenEq := rfl
  tgtLen := rfl
  freeUnindexed := by intro i hi; cases hi
  reservedUnindexed := by
    intro i hi
    match i, hi with
    | 0, _ => exact ⟨0, rfl⟩
    | 1, _ => exact ⟨0, rfl⟩
  liveIndexed := by
    intro i h2 hlt _
    have : (World.init cap rel).entities.length = 2 := rfl
    omega
  fewTables := by
    show 1 ≤ maxU32
    decide
  tab0 := ⟨_, rfl, rfl⟩
  noTargets := by
    intro i
    show [false, false].getD i false = false
    match i with
    | 0 => rfl
    | 1 => rfl
    | n + 2 => rfl
  noObs := fun _ => rfl

namespace World

theorem fireCreateEntityIfHas_none (run : ProbeRunner) (e : Ent) (mask : Mask) (w : World)
    (h : w.obs.hasObservers Ev.onCreateEntity = false) :
    fireCreateEntityIfHas run e mask w = .ok () w := by
  simp only [fireCreateEntityIfHas, bind, M.bind, M.get, h, Bool.false_eq_true, if_false, pure,
    M.pure]

/-- without `OnCreateEntity` observers, `NewEntity()` on an unlocked world is `placeNew 0 true`;
    the callback runner `run` is not consulted -/
theorem opNewEntity0_eq (run : ProbeRunner) (w : World) (hl : w.isLocked = false)
    (hno : w.obs.hasObservers Ev.onCreateEntity = false) :
    opNewEntity0 run w = .ok (w.pool.get).2 (placedW w 0 true) := by
  have h2 : (placedW w 0 true).obs.hasObservers Ev.onCreateEntity = false := by
    rw [placedW_obs]; exact hno
  simp only [opNewEntity0, bind, M.bind, checkLocked_unlocked w hl, placeNew_eq, M.get,
    fireCreateEntityIfHas_none run _ _ _ h2, pure, M.pure]

theorem opNewEntity_foc_panic (run : ProbeRunner) (p : Path) (ids : List Comp)
    (vals : List (Comp × Val)) (w : World) (hl : w.isLocked = false) {k : PanicKind} {w1 : World}
    (hfoc : findOrCreateTableAdd 0 Mask.empty ids [] w = .panic k w1) :
    opNewEntity run p ids vals [] w = .panic k w1 := by
  cases p <;>
  simp [opNewEntity, newEntityCore, preCheck, preCheckMap, preCheckTyped, M.forM', bind, M.bind,
    checkLocked_unlocked w hl, hfoc, pure, M.pure]

end World

theorem getD_false_append {l : List Bool} (h : ∀ i : Nat, l.getD i false = false) (i : Nat) :
    (l ++ [false]).getD i false = false := by
  rcases Nat.lt_or_ge i l.length with h1 | h1
  · have := h i
    simp only [List.getD_eq_getElem?_getD] at this ⊢
    rw [List.getElem?_append_left h1]; exact this
  · simp only [List.getD_eq_getElem?_getD]
    rw [List.getElem?_append_right h1]
    cases i - l.length with
    | zero => rfl
    | succ n => rfl

theorem getD_false_set {l : List Bool} (h : ∀ i : Nat, l.getD i false = false) (k i : Nat) :
    (l.set k false).getD i false = false := by
  have := h i
  simp only [List.getD_eq_getElem?_getD] at this ⊢
  by_cases hk : k = i
  · subst hk
    rcases Nat.lt_or_ge k l.length with h1 | h1
    · rw [List.getElem?_set_self h1]; rfl
    · rw [List.getElem?_eq_none (by rw [List.length_set]; exact h1)]; rfl
  · rw [List.getElem?_set_ne hk]; exact this

open World in
/-- what `World.NewEntity()` guarantees (no components, no observers) -/
structure NewEntity0Post (w : World) (fl : List Nat) (e : Ent) (w' : World) : Prop where
  /-- the invariant is kept; the free list loses its head (if any) -/
  winv : WInv w' fl.tail
  unlocked : w'.isLocked = false
  pool : w'.pool = (w.pool.get).1
  ge2 : 2 ≤ e.id
  /-- the ID was not in use: a brand-new slot, or the head of the free list -/
  unused : (e.id = w.entities.length ∧ fl = [] ∧ e.gen = 0) ∨
    (e.id < w.entities.length ∧ fl = e.id :: fl.tail)
  alive : w'.alive e = true
  /-- a handle with a brand-new ID did not test alive before (for a recycled ID this is false
      in general: see `Ark.Props.C01Hist.forged_alive`) -/
  freshNew : fl = [] → w.alive e = false
  /-- `Alive` is unchanged for every handle with another ID -/
  aliveFrame : ∀ h : Ent, h.id ≠ e.id → w'.alive h = w.alive h
  /-- every other ID keeps its component set and values -/
  frame : ∀ j : Nat, j ≠ e.id → SameEnt w w' j
  /-- every previously alive handle is another entity, stays alive and keeps everything -/
  live : ∀ h : Ent, h.id ∉ fl → w.alive h = true →
    h ≠ e ∧ h.id ≠ e.id ∧ w'.alive h = true ∧ SameEnt w w' h.id
  comps : compsOf w' e.id = some []
  poolLen : w'.pool.len = w.pool.len + 1
  tabLen : (w'.tbl 0).len = (w.tbl 0).len + 1

open World in
/-- Partial: freshness is `freshNew` + `live`, not `w.alive e = false` (false for a recycled ID,
    see `Ark.Props.C01Hist.forged_alive`).  Stands for `Ark.Props.C01.newEntity_spec`. -/
theorem newEntity0_spec_partial (run : ProbeRunner) {w : World} {fl : List Nat} (h : WInv w fl)
    (hl : w.isLocked = false) (hb : (w.tbl 0).len + 1 < 2 ^ 32) :
    ∃ w', opNewEntity0 run w = .ok (w.pool.get).2 w' ∧
      NewEntity0Post w fl (w.pool.get).2 w' := by
  refine ⟨placedW w 0 true, opNewEntity0_eq run w hl (h.noObs _), ?_⟩
  have g := Pool.get_spec w.pool fl h.pool
  obtain ⟨hT0, hids0⟩ := h.tab0_get
  have pl := h.link.placed (lt_of_get hT0) true hb
  obtain ⟨T, hT1, _⟩ := h.tab0
  have hTab : (placedW w 0 true).tables = [((w.tbl 0).add (w.pool.get).2).1] := by
    rw [pl.tables, hT1]; rfl
  -- a handle that is alive and not on the free list sits in an old slot ≠ the new ID
  have hliveNe : ∀ x : Ent, x.id ∉ fl → w.alive x = true → x.id ≠ (w.pool.get).2.id := by
    intro x hnf ha heq
    obtain ⟨hlt, _, _⟩ := (h.aliveIff x hnf).mp ha
    rcases pl.unused with ⟨a, _, _⟩ | ⟨_, b⟩
    · rw [heq, a] at hlt; exact Nat.lt_irrefl _ hlt
    · exact hnf (heq ▸ b ▸ List.mem_cons_self)
  exact
    { winv := h.of_link pl.link (by rw [placedW_pool]; exact g.stale h.stale) hTab
        (by rw [Table.add_ids]; exact hids0) (placedW_obs w 0 true) (placedW_flag_le w 0 true)
      unlocked := (congrArg Lock.isLocked (placedW_locks w 0 true)).trans hl
      pool := placedW_pool w 0 true
      ge2 := pl.ge2
      unused := pl.unused
      alive := pl.alive
      freshNew := fun hfl => by
        rcases g.cases with ⟨a, _, _⟩ | ⟨_, b, _⟩
        · show w.pool.alive _ = false
          rw [Pool.alive_eq h.stale, a, List.getElem?_eq_none (Nat.le_refl _)]
        · rw [hfl] at b; cases b
      aliveFrame := pl.aliveFrame
      frame := pl.frame
      live := fun x hnf ha =>
        have hne := hliveNe x hnf ha
        ⟨fun hh => hne (by rw [hh]), hne, by rw [pl.aliveFrame x hne]; exact ha, pl.frame x.id hne⟩
      comps := by rw [pl.comps, hids0]
      poolLen := by rw [placedW_pool]; exact g.len
      tabLen := by
        rw [tbl_of_get (show (placedW w 0 true).tables[0]? = some _ by rw [hTab]; rfl)]
        exact Table.add_fst_len _ _ }

namespace World

/-- without observers and for a non-target, `RemoveEntity` of an alive handle on an unlocked
    world is the removal block; the callback runner `run` is not consulted -/
theorem opRemoveEntity_eq (run : ProbeRunner) (w : World) (e : Ent) (hl : w.isLocked = false)
    (ha : w.alive e = true) {t row : Nat} (hix : w.index e.id = (t, row))
    (hno : ∀ evt : Nat, w.obs.hasObservers evt = false)
    (hnt : w.isTarget.getD e.id false = false) :
    opRemoveEntity run e w = .ok () (removeRowOf w e t row) := by
  cases hsw : ((w.tbl t).remove row).2 <;>
  simp only [opRemoveEntity, bind, M.bind, checkLocked_unlocked w hl, M.get, M.assert, ha, if_true,
    hno, Bool.and_false, Bool.or_false, Bool.false_eq_true, if_false, hix, M.modify, hsw,
    removeRowOf, setTbl, hnt, pure, M.pure]

end World

open World in
/-- what `World.RemoveEntity` of a live handle guarantees (no components, no observers) -/
structure RemoveEntityPost (w : World) (fl : List Nat) (e : Ent) (w' : World) : Prop where
  /-- the invariant is kept; the ID is pushed on the free list -/
  winv : WInv w' (e.id :: fl)
  unlocked : w'.isLocked = false
  pool : w'.pool = w.pool.recycle e
  dead : w'.alive e = false
  /-- `Alive` is unchanged for every handle with another ID -/
  aliveFrame : ∀ h : Ent, h.id ≠ e.id → w'.alive h = w.alive h
  /-- every other ID keeps its component set and values -/
  frame : ∀ j : Nat, j ≠ e.id → SameEnt w w' j
  /-- every other alive handle stays alive and keeps everything -/
  live : ∀ h : Ent, h.id ∉ fl → w.alive h = true → h ≠ e →
    h.id ≠ e.id ∧ w'.alive h = true ∧ SameEnt w w' h.id
  /-- the removed ID points at no table any more -/
  unindexed : (∀ c : Comp, valOf w' e.id c = none) ∧ compsOf w' e.id = none
  poolLen : w'.pool.len + 1 = w.pool.len
  tabLen : (w'.tbl 0).len + 1 = (w.tbl 0).len

open World in
/-- Partial: needs `e.id ∉ fl`, i.e. the handle is genuine; a forged handle of a free slot with
    the bumped generation tests alive (`Ark.Props.C01Hist.forged_alive`).  Stands for
    `Ark.Props.C01.removeEntity_spec`. -/
theorem removeEntity_spec_partial (run : ProbeRunner) {w : World} {fl : List Nat} (h : WInv w fl)
    (hl : w.isLocked = false) (e : Ent) (h2 : 2 ≤ e.id) (hnf : e.id ∉ fl)
    (ha : w.alive e = true) :
    ∃ w', opRemoveEntity run e w = .ok () w' ∧ RemoveEntityPost w fl e w' := by
  obtain ⟨hlt, _, hs⟩ := (h.aliveIff e hnf).mp ha
  obtain ⟨t, row, hix, rl⟩ := h.link.removed h2 hnf ha (h.lenEq ▸ hlt)
  obtain rfl : t = 0 := h.table_zero rl.entry rl.tne
  refine ⟨removeRowOf w e 0 row, opRemoveEntity_eq run w e hl ha hix h.noObs (h.noTargets _), ?_⟩
  obtain ⟨_, hids0⟩ := h.tab0_get
  obtain ⟨T, hT1, _⟩ := h.tab0
  obtain ⟨_, _, _, _, rstale, rplen⟩ := Pool.recycle_spec w.pool fl e h.pool h2 hnf hs
  have hP := removeRowOf_pool w e 0 row
  have hTab : (removeRowOf w e 0 row).tables = [((w.tbl 0).remove row).1] := by
    rw [rl.tables, hT1]; rfl
  exact
    { winv := h.of_link rl.link (by rw [hP, rstale]; exact h.stale) hTab
        (by rw [Table.remove_ids]; exact hids0) (removeRowOf_obs w e 0 row)
        (fun i hi => removeRowOf_isTarget w e 0 row ▸ hi)
      unlocked := (congrArg Lock.isLocked (removeRowOf_locks w e 0 row)).trans hl
      pool := hP
      dead := rl.dead
      aliveFrame := rl.aliveFrame
      frame := rl.frame
      live := fun x hxf hxa hxe => by
        obtain ⟨_, _, hxs⟩ := (h.aliveIff x hxf).mp hxa
        have hne : x.id ≠ e.id := fun heq => by
          rw [heq, hs] at hxs
          exact hxe (Option.some.inj hxs).symm
        exact ⟨hne, by rw [rl.aliveFrame x hne]; exact hxa, rl.frame x.id hne⟩
      unindexed := (compsOf_unindexed rl.unindexed).symm
      poolLen := by rw [hP]; exact rplen
      tabLen := by
        rw [tbl_of_get (show (removeRowOf w e 0 row).tables[0]? = some _ by rw [hTab]; rfl),
          Table.remove_len]
        exact Nat.sub_add_cancel (Nat.zero_lt_of_lt rl.rowLt) }

theorem removeEntity_dead (run : World.ProbeRunner) (w : World) (hl : w.isLocked = false) (e : Ent)
    (hd : w.alive e = false) : World.opRemoveEntity run e w = .panic .deadEntity w :=
  World.opRemoveEntity_dead run w hl e hd

namespace World

/-- `Set` on an alive entity that has all the components, without `OnSetComponents`
    observers: the values are written, nothing else happens (no lock check: `Set` is allowed on
    a locked world) -/
theorem opSet_eq (run : ProbeRunner) (w : World) (e : Ent) (ids : List Comp)
    (vals : List (Comp × Val)) (ha : w.alive e = true)
    (hhas : (ids.all fun c => (w.tbl (w.index e.id).1).has c) = true)
    (hno : w.obs.hasObservers Ev.onSetComponents = false) :
    opSet run e ids vals w = .ok () (writeValsW w e vals) := by
  have h2 : (writeValsW w e vals).obs.hasObservers Ev.onSetComponents = false := hno
  simp only [opSet, bind, M.bind, M.get, M.assert, ha, if_true, hhas, writeVals_eq, h2,
    Bool.false_eq_true, if_false, pure, M.pure]

theorem opSet_missing (run : ProbeRunner) (w : World) (e : Ent) (ids : List Comp)
    (vals : List (Comp × Val)) (ha : w.alive e = true)
    (hhas : (ids.all fun c => (w.tbl (w.index e.id).1).has c) = false) :
    opSet run e ids vals w = .panic .missing w := by
  simp only [opSet, bind, M.bind, M.get, M.assert, ha, if_true, hhas, Bool.false_eq_true, if_false]

end World

open World in
theorem writeVals_winv {w : World} {fl : List Nat} (h : WInv w fl) (e : Ent) (h2 : 2 ≤ e.id)
    (hnf : e.id ∉ fl) (ha : w.alive e = true) (vals : List (Comp × Val)) :
    WInv (writeValsW w e vals) fl ∧
    (writeValsW w e vals).isLocked = w.isLocked ∧
    (∀ x : Ent, (writeValsW w e vals).alive x = w.alive x) ∧
    (∀ j : Nat, j ≠ e.id → SameEnt w (writeValsW w e vals) j) ∧
    (∀ c : Comp, (∀ cv ∈ vals, cv.1 ≠ c) → valOf (writeValsW w e vals) e.id c = valOf w e.id c) ∧
    compsOf (writeValsW w e vals) e.id = compsOf w e.id := by
  obtain ⟨row, he, _⟩ := h.live_entry h2 hnf ha
  have wr := h.link.writeVals he (by decide) vals
  obtain ⟨T', hT', _, hids⟩ := wr.tables
  obtain ⟨T, hT1, _⟩ := h.tab0
  exact ⟨h.of_link wr.link h.stale (by rw [hT', hT1]; rfl) (hids.trans h.tab0_get.2) rfl
    (fun _ hi => hi), rfl, fun _ => rfl, wr.frame, wr.unwritten, wr.comps⟩

open World in
theorem writeVals_rows {w : World} {fl : List Nat} (h : WInv w fl) (e : Ent) (h2 : 2 ≤ e.id)
    (hnf : e.id ∉ fl) (ha : w.alive e = true) (vals : List (Comp × Val)) :
    ((writeValsW w e vals).tbl 0).len = (w.tbl 0).len := by
  obtain ⟨row, he, _⟩ := h.live_entry h2 hnf ha
  exact (h.link.writeVals he (by decide) vals).rowsLen 0

open World in
theorem opSet_spec (run : ProbeRunner) {w : World} {fl : List Nat} (h : WInv w fl) (e : Ent)
    (h2 : 2 ≤ e.id) (hnf : e.id ∉ fl) (ha : w.alive e = true) (vals : List (Comp × Val)) :
    ∃ w', opSet run e [] vals w = .ok () w' ∧ WInv w' fl ∧ w'.isLocked = w.isLocked ∧
      (∀ x : Ent, w'.alive x = w.alive x) ∧
      (∀ j : Nat, j ≠ e.id → SameEnt w w' j) ∧
      (∀ c : Comp, (∀ cv ∈ vals, cv.1 ≠ c) → valOf w' e.id c = valOf w e.id c) ∧
      compsOf w' e.id = compsOf w e.id :=
  ⟨writeValsW w e vals, opSet_eq run w e [] vals ha rfl (h.noObs _), writeVals_winv h e h2 hnf ha vals⟩

open World in
/-- in this fragment entities have no components: `Set` with a non-empty component list on a
    live entity panics `missing`, state unchanged -/
theorem opSet_missing_frag (run : ProbeRunner) {w : World} {fl : List Nat} (h : WInv w fl)
    (e : Ent) (h2 : 2 ≤ e.id) (hnf : e.id ∉ fl) (ha : w.alive e = true) (c : Comp)
    (ids : List Comp) (vals : List (Comp × Val)) :
    opSet run e (c :: ids) vals w = .panic .missing w := by
  obtain ⟨row, he, _⟩ := h.live_entry h2 hnf ha
  obtain ⟨_, hids0⟩ := h.tab0_get
  apply opSet_missing run w e (c :: ids) vals ha
  have : (w.tbl (w.index e.id).1).has c = false := by
    rw [index_of_get he]
    simp only [Table.has, Table.colIdx, hids0]
    rfl
  simp only [List.all_cons, this, Bool.false_and]

theorem opSet_dead (run : World.ProbeRunner) (w : World) (e : Ent) (hd : w.alive e = false)
    (ids : List Comp) (vals : List (Comp × Val)) :
    World.opSet run e ids vals w = .panic .deadEntity w :=
  World.opSet_dead run w e hd ids vals

open World in
theorem newEntity0_run_indep (run run' : ProbeRunner) {w : World} {fl : List Nat} (h : WInv w fl)
    (hl : w.isLocked = false) : opNewEntity0 run w = opNewEntity0 run' w := by
  rw [opNewEntity0_eq run w hl (h.noObs _), opNewEntity0_eq run' w hl (h.noObs _)]

open World in
theorem removeEntity_run_indep (run run' : ProbeRunner) {w : World} {fl : List Nat}
    (h : WInv w fl) (hl : w.isLocked = false) (e : Ent)
    (hgen : w.alive e = true → 2 ≤ e.id ∧ e.id ∉ fl) :
    opRemoveEntity run e w = opRemoveEntity run' e w := by
  cases ha : w.alive e with
  | false => rw [opRemoveEntity_dead run w hl e ha, opRemoveEntity_dead run' w hl e ha]
  | true =>
    obtain ⟨h2, hnf⟩ := hgen ha
    obtain ⟨row, he, _⟩ := h.live_entry h2 hnf ha
    rw [opRemoveEntity_eq run w e hl ha (index_of_get he) h.noObs (h.noTargets _),
      opRemoveEntity_eq run' w e hl ha (index_of_get he) h.noObs (h.noTargets _)]

open World in
theorem opSet_run_indep (run run' : ProbeRunner) {w : World} {fl : List Nat} (h : WInv w fl)
    (e : Ent) (ids : List Comp) (vals : List (Comp × Val)) :
    opSet run e ids vals w = opSet run' e ids vals w := by
  cases ha : w.alive e with
  | false => rw [World.opSet_dead run w e ha, World.opSet_dead run' w e ha]
  | true =>
    cases hhas : (ids.all fun c => (w.tbl (w.index e.id).1).has c) with
    | false => rw [opSet_missing run w e ids vals ha hhas, opSet_missing run' w e ids vals ha hhas]
    | true =>
      rw [opSet_eq run w e ids vals ha hhas (h.noObs _),
        opSet_eq run' w e ids vals ha hhas (h.noObs _)]

end Ark
