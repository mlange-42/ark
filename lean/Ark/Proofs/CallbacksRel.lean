/-
  `World.setRelations` with observers and a read-only callback runner.  The joint invariant `TInv`
  of the relation fragment reads neither observers, log nor lock (`TInvObs`).  The change mask
  handed to `FireSetRelations` is the set of the relation components named whose target DIFFERS
  from the one stored (`changedComps`).  An accepted call that changes some target is the
  observer-free state change with the log extended by the `OnRemoveRelations` round (on the LOCKED
  world before the move) and the `OnAddRelations` round (on the world after it)
  (`setRelTail_obs_eq`); whatever the observer-free call does, the call with observers does, on
  the reframed world (`setRelationsCore_lifts`).
-/
import Ark.Proofs.CallbacksOps
import Ark.Proofs.TargetsSetRel

set_option autoImplicit false

namespace Ark

open World Spec Ark.Props.C01World QueryExact

/-! ## 0. the joint invariant of the relation fragment reads neither observers, log, lock nor the
    statistics object -/

theorem TInv.put4 {w : World} {fl : List Nat} (h : TInv w fl)
    (x : ObsMgr × List LogEv × Lock × WorldStats) : TInv (w.put4 x) fl where
  rel :=
    { sinv := h.rel.sinv.congr rfl rfl rfl
      rinv := h.rel.rinv
      aux := ⟨h.rel.aux.targets, h.rel.aux.rels, h.rel.aux.relArchs, h.rel.aux.cacheRels⟩ }
  flags := h.flags
  freeEmpty := h.freeEmpty
  link :=
    { idx := h.link.idx.congr rfl rfl
      pool := h.link.pool
      stale := h.link.stale
      lenEq := h.link.lenEq
      tgtLen := h.link.tgtLen
      freeUnindexed := h.link.freeUnindexed
      reservedUnindexed := h.link.reservedUnindexed
      liveIndexed := h.link.liveIndexed
      fewTables := h.link.fewTables }
  kindsLe := h.kindsLe

theorem TInv.reframe {w : World} {fl : List Nat} (h : TInv w fl) (o : ObsMgr) (lg : List LogEv)
    (lk : Lock) : TInv (w.reframe o lg lk) fl := h.put4 (o, lg, lk, w.stats)

theorem TInv.of_reframe {w : World} {fl : List Nat} {o : ObsMgr} {lg : List LogEv} {lk : Lock}
    (h : TInv (w.reframe o lg lk) fl) : TInv w fl := by
  have := h.reframe w.obs w.log w.locks
  rwa [reframe_reframe, reframe_self] at this

/-- **the joint invariant of the relation fragment WITH observers**: `TInv` (which says nothing
    about observers) of the world without its observers, and the observer setting `ObsOK` -/
structure TInvObs (w : World) (fl : List Nat) : Prop where
  tinv : TInv w.noObs fl
  obs : ObsOK w.obs

theorem tinvObs_iff (w : World) (fl : List Nat) : TInvObs w fl ↔ TInv w fl ∧ ObsOK w.obs :=
  ⟨fun h => ⟨by have := h.tinv; rw [noObs_eq_reframe] at this; exact this.of_reframe, h.obs⟩,
   fun h => ⟨by rw [noObs_eq_reframe]; exact h.1.reframe _ _ _, h.2⟩⟩

theorem TInvObs.toTInv {w : World} {fl : List Nat} (h : TInvObs w fl) : TInv w fl :=
  ((tinvObs_iff w fl).1 h).1

theorem TInvObs.frame {w w0 : World} {fl fl' : List Nat} (h : TInvObs w fl) (h0 : TInv w0 fl')
    (lg : List LogEv) (lk : Lock) : TInvObs (w0.reframe w.obs lg lk) fl' :=
  ⟨h0.reframe _ _ _, h.obs⟩

namespace World

theorem noObs_hasObservers (w : World) (evt : Nat) : w.noObs.obs.hasObservers evt = false := rfl

/-! ## 1. the change mask -/

/-- whether the relation `r` names a relation column of `T` whose stored target differs -/
def relDiffers (T : Table) (r : RelID) : Bool :=
  match T.colIdx r.comp with
  | some i => !(r.target == T.targets.getD i Ent.zero)
  | none => false

/-- the relation components named by `rels` whose target differs from the one stored in `T` -/
def changedComps (T : Table) (rels : List RelID) : List Comp :=
  (rels.filter (relDiffers T)).map (·.comp)

theorem getExchangeTargets_go_mask (T : Table) (w : World) : ∀ (rels : List RelID) (ts : List Ent)
    (ch : Bool) (cm : Mask) (seen : List Comp) {ts' : List Ent} {ch' : Bool} {cm' : Mask} {s : World},
    (rels.map (·.comp)).Nodup →
    (∀ (r : RelID), r ∈ rels → ∀ (i : Nat), T.colIdx r.comp = some i →
      ts.getD i Ent.zero = T.targets.getD i Ent.zero) →
    getExchangeTargets.go T w ts ch cm seen rels = .ok (ts', ch', cm') s →
    cm' = (changedComps T rels).foldl Mask.set cm ∧
    ch' = (ch || !(changedComps T rels).isEmpty)
  | [], ts, ch, cm, seen, ts', ch', cm', s, _, _, hok => by
    simp only [getExchangeTargets.go] at hok
    injection hok with h1 _
    obtain ⟨_, h2, h3⟩ := Prod.mk.inj h1 |>.imp id Prod.mk.inj
    subst h2; subst h3
    simp [changedComps]
  | r :: rest, ts, ch, cm, seen, ts', ch', cm', s, hnd, hts, hok => by
    rw [List.map_cons, List.nodup_cons] at hnd
    simp only [getExchangeTargets.go] at hok
    split at hok
    · cases hok
    · split at hok
      · cases hok
      · rename_i i hc
        split at hok
        · cases hok
        · have hti := hts r List.mem_cons_self i hc
          split at hok
          · -- the same target: nothing recorded
            rename_i heq
            have hrest : ∀ (r' : RelID), r' ∈ rest → ∀ (j : Nat), T.colIdx r'.comp = some j →
                ts.getD j Ent.zero = T.targets.getD j Ent.zero :=
              fun r' hr' j hj => hts r' (List.mem_cons_of_mem _ hr') j hj
            obtain ⟨e1, e2⟩ := getExchangeTargets_go_mask T w rest ts ch cm _ hnd.2 hrest hok
            have hd : relDiffers T r = false := by
              simp only [relDiffers, hc, ← hti, heq, Bool.not_true]
            simp only [changedComps, List.filter_cons, hd, Bool.false_eq_true, if_false]
            exact ⟨e1, e2⟩
          · rename_i hneq
            have hrest : ∀ (r' : RelID), r' ∈ rest → ∀ (j : Nat), T.colIdx r'.comp = some j →
                (ts.set i r.target).getD j Ent.zero = T.targets.getD j Ent.zero := by
              intro r' hr' j hj
              have hji : i ≠ j := by
                intro hij
                subst hij
                have := colIdx_inj hc hj
                exact hnd.1 (List.mem_map.2 ⟨r', hr', this.symm⟩)
              rw [List.getD_eq_getElem?_getD, List.getElem?_set_ne hji, ← List.getD_eq_getElem?_getD]
              exact hts r' (List.mem_cons_of_mem _ hr') j hj
            obtain ⟨e1, e2⟩ := getExchangeTargets_go_mask T w rest _ true (cm.set r.comp) _
              hnd.2 hrest hok
            have hd : relDiffers T r = true := by
              simp only [relDiffers, hc, ← hti]
              cases hb : (r.target == ts.getD i Ent.zero) with
              | true => exact absurd hb hneq
              | false => rfl
            simp only [changedComps, List.filter_cons, hd, if_true, List.map_cons, List.foldl_cons,
              List.isEmpty_cons, Bool.not_false, Bool.or_true]
            exact ⟨e1, by rw [e2]; rfl⟩

/-- **the change mask** of an accepted scan: the set of the relation components named whose
    target differs from the one stored; `changed` says whether there is any -/
theorem getExchangeTargets_mask (T : Table) (rels : List RelID) (w : World)
    (hnd : (rels.map (·.comp)).Nodup) {newRels : List RelID} {ch : Bool} {cm : Mask} {s : World}
    (hok : getExchangeTargets T rels w = .ok (newRels, ch, cm) s) :
    cm = Mask.ofList (changedComps T rels) ∧ ch = !(changedComps T rels).isEmpty := by
  unfold getExchangeTargets at hok
  cases hg : getExchangeTargets.go T w T.targets false Mask.empty [] rels with
  | panic k s' => rw [hg] at hok; cases hok
  | ok r s' =>
    obtain ⟨ts, ch0, cm0⟩ := r
    rw [hg] at hok
    obtain ⟨e1, e2⟩ := getExchangeTargets_go_mask T w rels T.targets false Mask.empty [] hnd
      (fun _ _ _ _ => rfl) hg
    simp only [Bool.false_or] at e2
    cases hch : ch0 with
    | false =>
      simp only [hch, Bool.not_false, if_true] at hok
      injection hok with h1 _
      obtain ⟨_, h2, h3⟩ := Prod.mk.inj h1 |>.imp id Prod.mk.inj
      subst h2; subst h3
      exact ⟨e1, by rw [← e2, hch]⟩
    | true =>
      simp only [hch, Bool.not_true, Bool.false_eq_true, if_false] at hok
      injection hok with h1 _
      obtain ⟨_, h2, h3⟩ := Prod.mk.inj h1 |>.imp id Prod.mk.inj
      subst h2; subst h3
      exact ⟨e1, by rw [← e2, hch]⟩

end World

/-! ## 2. the part of `World.setRelations` after the table lookup (`setRelTail`, `Proofs/TargetsSetRel`),
with observers -/

section Ops

variable {run : ProbeRunner} {S : Probe → Prop} {rec : World → Nat → Ent → Probe → List LogEv}

/-- what the `OnRemoveRelations` round of `SetRelations` appends to the log: the observers the
    documented rule selects for (changed components `cm`, entity mask `mask`), run on `seen` -/
def relRemLog (rec : World → Nat → Ent → Probe → List LogEv) (m : ObsMgr) (e : Ent) (cm mask : Mask)
    (seen : World) : List LogEv :=
  notifyAll rec e (firing m Ev.onRemoveRelations (.set cm mask)) seen

def relAddLog (rec : World → Nat → Ent → Probe → List LogEv) (m : ObsMgr) (e : Ent) (cm mask : Mask)
    (seen : World) : List LogEv :=
  notifyAll rec e (firing m Ev.onAddRelations (.set cm mask)) seen

/-- **the tail of `World.setRelations` with observers**: on a world `w1` (after the table
    lookup) whose lock hands out a bit: the `OnRemoveRelations` observers the documented rule
    selects are notified on the LOCKED world `w1.withLocks l1` (the entity still in its old row),
    the lock is released, the row is moved and the targets are flagged (`w2`), then the
    `OnAddRelations` observers are notified on that world. -/
theorem setRelTail_obs_eq (hro : ReadOnly run S rec) (e : Ent) (rels : List RelID)
    (oldT row nt a : Nat) (cm : Mask) (w1 : World) (hs : ScriptsIn w1.obs S) (hok : ObsOK w1.obs)
    {l1 l2 : Lock} {b : Nat} (hL : LockCycle w1.locks l1 b l2) :
    setRelTail run e rels oldT row nt a cm w1 = .ok ()
      (((registerW (addMove w1 e oldT row nt (w1.arch a).mask) rels).reframe w1.obs
          (relRemLog rec w1.obs e cm (w1.arch a).mask (w1.withLocks l1) ++ w1.log)
          (lockAfter w1 Ev.onRemoveRelations l2)).addLog
        (relAddLog rec w1.obs e cm (w1.arch a).mask
          ((registerW (addMove w1 e oldT row nt (w1.arch a).mask) rels).reframe w1.obs
            (relRemLog rec w1.obs e cm (w1.arch a).mask (w1.withLocks l1) ++ w1.log)
            (lockAfter w1 Ev.onRemoveRelations l2)))) := by
  have hmask : ((registerW (addMove w1 e oldT row nt (w1.arch a).mask) rels).arch a).mask
      = (w1.arch a).mask := by
    show ((addMove w1 e oldT row nt (w1.arch a).mask).archetypes.getD a default).mask = _
    rw [(addMove_fields w1 e oldT row nt (w1.arch a).mask).2.2.1]
    rfl
  -- the move and the flags, on `w1` in any frame
  have hpure : ∀ (X : World) (k : W Unit),
      ((fun w => Res.ok ((w.tbl nt).add e).snd (w.setTbl nt ((w.tbl nt).add e).fst) : W Nat) >>=
        fun newIndex => moveRow e oldT row nt newIndex (w1.arch a).mask >>= fun _ =>
          registerTargets rels >>= fun _ => k) X
        = k (registerW (addMove X e oldT row nt (w1.arch a).mask) rels) := fun _ _ => rfl
  unfold setRelTail relRemLog relAddLog
  rw [M.bind_apply, M.get_apply]
  refine (lockedRound_eq hok hL _ _ e (fireSet_readOnly hro hs hok _ (by decide) e cm _ true)
    _).trans ?_
  rw [hpure, addMove_reframe, registerW_reframe, M.bind_apply, M.get_apply]
  simp only [arch_reframe, hmask]
  exact guardedRound_eq hok _ _ e (fireSet_readOnly hro hs hok _ (by decide) e cm _ true) _ rfl

/-- the result of `World.setRelations` with observers, given the observer-free result `w0`, the
    world `w1` after the table lookup, the change mask and the entity's mask -/
def setRelResult (rec : World → Nat → Ent → Probe → List LogEv) (w w1 w0 : World) (e : Ent)
    (cm mask : Mask) (l1 l2 : Lock) : World :=
  (w0.reframe w.obs
      (relRemLog rec w.obs e cm mask (w1.reframe w.obs w.log l1) ++ w.log)
      (lockAfter w Ev.onRemoveRelations l2)).addLog
    (relAddLog rec w.obs e cm mask
      (w0.reframe w.obs
        (relRemLog rec w.obs e cm mask (w1.reframe w.obs w.log l1) ++ w.log)
        (lockAfter w Ev.onRemoveRelations l2)))

/-! ## 3. transfer from the observer-free call -/

theorem commutes_getExchangeTargets (T : Table) (rels : List RelID) :
    Commutes put4 (getExchangeTargets T rels) :=
  Commutes.of_reader get4 (fun _ => rfl) fun w y => getExchangeTargets_any T rels w (put4 w y)

/-- **`World.setRelations` with observers, from the observer-free call.**  A rejection is a
    rejection with observers, with the same panic, on the same world (observers, log and lock put
    back): all checks precede the events.  An accepted call is accepted (given a lock that hands
    out a bit): either no target differs — then nothing at all happens, no observer is notified —,
    or some does: then, with `x1` the world (without observers) after the table lookup, the result
    is the observer-free result `x0` with the observers put back and the log extended as
    `setRelResult` says: the `OnRemoveRelations` observers the documented rule selects for (the set
    of relation components whose target differs, the entity's mask), on `x1` LOCKED; then the
    `OnAddRelations` observers likewise, on the result. -/
theorem setRelationsCore_lifts (run run0 : ProbeRunner) (e : Ent) (rels : List RelID) (o : ObsMgr)
    (lg : List LogEv) (x : World) :
    Lifts o lg (setRelationsCore run e rels) (setRelationsCore run0 e rels) x fun _ x0 r =>
      ∀ {S : Probe → Prop} {rec : World → Nat → Ent → Probe → List LogEv}, ReadOnly run S rec →
        ScriptsIn o S → ObsOK o → ∀ {l1 l2 : Lock} {b : Nat}, LockCycle x.locks l1 b l2 →
      (changedComps (x.tbl (x.index e.id).1) rels = [] ∧ x0 = x ∧ r = .ok () (x.relog o lg)) ∨
      (changedComps (x.tbl (x.index e.id).1) rels ≠ [] ∧
        ∃ (newRels : List RelID) (cm : Mask) (nt : Nat) (x1 : World),
          getExchangeTargets (x.tbl (x.index e.id).1) rels x = .ok (newRels, true, cm) x ∧
          getOrCreate (x.tbl (x.index e.id).1).arch newRels x = .ok nt x1 ∧
          x0 = registerW (addMove x1 e (x.index e.id).1 (x.index e.id).2 nt
            (x1.arch (x.tbl (x.index e.id).1).arch).mask) rels ∧
          r = .ok () (setRelResult rec (x.relog o lg) x1 x0 e
            (Mask.ofList (changedComps (x.tbl (x.index e.id).1) rels))
            (x1.arch (x.tbl (x.index e.id).1).arch).mask l1 l2)) := by
  unfold setRelationsCore
  -- the checks in front of the scan read nothing observers could change: rejected alike in both versions
  refine Lifts.check commutes_checkLocked checkLocked_state fun _ _ => ?_
  refine Lifts.get ?_
  refine Lifts.check (Commutes.assert _ _) (assert_state _ _) fun _ _ => ?_
  refine Lifts.check (Commutes.assert _ _) (assert_state _ _) fun _ _ => ?_
  simp only [index_relog, tbl_relog]
  cases x.index e.id with
  | mk oldT row =>
  refine Lifts.check (commutes_getExchangeTargets _ _).to3 (getExchangeTargets_state _ _) fun r hx => ?_
  obtain ⟨newRels, ch, cm⟩ := r
  -- an accepted scan has named no relation component twice (`getExchangeTargets` panics on a
  -- repetition, the check of defect D19): `Nodup` is derived from `hx`, not assumed
  have hnd : (rels.map (·.comp)).Nodup := by
    apply Classical.byContradiction
    intro hnn
    obtain ⟨k, hk⟩ := getExchangeTargets_not_nodup (x.tbl oldT) rels x hnn
    rw [hk] at hx; cases hx
  obtain ⟨hcm, hch⟩ := getExchangeTargets_mask (x.tbl oldT) rels x hnd hx
  cases ch with
  | false =>
    -- no target differs: both versions end here, and `hch` makes `changedComps` empty
    refine Lifts.leaf (x' := x) (b := ()) (fun _ => rfl) fun _ => ?_
    intro S rec _ _ _ l1 l2 b _
    refine Or.inl ⟨?_, rfl, rfl⟩
    cases hcc : changedComps (x.tbl oldT) rels with
    | nil => rfl
    | cons c cs => rw [hcc] at hch; cases hch
  | true =>
    have hcc : changedComps (x.tbl oldT) rels ≠ [] := by
      intro hcc; rw [hcc] at hch; cases hch
    -- the lookup is one `getOrCreate` run, common to both versions
    refine Lifts.congr (getOrCreate_bind _ _ fun nt => setRelTail run e rels oldT row nt _ cm)
      (getOrCreate_bind _ _ fun nt => setRelTail run0 e rels oldT row nt _ cm) ?_
    refine Lifts.bind (commutes_getOrCreate _ _) fun nt x1 hgo hlocks => ?_
    -- without observers the tail is the move and the registration; with them `setRelTail_obs_eq` computes
    -- it, and what is left is pushing `reframe` through the transformers
    refine Lifts.leaf
      (x' := registerW (addMove x1 e oldT row nt (x1.arch (x.tbl oldT).arch).mask) rels) (b := ())
      (fun hx1 => setRelTail_eq run0 e rels oldT row nt _ cm x1 fun _ => by rw [hx1]; rfl) fun _ => ?_
    intro S rec hro hs hok l1 l2 b hL
    refine Or.inr ⟨hcc, newRels, cm, nt, x1, hx, hgo, rfl, ?_⟩
    rw [← hcm, setRelTail_obs_eq hro e rels oldT row nt _ cm (x1.relog o lg) hs hok
      (by rw [← hlocks] at hL; exact hL)]
    unfold setRelResult lockAfter
    simp only [relog_eq_reframe, arch_reframe, addMove_reframe, registerW_reframe,
      reframe_reframe, withLocks_reframe, reframe_obs, reframe_log, reframe_locks, hlocks]
    rfl

/-- `SetRelations` through any path: the pre-validation in front -/
theorem opSetRelations_lifts (run run0 : ProbeRunner) (p : Path) (e : Ent) (mapperIds : List Comp)
    (rels : List RelID) (o : ObsMgr) (lg : List LogEv) (x : World)
    {Q : Unit → World → Res World Unit → Prop}
    (h : Lifts o lg (setRelationsCore run e rels) (setRelationsCore run0 e rels) x Q) :
    Lifts o lg (opSetRelations run p e mapperIds rels) (opSetRelations run0 p e mapperIds rels) x Q :=
  Lifts.check (commutes_preCheck _ _ _).to3 (preCheck_state _ _ _) fun _ _ => h

/-- **every accepted observer-free `SetRelations` is accepted with observers**, with the result
    `setRelationsCore_lifts` describes -/
theorem opSetRelations_transfer_ok (hro : ReadOnly run S rec) (run0 : ProbeRunner) (p : Path)
    (e : Ent) (mapperIds : List Comp) (rels : List RelID) (w : World) (hs : ScriptsIn w.obs S)
    (hok : ObsOK w.obs) {l1 l2 : Lock} {b : Nat} (hL : LockCycle w.locks l1 b l2) {w0 : World}
    (h0 : opSetRelations run0 p e mapperIds rels w.noObs = .ok () w0) :
    setRelationsCore run0 e rels w.noObs = .ok () w0 ∧
    ((changedComps (w.tbl (w.index e.id).1) rels = [] ∧ w0 = w.noObs ∧
      opSetRelations run p e mapperIds rels w = .ok () w) ∨
    (changedComps (w.tbl (w.index e.id).1) rels ≠ [] ∧
      ∃ (newRels : List RelID) (nt : Nat) (w1 : World),
        getOrCreate (w.tbl (w.index e.id).1).arch newRels w.noObs = .ok nt w1 ∧
        w0 = registerW (addMove w1 e (w.index e.id).1 (w.index e.id).2 nt
          (w1.arch (w.tbl (w.index e.id).1).arch).mask) rels ∧
        opSetRelations run p e mapperIds rels w = .ok ()
          (setRelResult rec w w1 w0 e (Mask.ofList (changedComps (w.tbl (w.index e.id).1) rels))
            (w1.arch (w.tbl (w.index e.id).1).arch).mask l1 l2))) := by
  refine ⟨opSetRelations_ok_core h0,
    ((opSetRelations_lifts run run0 p e mapperIds rels w.obs w.log w.noObs
      (setRelationsCore_lifts run run0 e rels w.obs w.log w.noObs)).ok h0 hro hs hok hL).imp id ?_⟩
  rintro ⟨hc, newRels, _, nt, w1, _, hg, hw0, hop⟩
  exact ⟨hc, newRels, nt, w1, hg, hw0, hop⟩

end Ops

end Ark
