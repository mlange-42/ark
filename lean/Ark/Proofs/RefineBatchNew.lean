/-
  The batch creation `NewBatch(n, ids…)` (no callback) as a step of the refinement machine.  For
  `n > 0` the batch step IS the run of the `n` single `NewEntity` steps: the same world, handles
  (issued in the same order) and specification.  The empty batch still looks the table up, and
  creates archetype and table if they did not exist.  A batch creates at most ONE table.
-/
import Ark.Proofs.RefineBatch

set_option autoImplicit false

namespace Ark

open World Ark.Props.C01World

namespace World

theorem opNewBatch_dup (run : ProbeRunner) (p : Path) (n : Nat) (ids : List Comp)
    (vals : List (Comp × Val)) (w : World) (hl : w.isLocked = false)
    (hb : ∀ (c : Comp), c ∈ ids → c < 256) (hd : ¬ ids.Nodup) :
    opNewBatch run p n ids vals [] false w = .panic .alreadyHas w := by
  have hrej := findOrCreateTableAdd_reject' 0 Mask.empty ids [] w hb (fun hh => hd hh.1)
  cases p <;>
  simp [opNewBatch, preCheck, preCheckMap, preCheckTyped, M.forM', bind, M.bind,
    checkLocked_unlocked w hl, hrej, pure, M.pure]

end World

namespace RefineB

open Refine

theorem map_getD_range {α : Type} (es : List α) (d : α) :
    (List.range es.length).map (fun i => es.getD i d) = es := by
  apply List.ext_getElem
  · simp
  · intro i h1 h2
    simp only [List.getElem_map, List.getElem_range, List.getD_eq_getElem?_getD,
      List.getElem?_eq_getElem h2, Option.getD_some]

theorem specNewAll_eq_foldl (ss : SS) (p : Path) (ids : List Comp) (es : List Ent) :
    specNewAll ss p ids es es.length = es.foldl (fun ss e => specStep ss e (.new p ids [])) ss := by
  have h := List.foldl_map (f := fun i => es.getD i default)
    (g := fun ss e => specStep ss e (.new p ids [])) (l := List.range es.length) (init := ss)
  rw [map_getD_range] at h
  exact h.symm

theorem specStep_new_zst (ss : SS) (fresh : Ent) (p : Path) (ids : List Comp) (vals : Comps) :
    (specStep ss fresh (.new p ids vals)).zst = ss.zst := by
  simp only [specStep]
  split <;> rfl

theorem specNewAll_of_not_pre (ss : SS) (p : Path) (ids : List Comp) (fresh : List Ent) (n : Nat)
    (h : ¬ (ids.Nodup ∧ ∀ c ∈ ids, c < ss.zst.length)) : specNewAll ss p ids fresh n = ss := by
  unfold specNewAll
  induction (List.range n) with
  | nil => rfl
  | cons i l ih =>
    rw [List.foldl_cons]
    have : specStep ss (fresh.getD i default) (.new p ids []) = ss := by
      simp only [specStep]; exact if_neg h
    rw [this]; exact ih

/-- **`n` single creations of the model are `n` steps of `Ark.Refine`** -/
theorem runOps_news (run : ProbeRunner) (p : Path) (ids : List Comp) : ∀ (n : Nat) (s : St)
    (es : List Ent) (w' : World), guard s (.new p ids []) = true →
    newEntitiesSeq run p ids [] n s.w = .ok es w' →
    runOps run s (List.replicate n (.new p ids [])) =
      ⟨w', es.reverse ++ s.issued, es.foldl (fun ss e => specStep ss e (.new p ids [])) s.ss⟩
  | 0, s, es, w', _, h => by
    simp only [newEntitiesSeq, pure, M.pure] at h
    injection h with h1 h2
    subst h1; subst h2
    rfl
  | n + 1, s, es, w', hg, h => by
    simp only [newEntitiesSeq, bind, M.bind] at h
    cases h1 : opNewEntity run p ids [] [] s.w with
    | panic k w1 => rw [h1] at h; cases h
    | ok e w1 =>
      rw [h1] at h
      simp only at h
      cases h2 : newEntitiesSeq run p ids [] n w1 with
      | panic k w2 => rw [h2] at h; cases h
      | ok es1 w2 =>
        rw [h2] at h
        simp only [pure, M.pure] at h
        injection h with h3 h4
        subst h3; subst h4
        have hex : exec run s.w (.new p ids []) = .ok (some e) w1 := by simp only [exec, h1]
        have hstep : step run s (.new p ids []) =
            ⟨w1, e :: s.issued, specStep s.ss e (.new p ids [])⟩ := by
          rw [step_of_guard_nr hg rfl, hex]
          simp only [Res.state, retOf, Option.getD_some]
        have hg1 : guard (step run s (.new p ids [])) (.new p ids []) = true := by
          rw [hstep]
          simp only [Refine.guard, specStep_new_zst]
          exact hg
        show runOps run (step run s (.new p ids [])) (List.replicate n (.new p ids [])) = _
        rw [runOps_news run p ids n _ es1 w2 hg1 (by rw [hstep]; exact h2), hstep]
        simp only [List.reverse_cons, List.append_assoc, List.singleton_append, List.foldl_cons]

theorem afterLookup_fields {w : World} {fl : List Nat} (h : CInv w fl) {ids : List Comp}
    (hnd : ids.Nodup) (hreg : ∀ (c : Comp), c ∈ ids → c < w.kinds.length) {r : Nat × Nat × Mask}
    {w1 : World} (hok : findOrCreateTableAdd 0 Mask.empty ids [] w = .ok r w1) :
    w1.kinds = w.kinds ∧ w1.maxComps = w.maxComps ∧ w1.locks = w.locks ∧
    w1.tables.length ≤ w.tables.length + 1 := by
  obtain ⟨t, a, w2, hok2, fc, _, _, _⟩ :=
    h.sinv.findOrCreateTableAdd_spec_new h.idx hnd hreg (fun c _ => h.noRelKinds c)
  rw [hok] at hok2
  injection hok2 with _ hw
  subst hw
  have hu := findOrCreateTableAdd_untouched hok
  exact ⟨fc.kinds, hu.maxComps, hu.locks, findOrCreateTableAdd_tables_len hok⟩

/-- **for `n > 0` the batch creation step is the run of `n` single creation steps** -/
theorem stepB_newb_eq_singles (run : ProbeRunner) {s : St} {fl : List Nat} (H : HInvB s fl)
    (p : Path) {n : Nat} (hpos : 0 < n) (ids : List Comp) (vals : Comps)
    (hroom : Room s (.newb p n ids vals)) (hg : guardB s (.newb p n ids vals) = true)
    (hp : preB s.ss (.newb p n ids vals)) :
    ∃ (es : List Ent) (w' : World),
      execB run s.w (.newb p n ids vals) = .ok es w' ∧ es.length = n ∧
      newEntitiesSeq run p ids [] n s.w = .ok es w' ∧
      stepB run s (.newb p n ids vals) = runOps run s (List.replicate n (.new p ids [])) := by
  have hC := H.hinv.cinv
  obtain ⟨hnd, hreg⟩ := hp
  have hreg' : ∀ (c : Comp), c ∈ ids → c < s.w.kinds.length := by rw [← H.hinv.zlen]; exact hreg
  obtain ⟨hfew, _, hent⟩ := hroom
  have hrows : ∀ t : Nat, (s.w.tbl t).len + n < 2 ^ 32 := by
    intro t
    have := hC.idx.rows_le t
    omega
  obtain ⟨t, start, es, w', hb, hs, hes, hlen, _, _⟩ :=
    opNewBatch_eq_singles run p hC H.hinv.unlocked hnd hreg' vals hpos hfew hrows
  have hex : execB run s.w (.newb p n ids vals) = .ok es w' := by
    simp only [execB, hb]
    rw [hes]
  have hg' : guard s (.new p ids []) = true := hg
  refine ⟨es, w', hex, hlen, hs, ?_⟩
  rw [runOps_news run p ids n s es w' hg' hs]
  rw [show stepB run s (.newb p n ids vals) = _ from stepBatch_ok run hg hex]
  show (⟨w', _, specNewAll s.ss p ids es n⟩ : St) = _
  rw [← hlen, specNewAll_eq_foldl]

theorem step_newb (run : ProbeRunner) {s : St} {fl : List Nat} (H : HInvB s fl)
    (p : Path) (n : Nat) (ids : List Comp) (vals : Comps)
    (hroom : Room s (.newb p n ids vals)) :
    (∃ fl', HInvB (stepB run s (.newb p n ids vals)) fl') ∧
    (stepB run s (.newb p n ids vals)).w.tables.length ≤ s.w.tables.length + max n 1 ∧
    (stepB run s (.newb p n ids vals)).w.entities.length ≤ s.w.entities.length + n ∧
    (guardB s (.newb p n ids vals) = true → ¬ preB s.ss (.newb p n ids vals) →
      (∃ k, execB run s.w (.newb p n ids vals) = .panic k s.w) ∧
      stepB run s (.newb p n ids vals) = s) ∧
    (guardB s (.newb p n ids vals) = true → preB s.ss (.newb p n ids vals) →
      ∃ es w', execB run s.w (.newb p n ids vals) = .ok es w' ∧ es.length = n) := by
  have hC := H.hinv.cinv
  by_cases hg : guardB s (.newb p n ids vals) = true
  case neg =>
    have : stepB run s (.newb p n ids vals) = s := stepBatch_of_not_guard run hg
    rw [this]
    exact ⟨⟨fl, H⟩, Nat.le_add_right _ _, Nat.le_add_right _ _, fun h => absurd h hg,
      fun h => absurd h hg⟩
  have hreg : ∀ c ∈ ids, c < s.ss.zst.length := by
    simpa only [guardB, List.all_eq_true, decide_eq_true_eq] using hg
  have hreg' : ∀ (c : Comp), c ∈ ids → c < s.w.kinds.length := by rw [← H.hinv.zlen]; exact hreg
  by_cases hnd : ids.Nodup
  case neg =>
    have hb256 : ∀ (c : Comp), c ∈ ids → c < 256 := fun c hc => hC.reg_lt_256 (hreg' c hc)
    have hop := opNewBatch_dup run p n ids vals s.w H.hinv.unlocked hb256 hnd
    have hex : execB run s.w (.newb p n ids vals) = .panic .alreadyHas s.w := by
      simp only [execB, hop]
    have hnp : ¬ (ids.Nodup ∧ ∀ c ∈ ids, c < s.ss.zst.length) := fun hh => hnd hh.1
    have hst : stepB run s (.newb p n ids vals) = s :=
      stepBatch_panic run hg hex (specNewAll_of_not_pre _ _ _ _ _ hnp)
    rw [hst]
    exact ⟨⟨fl, H⟩, Nat.le_add_right _ _, Nat.le_add_right _ _, fun _ _ => ⟨⟨_, hex⟩, rfl⟩,
      fun _ hp => absurd hp.1 hnd⟩
  have hp : preB s.ss (.newb p n ids vals) := ⟨hnd, hreg⟩
  obtain ⟨hfew, hfewn, hent⟩ := id hroom
  rcases Nat.eq_zero_or_pos n with rfl | hpos
  · -- the empty batch: the table lookup only
    obtain ⟨t, a, w1, hfoc, hb, h1, hpool, hentE, hsame⟩ :=
      opNewBatch_zero run p hC H.hinv.unlocked hnd hreg' vals hfew
    obtain ⟨hk, hmx, hlk, htl⟩ := afterLookup_fields hC hnd hreg' hfoc
    have hex : execB run s.w (.newb p 0 ids vals) = .ok [] w1 := by
      simp only [execB, hb, List.range_zero, List.map_nil]
    have hst : stepB run s (.newb p 0 ids vals) = ⟨w1, s.issued, s.ss⟩ := stepBatch_ok run hg hex
    rw [hst]
    exact ⟨⟨fl, H.hinv.of_kinds h1 (by rw [hpool]; exact H.hinv.ginv)
          ((congrArg Lock.isLocked hlk).trans H.hinv.unlocked) H.hinv.nodup hk hmx
          fun x cs hx => (H.hinv.ok x cs hx).frame (hsame x.id),
        H.yinv.rows.lookup (findOrCreateTableAdd_keeps hfoc), hlk ▸ H.yinv.lock⟩,
      htl, Nat.le_of_eq (congrArg List.length hentE), fun _ hnp => absurd hp hnp,
      fun _ _ => ⟨[], w1, hex, rfl⟩⟩
  · -- n > 0: the run of the singles
    obtain ⟨es, w', hex, hlen, _, hst⟩ :=
      stepB_newb_eq_singles run H p hpos ids vals hroom hg hp
    rw [hst]
    have hb1 : s.w.tables.length + (List.replicate n (Op.new p ids [])).length ≤ maxU32 := by
      rw [List.length_replicate]; exact hfewn
    have hb2 : s.w.entities.length + (List.replicate n (Op.new p ids [])).length < 2 ^ 32 := by
      rw [List.length_replicate]; exact hent
    obtain ⟨fl', h', b1, b2⟩ := run_inv run _ s fl H.hinv hb1 hb2
    have y' := run_ext run YInv (fun _ _ _ _ _ H hf he _ hpre X hex =>
      yinv_opsKeep.step run H hf he hpre hex X) _ s fl H.hinv hb1 hb2 H.yinv
    rw [List.length_replicate] at b1 b2
    refine ⟨⟨fl', h', y'⟩, ?_, b2, fun _ hnp => absurd hp hnp, fun _ _ => ⟨es, w', hex, hlen⟩⟩
    have : max n 1 = n := Nat.max_eq_left hpos
    rw [this]; exact b1

/-- **a batch creation creates at most ONE table**, whatever `n` -/
theorem newb_tables_le (run : ProbeRunner) {s : St} {fl : List Nat} (H : HInvB s fl)
    (p : Path) (n : Nat) (ids : List Comp) (vals : Comps)
    (hroom : Room s (.newb p n ids vals)) :
    (stepB run s (.newb p n ids vals)).w.tables.length ≤ s.w.tables.length + 1 := by
  have hC := H.hinv.cinv
  by_cases hg : guardB s (.newb p n ids vals) = true
  case neg =>
    have : stepB run s (.newb p n ids vals) = s := stepBatch_of_not_guard run hg
    rw [this]; exact Nat.le_succ _
  by_cases hp : preB s.ss (.newb p n ids vals)
  case neg =>
    rw [((step_newb run H p n ids vals hroom).2.2.2.1 hg hp).2]; exact Nat.le_succ _
  obtain ⟨hnd, hreg⟩ := hp
  have hreg' : ∀ (c : Comp), c ∈ ids → c < s.w.kinds.length := by rw [← H.hinv.zlen]; exact hreg
  obtain ⟨hfew, _, hent⟩ := hroom
  obtain ⟨t, a, w1, hfoc, h1, _, bt, hsame, hnew, _⟩ := cinv_afterLookup hC hnd hreg' hfew
  have hb : (w1.tbl t).len + n < 2 ^ 32 := by
    rcases Nat.lt_or_ge t s.w.tables.length with hh | hh
    · rw [hsame t hh]; have := hC.idx.rows_le t; omega
    · rw [hnew hh]; have := hC.idx.rows_le 0; omega
  have hS := h1.idx.shape t _ (get_of_lt bt.tlt)
  have hbatch := opNewBatch_eq run p n ids vals s.w H.hinv.unlocked hfoc h1.noObs
  rw [createEntitiesW_eq_placeN n bt.tlt hS h1.noTargets hb] at hbatch
  have hw : (stepB run s (.newb p n ids vals)).w = placeN w1 t n := by
    show (stepBatch run s (.newb p n ids vals)).w = _
    simp only [stepBatch, hg, if_true, execB, hbatch, Res.state]
  rw [hw, placeN_tables_len]
  exact (afterLookup_fields hC hnd hreg' hfoc).2.2.2

end RefineB

end Ark
