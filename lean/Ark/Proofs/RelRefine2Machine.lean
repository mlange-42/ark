/-
  Property C05 with relations: the history machine.  §1: every successful operation of the relation
  machine of `Ark.Proofs.RelRefine` keeps the filter-side state (`exec_kept`), hence every step
  does (`step_kept`) and the filter-side invariant `FInvR` is kept (`FInvR.kept`).  §2: `Op2` adds
  `CopyEntity`, `Shrink`, `Reset`, the filter operations and complete query iterations; the
  inductive invariant `HInv2` is `RelRefine.HInv` with `FInvR`; one lemma `step2_*` per constructor
  says that the step keeps it (`Shrink` and `Reset`: `Ark.Proofs.RelRefine2Reset`);
  `HInv2.cached_agrees` is the headline at a state satisfying it.
-/
import Ark.Proofs.RelRefine2Inv
import Ark.Proofs.RelRefine2Ops
import Ark.Proofs.RelRefineSteps

section

/-! ## §1 every operation of the relation machine keeps the filter-side state -/

set_option autoImplicit false

namespace Ark
namespace RelRefine2

open World Ark.Props.C01World QueryRel QueryExact RelRefine

theorem isRelComp_of_kinds {w w' : World} (hk : w'.kinds = w.kinds) (c : Comp) :
    w.isRelComp c = true → w'.isRelComp c = true := by
  intro h; simp only [World.isRelComp, hk]; exact h

theorem exec_kept (run : ProbeRunner) {s : St} {fl : List Nat} (H : HInv s fl)
    (hfew : s.w.tables.length + s.w.relationArchetypes.length + 1 ≤ maxU32)
    (hent : 2 * s.w.entities.length < 2 ^ 32) {op : Op} (hg : guard s op = true)
    (hp : pre s.ss op) {r : Option Ent} {w' : World} (hex : exec run s.w op = .ok r w') :
    Kept s.w w' := by
  have hfew' : s.w.tables.length < maxU32 := by omega
  have hent' : s.w.entities.length + 1 < 2 ^ 32 := by omega
  -- the registry afterwards, from the closed form of the outcome
  have hkinds : w'.kinds = kindsAfter s.w.kinds op := by
    obtain ⟨w'', hex', _, hk⟩ := (exec_facts run H hfew hent op hg).acc hp
    rw [hex] at hex'
    injection hex' with _ hw
    rw [hw]; exact hk
  cases op with
  | reg size z ir =>
    -- `hex` inverted, as in every case below: the operation did not panic and `w'` is the world it returns
    cases hr : World.registerComponent { isRel := ir, zst := z, size := size } s.w with
    | panic k w1 => simp only [exec, hr] at hex; cases hex
    | ok n w1 =>
      simp only [exec, hr] at hex
      injection hex with _ hw
      subst hw
      refine ⟨registerComponent_qkeep H.tinv hr, registerComponent_ckeep hr,
        registerComponent_locks hr, ?_⟩
      -- registration appends one kind: a relation component of the old registry lies below its
      -- length (beyond it `isRelComp` reads the default) and keeps its kind
      intro c hc
      have e := registerComponent_ok_eq hr
      subst e
      have hlt : c < s.w.kinds.length := by
        rcases Nat.lt_or_ge c s.w.kinds.length with h1 | h1
        · exact h1
        · simp [World.isRelComp, List.getD_eq_getElem?_getD, List.getElem?_eq_none h1] at hc
      simp only [World.isRelComp, List.getD_eq_getElem?_getD, List.getElem?_append_left hlt]
      simpa only [World.isRelComp, List.getD_eq_getElem?_getD] using hc
  | new p ids vals rels =>
    obtain ⟨hnd, hreg, ⟨hrnd, hrin, hrall⟩, hv⟩ := hp
    have hreg' : ∀ (c : Comp), c ∈ ids → c < s.w.kinds.length := by rw [← H.zlen]; exact hreg
    have hin : ∀ (r : RelID), r ∈ rels → r.comp ∈ ids := fun r hr => (hrin r hr).1
    cases hop : opNewEntity run p ids vals rels s.w with
    | panic k w1 => simp only [exec, hop] at hex; cases hex
    | ok e w1 =>
      simp only [exec, hop] at hex
      injection hex with _ hw
      subst hw
      obtain ⟨qk, hlk⟩ := opNewEntity_qkeep run p H.tinv H.unlocked H.noObs hreg' hrnd hin hfew'
        hent' hop
      exact ⟨qk, opNewEntity_ckeep run p H.tinv H.unlocked H.noObs hreg' hop, hlk,
        isRelComp_of_kinds hkinds⟩
  | add p e ids vals rels =>
    -- `Add` and `Remove` are the move of one entity (`acc_move`), whose world is known
    obtain ⟨en, hf, ⟨hne, hnd, hall⟩, hwf, hv⟩ := hp
    have hx := (guard_add.mp hg).2
    obtain ⟨old, new, w2, hcore, hno2, hpre, cp, post, _⟩ := acc_move run H hfew' hent' hf (rem := [])
      ⟨⟨fun h => hne h.1, List.nodup_nil, (fun _ h => nomatch h), hnd, hall⟩, hwf, hv⟩ hx vals
    have hop := opAdd_rel_eq run p e ids vals rels s.w (H.live hf).alive
      (by rw [Path.addCheck_of_ne_nil p hne]; exact hpre p)
      (by rw [addCore_eq_exchangeCore run]; exact hcore) hno2
    simp only [exec, hop] at hex
    obtain rfl := (Res.ok.inj hex).2
    have k := cp.shape.keep H.tinv (H.live hf).alive vals hent'
    exact ⟨k.1, k.2, post.locks, isRelComp_of_kinds post.kinds⟩
  | rem p e ids =>
    obtain ⟨en, hf, hne, hnd, hall⟩ := hp
    -- nothing added, no relation targets, nothing written: those parts of `XchgOK` hold vacuously
    obtain ⟨old, new, w2, hcore, _, _, cp, post, _⟩ := acc_move run H hfew' hent' hf (add := [])
      (rem := ids) (rels := [])
      ⟨⟨fun h => hne h.2, hnd, hall, List.nodup_nil, (fun _ h => nomatch h)⟩,
        ⟨List.nodup_nil, (fun _ h => nomatch h), (fun _ h => nomatch h)⟩, (fun _ h => nomatch h)⟩ rfl []
    have k := cp.shape.keep H.tinv (H.live hf).alive [] hent'
    rw [writeValsW_nil] at post k
    have hop : opRemove run p e ids s.w = .ok () w2 := by
      rw [opRemove_eq run p e ids s.w (H.live hf).alive, removeCore_eq_exchangeCore, M.bind, hcore]; rfl
    simp only [exec, hop] at hex
    obtain rfl := (Res.ok.inj hex).2
    exact ⟨k.1, k.2, post.locks, isRelComp_of_kinds post.kinds⟩
  | setrel p e rels =>
    obtain ⟨en, hf, hne, hrnd, hhas, hv⟩ := hp
    have L := H.live hf
    have hemp : rels.isEmpty = false := List.isEmpty_eq_false_iff.mpr hne
    -- the specification's "the entry has a relation on every component of `rels`", in the world
    have hhas' : ∀ (r : RelID), r ∈ rels → (targetOf s.w e.id r.comp).isSome = true :=
      fun r hr => (H.target_isSome_iff L.mem r.comp).mpr (hhas r hr)
    cases hop : opSetRelations run p e (rels.map (·.comp)) rels s.w with
    | panic k w1 => simp only [exec, hop] at hex; cases hex
    | ok u w1 =>
      simp only [exec, hop] at hex
      injection hex with _ hw
      subst hw
      have post := opSetRelations_spec run p H.tinv H.unlocked H.noObs L.ge2 L.notFree L.alive L.slot hemp hrnd hhas'
        (H.targets_in hv) hfew' hent' hop
      exact ⟨opSetRelations_qkeep run p H.tinv H.unlocked H.noObs L.ge2 L.notFree L.alive L.slot hemp hrnd hhas' hent'
          hop,
        opSetRelations_ckeep run p H.tinv H.unlocked H.noObs L.ge2 L.notFree L.alive L.slot hemp hrnd hhas' hop,
        post.locks, isRelComp_of_kinds post.kinds⟩
  | set e vals =>
    cases hop : opSet run e (Refine.keys vals) vals s.w with
    | panic k w1 => simp only [exec, hop] at hex; cases hex
    | ok u w1 =>
      simp only [exec, hop] at hex
      injection hex with _ hw
      subst hw
      obtain ⟨qk, ck, hlk, hk⟩ := opSet_keep run H.noObs hop
      exact ⟨qk, ck, hlk, isRelComp_of_kinds hk⟩
  | del e =>
    obtain ⟨en, hf⟩ := hp
    have L := H.live hf
    -- `QKeep` and `CKeep` come from two lemmas, each with a result world of its own: both are `w'`
    obtain ⟨w3, hst, q3, hlk⟩ := opRemoveEntity_qkeep run H.tinv H.unlocked H.noObs L.ge2 L.notFree L.alive L.slot hfew
      hent
    obtain ⟨w4, hst4, c4⟩ := opRemoveEntity_ckeep run H.tinv H.unlocked H.noObs L.ge2 L.notFree L.alive L.slot hfew hent
    simp only [exec, hst] at hex
    injection hex with _ hw
    subst hw
    rw [hst] at hst4
    injection hst4 with _ hw4
    subst hw4
    exact ⟨q3, c4, hlk, isRelComp_of_kinds hkinds⟩

/-- **every step of the relation machine keeps the filter-side state** (a refused call, and a call
    that is no step, change nothing) -/
theorem step_kept (run : ProbeRunner) {s : St} {fl : List Nat} (H : HInv s fl)
    (hfew : s.w.tables.length + s.w.relationArchetypes.length + 1 ≤ maxU32)
    (hent : 2 * s.w.entities.length < 2 ^ 32) (op : Op) : Kept s.w (RelRefine.step run s op).w := by
  by_cases hg : guard s op = true
  case neg => rw [RelRefine.step, if_neg hg]; exact Kept.refl _
  have F := exec_facts run H hfew hent op hg
  rw [step_of_guard hg]
  by_cases hp : pre s.ss op
  · obtain ⟨w', hex, _⟩ := F.acc hp
    rw [hex]; exact exec_kept run H hfew hent hg hp hex
  · rw [F.rej hp]; exact Kept.refl _

end RelRefine2
end Ark

end

section

/-! ## §2 the history machine

The exact step is stated once for `copy` (`step2_copy_eq`) and `query` (`step2_query_eq`, from
  `HInv2.drain_ok`) — for `Shrink` and `Reset` in `Ark.Proofs.RelRefine2Reset` —, and the invariant
  lemma `step2_*` reads it.  Of the filter operations `Ark.Proofs.RelRefine2Inv` states that they
  change cache and filter heap only (`SameButCF`), `defFilter_cases`, and the filter heap after
  `Register` / `Unregister` (`opFilterRegister_filters`, `opFilterUnregister_filters`).
-/

set_option autoImplicit false

namespace Ark
namespace RelRefine2

open World Ark.Props.C01World QueryRel QueryExact RelRefine

/-- the per-call relations a client can pass to `Query(rel…)` without running into a Go runtime
    panic: a typed filter validates them itself (`preCheckTyped`: rejected without effect when
    not `ExtraOK`); for an `UnsafeFilter` they must name relation components the mask requires
    (otherwise `Matches` is a nil dereference with the world locked) -/
def guardQ (w : World) (fo : FilterObj) (extra : List RelID) : Bool :=
  fo.typed || extra.all fun r => w.isRelComp r.comp && fo.filter.mask.get r.comp

/-- the operations: those of the relation machine, `CopyEntity`, `Shrink`, `Reset`, the three
    filter operations, and complete query iterations -/
inductive Op2
  /-- an operation of `Ark.RelRefine` (`reg`, `new p`, `add p`, `rem p`, `setrel p`, `set`, `del`) -/
  | base (op : RelRefine.Op)
  /-- `World.CopyEntity(e)` -/
  | copy (e : Ent)
  /-- `World.Shrink` (`bounded`: stop after the first table with work) -/
  | shrink (bounded : Bool)
  /-- `World.Reset` -/
  | reset
  /-- a filter object is constructed and stored under label `f` (the driver's `filter` line) -/
  | fdef (f : Nat) (fo : FilterObj)
  /-- `FilterN.Register` on the object under label `f` -/
  | freg (f : Nat)
  /-- `FilterN.Unregister` on the object under label `f` -/
  | funreg (f : Nat)
  /-- `Query(extra…)` on the object under label `f`, iterated to the end -/
  | query (f : Nat) (extra : List RelID)
  deriving Repr

/-- `copy e` is a step for a handle the client holds; on success the specification
    gets the entry of `e` a second time, under the handle returned.  Filter operations, queries
    and `Shrink` leave the ghost history and the specification alone; a successful `Reset` empties
    the specification and starts a new epoch of handles (as in `Ark.Refine`); a panic keeps the
    state the model reached (Go `recover`). -/
def step2 (run : ProbeRunner) (s : St) : Op2 → St
  | .base op => RelRefine.step run s op
  | .copy e =>
    if decide (e ∈ s.issued) = true then
      match opCopyEntity run e s.w with
      | .ok e' w' =>
        ⟨w', e' :: s.issued,
          { s.ss with ents := match find s.ss.ents e with
              | some en => (e', en) :: s.ss.ents
              | none => s.ss.ents }⟩
      | .panic _ w' => { s with w := w' }
    else s
  | .shrink bounded => { s with w := (opShrink bounded s.w).state }
  | .reset =>
    match opReset s.w with
    | .ok _ w' => ⟨w', [], ⟨[], s.ss.zst, s.ss.isRel⟩⟩
    | .panic _ w' => { s with w := w' }
  | .fdef f fo => if guardF s.w fo = true then { s with w := defFilter f fo s.w } else s
  | .freg f => { s with w := (opFilterRegister f s.w).state }
  | .funreg f => { s with w := (opFilterUnregister f s.w).state }
  | .query f extra =>
    if guardQ s.w (foAt s.w f) extra = true then
      { s with w := (drain (foAt s.w f) extra s.w).state }
    else s

def runOps2 (run : ProbeRunner) (s : St) (ops : List Op2) : St := ops.foldl (step2 run) s

def reach2 (run : ProbeRunner) (cap rel : Nat) (ops : List Op2) : St :=
  runOps2 run (St.init cap rel) ops

theorem reach2_snoc (run : ProbeRunner) (cap rel : Nat) (ops : List Op2) (op : Op2) :
    reach2 run cap rel (ops ++ [op]) = step2 run (reach2 run cap rel ops) op := by
  simp only [reach2, runOps2, List.foldl_append, List.foldl_cons, List.foldl_nil]

structure HInv2 (s : St) (fl : List Nat) : Prop where
  base : HInv s fl
  finv : FInvR s.w

theorem hinv2_init (cap rel : Nat) : HInv2 (St.init cap rel) [] :=
  ⟨hinv_init cap rel, finvR_init cap rel⟩

namespace HInv2

variable {s : St} {fl : List Nat}

theorem cacheInv (H : HInv2 s fl) : CacheInv s.w := H.finv.cache

theorem tablesInv (H : HInv2 s fl) : TablesInv s.w := tablesInv_of_rel H.base.tinv.rel

/-- the C03 theorems with relation targets apply in every state of the machine -/
theorem qgood (H : HInv2 s fl) : QGood s.w :=
  ⟨⟨fl, H.base.tinv, H.base.unlocked, H.base.noObs⟩, H.finv.cidx, H.finv.rows, H.finv.lock⟩

end HInv2

structure Grows (s s' : St) : Prop where
  tables : s'.w.tables.length ≤ s.w.tables.length + 1 + s.w.relationArchetypes.length
  relArchs : s'.w.relationArchetypes.length ≤ s.w.relationArchetypes.length + 1
  entities : s'.w.entities.length ≤ s.w.entities.length + 1

theorem Grows.refl (s : St) : Grows s s := ⟨by omega, Nat.le_succ _, Nat.le_succ _⟩

theorem Grows.of_sameButCF {s : St} {w' : World} (h : SameButCF s.w w') :
    Grows s ⟨w', s.issued, s.ss⟩ := by
  obtain ⟨h1, h2, _, _, _, _, _, h8⟩ := sameButCF_fields h
  exact ⟨by show w'.tables.length ≤ _; rw [h1]; omega,
    by show w'.relationArchetypes.length ≤ _; rw [h8]; exact Nat.le_succ _,
    by show w'.entities.length ≤ _; rw [h2]; exact Nat.le_succ _⟩

theorem step2_base (run : ProbeRunner) {s : St} {fl : List Nat} (H : HInv2 s fl)
    (hfew : s.w.tables.length + s.w.relationArchetypes.length + 1 ≤ maxU32)
    (hent : 2 * s.w.entities.length < 2 ^ 32) (op : RelRefine.Op) :
    (∃ fl', HInv2 (step2 run s (.base op)) fl') ∧ Grows s (step2 run s (.base op)) := by
  obtain ⟨⟨fl1, h1⟩, g1, g2, g3, _, _⟩ := step_goal run H.base hfew hent op
  exact ⟨⟨fl1, h1, H.finv.kept (step_kept run H.base hfew hent op)⟩, g1, g2, g3⟩

/-- **`copy e` on a handle the client holds, exactly**: a handle with an entry is alive,
    `CopyEntity` returns the pool's next handle and the specification gets the entry a second time
    under it; a handle without entry is dead and the call is rejected without effect -/
theorem step2_copy_eq (run : ProbeRunner) {s : St} {fl : List Nat} (H : HInv2 s fl)
    (hent : 2 * s.w.entities.length < 2 ^ 32) {e : Ent} (hi : e ∈ s.issued) :
    (∀ (en : Entry), find s.ss.ents e = some en →
      ∃ (w' : World), opCopyEntity run e s.w = .ok (s.w.pool.get).2 w' ∧
        CopyRelPost s.w fl e (s.w.pool.get).2 w' ∧
        step2 run s (.copy e) = ⟨w', (s.w.pool.get).2 :: s.issued,
          ⟨((s.w.pool.get).2, en) :: s.ss.ents, s.ss.zst, s.ss.isRel⟩⟩) ∧
    (find s.ss.ents e = none →
      opCopyEntity run e s.w = .panic .deadEntity s.w ∧ step2 run s (.copy e) = s) := by
  constructor
  · intro en hf
    have L := H.base.live hf
    obtain ⟨w', hop, post⟩ := opCopyEntity_rel_spec run H.base.tinv H.base.unlocked H.base.noObs
      L.ge2 L.notFree L.alive L.slot (by omega)
    exact ⟨w', hop, post, by simp only [step2, decide_eq_true_eq, if_pos hi, hop, hf]⟩
  · intro hf
    have hop := opCopyEntity_dead run s.w H.base.unlocked e (H.base.dead hi hf)
    exact ⟨hop, by simp only [step2, decide_eq_true_eq, if_pos hi, hop]⟩

/-- **`CopyEntity` as a step**: rejected without effect on a dead handle; otherwise the copy is
    realised by the world with the entry of the source (components, values, relation targets),
    and the filter-side invariant is kept (the copy sits in a table that is cached already) -/
theorem step2_copy (run : ProbeRunner) {s : St} {fl : List Nat} (H : HInv2 s fl)
    (hent : 2 * s.w.entities.length < 2 ^ 32) (e : Ent) :
    (∃ fl', HInv2 (step2 run s (.copy e)) fl') ∧ Grows s (step2 run s (.copy e)) := by
  by_cases hi : e ∈ s.issued
  case neg =>
    simp only [step2, decide_eq_true_eq, if_neg hi]
    exact ⟨⟨fl, H⟩, Grows.refl s⟩
  obtain ⟨acc, rej⟩ := step2_copy_eq run H hent hi
  cases hf : find s.ss.ents e with
  | none => rw [(rej hf).2]; exact ⟨⟨fl, H⟩, Grows.refl s⟩
  | some en =>
    obtain ⟨w', _, post, hstep⟩ := acc en hf
    have hm := find_some_mem hf
    have ok := H.base.ok e en hm
    rw [hstep]
    refine ⟨⟨fl.tail, ?_, H.finv.kept ⟨post.qkeep, post.ckeep, post.locks,
      isRelComp_of_kinds post.kinds⟩⟩, ?_⟩
    · refine H.base.created post.tinv post.pool post.locks post.obs post.kinds post.maxComps
        post.frame ?_ (H.base.tgtsOK e en hm)
      exact
        { nodup := ok.nodup
          reg := ok.reg
          comps := by rw [post.comps]; exact ok.comps
          vals := fun cv hcv => by rw [post.vals]; exact ok.vals cv hcv
          relNodup := ok.relNodup
          relKeys := ok.relKeys
          tgts := fun r hr => by rw [post.targets]; exact ok.tgts r hr }
    · exact ⟨by show w'.tables.length ≤ _; rw [post.tablesLen]; omega,
        by show w'.relationArchetypes.length ≤ _; rw [post.relArchs]; exact Nat.le_succ _,
        post.entitiesLen⟩

theorem step2_cf {s : St} {fl : List Nat} (H : HInv2 s fl) {w' : World} (hf : FInvR w')
    (hs : SameButCF s.w w') (hc : CacheRelsOK w') :
    (∃ fl', HInv2 ⟨w', s.issued, s.ss⟩ fl') ∧ Grows s ⟨w', s.issued, s.ss⟩ :=
  ⟨⟨fl, H.base.sameButCF hs hc, hf⟩, Grows.of_sameButCF hs⟩

theorem step2_fdef (run : ProbeRunner) {s : St} {fl : List Nat} (H : HInv2 s fl) (f : Nat)
    (fo : FilterObj) :
    (∃ fl', HInv2 (step2 run s (.fdef f fo)) fl') ∧ Grows s (step2 run s (.fdef f fo)) := by
  by_cases hg : guardF s.w fo = true
  · simp only [step2, if_pos hg]
    obtain ⟨hs, hcache⟩ := defFilter_sameButCF f fo s.w
    refine step2_cf H (H.finv.defFilter f fo hg) hs ?_
    intro e he
    rw [hcache] at he
    exact H.base.tinv.rel.aux.cacheRels e he
  · simp only [step2, if_neg hg]
    exact ⟨⟨fl, H⟩, Grows.refl s⟩

theorem step2_freg (run : ProbeRunner) {s : St} {fl : List Nat} (H : HInv2 s fl) (f : Nat) :
    (∃ fl', HInv2 (step2 run s (.freg f)) fl') ∧ Grows s (step2 run s (.freg f)) := by
  obtain ⟨hf, hs, hc⟩ := H.finv.filterRegister H.base.tinv f
  exact step2_cf H hf hs hc

theorem step2_funreg (run : ProbeRunner) {s : St} {fl : List Nat} (H : HInv2 s fl) (f : Nat) :
    (∃ fl', HInv2 (step2 run s (.funreg f)) fl') ∧ Grows s (step2 run s (.funreg f)) := by
  obtain ⟨hf, hs, hc⟩ := H.finv.filterUnregister H.base.tinv f
  exact step2_cf H hf hs hc

/-- the invariant of the entity machine does not read the lock's bit pool -/
theorem _root_.Ark.RelRefine.HInv.withLocks {s : St} {fl : List Nat} (H : HInv s fl) (l : Lock)
    (hl : l.isLocked = false) : HInv ⟨s.w.withLocks l, s.issued, s.ss⟩ fl where
  tinv := H.tinv.withLocks l
  ginv := H.ginv
  unlocked := hl
  noObs := H.noObs
  nodup := H.nodup
  zstEq := H.zstEq
  relEq := H.relEq
  maxc := H.maxc
  ok := fun e en hm =>
    (H.ok e en hm).frame ⟨fun c => valOf_congr rfl rfl _ c, compsOf_congr rfl rfl _⟩ (fun _ => rfl)
  tgtsOK := H.tgtsOK

/-- the side conditions of `Query(extra…)` on the filter object `fo`: a typed filter accepts the
    per-call relations (`preCheckTyped`), an `UnsafeFilter` is given relation components its mask
    requires -/
def ExtraAdmissible (w : World) (fo : FilterObj) (extra : List RelID) : Prop :=
  (fo.typed = true → ExtraOK w fo.filter.mask extra) ∧
  (fo.typed = false → RelsTyped w fo.filter extra)

theorem ExtraAdmissible.relsTyped {w : World} {fo : FilterObj} {extra : List RelID}
    (h : ExtraAdmissible w fo extra) : RelsTyped w fo.filter extra := by
  cases ht : fo.typed with
  | true => exact (h.1 ht).relsTyped
  | false => exact h.2 ht

theorem HInv2.drain_both {s : St} {fl : List Nat} (H : HInv2 s fl) {fo : FilterObj}
    (hrt : RelsTyped s.w fo.filter fo.rels) (hfok : fo.typed = true → FilterOK fo)
    {extra : List RelID} (hx : ExtraAdmissible s.w fo extra)
    {l1 l2 : Lock} {b : Nat} (hL : LockCycle s.w.locks l1 b l2) :
    (fo.cache = none → ∃ (q : QueryObj) (visits : List Visit),
      RelQueryExactOn s.w fl fo extra (s.w.withLocks l1) q visits (s.w.withLocks l2)) ∧
    (∀ (id : Nat) (ce : CacheEntry), fo.cache = some id → s.w.cacheEntry? id = some ce →
      ce.filter = fo.filter → ce.rels = fo.rels → ∃ (q : QueryObj) (visits : List Visit),
      RelQueryExactOn s.w fl fo extra (s.w.withLocks l1) q visits (s.w.withLocks l2)) := by
  have hr : RelsTyped s.w fo.filter (fo.rels ++ extra) := hrt.append hx.relsTyped
  constructor
  · intro hc
    cases ht : fo.typed with
    | true => exact drain_rel H.base.tinv H.finv.cidx fo extra hc (hfok ht) hx.1 hr hL
    | false => exact drain_rel_untyped H.base.tinv fo extra hc (Or.inl ht) hx.1 hr hL
  · intro id ce hc he hf hrl
    exact drain_rel_cached H.base.tinv H.finv.cache fo extra hc he hf hrl hx.1 hr hL

/-- **a complete iteration with admissible per-call relations on the object under a label**
    succeeds, changes nothing but the lock's bit pool, and is exact (`Observed`) — through the
    cache entry when the object is registered -/
theorem HInv2.drain_ok {s : St} {fl : List Nat} (H : HInv2 s fl) (f : Nat) {extra : List RelID}
    (hx : ExtraAdmissible s.w (foAt s.w f) extra) :
    ∃ (l1 l2 : Lock) (q : QueryObj) (visits : List Visit),
      drain (foAt s.w f) extra s.w = .ok visits (s.w.withLocks l2) ∧ QGood (s.w.withLocks l2) ∧
      Observed s.w (foAt s.w f) extra (s.w.withLocks l1) q visits := by
  obtain ⟨hrt, hfok⟩ := foAt_facts H.finv.heap f
  obtain ⟨l1, l2, b, hL, g2⟩ := H.qgood.lockCycle
  obtain ⟨d1, d2⟩ := H.drain_both hrt hfok hx hL
  have hQ : ∃ (q : QueryObj) (visits : List Visit), RelQueryExactOn s.w fl (foAt s.w f) extra
      (s.w.withLocks l1) q visits (s.w.withLocks l2) := by
    cases hc : (foAt s.w f).cache with
    | none => exact d1 hc
    | some id =>
      cases hfind : AL.find? s.w.filters f with
      | none => simp only [foAt, hfind] at hc; cases hc
      | some fo =>
        have hfo : foAt s.w f = fo := by simp only [foAt, hfind]; rfl
        obtain ⟨e, he, h1, h2, h3⟩ := H.finv.heap.reg f fo id hfind (by rw [← hfo]; exact hc)
        have hlook := H.finv.cache.lookup_of_mem he
        rw [h1] at hlook
        exact d2 id e hc hlook (by rw [hfo]; exact h2) (by rw [hfo]; exact h3)
  obtain ⟨q, visits, Q⟩ := hQ
  exact ⟨l1, l2, q, visits, Q.drained, g2, Observed.of_exact H.base.tinv H.finv.rows Q⟩

/-- a typed filter validates the per-call relations itself: what `guardQ` admits and is not
    `ExtraAdmissible` is rejected by `Query(rel…)` without effect -/
theorem drain_not_admissible {w : World} {fo : FilterObj} {extra : List RelID}
    (hg : guardQ w fo extra = true) (hx : ¬ ExtraAdmissible w fo extra) :
    ∃ (k : PanicKind), drain fo extra w = .panic k w := by
  have ht : fo.typed = true := by
    cases htt : fo.typed with
    | true => rfl
    | false =>
      exfalso
      apply hx
      refine ⟨fun h => (by rw [htt] at h; cases h), fun _ r hr => ?_⟩
      simp only [guardQ, htt, Bool.false_or, List.all_eq_true, Bool.and_eq_true] at hg
      exact hg r hr
  have hbad : ¬ ExtraOK w fo.filter.mask extra :=
    fun h => hx ⟨fun _ => h, fun h' => by rw [ht] at h'; cases h'⟩
  obtain ⟨k, _, hd⟩ := drain_rejected fo extra w ht hbad
  exact ⟨k, hd⟩

/-- the state after a query step: unchanged (not a step, or a typed filter rejecting the per-call
    relations), or — a complete iteration — the lock's bit pool after one cycle -/
theorem step2_query_eq (run : ProbeRunner) {s : St} {fl : List Nat} (H : HInv2 s fl) (f : Nat)
    (extra : List RelID) :
    step2 run s (.query f extra) = s ∨ ∃ (l2 : Lock), QGood (s.w.withLocks l2) ∧
      step2 run s (.query f extra) = ⟨s.w.withLocks l2, s.issued, s.ss⟩ := by
  by_cases hg : guardQ s.w (foAt s.w f) extra = true
  case neg => exact Or.inl (by simp only [step2, if_neg hg])
  simp only [step2, if_pos hg]
  by_cases hx : ExtraAdmissible s.w (foAt s.w f) extra
  · obtain ⟨_, l2, _, visits, hd, g2, _⟩ := H.drain_ok f hx
    rw [hd]
    exact Or.inr ⟨l2, g2, rfl⟩
  · obtain ⟨k, hd⟩ := drain_not_admissible hg hx
    rw [hd]
    exact Or.inl rfl

theorem step2_query (run : ProbeRunner) {s : St} {fl : List Nat} (H : HInv2 s fl) (f : Nat)
    (extra : List RelID) :
    (∃ fl', HInv2 (step2 run s (.query f extra)) fl') ∧ Grows s (step2 run s (.query f extra)) := by
  rcases step2_query_eq run H f extra with h | ⟨l2, g2, h⟩ <;> rw [h]
  · exact ⟨⟨fl, H⟩, Grows.refl s⟩
  have hul : l2.isLocked = false := by
    obtain ⟨_, _, h3, _⟩ := g2.good
    exact h3
  refine ⟨⟨fl, H.base.withLocks l2 hul, ?_⟩, ⟨by show s.w.tables.length ≤ _; omega,
    Nat.le_succ _, Nat.le_succ _⟩⟩
  exact
    { cache := H.finv.cache.congr rfl rfl rfl
      heap := ⟨H.finv.heap.reg, H.finv.heap.inj, H.finv.heap.typed, H.finv.heap.rels⟩
      cidx := g2.cidx
      rows := g2.rows
      lock := g2.lock
      pool := ⟨H.finv.pool.avail, H.finv.pool.bound⟩ }

/-- **C05 with relations, at a state of the machine.**  For a filter object `fo` of the heap that
    is registered under `id` (fixed relations allowed) and any admissible per-call relations
    `extra`:
    * the cache entry `ce` is found under `id`, made for `fo`'s filter and fixed relations; its
      table list is duplicate-free and has exactly the members of the uncached walk
      `getCacheTables` (which succeeds);
    * the iteration through the cache and the iteration of the same filter object unregistered
      both succeed, leave the same world (the world before up to the lock's bit pool), are exact
      (`Observed`: the alive entities matching filter, fixed and per-call relations, each once,
      with their own data and targets), and visit the same entities. -/
theorem HInv2.cached_agrees {s : St} {fl : List Nat} (H : HInv2 s fl) {f : Nat} {fo : FilterObj}
    {id : Nat} (hfind : AL.find? s.w.filters f = some fo) (hc : fo.cache = some id)
    {extra : List RelID} (hx : ExtraAdmissible s.w fo extra) :
    ∃ (ce : CacheEntry), s.w.cacheEntry? id = some ce ∧ ce.filter = fo.filter ∧
      ce.rels = fo.rels ∧
      (∃ (ts : List Nat), s.w.getCacheTables fo.filter fo.rels = some ts ∧ ts.Nodup ∧
        ce.tables.tables.Nodup ∧ ∀ (t : Nat), t ∈ ce.tables.tables ↔ t ∈ ts) ∧
      ∃ (l1 l2 : Lock) (q qu : QueryObj) (visits visitsU : List Visit),
        drain fo extra s.w = .ok visits (s.w.withLocks l2) ∧
        drain { fo with cache := none } extra s.w = .ok visitsU (s.w.withLocks l2) ∧
        Observed s.w fo extra (s.w.withLocks l1) q visits ∧
        Observed s.w { fo with cache := none } extra (s.w.withLocks l1) qu visitsU ∧
        (visits.map (·.e)).Perm (visitsU.map (·.e)) := by
  obtain ⟨ce, he, h1, h2, h3⟩ := H.finv.heap.reg f fo id hfind hc
  have hlook := H.finv.cache.lookup_of_mem he
  rw [h1] at hlook
  have hrt := H.finv.heap.rels f fo hfind
  have hfok := H.finv.heap.typed f fo hfind
  have hok : RelsOK s.w ce.filter ce.rels := by
    rw [h2, h3]; exact relsOK_of_typed H.base.tinv.rel.sinv.toSInvMid hrt
  obtain ⟨_, hnd, ts, hts, hnd', hiff⟩ := H.finv.cache.cached_eq_uncached H.tablesInv hlook hok
  rw [h2, h3] at hts
  refine ⟨ce, hlook, h2, h3, ⟨ts, hts, hnd', hnd, hiff⟩, ?_⟩
  obtain ⟨l1, l2, b, hL, _⟩ := H.qgood.lockCycle
  obtain ⟨_, d2⟩ := H.drain_both hrt hfok hx hL
  obtain ⟨q, visits, Q⟩ := d2 id ce hc hlook h2 h3
  -- the same filter object, unregistered
  have hxU : ExtraAdmissible s.w { fo with cache := none } extra := hx
  obtain ⟨d1, _⟩ := H.drain_both (fo := { fo with cache := none }) hrt hfok hxU hL
  obtain ⟨qu, visitsU, QU⟩ := d1 rfl
  have ob := Observed.of_exact H.base.tinv H.finv.rows Q
  have obU := Observed.of_exact H.base.tinv H.finv.rows QU
  refine ⟨l1, l2, q, qu, visits, visitsU, Q.drained, QU.drained, ob, obU, ?_⟩
  apply (List.perm_ext_iff_of_nodup ob.nodup obU.nodup).2
  intro e
  rw [ob.exact e, obU.exact e]

end RelRefine2
end Ark

end

