/-
  Ark.Proofs.Lock — the world lock (`lock` of lock.go: `bitPool` + 64-bit mask) as a state
  machine over arbitrary histories of `Lock`, `Unlock(b)` and `Reset`, with ghost state (the
  bits handed out and not yet returned).
-/
import Ark.Proofs.Pool

set_option autoImplicit false

namespace Ark
namespace Lock

/-- Follow the implicit free list of `bitPool`: `chain bits s n` is the list of the `n` bits
    reached from `s` through the array `bits`. -/
def chain (bits : List Nat) : Nat → Nat → Option (List Nat)
  | _, 0 => some []
  | s, n + 1 =>
    match bits[s]? with
    | none => none
    | some e =>
      match chain bits e n with
      | none => none
      | some l => some (s :: l)

theorem chain_eq (bits : List Nat) : ∀ (n s : Nat), chain bits s n = chainBy (bits[·]?) id s n
  | 0, _ => rfl
  | n + 1, s => by
    simp only [chain, chainBy, chain_eq bits n]
    cases bits[s]? with
    | none => rfl
    | some e => cases chainBy (bits[·]?) id e n <;> rfl

theorem chain_length (bits : List Nat) (n s : Nat) (l : List Nat)
    (h : chain bits s n = some l) : l.length = n :=
  chainBy_length (chain_eq bits n s ▸ h)

theorem chain_succ_iff {bits : List Nat} {n s : Nat} {l : List Nat} :
    chain bits s (n + 1) = some l ↔
      ∃ e l', bits[s]? = some e ∧ chain bits e n = some l' ∧ l = s :: l' := by
  simp only [chain_eq]; exact chainBy_succ

theorem chain_succ (bits : List Nat) (n s x : Nat) (l : List Nat)
    (h : chain bits s (n + 1) = some (x :: l)) :
    s = x ∧ ∃ e, bits[x]? = some e ∧ chain bits e n = some l := by
  obtain ⟨e, l', he, hl', hl⟩ := chain_succ_iff.1 h
  injection hl with hx hl
  subst hx hl
  exact ⟨rfl, e, he, hl'⟩

theorem chain_set (bits : List Nat) (i v : Nat) (n s : Nat) (l : List Nat)
    (h : chain bits s n = some l) (hi : i ∉ l) : chain (bits.set i v) s n = some l := by
  rw [chain_eq] at h ⊢; exact chainBy_set h hi

theorem getLsbD_bit (b i : Nat) (hi : i < 64) :
    ((1#64) <<< b).getLsbD i = decide (i = b) := by
  rw [BitVec.getLsbD_shiftLeft, BitVec.getLsbD_one]
  by_cases h : i = b
  · subst h; simp [hi]
  · by_cases hlt : i < b
    · simp [hlt, h]
    · have : i - b ≠ 0 := by omega
      simp [this, h]

theorem getLsbD_setBit (x : BitVec 64) (b i : Nat) (hi : i < 64) :
    (x ||| ((1#64) <<< b)).getLsbD i = (x.getLsbD i || decide (i = b)) := by
  rw [BitVec.getLsbD_or, getLsbD_bit b i hi]

theorem getLsbD_clearBit (x : BitVec 64) (b i : Nat) (hi : i < 64) :
    (x &&& ~~~((1#64) <<< b)).getLsbD i = (x.getLsbD i && !decide (i = b)) := by
  rw [BitVec.getLsbD_and, BitVec.getLsbD_not, getLsbD_bit b i hi]
  simp [hi]

/-- lock operations as the world issues them -/
inductive Op
  | lock
  | unlock (b : Nat)
  | reset
  deriving Repr, DecidableEq

/-- lock + ghost history: the bits handed out by `Lock()` and not yet returned by `Unlock` -/
structure LS where
  l : Lock
  outstanding : List Nat
  deriving Repr, DecidableEq

def LS.init : LS := ⟨{}, []⟩

/-- One step.  A `Lock()` that runs out of the 64 bits panics, an `Unlock(b)` of a bit that is
    not set panics ("unbalanced unlock"); both leave the lock unchanged. -/
def LS.step (s : LS) : Op → LS
  | .lock =>
    match s.l.lock with
    | some (l', b) => ⟨l', b :: s.outstanding⟩
    | none => s
  | .unlock b =>
    match s.l.unlock b with
    | some l' => ⟨l', s.outstanding.erase b⟩
    | none => s
  | .reset => ⟨s.l.reset, []⟩

def LS.run (s : LS) (ops : List Op) : LS := ops.foldl LS.step s

/-- The invariant: `fl` is the free list (the chain of length `available` from `next`); free
    and outstanding bits partition the bits `< length` handed out so far; the mask holds exactly
    the outstanding bits. -/
structure LInv (s : LS) (fl : List Nat) : Prop where
  ch : chain s.l.pool.bits s.l.pool.next s.l.pool.available = some fl
  fl_nodup : fl.Nodup
  fl_lt : ∀ (i : Nat), i ∈ fl → i < s.l.pool.length
  out_nodup : s.outstanding.Nodup
  out_lt : ∀ (i : Nat), i ∈ s.outstanding → i < s.l.pool.length
  disj : ∀ (i : Nat), i ∈ s.outstanding → i ∉ fl
  cover : ∀ (i : Nat), i < s.l.pool.length → i ∈ fl ∨ i ∈ s.outstanding
  count : s.outstanding.length + fl.length = s.l.pool.length
  len64 : s.l.pool.length ≤ 64
  bits_len : s.l.pool.bits.length = 64
  locks : ∀ (b : Nat), b < 64 → (s.l.locks.getLsbD b = true ↔ b ∈ s.outstanding)

theorem linv_init : LInv LS.init [] := by
  refine ⟨rfl, List.nodup_nil, ?_, List.nodup_nil, ?_, ?_, ?_, rfl, by decide, rfl, ?_⟩
  · intro i hi; cases hi
  · intro i hi; cases hi
  · intro i hi; cases hi
  · intro i hi; exact absurd hi (Nat.not_lt_zero i)
  · intro b _; simp [LS.init]

theorem LInv.avail {s : LS} {fl : List Nat} (h : LInv s fl) : fl.length = s.l.pool.available :=
  chain_length _ _ _ _ h.ch

theorem getLsbD_lt (x : BitVec 64) (b : Nat) (h : x.getLsbD b = true) : b < 64 := by
  false_or_by_contra
  rename_i hb
  rw [BitVec.getLsbD_of_ge x b (by omega)] at h
  contradiction

/-- The mask is exact for every `b` (no bound needed: both sides are false from 64 on). -/
theorem LInv.locks_iff {s : LS} {fl : List Nat} (g : LInv s fl) (b : Nat) :
    s.l.locks.getLsbD b = true ↔ b ∈ s.outstanding := by
  constructor
  · intro h; exact (g.locks b (getLsbD_lt _ _ h)).mp h
  · intro h
    have := g.out_lt b h
    have := g.len64
    exact (g.locks b (by omega)).mpr h

/-- What `Lock()` does on a state satisfying the invariant: it fails exactly if all 64 bits are
    outstanding; otherwise it hands out a bit below 64 that is not outstanding, and the
    invariant is kept. -/
theorem lock_spec (s : LS) (fl : List Nat) (g : LInv s fl) :
    (s.l.lock = none ∧ s.outstanding.length = 64) ∨
    (∃ l' b, s.l.lock = some (l', b) ∧ b < 64 ∧ b ∉ s.outstanding ∧
      s.outstanding.length < 64 ∧ ∃ fl', LInv ⟨l', b :: s.outstanding⟩ fl') := by
  have hav := g.avail
  have hcount := g.count
  have hlen := g.len64
  by_cases h0 : s.l.pool.available = 0
  -- nothing to recycle: the free list is empty, so every bit handed out so far is outstanding
  · have hfl0 : fl = [] := List.length_eq_zero_iff.mp (hav.trans h0)
    subst hfl0
    replace hcount : s.outstanding.length = s.l.pool.length := hcount
    by_cases hfull : s.l.pool.length ≥ 64
    -- all 64 bits handed out, all outstanding: `Get` panics
    · left
      refine ⟨?_, hcount.trans (Nat.le_antisymm hlen hfull)⟩
      simp [Lock.lock, BitPool.get, h0, hfull]
    -- the fresh bit `length`: above every outstanding bit (`out_lt`); the free list stays empty
    · right
      have hlt : s.l.pool.length < 64 := Nat.lt_of_not_le hfull
      have hlock : s.l.lock =
          some ({ pool := { s.l.pool with bits := s.l.pool.bits.set s.l.pool.length s.l.pool.length,
                                          length := s.l.pool.length + 1 },
                  locks := s.l.locks ||| ((1#64) <<< s.l.pool.length) }, s.l.pool.length) := by
        simp [Lock.lock, BitPool.get, h0, hfull]
      refine ⟨_, s.l.pool.length, hlock, hlt, ?_, hcount ▸ hlt, [], ?_⟩
      · intro hm; exact absurd (g.out_lt _ hm) (Nat.lt_irrefl _)
      · refine ⟨?_, List.nodup_nil, ?_, ?_, ?_, ?_, ?_, ?_, ?_, ?_, ?_⟩
        · show chain _ s.l.pool.next s.l.pool.available = some []
          rw [h0]; rfl
        · intro i hi; cases hi
        · exact List.nodup_cons.mpr
            ⟨fun hm => absurd (g.out_lt _ hm) (Nat.lt_irrefl _), g.out_nodup⟩
        · intro i hi
          show i < s.l.pool.length + 1
          rcases List.mem_cons.mp hi with rfl | hi
          · exact Nat.lt_succ_self _
          · exact Nat.lt_succ_of_lt (g.out_lt i hi)
        · intro i _ hi; cases hi
        -- `cover`: the new bit is outstanding; a smaller one was so already, the free list empty
        · intro i hi
          right
          have hi : i < s.l.pool.length + 1 := hi
          by_cases hil : i = s.l.pool.length
          · simp [hil]
          · rcases g.cover i (Nat.lt_of_le_of_ne (Nat.le_of_lt_succ hi) hil) with hf | ho
            · cases hf
            · exact List.mem_cons_of_mem _ ho
        · show s.outstanding.length + 1 = s.l.pool.length + 1
          rw [hcount]
        · exact hlt
        · show (s.l.pool.bits.set _ _).length = 64
          rw [List.length_set]; exact g.bits_len
        · intro b hb
          show (s.l.locks ||| ((1#64) <<< s.l.pool.length)).getLsbD b = true ↔ _
          rw [getLsbD_setBit _ _ _ hb, Bool.or_eq_true, decide_eq_true_iff, g.locks b hb,
            List.mem_cons]
          exact Or.comm
  -- a recycled bit: the head `x` of the free list, whose array cell `e` starts the rest `fl'`
  · right
    obtain ⟨x, fl', hfl⟩ : ∃ x fl', fl = x :: fl' := by
      cases fl with
      | nil => exact absurd hav.symm h0
      | cons x fl' => exact ⟨x, fl', rfl⟩
    subst hfl
    have hav' : s.l.pool.available = fl'.length + 1 := hav.symm
    have hch := g.ch
    rw [hav'] at hch
    obtain ⟨hnext, e, he, hrest⟩ := chain_succ _ _ _ _ _ hch
    have hxfl : x ∉ fl' := (List.nodup_cons.mp g.fl_nodup).1
    have hxlen : x < s.l.pool.length := g.fl_lt x (by simp)
    have hx64 : x < 64 := Nat.lt_of_lt_of_le hxlen hlen
    have hxb : x < s.l.pool.bits.length := by rw [g.bits_len]; exact hx64
    have hxout : x ∉ s.outstanding := fun hm => g.disj x hm (by simp)
    -- `Get` reads the successor `e`, then overwrites cell `x` with `x` and returns that cell
    have hgetD : s.l.pool.bits.getD x 0 = e := by
      rw [List.getD_eq_getElem?_getD, he]; rfl
    have hret : (s.l.pool.bits.set x x).getD x 0 = x := by
      rw [List.getD_eq_getElem?_getD, List.getElem?_set_self hxb]; rfl
    have hlock : s.l.lock =
        some ({ pool := { s.l.pool with bits := s.l.pool.bits.set x x, next := e,
                                        available := s.l.pool.available - 1 },
                locks := s.l.locks ||| ((1#64) <<< x) }, x) := by
      simp only [Lock.lock, BitPool.get, h0, if_false, hnext, hgetD, hret]
    refine ⟨_, x, hlock, hx64, hxout, ?_, fl', ?_⟩
    · exact Nat.lt_of_lt_of_le (hcount ▸ Nat.lt_add_of_pos_right (Nat.succ_pos _)) hlen
    · refine ⟨?_, (List.nodup_cons.mp g.fl_nodup).2, ?_, ?_, ?_, ?_, ?_, ?_, hlen, ?_, ?_⟩
      -- the rest of the chain does not pass through `x` (`hxfl`): writing cell `x` keeps it
      · show chain (s.l.pool.bits.set x x) e (s.l.pool.available - 1) = some fl'
        rw [hav', Nat.add_sub_cancel]
        exact chain_set _ _ _ _ _ _ hrest hxfl
      · intro i hi; exact g.fl_lt i (by simp [hi])
      · exact List.nodup_cons.mpr ⟨hxout, g.out_nodup⟩
      · intro i hi
        rcases List.mem_cons.mp hi with rfl | hi
        · exact hxlen
        · exact g.out_lt i hi
      · intro i hi hf
        rcases List.mem_cons.mp hi with rfl | hi
        · exact hxfl hf
        · exact g.disj i hi (by simp [hf])
      · intro i hi
        rcases g.cover i hi with hf | ho
        · rcases List.mem_cons.mp hf with rfl | hf
          · right; simp
          · left; exact hf
        · right; exact List.mem_cons_of_mem _ ho
      · exact (Nat.add_right_comm _ 1 _).trans hcount
      · show (s.l.pool.bits.set x x).length = 64
        rw [List.length_set]; exact g.bits_len
      · intro b hb
        show (s.l.locks ||| ((1#64) <<< x)).getLsbD b = true ↔ _
        rw [getLsbD_setBit _ _ _ hb, Bool.or_eq_true, decide_eq_true_iff, g.locks b hb,
          List.mem_cons]
        exact Or.comm

/-- What `Unlock(b)` does on a state satisfying the invariant: it succeeds exactly for the
    outstanding bits, and then keeps the invariant with `b` pushed on the free list. -/
theorem unlock_spec (s : LS) (fl : List Nat) (g : LInv s fl) (b : Nat) :
    (s.l.unlock b = none ∧ b ∉ s.outstanding) ∨
    (∃ l', s.l.unlock b = some l' ∧ b ∈ s.outstanding ∧
      LInv ⟨l', s.outstanding.erase b⟩ (b :: fl)) := by
  by_cases hbit : s.l.locks.getLsbD b = true
  · right
    have hout : b ∈ s.outstanding := g.locks_iff b |>.mp hbit
    have hblen : b < s.l.pool.length := g.out_lt b hout
    have hlen := g.len64
    have hb64 : b < 64 := by omega
    have hbb : b < s.l.pool.bits.length := by rw [g.bits_len]; exact hb64
    have hbfl : b ∉ fl := g.disj b hout
    refine ⟨{ pool := s.l.pool.recycle b, locks := s.l.locks &&& ~~~((1#64) <<< b) },
      by simp only [Lock.unlock, hbit, if_true], hout, ?_⟩
    refine ⟨?_, List.nodup_cons.mpr ⟨hbfl, g.fl_nodup⟩, ?_, g.out_nodup.erase b, ?_, ?_, ?_, ?_,
      hlen, ?_, ?_⟩
    · show chain (s.l.pool.bits.set b s.l.pool.next) b (s.l.pool.available + 1) = some (b :: fl)
      exact chain_succ_iff.2 ⟨_, fl, List.getElem?_set_self hbb, chain_set _ _ _ _ _ _ g.ch hbfl, rfl⟩
    · intro i hi
      rcases List.mem_cons.mp hi with rfl | hi
      · exact hblen
      · exact g.fl_lt i hi
    · intro i hi; exact g.out_lt i (List.mem_of_mem_erase hi)
    · intro i hi hf
      rcases List.mem_cons.mp hf with rfl | hf
      · exact (List.Nodup.not_mem_erase g.out_nodup) hi
      · exact g.disj i (List.mem_of_mem_erase hi) hf
    · intro i hi
      by_cases hib : i = b
      · left; simp [hib]
      · rcases g.cover i hi with hf | ho
        · left; exact List.mem_cons_of_mem _ hf
        · right; exact (List.mem_erase_of_ne hib).mpr ho
    · have hc := g.count
      have hpos : 0 < s.outstanding.length := List.length_pos_of_mem hout
      show (s.outstanding.erase b).length + (b :: fl).length = s.l.pool.length
      rw [List.length_erase_of_mem hout, List.length_cons]
      omega
    · show (s.l.pool.bits.set b s.l.pool.next).length = 64
      rw [List.length_set]; exact g.bits_len
    · intro i hi
      show (s.l.locks &&& ~~~((1#64) <<< b)).getLsbD i = true ↔ _
      rw [getLsbD_clearBit _ _ _ hi, Bool.and_eq_true, g.locks i hi]
      by_cases hib : i = b
      · subst hib
        simp [List.Nodup.not_mem_erase g.out_nodup]
      · simp [hib, List.mem_erase_of_ne hib]
  · left
    refine ⟨by simp only [Lock.unlock, hbit]; rfl, ?_⟩
    intro hm; exact hbit ((g.locks_iff b).mpr hm)

/-- `Reset` re-establishes the initial abstract state (the array contents are kept). -/
theorem reset_inv (s : LS) (fl : List Nat) (g : LInv s fl) : LInv ⟨s.l.reset, []⟩ [] := by
  refine ⟨rfl, List.nodup_nil, ?_, List.nodup_nil, ?_, ?_, ?_, rfl, Nat.zero_le _, g.bits_len, ?_⟩
  · intro i hi; cases hi
  · intro i hi; cases hi
  · intro i hi; cases hi
  · intro i hi; exact absurd hi (Nat.not_lt_zero i)
  · intro b _; simp [Lock.reset]

theorem step_inv (s : LS) (fl : List Nat) (g : LInv s fl) (op : Op) :
    ∃ fl', LInv (s.step op) fl' := by
  cases op with
  | lock =>
    rcases lock_spec s fl g with ⟨hn, _⟩ | ⟨l', b, hl, _, _, _, fl', g'⟩
    · exact ⟨fl, by simpa only [LS.step, hn] using g⟩
    · exact ⟨fl', by simpa only [LS.step, hl] using g'⟩
  | unlock b =>
    rcases unlock_spec s fl g b with ⟨hn, _⟩ | ⟨l', hl, _, g'⟩
    · exact ⟨fl, by simpa only [LS.step, hn] using g⟩
    · exact ⟨b :: fl, by simpa only [LS.step, hl] using g'⟩
  | reset => exact ⟨[], reset_inv s fl g⟩

theorem run_inv (ops : List Op) :
    ∀ (s : LS) (fl : List Nat), LInv s fl → ∃ fl', LInv (s.run ops) fl' := by
  induction ops with
  | nil => intro s fl g; exact ⟨fl, g⟩
  | cons op ops ih =>
    intro s fl g
    obtain ⟨fl1, g1⟩ := step_inv s fl g op
    exact ih _ _ g1

theorem LInv.isLocked_iff {l : Lock} {out fl : List Nat} (g : LInv ⟨l, out⟩ fl) :
    l.isLocked = true ↔ out ≠ [] := by
  simp only [Lock.isLocked, bne_iff_ne, ne_eq]
  constructor
  · intro hne hnil
    apply hne
    apply BitVec.eq_of_getLsbD_eq
    intro i hi
    have := g.locks i hi
    simp only [hnil, List.not_mem_nil, iff_false, Bool.not_eq_true] at this
    rw [this]; simp
  · intro hne hz
    cases hout : out with
    | nil => exact hne hout
    | cons b rest =>
      have hb : l.locks.getLsbD b = true := (g.locks_iff b).mpr (by show b ∈ out; rw [hout]; simp)
      rw [hz] at hb
      simp at hb

theorem LInv.unlocked_iff {l : Lock} {out fl : List Nat} (g : LInv ⟨l, out⟩ fl) :
    l.isLocked = false ↔ out = [] := by
  have := g.isLocked_iff
  cases h : l.isLocked with
  | true => simp only [h, true_iff] at this; simp [this]
  | false =>
    simp only [h, Bool.false_eq_true, false_iff, ne_eq, Decidable.not_not] at this
    simp [this]

theorem LInv.out_le {l : Lock} {out fl : List Nat} (g : LInv ⟨l, out⟩ fl) : out.length ≤ 64 := by
  have h1 := g.count
  have h2 := g.len64
  simp only at h1 h2
  omega

/-- **a `Lock()`/`Unlock()` cycle** with fewer than 64 bits outstanding goes through: in between
    the bit handed out is outstanding as well; afterwards the outstanding bits and the 64-bit mask
    are those before, while the bit pool remembers the bit (it heads the free list). -/
theorem LInv.cycle {L : Lock} {out fl : List Nat} (g : LInv ⟨L, out⟩ fl) (h64 : out.length < 64) :
    ∃ (l1 : Lock) (b : Nat) (l2 : Lock) (fl1 : List Nat), L.lock = some (l1, b) ∧
      l1.unlock b = some l2 ∧ LInv ⟨l1, b :: out⟩ fl1 ∧ LInv ⟨l2, out⟩ (b :: fl1) ∧
      l2.locks = L.locks := by
  rcases lock_spec _ _ g with ⟨_, h⟩ | ⟨l1, b, hl, _, _, _, fl1, g1⟩
  · simp only at h; omega
  · rcases unlock_spec _ _ g1 b with ⟨_, hn⟩ | ⟨l2, hu, _, g2⟩
    · exact absurd List.mem_cons_self hn
    · rw [show (b :: out).erase b = out from List.erase_cons_head ..] at g2
      refine ⟨l1, b, l2, fl1, hl, hu, g1, g2, BitVec.eq_of_getLsbD_eq fun i hi => ?_⟩
      exact Bool.eq_iff_iff.mpr ((g2.locks i hi).trans (g.locks i hi).symm)

end Lock
end Ark
