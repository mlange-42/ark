/-
  Ark.Proofs.Lookups — what the query cache sees of the two primitive cases of a table lookup
  (`lookup_induct` in `Ark.Proofs.SInv`: `findOrCreateArch` and `createTable`): a new archetype
  selects nothing (`selected_append_arch`), a new table becomes active in its archetype
  (`TableAdded.toCache`).
-/
import Ark.Proofs.CacheInv
import Ark.Proofs.SInv

set_option autoImplicit false

namespace Ark

open World

namespace World

/-- a new archetype has no table: selection is unchanged -/
theorem selected_append_arch {w w' : World} (mask : Mask)
    (ha : w'.archetypes = w.archetypes ++ [newArch w mask]) (ht : w'.tables = w.tables)
    (f : Filter) (rels : List RelID) (t : Nat) :
    Selected w' f rels t ↔ Selected w f rels t := by
  unfold Selected tbl
  rw [ha, ht]
  constructor
  · rintro ⟨a, A, hA, h1, h2, h3⟩
    rcases getElem?_concat_cases hA with ⟨_, hA'⟩ | ⟨_, rfl⟩
    · exact ⟨a, A, hA', h1, h2, h3⟩
    · simp [newArch, Archetype.new, TableIDs.ofList] at h1
  · rintro ⟨a, A, hA, h1, h2, h3⟩
    exact ⟨a, A, by rw [List.getElem?_append_left (alt_of_get hA)]; exact hA, h1, h2, h3⟩

end World

/-- the storage part of `createTable` in the vocabulary of the cache: table `tid` becomes active
    in archetype `a` -/
theorem TableAdded.toCache {w w' : World} {a tid : Nat} {A A2 : Archetype} {Tn : Table}
    (ta : TableAdded w w' a tid A A2 Tn) (hc : w'.cache = w.cache) :
    World.TableAdded w w' a tid where
  other := fun a' hne => ta.aget_ne hne
  here := ⟨A, A2, ta.hA, ta.aget_self, ta.mask, fun t' ht' => by
    rw [ta.memT]
    constructor
    · rintro (h | h)
      · exact h
      · exact absurd h ht'
    · exact Or.inl⟩
  tbl := fun t' ht' => tbl_eq_of_get (ta.tget_ne ht')
  cache := hc
  inactive := by
    intro a' B hB hm
    by_cases ha : a' = a
    · subst ha
      rw [ta.hA] at hB
      have hBA : A = B := Option.some.inj hB
      subst hBA
      have hnd := ta.struct.tablesWF.nodup
      rw [ta.tabsEq] at hnd
      have := (List.nodup_append.mp hnd).2.2 tid hm tid (List.mem_singleton.mpr rfl)
      exact this rfl
    · exact (ta.others a' B ha hB).1 hm
  active := by
    intro A' hA'
    rw [ta.aget_self] at hA'
    rw [← Option.some.inj hA']
    exact (ta.memT tid).2 (Or.inr rfl)
  back := by rw [tbl_of_get ta.tget_self]; exact ta.tArch

end Ark
