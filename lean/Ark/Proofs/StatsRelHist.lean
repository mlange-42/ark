/-
  Property C19 for worlds WITH relation tables over histories: the machine `step4` (the relation machine
  with `Exchange`, plus `Stats()` steps) and its invariant; and "statistics updated incrementally over a
  history equal those of a world that replays the history and is asked once".
-/
import Ark.Proofs.CallbacksRel
import Ark.Proofs.RelExchangeHist
import Ark.Proofs.StatsRel

section

/-! ## §1 histories

  The machine `step4` = the relation machine with `Exchange` (`Ark.RelRefine3.step3`: entity
  operations with relation components — `NewEntity`, `Add`, `Remove`, `SetRelations`, `Set`,
  `RemoveEntity` (with `cleanupArchetypes`: relation tables are FREED and RECYCLED), `Exchange`,
  `CopyEntity`, `Shrink` (frees empty relation tables), `Reset` (frees ALL relation tables; the
  statistics object `w.stats` survives it), filter definition / registration /
  unregistration, complete query iterations) plus `stats` = `World.Stats()`.

  Every step of the relation machine is an `RStep` — while the NUMBER OF ACTIVE TABLES of a
  relation archetype goes up and down; so the stored object stays `Compatible` (`HInv4`; all
  histories with `ops.length < 2^16`, `Reset` included: the scope of `RelRefine3.reach3_inv`),
  incremental = fresh at every `Stats()` call (`reach4_opStats`), the figures agree with the
  contents (`stats_agree` of Ark/Props/C19Rel.lean), and the stored object IS the exact
  statistics of the world at the last `Stats()` call (`reach4_stored`).
-/

set_option autoImplicit false

namespace Ark

open World Ark.Props.C01World QueryRel QueryExact

/-! ### the invariants do not read the statistics object -/

theorem TInv.setStats {w : World} {fl : List Nat} (h : TInv w fl) (st : WorldStats) :
    TInv { w with stats := st } fl := h.put4 (w.obs, w.log, w.locks, st)

theorem RelRefine.HInv.setStats {s : RelRefine.St} {fl : List Nat} (H : RelRefine.HInv s fl)
    (st : WorldStats) : RelRefine.HInv ⟨{ s.w with stats := st }, s.issued, s.ss⟩ fl :=
  H.of_kinds (H.tinv.setStats st) H.ginv rfl rfl H.nodup rfl rfl
    (fun e en hm => (H.ok e en hm).frame
      ⟨fun c => valOf_congr rfl rfl _ c, compsOf_congr rfl rfl _⟩ (fun _ => rfl)) H.tgtsOK

theorem RelRefine2.FInvR.setStats {w : World} (h : RelRefine2.FInvR w) (st : WorldStats) :
    RelRefine2.FInvR { w with stats := st } where
  cache := ⟨h.cache.uniq, h.cache.index, fun e hm => ⟨(h.cache.entries e hm).1,
    fun t => ((h.cache.entries e hm).2 t).trans
      (Selected_congr (w := w) (w' := { w with stats := st }) rfl rfl e.filter e.rels t).symm⟩⟩
  heap := ⟨h.heap.reg, h.heap.inj, h.heap.typed, h.heap.rels⟩
  cidx := h.cidx.of_frame ⟨rfl, rfl, rfl, fun _ => rfl⟩
  rows := h.rows
  lock := h.lock
  pool := ⟨h.pool.avail, h.pool.bound⟩

theorem RelRefine2.HInv2.setStats {s : RelRefine.St} {fl : List Nat} (H : RelRefine2.HInv2 s fl)
    (st : WorldStats) : RelRefine2.HInv2 ⟨{ s.w with stats := st }, s.issued, s.ss⟩ fl :=
  ⟨H.base.setStats st, H.finv.setStats st⟩

/-! ### every step of the relation machine is an `RStep` -/

namespace RelStats

open RelRefine RelRefine2 RelRefine3

theorem noObs_of_hinv {s : St} {fl : List Nat} (H : HInv s fl) : NoObs s.w := H.noObs

/-- **the frame of every operation of the relation machine `Ark.RelRefine`** (`reg`, `new p`,
    `add p`, `rem p`, `setrel p`, `set`, `del`) on a world without observers, with any callback
    runner: it neither reads nor writes the statistics object (success and panic), and on success
    is an `RStep` (for `reg`: where the components of the archetypes are registered) -/
theorem exec_frame (run : ProbeRunner) {w : World} (hno : NoObs w) (op : Op) :
    (∀ (st : WorldStats), exec run (w.setStats st) op = liftS st (exec run w op)) ∧
    (SInvMid w → ∀ (r : Option Ent) (w' : World), exec run w op = .ok r w' → RStep w w') := by
  cases op with
  | reg size z ir =>
    refine ⟨fun st => ?_, fun hS => (FrAt.of_map (m' := (exec run · (.reg size z ir)))
      (frAt_registerComponent hS _) (fun _ => none) fun x => by
        cases h : registerComponent { isRel := ir, zst := z, size := size } x <;>
          simp only [exec, h]).2⟩
    simp only [exec]
    rw [indep_registerComponent _ w st]
    cases registerComponent { isRel := ir, zst := z, size := size } w <;> rfl
  | new p ids vals rels =>
    have F : FrAt (exec run · (.new p ids vals rels)) w := (fr_opNewEntity run p ids vals rels w hno).of_map some
      fun x => by cases h : opNewEntity run p ids vals rels x <;> simp only [exec, h]
    exact ⟨F.1, fun _ => F.2⟩
  | add p e ids vals rels =>
    have F : FrAt (exec run · (.add p e ids vals rels)) w := (fr_opAdd run p e ids vals rels w hno).of_map (fun _ => none)
      fun x => by cases h : opAdd run p e ids vals rels x <;> simp only [exec, h]
    exact ⟨F.1, fun _ => F.2⟩
  | rem p e ids =>
    have F : FrAt (exec run · (.rem p e ids)) w := (fr_opRemove run p e ids w hno).of_map (fun _ => none)
      fun x => by cases h : opRemove run p e ids x <;> simp only [exec, h]
    exact ⟨F.1, fun _ => F.2⟩
  | setrel p e rels =>
    have F : FrAt (exec run · (.setrel p e rels)) w := (fr_opSetRelations run p e _ rels w hno).of_map (fun _ => none)
      fun x => by cases h : opSetRelations run p e (rels.map (·.comp)) rels x <;> simp only [exec, h]
    exact ⟨F.1, fun _ => F.2⟩
  | set e vals =>
    have F : FrAt (exec run · (.set e vals)) w := (fr_opSet run e _ vals w hno).of_map (fun _ => none)
      fun x => by cases h : opSet run e (Refine.keys vals) vals x <;> simp only [exec, h]
    exact ⟨F.1, fun _ => F.2⟩
  | del e =>
    have F : FrAt (exec run · (.del e)) w := (fr_opRemoveEntity run e w hno).of_map (fun _ => none)
      fun x => by cases h : opRemoveEntity run e x <;> simp only [exec, h]
    exact ⟨F.1, fun _ => F.2⟩

theorem exec_rstep (run : ProbeRunner) {w : World} (hno : NoObs w) (hS : SInvMid w) {op : Op}
    {r : Option Ent} {w' : World} (hex : exec run w op = .ok r w') : RStep w w' :=
  (exec_frame run hno op).2 hS r w' hex

/-- every step of `Ark.RelRefine` (guard failing, call rejected, call succeeding) -/
theorem step_rstep (run : ProbeRunner) {s : St} {fl : List Nat} (H : HInv s fl)
    (hfew : s.w.tables.length + s.w.relationArchetypes.length + 1 ≤ maxU32)
    (hent : 2 * s.w.entities.length < 2 ^ 32) (op : Op) : RStep s.w (step run s op).w := by
  obtain ⟨_, _, _, _, g4, g5⟩ := step_goal run H hfew hent op
  by_cases hg : guard s op = true
  case neg => rw [step, if_neg hg]; exact RStep.refl _
  rw [step_of_guard hg]
  rcases Classical.em (pre s.ss op) with hp | hnp
  · obtain ⟨r, w', hex⟩ := g5 hg hp
    rw [hex]; exact exec_rstep run H.noObs H.tinv.rel.sinv.toSInvMid hex
  · obtain ⟨k, hex⟩ := g4 hg hnp
    rw [hex]; exact RStep.refl _

theorem SameButCF.rstep {w w' : World} (h : SameButCF w w') : RStep w w' := by
  unfold SameButCF at h
  exact RStep.of_eq (by rw [h]) (by rw [h]) (by rw [h]) (by rw [h])

theorem rstep_withLocks (w : World) (l : Lock) : RStep w (w.withLocks l) :=
  RStep.of_eq rfl rfl rfl rfl

/-- **every step of the relation machine `Ark.RelRefine2`**, `Reset` included (it keeps the
    archetypes, frees all relation tables and does not touch the statistics object) -/
theorem step2_rstep (run : ProbeRunner) {s : St} {fl : List Nat} (H : HInv2 s fl)
    (hfew : s.w.tables.length + s.w.relationArchetypes.length + 1 ≤ maxU32)
    (hent : 2 * s.w.entities.length < 2 ^ 32) (op : Op2) :
    RStep s.w (step2 run s op).w := by
  have hno : NoObs s.w := H.base.noObs
  cases op with
  | base op => exact step_rstep run H.base hfew hent op
  | copy e =>
    by_cases hi : e ∈ s.issued
    case neg =>
      simp only [step2, decide_eq_true_eq, if_neg hi]; exact RStep.refl _
    obtain ⟨acc, rej⟩ := step2_copy_eq run H hent hi
    cases hf : find s.ss.ents e with
    | none => rw [(rej hf).2]; exact RStep.refl _
    | some en =>
      obtain ⟨w', hop, _, hstep⟩ := acc en hf
      rw [hstep]
      exact (fr_opCopyEntity run e s.w hno).2 _ _ hop
  | shrink bounded =>
    simp only [step2, opShrink_eq bounded s.w H.base.unlocked]
    exact rstep_shrinkPure _ _
  | reset =>
    simp only [step2, opReset_eq s.w H.base.unlocked]
    exact ⟨SStep.reset H.base.tinv.rel.sinv, fun hn evt => by
      show ((resetW s.w).obs.evt evt).hasObservers = false
      rw [resetW_obs]; exact ObsMgr.reset_noObs hn evt⟩
  | fdef f fo =>
    by_cases hg : guardF s.w fo = true
    · simp only [step2, if_pos hg]
      exact SameButCF.rstep (defFilter_sameButCF f fo s.w).1
    · simp only [step2, if_neg hg]; exact RStep.refl _
  | freg f => exact SameButCF.rstep (H.finv.filterRegister H.base.tinv f).2.1
  | funreg f => exact SameButCF.rstep (H.finv.filterUnregister H.base.tinv f).2.1
  | query f extra =>
    rcases step2_query_eq run H f extra with h | ⟨l2, _, h⟩ <;> rw [h]
    · exact RStep.refl _
    · exact rstep_withLocks _ _

theorem step3_rstep (run : ProbeRunner) {s : St} {fl : List Nat} (H : HInv2 s fl)
    (hfew : s.w.tables.length + s.w.relationArchetypes.length + 1 ≤ maxU32)
    (hent : 2 * s.w.entities.length < 2 ^ 32) (op : Op3) :
    RStep s.w (step3 run s op).w := by
  cases op with
  | base2 op => exact step2_rstep run H hfew hent op
  | xchg p e add vals rem rels =>
    obtain ⟨_, _, g3, g4⟩ := step3_xchg run H (by omega) (by omega) p e add vals rem rels
    by_cases hg : guardXchg s p e add rels = true
    case neg =>
      simp only [step3, if_neg hg]; exact RStep.refl _
    simp only [step3, if_pos hg]
    rcases Classical.em (preXchg s.ss e add rem rels) with hp | hnp
    · obtain ⟨w', hex⟩ := g4 hg hp
      rw [hex]
      exact (fr_opExchange run p e add vals rem rels s.w H.base.noObs).2 _ _ hex
    · obtain ⟨k, hex⟩ := g3 hg hnp
      rw [hex]
      exact RStep.refl _


/-! ### the history machine with `Stats()` calls -/

/-- the operations: those of the relation machine with `Exchange`, plus `World.Stats()` -/
inductive Op4
  | op (o : Op3)
  /-- `World.Stats()`: updates the re-used object `w.stats` in place and returns it -/
  | stats
  deriving Repr

def Op4.isReset : Op4 → Bool
  | .op o => o.isReset
  | .stats => false

def Op4.isStats : Op4 → Bool
  | .op _ => false
  | .stats => true

/-- one step; `Stats()` leaves the ghost history and the specification alone -/
def step4 (run : ProbeRunner) (s : St) : Op4 → St
  | .op o => step3 run s o
  | .stats => { s with w := (opStats s.w).state }

def runOps4 (run : ProbeRunner) (s : St) (ops : List Op4) : St := ops.foldl (step4 run) s

/-- the state reached from `NewWorld(cap, rel)` by the history `ops` -/
def reach4 (run : ProbeRunner) (cap rel : Nat) (ops : List Op4) : St :=
  runOps4 run (St.init cap rel) ops

theorem reach4_snoc (run : ProbeRunner) (cap rel : Nat) (ops : List Op4) (op : Op4) :
    reach4 run cap rel (ops ++ [op]) = step4 run (reach4 run cap rel ops) op := by
  simp only [reach4, runOps4, List.foldl_append, List.foldl_cons, List.foldl_nil]

/-- **the inductive invariant**: that of the relation machine (`HInv2` ⊇ `RelRefine.HInv` ⊇
    `TInv`; `FInvR`), and: the re-used statistics object is compatible with the world, and no
    observer was ever registered -/
structure HInv4 (s : St) (fl : List Nat) : Prop where
  base : HInv2 s fl
  compat : Compatible s.w.stats s.w
  obs0 : s.w.obs.totalCount = 0

theorem hinv4_init (cap rel : Nat) : HInv4 (St.init cap rel) [] :=
  ⟨hinv2_init cap rel, compatible_empty _, rfl⟩

theorem step4_stats_eq (run : ProbeRunner) {s : St} (hc : Compatible s.w.stats s.w) :
    step4 run s .stats = ⟨{ s.w with stats := statsFresh s.w }, s.issued, s.ss⟩ := by
  show ({ s with w := (opStats s.w).state } : St) = _
  rw [opStats_eq s.w hc]; rfl

/-- **one step keeps the invariant** (every operation, `Reset` included) -/
theorem step4_inv (run : ProbeRunner) {s : St} {fl : List Nat} (H : HInv4 s fl)
    (hfew : s.w.tables.length + s.w.relationArchetypes.length + 1 ≤ maxU32)
    (hent : 2 * s.w.entities.length < 2 ^ 32) (op : Op4) :
    (∃ fl', HInv4 (step4 run s op) fl') ∧ Grows s (step4 run s op) := by
  cases op with
  | op o =>
    obtain ⟨⟨fl1, h1⟩, g⟩ := step3_inv run H.base hfew hent o
    have rs := step3_rstep run H.base hfew hent o
    exact ⟨⟨fl1, h1, H.compat.sstep rs.sstep, rs.sstep.obs0 H.obs0⟩, g⟩
  | stats =>
    rw [step4_stats_eq run H.compat]
    exact ⟨⟨fl, H.base.setStats _, compatible_fresh_self s.w, H.obs0⟩,
      ⟨by show s.w.tables.length ≤ _; omega, Nat.le_succ _, Nat.le_succ _⟩⟩

theorem reach4_sized (run : ProbeRunner) (cap rel : Nat) (ops : List Op4)
    (hlen : ops.length < 2 ^ 16) :
    ∃ fl, HInv4 (reach4 run cap rel ops) fl ∧
      (reach4 run cap rel ops).w.tables.length ≤ 1 + ops.length * ops.length ∧
      (reach4 run cap rel ops).w.relationArchetypes.length ≤ ops.length ∧
      (reach4 run cap rel ops).w.entities.length ≤ 2 + ops.length :=
  init_sizes HInv4 (fun _ _ op H hfew hent =>
    let ⟨a, g1, g2, g3⟩ := step4_inv run H hfew hent op; ⟨a, g1, g2, g3⟩) (hinv4_init cap rel) ops hlen

/-- **the invariant holds at every reachable state** (the bound of `RelRefine.reach_hinv`) -/
theorem reach4_inv (run : ProbeRunner) (cap rel : Nat) (ops : List Op4)
    (hlen : ops.length < 2 ^ 16) :
    ∃ fl, HInv4 (reach4 run cap rel ops) fl :=
  let ⟨fl, h, _⟩ := reach4_sized run cap rel ops hlen; ⟨fl, h⟩

/-- the size hypotheses of the step lemmas hold in every reachable state (one more operation
    fits) -/
theorem reach4_fits (run : ProbeRunner) (cap rel : Nat) (ops : List Op4)
    (hlen : ops.length + 1 < 2 ^ 16) :
    (reach4 run cap rel ops).w.tables.length + (reach4 run cap rel ops).w.relationArchetypes.length +
      1 ≤ maxU32 ∧ 2 * (reach4 run cap rel ops).w.entities.length < 2 ^ 32 :=
  let ⟨_, _, b1, b2, b3⟩ := reach4_sized run cap rel ops (by omega); fits_of_bounds hlen b1 b2 b3

/-! ### the theorems over histories -/

/-- **incremental = fresh at every `Stats()` call of every history**: whatever entity
    operations with relations (creating, freeing and recycling relation tables), filter
    operations, queries and earlier `Stats()` calls came before, the call returns (and stores)
    the statistics a world asked for the first time would report -/
theorem reach4_opStats (run : ProbeRunner) (cap rel : Nat) (ops : List Op4)
    (hlen : ops.length < 2 ^ 16) :
    opStats (reach4 run cap rel ops).w =
      .ok (statsFresh (reach4 run cap rel ops).w)
        { (reach4 run cap rel ops).w with stats := statsFresh (reach4 run cap rel ops).w } := by
  obtain ⟨fl, H⟩ := reach4_inv run cap rel ops hlen
  exact opStats_eq _ H.compat

theorem reach4_after_stats (run : ProbeRunner) (cap rel : Nat) (ops : List Op4)
    (hlen : ops.length < 2 ^ 16) :
    (reach4 run cap rel (ops ++ [.stats])).w.stats = statsFresh (reach4 run cap rel ops).w := by
  obtain ⟨fl, H⟩ := reach4_inv run cap rel ops hlen
  rw [reach4_snoc, step4_stats_eq run H.compat]

theorem reach4_after_op (run : ProbeRunner) (cap rel : Nat) (ops : List Op4) (o : Op3)
    (hlen : ops.length + 1 < 2 ^ 16) :
    (reach4 run cap rel (ops ++ [.op o])).w.stats = (reach4 run cap rel ops).w.stats := by
  obtain ⟨fl, H⟩ := reach4_inv run cap rel ops (by omega)
  obtain ⟨f1, f2⟩ := reach4_fits run cap rel ops hlen
  rw [reach4_snoc]
  exact (step3_rstep run H.base f1 f2 o).sstep.stats

/-- the history up to (excluding) its last `Stats()` call, if it has one -/
def lastStatsPrefix : List Op4 → Option (List Op4)
  | [] => none
  | op :: rest =>
    match lastStatsPrefix rest with
    | some pre => some (op :: pre)
    | none => if op.isStats then some [] else none

theorem lastStatsPrefix_snoc_stats : ∀ (ops : List Op4),
    lastStatsPrefix (ops ++ [.stats]) = some ops
  | [] => rfl
  | op :: rest => by
    simp only [List.cons_append, lastStatsPrefix, lastStatsPrefix_snoc_stats rest]

theorem lastStatsPrefix_snoc_op (o : Op3) : ∀ (ops : List Op4),
    lastStatsPrefix (ops ++ [.op o]) = lastStatsPrefix ops
  | [] => rfl
  | op :: rest => by
    simp only [List.cons_append, lastStatsPrefix, lastStatsPrefix_snoc_op o rest]

/-- **the stored object is the exact statistics of an earlier world of the history**: the world
    at the last `Stats()` call — or the empty object if there was no call yet.  (Between that call
    and now tables of relation archetypes may have been freed and recycled; the stored per-table
    lists are those of THEN.) -/
theorem reach4_stored (run : ProbeRunner) (cap rel : Nat) :
    ∀ (n : Nat) (ops : List Op4), ops.length = n → ops.length < 2 ^ 16 →
      (reach4 run cap rel ops).w.stats =
        match lastStatsPrefix ops with
        | none => {}
        | some pre => statsFresh (reach4 run cap rel pre).w := by
  intro n
  induction n with
  | zero =>
    intro ops hn _
    have : ops = [] := List.eq_nil_of_length_eq_zero hn
    subst this
    rfl
  | succ n ih =>
    intro ops hn hlen
    have hne : ops ≠ [] := by intro h; rw [h] at hn; simp at hn
    have hsplit := List.dropLast_concat_getLast hne
    have hpl : ops.dropLast.length = n := by rw [List.length_dropLast, hn]; rfl
    rw [← hsplit]
    cases hop : ops.getLast hne with
    | stats =>
      rw [lastStatsPrefix_snoc_stats]
      exact reach4_after_stats run cap rel _ (by omega)
    | op o =>
      rw [lastStatsPrefix_snoc_op]
      rw [reach4_after_op run cap rel _ o (by omega)]
      exact ih _ hpl (by omega)

end RelStats

end Ark

end

section

/-! ## §2 incremental statistics equal those of a replay

  "statistics that were updated incrementally over a history equal those of a world that replays
  the history and is asked once."

  A complete query iteration looks at neither observers, log nor statistics object
  (`commutes_drain`, hence `indep_drain`),
  so every step of the relation machines commutes with replacing it; hence `replay`: the history
  reaches the world the history without its `Stats()` calls reaches, up to `w.stats`, with the
  same handles and the same specification.
-/

set_option autoImplicit false

namespace Ark

open World

/-! ### queries do not read the statistics object -/

namespace World

theorem commutes_lock : Commutes put3 lock := fun w x => by
  unfold lock
  rw [show (w.put3 x).locks = w.locks from rfl]
  cases w.locks.lock with
  | none => rfl
  | some p => rfl

theorem commutes_unlock (b : Nat) : Commutes put3 (unlock b) := fun w x => by
  unfold unlock
  rw [show (w.put3 x).locks = w.locks from rfl]
  cases w.locks.unlock b with
  | none => rfl
  | some p => rfl

variable (x : ObsMgr × List LogEv × WorldStats)

theorem qNextTable_go_put3 (w : World) (tables : List Nat) :
    ∀ (fuel : Nat) (q : QueryObj),
      qNextTable.go (w.put3 x) tables q fuel = qNextTable.go w tables q fuel
  | 0, _ => rfl
  | fuel + 1, q => by
    simp only [qNextTable.go]
    have ht : ∀ (t : Nat), (w.put3 x).tbl t = w.tbl t := fun _ => rfl
    simp only [ht, qNextTable_go_put3 w tables fuel]
    rfl

theorem qNextTable_put3 (w : World) (q : QueryObj) (tables : List Nat) :
    qNextTable (w.put3 x) q tables = qNextTable w q tables :=
  qNextTable_go_put3 x w tables _ q

theorem qNextArchetype_go_put3 (w : World) (archs : List Nat) :
    ∀ (fuel : Nat) (q : QueryObj),
      qNextArchetype.go (w.put3 x) archs q fuel = qNextArchetype.go w archs q fuel
  | 0, _ => rfl
  | fuel + 1, q => by
    simp only [qNextArchetype.go]
    have ht : ∀ (t : Nat), (w.put3 x).tbl t = w.tbl t := fun _ => rfl
    have ha : ∀ (a : Nat), (w.put3 x).arch a = w.arch a := fun _ => rfl
    simp only [ht, ha, qNextTable_put3, qNextArchetype_go_put3 w archs fuel]
    rfl

theorem qNextArchetype_put3 (w : World) (q : QueryObj) :
    qNextArchetype (w.put3 x) q = qNextArchetype w q := by
  unfold qNextArchetype
  have h : (w.put3 x).archList q.rare = w.archList q.rare := rfl
  simp only [h]
  exact qNextArchetype_go_put3 x w _ _ _

theorem commutes_qClose (q : QueryObj) : Commutes put3 (qClose q) := by
  unfold qClose
  apply Commutes.ite
  · exact Commutes.pure _
  · exact Commutes.bind (commutes_unlock _) fun _ => Commutes.pure _

theorem commutes_qNext (q : QueryObj) : Commutes put3 (qNext q) := by
  unfold qNext
  refine Commutes.when_then (Commutes.panic _) fun _ => Commutes.ite (Commutes.pure _) ?_
  refine Commutes.get_bind ?_ fun w => ?_
  · intro w x
    simp only [qNextTable_put3, qNextArchetype_put3]
  have done : ∀ (r : Option (QueryObj × Bool)), Commutes put3 (match r with
      | none => M.panic .runtime
      | some (q, true) => pure (q, true)
      | some (q, false) => do
        let q ← qClose q
        pure (q, false) : W (QueryObj × Bool)) := by
    intro r
    cases r with
    | none => exact Commutes.panic _
    | some p =>
      obtain ⟨q1, b⟩ := p
      cases b with
      | true => exact Commutes.pure _
      | false => exact Commutes.bind (commutes_qClose _) fun _ => Commutes.pure _
  cases q.cacheTables with
  | some ts => exact done _
  | none =>
    dsimp only
    cases (if q.archetype ≥ 0 then qNextTable w q q.tables else some (q, false)) with
    | none => exact Commutes.panic _
    | some p =>
      obtain ⟨q1, b⟩ := p
      cases b with
      | true => exact Commutes.pure _
      | false => exact done _

theorem rareComponent_go_put3 (w : World) : ∀ (ids : List Comp) (best : Comp)
    (bc : Option Nat),
    rareComponent.go (w.put3 x) best bc ids = rareComponent.go w best bc ids
  | [], _, _ => rfl
  | c :: rest, best, bc => by
    simp only [rareComponent.go]
    have ha : (w.put3 x).archCount = w.archCount := rfl
    simp only [ha, rareComponent_go_put3 w rest]

theorem rareComponent_put3 (w : World) (ids : List Comp) :
    (w.put3 x).rareComponent ids = w.rareComponent ids :=
  rareComponent_go_put3 x w ids _ _

theorem commutes_qOpen (fo : FilterObj) (extra : List RelID) : Commutes put3 (qOpen fo extra) := by
  unfold qOpen
  refine Commutes.when_then (commutes_preCheckTyped _ _).to3 fun _ => ?_
  refine Commutes.get_bind ?_ fun w => ?_
  · intro w x
    have hc : ∀ (id : Nat), (w.put3 x).cacheEntry? id = w.cacheEntry? id := fun _ => rfl
    simp only [hc, rareComponent_put3]
  cases fo.cache with
  | none =>
    exact Commutes.bind (Commutes.pure _) fun _ => Commutes.bind commutes_lock fun _ => Commutes.pure _
  | some id =>
    dsimp only
    cases w.cacheEntry? id with
    | none =>
      exact Commutes.bind (Commutes.panic _) fun _ => Commutes.bind commutes_lock fun _ => Commutes.pure _
    | some ce =>
      exact Commutes.bind (Commutes.pure _) fun _ => Commutes.bind commutes_lock fun _ => Commutes.pure _

theorem commutes_drainFrom : ∀ (fuel : Nat) (q : QueryObj), Commutes put3 (drainFrom q fuel)
  | 0, _ => Commutes.pure _
  | fuel + 1, q => by
    unfold drainFrom
    refine Commutes.bind (commutes_qNext q) fun x => ?_
    obtain ⟨q1, more⟩ := x
    dsimp only
    apply Commutes.ite
    · exact Commutes.pure _
    · refine Commutes.get_bind (fun _ _ => rfl) fun w => ?_
      refine Commutes.bind (commutes_drainFrom fuel q1) fun y => ?_
      obtain ⟨q2, rest⟩ := y
      exact Commutes.pure _

/-- **a complete query iteration neither reads nor writes observers, log and statistics object** -/
theorem commutes_drain (fo : FilterObj) (extra : List RelID) : Commutes put3 (drain fo extra) := by
  unfold drain
  refine Commutes.bind (commutes_qOpen fo extra) fun q => ?_
  refine Commutes.get_bind (fun _ _ => rfl) fun w => ?_
  refine Commutes.bind (commutes_drainFrom _ q) fun y => ?_
  obtain ⟨q2, vs⟩ := y
  exact Commutes.pure _

theorem indep_drain (fo : FilterObj) (extra : List RelID) : Indep (drain fo extra) :=
  (commutes_drain fo extra).stats3.indep

end World

/-! ### every step of the relation machines commutes with replacing the statistics object -/

def RelRefine.St.setStats (s : RelRefine.St) (st : WorldStats) : RelRefine.St :=
  ⟨s.w.setStats st, s.issued, s.ss⟩

theorem RelRefine2.defFilter_setStats (f : Nat) (fo : FilterObj) (w : World) (st : WorldStats) :
    RelRefine2.defFilter f fo (w.setStats st) = (RelRefine2.defFilter f fo w).setStats st := by
  unfold RelRefine2.defFilter
  rw [indep_typedCheck fo w st]
  cases (if fo.typed then preCheckTyped fo.filter.mask fo.rels else pure ()) w <;> rfl

namespace RelStats

open RelRefine RelRefine2 RelRefine3

theorem exec_setStats (run : ProbeRunner) {w : World} (hno : NoObs w) (op : Op) (st : WorldStats) :
    exec run (w.setStats st) op = liftS st (exec run w op) :=
  (exec_frame run hno op).1 st

theorem step_setStats (run : ProbeRunner) {s : St} (hno : NoObs s.w) (op : Op) (st : WorldStats) :
    step run (s.setStats st) op = (step run s op).setStats st := by
  have hgeq : guard (s.setStats st) op = guard s op := rfl
  by_cases hg : guard s op = true
  case neg => rw [step, step, if_neg hg, if_neg (hgeq ▸ hg)]
  rw [step_of_guard hg, step_of_guard (hgeq.trans hg),
    show exec run (s.setStats st).w op = liftS st (exec run s.w op) from exec_setStats run hno op st]
  cases exec run s.w op <;> rfl

/-- every step of `Ark.RelRefine2` (also `Reset`) commutes with `setStats` -/
theorem step2_setStats (run : ProbeRunner) {s : St} (hno : NoObs s.w) (hl : s.w.isLocked = false)
    (op : Op2) (st : WorldStats) :
    step2 run (s.setStats st) op = (step2 run s op).setStats st := by
  have hl' : (s.w.setStats st).isLocked = false := hl
  cases op with
  | base op => exact step_setStats run hno op st
  | copy e =>
    by_cases hi : e ∈ s.issued
    case neg =>
      have hi' : e ∉ (s.setStats st).issued := hi
      simp only [step2, decide_eq_true_eq, if_neg hi, if_neg hi']
    have hi' : e ∈ (s.setStats st).issued := hi
    simp only [step2, decide_eq_true_eq, if_pos hi, if_pos hi']
    have hex : opCopyEntity run e (s.setStats st).w = liftS st (opCopyEntity run e s.w) :=
      (fr_opCopyEntity run e s.w hno).1 st
    rw [hex]
    cases opCopyEntity run e s.w <;> rfl
  | shrink bounded =>
    show ({ s.setStats st with w := (opShrink bounded (s.w.setStats st)).state } : St) =
      ({ s with w := (opShrink bounded s.w).state } : St).setStats st
    rw [(frAt_opShrink hl bounded).1 st, liftS_state]
    rfl
  | reset =>
    show (match opReset (s.w.setStats st) with
        | .ok _ w' => (⟨w', [], ⟨[], s.ss.zst, s.ss.isRel⟩⟩ : St)
        | .panic _ w' => { s.setStats st with w := w' }) =
      (match opReset s.w with
        | .ok _ w' => (⟨w', [], ⟨[], s.ss.zst, s.ss.isRel⟩⟩ : St)
        | .panic _ w' => { s with w := w' }).setStats st
    rw [opReset_eq _ hl', opReset_eq _ hl, resetW_setStats]
    rfl
  | fdef f fo =>
    show (if guardF (s.w.setStats st) fo = true then
        { s.setStats st with w := defFilter f fo (s.w.setStats st) } else s.setStats st) =
      (if guardF s.w fo = true then { s with w := defFilter f fo s.w } else s).setStats st
    have hgf : guardF (s.w.setStats st) fo = guardF s.w fo := rfl
    rw [hgf, defFilter_setStats]
    split <;> rfl
  | freg f =>
    show ({ s.setStats st with w := (opFilterRegister f (s.w.setStats st)).state } : St) = _
    rw [indep_opFilterRegister f s.w st, liftS_state]
    rfl
  | funreg f =>
    show ({ s.setStats st with w := (opFilterUnregister f (s.w.setStats st)).state } : St) = _
    rw [indep_opFilterUnregister f s.w st, liftS_state]
    rfl
  | query f extra =>
    show (if guardQ (s.w.setStats st) (RelRefine2.foAt (s.w.setStats st) f) extra = true then
        { s.setStats st with
          w := (drain (RelRefine2.foAt (s.w.setStats st) f) extra (s.w.setStats st)).state }
        else s.setStats st) =
      (if guardQ s.w (RelRefine2.foAt s.w f) extra = true then
        { s with w := (drain (RelRefine2.foAt s.w f) extra s.w).state } else s).setStats st
    have hfo : RelRefine2.foAt (s.w.setStats st) f = RelRefine2.foAt s.w f := rfl
    have hgq : guardQ (s.w.setStats st) (RelRefine2.foAt s.w f) extra =
        guardQ s.w (RelRefine2.foAt s.w f) extra := rfl
    rw [hfo, hgq, indep_drain _ extra s.w st, liftS_state]
    split <;> rfl

theorem step3_setStats (run : ProbeRunner) {s : St} (hno : NoObs s.w) (hl : s.w.isLocked = false)
    (op : Op3) (st : WorldStats) :
    step3 run (s.setStats st) op = (step3 run s op).setStats st := by
  cases op with
  | base2 op => exact step2_setStats run hno hl op st
  | xchg p e add vals rem rels =>
    show (if guardXchg (s.setStats st) p e add rels = true then
        (⟨(opExchange run p e add vals rem rels (s.w.setStats st)).state, s.issued,
          specXchg s.ss e add vals rem rels⟩ : St) else s.setStats st) =
      (if guardXchg s p e add rels = true then
        (⟨(opExchange run p e add vals rem rels s.w).state, s.issued,
          specXchg s.ss e add vals rem rels⟩ : St) else s).setStats st
    have hgx : guardXchg (s.setStats st) p e add rels = guardXchg s p e add rels := rfl
    rw [hgx, (fr_opExchange run p e add vals rem rels s.w hno).1 st, liftS_state]
    split <;> rfl

/-! ### replay -/

/-- the history without its `Stats()` calls -/
def strip : List Op4 → List Op3
  | [] => []
  | .op o :: rest => o :: strip rest
  | .stats :: rest => strip rest

theorem strip_length_le : ∀ (ops : List Op4), (strip ops).length ≤ ops.length
  | [] => Nat.le_refl _
  | .op _ :: rest => by simp only [strip, List.length_cons]; have := strip_length_le rest; omega
  | .stats :: rest => by simp only [strip, List.length_cons]; have := strip_length_le rest; omega

theorem strip_noReset : ∀ (ops : List Op4), (∀ op ∈ ops, op.isReset = false) →
    ∀ o ∈ strip ops, o.isReset = false
  | [], _ => fun _ h => by cases h
  | .op o :: rest, h => by
    intro o' ho'
    simp only [strip, List.mem_cons] at ho'
    rcases ho' with rfl | ho'
    · exact h (.op o') List.mem_cons_self
    · exact strip_noReset rest (fun x hx => h x (List.mem_cons_of_mem _ hx)) o' ho'
  | .stats :: rest, h => by
    intro o' ho'
    exact strip_noReset rest (fun x hx => h x (List.mem_cons_of_mem _ hx)) o' ho'

theorem step4_stats_setStats (run : ProbeRunner) (s : St) :
    step4 run s .stats = s.setStats (s.w.statsUpdate s.w.stats) := rfl

theorem run_replay (run : ProbeRunner) : ∀ (ops : List Op4) (s : St) (st : WorldStats),
    Refine.Along (step3 run) Ready s (strip ops) →
    ∃ (st' : WorldStats),
      runOps4 run (s.setStats st) ops = (runOps3 run s (strip ops)).setStats st'
  | [], _, st, _ => ⟨st, rfl⟩
  | .stats :: ops, s, st, R => by
    show ∃ (st' : WorldStats), runOps4 run (step4 run (s.setStats st) .stats) ops = _
    rw [step4_stats_setStats]
    exact run_replay run ops s _ R
  | .op o :: ops, s, st, ⟨⟨_, H, _, _⟩, R⟩ => by
    show ∃ (st' : WorldStats), runOps4 run (step3 run (s.setStats st) o) ops =
      (runOps3 run (step3 run s o) (strip ops)).setStats st'
    rw [step3_setStats run H.base.noObs H.base.unlocked o st]
    exact run_replay run ops _ st R

/-- **replay**: the state reached by a history with `Stats()` calls is the state reached by the
    same history without them (a history of `Ark.RelRefine3`), with another statistics object:
    same world up to `w.stats`, same handles, same specification -/
theorem replay (run : ProbeRunner) (cap rel : Nat) (ops : List Op4)
    (hlen : ops.length < 2 ^ 16) :
    ∃ (st : WorldStats),
      reach4 run cap rel ops = (reach3 run cap rel (strip ops)).setStats st :=
  run_replay run ops (St.init cap rel) {} (reach3_along run cap rel (strip ops) []
    (by have := strip_length_le ops; rw [List.nil_append]; omega))

theorem run3_stats (run : ProbeRunner) : ∀ (ops : List Op3) (s : St),
    Refine.Along (step3 run) Ready s ops → (runOps3 run s ops).w.stats = s.w.stats
  | [], _, _ => rfl
  | op :: ops, _, ⟨⟨_, H, hf, he⟩, R⟩ =>
    (run3_stats run ops _ R).trans (step3_rstep run H hf he op).sstep.stats

/-- the replaying world was never asked: its statistics object is the initial, empty one -/
theorem reach3_stats_empty (run : ProbeRunner) (cap rel : Nat) (ops : List Op3)
    (hlen : ops.length < 2 ^ 16) :
    (reach3 run cap rel ops).w.stats = {} :=
  run3_stats run ops _ (reach3_along run cap rel ops [] hlen)

/-- **incremental = replay**: `Stats()` after a history with interleaved `Stats()` calls returns
    what `Stats()` returns in a world that replays the history without those calls and is asked
    once — namely the fresh statistics of the replaying world. -/
theorem replay_stats (run : ProbeRunner) (cap rel : Nat) (ops : List Op4)
    (hlen : ops.length < 2 ^ 16) :
    opStats (reach4 run cap rel ops).w =
      .ok (statsFresh (reach3 run cap rel (strip ops)).w)
        ((reach3 run cap rel (strip ops)).w.setStats
          (statsFresh (reach3 run cap rel (strip ops)).w)) ∧
    opStats (reach3 run cap rel (strip ops)).w =
      .ok (statsFresh (reach3 run cap rel (strip ops)).w)
        ((reach3 run cap rel (strip ops)).w.setStats
          (statsFresh (reach3 run cap rel (strip ops)).w)) ∧
    (reach3 run cap rel (strip ops)).w.stats = {} := by
  obtain ⟨st, hr⟩ := replay run cap rel ops hlen
  have hemp := reach3_stats_empty run cap rel (strip ops) (by have := strip_length_le ops; omega)
  obtain ⟨fl, H⟩ := reach4_inv run cap rel ops hlen
  have hc := H.compat
  rw [hr] at hc ⊢
  generalize reach3 run cap rel (strip ops) = s at hc hemp ⊢
  refine ⟨opStats_setStats s.w st hc, ?_, hemp⟩
  have h2 := opStats_setStats s.w s.w.stats (by rw [hemp]; exact compatible_empty _)
  rwa [setStats_self] at h2

end RelStats

end Ark

end

