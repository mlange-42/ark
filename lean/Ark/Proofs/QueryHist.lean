/-
  C03 at the level of HISTORIES of the machine `Ark.Refine`
  (`reg | new p | new0 | add p | rem p | xchg p | set | del | copy | shrink | reset` on the
  non-relation, observer-free fragment).  `query_exact` is **the headline theorem of C03**: on
  the world reached by any history, a query built from an unregistered filter object whose mask
  requires its type parameters visits exactly the entities the SPECIFICATION holds whose
  component set the filter matches, each once; `Count` is the number of visits, `EntityAt(i)`
  the `i`-th visit, and the cell a visit points to holds the value the specification records.
  `query_exact_cached`: the same after registering the filter, through the cache entry.
-/
import Ark.Proofs.QueryCached
import Ark.Proofs.QueryOps
import Ark.Proofs.Refine

set_option autoImplicit false

namespace Ark

open World Ark.Props.C01World

/-! ## 1. along histories -/

namespace Refine

/-- **induction along histories**: a predicate on worlds that holds initially and is kept by
    every accepted step whose model operation succeeds (under the invariant `HInv`, the size
    bounds and the specification-level precondition) holds after every history.  (A step
    whose guard fails is not executed; an accepted step whose precondition fails is rejected with
    the world unchanged.) -/
theorem run_ext (run : ProbeRunner) (P : World → Prop)
    (hstep : ∀ (s : St) (fl : List Nat) (op : Op) (r : Option Ent) (w' : World), HInv s fl →
      s.w.tables.length < maxU32 → s.w.entities.length + 1 < 2 ^ 32 → guard s op = true →
      pre s.ss op → P s.w → exec run s.w op = .ok r w' → P w') :
    ∀ (ops : List Op) (s : St) (fl : List Nat), HInv s fl →
      s.w.tables.length + ops.length ≤ maxU32 → s.w.entities.length + ops.length < 2 ^ 32 →
      P s.w → P (runOps run s ops).w := by
  intro ops s fl h hb1 hb2 hp
  refine (run_of_step (step run) (·.w.tables.length) (·.w.entities.length)
    (fun _ s => (∃ fl, HInv s fl) ∧ P s.w) ?_ ops 0 s ⟨⟨fl, h⟩, hp⟩ hb1 hb2).1.2
  intro _ s op ⟨⟨fl, h⟩, hp⟩ hf he
  obtain ⟨g0, g1, g2, grej, gok, _⟩ := step_goal run h hf he op
  refine ⟨⟨g0, ?_⟩, g1, g2⟩
  by_cases hg : guard s op = true
  · by_cases hpre : pre s.ss op
    · obtain ⟨r, w', hex⟩ := gok hg hpre
      have : (step run s op).w = w' := by rw [step_of_guard hg, hex]; rfl
      rw [this]
      exact hstep s fl op r w' h hf he hg hpre hp hex
    · obtain ⟨k, hex⟩ := grej hg hpre
      have : (step run s op).w = s.w := by rw [step_of_guard hg, hex]; rfl
      rw [this]; exact hp
  · have : step run s op = s := by rw [step, if_neg hg]
    rw [this]; exact hp

theorem xinv_step (run : ProbeRunner) (s : St) (fl : List Nat) (op : Op) (r : Option Ent)
    (w' : World) (H : HInv s fl) (hfew : s.w.tables.length < maxU32)
    (hent : s.w.entities.length + 1 < 2 ^ 32) (_hg : guard s op = true) (hpre : pre s.ss op)
    (X : XInv s.w) (hex : exec run s.w op = .ok r w') : XInv w' :=
  xinv_opsKeep.step run H hfew hent hpre hex X

/-- **every step of the machine keeps `XInv`** (accepted or not, successful or rejected) -/
theorem step_xinv (run : ProbeRunner) {s : St} {fl : List Nat} (H : HInv s fl)
    (hfew : s.w.tables.length < maxU32) (hent : s.w.entities.length + 1 < 2 ^ 32) (op : Op)
    (X : XInv s.w) : XInv (step run s op).w :=
  run_ext run XInv (xinv_step run)
    [op] s fl H (by simp only [List.length_singleton]; omega)
    (by simp only [List.length_singleton]; omega) X

theorem reach_xinv (run : ProbeRunner) (cap rel : Nat) (ops : List Op)
    (hlen : ops.length < 2 ^ 32 - 2) : XInv (reach run cap rel ops).w :=
  run_ext run XInv (xinv_step run)
    ops _ [] (hinv_init cap rel)
    (init_fits cap rel hlen).1 (init_fits cap rel hlen).2 (xinv_init cap rel)

/-! ## 2. a query against the specification -/

open QueryExact

/-- **everything C03 says about one query**, against the specification state `s.ss.ents`
    (alive handle ↦ component ↦ value) of the history machine. -/
structure QueryMeetsSpec (s : St) (fo : FilterObj) (w1 : World) (q : QueryObj)
    (visits : List Visit) (w2 : World) : Prop where
  /-- `Query()` succeeds: the opened query `q` lives on the locked world `w1` -/
  opened : qOpen fo [] s.w = .ok q w1
  /-- the complete iteration returns `visits` and leaves `w2` -/
  drained : drain fo [] s.w = .ok visits w2
  /-- the world after the query is the world before, except for the bit pool of the lock
      (`lockAfterQuery ≠ {}`: the pool remembers the bit it handed out) -/
  world : w2 = s.w.withLocks lockAfterQuery
  /-- no entity is visited twice -/
  nodup : (visits.map (·.e)).Nodup
  /-- the visited entities are exactly the specified (= alive) entities whose component set the
      filter matches -/
  exact : ∀ e : Ent, e ∈ visits.map (·.e) ↔
    ∃ cs, (e, cs) ∈ s.ss.ents ∧ fo.filter.matchesMask (Mask.ofList (keys cs)) = true
  /-- `Count` equals the number of entities visited -/
  count : qCount w1 q = some visits.length
  /-- `EntityAt(i)` is the `i`-th visited entity … -/
  entityAt : ∀ (i : Nat) (hi : i < visits.length), qEntityAt w1 q i = some (some visits[i].e)
  /-- … and the out-of-bounds panic from `Count` on -/
  entityAtOut : ∀ i : Nat, visits.length ≤ i → qEntityAt w1 q i = some none
  /-- a visit points to the row the entity index records for the entity (the storage random
      access goes to) -/
  index : ∀ v ∈ visits, s.w.entities[v.e.id]? = some (v.table, v.row) ∧ v.table ≠ maxU32
  /-- the cell a visit points to holds the value the specification records, and is the cell
      random access (`valOf`) reads -/
  data : ∀ v ∈ visits, (∀ c : Comp, valOf s.w v.e.id c = (s.w.tbl v.table).getComp c v.row) ∧
    ∀ cs, (v.e, cs) ∈ s.ss.ents → ∀ cv ∈ cs, (s.w.tbl v.table).getComp cv.1 v.row = some cv.2

/-- **`Count` against the specification**: the number of visits — hence `Count` — is the number of
    entries of the specification whose component set the filter matches -/
theorem QueryMeetsSpec.count_spec {s : St} {fl : List Nat} (H : HInv s fl) {fo : FilterObj}
    {w1 w2 : World} {q : QueryObj} {visits : List Visit} (M : QueryMeetsSpec s fo w1 q visits w2) :
    visits.length =
      (s.ss.ents.filter fun x => fo.filter.matchesMask (Mask.ofList (keys x.2))).length ∧
    qCount w1 q = some
      (s.ss.ents.filter fun x => fo.filter.matchesMask (Mask.ofList (keys x.2))).length := by
  have hnd : ((s.ss.ents.filter fun x => fo.filter.matchesMask (Mask.ofList (keys x.2))).map
      (·.1)).Nodup :=
    List.Nodup.sublist (List.Sublist.map _ List.filter_sublist) H.ginv.live_nodup
  have hlen := length_eq_of_nodup_mem M.nodup hnd (by
    intro e
    rw [M.exact e]
    simp only [List.mem_map, List.mem_filter]
    constructor
    · rintro ⟨cs, h1, h2⟩; exact ⟨(e, cs), ⟨h1, h2⟩, rfl⟩
    · rintro ⟨x, ⟨h1, h2⟩, rfl⟩; exact ⟨x.2, h1, h2⟩)
  simp only [List.length_map] at hlen
  exact ⟨hlen, by rw [M.count, hlen]⟩

/-- from the state-level statement (`QueryExactOn`, IDs and rows) to the specification-level
    statement (`QueryMeetsSpec`, handles and values): what is needed is that the handles stored
    in rows are the alive ones (`RowsAlive`) -/
theorem meets_of_exactOn {s : St} {fl : List Nat} (H : HInv s fl) (hrows : RowsAlive s.w)
    {fo : FilterObj} {w1 : World} {q : QueryObj} {visits : List Visit}
    (Q : QueryExactOn s.w fl fo w1 q visits (s.w.withLocks lockAfterQuery)) :
    QueryMeetsSpec s fo w1 q visits (s.w.withLocks lockAfterQuery) := by
  have hidx : ∀ v ∈ visits, s.w.index v.e.id = (v.table, v.row) :=
    fun v hv => index_of_get (Q.exact.sound v hv).2.2.1
  -- a visited handle is a specified entity
  have hlive : ∀ v ∈ visits, ∃ cs, (v.e, cs) ∈ s.ss.ents := by
    intro v hv
    obtain ⟨s1, s2, _, _, _, s6, s7, _⟩ := Q.exact.sound v hv
    have hslot := hrows.slot H.cinv s6
    rw [← s7] at hslot
    have hl : v.e ∈ s.ps.live := (H.ginv.live_iff v.e).mpr ⟨s1, s2, hslot⟩
    obtain ⟨x, hx, hxe⟩ := List.mem_map.mp hl
    exact ⟨x.2, by rw [← hxe]; exact hx⟩
  have hmask : ∀ v ∈ visits, ∀ cs, (v.e, cs) ∈ s.ss.ents →
      (s.w.arch (s.w.tbl v.table).arch).mask = Mask.ofList (keys cs) := by
    intro v hv cs hm
    rw [← H.maskOf_ofList hm]
    simp only [maskOf, hidx v hv]
  refine ⟨Q.opened, Q.drained, rfl, ?_, ?_, Q.count, Q.entityAt, Q.entityAtOut, ?_, ?_⟩
  · exact nodup_map_of_nodup_map visits (·.e.id) (·.e) Q.exact.nodup
      (fun a _ b _ hab => by rw [hab])
  · intro e
    constructor
    · intro he
      obtain ⟨v, hv, rfl⟩ := List.mem_map.mp he
      obtain ⟨cs, hm⟩ := hlive v hv
      refine ⟨cs, hm, ?_⟩
      rw [← hmask v hv cs hm]
      exact (Q.exact.sound v hv).2.2.2.2.2.2.2
    · rintro ⟨cs, hm, hmatch⟩
      obtain ⟨_, ha, h2, hnf, _, hslot⟩ := H.live_facts hm
      obtain ⟨t, r, hi, ht, _⟩ := H.cinv.live_entry h2 hnf ha
        (List.getElem?_eq_some_iff.mp hslot).1
      have hmt : (s.w.arch (s.w.tbl t).arch).mask = Mask.ofList (keys cs) := by
        rw [← H.maskOf_ofList hm]
        simp only [maskOf, index_of_get hi]
      obtain ⟨v, hv, hvid, hvt, hvr⟩ := Q.exact.complete e.id t r h2 hnf hi ht (by rw [hmt]; exact hmatch)
      refine List.mem_map.mpr ⟨v, hv, ?_⟩
      obtain ⟨_, _, _, _, _, s6, s7, _⟩ := Q.exact.sound v hv
      have hslot' := hrows.slot H.cinv s6
      rw [← s7, hvid, hslot] at hslot'
      exact (Option.some.inj hslot').symm
  · intro v hv
    exact ⟨(Q.exact.sound v hv).2.2.1, (Q.exact.sound v hv).2.2.2.1⟩
  · intro v hv
    refine ⟨Q.exact.data v hv, ?_⟩
    intro cs hm cv hcv
    rw [← Q.exact.data v hv cv.1]
    exact (H.ok v.e cs hm).vals cv hcv

/-- on any state of the machine satisfying the invariants: the uncached query -/
theorem query_meets_spec {s : St} {fl : List Nat} (H : HInv s fl) (X : XInv s.w) (fo : FilterObj)
    (hc : fo.cache = none) (hok : FilterOK fo) :
    ∃ q visits, QueryMeetsSpec s fo (s.w.withLocks lockDuringQuery) q visits
      (s.w.withLocks lockAfterQuery) := by
  have hL : LockCycle s.w.locks lockDuringQuery 0 lockAfterQuery := by
    rw [X.locks]; exact lockCycle_default
  obtain ⟨q, visits, Q⟩ := drain_exact H.cinv X.cidx fo hc hok hL
  exact ⟨q, visits, meets_of_exactOn H X.rows Q⟩

theorem HInv.of_cache {s : St} {fl : List Nat} (H : HInv s fl) {w' : World} (hc : CInv w' fl)
    (he : w'.entities = s.w.entities) (ht : w'.tables = s.w.tables) (hk : w'.kinds = s.w.kinds)
    (hp : w'.pool = s.w.pool) (hl : w'.locks = s.w.locks) (hm : w'.maxComps = s.w.maxComps) :
    HInv ⟨w', s.issued, s.ss⟩ fl :=
  H.of_kinds hc (by rw [hp]; exact H.ginv)
    (by show w'.locks.isLocked = false; rw [hl]; exact H.unlocked) H.nodup hk hm
    fun e cs hmem => (H.ok e cs hmem).frame
      ⟨fun c => valOf_congr he ht e.id c, compsOf_congr he ht e.id⟩

/-- cached: on a state of the machine satisfying the invariants, REGISTER the filter of
    `fo` in the filter cache (`cache.register`, which succeeds and changes only the cache), then
    query through the cache entry: the query meets the (unchanged) specification. -/
theorem query_meets_spec_cached {s : St} {fl : List Nat} (H : HInv s fl) (X : XInv s.w)
    (f : Filter) (rels : List RelID) :
    ∃ (id : Nat) (w' : World), cacheRegister f rels s.w = .ok id w' ∧
      ∀ fo : FilterObj, fo.cache = some id → fo.filter = f →
        ∃ q visits, QueryMeetsSpec ⟨w', s.issued, s.ss⟩ fo (w'.withLocks lockDuringQuery) q visits
          (w'.withLocks lockAfterQuery) := by
  obtain ⟨w', ce, hreg, hc', hC', _, hce, hcf, _, he, ht, _, hk, hp, hl, _⟩ :=
    cacheRegister_exact H.cinv X.rinv X.cache.cacheInv f rels (by rw [X.cache.1]; rfl)
  refine ⟨_, w', hreg, ?_⟩
  intro fo hfc hff
  have hm : w'.maxComps = s.w.maxComps := by
    have hu : Untouched s.w w' := by
      have heq := hreg
      unfold cacheRegister at heq
      simp only at heq
      split at heq
      · cases heq
      · injection heq with _ hw; subst hw; exact ⟨rfl, rfl, rfl, rfl⟩
    exact hu.maxComps
  have H' : HInv ⟨w', s.issued, s.ss⟩ fl := H.of_cache hc' he ht hk hp hl hm
  have hrows' : RowsAlive w' := X.rows.lookup (LookupKeeps.of_tables hp ht)
  have hL : LockCycle w'.locks lockDuringQuery 0 lockAfterQuery := by
    rw [hl, X.locks]; exact lockCycle_default
  obtain ⟨q, visits, Q⟩ := drain_exact_cached hc' hC' fo hfc hce (hcf.trans hff.symm) hL
  exact ⟨q, visits, meets_of_exactOn (s := ⟨w', s.issued, s.ss⟩) H' hrows' Q⟩

/-- **C03, end to end** (`query_exact`): after any history `ops` of the machine (from
    `NewWorld(cap, rel)`, any callback runner), a query built from an unregistered filter object
    `fo` whose mask requires its type parameters (no per-call relations)
    succeeds, visits each entity of the specification whose component set the filter matches
    exactly once and no other entity, `Count`/`EntityAt` agree with the iteration, every visit
    points to the entity's live data, and the world is unchanged up to the lock's bit pool. -/
theorem query_exact (run : ProbeRunner) (cap rel : Nat) (ops : List Op)
    (hlen : ops.length < 2 ^ 32 - 2) (fo : FilterObj) (hc : fo.cache = none)
    (hok : FilterOK fo) :
    ∃ q visits, QueryMeetsSpec (reach run cap rel ops) fo
      ((reach run cap rel ops).w.withLocks lockDuringQuery) q visits
      ((reach run cap rel ops).w.withLocks lockAfterQuery) := by
  obtain ⟨fl, H⟩ := reach_hinv run cap rel ops hlen
  exact query_meets_spec H (reach_xinv run cap rel ops hlen) fo hc hok

/-- **C03, end to end, through the filter cache** (`query_exact_cached`): after any history,
    registering a filter and querying through the cache entry visits exactly the entities of the
    specification whose component set the filter matches. -/
theorem query_exact_cached (run : ProbeRunner) (cap rel : Nat) (ops : List Op)
    (hlen : ops.length < 2 ^ 32 - 2) (f : Filter) (rels : List RelID) :
    ∃ (id : Nat) (w' : World),
      cacheRegister f rels (reach run cap rel ops).w = .ok id w' ∧
      ∀ fo : FilterObj, fo.cache = some id → fo.filter = f →
        ∃ q visits, QueryMeetsSpec ⟨w', (reach run cap rel ops).issued, (reach run cap rel ops).ss⟩
          fo (w'.withLocks lockDuringQuery) q visits (w'.withLocks lockAfterQuery) := by
  obtain ⟨fl, H⟩ := reach_hinv run cap rel ops hlen
  exact query_meets_spec_cached H (reach_xinv run cap rel ops hlen) f rels

/-- set-level reading of the match condition in `QueryMeetsSpec.exact`: every required
    component is a key of the entry, no excluded component is -/
theorem matches_keys_iff (f : Filter) (cs : Comps) (hreg : ∀ c ∈ keys cs, c < 256) :
    f.matchesMask (Mask.ofList (keys cs)) = true ↔
      (∀ c, f.mask.get c = true → c ∈ keys cs) ∧
      (f.hasWithout = true → ∀ c ∈ keys cs, f.without.get c = false) := by
  rw [Filter.matchesMask_iff]
  have hget : ∀ c, (Mask.ofList (keys cs)).get c = true ↔ c ∈ keys cs := by
    intro c
    rw [Mask.get_ofList]
    constructor
    · intro h; simp at h; exact h.2
    · intro h; simp [h, hreg c h]
  constructor
  · rintro ⟨h1, h2⟩
    exact ⟨fun c hc => (hget c).mp (h1 c hc), fun hw c hc => h2 hw c ((hget c).mpr hc)⟩
  · rintro ⟨h1, h2⟩
    exact ⟨fun c hc => (hget c).mpr (h1 c hc), fun hw c hc => h2 hw c ((hget c).mp hc)⟩

end Refine

end Ark
