/-
  C06 + C04 with relations: `setRelationsBatch` (the batch form of
  `SetRelations`) in normal form, and its two loops: the lookup loop (`prepareRelationsMove` over
  the non-empty selected tables: find or create the destination, skip a table whose targets do
  not change) and the move loop.  The lock is taken only after the lookup loop (Go: defect D27
  repaired); the specifications are proved from the form with `Lock` FIRST, an equation of the
  operation too because selection and lookup loop neither read nor write the lock.
-/
import Ark.Proofs.BatchNewFn
import Ark.Proofs.CallbacksFrame
import Ark.Proofs.QueryRelAssign

set_option autoImplicit false

namespace Ark

open World Ark.Props.C01World QueryRel

/-! ## 1. `setRelationsBatch` in normal form -/

namespace World

/-- the first loop of `setRelationsBatch`: find or create the destination of every non-empty
    selected table whose targets change -/
def prepLoop (rels : List RelID) : List Nat → List RelMove → W (List RelMove)
  | [], s => pure s
  | t :: ts, s => fun w =>
    if ((w.tbl t).len == 0) = true then prepLoop rels ts s w
    else
      match prepareRelationsMove t (w.tbl t).len rels w with
      | .ok (some mv) w' => prepLoop rels ts (s ++ [mv]) w'
      | .ok none w' => prepLoop rels ts s w'
      | .panic k w' => .panic k w'

def moveStepR (w : World) (mv : RelMove) : World := moveEntitiesW w mv.oldT mv.newT mv.len

/-- `setRelationsBatch.match_1` in the statement is the matcher Lean generated for the
    `match ← prepareRelationsMove …` in the body of the model's `setRelationsBatch`: the loop is stated
    as it is elaborated there, and the statement has to follow when that `match` changes. -/
theorem forIn_prepLoop (rels : List RelID) : ∀ (ts : List Nat) (s : List RelMove) (w : World),
    (forIn ts s (fun t (__s : List RelMove) => (do
      let w ← (M.get : W World)
      if ((w.tbl t).len == 0) = true then pure (ForInStep.yield __s)
      else do
        let __x ← prepareRelationsMove t (w.tbl t).len rels
        setRelationsBatch.match_1 (fun _ => W (ForInStep (List RelMove))) __x
          (fun mv => pure (ForInStep.yield (__s ++ [mv]))) (fun _ => pure (ForInStep.yield __s))
      : W (ForInStep (List RelMove)))) : W (List RelMove)) w = prepLoop rels ts s w
  | [], _, _ => rfl
  | t :: ts, s, w => by
    rw [List.forIn_cons, M.bind_apply, M.bind_apply, M.get_apply]
    simp only [prepLoop]
    cases h0 : ((w.tbl t).len == 0) with
    | true =>
      simp only [if_true, M.pure_apply]
      exact forIn_prepLoop rels ts _ w
    | false =>
      simp only [Bool.false_eq_true, if_false, M.bind_apply]
      cases hp : prepareRelationsMove t (w.tbl t).len rels w with
      | panic k w' => rfl
      | ok x w' =>
        cases x with
        | none => exact forIn_prepLoop rels ts _ w'
        | some mv => exact forIn_prepLoop rels ts _ w'

theorem prepareRelationsMove_eq (t n : Nat) (rels : List RelID) (w : World) :
    prepareRelationsMove t n rels w =
      match getExchangeTargets (w.tbl t) rels w with
      | .panic k s => .panic k s
      | .ok (newRels, changed, cm) s =>
        if changed = true then
          match getOrCreate (w.tbl t).arch newRels s with
          | .panic k s' => .panic k s'
          | .ok nt s' => .ok (some { oldT := t, newT := nt, len := n, changeMask := cm }) s'
        else .ok none s := by
  simp only [prepareRelationsMove, bind, M.bind, M.get]
  cases hx : getExchangeTargets (w.tbl t) rels w with
  | panic k s => rfl
  | ok r s =>
    obtain ⟨newRels, changed, cm⟩ := r
    cases changed with
    | false => rfl
    | true =>
      simp only [Bool.not_true, Bool.false_eq_true, if_false, if_true, getOrCreate, bind, M.bind]
      cases hg : getTable (w.tbl t).arch newRels s with
      | panic k s' => rfl
      | ok r s' =>
        cases r with
        | some nt => rfl
        | none =>
          simp only
          cases hc : createTable (w.tbl t).arch newRels s' with
          | panic k s2 => simp only [M.bind, hc]
          | ok nt s2 => simp only [M.bind, hc]; rfl

/-- `prepareRelationsMove` neither reads nor writes observers, log, lock and statistics object -/
theorem commutes_prepareRelationsMove (t n : Nat) (rels : List RelID) :
    Commutes put4 (prepareRelationsMove t n rels) := by
  intro w x
  rw [prepareRelationsMove_eq, prepareRelationsMove_eq]
  have h1 : (w.put4 x).tbl t = w.tbl t := rfl
  rw [h1, getExchangeTargets_any (w.tbl t) rels w (w.put4 x)]
  have hs := getExchangeTargets_state (w.tbl t) rels w
  cases hx : getExchangeTargets (w.tbl t) rels w with
  | panic k s => rw [hx] at hs; simp only [Res.state] at hs; subst hs; rfl
  | ok r s =>
    rw [hx] at hs; simp only [Res.state] at hs; subst hs
    obtain ⟨newRels, changed, cm⟩ := r
    simp only [Res.mapS_ok]
    cases changed with
    | false => rfl
    | true =>
      simp only [if_true]
      rw [commutes_getOrCreate _ _ s x]
      cases getOrCreate (s.tbl t).arch newRels s <;> rfl

theorem commutes_prepLoop (rels : List RelID) : ∀ (ts : List Nat) (s : List RelMove),
    Commutes put4 (prepLoop rels ts s)
  | [], s => Commutes.pure s
  | t :: ts, s => by
    intro w x
    simp only [prepLoop]
    have h1 : (w.put4 x).tbl t = w.tbl t := rfl
    rw [h1]
    split
    · exact commutes_prepLoop rels ts s w x
    · rw [commutes_prepareRelationsMove t _ rels w x]
      cases prepareRelationsMove t (w.tbl t).len rels w with
      | panic k s' => rfl
      | ok y w' =>
        cases y with
        | none => exact commutes_prepLoop rels ts _ w' x
        | some mv => exact commutes_prepLoop rels ts _ w' x

/-- one iteration of the move loop of `setRelationsBatch`, with or without the callback -/
def moveStepRF (withFn : Bool) (w : World) (mv : RelMove) : World :=
  if withFn = true then
    batchFnW (moveEntitiesW w mv.oldT mv.newT mv.len) mv.newT (w.tbl mv.newT).len mv.len []
  else moveEntitiesW w mv.oldT mv.newT mv.len

theorem moveStepRF_obs (withFn : Bool) (w : World) (mv : RelMove) :
    (moveStepRF withFn w mv).obs = w.obs := by
  unfold moveStepRF
  split
  · rw [batchFnW_obs]; exact moveEntitiesW_keep (·.obs) (fun _ _ _ => rfl) (fun _ _ _ _ => rfl) w _ _ _
  · exact moveEntitiesW_keep (·.obs) (fun _ _ _ => rfl) (fun _ _ _ _ => rfl) w _ _ _

theorem moveStepRF_locks (withFn : Bool) (w : World) (mv : RelMove) :
    (moveStepRF withFn w mv).locks = w.locks := by
  unfold moveStepRF
  split
  · rw [batchFnW_locks]; exact moveEntitiesW_keep (·.locks) (fun _ _ _ => rfl) (fun _ _ _ _ => rfl) w _ _ _
  · exact moveEntitiesW_keep (·.locks) (fun _ _ _ => rfl) (fun _ _ _ _ => rfl) w _ _ _

theorem foldl_moveStepRF_obs (withFn : Bool) : ∀ (l : List RelMove) (w : World),
    (l.foldl (moveStepRF withFn) w).obs = w.obs :=
  foldl_keep _ (·.obs) (moveStepRF_obs withFn)

theorem foldl_moveStepRF_locks (withFn : Bool) : ∀ (l : List RelMove) (w : World),
    (l.foldl (moveStepRF withFn) w).locks = w.locks :=
  foldl_keep _ (·.locks) (moveStepRF_locks withFn)

/-- **`setRelationsBatch` once the lookup loop has passed** (no observers; with or without
    callback): `Lock`, the move loop (a pure function), `registerTargets`, `Unlock` -/
theorem setRelationsBatch_after_prep (run : ProbeRunner) (fo : FilterObj) (extra : List RelID)
    (rels : List RelID) (withFn : Bool) (w : World) (hl : w.isLocked = false)
    (hne : rels.isEmpty = false) {ts : List Nat} (hts : getBatchTables fo extra w = .ok ts w)
    {moves : List RelMove} {w1 : World} (hprep : prepLoop rels ts [] w = .ok moves w1)
    {l' : Lock} {b : Nat} (hlk : w1.locks.lock = some (l', b))
    (hno : ∀ (evt : Nat), w1.obs.hasObservers evt = false) :
    setRelationsBatch run fo extra rels withFn w =
      unlock b (registerW (moves.foldl (moveStepRF withFn) { w1 with locks := l' }) rels) := by
  have hno1 : ∀ (evt : Nat), ({ w1 with locks := l' } : World).obs.hasObservers evt = false := hno
  have hno2 : ∀ (evt : Nat),
      (registerW (moves.foldl (moveStepRF withFn) { w1 with locks := l' }) rels).obs.hasObservers evt
        = false := by
    intro evt
    show (moves.foldl (moveStepRF withFn) { w1 with locks := l' }).obs.hasObservers evt = false
    rw [foldl_moveStepRF_obs]; exact hno evt
  unfold setRelationsBatch
  simp only [M.bind_apply, checkLocked_unlocked w hl, M.assert_apply, hne, Bool.not_false, if_true,
    hts, M.get_apply]
  rw [forIn_prepLoop, hprep]
  simp only [lock_ok hlk, hno1, Bool.false_eq_true, if_false, M.bind_apply]
  rw [forIn_foldSt (fun _ _ => True) (moveStepRF withFn)
    (fun (s : List RelMove) W mv => s ++ [({ mv with start := (W.tbl mv.newT).len } : RelMove)])
    _ ?_ (fun _ _ _ _ => trivial) moves [] { w1 with locks := l' } trivial]
  · simp only [registerTargets_eq, M.get_apply, hno2, Bool.false_eq_true, if_false]
  · intro mv s W _
    cases withFn with
    | false =>
      simp only [M.bind_apply, M.get_apply, moveEntities_eq, M.pure_apply, moveStepRF,
        Bool.false_eq_true, if_false]
    | true =>
      simp only [M.bind_apply, M.get_apply, moveEntities_eq, M.pure_apply, moveStepRF,
        if_true, batchFn_eq]

/-- **`setRelationsBatch` in normal form**, in the order in which it runs: without observers and
    callback it is the table selection, the lookup loop, `Lock`, the move loop, `registerTargets`,
    `Unlock` -/
theorem setRelationsBatch_eq_planFirst (run : ProbeRunner) (fo : FilterObj) (extra : List RelID)
    (rels : List RelID) (w : World) (hl : w.isLocked = false) (hne : rels.isEmpty = false)
    {ts : List Nat} (hts : getBatchTables fo extra w = .ok ts w)
    {moves : List RelMove} {w1 : World}
    (hprep : prepLoop rels ts [] w = .ok moves w1)
    {l' : Lock} {b : Nat} (hlk : w1.locks.lock = some (l', b))
    (hno : ∀ (evt : Nat), w1.obs.hasObservers evt = false) :
    setRelationsBatch run fo extra rels false w =
      unlock b (registerW (moves.foldl moveStepR { w1 with locks := l' }) rels) := by
  have := setRelationsBatch_after_prep run fo extra rels false w hl hne hts hprep hlk hno
  rwa [show moveStepRF false = moveStepR from funext fun w => funext fun mv => rfl] at this

/-- when the lookup loop panics, `setRelationsBatch` panics with the same class and the same
    state: the lock has not been taken -/
theorem setRelationsBatch_prepLoop_panic (run : ProbeRunner) (fo : FilterObj) (extra : List RelID)
    (rels : List RelID) (withFn : Bool) (w : World) (hl : w.isLocked = false)
    (hne : rels.isEmpty = false)
    {ts : List Nat} (hts : getBatchTables fo extra w = .ok ts w) {k : PanicKind} {w1 : World}
    (hprep : prepLoop rels ts [] w = .panic k w1) :
    setRelationsBatch run fo extra rels withFn w = .panic k w1 := by
  unfold setRelationsBatch
  simp only [M.bind_apply, checkLocked_unlocked w hl, M.assert_apply, hne, Bool.not_false, if_true,
    hts, M.get_apply]
  rw [forIn_prepLoop, hprep]

/-- **`setRelationsBatch` with `Lock` FIRST**: without observers and callback it is also `Lock`,
    the table selection, the lookup loop, the move loop, `registerTargets`, `Unlock` — not the
    order in which it runs (`setRelationsBatch_eq_planFirst`), but the table selection and the
    lookup loop neither read nor write the lock -/
theorem setRelationsBatch_eq (run : ProbeRunner) (fo : FilterObj) (extra : List RelID)
    (rels : List RelID) (w : World) (hl : w.isLocked = false) (hne : rels.isEmpty = false)
    {l' : Lock} {b : Nat} (hlk : w.locks.lock = some (l', b)) {ts : List Nat}
    (hts : getBatchTables fo extra { w with locks := l' } = .ok ts { w with locks := l' })
    {moves : List RelMove} {w1 : World}
    (hprep : prepLoop rels ts [] { w with locks := l' } = .ok moves w1)
    (hno : ∀ (evt : Nat), w1.obs.hasObservers evt = false) :
    setRelationsBatch run fo extra rels false w =
      unlock b (registerW (moves.foldl moveStepR w1) rels) := by
  have hts' : getBatchTables fo extra w = .ok ts w :=
    ((commutes_getBatchTables fo extra).frames.of_reframe_ok (w := w) (o := w.obs) (lg := w.log) (lk := l')
      hts).1
  obtain ⟨hprep', hw1⟩ := (commutes_prepLoop rels ts []).frames.of_reframe_ok
    (w := w) (o := w.obs) (lg := w.log) (lk := l') hprep
  have hlocks : (w1.reframe w.obs w.log w.locks).locks.lock = some (l', b) := hlk
  have hobs : w1.obs = w.obs := congrArg (·.obs) hw1
  have hno' : ∀ evt : Nat, (w1.reframe w.obs w.log w.locks).obs.hasObservers evt = false :=
    fun evt => by rw [← hobs]; exact hno evt
  have := setRelationsBatch_eq_planFirst run fo extra rels w hl hne hts' hprep' hlocks hno'
  rw [this]
  have e : ({ w1.reframe w.obs w.log w.locks with locks := l' } : World) = w1 := hw1.symm
  rw [e]

end World

/-! ## 2. the lookup loop -/

/-- a collected move: from a non-empty table of the start world `w0` whose targets change to
    another non-free table with the same layout holding the edited targets -/
structure MoveOK (rels : List RelID) (w0 w1 : World) (mv : RelMove) : Prop where
  srcLt : mv.oldT < w0.tables.length
  srcRows : (w0.tbl mv.oldT).len ≠ 0
  len : mv.len = (w0.tbl mv.oldT).len
  cols : RelCols (w0.tbl mv.oldT) rels
  changed : Changes (w0.tbl mv.oldT) rels
  dstLt : mv.newT < w1.tables.length
  dstFree : (w1.tbl mv.newT).isFree = false
  dstIds : (w1.tbl mv.newT).ids = (w0.tbl mv.oldT).ids
  dstIsRel : (w1.tbl mv.newT).isRel = (w0.tbl mv.oldT).isRel
  dstZst : (w1.tbl mv.newT).zst = (w0.tbl mv.oldT).zst
  dstTgt : ∀ (i : Nat), (w0.tbl mv.oldT).isRel.getD i false = true →
    (w1.tbl mv.newT).targets.getD i Ent.zero = (editT (w0.tbl mv.oldT) rels).getD i Ent.zero

theorem MoveOK.mono {rels : List RelID} {w0 w1 w2 : World} {mv : RelMove} (h : MoveOK rels w0 w1 mv)
    (hk : ∀ (t : Nat), t < w1.tables.length → (w1.tbl t).isFree = false →
      w2.tables[t]? = w1.tables[t]?) (hle : w1.tables.length ≤ w2.tables.length) :
    MoveOK rels w0 w2 mv := by
  have : w2.tbl mv.newT = w1.tbl mv.newT := tbl_eq_of_get (hk _ h.dstLt h.dstFree)
  exact
    { srcLt := h.srcLt, srcRows := h.srcRows, len := h.len, cols := h.cols, changed := h.changed
      dstLt := Nat.lt_of_lt_of_le h.dstLt hle
      dstFree := by rw [this]; exact h.dstFree
      dstIds := by rw [this]; exact h.dstIds
      dstIsRel := by rw [this]; exact h.dstIsRel
      dstZst := by rw [this]; exact h.dstZst
      dstTgt := by rw [this]; exact h.dstTgt }

/-- the invariant of the lookup loop: `w0` = the (locked) world the loop started in, `doneTs` =
    the selected tables processed so far, `s` = the moves collected, `w1` = the current world -/
structure PrepInv (rels : List RelID) (w0 : World) (doneTs : List Nat) (s : List RelMove)
    (w1 : World) : Prop where
  rel : RelInv w1
  idx : IdxInv w1
  flags : FlagsOKUpTo w1 rels
  freeEmpty : FreeEmpty w1
  qk : QKeep w0 w1
  entities : w1.entities = w0.entities
  pool : w1.pool = w0.pool
  isTarget : w1.isTarget = w0.isTarget
  kinds : w1.kinds = w0.kinds
  obs : w1.obs = w0.obs
  locks : w1.locks = w0.locks
  maxComps : w1.maxComps = w0.maxComps
  /-- the non-free tables of the start world are untouched -/
  keepT : ∀ (t : Nat), t < w0.tables.length → (w0.tbl t).isFree = false →
    w1.tables[t]? = w0.tables[t]?
  tablesLe : w0.tables.length ≤ w1.tables.length
  lenB : w1.tables.length ≤ w0.tables.length + s.length
  frame : ∀ (j : Nat), SameEnt w0 w1 j ∧ ∀ (c : Comp), targetOf w1 j c = targetOf w0 j c
  moves : ∀ (mv : RelMove), mv ∈ s → MoveOK rels w0 w1 mv
  srcNodup : (s.map (·.oldT)).Nodup
  srcDone : ∀ (mv : RelMove), mv ∈ s → mv.oldT ∈ doneTs
  /-- a processed non-empty table is the source of a move, or the assignment does not change it -/
  covered : ∀ (t : Nat), t ∈ doneTs → (w0.tbl t).len ≠ 0 →
    (∃ (mv : RelMove), mv ∈ s ∧ mv.oldT = t) ∨ editT (w0.tbl t) rels = (w0.tbl t).targets

/-- **one iteration of the lookup loop** for a non-empty table whose relation columns are named:
    `prepareRelationsMove` never fails when the targets named are zero or alive -/
theorem prepStep {rels : List RelID} {w0 : World} {doneTs : List Nat} {s : List RelMove}
    {w1 : World} (hI : PrepInv rels w0 doneTs s w1) (hE0 : FreeEmpty w0)
    (hnd : (rels.map (·.comp)).Nodup)
    (hval : ∀ (r : RelID), r ∈ rels → r.target.isZero = true ∨ w0.alive r.target = true)
    {t : Nat} (hlt : t < w0.tables.length) (hnew : t ∉ doneTs) (hrows : (w0.tbl t).len ≠ 0)
    (hcols : RelCols (w0.tbl t) rels) :
    ∃ (o : Option RelMove) (w2 : World),
      prepareRelationsMove t (w1.tbl t).len rels w1 = .ok o w2 ∧
      PrepInv rels w0 (doneTs ++ [t]) (match o with | some mv => s ++ [mv] | none => s) w2 ∧
      w2.relationArchetypes = w1.relationArchetypes := by
  -- `t` has rows, so it is not free in `w0` (`hE0`), so the loop has left it alone: `htb`
  have hTf0 : (w0.tbl t).isFree = false := by
    cases hf : (w0.tbl t).isFree with
    | false => rfl
    | true => exact absurd (hE0 t _ (get_of_lt hlt) hf) hrows
  have htab : w1.tables[t]? = w0.tables[t]? := hI.keepT t hlt hTf0
  have htb : w1.tbl t = w0.tbl t := tbl_eq_of_get htab
  have hlt1 : t < w1.tables.length := Nat.lt_of_lt_of_le hlt hI.tablesLe
  have hTf1 : (w1.tbl t).isFree = false := by rw [htb]; exact hTf0
  have hcols1 : RelCols (w1.tbl t) rels := by rw [htb]; exact hcols
  have hal : ∀ (x : Ent), w1.alive x = w0.alive x := fun x => by simp only [World.alive, hI.pool]
  -- `t` is processed for the first time: no collected move has it as source
  have hdone : ∀ (mv : RelMove), mv ∈ s → mv.oldT ≠ t := fun mv hm he => hnew (he ▸ hI.srcDone mv hm)
  rw [prepareRelationsMove_eq]
  obtain ⟨ch, cm, hx, hfalse, htrue⟩ := getExchangeTargets_spec (w1.tbl t) rels w1 hcols1 hnd
  rw [hx]
  cases ch with
  | false =>
    -- the targets do not change: the table is skipped
    refine ⟨none, w1, by simp, ?_, rfl⟩
    exact
      { hI with
        srcDone := fun mv hm => List.mem_append_left _ (hI.srcDone mv hm)
        covered := by
          intro t0 ht0 hr0
          rcases List.mem_append.1 ht0 with h1 | h1
          · exact hI.covered t0 h1 hr0
          · rw [List.mem_singleton.1 h1]
            right
            have := hfalse rfl
            rw [htb] at this
            exact this }
  | true =>
    simp only [if_true]
    -- the targets change: the lookup of the destination cannot fail (`hval`); `cg` describes
    -- the table `nt` it finds or creates and what it leaves alone
    have hch : Changes (w1.tbl t) rels := htrue rfl
    obtain ⟨nt, w2, hgo⟩ := relAssign_total hI.rel hlt1 hTf1 hcols1 hch
      (fun r hr => by rw [hal]; exact hval r hr)
    obtain ⟨rel2, hI2, hF2, hE2, cg, _⟩ := relAssign_of_ok hI.rel hI.idx hI.flags hI.freeEmpty hlt1
      hTf1 hnd hcols1 hch hgo
    change getOrCreate _ (colRels _ (setTargets _ _ _) _) _ = _ at hgo
    rw [hgo]
    refine ⟨some ⟨t, nt, (w1.tbl t).len, 0, cm⟩, w2, rfl, ?_, cg.relationArchetypes⟩
    -- the lookup touches no non-free table and no entity: `w0`'s tables and the earlier
    -- destinations survive it
    have hkeep12 : ∀ (t0 : Nat), t0 < w1.tables.length → (w1.tbl t0).isFree = false →
        w2.tables[t0]? = w1.tables[t0]? := fun _ h1 h2 => cg.keepT h1 h2
    have hf1 := cg.frame hI.idx hI.freeEmpty
    exact
      { rel := rel2, idx := hI2, flags := hF2, freeEmpty := hE2
        qk := hI.qk.trans (getOrCreate_qkeep hgo)
        entities := cg.entities.trans hI.entities
        pool := cg.pool.trans hI.pool
        isTarget := cg.isTarget.trans hI.isTarget
        kinds := cg.kinds.trans hI.kinds
        obs := cg.obs.trans hI.obs
        locks := cg.locks.trans hI.locks
        maxComps := cg.maxComps.trans hI.maxComps
        keepT := by
          intro t0 h1 h2
          have k1 := hI.keepT t0 h1 h2
          rw [← k1]
          exact hkeep12 t0 (Nat.lt_of_lt_of_le h1 hI.tablesLe) (by rw [tbl_eq_of_get k1]; exact h2)
        tablesLe := Nat.le_trans hI.tablesLe cg.tablesLe
        lenB := by
          have := cg.lenB; have := hI.lenB
          simp only [List.length_append, List.length_singleton]; omega
        frame := fun j => ⟨(hI.frame j).1.trans (hf1 j).1, fun c => by
          rw [(hf1 j).2 c, (hI.frame j).2 c]⟩
        moves := by
          intro mv hm
          rcases List.mem_append.1 hm with h1 | h1
          · exact (hI.moves mv h1).mono hkeep12 cg.tablesLe
          -- the new move: source `t` as in `w0` (`htb`), destination `nt` as `cg` describes it
          · rw [List.mem_singleton.1 h1]
            exact
              { srcLt := hlt, srcRows := hrows, len := by rw [htb]
                cols := hcols
                changed := htb ▸ hch
                dstLt := cg.ntLt, dstFree := cg.ntFree
                dstIds := by rw [cg.ntIds, htb]
                dstIsRel := by rw [cg.ntIsRel, htb]
                dstZst := by rw [cg.ntZst, htb]
                dstTgt := by
                  intro i hi
                  rw [cg.ntTgt i (by rw [htb]; exact hi), htb] }
        srcNodup := by
          rw [List.map_append, List.nodup_append]
          refine ⟨hI.srcNodup, by simp, ?_⟩
          intro a ha b hb
          simp only [List.map_cons, List.map_nil, List.mem_singleton] at hb
          obtain ⟨mv, hm, rfl⟩ := List.mem_map.1 ha
          rw [hb]; exact hdone mv hm
        srcDone := by
          intro mv hm
          rcases List.mem_append.1 hm with h1 | h1
          · exact List.mem_append_left _ (hI.srcDone mv h1)
          · rw [List.mem_singleton.1 h1]; exact List.mem_append_right _ (List.mem_singleton.2 rfl)
        covered := by
          intro t0 ht0 hr0
          rcases List.mem_append.1 ht0 with h1 | h1
          · rcases hI.covered t0 h1 hr0 with ⟨mv, hm, he⟩ | h2
            · exact Or.inl ⟨mv, List.mem_append_left _ hm, he⟩
            · exact Or.inr h2
          · rw [List.mem_singleton.1 h1]
            exact Or.inl ⟨_, List.mem_append_right _ (List.mem_singleton.2 rfl), rfl⟩ }

/-- **a table whose targets the assignment does not change is skipped**:
    `prepareRelationsMove` returns `none` and leaves the world untouched -/
theorem prepareRelationsMove_skipped {w : World} {t n : Nat} {rels : List RelID}
    (hcols : RelCols (w.tbl t) rels) (hnd : (rels.map (·.comp)).Nodup)
    (hun : ¬ Changes (w.tbl t) rels) : prepareRelationsMove t n rels w = .ok none w := by
  rw [prepareRelationsMove_eq]
  obtain ⟨ch, cm, hx, _, htrue⟩ := getExchangeTargets_spec (w.tbl t) rels w hcols hnd
  rw [hx]
  cases ch with
  | false => simp
  | true => exact absurd (htrue rfl) hun

/-- … and only such a table: when the assignment changes a target, a move is returned -/
theorem prepareRelationsMove_moves {w : World} {t n : Nat} {rels : List RelID}
    (hcols : RelCols (w.tbl t) rels) (hnd : (rels.map (·.comp)).Nodup)
    (htl : (w.tbl t).targets.length = (w.tbl t).ids.length) (hch : Changes (w.tbl t) rels)
    {o : Option RelMove} {w' : World} (hok : prepareRelationsMove t n rels w = .ok o w') :
    ∃ (mv : RelMove), o = some mv ∧ mv.oldT = t ∧ mv.len = n := by
  rw [prepareRelationsMove_eq] at hok
  obtain ⟨ch, cm, hx, hfalse, _⟩ := getExchangeTargets_spec (w.tbl t) rels w hcols hnd
  rw [hx] at hok
  cases ch with
  | false =>
    obtain ⟨r, hr, i, hi, hne⟩ := hch
    have h1 := editT_named htl hnd hr hi
    rw [editT, hfalse rfl] at h1
    exact absurd h1.symm hne
  | true =>
    simp only [if_true] at hok
    split at hok
    · cases hok
    · injection hok with e1 _
      exact ⟨_, e1.symm, rfl, rfl⟩

/-- **the lookup loop** over selected tables (non-free; the relations name relation columns of
    the non-empty ones): never fails, keeps the invariant and creates no relation
    archetype -/
theorem prepLoop_full {rels : List RelID} {w0 : World} (hE0 : FreeEmpty w0)
    (hnd : (rels.map (·.comp)).Nodup)
    (hval : ∀ (r : RelID), r ∈ rels → r.target.isZero = true ∨ w0.alive r.target = true) :
    ∀ (rest doneTs : List Nat) (s : List RelMove) (w1 : World), PrepInv rels w0 doneTs s w1 →
      rest.Nodup → (∀ (t : Nat), t ∈ rest → t ∉ doneTs) →
      (∀ (t : Nat), t ∈ rest → t < w0.tables.length ∧ (w0.tbl t).isFree = false ∧
        ((w0.tbl t).len ≠ 0 → RelCols (w0.tbl t) rels)) →
      ∃ (s' : List RelMove) (w2 : World), prepLoop rels rest s w1 = .ok s' w2 ∧
        PrepInv rels w0 (doneTs ++ rest) s' w2 ∧ w2.relationArchetypes = w1.relationArchetypes
  | [], doneTs, s, w1, hI, _, _, _ => ⟨s, w1, rfl, by rw [List.append_nil]; exact hI, rfl⟩
  | t :: rest, doneTs, s, w1, hI, hnd', hnew, hsel => by
    obtain ⟨hlt, hTf0, hc⟩ := hsel t List.mem_cons_self
    have hnd2 := List.nodup_cons.1 hnd'
    have htb : w1.tbl t = w0.tbl t := tbl_eq_of_get (hI.keepT t hlt hTf0)
    have hnew' : ∀ (t' : Nat), t' ∈ rest → t' ∉ doneTs ++ [t] := by
      intro t' ht' hm
      rcases List.mem_append.1 hm with h1 | h1
      · exact hnew t' (List.mem_cons_of_mem _ ht') h1
      · exact hnd2.1 (List.mem_singleton.1 h1 ▸ ht')
    have hsel' : ∀ (t' : Nat), t' ∈ rest → t' < w0.tables.length ∧ (w0.tbl t').isFree = false ∧
        ((w0.tbl t').len ≠ 0 → RelCols (w0.tbl t') rels) :=
      fun t' ht' => hsel t' (List.mem_cons_of_mem _ ht')
    have happ : doneTs ++ t :: rest = doneTs ++ [t] ++ rest := by simp
    simp only [prepLoop]
    by_cases h0 : (w0.tbl t).len = 0
    · -- an empty table is skipped
      rw [htb, h0]
      simp only [beq_self_eq_true, if_true]
      have hI' : PrepInv rels w0 (doneTs ++ [t]) s w1 :=
        { hI with
          srcDone := fun mv hm => List.mem_append_left _ (hI.srcDone mv hm)
          covered := by
            intro t0 ht0 hr0
            rcases List.mem_append.1 ht0 with h1 | h1
            · exact hI.covered t0 h1 hr0
            · rw [List.mem_singleton.1 h1] at hr0; exact absurd h0 hr0 }
      rw [happ]
      exact prepLoop_full hE0 hnd hval rest _ s w1 hI' hnd2.2 hnew' hsel'
    · have hb : ((w1.tbl t).len == 0) = false := by rw [htb]; simpa using h0
      rw [hb]
      simp only [Bool.false_eq_true, if_false]
      obtain ⟨o, w2, hp, hI', hra⟩ := prepStep hI hE0 hnd hval hlt (hnew t List.mem_cons_self) h0
        (hc h0)
      rw [hp, happ]
      obtain ⟨s', w3, e, hI3, hra3⟩ := prepLoop_full hE0 hnd hval rest _ _ w2 hI' hnd2.2 hnew' hsel'
      refine ⟨s', w3, ?_, hI3, hra3.trans hra⟩
      cases o <;> exact e

theorem prepLoop_spec {rels : List RelID} {w0 : World} (hE0 : FreeEmpty w0)
    (hnd : (rels.map (·.comp)).Nodup)
    (hval : ∀ (r : RelID), r ∈ rels → r.target.isZero = true ∨ w0.alive r.target = true) :
    ∀ (rest doneTs : List Nat) (s : List RelMove) (w1 : World), PrepInv rels w0 doneTs s w1 →
      rest.Nodup → (∀ (t : Nat), t ∈ rest → t ∉ doneTs) →
      (∀ (t : Nat), t ∈ rest → t < w0.tables.length ∧ (w0.tbl t).isFree = false ∧
        ((w0.tbl t).len ≠ 0 → RelCols (w0.tbl t) rels)) →
      ∃ (s' : List RelMove) (w2 : World), prepLoop rels rest s w1 = .ok s' w2 ∧
        PrepInv rels w0 (doneTs ++ rest) s' w2 :=
  fun rest doneTs s w1 hI hnd' hnew hsel =>
    let ⟨s', w2, a, b, _⟩ := prepLoop_full hE0 hnd hval rest doneTs s w1 hI hnd' hnew hsel
    ⟨s', w2, a, b⟩

/-! ## 3. the move loop -/

theorem moved_entry_out {w : World} (h : IdxInv w) {src dst : Nat} (hne : src ≠ dst)
    (hs : src < w.tables.length) (hd : dst < w.tables.length)
    (hb : (w.tbl dst).len + (w.tbl src).len < 2 ^ 32) {j : Nat}
    (hj : ∀ (r : Nat), w.entities[j]? ≠ some (src, r)) :
    (moveEntitiesW w src dst (w.tbl src).len).entities[j]? = w.entities[j]? :=
  (moveEntitiesW_rows h hne hs hd hb).others j fun k hk heq =>
    hj k (heq ▸ h.rowIdx src _ k (get_of_lt hs) hk)

/-- the invariant of the move loop: `w1` = the world after the lookup loop, `done` / `rest` = the
    moves performed / still to perform, `w2` = the current world -/
structure MvInv (w1 : World) (done rest : List RelMove) (w2 : World) : Prop where
  idx : IdxInv w2
  ms : MetaStep w1 w2
  qk : QKeep w1 w2
  freeEmpty : FreeEmpty w2
  pool : w2.pool = w1.pool
  isTarget : w2.isTarget = w1.isTarget
  obs : w2.obs = w1.obs
  locks : w2.locks = w1.locks
  maxComps : w2.maxComps = w1.maxComps
  idxSame : IdxSame w1 w2
  same : ∀ (j : Nat), SameEnt w1 w2 j
  /-- the sources still to be moved are untouched -/
  srcKeep : ∀ (mv : RelMove), mv ∈ rest → w2.tables[mv.oldT]? = w1.tables[mv.oldT]?
  /-- an entity outside the moved sources keeps its index entry and its targets -/
  entKeep : ∀ (j t r : Nat), w1.entities[j]? = some (t, r) →
    (∀ (mv : RelMove), mv ∈ done → mv.oldT ≠ t) → w2.entities[j]? = some (t, r)
  tgtKeep : ∀ (j : Nat), (∀ (t r : Nat), w1.entities[j]? = some (t, r) →
    ∀ (mv : RelMove), mv ∈ done → mv.oldT ≠ t) → ∀ (c : Comp), targetOf w2 j c = targetOf w1 j c
  /-- an entity of a moved source reads the targets of its destination -/
  tgtMoved : ∀ (j t r : Nat), w1.entities[j]? = some (t, r) → ∀ (mv : RelMove), mv ∈ done →
    mv.oldT = t → ∀ (c : Comp), targetOf w2 j c = (w1.tbl mv.newT).targetAt c

/-- a destination is never a source: the destination holds the edited targets, the assignment
    changes the targets of a source -/
theorem MoveOK.dst_ne_src {rels : List RelID} {w0 w1 : World} {mv mv' : RelMove}
    (h : MoveOK rels w0 w1 mv) (h' : MoveOK rels w0 w1 mv') (hnd : (rels.map (·.comp)).Nodup)
    (htl : (w0.tbl mv.oldT).targets.length = (w0.tbl mv.oldT).ids.length)
    (hk : w1.tables[mv'.oldT]? = w0.tables[mv'.oldT]?) : mv.newT ≠ mv'.oldT := by
  intro he
  obtain ⟨r, hr, i, hi, hne⟩ := h'.changed
  have hids : (w0.tbl mv'.oldT).ids = (w0.tbl mv.oldT).ids := by
    rw [← tbl_eq_of_get hk, ← he]; exact h.dstIds
  have hi' : (w0.tbl mv.oldT).colIdx r.comp = some i := by
    simpa only [Table.colIdx, hids] using hi
  obtain ⟨i2, hc2, hr2⟩ := h.cols r hr
  rw [hi'] at hc2
  obtain rfl := Option.some.inj hc2
  have h1 := h.dstTgt i hr2
  rw [he, tbl_eq_of_get hk, editT_named htl hnd hr hi'] at h1
  exact hne h1.symm

/-- **the move loop**: `moveEntities` for every collected move, in order -/
theorem moveLoop_spec {rels : List RelID} {w0 w1 : World} (hnd : (rels.map (·.comp)).Nodup)
    (hR0 : RelListsOK w0) (hE0 : FreeEmpty w0)
    (hkeep01 : ∀ (t : Nat), t < w0.tables.length → (w0.tbl t).isFree = false →
      w1.tables[t]? = w0.tables[t]?)
    (hI1 : IdxInv w1) (hfew : w1.tables.length ≤ maxU32)
    (hrows : 2 * w1.entities.length < 2 ^ 32) (all : List RelMove)
    (hall : ∀ (mv : RelMove), mv ∈ all → MoveOK rels w0 w1 mv)
    (hsrc : (all.map (·.oldT)).Nodup) :
    ∀ (rest done : List RelMove) (w2 : World), all = done ++ rest → MvInv w1 done rest w2 →
      MvInv w1 all [] (rest.foldl moveStepR w2)
  | [], done, w2, hsplit, hI => by
    rw [List.append_nil] at hsplit
    rw [hsplit]; exact hI
  | mv :: rest, done, w2, hsplit, hI => by
    have hmem : ∀ (m : RelMove), m ∈ done ∨ m = mv ∨ m ∈ rest → m ∈ all := by
      intro m hm
      rw [hsplit]
      rcases hm with h1 | h1 | h1
      · exact List.mem_append_left _ h1
      · exact List.mem_append_right _ (h1 ▸ List.mem_cons_self)
      · exact List.mem_append_right _ (List.mem_cons_of_mem _ h1)
    have hok := hall mv (hmem mv (Or.inr (Or.inl rfl)))
    -- the sources are pairwise distinct (`hsrc`), and non-empty in `w0`, hence non-free there and
    -- untouched by the lookup loop (`hk01`)
    have hsrcne : ∀ (m : RelMove), m ∈ done ∨ m ∈ rest → m.oldT ≠ mv.oldT := by
      intro m hm heq
      rw [hsplit, List.map_append, List.map_cons] at hsrc
      have hnd' := List.nodup_append.1 hsrc
      rcases hm with h1 | h1
      · exact hnd'.2.2 _ (List.mem_map_of_mem h1) _ List.mem_cons_self heq
      · exact (List.nodup_cons.1 hnd'.2.1).1 (heq ▸ List.mem_map_of_mem h1)
    have hTf0 : ∀ (m : RelMove), m ∈ all → (w0.tbl m.oldT).isFree = false := by
      intro m hm
      cases hf : (w0.tbl m.oldT).isFree with
      | false => rfl
      | true => exact absurd (hE0 _ _ (get_of_lt (hall m hm).srcLt) hf) (hall m hm).srcRows
    have hk01 : ∀ (m : RelMove), m ∈ all → w1.tables[m.oldT]? = w0.tables[m.oldT]? :=
      fun m hm => hkeep01 _ (hall m hm).srcLt (hTf0 m hm)
    -- what `moveEntities` needs of this move in `w2`: the source is still the table of `w0`,
    -- the destination is another table with the same layout, the rows fit
    have hsrc2 : w2.tbl mv.oldT = w0.tbl mv.oldT := by
      rw [tbl_eq_of_get (hI.srcKeep mv List.mem_cons_self), tbl_eq_of_get (hk01 mv (hmem mv (Or.inr (Or.inl rfl))))]
    have hslt1 : mv.oldT < w1.tables.length := by
      have := lt_of_get (show w1.tables[mv.oldT]? = some (w0.tbl mv.oldT) by
        rw [hk01 mv (hmem mv (Or.inr (Or.inl rfl)))]; exact get_of_lt hok.srcLt)
      exact this
    have hslt : mv.oldT < w2.tables.length := by rw [hI.ms.len]; exact hslt1
    have hdlt : mv.newT < w2.tables.length := by rw [hI.ms.len]; exact hok.dstLt
    have htl : (w0.tbl mv.oldT).targets.length = (w0.tbl mv.oldT).ids.length :=
      (hR0 _ _ (get_of_lt hok.srcLt) (hTf0 mv (hmem mv (Or.inr (Or.inl rfl))))).tlen
    have hne : mv.oldT ≠ mv.newT :=
      fun e => hok.dst_ne_src hok hnd htl (hk01 mv (hmem mv (Or.inr (Or.inl rfl)))) e.symm
    have hdmeta := hI.ms.tmeta mv.newT hok.dstLt
    have hlen : mv.len = (w2.tbl mv.oldT).len := by rw [hsrc2]; exact hok.len
    have hb : (w2.tbl mv.newT).len + (w2.tbl mv.oldT).len < 2 ^ 32 := by
      have h1 := hI.idx.rows_le mv.newT
      have h2 := hI.idx.rows_le mv.oldT
      rw [hI.idxSame.len] at h1 h2
      omega
    -- the step is the move of all rows of the source; `mvd` is what that move does
    have mvd := hI.idx.moved (src := mv.oldT) (dst := mv.newT) hne hslt hdlt
      (by have := hI.ms.len; omega) (by have := hI.ms.len; omega)
      (by rw [hsrc2, hdmeta.ids, hok.dstIds]) (by rw [hsrc2, hdmeta.zst, hok.dstZst]) hb
    have hstep : moveStepR w2 mv = moveEntitiesW w2 mv.oldT mv.newT (w2.tbl mv.oldT).len := by
      rw [moveStepR, hlen]
    have hq := moved_qkeep hI.idx (src := mv.oldT) (dst := mv.newT) hne hslt hdlt hb
    -- the rows of `mv.oldT` are untouched so far: an entity that sits in it now sat in it before
    have hsat : ∀ (j r' : Nat), w2.entities[j]? = some (mv.oldT, r') →
        w1.entities[j]? = some (mv.oldT, r') := by
      intro j r' hh
      obtain ⟨T, hT, hr', hid⟩ := hI.idx.idxRow j mv.oldT r' hh (by omega)
      have := hI1.rowIdx mv.oldT T r' (by rw [← hI.srcKeep mv List.mem_cons_self]; exact hT) hr'
      rwa [hid] at this
    have hnotin : ∀ (j t r : Nat), w1.entities[j]? = some (t, r) → t ≠ mv.oldT →
        ∀ (r' : Nat), w2.entities[j]? ≠ some (mv.oldT, r') := fun j t r hj hne' r' hh =>
      hne' (Prod.mk.inj (Option.some.inj (hj.symm.trans (hsat j r' hh)))).1
    have hnone : ∀ (j : Nat), w1.entities[j]? = none →
        ∀ (r' : Nat), w2.entities[j]? ≠ some (mv.oldT, r') := fun j hj r' hh => by
      cases hj.symm.trans (hsat j r' hh)
    -- recurse with `mv` counted as done; what is left is the invariant after the move
    have hsplit' : all = (done ++ [mv]) ++ rest := by rw [hsplit]; simp
    rw [List.foldl_cons, hstep]
    apply moveLoop_spec hnd hR0 hE0 hkeep01 hI1 hfew hrows all hall hsrc rest (done ++ [mv]) _ hsplit'
    refine
      { idx := mvd.idx
        ms := hI.ms.trans mvd.ms
        qk := hI.qk.trans hq
        freeEmpty := ?_
        pool := mvd.pool.trans hI.pool
        isTarget := mvd.isTarget.trans hI.isTarget
        obs := mvd.obs.trans hI.obs
        locks := mvd.locks.trans hI.locks
        maxComps := mvd.maxComps.trans hI.maxComps
        idxSame := hI.idxSame.trans mvd.idxSame
        same := fun j => (hI.same j).trans (mvd.same j)
        srcKeep := ?_
        entKeep := ?_
        tgtKeep := ?_
        tgtMoved := ?_ }
    -- `freeEmpty`: the source is emptied, the destination is not free, the others are unchanged
    · intro t0 T0 hT0 hf
      by_cases e1 : t0 = mv.oldT
      · subst e1; rw [← tbl_of_get hT0]; exact mvd.srcLen
      · by_cases e2 : t0 = mv.newT
        · subst e2
          have hlt0 : mv.newT < w2.tables.length := hdlt
          have := (mvd.ms.tmeta mv.newT hlt0).isFree
          rw [tbl_of_get hT0, hdmeta.isFree, hok.dstFree] at this
          rw [this] at hf; cases hf
        · rw [mvd.lenOther t0 e1 e2] at hT0
          exact hI.freeEmpty t0 T0 hT0 hf
    -- `srcKeep`: a later source is neither this source nor this destination (`dst_ne_src`)
    · intro m hm
      have hm' := hmem m (Or.inr (Or.inr hm))
      have h1 : m.oldT ≠ mv.oldT := hsrcne m (Or.inr hm)
      have h2 : m.oldT ≠ mv.newT := fun e =>
        hok.dst_ne_src (hall m hm') hnd htl (hk01 m hm') e.symm
      rw [mvd.lenOther m.oldT h1 h2]
      exact hI.srcKeep m (List.mem_cons_of_mem _ hm)
    -- `entKeep`, `tgtKeep`: an entity outside all moved sources is not in `mv.oldT` now (`hnotin`)
    · intro j t r hj hd
      have hd1 : ∀ (m : RelMove), m ∈ done → m.oldT ≠ t :=
        fun m hm => hd m (List.mem_append_left _ hm)
      have hne' : t ≠ mv.oldT := fun e =>
        hd mv (List.mem_append_right _ (List.mem_singleton.2 rfl)) e.symm
      rw [moved_entry_out hI.idx hne hslt hdlt hb (hnotin j t r hj hne')]
      exact hI.entKeep j t r hj hd1
    · intro j hd c
      have hd1 : ∀ (t r : Nat), w1.entities[j]? = some (t, r) → ∀ (m : RelMove), m ∈ done → m.oldT ≠ t :=
        fun t r hj m hm => hd t r hj m (List.mem_append_left _ hm)
      rw [← hI.tgtKeep j hd1 c]
      apply mvd.tgtOut
      cases hx : w1.entities[j]? with
      | none => exact hnone j hx
      | some p =>
        obtain ⟨t, r⟩ := p
        exact hnotin j t r hx (fun e =>
          hd t r hx mv (List.mem_append_right _ (List.mem_singleton.2 rfl)) e.symm)
    -- `tgtMoved`: an entity moved earlier is out of `mv.oldT` too; an entity of `mv.oldT` is
    -- still there (`entKeep`) and lands in `mv.newT`, which has kept its targets since `w1`
    · intro j t r hj m hm he c
      rcases List.mem_append.1 hm with h1 | h1
      · rw [← hI.tgtMoved j t r hj m h1 he c]
        apply mvd.tgtOut
        exact hnotin j t r hj (fun e => hsrcne m (Or.inl h1) (he.trans e))
      · have hmm : m = mv := List.mem_singleton.1 h1
        subst hmm
        have hj2 : w2.entities[j]? = some (m.oldT, r) := by
          rw [← he] at hj
          exact hI.entKeep j m.oldT r hj (fun m' hm' => hsrcne m' (Or.inl hm'))
        rw [mvd.tgtIn j r hj2 c]
        exact Table.targetAt_sameMeta hdmeta c

end Ark
