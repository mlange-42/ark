/-
  Ark.Proofs.BatchRelReach — C06 + C04 with relations over histories: `ReachB run w`, the worlds
  reached from `NewWorld` by accepted calls of the operations of `QueryRel.Reach` AND by the two
  batches `RemoveEntities(batch, nil)` and `setRelationsBatch`, are `QGood`; hence after every
  history batch = singles in any order, and a query visits exactly the alive matching entities.
-/
import Ark.Proofs.BatchRelSetSpec
import Ark.Proofs.QueryRelReach

set_option autoImplicit false

namespace Ark

open World Ark.Props.C01World QueryRel Drain QueryExact

/-- **a valid `setRelationsBatch` keeps `QGood`** (uncached filter, typed relation constraints,
    a non-empty assignment naming no component twice, only relation components the filter
    requires and only zero or alive targets): it never panics -/
theorem QueryRel.QGood.setRelationsBatch (run : ProbeRunner) {w : World} (q : QGood w)
    (fo : FilterObj) (extra : List RelID) (hc : fo.cache = none)
    (hr : RelsTyped w fo.filter (fo.rels ++ extra)) {rels : List RelID}
    (hne : rels.isEmpty = false) (hnd : (rels.map (·.comp)).Nodup)
    (hrt : RelsTyped w fo.filter rels)
    (hval : ∀ (r : RelID), r ∈ rels → r.target.isZero = true ∨ w.alive r.target = true)
    (htin : ∀ (r : RelID), r ∈ rels → r.target.id < w.pool.ents.length)
    (hfew : 2 * w.tables.length ≤ maxU32) (hrows : 2 * w.entities.length < 2 ^ 32) :
    panicOf (World.setRelationsBatch run fo extra rels false w) = none ∧
    QGood (World.setRelationsBatch run fo extra rels false w).state ∧
    (CacheEmpty w → CacheEmpty (World.setRelationsBatch run fo extra rels false w).state) := by
  obtain ⟨fl, h, hl, hno⟩ := q.good
  obtain ⟨l1, b, l2, hcyc, hl2, lf2, hl2inv⟩ := LockCycle.of_free q.lock
  obtain ⟨ts, w', _, hb, pb, hlk⟩ := setRelationsBatch_rel_spec run h hl hno fo extra hc hr hne hnd
    (fun t hlt hm _ => relCols_of_typed h.rel.sinv.toSInvMid hrt hlt hm.1) hval htin hcyc hl2 hfew hrows
  rw [hb]
  refine ⟨rfl, ⟨⟨fl, pb.tinv, by show w'.isLocked = false; rw [pb.unlocked]; exact hl,
    fun evt => by show w'.obs.hasObservers evt = false; rw [pb.obs]; exact hno evt⟩,
    pb.qk.cidx q.cidx, pb.qk.rows q.rows, lf2, by
      show Lock.LInv ⟨w'.locks, []⟩ lf2
      rw [hlk]; exact hl2inv⟩, pb.qk.cache⟩

namespace QueryRel

/-- **the worlds reached by histories** of the single operations with relation targets, queries,
    and the two batches -/
inductive ReachB (run : ProbeRunner) : World → Prop
  | init (cap rel : Nat) : ReachB run (World.init cap rel)
  | reg {w : World} (k : CompKind) : ReachB run w →
      panicOf (World.registerComponent k w) = none →
      ReachB run (World.registerComponent k w).state
  | new {w : World} (p : Path) (ids : List Comp) (vals : List (Comp × Val)) (rels : List RelID) :
      ReachB run w →
      (∀ (c : Comp), c ∈ ids → c < w.kinds.length) →
      (rels.map (·.comp)).Nodup → (∀ (r : RelID), r ∈ rels → r.comp ∈ ids) →
      (∀ (r : RelID), r ∈ rels → w.isRelComp r.comp = true) →
      (∀ (r : RelID), r ∈ rels → r.target.id < w.pool.ents.length) →
      w.tables.length < maxU32 → w.entities.length + 1 < 2 ^ 32 →
      panicOf (opNewEntity run p ids vals rels w) = none →
      ReachB run (opNewEntity run p ids vals rels w).state
  | del {w : World} (g : Ent) : ReachB run w →
      w.alive g = true → (w.index g.id).1 ≠ maxU32 → g.id < w.entities.length →
      w.tables.length + w.relationArchetypes.length + 1 ≤ maxU32 →
      2 * w.entities.length < 2 ^ 32 →
      ReachB run (opRemoveEntity run g w).state
  | setRel {w : World} (p : Path) (e : Ent) (mapperIds : List Comp) (rels : List RelID) :
      ReachB run w →
      w.alive e = true → (w.index e.id).1 ≠ maxU32 → e.id < w.entities.length →
      rels.isEmpty = false → (rels.map (·.comp)).Nodup →
      (∀ (r : RelID), r ∈ rels → (targetOf w e.id r.comp).isSome = true) →
      (∀ (r : RelID), r ∈ rels → r.target.id < w.pool.ents.length) →
      w.tables.length < maxU32 → w.entities.length + 1 < 2 ^ 32 →
      panicOf (opSetRelations run p e mapperIds rels w) = none →
      ReachB run (opSetRelations run p e mapperIds rels w).state
  | add {w : World} (p : Path) (e : Ent) (ids : List Comp) (vals : List (Comp × Val))
      (rels : List RelID) : ReachB run w →
      w.alive e = true → (w.index e.id).1 ≠ maxU32 → e.id < w.entities.length →
      (∀ (c : Comp), c ∈ ids → c < w.kinds.length) →
      (rels.map (·.comp)).Nodup → (∀ (r : RelID), r ∈ rels → r.comp ∈ ids) →
      (∀ (r : RelID), r ∈ rels → w.isRelComp r.comp = true) →
      (∀ (r : RelID), r ∈ rels → r.target.id < w.pool.ents.length) →
      w.tables.length < maxU32 → w.entities.length + 1 < 2 ^ 32 →
      panicOf (opAdd run p e ids vals rels w) = none →
      ReachB run (opAdd run p e ids vals rels w).state
  | query {w : World} (fo : FilterObj) (extra : List RelID) : ReachB run w →
      QueryOK w fo extra → ReachB run (drain fo extra w).state
  /-- `RemoveEntities(batch, nil)`: uncached filter, typed relation constraints -/
  | delBatch {w : World} (fo : FilterObj) (extra : List RelID) : ReachB run w →
      fo.cache = none → RelsTyped w fo.filter (fo.rels ++ extra) →
      w.tables.length + w.entities.length * w.relationArchetypes.length + 1 ≤ maxU32 →
      2 * w.entities.length < 2 ^ 32 →
      ReachB run (opRemoveEntities run fo extra false w).state
  /-- `setRelationsBatch`: a valid assignment to the selected entities -/
  | setRelBatch {w : World} (fo : FilterObj) (extra rels : List RelID) : ReachB run w →
      fo.cache = none → RelsTyped w fo.filter (fo.rels ++ extra) →
      rels.isEmpty = false → (rels.map (·.comp)).Nodup → RelsTyped w fo.filter rels →
      (∀ (r : RelID), r ∈ rels → r.target.isZero = true ∨ w.alive r.target = true) →
      (∀ (r : RelID), r ∈ rels → r.target.id < w.pool.ents.length) →
      2 * w.tables.length ≤ maxU32 → 2 * w.entities.length < 2 ^ 32 →
      ReachB run (World.setRelationsBatch run fo extra rels false w).state

theorem ReachB.ofReach {run : ProbeRunner} {w : World} (r : Reach run w) : ReachB run w := by
  induction r with
  | init cap rel => exact .init cap rel
  | reg k _ hnp ih => exact .reg k ih hnp
  | new p ids vals rels _ h1 h2 h3 h4 h5 h6 h7 h8 ih =>
    exact .new p ids vals rels ih h1 h2 h3 h4 h5 h6 h7 h8
  | del g _ h1 h2 h3 h4 h5 ih => exact .del g ih h1 h2 h3 h4 h5
  | setRel p e m rels _ h1 h2 h3 h4 h5 h6 h7 h8 h9 h10 ih =>
    exact .setRel p e m rels ih h1 h2 h3 h4 h5 h6 h7 h8 h9 h10
  | add p e ids vals rels _ h1 h2 h3 h4 h5 h6 h7 h8 h9 h10 h11 ih =>
    exact .add p e ids vals rels ih h1 h2 h3 h4 h5 h6 h7 h8 h9 h10 h11
  | query fo extra _ hq ih => exact .query fo extra ih hq

/-- **every reached world is `QGood` and has no registered filter** -/
theorem reachB_qgood (run : ProbeRunner) {w : World} (r : ReachB run w) : QGood w ∧ CacheEmpty w := by
  induction r with
  | init cap rel => exact ⟨qgood_init cap rel, rfl, rfl⟩
  | @reg w k _ hnp ih =>
    obtain ⟨g, he⟩ := ih
    refine ⟨g.registerComponent k hnp, ?_⟩
    obtain ⟨n, hr⟩ := ok_of_panicOf hnp
    obtain ⟨fl, ht, _, _⟩ := g.good
    exact (registerComponent_qkeep ht hr).cache he
  | @new w p ids vals rels _ hreg hnd hin hrc htin hfew hrows hnp ih =>
    obtain ⟨g, he⟩ := ih
    refine ⟨g.newEntity run p hreg hnd hin hrc htin hfew hrows hnp, ?_⟩
    obtain ⟨e, hok⟩ := ok_of_panicOf hnp
    obtain ⟨fl, ht, hl, hno⟩ := g.good
    exact (opNewEntity_qkeep run p ht hl hno hreg hnd hin hfew hrows hok).1.cache he
  | @del w e _ ha hidx hlt hfew hrows ih =>
    obtain ⟨g, he⟩ := ih
    refine ⟨(g.removeEntity run ha hidx hlt hfew hrows).2, ?_⟩
    obtain ⟨fl, ht, hl, hno⟩ := g.good
    obtain ⟨h2, hnf⟩ := live_of_indexed ht hidx hlt
    obtain ⟨w3, hst, q3, _⟩ := opRemoveEntity_qkeep run ht hl hno h2 hnf ha
      (by rw [← ht.link.lenEq]; exact hlt) hfew hrows
    rw [hst]; exact q3.cache he
  | @setRel w p e mids rels _ ha hidx hlt hne hnd hhas htin hfew hrows hnp ih =>
    obtain ⟨g, he⟩ := ih
    refine ⟨g.setRelations run p ha hidx hlt hne hnd hhas htin hfew hrows hnp, ?_⟩
    obtain ⟨u, hok⟩ := ok_of_panicOf hnp
    obtain ⟨fl, ht, hl, hno⟩ := g.good
    obtain ⟨h2, hnf⟩ := live_of_indexed ht hidx hlt
    exact (opSetRelations_qkeep run p ht hl hno h2 hnf ha
      (by rw [← ht.link.lenEq]; exact hlt) hne hnd hhas hrows hok).cache he
  | @add w p e ids vals rels _ ha hidx hlt hreg hnd hin hrc htin hfew hrows hnp ih =>
    obtain ⟨g, he⟩ := ih
    refine ⟨g.add run p ha hidx hlt hreg hnd hin hrc htin hfew hrows hnp, ?_⟩
    obtain ⟨u, hok⟩ := ok_of_panicOf hnp
    obtain ⟨fl, ht, hl, hno⟩ := g.good
    obtain ⟨h2, hnf⟩ := live_of_indexed ht hidx hlt
    exact (opAdd_qkeep run p ht hl hno h2 hnf ha
      (by rw [← ht.link.lenEq]; exact hlt) hreg hnd hin hrows hok).cache he
  | @query w fo extra _ hq ih =>
    obtain ⟨g, he⟩ := ih
    obtain ⟨l1, l2, q, visits, hd, g2, _⟩ :=
      g.query fo extra hq.uncached hq.filterOK hq.extraOK hq.relsTyped
    rw [hd]
    exact ⟨g2, he⟩
  | @delBatch w fo extra _ hc hr hfew hrows ih =>
    obtain ⟨g, he⟩ := ih
    obtain ⟨_, g', hce⟩ := g.removeEntities run fo extra hc hr hfew hrows
    exact ⟨g', hce he⟩
  | @setRelBatch w fo extra rels _ hc hr hne hnd hrt hval htin hfew hrows ih =>
    obtain ⟨g, he⟩ := ih
    obtain ⟨_, g', hce⟩ := g.setRelationsBatch run fo extra hc hr hne hnd hrt hval htin hfew hrows
    exact ⟨g', hce he⟩

/-- **C06 + C04 over histories, removal**: after every history (batches included), a batch
    removal with an uncached filter and typed relation constraints never fails, selects exactly
    the alive entities that match, and leaves the same liveness, components, values and relation
    targets as `RemoveEntity` applied to the selected entities one by one in ANY order. -/
theorem reachB_removeEntities (run : ProbeRunner) {w : World} (r : ReachB run w) (fo : FilterObj)
    (extra : List RelID) (hc : fo.cache = none) (hr : RelsTyped w fo.filter (fo.rels ++ extra))
    (hrows : 2 * w.entities.length < 2 ^ 32) :
    ∃ (fl : List Nat) (ts : List Nat), getBatchTables fo extra w = .ok ts w ∧
      (∀ (e : Ent), e ∈ ts.flatMap (World.rowsOf w) ↔
        w.alive e = true ∧ EntMatches w fo.filter (fo.rels ++ extra) e.id) ∧
      ∀ (es' : List Ent), es'.Perm (ts.flatMap (World.rowsOf w)) →
        w.tables.length + es'.length * w.relationArchetypes.length + 1 ≤ maxU32 →
        ∃ (w' w'' : World), opRemoveEntities run fo extra false w = .ok () w' ∧
          removeSeq run es' w = .ok () w'' ∧
          RemovedAllRelPost w fl (ts.flatMap (World.rowsOf w)) w' ∧ RemovedAllRelPost w fl es' w'' ∧
          (∀ (x : Ent), w'.alive x = w''.alive x) ∧
          (∀ (i : Nat) (c : Comp), valOf w' i c = valOf w'' i c) ∧
          (∀ (i : Nat), compsOf w' i = compsOf w'' i) ∧
          (∀ (i : Nat) (c : Comp), targetOf w' i c = targetOf w'' i c) ∧
          w'.isLocked = w''.isLocked := by
  obtain ⟨g, _⟩ := reachB_qgood run r
  obtain ⟨fl, h, hl, hno⟩ := g.good
  obtain ⟨ts, hts, hall⟩ := opRemoveEntities_rel_any_order run h g.rows hl hno fo extra hc hr hrows
  obtain ⟨ts2, hts2, _, hok, _⟩ := getBatchTables_rel h fo extra hc hr
  rw [hts] at hts2
  injection hts2 with e1 _
  subst e1
  exact ⟨fl, ts, hts, mem_rows_iff_matches h g.rows hok, hall⟩

/-- **C06 + C04 over histories, assignment**: after every history, a valid `setRelationsBatch`
    never fails and leaves the same liveness, components, values and relation targets as
    `setRelations` applied to the selected entities one by one in ANY order. -/
theorem reachB_setRelationsBatch (run : ProbeRunner) {w : World} (r : ReachB run w) (fo : FilterObj)
    (extra : List RelID) (hc : fo.cache = none) (hr : RelsTyped w fo.filter (fo.rels ++ extra))
    {rels : List RelID} (hne : rels.isEmpty = false) (hnd : (rels.map (·.comp)).Nodup)
    (hrt : RelsTyped w fo.filter rels)
    (hval : ∀ (r : RelID), r ∈ rels → r.target.isZero = true ∨ w.alive r.target = true)
    (htin : ∀ (r : RelID), r ∈ rels → r.target.id < w.pool.ents.length)
    (hfew : 2 * w.tables.length ≤ maxU32) (hrows : 2 * w.entities.length < 2 ^ 32) :
    ∃ (fl : List Nat) (ts : List Nat) (w' : World), getBatchTables fo extra w = .ok ts w ∧
      (∀ (e : Ent), e ∈ ts.flatMap (World.rowsOf w) ↔
        w.alive e = true ∧ EntMatches w fo.filter (fo.rels ++ extra) e.id) ∧
      World.setRelationsBatch run fo extra rels false w = .ok () w' ∧
      SetRelAllPost w fl (ts.flatMap (World.rowsOf w)) rels w' ∧
      ∀ (es' : List Ent), es'.Perm (ts.flatMap (World.rowsOf w)) →
        w.tables.length + es'.length < maxU32 →
        ∃ (w'' : World), setRelSeq run es' rels w = .ok () w'' ∧ SetRelAllPost w fl es' rels w'' ∧
          (∀ (x : Ent), w'.alive x = w''.alive x) ∧
          (∀ (i : Nat) (c : Comp), valOf w' i c = valOf w'' i c) ∧
          (∀ (i : Nat), compsOf w' i = compsOf w'' i) ∧
          (∀ (i : Nat) (c : Comp), targetOf w' i c = targetOf w'' i c) ∧
          w'.isLocked = w''.isLocked := by
  obtain ⟨g, _⟩ := reachB_qgood run r
  obtain ⟨fl, h, hl, hno⟩ := g.good
  obtain ⟨l1, b, l2, hcyc, hl2, _⟩ := LockCycle.of_free g.lock
  obtain ⟨ts, w', h1, h2, h3, h4, h5⟩ := setRelationsBatch_eq_singles run h g.rows hl hno fo extra hc
    hr hne hnd (fun t hlt hm _ => relCols_of_typed h.rel.sinv.toSInvMid hrt hlt hm.1) hval htin hcyc hl2
    hfew hrows
  exact ⟨fl, ts, w', h1, h2, h3, h4, h5⟩

/-- **C03 after batches**: after every history (batches included) a query with an unregistered
    filter visits exactly the alive entities that match its filter and its relation targets -/
theorem reachB_query (run : ProbeRunner) {w : World} (r : ReachB run w) (fo : FilterObj)
    (extra : List RelID) (hq : QueryOK w fo extra) :
    ∃ (l1 l2 : Lock) (q : QueryObj) (visits : List Visit),
      drain fo extra w = .ok visits (w.withLocks l2) ∧
      Observed w fo extra (w.withLocks l1) q visits := by
  obtain ⟨l1, l2, q, visits, hd, _, ob⟩ := (reachB_qgood run r).1.query fo extra hq.uncached
    hq.filterOK hq.extraOK hq.relsTyped
  exact ⟨l1, l2, q, visits, hd, ob⟩

end QueryRel

end Ark
