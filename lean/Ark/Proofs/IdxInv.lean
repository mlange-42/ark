/-
  The entity index ↔ rows invariant `IdxInv` (I2 in DESIGN.md §3.2): every table has its shape
  and its own number as `id`, the entity in row `r` of table `t` is indexed at `(t, r)`, and an
  index entry whose table is not `maxU32` names a row holding that ID.  It does not mention the
  pool (alive, reserved and free slots are `PLink` of Ark.Proofs.Link).  Each row-moving
  primitive of storage.go / world_internal.go is first written as a state transformer
  (`writeValsW`, `removeRowOf`, `placedW`, `moveRowW`/`addMove`, `moveEntitiesW`,
  `createEntitiesW`), then shown to keep the invariant; for `moveEntitiesW` that is
  `IdxInv.moveEntities` of Ark.Proofs.TableMove.

  Recorded hypotheses: table growth stays below `2^32` rows (as in Ark.Proofs.Table); where an
  entity is taken from the pool, "not indexed to a table" is used in the form
  `w.tables.length ≤ t'` (implied by `t' = maxU32` when the world has at most `maxU32` tables).
-/
import Ark.Model.World
import Ark.Proofs.Table

set_option autoImplicit false

namespace Ark

namespace Table

theorem add_ids (t : Table) (e : Ent) : (t.add e).1.ids = t.ids :=
  (add_sameMeta t e).ids

theorem add_zst (t : Table) (e : Ent) : (t.add e).1.zst = t.zst :=
  (add_sameMeta t e).zst

theorem remove_ids (t : Table) (i : Nat) : (t.remove i).1.ids = t.ids := rfl

/-- `T'` arises from `T` by writes into row `row` only. -/
structure WriteRel (row : Nat) (T T' : Table) : Prop where
  id : T'.id = T.id
  len : T'.len = T.len
  cap : T'.cap = T.cap
  ents : T'.ents = T.ents
  ids : T'.ids = T.ids
  zst : T'.zst = T.zst
  shape : T.Shape → T'.Shape
  other : ∀ i r : Nat, r ≠ row → T'.cell i r = T.cell i r

theorem WriteRel.refl (row : Nat) (T : Table) : WriteRel row T T :=
  ⟨rfl, rfl, rfl, rfl, rfl, rfl, fun h => h, fun _ _ _ => rfl⟩

theorem WriteRel.trans {row : Nat} {A B C : Table} (h1 : WriteRel row A B) (h2 : WriteRel row B C) :
    WriteRel row A C :=
  ⟨h2.id.trans h1.id, h2.len.trans h1.len, h2.cap.trans h1.cap, h2.ents.trans h1.ents,
    h2.ids.trans h1.ids, h2.zst.trans h1.zst, fun h => h2.shape (h1.shape h),
    fun i r hr => (h2.other i r hr).trans (h1.other i r hr)⟩

theorem WriteRel.getEntity {row : Nat} {T T' : Table} (h : WriteRel row T T') (r : Nat) :
    T'.getEntity r = T.getEntity r := by
  simp only [Table.getEntity, h.ents]

theorem WriteRel.colIdx {row : Nat} {T T' : Table} (h : WriteRel row T T') (c : Comp) :
    T'.colIdx c = T.colIdx c := by
  simp only [Table.colIdx, h.ids]

theorem setCell_writeRel (T : Table) (col row : Nat) (v : Val) (hrow : row < T.len) :
    WriteRel row T (T.setCell col row v) := by
  cases hz : T.zst.getD col false with
  | true => rw [setCell_zst T col row v hz]; exact WriteRel.refl row T
  | false =>
    refine ⟨?_, ?_, ?_, ?_, ?_, ?_, fun h => setCell_shape h col row v hrow,
      fun i r hr => setCell_cell_ne T col row v i r (Or.inr hr)⟩ <;>
    rw [setCell_nz T col row v hz]

theorem setComp_writeRel (T : Table) (c : Comp) (row : Nat) (v : Val) (hrow : row < T.len) :
    WriteRel row T (T.setComp c row v) := by
  simp only [setComp]
  split
  · exact setCell_writeRel T _ row v hrow
  · exact WriteRel.refl row T

theorem foldl_writeRel {α : Type} (row : Nat) (f : Table → α → Table)
    (hf : ∀ (T : Table) (x : α), row < T.len → WriteRel row T (f T x)) :
    ∀ (l : List α) (T : Table), row < T.len → WriteRel row T (l.foldl f T)
  | [], T, _ => WriteRel.refl row T
  | x :: l, T, h =>
    (hf T x h).trans (foldl_writeRel row f hf l (f T x) (by rw [(hf T x h).len]; exact h))

end Table

theorem getElem?_singleton_some {α : Type} {x y : α} {i : Nat} (h : [x][i]? = some y) :
    i = 0 ∧ y = x := by
  cases i with
  | zero => simp at h; exact ⟨rfl, h.symm⟩
  | succ n => simp at h

theorem lt_of_getD_true {l : List Bool} {i : Nat} (h : l.getD i false = true) : i < l.length := by
  rcases Nat.lt_or_ge i l.length with h1 | h1
  · exact h1
  · rw [List.getD_eq_getElem?_getD, List.getElem?_eq_none h1] at h; cases h

theorem getElem?_concat_cases {α : Type} {l : List α} {x y : α} {i : Nat}
    (h : (l ++ [x])[i]? = some y) : (i < l.length ∧ l[i]? = some y) ∨ (i = l.length ∧ y = x) := by
  rcases Nat.lt_or_ge i l.length with hlt | hge
  · rw [List.getElem?_append_left hlt] at h; exact Or.inl ⟨hlt, h⟩
  · rw [List.getElem?_append_right hge] at h
    obtain ⟨h0, hy⟩ := getElem?_singleton_some h
    exact Or.inr ⟨by omega, hy⟩

theorem getElem?_set_cases {α : Type} {l : List α} {i j : Nat} {x y : α}
    (h : (l.set i x)[j]? = some y) : (j = i ∧ y = x) ∨ (j ≠ i ∧ l[j]? = some y) := by
  by_cases heq : j = i
  · subst heq
    have hlt := (List.getElem?_eq_some_iff.1 h).1
    rw [List.length_set] at hlt
    rw [List.getElem?_set_self hlt] at h
    exact Or.inl ⟨rfl, (Option.some.inj h).symm⟩
  · rw [List.getElem?_set_ne (Ne.symm heq)] at h
    exact Or.inr ⟨heq, h⟩

theorem forall_getElem?_concat {α : Type} {l : List α} {x : α} {P : Nat → α → Prop}
    (h1 : ∀ (i : Nat) (y : α), l[i]? = some y → P i y) (h2 : P l.length x) :
    ∀ (i : Nat) (y : α), (l ++ [x])[i]? = some y → P i y := by
  intro i y h
  rcases getElem?_concat_cases h with ⟨_, h'⟩ | ⟨rfl, rfl⟩
  · exact h1 i y h'
  · exact h2

/-- **I2** — the entity index and the entity columns of the tables describe the same relation. -/
structure IdxInv (w : World) : Prop where
  shape : ∀ (t : Nat) (T : Table), w.tables[t]? = some T → T.Shape
  tid : ∀ (t : Nat) (T : Table), w.tables[t]? = some T → T.id = t
  /-- rows → index: the entity in row `r` of table `t` is indexed at `(t, r)` -/
  rowIdx : ∀ (t : Nat) (T : Table) (r : Nat), w.tables[t]? = some T → r < T.len →
    w.entities[(T.getEntity r).id]? = some (t, r)
  /-- index → rows: an indexed ID sits in that row -/
  idxRow : ∀ (i t r : Nat), w.entities[i]? = some (t, r) → t ≠ maxU32 →
    ∃ T, w.tables[t]? = some T ∧ r < T.len ∧ (T.getEntity r).id = i

namespace World

theorem tbl_of_get {w : World} {t : Nat} {T : Table} (h : w.tables[t]? = some T) : w.tbl t = T := by
  simp [tbl, List.getD_eq_getElem?_getD, h]

theorem get_of_lt {w : World} {t : Nat} (h : t < w.tables.length) :
    w.tables[t]? = some (w.tbl t) := by
  simp [tbl, List.getD_eq_getElem?_getD, List.getElem?_eq_getElem h]

theorem lt_of_get {w : World} {t : Nat} {T : Table} (h : w.tables[t]? = some T) :
    t < w.tables.length := by
  rcases Nat.lt_or_ge t w.tables.length with h1 | h1
  · exact h1
  · rw [List.getElem?_eq_none h1] at h; cases h

theorem tbl_of_ge {w : World} {t : Nat} (h : w.tables.length ≤ t) : w.tbl t = default := by
  simp [tbl, List.getD_eq_getElem?_getD, List.getElem?_eq_none h]

theorem tbl_eq_of_get {w w' : World} {t : Nat} (h : w'.tables[t]? = w.tables[t]?) :
    w'.tbl t = w.tbl t := by
  simp only [tbl, List.getD_eq_getElem?_getD, h]

theorem tbl_congr {w w' : World} (h : w'.tables = w.tables) (t : Nat) : w'.tbl t = w.tbl t :=
  tbl_eq_of_get (by rw [h])

theorem tbl_set_ne {w w' : World} {t t' : Nat} {T : Table} (h : w'.tables = w.tables.set t T)
    (hne : t ≠ t') : w'.tbl t' = w.tbl t' :=
  tbl_eq_of_get (by rw [h, List.getElem?_set_ne hne])

theorem tbl_set_self {w w' : World} {t : Nat} {T : Table} (h : w'.tables = w.tables.set t T)
    (hlt : t < w.tables.length) : w'.tbl t = T :=
  tbl_of_get (by rw [h]; exact List.getElem?_set_self hlt)

theorem tbl_of_set {w w' : World} {t : Nat} {T : Table} (h : w'.tables = w.tables.set t T)
    (t' : Nat) : w'.tbl t' = if t' = t ∧ t < w.tables.length then T else w.tbl t' := by
  by_cases ht : t' = t
  · subst ht
    rcases Nat.lt_or_ge t' w.tables.length with hl | hl
    · rw [if_pos ⟨rfl, hl⟩, tbl_set_self h hl]
    · rw [if_neg fun hh => Nat.not_lt.mpr hl hh.2, tbl_congr (h.trans (List.set_eq_of_length_le hl))]
  · rw [if_neg fun hh => ht hh.1, tbl_set_ne h (Ne.symm ht)]

theorem arch_of_get {w : World} {a : Nat} {A : Archetype} (h : w.archetypes[a]? = some A) :
    w.arch a = A := by
  simp [arch, List.getD_eq_getElem?_getD, h]

theorem aget_of_lt {w : World} {a : Nat} (h : a < w.archetypes.length) :
    w.archetypes[a]? = some (w.arch a) := by
  simp [arch, List.getD_eq_getElem?_getD, List.getElem?_eq_getElem h]

theorem alt_of_get {w : World} {a : Nat} {A : Archetype} (h : w.archetypes[a]? = some A) :
    a < w.archetypes.length := by
  rcases Nat.lt_or_ge a w.archetypes.length with h1 | h1
  · exact h1
  · rw [List.getElem?_eq_none h1] at h; cases h

theorem arch_eq_of_get {w w' : World} {a : Nat} (h : w'.archetypes[a]? = w.archetypes[a]?) :
    w'.arch a = w.arch a := by
  simp only [arch, List.getD_eq_getElem?_getD, h]

theorem arch_congr {w w' : World} (h : w'.archetypes = w.archetypes) (a : Nat) :
    w'.arch a = w.arch a :=
  arch_eq_of_get (by rw [h])

@[simp] theorem setTbl_tables (w : World) (t : Nat) (T : Table) :
    (w.setTbl t T).tables = w.tables.set t T := rfl

@[simp] theorem setTbl_entities (w : World) (t : Nat) (T : Table) :
    (w.setTbl t T).entities = w.entities := rfl

@[simp] theorem modTbl_entities (w : World) (t : Nat) (f : Table → Table) :
    (w.modTbl t f).entities = w.entities := rfl

theorem modTbl_tables (w : World) (t : Nat) (f : Table → Table) :
    (w.modTbl t f).tables = w.tables.set t (f (w.tbl t)) := rfl

theorem setTbl_get_self {w : World} {t : Nat} (T : Table) (h : t < w.tables.length) :
    (w.setTbl t T).tables[t]? = some T := by
  simp [List.getElem?_set_self h]

theorem setTbl_get_ne (w : World) {t t' : Nat} (T : Table) (h : t ≠ t') :
    (w.setTbl t T).tables[t']? = w.tables[t']? := by
  simp [List.getElem?_set_ne h]

theorem setTbl_tbl_self {w : World} {t : Nat} (T : Table) (h : t < w.tables.length) :
    (w.setTbl t T).tbl t = T := tbl_set_self rfl h

theorem setTbl_tbl_ne (w : World) {t t' : Nat} (T : Table) (h : t ≠ t') :
    (w.setTbl t T).tbl t' = w.tbl t' := tbl_set_ne rfl h

theorem modTbl_tbl_ne (w : World) {t t' : Nat} (f : Table → Table) (h : t ≠ t') :
    (w.modTbl t f).tbl t' = w.tbl t' := setTbl_tbl_ne w _ h

theorem modTbl_tbl_self {w : World} {t : Nat} (f : Table → Table) (h : t < w.tables.length) :
    (w.modTbl t f).tbl t = f (w.tbl t) := setTbl_tbl_self _ h

theorem modTbl_tbl (w : World) (t : Nat) (f : Table → Table) (t' : Nat) :
    (w.modTbl t f).tbl t' = if t' = t ∧ t < w.tables.length then f (w.tbl t) else w.tbl t' :=
  tbl_of_set rfl t'

end World

namespace IdxInv

open World

theorem congr {w w' : World} (h : IdxInv w) (he : w'.entities = w.entities)
    (ht : w'.tables = w.tables) : IdxInv w' where
  shape := by rw [ht]; exact h.shape
  tid := by rw [ht]; exact h.tid
  rowIdx := by rw [ht, he]; exact h.rowIdx
  idxRow := by rw [ht, he]; exact h.idxRow

theorem row_inj {w : World} (h : IdxInv w) {t t' r r' : Nat} {T T' : Table}
    (hT : w.tables[t]? = some T) (hT' : w.tables[t']? = some T') (hr : r < T.len)
    (hr' : r' < T'.len) (hid : (T.getEntity r).id = (T'.getEntity r').id) : t = t' ∧ r = r' := by
  have h1 := h.rowIdx t T r hT hr
  have h2 := h.rowIdx t' T' r' hT' hr'
  rw [hid, h2] at h1
  have := Option.some.inj h1
  exact ⟨(Prod.mk.inj this).1.symm, (Prod.mk.inj this).2.symm⟩

/-- the entity in a row other than the one `i` is indexed to is not `i` -/
theorem ne_of_entry {w : World} (h : IdxInv w) {i : Nat} {p : Nat × Nat}
    (hi : w.entities[i]? = some p) {t1 r : Nat} {T1 : Table} (h1 : w.tables[t1]? = some T1)
    (hr : r < T1.len) (hp : (t1, r) ≠ p) : (T1.getEntity r).id ≠ i :=
  fun heq => hp (Option.some.inj ((h.rowIdx t1 T1 r h1 hr).symm.trans (heq ▸ hi)))

theorem indexed {w : World} (h : IdxInv w) {i t r : Nat} (hi : w.entities[i]? = some (t, r))
    (ht : t ≠ maxU32) :
    w.tables[t]? = some (w.tbl t) ∧ r < (w.tbl t).len ∧ ((w.tbl t).getEntity r).id = i := by
  obtain ⟨T, hT, hr, hid⟩ := h.idxRow i t r hi ht
  rw [tbl_of_get hT]; exact ⟨hT, hr, hid⟩

theorem init (cap relCap : Nat) (maxComps : Nat) : IdxInv (World.init cap relCap maxComps) := by
  have hT : (World.init cap relCap maxComps).tables = [Table.new 0 0 [] [] [] cap [] []] := rfl
  refine ⟨?_, ?_, ?_, ?_⟩
  · intro t T h; rw [hT] at h
    obtain ⟨_, rfl⟩ := getElem?_singleton_some h
    exact Table.new_shape 0 0 [] [] [] cap [] [] rfl
  · intro t T h; rw [hT] at h
    obtain ⟨rfl, rfl⟩ := getElem?_singleton_some h
    rfl
  · intro t T r h hr; rw [hT] at h
    obtain ⟨_, rfl⟩ := getElem?_singleton_some h
    exact absurd hr (Nat.not_lt_zero _)
  · intro i t r hi ht
    have : (World.init cap relCap maxComps).entities = [(maxU32, 0), (maxU32, 0)] := rfl
    rw [this] at hi
    match i, hi with
    | 0, hi => cases hi; exact absurd rfl ht
    | 1, hi => cases hi; exact absurd rfl ht
    | n + 2, hi => simp at hi

/-- **one table edited**: `w'` has the tables of `w` except for a new table `T'` in slot `t`.  The
    invariant is kept when the rows of `T'` are indexed, every entry into `t` names a row of `T'`,
    the entities of the other tables keep their entries, and no entry into another table is new. -/
theorem edit {w w' : World} (h : IdxInv w) {t : Nat} {T' : Table} (hlt : t < w.tables.length)
    (hT : w'.tables = w.tables.set t T') (hS : T'.Shape) (hid : T'.id = (w.tbl t).id)
    (hrow : ∀ r : Nat, r < T'.len → w'.entities[(T'.getEntity r).id]? = some (t, r))
    (hin : ∀ i r : Nat, w'.entities[i]? = some (t, r) → t ≠ maxU32 →
      r < T'.len ∧ (T'.getEntity r).id = i)
    (hkeep : ∀ (t1 : Nat) (T1 : Table) (r : Nat), t1 ≠ t → w.tables[t1]? = some T1 → r < T1.len →
      w'.entities[(T1.getEntity r).id]? = w.entities[(T1.getEntity r).id]?)
    (hback : ∀ i t1 r : Nat, t1 ≠ t → t1 ≠ maxU32 → w'.entities[i]? = some (t1, r) →
      w.entities[i]? = some (t1, r)) : IdxInv w' := by
  have hget : ∀ (t1 : Nat) (T1 : Table), w'.tables[t1]? = some T1 →
      (t1 = t ∧ T1 = T') ∨ (t1 ≠ t ∧ w.tables[t1]? = some T1) :=
    fun t1 T1 h1 => getElem?_set_cases (hT ▸ h1)
  refine ⟨?_, ?_, ?_, ?_⟩
  · intro t1 T1 h1
    rcases hget t1 T1 h1 with ⟨_, rfl⟩ | ⟨_, h2⟩
    · exact hS
    · exact h.shape t1 T1 h2
  · intro t1 T1 h1
    rcases hget t1 T1 h1 with ⟨rfl, rfl⟩ | ⟨_, h2⟩
    · rw [hid]; exact h.tid t1 _ (get_of_lt hlt)
    · exact h.tid t1 T1 h2
  · intro t1 T1 r h1 hr
    rcases hget t1 T1 h1 with ⟨rfl, rfl⟩ | ⟨hne, h2⟩
    · exact hrow r hr
    · rw [hkeep t1 T1 r hne h2 hr]; exact h.rowIdx t1 T1 r h2 hr
  · intro i t1 r hi ht1
    by_cases htt : t1 = t
    · subst htt
      obtain ⟨hr, hi'⟩ := hin i r hi ht1
      exact ⟨T', by rw [hT]; exact List.getElem?_set_self hlt, hr, hi'⟩
    · obtain ⟨T1, hT1, hr1, hid1⟩ := h.idxRow i t1 r (hback i t1 r htt ht1 hi) ht1
      exact ⟨T1, by rw [hT, List.getElem?_set_ne (Ne.symm htt)]; exact hT1, hr1, hid1⟩

theorem of_same_rows {w : World} (h : IdxInv w) (t : Nat) (T' : Table) (hS : T'.Shape)
    (hid : T'.id = (w.tbl t).id) (hlen : T'.len = (w.tbl t).len)
    (hent : ∀ r : Nat, r < T'.len → T'.getEntity r = (w.tbl t).getEntity r) :
    IdxInv (w.setTbl t T') := by
  rcases Nat.lt_or_ge t w.tables.length with hlt | hge
  · refine h.edit hlt rfl hS hid (fun r hr => ?_) (fun i r hi ht => ?_) (fun _ _ _ _ _ _ => rfl)
      (fun _ _ _ _ _ hi => hi)
    · rw [hent r hr]; exact h.rowIdx t _ r (get_of_lt hlt) (hlen ▸ hr)
    · obtain ⟨_, hr, hidr⟩ := h.indexed hi ht
      exact ⟨hlen ▸ hr, by rw [hent r (hlen ▸ hr)]; exact hidr⟩
  · exact h.congr rfl (List.set_eq_of_length_le hge)

end IdxInv

namespace World

/-- the state change of `writeVals` -/
def writeValsW (w : World) (e : Ent) (vals : List (Comp × Val)) : World :=
  w.modTbl (w.index e.id).1 fun T =>
    vals.foldl (fun T (cv : Comp × Val) => T.setComp cv.1 (w.index e.id).2 cv.2) T

theorem writeVals_eq (e : Ent) (vals : List (Comp × Val)) (w : World) :
    writeVals e vals w = .ok () (writeValsW w e vals) := rfl

theorem index_of_get {w : World} {i t r : Nat} (h : w.entities[i]? = some (t, r)) :
    w.index i = (t, r) := by
  simp [index, List.getD_eq_getElem?_getD, h]

theorem maskOf_eq {w : World} {e : Ent} {t r : Nat} (h : w.index e.id = (t, r)) :
    w.maskOf e = (w.arch (w.tbl t).arch).mask := by
  simp only [maskOf, h]

theorem writeValsW_at {w : World} {e : Ent} {t row : Nat} (he : w.entities[e.id]? = some (t, row))
    (vals : List (Comp × Val)) :
    writeValsW w e vals = w.setTbl t
      (vals.foldl (fun T (cv : Comp × Val) => T.setComp cv.1 row cv.2) (w.tbl t)) := by
  simp only [writeValsW, index_of_get he]; rfl

theorem writeVals_writeRel (T : Table) (row : Nat) (vals : List (Comp × Val)) (hrow : row < T.len) :
    Table.WriteRel row T
      (vals.foldl (fun T (cv : Comp × Val) => T.setComp cv.1 row cv.2) T) :=
  Table.foldl_writeRel row _ (fun T cv h => Table.setComp_writeRel T cv.1 row cv.2 h) vals T hrow

end World

namespace IdxInv

open World

theorem writeVals {w : World} (h : IdxInv w) (e : Ent) (vals : List (Comp × Val)) {t row : Nat}
    (he : w.entities[e.id]? = some (t, row)) (ht : t ≠ maxU32) :
    IdxInv (writeValsW w e vals) := by
  obtain ⟨hT, hrow, _⟩ := h.indexed he ht
  rw [writeValsW_at he]
  have hw := writeVals_writeRel (w.tbl t) row vals hrow
  exact of_same_rows h t _ (hw.shape (h.shape t _ hT)) hw.id hw.len (fun r _ => hw.getEntity r)

theorem append_table {w : World} (h : IdxInv w) (T : Table) (hS : T.Shape)
    (hid : T.id = w.tables.length) (hlen : T.len = 0) :
    IdxInv { w with tables := w.tables ++ [T] } where
  shape := by
    intro t1 T1 hT1
    rcases getElem?_concat_cases hT1 with ⟨_, h1⟩ | ⟨_, rfl⟩
    · exact h.shape t1 T1 h1
    · exact hS
  tid := by
    intro t1 T1 hT1
    rcases getElem?_concat_cases hT1 with ⟨_, h1⟩ | ⟨rfl, rfl⟩
    · exact h.tid t1 T1 h1
    · exact hid
  rowIdx := by
    intro t1 T1 r hT1 hr
    rcases getElem?_concat_cases hT1 with ⟨_, h1⟩ | ⟨_, rfl⟩
    · exact h.rowIdx t1 T1 r h1 hr
    · rw [hlen] at hr; exact absurd hr (Nat.not_lt_zero _)
  idxRow := by
    intro i t1 r hi ht1
    obtain ⟨T1, hT1, hr, hidr⟩ := h.idxRow i t1 r hi ht1
    exact ⟨T1, by
      show (w.tables ++ [T])[t1]? = some T1
      rw [List.getElem?_append_left (lt_of_get hT1)]; exact hT1, hr, hidr⟩

/-- what `createTable` appends -/
theorem append_new_table {w : World} (h : IdxInv w) (arch : Nat) (ids : List Comp)
    (isRel zst : List Bool) (cap : Nat) (targets : List Ent) (relIDs : List RelID)
    (hz : zst.length = ids.length) :
    IdxInv { w with tables := w.tables ++
      [Table.new w.tables.length arch ids isRel zst cap targets relIDs] } :=
  append_table h _ (Table.new_shape _ arch ids isRel zst cap targets relIDs hz) rfl rfl

end IdxInv

namespace World

/-- the removal block of `opRemoveEntity` (a verbatim copy of the `M.modify` argument) -/
def removeRowOf (w : World) (e : Ent) (t row : Nat) : World :=
    let (T', swapped) := (w.tbl t).remove row
    let w := w.setTbl t T'
    let w := { w with pool := w.pool.recycle e }
    let w := if swapped then
        let se := T'.getEntity row
        { w with entities := w.entities.modify se.id fun (tt, _) => (tt, row) }
      else w
    { w with entities := w.entities.modify e.id fun (_, r) => (maxU32, r) }

/-- the same without the pool change: swap-remove the row, re-index the swapped entity,
    un-index `e` -/
def unplace (w : World) (e : Ent) (t row : Nat) : World :=
    let (T', swapped) := (w.tbl t).remove row
    let w := w.setTbl t T'
    let w := if swapped then
        let se := T'.getEntity row
        { w with entities := w.entities.modify se.id fun (tt, _) => (tt, row) }
      else w
    { w with entities := w.entities.modify e.id fun (_, r) => (maxU32, r) }

theorem unplace_eq (w : World) (e : Ent) (t row : Nat) :
    unplace w e t row =
      { w with
        tables := w.tables.set t ((w.tbl t).remove row).1
        entities :=
          (if (row != (w.tbl t).len - 1) = true then
              w.entities.modify (((w.tbl t).remove row).1.getEntity row).id fun (tt, _) => (tt, row)
            else w.entities).modify e.id fun (_, r) => (maxU32, r) } := by
  simp only [unplace, Table.remove_snd]
  by_cases hb : (row != (w.tbl t).len - 1) = true
  · simp only [hb, if_true]; rfl
  · simp only [hb]; rfl

theorem removeRowOf_eq (w : World) (e : Ent) (t row : Nat) :
    removeRowOf w e t row = { unplace w e t row with pool := w.pool.recycle e } := by
  simp only [removeRowOf, unplace]
  split <;> rfl

theorem unplace_tables (w : World) (e : Ent) (t row : Nat) :
    (unplace w e t row).tables = w.tables.set t ((w.tbl t).remove row).1 := by
  rw [unplace_eq]

theorem removeRowOf_tables (w : World) (e : Ent) (t row : Nat) :
    (removeRowOf w e t row).tables = (unplace w e t row).tables := by
  rw [removeRowOf_eq]

theorem removeRowOf_entities (w : World) (e : Ent) (t row : Nat) :
    (removeRowOf w e t row).entities = (unplace w e t row).entities := by
  rw [removeRowOf_eq]

theorem unplace_entities (w : World) (e : Ent) (t row : Nat) :
    (unplace w e t row).entities =
      (if (row != (w.tbl t).len - 1) = true then
          w.entities.modify (((w.tbl t).remove row).1.getEntity row).id fun (tt, _) => (tt, row)
        else w.entities).modify e.id fun (_, r) => (maxU32, r) := by
  rw [unplace_eq]

theorem unplace_lookup {w : World} (h : IdxInv w) {e : Ent} {t row : Nat}
    (he : w.entities[e.id]? = some (t, row)) (ht : t ≠ maxU32) (i : Nat) :
    (unplace w e t row).entities[i]? =
      if i = e.id then some (maxU32, row)
      else if row ≠ (w.tbl t).len - 1 ∧ i = ((w.tbl t).getEntity ((w.tbl t).len - 1)).id then
        some (t, row)
      else w.entities[i]? := by
  obtain ⟨hT, hrow, hid⟩ := h.indexed he ht
  have hS := h.shape t _ hT
  rw [unplace_entities]
  by_cases hsw : row = (w.tbl t).len - 1
  · have hb : ¬ ((row != (w.tbl t).len - 1) = true) := by simp [hsw]
    rw [if_neg hb, List.getElem?_modify]
    by_cases hi : i = e.id
    · subst hi; simp [he]
    · have : ¬ (e.id = i) := fun hh => hi hh.symm
      simp only [this, hi, if_false]
      rw [if_neg (fun hh => hh.1 hsw)]
      cases w.entities[i]? <;> rfl
  · have hb : (row != (w.tbl t).len - 1) = true := by simp [hsw]
    have hse : ((w.tbl t).remove row).1.getEntity row =
        (w.tbl t).getEntity ((w.tbl t).len - 1) := by
      rw [Table.remove_getEntity hS row hrow row
        (Nat.lt_of_le_of_ne (Nat.le_sub_one_of_lt hrow) hsw), if_pos rfl]
    have hlast : (w.tbl t).len - 1 < (w.tbl t).len := Nat.sub_lt (Nat.zero_lt_of_lt hrow) Nat.one_pos
    have hsi := h.rowIdx t _ _ hT hlast
    have hne := h.ne_of_entry he hT hlast fun hh => hsw (Prod.mk.inj hh).2.symm
    rw [if_pos hb, hse, List.getElem?_modify, List.getElem?_modify]
    by_cases hi : i = e.id
    · subst hi; simp [he, hne]
    · have : ¬ (e.id = i) := fun hh => hi hh.symm
      simp only [this, hi, if_false]
      by_cases hi2 : i = ((w.tbl t).getEntity ((w.tbl t).len - 1)).id
      · subst hi2; simp [hsi, hsw]
      · have : ¬ (((w.tbl t).getEntity ((w.tbl t).len - 1)).id = i) := fun hh => hi2 hh.symm
        simp only [this, hi2, and_false, if_false]
        cases w.entities[i]? <;> rfl

end World

namespace IdxInv

open World

theorem unplace {w : World} (h : IdxInv w) {e : Ent} {t row : Nat}
    (he : w.entities[e.id]? = some (t, row)) (ht : t ≠ maxU32) :
    IdxInv (World.unplace w e t row) := by
  obtain ⟨hT, hrow, hid⟩ := h.indexed he ht
  have hS := h.shape t _ hT
  have hL := unplace_lookup h he ht
  have hlast : (w.tbl t).len - 1 < (w.tbl t).len := Nat.sub_lt (Nat.zero_lt_of_lt hrow) Nat.one_pos
  have hse := h.rowIdx t _ ((w.tbl t).len - 1) hT hlast
  refine h.edit (lt_of_get hT) (unplace_tables w e t row) (Table.remove_shape hS row hrow)
    (Table.remove_sameMeta _ _).id ?_ ?_ ?_ ?_
  · -- `hrow`: row `row` now holds the former last entity, the other rows their old one
    intro r hr
    rw [Table.remove_len] at hr
    rw [Table.remove_getEntity hS row hrow r hr, hL]
    by_cases hrr : r = row
    · subst hrr
      rw [if_pos rfl, if_neg (h.ne_of_entry he hT hlast fun hh =>
        Nat.ne_of_gt hr (Prod.mk.inj hh).2), if_pos ⟨Nat.ne_of_lt hr, rfl⟩]
    · have hrl : r < (w.tbl t).len := Nat.lt_of_lt_of_le hr (Nat.sub_le _ _)
      rw [if_neg hrr, if_neg (h.ne_of_entry he hT hrl fun hh => hrr (Prod.mk.inj hh).2),
        if_neg fun hh => h.ne_of_entry hse hT hrl (fun hh => Nat.ne_of_lt hr (Prod.mk.inj hh).2) hh.2]
      exact h.rowIdx t _ r hT hrl
  · -- `hin`: an entry into `t` is the moved entity's (at `row`) or an old one below the last row
    intro i r hi _
    rw [hL] at hi
    rw [Table.remove_len]
    by_cases hie : i = e.id
    · rw [if_pos hie] at hi
      exact absurd (Prod.mk.inj (Option.some.inj hi)).1.symm ht
    · rw [if_neg hie] at hi
      by_cases hsw : row ≠ (w.tbl t).len - 1 ∧ i = ((w.tbl t).getEntity ((w.tbl t).len - 1)).id
      · rw [if_pos hsw] at hi
        obtain ⟨_, rfl⟩ := Prod.mk.inj (Option.some.inj hi)
        have hrl := Nat.lt_of_le_of_ne (Nat.le_sub_one_of_lt hrow) hsw.1
        exact ⟨hrl, by rw [Table.remove_getEntity hS _ hrow _ hrl, if_pos rfl]; exact hsw.2.symm⟩
      · rw [if_neg hsw] at hi
        obtain ⟨_, hr, hidr⟩ := h.indexed hi ht
        have hr_ne : r ≠ row := fun heq => hie (by rw [← hidr, heq, hid])
        have hrl : r < (w.tbl t).len - 1 := by
          rcases Nat.lt_or_ge r ((w.tbl t).len - 1) with hh | hh
          · exact hh
          · have hre : r = (w.tbl t).len - 1 := Nat.le_antisymm (Nat.le_sub_one_of_lt hr) hh
            exact absurd ⟨fun hh => hr_ne (hre.trans hh.symm), by rw [← hre]; exact hidr.symm⟩ hsw
        exact ⟨hrl, by rw [Table.remove_getEntity hS _ hrow _ hrl, if_neg hr_ne]; exact hidr⟩
  · -- `hkeep`: an entity of another table is neither `e` nor the moved one
    intro t1 T1 r hne h1 hr
    rw [hL, if_neg (h.ne_of_entry he h1 hr fun hh => hne (Prod.mk.inj hh).1),
      if_neg fun hh => h.ne_of_entry hse h1 hr (fun hh => hne (Prod.mk.inj hh).1) hh.2]
  · -- `hback`: the two entries written point into `t` or nowhere
    intro i t1 r hne ht1 hi
    rw [hL] at hi
    by_cases hie : i = e.id
    · rw [if_pos hie] at hi
      exact absurd (Prod.mk.inj (Option.some.inj hi)).1.symm ht1
    · rw [if_neg hie] at hi
      by_cases hsw : row ≠ (w.tbl t).len - 1 ∧ i = ((w.tbl t).getEntity ((w.tbl t).len - 1)).id
      · rw [if_pos hsw] at hi
        exact absurd (Prod.mk.inj (Option.some.inj hi)).1.symm hne
      · rwa [if_neg hsw] at hi

theorem removeRowOf {w : World} (h : IdxInv w) {e : Ent} {t row : Nat}
    (he : w.entities[e.id]? = some (t, row)) (ht : t ≠ maxU32) :
    IdxInv (World.removeRowOf w e t row) :=
  (h.unplace he ht).congr (removeRowOf_entities w e t row) (removeRowOf_tables w e t row)

end IdxInv

namespace World

/-- the index/table part of `placeNew` for the handle `e`: add `e` to table `t`, index it -/
def place (w : World) (e : Ent) (t : Nat) : World :=
  if e.id == w.entities.length then
    { (w.setTbl t ((w.tbl t).add e).1) with entities := w.entities ++ [(t, (w.tbl t).len)] }
  else
    { (w.setTbl t ((w.tbl t).add e).1) with entities := w.entities.set e.id (t, (w.tbl t).len) }

theorem place_eq (w : World) (e : Ent) (t : Nat) :
    place w e t =
      { w with
        tables := w.tables.set t ((w.tbl t).add e).1
        entities :=
          if e.id = w.entities.length then w.entities ++ [(t, (w.tbl t).len)]
          else w.entities.set e.id (t, (w.tbl t).len) } := by
  simp only [place]
  by_cases hb : e.id = w.entities.length
  · simp only [hb, beq_self_eq_true, if_true]; rfl
  · have : (e.id == w.entities.length) = false := by simpa using hb
    simp only [this, hb, if_false]; rfl

theorem place_tables (w : World) (e : Ent) (t : Nat) :
    (place w e t).tables = w.tables.set t ((w.tbl t).add e).1 := by
  rw [place_eq]

theorem place_entities (w : World) (e : Ent) (t : Nat) :
    (place w e t).entities =
      if e.id = w.entities.length then w.entities ++ [(t, (w.tbl t).len)]
      else w.entities.set e.id (t, (w.tbl t).len) := by
  rw [place_eq]

theorem place_lookup (w : World) (e : Ent) (t : Nat) (hle : e.id ≤ w.entities.length) (i : Nat) :
    (place w e t).entities[i]? =
      if i = e.id then some (t, (w.tbl t).len) else w.entities[i]? := by
  rw [place_entities]
  by_cases hb : e.id = w.entities.length
  · rw [if_pos hb]
    by_cases hi : i = e.id
    · rw [if_pos hi, hi, hb]; exact List.getElem?_concat_length
    · rw [if_neg hi]
      rcases Nat.lt_or_ge i w.entities.length with h1 | h1
      · exact List.getElem?_append_left h1
      · rw [List.getElem?_eq_none h1, List.getElem?_eq_none]
        simp only [List.length_append, List.length_singleton]; omega
  · rw [if_neg hb]
    by_cases hi : i = e.id
    · rw [if_pos hi, hi]; exact List.getElem?_set_self (by omega)
    · rw [if_neg hi]; exact List.getElem?_set_ne (fun hh => hi hh.symm)

/-- the state change of `placeNew` (a verbatim copy of its body) -/
def placedW (w : World) (t : Nat) (rt : Bool) : World :=
  let (pool, e) := w.pool.get
  let (T, idx) := (w.tbl t).add e
  let w := { (w.setTbl t T) with pool }
  if e.id == w.entities.length then
      { w with entities := w.entities ++ [(t, idx)], isTarget := w.isTarget ++ [false] }
    else
      { w with entities := w.entities.set e.id (t, idx)
               isTarget := if rt then w.isTarget.set e.id false else w.isTarget }

theorem placeNew_eq (t : Nat) (rt : Bool) (w : World) :
    placeNew t rt w = .ok ((w.pool.get).2, (w.tbl t).len) (placedW w t rt) := by
  simp only [placeNew, placedW]
  split <;> rfl

/-- `placeNew` changes the tables, the pool, the index and the target flags only -/
theorem placedW_eq (w : World) (t : Nat) (rt : Bool) :
    placedW w t rt =
      { w with
        tables := w.tables.set t ((w.tbl t).add (w.pool.get).2).1
        pool := (w.pool.get).1
        entities :=
          if (w.pool.get).2.id = w.entities.length then w.entities ++ [(t, (w.tbl t).len)]
          else w.entities.set (w.pool.get).2.id (t, (w.tbl t).len)
        isTarget :=
          if (w.pool.get).2.id = w.entities.length then w.isTarget ++ [false]
          else if rt = true then w.isTarget.set (w.pool.get).2.id false else w.isTarget } := by
  simp only [placedW, setTbl_entities]
  by_cases hb : (w.pool.get).2.id = w.entities.length
  · simp only [hb, beq_self_eq_true, if_true]; rfl
  · have : ((w.pool.get).2.id == w.entities.length) = false := by simpa using hb
    simp only [this, hb, if_false]; rfl

theorem placedW_tables (w : World) (t : Nat) (rt : Bool) :
    (placedW w t rt).tables = w.tables.set t ((w.tbl t).add (w.pool.get).2).1 := by
  rw [placedW_eq]

theorem placedW_tbl_self {w : World} {t : Nat} (hlt : t < w.tables.length) (rt : Bool) :
    (placedW w t rt).tbl t = ((w.tbl t).add (w.pool.get).2).1 :=
  tbl_set_self (placedW_tables w t rt) hlt

theorem placedW_tables_len (w : World) (t : Nat) (rt : Bool) :
    (placedW w t rt).tables.length = w.tables.length := by
  rw [placedW_tables, List.length_set]

theorem placedW_place (w : World) (t : Nat) (rt : Bool) :
    (placedW w t rt).entities = (place w (w.pool.get).2 t).entities ∧
    (placedW w t rt).tables = (place w (w.pool.get).2 t).tables := by
  rw [placedW_eq, place_eq]; exact ⟨rfl, rfl⟩

end World

namespace IdxInv

open World

theorem place {w : World} (h : IdxInv w) (e : Ent) {t : Nat} (hlt : t < w.tables.length)
    (hb : (w.tbl t).len + 1 < 2 ^ 32) (hle : e.id ≤ w.entities.length)
    (hfresh : ∀ (t1 : Nat) (T1 : Table) (r : Nat), w.tables[t1]? = some T1 → r < T1.len →
      (T1.getEntity r).id ≠ e.id) :
    IdxInv (World.place w e t) := by
  have hT := get_of_lt hlt
  have hS := h.shape t _ hT
  have hL := place_lookup w e t hle
  have hnew : ((w.tbl t).add e).1.getEntity (w.tbl t).len = e := Table.add_getEntity_new hS e hb
  refine h.edit hlt (place_tables w e t) (Table.add_shape hS e hb) (Table.add_sameMeta _ _).id
    ?_ ?_ ?_ ?_
  · intro r hr
    rw [Table.add_fst_len] at hr
    rw [hL]
    by_cases hrl : r < (w.tbl t).len
    · rw [Table.add_getEntity_lt _ e r hrl, if_neg (hfresh t _ r hT hrl)]
      exact h.rowIdx t _ r hT hrl
    · obtain rfl : r = (w.tbl t).len := by omega
      rw [hnew, if_pos rfl]
  · intro i r hi ht
    rw [hL] at hi
    rw [Table.add_fst_len]
    by_cases hie : i = e.id
    · rw [if_pos hie] at hi
      obtain ⟨_, rfl⟩ := Prod.mk.inj (Option.some.inj hi)
      exact ⟨Nat.lt_succ_self _, hnew.symm ▸ hie.symm⟩
    · rw [if_neg hie] at hi
      obtain ⟨_, hr, hidr⟩ := h.indexed hi ht
      exact ⟨Nat.lt_succ_of_lt hr, by rw [Table.add_getEntity_lt _ e r hr]; exact hidr⟩
  · intro t1 T1 r _ h1 hr
    rw [hL, if_neg (hfresh t1 T1 r h1 hr)]
  · intro i t1 r htt _ hi
    rw [hL] at hi
    by_cases hie : i = e.id
    · rw [if_pos hie] at hi; exact absurd (Prod.mk.inj (Option.some.inj hi)).1.symm htt
    · rwa [if_neg hie] at hi

theorem fresh_of_free {w : World} (h : IdxInv w) (i : Nat)
    (hfree : ∀ t' r' : Nat, w.entities[i]? = some (t', r') → w.tables.length ≤ t') :
    ∀ (t1 : Nat) (T1 : Table) (r : Nat), w.tables[t1]? = some T1 → r < T1.len →
      (T1.getEntity r).id ≠ i := by
  intro t1 T1 r h1 hr heq
  have hx := h.rowIdx t1 T1 r h1 hr
  rw [heq] at hx
  have := hfree t1 r hx
  have := lt_of_get h1
  omega

/-- `placeNew` keeps I2 when the pool hands out a handle whose ID is not indexed to a
    table (hypotheses as they follow from the pool invariant). -/
theorem placeNew {w : World} (h : IdxInv w) {t : Nat} (rt : Bool) (hlt : t < w.tables.length)
    (hb : (w.tbl t).len + 1 < 2 ^ 32) (hnt : w.tables.length ≤ maxU32)
    (hle : (w.pool.get).2.id ≤ w.entities.length)
    (hfree : ∀ t' r' : Nat, w.entities[(w.pool.get).2.id]? = some (t', r') → t' = maxU32) :
    ∃ w', World.placeNew t rt w = .ok ((w.pool.get).2, (w.tbl t).len) w' ∧ IdxInv w' := by
  obtain ⟨he, ht⟩ := placedW_place w t rt
  refine ⟨_, placeNew_eq t rt w, (h.place (w.pool.get).2 hlt hb hle (h.fresh_of_free _ ?_)).congr he ht⟩
  intro t' r' hx
  rw [hfree t' r' hx]; exact hnt

end IdxInv

namespace World

/-- the component copy of `moveRow` (row `row` of `O` into row `newIndex` of `N`) -/
def copyRow (O : Table) (row newIndex : Nat) (keep : Mask) (N : Table) : Table :=
  O.ids.foldl (fun N c =>
    if keep.get c then
      match O.getComp c row with
      | some v => N.setComp c newIndex v
      | none => N
    else N) N

/-- the state change of `moveRow` (the `M.modify` argument, with the copy loop named
    `copyRow`; `moveRow_eq` is by `rfl`) -/
def moveRowW (w : World) (e : Ent) (oldT row newT newIndex : Nat) (keep : Mask) : World :=
  let O := w.tbl oldT
  let w := w.modTbl newT (copyRow O row newIndex keep)
  let (O', swapped) := (w.tbl oldT).remove row
  let w := w.setTbl oldT O'
  let w := if swapped then
      let se := O'.getEntity row
      { w with entities := w.entities.modify se.id fun (t, _) => (t, row) }
    else w
  { w with entities := w.entities.set e.id (newT, newIndex) }

theorem moveRow_eq (e : Ent) (oldT row newT newIndex : Nat) (keep : Mask) (w : World) :
    moveRow e oldT row newT newIndex keep w = .ok () (moveRowW w e oldT row newT newIndex keep) :=
  rfl

/-- the composite "add `e` to `newT`, then `moveRow`": the tail of `addCore`, `removeCore`,
    `exchangeCore` and `setRelationsCore` -/
def addMove (w : World) (e : Ent) (oldT row newT : Nat) (keep : Mask) : World :=
  moveRowW (w.setTbl newT ((w.tbl newT).add e).1) e oldT row newT ((w.tbl newT).add e).2 keep

/-- `addMove` is what the model runs -/
theorem addMove_eq (e : Ent) (oldT row newT : Nat) (keep : Mask) (w : World) :
    (((fun w => let (N, i) := (w.tbl newT).add e; Res.ok i (w.setTbl newT N) : W Nat) >>=
      fun newIndex => moveRow e oldT row newT newIndex keep) w) =
      .ok () (addMove w e oldT row newT keep) := rfl

/-- one iteration of the copy loop of `moveRow` -/
def copyStep (O : Table) (row idx : Nat) (keep : Mask) (N : Table) (x : Comp) : Table :=
  if keep.get x then
    match O.getComp x row with
    | some v => N.setComp x idx v
    | none => N
  else N

theorem copyRow_eq_foldl (O : Table) (row idx : Nat) (keep : Mask) (N : Table) :
    copyRow O row idx keep N = O.ids.foldl (copyStep O row idx keep) N := rfl

theorem copyStep_writeRel (O : Table) (row idx : Nat) (keep : Mask) (N : Table) (x : Comp)
    (h : idx < N.len) : Table.WriteRel idx N (copyStep O row idx keep N x) := by
  simp only [copyStep]
  split
  · split
    · exact Table.setComp_writeRel N x idx _ h
    · exact Table.WriteRel.refl _ N
  · exact Table.WriteRel.refl _ N

theorem copyRow_writeRel (O : Table) (row newIndex : Nat) (keep : Mask) (N : Table)
    (h : newIndex < N.len) : Table.WriteRel newIndex N (copyRow O row newIndex keep N) :=
  Table.foldl_writeRel newIndex _ (copyStep_writeRel O row newIndex keep) O.ids N h

theorem moveRowW_eq (w : World) (e : Ent) (oldT row newT newIndex : Nat) (keep : Mask) :
    moveRowW w e oldT row newT newIndex keep =
      { w with
        tables := (w.modTbl newT (copyRow (w.tbl oldT) row newIndex keep)).tables.set oldT
          (((w.modTbl newT (copyRow (w.tbl oldT) row newIndex keep)).tbl oldT).remove row).1
        entities :=
          (if (row != ((w.modTbl newT (copyRow (w.tbl oldT) row newIndex keep)).tbl oldT).len - 1)
              = true
            then w.entities.modify
              ((((w.modTbl newT (copyRow (w.tbl oldT) row newIndex keep)).tbl oldT).remove
                row).1.getEntity row).id fun (t, _) => (t, row)
            else w.entities).set e.id (newT, newIndex) } := by
  simp only [moveRowW, Table.remove_snd]
  by_cases hb : (row != ((w.modTbl newT (copyRow (w.tbl oldT) row newIndex keep)).tbl oldT).len - 1)
      = true
  · simp only [hb, if_true]; rfl
  · simp only [hb]; rfl

theorem moveRowW_tables (w : World) (e : Ent) (oldT row newT newIndex : Nat) (keep : Mask) :
    (moveRowW w e oldT row newT newIndex keep).tables =
      (w.modTbl newT (copyRow (w.tbl oldT) row newIndex keep)).tables.set oldT
        (((w.modTbl newT (copyRow (w.tbl oldT) row newIndex keep)).tbl oldT).remove row).1 := by
  rw [moveRowW_eq]

theorem moveRowW_entities (w : World) (e : Ent) (oldT row newT newIndex : Nat) (keep : Mask) :
    (moveRowW w e oldT row newT newIndex keep).entities =
      (if (row != ((w.modTbl newT (copyRow (w.tbl oldT) row newIndex keep)).tbl oldT).len - 1) = true
        then w.entities.modify
          ((((w.modTbl newT (copyRow (w.tbl oldT) row newIndex keep)).tbl oldT).remove row).1.getEntity
            row).id fun (t, _) => (t, row)
        else w.entities).set e.id (newT, newIndex) := by
  rw [moveRowW_eq]

theorem addMove_frame (w : World) (e : Ent) (oldT row newT : Nat) (keep : Mask) :
    addMove w e oldT row newT keep =
      { w with
        tables := (addMove w e oldT row newT keep).tables
        entities := (addMove w e oldT row newT keep).entities } := by
  rw [addMove, moveRowW_eq]; rfl

/-- `addMove` as: removal block on the old table, `place` into the new table, copy -/
theorem addMove_decomp (w : World) (e : Ent) (oldT row newT : Nat) (keep : Mask)
    (hne : oldT ≠ newT) (hnl : newT < w.tables.length) (hel : e.id < w.entities.length) :
    (addMove w e oldT row newT keep).tables =
      ((place (unplace w e oldT row) e newT).setTbl newT
        (copyRow (w.tbl oldT) row (w.tbl newT).len keep ((w.tbl newT).add e).1)).tables ∧
    (addMove w e oldT row newT keep).entities =
      ((place (unplace w e oldT row) e newT).setTbl newT
        (copyRow (w.tbl oldT) row (w.tbl newT).len keep ((w.tbl newT).add e).1)).entities := by
  have hune : (unplace w e oldT row).tbl newT = w.tbl newT :=
    tbl_set_ne (unplace_tables w e oldT row) hne
  have h1 : (w.setTbl newT ((w.tbl newT).add e).1).tbl oldT = w.tbl oldT :=
    setTbl_tbl_ne w _ (Ne.symm hne)
  have h2 : (w.setTbl newT ((w.tbl newT).add e).1).tbl newT = ((w.tbl newT).add e).1 :=
    setTbl_tbl_self _ hnl
  have h3 : ∀ f, ((w.setTbl newT ((w.tbl newT).add e).1).modTbl newT f).tbl oldT = w.tbl oldT := by
    intro f; rw [modTbl_tbl_ne _ f (Ne.symm hne), h1]
  constructor
  · rw [addMove, moveRowW_tables, h3, h1, modTbl_tables, h2]
    simp only [setTbl_tables, place_tables, unplace_tables, hune, Table.add_snd, List.set_set]
    exact List.set_comm _ _ (Ne.symm hne)
  · rw [addMove, moveRowW_entities, h3]
    simp only [setTbl_entities, place_entities, unplace_entities, hune, Table.add_snd,
      List.length_modify]
    have key : ∀ (A : List (Nat × Nat)) (f : Nat × Nat → Nat × Nat) (v : Nat × Nat),
        A.length = w.entities.length →
        A.set e.id v = (if e.id = A.length then A.modify e.id f ++ [v]
          else (A.modify e.id f).set e.id v) := by
      intro A f v hA
      rw [if_neg (by omega)]
      apply List.ext_getElem?
      intro i
      by_cases hi : e.id = i
      · subst hi
        rw [List.getElem?_set_self (by omega),
          List.getElem?_set_self (by rw [List.length_modify]; omega)]
      · rw [List.getElem?_set_ne hi, List.getElem?_set_ne hi, List.getElem?_modify_ne _ _ hi]
    refine key _ _ _ ?_
    split <;> simp only [List.length_modify]

end World

namespace IdxInv

open World

theorem unplace_fresh {w : World} (h : IdxInv w) {e : Ent} {t row : Nat}
    (he : w.entities[e.id]? = some (t, row)) (ht : t ≠ maxU32) :
    ∀ (t1 : Nat) (T1 : Table) (r : Nat), (World.unplace w e t row).tables[t1]? = some T1 →
      r < T1.len → (T1.getEntity r).id ≠ e.id := by
  intro t1 T1 r h1 hr heq
  have hu := h.unplace he ht
  have hx := hu.rowIdx t1 T1 r h1 hr
  rw [heq, unplace_lookup h he ht, if_pos rfl] at hx
  obtain ⟨rfl, rfl⟩ := Prod.mk.inj (Option.some.inj hx)
  -- the table `maxU32` (if there is one) is untouched
  rw [unplace_tables, List.getElem?_set_ne ht] at h1
  have hy := h.rowIdx maxU32 T1 row h1 hr
  rw [heq, he] at hy
  exact ht (Prod.mk.inj (Option.some.inj hy)).1

theorem addMove_steps {w : World} (h : IdxInv w) {e : Ent} {oldT row newT : Nat} (keep : Mask)
    (hne : oldT ≠ newT) (he : w.entities[e.id]? = some (oldT, row)) (ht : oldT ≠ maxU32)
    (hnl : newT < w.tables.length) (hb : (w.tbl newT).len + 1 < 2 ^ 32) :
    IdxInv (World.unplace w e oldT row) ∧
    IdxInv (World.place (World.unplace w e oldT row) e newT) ∧
    e.id ≤ (World.unplace w e oldT row).entities.length ∧
    (World.place (World.unplace w e oldT row) e newT).tbl newT = ((w.tbl newT).add e).1 ∧
    ((w.tbl newT).add e).1.Shape ∧
    ((w.tbl newT).add e).1.getEntity (w.tbl newT).len = e ∧
    Table.WriteRel (w.tbl newT).len ((w.tbl newT).add e).1
      (copyRow (w.tbl oldT) row (w.tbl newT).len keep ((w.tbl newT).add e).1) ∧
    (World.unplace w e oldT row).tbl newT = w.tbl newT := by
  have hel : e.id < w.entities.length := (List.getElem?_eq_some_iff.1 he).1
  have hune : (World.unplace w e oldT row).tbl newT = w.tbl newT :=
    tbl_set_ne (unplace_tables w e oldT row) hne
  have hulen : (World.unplace w e oldT row).tables.length = w.tables.length := by
    rw [unplace_tables, List.length_set]
  have huel : (World.unplace w e oldT row).entities.length = w.entities.length := by
    rw [unplace_entities]; split <;> simp only [List.length_modify]
  have h1 := h.unplace he ht
  have h2 := h1.place e (t := newT) (by rw [hulen]; exact hnl) (by rw [hune]; exact hb)
    (by rw [huel]; omega) (h.unplace_fresh he ht)
  have hpl : (World.place (World.unplace w e oldT row) e newT).tbl newT = ((w.tbl newT).add e).1 := by
    rw [tbl_set_self (place_tables _ e newT) (by rw [hulen]; exact hnl), hune]
  have hw := copyRow_writeRel (w.tbl oldT) row (w.tbl newT).len keep ((w.tbl newT).add e).1
    (by rw [Table.add_fst_len]; omega)
  have hS0 := h.shape newT _ (get_of_lt hnl)
  have hS : ((w.tbl newT).add e).1.Shape := Table.add_shape hS0 e hb
  have hge := Table.add_getEntity_new hS0 e hb
  rw [Table.add_snd] at hge
  exact ⟨h1, h2, by rw [huel]; omega, hpl, hS, hge, hw, hune⟩

theorem addMove {w : World} (h : IdxInv w) {e : Ent} {oldT row newT : Nat} (keep : Mask)
    (hne : oldT ≠ newT) (he : w.entities[e.id]? = some (oldT, row)) (ht : oldT ≠ maxU32)
    (hnl : newT < w.tables.length) (hb : (w.tbl newT).len + 1 < 2 ^ 32) :
    IdxInv (World.addMove w e oldT row newT keep) := by
  obtain ⟨_, h2, _, hpl, hS, _, hw, _⟩ := h.addMove_steps keep hne he ht hnl hb
  have h3 := h2.of_same_rows newT
    (copyRow (w.tbl oldT) row (w.tbl newT).len keep ((w.tbl newT).add e).1) (hw.shape hS)
    (by rw [hpl]; exact hw.id) (by rw [hpl]; exact hw.len) (fun r _ => by rw [hpl]; exact hw.getEntity r)
  obtain ⟨e1, e2⟩ := addMove_decomp w e oldT row newT keep hne hnl
    (List.getElem?_eq_some_iff.1 he).1
  exact h3.congr e2 e1

end IdxInv

theorem foldl_set_miss {α : Type} (f : Nat → Nat) (g : Nat → α) (i : Nat) :
    ∀ (n : Nat) (E : List α), (∀ k : Nat, k < n → f k ≠ i) →
      ((List.range n).foldl (fun E k => E.set (f k) (g k)) E)[i]? = E[i]?
  | 0, E, _ => rfl
  | n + 1, E, h => by
    rw [List.range_succ, List.foldl_append]
    simp only [List.foldl_cons, List.foldl_nil]
    rw [List.getElem?_set_ne (h n (Nat.lt_succ_self n))]
    exact foldl_set_miss f g i n E (fun k hk => h k (Nat.lt_succ_of_lt hk))

theorem foldl_set_length {α : Type} (f : Nat → Nat) (g : Nat → α) :
    ∀ (n : Nat) (E : List α),
      ((List.range n).foldl (fun E k => E.set (f k) (g k)) E).length = E.length
  | 0, E => rfl
  | n + 1, E => by
    rw [List.range_succ, List.foldl_append]
    simp only [List.foldl_cons, List.foldl_nil, List.length_set]
    exact foldl_set_length f g n E

theorem foldl_set_hit {α : Type} (f : Nat → Nat) (g : Nat → α) (i k : Nat) :
    ∀ (n : Nat) (E : List α), k < n → f k = i → (∀ k' : Nat, k' < n → k' ≠ k → f k' ≠ i) →
      i < E.length → ((List.range n).foldl (fun E k => E.set (f k) (g k)) E)[i]? = some (g k)
  | 0, _, hk, _, _, _ => absurd hk (Nat.not_lt_zero _)
  | n + 1, E, hk, hf, hinj, hi => by
    rw [List.range_succ, List.foldl_append]
    simp only [List.foldl_cons, List.foldl_nil]
    by_cases hkn : k = n
    · subst hkn
      rw [hf]
      exact List.getElem?_set_self (by rw [foldl_set_length]; exact hi)
    · rw [List.getElem?_set_ne (hinj n (Nat.lt_succ_self n) (fun hh => hkn hh.symm))]
      exact foldl_set_hit f g i k n E (by omega) hf
        (fun k' hk' hne => hinj k' (Nat.lt_succ_of_lt hk') hne) hi

namespace World

/-- the state change of `moveEntities` (verbatim) -/
def moveEntitiesW (w : World) (src dst : Nat) (count : Nat) : World :=
  let oldLen := (w.tbl dst).len
  let w := w.modTbl dst fun D => D.addAll (w.tbl src) count
  let newLen := (w.tbl dst).len
  let w := (List.range (newLen - oldLen)).foldl (fun (w : World) k =>
    let i := oldLen + k
    let e := (w.tbl dst).getEntity i
    { w with entities := w.entities.set e.id (dst, i) }) w
  w.modTbl src Table.reset

theorem moveEntities_eq (src dst count : Nat) (w : World) :
    moveEntities src dst count w = .ok () (moveEntitiesW w src dst count) := rfl

theorem foldl_index_writes (TS : List Table) (F : World → Nat → World) (f : Nat → Nat)
    (g : Nat → Nat × Nat)
    (hF : ∀ (w : World) (k : Nat), w.tables = TS →
      (F w k).tables = TS ∧ (F w k).entities = w.entities.set (f k) (g k)) :
    ∀ (l : List Nat) (w : World), w.tables = TS →
      (l.foldl F w).tables = TS ∧
      (l.foldl F w).entities = l.foldl (fun E k => E.set (f k) (g k)) w.entities
  | [], w, h => ⟨h, rfl⟩
  | k :: l, w, h => by
    obtain ⟨h1, h2⟩ := hF w k h
    obtain ⟨h3, h4⟩ := foldl_index_writes TS F f g hF l (F w k) h1
    simp only [List.foldl_cons]
    exact ⟨h3, by rw [h4, h2]⟩

/-- one iteration of the index loop of `moveEntities` -/
def idxStep (dst base : Nat) (w : World) (k : Nat) : World :=
  { w with entities := w.entities.set ((w.tbl dst).getEntity (base + k)).id (dst, base + k) }

theorem moveEntitiesW_spec (w : World) (src dst count : Nat) (hne : src ≠ dst)
    (hd : dst < w.tables.length) :
    (moveEntitiesW w src dst count).tables =
      (w.tables.set dst ((w.tbl dst).addAll (w.tbl src) count)).set src (w.tbl src).reset ∧
    (moveEntitiesW w src dst count).entities =
      (List.range count).foldl (fun E k => E.set
        (((w.tbl dst).addAll (w.tbl src) count).getEntity ((w.tbl dst).len + k)).id
        (dst, (w.tbl dst).len + k)) w.entities := by
  have h1 : (w.modTbl dst fun D => D.addAll (w.tbl src) count).tbl dst =
      (w.tbl dst).addAll (w.tbl src) count := modTbl_tbl_self _ hd
  have hfold := foldl_index_writes
    (w.tables.set dst ((w.tbl dst).addAll (w.tbl src) count))
    (idxStep dst (w.tbl dst).len)
    (fun k => (((w.tbl dst).addAll (w.tbl src) count).getEntity ((w.tbl dst).len + k)).id)
    (fun k => (dst, (w.tbl dst).len + k))
    (by
      intro w' k hw'
      refine ⟨hw', ?_⟩
      have : w'.tbl dst = (w.tbl dst).addAll (w.tbl src) count := tbl_set_self hw' hd
      show w'.entities.set _ _ = _
      rw [this])
    (List.range count) (w.modTbl dst fun D => D.addAll (w.tbl src) count) rfl
  have hn : ((w.modTbl dst fun D => D.addAll (w.tbl src) count).tbl dst).len - (w.tbl dst).len
      = count := by rw [h1, Table.addAll_len]; omega
  have hdef : moveEntitiesW w src dst count =
      ((List.range (((w.modTbl dst fun D => D.addAll (w.tbl src) count).tbl dst).len - (w.tbl dst).len)).foldl
        (idxStep dst (w.tbl dst).len) (w.modTbl dst fun D => D.addAll (w.tbl src) count)).modTbl src
          Table.reset := rfl
  rw [hdef, hn]
  obtain ⟨ht, he⟩ := hfold
  constructor
  · rw [modTbl_tables, ht]
    have : ((List.range count).foldl (idxStep dst (w.tbl dst).len)
        (w.modTbl dst fun D => D.addAll (w.tbl src) count)).tbl src = w.tbl src :=
      tbl_set_ne ht (Ne.symm hne)
    rw [this]
  · rw [modTbl_entities, he]; rfl

end World

namespace World

/-- one iteration of the loop of `createEntities` (verbatim) -/
def createStep (t start : Nat) (w : World) (i : Nat) : World :=
    let idx := start + i
    let (pool, e) := w.pool.get
    let w := { (w.modTbl t fun T => { T with ents := T.ents.set idx e }) with pool }
    if e.id == w.entities.length then
      { w with entities := w.entities ++ [(t, idx)], isTarget := w.isTarget ++ [false] }
    else
      { w with entities := w.entities.set e.id (t, idx), isTarget := w.isTarget.set e.id false }

/-- the state after `k` iterations of the loop of `createEntities t count` -/
def createPrefix (w : World) (t count k : Nat) : World :=
  (List.range k).foldl (createStep t (w.tbl t).len) (w.modTbl t fun T => T.alloc count)

/-- the state change of `createEntities` -/
def createEntitiesW (w : World) (t count : Nat) : World := createPrefix w t count count

theorem createEntities_eq (t count : Nat) (w : World) :
    createEntities t count w = .ok () (createEntitiesW w t count) := rfl

theorem createPrefix_succ (w : World) (t count k : Nat) :
    createPrefix w t count (k + 1) =
      createStep t (w.tbl t).len (createPrefix w t count k) k := by
  simp only [createPrefix, List.range_succ, List.foldl_append, List.foldl_cons, List.foldl_nil]

/-- what the pool must guarantee about the handle it hands out next: its ID is at most one past
    the index, and it is not indexed to a table -/
def PoolFresh (w : World) : Prop :=
  (w.pool.get).2.id ≤ w.entities.length ∧
  ∀ t' r' : Nat, w.entities[(w.pool.get).2.id]? = some (t', r') → t' = maxU32

theorem createStep_eq (t start : Nat) (w : World) (k : Nat) :
    createStep t start w k =
      { w with
        tables := w.tables.set t
          { w.tbl t with ents := (w.tbl t).ents.set (start + k) (w.pool.get).2 }
        pool := (w.pool.get).1
        entities :=
          if (w.pool.get).2.id = w.entities.length then w.entities ++ [(t, start + k)]
          else w.entities.set (w.pool.get).2.id (t, start + k)
        isTarget :=
          if (w.pool.get).2.id = w.entities.length then w.isTarget ++ [false]
          else w.isTarget.set (w.pool.get).2.id false } := by
  simp only [createStep, modTbl_entities]
  by_cases hb : (w.pool.get).2.id = w.entities.length
  · simp only [hb, beq_self_eq_true, if_true]; rfl
  · have : ((w.pool.get).2.id == w.entities.length) = false := by simpa using hb
    simp only [this, hb, if_false]; rfl

theorem createStep_tables (t start : Nat) (w : World) (k : Nat) :
    (createStep t start w k).tables =
      w.tables.set t { w.tbl t with ents := (w.tbl t).ents.set (start + k) (w.pool.get).2 } := by
  rw [createStep_eq]

theorem createStep_entities (t start : Nat) (w : World) (k : Nat) :
    (createStep t start w k).entities =
      if (w.pool.get).2.id = w.entities.length then w.entities ++ [(t, start + k)]
      else w.entities.set (w.pool.get).2.id (t, start + k) := by
  rw [createStep_eq]

/-- `createEntities` runs `alloc` before its loop, so inside the loop table `t` already has its
    final `len` though only the first rows hold entities.  Cut back to the rows filled so far
    (`trunc`), the world satisfies `IdxInv` and an iteration is an `IdxInv.place` (`CreateInv`). -/
def truncT (T : Table) (n : Nat) : Table := { T with len := n }

def trunc (w : World) (t n : Nat) : World := w.setTbl t (truncT (w.tbl t) n)

theorem truncT_add (T : Table) (n : Nat) (e : Ent) (hcap : n + 1 ≤ T.cap) :
    ((truncT T n).add e).1 = truncT { T with ents := T.ents.set n e } (n + 1) := by
  have : (truncT T n).cap ≥ (truncT T n).len + 1 := hcap
  simp only [Table.add, Table.alloc, Table.extend, this, if_true]
  rfl

/-- cutting a freshly allocated table back to its old length undoes `alloc` -/
theorem truncT_alloc (T : Table) (count : Nat) :
    truncT (T.alloc count) T.len = T.extend count := by
  rw [← Table.extend_len T count, Table.alloc_eq]
  generalize T.extend count = E
  rfl

theorem set_tbl_self (w : World) (t : Nat) : w.tables.set t (w.tbl t) = w.tables := by
  apply List.ext_getElem?
  intro i
  by_cases hi : t = i
  · subst hi
    rcases Nat.lt_or_ge t w.tables.length with h1 | h1
    · rw [List.getElem?_set_self h1, get_of_lt h1]
    · rw [List.getElem?_eq_none h1, List.getElem?_eq_none (by rw [List.length_set]; exact h1)]
  · rw [List.getElem?_set_ne hi]

theorem writeValsW_nil (w : World) (e : Ent) : writeValsW w e [] = w := by
  show { w with tables := w.tables.set (w.index e.id).1 (w.tbl (w.index e.id).1) } = w
  rw [set_tbl_self]

end World

namespace IdxInv

open World

/-- loop invariant of `createEntities`: I2 holds for the world whose table `t` is cut back to
    the rows already filled; the table has its final length and enough capacity. -/
structure CreateInv (t n total : Nat) (w : World) : Prop where
  inv : IdxInv (World.trunc w t n)
  lt : t < w.tables.length
  len : (w.tbl t).len = total
  cap : total ≤ (w.tbl t).cap

theorem createStep_inv {t start k total : Nat} {w : World} (hk : start + k < total)
    (hb : total < 2 ^ 32) (hnt : w.tables.length ≤ maxU32)
    (hJ : CreateInv t (start + k) total w) (hp : PoolFresh w) :
    CreateInv t (start + (k + 1)) total (createStep t start w k) := by
  obtain ⟨hinv, hlt, hlen, hcap⟩ := hJ
  have htl : (World.trunc w t (start + k)).tables.length = w.tables.length := by
    simp only [World.trunc, setTbl_tables, List.length_set]
  have httbl : (World.trunc w t (start + k)).tbl t = truncT (w.tbl t) (start + k) :=
    setTbl_tbl_self _ hlt
  have hpl := hinv.place (w.pool.get).2 (t := t) (by rw [htl]; exact hlt)
    (by rw [httbl]; show start + k + 1 < 2 ^ 32; omega) hp.1
    (hinv.fresh_of_free _ (by
      intro t' r' hx
      rw [htl, hp.2 t' r' hx]; exact hnt))
  have hnewtbl : (createStep t start w k).tbl t =
      { w.tbl t with ents := (w.tbl t).ents.set (start + k) (w.pool.get).2 } :=
    tbl_set_self (createStep_tables t start w k) hlt
  refine ⟨hpl.congr ?_ ?_, ?_, ?_, ?_⟩
  · show (createStep t start w k).entities = _
    rw [place_entities, httbl, createStep_entities]
    rfl
  · simp only [World.trunc, setTbl_tables, place_tables, List.set_set]
    rw [hnewtbl, createStep_tables, List.set_set, setTbl_tbl_self _ hlt,
      truncT_add _ _ _ (by show start + k + 1 ≤ (w.tbl t).cap; omega)]
    rfl
  · rw [createStep_tables, List.length_set]; exact hlt
  · rw [hnewtbl]; exact hlen
  · rw [hnewtbl]; exact hcap

/-- `createEntities t count` keeps I2, provided the pool hands out a fresh handle at
    every iteration (`PoolFresh` of the state reached: ID at most one past the index and not
    indexed to a table — so in particular the handles are pairwise distinct). -/
theorem createEntities {w : World} (h : IdxInv w) {t count : Nat} (hlt : t < w.tables.length)
    (hnt : w.tables.length ≤ maxU32) (hb : (w.tbl t).len + count < 2 ^ 32)
    (hp : ∀ k : Nat, k < count → PoolFresh (createPrefix w t count k)) :
    IdxInv (createEntitiesW w t count) := by
  have hT := get_of_lt hlt
  have hS := h.shape t _ hT
  have hlenk : ∀ k : Nat, (createPrefix w t count k).tables.length = w.tables.length := by
    intro k
    induction k with
    | zero => simp only [createPrefix, List.range_zero, List.foldl_nil, modTbl_tables, List.length_set]
    | succ k ih => rw [createPrefix_succ, createStep_tables, List.length_set, ih]
  have hJ : ∀ k : Nat, k ≤ count →
      CreateInv t ((w.tbl t).len + k) ((w.tbl t).len + count) (createPrefix w t count k) := by
    intro k
    induction k with
    | zero =>
      intro _
      have h0 : createPrefix w t count 0 = w.modTbl t fun T => T.alloc count := rfl
      have htb : (w.modTbl t fun T => T.alloc count).tbl t = (w.tbl t).alloc count :=
        modTbl_tbl_self _ hlt
      have hSa := Table.alloc_shape hS count hb
      refine ⟨?_, ?_, ?_, ?_⟩
      · rw [h0]
        have := h.of_same_rows t ((w.tbl t).extend count) (Table.extend_shape hS count hb)
          (Table.extend_sameMeta _ _).id (Table.extend_len _ _)
          (fun r hr => Table.extend_getEntity_lt (w.tbl t) count r
            (by rwa [Table.extend_len] at hr))
        refine this.congr rfl ?_
        simp only [World.trunc, setTbl_tables, modTbl_tables, List.set_set]
        rw [htb, Nat.add_zero, truncT_alloc]
      · rw [h0, modTbl_tables, List.length_set]; exact hlt
      · rw [h0, htb, Table.alloc_len]
      · rw [h0, htb]
        have := hSa.len_le
        rw [Table.alloc_len] at this; exact this
    | succ k ih =>
      intro hk
      rw [createPrefix_succ]
      exact createStep_inv (by omega) hb (by rw [hlenk]; exact hnt) (ih (by omega)) (hp k (by omega))
  obtain ⟨hinv, _, hlen, _⟩ := hJ count (Nat.le_refl _)
  refine hinv.congr rfl ?_
  show (createPrefix w t count count).tables = _
  simp only [World.trunc, setTbl_tables]
  have : truncT ((createPrefix w t count count).tbl t) ((w.tbl t).len + count) =
      (createPrefix w t count count).tbl t := by
    rw [← hlen]; rfl
  rw [this, set_tbl_self]

end IdxInv

section
open World

theorem IdxInv.rows_le {w : World} (h : IdxInv w) (t : Nat) : (w.tbl t).len ≤ w.entities.length := by
  rcases Nat.lt_or_ge t w.tables.length with hlt | hge
  · have hT := get_of_lt hlt
    have hnd : ((List.range (w.tbl t).len).map fun r => ((w.tbl t).getEntity r).id).Nodup := by
      rw [List.Nodup, List.pairwise_map]
      refine List.Pairwise.imp_of_mem ?_ (List.nodup_range (n := (w.tbl t).len))
      intro a b ha hb hab heq
      exact hab (h.row_inj hT hT (List.mem_range.mp ha) (List.mem_range.mp hb) heq).2
    have hsub : ((List.range (w.tbl t).len).map fun r => ((w.tbl t).getEntity r).id) ⊆
        List.range w.entities.length := by
      intro i hi
      obtain ⟨r, hr, rfl⟩ := List.mem_map.mp hi
      have := h.rowIdx t _ r hT (List.mem_range.mp hr)
      exact List.mem_range.mpr (List.getElem?_eq_some_iff.mp this).1
    have := List.Nodup.length_le_of_subset hnd hsub
    simpa using this
  · rw [tbl_of_ge hge]; exact Nat.zero_le _

end

end Ark
