/-
  The refinement machine of `Ark.RelRefine` (worlds with relation components) with the batch
  operations as steps (C01 / C04 / C06).  The specification step of a batch is the specification
  step of the single operation folded over the selection `matching`, which is the selection IN THE
  SPECIFICATION; that the model selects the same entities is a theorem (`sel_spec`).  The ghost
  pool history of a batch removal is in Ark/Proofs/PoolHistory.lean (`ginv_recycleAll`).
-/
import Ark.Proofs.BatchRelSingles
import Ark.Proofs.RelExchangeMachine

set_option autoImplicit false

namespace Ark

open World Ark.Props.C01World

namespace RelRefineB

open RelRefine
open RelRefine3 (XchgOK xchgEntry specXchg preXchg guardXchg)
open Refine (Comps keys sortedIds writeComps zeros)

/-- the filter object of the uncached filter with mask part `f` and fixed relations `frels` -/
def foOf (f : Filter) (frels : Rels) : FilterObj := { filter := f, rels := frels }

inductive OpRB
  /-- an operation of `Ark.RelRefine` -/
  | base (op : RelRefine.Op)
  /-- `World.RemoveEntities(batch, nil)` for the uncached filter `f` with the relations `frels` -/
  | delb (f : Filter) (frels : Rels)
  /-- `SetRelationsBatch(batch, rels…)` for the uncached filter `f` with the relations `frels`,
      through the access path `p` -/
  | setrelb (p : Path) (f : Filter) (frels : Rels) (rels : Rels)
  /-- `Exchange(e, add, rem, rels)` through the access path `p`, writing `vals` (the single
      operation of which `xchgb` is the batch form; `Ark.RelRefine` itself has `add` / `rem` only) -/
  | xchg (p : Path) (e : Ent) (add : List Comp) (vals : Comps) (rem : List Comp) (rels : Rels)
  /-- `AddBatch` (`rem = []`) / `RemoveBatch` (`add = []`) / `ExchangeBatch` with the relation
      targets `rels` for the added relation components, callback `nil`, for the uncached filter
      `f` with the relations `frels`, through the access path `p` -/
  | xchgb (p : Path) (f : Filter) (frels : Rels) (add rem : List Comp) (rels : Rels)
  deriving Repr

/-- the filter matches an entry of the specification: the mask test on its key set, and every
    relation asked for is recorded -/
def entryMatches (f : Filter) (frels : Rels) (en : Entry) : Bool :=
  f.matchesMask (Mask.ofList (keys en.comps)) && frels.all fun r => decide (r ∈ en.rels)

/-- **the selection of a batch, in the specification**: the specified entities the filter
    matches, in the order of the specification -/
def matching (ss : SS) (f : Filter) (frels : Rels) : List Ent :=
  (ss.ents.filter fun x => entryMatches f frels x.2).map (·.1)

/-- `RemoveEntity` for every entity of `es` -/
def specDelAll (ss : SS) (es : List Ent) : SS :=
  es.foldl (fun ss e => specStep ss default (.del e)) ss

/-- `SetRelations(e, rels…)` for every entity of `es` -/
def specSetRelAll (ss : SS) (p : Path) (rels : Rels) (es : List Ent) : SS :=
  es.foldl (fun ss e => specStep ss default (.setrel p e rels)) ss

/-- `Exchange(e, add, rem, rels)` (no values written) for every entity of `es` -/
def specXchgAll (ss : SS) (add rem : List Comp) (rels : Rels) (es : List Ent) : SS :=
  es.foldl (fun ss e => specXchg ss e add [] rem rels) ss

/-- **the specification step.**  `fresh` are the handles a successful creating call returns.  A
    batch is the single operation applied to every selected entity. -/
def specStepRB (ss : SS) (fresh : List Ent) : OpRB → SS
  | .base op => specStep ss (fresh.headD default) op
  | .delb f frels => specDelAll ss (matching ss f frels)
  | .setrelb p f frels rels => specSetRelAll ss p rels (matching ss f frels)
  | .xchg _ e add vals rem rels => specXchg ss e add vals rem rels
  | .xchgb _ f frels add rem rels => specXchgAll ss add rem rels (matching ss f frels)

/-- run one model operation; the result carries the returned handles -/
def execRB (run : ProbeRunner) (w : World) : OpRB → Res World (List Ent)
  | .base op =>
    match exec run w op with
    | .ok r w' => .ok r.toList w'
    | .panic k w' => .panic k w'
  | .delb f frels =>
    match opRemoveEntities run (foOf f frels) [] false w with
    | .ok _ w' => .ok [] w'
    | .panic k w' => .panic k w'
  | .setrelb p f frels rels =>
    match opSetRelationsBatch run p (foOf f frels) [] (rels.map (·.comp)) rels false w with
    | .ok _ w' => .ok [] w'
    | .panic k w' => .panic k w'
  | .xchg p e add vals rem rels =>
    match opExchange run p e add vals rem rels w with
    | .ok _ w' => .ok [] w'
    | .panic k w' => .panic k w'
  | .xchgb p f frels add rem rels =>
    match opExchangeBatch run p (foOf f frels) [] add rem rels none w with
    | .ok _ w' => .ok [] w'
    | .panic k w' => .panic k w'

/-- the part of the precondition of `Exchange(add, rem)` that concerns the component set of the
    entity: `rem` distinct components it has, `add` distinct components it lacks -/
def XchgLocal (en : Entry) (add rem : List Comp) : Prop :=
  rem.Nodup ∧ (∀ c ∈ rem, c ∈ keys en.comps) ∧ add.Nodup ∧ ∀ c ∈ add, c ∉ keys en.comps

instance (en : Entry) (add rem : List Comp) : Decidable (XchgLocal en add rem) :=
  inferInstanceAs (Decidable (rem.Nodup ∧ (∀ c ∈ rem, c ∈ keys en.comps) ∧ add.Nodup ∧
    ∀ c ∈ add, c ∉ keys en.comps))

/-- the relation constraints of a filter a client can express (`.Relations(…)` / `ToRelations`):
    each names a relation component that the mask part requires -/
def frelsExpr (ss : SS) (f : Filter) (frels : Rels) : Bool :=
  frels.all fun r => ss.isRel.getD r.comp false && f.mask.get r.comp

/-- what is a step of the machine.  `delb`: the filter is expressible.  `setrelb`: the filter is
    expressible, the targets are the zero entity or handles the client was given, and — unless the
    list is empty, which is rejected cleanly — no relation component is named twice and every
    component named is one the filter REQUIRES (so every selected entity has it).  A
    `SetRelationsBatch` naming a component that some selected entity lacks panics in the planning
    loop, after destination tables may have been created (the world lock is taken only after the
    planning — defect D27 repaired — so the world is not left locked): it is not rejected without
    effect and is not a step.  (A removed target and a
    non-relation component ARE steps: the pre-validation rejects them before anything is touched.) -/
def guardRB (s : St) : OpRB → Bool
  | .base op => guard s op
  | .delb f frels => frelsExpr s.ss f frels
  | .setrelb _ f frels rels =>
    frelsExpr s.ss f frels && tgtsExpr s rels &&
      (rels.isEmpty || (decide (rels.map (·.comp)).Nodup && rels.all fun r => f.mask.get r.comp))
  | .xchg p e add _ _ rels => guardXchg s p e add rels
  | .xchgb p f frels add rem rels =>
    frelsExpr s.ss f frels && (add.all fun c => decide (c < s.ss.zst.length)) &&
      decide (RelsStep s.ss.isRel p add rels) && tgtsExpr s rels &&
      ((add.isEmpty && rem.isEmpty) ||
        s.ss.ents.all fun x => !entryMatches f frels x.2 || decide (XchgLocal x.2 add rem))

def preRB (ss : SS) : OpRB → Prop
  | .base op => pre ss op
  | .delb _ _ => True
  | .setrelb _ _ _ rels => rels ≠ [] ∧ (∀ r ∈ rels, ss.isRel.getD r.comp false = true) ∧
      TargetsValid ss.ents rels
  | .xchg _ e add _ rem rels => preXchg ss e add rem rels
  | .xchgb _ _ _ add rem rels => ¬ (add = [] ∧ rem = []) ∧
      (∀ r ∈ rels, r.comp ∈ add ∧ ss.isRel.getD r.comp false = true) ∧ TargetsValid ss.ents rels

def retRB : Res World (List Ent) → List Ent
  | .ok r _ => r
  | .panic _ _ => []

/-- a batch step: the model operation and the specification step; the returned handles are
    added to the issued ones (newest first) -/
def stepBatch (run : ProbeRunner) (s : St) (op : OpRB) : St :=
  if guardRB s op = true then
    let r := execRB run s.w op
    ⟨r.state, (retRB r).reverse ++ s.issued, specStepRB s.ss (retRB r) op⟩
  else s

def stepRB (run : ProbeRunner) (s : St) : OpRB → St
  | .base op => step run s op
  | .delb f frels => stepBatch run s (.delb f frels)
  | .setrelb p f frels rels => stepBatch run s (.setrelb p f frels rels)
  | .xchg p e add vals rem rels => stepBatch run s (.xchg p e add vals rem rels)
  | .xchgb p f frels add rem rels => stepBatch run s (.xchgb p f frels add rem rels)

theorem stepBatch_ok (run : ProbeRunner) {s : St} {op : OpRB} (hg : guardRB s op = true)
    (w' : World) (hop : execRB run s.w op = .ok [] w') :
    stepBatch run s op = ⟨w', s.issued, specStepRB s.ss [] op⟩ := by
  simp only [stepBatch, hg, if_true, hop, Res.state, retRB, List.reverse_nil, List.nil_append]

theorem stepBatch_panic (run : ProbeRunner) {s : St} {op : OpRB} (hg : guardRB s op = true)
    (k : PanicKind) (hop : execRB run s.w op = .panic k s.w)
    (hss : specStepRB s.ss [] op = s.ss) : stepBatch run s op = s := by
  simp only [stepBatch, hg, if_true, hop, Res.state, retRB, List.reverse_nil, List.nil_append, hss]

/-- an entry the specification step keeps is an entry after the step, accepted or not -/
theorem stepBatch_entry (run : ProbeRunner) {s : St} {op : OpRB} {x : Ent} {en : Entry}
    (hm : (x, en) ∈ s.ss.ents) (h : ∀ ret, (x, en) ∈ (specStepRB s.ss ret op).ents) :
    (x, en) ∈ (stepBatch run s op).ss.ents := by
  unfold stepBatch
  split
  · exact h _
  · exact hm

def runOpsRB (run : ProbeRunner) (s : St) (ops : List OpRB) : St := ops.foldl (stepRB run) s

def reachRB (run : ProbeRunner) (cap rel : Nat) (ops : List OpRB) : St :=
  runOpsRB run (St.init cap rel) ops

theorem reachRB_snoc (run : ProbeRunner) (cap rel : Nat) (ops : List OpRB) (op : OpRB) :
    reachRB run cap rel (ops ++ [op]) = stepRB run (reachRB run cap rel ops) op := by
  simp only [reachRB, runOpsRB, List.foldl_append, List.foldl_cons, List.foldl_nil]

theorem runOpsRB_base (run : ProbeRunner) (ops : List Op) : ∀ s : St,
    runOpsRB run s (ops.map .base) = runOps run s ops := by
  induction ops with
  | nil => intro s; rfl
  | cons op ops ih => intro s; exact ih (step run s op)

theorem reachRB_base (run : ProbeRunner) (cap rel : Nat) (ops : List Op) :
    reachRB run cap rel (ops.map .base) = reach run cap rel ops :=
  runOpsRB_base run ops _

/-- **the inductive invariant**: that of `Ark.RelRefine`, and what the batches need -/
structure HInvRB (s : St) (fl : List Nat) : Prop where
  hinv : HInv s fl
  rows : RowsAlive s.w
  lock : ∃ (lf : List Nat), Lock.LInv ⟨s.w.locks, []⟩ lf

theorem hinvRB_init (cap rel : Nat) : HInvRB (St.init cap rel) [] :=
  ⟨hinv_init cap rel, RowsAlive.init cap rel, [], Lock.linv_init⟩

/-- the entities a batch on the filter touches in the MODEL: the rows of the selected tables,
    table by table, row by row -/
def selEnts (w : World) (f : Filter) (frels : Rels) : List Ent :=
  match getBatchTables (foOf f frels) [] w with
  | .ok ts _ => ts.flatMap (rowsOf w)
  | .panic _ _ => []

/-- the size requirement of one step: table IDs and row numbers fit `uint32`.  A removal may
    create one table per relation archetype for every removed relation target; `SetRelationsBatch`
    at most one table per selected table. -/
def Room (s : St) : OpRB → Prop
  | .base _ => s.w.tables.length + s.w.relationArchetypes.length + 1 ≤ maxU32 ∧
      2 * s.w.entities.length < 2 ^ 32
  | .delb _ _ =>
      s.w.tables.length + s.w.entities.length * s.w.relationArchetypes.length + 1 ≤ maxU32 ∧
      2 * s.w.entities.length < 2 ^ 32
  | .setrelb _ _ _ _ => 2 * s.w.tables.length ≤ maxU32 ∧ 2 * s.w.entities.length < 2 ^ 32
  | .xchg _ _ _ _ _ _ => s.w.tables.length < maxU32 ∧ s.w.entities.length + 1 < 2 ^ 32
  | .xchgb _ _ _ _ _ _ => 2 * s.w.tables.length < maxU32 ∧ 2 * s.w.entities.length < 2 ^ 32

/-! ## specification-level facts: the selection -/

theorem mem_matching {ss : SS} {f : Filter} {frels : Rels} {e : Ent} :
    e ∈ matching ss f frels ↔ ∃ en, (e, en) ∈ ss.ents ∧ entryMatches f frels en = true := by
  simp only [matching, List.mem_map, List.mem_filter]
  constructor
  · rintro ⟨x, ⟨hx, hm⟩, rfl⟩; exact ⟨x.2, hx, hm⟩
  · rintro ⟨en, hx, hm⟩; exact ⟨(e, en), ⟨hx, hm⟩, rfl⟩

theorem matching_sub {ss : SS} {f : Filter} {frels : Rels} {e : Ent}
    (h : e ∈ matching ss f frels) : e ∈ ss.ents.map (·.1) := by
  obtain ⟨en, hx, _⟩ := mem_matching.mp h
  exact List.mem_map.mpr ⟨(e, en), hx, rfl⟩

theorem matching_nodup {ss : SS} (hnd : (ss.ents.map (·.1)).Nodup) (f : Filter) (frels : Rels) :
    (matching ss f frels).Nodup :=
  (List.Sublist.map _ List.filter_sublist).nodup hnd

theorem mem_matching_of_mem {ss : SS} (hnd : (ss.ents.map (·.1)).Nodup) (f : Filter) (frels : Rels)
    {x : Ent} {en : Entry} (hx : (x, en) ∈ ss.ents) :
    x ∈ matching ss f frels ↔ entryMatches f frels en = true := by
  rw [mem_matching]
  constructor
  · rintro ⟨en', hx', hm⟩
    have h1 := find_of_mem hnd hx
    have h2 := find_of_mem hnd hx'
    rw [h1] at h2
    rw [Option.some.inj h2]; exact hm
  · intro hm; exact ⟨en, hx, hm⟩

/-! ## specification-level facts: the batch removal -/

/-- a relation after the removal of the entities `es`: a target among them reads zero -/
def zeroInRel (es : List Ent) (r : RelID) : RelID := ⟨r.comp, zeroIn es r.target⟩

/-- an entry after the removal of the entities `es` -/
def detachAll (es : List Ent) (en : Entry) : Entry := { en with rels := en.rels.map (zeroInRel es) }

theorem zeroInRel_comp (es : List Ent) (r : RelID) : (zeroInRel es r).comp = r.comp := rfl

theorem zeroInRel_nil (r : RelID) : zeroInRel [] r = r := by
  simp only [zeroInRel, zeroIn_nil]

theorem detachAll_nil (en : Entry) : detachAll [] en = en := by
  simp only [detachAll]
  have : en.rels.map (zeroInRel []) = en.rels := by
    rw [List.map_congr_left (fun r _ => zeroInRel_nil r), List.map_id']
  rw [this]

theorem zeroInRel_zeroRel (e : Ent) (es : List Ent) (r : RelID) :
    zeroInRel es (zeroRel e r) = zeroInRel (e :: es) r := by
  unfold zeroRel zeroInRel
  rw [← zeroIn_cons e es r.target]
  split <;> rfl

theorem detachAll_detach (e : Ent) (es : List Ent) (en : Entry) :
    detachAll es (en.detach e) = detachAll (e :: es) en := by
  simp only [detachAll, Entry.detach, List.map_map]
  congr 1
  apply List.map_congr_left
  intro r _
  exact zeroInRel_zeroRel e es r

theorem detachAll_congr {es es' : List Ent} (hmem : ∀ (e : Ent), e ∈ es ↔ e ∈ es') (en : Entry) :
    detachAll es en = detachAll es' en := by
  simp only [detachAll]
  congr 1
  apply List.map_congr_left
  intro r _
  simp only [zeroInRel, zeroIn_congr hmem]

theorem _root_.Ark.RelRefine.SS.eq_mk {ss : SS} {E : Spec} {z r : List Bool} (h1 : ss.ents = E)
    (h2 : ss.zst = z ∧ ss.isRel = r) : ss = ⟨E, z, r⟩ := by
  cases ss
  simp only at h1 h2
  rw [h1, h2.1, h2.2]

theorem specDelAll_zst (ss : SS) (es : List Ent) : (specDelAll ss es).zst = ss.zst := by
  induction es generalizing ss with
  | nil => rfl
  | cons e es ih =>
    show (specDelAll (specStep ss default (.del e)) es).zst = ss.zst
    rw [ih]
    simp only [specStep]
    split <;> rfl

theorem specDelAll_isRel (ss : SS) (es : List Ent) : (specDelAll ss es).isRel = ss.isRel := by
  induction es generalizing ss with
  | nil => rfl
  | cons e es ih =>
    show (specDelAll (specStep ss default (.del e)) es).isRel = ss.isRel
    rw [ih]
    simp only [specStep]
    split <;> rfl

theorem del_eq_filter : ∀ (s : Spec) (e : Ent), (s.map (·.1)).Nodup →
    del s e = s.filter fun x => decide (x.1 ≠ e)
  | [], _, _ => rfl
  | x :: rest, e, hnd => by
    simp only [List.map_cons, List.nodup_cons] at hnd
    simp only [del, List.filter_cons]
    by_cases hx : x.1 = e
    · rw [if_pos hx]
      have : decide (x.1 ≠ e) = false := by simp [hx]
      rw [this]
      simp only [Bool.false_eq_true, if_false]
      symm
      apply List.filter_eq_self.mpr
      intro y hy
      have : y.1 ≠ e := by
        intro hh
        apply hnd.1
        rw [hx, ← hh]
        exact List.mem_map_of_mem hy
      simpa using this
    · rw [if_neg hx]
      have : decide (x.1 ≠ e) = true := by simp [hx]
      rw [this]
      simp only [if_true]
      rw [del_eq_filter rest e hnd.2]

theorem specStep_del_ents {ss : SS} (hnd : (ss.ents.map (·.1)).Nodup) {e : Ent}
    (he : e ∈ ss.ents.map (·.1)) (fresh : Ent) :
    (specStep ss fresh (.del e)).ents =
      (ss.ents.filter fun x => decide (x.1 ≠ e)).map fun x => (x.1, x.2.detach e) := by
  simp only [specStep]
  cases hf : find ss.ents e with
  | none => exact absurd he (find_none_iff.mp hf)
  | some en =>
    show detach e (del ss.ents e) = _
    rw [del_eq_filter _ _ hnd]
    rfl

/-- **the batch removal in the specification, in closed form**: folding `RemoveEntity` over
    distinct specified handles `es` (in ANY order) drops their entries and lets every target
    among them read zero in the entries that stay -/
theorem specDelAll_ents : ∀ (es : List Ent) (ss : SS), (ss.ents.map (·.1)).Nodup →
    (∀ e ∈ es, e ∈ ss.ents.map (·.1)) → es.Nodup →
    (specDelAll ss es).ents =
      (ss.ents.filter fun x => decide (x.1 ∉ es)).map fun x => (x.1, detachAll es x.2)
  | [], ss, _, _, _ => by
    show ss.ents = _
    have h1 : (ss.ents.filter fun x => decide (x.1 ∉ ([] : List Ent))) = ss.ents := by
      apply List.filter_eq_self.mpr
      intro y _; simp
    rw [h1, List.map_congr_left (fun x _ => by rw [detachAll_nil]), List.map_id']
  | e :: es, ss, hnd, hsub, hes => by
    show (specDelAll (specStep ss default (.del e)) es).ents = _
    obtain ⟨hne, hes'⟩ := List.nodup_cons.mp hes
    have h1 := specStep_del_ents hnd (hsub e List.mem_cons_self) default
    have hk1 : (specStep ss default (.del e)).ents.map (·.1) =
        (ss.ents.filter fun x => decide (x.1 ≠ e)).map (·.1) := by
      rw [h1, List.map_map]; rfl
    have hnd1 : ((specStep ss default (.del e)).ents.map (·.1)).Nodup := by
      rw [hk1]
      exact (List.Sublist.map _ List.filter_sublist).nodup hnd
    have hsub1 : ∀ e' ∈ es, e' ∈ (specStep ss default (.del e)).ents.map (·.1) := by
      intro e' he'
      rw [hk1]
      obtain ⟨x, hx, rfl⟩ := List.mem_map.mp (hsub _ (List.mem_cons_of_mem _ he'))
      refine List.mem_map.mpr ⟨x, List.mem_filter.mpr ⟨hx, ?_⟩, rfl⟩
      have : x.1 ≠ e := fun hh => hne (hh ▸ he')
      simpa using this
    rw [specDelAll_ents es _ hnd1 hsub1 hes', h1, List.filter_map, List.map_map, List.filter_filter]
    have hf : (ss.ents.filter fun x =>
          ((fun x => decide (x.1 ∉ es)) ∘ fun (x : Ent × Entry) => (x.1, x.2.detach e)) x &&
            decide (x.1 ≠ e)) =
        ss.ents.filter fun x => decide (x.1 ∉ e :: es) := by
      apply List.filter_congr
      intro x _
      simp only [Function.comp, List.mem_cons, not_or, ne_eq, Bool.decide_and, Bool.and_comm]
    rw [hf]
    apply List.map_congr_left
    intro x _
    simp only [Function.comp, detachAll_detach]

theorem specDelAll_perm {ss : SS} (hnd : (ss.ents.map (·.1)).Nodup) {es es' : List Ent}
    (hsub : ∀ e ∈ es, e ∈ ss.ents.map (·.1)) (hes : es.Nodup) (hes' : es'.Nodup)
    (hmem : ∀ (e : Ent), e ∈ es ↔ e ∈ es') : specDelAll ss es = specDelAll ss es' := by
  have hsub' : ∀ e ∈ es', e ∈ ss.ents.map (·.1) := fun e he => hsub e ((hmem e).mpr he)
  have h1 := specDelAll_ents es ss hnd hsub hes
  have h2 := specDelAll_ents es' ss hnd hsub' hes'
  have h3 : (specDelAll ss es).ents = (specDelAll ss es').ents := by
    rw [h1, h2]
    have hf : (ss.ents.filter fun x => decide (x.1 ∉ es)) =
        ss.ents.filter fun x => decide (x.1 ∉ es') := by
      apply List.filter_congr
      intro x _
      simp only [hmem]
    rw [hf]
    apply List.map_congr_left
    intro x _
    rw [detachAll_congr hmem]
  exact (SS.eq_mk h3 ⟨specDelAll_zst ss es, specDelAll_isRel ss es⟩).trans
    (SS.eq_mk rfl ⟨specDelAll_zst ss es', specDelAll_isRel ss es'⟩).symm

theorem mem_specDelAll {ss : SS} (hnd : (ss.ents.map (·.1)).Nodup) {es : List Ent}
    (hsub : ∀ e ∈ es, e ∈ ss.ents.map (·.1)) (hes : es.Nodup) {x : Ent} {en' : Entry} :
    (x, en') ∈ (specDelAll ss es).ents ↔
      ∃ en, (x, en) ∈ ss.ents ∧ x ∉ es ∧ en' = detachAll es en := by
  rw [specDelAll_ents es ss hnd hsub hes, List.mem_map]
  constructor
  · rintro ⟨y, hy, heq⟩
    obtain ⟨hy1, hy2⟩ := List.mem_filter.mp hy
    injection heq with h1 h2
    subst h1
    exact ⟨y.2, hy1, by simpa using hy2, h2.symm⟩
  · rintro ⟨en, hx, hne, rfl⟩
    exact ⟨(x, en), List.mem_filter.mpr ⟨hx, by simpa using hne⟩, rfl⟩

end RelRefineB

end Ark
