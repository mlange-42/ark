/-
  Property C17 over histories: the world `LoadEntities` builds.

  `LoadEntities` installs the dumped pool, re-makes the entity index and the target flags with
  zero values, extends table 0 and adds the alive handles to it one by one.

  `Loaded s fl t wL` says what holds of the world `wL` obtained by loading the dump of the machine
  state `s` (free list `fl`) into the empty machine state `t` (`loaded_wf`); with the index
  entries of the dead IDs set to `(maxU32, 0)` (`fixDead`) it satisfies the full machine invariant
  `HInv`, with the source's handles and the source's specification with all components dropped
  (`Loaded.normalised`).

  **Deviation from `CInv`** (`Loaded.dead`): the index entry of a reserved or free ID is the zero
  value `(table 0, row 0)`, not `(maxU32, _)` as `NewWorld`, `RemoveEntity` and `Reset` leave it —
  `CInv.reservedUnindexed` / `freeUnindexed` and `IdxInv.idxRow` for dead IDs do NOT hold of a
  loaded world (`Ark.Props.C17Hist` has the concrete world).  No operation of the model reads the
  index entry of a dead ID before overwriting it (every access is preceded by the `Alive` check),
  and the Go code never compares against `maxTableID`.
-/
import Ark.Proofs.LoadHist

set_option autoImplicit false

namespace Ark

open World Ark.Props.C01World QueryExact

namespace World

/-! ## 1. the loop -/

/-- the state of the loop of `LoadEntities` after the prefix `done` of the alive list
    (`w0` = the world before the loop) -/
structure LoadLoop (w0 : World) (done : List Nat) (w : World) : Prop where
  pool : w.pool = w0.pool
  tlen : w.tables.length = w0.tables.length
  tne : ∀ (t : Nat), t ≠ 0 → w.tbl t = w0.tbl t
  shape : (w.tbl 0).Shape
  smeta : Table.SameMeta (w0.tbl 0) (w.tbl 0)
  len : (w.tbl 0).len = done.length
  row : ∀ (j : Nat) (hj : j < done.length),
    (w.tbl 0).getEntity j = w0.pool.ents.getD done[j] default
  elen : w.entities.length = w0.entities.length
  idxDone : ∀ (j : Nat) (hj : j < done.length), w.entities[done[j]]? = some (0, j)
  idxOther : ∀ (i : Nat), i ∉ done → w.entities[i]? = w0.entities[i]?

theorem LoadLoop.zero (w0 : World) (hs : (w0.tbl 0).Shape) (hl : (w0.tbl 0).len = 0) :
    LoadLoop w0 [] w0 where
  pool := rfl
  tlen := rfl
  tne := fun _ _ => rfl
  shape := hs
  smeta := Table.SameMeta.refl _
  len := hl
  row := fun j hj => absurd hj (Nat.not_lt_zero j)
  elen := rfl
  idxDone := fun j hj => absurd hj (Nat.not_lt_zero j)
  idxOther := fun _ _ => rfl

theorem loadStep_tbl (w : World) (x t : Nat) :
    (loadStep w x).tbl t =
      (w.setTbl 0 ((w.tbl 0).add (w.pool.ents.getD x default)).1).tbl t := rfl

theorem loadStep_entities (w : World) (x : Nat) :
    (loadStep w x).entities = w.entities.set (w.pool.ents.getD x default).id
      (0, (w.tbl 0).len) := rfl

theorem LoadLoop.step {w0 w : World} {done : List Nat} (h : LoadLoop w0 done w)
    (h0 : 0 < w0.tables.length) {x : Nat} (hid : (w0.pool.ents.getD x default).id = x)
    (hx : x < w0.entities.length) (hnd : x ∉ done) (hb : done.length + 1 < 2 ^ 32) :
    LoadLoop w0 (done ++ [x]) (loadStep w x) := by
  have hl0 : 0 < w.tables.length := by rw [h.tlen]; exact h0
  have hb' : (w.tbl 0).len + 1 < 2 ^ 32 := by rw [h.len]; exact hb
  have hT0 : (loadStep w x).tbl 0 = ((w.tbl 0).add (w0.pool.ents.getD x default)).1 := by
    rw [loadStep_tbl, setTbl_tbl_self _ hl0, h.pool]
  have hE : (loadStep w x).entities = w.entities.set x (0, done.length) := by
    rw [loadStep_entities, h.pool, hid, h.len]
  have hxl : x < w.entities.length := by rw [h.elen]; exact hx
  refine
    { pool := h.pool
      tlen := by
        show (w.tables.set 0 _).length = _
        rw [List.length_set]; exact h.tlen
      tne := fun t ht => by
        rw [loadStep_tbl, setTbl_tbl_ne w _ (fun e => ht e.symm)]; exact h.tne t ht
      shape := by rw [hT0]; exact Table.add_shape h.shape _ hb'
      smeta := by rw [hT0]; exact h.smeta.trans (Table.add_sameMeta _ _)
      len := by rw [hT0, Table.add_fst_len, h.len, List.length_append]; rfl
      row := ?_
      elen := by rw [hE, List.length_set]; exact h.elen
      idxDone := ?_
      idxOther := ?_ }
  · intro j hj
    rw [hT0]
    rw [List.length_append, List.length_singleton] at hj
    by_cases hjd : j < done.length
    · rw [Table.add_getEntity_lt _ _ _ (by rw [h.len]; exact hjd), h.row j hjd,
        List.getElem_append_left hjd]
    · have hje : j = done.length := by omega
      subst hje
      have hnew := Table.add_getEntity_new h.shape (w0.pool.ents.getD x default) hb'
      rw [Table.add_snd, h.len] at hnew
      rw [hnew]
      simp
  · intro j hj
    rw [hE]
    rw [List.length_append, List.length_singleton] at hj
    by_cases hjd : j < done.length
    · have hne : x ≠ done[j] := fun e => hnd (e ▸ List.getElem_mem hjd)
      rw [List.getElem_append_left hjd, List.getElem?_set_ne hne]
      exact h.idxDone j hjd
    · have hje : j = done.length := by omega
      subst hje
      have : (done ++ [x])[done.length]'(by simp) = x := by simp
      rw [this, List.getElem?_set_self hxl]
  · intro i hi
    rw [List.mem_append, List.mem_singleton] at hi
    have hix : x ≠ i := fun e => hi (Or.inr e.symm)
    rw [hE, List.getElem?_set_ne hix]
    exact h.idxOther i (fun hm => hi (Or.inl hm))

/-- **the loop of `LoadEntities`** over a duplicate-free list of slots that hold their own ID -/
theorem loadLoop {w0 : World} (h0 : 0 < w0.tables.length) :
    ∀ (rest done : List Nat) (w : World), LoadLoop w0 done w →
      (∀ (x : Nat), x ∈ rest → (w0.pool.ents.getD x default).id = x ∧ x < w0.entities.length) →
      (done ++ rest).Nodup → done.length + rest.length < 2 ^ 32 →
      LoadLoop w0 (done ++ rest) (rest.foldl loadStep w) := by
  intro rest
  induction rest with
  | nil => intro done w h _ _ _; simpa using h
  | cons x rest ih =>
    intro done w h hself hnd hb
    simp only [List.length_cons] at hb
    obtain ⟨hx1, hx2⟩ := hself x (by simp)
    have hxn : x ∉ done := by
      intro hm
      have := List.nodup_append.mp hnd
      exact this.2.2 x hm x (by simp) rfl
    have hs := h.step h0 hx1 hx2 hxn (by omega)
    have := ih (done ++ [x]) (loadStep w x) hs (fun y hy => hself y (by simp [hy]))
      (by simpa using hnd) (by simp only [List.length_append, List.length_singleton]; omega)
    simpa using this

/-! ## 2. the world before the loop -/

theorem loadPre_pool (d : Dump) (w : World) (hc : d.entities.length > 0) :
    (loadPre d w).pool =
      { ents := d.entities, stale := [], next := d.next, available := d.available } := by
  simp only [loadPre, hc, if_true]; rfl

theorem loadPre_entities (d : Dump) (w : World) :
    (loadPre d w).entities = List.replicate d.entities.length (0, 0) := by
  simp only [loadPre]; split <;> rfl

theorem loadPre_isTarget (d : Dump) (w : World) :
    (loadPre d w).isTarget = List.replicate d.entities.length false := by
  simp only [loadPre]; split <;> rfl

theorem loadPre_tables (d : Dump) (w : World) :
    (loadPre d w).tables = w.tables.set 0 ((w.tbl 0).extend d.alive.length) := by
  simp only [loadPre]; split <;> rfl

theorem loadPre_tbl_zero (d : Dump) (w : World) (h0 : 0 < w.tables.length) :
    (loadPre d w).tbl 0 = (w.tbl 0).extend d.alive.length := by
  simp only [tbl, loadPre_tables, List.getD_eq_getElem?_getD, List.getElem?_set_self h0,
    Option.getD_some]

theorem loadPre_tbl_ne (d : Dump) (w : World) {t : Nat} (ht : t ≠ 0) :
    (loadPre d w).tbl t = w.tbl t := by
  simp only [tbl, loadPre_tables, List.getD_eq_getElem?_getD,
    List.getElem?_set_ne (fun e => ht e.symm)]

theorem loadW_isTarget (d : Dump) (w : World) :
    (loadW d w).isTarget = List.replicate d.entities.length false := by
  rw [loadW_proj (·.isTarget) (fun _ _ _ => rfl) (fun _ _ => rfl), loadPre_isTarget]

theorem loadW_maxComps (d : Dump) (w : World) : (loadW d w).maxComps = w.maxComps := by
  rw [loadW_proj (·.maxComps) (fun _ _ _ => rfl) (fun _ _ => rfl)]
  simp only [loadPre]; split <;> rfl

end World

/-! ## 3. the loaded world -/

namespace Refine

/-- the pool invariants read `ents`, `next`, `available` only -/
theorem pinv_core {p q : Pool} {fl : List Nat} (h : Pool.PInv p fl) (he : q.ents = p.ents)
    (hn : q.next = p.next) (ha : q.available = p.available) : Pool.PInv q fl :=
  ⟨by rw [he, hn, ha]; exact h.ch, h.nodup, by rw [he]; exact h.res, by rw [he]; exact h.self,
    by rw [he]; exact h.len2⟩

theorem ginv_core {p q : Pool} {issued live : List Ent} {fl : List Nat}
    (g : Pool.GInv ⟨p, issued, live⟩ fl) (he : q.ents = p.ents) (hn : q.next = p.next)
    (ha : q.available = p.available) : Pool.GInv ⟨q, issued, live⟩ fl :=
  ⟨pinv_core g.pinv he hn ha,
    by intro h; show h ∈ live ↔ _ ∧ _ ∧ q.ents[h.id]? = some h; rw [he]; exact g.live_iff h,
    g.live_nodup,
    by intro h hh; show 2 ≤ h.id ∧ ∃ e, q.ents[h.id]? = some e ∧ _; rw [he]; exact g.issued_bound h hh,
    g.live_issued,
    by show q.ents.length = _; rw [he]; exact g.count⟩

/-- **what holds of the world `wL` obtained by loading the dump of the machine state `s` (free
    list `fl`) into the empty machine state `t`** -/
structure Loaded (s : St) (fl : List Nat) (t : St) (wL : World) : Prop where
  /-- registry, archetypes, locks and observers are those of the target -/
  kinds : wL.kinds = t.w.kinds
  archetypes : wL.archetypes = t.w.archetypes
  maxComps : wL.maxComps = t.w.maxComps
  unlocked : wL.isLocked = false
  noObs : ∀ (evt : Nat), wL.obs.hasObservers evt = false
  /-- the pool: the core of the source; pool invariant with the source's free list; ghost
      invariant with the source's issued and live handles -/
  pool : wL.pool = { ents := s.w.pool.ents, stale := [], next := s.w.pool.next,
                     available := s.w.pool.available }
  pinv : Pool.PInv wL.pool fl
  ginv : Pool.GInv ⟨wL.pool, s.issued, s.ss.ents.map (·.1)⟩ fl
  /-- structure: archetypes ↔ tables -/
  sinv : SInv wL
  tlen : wL.tables.length = t.w.tables.length
  lenEq : wL.entities.length = wL.pool.ents.length
  tgtLen : wL.isTarget.length = wL.entities.length
  noTargets : ∀ (i : Nat), wL.isTarget.getD i false = false
  /-- table 0 holds the alive handles, all other tables are empty -/
  shape0 : (wL.tbl 0).Shape
  len0 : (wL.tbl 0).len = s.ss.ents.length
  othersEmpty : ∀ (t' : Nat), t' ≠ 0 → (wL.tbl t').len = 0
  tne : ∀ (t' : Nat), t' ≠ 0 → wL.tbl t' = t.w.tbl t'
  /-- index → rows, for the alive handles: indexed to a row of table 0 that stores the handle
      with its generation -/
  live : ∀ (e : Ent) (cs : Comps), (e, cs) ∈ s.ss.ents →
    ∃ (r : Nat), wL.entities[e.id]? = some (0, r) ∧ r < (wL.tbl 0).len ∧
      (wL.tbl 0).getEntity r = e
  /-- rows → index: every row of table 0 holds an alive handle of the source, indexed to it -/
  rows : ∀ (r : Nat), r < (wL.tbl 0).len → ∃ (e : Ent) (cs : Comps), (e, cs) ∈ s.ss.ents ∧
    (wL.tbl 0).getEntity r = e ∧ wL.entities[e.id]? = some (0, r)
  /-- **refinement**: the loaded world realises the source's specification with all components
      dropped -/
  ok : ∀ (e : Ent) (cs : Comps), (e, cs) ∈ s.ss.ents → EntOK wL wL.kinds.length e []
  /-- **the deviation from `CInv`**: reserved and free IDs are indexed to `(table 0, row 0)` -/
  dead : ∀ (i : Nat), i < wL.entities.length → (i < 2 ∨ i ∈ fl) → wL.entities[i]? = some (0, 0)

theorem HInv.spec_of_slot {s : St} {fl : List Nat} (H : HInv s fl) {i : Nat} (h2 : 2 ≤ i)
    (hnf : i ∉ fl) (hlt : i < s.w.pool.ents.length) :
    ∃ (cs : Comps), (s.w.pool.ents.getD i default, cs) ∈ s.ss.ents ∧
      (s.w.pool.ents.getD i default).id = i := by
  have hget := List.getElem?_eq_getElem hlt
  have hid := H.cinv.pool.self i _ hget hnf
  have hlive : s.w.pool.ents[i] ∈ s.ps.live :=
    (H.ginv.live_iff _).mpr ⟨by rw [hid]; exact h2, by rw [hid]; exact hnf, by rw [hid]; exact hget⟩
  obtain ⟨y, hy, hy1⟩ := List.mem_map.mp hlive
  rw [List.getD_eq_getElem?_getD, hget, Option.getD_some]
  exact ⟨y.2, by rw [← hy1]; exact hy, hid⟩

theorem EmptySt.tables_empty {t : St} (E : EmptySt t) (t' : Nat) : (t.w.tbl t').len = 0 := by
  obtain ⟨H, _, _, _⟩ := E.facts
  rcases Nat.eq_zero_or_pos (t.w.tbl t').len with h | h
  · exact h
  · have hlt := tbl_len_pos_lt h
    obtain ⟨h2, _, hl, _⟩ := H.cinv.row_live_id hlt h
    rw [H.cinv.lenEq, E.pool] at hl
    omega

/-- **the loaded world is well formed** (in the sense of `Loaded`).  `hent`: the pool slice of
    the source has fewer than `2^32` slots (IDs are `uint32`; holds along every history within
    the length bound). -/
theorem loaded_wf {s : St} {fl : List Nat} (H : HInv s fl) {t : St} (E : EmptySt t)
    (hent : s.w.pool.ents.length < 2 ^ 32) {d : Dump}
    (hde : d.entities = s.w.pool.ents) (hdn : d.next = s.w.pool.next)
    (hda : d.available = s.w.pool.available) (hnd : d.alive.Nodup)
    (hal : ∀ (i : Nat), i ∈ d.alive ↔ 2 ≤ i ∧ i ∉ fl ∧ i < s.w.pool.ents.length) :
    Loaded s fl t (loadW d t.w) := by
  obtain ⟨Ht, _, _, htl⟩ := E.facts
  have hc : d.entities.length > 0 := by rw [hde]; have := H.cinv.pool.len2; omega
  have h0 : 0 < t.w.tables.length := Ht.cinv.sinv.root.1
  have hpool := loadW_pool d t.w hc
  rw [hde, hdn, hda] at hpool
  -- the world before the loop
  have hp0 : (loadPre d t.w).pool =
      { ents := s.w.pool.ents, stale := [], next := s.w.pool.next, available := s.w.pool.available } := by
    rw [loadPre_pool d t.w hc, hde, hdn, hda]
  have h00 : 0 < (loadPre d t.w).tables.length := by
    rw [loadPre_tables, List.length_set]; exact h0
  have hshape0 : (t.w.tbl 0).Shape := IdxInv_tbl_shape Ht.cinv.idx 0
  have hlen0 : (t.w.tbl 0).len = 0 := E.tables_empty 0
  -- the alive list: slots holding their own ID
  have hslot : ∀ (x : Nat), x ∈ d.alive → ∃ (cs : Comps),
      (s.w.pool.ents.getD x default, cs) ∈ s.ss.ents ∧ (s.w.pool.ents.getD x default).id = x :=
    fun x hx => H.spec_of_slot ((hal x).mp hx).1 ((hal x).mp hx).2.1 ((hal x).mp hx).2.2
  have hself : ∀ (x : Nat), x ∈ d.alive →
      ((loadPre d t.w).pool.ents.getD x default).id = x ∧ x < (loadPre d t.w).entities.length := by
    intro x hx
    obtain ⟨_, _, hid⟩ := hslot x hx
    rw [hp0, loadPre_entities, List.length_replicate, hde]
    exact ⟨hid, ((hal x).mp hx).2.2⟩
  have hlenle : d.alive.length ≤ s.w.pool.ents.length := by
    have := List.Nodup.length_le_of_subset (l₂ := List.range s.w.pool.ents.length) hnd
      (fun x hx => List.mem_range.mpr ((hal x).mp hx).2.2)
    simpa using this
  -- the loop invariant over the whole alive list, started from the extended, still empty table 0
  have L := loadLoop h00 d.alive [] (loadPre d t.w)
    (LoadLoop.zero _ (by
        rw [loadPre_tbl_zero d t.w h0]
        exact Table.extend_shape hshape0 _ (by rw [hlen0]; omega))
      (by rw [loadPre_tbl_zero d t.w h0, Table.extend_len]; exact hlen0))
    hself (by simpa using hnd) (by simp only [List.length_nil]; omega)
  simp only [List.nil_append] at L
  have hLW : d.alive.foldl loadStep (loadPre d t.w) = loadW d t.w := rfl
  rw [hLW] at L
  -- IDs of the specification ↔ the alive list
  have hmemIds : ∀ (e : Ent) (cs : Comps), (e, cs) ∈ s.ss.ents →
      e.id ∈ d.alive ∧ s.w.pool.ents.getD e.id default = e := by
    intro e cs hm
    obtain ⟨_, _, h2, hnf, _, hsl⟩ := H.live_facts hm
    have hlt := (List.getElem?_eq_some_iff.mp hsl).1
    refine ⟨(hal e.id).mpr ⟨h2, hnf, hlt⟩, ?_⟩
    rw [List.getD_eq_getElem?_getD, hsl, Option.getD_some]
  -- hence equally many: both lists are duplicate-free and have the same members
  have hcount : d.alive.length = s.ss.ents.length := by
    have h1 := length_eq_of_nodup_mem hnd H.ginv.ids_nodup (by
      intro i
      constructor
      · intro hi
        obtain ⟨cs, hm, hid⟩ := hslot i hi
        exact List.mem_map.mpr ⟨_, hm, hid⟩
      · intro hi
        obtain ⟨x, hx, rfl⟩ := List.mem_map.mp hi
        exact (hmemIds x.1 x.2 hx).1)
    simpa using h1
  have hentLen : (loadW d t.w).entities.length = s.w.pool.ents.length := by
    rw [L.elen, loadPre_entities, List.length_replicate, hde]
  have hkinds := loadW_kinds d t.w
  -- loading changed rows of table 0 only, no table's metadata: the target's `SInv` carries over
  have hmeta : ∀ (t' : Nat), t' < t.w.tables.length →
      Table.SameMeta (t.w.tbl t') ((loadW d t.w).tbl t') := by
    intro t' _
    by_cases ht : t' = 0
    · subst ht
      have := L.smeta
      rw [loadPre_tbl_zero d t.w h0] at this
      exact (Table.extend_sameMeta _ _).trans this
    · rw [L.tne t' ht, loadPre_tbl_ne d t.w ht]; exact Table.SameMeta.refl _
  have htlen : (loadW d t.w).tables.length = t.w.tables.length := by
    rw [L.tlen, loadPre_tables, List.length_set]
  have hsinv : SInv (loadW d t.w) :=
    Ht.cinv.sinv.of_sameMeta (loadW_archetypes d t.w) hkinds htlen hmeta
  -- table 0 has no columns
  have hids0 : ((loadW d t.w).tbl 0).ids = [] := by
    rw [(hmeta 0 h0).ids]; exact Ht.cinv.sinv.toSInvMid.root_ids
  have hrowOf : ∀ (j : Nat) (hj : j < d.alive.length),
      ((loadW d t.w).tbl 0).getEntity j = s.w.pool.ents.getD d.alive[j] default := by
    intro j hj
    rw [L.row j hj, hp0]
  refine
    { kinds := hkinds
      archetypes := loadW_archetypes d t.w
      maxComps := loadW_maxComps d t.w
      unlocked := by simp only [World.isLocked, loadW_locks]; exact htl
      noObs := fun evt => by rw [loadW_obs]; exact Ht.cinv.noObs evt
      pool := hpool
      pinv := pinv_core H.cinv.pool (by rw [hpool]) (by rw [hpool]) (by rw [hpool])
      ginv := ginv_core H.ginv (by rw [hpool]) (by rw [hpool]) (by rw [hpool])
      sinv := hsinv
      tlen := htlen
      lenEq := by rw [hentLen, hpool]
      tgtLen := by rw [loadW_isTarget, List.length_replicate, hentLen, hde]
      noTargets := fun i => by
        rw [loadW_isTarget, List.getD_eq_getElem?_getD, List.getElem?_replicate]
        split <;> rfl
      shape0 := L.shape
      len0 := by rw [L.len]; exact hcount
      othersEmpty := fun t' ht => by
        rw [L.tne t' ht, loadPre_tbl_ne d t.w ht]; exact E.tables_empty t'
      tne := fun t' ht => by rw [L.tne t' ht, loadPre_tbl_ne d t.w ht]
      live := ?_
      rows := ?_
      ok := ?_
      dead := ?_ }
  -- `live`: `e.id` stands at some position `j` of the alive list; the loop put it in row `j`
  · intro e cs hm
    obtain ⟨hmem, hget⟩ := hmemIds e cs hm
    obtain ⟨j, hj, hje⟩ := List.getElem_of_mem hmem
    refine ⟨j, ?_, by rw [L.len]; exact hj, ?_⟩
    · have := L.idxDone j hj
      rw [hje] at this; exact this
    · rw [hrowOf j hj, hje, hget]
  -- `rows`: row `r` holds the slot of `d.alive[r]`, which `hslot` finds in the specification
  · intro r hr
    rw [L.len] at hr
    obtain ⟨cs, hm, hid⟩ := hslot d.alive[r] (List.getElem_mem hr)
    refine ⟨_, cs, hm, hrowOf r hr, ?_⟩
    rw [hid]; exact L.idxDone r hr
  -- `ok`: with no components only `compsOf` is owed; `e` is indexed to table 0, of no columns
  · intro e cs hm
    obtain ⟨hmem, _⟩ := hmemIds e cs hm
    obtain ⟨j, hj, hje⟩ := List.getElem_of_mem hmem
    have hix := L.idxDone j hj
    rw [hje] at hix
    have hl0 : 0 < (loadW d t.w).tables.length := by rw [htlen]; exact h0
    refine ⟨List.nodup_nil, fun c hc => (by cases hc), ?_, fun cv hcv => (by cases hcv)⟩
    have hm32 : (0 : Nat) ≠ maxU32 := by decide
    simp only [compsOf, hix, hm32, if_false, get_of_lt hl0, Option.map_some, hids0, keys,
      List.map_nil, sortedIds_nil]
  -- `dead`: a reserved or free ID is not in the alive list: its entry is still `loadPre`'s zero
  · intro i hi hdead
    have hnot : i ∉ d.alive := by
      intro hm
      obtain ⟨h2, hnf, _⟩ := (hal i).mp hm
      rcases hdead with h | h
      · omega
      · exact hnf h
    rw [L.idxOther i hnot, loadPre_entities, List.getElem?_replicate]
    rw [hentLen, ← hde] at hi
    simp [hi]

/-! ## 4. one normalisation away from a machine state -/

/-- write the "no table" mark into the index entries of the reserved and the free IDs -/
def fixDead (fl : List Nat) (w : World) : World :=
  { w with entities := w.entities.mapIdx fun i x => if i < 2 ∨ i ∈ fl then (maxU32, 0) else x }

theorem fixDead_get (fl : List Nat) (w : World) (i : Nat) :
    (fixDead fl w).entities[i]? =
      (w.entities[i]?).map fun x => if i < 2 ∨ i ∈ fl then (maxU32, 0) else x := by
  show (w.entities.mapIdx _)[i]? = _
  rw [List.getElem?_mapIdx]

theorem fixDead_get_live (fl : List Nat) (w : World) {i : Nat} (h2 : 2 ≤ i) (hnf : i ∉ fl) :
    (fixDead fl w).entities[i]? = w.entities[i]? := by
  rw [fixDead_get]
  have : ¬ (i < 2 ∨ i ∈ fl) := fun h => h.elim (fun h => by omega) hnf
  simp only [this, if_false]
  cases w.entities[i]? <;> rfl

theorem fixDead_get_dead (fl : List Nat) (w : World) {i : Nat} (hlt : i < w.entities.length)
    (hd : i < 2 ∨ i ∈ fl) : (fixDead fl w).entities[i]? = some (maxU32, 0) := by
  rw [fixDead_get, List.getElem?_eq_getElem hlt]
  simp [hd]

/-- **The loaded world is one normalisation away from a machine state**: with the index entries
    of the reserved and free IDs set to `(maxU32, 0)` — entries no operation reads — it
    satisfies the full invariant `HInv` of the entity machine (⊇ `CInv` ⊇ `IdxInv`, `SInv`), with
    the source's issued handles and the source's specification with all components dropped. -/
theorem Loaded.normalised {s t : St} {fl : List Nat} {wL : World} (L : Loaded s fl t wL)
    (H : HInv s fl) (Ht : HInv t []) :
    HInv ⟨fixDead fl wL, s.issued, ⟨s.ss.ents.map fun x => (x.1, []), t.ss.zst⟩⟩ fl := by
  have hlenE : (fixDead fl wL).entities.length = wL.entities.length := by
    show (wL.entities.mapIdx _).length = _
    rw [List.length_mapIdx]
  have hfew : wL.tables.length ≤ maxU32 := by rw [L.tlen]; exact Ht.cinv.fewTables
  have h0 : 0 < wL.tables.length := by rw [L.tlen]; exact Ht.cinv.sinv.root.1
  have hm32 : (0 : Nat) ≠ maxU32 := by decide
  -- a live ID has a specification entry
  have hspec : ∀ (i : Nat), 2 ≤ i → i ∉ fl → i < wL.entities.length →
      ∃ (e : Ent) (cs : Comps), (e, cs) ∈ s.ss.ents ∧ e.id = i := by
    intro i h2 hnf hlt
    rw [L.lenEq, L.pool] at hlt
    obtain ⟨cs, hm, hid⟩ := H.spec_of_slot h2 hnf hlt
    exact ⟨_, cs, hm, hid⟩
  -- `fixDead` keeps the tables: table 0 is as `L` says, every other table is the target's, empty
  have hidx : IdxInv (fixDead fl wL) :=
    { shape := by
        intro t' T (hT : wL.tables[t']? = some T)
        rw [← tbl_of_get hT]
        by_cases ht : t' = 0
        · subst ht; exact L.shape0
        · rw [L.tne t' ht]; exact IdxInv_tbl_shape Ht.cinv.idx t'
      tid := by
        intro t' T (hT : wL.tables[t']? = some T)
        obtain ⟨_, _, _, _, _, e4⟩ := L.sinv.tblArch t' T hT
        exact e4
      rowIdx := by
        -- only table 0 has rows; they hold live IDs, whose index entries `fixDead` keeps
        intro t' T r (hT : wL.tables[t']? = some T) hr
        have hTe := tbl_of_get hT
        by_cases ht : t' = 0
        · subst ht
          rw [← hTe] at hr ⊢
          obtain ⟨e, cs, hm, hge, hix⟩ := L.rows r hr
          obtain ⟨_, _, h2, hnf, _, _⟩ := H.live_facts hm
          rw [hge, fixDead_get_live fl wL h2 hnf]
          exact hix
        · have := L.othersEmpty t' ht
          rw [hTe] at this
          omega
      idxRow := by
        intro i t' r hi htm
        rw [fixDead_get] at hi
        cases hw : wL.entities[i]? with
        | none => rw [hw] at hi; cases hi
        | some x =>
          rw [hw] at hi
          simp only [Option.map_some, Option.some.injEq] at hi
          -- a dead ID now holds `maxU32`, against `htm`; a live ID keeps `wL`'s entry: `L.live`
          by_cases hd : i < 2 ∨ i ∈ fl
          · rw [if_pos hd] at hi
            exact absurd (Prod.mk.inj hi).1.symm htm
          · rw [if_neg hd] at hi
            subst hi
            have h2 : 2 ≤ i := by
              rcases Nat.lt_or_ge i 2 with h | h
              · exact absurd (Or.inl h) hd
              · exact h
            have hnf : i ∉ fl := fun h => hd (Or.inr h)
            obtain ⟨e, cs, hm, hid⟩ := hspec i h2 hnf (List.getElem?_eq_some_iff.mp hw).1
            obtain ⟨r', hix, hr', hge⟩ := L.live e cs hm
            rw [hid, hw] at hix
            injection hix with hix
            injection hix with h1 h2'
            subst h1; subst h2'
            exact ⟨wL.tbl 0, get_of_lt h0, hr', by rw [hge]; exact hid⟩ }
  -- what `CInv` asks of dead IDs is what `fixDead` wrote; the rest reads what `fixDead` keeps
  have hcinv : CInv (fixDead fl wL) fl :=
    { idx := hidx
      sinv := L.sinv.congr rfl rfl rfl
      pool := L.pinv
      stale := fun e (he : e ∈ wL.pool.stale) => by rw [L.pool] at he; cases he
      lenEq := by rw [hlenE]; exact L.lenEq
      tgtLen := by rw [hlenE]; exact L.tgtLen
      freeUnindexed := fun i hi =>
        ⟨0, fixDead_get_dead fl wL (by rw [L.lenEq]; exact (L.pinv.res i hi).2) (Or.inr hi)⟩
      reservedUnindexed := fun i hi =>
        ⟨0, fixDead_get_dead fl wL (by rw [L.lenEq]; have := L.pinv.len2; omega) (Or.inl hi)⟩
      liveIndexed := by
        intro i h2 hlt hnf
        rw [hlenE] at hlt
        obtain ⟨e, cs, hm, hid⟩ := hspec i h2 hnf hlt
        obtain ⟨r, hix, _, _⟩ := L.live e cs hm
        rw [hid] at hix
        exact ⟨0, r, by rw [fixDead_get_live fl wL h2 hnf]; exact hix, hm32⟩
      fewTables := hfew
      noRelKinds := by
        intro c
        show (wL.kinds.getD c {}).isRel = false
        rw [L.kinds]; exact Ht.cinv.noRelKinds c
      kindsLe := by
        show wL.kinds.length ≤ wL.maxComps ∧ wL.maxComps ≤ 256
        rw [L.kinds, L.maxComps]; exact Ht.cinv.kindsLe
      noTargets := L.noTargets
      noObs := L.noObs }
  exact
    { cinv := hcinv
      ginv := by
        show Pool.GInv ⟨wL.pool, s.issued, (s.ss.ents.map fun x => (x.1, ([] : Comps))).map (·.1)⟩ fl
        rw [List.map_map]
        exact L.ginv
      unlocked := L.unlocked
      nodup := H.nodup
      zstEq := by
        show t.ss.zst = wL.kinds.map (·.zst)
        rw [L.kinds]; exact Ht.zstEq
      maxc := L.maxComps.trans Ht.maxc
      ok := by
        intro e cs hm
        -- an entry here is a source entry without its components; `compsOf` of a live ID is `wL`'s
        obtain ⟨x, hx, hxe⟩ := List.mem_map.mp hm
        injection hxe with h1 h2
        subst h1; subst h2
        obtain ⟨_, _, h2, hnf, _, _⟩ := H.live_facts (e := x.1) (cs := x.2) hx
        have ok0 := L.ok x.1 x.2 hx
        refine ⟨ok0.nodup, ok0.reg, ?_, fun cv hcv => by cases hcv⟩
        have : compsOf (fixDead fl wL) x.1.id = compsOf wL x.1.id := by
          simp only [compsOf, fixDead_get_live fl wL h2 hnf]
          rfl
        rw [this]; exact ok0.comps }

/-- **C17 over histories: the loaded world.**  After any history `pre`, the dump loaded into any
    empty machine state yields a world that is well formed in the sense of `Loaded`. -/
theorem reach_loaded (run : ProbeRunner) (cap rel : Nat) (pre : List Op)
    (hlen : pre.length < 2 ^ 32 - 2) {t : St} (E : EmptySt t) :
    ∃ (d : Dump) (fl : List Nat),
      opDump (reach run cap rel pre).w =
        .ok d ((reach run cap rel pre).w.withLocks lockAfterQuery) ∧
      opLoad d t.w = .ok () (loadW d t.w) ∧
      HInv (reach run cap rel pre) fl ∧
      Loaded (reach run cap rel pre) fl t (loadW d t.w) := by
  obtain ⟨fl, H, hL⟩ := reach_dumpable run cap rel pre hlen
  obtain ⟨_, _, hta, htl⟩ := E.facts
  obtain ⟨d, hd, he, hn, ha, hnd, hal⟩ := opDump_spec H.cinv hL
  have hb := (reach_bounds run cap rel pre hlen).2
  rw [H.cinv.lenEq] at hb
  exact ⟨d, fl, hd, opLoad_eq d t.w htl ⟨by rw [E.pool]; exact Nat.le_refl _, hta⟩, H,
    loaded_wf H E (by omega) he hn ha hnd hal⟩

end Refine

end Ark
