/-
  Property C17 over histories of the machine `Ark.Refine`.
  `opDump` is `Unsafe.DumpEntities` as the Go code and the driver run it (a `Filter0` query
  iterated to the end, then the pool core copied); `loadW` (`Proofs/DumpLoad`) is what `opLoad`
  computes.
  After ANY history: the dump lists exactly the live IDs; loading it into an empty machine state
  (`EmptySt`: the reset world, a new world with any registrations) succeeds; every handle issued
  before the dump has the `Alive` answer it had at dump time; and any sequence of creations
  returns the same handles in the source and in the loaded world (`createAll_handles`; the
  statements over histories are in Ark/Props/C17Hist.lean).
-/
import Ark.Proofs.CallbacksFrame
import Ark.Proofs.QueryHist

set_option autoImplicit false

namespace Ark

open World Ark.Props.C01World QueryExact

namespace World

/-! ## 1. `DumpEntities` -/

/-- `Unsafe.DumpEntities`: iterate a `Filter0` query to the end collecting the IDs, then copy
    the pool's `entities`, `next`, `available` (unsafe.go; the driver's `dump` line). -/
def opDump : W Dump := do
  let vs ← drain ({} : FilterObj) []
  let w ← M.get
  pure { entities := w.pool.ents, alive := vs.map (·.e.id), next := w.pool.next,
         available := w.pool.available }

theorem matchesMask_default (m : Mask) : ({} : FilterObj).filter.matchesMask m = true := by
  show (({} : Filter).matchesMask m) = true
  simp [Filter.matchesMask, Mask.contains, Mask.empty]

/-- **`DumpEntities` at a state satisfying the joint invariant**: succeeds, changes only the bit
    pool of the lock, records the pool core, and lists exactly the live IDs, each once. -/
theorem opDump_spec {w : World} {fl : List Nat} (h : CInv w fl) {l1 l2 : Lock} {b : Nat}
    (hL : LockCycle w.locks l1 b l2) :
    ∃ (d : Dump), opDump w = .ok d (w.withLocks l2) ∧
      d.entities = w.pool.ents ∧ d.next = w.pool.next ∧ d.available = w.pool.available ∧
      d.alive.Nodup ∧
      ∀ (i : Nat), i ∈ d.alive ↔ 2 ≤ i ∧ i ∉ fl ∧ i < w.pool.ents.length := by
  obtain ⟨q, visits, Q⟩ := drain_exact_untyped h ({} : FilterObj) rfl (Or.inr rfl) hL
  refine ⟨{ entities := w.pool.ents, alive := visits.map (·.e.id), next := w.pool.next,
            available := w.pool.available }, ?_, rfl, rfl, rfl, ?_, ?_⟩
  · simp only [opDump, bind, M.bind, Q.drained, M.get, pure, M.pure]
    rfl
  · simpa only [List.map_map] using Q.exact.nodup
  · intro i
    constructor
    · intro hi
      obtain ⟨v, hv, rfl⟩ := List.mem_map.mp hi
      obtain ⟨s1, s2, s3, _⟩ := Q.exact.sound v hv
      refine ⟨s1, s2, ?_⟩
      rw [← h.lenEq]
      exact (List.getElem?_eq_some_iff.mp s3).1
    · rintro ⟨h2, hnf, hlt⟩
      obtain ⟨t, r, hi, ht⟩ := h.liveIndexed i h2 (by rw [h.lenEq]; exact hlt) hnf
      obtain ⟨v, hv, hvid, _, _⟩ := Q.exact.complete i t r h2 hnf hi ht (matchesMask_default _)
      exact List.mem_map.mpr ⟨v, hv, hvid⟩

/-! ## 2. consecutive creations -/

/-- `n` consecutive `World.NewEntity()` calls; the handles returned, in order -/
def newN (run : ProbeRunner) : Nat → W (List Ent)
  | 0 => pure []
  | n + 1 => do
    let e ← opNewEntity0 run
    let es ← newN run n
    pure (e :: es)

theorem newN_eq (run : ProbeRunner) : ∀ (n : Nat) (w : World), w.isLocked = false →
    w.obs.hasObservers Ev.onCreateEntity = false →
    ∃ (w' : World), newN run n w = .ok (w.pool.getN n) w' ∧ w'.pool = w.pool.afterN n
  | 0, w, _, _ => ⟨w, rfl, rfl⟩
  | n + 1, w, hl, hno => by
    have h1 := opNewEntity0_eq run w hl hno
    obtain ⟨w', h2, h3⟩ := newN_eq run n (placedW w 0 true)
      (by simp only [World.isLocked, placedW_locks]; exact hl)
      (by rw [placedW_obs]; exact hno)
    refine ⟨w', ?_, ?_⟩
    · simp only [newN, bind, M.bind, h1, h2, pure, M.pure, placedW_pool, Pool.getN]
    · rw [h3, placedW_pool]; rfl

/-- a creation request: `none` = `World.NewEntity()`, `some (p, ids, vals)` = `NewEntity` with
    the components `ids` through the access path `p`, writing `vals` -/
abbrev CreateReq := Option (Path × List Comp × List (Comp × Val))

def createOne (run : ProbeRunner) : CreateReq → W Ent
  | none => opNewEntity0 run
  | some (p, ids, vals) => opNewEntity run p ids vals []

/-- a sequence of creations; the handles returned, in order -/
def createAll (run : ProbeRunner) : List CreateReq → W (List Ent)
  | [] => pure []
  | q :: qs => do
    let e ← createOne run q
    let es ← createAll run qs
    pure (e :: es)

/-- **the handle of ANY successful creation is the next handle of the pool** (with or without
    components; on an unlocked world without observers), and the pool makes one `Get` -/
theorem createOne_handle (run : ProbeRunner) (q : CreateReq) (w : World) (hl : w.isLocked = false)
    (hno : ∀ (evt : Nat), w.obs.hasObservers evt = false) {e : Ent} {w' : World}
    (h : createOne run q w = .ok e w') :
    e = (w.pool.get).2 ∧ w'.pool = (w.pool.get).1 ∧ w'.isLocked = false ∧
      ∀ (evt : Nat), w'.obs.hasObservers evt = false := by
  cases q with
  | none =>
    have h1 := opNewEntity0_eq run w hl (hno _)
    simp only [createOne] at h
    rw [h1] at h
    injection h with h2 h3
    subst h2; subst h3
    exact ⟨rfl, placedW_pool w 0 true, by simp only [World.isLocked, placedW_locks]; exact hl,
      fun evt => by rw [placedW_obs]; exact hno evt⟩
  | some q =>
    obtain ⟨p, ids, vals⟩ := q
    simp only [createOne] at h
    cases hfoc : findOrCreateTableAdd 0 Mask.empty ids [] w with
    | panic k w1 =>
      rw [opNewEntity_foc_panic run p ids vals w hl hfoc] at h; cases h
    | ok r1 w1 =>
      obtain ⟨t, a, m⟩ := r1
      have hu := findOrCreateTableAdd_untouched hfoc
      have hp : w1.pool = w.pool := (findOrCreateTableAdd_keeps hfoc).pool
      have hno1 : ∀ (evt : Nat), w1.obs.hasObservers evt = false := by rw [hu.obs]; exact hno
      rw [opNewEntity_eq run p ids vals w hl hfoc hno1] at h
      injection h with h2 h3
      subst h2; subst h3
      refine ⟨by rw [hp], ?_, ?_, ?_⟩
      · show (placedW w1 t false).pool = _
        rw [placedW_pool, hp]
      · show (placedW w1 t false).locks.isLocked = false
        rw [placedW_locks, hu.locks]; exact hl
      · intro evt
        show (placedW w1 t false).obs.hasObservers evt = false
        rw [placedW_obs]; exact hno1 evt

/-- **any sequence of creations that succeeds returns the next handles of the pool** -/
theorem createAll_handles (run : ProbeRunner) : ∀ (qs : List CreateReq) (w : World),
    w.isLocked = false → (∀ (evt : Nat), w.obs.hasObservers evt = false) →
    ∀ {es : List Ent} {w' : World}, createAll run qs w = .ok es w' →
      es = w.pool.getN qs.length ∧ w'.pool = w.pool.afterN qs.length
  | [], w, _, _, es, w', h => by
    injection h with h1 h2
    subst h1; subst h2
    exact ⟨rfl, rfl⟩
  | q :: qs, w, hl, hno, es, w', h => by
    simp only [createAll, bind, M.bind] at h
    cases h1 : createOne run q w with
    | panic k w1 => rw [h1] at h; cases h
    | ok e w1 =>
      rw [h1] at h
      simp only at h
      obtain ⟨he, hp, hl1, hno1⟩ := createOne_handle run q w hl hno h1
      cases h2 : createAll run qs w1 with
      | panic k w2 => rw [h2] at h; cases h
      | ok es2 w2 =>
        rw [h2] at h
        simp only [pure, M.pure] at h
        injection h with h3 h4
        subst h3; subst h4
        obtain ⟨i1, i2⟩ := createAll_handles run qs w1 hl1 hno1 h2
        rw [hp] at i1 i2
        exact ⟨by rw [i1, he]; rfl, by rw [i2]; rfl⟩

end World

/-! ## 3. dump, then load: state level -/

namespace Refine

/-- **Dump at a state satisfying the machine invariant, load into any unlocked world with an
    empty pool** (a reset world, a new world): both succeed; every handle issued so far — and
    more generally every handle whose ID lies in the source's pool slice — has the same `Alive`
    answer in the loaded world as in the source at dump time; beyond the slice the loaded world
    answers `false`; the loaded pool hands out the same handles as the source's. -/
theorem dump_load {s : St} {fl : List Nat} (H : HInv s fl) {l1 l2 : Lock} {b : Nat}
    (hL : LockCycle s.w.locks l1 b l2) (wT : World) (hTl : wT.isLocked = false)
    (hTe : wT.pool.ents.length ≤ 2 ∧ wT.pool.available = 0) :
    ∃ (d : Dump), opDump s.w = .ok d (s.w.withLocks l2) ∧
      opLoad d wT = .ok () (loadW d wT) ∧
      (∀ (e : Ent), e ∈ s.issued → (loadW d wT).alive e = s.w.alive e) ∧
      (∀ (e : Ent), e.id < s.w.pool.ents.length → (loadW d wT).alive e = s.w.alive e) ∧
      (∀ (e : Ent), s.w.pool.ents.length ≤ e.id → (loadW d wT).alive e = false) ∧
      (loadW d wT).pool.Core = s.w.pool.Core ∧
      (∀ (n : Nat), (loadW d wT).pool.getN n = s.w.pool.getN n) := by
  obtain ⟨d, hd, he, hn, ha, _, _⟩ := opDump_spec H.cinv hL
  obtain ⟨hcore, hin, hout, hget⟩ := loadW_agrees s.w.pool d wT he hn ha
    (by rw [he]; have := H.cinv.pool.len2; omega)
  refine ⟨d, hd, opLoad_eq d wT hTl hTe, fun e hi => ?_, hin, hout, hcore, hget⟩
  obtain ⟨_, x, hx, _⟩ := H.ginv.issued_bound e hi
  exact hin e (List.getElem?_eq_some_iff.mp hx).1

/-! ## 4. the worlds `LoadEntities` accepts -/

theorem HInv.withLocks {s : St} {fl : List Nat} (H : HInv s fl) (l : Lock)
    (hl : l.isLocked = false) : HInv ⟨s.w.withLocks l, s.issued, s.ss⟩ fl where
  cinv := H.cinv.reframe s.w.obs H.cinv.noObs s.w.log l
  ginv := H.ginv
  unlocked := hl
  nodup := H.nodup
  zstEq := H.zstEq
  maxc := H.maxc
  ok := fun e cs hm =>
    (H.ok e cs hm).frame ⟨fun c => valOf_congr rfl rfl _ c, compsOf_congr rfl rfl _⟩

/-- **a machine state without entities and with an empty pool**: what `LoadEntities` accepts
    ("an empty or reset world") -/
structure EmptySt (t : St) : Prop where
  inv : ∃ (fl : List Nat), HInv t fl
  pool : t.w.pool.ents.length = 2

theorem EmptySt.facts {t : St} (E : EmptySt t) :
    HInv t [] ∧ t.ss.ents = [] ∧ t.w.pool.available = 0 ∧ t.w.isLocked = false := by
  obtain ⟨fl, H⟩ := E.inv
  have hcount := H.ginv.count
  simp only [St.ps, List.length_map] at hcount
  have hp := E.pool
  have hfl : fl = [] := List.eq_nil_of_length_eq_zero (by omega)
  have he : t.ss.ents = [] := List.eq_nil_of_length_eq_zero (by omega)
  subst hfl
  have ha := H.cinv.pool.avail
  exact ⟨H, he, by simpa using ha.symm, H.unlocked⟩

theorem emptySt_reset (run : ProbeRunner) {s : St} {fl : List Nat} (H : HInv s fl) :
    step run s .reset = ⟨resetW s.w, [], ⟨[], s.ss.zst⟩⟩ ∧ EmptySt (step run s .reset) := by
  have hstep := step_reset_eq run H.unlocked
  obtain ⟨⟨fl', H'⟩, _⟩ := step_reset run H
  refine ⟨hstep, ⟨fl', H'⟩, ?_⟩
  rw [hstep]
  show (resetW s.w).pool.ents.length = 2
  rw [resetW_pool]
  show (s.w.pool.ents.take 2).length = 2
  rw [List.length_take]
  have := H.cinv.pool.len2
  omega

/-- a history that only registers component types -/
def OnlyRegs (ops : List Op) : Prop := ∀ (op : Op), op ∈ ops → ∃ (size : Nat) (z : Bool), op = .reg size z

theorem step_reg_pool (run : ProbeRunner) (s : St) (size : Nat) (z : Bool) :
    (step run s (.reg size z)).w.pool = s.w.pool := by
  have hg : guard s (.reg size z) = true := rfl
  rw [step_of_guard hg]
  show (exec run s.w (.reg size z)).state.pool = _
  cases hr : World.registerComponent { isRel := false, zst := z, size := size } s.w with
  | panic k w1 =>
    simp only [exec, hr, Res.state]
    rw [registerComponent_panic hr]
  | ok n w1 =>
    simp only [exec, hr, Res.state]
    exact (registerComponent_ok hr).2.2.2.2.2.1

theorem runOps_regs_pool (run : ProbeRunner) : ∀ (ops : List Op) (s : St), OnlyRegs ops →
    (runOps run s ops).w.pool = s.w.pool := by
  intro ops
  induction ops with
  | nil => intro s _; rfl
  | cons op ops ih =>
    intro s h
    obtain ⟨size, z, rfl⟩ := h op (by simp)
    show (runOps run (step run s (.reg size z)) ops).w.pool = _
    rw [ih _ (fun o ho => h o (by simp [ho])), step_reg_pool]

/-! ## 5. dump, load, create: along histories -/

/-- after a history the world can be dumped: the machine invariant holds and the lock is the
    initial one, so the query behind `DumpEntities` has its lock cycle -/
theorem reach_dumpable (run : ProbeRunner) (cap rel : Nat) (pre : List Op)
    (hlen : pre.length < 2 ^ 32 - 2) :
    ∃ (fl : List Nat), HInv (reach run cap rel pre) fl ∧
      LockCycle (reach run cap rel pre).w.locks lockDuringQuery 0 lockAfterQuery := by
  obtain ⟨fl, H⟩ := reach_hinv run cap rel pre hlen
  exact ⟨fl, H, by rw [(reach_xinv run cap rel pre hlen).locks]; exact lockCycle_default⟩

/-- **C17 over histories.**  After ANY history `pre` of the entity machine: `DumpEntities`
    succeeds (changing only the bit pool of the lock); `LoadEntities` of the dump into any empty
    machine state `t` (the reset world, a new world with any registrations) succeeds; every handle
    issued in `pre` has the same `Alive` answer in the loaded world as at dump time; and any
    number of consecutive creations return the same handles in the source world and in the loaded
    world. -/
theorem reach_dump_load (run : ProbeRunner) (cap rel : Nat) (pre : List Op)
    (hlen : pre.length < 2 ^ 32 - 2) {t : St} (E : EmptySt t) :
    ∃ (d : Dump),
      opDump (reach run cap rel pre).w =
        .ok d ((reach run cap rel pre).w.withLocks lockAfterQuery) ∧
      opLoad d t.w = .ok () (loadW d t.w) ∧
      (∀ (e : Ent), e ∈ (reach run cap rel pre).issued →
        (loadW d t.w).alive e = (reach run cap rel pre).w.alive e) ∧
      (∀ (run' : ProbeRunner) (n : Nat), ∃ (w1 w2 : World),
        newN run' n ((reach run cap rel pre).w.withLocks lockAfterQuery) =
          .ok ((reach run cap rel pre).w.pool.getN n) w1 ∧
        newN run' n (loadW d t.w) = .ok ((reach run cap rel pre).w.pool.getN n) w2) := by
  obtain ⟨fl, H, hL⟩ := reach_dumpable run cap rel pre hlen
  obtain ⟨Ht, _, hta, htl⟩ := E.facts
  obtain ⟨d, hd, hload, hal, _, _, _, hget⟩ :=
    dump_load H hL t.w htl ⟨by rw [E.pool]; exact Nat.le_refl _, hta⟩
  refine ⟨d, hd, hload, hal, ?_⟩
  intro run' n
  have HL := H.withLocks lockAfterQuery lockAfterQuery_unlocked
  obtain ⟨w1, h1, _⟩ := newN_eq run' n ((reach run cap rel pre).w.withLocks lockAfterQuery)
    HL.unlocked (HL.cinv.noObs _)
  obtain ⟨w2, h2, _⟩ := newN_eq run' n (loadW d t.w)
    (by simp only [World.isLocked, loadW_locks]; exact htl)
    (by rw [loadW_obs]; exact Ht.cinv.noObs _)
  rw [hget n] at h2
  exact ⟨w1, w2, h1, h2⟩

end Refine

end Ark
