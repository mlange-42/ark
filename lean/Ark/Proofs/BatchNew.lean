/-
  C06 at world level: `NewBatch` / `NewEntities` create exactly the entities that the same number
  of single `NewEntity` calls create.
-/
import Ark.Proofs.RefineCore

set_option autoImplicit false

namespace Ark

open Ark.Props.C01World

/-! ## 0. `capPow2`: growing in one step or in several gives the same capacity -/

theorem capPow2_go_stable (m n : Nat) (hmn : m ≤ n) : ∀ (fuel p : Nat),
    n ≤ capPow2.go m p fuel → capPow2.go n p fuel = capPow2.go m p fuel
  | 0, p, _ => by simp only [capPow2.go]
  | fuel + 1, p, h => by
    simp only [capPow2.go] at h ⊢
    by_cases hp : p ≥ m
    · rw [if_pos hp] at h ⊢
      rw [if_pos h]
    · rw [if_neg hp] at h ⊢
      rw [if_neg (by omega)]
      exact capPow2_go_stable m n hmn fuel (2 * p) h

theorem capPow2_stable {m n : Nat} (hmn : m ≤ n) (h : n ≤ capPow2 m) : capPow2 n = capPow2 m := by
  by_cases hm : m = 0
  · subst hm
    rw [capPow2_zero] at h
    rcases Nat.eq_zero_or_pos n with rfl | hn
    · rfl
    · have : n = 1 := by omega
      subst this; decide
  · have hn : n ≠ 0 := by omega
    unfold capPow2 at h ⊢
    rw [if_neg hm] at h ⊢
    rw [if_neg hn]
    exact capPow2_go_stable m n hmn 33 1 h

/-! ## 1. table level: `alloc (n+1)` and writing the first handle = `add`, then `alloc n` -/

theorem replicate_sub_succ {α : Type} (z : α) {n C : Nat} (h : n + 1 ≤ C) :
    List.replicate (C - n) z = z :: List.replicate (C - (n + 1)) z := by
  rw [show C - n = C - (n + 1) + 1 by omega, List.replicate_succ]

theorem list_pad_set {α : Type} (X : List α) {n C : Nat} (z e : α) (hn : X.length = n)
    (hC : n + 1 ≤ C) :
    (X ++ List.replicate (C - n) z).set n e = X ++ e :: List.replicate (C - (n + 1)) z := by
  subst hn
  rw [replicate_sub_succ z hC, List.set_append_right _ _ (Nat.le_refl _), Nat.sub_self,
    List.set_cons_zero]

theorem list_pad_take {α : Type} (X : List α) {n C : Nat} (z : α) (hn : X.length = n)
    (hC : n + 1 ≤ C) : (X ++ List.replicate (C - n) z).take (n + 1) = X ++ [z] := by
  subst hn
  rw [replicate_sub_succ z hC, List.take_length_add_append, List.take_succ_cons, List.take_zero]

theorem list_set_take_replicate {α : Type} (l : List α) (n C : Nat) (z e : α) (hn : n < l.length)
    (hC : n + 1 ≤ C) :
    (l.take n ++ List.replicate (C - n) z).set n e =
      (l.set n e).take (n + 1) ++ List.replicate (C - (n + 1)) z := by
  have hX : (l.take n).length = n := by rw [List.length_take]; omega
  rw [list_pad_set _ z e hX hC, List.take_set, List.take_succ_eq_append_getElem hn,
    List.set_append_right _ _ (by omega), hX, Nat.sub_self, List.set_cons_zero, List.append_assoc]
  rfl

theorem list_take_succ_pad {α : Type} (col : List α) (n C : Nat) (z : α) (hn : n < col.length)
    (hC : n + 1 ≤ C) (h0 : col.getD n z = z) :
    col.take n ++ List.replicate (C - n) z = col.take (n + 1) ++ List.replicate (C - (n + 1)) z := by
  rw [List.getD_eq_getElem?_getD, List.getElem?_eq_getElem hn, Option.getD_some] at h0
  rw [replicate_sub_succ z hC, List.take_succ_eq_append_getElem hn, h0, List.append_assoc]
  rfl

theorem list_regrow_set {α : Type} (X : List α) (n C C1 : Nat) (z e : α) (hn : X.length = n)
    (hC1 : n + 1 ≤ C1) (hC : n + 1 ≤ C) :
    ((X ++ List.replicate (C1 - n) z).set n e).take (n + 1) ++ List.replicate (C - (n + 1)) z =
      (X ++ List.replicate (C - n) z).set n e := by
  rw [list_pad_set X z e hn hC1, list_pad_set X z e hn hC, ← hn, List.take_length_add_append,
    List.take_succ_cons, List.take_zero, List.append_assoc]
  rfl

theorem list_regrow {α : Type} (X : List α) (n C C1 : Nat) (z : α) (hn : X.length = n) (hC1 : n + 1 ≤ C1)
    (hC : n + 1 ≤ C) :
    (X ++ List.replicate (C1 - n) z).take (n + 1) ++ List.replicate (C - (n + 1)) z =
      X ++ List.replicate (C - n) z := by
  rw [list_pad_take X z hn hC1, replicate_sub_succ z hC, List.append_assoc]
  rfl

namespace Table

/-- **the batch allocation is the iterated single one** (table level): reserving `n+1` rows at once
    and writing the first handle gives the same table — capacity, entity column, component
    columns — as `Add` of that handle followed by reserving `n` rows. -/
theorem alloc_succ_eq {T : Table} (hS : T.Shape) (e : Ent) (n : Nat) (hb : T.len + (n + 1) < 2 ^ 32) :
    { T.alloc (n + 1) with ents := (T.alloc (n + 1)).ents.set T.len e } = ((T.add e).1).alloc n := by
  obtain ⟨id, arch, ids, isRel, zst, ents, cols, targets, relIDs, len, cap, isFree⟩ := T
  have hlen := hS.len_le
  have hel := hS.ents_len
  have hcl := hS.col_len
  have hzt := hS.zero_tail
  simp only at hlen hel hcl hzt hb
  have hcp := capPow2_ge' (len + (n + 1)) hb
  have hcp1 := capPow2_ge' (len + 1) (by omega)
  by_cases hA : cap ≥ len + (n + 1)
  · -- no growth at all
    have h1 : cap ≥ len + 1 := by omega
    have h2 : cap ≥ len + 1 + n := by omega
    simp only [Table.alloc, Table.extend, Table.add, hA, h1, h2, if_true, Table.mk.injEq, true_and,
      and_true]
    omega
  · by_cases hB : cap ≥ len + 1
    · -- the single `add` fits, the rest grows
      have h2 : ¬ cap ≥ len + 1 + n := by omega
      have hceq : capPow2 (len + 1 + n) = capPow2 (len + (n + 1)) := by
        rw [Nat.add_assoc, Nat.add_comm 1 n]
      simp only [Table.alloc, Table.extend, Table.add, Table.adjustCapacity, hA, hB, h2, if_true,
        if_false, Table.mk.injEq, true_and, and_true, hceq]
      refine ⟨?_, ?_, by omega⟩
      · exact list_set_take_replicate ents len _ Ent.zero e (by omega) (by omega)
      · apply List.map_congr_left
        intro col hcol
        exact list_take_succ_pad col len _ 0 (by rw [hcl col hcol]; omega) (by omega)
          (hzt col hcol len (Nat.le_refl _))
    · -- the single `add` grows already
      by_cases hC : capPow2 (len + 1) ≥ len + 1 + n
      · have hceq : capPow2 (len + (n + 1)) = capPow2 (len + 1) :=
          capPow2_stable (by omega) (by omega)
        simp only [Table.alloc, Table.extend, Table.add, Table.adjustCapacity, hA, hB, hC, if_true,
          if_false, Table.mk.injEq, true_and, and_true, hceq]
        omega
      · have hceq : capPow2 (len + 1 + n) = capPow2 (len + (n + 1)) := by
          rw [Nat.add_assoc, Nat.add_comm 1 n]
        simp only [Table.alloc, Table.extend, Table.add, Table.adjustCapacity, hA, hB, hC,
          if_false, Table.mk.injEq, true_and, and_true, hceq, List.map_map]
        refine ⟨?_, ?_, by omega⟩
        · exact (list_regrow_set (ents.take len) len _ _ Ent.zero e (by rw [List.length_take]; omega)
            (by omega) (by omega)).symm
        · apply List.map_congr_left
          intro col hcol
          exact (list_regrow (col.take len) len _ _ 0 (by rw [List.length_take, hcl col hcol]; omega)
            (by omega) (by omega)).symm

end Table

/-! ## 2. world level: `createEntities t n` is `n` times `placeNew t` -/

namespace World

theorem set_false_of_allFalse {l : List Bool} (h : ∀ i : Nat, l.getD i false = false) (k : Nat) :
    l.set k false = l := by
  apply List.ext_getElem?
  intro i
  rw [List.getElem?_set]
  by_cases hk : k = i
  · subst hk
    rw [if_pos rfl]
    split
    · rename_i hlt
      have := h k
      rw [List.getD_eq_getElem?_getD, List.getElem?_eq_getElem hlt] at this
      rw [List.getElem?_eq_getElem hlt]; simpa using this.symm
    · rename_i hlt
      rw [List.getElem?_eq_none (by omega)]
  · rw [if_neg hk]

/-- the four fields the creation of an entity touches -/
def upd (w : World) (tables : List Table) (pool : Pool) (entities : List (Nat × Nat))
    (isTarget : List Bool) : World := { w with tables, pool, entities, isTarget }

theorem createStep_upd (t start : Nat) (w : World) (k : Nat) :
    createStep t start w k =
      upd w (w.tables.set t { w.tbl t with ents := (w.tbl t).ents.set (start + k) (w.pool.get).2 })
        (w.pool.get).1
        (if (w.pool.get).2.id = w.entities.length then w.entities ++ [(t, start + k)]
          else w.entities.set (w.pool.get).2.id (t, start + k))
        (if (w.pool.get).2.id = w.entities.length then w.isTarget ++ [false]
          else w.isTarget.set (w.pool.get).2.id false) := by
  simp only [createStep]
  by_cases hb : (w.pool.get).2.id = w.entities.length
  · have hb' : ((w.pool.get).2.id == w.entities.length) = true := by simpa using hb
    rw [if_pos hb, if_pos hb]
    split
    · rfl
    · rename_i hc; exact absurd hb' hc
  · have hb' : ((w.pool.get).2.id == w.entities.length) = false := by simpa using hb
    rw [if_neg hb, if_neg hb]
    split
    · rename_i hc
      have hc' : ((w.pool.get).2.id == w.entities.length) = true := hc
      rw [hb'] at hc'; cases hc'
    · rfl

theorem placedW_upd (w : World) (t : Nat) (rt : Bool) :
    placedW w t rt =
      upd w (w.tables.set t ((w.tbl t).add (w.pool.get).2).1) (w.pool.get).1
        (if (w.pool.get).2.id = w.entities.length then w.entities ++ [(t, (w.tbl t).len)]
          else w.entities.set (w.pool.get).2.id (t, (w.tbl t).len))
        (if (w.pool.get).2.id = w.entities.length then w.isTarget ++ [false]
          else if rt = true then w.isTarget.set (w.pool.get).2.id false else w.isTarget) :=
  placedW_eq w t rt

theorem upd_modTbl (w : World) (ts : List Table) (p : Pool) (es : List (Nat × Nat)) (it : List Bool)
    (t : Nat) (f : Table → Table) :
    (upd w ts p es it).modTbl t f = upd w (ts.set t (f (ts.getD t default))) p es it := rfl

/-- the first iteration of `createEntities t (n+1)` is `placeNew t`, up to the rows still to be
    reserved -/
theorem createStep_zero {w : World} {t : Nat} (hlt : t < w.tables.length) (hS : (w.tbl t).Shape)
    (hT : ∀ i : Nat, w.isTarget.getD i false = false) (n : Nat)
    (hb : (w.tbl t).len + (n + 1) < 2 ^ 32) :
    createStep t (w.tbl t).len (w.modTbl t fun T => T.alloc (n + 1)) 0 =
      (placedW w t false).modTbl t fun T => T.alloc n := by
  have hA := Table.alloc_succ_eq hS (w.pool.get).2 n hb
  have h1 : (w.modTbl t fun T => T.alloc (n + 1)).tbl t = (w.tbl t).alloc (n + 1) :=
    modTbl_tbl_self _ hlt
  have e1 : (w.modTbl t fun T => T.alloc (n + 1)).pool = w.pool := rfl
  have e2 : (w.modTbl t fun T => T.alloc (n + 1)).entities = w.entities := rfl
  have e3 : (w.modTbl t fun T => T.alloc (n + 1)).isTarget = w.isTarget := rfl
  have e4 : (w.modTbl t fun T => T.alloc (n + 1)).tables =
      w.tables.set t ((w.tbl t).alloc (n + 1)) := rfl
  have e5 : ∀ ts p es it, upd (w.modTbl t fun T => T.alloc (n + 1)) ts p es it = upd w ts p es it :=
    fun _ _ _ _ => rfl
  rw [createStep_upd, placedW_upd, upd_modTbl, h1, e1, e2, e3, e4, e5, List.set_set, List.set_set]
  simp only [Nat.add_zero]
  rw [hA]
  have h2 : (w.tables.set t ((w.tbl t).add (w.pool.get).2).1).getD t default =
      ((w.tbl t).add (w.pool.get).2).1 := by
    rw [List.getD_eq_getElem?_getD, List.getElem?_set_self hlt]; rfl
  rw [h2]
  simp only [Bool.false_eq_true, if_false, set_false_of_allFalse hT]

theorem createStep_shift (t start : Nat) (w : World) (i : Nat) :
    createStep t start w (i + 1) = createStep t (start + 1) w i := by
  have : start + (i + 1) = start + 1 + i := by omega
  simp only [createStep, this]

/-- what `n` placements into table `t` need: the table exists, is well-shaped, and its row count
    (a `uint32`) has room for `n` more -/
structure TableRoom (w : World) (t n : Nat) : Prop where
  lt : t < w.tables.length
  shape : (w.tbl t).Shape
  bound : (w.tbl t).len + n < 2 ^ 32

theorem placedW_len {w : World} {t : Nat} (hlt : t < w.tables.length) (rt : Bool) :
    ((placedW w t rt).tbl t).len = (w.tbl t).len + 1 := by
  rw [placedW_tbl_self hlt, Table.add_fst_len]

theorem TableRoom.placed {w : World} {t n : Nat} (r : TableRoom w t (n + 1)) : TableRoom (placedW w t false) t n :=
  ⟨by rw [placedW_tables_len]; exact r.lt,
    by rw [placedW_tbl_self r.lt]; exact Table.add_shape r.shape _ (by have := r.bound; omega),
    by rw [placedW_len r.lt]; have := r.bound; omega⟩

theorem createEntitiesW_succ {w : World} {t : Nat} (hlt : t < w.tables.length) (hS : (w.tbl t).Shape)
    (hT : ∀ i : Nat, w.isTarget.getD i false = false) (n : Nat)
    (hb : (w.tbl t).len + (n + 1) < 2 ^ 32) :
    createEntitiesW w t (n + 1) = createEntitiesW (placedW w t false) t n := by
  simp only [createEntitiesW, createPrefix]
  rw [List.range_succ_eq_map, List.foldl_cons, List.foldl_map, createStep_zero hlt hS hT n hb,
    placedW_tbl_self hlt, Table.add_fst_len]
  simp only [createStep_shift]

theorem createEntitiesW_zero {w : World} {t : Nat} (hS : (w.tbl t).Shape) :
    createEntitiesW w t 0 = w := by
  have h1 : (w.tbl t).alloc 0 = w.tbl t := by
    have := hS.len_le
    simp only [Table.alloc, Table.extend, Nat.add_zero, ge_iff_le, this, if_true]
  show w.setTbl t ((w.tbl t).alloc 0) = w
  rw [h1]
  show { w with tables := w.tables.set t (w.tbl t) } = w
  rw [set_tbl_self]

def placeN (w : World) (t : Nat) : Nat → World
  | 0 => w
  | n + 1 => placeN (placedW w t false) t n

/-- the handles `n` successive `placeNew t` take from the pool, in order -/
def handlesN (w : World) (t : Nat) : Nat → List Ent
  | 0 => []
  | n + 1 => (w.pool.get).2 :: handlesN (placedW w t false) t n

theorem handlesN_pool (t : Nat) : ∀ (n : Nat) {w w' : World}, w.pool = w'.pool →
    handlesN w t n = handlesN w' t n
  | 0, _, _, _ => rfl
  | n + 1, w, w', hp => by
    show (w.pool.get).2 :: handlesN (placedW w t false) t n =
      (w'.pool.get).2 :: handlesN (placedW w' t false) t n
    rw [hp, handlesN_pool t n (w := placedW w t false) (w' := placedW w' t false)
      (by rw [placedW_pool, placedW_pool, hp])]

theorem placedW_allFalse {w : World} (hT : ∀ i : Nat, w.isTarget.getD i false = false) (t : Nat)
    (rt : Bool) : ∀ i : Nat, (placedW w t rt).isTarget.getD i false = false := by
  intro i
  rw [placedW_isTarget']
  split
  · exact getD_false_append hT i
  · split
    · exact getD_false_set hT _ i
    · exact hT i

/-- **`createEntities t n` is `n` times `placeNew t`** — as worlds: same table (capacity, entity
    column, component columns), same pool, same index, same target flags. -/
theorem createEntitiesW_eq_placeN : ∀ (n : Nat) {w : World} {t : Nat}, t < w.tables.length →
    (w.tbl t).Shape → (∀ i : Nat, w.isTarget.getD i false = false) →
    (w.tbl t).len + n < 2 ^ 32 → createEntitiesW w t n = placeN w t n
  | 0, w, t, _, hS, _, _ => createEntitiesW_zero hS
  | n + 1, w, t, hlt, hS, hT, hb => by
    have R : TableRoom w t (n + 1) := ⟨hlt, hS, hb⟩
    rw [createEntitiesW_succ hlt hS hT n hb]
    exact createEntitiesW_eq_placeN n R.placed.lt R.placed.shape (placedW_allFalse hT t false)
      R.placed.bound

/-! ## 3. the single calls, the batch, and their equality -/


/-- table `t` is the (only) table of archetype `a`, the archetype of the components `ids` -/
structure BatchTarget (w : World) (ids : List Comp) (t a : Nat) : Prop where
  altA : a < w.archetypes.length
  mask : (w.arch a).mask = Mask.ofList ids
  tables : (w.arch a).tables.tables = [t]
  tlt : t < w.tables.length

theorem BatchTarget.congr {w w' : World} {ids : List Comp} {t a : Nat} (h : BatchTarget w ids t a)
    (ha : w'.archetypes = w.archetypes) (hl : w'.tables.length = w.tables.length) :
    BatchTarget w' ids t a :=
  ⟨by rw [ha]; exact h.altA, by simp only [arch, ha]; exact h.mask,
    by simp only [arch, ha]; exact h.tables, by rw [hl]; exact h.tlt⟩

/-- the table lookup of `newEntity` when the table exists: it is returned, nothing changes -/
theorem findOrCreateTableAdd_found {w : World} (h : SInvMid w) {ids : List Comp} {t a : Nat}
    (bt : BatchTarget w ids t a) (hnd : ids.Nodup) (hnr : (w.arch a).hasRelations = false)
    (h0 : (w.tbl 0).relIDs = []) :
    findOrCreateTableAdd 0 Mask.empty ids [] w = .ok (t, a, Mask.ofList ids) w := by
  have hg := graphFindAdd_ok Mask.empty ids w (fun c _ => Mask.get_empty c) hnd
  have hfa : w.findArch (Mask.ofList ids) = some a := by
    rw [← bt.mask]; exact findArch_of_get h (aget_of_lt bt.altA)
  have ha : findOrCreateArch (Mask.ofList ids) w = .ok a w := by
    simp only [findOrCreateArch, hfa]
  have hall : relsForAdd (w.tbl 0) [] = [] := by simp [relsForAdd, h0]
  have hgt := getTable_noRel (a := a) [] hnr
  rw [bt.tables] at hgt
  exact findOrCreateTableAdd_of_tableFor hg
    (by rw [hall]; exact tableFor_ok_iff.2 ⟨w, ha, getOrCreate_ok_iff.2 (Or.inl ⟨hgt, rfl⟩)⟩)

/-- `n` successive `NewEntity(ids…)` calls with the values `vals`; the handles in order -/
def newEntitiesSeq (run : ProbeRunner) (p : Path) (ids : List Comp) (vals : List (Comp × Val)) :
    Nat → W (List Ent)
  | 0 => pure []
  | n + 1 => do
    let e ← opNewEntity run p ids vals []
    let es ← newEntitiesSeq run p ids vals n
    pure (e :: es)

/-- the world after `n` single creations in table `t` with values `vals` -/
def newN (w : World) (t : Nat) (vals : List (Comp × Val)) : Nat → World
  | 0 => w
  | n + 1 => newN (writeValsW (placedW w t false) (w.pool.get).2 vals) t vals n

theorem newN_nil (w : World) (t : Nat) : ∀ n : Nat, newN w t [] n = placeN w t n
  | 0 => rfl
  | n + 1 => by
    show newN (writeValsW (placedW w t false) (w.pool.get).2 []) t [] n = placeN (placedW w t false) t n
    rw [writeValsW_nil]; exact newN_nil _ t n

theorem newStep_facts {w : World} {fl : List Nat} (h : CInv w fl) {ids : List Comp} {t a : Nat}
    (bt : BatchTarget w ids t a) (vals : List (Comp × Val)) (hb : (w.tbl t).len + 1 < 2 ^ 32) :
    CInv (writeValsW (placedW w t false) (w.pool.get).2 vals) fl.tail ∧
    (writeValsW (placedW w t false) (w.pool.get).2 vals).isLocked = w.isLocked ∧
    BatchTarget (writeValsW (placedW w t false) (w.pool.get).2 vals) ids t a ∧
    ((writeValsW (placedW w t false) (w.pool.get).2 vals).tbl t).len = (w.tbl t).len + 1 := by
  have pp := h.placed bt.tlt false hb
  have wp := pp.cinv.writeVals pp.ge2 pp.notin pp.alive (List.getElem?_eq_some_iff.mp pp.inPool).1 vals
  refine ⟨wp.cinv, ?_, ?_, ?_⟩
  · rw [wp.unlocked, pp.unlocked]
  · exact (bt.congr (placedW_fields w t false).2.1 pp.tablesLen).congr rfl wp.tablesLen
  · rw [wp.rowsLen, placedW_tbl_self bt.tlt, Table.add_fst_len]

theorem opNewEntity_found (run : ProbeRunner) (p : Path) {w : World} {fl : List Nat} (h : CInv w fl)
    (hl : w.isLocked = false) {ids : List Comp} (hnd : ids.Nodup) {t a : Nat}
    (bt : BatchTarget w ids t a) (vals : List (Comp × Val)) (hb : (w.tbl t).len + 1 < 2 ^ 32) :
    opNewEntity run p ids vals [] w =
      .ok (w.pool.get).2 (writeValsW (placedW w t false) (w.pool.get).2 vals) ∧
    CInv (writeValsW (placedW w t false) (w.pool.get).2 vals) fl.tail ∧
    (writeValsW (placedW w t false) (w.pool.get).2 vals).isLocked = false ∧
    BatchTarget (writeValsW (placedW w t false) (w.pool.get).2 vals) ids t a ∧
    ((writeValsW (placedW w t false) (w.pool.get).2 vals).tbl t).len = (w.tbl t).len + 1 := by
  have hfoc := findOrCreateTableAdd_found h.sinv.toSInvMid bt hnd (h.noRelArch' bt.altA)
    (h.relIDs_nil h.sinv.root.1)
  obtain ⟨f1, f2, f3, f4⟩ := newStep_facts h bt vals hb
  exact ⟨opNewEntity_eq run p ids vals w hl hfoc h.noObs, f1, by rw [f2]; exact hl, f3, f4⟩

/-- **the singles as a pure function**: `n` successive `NewEntity(ids…)` calls in a world where
    the table of `ids` exists return `handlesN` (the writes do not touch the pool) and leave
    `newN` -/
theorem newEntitiesSeq_eq (run : ProbeRunner) (p : Path) {ids : List Comp} (hnd : ids.Nodup)
    (vals : List (Comp × Val)) {t a : Nat} : ∀ (n : Nat) {w : World} {fl : List Nat}, CInv w fl →
    w.isLocked = false → BatchTarget w ids t a → (w.tbl t).len + n < 2 ^ 32 →
    newEntitiesSeq run p ids vals n w = .ok (handlesN w t n) (newN w t vals n) ∧
    CInv (newN w t vals n) (fl.drop n) ∧ (newN w t vals n).isLocked = false
  | 0, w, fl, h, hl, _, _ => ⟨rfl, h, hl⟩
  | n + 1, w, fl, h, hl, bt, hb => by
    obtain ⟨h1, h2, h3, h4, h5⟩ := opNewEntity_found run p h hl hnd bt vals (by omega)
    obtain ⟨i1, i2, i3⟩ := newEntitiesSeq_eq run p hnd vals n h2 h3 h4 (by rw [h5]; omega)
    refine ⟨?_, ?_, i3⟩
    · simp only [newEntitiesSeq, bind, M.bind, h1, i1, pure, M.pure]
      rw [handlesN_pool t n (writeValsW_pool (placedW w t false) (w.pool.get).2 vals)]
      rfl
    · have : fl.drop (n + 1) = fl.tail.drop n := by cases fl <;> simp
      rw [this]; exact i2

/-! ### the batch as a pure function -/

theorem createStep_obs (t start : Nat) (w : World) (k : Nat) : (createStep t start w k).obs = w.obs := by
  rw [createStep_upd]; rfl

theorem createStep_locks (t start : Nat) (w : World) (k : Nat) :
    (createStep t start w k).locks = w.locks := by
  rw [createStep_upd]; rfl

theorem foldl_createStep_keep {β : Type} (f : World → β) (t start : Nat)
    (hf : ∀ (w : World) (k : Nat), f (createStep t start w k) = f w) :
    ∀ (l : List Nat) (w : World), f (l.foldl (createStep t start) w) = f w :=
  foldl_keep _ f hf

theorem createEntitiesW_obs (w : World) (t n : Nat) : (createEntitiesW w t n).obs = w.obs :=
  foldl_createStep_keep (·.obs) t _ (createStep_obs t _) _ _

theorem createEntitiesW_locks (w : World) (t n : Nat) : (createEntitiesW w t n).locks = w.locks :=
  foldl_createStep_keep (·.locks) t _ (createStep_locks t _) _ _

/-- without observers and without callback, `NewBatch` is: table lookup, `createEntities` -/
theorem opNewBatch_eq (run : ProbeRunner) (p : Path) (count : Nat) (ids : List Comp)
    (vals : List (Comp × Val)) (w : World) (hl : w.isLocked = false) {t a : Nat} {m : Mask}
    {w1 : World} (hfoc : findOrCreateTableAdd 0 Mask.empty ids [] w = .ok (t, a, m) w1)
    (hno : ∀ evt : Nat, w1.obs.hasObservers evt = false) :
    opNewBatch run p count ids vals [] false w =
      .ok (t, (w1.tbl t).len) (createEntitiesW w1 t count) := by
  have hno1 : ∀ evt : Nat, (createEntitiesW w1 t count).obs.hasObservers evt = false := by
    intro evt; rw [createEntitiesW_obs]; exact hno evt
  cases p <;>
  simp [opNewBatch, preCheck, preCheckMap, preCheckTyped, M.forM', bind, M.bind,
    M.get, checkLocked_unlocked w hl, hfoc, createEntities_eq, registerTargets, M.modify,
    hno1, pure, M.pure]

/-! ### rows of the batch = handles of the singles -/

theorem placeN_tables_len (t : Nat) : ∀ (n : Nat) (w : World),
    (placeN w t n).tables.length = w.tables.length
  | 0, _ => rfl
  | n + 1, w => by
    show (placeN (placedW w t false) t n).tables.length = _
    rw [placeN_tables_len t n, placedW_tables_len]

theorem placeN_len {t : Nat} : ∀ (n : Nat) {w : World}, TableRoom w t n →
    ((placeN w t n).tbl t).len = (w.tbl t).len + n
  | 0, _, _ => rfl
  | n + 1, w, r => by
    show ((placeN (placedW w t false) t n).tbl t).len = _
    rw [placeN_len n r.placed, placedW_len r.lt, Nat.add_assoc, Nat.add_comm 1 n]

theorem placeN_getEntity_lt {t : Nat} : ∀ (n : Nat) {w : World}, TableRoom w t n →
    ∀ k : Nat, k < (w.tbl t).len → ((placeN w t n).tbl t).getEntity k = (w.tbl t).getEntity k
  | 0, _, _, _, _ => rfl
  | n + 1, w, r, k, hk => by
    show ((placeN (placedW w t false) t n).tbl t).getEntity k = _
    rw [placeN_getEntity_lt n r.placed k (by rw [placedW_len r.lt]; omega), placedW_tbl_self r.lt,
      Table.add_getEntity_lt _ _ _ hk]

/-- the rows `[len, len+n)` of table `t` after `n` placements hold the handles handed out, in
    order -/
theorem placeN_rows {t : Nat} : ∀ (n : Nat) {w : World}, TableRoom w t n →
    (List.range n).map (fun i => ((placeN w t n).tbl t).getEntity ((w.tbl t).len + i)) =
      handlesN w t n
  | 0, _, _ => rfl
  | n + 1, w, r => by
    have hlen' := placedW_len r.lt false
    rw [List.range_succ_eq_map, List.map_cons, List.map_map]
    show _ :: _ = (w.pool.get).2 :: handlesN (placedW w t false) t n
    refine List.cons_eq_cons.mpr ⟨?_, ?_⟩
    · show ((placeN (placedW w t false) t n).tbl t).getEntity ((w.tbl t).len + 0) = _
      rw [placeN_getEntity_lt n r.placed _ (by rw [hlen']; omega), placedW_tbl_self r.lt, Nat.add_zero]
      have := Table.add_getEntity_new r.shape (w.pool.get).2 (by have := r.bound; omega)
      rw [Table.add_snd] at this; exact this
    · rw [← placeN_rows n r.placed]
      refine List.map_congr_left fun i _ => ?_
      show ((placeN (placedW w t false) t n).tbl t).getEntity ((w.tbl t).len + (i + 1)) = _
      rw [hlen', Nat.add_assoc, Nat.add_comm 1 i]

/-! ### the batch equals the singles -/

/-- `CInv.oneTable`, the table named as the first of the list -/
theorem cinv_arch_table {w : World} {fl : List Nat} (h : CInv w fl) {a : Nat} {A : Archetype}
    (hA : w.archetypes[a]? = some A) :
    A.tables.tables = [A.tables.tables.getD 0 0] ∧ A.tables.tables.getD 0 0 < w.tables.length ∧
    (w.tbl (A.tables.tables.getD 0 0)).arch = a := by
  obtain ⟨t, ht, hlt, harch⟩ := h.oneTable (alt_of_get hA)
  rw [arch_of_get hA] at ht
  rw [ht]
  exact ⟨rfl, hlt, harch⟩

theorem cinv_table_arch {w : World} {fl : List Nat} (h : CInv w fl) {t : Nat}
    (ht : t < w.tables.length) :
    ∃ A, w.archetypes[(w.tbl t).arch]? = some A ∧ A.tables.tables.getD 0 0 = t :=
  ⟨_, aget_of_lt (h.table_is_first ht).1, (h.table_is_first ht).2⟩

/-- the joint invariant and the batch target after the table lookup of `newEntity` -/
theorem cinv_afterLookup {w : World} {fl : List Nat} (h : CInv w fl) {ids : List Comp}
    (hnd : ids.Nodup) (hreg : ∀ (c : Comp), c ∈ ids → c < w.kinds.length)
    (hfew : w.tables.length < maxU32) :
    ∃ (t a : Nat) (w1 : World),
      findOrCreateTableAdd 0 Mask.empty ids [] w = .ok (t, a, Mask.ofList ids) w1 ∧
      CInv w1 fl ∧ w1.isLocked = w.isLocked ∧ BatchTarget w1 ids t a ∧
      (∀ t' : Nat, t' < w.tables.length → w1.tbl t' = w.tbl t') ∧
      (w.tables.length ≤ t → (w1.tbl t).len = 0) ∧ w1.pool = w.pool ∧
      w1.entities = w.entities ∧ (∀ j : Nat, SameEnt w w1 j) := by
  obtain ⟨t, a, w1, hok, fc, hI1, hsame, _⟩ :=
    h.sinv.findOrCreateTableAdd_spec_new h.idx hnd hreg (fun c _ => h.noRelKinds c)
  have hu := findOrCreateTableAdd_untouched hok
  have h1 : CInv w1 fl := h.of_lookup fc hu (findOrCreateTableAdd_tables_len hok) hfew
  have htab : (w1.arch a).tables.tables = [t] := by
    obtain ⟨hone, _, _⟩ := cinv_arch_table h1 (aget_of_lt fc.archLt)
    have hm := fc.active
    rw [hone] at hm ⊢
    rw [List.mem_singleton.mp hm]
  refine ⟨t, a, w1, hok, h1, ?_, ⟨fc.archLt, fc.archMask, htab, fc.tblLt⟩, ?_, fc.newEmpty, fc.pool,
    fc.entities, same_of_prefix h.idx fc.entities hsame⟩
  · show w1.locks.isLocked = w.locks.isLocked
    rw [hu.locks]
  · intro t' ht'
    exact tbl_eq_of_get (hsame t' ht')

/-- after the first call has looked the table up (leaving `w1`), the singles run as from `w1` -/
theorem newEntitiesSeq_afterLookup (run : ProbeRunner) (p : Path) {w w1 : World} {fl : List Nat}
    (hl : w.isLocked = false) {ids : List Comp} (hnd : ids.Nodup) (vals : List (Comp × Val))
    {t a : Nat} (hfoc : findOrCreateTableAdd 0 Mask.empty ids [] w = .ok (t, a, Mask.ofList ids) w1)
    (h1 : CInv w1 fl) (hl1 : w1.isLocked = false) (bt : BatchTarget w1 ids t a) {count : Nat}
    (hpos : 0 < count) (hb : (w1.tbl t).len + count < 2 ^ 32) :
    newEntitiesSeq run p ids vals count w = newEntitiesSeq run p ids vals count w1 := by
  obtain ⟨n, rfl⟩ : ∃ n, count = n + 1 := ⟨count - 1, by omega⟩
  have e1 := opNewEntity_eq run p ids vals w hl hfoc h1.noObs
  have e2 := (opNewEntity_found run p h1 hl1 hnd bt vals (by omega)).1
  simp only [newEntitiesSeq, bind, M.bind, e1, e2]

/-- the rows of the table looked up: an old table of `w`, or a new, empty one -/
theorem afterLookup_rows {w w1 : World} {t count : Nat}
    (hsame : ∀ t' : Nat, t' < w.tables.length → w1.tbl t' = w.tbl t')
    (hnew : w.tables.length ≤ t → (w1.tbl t).len = 0)
    (hrows : ∀ t : Nat, (w.tbl t).len + count < 2 ^ 32) : (w1.tbl t).len + count < 2 ^ 32 := by
  rcases Nat.lt_or_ge t w.tables.length with hh | hh
  · rw [hsame t hh]; exact hrows t
  · rw [hnew hh]; have := hrows 0; omega

/-- **C06, creation (no callback)**: `NewBatch(count, ids…)` without callback on an unlocked world
    of the fragment returns `(t, start)` and leaves EXACTLY the world (`w'`, equality of worlds)
    that `count` successive `NewEntity(ids…)` calls leave; the handles those calls return are, in
    order, the entities in rows `start … start+count-1` of table `t`.  (`count > 0`: see
    `opNewBatch_zero` for the empty batch.) -/
theorem opNewBatch_eq_singles (run : ProbeRunner) (p : Path) {w : World} {fl : List Nat}
    (h : CInv w fl) (hl : w.isLocked = false) {ids : List Comp} (hnd : ids.Nodup)
    (hreg : ∀ (c : Comp), c ∈ ids → c < w.kinds.length) (vals : List (Comp × Val)) {count : Nat}
    (hpos : 0 < count) (hfew : w.tables.length < maxU32)
    (hrows : ∀ t : Nat, (w.tbl t).len + count < 2 ^ 32) :
    ∃ (t start : Nat) (es : List Ent) (w' : World),
      opNewBatch run p count ids vals [] false w = .ok (t, start) w' ∧
      newEntitiesSeq run p ids [] count w = .ok es w' ∧
      es = (List.range count).map (fun i => (w'.tbl t).getEntity (start + i)) ∧
      es.length = count ∧ CInv w' (fl.drop count) ∧ w'.isLocked = false := by
  obtain ⟨t, a, w1, hfoc, h1, hl1, bt, hsame, hnew, _, _, _⟩ := cinv_afterLookup h hnd hreg hfew
  rw [hl] at hl1
  have hb := afterLookup_rows hsame hnew hrows
  have hS := h1.idx.shape t _ (get_of_lt bt.tlt)
  have hbatch := opNewBatch_eq run p count ids vals w hl hfoc h1.noObs
  rw [createEntitiesW_eq_placeN count bt.tlt hS h1.noTargets hb] at hbatch
  obtain ⟨s1, s2, s3⟩ := newEntitiesSeq_eq run p hnd [] count h1 hl1 bt hb
  rw [newN_nil] at s1
  rw [newN_nil] at s2 s3
  have hseq := newEntitiesSeq_afterLookup run p hl hnd [] hfoc h1 hl1 bt hpos hb
  refine ⟨t, (w1.tbl t).len, handlesN w1 t count, placeN w1 t count, hbatch, hseq.trans s1,
    (placeN_rows count ⟨bt.tlt, hS, hb⟩).symm, ?_, s2, s3⟩
  rw [← placeN_rows count ⟨bt.tlt, hS, hb⟩, List.length_map, List.length_range]

/-- the empty batch: `NewBatch(0, ids…)` creates no entity but still looks the table up — and
    creates archetype and table if they did not exist (zero single calls would not) -/
theorem opNewBatch_zero (run : ProbeRunner) (p : Path) {w : World} {fl : List Nat}
    (h : CInv w fl) (hl : w.isLocked = false) {ids : List Comp} (hnd : ids.Nodup)
    (hreg : ∀ (c : Comp), c ∈ ids → c < w.kinds.length) (vals : List (Comp × Val))
    (hfew : w.tables.length < maxU32) :
    ∃ (t a : Nat) (w1 : World),
      findOrCreateTableAdd 0 Mask.empty ids [] w = .ok (t, a, Mask.ofList ids) w1 ∧
      opNewBatch run p 0 ids vals [] false w = .ok (t, (w1.tbl t).len) w1 ∧
      CInv w1 fl ∧ w1.pool = w.pool ∧ w1.entities = w.entities ∧ (∀ j : Nat, SameEnt w w1 j) := by
  obtain ⟨t, a, w1, hfoc, h1, _, bt, _, _, hp, he, hs⟩ := cinv_afterLookup h hnd hreg hfew
  have hbatch := opNewBatch_eq run p 0 ids vals w hl hfoc h1.noObs
  rw [createEntitiesW_zero (h1.idx.shape t _ (get_of_lt bt.tlt))] at hbatch
  exact ⟨t, a, w1, hfoc, hbatch, h1, hp, he, hs⟩

end World

end Ark
