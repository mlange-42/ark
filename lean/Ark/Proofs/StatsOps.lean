/-
  Ark.Proofs.StatsOps — property C19: every entity operation of the model is `Fr` (see
  `Ark.Proofs.StatsFrame`): run on a world without observers, with ANY callback runner (it is
  never consulted), it neither reads nor writes the statistics object and on success is an
  `RStep` — also `RemoveEntity` with `cleanupArchetypes`, which frees and recycles relation
  tables.  The operations without relation arguments are instances, so the machines with and
  without relation tables both rest on these.
-/
import Ark.Proofs.ExchangeCases
import Ark.Proofs.StatsFrame
import Ark.Proofs.TargetsSetRel

set_option autoImplicit false

namespace Ark

open World

namespace World

variable (run : ProbeRunner)

theorem fr_fireCreateEntityIfHas (e : Ent) (mask : Mask) : Fr (fireCreateEntityIfHas run e mask) :=
  Fr.of_skip fun w hno => fireCreateEntityIfHas_none run e mask w (hno _)

theorem fr_fireCreateEntityRelIfHas (e : Ent) (mask : Mask) :
    Fr (fireCreateEntityRelIfHas run e mask) :=
  Fr.of_skip fun w hno => fireCreateEntityRelIfHas_none run e mask w (hno _)

theorem fr_fireAddIfHas (evt : Nat) (e : Ent) (old new : Mask) :
    Fr (fireAddIfHas run evt e old new) :=
  Fr.of_skip fun w hno => fireAddIfHas_none run evt e old new w (hno _)

/-! ## `NewEntity` -/

theorem fr_newEntityCore (ids : List Comp) (rels : List RelID) : Fr (newEntityCore ids rels) := by
  unfold newEntityCore
  refine Fr.bind fr_checkLocked fun _ => ?_
  refine Fr.bind (fr_findOrCreateTableAdd _ _ _ _) fun x => ?_
  obtain ⟨t, a, m⟩ := x
  dsimp only
  refine Fr.bind (fr_placeNew _ _) fun y => ?_
  obtain ⟨e, i⟩ := y
  dsimp only
  refine Fr.bind (fr_registerTargets _) fun _ => ?_
  exact Fr.get_bind' (fun _ _ => rfl) fun w => Fr.pure _

theorem fr_opNewEntity (p : Path) (ids : List Comp) (vals : List (Comp × Val)) (rels : List RelID) :
    Fr (opNewEntity run p ids vals rels) := by
  unfold opNewEntity
  refine Fr.bind (fr_preCheck _ _ _) fun _ => ?_
  refine Fr.bind (fr_newEntityCore _ _) fun x => ?_
  obtain ⟨e, mask⟩ := x
  refine Fr.when_then (fr_writeVals e vals) fun _ => ?_
  refine Fr.bind (fr_fireCreateEntityIfHas run e mask) fun _ => ?_
  refine Fr.when_then (fr_fireCreateEntityRelIfHas run e mask) fun _ => ?_
  exact Fr.when_then (fr_writeVals e vals) fun _ => Fr.pure e

/-! ## `Add`, `Remove`, `Exchange` -/

theorem fr_fireRemoves (e : Ent) (old mask : Mask) (relRemoved : Bool) :
    Fr (fireRemoves run e old mask relRemoved) :=
  Fr.of_skip fun w hno => by
    simp only [fireRemoves, bind, M.bind, M.get, hno _, Bool.and_false, Bool.or_false,
      Bool.false_eq_true, if_false]
    rfl

/-- walked over `exchangeCore_def`, where the observer block and the row move are shared blocks
    (in the definition `do` has copied the tail into both branches of the observer block) -/
theorem fr_exchangeCore (e : Ent) (add rem : List Comp) (rels : List RelID) :
    Fr (exchangeCore run e add rem rels) := by
  rw [exchangeCore_def]
  refine Fr.bind fr_checkLocked fun _ => ?_
  refine Fr.get_bind' (fun _ _ => rfl) fun w => ?_
  refine Fr.bind (Fr.assert _ _) fun _ => ?_
  refine Fr.bind (Fr.assert _ _) fun _ => ?_
  generalize w.index e.id = ix
  obtain ⟨oldT, row⟩ := ix
  dsimp only
  refine Fr.bind (fr_findOrCreateTable _ _ _ _ _) fun x => ?_
  obtain ⟨newT, newA, mask, relRemoved⟩ := x
  dsimp only
  refine Fr.when_then (fr_fireRemoves run e _ mask relRemoved) fun _ => ?_
  refine Fr.bind (fr_addMove e oldT row newT mask) fun _ => ?_
  refine Fr.bind (fr_registerTargets _) fun _ => ?_
  exact Fr.get_bind' (fun _ _ => rfl) fun w => Fr.pure _

/-- `World.add` is `World.exchange` without removals -/
theorem fr_addCore (e : Ent) (add : List Comp) (rels : List RelID) : Fr (addCore e add rels) :=
  addCore_eq_exchangeCore (fun _ _ _ => pure ()) e add rels ▸ fr_exchangeCore _ e add [] rels

theorem fr_opAdd (p : Path) (e : Ent) (ids : List Comp) (vals : List (Comp × Val))
    (rels : List RelID) : Fr (opAdd run p e ids vals rels) := by
  unfold opAdd
  refine Fr.alive_then e _ fun _ => ?_
  refine Fr.bind (fr_preCheck _ _ _) fun _ => ?_
  refine Fr.bind (fr_addCore e ids rels) fun x => ?_
  obtain ⟨old, new⟩ := x
  refine Fr.when_then (fr_writeVals e vals) fun _ => ?_
  refine Fr.bind (fr_fireAddIfHas run _ e old new) fun _ => ?_
  refine Fr.when_then (fr_fireAddIfHas run _ e old new) fun _ => ?_
  exact Fr.when (fr_writeVals e vals)

/-- `World.remove` is `World.exchange` without additions -/
theorem fr_removeCore (e : Ent) (rem : List Comp) : Fr (removeCore run e rem) :=
  removeCore_eq_exchangeCore run e rem ▸
    Fr.bind (fr_exchangeCore run e [] rem []) fun _ => Fr.pure ()

theorem fr_opRemove (p : Path) (e : Ent) (ids : List Comp) : Fr (opRemove run p e ids) := by
  unfold opRemove
  exact Fr.alive_then e _ fun _ => fr_removeCore run e ids


theorem fr_opExchange (p : Path) (e : Ent) (add : List Comp) (vals : List (Comp × Val))
    (rem : List Comp) (rels : List RelID) : Fr (opExchange run p e add vals rem rels) := by
  unfold opExchange
  refine Fr.alive_then e _ fun _ => ?_
  refine Fr.bind (fr_preCheck _ _ _) fun _ => ?_
  refine Fr.bind (fr_exchangeCore run e add rem rels) fun x => ?_
  obtain ⟨old, new⟩ := x
  refine Fr.when_then (fr_writeVals e vals) fun _ => ?_
  have tail := Fr.when (c := (p == Path.unsafe_) = true) (fr_writeVals e vals)
  exact Fr.ite (Fr.bind (fr_fireAddIfHas run _ e old new) fun _ =>
    Fr.when_then (fr_fireAddIfHas run _ e old new) fun _ => tail) tail

/-! ## `Set`, `SetRelations` -/

theorem fr_opSet (e : Ent) (ids : List Comp) (vals : List (Comp × Val)) :
    Fr (opSet run e ids vals) := by
  unfold opSet
  refine Fr.get_bind' (fun _ _ => rfl) fun w => ?_
  refine Fr.bind (Fr.assert _ _) fun _ => ?_
  dsimp only
  refine Fr.bind (Fr.assert _ _) fun _ => ?_
  refine Fr.bind (fr_writeVals _ _) fun _ => ?_
  refine Fr.get_bind_noObs (g := ?g) (fun _ _ => rfl) (fun w hno => ?e) (fun w => ?_)
  case e =>
    simp only [hno _, Bool.false_eq_true, if_false]
    exact rfl
  exact Fr.pure _

theorem fr_getExchangeTargets (T : Table) (rels : List RelID) : Fr (getExchangeTargets T rels) :=
  fun w _ =>
  ⟨fun st => by
      rw [getExchangeTargets_any T rels w (w.setStats st)]
      have hs := getExchangeTargets_state T rels w
      cases hr : getExchangeTargets T rels w with
      | ok r s => rw [hr] at hs; simp only [Res.state] at hs; subst hs; rfl
      | panic k s => rw [hr] at hs; simp only [Res.state] at hs; subst hs; rfl,
    fun a w' h => by
      have hs := getExchangeTargets_state T rels w
      rw [h] at hs
      simp only [Res.state] at hs
      subst hs
      exact RStep.refl _⟩

/-- "the table with these relation targets, found or made", followed by `k` -/
theorem Fr.getOrCreate_then {β : Type} (a : Nat) (rels : List RelID) {k : Nat → W β}
    (hk : ∀ (t : Nat), Fr (k t)) :
    Fr (getTable a rels >>= fun r =>
      match r with
      | some t => Pure.pure t >>= k
      | none => createTable a rels >>= k) :=
  Fr.bind (fr_getTable a rels) fun r => by
    cases r with
    | some t => exact hk t
    | none => exact Fr.bind (fr_createTable a rels) hk

theorem fr_setRelationsCore (e : Ent) (rels : List RelID) : Fr (setRelationsCore run e rels) := by
  unfold setRelationsCore
  refine Fr.bind fr_checkLocked fun _ => ?_
  refine Fr.get_bind' (fun _ _ => rfl) fun w => ?_
  refine Fr.bind (Fr.assert _ _) fun _ => ?_
  refine Fr.bind (Fr.assert _ _) fun _ => ?_
  generalize w.index e.id = ix
  obtain ⟨oldT, row⟩ := ix
  dsimp only
  refine Fr.bind (fr_getExchangeTargets _ _) fun x => ?_
  apply Fr.ite
  · exact Fr.pure _
  refine Fr.getOrCreate_then _ _ fun newT => ?_
  refine Fr.get_bind_noObs (g := ?g) (fun _ _ => rfl) (fun w1 hno => ?e) (fun w1 => ?_)
  case e =>
    simp only [hno _, Bool.false_eq_true, if_false]
    exact rfl
  refine fr_addMove_bind e oldT row newT _ fun _ => ?_
  refine Fr.bind (fr_registerTargets _) fun _ => ?_
  refine Fr.get_bind_noObs (g := ?g2) (fun _ _ => rfl) (fun w2 hno => ?e2) (fun w2 => ?_)
  case e2 =>
    simp only [hno _, Bool.false_eq_true, if_false]
    exact rfl
  exact Fr.pure _

theorem fr_opSetRelations (p : Path) (e : Ent) (mapperIds : List Comp) (rels : List RelID) :
    Fr (opSetRelations run p e mapperIds rels) := by
  unfold opSetRelations
  exact Fr.bind (fr_preCheck _ _ _) fun _ => fr_setRelationsCore run e rels


/-! ## `RemoveEntity` with `cleanupArchetypes` -/

theorem moveEntitiesW_setStats (w : World) (st : WorldStats) (src dst count : Nat) :
    moveEntitiesW (w.setStats st) src dst count = (moveEntitiesW w src dst count).setStats st :=
  setStats_of_put4 (g := (moveEntitiesW · src dst count)) (moveEntitiesW_put4 · · src dst count) w st

theorem fr_moveEntities (src dst count : Nat) : Fr (moveEntities src dst count) :=
  Fr.of_eq (moveEntities_eq src dst count) (fun _ _ => rfl)
    (moveEntitiesW_setStats · · src dst count) fun w => by
      obtain ⟨h1, h2, _, _, _, _, h7, _, _⟩ := moveEntitiesW_fields w src dst count
      exact RStep.of_eq h1 h2
        (moveEntitiesW_keep (·.stats) (fun _ _ _ => rfl) (fun _ _ _ _ => rfl) w src dst count) h7

theorem rstep_modArch (w : World) (a : Nat) (f : Archetype → Archetype)
    (hc : (f (w.arch a)).comps = (w.arch a).comps)
    (hn : (f (w.arch a)).numRel = (w.arch a).numRel) : RStep w (w.modArch a f) :=
  RStep.of_sstep_obs (SStep.modArch w a f hc hn) rfl

/-- the freeing block of the inner loop of `cleanupArchetypes`: the table leaves the active list
    of its archetype -/
theorem rstep_free (w : World) (a tid : Nat) :
    RStep w ((w.modArch a fun A => A.freeTable tid).modTbl tid fun T => { T with isFree := true }) := by
  have h1 := rstep_modArch w a (fun A => A.freeTable tid)
    (Archetype.freeTable_archRel _ tid).comps (Archetype.freeTable_archRel _ tid).numRel
  have h2 : RStep (w.modArch a fun A => A.freeTable tid)
      ((w.modArch a fun A => A.freeTable tid).modTbl tid fun T => { T with isFree := true }) :=
    RStep.of_eq rfl rfl rfl rfl
  exact h1.trans h2

theorem fr_cleanTable (g : Ent) (a tid : Nat) : Fr (cleanTable g a tid) := by
  unfold cleanTable
  refine Fr.get_bind' (fun _ _ => rfl) fun w => ?_
  dsimp only
  have tail : Fr ((M.modify fun w => (w.modArch a fun A => A.freeTable tid).modTbl tid
      fun T => { T with isFree := true }) >>= fun _ => (M.modify fun w => w.cacheRemoveTable tid : W Unit)) :=
    Fr.bind (Fr.modify (fun _ _ => rfl) fun w => rstep_free w a tid) fun _ =>
      Fr.modify (fun _ _ => rfl) fun _ => RStep.of_eq rfl rfl rfl rfl
  apply Fr.ite
  · split
    · exact Fr.bind (Fr.panic _) fun _ => tail
    · exact Fr.getOrCreate_then _ _ fun nt => Fr.bind (fr_moveEntities _ _ _) fun _ => tail
  · exact tail

theorem fr_cleanArch (g : Ent) (a : Nat) : Fr (cleanArch g a) := by
  unfold cleanArch
  refine Fr.get_bind' (fun _ _ => rfl) fun w => ?_
  split
  · exact Fr.pure _
  · refine Fr.bind (Fr.forM' _ (fr_cleanTable g a)) fun _ => ?_
    exact Fr.modify (fun _ _ => rfl) fun w => rstep_modArch w a _ rfl rfl

/-- **`cleanupArchetypes`** — relation tables are emptied into (recycled or new) tables and
    freed: archetypes keep their component lists, the statistics object is not touched -/
theorem fr_cleanupArchetypes (g : Ent) : Fr (cleanupArchetypes g) := by
  have h : Fr (M.get >>= fun w => M.forM' w.relationArchetypes (cleanArch g)) :=
    Fr.get_bind' (fun _ _ => rfl) fun w => Fr.forM' _ (fr_cleanArch g)
  exact h


theorem fr_opRemoveEntity (e : Ent) : Fr (opRemoveEntity run e) := by
  unfold opRemoveEntity
  refine Fr.bind fr_checkLocked fun _ => ?_
  refine Fr.get_bind_noObs (g := ?g) (fun _ _ => rfl) (fun w hno => ?e) (fun w => ?_)
  case e =>
    simp only [hno _, Bool.and_false, Bool.or_false, Bool.false_eq_true, if_false]
    exact rfl
  refine Fr.bind (Fr.assert _ _) fun _ => ?_
  generalize w.index e.id = ix
  obtain ⟨t, row⟩ := ix
  dsimp only
  refine Fr.bind (Fr.modify (g := fun w => removeRowOf w e t row) (removeRowOf_setStats · · e t row)
    fun w => RStep.of_sstep_obs (SStep.removeRowOf w e t row) (Quiet.removeRowOf w e t row).obs)
    fun _ => ?_
  refine Fr.get_bind' (fun _ _ => rfl) fun w => ?_
  apply Fr.ite
  · exact Fr.bind (fr_cleanupArchetypes e) fun _ =>
      Fr.modify (fun _ _ => rfl) fun _ => RStep.of_eq rfl rfl rfl rfl
  · exact Fr.pure _

/-! ## `CopyEntity`, `NewEntity()` -/

theorem fr_opCopyEntity (src : Ent) : Fr (opCopyEntity run src) := by
  unfold opCopyEntity
  refine Fr.bind fr_checkLocked fun _ => ?_
  refine Fr.get_bind' (fun _ _ => rfl) fun w => ?_
  refine Fr.bind (Fr.assert _ _) fun _ => ?_
  generalize w.index src.id = ix
  obtain ⟨t, row⟩ := ix
  dsimp only
  refine Fr.bind (fr_placeNew _ _) fun y => ?_
  obtain ⟨e, idx⟩ := y
  dsimp only
  refine Fr.bind (Fr.modify (fun _ _ => rfl) fun _ => RStep.of_eq rfl rfl rfl rfl) fun _ => ?_
  refine Fr.get_bind' (fun _ _ => rfl) fun w => ?_
  refine Fr.bind (fr_fireCreateEntityIfHas run e _) fun _ => ?_
  exact Fr.when_then (fr_fireCreateEntityRelIfHas run e _) fun _ => Fr.pure e

theorem fr_opNewEntity0 : Fr (opNewEntity0 run) := by
  unfold opNewEntity0
  refine Fr.bind fr_checkLocked fun _ => ?_
  refine Fr.bind (fr_placeNew _ _) fun y => ?_
  obtain ⟨e, i⟩ := y
  exact Fr.get_bind' (fun _ _ => rfl) fun w =>
    Fr.bind (fr_fireCreateEntityIfHas run e _) fun _ => Fr.pure e

/-! ## `RegisterComponent`, `Shrink`, `Reset`: at a world that meets their preconditions -/

theorem frAt_registerComponent {w : World} (hS : SInvMid w) (k : CompKind) :
    FrAt (registerComponent k) w :=
  ⟨indep_registerComponent k w, fun _ _ h =>
    RStep.of_sstep_obs (SStep.registerComponent hS h) (registerComponent_obs h)⟩

/-- `Shrink` on any world: relation tables that are empty are freed -/
theorem rstep_shrinkPure (w : World) (bounded : Bool) : RStep w (shrinkPure w bounded).1 :=
  shrinkPure_induct (fun w' => RStep w w')
    (fun w' t h => h.trans (RStep.of_sstep_obs (SStep.shrinkStep w' t)
      (shrinkStep_sameFrame w' t).obs)) bounded w (RStep.refl w)

theorem frAt_opShrink {w : World} (hl : w.isLocked = false) (bounded : Bool) :
    FrAt (opShrink bounded) w :=
  ⟨fun st => by
      rw [opShrink_eq bounded _ hl, opShrink_eq bounded (w.setStats st) hl, shrinkPure_setStats]; rfl,
    fun _ _ h => by
      rw [opShrink_eq bounded _ hl] at h
      injection h with _ h; subst h
      exact rstep_shrinkPure w bounded⟩

/-- `Reset` keeps the archetypes, frees all relation tables, unregisters all observers and does
    not touch the statistics object -/
theorem frAt_opReset {w : World} (hl : w.isLocked = false) (hS : SInv w) : FrAt opReset w :=
  ⟨fun st => by
      rw [opReset_eq _ hl, opReset_eq (w.setStats st) hl, resetW_setStats]; rfl,
    fun _ _ h => by
      rw [opReset_eq _ hl] at h
      injection h with _ h; subst h
      exact ⟨SStep.reset hS, fun hn evt => by
        show ((resetW w).obs.evt evt).hasObservers = false
        rw [resetW_obs]; exact ObsMgr.reset_noObs hn evt⟩⟩

end World

/-- an action and the action that relabels its result have the same frame: how the machines
    wrap the operations of the model (`exec`) -/
theorem FrAt.of_map {α β : Type} {m : W α} {m' : W β} {w : World} (h : FrAt m w) (f : α → β)
    (hm : ∀ (w : World), m' w =
      match m w with
      | .ok a w' => .ok (f a) w'
      | .panic k w' => .panic k w') : FrAt m' w := by
  constructor
  · intro st
    rw [hm, hm, h.1 st]
    cases m w <;> rfl
  · intro b w' hok
    rw [hm] at hok
    cases hmw : m w with
    | ok a w1 =>
      rw [hmw] at hok
      injection hok with _ h2
      subst h2
      exact h.2 a w1 hmw
    | panic k w1 => rw [hmw] at hok; cases hok

end Ark
