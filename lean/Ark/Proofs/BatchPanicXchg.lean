/-
  C07 + C10 for the batch operations: a rejected batch leaves the lock state as it was and changes no
  entity.  The add / remove / exchange batches of the non-relation fragment (`CInv`); `SetRelationsBatch`
  (`TInv`; the tables the lookup loop created before it failed remain); the exchange batches over relation
  tables, and what holds of the lock without any invariant (the lock is taken after the lookup loops,
  defect D27).
-/
import Ark.Proofs.BatchRelSet
import Ark.Proofs.RelExchangeBatchLoops

section

/-! ## §1 the non-relation fragment

  `exchangeBatch` takes the world lock only after the lookup loop (defect D27), so every panic that
  is not a callback's own comes from before that point: the entry checks, the table selection, the
  lookup loop — none of which writes the lock or a table that existed.
-/

set_option autoImplicit false

namespace Ark

open Ark.Props.C01World

namespace World

/-- `findOrCreateTable` fails where its mask walk fails, the world unchanged -/
theorem findOrCreateTable_graphFind_panic {t : Nat} {m : Mask} {add rem : List Comp}
    {rels : List RelID} {w : World} {k : PanicKind}
    (h : graphFind m m add rem w = .panic k w) :
    findOrCreateTable t m add rem rels w = .panic k w := by
  simp only [findOrCreateTable, bind, M.bind, h]

/-- **one table lookup of the batch, whatever the arguments**: it fails in the mask walk with the
    world unchanged (the precondition of `Exchange(add, rem)` does not hold on the table's mask), or
    it succeeds, keeps the invariant and extends the world by at most one table -/
theorem findOrCreateTable_any {w : World} {fl : List Nat} (h : CInv w fl) {t : Nat}
    (ht : t < w.tables.length) {add rem : List Comp} (hne : ¬ (add = [] ∧ rem = []))
    (hreg : ∀ (c : Comp), c ∈ add → c < w.kinds.length) (hfew : w.tables.length < maxU32) :
    (∃ (x : Nat × Nat × Mask × Bool) (w' : World),
      findOrCreateTable t (tmask w t) add rem [] w = .ok x w' ∧ CInv w' fl ∧ Ext w w' ∧
      w'.tables.length ≤ w.tables.length + 1) ∨
    (∃ (k : PanicKind), findOrCreateTable t (tmask w t) add rem [] w = .panic k w ∧
      ¬ ExchOK w.kinds.length add rem (tmask w t)) := by
  by_cases hc : rem.Nodup ∧ (∀ (c : Comp), c ∈ rem → (tmask w t).get c = true) ∧ add.Nodup ∧
      ∀ (c : Comp), c ∈ add → (tmask w t).get c = false
  · left
    have ok : ExchOK w.kinds.length add rem (tmask w t) := ⟨hc.1, hc.2.1, hc.2.2.1, hreg, hc.2.2.2⟩
    obtain ⟨d, a, w', hfoc, h', e', _, _, _, hl'⟩ := findOrCreateTable_step h ht hne ok hfew
    exact ⟨_, w', hfoc, h', e', hl'⟩
  · right
    obtain ⟨k, _, hk⟩ := graphFind_bad (tmask w t) add rem w (fun c hc' => h.reg_lt_256 (hreg c hc')) hc
    exact ⟨k, findOrCreateTable_graphFind_panic hk,
      fun ok => hc ⟨ok.remNodup, ok.pres, ok.addNodup, ok.new⟩⟩

/-- **the lookup loop, whatever its outcome**: the state it ends in — after the last lookup, or
    where a lookup failed — satisfies the invariant and extends the start world -/
theorem findLoop_any {fl : List Nat} {add rem : List Comp} (hne : ¬ (add = [] ∧ rem = [])) :
    ∀ (ts : List Nat) (s : Bool × List BatchTable) (w : World), CInv w fl →
    (∀ (c : Comp), c ∈ add → c < w.kinds.length) →
    w.tables.length + ts.length < maxU32 →
    CInv (findLoop add rem ts s w).state fl ∧ Ext w (findLoop add rem ts s w).state
  | [], _, w, h, _, _ => ⟨h, Ext.refl w⟩
  | t :: ts, s, w, h, hreg, hfew => by
    simp only [List.length_cons] at hfew
    simp only [findLoop]
    split
    · exact findLoop_any hne ts s w h hreg (by omega)
    · rename_i hlen
      have ht : t < w.tables.length := by
        apply tbl_len_pos_lt (r := 0)
        have : (w.tbl t).len ≠ 0 := by simpa using hlen
        omega
      rcases findOrCreateTable_any h ht hne hreg (by omega) with ⟨x, w', hfoc, h', e', hl'⟩ | ⟨k, hk, _⟩
      · have hfoc' : findOrCreateTable t (w.arch (w.tbl t).arch).mask add rem [] w = .ok x w' := hfoc
        rw [hfoc']
        simp only
        have ih := findLoop_any hne ts
          (if x.2.2.2 = true then (true, s.2 ++ [{ oldT := t, newT := x.1, len := (w.tbl t).len }])
            else (s.1, s.2 ++ [{ oldT := t, newT := x.1, len := (w.tbl t).len }])) w' h'
          (fun c hc => by rw [e'.kinds]; exact hreg c hc) (by omega)
        exact ⟨ih.1, e'.trans ih.2⟩
      · have hk' : findOrCreateTable t (w.arch (w.tbl t).arch).mask add rem [] w = .panic k w := hk
        rw [hk']
        exact ⟨h, Ext.refl w⟩

/-- a lock on which `Lock()` succeeds — what `LockFree` guarantees — keeps doing so in a world
    with the same lock -/
theorem lockFree_cycle_of_eq {w w1 : World} (hL : LockFree w.locks) (he : w1.locks = w.locks) :
    ∃ (l' : Lock) (b : Nat) (l'' : Lock), w1.locks.lock = some (l', b) ∧
      l'.unlock b = some l'' := by
  obtain ⟨l', b, l'', k1, _, k3, _, _⟩ := hL.cycle
  exact ⟨l', b, l'', by rw [he]; exact k1, k3⟩

/-- **a rejected add / remove / exchange batch** (with or without callback) on an unlocked world
    of the fragment, uncached filter, the added components registered: whatever makes
    `exchangeBatch` panic, the world it leaves satisfies the invariant with the same free list and
    extends the start world — in particular the LOCK is the one before the call, observers and
    log are the same (no callback ran), the entity index, the pool and every table that existed
    are unchanged.  (The archetypes and tables the lookup loop created before it failed remain.) -/
theorem exchangeBatch_panic_frame (run : ProbeRunner) {w : World} {fl : List Nat} (h : CInv w fl)
    (hl : w.isLocked = false) (hL : LockFree w.locks) (fo : FilterObj) (extra : List RelID)
    (hc : fo.cache = none) {add rem : List Comp}
    (hreg : ∀ (c : Comp), c ∈ add → c < w.kinds.length)
    (hfew : w.tables.length + (selTables w fo.filter).length < maxU32)
    (vals : Option (List (Comp × Val))) {k : PanicKind} {w' : World}
    (hp : exchangeBatch run fo extra add rem [] vals w = .panic k w') :
    CInv w' fl ∧ Ext w w' := by
  by_cases hne : add = [] ∧ rem = []
  · -- "at least one component required": rejected by the entry check
    obtain ⟨rfl, rfl⟩ := hne
    rw [exchangeBatch_rejects_empty run fo extra [] [] [] vals w hl rfl] at hp
    injection hp with _ hw
    subst hw
    exact ⟨h, Ext.refl w⟩
  · have hneB := isEmpty_and_eq_false hne
    have hts := getBatchTables_frag h fo extra hc
    have hany := findLoop_any (fl := fl) hne (selTables w fo.filter) (false, []) w h hreg hfew
    cases hf : findLoop add rem (selTables w fo.filter) (false, []) w with
    | panic k1 w1 =>
      rw [exchangeBatch_findLoop_panic run fo extra add rem vals w hl hneB hts hf] at hp
      injection hp with _ hw
      subst hw
      rw [hf] at hany
      exact hany
    | ok x w1 =>
      exfalso
      obtain ⟨rr, bts⟩ := x
      rw [hf] at hany
      obtain ⟨h1, e1⟩ := hany
      simp only [Res.state] at h1 e1
      obtain ⟨l', b, l'', k1, k3⟩ := lockFree_cycle_of_eq (w1 := w1) hL e1.untouched.locks
      have hno1 : ∀ (evt : Nat), w1.obs.hasObservers evt = false := by
        intro evt; rw [e1.untouched.obs]; exact h.noObs evt
      rw [exchangeBatch_eq_planFirst run fo extra add rem vals w hl hneB hts hf k1 hno1,
        unlock_ok (by rw [foldl_moveStep_locks]; exact k3)] at hp
      cases hp

/-- **C07 + C10 for `AddBatch` / `RemoveBatch` / `ExchangeBatch` and their `…Fn` forms** (no
    relations, no observers — the fragment `CInv`; uncached filter; the added components
    registered): if the call panics, then the world is NOT locked, its lock state is exactly the
    one before the call, every entity has the components and values it had, every handle is as
    alive as it was, pool and log are the same, and the invariant still holds — the call was
    rejected without effect on any entity, and every specification of the fragment applies to the
    world it leaves. -/
theorem opExchangeBatch_panic_unlocked (run : ProbeRunner) (p : Path) {w : World} {fl : List Nat}
    (h : CInv w fl) (hl : w.isLocked = false) (hL : LockFree w.locks) (fo : FilterObj)
    (extra : List RelID) (hc : fo.cache = none) {add rem : List Comp}
    (hreg : ∀ (c : Comp), c ∈ add → c < w.kinds.length)
    (hfew : w.tables.length + (selTables w fo.filter).length < maxU32)
    (vals : Option (List (Comp × Val))) {k : PanicKind} {w' : World}
    (hp : opExchangeBatch run p fo extra add rem [] vals w = .panic k w') :
    w'.isLocked = false ∧ w'.locks = w.locks ∧ LockFree w'.locks ∧
    (∀ (j : Nat), SameEnt w w' j) ∧ (∀ (x : Ent), w'.alive x = w.alive x) ∧
    w'.pool = w.pool ∧ w'.entities = w.entities ∧ w'.log = w.log ∧ w'.obs = w.obs ∧
    (∀ (t : Nat), t < w.tables.length → w'.tbl t = w.tbl t) ∧ CInv w' fl := by
  rw [opExchangeBatch_eq_exchangeBatch] at hp
  obtain ⟨h', e⟩ := exchangeBatch_panic_frame run h hl hL fo extra hc hreg hfew vals hp
  have hlk : w'.locks = w.locks := e.untouched.locks
  refine ⟨?_, hlk, by rw [hlk]; exact hL, fun j => same_of_prefix h.idx e.entities e.tables j,
    fun x => by simp only [World.alive, e.pool], e.pool, e.entities, e.log, e.untouched.obs,
    fun t ht => e.tbl ht, h'⟩
  show w'.locks.isLocked = false
  rw [hlk]; exact hl

end World

end Ark

end

section

/-! ## §2 `SetRelationsBatch`

  Worlds with relations: the invariant `TInv`.  `setRelationsBatch` takes the world lock only
  after the lookup loop (`prepLoop`; defect D27), immediately before the first callback round.

  The tables the lookup loop created before it failed remain, and the targets they hold have not
  been flagged (`registerTargets` runs after the loop — in the Go code as in the model), so the
  full invariant `TInv` (its field `flags`) need NOT hold after a rejected batch, only
  `FlagsOKUpTo`; see the example in Ark/Props/C07Batch.lean.
-/

set_option autoImplicit false

namespace Ark

open World Ark.Props.C01World QueryRel

namespace World

/-! ### `getExchangeTargets`: success means the relations were well-formed for the table -/

theorem getExchangeTargets_go_ok_inv (T : Table) (w : World) : ∀ (rels : List RelID)
    (ts : List Ent) (ch : Bool) (cm : Mask) (seen : List Comp) {x : List Ent × Bool × Mask}
    {w' : World}, getExchangeTargets.go T w ts ch cm seen rels = .ok x w' →
    (∀ (r : RelID), r ∈ rels → ∃ (i : Nat), T.colIdx r.comp = some i ∧
      T.isRel.getD i false = true) ∧
    (rels.map (·.comp)).Nodup ∧ ∀ (r : RelID), r ∈ rels → r.comp ∉ seen
  | [], _, _, _, _, _, _, _ =>
    ⟨fun _ h => absurd h List.not_mem_nil, List.nodup_nil, fun _ h => absurd h List.not_mem_nil⟩
  | r :: rest, ts, ch, cm, seen, x, w', h => by
    simp only [getExchangeTargets.go] at h
    cases hs : seen.contains r.comp with
    | true => rw [hs] at h; simp only [if_true] at h; cases h
    | false =>
      rw [hs] at h
      simp only [Bool.false_eq_true, if_false] at h
      have hns : r.comp ∉ seen := fun hm => by
        rw [List.contains_iff_mem.2 hm] at hs; cases hs
      cases hc : T.colIdx r.comp with
      | none => rw [hc] at h; cases h
      | some i =>
        rw [hc] at h
        simp only at h
        cases hr : T.isRel.getD i false with
        | false => rw [hr] at h; simp only [Bool.not_false, if_true] at h; cases h
        | true =>
          rw [hr] at h
          simp only [Bool.not_true, Bool.false_eq_true, if_false] at h
          have key : ∀ {ts' : List Ent} {ch' : Bool} {cm' : Mask},
              getExchangeTargets.go T w ts' ch' cm' (r.comp :: seen) rest = .ok x w' →
              (∀ (r' : RelID), r' ∈ r :: rest → ∃ (i : Nat), T.colIdx r'.comp = some i ∧
                T.isRel.getD i false = true) ∧
              ((r :: rest).map (·.comp)).Nodup ∧ ∀ (r' : RelID), r' ∈ r :: rest → r'.comp ∉ seen := by
            intro ts' ch' cm' h'
            obtain ⟨a, b, c⟩ := getExchangeTargets_go_ok_inv T w rest ts' ch' cm' (r.comp :: seen) h'
            refine ⟨?_, ?_, ?_⟩
            · intro r' hr'
              rcases List.mem_cons.1 hr' with rfl | hm
              · exact ⟨i, hc, hr⟩
              · exact a r' hm
            · rw [List.map_cons, List.nodup_cons]
              refine ⟨?_, b⟩
              intro hm
              obtain ⟨r', hr', he⟩ := List.mem_map.1 hm
              exact c r' hr' (by rw [he]; exact List.mem_cons_self)
            · intro r' hr'
              rcases List.mem_cons.1 hr' with rfl | hm
              · exact hns
              · exact fun hin => c r' hm (List.mem_cons_of_mem _ hin)
          split at h
          · exact key h
          · exact key h

/-- **when `getExchangeTargets` returns**, every relation names a relation column of the table and
    no component is named twice -/
theorem getExchangeTargets_ok_inv {T : Table} {rels : List RelID} {w w' : World}
    {x : List RelID × Bool × Mask} (h : getExchangeTargets T rels w = .ok x w') :
    (∀ (r : RelID), r ∈ rels → ∃ (i : Nat), T.colIdx r.comp = some i ∧
      T.isRel.getD i false = true) ∧ (rels.map (·.comp)).Nodup := by
  unfold getExchangeTargets at h
  cases hg : getExchangeTargets.go T w T.targets false Mask.empty [] rels with
  | panic k s => rw [hg] at h; cases h
  | ok y s =>
    obtain ⟨a, b, _⟩ := getExchangeTargets_go_ok_inv T w rels T.targets false Mask.empty [] hg
    exact ⟨a, b⟩

end World

/-! ### `getOrCreate`: a panic leaves the world unchanged -/

/-- `createTable` fails only in its argument checks (too few relations, a component named twice or
    missing, a target that is neither zero nor alive), before it touches the storage -/
theorem createTable_panic_unchanged {w w1 : World} (hS : SInvMid w) (hc : CacheRelsOK w) {a : Nat}
    {rels : List RelID} (ha : a < w.archetypes.length)
    (hnr : (w.arch a).hasRelations = false → (w.arch a).tables.tables = []) {k : PanicKind}
    (hp : createTable a rels w = .panic k w1) : w1 = w := by
  have hp' := hp
  rw [createTable_eq] at hp'
  split at hp'
  · injection hp' with _ hw; exact hw.symm
  · rename_i hlen
    split at hp'
    · injection hp' with _ hw; exact hw.symm
    · rename_i hchk
      split at hp'
      · rename_i hv
        obtain ⟨hnd, hcol⟩ := (checkRelList_nil_eq_none_iff _ _).1 hchk
        obtain ⟨nt, w2, hct, _⟩ := hS.createTable_total hc ha hnr (by omega) hcol hnd hv
        rw [hct] at hp
        cases hp
      · injection hp' with _ hw; exact hw.symm

/-- the lookup `getTable` never changes the world, and `createTable` fails before it does -/
theorem getOrCreate_panic_unchanged {w w1 : World} (hS : SInvMid w) (hc : CacheRelsOK w) {a : Nat}
    {rels : List RelID} (ha : a < w.archetypes.length) {k : PanicKind}
    (hp : getOrCreate a rels w = .panic k w1) : w1 = w := by
  have hst := getTable_state a rels w
  simp only [getOrCreate, bind, M.bind] at hp
  cases hg : getTable a rels w with
  | panic k1 s =>
    rw [hg] at hp hst
    injection hp with _ hw
    rw [← hw]; exact hst
  | ok r s =>
    rw [hg] at hp hst
    simp only [Res.state] at hst
    subst hst
    cases r with
    | some t => cases hp
    | none =>
      refine createTable_panic_unchanged hS hc ha (fun hr => ?_) hp
      rw [getTable_noRel _ hr] at hg
      injection hg with hg _
      split at hg
      · rename_i he; exact List.isEmpty_iff.1 he
      · cases hg

/-! ### the lookup loop of `setRelationsBatch`, whatever its outcome -/

/-- what the lookup loop of `setRelationsBatch` keeps, whatever the arguments: `w0` = the world
    the loop started in, `w1` = the current world -/
structure PrepKeep (rels : List RelID) (w0 w1 : World) : Prop where
  rel : RelInv w1
  idx : IdxInv w1
  flags : FlagsOKUpTo w1 rels
  freeEmpty : FreeEmpty w1
  qk : QKeep w0 w1
  entities : w1.entities = w0.entities
  pool : w1.pool = w0.pool
  isTarget : w1.isTarget = w0.isTarget
  kinds : w1.kinds = w0.kinds
  obs : w1.obs = w0.obs
  locks : w1.locks = w0.locks
  log : w1.log = w0.log
  maxComps : w1.maxComps = w0.maxComps
  /-- the non-free tables of the start world are untouched -/
  keepT : ∀ (t : Nat), t < w0.tables.length → (w0.tbl t).isFree = false →
    w1.tables[t]? = w0.tables[t]?
  tablesLe : w0.tables.length ≤ w1.tables.length
  frame : ∀ (j : Nat), SameEnt w0 w1 j ∧ ∀ (c : Comp), targetOf w1 j c = targetOf w0 j c

theorem PrepKeep.init {w : World} {fl : List Nat} (h : TInv w fl) (rels : List RelID) :
    PrepKeep rels w w :=
  { rel := h.rel, idx := h.link.idx, flags := h.flags.upTo rels, freeEmpty := h.freeEmpty
    qk := QKeep.refl _, entities := rfl, pool := rfl, isTarget := rfl, kinds := rfl, obs := rfl
    locks := rfl, log := rfl, maxComps := rfl, keepT := fun _ _ _ => rfl, tablesLe := Nat.le_refl _
    frame := fun _ => ⟨⟨fun _ => rfl, rfl⟩, fun _ => rfl⟩ }

theorem getOrCreate_log {a : Nat} {rels : List RelID} {w w1 : World} {nt : Nat}
    (h : getOrCreate a rels w = .ok nt w1) : w1.log = w.log := by
  have := ((commutes_getOrCreate a rels).frames.state_frame w).2.1
  rw [h] at this
  exact this

/-- **one iteration of the lookup loop, whatever the arguments**: `prepareRelationsMove` on a
    non-empty table either returns and keeps `PrepKeep`, or panics with the world unchanged -/
theorem prepStep_any {rels : List RelID} {w0 w1 : World} (hI : PrepKeep rels w0 w1) {t : Nat}
    (hrows : (w1.tbl t).len ≠ 0) (n : Nat) :
    (∃ (o : Option RelMove) (w2 : World),
      prepareRelationsMove t n rels w1 = .ok o w2 ∧ PrepKeep rels w0 w2) ∨
    (∃ (k : PanicKind), prepareRelationsMove t n rels w1 = .panic k w1) := by
  have hS := hI.rel.sinv.toSInvMid
  have hlt1 : t < w1.tables.length := tbl_len_pos_lt (r := 0) (by omega)
  have hT1 := get_of_lt hlt1
  have hTf1 : (w1.tbl t).isFree = false := by
    cases hf : (w1.tbl t).isFree with
    | false => rfl
    | true => exact absurd (hI.freeEmpty t _ hT1 hf) hrows
  rw [prepareRelationsMove_eq]
  have hst := getExchangeTargets_state (w1.tbl t) rels w1
  cases hx : getExchangeTargets (w1.tbl t) rels w1 with
  | panic k s =>
    rw [hx] at hst
    simp only [Res.state] at hst
    subst hst
    exact Or.inr ⟨k, rfl⟩
  | ok y s =>
    rw [hx] at hst
    simp only [Res.state] at hst
    subst hst
    obtain ⟨hcols1, hnd⟩ := getExchangeTargets_ok_inv hx
    obtain ⟨ch, cm, hx', _, htrue⟩ := getExchangeTargets_spec (s.tbl t) rels s hcols1 hnd
    rw [hx'] at hx
    injection hx with hy _
    subst hy
    cases ch with
    | false => exact Or.inl ⟨none, s, by simp, hI⟩
    | true =>
      simp only [if_true]
      cases hgo : getOrCreate (s.tbl t).arch
          (colRels (s.tbl t).ids (setTargets (s.tbl t).colIdx rels (s.tbl t).targets)
            (s.tbl t).isRel) s with
      | panic k w2 =>
        have := getOrCreate_panic_unchanged hS hI.rel.aux.cacheRels
          (by obtain ⟨A, hA, _⟩ := hS.tblArch t _ hT1; exact alt_of_get hA) hgo
        subst this
        exact Or.inr ⟨k, rfl⟩
      | ok nt w2 =>
        left
        obtain ⟨rel2, hI2, hF2, hE2, cg, _⟩ := relAssign_of_ok hI.rel hI.idx hI.flags hI.freeEmpty
          hlt1 hTf1 hnd hcols1 (htrue rfl) hgo
        refine ⟨some ⟨t, nt, n, 0, cm⟩, w2, rfl, ?_⟩
        have hf1 := cg.frame hI.idx hI.freeEmpty
        exact
          { rel := rel2, idx := hI2, flags := hF2, freeEmpty := hE2
            qk := hI.qk.trans (getOrCreate_qkeep hgo)
            entities := cg.entities.trans hI.entities
            pool := cg.pool.trans hI.pool
            isTarget := cg.isTarget.trans hI.isTarget
            kinds := cg.kinds.trans hI.kinds
            obs := cg.obs.trans hI.obs
            locks := cg.locks.trans hI.locks
            log := (getOrCreate_log hgo).trans hI.log
            maxComps := cg.maxComps.trans hI.maxComps
            keepT := by
              intro t0 h1 h2
              have k1 := hI.keepT t0 h1 h2
              rw [← k1]
              exact cg.keepT (Nat.lt_of_lt_of_le h1 hI.tablesLe) (by rw [tbl_eq_of_get k1]; exact h2)
            tablesLe := Nat.le_trans hI.tablesLe cg.tablesLe
            frame := fun j => ⟨(hI.frame j).1.trans (hf1 j).1, fun c => by
              rw [(hf1 j).2 c, (hI.frame j).2 c]⟩ }

/-- **the lookup loop, whatever its outcome**: the state it ends in — after the last table, or
    where `prepareRelationsMove` failed — satisfies `PrepKeep` -/
theorem prepLoop_any {rels : List RelID} {w0 : World} : ∀ (ts : List Nat) (s : List RelMove)
    (w1 : World), PrepKeep rels w0 w1 → PrepKeep rels w0 (prepLoop rels ts s w1).state
  | [], _, _, hI => hI
  | t :: ts, s, w1, hI => by
    simp only [prepLoop]
    split
    · exact prepLoop_any ts s w1 hI
    · rename_i hlen
      have hrows : (w1.tbl t).len ≠ 0 := by simpa using hlen
      rcases prepStep_any hI hrows (w1.tbl t).len with ⟨o, w2, hok, hI2⟩ | ⟨k, hk⟩
      · rw [hok]
        cases o with
        | none => exact prepLoop_any ts s w2 hI2
        | some mv => exact prepLoop_any ts (s ++ [mv]) w2 hI2
      · rw [hk]
        exact hI

/-! ### the batch -/

/-- **a rejected `SetRelationsBatch`** (with or without callback) on an unlocked world satisfying
    `TInv`, without observers, uncached filter: whatever makes `setRelationsBatch` panic, the world
    it leaves satisfies `PrepKeep` — in particular the LOCK is the one before the call, observers
    and log are the same (no callback ran), every entity reads the same components, values and
    relation targets, pool and flags are unchanged, the structural invariants hold.  (The tables
    the lookup loop created before it failed remain, their targets not flagged: `FlagsOKUpTo`.) -/
theorem setRelationsBatch_panic_frame (run : ProbeRunner) {w : World} {fl : List Nat}
    (h : TInv w fl) (hl : w.isLocked = false) (hL : LockFree w.locks)
    (hno : ∀ (evt : Nat), w.obs.hasObservers evt = false) (fo : FilterObj) (extra : List RelID)
    (hc : fo.cache = none) (rels : List RelID) (withFn : Bool) {k : PanicKind} {w' : World}
    (hp : setRelationsBatch run fo extra rels withFn w = .panic k w') : PrepKeep rels w w' := by
  have hinit := PrepKeep.init h rels
  cases hne : rels.isEmpty with
  | true =>
    have : setRelationsBatch run fo extra rels withFn w = .panic .noRelations w := by
      unfold setRelationsBatch
      simp only [M.bind_apply, checkLocked_unlocked w hl, M.assert_apply, hne, Bool.not_true,
        Bool.false_eq_true, if_false]
    rw [this] at hp
    injection hp with _ hw
    subst hw
    exact hinit
  | false =>
    have e1 := getBatchTables_uncached fo extra w hc
    cases hx : w.getCacheTables fo.filter (fo.rels ++ extra) with
    | none =>
      rw [hx] at e1
      have : setRelationsBatch run fo extra rels withFn w = .panic .runtime w := by
        unfold setRelationsBatch
        simp only [M.bind_apply, checkLocked_unlocked w hl, M.assert_apply, hne, Bool.not_false,
          if_true, e1]
      rw [this] at hp
      injection hp with _ hw
      subst hw
      exact hinit
    | some ts =>
      rw [hx] at e1
      have hany := prepLoop_any ts [] w hinit
      cases hf : prepLoop rels ts [] w with
      | panic k1 w1 =>
        rw [setRelationsBatch_prepLoop_panic run fo extra rels withFn w hl hne e1 hf] at hp
        injection hp with _ hw
        subst hw
        rw [hf] at hany
        exact hany
      | ok moves w1 =>
        exfalso
        rw [hf] at hany
        simp only [Res.state] at hany
        obtain ⟨l', b, l'', k1, _, k3, _, _⟩ := hL.cycle
        have hlk1 : w1.locks.lock = some (l', b) := by rw [hany.locks]; exact k1
        have hno1 : ∀ (evt : Nat), w1.obs.hasObservers evt = false := by
          intro evt; rw [hany.obs]; exact hno evt
        rw [setRelationsBatch_after_prep run fo extra rels withFn w hl hne e1 hf hlk1 hno1,
          unlock_ok (by
            show (moves.foldl (moveStepRF withFn) { w1 with locks := l' }).locks.unlock b = some l''
            rw [foldl_moveStepRF_locks]; exact k3)] at hp
        cases hp

/-- **C07 + C10 for `SetRelationsBatch` / `SetRelationsBatchFn`** (worlds with relations: `TInv`;
    no observers; uncached filter): if the call panics — in the pre-validation of the arguments,
    in the entry checks, or in the lookup loop (a relation component the table lacks or that is
    no relation, a component named twice, a dead target found late, …) — then the world is NOT
    locked, its lock state is exactly the one before the call, every entity has the components,
    values and relation targets it had, every handle is as alive as it was; pool, flags, observers
    and log are the same. -/
theorem opSetRelationsBatch_panic_unlocked (run : ProbeRunner) (p : Path) {w : World}
    {fl : List Nat} (h : TInv w fl) (hl : w.isLocked = false) (hL : LockFree w.locks)
    (hno : ∀ (evt : Nat), w.obs.hasObservers evt = false) (fo : FilterObj) (extra : List RelID)
    (hc : fo.cache = none) (mapperIds : List Comp) (rels : List RelID) (withFn : Bool)
    {k : PanicKind} {w' : World}
    (hp : opSetRelationsBatch run p fo extra mapperIds rels withFn w = .panic k w') :
    w'.isLocked = false ∧ w'.locks = w.locks ∧
    (∀ (j : Nat), SameEnt w w' j ∧ ∀ (c : Comp), targetOf w' j c = targetOf w j c) ∧
    (∀ (x : Ent), w'.alive x = w.alive x) ∧ PrepKeep rels w w' := by
  have key : PrepKeep rels w w' := by
    unfold opSetRelationsBatch at hp
    simp only [bind, M.bind] at hp
    rw [preCheck_eq] at hp
    cases hv : relsVerdict w (checkMask p mapperIds) rels with
    | none =>
      rw [hv] at hp
      exact setRelationsBatch_panic_frame run h hl hL hno fo extra hc rels withFn hp
    | some k1 =>
      rw [hv] at hp
      injection hp with _ hw
      subst hw
      exact PrepKeep.init h rels
  refine ⟨?_, key.locks, key.frame, fun x => by simp only [World.alive, key.pool], key⟩
  show w'.locks.isLocked = false
  rw [key.locks]; exact hl

end Ark

end

section

/-! ## §3 the exchange batches over relation tables

  `exchangeBatch` with relation targets under the invariant `TInv`, and what holds of the lock
  without any invariant: the lookup loops neither read nor write lock, observers and log, and the
  lock is taken after them (defect D27).

  When a lookup panics after `findOrCreateArch` has created the archetype of the new mask, that
  archetype remains WITHOUT a table: the structural invariant `SInv` need not hold in the world a
  rejected batch leaves, only `SInvMid` — hence the frame `XFrame` instead of an invariant.
-/

set_option autoImplicit false

namespace Ark

open World Ark.Props.C01World

namespace World

/-! ### a panic of the lookup loop: the lock state is the one before the call (any world) -/

/-- **`exchangeBatch`, any unlocked world, any arguments** (observers, callback and relations
    allowed, no invariant assumed): a panic of the lookup loop is the batch's panic; the state it
    leaves has the lock, the observers and the log of the world before the call — the world is not
    locked and no callback has run -/
theorem exchangeBatch_lookup_panic_lock (run : ProbeRunner) (fo : FilterObj) (extra : List RelID)
    (add rem : List Comp) (rels : List RelID) (vals : Option (List (Comp × Val))) (w : World)
    (hl : w.isLocked = false) (hne : (add.isEmpty && rem.isEmpty) = false) {ts : List Nat}
    (hts : getBatchTables fo extra w = .ok ts w) {k : PanicKind} {w1 : World}
    (hfind : findLoopX add rem rels ts (false, []) w = .panic k w1) :
    exchangeBatch run fo extra add rem rels vals w = .panic k w1 ∧
    w1.locks = w.locks ∧ w1.isLocked = false ∧ w1.obs = w.obs ∧ w1.log = w.log := by
  have hs := (commutes_findLoopX add rem rels ts (false, [])).frames.state_frame w
  rw [hfind] at hs
  simp only [Res.state] at hs
  refine ⟨exchangeBatch_rel_findLoop_panic run fo extra add rem rels vals w hl hne hts hfind,
    hs.2.2, ?_, hs.1, hs.2.1⟩
  show w1.locks.isLocked = false
  rw [hs.2.2]; exact hl

/-- **`setRelationsBatch`, any unlocked world, any arguments**: likewise -/
theorem setRelationsBatch_lookup_panic_lock (run : ProbeRunner) (fo : FilterObj)
    (extra : List RelID) (rels : List RelID) (withFn : Bool) (w : World)
    (hl : w.isLocked = false) (hne : rels.isEmpty = false) {ts : List Nat}
    (hts : getBatchTables fo extra w = .ok ts w) {k : PanicKind} {w1 : World}
    (hprep : prepLoop rels ts [] w = .panic k w1) :
    setRelationsBatch run fo extra rels withFn w = .panic k w1 ∧
    w1.locks = w.locks ∧ w1.isLocked = false ∧ w1.obs = w.obs ∧ w1.log = w.log := by
  have hs := (commutes_prepLoop rels ts []).frames.state_frame w
  rw [hprep] at hs
  simp only [Res.state] at hs
  refine ⟨setRelationsBatch_prepLoop_panic run fo extra rels withFn w hl hne hts hprep,
    hs.2.2, ?_, hs.1, hs.2.1⟩
  show w1.locks.isLocked = false
  rw [hs.2.2]; exact hl

end World

/-! ### the exchange batch over relation tables under `TInv` -/

/-- nothing an entity reads has changed, and neither have lock, observers, log, pool, flags -/
structure XFrame (w w' : World) : Prop where
  locks : w'.locks = w.locks
  obs : w'.obs = w.obs
  log : w'.log = w.log
  pool : w'.pool = w.pool
  entities : w'.entities = w.entities
  isTarget : w'.isTarget = w.isTarget
  kinds : w'.kinds = w.kinds
  frame : ∀ (j : Nat), SameEnt w w' j ∧ ∀ (c : Comp), targetOf w' j c = targetOf w j c

theorem XFrame.refl (w : World) : XFrame w w :=
  ⟨rfl, rfl, rfl, rfl, rfl, rfl, rfl, fun _ => ⟨⟨fun _ => rfl, rfl⟩, fun _ => rfl⟩⟩

theorem XFrame.trans {a b c : World} (h1 : XFrame a b) (h2 : XFrame b c) : XFrame a c :=
  ⟨h2.locks.trans h1.locks, h2.obs.trans h1.obs, h2.log.trans h1.log, h2.pool.trans h1.pool,
    h2.entities.trans h1.entities, h2.isTarget.trans h1.isTarget, h2.kinds.trans h1.kinds,
    fun j => ⟨(h1.frame j).1.trans (h2.frame j).1,
      fun c => ((h2.frame j).2 c).trans ((h1.frame j).2 c)⟩⟩

theorem XFrame.of_lext {w w' : World} (e : LExt w w') (hlog : w'.log = w.log) : XFrame w w' :=
  ⟨e.untouched.locks, e.untouched.obs, hlog, e.pool, e.entities, e.untouched.isTarget, e.kinds,
    e.frame⟩

/-- the same tables and the same entity index: the same reading of every entity -/
theorem XFrame.of_tables {w w' : World} (hI : IdxInv w) (ht : w'.tables = w.tables)
    (he : w'.entities = w.entities) (hp : w'.pool = w.pool) (hu : Untouched w w')
    (hk : w'.kinds = w.kinds) (hlog : w'.log = w.log) : XFrame w w' :=
  ⟨hu.locks, hu.obs, hlog, hp, he, hu.isTarget, hk,
    frame_of_rows hI he (fun t T hT _ => ⟨T, by rw [ht]; exact hT, rfl, rfl, rfl, rfl⟩)⟩

/-- the invariant of the lookup loop of `exchangeBatch` over relation tables (what `MoveSt` says
    without the pool link, which the lookups do not touch) -/
structure LookSt (w : World) (rels : List RelID) : Prop where
  rel : RelInv w
  flags : FlagsOKUpTo w rels
  freeEmpty : FreeEmpty w
  idx : IdxInv w

theorem TInv.lookSt {w : World} {fl : List Nat} (h : TInv w fl) (rels : List RelID) :
    LookSt w rels := ⟨h.rel, h.flags.upTo rels, h.freeEmpty, h.link.idx⟩

namespace World

theorem mem_xchgRels {old : Table} {m : Mask} {rem : List Comp} {rels : List RelID} {r : RelID}
    (h : r ∈ xchgRels old m rem rels) : r ∈ old.relIDs ∨ r ∈ rels := by
  unfold xchgRels at h
  split at h
  · rcases List.mem_append.1 h with k | k
    · exact Or.inl (List.mem_filter.1 k).1
    · exact Or.inr k
  · rw [relsForAdd_eq] at h
    exact List.mem_append.1 h

/-- **one table lookup of the batch over relation tables, whatever the arguments** (the added
    components registered): if `findOrCreateTable` returns, the loop invariant is kept and the world
    is extended by at most one table; if it panics, nothing an entity reads has changed, and lock,
    observers, log, pool and flags are the same -/
theorem xchgLookup_any {w : World} {rels : List RelID} (h : LookSt w rels)
    (hk256 : w.kinds.length ≤ 256) {oldT : Nat} (hlt : oldT < w.tables.length)
    (hTf : (w.tbl oldT).isFree = false) {add rem : List Comp}
    (hreg : ∀ (c : Comp), c ∈ add → c < w.kinds.length) :
    match findOrCreateTable oldT (tmask w oldT) add rem rels w with
    | .ok _ w1 => LookSt w1 rels ∧ LExt w w1 ∧ w1.log = w.log
    | .panic _ w1 => XFrame w w1 := by
  have hR := h.rel
  have hF := h.flags
  have hE := h.freeEmpty
  have hT := get_of_lt hlt
  have hSS := hR.sinv
  have hS := hSS.toSInvMid
  obtain ⟨A, hA, _⟩ := hS.tblArch oldT _ hT
  have hAe := arch_of_get hA
  have hTex := hR.aux.rels oldT _ hT hTf
  have htm : tmask w oldT = A.mask := by simp only [tmask, hAe]
  have hb256 : ∀ (c : Comp), c ∈ add → c < 256 := fun c hc => Nat.lt_of_lt_of_le (hreg c hc) hk256
  by_cases hc : rem.Nodup ∧ (∀ (c : Comp), c ∈ rem → (tmask w oldT).get c = true) ∧ add.Nodup ∧
      ∀ (c : Comp), c ∈ add → (tmask w oldT).get c = false
  case neg =>
    obtain ⟨k, _, hk⟩ := graphFind_bad (tmask w oldT) add rem w hb256 hc
    rw [findOrCreateTable_graphFind_panic hk]
    exact XFrame.refl w
  case pos =>
    obtain ⟨hrnd, hpres, hand, hnew⟩ := hc
    have hg := graphFind_ok (tmask w oldT) add rem w hb256 hrnd hpres hand hnew
    obtain ⟨m, hm⟩ : ∃ (m : Mask), m = xmask add rem (tmask w oldT) := ⟨_, rfl⟩
    have hg' : graphFind (tmask w oldT) (tmask w oldT) add rem w = .ok m w := by rw [hm]; exact hg
    have hmreg : ∀ (c : Nat), m.get c = true → c < w.kinds.length := by
      rw [hm]
      exact Mask.get_foldl_set_reg (fun c hc => by
        rw [Mask.get_foldl_clear, Bool.and_eq_true, htm] at hc
        exact hS.maskReg _ A hA c hc.1) hreg
    have hroot : (w.tbl 0).relIDs = [] := hS.root_relIDs
    generalize hLdef : xchgRels (w.tbl oldT) m rem rels = L
    have hLmem : ∀ (r : RelID), r ∈ L → r ∈ (w.tbl oldT).relIDs ∨ r ∈ rels := by
      intro r hr; rw [← hLdef] at hr; exact mem_xchgRels hr
    have heq := findOrCreateTable_eq_add_rel oldT _ _ add rem rels w hg' hroot
    rw [hLdef] at heq
    rw [heq]
    obtain ⟨a, w1', ha, hmid, _, halt, _, _, _, ht, hk, he, hp, _, _⟩ := hSS.findOrCreateArch m hmreg
    have hu1 := findOrCreateArch_untouched ha
    have hlog1 := findOrCreateArch_log ha
    have aux1 : RelAux w1' := hR.aux.findOrCreateArch ha
    cases hadd : findOrCreateTableAdd 0 m [] L w with
    | panic k w1 =>
      simp only
      -- the panic is the one of `getTable` or of the argument checks of `createTable`
      have hw1 : w1 = w1' := by
        simp only [findOrCreateTableAdd_eq, tableFor, bind, M.bind, graphFindAdd, graphFindAdd.go,
          ha, relsForAdd_eq, hroot, List.nil_append] at hadd
        refine getOrCreate_panic_unchanged hmid aux1.cacheRels halt (k := k) (rels := L) ?_
        cases hgo : getOrCreate a L w1' with
        | panic k1 s => rw [hgo] at hadd; injection hadd with e1 e2; rw [e1, e2]
        | ok t s => rw [hgo] at hadd; cases hadd
      subst hw1
      exact XFrame.of_tables h.idx ht he hp hu1 hk hlog1
    | ok x w1 =>
      obtain ⟨t, a', m'⟩ := x
      simp only
      -- `RelInv.findOrCreateTableAddU` needs no more of the relation list than that its targets
      -- are flagged or named in `rels`
      obtain ⟨_, ar⟩ := hR.findOrCreateTableAddU hF hE (rels0 := rels) hmreg
        (fun c hc => by cases hc)
        (by
          intro r hr hz
          rw [hroot, List.nil_append] at hr
          rcases hLmem r hr with k | k
          · obtain ⟨j, _, k2, k3⟩ := hTex.sound r k
            rw [← k3] at hz ⊢
            exact hF oldT _ hT hTf j k2 hz
          · exact Or.inr ⟨r, k, rfl⟩) hadd
      exact ⟨⟨ar.rel, ar.flags, ar.freeEmpty, ar.foc.idx h.idx⟩, ar.lext h.idx hE,
        findOrCreateTableAdd_log hadd⟩

/-- the outcome of (a part of) the lookup loop started in `w` -/
def XOutcome (rels : List RelID) (w : World) {α : Type} : Res World α → Prop
  | .ok _ w1 => LookSt w1 rels ∧ XFrame w w1
  | .panic _ w1 => XFrame w w1

theorem XOutcome.trans_left {rels : List RelID} {w w' : World} {α : Type} {r : Res World α}
    (f : XFrame w w') (o : XOutcome rels w' r) : XOutcome rels w r := by
  cases r with
  | ok a s => exact ⟨o.1, f.trans o.2⟩
  | panic k s => exact f.trans o

theorem XOutcome.state {rels : List RelID} {w : World} {α : Type} {r : Res World α}
    (o : XOutcome rels w r) : XFrame w r.state := by
  cases r with
  | ok a s => exact o.2
  | panic k s => exact o

/-- **the lookup loop over relation tables, whatever its outcome**: if it completes, the loop
    invariant holds; in every case nothing an entity reads has changed and lock, observers, log,
    pool and flags are the same -/
theorem findLoopX_any {add rem : List Comp} {rels : List RelID} :
    ∀ (ts : List Nat) (s : Bool × List BatchTable) (w : World), LookSt w rels →
    w.kinds.length ≤ 256 → (∀ (c : Comp), c ∈ add → c < w.kinds.length) →
    XOutcome rels w (findLoopX add rem rels ts s w)
  | [], _, w, h, _, _ => ⟨h, XFrame.refl w⟩
  | t :: ts, s, w, h, hk256, hreg => by
    simp only [findLoopX]
    split
    · exact findLoopX_any ts s w h hk256 hreg
    · rename_i hlen
      have hrows : (w.tbl t).len ≠ 0 := by simpa using hlen
      have hlt : t < w.tables.length := tbl_len_pos_lt (r := 0) (by omega)
      have hTf : (w.tbl t).isFree = false := by
        cases hf : (w.tbl t).isFree with
        | false => rfl
        | true => exact absurd (h.freeEmpty t _ (get_of_lt hlt) hf) hrows
      have key := xchgLookup_any h hk256 hlt hTf (add := add) (rem := rem) hreg
      have hdef : findOrCreateTable t (w.arch (w.tbl t).arch).mask add rem rels w =
          findOrCreateTable t (tmask w t) add rem rels w := rfl
      rw [hdef]
      cases hf : findOrCreateTable t (tmask w t) add rem rels w with
      | panic k w1 =>
        rw [hf] at key
        exact key
      | ok x w1 =>
        rw [hf] at key
        obtain ⟨h1, e1, hlog1⟩ := key
        simp only
        exact XOutcome.trans_left (XFrame.of_lext e1 hlog1)
          (findLoopX_any ts _ w1 h1 (by rw [e1.kinds]; exact hk256)
            (fun c hc => by rw [e1.kinds]; exact hreg c hc))

end World

/-- **a rejected add / remove / exchange batch over relation tables** (with or without callback)
    on an unlocked world satisfying `TInv`, without observers, uncached filter, the added
    components registered: whatever makes `exchangeBatch` panic, the world it leaves is `XFrame` —
    the LOCK is the one before the call, observers and log are the same (no callback ran), every
    entity reads the same components, values and relation targets, pool and flags are unchanged -/
theorem exchangeBatch_rel_panic_frame (run : ProbeRunner) {w : World} {fl : List Nat}
    (h : TInv w fl) (hl : w.isLocked = false) (hL : LockFree w.locks)
    (hno : ∀ (evt : Nat), w.obs.hasObservers evt = false) (fo : FilterObj) (extra : List RelID)
    (hc : fo.cache = none) {add rem : List Comp} (rels : List RelID)
    (hreg : ∀ (c : Comp), c ∈ add → c < w.kinds.length)
    (vals : Option (List (Comp × Val))) {k : PanicKind} {w' : World}
    (hp : exchangeBatch run fo extra add rem rels vals w = .panic k w') : XFrame w w' := by
  have hk256 : w.kinds.length ≤ 256 := by have := h.kindsLe; omega
  cases hneB : (add.isEmpty && rem.isEmpty) with
  | true =>
    rw [exchangeBatch_rejects_empty run fo extra add rem rels vals w hl hneB] at hp
    injection hp with _ hw
    subst hw
    exact XFrame.refl w
  | false =>
    have e1 := getBatchTables_uncached fo extra w hc
    cases hx : w.getCacheTables fo.filter (fo.rels ++ extra) with
    | none =>
      rw [hx] at e1
      have : exchangeBatch run fo extra add rem rels vals w = .panic .runtime w := by
        unfold exchangeBatch
        simp only [M.bind_apply, checkLocked_unlocked w hl, M.assert_apply, hneB, Bool.not_false,
          if_true, e1]
      rw [this] at hp
      injection hp with _ hw
      subst hw
      exact XFrame.refl w
    | some ts =>
      rw [hx] at e1
      have hany := findLoopX_any (add := add) (rem := rem) ts (false, []) w (h.lookSt rels) hk256 hreg
      cases hf : findLoopX add rem rels ts (false, []) w with
      | panic k1 w1 =>
        rw [exchangeBatch_rel_findLoop_panic run fo extra add rem rels vals w hl hneB e1 hf] at hp
        injection hp with _ hw
        subst hw
        rw [hf] at hany
        exact hany
      | ok x w1 =>
        exfalso
        obtain ⟨rr, bts⟩ := x
        rw [hf] at hany
        obtain ⟨_, f1⟩ := hany
        obtain ⟨l', b, l'', k1, _, k3, _, _⟩ := hL.cycle
        have hlk1 : w1.locks.lock = some (l', b) := by rw [f1.locks]; exact k1
        have hno1 : ∀ (evt : Nat), w1.obs.hasObservers evt = false := by
          intro evt; rw [f1.obs]; exact hno evt
        rw [exchangeBatch_rel_after_find run fo extra add rem rels vals w hl hneB e1 hf hlk1 hno1,
          unlock_ok (by rw [foldl_moveStepXF_locks]; exact k3)] at hp
        cases hp

/-- **C07 + C10 for `AddBatch` / `RemoveBatch` / `ExchangeBatch` and their `…Fn` forms over
    relation tables** (`TInv`; no observers; uncached filter; the added components registered):
    if the call panics — in the pre-validation of the relation arguments, in the entry checks, or
    in the lookup loop (a component already present / missing, a relation target not specified, a
    relation component named twice, …) — then the world is NOT locked, its lock state is exactly
    the one before the call, every entity has the components, values and relation targets it had,
    every handle is as alive as it was; pool, flags, observers and log are the same. -/
theorem opExchangeBatch_rel_panic_unlocked (run : ProbeRunner) (p : Path) {w : World}
    {fl : List Nat} (h : TInv w fl) (hl : w.isLocked = false) (hL : LockFree w.locks)
    (hno : ∀ (evt : Nat), w.obs.hasObservers evt = false) (fo : FilterObj) (extra : List RelID)
    (hc : fo.cache = none) {add rem : List Comp} (rels : List RelID)
    (hreg : ∀ (c : Comp), c ∈ add → c < w.kinds.length)
    (vals : Option (List (Comp × Val))) {k : PanicKind} {w' : World}
    (hp : opExchangeBatch run p fo extra add rem rels vals w = .panic k w') :
    w'.isLocked = false ∧ w'.locks = w.locks ∧
    (∀ (j : Nat), SameEnt w w' j ∧ ∀ (c : Comp), targetOf w' j c = targetOf w j c) ∧
    (∀ (x : Ent), w'.alive x = w.alive x) ∧ XFrame w w' := by
  have key : XFrame w w' := by
    unfold opExchangeBatch at hp
    simp only [bind, M.bind] at hp
    rw [preCheck_eq] at hp
    cases hv : relsVerdict w (checkMask p add) rels with
    | none =>
      rw [hv] at hp
      exact exchangeBatch_rel_panic_frame run h hl hL hno fo extra hc rels hreg vals hp
    | some k1 =>
      rw [hv] at hp
      injection hp with _ hw
      subst hw
      exact XFrame.refl w
  refine ⟨?_, key.locks, key.frame, fun x => by simp only [World.alive, key.pool], key⟩
  show w'.locks.isLocked = false
  rw [key.locks]; exact hl

end Ark

end

