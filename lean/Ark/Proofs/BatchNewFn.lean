/-
  C06 at world level: `NewBatchFn` (creation with a callback that initialises every new entity
  while the world is locked) against the single `NewEntity` calls with the same values.  Also the
  lemma through which the `for` loops of all batch operations are read as folds (`forIn_foldSt`,
  `forIn_fold_inv`).
-/
import Ark.Proofs.BatchNew
import Ark.Proofs.Lock

set_option autoImplicit false

namespace Ark


/-! ## 1. table level: writes into existing rows commute with `Add` -/

namespace Table

theorem list_map_modify_comm {α : Type} (cols : List (List α)) (i r len k : Nat) (v z : α)
    (hr : r < len) (hcl : ∀ col ∈ cols, len ≤ col.length) :
    (cols.modify i fun cl => cl.set r v).map (fun col => col.take len ++ List.replicate k z) =
      (cols.map fun col => col.take len ++ List.replicate k z).modify i fun cl => cl.set r v := by
  apply List.ext_getElem?
  intro j
  simp only [List.getElem?_map, List.getElem?_modify]
  by_cases hij : i = j
  · subst hij
    simp only [if_true]
    cases hc : cols[i]? with
    | none => rfl
    | some col =>
      have hlen := hcl col (List.mem_of_getElem? hc)
      show some _ = some _
      congr 1
      show List.take len (col.set r v) ++ _ = (List.take len col ++ _).set r v
      rw [List.take_set, List.set_append_left _ _ (by rw [List.length_take]; omega)]
  · simp only [if_neg hij]
    cases cols[j]? <;> rfl

theorem setCell_add_comm {T : Table} (hS : T.Shape) (i r : Nat) (v : Val) (e : Ent)
    (hr : r < T.len) : ((T.setCell i r v).add e).1 = ((T.add e).1).setCell i r v := by
  have hz : (T.add e).1.zst = T.zst := Table.add_zst T e
  simp only [Table.setCell, hz]
  split
  · rfl
  · obtain ⟨id, arch, ids, isRel, zst, ents, cols, targets, relIDs, len, cap, isFree⟩ := T
    have hlen := hS.len_le
    have hcl := hS.col_len
    simp only at hlen hcl hr
    simp only [Table.add, Table.alloc, Table.extend]
    by_cases hcap : cap ≥ len + 1
    · simp only [hcap, if_true]
    · simp only [hcap, if_false, Table.adjustCapacity, Table.mk.injEq, true_and, and_true]
      exact list_map_modify_comm cols i r len _ v 0 hr (fun col hc => by rw [hcl col hc]; exact hlen)

theorem setComp_add_comm {T : Table} (hS : T.Shape) (c : Comp) (r : Nat) (v : Val) (e : Ent)
    (hr : r < T.len) : ((T.setComp c r v).add e).1 = ((T.add e).1).setComp c r v := by
  have hi : (T.add e).1.colIdx c = T.colIdx c := by simp only [Table.colIdx, Table.add_ids]
  simp only [Table.setComp, hi]
  split
  · exact setCell_add_comm hS _ r v e hr
  · rfl


theorem writeFold_add_comm (r : Nat) (e : Ent) : ∀ (vals : List (Comp × Val)) {T : Table}, T.Shape →
    r < T.len →
    ((vals.foldl (fun T (cv : Comp × Val) => T.setComp cv.1 r cv.2) T).add e).1 =
      vals.foldl (fun T (cv : Comp × Val) => T.setComp cv.1 r cv.2) (T.add e).1
  | [], _, _, _ => rfl
  | cv :: vals, T, hS, hr => by
    have hw := Table.setComp_writeRel T cv.1 r cv.2 hr
    simp only [List.foldl_cons]
    rw [writeFold_add_comm r e vals (hw.shape hS) (by rw [hw.len]; exact hr),
      setComp_add_comm hS cv.1 r cv.2 e hr]

end Table

/-! ## 2. the callback loop and the lock as pure functions -/

namespace World

/-- the mutable variable of a `for` loop whose body performs the pure state update `f` and updates
    the variable by the pure function `h` -/
def foldSt {σ α : Type} (f : World → α → World) (h : σ → World → α → σ) :
    List α → σ → World → σ
  | [], s, _ => s
  | a :: l, s, w => foldSt f h l (h s w a) (f w a)

/-- a `for` loop whose body, while `P` holds of variable and state, always continues with a pure
    update of both that keeps `P`, is a fold -/
theorem forIn_foldSt {σ α : Type} (P : σ → World → Prop) (f : World → α → World)
    (h : σ → World → α → σ) (g : α → σ → W (ForInStep σ))
    (hg : ∀ (a : α) (s : σ) (w : World), P s w → g a s w = .ok (ForInStep.yield (h s w a)) (f w a))
    (hP : ∀ (a : α) (s : σ) (w : World), P s w → P (h s w a) (f w a)) :
    ∀ (l : List α) (s : σ) (w : World), P s w →
      (forIn l s g : W σ) w = .ok (foldSt f h l s w) (l.foldl f w)
  | [], _, _, _ => rfl
  | a :: l, s, w, hw => by
    rw [List.forIn_cons, M.bind_apply, hg a s w hw]
    exact forIn_foldSt P f h g hg hP l (h s w a) (f w a) (hP a s w hw)

theorem foldSt_keep {σ α : Type} (f : World → α → World) : ∀ (l : List α) (s : σ) (w : World),
    foldSt f (fun s _ _ => s) l s w = s
  | [], _, _ => rfl
  | a :: l, s, w => foldSt_keep f l s (f w a)

theorem forIn_fold_inv {σ α : Type} (P : World → Prop) (f : World → α → World)
    (g : α → σ → W (ForInStep σ)) (s0 : σ)
    (hg : ∀ (i : α) (w : World), P w → g i s0 w = .ok (ForInStep.yield s0) (f w i))
    (hP : ∀ (i : α) (w : World), P w → P (f w i)) (l : List α) (w : World) (hw : P w) :
    (forIn l s0 g : W σ) w = .ok s0 (l.foldl f w) := by
  rw [forIn_foldSt (fun s w => s = s0 ∧ P w) f (fun s _ _ => s) g
    (fun a s w hs => by rw [hs.1]; exact hg a w hs.2) (fun a _ w hs => ⟨hs.1, hP a w hs.2⟩) l s0 w
    ⟨rfl, hw⟩, foldSt_keep]

/-- write `vals` through the component pointers of row `row` of table `t` -/
def writeRow (w : World) (t row : Nat) (vals : List (Comp × Val)) : World :=
  w.modTbl t fun T => vals.foldl (fun T (cv : Comp × Val) => T.setComp cv.1 row cv.2) T

/-- what the batch callback records for row `row` of table `t` -/
def fnEvent (w : World) (t row : Nat) (vals : List (Comp × Val)) : LogEv :=
  .fn ((w.tbl t).getEntity row) w.isLocked
    (vals.map fun cv => (cv.1, ((w.tbl t).getComp cv.1 row).getD 0))

def batchFnStep (t start : Nat) (vals : List (Comp × Val)) (w : World) (i : Nat) : World :=
  writeRow { w with log := fnEvent w t (start + i) vals :: w.log } t (start + i) vals

def batchFnW (w : World) (t start n : Nat) (vals : List (Comp × Val)) : World :=
  (List.range n).foldl (batchFnStep t start vals) w

theorem batchFn_eq (t start n : Nat) (vals : List (Comp × Val)) (w : World) :
    batchFn t start n vals w = .ok () (batchFnW w t start n vals) := by
  unfold batchFn
  rw [M.bind_apply, forIn_fold_inv (fun _ => True) (batchFnStep t start vals) _ PUnit.unit (fun i w _ => rfl)
    (fun _ _ _ => trivial) (List.range n) w trivial]
  rfl

/-! ### the lock taken around the callback -/

/-- the world lock is well-formed and no lock is outstanding (every reachable unlocked world) -/
def LockFree (l : Lock) : Prop := ∃ lfl : List Nat, Lock.LInv ⟨l, []⟩ lfl

theorem lockFree_init : LockFree ({} : Lock) := ⟨[], Lock.linv_init⟩

/-- on such a lock, `Lock()` succeeds, the world is locked, the matching `Unlock` succeeds and
    leaves it unlocked and well-formed -/
theorem LockFree.cycle {l : Lock} (h : LockFree l) :
    ∃ (l' : Lock) (b : Nat) (l'' : Lock), l.lock = some (l', b) ∧ l'.isLocked = true ∧
      l'.unlock b = some l'' ∧ l''.isLocked = false ∧ LockFree l'' := by
  obtain ⟨_, g⟩ := h
  obtain ⟨l', b, l'', _, hl, hul, g', g'', _⟩ := g.cycle (Nat.zero_lt_succ _)
  exact ⟨l', b, l'', hl, g'.isLocked_iff.mpr (List.cons_ne_nil _ _), hul, g''.unlocked_iff.mpr rfl,
    _, g''⟩

theorem lock_ok {w : World} {l' : Lock} {b : Nat} (h : w.locks.lock = some (l', b)) :
    lock w = .ok b { w with locks := l' } := by
  simp only [lock, h]

theorem unlock_ok {w : World} {l'' : Lock} {b : Nat} (h : w.locks.unlock b = some l'') :
    unlock b w = .ok () { w with locks := l'' } := by
  simp only [unlock, h]

theorem batchFnStep_obs (t start : Nat) (vals : List (Comp × Val)) (w : World) (i : Nat) :
    (batchFnStep t start vals w i).obs = w.obs := rfl

theorem batchFnStep_locks (t start : Nat) (vals : List (Comp × Val)) (w : World) (i : Nat) :
    (batchFnStep t start vals w i).locks = w.locks := rfl

theorem batchFnW_obs (w : World) (t start n : Nat) (vals : List (Comp × Val)) :
    (batchFnW w t start n vals).obs = w.obs :=
  foldl_keep _ (·.obs) (batchFnStep_obs t start vals) _ _

theorem batchFnW_locks (w : World) (t start n : Nat) (vals : List (Comp × Val)) :
    (batchFnW w t start n vals).locks = w.locks :=
  foldl_keep _ (·.locks) (batchFnStep_locks t start vals) _ _

/-- without observers, `NewBatchFn` is: table lookup, `createEntities`, `Lock`, the callback on
    every new row, `Unlock` -/
theorem opNewBatch_fn_eq (run : ProbeRunner) (p : Path) (count : Nat) (ids : List Comp)
    (vals : List (Comp × Val)) (w : World) (hl : w.isLocked = false) {t a : Nat} {m : Mask}
    {w1 : World} (hfoc : findOrCreateTableAdd 0 Mask.empty ids [] w = .ok (t, a, m) w1)
    (hno : ∀ evt : Nat, w1.obs.hasObservers evt = false) {l' l'' : Lock} {b : Nat}
    (hlk : w1.locks.lock = some (l', b)) (hul : l'.unlock b = some l'') :
    opNewBatch run p count ids vals [] true w =
      .ok (t, (w1.tbl t).len)
        { batchFnW { createEntitiesW w1 t count with locks := l' } t (w1.tbl t).len count vals with
          locks := l'' } := by
  have hno1 : ∀ evt : Nat, (createEntitiesW w1 t count).obs.hasObservers evt = false := by
    intro evt; rw [createEntitiesW_obs]; exact hno evt
  have hlk1 : (createEntitiesW w1 t count).locks.lock = some (l', b) := by
    rw [createEntitiesW_locks]; exact hlk
  have hul2 : (batchFnW { createEntitiesW w1 t count with locks := l' } t (w1.tbl t).len
      count vals).locks.unlock b = some l'' := by
    rw [batchFnW_locks]; exact hul
  cases p <;>
  simp [opNewBatch, preCheck, preCheckMap, preCheckTyped, M.forM', bind, M.bind,
    M.get, checkLocked_unlocked w hl, hfoc, createEntities_eq, registerTargets, M.modify,
    hno1, lock_ok hlk1, batchFn_eq, unlock_ok hul2, pure, M.pure]

/-! ## 3. the writes commute with the placements -/


theorem writeRow_tbl_self {w : World} {t : Nat} (hlt : t < w.tables.length) (r : Nat)
    (vals : List (Comp × Val)) :
    (writeRow w t r vals).tbl t =
      vals.foldl (fun T (cv : Comp × Val) => T.setComp cv.1 r cv.2) (w.tbl t) :=
  modTbl_tbl_self _ hlt

theorem writeRow_tbl_ne (w : World) {t t' : Nat} (hne : t ≠ t') (r : Nat) (vals : List (Comp × Val)) :
    (writeRow w t r vals).tbl t' = w.tbl t' := modTbl_tbl_ne w _ hne

theorem writeRow_tables_len (w : World) (t r : Nat) (vals : List (Comp × Val)) :
    (writeRow w t r vals).tables.length = w.tables.length := by
  show (w.tables.set t _).length = _
  rw [List.length_set]

theorem placedW_writeRow_comm {w : World} {t : Nat} (hlt : t < w.tables.length)
    (hS : (w.tbl t).Shape) (r : Nat) (hr : r < (w.tbl t).len) (vals : List (Comp × Val)) (rt : Bool) :
    placedW (writeRow w t r vals) t rt = writeRow (placedW w t rt) t r vals := by
  have e1 : (writeRow w t r vals).pool = w.pool := rfl
  have e2 : (writeRow w t r vals).entities = w.entities := rfl
  have e3 : (writeRow w t r vals).isTarget = w.isTarget := rfl
  have e4 : (writeRow w t r vals).tables = w.tables.set t
      (vals.foldl (fun T (cv : Comp × Val) => T.setComp cv.1 r cv.2) (w.tbl t)) := rfl
  have e5 : ∀ ts p es it, upd (writeRow w t r vals) ts p es it = upd w ts p es it :=
    fun _ _ _ _ => rfl
  have e6 : ∀ ts p es it, (upd w ts p es it).writeRow t r vals =
      upd w (ts.set t (vals.foldl (fun T (cv : Comp × Val) => T.setComp cv.1 r cv.2)
        (ts.getD t default))) p es it := fun _ _ _ _ => rfl
  have e7 : ((writeRow w t r vals).tbl t).len = (w.tbl t).len := by
    rw [writeRow_tbl_self hlt]; exact (writeVals_writeRel _ r vals hr).len
  rw [placedW_upd (writeRow w t r vals), placedW_upd w, e6, e7, e1, e2, e3, e4, e5,
    writeRow_tbl_self hlt, List.set_set, List.set_set, Table.writeFold_add_comm r _ vals hS hr]
  have h2 : (w.tables.set t ((w.tbl t).add (w.pool.get).2).1).getD t default =
      ((w.tbl t).add (w.pool.get).2).1 := by
    rw [List.getD_eq_getElem?_getD, List.getElem?_set_self hlt]; rfl
  rw [h2]

theorem placeN_writeRow_comm {t r : Nat} {vals : List (Comp × Val)} : ∀ (n : Nat) {w : World},
    TableRoom w t n → r < (w.tbl t).len →
    placeN (writeRow w t r vals) t n = writeRow (placeN w t n) t r vals
  | 0, _, _, _ => rfl
  | n + 1, w, R, hr => by
    show placeN (placedW (writeRow w t r vals) t false) t n =
      writeRow (placeN (placedW w t false) t n) t r vals
    rw [placedW_writeRow_comm R.lt R.shape r hr vals false]
    exact placeN_writeRow_comm n R.placed (by rw [placedW_len R.lt]; omega)

def writeRows (w : World) (t start n : Nat) (vals : List (Comp × Val)) : World :=
  (List.range n).foldl (fun W i => writeRow W t (start + i) vals) w

theorem writeRows_succ_front (w : World) (t start n : Nat) (vals : List (Comp × Val)) :
    writeRows w t start (n + 1) vals = writeRows (writeRow w t start vals) t (start + 1) n vals := by
  simp only [writeRows]
  rw [List.range_succ_eq_map, List.foldl_cons, List.foldl_map, Nat.add_zero]
  have hf : (fun (W : World) (i : Nat) => writeRow W t (start + (i + 1)) vals) =
      fun W i => writeRow W t (start + 1 + i) vals := by
    funext W i; congr 1; omega
  exact congrArg (fun f => List.foldl f (writeRow w t start vals) (List.range n)) hf

theorem writeRows_succ (w : World) (t start n : Nat) (vals : List (Comp × Val)) :
    writeRows w t start (n + 1) vals = writeRow (writeRows w t start n vals) t (start + n) vals := by
  simp only [writeRows, List.range_succ, List.foldl_append, List.foldl_cons, List.foldl_nil]

theorem placedW_index {w : World} {fl : List Nat} (h : CInv w fl) (t : Nat) (rt : Bool) :
    (placedW w t rt).index (w.pool.get).2.id = (t, (w.tbl t).len) := by
  have g := Pool.get_spec w.pool fl h.pool
  have hle : (w.pool.get).2.id ≤ w.entities.length := by
    rw [h.lenEq]; rcases g.cases with ⟨a, _⟩ | ⟨a, _⟩ <;> omega
  apply index_of_get
  rw [(placedW_place w t rt).1, place_lookup w _ t hle, if_pos rfl]

/-- the write of a single `NewEntity` is a write into the row just added -/
theorem writeValsW_placedW {w : World} {fl : List Nat} (h : CInv w fl) (t : Nat) (rt : Bool)
    (vals : List (Comp × Val)) :
    writeValsW (placedW w t rt) (w.pool.get).2 vals = writeRow (placedW w t rt) t (w.tbl t).len vals := by
  simp only [writeValsW, placedW_index h t rt, writeRow]

/-- **the singles, rearranged**: `n` single creations with the values `vals` = the `n` placements
    followed by the writes into the new rows -/
theorem newN_eq_writeRows (vals : List (Comp × Val)) {ids : List Comp} {t a : Nat} :
    ∀ (n : Nat) {w : World} {fl : List Nat}, CInv w fl → BatchTarget w ids t a →
    (w.tbl t).len + n < 2 ^ 32 →
    newN w t vals n = writeRows (placeN w t n) t (w.tbl t).len n vals
  | 0, _, _, _, _, _ => rfl
  | n + 1, w, fl, h, bt, hb => by
    obtain ⟨h2, _, h4, h5⟩ := newStep_facts h bt vals (by omega)
    have R : TableRoom w t (n + 1) := ⟨bt.tlt, h.idx.shape t _ (get_of_lt bt.tlt), hb⟩
    show newN (writeValsW (placedW w t false) (w.pool.get).2 vals) t vals n = _
    rw [newN_eq_writeRows vals n h2 h4 (by rw [h5]; omega), h5, writeValsW_placedW h t false vals,
      placeN_writeRow_comm n R.placed (by rw [placedW_len R.lt]; omega), writeRows_succ_front]
    rfl

/-! ### the callback loop in closed form -/

/-- the records of the callback loop, newest first -/
def fnEvents (w : World) (t start : Nat) (vals : List (Comp × Val)) : Nat → List LogEv
  | 0 => []
  | n + 1 => fnEvent (writeRows w t start n vals) t (start + n) vals :: fnEvents w t start vals n

theorem batchFnW_succ (w : World) (t start n : Nat) (vals : List (Comp × Val)) :
    batchFnW w t start (n + 1) vals = batchFnStep t start vals (batchFnW w t start n vals) n := by
  simp only [batchFnW, List.range_succ, List.foldl_append, List.foldl_cons, List.foldl_nil]

theorem batchFnW_closed (w : World) (t start : Nat) (vals : List (Comp × Val)) : ∀ n : Nat,
    batchFnW w t start n vals =
      { writeRows w t start n vals with log := fnEvents w t start vals n ++ w.log }
  | 0 => rfl
  | n + 1 => by
    rw [batchFnW_succ, batchFnW_closed w t start vals n, writeRows_succ]
    rfl

/-- what `i` row writes below row `start+i` leave in place -/
structure RowsRel (t : Nat) (W X : World) (from_ : Nat) : Prop where
  tlen : X.tables.length = W.tables.length
  len : (X.tbl t).len = (W.tbl t).len
  ents : (X.tbl t).ents = (W.tbl t).ents
  ids : (X.tbl t).ids = (W.tbl t).ids
  shape : (X.tbl t).Shape
  cells : ∀ j r : Nat, from_ ≤ r → (X.tbl t).cell j r = (W.tbl t).cell j r
  locks : X.locks = W.locks

theorem writeRows_rel {W : World} {t : Nat} (hlt : t < W.tables.length) (hS : (W.tbl t).Shape)
    (start : Nat) (vals : List (Comp × Val)) : ∀ i : Nat, start + i ≤ (W.tbl t).len →
    RowsRel t W (writeRows W t start i vals) (start + i)
  | 0, _ => ⟨rfl, rfl, rfl, rfl, hS, fun _ _ _ => rfl, rfl⟩
  | i + 1, hi => by
    have ih := writeRows_rel hlt hS start vals i (by omega)
    rw [writeRows_succ]
    have hlt' : t < (writeRows W t start i vals).tables.length := by rw [ih.tlen]; exact hlt
    have hw := writeVals_writeRel ((writeRows W t start i vals).tbl t) (start + i) vals
      (by rw [ih.len]; omega)
    refine ⟨?_, ?_, ?_, ?_, ?_, ?_, ih.locks⟩
    · rw [writeRow_tables_len]; exact ih.tlen
    · rw [writeRow_tbl_self hlt', hw.len]; exact ih.len
    · rw [writeRow_tbl_self hlt', hw.ents]; exact ih.ents
    · rw [writeRow_tbl_self hlt', hw.ids]; exact ih.ids
    · rw [writeRow_tbl_self hlt']; exact hw.shape ih.shape
    · intro j r hr
      rw [writeRow_tbl_self hlt', hw.other j r (by omega)]
      exact ih.cells j r (by omega)

/-- the writes into the rows before `start+i` do not change what the callback sees at row
    `start+i` -/
theorem fnEvents_pre {X : World} {t : Nat} (hlt : t < X.tables.length) (hS : (X.tbl t).Shape)
    (start : Nat) (vs : List (Comp × Val)) : ∀ n : Nat, start + n ≤ (X.tbl t).len →
    fnEvents X t start vs n = (List.range n).reverse.map fun i => fnEvent X t (start + i) vs
  | 0, _ => rfl
  | n + 1, hn => by
    have rel := writeRows_rel hlt hS start vs n (by omega)
    rw [List.range_succ, List.reverse_append, List.reverse_singleton, List.singleton_append,
      List.map_cons, ← fnEvents_pre hlt hS start vs n (by omega)]
    show fnEvent _ t (start + n) vs :: _ = _
    refine congrArg (· :: _) ?_
    have hlk : (writeRows X t start n vs).isLocked = X.isLocked := congrArg Lock.isLocked rel.locks
    simp only [fnEvent, Table.getEntity, rel.ents, hlk]
    refine congrArg _ (List.map_congr_left fun cv _ => congrArg (fun o => (cv.1, Option.getD o 0)) ?_)
    simp only [Table.getComp, Table.colIdx, rel.ids]
    split
    · simp only [Option.map_some]
      rw [rel.cells _ _ (Nat.le_refl _)]
    · rfl

/-- on fresh (all-zero) rows the callback sees the entity of its row, a locked world and zeros -/
theorem fnEvents_fresh {W : World} {t : Nat} (hlt : t < W.tables.length) (hS : (W.tbl t).Shape)
    (start : Nat) (vals : List (Comp × Val))
    (hz : ∀ j r : Nat, start ≤ r → (W.tbl t).cell j r = 0) (n : Nat) (hn : start + n ≤ (W.tbl t).len) :
    fnEvents W t start vals n =
      (List.range n).reverse.map fun i =>
        LogEv.fn ((W.tbl t).getEntity (start + i)) W.isLocked (vals.map fun cv => (cv.1, 0)) := by
  rw [fnEvents_pre hlt hS start vals n hn]
  refine List.map_congr_left fun i _ => congrArg _ (List.map_congr_left fun cv _ =>
    congrArg (Prod.mk cv.1) ?_)
  simp only [Table.getComp]
  cases (W.tbl t).colIdx cv.1 with
  | none => rfl
  | some j => exact hz j _ (Nat.le_add_right _ _)

/-! ### the rows `placeN` adds are zero; fields it keeps -/

theorem placeN_cell_lt {t : Nat} : ∀ (n : Nat) {w : World}, TableRoom w t n →
    ∀ j r : Nat, r < (w.tbl t).len → ((placeN w t n).tbl t).cell j r = (w.tbl t).cell j r
  | 0, _, _, _, _, _ => rfl
  | n + 1, w, R, j, r, hr => by
    show ((placeN (placedW w t false) t n).tbl t).cell j r = _
    rw [placeN_cell_lt n R.placed j r (by rw [placedW_len R.lt]; omega), placedW_tbl_self R.lt,
      Table.add_cell_lt _ _ _ _ hr]

theorem placeN_shape {t : Nat} : ∀ (n : Nat) {w : World}, TableRoom w t n → ((placeN w t n).tbl t).Shape
  | 0, _, R => R.shape
  | n + 1, _, R => placeN_shape n R.placed

theorem TableRoom.placeN {t n : Nat} {w : World} (R : TableRoom w t n) : TableRoom (placeN w t n) t 0 :=
  ⟨by rw [placeN_tables_len]; exact R.lt, placeN_shape n R,
    by rw [placeN_len n R]; exact R.bound⟩

theorem placeN_new_rows_zero {t : Nat} : ∀ (n : Nat) {w : World}, TableRoom w t n →
    ∀ j r : Nat, (w.tbl t).len ≤ r → ((placeN w t n).tbl t).cell j r = 0
  | 0, _, R, j, r, hr => R.shape.cell_tail j r hr
  | n + 1, w, R, j, r, hr => by
    have hlen' := placedW_len R.lt false
    show ((placeN (placedW w t false) t n).tbl t).cell j r = 0
    rcases Nat.lt_or_ge (w.tbl t).len r with h1 | h1
    · exact placeN_new_rows_zero n R.placed j r (by rw [hlen']; omega)
    · have : r = (w.tbl t).len := by omega
      subst this
      rw [placeN_cell_lt n R.placed j _ (by rw [hlen']; omega), placedW_tbl_self R.lt]
      have := Table.add_new_row_zero R.shape (w.pool.get).2 j
      rw [Table.add_snd] at this; exact this

theorem placeN_locks (t : Nat) : ∀ (n : Nat) (w : World), (placeN w t n).locks = w.locks
  | 0, _ => rfl
  | n + 1, w => by
    show (placeN (placedW w t false) t n).locks = _
    rw [placeN_locks t n, placedW_locks]

theorem placeN_log (t : Nat) : ∀ (n : Nat) (w : World), (placeN w t n).log = w.log
  | 0, _ => rfl
  | n + 1, w => by
    show (placeN (placedW w t false) t n).log = _
    rw [placeN_log t n, placedW_log]

theorem writeRows_log (w : World) (t start : Nat) (vals : List (Comp × Val)) : ∀ n : Nat,
    (writeRows w t start n vals).log = w.log
  | 0 => rfl
  | n + 1 => by rw [writeRows_succ]; exact writeRows_log w t start vals n

theorem writeRows_locks (w : World) (t start : Nat) (vals : List (Comp × Val)) : ∀ n : Nat,
    (writeRows w t start n vals).locks = w.locks
  | 0 => rfl
  | n + 1 => by rw [writeRows_succ]; exact writeRows_locks w t start vals n

theorem writeRows_with (w : World) (l : Lock) (lg : List LogEv) (t start : Nat)
    (vals : List (Comp × Val)) : ∀ n : Nat,
    writeRows { w with locks := l, log := lg } t start n vals =
      { writeRows w t start n vals with locks := l, log := lg }
  | 0 => rfl
  | n + 1 => by rw [writeRows_succ, writeRows_succ, writeRows_with w l lg t start vals n]; rfl

/-! ### the table lookup keeps the log -/

theorem findOrCreateArch_log {w w' : World} {mask : Mask} {a : Nat}
    (h : findOrCreateArch mask w = .ok a w') : w'.log = w.log := by
  rcases findOrCreateArch_ok_cases h with rfl | rfl
  · rfl
  · exact createArchetypeW_proj (·.log) (fun _ _ _ => rfl) (fun _ _ => rfl) w mask

theorem createTable_log {a : Nat} {rels : List RelID} {w w' : World} {t : Nat}
    (h : createTable a rels w = .ok t w') : w'.log = w.log :=
  (createTable_sameFrame h).log

theorem findOrCreateTableAdd_log {oldT : Nat} {startMask : Mask} {add : List Comp}
    {rels : List RelID} {w w' : World} {r : Nat × Nat × Mask}
    (hok : findOrCreateTableAdd oldT startMask add rels w = .ok r w') : w'.log = w.log :=
  (lookup_induct (fun w w' => w'.log = w.log) (fun h1 h2 => h2.trans h1) findOrCreateArch_log
    createTable_log).1 hok

/-- **the callback loop on freshly placed rows** (world locked by `l'`): the writes into the new
    rows, and one record per handle handed out — in order, "locked", all values zero -/
theorem batchFnW_placeN {w : World} {t count : Nat} (R : TableRoom w t count) {l' : Lock}
    (hk : l'.isLocked = true) (vals : List (Comp × Val)) :
    batchFnW { placeN w t count with locks := l' } t (w.tbl t).len count vals =
      { writeRows { placeN w t count with locks := l' } t (w.tbl t).len count vals with
        log := (handlesN w t count).reverse.map
          (fun e => LogEv.fn e true (vals.map fun cv => (cv.1, 0))) ++ (placeN w t count).log } := by
  have hev := fnEvents_fresh (W := { placeN w t count with locks := l' }) R.placeN.lt R.placeN.shape
    (w.tbl t).len vals (placeN_new_rows_zero count R) count (by
      show (w.tbl t).len + count ≤ ((placeN w t count).tbl t).len
      rw [placeN_len count R]; exact Nat.le_refl _)
  rw [batchFnW_closed, hev, ← placeN_rows count R, ← List.map_reverse, List.map_map]
  refine congrArg (fun l => ({ writeRows _ t _ count vals with log := l ++ _ } : World))
    (List.map_congr_left fun i _ => ?_)
  show LogEv.fn _ l'.isLocked _ = _
  rw [hk]; rfl

/-! ### `NewBatchFn` equals the singles -/

/-- **C06, creation with callback**: `NewBatchFn(count, fn)` (here: `fn` writes `vals`) on an
    unlocked world of the fragment whose lock is well-formed.  Let `w''` be the world `count`
    successive `NewEntity(ids…)` calls writing `vals` leave, and `es` the handles they return.
    Then the batch returns `(t, start)` and leaves `w''` EXACTLY, except for two fields: the
    record of the callback invocations is pushed on `log`, and the internal free list of the lock
    (`locks`) has gone through one `Lock`/`Unlock` cycle (the world is unlocked again).
    The callback ran exactly once per new entity, in creation order, on a locked world, and saw
    zeros (the fresh row) for every component it was about to write; `es` are the entities in
    rows `start … start+count-1` of table `t`. -/
theorem opNewBatchFn_eq_singles (run : ProbeRunner) (p : Path) {w : World} {fl : List Nat}
    (h : CInv w fl) (hl : w.isLocked = false) (hL : LockFree w.locks) {ids : List Comp}
    (hnd : ids.Nodup) (hreg : ∀ (c : Comp), c ∈ ids → c < w.kinds.length)
    (vals : List (Comp × Val)) {count : Nat} (hpos : 0 < count) (hfew : w.tables.length < maxU32)
    (hrows : ∀ t : Nat, (w.tbl t).len + count < 2 ^ 32) :
    ∃ (t start : Nat) (es : List Ent) (w'' : World) (L' : Lock),
      newEntitiesSeq run p ids vals count w = .ok es w'' ∧
      opNewBatch run p count ids vals [] true w = .ok (t, start)
        { w'' with locks := L'
                   log := es.reverse.map (fun e => LogEv.fn e true (vals.map fun cv => (cv.1, 0))) ++
                     w''.log } ∧
      es = (List.range count).map (fun i => (w''.tbl t).getEntity (start + i)) ∧
      es.length = count ∧ LockFree L' ∧ L'.isLocked = false ∧ w''.locks = w.locks ∧
      w''.log = w.log ∧ CInv w'' (fl.drop count) ∧ w''.isLocked = false := by
  obtain ⟨t, a, w1, hfoc, h1, hl1, bt, hsame, hnew, _, _, _⟩ := cinv_afterLookup h hnd hreg hfew
  rw [hl] at hl1
  have hlk1 : w1.locks = w.locks := (findOrCreateTableAdd_untouched hfoc).locks
  have hlog1 : w1.log = w.log := findOrCreateTableAdd_log hfoc
  have hb := afterLookup_rows hsame hnew hrows
  have hS := h1.idx.shape t _ (get_of_lt bt.tlt)
  obtain ⟨l', b, l'', k1, k2, k3, k4, k5⟩ := hL.cycle
  rw [← hlk1] at k1
  have hbatch := opNewBatch_fn_eq run p count ids vals w hl hfoc h1.noObs k1 k3
  rw [createEntitiesW_eq_placeN count bt.tlt hS h1.noTargets hb] at hbatch
  obtain ⟨s1, s2, s3⟩ := newEntitiesSeq_eq run p hnd vals count h1 hl1 bt hb
  have hseq := newEntitiesSeq_afterLookup run p hl hnd vals hfoc h1 hl1 bt hpos hb
  have hnewN := newN_eq_writeRows vals count h1 bt hb
  have R : TableRoom w1 t count := ⟨bt.tlt, hS, hb⟩
  have rel := writeRows_rel R.placeN.lt R.placeN.shape (w1.tbl t).len vals count
    (by rw [placeN_len count R]; omega)
  have hrowsP := placeN_rows count R
  have hrows'' : (List.range count).map
      (fun i => ((newN w1 t vals count).tbl t).getEntity ((w1.tbl t).len + i)) =
      handlesN w1 t count := by
    rw [← hrowsP, hnewN]
    apply List.map_congr_left
    intro i _
    simp only [Table.getEntity, rel.ents]
  have hlenH : (handlesN w1 t count).length = count := by
    rw [← hrowsP, List.length_map, List.length_range]
  refine ⟨t, (w1.tbl t).len, handlesN w1 t count, newN w1 t vals count, l'', hseq.trans s1, ?_,
    hrows''.symm, hlenH, k5, k4, ?_, ?_, s2, s3⟩
  · rw [hbatch, batchFnW_placeN ⟨bt.tlt, hS, hb⟩ k2]
    have e1 : ({ placeN w1 t count with locks := l' } : World) =
        { placeN w1 t count with locks := l', log := (placeN w1 t count).log } := rfl
    rw [e1, writeRows_with, ← hnewN]
    have e2 : (newN w1 t vals count).log = (placeN w1 t count).log := by
      rw [hnewN, writeRows_log]
    rw [e2]
  · rw [hnewN, writeRows_locks, placeN_locks, hlk1]
  · rw [hnewN, writeRows_log, placeN_log, hlog1]


/-! ## 4. `World.NewEntities(count, fn)` (no components) against `World.NewEntity()` -/

/-- table 0 is the table of the component-less archetype 0 -/
theorem batchTarget_root {w : World} {fl : List Nat} (h : CInv w fl) : BatchTarget w [] 0 0 := by
  obtain ⟨h0, h1, h2⟩ := h.sinv.root
  obtain ⟨A, hA, hAt⟩ := cinv_table_arch h h0
  rw [h1] at hA
  obtain ⟨hone, _, _⟩ := cinv_arch_table h hA
  exact ⟨alt_of_get hA, h2, by rw [arch_of_get hA, hone, hAt], h0⟩

theorem placedW_rt {w : World} (hT : ∀ i : Nat, w.isTarget.getD i false = false) (t : Nat) :
    placedW w t true = placedW w t false := by
  rw [placedW_upd, placedW_upd]
  simp only [if_true, Bool.false_eq_true, if_false, set_false_of_allFalse hT]

/-- `n` successive `World.NewEntity()` calls; the handles in order -/
def newEntities0Seq (run : ProbeRunner) : Nat → W (List Ent)
  | 0 => pure []
  | n + 1 => do
    let e ← opNewEntity0 run
    let es ← newEntities0Seq run n
    pure (e :: es)

theorem newEntities0Seq_eq (run : ProbeRunner) : ∀ (n : Nat) {w : World} {fl : List Nat}, CInv w fl →
    w.isLocked = false → (w.tbl 0).len + n < 2 ^ 32 →
    newEntities0Seq run n w = .ok (handlesN w 0 n) (placeN w 0 n) ∧
    CInv (placeN w 0 n) (fl.drop n) ∧ (placeN w 0 n).isLocked = false
  | 0, _, _, h, hl, _ => ⟨rfl, h, hl⟩
  | n + 1, w, fl, h, hl, hb => by
    have h0 := h.sinv.root.1
    have pp := h.placed h0 false (by omega)
    have e1 := opNewEntity0_eq run w hl (h.noObs _)
    rw [placedW_rt h.noTargets] at e1
    obtain ⟨i1, i2, i3⟩ := newEntities0Seq_eq run n pp.cinv (by rw [pp.unlocked]; exact hl)
      (by rw [placedW_tbl_self h0, Table.add_fst_len]; omega)
    refine ⟨?_, ?_, i3⟩
    · simp only [newEntities0Seq, bind, M.bind, e1, i1, pure, M.pure]
      rfl
    · have : fl.drop (n + 1) = fl.tail.drop n := by cases fl <;> simp
      rw [this]; exact i2

theorem opNewEntities_eq (run : ProbeRunner) (count : Nat) (w : World) (hl : w.isLocked = false)
    {t a : Nat} {m : Mask} {w1 : World}
    (hfoc : findOrCreateTableAdd 0 Mask.empty [] [] w = .ok (t, a, m) w1)
    (hno : ∀ evt : Nat, w1.obs.hasObservers evt = false) :
    opNewEntities run count false w = .ok (t, (w1.tbl t).len) (createEntitiesW w1 t count) := by
  have hno1 : ∀ evt : Nat, (createEntitiesW w1 t count).obs.hasObservers evt = false := by
    intro evt; rw [createEntitiesW_obs]; exact hno evt
  simp [opNewEntities, bind, M.bind, M.get, checkLocked_unlocked w hl, hfoc, createEntities_eq,
    registerTargets, M.modify, hno1, pure, M.pure]

/-- **C06, `World.NewEntities(count, nil)`** = `count` × `World.NewEntity()`, as worlds; the
    handles are the entities of rows `start … start+count-1` of table 0.  (Any `count`, also 0:
    table 0 always exists.) -/
theorem opNewEntities_eq_singles (run : ProbeRunner) {w : World} {fl : List Nat} (h : CInv w fl)
    (hl : w.isLocked = false) (count : Nat) (hb : (w.tbl 0).len + count < 2 ^ 32) :
    ∃ (es : List Ent) (w' : World),
      opNewEntities run count false w = .ok (0, (w.tbl 0).len) w' ∧
      newEntities0Seq run count w = .ok es w' ∧
      es = (List.range count).map (fun i => (w'.tbl 0).getEntity ((w.tbl 0).len + i)) ∧
      es.length = count ∧ CInv w' (fl.drop count) ∧ w'.isLocked = false := by
  have bt := batchTarget_root h
  have hfoc := findOrCreateTableAdd_found h.sinv.toSInvMid bt List.nodup_nil (h.noRelArch' bt.altA)
    (h.relIDs_nil bt.tlt)
  have hS := h.idx.shape 0 _ (get_of_lt bt.tlt)
  have hbatch := opNewEntities_eq run count w hl hfoc h.noObs
  rw [createEntitiesW_eq_placeN count bt.tlt hS h.noTargets hb] at hbatch
  obtain ⟨s1, s2, s3⟩ := newEntities0Seq_eq run count h hl hb
  refine ⟨handlesN w 0 count, placeN w 0 count, hbatch, s1, (placeN_rows count ⟨bt.tlt, hS, hb⟩).symm, ?_,
    s2, s3⟩
  rw [← placeN_rows count ⟨bt.tlt, hS, hb⟩, List.length_map, List.length_range]

theorem writeRow_nil (w : World) (t r : Nat) : writeRow w t r [] = w := by
  show { w with tables := w.tables.set t (w.tbl t) } = w
  rw [set_tbl_self]

theorem writeRows_nil (w : World) (t start : Nat) : ∀ n : Nat, writeRows w t start n [] = w
  | 0 => rfl
  | n + 1 => by rw [writeRows_succ, writeRows_nil w t start n, writeRow_nil]

theorem opNewEntities_fn_eq (run : ProbeRunner) (count : Nat) (w : World) (hl : w.isLocked = false)
    {t a : Nat} {m : Mask} {w1 : World}
    (hfoc : findOrCreateTableAdd 0 Mask.empty [] [] w = .ok (t, a, m) w1)
    (hno : ∀ evt : Nat, w1.obs.hasObservers evt = false) {l' l'' : Lock} {b : Nat}
    (hlk : w1.locks.lock = some (l', b)) (hul : l'.unlock b = some l'') :
    opNewEntities run count true w =
      .ok (t, (w1.tbl t).len)
        { batchFnW { createEntitiesW w1 t count with locks := l' } t (w1.tbl t).len count [] with
          locks := l'' } := by
  have hno1 : ∀ evt : Nat, (createEntitiesW w1 t count).obs.hasObservers evt = false := by
    intro evt; rw [createEntitiesW_obs]; exact hno evt
  have hlk1 : (createEntitiesW w1 t count).locks.lock = some (l', b) := by
    rw [createEntitiesW_locks]; exact hlk
  have hul2 : (batchFnW { createEntitiesW w1 t count with locks := l' } t (w1.tbl t).len
      count []).locks.unlock b = some l'' := by
    rw [batchFnW_locks]; exact hul
  simp [opNewEntities, bind, M.bind, M.get, checkLocked_unlocked w hl, hfoc, createEntities_eq,
    registerTargets, M.modify, hno1, lock_ok hlk1, batchFn_eq, unlock_ok hul2, pure, M.pure]

/-- **C06, `World.NewEntities(count, fn)`**: the world `count` × `World.NewEntity()` leave, except
    that `log` records one callback invocation per new entity (in creation order, world locked,
    no component values) and the lock's free list went through one `Lock`/`Unlock` cycle. -/
theorem opNewEntitiesFn_eq_singles (run : ProbeRunner) {w : World} {fl : List Nat} (h : CInv w fl)
    (hl : w.isLocked = false) (hL : LockFree w.locks) (count : Nat)
    (hb : (w.tbl 0).len + count < 2 ^ 32) :
    ∃ (es : List Ent) (w'' : World) (L' : Lock),
      newEntities0Seq run count w = .ok es w'' ∧
      opNewEntities run count true w = .ok (0, (w.tbl 0).len)
        { w'' with locks := L', log := es.reverse.map (fun e => LogEv.fn e true []) ++ w''.log } ∧
      es = (List.range count).map (fun i => (w''.tbl 0).getEntity ((w.tbl 0).len + i)) ∧
      es.length = count ∧ LockFree L' ∧ L'.isLocked = false ∧ w''.locks = w.locks ∧
      w''.log = w.log ∧ CInv w'' (fl.drop count) ∧ w''.isLocked = false := by
  have bt := batchTarget_root h
  have hfoc := findOrCreateTableAdd_found h.sinv.toSInvMid bt List.nodup_nil (h.noRelArch' bt.altA)
    (h.relIDs_nil bt.tlt)
  have hS := h.idx.shape 0 _ (get_of_lt bt.tlt)
  obtain ⟨l', b, l'', k1, k2, k3, k4, k5⟩ := hL.cycle
  have hbatch := opNewEntities_fn_eq run count w hl hfoc h.noObs k1 k3
  rw [createEntitiesW_eq_placeN count bt.tlt hS h.noTargets hb] at hbatch
  obtain ⟨s1, s2, s3⟩ := newEntities0Seq_eq run count h hl hb
  have hrowsP := placeN_rows count ⟨bt.tlt, hS, hb⟩
  refine ⟨handlesN w 0 count, placeN w 0 count, l'', s1, ?_, hrowsP.symm, ?_, k5, k4,
    placeN_locks 0 count w, placeN_log 0 count w, s2, s3⟩
  · rw [hbatch, batchFnW_placeN ⟨bt.tlt, hS, hb⟩ k2, writeRows_nil]; rfl
  · rw [← hrowsP, List.length_map, List.length_range]

end World

end Ark
