/-
  `Exchange` with relation components as a step of the history machine `Op3 = base2 (op : Op2) |
  xchg p e add vals rem rels` on top of `Ark.RelRefine2`.  The machine: `guardXchg` says which calls
  are steps, `specXchg` is the specification step (its precondition `XchgOK` and its entry
  `xchgEntry` stand with `RelRefine.acc_move`, Ark/Proofs/RelRefineSteps.lean).  The step: a call
  whose precondition fails is refused with a panic class read off the specification (`rejKindX`,
  `xchg_rej`); one whose precondition holds is accepted as `acc_move` says and keeps the base
  invariant `RelRefine.HInv` and the filter-side state (`XchgShape.keep`) — `xchg_base`, stated
  for that invariant alone so that every machine with `Exchange` can use it; `step3_xchg` is the
  step lemma for `RelRefine2.HInv2`.
-/
import Ark.Proofs.RelRefine2Machine

set_option autoImplicit false

namespace Ark

open World Ark.Props.C01World QueryRel

namespace RelRefine3

open RelRefine RelRefine2
open Refine (Comps keys sortedIds writeComps zeros findKind)

/-- the specification step of `xchg`: an operation whose precondition fails leaves the
    specification unchanged -/
def specXchg (ss : SS) (e : Ent) (add : List Comp) (vals : Comps) (rem : List Comp) (rels : Rels) :
    SS :=
  match find ss.ents e with
  | none => ss
  | some en =>
    if XchgOK ss en add rem rels then
      { ss with ents := upd ss.ents e (xchgEntry ss.zst add vals rem rels) }
    else ss

def preXchg (ss : SS) (e : Ent) (add rem : List Comp) (rels : Rels) : Prop :=
  ∃ en, find ss.ents e = some en ∧ XchgOK ss en add rem rels

/-- what is a step: as for `add` (`RelRefine.guard`) — a handle the client was given, registered
    component IDs to add, a relation list that names no relation component twice and every
    relation component among `add` (`RelsStep`: what `createTable` would notice only after the
    archetype was created), whose targets are the zero entity or handles the client was given.
    A dead target, a relation on a non-relation component and a relation on a component that is
    not added are refused before anything is touched, through `Unsafe.Exchange` as through
    `ExchangeN.Exchange`: such calls are steps. -/
def guardXchg (s : St) (p : Path) (e : Ent) (add : List Comp) (rels : Rels) : Bool :=
  decide (e ∈ s.issued) && (add.all fun c => decide (c < s.ss.zst.length)) &&
    decide (RelsStep s.ss.isRel p add rels) && tgtsExpr s rels

/-- the guard of `Exchange` is the guard of `Add` on the added components -/
theorem guardXchg_iff {s : St} {p : Path} {e : Ent} {add : List Comp} {rels : Rels} :
    guardXchg s p e add rels = true ↔
      ((e ∈ s.issued ∧ ∀ c ∈ add, c < s.ss.zst.length) ∧ RelsStep s.ss.isRel p add rels) ∧
        tgtsExpr s rels = true :=
  guard_add (vals := [])

/-- the operations: those of `Ark.RelRefine2` and `Exchange` -/
inductive Op3
  /-- an operation of `Ark.RelRefine2` (entity operations with relations, `CopyEntity`, `Shrink`,
      `Reset`, filter operations, queries) -/
  | base2 (op : Op2)
  /-- `Exchange(e, add, rem, rels)` through the access path `p`, writing `vals` -/
  | xchg (p : Path) (e : Ent) (add : List Comp) (vals : Comps) (rem : List Comp) (rels : Rels)
  deriving Repr

/-- one step in lock step: the model operation and the specification step.  A panic keeps the
    state the model reached (Go `recover`); that a rejected call leaves the world unchanged is a
    theorem, not part of the definition. -/
def step3 (run : ProbeRunner) (s : St) : Op3 → St
  | .base2 op => step2 run s op
  | .xchg p e add vals rem rels =>
    if guardXchg s p e add rels = true then
      ⟨(opExchange run p e add vals rem rels s.w).state, s.issued,
        specXchg s.ss e add vals rem rels⟩
    else s

def runOps3 (run : ProbeRunner) (s : St) (ops : List Op3) : St := ops.foldl (step3 run) s

def reach3 (run : ProbeRunner) (cap rel : Nat) (ops : List Op3) : St :=
  runOps3 run (St.init cap rel) ops

theorem reach3_snoc (run : ProbeRunner) (cap rel : Nat) (ops : List Op3) (op : Op3) :
    reach3 run cap rel (ops ++ [op]) = step3 run (reach3 run cap rel ops) op := by
  simp only [reach3, runOps3, List.foldl_append, List.foldl_cons, List.foldl_nil]

theorem specXchg_of_not_pre (ss : SS) (e : Ent) (add : List Comp) (vals : Comps) (rem : List Comp)
    (rels : Rels) (h : ¬ preXchg ss e add rem rels) : specXchg ss e add vals rem rels = ss := by
  simp only [specXchg]
  cases hf : find ss.ents e with
  | none => rfl
  | some en => exact if_neg (fun hv => h ⟨en, hf, hv⟩)

/-- **the panic class of a rejected `Exchange`**, from the specification alone, in the order of
    the checks: through `Unsafe.Exchange` an unknown or dead handle, then the pre-validation
    (`preKindP`), on the other paths the other way round; then both lists empty; then the class
    the mask walk of `graph.Find` reports (`missing`, `alreadyHas`, `addedAndRemoved`) -/
def rejKindX (ss : SS) (p : Path) (e : Ent) (add rem : List Comp) (rels : Rels) : PanicKind :=
  match find ss.ents e with
  | none => if p = .unsafe_ then .deadEntity else (preKindP ss p add rels).getD .deadEntity
  | some en =>
    (preKindP ss p add rels).getD
      (if add = [] ∧ rem = [] then .noComponents
       else findKind (Mask.ofList (keys en.comps)) add rem)

theorem xchg_rej (run : ProbeRunner) {s : St} {fl : List Nat} (HB : HInv s fl)
    {p : Path} {e : Ent} {add : List Comp} (vals : Comps) (rem : List Comp) {rels : Rels}
    (hg : guardXchg s p e add rels = true) (hnp : ¬ preXchg s.ss e add rem rels) :
    opExchange run p e add vals rem rels s.w = .panic (rejKindX s.ss p e add rem rels) s.w := by
  obtain ⟨⟨⟨hi, hreg⟩, hst⟩, hx⟩ := guardXchg_iff.mp hg
  have hb256 : ∀ (c : Comp), c ∈ add → c < 256 :=
    fun c hc => HB.reg256 (by rw [← HB.zlen]; exact hreg c hc)
  have hal := HB.alive_eq_find hi
  have hpk := HB.preCheck_kind p add hx
  cases hf : find s.ss.ents e with
  | none =>
    have ha : s.w.alive e = false := by rw [hal, hf]; rfl
    have hcore := exchangeCore_dead run s.w HB.unlocked e ha add rem rels
    -- a dead handle: `Unsafe.Exchange` tests `Alive(e)` BEFORE the relation validation, the other
    -- paths only inside `World.exchange`, after it — the only reason for the split on `p`
    -- (`hpk`: the validation's outcome, `hcore`: the core's)
    by_cases hpu : p = .unsafe_
    · subst hpu
      rw [opExchange_dead_first run e add vals rem rels s.w ha]
      simp only [rejKindX, hf, if_true]
    · cases hk : preKindP s.ss p add rels with
      | some k =>
        rw [hk] at hpk
        rw [opExchange_preCheck_panic run p e add vals rem rels s.w (Or.inl hpu) hpk]
        simp only [rejKindX, hf, if_neg hpu, hk, Option.getD_some]
      | none =>
        rw [hk] at hpk
        rw [opExchange_core_panic run p e add vals rem rels s.w (Or.inl hpu) hpk hcore]
        simp only [rejKindX, hf, if_neg hpu, hk, Option.getD_none]
  | some en =>
    have ha : s.w.alive e = true := by rw [hal, hf]; rfl
    cases hk : preKindP s.ss p add rels with
    | some k =>
      rw [hk] at hpk
      rw [opExchange_preCheck_panic run p e add vals rem rels s.w (Or.inr ha) hpk]
      simp only [rejKindX, hf, hk, Option.getD_some]
    | none =>
      rw [hk] at hpk
      obtain ⟨hwf, hv⟩ := wf_of_pre_ok HB hx hst hk
      have hmask := (HB.live hf).mask
      have hmeq : s.w.maskOf e = Mask.ofList (keys en.comps) := by
        apply Mask.ext_get
        intro c hc
        rw [Mask.get_ofList, Bool.eq_iff_iff, hmask c]
        simp [hc]
      have hv1 : ¬ (¬ (add = [] ∧ rem = []) ∧ rem.Nodup ∧ (∀ c ∈ rem, c ∈ keys en.comps) ∧
          add.Nodup ∧ ∀ c ∈ add, c < s.ss.zst.length ∧ c ∉ keys en.comps) :=
        fun hh => hnp ⟨en, hf, hh, hwf, hv⟩
      by_cases hne : add = [] ∧ rem = []
      · obtain ⟨rfl, rfl⟩ := hne
        rw [opExchange_core_panic run p e [] vals [] rels s.w (Or.inr ha) hpk
          (exchangeCore_noComponents run s.w HB.unlocked e ha rels)]
        simp only [rejKindX, hf, hk, Option.getD_none, and_self, if_true]
      · obtain ⟨k, _, hgk⟩ := graphFind_bad (s.w.maskOf e) add rem s.w hb256 (by
          rintro ⟨k1, k2, k3, k4⟩
          refine hv1 ⟨hne, k1, fun c hc => (hmask c).mp (k2 c hc), k3,
            fun c hc => ⟨hreg c hc, fun hk' => ?_⟩⟩
          have := (hmask c).mpr hk'
          rw [k4 c hc] at this; cases this)
        have hcore := exchangeCore_reject_kind run e add rem rels s.w HB.unlocked ha hne hgk
        have hfk : findKind (Mask.ofList (keys en.comps)) add rem = k := by
          rw [← hmeq]; exact Refine.findKind_of_panic hgk
        rw [opExchange_core_panic run p e add vals rem rels s.w (Or.inr ha) hpk hcore]
        simp only [rejKindX, hf, hk, Option.getD_none, if_neg hne, hfk]

/-- Stated for the base invariant `RelRefine.HInv` alone: the step lemmas of the machines with
    `Exchange` add what their own invariants need (from `QKeep`, `CKeep`, `XchgRelPost`). -/
theorem xchg_base (run : ProbeRunner) {s : St} {fl : List Nat} (HB : HInv s fl)
    (hfew : s.w.tables.length < maxU32) (hent : s.w.entities.length + 1 < 2 ^ 32)
    {p : Path} {e : Ent} {add : List Comp} (vals : Comps) (rem : List Comp) {rels : Rels}
    (hg : guardXchg s p e add rels = true) :
    (¬ preXchg s.ss e add rem rels ∧
      ∃ k, opExchange run p e add vals rem rels s.w = .panic k s.w) ∨
    (preXchg s.ss e add rem rels ∧ ∃ w', opExchange run p e add vals rem rels s.w = .ok () w' ∧
      HInv ⟨w', s.issued, specXchg s.ss e add vals rem rels⟩ fl ∧
      XchgRelPost s.w fl e add rem vals rels w' ∧ QKeep s.w w' ∧ CKeep s.w w') := by
  by_cases hp : preXchg s.ss e add rem rels
  case neg => exact Or.inl ⟨hp, _, xchg_rej run HB vals rem hg hp⟩
  have hx := (guardXchg_iff.mp hg).2
  obtain ⟨en, hf, hok⟩ := hp
  obtain ⟨old, new, w2, hcore, hno2, hpre, cp, post, hinv⟩ :=
    acc_move run HB hfew hent hf hok hx vals
  have k := cp.shape.keep HB.tinv (HB.live hf).alive vals hent
  refine Or.inr ⟨⟨en, hf, hok⟩, _,
    opExchange_rel_eq run p e add vals rem rels s.w (HB.live hf).alive (hpre p) hcore hno2,
    ?_, post, k.1, k.2⟩
  have hss : specXchg s.ss e add vals rem rels =
      ⟨upd s.ss.ents e (xchgEntry s.ss.zst add vals rem rels), s.ss.zst, s.ss.isRel⟩ := by
    simp only [specXchg, hf, if_pos hok]
  rw [hss]; exact hinv

/-- the conclusion of the step lemma, by position: the invariant is kept; `Grows`; a step whose
    precondition fails is rejected with the world unchanged; one whose precondition holds succeeds -/
def XchgGoal (run : ProbeRunner) (s : St) (p : Path) (e : Ent) (add : List Comp) (vals : Comps)
    (rem : List Comp) (rels : Rels) : Prop :=
  (∃ fl', HInv2 (step3 run s (.xchg p e add vals rem rels)) fl') ∧
  Grows s (step3 run s (.xchg p e add vals rem rels)) ∧
  (guardXchg s p e add rels = true → ¬ preXchg s.ss e add rem rels →
    ∃ k, opExchange run p e add vals rem rels s.w = .panic k s.w) ∧
  (guardXchg s p e add rels = true → preXchg s.ss e add rem rels →
    ∃ w', opExchange run p e add vals rem rels s.w = .ok () w')

theorem step3_xchg (run : ProbeRunner) {s : St} {fl : List Nat} (H : HInv2 s fl)
    (hfew : s.w.tables.length < maxU32) (hent : s.w.entities.length + 1 < 2 ^ 32)
    (p : Path) (e : Ent) (add : List Comp) (vals : Comps) (rem : List Comp) (rels : Rels) :
    XchgGoal run s p e add vals rem rels := by
  by_cases hg : guardXchg s p e add rels = true
  case neg =>
    have : step3 run s (.xchg p e add vals rem rels) = s := if_neg hg
    exact ⟨⟨fl, by rw [this]; exact H⟩, by rw [this]; exact Grows.refl s,
      fun h => absurd h hg, fun h => absurd h hg⟩
  have hstep : step3 run s (.xchg p e add vals rem rels) =
      ⟨(opExchange run p e add vals rem rels s.w).state, s.issued,
        specXchg s.ss e add vals rem rels⟩ := if_pos hg
  rcases xchg_base run H.base hfew hent vals rem hg with
    ⟨hnp, k, hop⟩ | ⟨hp, w', hop, hinv, post, qk, ck⟩
  · have : step3 run s (.xchg p e add vals rem rels) = s := by
      rw [hstep, hop, specXchg_of_not_pre _ _ _ _ _ _ hnp]; rfl
    exact ⟨⟨fl, by rw [this]; exact H⟩, by rw [this]; exact Grows.refl s,
      fun _ _ => ⟨k, hop⟩, fun _ hp => absurd hp hnp⟩
  · rw [XchgGoal, hstep, hop]
    exact ⟨⟨fl, hinv, H.finv.kept ⟨qk, ck, post.locks, isRelComp_of_kinds post.kinds⟩⟩,
      ⟨Nat.le_trans post.tablesLen (Nat.le_add_right _ _), post.relArchs,
        Nat.le_trans (Nat.le_of_eq post.entitiesLen) (Nat.le_succ _)⟩,
      fun _ hnp => absurd hp hnp, fun _ _ => ⟨w', rfl⟩⟩

end RelRefine3
end Ark
