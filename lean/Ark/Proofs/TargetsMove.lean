/-
  Ark.Proofs.TargetsMove — C04 at world level: the building blocks of `cleanupArchetypes`:
  `getExchangeTargetsUnchecked` as `colRels` of `setTargets`, what `moveEntities`
  looks like to the entities (`Moved`), and `getTable` for an archetype with relation columns.
-/
import Ark.Proofs.TargetsCreate
import Ark.Proofs.TableMove

set_option autoImplicit false

namespace Ark

open World Ark.Props.C01World

namespace World

theorem getExchangeTargetsUnchecked_eq (T : Table) (rels : List RelID)
    (h : ∀ (r : RelID), r ∈ rels → (T.colIdx r.comp).isSome = true) :
    getExchangeTargetsUnchecked T rels =
      some (colRels T.ids (setTargets T.colIdx rels T.targets) T.isRel) := by
  unfold getExchangeTargetsUnchecked
  have : (rels.all fun r => (T.colIdx r.comp).isSome) = true := List.all_eq_true.2 h
  rw [this]
  rfl

end World

/-! ## `moveEntities` seen by the entities -/

structure Moved (w w' : World) (src dst : Nat) : Prop where
  idx : IdxInv w'
  ms : MetaStep w w'
  pool : w'.pool = w.pool
  isTarget : w'.isTarget = w.isTarget
  obs : w'.obs = w.obs
  locks : w'.locks = w.locks
  maxComps : w'.maxComps = w.maxComps
  idxSame : IdxSame w w'
  srcLen : (w'.tbl src).len = 0
  lenOther : ∀ (t : Nat), t ≠ src → t ≠ dst → w'.tables[t]? = w.tables[t]?
  same : ∀ (j : Nat), SameEnt w w' j
  tgtIn : ∀ (j r : Nat), w.entities[j]? = some (src, r) → ∀ (c : Comp),
    targetOf w' j c = (w.tbl dst).targetAt c
  tgtOut : ∀ (j : Nat), (∀ (r : Nat), w.entities[j]? ≠ some (src, r)) → ∀ (c : Comp),
    targetOf w' j c = targetOf w j c

namespace World

theorem moveEntitiesW_def (w : World) (src dst count : Nat) :
    moveEntitiesW w src dst count =
      ((List.range (((w.modTbl dst fun D => D.addAll (w.tbl src) count).tbl dst).len -
          (w.tbl dst).len)).foldl (idxStep dst (w.tbl dst).len)
        (w.modTbl dst fun D => D.addAll (w.tbl src) count)).modTbl src Table.reset := rfl

theorem moveEntitiesW_keep {β : Type} (p : World → β)
    (h1 : ∀ (w : World) (t : Nat) (T : Table), p (w.setTbl t T) = p w)
    (h2 : ∀ (w : World) (dst base k : Nat), p (idxStep dst base w k) = p w)
    (w : World) (src dst count : Nat) : p (moveEntitiesW w src dst count) = p w := by
  rw [moveEntitiesW_def]
  simp only [modTbl]
  rw [h1, foldl_keep _ p (fun w k => h2 w _ _ k), h1]

theorem moveEntitiesW_fields (w : World) (src dst count : Nat) :
    (moveEntitiesW w src dst count).archetypes = w.archetypes ∧
    (moveEntitiesW w src dst count).kinds = w.kinds ∧
    (moveEntitiesW w src dst count).relationArchetypes = w.relationArchetypes ∧
    (moveEntitiesW w src dst count).cache = w.cache ∧
    (moveEntitiesW w src dst count).pool = w.pool ∧
    (moveEntitiesW w src dst count).isTarget = w.isTarget ∧
    (moveEntitiesW w src dst count).obs = w.obs ∧
    (moveEntitiesW w src dst count).locks = w.locks ∧
    (moveEntitiesW w src dst count).maxComps = w.maxComps :=
  ⟨moveEntitiesW_keep (·.archetypes) (fun _ _ _ => rfl) (fun _ _ _ _ => rfl) w src dst count,
   moveEntitiesW_keep (·.kinds) (fun _ _ _ => rfl) (fun _ _ _ _ => rfl) w src dst count,
   moveEntitiesW_keep (·.relationArchetypes) (fun _ _ _ => rfl) (fun _ _ _ _ => rfl) w src dst count,
   moveEntitiesW_keep (·.cache) (fun _ _ _ => rfl) (fun _ _ _ _ => rfl) w src dst count,
   moveEntitiesW_keep (·.pool) (fun _ _ _ => rfl) (fun _ _ _ _ => rfl) w src dst count,
   moveEntitiesW_keep (·.isTarget) (fun _ _ _ => rfl) (fun _ _ _ _ => rfl) w src dst count,
   moveEntitiesW_keep (·.obs) (fun _ _ _ => rfl) (fun _ _ _ _ => rfl) w src dst count,
   moveEntitiesW_keep (·.locks) (fun _ _ _ => rfl) (fun _ _ _ _ => rfl) w src dst count,
   moveEntitiesW_keep (·.maxComps) (fun _ _ _ => rfl) (fun _ _ _ _ => rfl) w src dst count⟩

end World

theorem IdxInv.moved {w : World} (h : IdxInv w) {src dst : Nat} (hne : src ≠ dst)
    (hs : src < w.tables.length) (hd : dst < w.tables.length) (hsm : src ≠ maxU32)
    (hdm : dst ≠ maxU32) (hids : (w.tbl src).ids = (w.tbl dst).ids)
    (hzst : (w.tbl src).zst = (w.tbl dst).zst)
    (hb : (w.tbl dst).len + (w.tbl src).len < 2 ^ 32) :
    Moved w (moveEntitiesW w src dst (w.tbl src).len) src dst := by
  have c := moveEntitiesW_core h hne hs hd hsm hdm hids hzst hb
  obtain ⟨fa, fk, fra, fc, fp, fit, fo, fl, fm⟩ := moveEntitiesW_fields w src dst (w.tbl src).len
  generalize moveEntitiesW w src dst (w.tbl src).len = X at c fa fk fra fc fp fit fo fl fm ⊢
  have hms : MetaStep w X := ⟨fa, fk, fra, fc, c.tablesLen, c.tmeta⟩
  have hS := get_of_lt hs
  have hin : ∀ (j r : Nat), w.entities[j]? = some (src, r) →
      r < (w.tbl src).len ∧ ((w.tbl src).getEntity r).id = j := by
    intro j r hj
    obtain ⟨_, hr, hid⟩ := h.indexed hj hsm
    exact ⟨hr, hid⟩
  have hout : ∀ (j : Nat), (∀ (r : Nat), w.entities[j]? ≠ some (src, r)) →
      ∀ (k : Nat), k < (w.tbl src).len → ((w.tbl src).getEntity k).id ≠ j :=
    fun j hj k hk heq => hj k (heq ▸ h.rowIdx src _ k hS hk)
  exact
    { idx := c.idx, ms := hms, pool := fp, isTarget := fit, obs := fo, locks := fl, maxComps := fm
      idxSame := c.idxSame
      srcLen := by rw [c.srcTbl]; rfl
      lenOther := fun t h1 h2 => by
        have e := c.others t h1 h2
        by_cases ht : t < w.tables.length
        · rw [get_of_lt ht, ← e]; exact get_of_lt (by rw [c.tablesLen]; exact ht)
        · have h1 : w.tables.length ≤ t := by omega
          rw [List.getElem?_eq_none h1, List.getElem?_eq_none (by rw [c.tablesLen]; exact h1)]
      same := fun j => by
        by_cases hex : ∃ r, w.entities[j]? = some (src, r)
        · -- a moved entity: the same columns (`hids`), and in them the cells of its old row
          obtain ⟨r, hj⟩ := hex
          obtain ⟨hr, hid⟩ := hin j r hj
          obtain ⟨m1, m2, m3⟩ := c.moved r hr
          rw [hid] at m1 m2 m3
          have hcs : compsOf w j = some (w.tbl dst).ids := hids ▸ compsOf_of_entry hj hsm hS
          refine ⟨fun cc => ?_, m2.trans hcs.symm⟩
          by_cases hc : cc ∈ (w.tbl dst).ids
          · rw [m3 cc hc, if_pos (hids ▸ hc)]
          · rw [valOf_none_of_comps m2 hc, valOf_none_of_comps hcs hc]
        · exact (c.frame j (hout j (fun r hh => hex ⟨r, hh⟩))).1
      tgtIn := fun j r hj cc => by
        obtain ⟨hr, hid⟩ := hin j r hj
        have m1 := (c.moved r hr).1
        rw [hid] at m1
        rw [targetOf_of_entry m1 hdm c.dstGet]
        exact Table.targetAt_sameMeta (c.tmeta dst hd) cc
      tgtOut := fun j hj cc => hms.targetOf (c.frame j (hout j hj)).2 cc }

/-! ## `getTable` in an archetype with relation columns -/

namespace World

/-- `hne`, `hr`, `hlen`: the two early returns and the count check that `getTable` passes before it
    looks for a component named twice.  (Without an active table `getTable` answers "no table"
    before any check, and `createTable` refuses the list — `createTable_rejects_twice`.) -/
theorem getTable_rel_twice {w : World} {a : Nat} {rels : List RelID}
    (hr : (w.arch a).hasRelations = true) (hne : (w.arch a).tables.tables.isEmpty = false)
    (hlen : (w.arch a).numRel ≤ rels.length) (hd : ¬ (rels.map (·.comp)).Nodup) :
    getTable a rels w = .panic .relTwice w := by
  unfold getTable
  simp only [hr, hne, Bool.not_true, Bool.false_eq_true, if_false,
    if_neg (show ¬ rels.length < (w.arch a).numRel by omega),
    (namedTwice_nil_eq_true_iff rels).mpr hd, if_true]

theorem getTable_some_nodup {w w' : World} {a : Nat} {rels : List RelID} {t : Nat}
    (hr : (w.arch a).hasRelations = true) (h : getTable a rels w = .ok (some t) w') :
    (rels.map (·.comp)).Nodup :=
  ((getTable_spec a rels w).2 t w' h hr).2.1

/-- normal form: the scan of the tables listed under the first relation's target -/
theorem getTable_rel_eq {w : World} {a : Nat} {r0 : RelID} {rest : List RelID} {i : Nat}
    (hr : (w.arch a).hasRelations = true) (hlen : (w.arch a).numRel ≤ (r0 :: rest).length)
    (hcol : (w.arch a).colIdx r0.comp = some i)
    (hnd : ((r0 :: rest).map (·.comp)).Nodup) :
    getTable a (r0 :: rest) w =
      if (w.arch a).tables.tables.isEmpty then .ok none w
      else match AL.find? ((w.arch a).relationTables.getD i []) r0.target.id with
        | none => .ok none w
        | some ts => getTable.go (r0 :: rest) w ts.tables := by
  unfold getTable
  simp only [hr, Bool.not_true, Bool.false_eq_true, if_false, hcol,
    (namedTwice_nil_eq_false_iff (r0 :: rest)).mpr hnd]
  by_cases he : (w.arch a).tables.tables.isEmpty = true
  · simp only [he, if_true]
  · rw [if_neg he, if_neg he, if_neg (show ¬ (r0 :: rest).length < (w.arch a).numRel by omega)]
    cases AL.find? ((w.arch a).relationTables.getD i []) r0.target.id <;> rfl

theorem getTable_rel_total {w : World} {a : Nat} {r0 : RelID} {rest : List RelID} {i : Nat}
    (hr : (w.arch a).hasRelations = true) (hlen : (w.arch a).numRel ≤ (r0 :: rest).length)
    (hcol : (w.arch a).colIdx r0.comp = some i)
    (hnd : ((r0 :: rest).map (·.comp)).Nodup)
    (hlist : ∀ (ts : TableIDs),
      AL.find? ((w.arch a).relationTables.getD i []) r0.target.id = some ts → ∀ (t : Nat),
      t ∈ ts.tables → (w.tbl t).matchesExact (r0 :: rest) = .yes ∨
        (w.tbl t).matchesExact (r0 :: rest) = .no) :
    ∃ (r : Option Nat), getTable a (r0 :: rest) w = .ok r w := by
  rw [getTable_rel_eq hr hlen hcol hnd]
  split
  · exact ⟨none, rfl⟩
  · cases hf : AL.find? ((w.arch a).relationTables.getD i []) r0.target.id with
    | none => exact ⟨none, rfl⟩
    | some ts => exact getTable_go_total _ w ts.tables (hlist ts hf)

theorem getTable_rel_some {w w' : World} {a : Nat} {r0 : RelID} {rest : List RelID} {i t : Nat}
    (hr : (w.arch a).hasRelations = true) (hcol : (w.arch a).colIdx r0.comp = some i)
    (h : getTable a (r0 :: rest) w = .ok (some t) w') :
    ∃ (ts : TableIDs), AL.find? ((w.arch a).relationTables.getD i []) r0.target.id = some ts ∧
      t ∈ ts.tables := by
  obtain ⟨_, _, r0', _, i', ts, e, hc, hf, hm, _⟩ := (getTable_spec a _ w).2 t w' h hr
  injection e with e _
  subst e
  rw [hcol] at hc
  injection hc with hc
  subst hc
  exact ⟨ts, hf, hm⟩

end World

end Ark
