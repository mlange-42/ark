/-
  Ark.Proofs.TargetsAdd — C04 at world level: `Add` with relations (`addCore` / `opAdd`):
  an accepted call keeps the invariants, gives the entity the targets named, keeps its old
  targets, and changes no other entity (`AddRelPost`); its exact components and values
  (`AddRelMore`).  `TInv.add_lookup` is the table lookup of an accepted call, for every theorem
  about `Add` in a world with relations.  `Good.add`; then what the step lemmas `Good.newEntity`,
  `.removeEntity`, `.setRelations`, `.add` ask of a call, each as one decidable proposition
  (`Good.NewOK/DelOK/SetRelOK/AddOK`, with `Good.new_of/del_of/setRel_of/add_of`).
-/
import Ark.Proofs.Refine
import Ark.Proofs.RelRejects
import Ark.Proofs.TargetsSetRel

set_option autoImplicit false

namespace Ark

open World Ark.Props.C01World

theorem opAdd_ok_preCheck (run : ProbeRunner) (p : Path) {w w' : World} {e : Ent} {ids : List Comp}
    {vals : List (Comp × Val)} {rels : List RelID} (hok : opAdd run p e ids vals rels w = .ok () w') :
    preCheck (p.addCheck ids) ids rels w = .ok () w := by
  rcases preCheck_cases (p.addCheck ids) ids rels w with h1 | ⟨k, h1⟩
  · exact h1
  · exfalso
    by_cases ha : p = .typed ∨ w.alive e = true
    · rw [opAdd_preCheck_panic run vals ha h1] at hok; cases hok
    · have hd : w.alive e = false := by
        cases hx : w.alive e with
        | false => rfl
        | true => exact absurd (Or.inr hx) ha
      rw [opAdd_dead_first run p (fun hp => ha (Or.inl hp)) e ids vals rels w hd] at hok
      cases hok

/-- **the lookup of an accepted `Add(e, ids…, rels…)`** (live `e`, registered components, `rels`
    among them and none twice, no observers): `e` sits in row `row` of the non-free table `oldT`;
    `ids` is not empty; `findOrCreateTableAdd` returns another table `newT` (`AddedRel`), and the
    result is the move of `e` to `newT`, `registerTargets` and the writes. -/
theorem TInv.add_lookup (run : ProbeRunner) (p : Path) {w : World} {fl : List Nat} (h : TInv w fl)
    (hl : w.isLocked = false) (hno : ∀ (evt : Nat), w.obs.hasObservers evt = false) {e : Ent}
    (h2 : 2 ≤ e.id) (hnf : e.id ∉ fl) (ha : w.alive e = true) (hsl : e.id < w.pool.ents.length)
    {ids : List Comp} {vals : List (Comp × Val)} {rels : List RelID}
    (hreg : ∀ (c : Comp), c ∈ ids → c < w.kinds.length)
    (hnd : (rels.map (·.comp)).Nodup) (hin : ∀ (r : RelID), r ∈ rels → r.comp ∈ ids)
    {w' : World} (hok : opAdd run p e ids vals rels w = .ok () w') :
    ∃ (oldT row newT newA : Nat) (mask : Mask) (w1 : World),
      w.entities[e.id]? = some (oldT, row) ∧ oldT ≠ maxU32 ∧
      w.tables[oldT]? = some (w.tbl oldT) ∧ (w.tbl oldT).isFree = false ∧ ids.isEmpty = false ∧
      findOrCreateTableAdd oldT (w.arch (w.tbl oldT).arch).mask ids rels w =
        .ok (newT, newA, mask) w1 ∧
      mask = ids.foldl Mask.set (w.arch (w.tbl oldT).arch).mask ∧
      AddedRel w w1 oldT rels mask newT newA ∧ oldT ≠ newT ∧
      w' = writeValsW (registerW (addMove w1 e oldT row newT mask) rels) e vals := by
  obtain ⟨oldT, row, he, htm, hT, _, hTf⟩ := h.live_table h2 hnf ha hsl
  have hix := index_of_get he
  have hlt := lt_of_get hT
  have hS := h.rel.sinv.toSInvMid
  have hpre := opAdd_ok_preCheck run p hok
  obtain ⟨r0, w0, hc0⟩ : ∃ r0 w0, addCore e ids rels w = .ok r0 w0 := by
    cases hc : addCore e ids rels w with
    | ok r0 w0 => exact ⟨r0, w0, rfl⟩
    | panic k s => rw [opAdd_core_panic run vals (Or.inr ha) hpre hc] at hok; cases hok
  have hemp : ids.isEmpty = false := by
    cases hi : ids.isEmpty with
    | false => rfl
    | true =>
      simp [addCore, bind, M.bind, checkLocked_unlocked w hl, M.get, M.assert, ha, hi] at hc0
  cases hf : findOrCreateTableAdd oldT (w.arch (w.tbl oldT).arch).mask ids rels w with
  | panic k s =>
    simp [addCore, bind, M.bind, checkLocked_unlocked w hl, M.get, M.assert, ha, hemp, hix, hf] at hc0
  | ok res w1 =>
    obtain ⟨newT, newA, mask⟩ := res
    obtain ⟨hmask, ar⟩ := h.rel.findOrCreateTableAdd h.flags h.freeEmpty (hS.tblMask_reg hT) hreg
      hlt hTf (hS.relIDs_mask hT) hnd hin hf
    have hnew := findOrCreateTableAdd_new hf
    -- the new table has a component the old one lacks
    have hne' : oldT ≠ newT := by
      refine Ne.symm (ar.foc.ne_old h.rel.sinv hlt ?_)
      cases hids : ids with
      | nil => rw [hids] at hemp; cases hemp
      | cons c rest =>
        intro heq
        have hc : c ∈ ids := by rw [hids]; exact List.mem_cons_self
        have h1 := hnew c hc
        have h256 : c < 256 := Nat.lt_of_lt_of_le (hreg c hc) (Nat.le_trans h.kindsLe.1 h.kindsLe.2)
        rw [← heq, hmask, Mask.get_ofList_foldl] at h1
        simp [h256, hc] at h1
    refine ⟨oldT, row, newT, newA, mask, w1, he, htm, hT, hTf, hemp, hf, hmask, ar, hne', ?_⟩
    have hno3 : ∀ (evt : Nat),
        (registerW (addMove w1 e oldT row newT mask) rels).obs.hasObservers evt = false := by
      intro evt
      rw [(registerW_fields _ _).1, (addMove_fields w1 e oldT row newT mask).2.2.2.obs,
        ar.untouched.obs]
      exact hno evt
    rw [opAdd_rel_eq run p e ids vals rels w ha hpre
      (addCore_rel_eq e ids rels w hl ha hemp hix hf) hno3] at hok
    injection hok with _ hw
    exact hw.symm

structure AddRelPost (w : World) (fl : List Nat) (e : Ent) (ids : List Comp)
    (vals : List (Comp × Val)) (rels : List RelID) (w' : World) : Prop where
  tinv : TInv w' fl
  aliveSame : ∀ (x : Ent), w'.alive x = w.alive x
  valid : ∀ (r : RelID), r ∈ rels → r.target.isZero = true ∨ w.alive r.target = true
  targets : ∀ (r : RelID), r ∈ rels → targetOf w' e.id r.comp = some r.target
  oldTargets : ∀ (c : Comp) (x : Ent), targetOf w e.id c = some x → targetOf w' e.id c = some x
  comps : ∀ (cs : List Comp), compsOf w e.id = some cs →
    ∃ (cs' : List Comp), compsOf w' e.id = some cs' ∧ ∀ (c : Comp), c ∈ cs' ↔ c ∈ cs ∨ c ∈ ids
  oldVals : ∀ (c : Comp) (v : Val), valOf w e.id c = some v →
    (∀ (cv : Comp × Val), cv ∈ vals → cv.1 ≠ c) → valOf w' e.id c = some v
  frame : ∀ (j : Nat), j ≠ e.id → SameEnt w w' j ∧ ∀ (c : Comp), targetOf w' j c = targetOf w j c
  obs : w'.obs = w.obs
  locks : w'.locks = w.locks
  kinds : w'.kinds = w.kinds
  tablesLen : w'.tables.length ≤ w.tables.length + 1
  entitiesLen : w'.entities.length = w.entities.length

structure AddRelMore (w : World) (e : Ent) (ids : List Comp) (vals : List (Comp × Val))
    (w' : World) : Prop where
  pool : w'.pool = w.pool
  maxComps : w'.maxComps = w.maxComps
  fresh : ∀ (c : Comp), c ∈ ids → valOf w e.id c = none
  nonempty : ids ≠ []
  comps : ∀ (cs : List Comp), compsOf w e.id = some cs →
    compsOf w' e.id = some (Refine.sortedIds w.kinds.length (cs ++ ids))
  kept : ∀ (c : Comp) (v : Val), valOf w e.id c = some v →
    valOf w' e.id c = some (if (w.kinds.getD c {}).zst = true then v else applyVals v vals c)
  added : ∀ (c : Comp), c ∈ ids →
    valOf w' e.id c = some (if (w.kinds.getD c {}).zst = true then 0 else applyVals 0 vals c)
  relArchs : w'.relationArchetypes.length ≤ w.relationArchetypes.length + 1

/-- an accepted `Add` named only zero or alive targets: the pre-validation of every path checks
    each target, whatever the world -/
theorem opAdd_ok_valid (run : ProbeRunner) (p : Path) {w w' : World} {e : Ent} {ids : List Comp}
    {vals : List (Comp × Val)} {rels : List RelID} (hok : opAdd run p e ids vals rels w = .ok () w') :
    ∀ (r : RelID), r ∈ rels → r.target.isZero = true ∨ w.alive r.target = true :=
  fun r hr => (preCheck_ok_valid _ ids w rels (opAdd_ok_preCheck run p hok) r hr).1

/-- the lookup (`TInv.add_lookup`), the move (`ReadyToMove.moved`), the writes -/
theorem opAdd_rel_core (run : ProbeRunner) (p : Path) {w : World} {fl : List Nat} (h : TInv w fl)
    (hl : w.isLocked = false) (hno : ∀ (evt : Nat), w.obs.hasObservers evt = false) {e : Ent}
    (h2 : 2 ≤ e.id) (hnf : e.id ∉ fl) (ha : w.alive e = true) (hsl : e.id < w.pool.ents.length)
    {ids : List Comp}
    {vals : List (Comp × Val)} {rels : List RelID}
    (hreg : ∀ (c : Comp), c ∈ ids → c < w.kinds.length)
    (hnd : (rels.map (·.comp)).Nodup) (hin : ∀ (r : RelID), r ∈ rels → r.comp ∈ ids)
    (hrc : ∀ (r : RelID), r ∈ rels → w.isRelComp r.comp = true)
    (htin : ∀ (r : RelID), r ∈ rels → r.target.id < w.pool.ents.length)
    (hfew : w.tables.length < maxU32) (hrows : w.entities.length + 1 < 2 ^ 32)
    {w' : World} (hok : opAdd run p e ids vals rels w = .ok () w') :
    AddRelPost w fl e ids vals rels w' ∧ AddRelMore w e ids vals w' := by
  have hvalid := opAdd_ok_valid run p hok
  -- the lookup; from here `w'` is written out: move to `newT`, `registerTargets`, the writes
  obtain ⟨oldT, row, newT, newA, mask, w1, he, htm, hT, hTf, hemp, hf, hmask, ar, hne', rfl⟩ :=
    h.add_lookup run p hl hno h2 hnf ha hsl hreg hnd hin hok
  have hlt := lt_of_get hT
  have hS := h.rel.sinv.toSInvMid
  have foc := ar.foc
  -- the columns of `newT` are those of `oldT` and `ids` (`hnewIds`), the `ids` not among the old
  -- ones (`hnotOld`): both read off the masks, `mask` being the old mask with `ids` set
  have holdIds := hS.mem_ids_iff hlt
  have hnew := findOrCreateTableAdd_new hf
  have hnotOld : ∀ (c : Comp), c ∈ ids → c ∉ (w.tbl oldT).ids := fun c hc hh => by
    have := hnew c hc
    rw [(holdIds c).1 hh] at this; cases this
  have hmget : ∀ (c : Comp), c < w.kinds.length →
      (mask.get c = true ↔ c ∈ (w.tbl oldT).ids ++ ids) := by
    intro c hc
    have h256 : c < 256 := Nat.lt_of_lt_of_le hc (Nat.le_trans h.kindsLe.1 h.kindsLe.2)
    rw [hmask, Mask.get_ofList_foldl, List.mem_append, holdIds c]
    simp [h256]
  have hnewIds : ∀ (c : Comp), c ∈ (w1.tbl newT).ids ↔ c ∈ (w.tbl oldT).ids ∨ c ∈ ids := by
    intro c
    rw [foc.tblIds, Mask.mem_toList, ← List.mem_append]
    exact ⟨fun hh => (hmget c hh.1).1 hh.2, fun hh => by
      have hc : c < w.kinds.length := by
        rcases List.mem_append.1 hh with k | k
        · exact hS.tblMask_reg hT c ((holdIds c).1 k)
        · exact hreg c k
      exact ⟨hc, (hmget c hc).2 hh⟩⟩
  -- `newT` stores the target of every relation of `oldT` and of `rels`: its component is a column
  have hcolOf : ∀ (r : RelID), r ∈ (w.tbl oldT).relIDs ++ rels → w.isRelComp r.comp = true →
      (w1.tbl newT).targetAt r.comp = some r.target := by
    intro r hr hrcr
    refine ar.toU.targetAt hr hrcr ((hnewIds r.comp).2 ?_)
    rcases List.mem_append.1 hr with k | k
    · exact Or.inl ((holdIds _).2 (hS.relIDs_mask hT r k))
    · exact Or.inr (hin r k)
  -- the move and `registerTargets` in the entity view (`MovedTo`); the keep mask `mask` covers the
  -- columns of `newT`, so every old value is carried over
  have mv := (ar.toU.ready h hlt hne' hfew).moved h he htm hTf mask
    (fun c hc => by rw [foc.tblIds, Mask.mem_toList] at hc; exact hc.2) (fun r hr _ => htin r hr)
    hrows
  obtain ⟨t3, r3, hent, htm3⟩ := mv.indexed
  have hcs := compsOf_of_entry he htm hT
  -- the writes on top of that change no metadata, observers, locks or targets (`ms4`, `hu4`,
  -- `htgt4`), and values of `e` only (`hwf`), where the last write wins (`hwv`)
  have ms4 := writeValsW_metaStep (registerW (addMove w1 e oldT row newT mask) rels) e vals
  have hu4 := writeValsW_untouched (registerW (addMove w1 e oldT row newT mask) rels) e vals
  have hwf := write_frame mv.tinv.link.idx e vals hent htm3
  have hwv := fun {c : Comp} {v : Val} =>
    valOf_writeVals mv.tinv.link.idx mv.tinv.rel.sinv.toSInvMid hent htm3 vals (c := c) (v := v)
  have htgt4 : ∀ (j : Nat) (c : Comp),
      targetOf (writeValsW (registerW (addMove w1 e oldT row newT mask) rels) e vals) j c =
        targetOf (registerW (addMove w1 e oldT row newT mask) rels) j c :=
    fun j c => ms4.targetOf (by rw [writeValsW_entities]) c
  -- the value of a component of the new table before the writes
  have hval : ∀ (c : Comp), c ∈ (w.tbl oldT).ids ∨ c ∈ ids →
      valOf (registerW (addMove w1 e oldT row newT mask) rels) e.id c =
        if c ∈ (w.tbl oldT).ids then valOf w e.id c else some 0 :=
    fun c hc => mv.vals _ hcs c ((hnewIds c).2 hc)
  constructor
  · exact
      { tinv := mv.tinv.writeVals e vals hent htm3
        aliveSame := fun x => by rw [World.alive, writeValsW_pool, mv.pool]; rfl
        valid := hvalid
        targets := fun r hr => by
          rw [htgt4, mv.targets, hcolOf r (List.mem_append_right _ hr) (hrc r hr)]
        oldTargets := fun c x hx => by
          -- an old target is the target of a listed relation of the old table
          rw [targetOf_of_entry he htm hT] at hx
          obtain ⟨i, hci, hir, hxi⟩ := Table.col_of_targetAt hx
          have hmem := (h.rel.aux.rels oldT _ hT hTf).complete i c (Table.colIdx_get hci) hir
          rw [hxi] at hmem
          rw [htgt4, mv.targets, hcolOf ⟨c, x⟩ (List.mem_append_left _ hmem)
            (hS.isRelComp_of_col hT (Table.colIdx_get hci) hir)]
        comps := fun cs hcs' => by
          obtain rfl := Option.some.inj (hcs.symm.trans hcs')
          exact ⟨_, hwf.2.2.trans mv.comps, hnewIds⟩
        oldVals := fun c v hv hnw => by
          have hc := mem_comps_of_valOf hcs hv
          rw [hwf.2.1 c hnw, hval c (Or.inl hc), if_pos hc, hv]
        frame := fun j hj =>
          ⟨(mv.frame j hj).1.trans ⟨(hwf.1 j hj).1, (hwf.1 j hj).2⟩, fun c => by
            rw [htgt4, (mv.frame j hj).2]⟩
        obs := by rw [hu4.obs, mv.obs]
        locks := by rw [hu4.locks, mv.locks]
        kinds := by rw [ms4.kinds, mv.kinds]
        tablesLen := by rw [ms4.len]; exact mv.tablesLen
        entitiesLen := by rw [writeValsW_entities, mv.entitiesLen] }
  · exact
      { pool := mv.pool
        maxComps := mv.maxComps
        fresh := fun c hc => valOf_none_of_comps hcs (hnotOld c hc)
        nonempty := by intro hh; rw [hh] at hemp; cases hemp
        comps := fun cs hcs' => by
          obtain rfl := Option.some.inj (hcs.symm.trans hcs')
          rw [hwf.2.2, mv.comps, foc.tblIds]
          exact congrArg some (Refine.toList_eq_sortedIds _ _ _ hmget)
        kept := fun c v hv => by
          have hc := mem_comps_of_valOf hcs hv
          rw [hwv (by rw [hval c (Or.inl hc), if_pos hc, hv]), mv.kinds]
        added := fun c hc => by
          rw [hwv (by rw [hval c (Or.inr hc), if_neg (hnotOld c hc)]), mv.kinds]
        relArchs := by
          show (addMove w1 e oldT row newT mask).relationArchetypes.length ≤ _
          rw [(addMove_more w1 e oldT row newT mask).1]
          exact findOrCreateTableAdd_relArchs hf }

/-- `opAdd_ok_valid` under the hypotheses of `opAdd_rel_spec` other than `htin` -/
theorem opAdd_rel_valid (run : ProbeRunner) (p : Path) {w : World} {fl : List Nat} (h : TInv w fl)
    (hl : w.isLocked = false) (hno : ∀ (evt : Nat), w.obs.hasObservers evt = false) {e : Ent}
    (h2 : 2 ≤ e.id) (hnf : e.id ∉ fl) (ha : w.alive e = true) (hsl : e.id < w.pool.ents.length)
    {ids : List Comp}
    {vals : List (Comp × Val)} {rels : List RelID}
    (hreg : ∀ (c : Comp), c ∈ ids → c < w.kinds.length)
    (hnd : (rels.map (·.comp)).Nodup) (hin : ∀ (r : RelID), r ∈ rels → r.comp ∈ ids)
    (hrc : ∀ (r : RelID), r ∈ rels → w.isRelComp r.comp = true)
    (hfew : w.tables.length < maxU32) (hrows : w.entities.length + 1 < 2 ^ 32)
    {w' : World} (hok : opAdd run p e ids vals rels w = .ok () w') :
    ∀ (r : RelID), r ∈ rels → r.target.isZero = true ∨ w.alive r.target = true :=
  opAdd_ok_valid run p hok

/-- **C04, assignment by `Add`**: an accepted `Add(e, ids…, rels…)` through any path for a live
    entity `e` (ID inside the pool slice) — `rels` names relation components among `ids`, none
    twice, with targets whose IDs lie inside the pool slice — no observers: all invariants are kept,
    `e` has the targets named and keeps its old targets, components and (unwritten) values, no
    other entity changes. -/
theorem opAdd_rel_spec (run : ProbeRunner) (p : Path) {w : World} {fl : List Nat} (h : TInv w fl)
    (hl : w.isLocked = false) (hno : ∀ (evt : Nat), w.obs.hasObservers evt = false) {e : Ent}
    (h2 : 2 ≤ e.id) (hnf : e.id ∉ fl) (ha : w.alive e = true) (hsl : e.id < w.pool.ents.length)
    {ids : List Comp}
    {vals : List (Comp × Val)} {rels : List RelID}
    (hreg : ∀ (c : Comp), c ∈ ids → c < w.kinds.length)
    (hnd : (rels.map (·.comp)).Nodup) (hin : ∀ (r : RelID), r ∈ rels → r.comp ∈ ids)
    (hrc : ∀ (r : RelID), r ∈ rels → w.isRelComp r.comp = true)
    (htin : ∀ (r : RelID), r ∈ rels → r.target.id < w.pool.ents.length)
    (hfew : w.tables.length < maxU32) (hrows : w.entities.length + 1 < 2 ^ 32)
    {w' : World} (hok : opAdd run p e ids vals rels w = .ok () w') :
    AddRelPost w fl e ids vals rels w' :=
  (opAdd_rel_core run p h hl hno h2 hnf ha hsl hreg hnd hin hrc htin hfew hrows hok).1

theorem opAdd_rel_more (run : ProbeRunner) (p : Path) {w : World} {fl : List Nat} (h : TInv w fl)
    (hl : w.isLocked = false) (hno : ∀ (evt : Nat), w.obs.hasObservers evt = false) {e : Ent}
    (h2 : 2 ≤ e.id) (hnf : e.id ∉ fl) (ha : w.alive e = true)
    (hsl : e.id < w.pool.ents.length) {ids : List Comp}
    {vals : List (Comp × Val)} {rels : List RelID}
    (hreg : ∀ (c : Comp), c ∈ ids → c < w.kinds.length)
    (hnd : (rels.map (·.comp)).Nodup) (hin : ∀ (r : RelID), r ∈ rels → r.comp ∈ ids)
    (hrc : ∀ (r : RelID), r ∈ rels → w.isRelComp r.comp = true)
    (htin : ∀ (r : RelID), r ∈ rels → r.target.id < w.pool.ents.length)
    (hfew : w.tables.length < maxU32) (hrows : w.entities.length + 1 < 2 ^ 32)
    {w' : World} (hok : opAdd run p e ids vals rels w = .ok () w') :
    AddRelMore w e ids vals w' :=
  (opAdd_rel_core run p h hl hno h2 hnf ha hsl hreg hnd hin hrc htin hfew hrows hok).2

/-- **rejection** (every path; `Unsafe` too since the repair of defect D24): `Add` naming a dead
    target is refused with `deadTarget`, the world unchanged -/
theorem opAdd_deadTarget (run : ProbeRunner) (p : Path) (e : Ent)
    (ids : List Comp) (vals : List (Comp × Val)) (rels : List RelID) (w : World)
    (ha : w.alive e = true)
    (hv : ∀ (r : RelID), r ∈ rels → w.isRelComp r.comp = true ∧ (Mask.ofList ids).get r.comp = true)
    (hd : ∃ (r : RelID), r ∈ rels ∧ r.target.isZero = false ∧ w.alive r.target = false) :
    opAdd run p e ids vals rels w = .panic .deadTarget w :=
  opAdd_preCheck_panic run vals (Or.inr ha) (preCheck_deadTarget (p.addCheck ids) ids w rels hv hd)

theorem Good.add (run : ProbeRunner) (p : Path) {w : World} (h : Good w) {e : Ent}
    (ha : w.alive e = true) (hidx : (w.index e.id).1 ≠ maxU32) (hlt : e.id < w.entities.length)
    {ids : List Comp} {vals : List (Comp × Val)} {rels : List RelID}
    (hreg : ∀ (c : Comp), c ∈ ids → c < w.kinds.length)
    (hnd : (rels.map (·.comp)).Nodup) (hin : ∀ (r : RelID), r ∈ rels → r.comp ∈ ids)
    (hrc : ∀ (r : RelID), r ∈ rels → w.isRelComp r.comp = true)
    (htin : ∀ (r : RelID), r ∈ rels → r.target.id < w.pool.ents.length)
    (hfew : w.tables.length < maxU32) (hrows : w.entities.length + 1 < 2 ^ 32)
    (hnp : panicOf (opAdd run p e ids vals rels w) = none) :
    Good (opAdd run p e ids vals rels w).state := by
  obtain ⟨fl, ht, hl, hno⟩ := h
  obtain ⟨h2, hnf⟩ := live_of_indexed ht hidx hlt
  obtain ⟨u, hr⟩ := ok_of_panicOf hnp
  have post := opAdd_rel_spec run p ht hl hno h2 hnf ha (by rw [← ht.link.lenEq]; exact hlt)
    hreg hnd hin hrc htin hfew hrows hr
  exact Good.of_frame post.tinv post.locks post.obs hl hno

/-! What the step theorems `Good.newEntity`, `.removeEntity`, `.setRelations`, `.add` (and the
    constructors of `QueryRel.Reach`) ask of a call, each as ONE proposition: on a
    concrete world a single evaluation then decides all of it, where one `decide` per hypothesis
    evaluates the world afresh each time. -/

def Good.NewOK (run : ProbeRunner) (p : Path) (ids : List Comp) (vals : List (Comp × Val))
    (rels : List RelID) (w : World) : Prop :=
  (∀ (c : Comp), c ∈ ids → c < w.kinds.length) ∧ (rels.map (·.comp)).Nodup ∧
  (∀ (r : RelID), r ∈ rels → r.comp ∈ ids) ∧
  (∀ (r : RelID), r ∈ rels → w.isRelComp r.comp = true) ∧
  (∀ (r : RelID), r ∈ rels → r.target.id < w.pool.ents.length) ∧
  w.tables.length < maxU32 ∧ w.entities.length + 1 < 2 ^ 32 ∧
  panicOf (opNewEntity run p ids vals rels w) = none

def Good.DelOK (g : Ent) (w : World) : Prop :=
  w.alive g = true ∧ (w.index g.id).1 ≠ maxU32 ∧ g.id < w.entities.length ∧
  w.tables.length + w.relationArchetypes.length + 1 ≤ maxU32 ∧ 2 * w.entities.length < 2 ^ 32

def Good.SetRelOK (run : ProbeRunner) (p : Path) (e : Ent) (mapperIds : List Comp)
    (rels : List RelID) (w : World) : Prop :=
  w.alive e = true ∧ (w.index e.id).1 ≠ maxU32 ∧ e.id < w.entities.length ∧
  rels.isEmpty = false ∧ (rels.map (·.comp)).Nodup ∧
  (∀ (r : RelID), r ∈ rels → (targetOf w e.id r.comp).isSome = true) ∧
  (∀ (r : RelID), r ∈ rels → r.target.id < w.pool.ents.length) ∧
  w.tables.length < maxU32 ∧ w.entities.length + 1 < 2 ^ 32 ∧
  panicOf (opSetRelations run p e mapperIds rels w) = none

def Good.AddOK (run : ProbeRunner) (p : Path) (e : Ent) (ids : List Comp) (vals : List (Comp × Val))
    (rels : List RelID) (w : World) : Prop :=
  w.alive e = true ∧ (w.index e.id).1 ≠ maxU32 ∧ e.id < w.entities.length ∧
  (∀ (c : Comp), c ∈ ids → c < w.kinds.length) ∧ (rels.map (·.comp)).Nodup ∧
  (∀ (r : RelID), r ∈ rels → r.comp ∈ ids) ∧
  (∀ (r : RelID), r ∈ rels → w.isRelComp r.comp = true) ∧
  (∀ (r : RelID), r ∈ rels → r.target.id < w.pool.ents.length) ∧
  w.tables.length < maxU32 ∧ w.entities.length + 1 < 2 ^ 32 ∧
  panicOf (opAdd run p e ids vals rels w) = none

instance {run : ProbeRunner} {p : Path} {ids : List Comp} {vals : List (Comp × Val)}
    {rels : List RelID} {w : World} : Decidable (Good.NewOK run p ids vals rels w) := by
  unfold Good.NewOK; infer_instance

instance {g : Ent} {w : World} : Decidable (Good.DelOK g w) := by unfold Good.DelOK; infer_instance

instance {run : ProbeRunner} {p : Path} {e : Ent} {mapperIds : List Comp} {rels : List RelID}
    {w : World} : Decidable (Good.SetRelOK run p e mapperIds rels w) := by
  unfold Good.SetRelOK; infer_instance

instance {run : ProbeRunner} {p : Path} {e : Ent} {ids : List Comp} {vals : List (Comp × Val)}
    {rels : List RelID} {w : World} : Decidable (Good.AddOK run p e ids vals rels w) := by
  unfold Good.AddOK; infer_instance

theorem Good.new_of {w : World} (g : Good w) {run : ProbeRunner} {p : Path}
    {ids : List Comp} {vals : List (Comp × Val)} {rels : List RelID}
    (h : Good.NewOK run p ids vals rels w) : Good (opNewEntity run p ids vals rels w).state :=
  have ⟨h1, h2, h3, h4, h5, h6, h7, h8⟩ := h
  g.newEntity run p h1 h2 h3 h4 h5 h6 h7 h8

theorem Good.del_of {w : World} (g : Good w) (run : ProbeRunner) {e : Ent}
    (h : Good.DelOK e w) :
    panicOf (opRemoveEntity run e w) = none ∧ Good (opRemoveEntity run e w).state :=
  have ⟨h1, h2, h3, h4, h5⟩ := h
  g.removeEntity run h1 h2 h3 h4 h5

theorem Good.setRel_of {w : World} (g : Good w) {run : ProbeRunner} {p : Path} {e : Ent}
    {mapperIds : List Comp} {rels : List RelID} (h : Good.SetRelOK run p e mapperIds rels w) :
    Good (opSetRelations run p e mapperIds rels w).state :=
  have ⟨h1, h2, h3, h4, h5, h6, h7, h8, h9, h10⟩ := h
  g.setRelations run p h1 h2 h3 h4 h5 h6 h7 h8 h9 h10

theorem Good.add_of {w : World} (g : Good w) {run : ProbeRunner} {p : Path} {e : Ent}
    {ids : List Comp} {vals : List (Comp × Val)} {rels : List RelID}
    (h : Good.AddOK run p e ids vals rels w) : Good (opAdd run p e ids vals rels w).state :=
  have ⟨h1, h2, h3, h4, h5, h6, h7, h8, h9, h10, h11⟩ := h
  g.add run p h1 h2 h3 h4 h5 h6 h7 h8 h9 h10 h11

end Ark
