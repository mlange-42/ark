/-
  Ark.Proofs.RelRefine — the refinement machine for the fragment WITH relation components
  (C01 + C04 over histories): the abstract specification (alive handle ↦ component ↦ value,
  relation component ↦ target; the registry), the history machine that runs model and
  specification in lock step, and the inductive invariant `HInv`.  The invariant is used through
  `HInv.read` (an entity is a function of its entry; `same_keys` / `same_comps` / `same_rels` /
  `same_entry` for two states) and re-established, after a step that keeps registry, locks and
  observers, through `HInv.of_kinds` (`update`, `created` for one entry changed or added).
-/
import Ark.Proofs.Refine
import Ark.Proofs.RelSpecs

set_option autoImplicit false

namespace Ark

open World Ark.Props.C01World

namespace RelRefine

open Refine (Comps keys sortedIds writeComps zeros)

/-- what the specification records about one entity: component ↦ value (all components, also
    the relation components) and relation component ↦ target -/
structure Entry where
  comps : Comps
  rels : List RelID
  deriving DecidableEq, Repr

/-- **the abstract specification state**: alive handle ↦ entry -/
abbrev Spec := List (Ent × Entry)

def find : Spec → Ent → Option Entry
  | [], _ => none
  | x :: rest, e => if x.1 = e then some x.2 else find rest e

def upd (s : Spec) (e : Ent) (f : Entry → Entry) : Spec :=
  s.map fun x => if x.1 = e then (x.1, f x.2) else x

def del : Spec → Ent → Spec
  | [], _ => []
  | x :: rest, e => if x.1 = e then rest else x :: del rest e

def zeroRel (g : Ent) (r : RelID) : RelID := if r.target = g then ⟨r.comp, Ent.zero⟩ else r

def Entry.detach (g : Ent) (en : Entry) : Entry := { en with rels := en.rels.map (zeroRel g) }

def detach (g : Ent) (s : Spec) : Spec := s.map fun x => (x.1, x.2.detach g)

/-- assignment: a relation of `new` replaces the relation of `old` on the same component -/
def setRels (old new : List RelID) : List RelID :=
  old.map fun r =>
    match new.find? (fun r' => r'.comp == r.comp) with
    | some r' => r'
    | none => r

/-- the specification state: entities, and the registry (zero-size flag and relation flag per
    component ID) -/
structure SS where
  ents : Spec
  zst : List Bool
  isRel : List Bool

/-- the relation arguments of a call adding the components `ids` are well-formed: no relation
    component named twice, each names a relation component among `ids`, and every relation
    component among `ids` is named -/
def RelsWF (ir : List Bool) (ids : List Comp) (rels : List RelID) : Prop :=
  (rels.map (·.comp)).Nodup ∧ (∀ r ∈ rels, r.comp ∈ ids ∧ ir.getD r.comp false = true) ∧
    ∀ c ∈ ids, ir.getD c false = true → c ∈ rels.map (·.comp)

instance (ir : List Bool) (ids : List Comp) (rels : List RelID) : Decidable (RelsWF ir ids rels) :=
  inferInstanceAs (Decidable ((rels.map (·.comp)).Nodup ∧
    (∀ r ∈ rels, r.comp ∈ ids ∧ ir.getD r.comp false = true) ∧
    ∀ c ∈ ids, ir.getD c false = true → c ∈ rels.map (·.comp)))

/-- every target named is the zero entity or a handle of the specification (= alive) -/
def TargetsValid (s : Spec) (rels : List RelID) : Prop :=
  ∀ r ∈ rels, r.target.isZero = true ∨ (find s r.target).isSome = true

instance (s : Spec) (rels : List RelID) : Decidable (TargetsValid s rels) :=
  inferInstanceAs (Decidable (∀ r ∈ rels, r.target.isZero = true ∨ (find s r.target).isSome = true))

def NewOK (ss : SS) (ids : List Comp) (rels : List RelID) : Prop :=
  ids.Nodup ∧ (∀ c ∈ ids, c < ss.zst.length) ∧ RelsWF ss.isRel ids rels ∧ TargetsValid ss.ents rels

instance (ss : SS) (ids : List Comp) (rels : List RelID) : Decidable (NewOK ss ids rels) :=
  inferInstanceAs (Decidable (ids.Nodup ∧ (∀ c ∈ ids, c < ss.zst.length) ∧ RelsWF ss.isRel ids rels ∧
    TargetsValid ss.ents rels))

def AddOK (ss : SS) (en : Entry) (ids : List Comp) (rels : List RelID) : Prop :=
  (ids ≠ [] ∧ ids.Nodup ∧ ∀ c ∈ ids, c < ss.zst.length ∧ c ∉ keys en.comps) ∧
    RelsWF ss.isRel ids rels ∧ TargetsValid ss.ents rels

instance (ss : SS) (en : Entry) (ids : List Comp) (rels : List RelID) :
    Decidable (AddOK ss en ids rels) :=
  inferInstanceAs (Decidable ((ids ≠ [] ∧ ids.Nodup ∧ ∀ c ∈ ids, c < ss.zst.length ∧ c ∉ keys en.comps) ∧
    RelsWF ss.isRel ids rels ∧ TargetsValid ss.ents rels))

def SetRelOK (ss : SS) (en : Entry) (rels : List RelID) : Prop :=
  rels ≠ [] ∧ (rels.map (·.comp)).Nodup ∧ (∀ r ∈ rels, r.comp ∈ en.rels.map (·.comp)) ∧
    TargetsValid ss.ents rels

instance (ss : SS) (en : Entry) (rels : List RelID) : Decidable (SetRelOK ss en rels) :=
  inferInstanceAs (Decidable (rels ≠ [] ∧ (rels.map (·.comp)).Nodup ∧
    (∀ r ∈ rels, r.comp ∈ en.rels.map (·.comp)) ∧ TargetsValid ss.ents rels))

abbrev Rels := List RelID

inductive Op
  /-- register a component type of the given size; `isRel`: a relation component -/
  | reg (size : Nat) (zst : Bool) (isRel : Bool)
  /-- `NewEntity(ids…, rels…)` through the access path `p`, writing `vals` -/
  | new (p : Path) (ids : List Comp) (vals : Comps) (rels : Rels)
  /-- `Add(e, ids…, rels…)` through the access path `p`, writing `vals` -/
  | add (p : Path) (e : Ent) (ids : List Comp) (vals : Comps) (rels : Rels)
  /-- `Remove(e, ids…)` through the access path `p` (relation components or not) -/
  | rem (p : Path) (e : Ent) (ids : List Comp)
  /-- `SetRelations(e, rels…)` through the access path `p` -/
  | setrel (p : Path) (e : Ent) (rels : Rels)
  /-- `Set(e, …)` for the components mentioned in `vals` -/
  | set (e : Ent) (vals : Comps)
  /-- `RemoveEntity(e)` -/
  | del (e : Ent)
  deriving Repr

/-- **the specification step.**  `fresh` is the handle a successful `new` returns.  An operation
    whose precondition fails leaves the specification unchanged.  `del e` drops `e`'s entry AND
    sets to the zero entity every target equal to `e` in every other entry. -/
def specStep (ss : SS) (fresh : Ent) : Op → SS
  | .reg _ z ir =>
    if ss.zst.length < 256 then { ss with zst := ss.zst ++ [z], isRel := ss.isRel ++ [ir] } else ss
  | .new _ ids vals rels =>
    if NewOK ss ids rels then
      { ss with ents := (fresh, ⟨writeComps ss.zst vals (zeros ids), rels⟩) :: ss.ents }
    else ss
  | .add _ e ids vals rels =>
    match find ss.ents e with
    | none => ss
    | some en =>
      if AddOK ss en ids rels then
        { ss with ents := upd ss.ents e fun en =>
            ⟨writeComps ss.zst vals (en.comps ++ zeros ids), en.rels ++ rels⟩ }
      else ss
  | .rem _ e ids =>
    match find ss.ents e with
    | none => ss
    | some en =>
      if ids ≠ [] ∧ ids.Nodup ∧ ∀ c ∈ ids, c ∈ keys en.comps then
        { ss with ents := upd ss.ents e fun en =>
            ⟨en.comps.filter fun cv => decide (cv.1 ∉ ids), en.rels.filter fun r => decide (r.comp ∉ ids)⟩ }
      else ss
  | .setrel _ e rels =>
    match find ss.ents e with
    | none => ss
    | some en =>
      if SetRelOK ss en rels then
        { ss with ents := upd ss.ents e fun en => { en with rels := setRels en.rels rels } }
      else ss
  | .set e vals =>
    match find ss.ents e with
    | none => ss
    | some en =>
      if ∀ cv ∈ vals, cv.1 ∈ keys en.comps then
        { ss with ents := upd ss.ents e fun en => { en with comps := writeComps ss.zst vals en.comps } }
      else ss
  | .del e =>
    match find ss.ents e with
    | none => ss
    | some _ => { ss with ents := detach e (del ss.ents e) }

/-- the precondition of an operation, in terms of the specification only -/
def pre (ss : SS) : Op → Prop
  | .reg _ _ _ => ss.zst.length < 256
  | .new _ ids _ rels => NewOK ss ids rels
  | .add _ e ids _ rels => ∃ en, find ss.ents e = some en ∧ AddOK ss en ids rels
  | .rem _ e ids => ∃ en, find ss.ents e = some en ∧
      (ids ≠ [] ∧ ids.Nodup ∧ ∀ c ∈ ids, c ∈ keys en.comps)
  | .setrel _ e rels => ∃ en, find ss.ents e = some en ∧ SetRelOK ss en rels
  | .set e vals => ∃ en, find ss.ents e = some en ∧ ∀ cv ∈ vals, cv.1 ∈ keys en.comps
  | .del e => ∃ en, find ss.ents e = some en

/-- run one model operation; the result carries the returned handle.  `SetRelations` through a
    typed path uses the mapper of exactly the components named. -/
def exec (run : ProbeRunner) (w : World) : Op → Res World (Option Ent)
  | .reg size z ir =>
    match registerComponent { isRel := ir, zst := z, size := size } w with
    | .ok _ w' => .ok none w'
    | .panic k w' => .panic k w'
  | .new p ids vals rels =>
    match opNewEntity run p ids vals rels w with
    | .ok e w' => .ok (some e) w'
    | .panic k w' => .panic k w'
  | .add p e ids vals rels =>
    match opAdd run p e ids vals rels w with
    | .ok _ w' => .ok none w'
    | .panic k w' => .panic k w'
  | .rem p e ids =>
    match opRemove run p e ids w with
    | .ok _ w' => .ok none w'
    | .panic k w' => .panic k w'
  | .setrel p e rels =>
    match opSetRelations run p e (rels.map (·.comp)) rels w with
    | .ok _ w' => .ok none w'
    | .panic k w' => .panic k w'
  | .set e vals =>
    match opSet run e (keys vals) vals w with
    | .ok _ w' => .ok none w'
    | .panic k w' => .panic k w'
  | .del e =>
    match opRemoveEntity run e w with
    | .ok _ w' => .ok none w'
    | .panic k w' => .panic k w'

structure St where
  w : World
  /-- handles returned so far, newest first -/
  issued : List Ent
  ss : SS

/-- the targets a client can name: the zero entity or a handle it was given -/
def tgtsExpr (s : St) (rels : Rels) : Bool :=
  rels.all fun r => r.target.isZero || decide (r.target ∈ s.issued)

/-- the part of `RelsWF` that no pre-validation checks; `guard` asks it of the relation arguments
    of `new` / `add` on path `p` (and `guardXchg` of Ark/Proofs/RelExchangeMachine.lean of those of
    `Exchange`): no relation component named twice, every relation component among `ids` named,
    and through `Map[T]` every relation on a component among `ids` (in Go the component is the
    map's own, so the pre-validation of `.map1` has no membership check).  Why: see `guard`. -/
def RelsStep (ir : List Bool) (p : Path) (ids : List Comp) (rels : List RelID) : Prop :=
  (rels.map (·.comp)).Nodup ∧ (p = .map1 → ∀ r ∈ rels, r.comp ∈ ids) ∧
    ∀ c ∈ ids, ir.getD c false = true → c ∈ rels.map (·.comp)

instance (ir : List Bool) (p : Path) (ids : List Comp) (rels : List RelID) :
    Decidable (RelsStep ir p ids rels) :=
  inferInstanceAs (Decidable ((rels.map (·.comp)).Nodup ∧ (p = .map1 → ∀ r ∈ rels, r.comp ∈ ids) ∧
    ∀ c ∈ ids, ir.getD c false = true → c ∈ rels.map (·.comp)))

theorem RelsWF.relsStep {ir : List Bool} {ids : List Comp} {rels : List RelID}
    (h : RelsWF ir ids rels) (p : Path) : RelsStep ir p ids rels :=
  ⟨h.1, fun _ r hr => (h.2.1 r hr).1, h.2.2⟩

/-- what is a step of the machine.  Handles are opaque and component IDs are obtained by
    registration, so an operation on a handle that no `new` returned, or adding an unregistered
    component ID, is not a step.  The relation arguments of `new` / `add` must satisfy
    `RelsStep`: when the archetype is new or has no active table, `GetTable` answers "no table"
    before any check, and `createTable` notices a relation component named twice (`relTwice`,
    since the repair of defect D18) or a missing relation only after `findOrCreateArch` — such a
    call is refused, but with a new archetype not without effect.  With an active table the slow
    path of `GetTable` refuses both without effect (a component named twice since the repair of
    defect D26); which case it is depends on the archetypes of the world, not on the
    specification state.  What the pre-validation of the path checks IS a step of `new` / `add`,
    rejected before anything is touched: a dead target, a relation on a non-relation component,
    and through `Unsafe` (`ToCheckedRelationIDsForUnsafe`) and `MapN` a relation on a component
    not among `ids`.  `setrel` has no such restriction: a relation component named twice
    (refused since the repair of defect D19), a component the entity lacks and a dead target are
    rejected without effect on every path. -/
def guard (s : St) : Op → Bool
  | .reg _ _ _ => true
  | .new p ids _ rels =>
    (ids.all fun c => decide (c < s.ss.zst.length)) && decide (RelsStep s.ss.isRel p ids rels) &&
      tgtsExpr s rels
  | .add p e ids _ rels =>
    decide (e ∈ s.issued) && (ids.all fun c => decide (c < s.ss.zst.length)) &&
      decide (RelsStep s.ss.isRel p ids rels) && tgtsExpr s rels
  | .rem _ e _ => decide (e ∈ s.issued)
  | .setrel _ e rels => decide (e ∈ s.issued) && tgtsExpr s rels
  | .set e _ => decide (e ∈ s.issued)
  | .del e => decide (e ∈ s.issued)

theorem guard_new {s : St} {p : Path} {ids : List Comp} {vals : Comps} {rels : Rels} :
    guard s (.new p ids vals rels) = true ↔
      ((∀ c ∈ ids, c < s.ss.zst.length) ∧ RelsStep s.ss.isRel p ids rels) ∧ tgtsExpr s rels = true := by
  simp only [guard, Bool.and_eq_true, List.all_eq_true, decide_eq_true_eq]

theorem guard_add {s : St} {p : Path} {e : Ent} {ids : List Comp} {vals : Comps} {rels : Rels} :
    guard s (.add p e ids vals rels) = true ↔
      ((e ∈ s.issued ∧ ∀ c ∈ ids, c < s.ss.zst.length) ∧ RelsStep s.ss.isRel p ids rels) ∧
        tgtsExpr s rels = true := by
  simp only [guard, Bool.and_eq_true, List.all_eq_true, decide_eq_true_eq]

theorem guard_setrel {s : St} {p : Path} {e : Ent} {rels : Rels} :
    guard s (.setrel p e rels) = true ↔ e ∈ s.issued ∧ tgtsExpr s rels = true := by
  simp only [guard, Bool.and_eq_true, decide_eq_true_eq]

def retOf : Res World (Option Ent) → Option Ent
  | .ok r _ => r
  | .panic _ _ => none

def issuedAfter (issued : List Ent) (r : Res World (Option Ent)) : List Ent :=
  match retOf r with
  | some e => e :: issued
  | none => issued

/-- one step in lock step: the model operation and the specification step.  A panic keeps the
    state the model reached (Go `recover`); that a rejected call leaves the world unchanged is a
    theorem, not part of the definition. -/
def step (run : ProbeRunner) (s : St) (op : Op) : St :=
  if guard s op = true then
    let r := exec run s.w op
    ⟨r.state, issuedAfter s.issued r, specStep s.ss ((retOf r).getD default) op⟩
  else s

def runOps (run : ProbeRunner) (s : St) (ops : List Op) : St := ops.foldl (step run) s

def St.init (cap rel : Nat) : St := ⟨World.init cap rel, [], ⟨[], [], []⟩⟩

def reach (run : ProbeRunner) (cap rel : Nat) (ops : List Op) : St := runOps run (St.init cap rel) ops

theorem reach_snoc (run : ProbeRunner) (cap rel : Nat) (ops : List Op) (op : Op) :
    reach run cap rel (ops ++ [op]) = step run (reach run cap rel ops) op := by
  simp only [reach, runOps, List.foldl_append, List.foldl_cons, List.foldl_nil]

theorem find_some_mem {s : Spec} {e : Ent} {en : Entry} (h : find s e = some en) : (e, en) ∈ s := by
  induction s with
  | nil => cases h
  | cons x rest ih =>
    simp only [find] at h
    split at h
    · rename_i hx
      injection h with h
      obtain ⟨a, b⟩ := x
      simp only at hx h
      subst hx; subst h
      exact List.mem_cons_self
    · exact List.mem_cons_of_mem _ (ih h)

theorem find_none_iff {s : Spec} {e : Ent} : find s e = none ↔ e ∉ s.map (·.1) := by
  induction s with
  | nil => simp [find]
  | cons x rest ih =>
    simp only [find, List.map_cons, List.mem_cons, not_or]
    split
    · rename_i hx
      simp only [reduceCtorEq, false_iff, not_and]
      intro hne; exact absurd hx.symm hne
    · rename_i hx
      rw [ih]
      exact ⟨fun hh => ⟨fun he => hx he.symm, hh⟩, fun hh => hh.2⟩

theorem find_isSome_iff {s : Spec} {e : Ent} : (find s e).isSome = true ↔ e ∈ s.map (·.1) := by
  cases hf : find s e with
  | none => simp only [Option.isSome_none, Bool.false_eq_true, false_iff]; exact find_none_iff.mp hf
  | some en =>
    simp only [Option.isSome_some, true_iff]
    exact List.mem_map.mpr ⟨(e, en), find_some_mem hf, rfl⟩

theorem find_of_mem {s : Spec} (hnd : (s.map (·.1)).Nodup) {e : Ent} {en : Entry}
    (h : (e, en) ∈ s) : find s e = some en := by
  induction s with
  | nil => cases h
  | cons x rest ih =>
    simp only [List.map_cons, List.nodup_cons] at hnd
    simp only [find]
    rcases List.mem_cons.mp h with rfl | hm
    · simp
    · have hne : x.1 ≠ e := by
        intro hx
        apply hnd.1
        rw [hx]
        exact List.mem_map.mpr ⟨(e, en), hm, rfl⟩
      rw [if_neg hne]
      exact ih hnd.2 hm

theorem upd_keys (s : Spec) (e : Ent) (f : Entry → Entry) : (upd s e f).map (·.1) = s.map (·.1) := by
  simp only [upd, List.map_map]
  apply List.map_congr_left
  intro x _
  simp only [Function.comp]
  split <;> rfl

theorem mem_upd {s : Spec} {e : Ent} {f : Entry → Entry} {x : Ent} {en : Entry}
    (h : (x, en) ∈ upd s e f) :
    (x = e ∧ ∃ en0, (e, en0) ∈ s ∧ en = f en0) ∨ (x ≠ e ∧ (x, en) ∈ s) := by
  simp only [upd, List.mem_map] at h
  obtain ⟨y, hy, heq⟩ := h
  split at heq
  · rename_i hye
    injection heq with h1 h2
    obtain ⟨a, b⟩ := y
    simp only at hye h1 h2
    subst hye
    exact Or.inl ⟨h1.symm, b, hy, h2.symm⟩
  · rename_i hye
    subst heq
    exact Or.inr ⟨hye, hy⟩

theorem find_upd_self {s : Spec} {e : Ent} {en : Entry} (f : Entry → Entry)
    (h : find s e = some en) : find (upd s e f) e = some (f en) := by
  induction s with
  | nil => cases h
  | cons x rest ih =>
    simp only [find] at h
    simp only [upd, List.map_cons]
    by_cases hx : x.1 = e
    · rw [if_pos hx] at h
      injection h with h
      simp only [hx, if_true, find, h]
    · rw [if_neg hx] at h
      simp only [hx, if_false, find]
      exact ih h

theorem find_upd_ne (s : Spec) {e x : Ent} (f : Entry → Entry) (hne : x ≠ e) :
    find (upd s e f) x = find s x := by
  induction s with
  | nil => rfl
  | cons y rest ih =>
    simp only [upd, List.map_cons]
    by_cases hy : y.1 = e
    · simp only [hy, if_true, find]
      rw [if_neg (fun hh => hne hh.symm), if_neg (fun hh => hne hh.symm)]
      exact ih
    · simp only [hy, if_false, find]
      split
      · rfl
      · exact ih

theorem del_keys (s : Spec) (e : Ent) : (del s e).map (·.1) = (s.map (·.1)).erase e := by
  induction s with
  | nil => rfl
  | cons x rest ih =>
    simp only [del, List.map_cons, List.erase_cons]
    by_cases hx : x.1 = e
    · simp [hx]
    · have : (x.1 == e) = false := by simpa using hx
      simp [hx, this, ih]

theorem mem_del {s : Spec} {e : Ent} {x : Ent × Entry} (h : x ∈ del s e) : x ∈ s := by
  induction s with
  | nil => cases h
  | cons y rest ih =>
    simp only [del] at h
    split at h
    · exact List.mem_cons_of_mem _ h
    · rcases List.mem_cons.mp h with rfl | hm
      · exact List.mem_cons_self
      · exact List.mem_cons_of_mem _ (ih hm)

theorem find_del_ne (s : Spec) {e x : Ent} (hne : x ≠ e) : find (del s e) x = find s x := by
  induction s with
  | nil => rfl
  | cons y rest ih =>
    simp only [del]
    by_cases hy : y.1 = e
    · simp only [hy, if_true, find]
      rw [if_neg (fun hh => hne hh.symm)]
    · simp only [hy, if_false, find]
      split
      · rfl
      · exact ih

theorem find_del_self {s : Spec} (hnd : (s.map (·.1)).Nodup) (e : Ent) : find (del s e) e = none := by
  apply find_none_iff.mpr
  rw [del_keys]
  exact List.Nodup.not_mem_erase hnd

theorem detach_keys (g : Ent) (s : Spec) : (detach g s).map (·.1) = s.map (·.1) := by
  simp only [detach, List.map_map]
  rfl

theorem find_detach (g : Ent) (s : Spec) (x : Ent) :
    find (detach g s) x = (find s x).map (Entry.detach g) := by
  induction s with
  | nil => rfl
  | cons y rest ih =>
    simp only [detach, List.map_cons, find]
    split
    · rfl
    · exact ih

theorem mem_detach {g : Ent} {s : Spec} {x : Ent} {en : Entry} (h : (x, en) ∈ detach g s) :
    ∃ en0, (x, en0) ∈ s ∧ en = en0.detach g := by
  simp only [detach, List.mem_map] at h
  obtain ⟨y, hy, heq⟩ := h
  injection heq with h1 h2
  obtain ⟨a, b⟩ := y
  simp only at h1 h2
  subst h1
  exact ⟨b, hy, h2.symm⟩

theorem zeroRel_comp (g : Ent) (r : RelID) : (zeroRel g r).comp = r.comp := by
  unfold zeroRel; split <;> rfl

theorem zeroRel_target (g : Ent) (r : RelID) :
    (zeroRel g r).target = if r.target = g then Ent.zero else r.target := by
  unfold zeroRel; split <;> rfl

theorem map_zeroRel_comp (g : Ent) (rs : List RelID) :
    (rs.map (zeroRel g)).map (·.comp) = rs.map (·.comp) := by
  rw [List.map_map]
  apply List.map_congr_left
  intro r _
  exact zeroRel_comp g r

theorem setRels_comps (old new : List RelID) : (setRels old new).map (·.comp) = old.map (·.comp) := by
  simp only [setRels, List.map_map]
  apply List.map_congr_left
  intro r _
  simp only [Function.comp]
  cases hf : new.find? (fun r' => r'.comp == r.comp) with
  | none => rfl
  | some r' =>
    have := List.find?_some hf
    simp only [beq_iff_eq] at this
    exact this

theorem mem_setRels {old new : List RelID} {r : RelID} (h : r ∈ setRels old new) :
    (r ∈ new ∧ r.comp ∈ old.map (·.comp)) ∨ (r ∈ old ∧ ∀ r' ∈ new, r'.comp ≠ r.comp) := by
  simp only [setRels, List.mem_map] at h
  obtain ⟨r0, hr0, heq⟩ := h
  cases hf : new.find? (fun r' => r'.comp == r0.comp) with
  | none =>
    rw [hf] at heq
    subst heq
    right
    refine ⟨hr0, fun r' hr' hc => ?_⟩
    have := List.find?_eq_none.mp hf r' hr'
    simp only [beq_iff_eq] at this
    exact this hc
  | some r' =>
    rw [hf] at heq
    subst heq
    left
    have hc := List.find?_some hf
    simp only [beq_iff_eq] at hc
    exact ⟨List.mem_of_find?_eq_some hf, by rw [hc]; exact List.mem_map.mpr ⟨r0, hr0, rfl⟩⟩

theorem setRels_mem_new {old new : List RelID} (hnd : (new.map (·.comp)).Nodup) {r : RelID}
    (hr : r ∈ new) (hc : r.comp ∈ old.map (·.comp)) : r ∈ setRels old new := by
  obtain ⟨r0, hr0, hc0⟩ := List.mem_map.mp hc
  simp only [setRels, List.mem_map]
  refine ⟨r0, hr0, ?_⟩
  cases hf : new.find? (fun r' => r'.comp == r0.comp) with
  | none =>
    have := List.find?_eq_none.mp hf r hr
    simp only [beq_iff_eq] at this
    exact absurd hc0.symm this
  | some r' =>
    have h1 := List.find?_some hf
    simp only [beq_iff_eq] at h1
    have h2 := List.mem_of_find?_eq_some hf
    show r' = r
    exact eq_of_nodup_map (·.comp) new hnd r' r h2 hr (by rw [h1, hc0])

theorem setRels_mem_old {old new : List RelID} {r : RelID} (hr : r ∈ old)
    (hn : ∀ r' ∈ new, r'.comp ≠ r.comp) : r ∈ setRels old new := by
  simp only [setRels, List.mem_map]
  refine ⟨r, hr, ?_⟩
  rw [List.find?_eq_none.mpr fun r' hr' => by simp only [beq_iff_eq]; exact hn r' hr']

/-- what the specification says about one entity agrees with the world (`n` = number of
    registered component types, `ir` = their relation flags) -/
structure EntOK (w : World) (n : Nat) (ir : List Bool) (e : Ent) (en : Entry) : Prop where
  nodup : (keys en.comps).Nodup
  reg : ∀ c ∈ keys en.comps, c < n
  comps : compsOf w e.id = some (sortedIds n (keys en.comps))
  vals : ∀ cv ∈ en.comps, valOf w e.id cv.1 = some cv.2
  relNodup : (en.rels.map (·.comp)).Nodup
  relKeys : ∀ c : Comp, c ∈ en.rels.map (·.comp) ↔ c ∈ keys en.comps ∧ ir.getD c false = true
  tgts : ∀ r ∈ en.rels, targetOf w e.id r.comp = some r.target

/-- `EntOK` reads the relations of an entry through their components and the targets the world
    holds: an entity that keeps components and values realises the entry with any relation list
    on the same components whose targets the new world reads (`SetRelations`; the targets zeroed by
    a removal) -/
theorem EntOK.withRels {w w' : World} {n : Nat} {ir : List Bool} {e : Ent} {en : Entry}
    (ok : EntOK w n ir e en) (hs : SameEnt w w' e.id) {rs : List RelID}
    (hk : rs.map (·.comp) = en.rels.map (·.comp))
    (ht : ∀ r ∈ rs, targetOf w' e.id r.comp = some r.target) :
    EntOK w' n ir e { en with rels := rs } :=
  ⟨ok.nodup, ok.reg, by rw [hs.2]; exact ok.comps, fun cv hcv => by rw [hs.1]; exact ok.vals cv hcv,
    by show (rs.map (·.comp)).Nodup; rw [hk]; exact ok.relNodup,
    fun c => by show c ∈ rs.map (·.comp) ↔ _; rw [hk]; exact ok.relKeys c, ht⟩

theorem EntOK.frame {w w' : World} {n : Nat} {ir : List Bool} {e : Ent} {en : Entry}
    (ok : EntOK w n ir e en) (hs : SameEnt w w' e.id)
    (ht : ∀ c : Comp, targetOf w' e.id c = targetOf w e.id c) : EntOK w' n ir e en :=
  ok.withRels hs rfl fun r hr => by rw [ht]; exact ok.tgts r hr

/-- the pool with the ghost history, as in `Ark.Proofs.PoolHistory` -/
def St.ps (s : St) : Pool.PS := ⟨s.w.pool, s.issued, s.ss.ents.map (·.1)⟩

def SpecTargetsOK (s : Spec) : Prop := ∀ (e : Ent) (en : Entry), (e, en) ∈ s → TargetsValid s en.rels

structure HInv (s : St) (fl : List Nat) : Prop where
  tinv : TInv s.w fl
  ginv : Pool.GInv s.ps fl
  unlocked : s.w.isLocked = false
  noObs : ∀ evt : Nat, s.w.obs.hasObservers evt = false
  nodup : s.issued.Nodup
  zstEq : s.ss.zst = s.w.kinds.map (·.zst)
  relEq : s.ss.isRel = s.w.kinds.map (·.isRel)
  maxc : s.w.maxComps = 256
  ok : ∀ (e : Ent) (en : Entry), (e, en) ∈ s.ss.ents → EntOK s.w s.w.kinds.length s.ss.isRel e en
  tgtsOK : SpecTargetsOK s.ss.ents

theorem hinv_init (cap rel : Nat) : HInv (St.init cap rel) [] where
  tinv := tinv_init cap rel
  ginv := Pool.ginv_init
  unlocked := rfl
  noObs := fun _ => rfl
  nodup := List.nodup_nil
  zstEq := rfl
  relEq := rfl
  maxc := rfl
  ok := by intro e en h; cases h
  tgtsOK := by intro e en h; cases h

namespace HInv

variable {s : St} {fl : List Nat}

theorem zlen (H : HInv s fl) : s.ss.zst.length = s.w.kinds.length := by
  rw [H.zstEq, List.length_map]

theorem zget (H : HInv s fl) (c : Comp) : s.ss.zst.getD c false = (s.w.kinds.getD c {}).zst := by
  rw [H.zstEq]
  simp only [List.getD_eq_getElem?_getD, List.getElem?_map]
  cases s.w.kinds[c]? <;> rfl

theorem rget (H : HInv s fl) (c : Comp) : s.ss.isRel.getD c false = s.w.isRelComp c := by
  rw [H.relEq, World.isRelComp]
  simp only [List.getD_eq_getElem?_getD, List.getElem?_map]
  cases s.w.kinds[c]? <;> rfl

theorem reg256 (H : HInv s fl) {c : Nat} (hc : c < s.w.kinds.length) : c < 256 := by
  have := H.tinv.kindsLe; omega

theorem live_facts (H : HInv s fl) {e : Ent} {en : Entry} (hm : (e, en) ∈ s.ss.ents) :
    e ∈ s.issued ∧ s.w.alive e = true ∧ 2 ≤ e.id ∧ e.id ∉ fl ∧ find s.ss.ents e = some en ∧
    s.w.pool.ents[e.id]? = some e := by
  have hl : e ∈ s.ps.live := List.mem_map.mpr ⟨(e, en), hm, rfl⟩
  have hi := H.ginv.live_issued e hl
  obtain ⟨a, b, c⟩ := (H.ginv.live_iff e).mp hl
  exact ⟨hi, (Pool.alive_iff_live s.ps fl H.ginv e hi).mpr hl, a, b,
    find_of_mem H.ginv.live_nodup hm, c⟩

theorem find_of_alive (H : HInv s fl) {e : Ent} (hi : e ∈ s.issued) (ha : s.w.alive e = true) :
    ∃ en, find s.ss.ents e = some en ∧ (e, en) ∈ s.ss.ents := by
  have hl : e ∈ s.ps.live := (Pool.alive_iff_live s.ps fl H.ginv e hi).mp ha
  cases hf : find s.ss.ents e with
  | none => exact absurd hl (find_none_iff.mp hf)
  | some en => exact ⟨en, rfl, find_some_mem hf⟩

theorem find_of_dead (H : HInv s fl) {e : Ent} (hi : e ∈ s.issued) (hd : s.w.alive e = false) :
    find s.ss.ents e = none := by
  apply find_none_iff.mpr
  intro hl
  have : s.w.alive e = true := (Pool.alive_iff_live s.ps fl H.ginv e hi).mpr hl
  rw [hd] at this; cases this

theorem alive_of_find (H : HInv s fl) {e : Ent} (h : (find s.ss.ents e).isSome = true) :
    s.w.alive e = true := by
  cases hf : find s.ss.ents e with
  | none => rw [hf] at h; cases h
  | some en => exact (H.live_facts (find_some_mem hf)).2.1

theorem issued_in (H : HInv s fl) {e : Ent} (hi : e ∈ s.issued) : e.id < s.w.pool.ents.length := by
  obtain ⟨_, sl, hsl, _⟩ := H.ginv.issued_bound e hi
  exact (List.getElem?_eq_some_iff.mp hsl).1

theorem tgts_in (H : HInv s fl) {rels : Rels} (hx : tgtsExpr s rels = true) :
    ∀ (r : RelID), r ∈ rels → r.target.id < s.w.pool.ents.length := by
  intro r hr
  have h1 := List.all_eq_true.mp hx r hr
  rcases Bool.or_eq_true_iff.mp h1 with h2 | h2
  · have h3 : r.target.id = 0 := by simpa [Ent.isZero] using h2
    have := H.tinv.link.pool.len2
    omega
  · exact H.issued_in (of_decide_eq_true h2)

theorem targets_alive (H : HInv s fl) {rels : Rels} (h : TargetsValid s.ss.ents rels) :
    ∀ (r : RelID), r ∈ rels → r.target.isZero = true ∨ s.w.alive r.target = true := by
  intro r hr
  rcases h r hr with h1 | h1
  · exact Or.inl h1
  · exact Or.inr (H.alive_of_find h1)

theorem targets_in (H : HInv s fl) {rels : Rels} (h : TargetsValid s.ss.ents rels) :
    ∀ (r : RelID), r ∈ rels → r.target.id < s.w.pool.ents.length := by
  intro r hr
  rcases h r hr with h1 | h1
  · have h3 : r.target.id = 0 := by simpa [Ent.isZero] using h1
    have := H.tinv.link.pool.len2
    omega
  · cases hf : find s.ss.ents r.target with
    | none => rw [hf] at h1; cases h1
    | some en => exact Pool.lt_of_slot (H.live_facts (find_some_mem hf)).2.2.2.2.2

theorem id_inj (H : HInv s fl) {x y : Ent} {en en' : Entry} (hx : (x, en) ∈ s.ss.ents)
    (hy : (y, en') ∈ s.ss.ents) (hid : x.id = y.id) : x = y := by
  obtain ⟨_, _, _, _, _, h1⟩ := H.live_facts hx
  obtain ⟨_, _, _, _, _, h2⟩ := H.live_facts hy
  rw [hid, h2] at h1
  exact (Option.some.inj h1).symm

theorem comps_iff (H : HInv s fl) {e : Ent} {en : Entry} (hm : (e, en) ∈ s.ss.ents) (c : Comp) :
    c ∈ sortedIds s.w.kinds.length (keys en.comps) ↔ c ∈ keys en.comps :=
  ⟨fun h => (Refine.mem_sortedIds.mp h).2,
    fun h => Refine.mem_sortedIds.mpr ⟨(H.ok e en hm).reg c h, h⟩⟩

theorem target_isSome_iff (H : HInv s fl) {e : Ent} {en : Entry} (hm : (e, en) ∈ s.ss.ents)
    (c : Comp) : (targetOf s.w e.id c).isSome = true ↔ c ∈ en.rels.map (·.comp) := by
  have ok := H.ok e en hm
  rw [H.tinv.targetOf_isSome_iff ok.comps c, H.comps_iff hm c, ok.relKeys c, H.rget]

/-- **reading an entity off its entry**: component list, every value and every target are
    functions of the entry -/
theorem read (H : HInv s fl) {x : Ent} {en : Entry}
    (hm : (x, en) ∈ s.ss.ents) :
    compsOf s.w x.id = some (sortedIds s.w.kinds.length (keys en.comps)) ∧
    (∀ c : Comp, valOf s.w x.id c = (en.comps.find? (fun cv => cv.1 == c)).map (·.2)) ∧
    (∀ c : Comp, targetOf s.w x.id c = (en.rels.find? (fun r => r.comp == c)).map (·.target)) := by
  have ok := H.ok x en hm
  refine ⟨ok.comps, fun c => ?_, fun c => ?_⟩
  · cases hfc : en.comps.find? (fun cv => cv.1 == c) with
    | none =>
      have hnk : c ∉ keys en.comps := by
        intro hk
        obtain ⟨cv, hcv, rfl⟩ := List.mem_map.mp hk
        have := List.find?_eq_none.mp hfc cv hcv
        simp at this
      exact valOf_none_of_comps ok.comps (fun hh => hnk (Refine.mem_sortedIds.mp hh).2)
    | some cv =>
      have h1 := List.find?_some hfc
      simp only [beq_iff_eq] at h1
      rw [← h1, ok.vals cv (List.mem_of_find?_eq_some hfc)]; rfl
  · cases hfc : en.rels.find? (fun r => r.comp == c) with
    | none =>
      have hnk : c ∉ en.rels.map (·.comp) := by
        intro hk
        obtain ⟨r, hr, rfl⟩ := List.mem_map.mp hk
        have := List.find?_eq_none.mp hfc r hr
        simp at this
      cases ht : targetOf s.w x.id c with
      | none => rfl
      | some t =>
        exact absurd ((H.target_isSome_iff hm c).mp (by rw [ht]; rfl)) hnk
    | some r =>
      have h1 := List.find?_some hfc
      simp only [beq_iff_eq] at h1
      rw [← h1, ok.tgts r (List.mem_of_find?_eq_some hfc)]; rfl

theorem same_keys {s' : St} {fl' : List Nat} (H : HInv s fl) (H' : HInv s' fl') {x : Ent}
    {en en' : Entry} (hm : (x, en) ∈ s.ss.ents) (hm' : (x, en') ∈ s'.ss.ents)
    (hk : keys en'.comps = keys en.comps) : compsOf s'.w x.id = compsOf s.w x.id := by
  have ok := H.ok x en hm
  have ok' := H'.ok x en' hm'
  rw [ok.comps, ok'.comps, hk, Refine.sortedIds_eq_of_bound ok.reg (hk ▸ ok'.reg)]

theorem same_comps {s' : St} {fl' : List Nat} (H : HInv s fl) (H' : HInv s' fl') {x : Ent}
    {en en' : Entry} (hm : (x, en) ∈ s.ss.ents) (hm' : (x, en') ∈ s'.ss.ents)
    (hc : en'.comps = en.comps) :
    compsOf s'.w x.id = compsOf s.w x.id ∧ ∀ c : Comp, valOf s'.w x.id c = valOf s.w x.id c :=
  ⟨H.same_keys H' hm hm' (by rw [hc]), fun c => by rw [(H.read hm).2.1, (H'.read hm').2.1, hc]⟩

theorem same_rels {s' : St} {fl' : List Nat} (H : HInv s fl) (H' : HInv s' fl') {x : Ent}
    {en en' : Entry} (hm : (x, en) ∈ s.ss.ents) (hm' : (x, en') ∈ s'.ss.ents)
    (hr : en'.rels = en.rels) (c : Comp) : targetOf s'.w x.id c = targetOf s.w x.id c := by
  rw [(H.read hm).2.2, (H'.read hm').2.2, hr]

theorem same_entry {s' : St} {fl' : List Nat} (H : HInv s fl) (H' : HInv s' fl') {x : Ent}
    {en : Entry} (hm : (x, en) ∈ s.ss.ents) (hm' : (x, en) ∈ s'.ss.ents) :
    compsOf s'.w x.id = compsOf s.w x.id ∧ (∀ c : Comp, valOf s'.w x.id c = valOf s.w x.id c) ∧
    ∀ c : Comp, targetOf s'.w x.id c = targetOf s.w x.id c :=
  ⟨(H.same_comps H' hm hm' rfl).1, (H.same_comps H' hm hm' rfl).2, H.same_rels H' hm hm' rfl⟩

/-- registry, `maxComps`, locks and observers kept: what is owed is `TInv`, the ghost pool,
    `issued.Nodup`, the entries (`EntOK`) and their targets (`SpecTargetsOK`) -/
theorem of_kinds (H : HInv s fl) {w' : World} {issued : List Ent} {ents : Spec} {fl' : List Nat}
    (hc : TInv w' fl') (hg : Pool.GInv ⟨w'.pool, issued, ents.map (·.1)⟩ fl')
    (hl : w'.locks = s.w.locks) (ho : w'.obs = s.w.obs) (hnd : issued.Nodup)
    (hk : w'.kinds = s.w.kinds) (hmax : w'.maxComps = s.w.maxComps)
    (hok : ∀ (e : Ent) (en : Entry), (e, en) ∈ ents → EntOK w' s.w.kinds.length s.ss.isRel e en)
    (ht : SpecTargetsOK ents) : HInv ⟨w', issued, ⟨ents, s.ss.zst, s.ss.isRel⟩⟩ fl' where
  tinv := hc
  ginv := hg
  unlocked := by show w'.locks.isLocked = false; rw [hl]; exact H.unlocked
  noObs := fun evt => by show w'.obs.hasObservers evt = false; rw [ho]; exact H.noObs evt
  nodup := hnd
  zstEq := by show s.ss.zst = w'.kinds.map (·.zst); rw [hk]; exact H.zstEq
  relEq := by show s.ss.isRel = w'.kinds.map (·.isRel); rw [hk]; exact H.relEq
  maxc := hmax.trans H.maxc
  ok := fun e en hm => by show EntOK w' w'.kinds.length s.ss.isRel e en; rw [hk]; exact hok e en hm
  tgtsOK := ht

/-- **single-entity update**: the world changes only entity `e` (pool, registry, locks,
    observers kept), the specification changes only `e`'s entry, and the new entry is realised -/
theorem update (H : HInv s fl) {e : Ent} {en : Entry} (hm : (e, en) ∈ s.ss.ents) {w' : World}
    (f : Entry → Entry) (hc : TInv w' fl) (hpool : w'.pool = s.w.pool)
    (hl : w'.locks = s.w.locks) (ho : w'.obs = s.w.obs) (hk : w'.kinds = s.w.kinds)
    (hmax : w'.maxComps = s.w.maxComps)
    (hfr : ∀ j : Nat, j ≠ e.id → SameEnt s.w w' j ∧ ∀ c : Comp, targetOf w' j c = targetOf s.w j c)
    (hok : EntOK w' s.w.kinds.length s.ss.isRel e (f en))
    (htv : TargetsValid s.ss.ents (f en).rels) :
    HInv ⟨w', s.issued, ⟨upd s.ss.ents e f, s.ss.zst, s.ss.isRel⟩⟩ fl := by
  -- `e` has one entry only, so the entry `mem_upd` finds for `e` under `upd` is `f en`
  have hself : ∀ {en0 : Entry}, (e, en0) ∈ s.ss.ents → en0 = en := fun h0 =>
    Option.some.inj ((find_of_mem H.ginv.live_nodup h0).symm.trans (find_of_mem H.ginv.live_nodup hm))
  refine H.of_kinds hc (by rw [hpool, upd_keys]; exact H.ginv) hl ho H.nodup hk hmax
    (fun x en' hx => ?_) (fun x en' hx r hr => ?_)
  · rcases mem_upd hx with ⟨rfl, en0, h0, rfl⟩ | ⟨hne, hx'⟩
    · rw [hself h0]; exact hok
    · have hid : x.id ≠ e.id := fun hh => hne (H.id_inj hx' hm hh)
      exact (H.ok x en' hx').frame (hfr x.id hid).1 (hfr x.id hid).2
  · have key : r.target.isZero = true ∨ (find s.ss.ents r.target).isSome = true := by
      rcases mem_upd hx with ⟨rfl, en0, h0, rfl⟩ | ⟨_, hx'⟩
      · rw [hself h0] at hr; exact htv r hr
      · exact H.tgtsOK x en' hx' r hr
    refine key.imp_right fun k => ?_
    rw [find_isSome_iff] at k ⊢
    rw [upd_keys]; exact k

/-- **creation step**: the world `w'` results from taking the handle `(s.w.pool.get).2` from the
    pool, every other entity keeps components, values and targets, and the specification gets the
    new entry `en` -/
theorem created (H : HInv s fl) {w' : World} {en : Entry}
    (hc : TInv w' fl.tail) (hpool : w'.pool = (s.w.pool.get).1)
    (hl : w'.locks = s.w.locks) (ho : w'.obs = s.w.obs) (hk : w'.kinds = s.w.kinds)
    (hmax : w'.maxComps = s.w.maxComps)
    (hfr : ∀ j : Nat, j ≠ (s.w.pool.get).2.id →
      SameEnt s.w w' j ∧ ∀ c : Comp, targetOf w' j c = targetOf s.w j c)
    (hok : EntOK w' s.w.kinds.length s.ss.isRel (s.w.pool.get).2 en)
    (htv : TargetsValid s.ss.ents en.rels) :
    HInv ⟨w', (s.w.pool.get).2 :: s.issued,
      ⟨((s.w.pool.get).2, en) :: s.ss.ents, s.ss.zst, s.ss.isRel⟩⟩ fl.tail := by
  have g1 : Pool.GInv ⟨w'.pool, (s.w.pool.get).2 :: s.issued,
      (s.w.pool.get).2 :: s.ss.ents.map (·.1)⟩ fl.tail := hpool ▸ H.ginv.get
  have hnew : ∀ (x : Ent) (en' : Entry), (x, en') ∈ s.ss.ents → x.id ≠ (s.w.pool.get).2.id := by
    intro x en' hx hid
    -- the new handle is live in the new ghost state, and so is `x`; same ID, so equal
    obtain ⟨_, _, a⟩ := (g1.live_iff x).mp
      (List.mem_cons_of_mem _ (List.mem_map.mpr ⟨(x, en'), hx, rfl⟩))
    obtain ⟨_, _, b⟩ := (g1.live_iff _).mp List.mem_cons_self
    rw [hid, b] at a
    have hx' : (s.w.pool.get).2 = x := Option.some.inj a
    exact H.ginv.fresh_get (hx' ▸ (H.live_facts hx).1)
  refine H.of_kinds hc g1 hl ho (List.nodup_cons.mpr ⟨H.ginv.fresh_get, H.nodup⟩) hk hmax
    (fun x en' hx => ?_) (fun x en' hx r hr => ?_)
  · rcases List.mem_cons.mp hx with heq | hx'
    · injection heq with h1 h2
      subst h1; subst h2
      exact hok
    · have hid := hnew x en' hx'
      exact (H.ok x en' hx').frame (hfr x.id hid).1 (hfr x.id hid).2
  · have key : r.target.isZero = true ∨ (find s.ss.ents r.target).isSome = true := by
      rcases List.mem_cons.mp hx with heq | hx'
      · injection heq with h1 h2
        subst h2
        exact htv r hr
      · exact H.tgtsOK x en' hx' r hr
    refine key.imp_right fun k => ?_
    rw [find_isSome_iff] at k ⊢
    exact List.mem_cons_of_mem _ k

end HInv

end RelRefine

end Ark
