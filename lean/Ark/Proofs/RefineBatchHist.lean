/-
  The refinement machine WITH batch steps along histories: the invariant holds along every history
  within the size bounds (`(T, E)`: tables and index slots); and what batch = singles
  (`delb_is_singles`, `xchgb_is_singles` of Ark/Props/C01Batch.lean) needs of the machine: the run of
  the single steps over the selected entities is the single operations run in sequence.
-/
import Ark.Proofs.RefineBatchNew
import Ark.Proofs.RefineBatchXchg

section

/-! ## §1 histories within the size bounds

The invariant of the refinement machine WITH batch steps holds along every history within the
  size bounds.  A pair `(T, E)` bounds the number of tables and of index slots; a single operation
  needs `T < 2^32−1`, `E+1 < 2^32` and costs `(1, 1)`; `newb n` needs room for `n` rows and costs
  `(max n 1, n)` (it creates at most ONE table, `newb_tables_le`: the budget is not sharp there);
  `delb` needs and costs nothing; `xchgb` creates at most one table per selected table, so it needs
  `2·T < 2^32−1` (and `2·E < 2^32`, the bound of the move loop) and at most doubles `T`.
  `NewWorld` is `(1, 2)`.  Two sufficient bounds: `fits_of_cost` (no exchange batch: the sum of the
  costs), `fits_of_cost_x` (with `k` exchange batches the table budget may double `k` times).
-/

set_option autoImplicit false

namespace Ark

open World Ark.Props.C01World

namespace RefineB

open Refine

/-! ### the size budget -/

/-- what a step may add to (tables, index slots) -/
def grow (b : Nat × Nat) : OpB → Nat × Nat
  | .base _ => (b.1 + 1, b.2 + 1)
  | .newb _ n _ _ => (b.1 + max n 1, b.2 + n)
  | .delb _ => b
  | .xchgb _ _ _ _ _ => (2 * b.1, b.2)

/-- what a step needs of the budget -/
def need (b : Nat × Nat) : OpB → Prop
  | .base _ => b.1 < maxU32 ∧ b.2 + 1 < 2 ^ 32
  | .newb _ n _ _ => b.1 < maxU32 ∧ b.1 + n ≤ maxU32 ∧ b.2 + n < 2 ^ 32
  | .delb _ => True
  | .xchgb _ _ _ _ _ => 2 * b.1 < maxU32 ∧ 2 * b.2 < 2 ^ 32

instance (b : Nat × Nat) (op : OpB) : Decidable (need b op) := by
  cases op <;> simp only [need] <;> exact inferInstance

/-- every operation of the history finds the room it needs -/
def Fits (b : Nat × Nat) : List OpB → Prop
  | [] => True
  | op :: ops => need b op ∧ Fits (grow b op) ops

def Fits.dec : ∀ (ops : List OpB) (b : Nat × Nat), Decidable (Fits b ops)
  | [], _ => isTrue trivial
  | op :: ops, b =>
    have : Decidable (Fits (grow b op) ops) := Fits.dec ops (grow b op)
    inferInstanceAs (Decidable (need b op ∧ Fits (grow b op) ops))

instance (b : Nat × Nat) (ops : List OpB) : Decidable (Fits b ops) := Fits.dec ops b

def budget (b : Nat × Nat) (ops : List OpB) : Nat × Nat := ops.foldl grow b

theorem fits_append (b : Nat × Nat) (l1 l2 : List OpB) :
    Fits b (l1 ++ l2) ↔ Fits b l1 ∧ Fits (budget b l1) l2 := by
  induction l1 generalizing b with
  | nil => simp [Fits, budget]
  | cons op l1 ih =>
    simp only [List.cons_append, Fits, budget, List.foldl_cons]
    rw [ih]
    exact and_assoc.symm

theorem fits_snoc (b : Nat × Nat) (ops : List OpB) (op : OpB) :
    Fits b (ops ++ [op]) ↔ Fits b ops ∧ need (budget b ops) op := by
  rw [fits_append]
  simp [Fits]

def Sized (s : St) (b : Nat × Nat) : Prop :=
  s.w.tables.length ≤ b.1 ∧ s.w.entities.length ≤ b.2

theorem selTables_length_le {w : World} {fl : List Nat} (h : CInv w fl) (f : Filter) :
    (selTables w f).length ≤ w.tables.length := by
  have S := selTables_tableSet h f
  have := List.Nodup.length_le_of_subset S.nodup
    (fun t ht => List.mem_range.mpr (S.lt t ht) : selTables w f ⊆ List.range w.tables.length)
  simpa using this

theorem room_of_need {s : St} {fl : List Nat} (H : HInvB s fl) {b : Nat × Nat} (hs : Sized s b)
    (op : OpB) (hn : need b op) : Room s op := by
  obtain ⟨h1, h2⟩ := hs
  cases op with
  | base op =>
    exact ⟨Nat.lt_of_le_of_lt h1 hn.1, Nat.lt_of_le_of_lt (Nat.add_le_add_right h2 1) hn.2⟩
  | newb p n ids vals =>
    exact ⟨Nat.lt_of_le_of_lt h1 hn.1, Nat.le_trans (Nat.add_le_add_right h1 n) hn.2.1,
      Nat.lt_of_le_of_lt (Nat.add_le_add_right h2 n) hn.2.2⟩
  | delb f => trivial
  | xchgb p f add vals rem =>
    -- at most one new table per selected table
    have hsel := Nat.le_trans (selTables_length_le H.hinv.cinv f) h1
    exact ⟨Nat.lt_of_le_of_lt (Nat.two_mul b.1 ▸ Nat.add_le_add h1 hsel) hn.1,
      Nat.lt_of_le_of_lt (Nat.mul_le_mul_left 2 h2) hn.2⟩

/-! ### one step -/

theorem execB_base (run : ProbeRunner) (w : World) (op : Op) :
    execB run w (.base op) =
      match exec run w op with
      | .ok r w' => .ok r.toList w'
      | .panic k w' => .panic k w' := rfl

theorem stepB_goal (run : ProbeRunner) {s : St} {fl : List Nat} (H : HInvB s fl) {b : Nat × Nat}
    (hs : Sized s b) (op : OpB) (hn : need b op) :
    (∃ fl', HInvB (stepB run s op) fl') ∧ Sized (stepB run s op) (grow b op) ∧
    (guardB s op = true → ¬ preB s.ss op →
      (∃ k, execB run s.w op = .panic k s.w) ∧ stepB run s op = s) ∧
    (guardB s op = true → preB s.ss op → ∃ r w', execB run s.w op = .ok r w') := by
  have hroom := room_of_need H hs op hn
  obtain ⟨h1, h2⟩ := hs
  cases op with
  | base op =>
    obtain ⟨hfew, hent⟩ := hroom
    obtain ⟨⟨fl1, g0⟩, g1, g2, grej, gok, _⟩ := step_goal run H.hinv hfew hent op
    refine ⟨⟨fl1, g0, step_yinv run H.hinv hfew hent op H.yinv⟩,
      ⟨Nat.le_trans g1 (Nat.add_le_add_right h1 1), Nat.le_trans g2 (Nat.add_le_add_right h2 1)⟩,
      ?_, ?_⟩
    · intro hg hnp
      obtain ⟨k, hk⟩ := grej hg hnp
      refine ⟨⟨k, by rw [execB_base, hk]⟩, ?_⟩
      show step run s op = s
      rw [step_of_guard hg, hk]
      simp only [Res.state, retOf, issuedAfter, specStep_of_not_pre _ _ op hnp]
    · intro hg hp
      obtain ⟨r, w', hex⟩ := gok hg hp
      exact ⟨r.toList, w', by rw [execB_base, hex]⟩
  | newb p n ids vals =>
    obtain ⟨g0, g1, g2, grej, gok⟩ := step_newb run H p n ids vals hroom
    refine ⟨g0, ⟨Nat.le_trans g1 (Nat.add_le_add_right h1 _),
      Nat.le_trans g2 (Nat.add_le_add_right h2 n)⟩, grej, ?_⟩
    intro hg hp
    obtain ⟨es, w', hex, _⟩ := gok hg hp
    exact ⟨es, w', hex⟩
  | delb f =>
    obtain ⟨w', hop, hst, post, _, g0⟩ := step_delb run H f
    refine ⟨⟨_, g0⟩, ?_, fun _ hnp => absurd trivial hnp, fun _ _ => ⟨[], w', by simp only [execB, hop]⟩⟩
    rw [hst]
    exact ⟨by show w'.tables.length ≤ b.1; rw [post.tablesLen]; exact h1,
      by show w'.entities.length ≤ b.2; rw [post.entitiesLen]; exact h2⟩
  | xchgb p f add vals rem =>
    obtain ⟨g0, g1, g2, grej, gok⟩ := step_xchgb run H p f add vals rem hroom
    have hsel := Nat.le_trans (selTables_length_le H.hinv.cinv f) h1
    have hdbl : s.w.tables.length + (selTables s.w f).length ≤ 2 * b.1 :=
      Nat.two_mul b.1 ▸ Nat.add_le_add h1 hsel
    refine ⟨g0, ⟨Nat.le_trans g1 hdbl, g2 ▸ h2⟩, grej, ?_⟩
    intro hg hp
    obtain ⟨w', hex, _⟩ := gok hg hp
    exact ⟨[], w', hex⟩

/-! ### along histories -/

theorem runB_inv (run : ProbeRunner) (ops : List OpB) : ∀ (s : St) (fl : List Nat) (b : Nat × Nat),
    HInvB s fl → Sized s b → Fits b ops →
    ∃ fl', HInvB (runOpsB run s ops) fl' ∧ Sized (runOpsB run s ops) (budget b ops) := by
  induction ops with
  | nil => intro s fl b h hs _; exact ⟨fl, h, hs⟩
  | cons op ops ih =>
    intro s fl b h hs hf
    obtain ⟨⟨fl1, h1⟩, hs1, _, _⟩ := stepB_goal run h hs op hf.1
    exact ih _ fl1 _ h1 hs1 hf.2

theorem sized_init (cap rel : Nat) : Sized (St.init cap rel) (1, 2) :=
  ⟨Nat.le_refl _, Nat.le_refl _⟩

theorem reachB_inv (run : ProbeRunner) (cap rel : Nat) (ops : List OpB) (hf : Fits (1, 2) ops) :
    ∃ fl, HInvB (reachB run cap rel ops) fl := by
  obtain ⟨fl, h, _⟩ := runB_inv run ops _ [] (1, 2) (hinvB_init cap rel) (sized_init cap rel) hf
  exact ⟨fl, h⟩

theorem reachB_sized (run : ProbeRunner) (cap rel : Nat) (ops : List OpB) (hf : Fits (1, 2) ops) :
    Sized (reachB run cap rel ops) (budget (1, 2) ops) := by
  obtain ⟨_, _, h⟩ := runB_inv run ops _ [] (1, 2) (hinvB_init cap rel) (sized_init cap rel) hf
  exact h

theorem reachB_step (run : ProbeRunner) (cap rel : Nat) (ops : List OpB) (op : OpB)
    (hf : Fits (1, 2) (ops ++ [op])) :
    ∃ fl, HInvB (reachB run cap rel ops) fl ∧
    (∃ fl', HInvB (reachB run cap rel (ops ++ [op])) fl') ∧
    Room (reachB run cap rel ops) op ∧
    (guardB (reachB run cap rel ops) op = true → ¬ preB (reachB run cap rel ops).ss op →
      (∃ k, execB run (reachB run cap rel ops).w op = .panic k (reachB run cap rel ops).w) ∧
      reachB run cap rel (ops ++ [op]) = reachB run cap rel ops) ∧
    (guardB (reachB run cap rel ops) op = true → preB (reachB run cap rel ops).ss op →
      ∃ r w', execB run (reachB run cap rel ops).w op = .ok r w') := by
  obtain ⟨hf1, hn⟩ := (fits_snoc _ _ _).mp hf
  obtain ⟨fl, H⟩ := reachB_inv run cap rel ops hf1
  have hs := reachB_sized run cap rel ops hf1
  obtain ⟨g0, _, grej, gok⟩ := stepB_goal run H hs op hn
  rw [reachB_snoc]
  exact ⟨fl, H, g0, room_of_need H hs op hn, grej, gok⟩

/-! ### a simple sufficient bound: no exchange batch -/

/-- the cost of an operation other than an exchange batch -/
def cost : OpB → Nat
  | .base _ => 1
  | .newb _ n _ _ => max n 1
  | .delb _ => 0
  | .xchgb _ _ _ _ _ => 0

def OpB.isXchgb : OpB → Bool
  | .xchgb _ _ _ _ _ => true
  | _ => false

def totalCost (ops : List OpB) : Nat := (ops.map cost).sum

theorem totalCost_cons (op : OpB) (ops : List OpB) :
    totalCost (op :: ops) = cost op + totalCost ops := by
  simp only [totalCost, List.map_cons, List.sum_cons]

/-- a step of `n` rows that costs `k ≥ max n 1` tables finds its room below the limits -/
theorem room_of_le {t e n k c : Nat} (hk : 1 ≤ k) (hn : n ≤ k) (h1 : t + (k + c) ≤ maxU32)
    (h2 : e + (k + c) < 2 ^ 32) : t < maxU32 ∧ t + n ≤ maxU32 ∧ e + n < 2 ^ 32 := by
  omega

theorem grow_le_cost (b : Nat × Nat) {op : OpB} (hx : op.isXchgb = false) (c : Nat) :
    (grow b op).1 + c ≤ b.1 + (cost op + c) ∧ (grow b op).2 + c ≤ b.2 + (cost op + c) := by
  cases op with
  | base _ => exact ⟨Nat.le_of_eq (Nat.add_assoc _ _ _), Nat.le_of_eq (Nat.add_assoc _ _ _)⟩
  | newb _ n _ _ =>
    refine ⟨Nat.le_of_eq (Nat.add_assoc _ _ _), ?_⟩
    show b.2 + n + c ≤ b.2 + (max n 1 + c)
    rw [Nat.add_assoc]
    exact Nat.add_le_add_left (Nat.add_le_add_right (Nat.le_max_left n 1) c) _
  | delb _ =>
    show b.1 + c ≤ b.1 + (0 + c) ∧ b.2 + c ≤ b.2 + (0 + c)
    rw [Nat.zero_add]
    exact ⟨Nat.le_refl _, Nat.le_refl _⟩
  | xchgb _ _ _ _ _ => cases hx

/-- one step of `fits_of_cost`: if the cost of `op` and of what follows (`c`) is within the limits,
    `op` finds its room, and what follows is within the limits of the grown budget -/
theorem need_of_cost {b : Nat × Nat} {op : OpB} (hx : op.isXchgb = false) {c : Nat}
    (h1 : b.1 + (cost op + c) ≤ maxU32) (h2 : b.2 + (cost op + c) < 2 ^ 32) :
    need b op ∧ (grow b op).1 + c ≤ maxU32 ∧ (grow b op).2 + c < 2 ^ 32 := by
  obtain ⟨g1, g2⟩ := grow_le_cost b hx c
  refine ⟨?_, Nat.le_trans g1 h1, Nat.lt_of_le_of_lt g2 h2⟩
  cases op with
  | base _ =>
    obtain ⟨r1, _, r3⟩ := room_of_le (n := 1) (Nat.le_refl 1) (Nat.le_refl 1) h1 h2
    exact ⟨r1, r3⟩
  | newb _ n _ _ => exact room_of_le (Nat.le_max_right n 1) (Nat.le_max_left n 1) h1 h2
  | delb _ => trivial
  | xchgb _ _ _ _ _ => cases hx

/-- **without exchange batches the bound is the sum of the costs** -/
theorem fits_of_cost : ∀ (ops : List OpB) (b : Nat × Nat), (∀ op ∈ ops, op.isXchgb = false) →
    b.1 + totalCost ops ≤ maxU32 → b.2 + totalCost ops < 2 ^ 32 → Fits b ops
  | [], _, _, _, _ => trivial
  | op :: ops, b, hx, h1, h2 => by
    rw [totalCost_cons] at h1 h2
    obtain ⟨hn, g1, g2⟩ := need_of_cost (hx op List.mem_cons_self) h1 h2
    exact ⟨hn, fits_of_cost ops _ (fun o ho => hx o (List.mem_cons_of_mem _ ho)) g1 g2⟩

theorem totalCost_base (ops : List Op) : totalCost (ops.map .base) = ops.length := by
  induction ops with
  | nil => rfl
  | cons op ops ih =>
    simp only [totalCost, List.map_cons, List.sum_cons, cost, List.length_cons] at ih ⊢
    omega

theorem fits_base (ops : List Op) (hlen : ops.length < 2 ^ 32 - 2) : Fits (1, 2) (ops.map .base) := by
  apply fits_of_cost
  · intro op hop
    obtain ⟨o, _, rfl⟩ := List.mem_map.mp hop
    rfl
  · rw [totalCost_base]; show 1 + ops.length ≤ maxU32; simp only [maxU32]; omega
  · rw [totalCost_base]; show 2 + ops.length < 2 ^ 32; omega

/-! ### a sufficient bound for histories with exchange batches -/

def xcount (ops : List OpB) : Nat := (ops.filter OpB.isXchgb).length

theorem two_pow_xcount_cons (op : OpB) (ops : List OpB) :
    2 ^ xcount (op :: ops) = if op.isXchgb = true then 2 ^ xcount ops * 2 else 2 ^ xcount ops := by
  cases op <;> rfl

theorem mul_lt_of_le {x y p m : Nat} (hp : 0 < p) (hxy : x ≤ y) (h : y * p < m) :
    x * p < m ∧ y < m :=
  ⟨Nat.lt_of_le_of_lt (Nat.mul_le_mul_right p hxy) h,
    Nat.lt_of_le_of_lt (Nat.le_mul_of_pos_right y hp) h⟩

/-- one step of `fits_of_cost_x`; `p` is the factor still to come, an exchange batch doubles it -/
theorem need_of_cost_x {b : Nat × Nat} {op : OpB} {c p : Nat} (hp : 0 < p)
    (h1 : (b.1 + (cost op + c)) * (if op.isXchgb = true then p * 2 else p) < maxU32)
    (h2 : 2 * (b.2 + (cost op + c)) < 2 ^ 32) :
    need b op ∧ ((grow b op).1 + c) * p < maxU32 ∧ 2 * ((grow b op).2 + c) < 2 ^ 32 := by
  -- any other operation: the stronger bounds give those of `need_of_cost`
  have other : op.isXchgb = false → (b.1 + (cost op + c)) * p < maxU32 →
      need b op ∧ ((grow b op).1 + c) * p < maxU32 ∧ 2 * ((grow b op).2 + c) < 2 ^ 32 := by
    intro hx h1
    obtain ⟨g1, g2⟩ := grow_le_cost b hx c
    obtain ⟨g, hb⟩ := mul_lt_of_le hp g1 h1
    exact ⟨(need_of_cost hx (Nat.le_of_lt hb)
        (Nat.lt_of_le_of_lt (Nat.le_mul_of_pos_left _ (Nat.le_succ 1)) h2)).1,
      g, Nat.lt_of_le_of_lt (Nat.mul_le_mul_left 2 g2) h2⟩
  cases op with
  | base _ => exact other rfl h1
  | newb _ _ _ _ => exact other rfl h1
  | delb _ => exact other rfl h1
  | xchgb _ _ _ _ _ =>
    obtain ⟨t, e⟩ := b
    simp only [OpB.isXchgb, if_true, cost, Nat.zero_add] at h1 h2
    -- the doubled factor goes to the budget: `(t + c) · (p · 2) = (2 · (t + c)) · p`
    rw [← Nat.mul_assoc, Nat.mul_right_comm, Nat.mul_comm _ 2] at h1
    obtain ⟨g, hb⟩ := mul_lt_of_le hp (x := 2 * t + c)
      (Nat.mul_add 2 t c ▸ Nat.add_le_add_left (Nat.le_mul_of_pos_left c (Nat.le_succ 1)) _) h1
    exact ⟨⟨Nat.lt_of_le_of_lt (Nat.mul_le_mul_left 2 (Nat.le_add_right t c)) hb,
      Nat.lt_of_le_of_lt (Nat.mul_le_mul_left 2 (Nat.le_add_right e c)) h2⟩, g, h2⟩

/-- **with `k` exchange batches**: the table budget may double `k` times, so
    `(T + totalCost ops) · 2^k < 2^32 − 1` suffices for the tables, and `2·(E + totalCost ops) < 2^32`
    for the index slots (the move loop of an exchange batch needs the factor 2) -/
theorem fits_of_cost_x : ∀ (ops : List OpB) (b : Nat × Nat),
    (b.1 + totalCost ops) * 2 ^ xcount ops < maxU32 → 2 * (b.2 + totalCost ops) < 2 ^ 32 →
    Fits b ops
  | [], _, _, _ => trivial
  | op :: ops, b, h1, h2 => by
    rw [totalCost_cons] at h1 h2
    rw [two_pow_xcount_cons] at h1
    obtain ⟨hn, g1, g2⟩ := need_of_cost_x (Nat.two_pow_pos _) h1 h2
    exact ⟨hn, fits_of_cost_x ops _ g1 g2⟩

end RefineB

end Ark

end

section

/-! ## §2 batch steps against runs of single steps

The run of the single `del` (`xchg`) steps over a list of issued handles is the sequence of the
  single `RemoveEntity` (`Exchange`) calls with the fold of the specification steps (`runOps_dels`,
  `runOps_xchgs`), and that fold over the selection is the batch's specification step
  (`specDelAll_selEnts`).  With the world-level "batch = singles" this gives `delb_is_singles`,
  `xchgb_is_singles` of Ark/Props/C01Batch.lean.
-/

set_option autoImplicit false

namespace Ark

open World Ark.Props.C01World

namespace RefineB

open Refine

/-! ### frame, in the specification -/

theorem specDelAll_frame (x : Ent) : ∀ (es : List Ent) (ss : SS), x ∉ es →
    find (specDelAll ss es).ents x = find ss.ents x
  | [], _, _ => rfl
  | e :: es, ss, hx => by
    simp only [List.mem_cons, not_or] at hx
    show find (specDelAll (specStep ss default (.del e)) es).ents x = _
    rw [specDelAll_frame x es _ hx.2]
    exact specStep_frame ss default (.del e) x rfl (fun hh => hx.1 (Option.some.inj hh).symm)

theorem specXchgAll_frame (p : Path) (add rem : List Comp) (vals : Comps) (x : Ent) :
    ∀ (es : List Ent) (ss : SS), x ∉ es →
    find (specXchgAll ss p add rem vals es).ents x = find ss.ents x
  | [], _, _ => rfl
  | e :: es, ss, hx => by
    simp only [List.mem_cons, not_or] at hx
    show find (specXchgAll (specStep ss default (.xchg p e add rem vals)) p add rem vals es).ents x = _
    rw [specXchgAll_frame p add rem vals x es _ hx.2]
    exact specStep_frame ss default (.xchg p e add rem vals) x rfl
      (fun hh => hx.1 (Option.some.inj hh).symm)

/-- the specification after `n` creations: the new entries, newest first, before the old ones -/
theorem specNews_ents (p : Path) (ids : List Comp) : ∀ (es : List Ent) (ss : SS),
    (ids.Nodup ∧ ∀ c ∈ ids, c < ss.zst.length) →
    (es.foldl (fun ss e => specStep ss e (.new p ids [])) ss).ents =
      es.reverse.map (fun e => (e, zeros ids)) ++ ss.ents ∧
    (es.foldl (fun ss e => specStep ss e (.new p ids [])) ss).zst = ss.zst
  | [], _, _ => ⟨rfl, rfl⟩
  | e :: es, ss, hp => by
    have h1 : specStep ss e (.new p ids []) = { ss with ents := (e, zeros ids) :: ss.ents } := by
      simp only [specStep, if_pos hp, writeComps_nil]
    rw [List.foldl_cons, h1]
    obtain ⟨i1, i2⟩ := specNews_ents p ids es { ss with ents := (e, zeros ids) :: ss.ents } hp
    refine ⟨?_, i2⟩
    rw [i1]
    simp only [List.reverse_cons, List.map_append, List.map_cons, List.map_nil, List.append_assoc,
      List.singleton_append]

/-! ### the batch removal against the run of single removals -/

theorem runOps_dels (run : ProbeRunner) : ∀ (l : List Ent) (s : St) (w' : World),
    (∀ e ∈ l, e ∈ s.issued) → removeSeq run l s.w = .ok () w' →
    runOps run s (l.map .del) = ⟨w', s.issued, specDelAll s.ss l⟩
  | [], s, w', _, h => by
    simp only [removeSeq, M.forM', pure, M.pure] at h
    injection h with _ h2
    subst h2
    rfl
  | e :: l, s, w', hi, h => by
    simp only [removeSeq, M.forM', bind, M.bind] at h
    cases h1 : opRemoveEntity run e s.w with
    | panic k w1 => rw [h1] at h; cases h
    | ok u w1 =>
      rw [h1] at h
      have hg : guard s (.del e) = true := by
        simp only [Refine.guard, decide_eq_true_eq]; exact hi e List.mem_cons_self
      have hex : exec run s.w (.del e) = .ok none w1 := by simp only [exec, h1]
      have hstep : step run s (.del e) = ⟨w1, s.issued, specStep s.ss default (.del e)⟩ := by
        rw [step_of_guard_nr hg rfl, hex]
        simp only [Res.state, retOf, Option.getD_none]
      show runOps run (step run s (.del e)) (l.map .del) = _
      rw [hstep]
      exact runOps_dels run l ⟨w1, s.issued, specStep s.ss default (.del e)⟩ w'
        (fun e' he' => hi e' (List.mem_cons_of_mem _ he')) h

theorem specDelAll_selEnts {s : St} {fl : List Nat} (H : HInvB s fl) (f : Filter) :
    specDelAll s.ss (selEnts s.w f) = specDelAll s.ss (matching s.ss f) := by
  have hnd := H.hinv.ginv.live_nodup
  refine SS.ext ?_ ((specDelAll_zst _ _).trans (specDelAll_zst _ _).symm)
  rw [specDelAll_ents _ _ hnd, specDelAll_ents _ _ hnd]
  apply List.filter_congr
  intro x _
  have := selEnts_iff_matching H f x.1
  by_cases hx : x.1 ∈ selEnts s.w f
  · simp [hx, this.mp hx]
  · have hx' : x.1 ∉ matching s.ss f := fun hh => hx (this.mpr hh)
    simp [hx, hx']

/-! ### the exchange batches against the run of single exchanges -/

theorem specStep_xchg_zst (ss : SS) (fresh : Ent) (p : Path) (e : Ent) (add rem : List Comp)
    (vals : Comps) : (specStep ss fresh (.xchg p e add rem vals)).zst = ss.zst := by
  simp only [specStep]
  cases find ss.ents e with
  | none => rfl
  | some cs => simp only; split <;> rfl

theorem runOps_xchgs (run : ProbeRunner) (p : Path) (add rem : List Comp) (vals : Comps) :
    ∀ (l : List Ent) (s : St) (w' : World), (∀ e ∈ l, e ∈ s.issued) →
    (∀ c ∈ add, c < s.ss.zst.length) → exchangeSeq run p add rem vals l s.w = .ok () w' →
    runOps run s (l.map fun e => .xchg p e add rem vals) =
      ⟨w', s.issued, specXchgAll s.ss p add rem vals l⟩
  | [], s, w', _, _, h => by
    simp only [exchangeSeq, M.forM', pure, M.pure] at h
    injection h with _ h2
    subst h2
    rfl
  | e :: l, s, w', hi, hreg, h => by
    simp only [exchangeSeq, M.forM', bind, M.bind] at h
    cases h1 : opExchange run p e add vals rem [] s.w with
    | panic k w1 => rw [h1] at h; cases h
    | ok u w1 =>
      rw [h1] at h
      have hg : guard s (.xchg p e add rem vals) = true := by
        simp only [Refine.guard, Bool.and_eq_true, decide_eq_true_eq, List.all_eq_true]
        exact ⟨hi e List.mem_cons_self, hreg⟩
      have hex : exec run s.w (.xchg p e add rem vals) = .ok none w1 := by simp only [exec, h1]
      have hstep : step run s (.xchg p e add rem vals) =
          ⟨w1, s.issued, specStep s.ss default (.xchg p e add rem vals)⟩ := by
        rw [step_of_guard_nr hg rfl, hex]
        simp only [Res.state, retOf, Option.getD_none]
      show runOps run (step run s (.xchg p e add rem vals)) (l.map _) = _
      rw [hstep]
      exact runOps_xchgs run p add rem vals l
        ⟨w1, s.issued, specStep s.ss default (.xchg p e add rem vals)⟩ w'
        (fun e' he' => hi e' (List.mem_cons_of_mem _ he'))
        (by show ∀ c ∈ add, c < (specStep s.ss default (.xchg p e add rem vals)).zst.length
            rw [specStep_xchg_zst]; exact hreg) h

end RefineB

end Ark

end

