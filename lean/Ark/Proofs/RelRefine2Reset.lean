/-
  `Shrink` (§1) and `Reset` (§2) as steps of the machine of `Ark.Proofs.RelRefine2Machine`
  (`step2_shrink`, `step2_reset`: `Shrink` keeps the specification, `Reset` empties it and starts a new
  epoch, both re-establish `TInv` and the filter-side invariant), and with them (§3): every step keeps
  `HInv2`, hence `HInv2` at every state reached by a history with `ops.length < 2^16`.
-/
import Ark.Proofs.RelRefine2Machine

section

/-! ## §1 `Shrink` as a step

Properties C01 / C15 over histories WITH relation components; C05: `Shrink` never makes cache and
  walk diverge.  `Ark.Proofs.ShrinkInv` gives the world-level facts (`ShrinkRel`; `IdxInv`, `SInv`,
  `RInv`, `CacheInv` preserved).  `Shrink` frees only EMPTY relation tables, so targets, relation
  lists and flags of the non-free tables are those of before and a freshly freed table has no rows
  (`tinv_shrink`); the specification is UNCHANGED (`hinv_shrink`).
-/

set_option autoImplicit false

namespace Ark
namespace RelRefine2

open World Ark.Props.C01World QueryRel QueryExact RelRefine

theorem shrinkRel_get {w w' : World} (r : ShrinkRel w w') {t : Nat} {T' : Table}
    (hT : w'.tables[t]? = some T') :
    t < w.tables.length ∧ w.tables[t]? = some (w.tbl t) ∧ TblRel (w.tbl t) T' := by
  have hlt : t < w.tables.length := by rw [← r.tlen]; exact lt_of_get hT
  refine ⟨hlt, get_of_lt hlt, ?_⟩
  have := r.tbl t
  rw [tbl_of_get hT] at this
  exact this

theorem tblRel_notFree {T T' : Table} (h : TblRel T T') (hf : T'.isFree = false) :
    T.isFree = false := by
  cases hT : T.isFree with
  | false => rfl
  | true => rw [h.free_mono hT] at hf; cases hf

theorem tinv_shrink {w w' : World} {fl : List Nat} (h : TInv w fl) (r : ShrinkRel w w')
    (hI : IdxInv w') (hS : SInv w') (hR : RInv w') : TInv w' fl where
  rel :=
    { sinv := hS
      rinv := hR
      aux :=
        { targets := by
            intro t T' hT hf i hi
            obtain ⟨_, hT0, tr⟩ := shrinkRel_get r hT
            have := h.rel.aux.targets t _ hT0 (tblRel_notFree tr hf) i (by rw [← tr.isRel]; exact hi)
            rw [tr.targets, r.alive]
            exact this
          rels := by
            intro t T' hT hf
            obtain ⟨_, hT0, tr⟩ := shrinkRel_get r hT
            exact (h.rel.aux.rels t _ hT0 (tblRel_notFree tr hf)).congr tr.ids tr.isRel tr.targets
              tr.relIDs
          relArchs := by
            intro a A' hA' hrel
            rw [r.frame.relationArchetypes]
            have hlt : a < w.archetypes.length := by rw [← r.alen]; exact alt_of_get hA'
            have hr := r.arch a
            rw [arch_of_get hA'] at hr
            exact h.rel.aux.relArchs a _ (aget_of_lt hlt) (by rw [← hr.hasRelations]; exact hrel)
          cacheRels := by
            intro e' he' x hx
            obtain ⟨e, he, _, g2, g3⟩ := entry_of_cacheKeys r.cacheKeys.symm he'
            rw [← g2]
            exact h.rel.aux.cacheRels e he x (by rw [g3]; exact hx) } }
  flags := by
    intro t T' hT hf i hi hz
    obtain ⟨_, hT0, tr⟩ := shrinkRel_get r hT
    rw [tr.targets] at hz ⊢
    rw [r.frame.isTarget]
    exact h.flags t _ hT0 (tblRel_notFree tr hf) i (by rw [← tr.isRel]; exact hi) hz
  freeEmpty := by
    intro t T' hT hf
    obtain ⟨_, hT0, tr⟩ := shrinkRel_get r hT
    rw [tr.len]
    rcases tr.free with e | ⟨f1, _⟩
    · exact h.freeEmpty t _ hT0 (by rw [← e]; exact hf)
    · simp only [freeable, Bool.and_eq_true, beq_iff_eq] at f1
      exact f1.2
  link := h.link.transfer hI r.frame.pool (IdxSame.of_eq r.frame.entities)
    (by rw [r.frame.isTarget]) (by rw [r.tlen]; exact h.link.fewTables)
  kindsLe := by
    obtain ⟨ts, as, c, heq⟩ := r.frame
    rw [heq]; exact h.kindsLe

theorem shrinkRel_targetOf {w w' : World} (r : ShrinkRel w w') (i : Nat) (c : Comp) :
    targetOf w' i c = targetOf w i c := by
  simp only [Ark.targetOf, r.frame.entities]
  cases hx : w.entities[i]? with
  | none => rfl
  | some p =>
    obtain ⟨t, row⟩ := p
    simp only
    by_cases ht : t = maxU32
    · simp only [ht, if_true]
    · simp only [ht, if_false]
      rcases Nat.lt_or_ge t w.tables.length with hlt | hge
      · rw [get_of_lt hlt, get_of_lt (w := w') (by rw [r.tlen]; exact hlt)]
        simp only [Option.bind_some, Table.targetAt, (r.tbl t).colIdx, (r.tbl t).isRel,
          (r.tbl t).targets]
      · rw [List.getElem?_eq_none hge, List.getElem?_eq_none (by rw [r.tlen]; exact hge)]

theorem hinv_shrink {s : St} {fl : List Nat} (H : HInv s fl) {w' : World} (r : ShrinkRel s.w w')
    (hI : IdxInv w') (hS : SInv w') (hR : RInv w') : HInv ⟨w', s.issued, s.ss⟩ fl :=
  H.of_kinds (tinv_shrink H.tinv r hI hS hR) (by rw [r.frame.pool]; exact H.ginv) r.frame.locks
    r.frame.obs H.nodup r.frame.kinds (by obtain ⟨_, _, _, heq⟩ := r.frame; rw [heq])
    (fun e en hm => (H.ok e en hm).frame ⟨fun c => r.valOf e.id c, r.compsOf e.id⟩
      (fun c => shrinkRel_targetOf r e.id c)) H.tgtsOK

/-- freed tables leave the cache entries (`cache.removeTable`), nothing else of the cache, the heap
    or the lock changes -/
theorem kept_shrink {w w' : World} (r : ShrinkRel w w') (hc : CacheInv w → CacheInv w') :
    Kept w w' where
  q :=
    { rows := by
        intro hr t T' row hT hrow
        obtain ⟨_, hT0, tr⟩ := shrinkRel_get r hT
        rw [tr.len] at hrow
        rw [tr.ent row hrow, r.alive]
        exact hr t _ row hT0 hrow
      cidx := fun hx => hx.of_frame ⟨r.frame.componentIndex, r.frame.kinds, r.alen,
        fun a => (r.arch a).mask⟩
      cache := by
        rintro ⟨h1, h2⟩
        refine ⟨by rw [r.cacheIdx]; exact h1, ?_⟩
        have hk := r.cacheKeys
        simp only [cacheKeys, h2, List.map_nil] at hk
        exact List.map_eq_nil_iff.mp hk }
  c := ⟨hc, r.cacheKeys, r.cacheIdx, r.cachePool, r.frame.filters⟩
  locks := r.frame.locks
  relComp := fun c hcc => by simp only [World.isRelComp, r.frame.kinds]; exact hcc

theorem step2_shrink_eq (run : ProbeRunner) {s : St} {fl : List Nat} (H : HInv2 s fl)
    (hent : 2 * s.w.entities.length < 2 ^ 32) (bounded : Bool) :
    step2 run s (.shrink bounded) = ⟨(shrinkPure s.w bounded).1, s.issued, s.ss⟩ ∧
    IdxInv (shrinkPure s.w bounded).1 ∧ ShrinkRel s.w (shrinkPure s.w bounded).1 :=
  ⟨by simp only [step2, opShrink_eq bounded s.w H.base.unlocked, Res.state],
    shrinkPure_rel H.base.tinv.link.idx
      (fun t => by have := H.base.tinv.link.idx.rows_le t; omega) bounded⟩

theorem step2_shrink (run : ProbeRunner) {s : St} {fl : List Nat} (H : HInv2 s fl)
    (hent : 2 * s.w.entities.length < 2 ^ 32) (bounded : Bool) :
    (∃ fl', HInv2 (step2 run s (.shrink bounded)) fl') ∧ Grows s (step2 run s (.shrink bounded)) := by
  have ht := H.base.tinv
  obtain ⟨hstep, hI, hrel⟩ := step2_shrink_eq run H hent bounded
  obtain ⟨hS, hR⟩ := shrinkPure_sinv ht.rel.sinv ht.rel.rinv bounded
  have hc : CacheInv s.w → CacheInv (shrinkPure s.w bounded).1 := fun hcc =>
    (shrinkPure_induct (fun w' => SInv w' ∧ RInv w' ∧ CacheInv w')
      (fun _ t ⟨a, b, c⟩ => shrinkStep_struct a b c t) bounded s.w
        ⟨ht.rel.sinv, ht.rel.rinv, hcc⟩).2.2
  rw [hstep]
  refine ⟨⟨fl, hinv_shrink H.base hrel hI hS hR, H.finv.kept (kept_shrink hrel hc)⟩, ?_⟩
  exact ⟨by show (shrinkPure s.w bounded).1.tables.length ≤ _; rw [hrel.tlen]; omega,
    by show (shrinkPure s.w bounded).1.relationArchetypes.length ≤ _
       rw [hrel.frame.relationArchetypes]; exact Nat.le_succ _,
    by show (shrinkPure s.w bounded).1.entities.length ≤ _
       rw [hrel.frame.entities]; exact Nat.le_succ _⟩

end RelRefine2
end Ark

end

section

/-! ## §2 `Reset` as a step

Properties C16 / C05 / C01 in a world WITH relation components.  The joint invariant `TInv` does
  not demand that the memory behind the pool slice is empty: `PLink.stale` only says that the handles
  kept there carry the sentinel generation `maxU32` — which is what `Pool.reset` establishes (the model
  of `entityPool.Reset` since the repair of defect D14: it truncates the slice and KEEPS the
  invalidated handles behind it).  After the step (`ResetStepPost`) the specification is empty and
  nothing is issued (a new epoch, as in `Ark.Refine`), the cache is empty, every filter object is
  unregistered, and no handle of the ended epoch is alive.
-/

set_option autoImplicit false

namespace Ark
namespace RelRefine2

open World Ark.Props.C01World QueryRel QueryExact RelRefine

theorem cacheReset_relationArchetypes (w : World) :
    w.cacheReset.relationArchetypes = w.relationArchetypes := by
  unfold cacheReset; split <;> rfl

theorem resetW_relationArchetypes (w : World) :
    (resetW w).relationArchetypes = w.relationArchetypes :=
  (resetW_proj (·.relationArchetypes) (fun _ _ _ => rfl) (fun _ _ _ => rfl) (fun _ _ => rfl) w).trans
    (cacheReset_relationArchetypes _)

theorem resetW_nonFree {w : World} (hS : SInv w) {t : Nat} {T' : Table}
    (hT : (resetW w).tables[t]? = some T') (hf : T'.isFree = false) :
    ∃ (T : Table), w.tables[t]? = some T ∧ T' = resetTblOf w T ∧ T.isFree = false ∧
      (w.arch T.arch).hasRelations = false := by
  obtain ⟨T, hT0, rfl⟩ := resetW_tget hS hT
  rw [resetTblOf_isFree, Bool.or_eq_false_iff] at hf
  exact ⟨T, hT0, rfl, hf.1, hf.2⟩

theorem noRelCol {w : World} (hS : SInv w) {t : Nat} {T : Table} (hT : w.tables[t]? = some T)
    (hr : (w.arch T.arch).hasRelations = false) (i : Nat) : T.isRel.getD i false ≠ true := by
  obtain ⟨A, hA, _, i2, _⟩ := hS.tblArch t T hT
  rw [arch_of_get hA] at hr
  have h0 : A.numRel = 0 := by simpa [Archetype.hasRelations] using hr
  rw [i2]
  exact (hS.astruct _ A hA).no_rel h0 i

theorem tinv_reset {w : World} {fl : List Nat} (h : TInv w fl) (hC : CacheInv w) :
    TInv (resetW w) [] := by
  have hS := h.rel.sinv
  have hFE := h.freeEmpty
  have hSr := SInv.resetW hS
  exact
    { rel :=
        { sinv := hSr
          rinv := RInv.resetW hS h.rel.rinv
          aux :=
            { targets := by
                intro t T' hT hf i hi
                obtain ⟨T, hT0, rfl, _, hnr⟩ := resetW_nonFree hS hT hf
                rw [resetTblOf_isRel] at hi
                exact absurd hi (noRelCol hS hT0 hnr i)
              rels := by
                intro t T' hT hf
                obtain ⟨T, hT0, rfl, hf0, _⟩ := resetW_nonFree hS hT hf
                exact (h.rel.aux.rels t T hT0 hf0).congr (resetTblOf_ids _ _) (resetTblOf_isRel _ _)
                  (resetTblOf_targets _ _) (resetTblOf_relIDs _ _)
              relArchs := by
                intro a A' hA' hrel
                rw [resetW_relationArchetypes]
                obtain ⟨A, hA, rfl⟩ := resetW_aget hS hA'
                rw [resetArchOf_hasRelations] at hrel
                exact h.rel.aux.relArchs a A hA hrel
              cacheRels := by
                intro e he
                rw [resetW_cache, (cacheReset_empty hC).2] at he
                cases he } }
      flags := by
        intro t T' hT hf i hi
        obtain ⟨T, hT0, rfl, _, hnr⟩ := resetW_nonFree hS hT hf
        rw [resetTblOf_isRel] at hi
        exact absurd hi (noRelCol hS hT0 hnr i)
      freeEmpty := FreeEmpty.resetW hS h.link.idx hFE
      link := (h.link.afterReset hS hFE).1
      kindsLe := by rw [resetW_kinds, (resetW_caps w).2.2]; exact h.kindsLe }

theorem resetW_unindexed {w : World} {fl : List Nat} (h : TInv w fl) (i : Nat) :
    compsOf (resetW w) i = none ∧ (∀ (c : Comp), valOf (resetW w) i c = none) ∧
    ∀ (c : Comp), targetOf (resetW w) i c = none := by
  have hd : ∀ (t r : Nat), (resetW w).entities[i]? = some (t, r) → t = maxU32 := by
    intro t r hx
    have hi : i < 2 := by
      have := (List.getElem?_eq_some_iff.mp hx).1
      rw [resetW_entities, List.length_take] at this; omega
    obtain ⟨r', hr'⟩ := h.link.reservedUnindexed i hi
    rw [resetW_entities, List.getElem?_take_of_lt hi, hr'] at hx
    exact (Prod.mk.inj (Option.some.inj hx)).1.symm
  exact ⟨(not_indexed hd).1, (not_indexed hd).2, targetOf_none_of_entry hd⟩

theorem finvR_reset {w : World} {fl : List Nat} (h : FInvR w) (ht : TInv w fl) :
    FInvR (resetW w) := by
  obtain ⟨hc, hr, hp⟩ := cacheReset_core h.cache h.heap.toReg h.pool.core (resetW_cache w)
    (resetW_filters w)
  exact
    { cache := hc
      heap := by
        refine ⟨hr.reg, hr.inj, fun f fo hf => ?_, fun f fo hf => ?_⟩ <;>
          rw [resetW_filters, cacheReset_filters h.cache h.heap.toReg] at hf <;>
          obtain ⟨fo0, hf0, rfl⟩ := Option.map_eq_some_iff.mp hf
        · exact h.heap.typed f fo0 hf0
        · exact relsTyped_mono (h.heap.rels f fo0 hf0)
            (fun c hcc => by simp only [World.isRelComp, resetW_kinds]; exact hcc)
      cidx := h.cidx.of_frame ⟨resetW_componentIndex w, resetW_kinds w,
        by rw [resetW_archetypes ht.rel.sinv, List.length_map],
        fun a => by rw [resetW_arch ht.rel.sinv a, (resetArchOf_archRel _).mask]⟩
      rows := by
        intro t T' r hT hr
        obtain ⟨T, hT0, rfl⟩ := resetW_tget ht.rel.sinv hT
        rw [(resetTblOf_zero w (ht.link.idx.shape t T hT0) (ht.freeEmpty t T hT0)).1] at hr
        exact absurd hr (Nat.not_lt_zero _)
      lock := by
        obtain ⟨lf, g⟩ := h.lock
        rw [resetW_locks]
        exact ⟨[], Lock.reset_inv ⟨w.locks, []⟩ lf g⟩
      pool := .of_core hp }

structure ResetStepPost (s s' : St) : Prop where
  state : s' = ⟨resetW s.w, [], ⟨[], s.ss.zst, s.ss.isRel⟩⟩
  tinv : TInv s'.w []
  ginv : Pool.GInv s'.ps []
  unlocked : s'.w.isLocked = false
  noObs : ∀ (evt : Nat), s'.w.obs.hasObservers evt = false
  zstEq : s'.ss.zst = s'.w.kinds.map (·.zst)
  relEq : s'.ss.isRel = s'.w.kinds.map (·.isRel)
  maxc : s'.w.maxComps = 256
  finv : FInvR s'.w
  unregistered : ∀ (f : Nat) (fo : FilterObj), AL.find? s'.w.filters f = some fo → fo.cache = none
  cacheEmpty : s'.w.cache.indices = [] ∧ s'.w.cache.filters = []
  unindexed : ∀ (i : Nat), compsOf s'.w i = none ∧ (∀ (c : Comp), valOf s'.w i c = none) ∧
    ∀ (c : Comp), targetOf s'.w i c = none
  dead : ∀ (h : Ent), 2 ≤ h.id → h.gen ≠ maxU32 → s'.w.alive h = false
  hinv : HInv2 s' []

theorem step2_reset_spec (run : ProbeRunner) {s : St} {fl : List Nat} (H : HInv2 s fl) :
    ResetStepPost s (step2 run s .reset) := by
  have hl := H.base.unlocked
  have ht := H.base.tinv
  have hstep : step2 run s .reset = ⟨resetW s.w, [], ⟨[], s.ss.zst, s.ss.isRel⟩⟩ := by
    simp only [step2, opReset_eq s.w hl]
  rw [hstep]
  have hts := tinv_reset ht H.finv.cache
  have hfr := finvR_reset H.finv ht
  have hg : Pool.GInv (⟨resetW s.w, [], ⟨[], s.ss.zst, s.ss.isRel⟩⟩ : St).ps [] := by
    show Pool.GInv ⟨(resetW s.w).pool, [], []⟩ []
    rw [resetW_pool]; exact Refine.ginv_reset ht.link.pool
  have hul : (resetW s.w).isLocked = false := by
    show (resetW s.w).locks.isLocked = false
    rw [resetW_locks]; rfl
  have hno : ∀ (evt : Nat), (resetW s.w).obs.hasObservers evt = false := by
    intro evt
    show ((resetW s.w).obs.evt evt).hasObservers = false
    rw [resetW_obs]; exact ObsMgr.reset_noObs H.base.noObs evt
  have hz : s.ss.zst = (resetW s.w).kinds.map (·.zst) := by rw [resetW_kinds]; exact H.base.zstEq
  have hr : s.ss.isRel = (resetW s.w).kinds.map (·.isRel) := by
    rw [resetW_kinds]; exact H.base.relEq
  have hm : (resetW s.w).maxComps = 256 := by rw [(resetW_caps s.w).2.2]; exact H.base.maxc
  exact
    { state := rfl
      tinv := hts
      ginv := hg
      unlocked := hul
      noObs := hno
      zstEq := hz
      relEq := hr
      maxc := hm
      finv := hfr
      unregistered := by
        intro f fo hf
        replace hf : AL.find? (resetW s.w).filters f = some fo := hf
        rw [resetW_filters, cacheReset_filters H.finv.cache H.finv.heap.toReg] at hf
        obtain ⟨_, _, rfl⟩ := Option.map_eq_some_iff.mp hf
        rfl
      cacheEmpty := by
        show (resetW s.w).cache.indices = [] ∧ (resetW s.w).cache.filters = []
        rw [resetW_cache]; exact cacheReset_empty H.finv.cache
      unindexed := resetW_unindexed ht
      dead := by
        intro h h2 hgen
        show (resetW s.w).pool.alive h = false
        rw [resetW_pool]
        exact Ark.Props.C02.reset_kills s.w.pool ht.link.stale h h2
          hgen
      hinv :=
        ⟨{ tinv := hts
           ginv := hg
           unlocked := hul
           noObs := hno
           nodup := List.nodup_nil
           zstEq := hz
           relEq := hr
           maxc := hm
           ok := by intro e en hm'; cases hm'
           tgtsOK := by intro e en hm'; cases hm' }, hfr⟩ }

/-- the same statement as `step2_reset_spec` -/
theorem step2_reset_partial (run : ProbeRunner) {s : St} {fl : List Nat} (H : HInv2 s fl) :
    ResetStepPost s (step2 run s .reset) := step2_reset_spec run H

theorem step2_reset (run : ProbeRunner) {s : St} {fl : List Nat} (H : HInv2 s fl) :
    (∃ fl', HInv2 (step2 run s .reset) fl') ∧ Grows s (step2 run s .reset) := by
  have post := step2_reset_spec run H
  refine ⟨⟨[], post.hinv⟩, ?_⟩
  have hS := H.base.tinv.rel.sinv
  rw [post.state]
  refine ⟨?_, ?_, ?_⟩
  · show (resetW s.w).tables.length ≤ _
    rw [resetW_tables hS, List.length_map]; omega
  · show (resetW s.w).relationArchetypes.length ≤ _
    rw [resetW_relationArchetypes]; exact Nat.le_succ _
  · show (resetW s.w).entities.length ≤ _
    rw [resetW_entities, List.length_take]; omega

def noRun : ProbeRunner := fun _ _ _ => pure ()

def resetDemo : List Op2 := [.base (.new .unsafe_ [] [] []), .reset]

end RelRefine2
end Ark

end

section

/-! ## §3 the invariant at every reachable state

The length bound is that of `RelRefine.reach_hinv`.  The headline at those states:
  `Ark.Props.C05Rel.cached_agrees`.
-/

set_option autoImplicit false

namespace Ark
namespace RelRefine2

open World Ark.Props.C01World QueryRel QueryExact RelRefine

def Op2.isReset : Op2 → Bool
  | .reset => true
  | _ => false

theorem step2_inv (run : ProbeRunner) {s : St} {fl : List Nat} (H : HInv2 s fl)
    (hfew : s.w.tables.length + s.w.relationArchetypes.length + 1 ≤ maxU32)
    (hent : 2 * s.w.entities.length < 2 ^ 32) (op : Op2) :
    (∃ fl', HInv2 (step2 run s op) fl') ∧ Grows s (step2 run s op) := by
  cases op with
  | base op => exact step2_base run H hfew hent op
  | copy e => exact step2_copy run H hent e
  | shrink bounded => exact step2_shrink run H hent bounded
  | reset => exact step2_reset run H
  | fdef f fo => exact step2_fdef run H f fo
  | freg f => exact step2_freg run H f
  | funreg f => exact step2_funreg run H f
  | query f extra => exact step2_query run H f extra

theorem reach2_sizes (run : ProbeRunner) (cap rel : Nat) (ops : List Op2)
    (hlen : ops.length < 2 ^ 16) :
    ∃ fl, HInv2 (reach2 run cap rel ops) fl ∧
      (reach2 run cap rel ops).w.tables.length ≤ 1 + ops.length * ops.length ∧
      (reach2 run cap rel ops).w.relationArchetypes.length ≤ ops.length ∧
      (reach2 run cap rel ops).w.entities.length ≤ 2 + ops.length :=
  init_sizes HInv2 (fun _ _ op H hfew hent =>
    let ⟨a, g1, g2, g3⟩ := step2_inv run H hfew hent op; ⟨a, g1, g2, g3⟩) (hinv2_init cap rel) ops hlen

theorem reach2_inv (run : ProbeRunner) (cap rel : Nat) (ops : List Op2)
    (hlen : ops.length < 2 ^ 16) :
    ∃ fl, HInv2 (reach2 run cap rel ops) fl :=
  let ⟨fl, h, _⟩ := reach2_sizes run cap rel ops hlen; ⟨fl, h⟩

theorem reach2_fits (run : ProbeRunner) (cap rel : Nat) (ops : List Op2)
    (hlen : ops.length + 1 < 2 ^ 16) :
    (reach2 run cap rel ops).w.tables.length + (reach2 run cap rel ops).w.relationArchetypes.length +
      1 ≤ maxU32 ∧ 2 * (reach2 run cap rel ops).w.entities.length < 2 ^ 32 :=
  let ⟨_, _, b1, b2, b3⟩ := reach2_sizes run cap rel ops (by omega); fits_of_bounds hlen b1 b2 b3

end RelRefine2
end Ark

end

