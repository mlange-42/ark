/-
  The bookkeeping invariant `MInv` of the observer manager (observer objects ↔ per-event lists ↔
  id index), established by the empty manager and kept by `Observer.Register` and
  `Observer.Unregister`.  The id pool never recycles (`RemoveObserver` does not return the id;
  only `Reset` clears the pool), so `Get()` hands out a fresh id.  Consequences: `Register` only
  succeeds for an object that is listed nowhere, and the index of every registered object points
  at it — the side conditions of Ark/Proofs/CallbacksSetting.lean / CallbacksCbs.lean.
-/
import Ark.Proofs.CallbacksCbs

set_option autoImplicit false

namespace Ark

open World Spec

structure MInv (m : ObsMgr) : Prop where
  /-- the observer-id pool never recycles -/
  noRecycle : m.pool.available = 0
  /-- ids in use are below the next fresh id -/
  bounded : ∀ (l oid : Nat), (m.obj l).oid = some oid → oid < m.pool.pool.length
  unique : ∀ (l1 l2 oid : Nat), (m.obj l1).oid = some oid → (m.obj l2).oid = some oid → l1 = l2
  /-- the index of a registered object points at it -/
  index : ∀ (l oid : Nat), (m.obj l).oid = some oid →
    ∃ idx, AL.find? m.indices oid = some idx ∧
      (m.evt (m.obj l).spec.event).observers[idx]? = some l
  /-- a listed object belongs to the event type and is registered -/
  listed : ∀ (evt l : Nat), l ∈ (m.evt evt).observers →
    (m.obj l).spec.event = evt ∧ (m.obj l).oid.isSome = true

/-- an object without an id is listed nowhere: the freshness condition of `Register` -/
theorem MInv.fresh_of_unregistered {m : ObsMgr} (h : MInv m) {l : Nat} (hl : (m.obj l).oid = none)
    (evt : Nat) : l ∉ (m.evt evt).observers := by
  intro hm
  have := (h.listed evt l hm).2
  rw [hl] at this
  cases this

theorem MInv.indexOK {m : ObsMgr} (h : MInv m) (l : Nat) : IndexOK m l := by
  intro oid idx ho hi
  obtain ⟨idx', h1, h2⟩ := h.index l oid ho
  rw [hi] at h1
  rw [Option.some.inj h1]
  exact h2


theorem IntPool.get_of_noRecycle {p : IntPool} (h : p.available = 0) :
    (p.get).2 = p.pool.length ∧ (p.get).1.available = 0 ∧
      (p.get).1.pool.length = p.pool.length + 1 := by
  simp [IntPool.get, h, IntPool.getNew]

/-- **`AddObserver` keeps the bookkeeping invariant** (for an object that has no id yet: the
    check `Register` performs) -/
theorem MInv.registered {m : ObsMgr} (h : MInv m) {l : Nat} (hl : (m.obj l).oid = none)
    (d : ObsData) : MInv (m.registered l d) := by
  obtain ⟨hid, hav, hlen⟩ := IntPool.get_of_noRecycle h.noRecycle
  have hfresh := h.fresh_of_unregistered hl
  have hobj := ObsMgr.registered_obj m l d
  have hoid : ∀ x oid, ((m.registered l d).obj x).oid = some oid →
      (x = l ∧ oid = m.pool.pool.length) ∨ (x ≠ l ∧ (m.obj x).oid = some oid) := by
    intro x oid hx
    rw [hobj] at hx
    split at hx
    · rename_i hxl
      left
      refine ⟨hxl, ?_⟩
      simp only [Option.some.injEq] at hx
      rw [← hx, hid]
    · rename_i hxl
      exact Or.inr ⟨hxl, hx⟩
  have hspec := ObsMgr.registered_spec m l d
  refine ⟨?_, ?_, ?_, ?_, ?_⟩
  · rw [ObsMgr.registered_pool]; exact hav
  · intro x oid hx
    rw [ObsMgr.registered_pool, hlen]
    rcases hoid x oid hx with ⟨_, rfl⟩ | ⟨_, h2⟩
    · exact Nat.lt_succ_self _
    · exact Nat.lt_succ_of_lt (h.bounded x oid h2)
  · intro x1 x2 oid h1 h2
    rcases hoid x1 oid h1 with ⟨e1, o1⟩ | ⟨n1, g1⟩ <;> rcases hoid x2 oid h2 with ⟨e2, o2⟩ | ⟨n2, g2⟩
    · rw [e1, e2]
    · exact absurd (h.bounded x2 oid g2) (o1 ▸ Nat.lt_irrefl _)
    · exact absurd (h.bounded x1 oid g1) (o2 ▸ Nat.lt_irrefl _)
    · exact h.unique x1 x2 oid g1 g2
  · intro x oid hx
    rw [ObsMgr.registered_indices, hspec]
    rcases hoid x oid hx with ⟨rfl, rfl⟩ | ⟨hxl, g⟩
    · refine ⟨_, by rw [hid]; exact AL.find?_insert_self _ _ _, ?_⟩
      rw [ObsMgr.registered_evt_self]
      simp
    · obtain ⟨idx, i1, i2⟩ := h.index x oid g
      have hne : oid ≠ (m.pool.get).2 := by
        rw [hid]; exact Nat.ne_of_lt (h.bounded x oid g)
      refine ⟨idx, by rw [AL.find?_insert_ne _ _ _ _ hne]; exact i1, ?_⟩
      by_cases hev : (m.obj x).spec.event = (m.obj l).spec.event
      · rw [hev, ObsMgr.registered_evt_self]
        rw [hev] at i2
        rw [List.getElem?_append_left (List.getElem?_eq_some_iff.mp i2).1]
        exact i2
      · rw [ObsMgr.registered_evt_ne _ _ _ _ hev]; exact i2
  · intro evt x hx
    rw [hspec]
    by_cases hev : evt = (m.obj l).spec.event
    · subst hev
      rw [ObsMgr.registered_evt_self] at hx
      rcases List.mem_append.mp hx with hx | hx
      · have hxl : x ≠ l := fun hh => hfresh _ (hh ▸ hx)
        rw [hobj, if_neg hxl]
        exact h.listed _ x hx
      · have hxl : x = l := by simpa using hx
        subst hxl
        rw [hobj, if_pos rfl]
        exact ⟨rfl, rfl⟩
    · rw [ObsMgr.registered_evt_ne _ _ _ _ hev] at hx
      have hxl : x ≠ l := fun hh => hfresh _ (hh ▸ hx)
      rw [hobj, if_neg hxl]
      exact h.listed evt x hx

/-! ### `RemoveObserver` -/

namespace ObsMgr

theorem removeAt_pool (m : ObsMgr) (l oid idx : Nat) : (m.removeAt l oid idx).pool = m.pool := by
  unfold removeAt
  simp only []
  split <;> split <;> rfl

/-- the id of the element that the swap-remove moves into the hole -/
def movedId (m : ObsMgr) (l : Nat) : Nat :=
  (((m.setObj l { m.obj l with oid := none }).obj
    ((m.evt (m.obj l).spec.event).observers.getD
      ((m.evt (m.obj l).spec.event).observers.length - 1) 0)).oid).getD 0

theorem removeAt_indices (m : ObsMgr) (l oid idx : Nat) :
    (m.removeAt l oid idx).indices =
      if idx = (m.evt (m.obj l).spec.event).observers.length - 1 then AL.erase m.indices oid
      else AL.insert (AL.erase m.indices oid) (movedId m l) idx := by
  unfold removeAt movedId
  simp only []
  by_cases hc : idx = (m.evt (m.obj l).spec.event).observers.length - 1
  · have hc' : ¬ ((idx != ((({ m with indices := AL.erase m.indices oid } : ObsMgr).evt
        (m.obj l).spec.event).observers.length - 1)) = true) := by
      simp only [bne_iff_ne, ne_eq, Decidable.not_not]; exact hc
    rw [if_neg hc', if_pos hc]
    split <;> rfl
  · have hc' : (idx != ((({ m with indices := AL.erase m.indices oid } : ObsMgr).evt
        (m.obj l).spec.event).observers.length - 1)) = true := by
      simp only [bne_iff_ne, ne_eq]; exact hc
    rw [if_pos hc', if_neg hc]
    split <;> rfl

end ObsMgr

/-- **`RemoveObserver` keeps the bookkeeping invariant** (for a registered object, with the index
    the manager recorded for it; the lists duplicate-free) -/
theorem MInv.removeAt {m : ObsMgr} (h : MInv m) (hnd : ∀ evt, (m.evt evt).observers.Nodup)
    {l oid idx : Nat} (ho : (m.obj l).oid = some oid) (hi : AL.find? m.indices oid = some idx) :
    MInv (m.removeAt l oid idx) := by
  -- the situation before
  obtain ⟨idx', h1, hat⟩ := h.index l oid ho
  rw [hi] at h1
  have hidx : idx' = idx := (Option.some.inj h1).symm
  subst hidx
  generalize hev : (m.obj l).spec.event = ev at hat
  have hlt : idx' < (m.evt ev).observers.length := (List.getElem?_eq_some_iff.mp hat).1
  have hndE := hnd ev
  -- afterwards: only `l` lost its id (`hoid`); only `ev`'s list changed, losing `l` (`hmem`)
  have hobj := ObsMgr.removeAt_obj m l oid idx'
  have hspec : ∀ x, ((m.removeAt l oid idx').obj x).spec = (m.obj x).spec :=
    ObsMgr.removeAt_spec m l oid idx'
  have hoid : ∀ x o, ((m.removeAt l oid idx').obj x).oid = some o → x ≠ l ∧ (m.obj x).oid = some o := by
    intro x o hx
    rw [hobj] at hx
    split at hx
    · cases hx
    · rename_i hxl; exact ⟨hxl, hx⟩
  have hevtSelf : ((m.removeAt l oid idx').evt ev).observers
      = ObsMgr.removedObs (m.evt ev).observers idx' := by
    rw [← hev, ObsMgr.removeAt_evt_self, ObsMgr.removedES_observers]
  have hevtNe : ∀ e, e ≠ ev → (m.removeAt l oid idx').evt e = m.evt e := by
    intro e he; rw [ObsMgr.removeAt_evt_ne _ _ _ _ _ (by rw [hev]; exact he)]
  have hmem : ∀ x, x ∈ ((m.removeAt l oid idx').evt ev).observers ↔
      x ∈ (m.evt ev).observers ∧ x ≠ l := by
    intro x
    rw [hevtSelf, mem_removedObs hndE hlt, hat]
    constructor
    · rintro ⟨a, b⟩; exact ⟨a, fun hh => b (by rw [hh])⟩
    · rintro ⟨a, b⟩; exact ⟨a, fun hh => b (Option.some.inj hh).symm⟩
  -- the last element and its id
  have hlast : (m.evt ev).observers.length - 1 < (m.evt ev).observers.length := Nat.sub_lt (Nat.zero_lt_of_lt hlt) Nat.one_pos
  refine ⟨?_, ?_, ?_, ?_, ?_⟩
  · rw [ObsMgr.removeAt_pool]; exact h.noRecycle
  · intro x o hx
    rw [ObsMgr.removeAt_pool]
    exact h.bounded x o (hoid x o hx).2
  · intro x1 x2 o g1 g2
    exact h.unique x1 x2 o (hoid x1 o g1).2 (hoid x2 o g2).2
  -- `index`: `x ≠ l` keeps its id `o ≠ oid`; its entry `ix` stays good unless `x` is the one moved
  · intro x o hx
    obtain ⟨hxl, gx⟩ := hoid x o hx
    obtain ⟨ix, j1, j2⟩ := h.index x o gx
    have hone : o ≠ oid := fun hh => hxl (h.unique x l oid (hh ▸ gx) ho)
    -- if the element moved to `idx'` has id `o`, it is `x`: then `x` is the last of the list
    have hmoved : idx' ≠ (m.evt ev).observers.length - 1 → ObsMgr.movedId m l = o →
        (m.evt ev).observers[(m.evt ev).observers.length - 1]? = some x := by
      intro hc hh
      have hbl : (m.evt ev).observers[(m.evt ev).observers.length - 1]? =
          some ((m.evt ev).observers.getD ((m.evt ev).observers.length - 1) 0) := by
        rw [List.getD_eq_getElem?_getD, List.getElem?_eq_getElem hlast]; rfl
      have hbne : (m.evt ev).observers.getD ((m.evt ev).observers.length - 1) 0 ≠ l := by
        intro hbl'
        rw [hbl'] at hbl
        exact hc ((List.getElem?_inj hlt hndE).mp (hat.trans hbl.symm))
      obtain ⟨_, hsome⟩ := h.listed ev _ (List.mem_of_getElem? hbl)
      unfold ObsMgr.movedId at hh
      rw [hev, ObsMgr.obj_setObj_ne _ _ _ _ hbne] at hh
      cases hob : (m.obj ((m.evt ev).observers.getD ((m.evt ev).observers.length - 1) 0)).oid with
      | none => rw [hob] at hsome; cases hsome
      | some ob =>
        rw [hob] at hh
        have hobo : ob = o := hh
        subst hobo
        rw [h.unique x _ ob gx hob]
        exact hbl
    rw [hspec, ObsMgr.removeAt_indices, hev]
    by_cases hxe : (m.obj x).spec.event = ev
    · rw [hxe] at j2 ⊢
      have hix : ix < (m.evt ev).observers.length := (List.getElem?_eq_some_iff.mp j2).1
      have hixne : ix ≠ idx' := by
        intro hh; rw [hh, hat] at j2; exact hxl (Option.some.inj j2).symm
      rw [hevtSelf, removedObs_eq]
      by_cases hc : idx' = (m.evt ev).observers.length - 1
      -- `l` was the last: the list is only cut, and `ix` lies before the cut
      · rw [if_pos hc, if_pos hc]
        refine ⟨ix, by rw [AL.find?_erase_ne _ _ _ hone]; exact j1, ?_⟩
        rw [List.getElem?_take_of_lt (Nat.lt_of_le_of_ne (Nat.le_sub_one_of_lt hix) (hc ▸ hixne))]
        exact j2
      · rw [if_neg hc, if_neg hc]
        -- is `x` the last element (which moves to `idx'`)?
        by_cases hxlast : ix = (m.evt ev).observers.length - 1
        · -- x is the moved element: its id is `movedId`
          have hb : (m.evt ev).observers.getD ((m.evt ev).observers.length - 1) 0 = x := by
            rw [List.getD_eq_getElem?_getD, ← hxlast, j2]; rfl
          have hmid : ObsMgr.movedId m l = o := by
            unfold ObsMgr.movedId
            rw [hev, hb, ObsMgr.obj_setObj_ne _ _ _ _ hxl, gx]
            rfl
          refine ⟨idx', by rw [hmid]; exact AL.find?_insert_self _ _ _, ?_⟩
          rw [List.getElem?_set_self (by
            rw [List.length_take]
            exact Nat.lt_min.mpr ⟨Nat.lt_of_le_of_ne (Nat.le_sub_one_of_lt hlt) hc, hlt⟩), hb]
        -- `x` stays at `ix`: not the hole, before the cut, and the key re-inserted is not `o`
        · have hmid : ObsMgr.movedId m l ≠ o := fun hh =>
            hxlast ((List.getElem?_inj hix hndE).mp (j2.trans (hmoved hc hh).symm))
          refine ⟨ix, by rw [AL.find?_insert_ne _ _ _ _ (Ne.symm hmid),
            AL.find?_erase_ne _ _ _ hone]; exact j1, ?_⟩
          rw [List.getElem?_set_ne (Ne.symm hixne), List.getElem?_take_of_lt (Nat.lt_of_le_of_ne (Nat.le_sub_one_of_lt hix) hxlast)]
          exact j2
    · -- another event type: its list is unchanged; the index entry survives
      rw [hevtNe _ hxe]
      have hmid : ObsMgr.movedId m l ≠ o ∨ idx' = (m.evt ev).observers.length - 1 := by
        by_cases hc : idx' = (m.evt ev).observers.length - 1
        · exact Or.inr hc
        · exact Or.inl fun hh => hxe (h.listed ev x (List.mem_of_getElem? (hmoved hc hh))).1
      split
      · exact ⟨ix, by rw [AL.find?_erase_ne _ _ _ hone]; exact j1, j2⟩
      · rename_i hc
        rcases hmid with hm | hm
        · exact ⟨ix, by rw [AL.find?_insert_ne _ _ _ _ (Ne.symm hm),
            AL.find?_erase_ne _ _ _ hone]; exact j1, j2⟩
        · exact absurd hm hc
  -- `listed`: whoever is still listed was listed before and is not `l`, so it kept its id
  · intro e x hx
    rw [hspec]
    have hx' : x ∈ (m.evt e).observers ∧ x ≠ l := by
      by_cases he : e = ev
      · subst he; exact (hmem x).mp hx
      · rw [hevtNe e he] at hx
        refine ⟨hx, fun hxl => ?_⟩
        subst hxl
        exact he ((h.listed e x hx).1.symm.trans hev)
    rw [hobj, if_neg hx'.2]
    exact h.listed e x hx'.1

/-! ### at world level -/

theorem opObsRegister_minv {w w' : World} {l : Nat} (h : MInv w.obs)
    (hok : opObsRegister l w = .ok () w') : MInv w'.obs := by
  obtain ⟨hnone, d, _, hw'⟩ := opObsRegister_ok hok
  rw [hw']
  exact h.registered hnone d

theorem opObsUnregister_minv {w w' : World} {l : Nat} (h : MInv w.obs) (hok' : ObsOK w.obs)
    (hok : opObsUnregister l w = .ok () w') : MInv w'.obs := by
  obtain ⟨oid, idx, ho, hi, hw'⟩ := opObsUnregister_ok hok
  rw [hw']
  exact h.removeAt hok'.nodup ho hi

theorem opObsRegister_fresh {w w' : World} {l : Nat} (h : MInv w.obs)
    (hok : opObsRegister l w = .ok () w') : ∀ evt : Nat, l ∉ (w.obs.evt evt).observers :=
  h.fresh_of_unregistered (opObsRegister_ok hok).1

/-- a manager in which no object has an id and nothing is listed (the observer objects exist on
    the heap, none is registered yet) satisfies the invariant -/
theorem minv_of_unregistered {m : ObsMgr} (hobjs : ∀ q ∈ m.objs, q.2.oid = none)
    (hev : m.events = []) (hav : m.pool.available = 0) : MInv m := by
  have hnone : ∀ l, (m.obj l).oid = none := by
    intro l
    unfold ObsMgr.obj
    cases hf : AL.find? m.objs l with
    | none => rfl
    | some ob => exact hobjs (l, ob) (AL.mem_of_find? _ _ _ hf)
  have hevt : ∀ evt, m.evt evt = {} := by
    intro evt; simp [ObsMgr.evt, hev]
  refine ⟨hav, ?_, ?_, ?_, ?_⟩
  · intro l oid h; rw [hnone] at h; cases h
  · intro l1 _ oid h; rw [hnone] at h; cases h
  · intro l oid h; rw [hnone] at h; cases h
  · intro evt l h; rw [hevt] at h; cases h

theorem regAll_minv : ∀ (ls : List Nat) (w : World), MInv w.obs → RegAllOK ls w →
    MInv (regAll ls w).obs
  | [], _, h, _ => h
  | l :: ls, w, h, hr => by
    obtain ⟨⟨h1, _, _⟩, hrest⟩ := hr
    cases hop : opObsRegister l w with
    | panic k s => rw [hop] at h1; cases h1
    | ok u w1 =>
      cases u
      have hst : (opObsRegister l w).state = w1 := by rw [hop]; rfl
      rw [hst] at hrest
      simp only [regAll]
      rw [hst]
      exact regAll_minv ls w1 (opObsRegister_minv h hop) hrest

end Ark
