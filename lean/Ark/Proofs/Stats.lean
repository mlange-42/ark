/-
  Ark.Proofs.Stats — property C19 at the level of one world: `World.Stats()` updates a re-used
  object in place and takes three figures per archetype over from it; the update equals the fresh
  computation exactly when those figures are the archetype's (`Compatible`), which a fresh
  computation establishes and every monotone evolution of the world (`Mono`) keeps.
-/
import Ark.Model.Stats

namespace Ark
namespace World

/-! ## Sums written as Go loops (`foldl (· + ·) 0`) -/

theorem foldl_add_eq (xs : List Nat) (a : Nat) : xs.foldl (· + ·) a = a + xs.sum := by
  induction xs generalizing a with
  | nil => simp
  | cons x xs ih => simp [List.foldl_cons, ih, Nat.add_assoc]

theorem foldl_add_zero (xs : List Nat) : xs.foldl (· + ·) 0 = xs.sum := by
  simp [foldl_add_eq]

theorem sum_map_mul_right {α : Type} (xs : List α) (f : α → Nat) (k : Nat) :
    (xs.map fun x => f x * k).sum = (xs.map f).sum * k := by
  induction xs with
  | nil => simp
  | cons x xs ih => simp [ih, Nat.add_mul]

theorem sum_map_le_sum_map {α : Type} (xs : List α) (f g : α → Nat)
    (h : ∀ x, x ∈ xs → f x ≤ g x) : (xs.map f).sum ≤ (xs.map g).sum := by
  induction xs with
  | nil => simp
  | cons x xs ih =>
    have h1 : f x ≤ g x := h x (by simp)
    have h2 : (xs.map f).sum ≤ (xs.map g).sum := ih fun y hy => h y (by simp [hy])
    simp only [List.map_cons, List.sum_cons]
    omega

/-! ## Update in place = fresh computation -/

/-- "update the first `k` entries in place, append the rest" is a plain `map`. -/
theorem map_take_append_map_drop {α β : Type} (f : α → β) (xs : List α) (k : Nat) :
    (xs.take k).map f ++ (xs.drop k).map f = xs.map f := by
  rw [← List.map_append, List.take_append_drop]

/-- What `archStatsUpdate` takes over unchanged from the old object must describe the
    archetype: these three figures are immutable per archetype. -/
def StatAgrees (w : World) (s : ArchStats) (A : Archetype) : Prop :=
  s.memoryPerEntity = w.memPerEntity A ∧ s.componentIDs = A.comps ∧ s.numRelations = A.numRel

/-- The heart of C19: whatever the old table-entry list looked like (longer, shorter, equal),
    the in-place update yields exactly the fresh statistics. -/
theorem archStatsUpdate_eq_fresh (w : World) (A : Archetype) (s : ArchStats)
    (h : StatAgrees w s A) : w.archStatsUpdate A s = w.archStatsFresh A := by
  obtain ⟨h1, h2, h3⟩ := h
  cases s
  simp only at h1 h2 h3
  subst h1 h2 h3
  simp only [archStatsUpdate, archStatsFresh, map_take_append_map_drop]

theorem archStatsFresh_agrees (w : World) (A : Archetype) : StatAgrees w (w.archStatsFresh A) A :=
  ⟨rfl, rfl, rfl⟩

/-- The hypothesis "`st` was produced for an earlier state of this world": no more archetype
    entries than archetypes, and the stored immutable figures are those of the archetype at the
    same position. -/
def Compatible (st : WorldStats) (w : World) : Prop :=
  st.archetypes.length ≤ w.archetypes.length ∧
  ∀ (i : Nat) (s : ArchStats) (A : Archetype),
    st.archetypes[i]? = some s → w.archetypes[i]? = some A → StatAgrees w s A

theorem archStatsUpdate_eq_fresh_iff (w : World) (A : Archetype) (s : ArchStats) :
    w.archStatsUpdate A s = w.archStatsFresh A ↔ StatAgrees w s A := by
  constructor
  · intro h
    exact ⟨congrArg ArchStats.memoryPerEntity h, congrArg ArchStats.componentIDs h,
      congrArg ArchStats.numRelations h⟩
  · exact archStatsUpdate_eq_fresh w A s

/-- position by position: the in-place update of the stored entries, then fresh entries for the
    archetypes beyond them -/
theorem zip_update_eq_fresh_iff (w : World) :
    ∀ (ss : List ArchStats) (as : List Archetype),
      ((((as.take ss.length).zip ss).map fun (A, s) => w.archStatsUpdate A s) ++
          (as.drop ss.length).map w.archStatsFresh
        = as.map w.archStatsFresh) ↔
      (∀ (i : Nat) (s : ArchStats) (A : Archetype),
        ss[i]? = some s → as[i]? = some A → StatAgrees w s A) := by
  intro ss
  induction ss with
  | nil =>
    intro as
    constructor
    · intro _ i s A hs _; simp at hs
    · intro _; simp
  | cons s ss ih =>
    intro as
    cases as with
    | nil =>
      constructor
      · intro _ i s' A _ hA; simp at hA
      · intro _; simp
    | cons A as =>
      simp only [List.length_cons, List.take_succ_cons, List.zip_cons_cons, List.map_cons,
        List.drop_succ_cons, List.cons_append, List.cons.injEq]
      rw [ih as, archStatsUpdate_eq_fresh_iff]
      constructor
      · rintro ⟨h0, hr⟩ i s' A' hs hA
        cases i with
        | zero =>
          simp only [List.getElem?_cons_zero, Option.some.injEq] at hs hA
          subst hs; subst hA; exact h0
        | succ i =>
          exact hr i s' A' (by simpa using hs) (by simpa using hA)
      · intro h
        exact ⟨h 0 s A rfl rfl, fun i s' A' hs hA => h (i + 1) s' A' (by simpa using hs)
          (by simpa using hA)⟩

/-- C19, main theorem. -/
theorem statsUpdate_eq_fresh (w : World) (st : WorldStats) (h : Compatible st w) :
    w.statsUpdate st = w.statsFresh := by
  simp only [statsUpdate, statsFresh, (zip_update_eq_fresh_iff w st.archetypes w.archetypes).mpr h.2]

theorem compatible_empty (w : World) : Compatible {} w := by
  refine ⟨Nat.zero_le _, ?_⟩
  intro i s A hs _
  simp at hs

/-! ## Monotone evolution of the world keeps compatibility -/

/-- `w'` is a later state of `w` as far as statistics are concerned: archetypes were only
    appended, the existing ones kept their component list and relation count, and the registered
    sizes of their components did not change. -/
def Mono (w w' : World) : Prop :=
  w.archetypes.length ≤ w'.archetypes.length ∧
  ∀ (i : Nat) (A A' : Archetype), w.archetypes[i]? = some A → w'.archetypes[i]? = some A' →
    A'.comps = A.comps ∧ A'.numRel = A.numRel ∧
    ∀ (c : Comp), c ∈ A.comps → (w'.kinds.getD c {}).size = (w.kinds.getD c {}).size

theorem memPerEntity_congr (w w' : World) (A A' : Archetype) (hc : A'.comps = A.comps)
    (hk : ∀ (c : Comp), c ∈ A.comps → (w'.kinds.getD c {}).size = (w.kinds.getD c {}).size) :
    w'.memPerEntity A' = w.memPerEntity A := by
  unfold memPerEntity
  rw [hc]
  have : (A.comps.map fun c => (w'.kinds.getD c {}).size)
      = (A.comps.map fun c => (w.kinds.getD c {}).size) :=
    List.map_congr_left hk
  rw [this]

theorem Mono.refl (w : World) : Mono w w :=
  ⟨Nat.le_refl _, fun _ A A' h h' => by
    have : A' = A := by rw [h] at h'; exact (Option.some.inj h').symm
    subst this; exact ⟨rfl, rfl, fun _ _ => rfl⟩⟩

theorem Mono.trans {w₁ w₂ w₃ : World} (h₁ : Mono w₁ w₂) (h₂ : Mono w₂ w₃) : Mono w₁ w₃ := by
  refine ⟨Nat.le_trans h₁.1 h₂.1, ?_⟩
  intro i A A'' hA hA''
  have hi : i < w₁.archetypes.length := (List.getElem?_eq_some_iff.mp hA).1
  have hi2 : i < w₂.archetypes.length := Nat.lt_of_lt_of_le hi h₁.1
  obtain ⟨c1, n1, k1⟩ := h₁.2 i A (w₂.archetypes[i]) hA (List.getElem?_eq_getElem hi2)
  obtain ⟨c2, n2, k2⟩ := h₂.2 i (w₂.archetypes[i]) A'' (List.getElem?_eq_getElem hi2) hA''
  refine ⟨c2.trans c1, n2.trans n1, fun c hc => ?_⟩
  rw [k2 c (by rw [c1]; exact hc), k1 c hc]

theorem kinds_append_size (ks extra : List CompKind) (c : Nat) (h : c < ks.length) :
    ((ks ++ extra).getD c {}).size = (ks.getD c {}).size := by
  simp [List.getD_eq_getElem?_getD, List.getElem?_append_left h]

/-! The four primitive ways in which the model changes `archetypes` / `kinds`
    (`setArch` through `modArch`, `createArchetype`'s append, `registerComponent`'s append, and
    "not at all") each satisfy `Mono`. -/

theorem mono_of_eq (w w' : World) (ha : w'.archetypes = w.archetypes) (hk : w'.kinds = w.kinds) :
    Mono w w' := by
  refine ⟨by rw [ha]; exact Nat.le_refl _, ?_⟩
  intro i A A' hA hA'
  rw [ha, hA] at hA'
  cases hA'
  exact ⟨rfl, rfl, fun c _ => by rw [hk]⟩

theorem mono_setArch (w : World) (a : Nat) (A' : Archetype)
    (hc : A'.comps = (w.arch a).comps) (hn : A'.numRel = (w.arch a).numRel) :
    Mono w (w.setArch a A') := by
  refine ⟨by simp [setArch], ?_⟩
  intro i A B hA hB
  have hi : i < w.archetypes.length := (List.getElem?_eq_some_iff.mp hA).1
  simp only [setArch, List.getElem?_set] at hB
  by_cases hai : a = i
  · subst hai
    simp only [if_true, hi] at hB
    cases hB
    have : w.arch a = A := by simp [arch, List.getD_eq_getElem?_getD, hA]
    rw [this] at hc hn
    exact ⟨hc, hn, fun _ _ => rfl⟩
  · simp only [hai, if_false] at hB
    rw [hA] at hB
    cases hB
    exact ⟨rfl, rfl, fun _ _ => rfl⟩

theorem mono_append_archetypes (w w' : World) (extra : List Archetype)
    (ha : w'.archetypes = w.archetypes ++ extra) (hk : w'.kinds = w.kinds) : Mono w w' := by
  refine ⟨by simp [ha], ?_⟩
  intro i A A' hA hA'
  have hi : i < w.archetypes.length := (List.getElem?_eq_some_iff.mp hA).1
  rw [ha, List.getElem?_append_left hi, hA] at hA'
  cases hA'
  exact ⟨rfl, rfl, fun c _ => by rw [hk]⟩

theorem mono_append_kinds (w w' : World) (extra : List CompKind)
    (ha : w'.archetypes = w.archetypes) (hk : w'.kinds = w.kinds ++ extra)
    (hreg : ∀ (A : Archetype), A ∈ w.archetypes → ∀ (c : Comp), c ∈ A.comps → c < w.kinds.length) :
    Mono w w' := by
  refine ⟨by rw [ha]; exact Nat.le_refl _, ?_⟩
  intro i A A' hA hA'
  rw [ha, hA] at hA'
  cases hA'
  refine ⟨rfl, rfl, fun c hc => ?_⟩
  rw [hk]
  exact kinds_append_size _ _ _ (hreg A (List.mem_of_getElem? hA) c hc)

theorem Compatible.mono {st : WorldStats} {w w' : World} (h : Compatible st w) (m : Mono w w') :
    Compatible st w' := by
  refine ⟨Nat.le_trans h.1 m.1, ?_⟩
  intro i s A' hs hA'
  have hi : i < st.archetypes.length := (List.getElem?_eq_some_iff.mp hs).1
  have hi2 : i < w.archetypes.length := Nat.lt_of_lt_of_le hi h.1
  have hA : w.archetypes[i]? = some w.archetypes[i] := List.getElem?_eq_getElem hi2
  obtain ⟨a1, a2, a3⟩ := h.2 i s _ hs hA
  obtain ⟨c1, n1, k1⟩ := m.2 i _ A' hA hA'
  exact ⟨a1.trans (memPerEntity_congr w w' _ A' c1 k1).symm, a2.trans c1.symm, a3.trans n1.symm⟩

theorem compatible_fresh_self (w : World) : Compatible w.statsFresh w := by
  refine ⟨by simp [statsFresh], ?_⟩
  intro i s A hs hA
  simp only [statsFresh, List.getElem?_map, hA, Option.map_some, Option.some.injEq] at hs
  subst hs
  exact archStatsFresh_agrees w A

theorem compatible_fresh_later (w w' : World) (m : Mono w w') : Compatible w.statsFresh w' :=
  (compatible_fresh_self w).mono m

/-! ### Executable checks of `Compatible` and `Mono` (used on concrete worlds) -/

def agreesB (w : World) (s : ArchStats) (A : Archetype) : Bool :=
  s.memoryPerEntity == w.memPerEntity A && s.componentIDs == A.comps && s.numRelations == A.numRel

def compatibleB (st : WorldStats) (w : World) : Bool :=
  decide (st.archetypes.length ≤ w.archetypes.length) &&
  (st.archetypes.zip w.archetypes).all fun p => agreesB w p.1 p.2

theorem compatible_of_check {st : WorldStats} {w : World} (h : compatibleB st w = true) :
    Compatible st w := by
  simp only [compatibleB, Bool.and_eq_true, decide_eq_true_eq, List.all_eq_true] at h
  refine ⟨h.1, ?_⟩
  intro i s A hs hA
  have hz : (st.archetypes.zip w.archetypes)[i]? = some (s, A) :=
    List.getElem?_zip_eq_some.mpr ⟨hs, hA⟩
  have := h.2 (s, A) (List.mem_of_getElem? hz)
  simp only [agreesB, Bool.and_eq_true, beq_iff_eq] at this
  exact ⟨this.1.1, this.1.2, this.2⟩

def monoB (w w' : World) : Bool :=
  decide (w.archetypes.length ≤ w'.archetypes.length) &&
  (w.archetypes.zip w'.archetypes).all fun p =>
    p.2.comps == p.1.comps && p.2.numRel == p.1.numRel &&
    p.1.comps.all fun c => (w'.kinds.getD c {}).size == (w.kinds.getD c {}).size

theorem mono_of_check {w w' : World} (h : monoB w w' = true) : Mono w w' := by
  simp only [monoB, Bool.and_eq_true, decide_eq_true_eq, List.all_eq_true, beq_iff_eq] at h
  refine ⟨h.1, ?_⟩
  intro i A A' hA hA'
  have hz : (w.archetypes.zip w'.archetypes)[i]? = some (A, A') :=
    List.getElem?_zip_eq_some.mpr ⟨hA, hA'⟩
  have := h.2 (A, A') (List.mem_of_getElem? hz)
  exact ⟨this.1.1, this.1.2, this.2⟩

/-! ## `opStats` -/

theorem opStats_eq (w : World) (h : Compatible w.stats w) :
    opStats w = .ok w.statsFresh { w with stats := w.statsFresh } := by
  simp only [opStats, statsUpdate_eq_fresh w w.stats h]

theorem statsFresh_with_stats (w : World) (st : WorldStats) :
    statsFresh { w with stats := st } = statsFresh w := rfl

theorem statsUpdate_with_stats (w : World) (st st' : WorldStats) :
    statsUpdate { w with stats := st } st' = statsUpdate w st' := rfl

theorem compatible_with_stats (w : World) (st st' : WorldStats) :
    Compatible st' { w with stats := st } ↔ Compatible st' w := Iff.rfl

theorem opStats_eq' (w : World) (st : WorldStats) (h : Compatible st w) :
    opStats { w with stats := st } = .ok (statsFresh w) { w with stats := statsFresh w } :=
  opStats_eq { w with stats := st } h

theorem mono_with_stats (w : World) (st : WorldStats) : Mono w { w with stats := st } :=
  Mono.refl w

/-- The worlds reachable by a history that starts with the empty statistics object and
    interleaves `Stats()` calls with arbitrary changes that respect `Mono` and leave the
    statistics object alone. -/
inductive Hist : World → Prop
  | init (w : World) : w.stats = {} → Hist w
  | stats (w : World) : Hist w → Hist (opStats w).state
  | other (w w' : World) : Hist w → Mono w w' → w'.stats = w.stats → Hist w'

theorem Hist.compatible {w : World} (h : Hist w) : Compatible w.stats w := by
  induction h with
  | init w h0 => rw [h0]; exact compatible_empty w
  | stats w _ ih =>
    rw [opStats_eq w ih]
    exact compatible_fresh_self w
  | other w w' _ m hs ih => rw [hs]; exact ih.mono m

/-- At every `Stats()` call of every history the returned (and stored) statistics are those a
    world asked for the first time would report. -/
theorem Hist.opStats_eq {w : World} (h : Hist w) :
    opStats w = .ok w.statsFresh { w with stats := w.statsFresh } :=
  World.opStats_eq w h.compatible

/-! ## Internal consistency of the fresh figures -/

theorem tableStats_memory (T : Table) (mpe : Nat) :
    (tableStats T mpe).memory = (tableStats T mpe).capacity * mpe := rfl

theorem tableStats_memoryUsed (T : Table) (mpe : Nat) :
    (tableStats T mpe).memoryUsed = (tableStats T mpe).size * mpe := rfl

theorem fresh_tables (w : World) (A : Archetype) :
    (w.archStatsFresh A).tables
      = A.tables.tables.map fun t => tableStats (w.tbl t) (w.memPerEntity A) := rfl

theorem fresh_tables_length (w : World) (A : Archetype) :
    (w.archStatsFresh A).tables.length = A.tables.tables.length := by
  simp [fresh_tables]

theorem fresh_table_entry (w : World) (A : Archetype) (ts : TableStats)
    (h : ts ∈ (w.archStatsFresh A).tables) :
    ts.memory = ts.capacity * (w.archStatsFresh A).memoryPerEntity ∧
    ts.memoryUsed = ts.size * (w.archStatsFresh A).memoryPerEntity := by
  rw [fresh_tables] at h
  obtain ⟨t, _, rfl⟩ := List.mem_map.mp h
  exact ⟨rfl, rfl⟩

theorem fresh_table_entry_get (w : World) (A : Archetype) (i : Nat) (t : Nat)
    (h : A.tables.tables[i]? = some t) :
    (w.archStatsFresh A).tables[i]? = some
      { size := (w.tbl t).len, capacity := (w.tbl t).cap
        memory := (w.tbl t).cap * w.memPerEntity A
        memoryUsed := (w.tbl t).len * w.memPerEntity A } := by
  simp [fresh_tables, h, tableStats]

theorem fresh_size (w : World) (A : Archetype) :
    (w.archStatsFresh A).size = (A.tables.tables.map fun t => (w.tbl t).len).sum := by
  simp [archStatsFresh, foldl_add_zero, tableStats, Function.comp_def]

theorem fresh_size_tables (w : World) (A : Archetype) :
    (w.archStatsFresh A).size = ((w.archStatsFresh A).tables.map (·.size)).sum := by
  simp [archStatsFresh, foldl_add_zero]

theorem fresh_capacity (w : World) (A : Archetype) :
    (w.archStatsFresh A).capacity
      = (A.tables.tables.map fun t => (w.tbl t).cap).sum
        + (A.freeTables.map fun t => (w.tbl t).cap).sum := by
  simp [archStatsFresh, foldl_add_zero, tableStats, Function.comp_def]

theorem fresh_capacity_tables (w : World) (A : Archetype) :
    (w.archStatsFresh A).capacity
      = ((w.archStatsFresh A).tables.map (·.capacity)).sum
        + (A.freeTables.map fun t => (w.tbl t).cap).sum := by
  simp [archStatsFresh, foldl_add_zero]

theorem fresh_memoryUsed (w : World) (A : Archetype) :
    (w.archStatsFresh A).memoryUsed
      = (w.archStatsFresh A).memoryPerEntity * (w.archStatsFresh A).size := by
  simp only [archStatsFresh, foldl_add_zero, tableStats, List.map_map, Function.comp_def]
  rw [sum_map_mul_right, Nat.mul_comm]

theorem fresh_memory (w : World) (A : Archetype) :
    (w.archStatsFresh A).memory
      = (w.archStatsFresh A).memoryPerEntity * (w.archStatsFresh A).capacity := by
  simp only [archStatsFresh, foldl_add_zero, tableStats, List.map_map, Function.comp_def]
  rw [sum_map_mul_right, Nat.mul_add, Nat.mul_comm]

theorem fresh_memoryUsed_tables (w : World) (A : Archetype) :
    (w.archStatsFresh A).memoryUsed = ((w.archStatsFresh A).tables.map (·.memoryUsed)).sum := by
  simp [archStatsFresh, foldl_add_zero]

theorem fresh_fixed (w : World) (A : Archetype) :
    (w.archStatsFresh A).componentIDs = A.comps ∧
    (w.archStatsFresh A).numRelations = A.numRel ∧
    (w.archStatsFresh A).memoryPerEntity = w.memPerEntity A ∧
    (w.archStatsFresh A).freeTables = A.freeTables.length := ⟨rfl, rfl, rfl, rfl⟩

theorem memPerEntity_eq (w : World) (A : Archetype) :
    w.memPerEntity A = 8 + (A.comps.map fun c => (w.kinds.getD c {}).size).sum := by
  simp [memPerEntity, foldl_add_zero]

theorem fresh_table_size_le (w : World) (A : Archetype)
    (hT : ∀ (t : Nat), t ∈ A.tables.tables → (w.tbl t).len ≤ (w.tbl t).cap)
    (ts : TableStats) (h : ts ∈ (w.archStatsFresh A).tables) : ts.size ≤ ts.capacity := by
  rw [fresh_tables] at h
  obtain ⟨t, ht, rfl⟩ := List.mem_map.mp h
  exact hT t ht

theorem fresh_size_le (w : World) (A : Archetype)
    (hT : ∀ (t : Nat), t ∈ A.tables.tables → (w.tbl t).len ≤ (w.tbl t).cap) :
    (w.archStatsFresh A).size ≤ (w.archStatsFresh A).capacity := by
  rw [fresh_size, fresh_capacity]
  have := sum_map_le_sum_map A.tables.tables (fun t => (w.tbl t).len) (fun t => (w.tbl t).cap) hT
  omega

theorem fresh_memoryUsed_le (w : World) (A : Archetype)
    (hT : ∀ (t : Nat), t ∈ A.tables.tables → (w.tbl t).len ≤ (w.tbl t).cap) :
    (w.archStatsFresh A).memoryUsed ≤ (w.archStatsFresh A).memory := by
  rw [fresh_memoryUsed, fresh_memory]
  exact Nat.mul_le_mul_left _ (fresh_size_le w A hT)

/-! ### world level -/

theorem world_archetypes (w : World) :
    w.statsFresh.archetypes = w.archetypes.map w.archStatsFresh := rfl

theorem world_used_recycled_total (w : World)
    (h : w.pool.available ≤ w.pool.ents.length - 2) :
    w.statsFresh.used + w.statsFresh.recycled = w.statsFresh.total := by
  show w.pool.len + w.pool.available = w.pool.cap
  simp only [Pool.len, Pool.cap, Pool.reserved]
  omega

theorem world_used (w : World) :
    w.statsFresh.used = w.pool.ents.length - 2 - w.pool.available ∧
    w.statsFresh.recycled = w.pool.available ∧
    w.statsFresh.total = w.pool.ents.length - 2 := ⟨rfl, rfl, rfl⟩

theorem world_memory (w : World) :
    w.statsFresh.memory = (w.statsFresh.archetypes.map (·.memory)).sum := by
  simp [statsFresh, foldl_add_zero]

theorem world_memoryUsed (w : World) :
    w.statsFresh.memoryUsed = (w.statsFresh.archetypes.map (·.memoryUsed)).sum := by
  simp [statsFresh, foldl_add_zero]

theorem world_memoryUsed_le (w : World)
    (hT : ∀ (A : Archetype), A ∈ w.archetypes →
      ∀ (t : Nat), t ∈ A.tables.tables → (w.tbl t).len ≤ (w.tbl t).cap) :
    w.statsFresh.memoryUsed ≤ w.statsFresh.memory := by
  rw [world_memory, world_memoryUsed, world_archetypes, List.map_map, List.map_map]
  exact sum_map_le_sum_map _ _ _ fun A hA => fresh_memoryUsed_le w A (hT A hA)

theorem world_misc (w : World) :
    w.statsFresh.cachedFilters = w.cache.filters.length ∧
    w.statsFresh.observers = w.obs.totalCount ∧
    w.statsFresh.locked = w.isLocked ∧
    w.statsFresh.numComponents = w.kinds.length := ⟨rfl, rfl, rfl, rfl⟩

end World
end Ark
