/-
  Ark.Proofs.RelRefineSteps — the step lemmas of the relation machine `Ark.RelRefine`
  (`step_full`: a refused call by `exec_rej`, an accepted one by one lemma per operation `acc_*`;
  each proves `StepFull`), and the induction over histories (`run_sizes`, for any machine on `St`
  whose steps grow the sizes in this way).
  `Add` and `Remove` are accepted as the exchanges they are: `acc_move` is the accepted move of one
  entity (`World.exchange`, then the writes; its entry by `EntOK.xchg`), `acc_add`, `acc_rem` and
  the `Exchange` step of Ark/Proofs/RelExchangeMachine.lean put the operation's wrapper around it
  (`xchgEntry`; `Add` removes nothing, `Remove` adds nothing: `xchgEntry_add`, `xchgEntry_rem`).

  Size bounds.  `RemoveEntity` of a relation target may create one table per relation archetype
  (`RemovedRelPost.tablesLen`), every other operation at most one table; every operation creates
  at most one relation archetype and one index slot.  So after `n` operations there are at most
  `n` relation archetypes and `1 + n²` tables, and the histories covered are those with
  `ops.length < 2^16` (`n² + n + 3 ≤ 2^32`).
-/
import Ark.Proofs.RelRefineKind
import Ark.Proofs.RelRemove
import Ark.Proofs.TargetsAdd

set_option autoImplicit false

namespace Ark

open World Ark.Props.C01World

theorem succ_add_le {a b : Nat} (n : Nat) (h : a ≤ b + 1) : a + n ≤ b + (n + 1) := by
  rw [Nat.add_comm n 1, ← Nat.add_assoc]; exact Nat.add_le_add_right h n

/-- the quadratic table bound of a history: when one step adds at most `1 + A` tables and one
    relation archetype, the bound of the `n` steps after it is within the bound of all `n + 1` -/
theorem quad_bound_step {T A T' A' : Nat} (n : Nat) (hT : T' ≤ T + 1 + A) (hA : A' ≤ A + 1) :
    T' + n * (A' + n) ≤ T + (n + 1) * (A + (n + 1)) := by
  have hT' : T' ≤ T + (A + (n + 1)) := by
    rw [Nat.add_assoc, Nat.add_comm 1 A] at hT
    exact Nat.le_trans hT (Nat.add_le_add_left (Nat.add_le_add_left (Nat.le_add_left 1 n) A) T)
  rw [Nat.succ_mul, Nat.add_comm (n * (A + (n + 1))), ← Nat.add_assoc T]
  exact Nat.add_le_add hT' (Nat.mul_le_mul_left n (succ_add_le n hA))

theorem room_one {T X A n M : Nat} (h : T + X + A + n + 1 ≤ M) : T + A + 1 ≤ M :=
  Nat.le_trans (Nat.succ_le_succ (Nat.le_trans
    (Nat.add_le_add_right (Nat.le_add_right T X) A) (Nat.le_add_right _ n))) h

theorem slots_one {E n N : Nat} (h : 2 * (E + n) < N) : 2 * E < N :=
  Nat.lt_of_le_of_lt (Nat.mul_le_mul_left 2 (Nat.le_add_right E n)) h

theorem slots_step {E E' N : Nat} (n : Nat) (hE : E' ≤ E + 1) (h : 2 * (E + (n + 1)) < N) :
    2 * (E' + n) < N :=
  Nat.lt_of_le_of_lt (Nat.mul_le_mul_left 2 (succ_add_le n hE)) h

theorem quad_room_step {T A T' A' M : Nat} (n : Nat) (hT : T' ≤ T + 1 + A) (hA : A' ≤ A + 1)
    (h : T + (n + 1) * (A + (n + 1)) + A + (n + 1) + 1 ≤ M) :
    T' + n * (A' + n) + A' + n + 1 ≤ M := by
  refine Nat.le_trans (Nat.succ_le_succ ?_) h
  rw [Nat.add_assoc _ A' n, Nat.add_assoc _ A (n + 1)]
  exact Nat.add_le_add (quad_bound_step n hT hA) (succ_add_le n hA)

namespace RelRefine

open Refine (Comps keys sortedIds writeComps zeros PoolStep)

/-- the conclusion of every step lemma: the invariant is kept; at most `1 + (number of relation
    archetypes)` tables, one relation archetype and one index slot are created; a call whose
    precondition fails is rejected with the world unchanged; a call whose precondition holds
    succeeds -/
def StepGoal (run : ProbeRunner) (s : St) (op : Op) : Prop :=
  (∃ fl', HInv (step run s op) fl') ∧
  (step run s op).w.tables.length ≤ s.w.tables.length + 1 + s.w.relationArchetypes.length ∧
  (step run s op).w.relationArchetypes.length ≤ s.w.relationArchetypes.length + 1 ∧
  (step run s op).w.entities.length ≤ s.w.entities.length + 1 ∧
  (guard s op = true → ¬ pre s.ss op → ∃ k, exec run s.w op = .panic k s.w) ∧
  (guard s op = true → pre s.ss op → ∃ r w', exec run s.w op = .ok r w')

def StepPool (run : ProbeRunner) (s : St) (op : Op) : Prop :=
  StepGoal run s op ∧ PoolStep s.w.pool (step run s op).w.pool

theorem step_of_guard {run : ProbeRunner} {s : St} {op : Op} (hg : guard s op = true) :
    step run s op = ⟨(exec run s.w op).state, issuedAfter s.issued (exec run s.w op),
      specStep s.ss ((retOf (exec run s.w op)).getD default) op⟩ := by
  rw [step, if_pos hg]

theorem specStep_of_not_pre (ss : SS) (fresh : Ent) (op : Op) (h : ¬ pre ss op) :
    specStep ss fresh op = ss := by
  cases op with
  | reg size z ir => simp only [specStep]; exact if_neg h
  | new p ids vals rels => simp only [specStep]; exact if_neg h
  | add p e ids vals rels =>
    simp only [specStep]
    cases hf : find ss.ents e with
    | none => rfl
    | some en => exact if_neg (fun hv => h ⟨en, hf, hv⟩)
  | rem p e ids =>
    simp only [specStep]
    cases hf : find ss.ents e with
    | none => rfl
    | some en => exact if_neg (fun hv => h ⟨en, hf, hv⟩)
  | setrel p e rels =>
    simp only [specStep]
    cases hf : find ss.ents e with
    | none => rfl
    | some en => exact if_neg (fun hv => h ⟨en, hf, hv⟩)
  | set e vals =>
    simp only [specStep]
    cases hf : find ss.ents e with
    | none => rfl
    | some en => exact if_neg (fun hv => h ⟨en, hf, hv⟩)
  | del e =>
    simp only [specStep]
    cases hf : find ss.ents e with
    | none => rfl
    | some en => exact absurd ⟨en, hf⟩ h

def StepFull (run : ProbeRunner) (s : St) (op : Op) : Prop :=
  StepPool run s op ∧ (guard s op = true → ExecFacts run s op)

namespace StepFull

variable {run : ProbeRunner} {s : St} {fl : List Nat} {op : Op}

theorem no_guard (H : HInv s fl) (hg : ¬ guard s op = true) : StepFull run s op := by
  have : step run s op = s := by rw [step, if_neg hg]
  exact ⟨⟨⟨⟨fl, by rw [this]; exact H⟩, by rw [this]; omega, by rw [this]; exact Nat.le_succ _,
    by rw [this]; exact Nat.le_succ _, fun h => absurd h hg, fun h => absurd h hg⟩,
    by rw [this]; exact Or.inl rfl⟩, fun h => absurd h hg⟩

theorem rejected (H : HInv s fl) (hg : guard s op = true)
    (hex : exec run s.w op = .panic (rejKind s.ss op) s.w) (hnp : ¬ pre s.ss op) :
    StepFull run s op := by
  have : step run s op = s := by
    rw [step_of_guard hg, hex]
    simp only [Res.state, retOf, issuedAfter, specStep_of_not_pre _ _ _ hnp]
  exact ⟨⟨⟨⟨fl, by rw [this]; exact H⟩, by rw [this]; omega, by rw [this]; exact Nat.le_succ _,
    by rw [this]; exact Nat.le_succ _, fun _ _ => ⟨_, hex⟩, fun _ hp => absurd hp hnp⟩,
    by rw [this]; exact Or.inl rfl⟩, fun _ => ⟨fun hp => absurd hp hnp, fun _ => hex⟩⟩

theorem accepted {w' : World} {iss : List Ent} {ss' : SS} {fl' : List Nat}
    (hex : exec run s.w op = .ok (retSpec (s.w.pool.get).2 op) w')
    (hstep : step run s op = ⟨w', iss, ss'⟩) (hp : pre s.ss op)
    (ht : w'.tables.length ≤ s.w.tables.length + 1 + s.w.relationArchetypes.length)
    (hr : w'.relationArchetypes.length ≤ s.w.relationArchetypes.length + 1)
    (he : w'.entities.length ≤ s.w.entities.length + 1) (hpool : PoolStep s.w.pool w'.pool)
    (hpa : w'.pool = poolAfter s.w.pool op) (hk : w'.kinds = kindsAfter s.w.kinds op)
    (hinv : HInv ⟨w', iss, ss'⟩ fl') : StepFull run s op := by
  refine ⟨?_, fun _ => ⟨fun _ => ⟨w', hex, hpa, hk⟩, fun hnp => absurd hp hnp⟩⟩
  rw [StepPool, StepGoal, hstep]
  exact ⟨⟨⟨fl', hinv⟩, ht, hr, he, fun _ hnp => absurd hp hnp, fun _ _ => ⟨_, w', hex⟩⟩, hpool⟩

end StepFull

theorem acc_reg (run : ProbeRunner) {s : St} {fl : List Nat} (H : HInv s fl) (size : Nat)
    (z ir : Bool) (hlt : s.ss.zst.length < 256) : StepFull run s (.reg size z ir) := by
  have hg : guard s (.reg size z ir) = true := rfl
  have hlt' : s.w.kinds.length < s.w.maxComps := by rw [H.maxc, ← H.zlen]; exact hlt
  obtain ⟨w', hr⟩ := registerComponent_ok_of { isRel := ir, zst := z, size := size } s.w hlt'
    H.unlocked
  obtain ⟨ht', fo, fl'⟩ := H.tinv.registerComponent hr
  obtain ⟨_, hks, _, _, _, hpool, _⟩ := registerComponent_ok hr
  obtain ⟨hsame, hmax, hra, htl, hel⟩ := registerComponent_rel_frame hr
  have hex : exec run s.w (.reg size z ir) = .ok none w' := by simp only [exec, hr]
  have hstep : step run s (.reg size z ir) =
      ⟨w', s.issued, ⟨s.ss.ents, s.ss.zst ++ [z], s.ss.isRel ++ [ir]⟩⟩ := by
    rw [step_of_guard hg, hex]
    simp only [Res.state, retOf, issuedAfter, specStep, if_pos hlt]
  have hklen : w'.kinds.length = s.w.kinds.length + 1 := by
    rw [hks]; simp only [List.length_append, List.length_singleton]
  have hrlen : s.ss.isRel.length = s.w.kinds.length := by rw [H.relEq, List.length_map]
  refine StepFull.accepted (fl' := fl) hex hstep hlt (by rw [htl]; omega)
    (by rw [hra]; exact Nat.le_succ _) (by rw [hel]; exact Nat.le_succ _) (Or.inl hpool) hpool hks ?_
  exact
    { tinv := ht'
      ginv := by
        have : (⟨w', s.issued, ⟨s.ss.ents, s.ss.zst ++ [z], s.ss.isRel ++ [ir]⟩⟩ : St).ps = s.ps := by
          simp only [St.ps, hpool]
        rw [this]; exact H.ginv
      unlocked := by show w'.locks.isLocked = false; rw [fl']; exact H.unlocked
      noObs := fun evt => by show w'.obs.hasObservers evt = false; rw [fo]; exact H.noObs evt
      nodup := H.nodup
      zstEq := by
        show s.ss.zst ++ [z] = w'.kinds.map (·.zst)
        rw [hks, List.map_append, H.zstEq]; rfl
      relEq := by
        show s.ss.isRel ++ [ir] = w'.kinds.map (·.isRel)
        rw [hks, List.map_append, H.relEq]; rfl
      maxc := hmax.trans H.maxc
      ok := by
        intro e en hm
        show EntOK w' w'.kinds.length (s.ss.isRel ++ [ir]) e en
        have ok := H.ok e en hm
        rw [hklen]
        exact
          { nodup := ok.nodup
            reg := fun c hc => Nat.lt_succ_of_lt (ok.reg c hc)
            comps := by rw [(hsame e.id).1.2, Refine.sortedIds_succ ok.reg]; exact ok.comps
            vals := fun cv hcv => by rw [(hsame e.id).1.1]; exact ok.vals cv hcv
            relNodup := ok.relNodup
            relKeys := by
              intro c
              rw [ok.relKeys c]
              constructor
              · rintro ⟨h1, h2⟩
                exact ⟨h1, by rw [getD_append_left' _ _ _ _ (by rw [hrlen]; exact ok.reg c h1)]; exact h2⟩
              · rintro ⟨h1, h2⟩
                exact ⟨h1, by rw [getD_append_left' _ _ _ _ (by rw [hrlen]; exact ok.reg c h1)] at h2; exact h2⟩
            tgts := fun r hr => by rw [(hsame e.id).2]; exact ok.tgts r hr }
      tgtsOK := H.tgtsOK }

theorem acc_set (run : ProbeRunner) {s : St} {fl : List Nat} (H : HInv s fl)
    (e : Ent) (vals : Comps) {en : Entry} (hf : find s.ss.ents e = some en)
    (hv : ∀ cv ∈ vals, cv.1 ∈ keys en.comps) (hg : guard s (.set e vals) = true) :
    StepFull run s (.set e vals) := by
  have L := H.live hf
  have hm := L.mem
  have ok := H.ok e en hm
  obtain ⟨w', hop, post⟩ := opSet_rel_spec run H.tinv H.noObs L.ge2 L.notFree L.alive L.slot
    ok.comps (ids := keys vals) (fun c hc => by
      obtain ⟨cv, hcv, rfl⟩ := List.mem_map.mp hc
      exact (H.comps_iff hm cv.1).mpr (hv cv hcv)) vals
  have hex : exec run s.w (.set e vals) = .ok none w' := by simp only [exec, hop]
  have hstep : step run s (.set e vals) =
      ⟨w', s.issued, ⟨upd s.ss.ents e fun en => { en with comps := writeComps s.ss.zst vals en.comps },
        s.ss.zst, s.ss.isRel⟩⟩ := by
    rw [step_of_guard hg, hex]
    simp only [Res.state, retOf, issuedAfter, specStep, hf, if_pos hv]
  refine StepFull.accepted (fl' := fl) hex hstep ⟨en, hf, hv⟩ (by rw [post.tablesLen]; omega)
    (by rw [post.relArchs]; exact Nat.le_succ _) (by rw [post.entitiesLen]; exact Nat.le_succ _)
    (Or.inl post.pool) post.pool post.kinds ?_
  refine H.update hm _ post.tinv post.pool post.locks post.obs post.kinds post.maxComps
    (fun j hj => ⟨post.frame j hj, post.targets j⟩) ?_ (H.tgtsOK e en hm)
  exact
    { nodup := by rw [Refine.keys_writeComps]; exact ok.nodup
      reg := by rw [Refine.keys_writeComps]; exact ok.reg
      comps := by rw [post.comps, Refine.keys_writeComps]; exact ok.comps
      vals := by
        intro cv hcv
        obtain ⟨v, hv', hval⟩ := Refine.mem_writeComps hcv
        rw [post.vals cv.1 v (ok.vals (cv.1, v) hv'), hval, H.zget]
      relNodup := ok.relNodup
      relKeys := by intro c; rw [Refine.keys_writeComps]; exact ok.relKeys c
      tgts := fun r hr => by rw [post.targets]; exact ok.tgts r hr }

theorem acc_del (run : ProbeRunner) {s : St} {fl : List Nat} (H : HInv s fl)
    (hfew : s.w.tables.length + s.w.relationArchetypes.length + 1 ≤ maxU32)
    (hent : 2 * s.w.entities.length < 2 ^ 32) (e : Ent) {en : Entry}
    (hf : find s.ss.ents e = some en) (hg : guard s (.del e) = true) :
    StepFull run s (.del e) := by
  have hi : e ∈ s.issued := by simpa only [guard, decide_eq_true_eq] using hg
  have hm := find_some_mem hf
  obtain ⟨_, ha, h2, hnf, _, hsl⟩ := H.live_facts hm
  obtain ⟨w', hop, post, more⟩ := opRemoveEntity_rel_full run H.tinv H.unlocked H.noObs h2 hnf ha
    (Pool.lt_of_slot hsl) hfew hent
  have hex : exec run s.w (.del e) = .ok none w' := by simp only [exec, hop]
  have hstep : step run s (.del e) =
      ⟨w', s.issued, ⟨detach e (del s.ss.ents e), s.ss.zst, s.ss.isRel⟩⟩ := by
    rw [step_of_guard hg, hex]
    simp only [Res.state, retOf, issuedAfter, specStep, hf]
  refine StepFull.accepted (fl' := e.id :: fl) hex hstep ⟨en, hf⟩
    (by have := post.tablesLen; omega) (by rw [more.relArchs]; exact Nat.le_succ _)
    (by rw [post.entitiesLen]; exact Nat.le_succ _) (Or.inr (Or.inr (Or.inl ⟨e, hsl, more.pool⟩))) more.pool post.kinds ?_
  have g1 : Pool.GInv ⟨w'.pool, s.issued, (detach e (del s.ss.ents e)).map (·.1)⟩ (e.id :: fl) := by
    rw [more.pool, detach_keys, del_keys]; exact H.ginv.recycle hi ha
  have hnd := H.ginv.live_nodup
  have hsurv : ∀ (x : Ent) (en0 : Entry), (x, en0) ∈ del s.ss.ents e →
      (x, en0) ∈ s.ss.ents ∧ x ≠ e ∧ x.id ≠ e.id := by
    intro x en0 hx
    have hx' := mem_del hx
    have hne : x ≠ e := by
      rintro rfl
      have hk : x ∈ (del s.ss.ents x).map (·.1) := List.mem_map.mpr ⟨(x, en0), hx, rfl⟩
      rw [del_keys] at hk
      exact List.Nodup.not_mem_erase hnd hk
    exact ⟨hx', hne, fun hid => hne (H.id_inj hx' hm hid)⟩
  refine H.of_kinds post.tinv g1 post.locks post.obs H.nodup post.kinds more.maxComps
    (fun x en' hx => ?_) (fun x en' hx r' hr' => ?_)
  · obtain ⟨en0, hx0, rfl⟩ := mem_detach hx
    obtain ⟨hx', _, hid⟩ := hsurv x en0 hx0
    have ok := H.ok x en0 hx'
    obtain ⟨hs, ht⟩ := post.frame x.id hid
    refine ok.withRels hs (map_zeroRel_comp e _) fun r' hr' => ?_
    obtain ⟨r, hr, rfl⟩ := List.mem_map.mp hr'
    rw [zeroRel_comp, ht, ok.tgts r hr, zeroRel_target, zeroed]
    by_cases hrt : r.target = e
    · rw [if_pos (by rw [hrt]), if_pos hrt]
    · rw [if_neg (fun hh => hrt (Option.some.inj hh)), if_neg hrt]
  · show r'.target.isZero = true ∨
      (find (detach e (del s.ss.ents e)) r'.target).isSome = true
    obtain ⟨en0, hx0, rfl⟩ := mem_detach hx
    obtain ⟨hx', _, _⟩ := hsurv x en0 hx0
    obtain ⟨r, hr, rfl⟩ := List.mem_map.mp (show r' ∈ en0.rels.map (zeroRel e) from hr')
    rw [zeroRel_target]
    by_cases hrt : r.target = e
    · rw [if_pos hrt]; exact Or.inl rfl
    · rw [if_neg hrt]
      rcases H.tgtsOK x en0 hx' r hr with k | k
      · exact Or.inl k
      · right
        rw [find_isSome_iff] at k ⊢
        rw [detach_keys, del_keys]
        exact (List.mem_erase_of_ne hrt).mpr k

theorem acc_new (run : ProbeRunner) {s : St} {fl : List Nat} (H : HInv s fl)
    (hfew : s.w.tables.length < maxU32) (hent : s.w.entities.length + 1 < 2 ^ 32)
    (p : Path) (ids : List Comp) (vals : Comps) (rels : Rels) (hok : NewOK s.ss ids rels)
    (hg : guard s (.new p ids vals rels) = true) : StepFull run s (.new p ids vals rels) := by
  have hx := (guard_new.mp hg).2
  obtain ⟨hnd, hreg, ⟨hrnd, hrin, hrall⟩, hv⟩ := id hok
  have hreg' : ∀ (c : Comp), c ∈ ids → c < s.w.kinds.length := by rw [← H.zlen]; exact hreg
  have hin : ∀ (r : RelID), r ∈ rels → r.comp ∈ ids := fun r hr => (hrin r hr).1
  have hrc : ∀ (r : RelID), r ∈ rels → s.w.isRelComp r.comp = true :=
    fun r hr => by rw [← H.rget]; exact (hrin r hr).2
  obtain ⟨e, w', hop⟩ := opNewEntity_rel_ok run H.tinv H.unlocked H.noObs (vals := vals) hnd hreg'
    hrnd hin hrc (fun c hc hr => hrall c hc (by rw [H.rget]; exact hr)) (H.targets_alive hv)
  replace hop := hop p
  obtain ⟨post, more⟩ := opNewEntity_rel_full run p H.tinv H.unlocked H.noObs hreg' hrnd hin hrc
    (H.tgts_in hx) hfew hent hop
  have he : e = (s.w.pool.get).2 := post.ent
  subst he
  have hex : exec run s.w (.new p ids vals rels) = .ok (some (s.w.pool.get).2) w' := by
    simp only [exec, hop]
  have hstep : step run s (.new p ids vals rels) =
      ⟨w', (s.w.pool.get).2 :: s.issued,
        ⟨((s.w.pool.get).2, ⟨writeComps s.ss.zst vals (zeros ids), rels⟩) :: s.ss.ents,
          s.ss.zst, s.ss.isRel⟩⟩ := by
    rw [step_of_guard hg, hex]
    simp only [Res.state, retOf, issuedAfter, specStep, if_pos hok, Option.getD_some]
  refine StepFull.accepted (fl' := fl.tail) hex hstep hok (by have := post.tablesLen; omega)
    more.relArchs post.entitiesLen (Or.inr (Or.inl more.pool)) more.pool post.kinds ?_
  refine H.created post.tinv more.pool post.locks post.obs post.kinds more.maxComps post.frame ?_ hv
  have hk : keys (writeComps s.ss.zst vals (zeros ids)) = ids := by
    rw [Refine.keys_writeComps, Refine.keys_zeros]
  exact
    { nodup := by show (keys (writeComps s.ss.zst vals (zeros ids))).Nodup; rw [hk]; exact hnd
      reg := by
        show ∀ c ∈ keys (writeComps s.ss.zst vals (zeros ids)), _
        rw [hk]; exact hreg'
      comps := by
        show compsOf w' _ = some (sortedIds _ (keys (writeComps s.ss.zst vals (zeros ids))))
        rw [more.comps, hk]
        congr 1
        exact Refine.toList_eq_sortedIds _ _ _
          (fun c hc => Refine.mask_ofList_iff (by have := H.tinv.kindsLe; omega) c hc)
      vals := by
        intro cv hcv
        obtain ⟨v, hv', hval⟩ := Refine.mem_writeComps hcv
        simp only [zeros, List.mem_map] at hv'
        obtain ⟨c, hc, hcv'⟩ := hv'
        injection hcv' with h1 h2
        rw [← h1] at hval ⊢
        rw [more.vals c hc, hval, ← h2, H.zget]
      relNodup := hrnd
      relKeys := by
        intro c
        show c ∈ rels.map (·.comp) ↔ c ∈ keys (writeComps s.ss.zst vals (zeros ids)) ∧ _
        rw [hk]
        constructor
        · intro hc
          obtain ⟨r, hr, rfl⟩ := List.mem_map.mp hc
          exact hrin r hr
        · rintro ⟨h1, h2⟩
          exact hrall c h1 h2
      tgts := post.targets }

theorem keys_filter_eq (cs : Comps) (ids : List Comp) :
    keys (cs.filter fun cv => decide (cv.1 ∉ ids)) = (keys cs).filter fun c => decide (c ∉ ids) := by
  simp only [keys, List.filter_map]
  rfl

/-- the entry after an accepted `Exchange`: the components that stay keep their values, the added
    ones start at zero, then the values are written (last write wins, zero-size components are not
    written); the relations that stay, then the given ones.  It belongs to the specification step
    `specXchg` of the exchange machine `Ark.RelRefine3` (Ark/Proofs/RelExchangeMachine.lean) and
    stands here because `acc_add` and `acc_rem` realise their entries through it (`EntOK.xchg`). -/
def _root_.Ark.RelRefine3.xchgEntry (z : List Bool) (add : List Comp) (vals : Comps) (rem : List Comp) (rels : Rels)
    (en : Entry) : Entry :=
  ⟨writeComps z vals ((en.comps.filter fun cv => decide (cv.1 ∉ rem)) ++ zeros add),
    (en.rels.filter fun r => decide (r.comp ∉ rem)) ++ rels⟩

open RelRefine3 (xchgEntry)

theorem sortedIds_filter_append_sorted (n : Nat) (ks rem add : List Comp) :
    sortedIds n (((sortedIds n ks).filter fun c => decide (c ∉ rem)) ++ add) =
      sortedIds n ((ks.filter fun c => decide (c ∉ rem)) ++ add) := by
  simp only [sortedIds]
  apply List.filter_congr
  intro c hc
  have hlt := List.mem_range.mp hc
  apply decide_eq_decide.mpr
  simp only [List.mem_append, List.mem_filter, List.mem_range, decide_eq_true_eq]
  constructor
  · rintro (⟨⟨_, h1⟩, h2⟩ | h)
    · exact Or.inl ⟨h1, h2⟩
    · exact Or.inr h
  · rintro (⟨h1, h2⟩ | h)
    · exact Or.inl ⟨⟨hlt, h1⟩, h2⟩
    · exact Or.inr h

/-- the entry after `Exchange` describes an entity that has the components `(current \ rem) ∪ add`,
    on the kept ones the old values and on the added ones zero, overwritten by `vals`, the old
    targets on the relation components that stay and the given targets on the added ones -/
theorem EntOK.xchg {w w' : World} {n : Nat} {ir z : List Bool} {e : Ent}
    {en : Entry} (ok : EntOK w n ir e en) {add rem : List Comp} {vals : Comps} {rels : Rels}
    (haddnd : add.Nodup) (hnew : ∀ c ∈ add, c ∉ keys en.comps) (hreg : ∀ c ∈ add, c < n)
    (hwf : RelsWF ir add rels)
    (hcomps : ∀ (cs : List Comp), compsOf w e.id = some cs →
      compsOf w' e.id = some (sortedIds n ((cs.filter fun c => decide (c ∉ rem)) ++ add)))
    (hkept : ∀ (c : Comp) (v : Val), valOf w e.id c = some v → c ∉ rem →
      valOf w' e.id c = some (if z.getD c false = true then v else applyVals v vals c))
    (hadded : ∀ c ∈ add,
      valOf w' e.id c = some (if z.getD c false = true then 0 else applyVals 0 vals c))
    (htgts : ∀ r ∈ rels, targetOf w' e.id r.comp = some r.target)
    (hold : ∀ (c : Comp) (x : Ent), targetOf w e.id c = some x → c ∉ rem →
      targetOf w' e.id c = some x) :
    EntOK w' n ir e (xchgEntry z add vals rem rels en) := by
  obtain ⟨hrnd, hrin, hrall⟩ := hwf
  -- writing values changes no key: the entry's keys are the kept ones, then `add`; the fields below
  -- all go through this split
  have hk : keys (xchgEntry z add vals rem rels en).comps =
      ((keys en.comps).filter fun c => decide (c ∉ rem)) ++ add := by
    show keys (writeComps z vals ((en.comps.filter fun cv => decide (cv.1 ∉ rem)) ++ zeros add)) = _
    rw [Refine.keys_writeComps, Refine.keys_append, Refine.keys_zeros, keys_filter_eq]
  have hmemk : ∀ (c : Comp), c ∈ keys (xchgEntry z add vals rem rels en).comps ↔
      ((c ∈ keys en.comps ∧ c ∉ rem) ∨ c ∈ add) := by
    intro c
    rw [hk, List.mem_append, List.mem_filter]
    simp only [decide_eq_true_eq]
  exact
    { nodup := by
        -- the halves are disjoint: an added component is not an old key, `hnew`
        rw [hk]
        refine List.nodup_append.mpr ⟨ok.nodup.sublist List.filter_sublist, haddnd, ?_⟩
        intro a ha' b hb hab
        exact hnew b hb (hab ▸ (List.mem_filter.mp ha').1)
      reg := by
        intro c hc
        rcases (hmemk c).mp hc with h1 | h1
        · exact ok.reg c h1.1
        · exact hreg c h1
      comps := by
        rw [hcomps _ ok.comps, hk, sortedIds_filter_append_sorted]
      vals := by
        intro cv hcv
        -- a pair of the written list is a pair `(c, v)` of the unwritten one under the write rule: `v` is
        -- the old value of a kept key or the zero of an added one
        obtain ⟨v, hv', hval⟩ := Refine.mem_writeComps
          (show cv ∈ writeComps z vals
            ((en.comps.filter fun cv => decide (cv.1 ∉ rem)) ++ zeros add) from hcv)
        rcases List.mem_append.mp hv' with h1 | h1
        · obtain ⟨h3, h4⟩ := List.mem_filter.mp h1
          have hnot : cv.1 ∉ rem := by simpa using h4
          rw [hkept cv.1 v (ok.vals (cv.1, v) h3) hnot, hval]
        · simp only [zeros, List.mem_map] at h1
          obtain ⟨c, hc, hcv'⟩ := h1
          injection hcv' with h3 h4
          rw [← h3] at hval ⊢
          rw [hadded c hc, hval, ← h4]
      relNodup := by
        -- a kept relation sits on an old key (`ok.relKeys`), a given one on a component of `add`: `hnew`
        show (((en.rels.filter fun r => decide (r.comp ∉ rem)) ++ rels).map (·.comp)).Nodup
        rw [List.map_append]
        refine List.nodup_append.mpr
          ⟨ok.relNodup.sublist (List.Sublist.map _ List.filter_sublist), hrnd, ?_⟩
        intro a ha' b hb hab
        obtain ⟨r1, hr1, rfl⟩ := List.mem_map.mp ha'
        have h1 := ((ok.relKeys r1.comp).mp
          (List.mem_map.mpr ⟨r1, (List.mem_filter.mp hr1).1, rfl⟩)).1
        obtain ⟨r, hr, rfl⟩ := List.mem_map.mp hb
        exact hnew r.comp (hrin r hr).1 (hab ▸ h1)
      relKeys := by
        -- relation components = keys flagged in `ir`: for the kept half by `ok.relKeys`, for the added half
        -- by `RelsWF` (`hrin` one way, `hrall` back)
        intro c
        show c ∈ ((en.rels.filter fun r => decide (r.comp ∉ rem)) ++ rels).map (·.comp) ↔
          c ∈ keys (xchgEntry z add vals rem rels en).comps ∧ _
        rw [hmemk, List.map_append, List.mem_append]
        constructor
        · rintro (h1 | h1)
          · obtain ⟨r, hr, rfl⟩ := List.mem_map.mp h1
            obtain ⟨k1, k2⟩ := List.mem_filter.mp hr
            have hnot : r.comp ∉ rem := by simpa using k2
            obtain ⟨k3, k4⟩ := (ok.relKeys r.comp).mp (List.mem_map.mpr ⟨r, k1, rfl⟩)
            exact ⟨Or.inl ⟨k3, hnot⟩, k4⟩
          · obtain ⟨r, hr, rfl⟩ := List.mem_map.mp h1
            exact ⟨Or.inr (hrin r hr).1, (hrin r hr).2⟩
        · rintro ⟨⟨k1, hnot⟩ | k1, k2⟩
          · left
            obtain ⟨r, hr, rfl⟩ := List.mem_map.mp ((ok.relKeys c).mpr ⟨k1, k2⟩)
            exact List.mem_map.mpr ⟨r, List.mem_filter.mpr ⟨hr, by simpa using hnot⟩, rfl⟩
          · exact Or.inr (hrall c k1 k2)
      tgts := by
        intro r hr
        rcases List.mem_append.mp
          (show r ∈ (en.rels.filter fun r => decide (r.comp ∉ rem)) ++ rels from hr) with h1 | h1
        · obtain ⟨k1, k2⟩ := List.mem_filter.mp h1
          have hnot : r.comp ∉ rem := by simpa using k2
          exact hold r.comp r.target (ok.tgts r k1) hnot
        · exact htgts r h1 }

theorem filter_not_mem_nil {α : Type} (f : α → Comp) (l : List α) :
    (l.filter fun x => decide (f x ∉ ([] : List Comp))) = l := by
  simp

theorem xchgEntry_add (z : List Bool) (ids : List Comp) (vals : Comps) (rels : Rels) (en : Entry) :
    xchgEntry z ids vals [] rels en =
      ⟨writeComps z vals (en.comps ++ zeros ids), en.rels ++ rels⟩ := by
  simp only [xchgEntry, filter_not_mem_nil]

theorem xchgEntry_rem (z : List Bool) (ids : List Comp) (en : Entry) :
    xchgEntry z [] [] ids [] en =
      ⟨en.comps.filter fun cv => decide (cv.1 ∉ ids), en.rels.filter fun r => decide (r.comp ∉ ids)⟩ := by
  simp only [xchgEntry, zeros, List.map_nil, List.append_nil, Refine.writeComps_nil]

/-- the documented preconditions of `Exchange` (`XchgPre`) in terms of the specification, for an
    entity with the entry `en`.  With `xchgEntry` it belongs to the exchange machine `Ark.RelRefine3`
    and stands here because `Add` and `Remove` are accepted as the exchanges they are (`acc_move`). -/
def _root_.Ark.RelRefine3.XchgOK (ss : SS) (en : Entry) (add rem : List Comp) (rels : List RelID) : Prop :=
  (¬ (add = [] ∧ rem = []) ∧ rem.Nodup ∧ (∀ c ∈ rem, c ∈ keys en.comps) ∧ add.Nodup ∧
    ∀ c ∈ add, c < ss.zst.length ∧ c ∉ keys en.comps) ∧
  RelsWF ss.isRel add rels ∧ TargetsValid ss.ents rels

open RelRefine3 (XchgOK)

instance _root_.Ark.RelRefine3.instDecidableXchgOK (ss : SS) (en : Entry) (add rem : List Comp)
    (rels : List RelID) : Decidable (XchgOK ss en add rem rels) :=
  inferInstanceAs (Decidable ((¬ (add = [] ∧ rem = []) ∧ rem.Nodup ∧ (∀ c ∈ rem, c ∈ keys en.comps) ∧
    add.Nodup ∧ ∀ c ∈ add, c < ss.zst.length ∧ c ∉ keys en.comps) ∧
    RelsWF ss.isRel add rels ∧ TargetsValid ss.ents rels))

theorem xchgPre_of_ok {s : St} {fl : List Nat} (H : HInv s fl) {e : Ent} {en : Entry}
    (hm : (e, en) ∈ s.ss.ents) {add rem : List Comp} {rels : Rels}
    (hok : XchgOK s.ss en add rem rels) : XchgPre s.w e add rem rels := by
  obtain ⟨⟨hne, hremnd, hremhas, haddnd, hall⟩, ⟨hrnd, hrin, hrall⟩, hv⟩ := hok
  have L := H.live (find_of_mem H.ginv.live_nodup hm)
  exact
    { nonempty := hne
      remNodup := hremnd
      remHas := fun c hc => (L.mask c).mpr (hremhas c hc)
      addNodup := haddnd
      addReg := fun c hc => by rw [← H.zlen]; exact (hall c hc).1
      addNew := by
        intro c hc
        cases hgc : (s.w.maskOf e).get c with
        | false => rfl
        | true => exact absurd ((L.mask c).mp hgc) (hall c hc).2
      relsNodup := hrnd
      relsIn := fun r hr => (hrin r hr).1
      relsRel := fun r hr => by rw [← H.rget]; exact (hrin r hr).2
      relsAll := fun c hc hr => hrall c hc (by rw [H.rget]; exact hr)
      targets := H.targets_alive hv }

/-- **the accepted move of one entity** — `Add` (`rem = []`), `Remove` (`add = []`, nothing
    written) and `Exchange` are `World.exchange` followed by the writes: the core succeeds in a
    world without observers, every path's pre-validation passes, and the world after the writes
    realises the exchanged entry.  The three operations put their own wrapper around it
    (`opAdd_rel_eq`, `opRemove_eq`, `opExchange_rel_eq`). -/
theorem acc_move (run : ProbeRunner) {s : St} {fl : List Nat} (H : HInv s fl)
    (hfew : s.w.tables.length < maxU32) (hent : s.w.entities.length + 1 < 2 ^ 32)
    {e : Ent} {en : Entry} (hf : find s.ss.ents e = some en) {add rem : List Comp} {rels : Rels}
    (hok : XchgOK s.ss en add rem rels) (hx : tgtsExpr s rels = true) (vals : Comps) :
    ∃ (old new : Mask) (w2 : World), exchangeCore run e add rem rels s.w = .ok (old, new) w2 ∧
      (∀ (evt : Nat), w2.obs.hasObservers evt = false) ∧
      (∀ (p : Path), preCheck p add rels s.w = .ok () s.w) ∧
      XchgCorePost s.w fl e add rem rels w2 ∧
      XchgRelPost s.w fl e add rem vals rels (writeValsW w2 e vals) ∧
      HInv ⟨writeValsW w2 e vals, s.issued,
        ⟨upd s.ss.ents e (xchgEntry s.ss.zst add vals rem rels), s.ss.zst, s.ss.isRel⟩⟩ fl := by
  have L := H.live hf
  have hp := xchgPre_of_ok H L.mem hok
  obtain ⟨⟨_, _, _, haddnd, hall⟩, hwf, hv⟩ := id hok
  obtain ⟨w2, hcore, cp⟩ := exchangeCore_rel_spec run H.tinv H.unlocked H.noObs L.ge2 L.notFree
    L.alive L.slot hp (H.tgts_in hx) hfew hent
  have post := cp.written H.tinv L.ge2 L.notFree L.alive L.slot hp vals
  refine ⟨_, _, w2, hcore, fun evt => by rw [cp.obs]; exact H.noObs evt,
    fun p => hp.preCheck_ok p (Nat.le_trans H.tinv.kindsLe.1 H.tinv.kindsLe.2), cp, post, ?_⟩
  refine H.update L.mem _ post.tinv post.pool post.locks post.obs post.kinds post.maxComps
    post.frame ?_ ?_
  · exact (H.ok e en L.mem).xchg haddnd (fun c hc => (hall c hc).2)
      (fun c hc => by rw [← H.zlen]; exact (hall c hc).1) hwf post.comps
      (fun c v h1 h2 => by rw [post.kept c v h1 h2, H.zget])
      (fun c hc => by rw [post.added c hc, H.zget]) post.targets post.oldTargets
  · intro r hr
    rcases List.mem_append.mp
      (show r ∈ (en.rels.filter fun r => decide (r.comp ∉ rem)) ++ rels from hr) with h1 | h1
    · exact H.tgtsOK e en L.mem r (List.mem_filter.mp h1).1
    · exact hv r h1

theorem acc_add (run : ProbeRunner) {s : St} {fl : List Nat} (H : HInv s fl)
    (hfew : s.w.tables.length < maxU32) (hent : s.w.entities.length + 1 < 2 ^ 32)
    (p : Path) (e : Ent) (ids : List Comp) (vals : Comps) (rels : Rels) {en : Entry}
    (hf : find s.ss.ents e = some en) (hok : AddOK s.ss en ids rels)
    (hg : guard s (.add p e ids vals rels) = true) : StepFull run s (.add p e ids vals rels) := by
  have hx := (guard_add.mp hg).2
  obtain ⟨⟨hne, hnd, hall⟩, hwf, hv⟩ := id hok
  obtain ⟨old, new, w2, hcore, hno2, hpre, _, post, hinv⟩ := acc_move run H hfew hent hf (rem := [])
    ⟨⟨fun h => hne h.1, List.nodup_nil, (fun _ h => nomatch h), hnd, hall⟩, hwf, hv⟩ hx vals
  have hop := opAdd_rel_eq run p e ids vals rels s.w (H.live hf).alive
    (by rw [Path.addCheck_of_ne_nil p hne]; exact hpre p)
    (by rw [addCore_eq_exchangeCore run]; exact hcore) hno2
  have hex : exec run s.w (.add p e ids vals rels) = .ok none (writeValsW w2 e vals) := by
    simp only [exec, hop]
  have hstep : step run s (.add p e ids vals rels) = ⟨writeValsW w2 e vals, s.issued,
      ⟨upd s.ss.ents e (xchgEntry s.ss.zst ids vals [] rels), s.ss.zst, s.ss.isRel⟩⟩ := by
    rw [step_of_guard hg, hex, funext (xchgEntry_add s.ss.zst ids vals rels)]
    simp only [Res.state, retOf, issuedAfter, specStep, hf, if_pos hok]
  exact StepFull.accepted (fl' := fl) hex hstep ⟨en, hf, hok⟩ (by have := post.tablesLen; omega)
    post.relArchs (by rw [post.entitiesLen]; exact Nat.le_succ _) (Or.inl post.pool) post.pool
    post.kinds hinv

theorem acc_rem (run : ProbeRunner) {s : St} {fl : List Nat} (H : HInv s fl)
    (hfew : s.w.tables.length < maxU32) (hent : s.w.entities.length + 1 < 2 ^ 32)
    (p : Path) (e : Ent) (ids : List Comp) {en : Entry} (hf : find s.ss.ents e = some en)
    (hne : ids ≠ []) (hnd : ids.Nodup) (hall : ∀ c ∈ ids, c ∈ keys en.comps)
    (hg : guard s (.rem p e ids) = true) : StepFull run s (.rem p e ids) := by
  obtain ⟨old, new, w2, hcore, _, _, _, post, hinv⟩ := acc_move run H hfew hent hf (add := [])
    (rem := ids) (rels := [])
    ⟨⟨fun h => hne h.2, hnd, hall, List.nodup_nil, (fun _ h => nomatch h)⟩,
      ⟨List.nodup_nil, (fun _ h => nomatch h), (fun _ h => nomatch h)⟩, (fun _ h => nomatch h)⟩ rfl []
  rw [writeValsW_nil] at post hinv
  have hop : opRemove run p e ids s.w = .ok () w2 := by
    rw [opRemove_eq run p e ids s.w (H.live hf).alive, removeCore_eq_exchangeCore, M.bind, hcore]; rfl
  have hex : exec run s.w (.rem p e ids) = .ok none w2 := by simp only [exec, hop]
  have hstep : step run s (.rem p e ids) = ⟨w2, s.issued,
      ⟨upd s.ss.ents e (xchgEntry s.ss.zst [] [] ids []), s.ss.zst, s.ss.isRel⟩⟩ := by
    rw [step_of_guard hg, hex, funext (xchgEntry_rem s.ss.zst ids)]
    simp only [Res.state, retOf, issuedAfter, specStep, hf, if_pos (And.intro hne (And.intro hnd hall))]
  exact StepFull.accepted (fl' := fl) hex hstep ⟨en, hf, hne, hnd, hall⟩
    (by have := post.tablesLen; omega) post.relArchs
    (by rw [post.entitiesLen]; exact Nat.le_succ _) (Or.inl post.pool) post.pool post.kinds hinv

/-- the entry after `SetRelations(rels…)` describes an entity with the components and values of
    before, the given targets on the components named and the old ones elsewhere -/
theorem EntOK.setrel {w w' : World} {n : Nat} {ir : List Bool} {e : Ent} {en : Entry}
    (ok : EntOK w n ir e en) {rels : Rels} (hs : SameEnt w w' e.id)
    (htgts : ∀ r ∈ rels, targetOf w' e.id r.comp = some r.target)
    (hold : ∀ (c : Comp), (∀ r ∈ rels, r.comp ≠ c) → targetOf w' e.id c = targetOf w e.id c) :
    EntOK w' n ir e { en with rels := setRels en.rels rels } :=
  ok.withRels hs (setRels_comps _ _) fun r hr => by
    rcases mem_setRels hr with ⟨h1, _⟩ | ⟨h1, h3⟩
    · exact htgts r h1
    · rw [hold r.comp h3]; exact ok.tgts r h1

theorem acc_setrel (run : ProbeRunner) {s : St} {fl : List Nat} (H : HInv s fl)
    (hfew : s.w.tables.length < maxU32) (hent : s.w.entities.length + 1 < 2 ^ 32)
    (p : Path) (e : Ent) (rels : Rels) {en : Entry} (hf : find s.ss.ents e = some en)
    (hok : SetRelOK s.ss en rels) (hg : guard s (.setrel p e rels) = true) :
    StepFull run s (.setrel p e rels) := by
  have hx := (guard_setrel.mp hg).2
  obtain ⟨hne, hrnd, hhas, hv⟩ := id hok
  have L := H.live hf
  have hm := L.mem
  have ok := H.ok e en hm
  have hemp : rels.isEmpty = false := List.isEmpty_eq_false_iff.mpr hne
  have hrel : ∀ (r : RelID), r ∈ rels → s.w.isRelComp r.comp = true ∧ r.comp < 256 := by
    intro r hr
    obtain ⟨h1, h3⟩ := (ok.relKeys r.comp).mp (hhas r hr)
    exact ⟨by rw [← H.rget]; exact h3, H.reg256 (ok.reg r.comp h1)⟩
  have hhas' : ∀ (r : RelID), r ∈ rels → (targetOf s.w e.id r.comp).isSome = true :=
    fun r hr => (H.target_isSome_iff hm r.comp).mpr (hhas r hr)
  obtain ⟨w', hop⟩ := opSetRelations_total run p H.tinv H.unlocked H.noObs L.ge2 L.notFree L.alive L.slot hemp hrnd hhas'
    (H.targets_alive hv) hrel
  have post := opSetRelations_spec run p H.tinv H.unlocked H.noObs L.ge2 L.notFree L.alive L.slot
    hemp hrnd hhas' (H.tgts_in hx) hfew hent hop
  have more := opSetRelations_more run p H.tinv H.unlocked H.noObs L.ge2 L.notFree L.alive L.slot hemp hrnd hhas' hop
  have hex : exec run s.w (.setrel p e rels) = .ok none w' := by simp only [exec, hop]
  have hstep : step run s (.setrel p e rels) =
      ⟨w', s.issued, ⟨upd s.ss.ents e fun en => { en with rels := setRels en.rels rels },
        s.ss.zst, s.ss.isRel⟩⟩ := by
    rw [step_of_guard hg, hex]
    simp only [Res.state, retOf, issuedAfter, specStep, hf, if_pos hok]
  refine StepFull.accepted (fl' := fl) hex hstep ⟨en, hf, hok⟩ (by have := post.tablesLen; omega)
    (by rw [more.relArchs]; exact Nat.le_succ _) (by rw [post.entitiesLen]; exact Nat.le_succ _)
    (Or.inl more.pool) more.pool post.kinds ?_
  refine H.update hm _ post.tinv more.pool post.locks post.obs post.kinds more.maxComps
    post.frame ?_ ?_
  · exact ok.setrel post.self post.targets post.otherTargets
  · intro r hr
    rcases mem_setRels (show r ∈ setRels en.rels rels from hr) with ⟨h1, _⟩ | ⟨h1, _⟩
    · exact hv r h1
    · exact H.tgtsOK e en hm r h1

theorem step_full (run : ProbeRunner) {s : St} {fl : List Nat} (H : HInv s fl)
    (hfew : s.w.tables.length + s.w.relationArchetypes.length + 1 ≤ maxU32)
    (hent : 2 * s.w.entities.length < 2 ^ 32) (op : Op) : StepFull run s op := by
  have hfew' : s.w.tables.length < maxU32 := by omega
  have hent' : s.w.entities.length + 1 < 2 ^ 32 := by omega
  by_cases hg : guard s op = true
  case neg => exact StepFull.no_guard H hg
  by_cases hp : pre s.ss op
  case neg => exact StepFull.rejected H hg (exec_rej run H hg hp) hp
  cases op with
  | reg size z ir => exact acc_reg run H size z ir hp
  | new p ids vals rels => exact acc_new run H hfew' hent' p ids vals rels hp hg
  | add p e ids vals rels =>
    obtain ⟨en, hf, hok⟩ := hp
    exact acc_add run H hfew' hent' p e ids vals rels hf hok hg
  | rem p e ids =>
    obtain ⟨en, hf, hne, hnd, hall⟩ := hp
    exact acc_rem run H hfew' hent' p e ids hf hne hnd hall hg
  | setrel p e rels =>
    obtain ⟨en, hf, hok⟩ := hp
    exact acc_setrel run H hfew' hent' p e rels hf hok hg
  | set e vals =>
    obtain ⟨en, hf, hv⟩ := hp
    exact acc_set run H e vals hf hv hg
  | del e =>
    obtain ⟨en, hf⟩ := hp
    exact acc_del run H hfew hent e hf hg

theorem step_pool (run : ProbeRunner) {s : St} {fl : List Nat} (H : HInv s fl)
    (hfew : s.w.tables.length + s.w.relationArchetypes.length + 1 ≤ maxU32)
    (hent : 2 * s.w.entities.length < 2 ^ 32) (op : Op) : StepPool run s op :=
  (step_full run H hfew hent op).1

theorem step_goal (run : ProbeRunner) {s : St} {fl : List Nat} (H : HInv s fl)
    (hfew : s.w.tables.length + s.w.relationArchetypes.length + 1 ≤ maxU32)
    (hent : 2 * s.w.entities.length < 2 ^ 32) (op : Op) : StepGoal run s op :=
  (step_pool run H hfew hent op).1

theorem exec_facts (run : ProbeRunner) {s : St} {fl : List Nat} (H : HInv s fl)
    (hfew : s.w.tables.length + s.w.relationArchetypes.length + 1 ≤ maxU32)
    (hent : 2 * s.w.entities.length < 2 ^ 32) (op : Op) (hg : guard s op = true) :
    ExecFacts run s op :=
  (step_full run H hfew hent op).2 hg

/-- **histories.**  A machine on `St` — a step function `f`, an invariant `Inv` — whose step,
    while the sizes leave the room the step lemmas ask for, keeps `Inv` and creates at most
    `1 + (relation archetypes)` tables, one relation archetype and one index slot.  Then `Inv`
    holds after every history `ops` that fits, and the tables grew by at most
    `ops.length * (relation archetypes + ops.length)`: each step adds at most `1 + R'` of them,
    `R' < R + ops.length` being the relation archetypes of the moment. -/
theorem run_sizes {α : Type} {f : St → α → St} {Inv : St → List Nat → Prop}
    (hstep : ∀ (s : St) (fl : List Nat) (a : α), Inv s fl →
      s.w.tables.length + s.w.relationArchetypes.length + 1 ≤ maxU32 →
      2 * s.w.entities.length < 2 ^ 32 →
      (∃ fl', Inv (f s a) fl') ∧
      (f s a).w.tables.length ≤ s.w.tables.length + 1 + s.w.relationArchetypes.length ∧
      (f s a).w.relationArchetypes.length ≤ s.w.relationArchetypes.length + 1 ∧
      (f s a).w.entities.length ≤ s.w.entities.length + 1)
    (ops : List α) : ∀ (s : St) (fl : List Nat), Inv s fl →
    s.w.tables.length + ops.length * (s.w.relationArchetypes.length + ops.length) +
      s.w.relationArchetypes.length + ops.length + 1 ≤ maxU32 →
    2 * (s.w.entities.length + ops.length) < 2 ^ 32 →
    ∃ fl', Inv (ops.foldl f s) fl' ∧
      (ops.foldl f s).w.tables.length ≤
        s.w.tables.length + ops.length * (s.w.relationArchetypes.length + ops.length) ∧
      (ops.foldl f s).w.relationArchetypes.length ≤ s.w.relationArchetypes.length + ops.length ∧
      (ops.foldl f s).w.entities.length ≤ s.w.entities.length + ops.length := by
  induction ops with
  | nil => intro s fl h _ _; exact ⟨fl, h, Nat.le_add_right _ _, Nat.le_refl _, Nat.le_refl _⟩
  | cons a ops ih =>
    intro s fl h hb1 hb2
    rw [List.length_cons] at hb1 hb2 ⊢
    obtain ⟨⟨fl1, h1⟩, g1, g2, g3⟩ := hstep s fl a h (room_one hb1) (slots_one hb2)
    obtain ⟨fl2, h2, b1, b2, b3⟩ := ih _ fl1 h1 (quad_room_step _ g1 g2 hb1) (slots_step _ g3 hb2)
    exact ⟨fl2, h2, Nat.le_trans b1 (quad_bound_step _ g1 g2), Nat.le_trans b2 (succ_add_le _ g2),
      Nat.le_trans b3 (succ_add_le _ g3)⟩

/-- … from `NewWorld` (one table, no relation archetype, two index slots): every history with
    `ops.length < 2^16` fits (`n² + n + 3 ≤ 2^32`) -/
theorem init_sizes {α : Type} {f : St → α → St} (Inv : St → List Nat → Prop)
    (hstep : ∀ (s : St) (fl : List Nat) (a : α), Inv s fl →
      s.w.tables.length + s.w.relationArchetypes.length + 1 ≤ maxU32 →
      2 * s.w.entities.length < 2 ^ 32 →
      (∃ fl', Inv (f s a) fl') ∧
      (f s a).w.tables.length ≤ s.w.tables.length + 1 + s.w.relationArchetypes.length ∧
      (f s a).w.relationArchetypes.length ≤ s.w.relationArchetypes.length + 1 ∧
      (f s a).w.entities.length ≤ s.w.entities.length + 1)
    {cap rel : Nat} (h : Inv (St.init cap rel) []) (ops : List α) (hlen : ops.length < 2 ^ 16) :
    ∃ fl, Inv (ops.foldl f (St.init cap rel)) fl ∧
      (ops.foldl f (St.init cap rel)).w.tables.length ≤ 1 + ops.length * ops.length ∧
      (ops.foldl f (St.init cap rel)).w.relationArchetypes.length ≤ ops.length ∧
      (ops.foldl f (St.init cap rel)).w.entities.length ≤ 2 + ops.length := by
  have hsq : ops.length * ops.length ≤ 65535 * 65535 := Nat.mul_le_mul (by omega) (by omega)
  have := run_sizes hstep ops _ [] h
  rw [show (St.init cap rel).w.relationArchetypes.length = 0 from rfl, Nat.zero_add] at this
  exact this (by show 1 + _ + _ + _ + 1 ≤ maxU32; simp only [maxU32]; omega)
    (by show 2 * (2 + _) < 2 ^ 32; omega)

theorem fits_of_bounds {n t r e : Nat} (hlen : n + 1 < 2 ^ 16) (ht : t ≤ 1 + n * n) (hr : r ≤ n)
    (he : e ≤ 2 + n) : t + r + 1 ≤ maxU32 ∧ 2 * e < 2 ^ 32 := by
  have hsq : n * n ≤ 65535 * 65535 := Nat.mul_le_mul (by omega) (by omega)
  simp only [maxU32]
  omega

theorem reach_sizes (run : ProbeRunner) (cap rel : Nat) (ops : List Op)
    (hlen : ops.length < 2 ^ 16) :
    ∃ fl, HInv (reach run cap rel ops) fl ∧
      (reach run cap rel ops).w.tables.length ≤ 1 + ops.length * ops.length ∧
      (reach run cap rel ops).w.relationArchetypes.length ≤ ops.length ∧
      (reach run cap rel ops).w.entities.length ≤ 2 + ops.length :=
  init_sizes HInv (fun _ _ op H hfew hent =>
    let ⟨a, b, c, d, _⟩ := step_goal run H hfew hent op; ⟨a, b, c, d⟩) (hinv_init cap rel) ops hlen

theorem reach_hinv (run : ProbeRunner) (cap rel : Nat) (ops : List Op)
    (hlen : ops.length < 2 ^ 16) : ∃ fl, HInv (reach run cap rel ops) fl :=
  let ⟨fl, h, _⟩ := reach_sizes run cap rel ops hlen; ⟨fl, h⟩

theorem reach_bounds (run : ProbeRunner) (cap rel : Nat) (ops : List Op)
    (hlen : ops.length < 2 ^ 16) :
    (reach run cap rel ops).w.tables.length ≤ 1 + ops.length * ops.length ∧
    (reach run cap rel ops).w.relationArchetypes.length ≤ ops.length ∧
    (reach run cap rel ops).w.entities.length ≤ 2 + ops.length :=
  let ⟨_, _, b⟩ := reach_sizes run cap rel ops hlen; b

theorem reach_fits (run : ProbeRunner) (cap rel : Nat) (ops : List Op)
    (hlen : ops.length + 1 < 2 ^ 16) :
    (reach run cap rel ops).w.tables.length + (reach run cap rel ops).w.relationArchetypes.length +
      1 ≤ maxU32 ∧ 2 * (reach run cap rel ops).w.entities.length < 2 ^ 32 :=
  let ⟨b1, b2, b3⟩ := reach_bounds run cap rel ops (by omega); fits_of_bounds hlen b1 b2 b3

end RelRefine

end Ark
