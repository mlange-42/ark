/-
  Ark.Proofs.ResetRegister — C16, last clause: filters and observers that were registered before
  `Reset` can be registered again.  After `Reset` no filter object is marked registered and no
  observer object has an ID, so the "already registered" checks pass; what else can make
  `Register` panic does not depend on `Reset`.  For a filter, the archetype walk dereferences
  `relationTables[componentsMap[rels[0]]]` in every relation archetype it matches (`HeadColOK`,
  which `Reset` keeps and which holds whenever the walk did not panic before).  For an observer,
  the callback check and `computeData` read only its specification and the registry, which
  `Reset` keeps.
-/
import Ark.Proofs.ResetInv
import Ark.Model.Ops

set_option autoImplicit false

namespace Ark

open World

namespace World

/-- one step of the walk of `getCacheTables` -/
def walkStep (w : World) (f : Filter) (rels : List RelID) (acc : Option (List Nat))
    (a : Archetype) : Option (List Nat) :=
  match acc with
  | none => none
  | some acc =>
    if !f.matchesMask a.mask then some acc
    else if !a.hasRelations then some (acc ++ [a.tables.tables.getD 0 0])
    else
      match a.getTables rels with
      | none => none
      | some ts =>
        ts.foldl (fun acc t =>
          match acc with
          | none => none
          | some acc =>
            match (w.tbl t).matchesRels rels with
            | none => none
            | some true => some (acc ++ [t])
            | some false => some acc) (some acc)

theorem getCacheTables_eq_walk (w : World) (f : Filter) (rels : List RelID) :
    w.getCacheTables f rels = w.archetypes.foldl (w.walkStep f rels) (some []) := rfl

theorem walk_none (w : World) (f : Filter) (rels : List RelID) (l : List Archetype) :
    l.foldl (w.walkStep f rels) none = none :=
  OptFold.foldl_none _ (fun _ => rfl) l

/-- in every relation archetype the filter matches, the first given relation names a column (the
    Go code indexes `relationTables[componentsMap[rels[0].component]]`; `-1` is a runtime panic) -/
def HeadColOK (w : World) (f : Filter) (rels : List RelID) : Prop :=
  ∀ (a : Nat) (A : Archetype), w.archetypes[a]? = some A → f.matchesMask A.mask = true →
    A.hasRelations = true → ∀ (r : RelID), rels.head? = some r → (A.colIdx r.comp).isSome = true

theorem headColOK_of_walk {w : World} {f : Filter} {rels : List RelID} {ts : List Nat}
    (h : w.getCacheTables f rels = some ts) : HeadColOK w f rels := by
  rw [getCacheTables_eq_walk] at h
  intro a A hA hm hrel r hr
  suffices H : ∀ (l : List Archetype) (acc : List Nat) (ts : List Nat),
      l.foldl (w.walkStep f rels) (some acc) = some ts → A ∈ l → (A.colIdx r.comp).isSome = true from
    H _ _ _ h (List.mem_of_getElem? hA)
  intro l
  induction l with
  | nil => intro _ _ _ hmem; cases hmem
  | cons B l ih =>
    intro acc ts hf hmem
    rw [List.foldl_cons] at hf
    cases hstep : w.walkStep f rels (some acc) B with
    | none => rw [hstep, walk_none] at hf; cases hf
    | some acc' =>
      rw [hstep] at hf
      rcases List.mem_cons.mp hmem with rfl | hm'
      · cases hc : A.colIdx r.comp with
        | some i => rfl
        | none =>
          exfalso
          have hgt : A.getTables rels = none := by
            cases rels with
            | nil => cases hr
            | cons r' rest =>
              have : r' = r := by simpa using hr
              subst this
              simp only [Archetype.getTables, hrel, Bool.not_true, Bool.false_eq_true, if_false, hc]
          simp only [walkStep, hm, hrel, Bool.not_true, Bool.false_eq_true, if_false, hgt] at hstep
          cases hstep
      · exact ih acc' ts hf hm'

/-- `RelsOK` (the panic-freedom condition of the walk in ANY world, Ark/Proofs/CacheInv.lean;
    implied by what `relationSlice.ToRelations` checks for typed filters: every given relation
    component is a relation component in the filter's mask, `relsOK_of_mask`) implies `HeadColOK` -/
theorem HeadColOK.of_relsOK {w : World} {f : Filter} {rels : List RelID} (h : RelsOK w f rels) :
    HeadColOK w f rels := by
  intro a A hA hm hrel r hr
  obtain ⟨i, hi, _⟩ := (h a A hA hm hrel).2 r hr
  rw [hi]; rfl

/-- `Reset` keeps the archetypes' masks, columns and relation counts, so it keeps `HeadColOK` -/
theorem HeadColOK.resetW {w : World} (hS : SInv w) {f : Filter} {rels : List RelID}
    (h : HeadColOK w f rels) : HeadColOK (resetW w) f rels := by
  intro a A' hA' hm hrel r hr
  obtain ⟨A, hA, rfl⟩ := resetW_aget hS hA'
  rw [(resetArchOf_archRel _).mask] at hm
  rw [resetArchOf_hasRelations] at hrel
  simpa only [Archetype.colIdx, (resetArchOf_archRel _).comps] using h a A hA hm hrel r hr

/-- **the walk in the empty state**: it succeeds as soon as the first given relation names a
    column of every relation archetype the filter matches -/
theorem _root_.Ark.EmptyState.getCacheTables_some {w : World} (E : EmptyState w) {f : Filter}
    {rels : List RelID} (h : HeadColOK w f rels) : ∃ ts, w.getCacheTables f rels = some ts := by
  rw [getCacheTables_eq_walk]
  suffices H : ∀ (l : List Archetype) (acc : List Nat),
      (∀ A ∈ l, ∃ a, w.archetypes[a]? = some A) →
      ∃ ts, l.foldl (w.walkStep f rels) (some acc) = some ts from
    H _ _ (fun A hA => List.mem_iff_getElem?.mp hA)
  intro l
  induction l with
  | nil => intro acc _; exact ⟨acc, rfl⟩
  | cons A l ih =>
    intro acc hl
    rw [List.foldl_cons]
    obtain ⟨a, hA⟩ := hl A List.mem_cons_self
    have hl' : ∀ B ∈ l, ∃ b, w.archetypes[b]? = some B :=
      fun B hB => hl B (List.mem_cons_of_mem _ hB)
    suffices hs : ∃ acc', w.walkStep f rels (some acc) A = some acc' by
      obtain ⟨acc', hacc'⟩ := hs
      rw [hacc']; exact ih acc' hl'
    cases hm : f.matchesMask A.mask with
    | false => exact ⟨acc, by simp only [walkStep, hm, Bool.not_false, if_true]⟩
    | true =>
      cases hrel : A.hasRelations with
      | false =>
        exact ⟨acc ++ [A.tables.tables.getD 0 0], by simp only [walkStep, hm, hrel, Bool.not_true,
          Bool.not_false, Bool.false_eq_true, if_false, if_true]⟩
      | true =>
        obtain ⟨htabs, _, hrt, _⟩ := E.relArch a A hA hrel
        have hgt : A.getTables rels = some [] := by
          cases rels with
          | nil =>
            simp only [Archetype.getTables, hrel, Bool.not_true, Bool.false_eq_true, if_false, htabs]
          | cons r rest =>
            have hc := h a A hA hm hrel r rfl
            cases hci : A.colIdx r.comp with
            | none => rw [hci] at hc; cases hc
            | some i =>
              have hnil : A.relationTables.getD i [] = [] := by
                rw [List.getD_eq_getElem?_getD]
                cases hg : A.relationTables[i]? with
                | none => rfl
                | some m => exact hrt m (List.mem_of_getElem? hg)
              simp only [Archetype.getTables, hrel, Bool.not_true, Bool.false_eq_true, if_false, hci,
                hnil, AL.find?_nil]
        exact ⟨acc, by simp only [walkStep, hm, hrel, Bool.not_true, Bool.false_eq_true, if_false,
          hgt, List.foldl_nil]⟩

/-- the filter object behind a label -/
def filterObj (w : World) (f : Nat) : FilterObj := (AL.find? w.filters f).getD {}

theorem _root_.Ark.EmptyState.filterObj_cache {w : World} (E : EmptyState w) (f : Nat) :
    (w.filterObj f).cache = none := by
  unfold filterObj
  cases hf : AL.find? w.filters f with
  | none => rfl
  | some fo => exact E.filtersUnreg (f, fo) (AL.mem_of_find? _ _ _ hf)

/-- **`Register` of a filter in the empty state** succeeds (the "already registered" check passes,
    the walk does not panic) -/
theorem _root_.Ark.EmptyState.opFilterRegister_ok {w : World} (E : EmptyState w) (f : Nat)
    (h : HeadColOK w (w.filterObj f).filter (w.filterObj f).rels) :
    ∃ w', opFilterRegister f w = .ok () w' ∧ (w'.filterObj f).cache ≠ none := by
  obtain ⟨ts, hts⟩ := E.getCacheTables_some h
  have hc := E.filterObj_cache f
  have hreg := cacheRegister_eq w _ _ ts hts
  unfold filterObj at hc hreg
  have key : ∃ w', opFilterRegister f w = .ok () w' ∧
      w'.filters = AL.insert w.filters f
        { (AL.find? w.filters f).getD {} with cache := some (w.cache.pool.get).2 } := by
    simp only [opFilterRegister, bind, M.bind, M.get, M.assert, hc, Option.isNone_none, if_true,
      hreg, M.modify]
    exact ⟨_, rfl, rfl⟩
  obtain ⟨w', h1, h2⟩ := key
  refine ⟨w', h1, ?_⟩
  simp only [filterObj, h2, AL.find?_insert_self, Option.getD_some]
  intro hh; cases hh

theorem find?_map_vals {ν : Type} (m : AL ν) (F : Nat × ν → Nat × ν) (g : ν → ν)
    (hF : ∀ x, F x = (x.1, g x.2)) (k : Nat) : AL.find? (m.map F) k = (AL.find? m k).map g := by
  rw [funext hF]
  exact AL.find?_mapVals m g k

theorem filterObj_map (m : AL FilterObj) (F : Nat × FilterObj → Nat × FilterObj)
    (g : FilterObj → FilterObj) (hF : ∀ x, F x = (x.1, g x.2))
    (hg : ∀ fo, (g fo).filter = fo.filter ∧ (g fo).rels = fo.rels) (k : Nat) :
    ((AL.find? (m.map F) k).getD {}).filter = ((AL.find? m k).getD {}).filter ∧
    ((AL.find? (m.map F) k).getD {}).rels = ((AL.find? m k).getD {}).rels := by
  rw [find?_map_vals m F g hF]
  cases AL.find? m k with
  | none => exact ⟨rfl, rfl⟩
  | some fo => exact hg fo

theorem cacheReset_filterObj (w : World) (f : Nat) :
    (w.cacheReset.filterObj f).filter = (w.filterObj f).filter ∧
    (w.cacheReset.filterObj f).rels = (w.filterObj f).rels := by
  unfold cacheReset
  split
  · exact ⟨rfl, rfl⟩
  · refine filterObj_map w.filters _ (fun fo =>
      match fo.cache with
      | some id => if (w.cache.filters.map (·.id)).contains id then { fo with cache := none } else fo
      | none => fo) (fun x => rfl) ?_ f
    intro fo
    cases fo.cache with
    | none => exact ⟨rfl, rfl⟩
    | some id => simp only; split <;> exact ⟨rfl, rfl⟩

theorem resetW_filterObj (w : World) (f : Nat) :
    ((resetW w).filterObj f).filter = (w.filterObj f).filter ∧
    ((resetW w).filterObj f).rels = (w.filterObj f).rels := by
  have := cacheReset_filterObj w f
  simp only [filterObj] at this ⊢
  rw [resetW_filters]
  exact this

end World

/-- **filters can be registered again** — on an unlocked world satisfying the hypotheses of
    `reset_establishes`, `Reset` succeeds; afterwards every filter object has the filter and the
    relations it had, none is marked registered, and `Register` of any filter object whose walk
    did not panic before `Reset` (in particular: of any filter that was registered, or queried,
    with the archetypes present at the time of `Reset`) succeeds. -/
theorem filter_reregister (w : World) (hl : w.isLocked = false) (hS : SInv w) (hI : IdxInv w)
    (hR : RInv w) (hC : CacheInv w) (hFE : FreeEmpty w) (hRes : Reserved w) (hSt : StaleOK w)
    (hOB : ObsBound w) (hOR : ObsReg w) (hFR : FilterReg w) :
    ∃ (w' : World), opReset w = .ok () w' ∧
      ∀ f : Nat,
        (w'.filterObj f).filter = (w.filterObj f).filter ∧
        (w'.filterObj f).rels = (w.filterObj f).rels ∧
        (w'.filterObj f).cache = none ∧
        ((w.getCacheTables (w.filterObj f).filter (w.filterObj f).rels).isSome = true →
          ∃ w'', opFilterRegister f w' = .ok () w'' ∧ (w''.filterObj f).cache ≠ none) := by
  obtain ⟨w', hop, post⟩ := reset_establishes w hl hS hI hR hC hFE hRes hSt hOB hOR hFR
  have hw' : w' = resetW w := by
    rw [opReset_eq w hl] at hop
    injection hop with _ h; exact h.symm
  refine ⟨w', hop, fun f => ?_⟩
  obtain ⟨e1, e2⟩ := resetW_filterObj w f
  rw [← hw'] at e1 e2
  refine ⟨e1, e2, post.empty.filterObj_cache f, fun hsome => ?_⟩
  obtain ⟨ts, hts⟩ := Option.isSome_iff_exists.mp hsome
  have h1 : HeadColOK w' (w'.filterObj f).filter (w'.filterObj f).rels := by
    rw [e1, e2, hw']
    exact (headColOK_of_walk hts).resetW hS
  exact post.empty.opFilterRegister_ok f h1

namespace ObsMgr

theorem ObjRel.spec {m m' : ObsMgr} (h : ObjRel m m') (x : Nat) : (m'.obj x).spec = (m.obj x).spec := by
  rcases h x with h | h <;> rw [h]

theorem reset_objRel (m : ObsMgr) : ObjRel m m.reset := by
  rw [reset_eq]
  split
  · exact fun _ => Or.inl rfl
  · exact resetSteps_rel _ m

theorem reset_obj_spec (m : ObsMgr) (l : Nat) : (m.reset.obj l).spec = (m.obj l).spec :=
  (reset_objRel m).spec l

end ObsMgr

namespace World

/-- **`Register` of an observer that has no ID** succeeds when the two checks on its
    specification pass: it has a callback, and a relation observer names relation components only
    (the converse is `opObsRegister_ok_inv`) -/
theorem opObsRegister_ok_of {w : World} {l : Nat} (hid : (w.obs.obj l).oid = none)
    (hcb : (w.obs.obj l).spec.hasCallback = true) {d : ObsData}
    (hd : ObsMgr.computeData (w.obs.obj l).spec (fun c => w.isRelComp c) = some d) :
    ∃ w', opObsRegister l w = .ok () w' := by
  simp only [opObsRegister, bind, M.bind, M.get, M.assert, hid, Option.isNone_none, hcb, if_true, hd,
    M.set]
  exact ⟨_, rfl⟩

theorem opObsRegister_ok_inv {w w' : World} {l : Nat} (h : opObsRegister l w = .ok () w') :
    (w.obs.obj l).oid = none ∧ (w.obs.obj l).spec.hasCallback = true ∧
    ∃ d, ObsMgr.computeData (w.obs.obj l).spec (fun c => w.isRelComp c) = some d := by
  cases hid : (w.obs.obj l).oid with
  | some oid =>
    simp [opObsRegister, bind, M.bind, M.get, M.assert, hid] at h
  | none =>
    cases hcb : (w.obs.obj l).spec.hasCallback with
    | false =>
      simp [opObsRegister, bind, M.bind, M.get, M.assert, hid, hcb] at h
    | true =>
      cases hd : ObsMgr.computeData (w.obs.obj l).spec (fun c => w.isRelComp c) with
      | none =>
        simp [opObsRegister, bind, M.bind, M.get, M.assert, hid, hcb, hd, M.panic] at h
      | some d => exact ⟨rfl, rfl, d, rfl⟩

end World

/-- **observers can be registered again** — on an unlocked world satisfying the hypotheses of
    `reset_establishes`, `Reset` succeeds; afterwards every observer object has the specification
    it had and no ID, the registry is the same, and `Register` of any observer object succeeds
    iff its specification passes the two checks of `AddObserver` in the world before `Reset`
    (callback present; relation observers name relation components) — which it did whenever a
    registration of it succeeded (`opObsRegister_ok_inv`; the specification of an observer object
    never changes). -/
theorem observer_reregister (w : World) (hl : w.isLocked = false) (hS : SInv w) (hI : IdxInv w)
    (hR : RInv w) (hC : CacheInv w) (hFE : FreeEmpty w) (hRes : Reserved w) (hSt : StaleOK w)
    (hOB : ObsBound w) (hOR : ObsReg w) (hFR : FilterReg w) :
    ∃ (w' : World), opReset w = .ok () w' ∧
      (∀ c : Comp, w'.isRelComp c = w.isRelComp c) ∧
      ∀ l : Nat,
        (w'.obs.obj l).spec = (w.obs.obj l).spec ∧ (w'.obs.obj l).oid = none ∧
        ((∃ w'', opObsRegister l w' = .ok () w'') ↔
          ((w.obs.obj l).spec.hasCallback = true ∧
            ∃ d, ObsMgr.computeData (w.obs.obj l).spec (fun c => w.isRelComp c) = some d)) := by
  obtain ⟨w', hop, post⟩ := reset_establishes w hl hS hI hR hC hFE hRes hSt hOB hOR hFR
  have hw' : w' = resetW w := by
    rw [opReset_eq w hl] at hop
    injection hop with _ h; exact h.symm
  have hrel : ∀ c : Comp, w'.isRelComp c = w.isRelComp c := by
    intro c; simp only [isRelComp, post.kinds]
  have hrelf : (fun c => w'.isRelComp c) = fun c => w.isRelComp c := funext hrel
  refine ⟨w', hop, hrel, fun l => ?_⟩
  have hspec : (w'.obs.obj l).spec = (w.obs.obj l).spec := by
    rw [hw', resetW_obs]; exact ObsMgr.reset_obj_spec _ l
  refine ⟨hspec, post.empty.obsIds l, ?_⟩
  constructor
  · rintro ⟨w'', h⟩
    obtain ⟨_, h1, d, h2⟩ := opObsRegister_ok_inv h
    rw [hspec] at h1
    rw [hspec, hrelf] at h2
    exact ⟨h1, d, h2⟩
  · rintro ⟨h1, d, h2⟩
    exact opObsRegister_ok_of (post.empty.obsIds l) (by rw [hspec]; exact h1)
      (by rw [hspec, hrelf]; exact h2)

end Ark
