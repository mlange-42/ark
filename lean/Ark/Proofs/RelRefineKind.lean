/-
  What an expressible call of the relation machine `Ark.RelRefine` does, read off the
  specification.  A call whose precondition fails panics with the class `rejKind s.ss op` and
  leaves the world as it was (`exec_rej`); the class is computed from the specification in the
  order in which the Go code checks (see `rejKind`; `preKindP` is the pre-validation of the access
  path — the verdict `relsVerdict` of Ark/Proofs/PreCheck.lean read off the specification,
  `HInv.relsVerdict_eq` —, `scanKind` the scan of `getExchangeTargets`).  What an accepted call
  returns and does to pool and registry is `retSpec`, `poolAfter`, `kindsAfter`; the step lemmas of
  Ark/Proofs/RelRefineSteps.lean prove it (`ExecFacts`) and use `exec_rej` for their rejected half.
-/
import Ark.Proofs.RelRefine
import Ark.Proofs.RelRejects

set_option autoImplicit false

namespace Ark

open World Ark.Props.C01World

namespace RelRefine

open Refine (Comps keys sortedIds writeComps zeros)

def Op.creates : Op → Bool
  | .new _ _ _ _ => true
  | _ => false

def retSpec (fresh : Ent) (op : Op) : Option Ent := if op.creates = true then some fresh else none

def poolAfter (p : Pool) : Op → Pool
  | .new _ _ _ _ => (p.get).1
  | .del e => p.recycle e
  | _ => p

def kindsAfter (ks : List CompKind) : Op → List CompKind
  | .reg size z ir => ks ++ [{ isRel := ir, zst := z, size := size }]
  | _ => ks

/-- what the invariant says about an entry of the specification, in the form the lemmas about the
    operations ask for -/
structure Live (s : St) (fl : List Nat) (e : Ent) (en : Entry) : Prop where
  mem : (e, en) ∈ s.ss.ents
  alive : s.w.alive e = true
  ge2 : 2 ≤ e.id
  notFree : e.id ∉ fl
  slot : e.id < s.w.pool.ents.length
  mask : ∀ (c : Comp), (s.w.maskOf e).get c = true ↔ c ∈ keys en.comps

namespace HInv

variable {s : St} {fl : List Nat}

theorem live (H : HInv s fl) {e : Ent} {en : Entry} (hf : find s.ss.ents e = some en) :
    Live s fl e en := by
  have hm := find_some_mem hf
  obtain ⟨_, ha, h2, hnf, _, hsl0⟩ := H.live_facts hm
  have hsl := Pool.lt_of_slot hsl0
  exact ⟨hm, ha, h2, hnf, hsl, fun c => by
    rw [H.tinv.mask_iff_comps h2 hnf ha hsl (H.ok e en hm).comps c, H.comps_iff hm c]⟩

theorem alive_eq_find (H : HInv s fl) {e : Ent} (hi : e ∈ s.issued) :
    s.w.alive e = (find s.ss.ents e).isSome := by
  cases ha : s.w.alive e with
  | true =>
    obtain ⟨en, hf, _⟩ := H.find_of_alive hi ha
    rw [hf]; rfl
  | false => rw [H.find_of_dead hi ha]; rfl

theorem dead (H : HInv s fl) {e : Ent} (hi : e ∈ s.issued) (hf : find s.ss.ents e = none) :
    s.w.alive e = false := by rw [H.alive_eq_find hi, hf]; rfl

end HInv

def deadTgt (ents : Spec) (r : RelID) : Bool := !r.target.isZero && !(find ents r.target).isSome

/-- the pre-validation loop (`m` = the mapper's component mask for `MapN`, `none` for `Map`):
    the class of the first failing check, `none` if all pass -/
def preKind (ss : SS) (m : Option Mask) : Rels → Option PanicKind
  | [] => none
  | r :: rest =>
    if deadTgt ss.ents r = true then some .deadTarget
    else if ss.isRel.getD r.comp false = true then
      (if (match m with | some m => m.get r.comp | none => true) = true then preKind ss m rest
       else some .relNotInMask)
    else some .notRelation

/-- `preCheck p ids rels` of the model as a class (`HInv.preCheck_kind`) -/
def preKindP (ss : SS) (p : Path) (ids : List Comp) (rels : Rels) : Option PanicKind :=
  match p with
  | .unsafe_ => preKind ss (some (Mask.ofList ids)) rels
  | .map1 => preKind ss none rels
  | .typed => preKind ss (some (Mask.ofList ids)) rels

theorem preKindP_eq (ss : SS) (p : Path) (ids : List Comp) (rels : Rels) :
    preKindP ss p ids rels = preKind ss (checkMask p ids) rels := by cases p <;> rfl

theorem tgtsExpr_iff {s : St} {rels : Rels} :
    tgtsExpr s rels = true ↔ ∀ r ∈ rels, r.target.isZero = true ∨ r.target ∈ s.issued := by
  simp only [tgtsExpr, List.all_eq_true, Bool.or_eq_true, decide_eq_true_eq]

namespace HInv

variable {s : St} {fl : List Nat}

theorem deadTgt_eq (H : HInv s fl) {r : RelID}
    (hx : r.target.isZero = true ∨ r.target ∈ s.issued) :
    (!r.target.isZero && !s.w.alive r.target) = deadTgt s.ss.ents r := by
  rcases hx with hz | hi
  · simp only [deadTgt, hz, Bool.not_true, Bool.false_and]
  · simp only [deadTgt, H.alive_eq_find hi]

/-- on targets a client can name, `preKind` is the verdict `relsVerdict` of
    Ark/Proofs/PreCheck.lean read off the entries and the registry of the specification -/
theorem relsVerdict_eq (H : HInv s fl) (m : Option Mask) : ∀ {rels : Rels},
    tgtsExpr s rels = true → relsVerdict s.w m rels = preKind s.ss m rels
  | [], _ => rfl
  | r :: rest, hx => by
    have hx' := tgtsExpr_iff.mp hx
    have ih := relsVerdict_eq H m (rels := rest)
      (tgtsExpr_iff.mpr fun r' hr' => hx' r' (List.mem_cons_of_mem _ hr'))
    simp only [relsVerdict] at ih ⊢
    simp only [List.findSome?_cons, relVerdict, preKind, H.deadTgt_eq (hx' r List.mem_cons_self),
      ← H.rget, ih]
    cases deadTgt s.ss.ents r <;> cases s.ss.isRel.getD r.comp false <;> try rfl
    cases m with
    | none => rfl
    | some m => cases hm : m.get r.comp <;> simp [hm]

theorem preCheckTyped_kind (H : HInv s fl) (m : Mask) (rels : Rels) (hx : tgtsExpr s rels = true) :
    preCheckTyped m rels s.w =
      match preKind s.ss (some m) rels with
      | none => .ok () s.w
      | some k => .panic k s.w := by
  rw [preCheckTyped_eq, H.relsVerdict_eq _ hx]; rfl

theorem preCheck_kind (H : HInv s fl) (p : Path) (ids : List Comp) {rels : Rels}
    (hx : tgtsExpr s rels = true) :
    preCheck p ids rels s.w =
      match preKindP s.ss p ids rels with
      | none => .ok () s.w
      | some k => .panic k s.w := by
  rw [preCheck_eq, H.relsVerdict_eq _ hx, preKindP_eq]; rfl

/-- **a relation list that passes the pre-validation of path `p`** (targets a client can name)
    names valid targets and relation components only, and — except through `Map`, which has no
    membership check — components among `ids` -/
theorem valid_of_verdict (H : HInv s fl) {p : Path} {ids : List Comp} {rels : Rels}
    (hx : tgtsExpr s rels = true) (h : relsVerdict s.w (checkMask p ids) rels = none) :
    TargetsValid s.ss.ents rels ∧ (∀ r ∈ rels, s.ss.isRel.getD r.comp false = true) ∧
      (p ≠ .map1 → ∀ r ∈ rels, r.comp ∈ ids) := by
  have hv := preCheck_ok_valid p ids s.w rels (w' := s.w) (by rw [preCheck_eq, h])
  refine ⟨fun r hr => ?_, fun r hr => by rw [H.rget]; exact (hv r hr).2.1, fun hp r hr => ?_⟩
  · rcases (hv r hr).1 with hz | ha
    · exact Or.inl hz
    · rcases tgtsExpr_iff.mp hx r hr with hz | hi
      · exact Or.inl hz
      · exact Or.inr (by rw [← H.alive_eq_find hi]; exact ha)
  · have := (hv r hr).2.2 hp
    rw [Mask.get_ofList] at this
    simp only [Bool.and_eq_true, decide_eq_true_eq] at this
    exact this.2

theorem preKindP_none (H : HInv s fl) {p : Path} {ids : List Comp} {rels : Rels}
    (hx : tgtsExpr s rels = true) (h : preKindP s.ss p ids rels = none) :
    TargetsValid s.ss.ents rels ∧ (∀ r ∈ rels, s.ss.isRel.getD r.comp false = true) ∧
      (p ≠ .map1 → ∀ r ∈ rels, r.comp ∈ ids) :=
  H.valid_of_verdict hx (by rw [H.relsVerdict_eq _ hx, ← preKindP_eq]; exact h)

end HInv

/-- the scan of `getExchangeTargets` over the relations named, on the table of an entity with the
    entry `en` (`seen` = the components named so far): the class of the first failing check -/
def scanKind (en : Entry) : List Comp → Rels → Option PanicKind
  | _, [] => none
  | seen, r :: rest =>
    if seen.contains r.comp = true then some .relTwice
    else if decide (r.comp ∈ keys en.comps) = false then some .noRelComponent
    else if decide (r.comp ∈ en.rels.map (·.comp)) = false then some .notRelation
    else scanKind en (r.comp :: seen) rest

theorem scan_go_kind (T : Table) (w : World) (en : Entry)
    (hcol : ∀ (c : Comp), (T.colIdx c).isSome = true ↔ c ∈ keys en.comps)
    (hrel : ∀ (c : Comp) (i : Nat), T.colIdx c = some i →
      (T.isRel.getD i false = true ↔ c ∈ en.rels.map (·.comp))) {k : PanicKind} :
    ∀ (rels : Rels) (ts : List Ent) (ch : Bool) (cm : Mask) (seen : List Comp),
      scanKind en seen rels = some k →
      getExchangeTargets.go T w ts ch cm seen rels = .panic k w
  | [], _, _, _, _, h => by cases h
  | r :: rest, ts, ch, cm, seen, h => by
    simp only [scanKind] at h
    simp only [getExchangeTargets.go]
    cases hs : seen.contains r.comp with
    | true =>
      simp only [hs, if_true, Option.some.injEq] at h
      subst h; rfl
    | false =>
      simp only [hs, Bool.false_eq_true, if_false] at h ⊢
      cases hc : T.colIdx r.comp with
      | none =>
        have hk : r.comp ∉ keys en.comps := fun hm => by
          have := (hcol r.comp).mpr hm
          rw [hc] at this; cases this
        simp only [hk, decide_false, if_true, Option.some.injEq] at h
        subst h; rfl
      | some i =>
        have hk : r.comp ∈ keys en.comps := (hcol r.comp).mp (by rw [hc]; rfl)
        simp only [hk, decide_true, Bool.true_eq_false, if_false] at h
        simp only
        cases hi : T.isRel.getD i false with
        | false =>
          have hr : r.comp ∉ en.rels.map (·.comp) := fun hm => by
            have := (hrel r.comp i hc).mpr hm
            rw [hi] at this; cases this
          simp only [hr, decide_false, if_true, Option.some.injEq] at h
          subst h; rfl
        | true =>
          have hr : r.comp ∈ en.rels.map (·.comp) := (hrel r.comp i hc).mp hi
          simp only [hr, decide_true, Bool.true_eq_false, if_false] at h
          simp only [Bool.not_true, Bool.false_eq_true, if_false]
          split
          · exact scan_go_kind T w en hcol hrel rest _ _ _ _ h
          · exact scan_go_kind T w en hcol hrel rest _ _ _ _ h

theorem scan_kind (T : Table) (w : World) (en : Entry)
    (hcol : ∀ (c : Comp), (T.colIdx c).isSome = true ↔ c ∈ keys en.comps)
    (hrel : ∀ (c : Comp) (i : Nat), T.colIdx c = some i →
      (T.isRel.getD i false = true ↔ c ∈ en.rels.map (·.comp))) {k : PanicKind} {rels : Rels}
    (h : scanKind en [] rels = some k) : getExchangeTargets T rels w = .panic k w := by
  unfold getExchangeTargets
  rw [scan_go_kind T w en hcol hrel rels T.targets false Mask.empty [] h]

theorem scanKind_none (en : Entry) : ∀ (rels : Rels) (seen : List Comp),
    scanKind en seen rels = none →
    (rels.map (·.comp)).Nodup ∧ (∀ r ∈ rels, r.comp ∉ seen) ∧
      ∀ r ∈ rels, r.comp ∈ en.rels.map (·.comp)
  | [], _, _ => ⟨List.nodup_nil, fun _ h => absurd h List.not_mem_nil,
    fun _ h => absurd h List.not_mem_nil⟩
  | r :: rest, seen, h => by
    simp only [scanKind] at h
    cases hs : seen.contains r.comp with
    | true => simp only [hs, if_true] at h; cases h
    | false =>
      simp only [hs, Bool.false_eq_true, if_false] at h
      by_cases hk : r.comp ∈ keys en.comps
      · simp only [hk, decide_true, Bool.true_eq_false, if_false] at h
        by_cases hr : r.comp ∈ en.rels.map (·.comp)
        · simp only [hr, decide_true, Bool.true_eq_false, if_false] at h
          obtain ⟨h1, h2, h3⟩ := scanKind_none en rest (r.comp :: seen) h
          have hns : r.comp ∉ seen := fun hm => by
            rw [List.contains_iff_mem.2 hm] at hs; cases hs
          refine ⟨?_, ?_, ?_⟩
          · rw [List.map_cons, List.nodup_cons]
            refine ⟨fun hm => ?_, h1⟩
            obtain ⟨r', hr', he⟩ := List.mem_map.1 hm
            exact h2 r' hr' (by rw [he]; exact List.mem_cons_self)
          · intro r' hr'
            rcases List.mem_cons.1 hr' with rfl | hm
            · exact hns
            · exact fun hin => h2 r' hm (List.mem_cons_of_mem _ hin)
          · intro r' hr'
            rcases List.mem_cons.1 hr' with rfl | hm
            · exact hr
            · exact h3 r' hm
        · simp only [hr, decide_false, if_true] at h; cases h
      · simp only [hk, decide_false, if_true] at h; cases h

/-- **the panic class of a rejected call**, from the specification alone, in the order of the
    checks of the Go code.  `Add` through `Unsafe` / `Map` tests `Alive` first (`deadEntity`).
    Then every access path pre-validates the relations (`preKindP`: a dead target, a non-relation
    component, a component not among the added ones; `Add` through `Path.addCheck`,
    `SetRelations` through `Path.setRelCheck`).  Then: a full registry; a duplicate in the list of
    a `new`; a dead handle; an empty list; a component already present (or listed twice) / absent
    (or listed twice); for `SetRelations` the class the scan reports (`scanKind`; the default
    `deadTarget` is never reached: where pre-validation and scan pass, the precondition holds). -/
def rejKind (ss : SS) : Op → PanicKind
  | .reg _ _ _ => .registryFull
  | .new p ids _ rels => (preKindP ss p ids rels).getD .alreadyHas
  | .add p e ids _ rels =>
    match find ss.ents e with
    | none =>
      if p = .typed then (preKindP ss (p.addCheck ids) ids rels).getD .deadEntity else .deadEntity
    | some _ =>
      (preKindP ss (p.addCheck ids) ids rels).getD
        (if ids = [] then .noComponents else .alreadyHas)
  | .rem _ e ids =>
    match find ss.ents e with
    | none => .deadEntity
    | some _ => if ids = [] then .noComponents else .missing
  | .setrel p e rels =>
    (preKindP ss p.setRelCheck (rels.map (·.comp)) rels).getD
      (match find ss.ents e with
       | none => .deadEntity
       | some en => if rels = [] then .noRelations else (scanKind en [] rels).getD .deadTarget)
  | .set e _ =>
    match find ss.ents e with
    | none => .deadEntity
    | some _ => .missing
  | .del _ => .deadEntity

section Rej

variable (run : ProbeRunner) {s : St} {fl : List Nat}

theorem wf_of_pre_ok (H : HInv s fl) {p : Path} {ids : List Comp} {rels : Rels}
    (hx : tgtsExpr s rels = true) (hst : RelsStep s.ss.isRel p ids rels)
    (h : preKindP s.ss p ids rels = none) :
    RelsWF s.ss.isRel ids rels ∧ TargetsValid s.ss.ents rels := by
  obtain ⟨hv, hrel, hin⟩ := H.preKindP_none hx h
  obtain ⟨hrnd, hmap, hrall⟩ := hst
  refine ⟨⟨hrnd, fun r hr => ⟨?_, hrel r hr⟩, hrall⟩, hv⟩
  by_cases hp : p = .map1
  · exact hmap hp r hr
  · exact hin hp r hr

theorem rej_new (H : HInv s fl) (p : Path) (ids : List Comp) (vals : Comps) (rels : Rels)
    (hg : guard s (.new p ids vals rels) = true) (hnp : ¬ pre s.ss (.new p ids vals rels)) :
    exec run s.w (.new p ids vals rels) = .panic (rejKind s.ss (.new p ids vals rels)) s.w := by
  obtain ⟨⟨hreg, hst⟩, hx⟩ := guard_new.mp hg
  have hreg' : ∀ (c : Comp), c ∈ ids → c < s.w.kinds.length := by rw [← H.zlen]; exact hreg
  have hb256 : ∀ (c : Comp), c ∈ ids → c < 256 := fun c hc => H.reg256 (hreg' c hc)
  have hpk := H.preCheck_kind p ids hx
  cases hk : preKindP s.ss p ids rels with
  | some k =>
    rw [hk] at hpk
    simp only [exec, opNewEntity, bind, M.bind, hpk, rejKind, hk, Option.getD_some]
  | none =>
    rw [hk] at hpk
    obtain ⟨hwf, hv⟩ := wf_of_pre_ok H hx hst hk
    have hnd : ¬ ids.Nodup := fun hnd => hnp ⟨hnd, hreg, hwf, hv⟩
    have hrej := findOrCreateTableAdd_reject' 0 Mask.empty ids rels s.w hb256 (fun hh => hnd hh.1)
    simp only [exec, opNewEntity, newEntityCore, hpk, bind, M.bind, checkLocked_unlocked s.w H.unlocked,
      hrej, rejKind, hk, Option.getD_none]

theorem rej_add (H : HInv s fl) (p : Path) (e : Ent) (ids : List Comp) (vals : Comps) (rels : Rels)
    (hg : guard s (.add p e ids vals rels) = true) (hnp : ¬ pre s.ss (.add p e ids vals rels)) :
    exec run s.w (.add p e ids vals rels) = .panic (rejKind s.ss (.add p e ids vals rels)) s.w := by
  obtain ⟨⟨⟨hi, hreg⟩, hst⟩, hx⟩ := guard_add.mp hg
  have hb256 : ∀ (c : Comp), c ∈ ids → c < 256 :=
    fun c hc => H.reg256 (by rw [← H.zlen]; exact hreg c hc)
  have hpk := H.preCheck_kind (p.addCheck ids) ids hx
  -- past the `Alive` check of the path (if it has one): the pre-validation, then `World.add`
  have past : (p = .typed ∨ s.w.alive e = true) → ∀ {k : PanicKind},
      (preKindP s.ss (p.addCheck ids) ids rels = none → addCore e ids rels s.w = .panic k s.w) →
      exec run s.w (.add p e ids vals rels) =
        .panic ((preKindP s.ss (p.addCheck ids) ids rels).getD k) s.w := by
    intro ha k hcore
    cases hk : preKindP s.ss (p.addCheck ids) ids rels with
    | some k' => rw [hk] at hpk; simp only [exec, opAdd_preCheck_panic run vals ha hpk]; rfl
    | none =>
      rw [hk] at hpk; simp only [exec, opAdd_core_panic run vals ha hpk (hcore hk)]; rfl
  cases hf : find s.ss.ents e with
  | none =>
    have ha := H.dead hi hf
    by_cases hp : p = .typed
    · rw [past (Or.inl hp) fun _ => addCore_dead s.w H.unlocked e ha ids rels]
      simp only [rejKind, hf, if_pos hp]
    · simp only [exec, opAdd_dead_first run p hp e ids vals rels s.w ha, rejKind, hf, if_neg hp]
  | some en =>
    have L := H.live hf
    rw [past (Or.inr L.alive) (k := if ids = [] then .noComponents else .alreadyHas) fun hk => ?_]
    · simp only [rejKind, hf]
    by_cases hne : ids = []
    · subst hne
      exact addCore_noComponents s.w H.unlocked e L.alive rels
    · rw [if_neg hne]
      refine addCore_alreadyHas e ids rels s.w H.unlocked L.alive hne hb256 ?_
      rintro ⟨hnd, hnew⟩
      rw [Path.addCheck_of_ne_nil p hne] at hk
      obtain ⟨hwf, hv⟩ := wf_of_pre_ok H hx hst hk
      refine hnp ⟨en, hf, ⟨hne, hnd, fun c hc => ⟨hreg c hc, fun hk' => ?_⟩⟩, hwf, hv⟩
      have := (L.mask c).mpr hk'
      rw [hnew c hc] at this; cases this

theorem rej_rem (H : HInv s fl) (p : Path) (e : Ent) (ids : List Comp)
    (hg : guard s (.rem p e ids) = true) (hnp : ¬ pre s.ss (.rem p e ids)) :
    exec run s.w (.rem p e ids) = .panic (rejKind s.ss (.rem p e ids)) s.w := by
  have hi : e ∈ s.issued := by simpa only [guard, decide_eq_true_eq] using hg
  cases hf : find s.ss.ents e with
  | none =>
    simp only [exec, opRemove_dead_any run p e ids s.w H.unlocked (H.dead hi hf), rejKind, hf]
  | some en =>
    have L := H.live hf
    simp only [exec, opRemove_eq run _ e ids s.w L.alive, rejKind, hf]
    by_cases hne : ids = []
    · subst hne
      rw [removeCore_noComponents run s.w H.unlocked e L.alive, if_pos rfl]
    · rw [if_neg hne, removeCore_missing run e ids s.w H.unlocked L.alive hne fun ⟨hnd, hp⟩ =>
        hnp ⟨en, hf, hne, hnd, fun c hc => (L.mask c).mp (hp c hc)⟩]

theorem rej_set (H : HInv s fl) (e : Ent) (vals : Comps)
    (hg : guard s (.set e vals) = true) (hnp : ¬ pre s.ss (.set e vals)) :
    exec run s.w (.set e vals) = .panic (rejKind s.ss (.set e vals)) s.w := by
  have hi : e ∈ s.issued := by simpa only [guard, decide_eq_true_eq] using hg
  cases hf : find s.ss.ents e with
  | none =>
    simp only [exec, World.opSet_dead run s.w e (H.dead hi hf) (keys vals) vals, rejKind, hf]
  | some en =>
    have L := H.live hf
    have hop := opSet_rel_missing run H.tinv L.ge2 L.notFree L.alive L.slot (H.ok e en L.mem).comps
      (ids := keys vals) (fun hh => hnp ⟨en, hf, fun cv hcv =>
        (H.comps_iff L.mem cv.1).mp (hh cv.1 (List.mem_map.mpr ⟨cv, hcv, rfl⟩))⟩) vals
    simp only [exec, hop, rejKind, hf]

theorem rej_setrel (H : HInv s fl) (p : Path) (e : Ent) (rels : Rels)
    (hg : guard s (.setrel p e rels) = true) (hnp : ¬ pre s.ss (.setrel p e rels)) :
    exec run s.w (.setrel p e rels) = .panic (rejKind s.ss (.setrel p e rels)) s.w := by
  obtain ⟨hi, hx⟩ := guard_setrel.mp hg
  have hpk := H.preCheck_kind p.setRelCheck (rels.map (·.comp)) hx
  cases hk : preKindP s.ss p.setRelCheck (rels.map (·.comp)) rels with
  | some k =>
    rw [hk] at hpk
    simp only [exec, opSetRelations, bind, M.bind, hpk, rejKind, hk, Option.getD_some]
  | none =>
    rw [hk] at hpk
    have hv : TargetsValid s.ss.ents rels := (H.preKindP_none hx hk).1
    have hcore : ∀ {k : PanicKind}, setRelationsCore run e rels s.w = .panic k s.w →
        exec run s.w (.setrel p e rels) = .panic k s.w := by
      intro k hc
      simp only [exec, opSetRelations, bind, M.bind, hpk, hc]
    cases hf : find s.ss.ents e with
    | none =>
      rw [hcore (setRelationsCore_dead run s.w H.unlocked e (H.dead hi hf) rels)]
      simp only [rejKind, hk, hf, Option.getD_none]
    | some en =>
      obtain ⟨hm, ha, h2, hnf, hsl, _⟩ := H.live hf
      have ok := H.ok e en hm
      by_cases hne : rels = []
      · subst hne
        rw [hcore (setRelationsCore_noRelations run s.w H.unlocked e ha)]
        simp only [rejKind, hk, hf, Option.getD_none, if_true]
      · have hemp : rels.isEmpty = false := by
          cases rels with
          | nil => exact absurd rfl hne
          | cons _ _ => rfl
        obtain ⟨oldT, row, he, htm, _⟩ := H.tinv.link.live_entry h2 hnf ha hsl
        have hix := index_of_get he
        obtain ⟨hT, _, _⟩ := H.tinv.link.idx.indexed he htm
        have hcol : ∀ (c : Comp), ((s.w.tbl oldT).colIdx c).isSome = true ↔ c ∈ keys en.comps := by
          intro c
          have := H.tinv.has_iff_comps h2 hnf ha hsl ok.comps c
          rw [hix] at this
          rw [← H.comps_iff hm c]
          exact this
        have hrel : ∀ (c : Comp) (i : Nat), (s.w.tbl oldT).colIdx c = some i →
            ((s.w.tbl oldT).isRel.getD i false = true ↔ c ∈ en.rels.map (·.comp)) := by
          intro c i hc
          rw [← H.target_isSome_iff hm c, targetOf_of_entry he htm hT c]
          simp only [Table.targetAt, hc, Option.bind_some]
          cases (s.w.tbl oldT).isRel.getD i false <;> simp
        cases hsk : scanKind en [] rels with
        | some k =>
          have hx' := scan_kind (s.w.tbl oldT) s.w en hcol hrel hsk
          rw [hcore (setRelationsCore_panic_x run e rels s.w H.unlocked ha hemp hix hx')]
          simp only [rejKind, hk, hf, Option.getD_none, if_neg hne, hsk, Option.getD_some]
        | none =>
          obtain ⟨hrnd, _, hhas⟩ := scanKind_none en rels [] hsk
          exact absurd ⟨en, hf, hne, hrnd, hhas, hv⟩ hnp

end Rej

theorem exec_rej (run : ProbeRunner) {s : St} {fl : List Nat} (H : HInv s fl) {op : Op}
    (hg : guard s op = true) (hnp : ¬ pre s.ss op) :
    exec run s.w op = .panic (rejKind s.ss op) s.w := by
  cases op with
  | reg size z ir =>
    have hlt : ¬ s.ss.zst.length < 256 := hnp
    have hfull : s.w.maxComps ≤ s.w.kinds.length := by rw [H.maxc, ← H.zlen]; omega
    simp only [exec, registerComponent_full { isRel := ir, zst := z, size := size } s.w hfull,
      rejKind]
  | new p ids vals rels => exact rej_new run H p ids vals rels hg hnp
  | add p e ids vals rels => exact rej_add run H p e ids vals rels hg hnp
  | rem p e ids => exact rej_rem run H p e ids hg hnp
  | setrel p e rels => exact rej_setrel run H p e rels hg hnp
  | set e vals => exact rej_set run H e vals hg hnp
  | del e =>
    have hi : e ∈ s.issued := by simpa only [guard, decide_eq_true_eq] using hg
    cases hf : find s.ss.ents e with
    | none => simp only [exec, opRemoveEntity_dead run s.w H.unlocked e (H.dead hi hf), rejKind]
    | some en => exact absurd ⟨en, hf⟩ hnp

/-- the outcome of an expressible call in closed form, from the specification and the pool alone -/
structure ExecFacts (run : ProbeRunner) (s : St) (op : Op) : Prop where
  acc : pre s.ss op → ∃ w', exec run s.w op = .ok (retSpec (s.w.pool.get).2 op) w' ∧
    w'.pool = poolAfter s.w.pool op ∧ w'.kinds = kindsAfter s.w.kinds op
  rej : ¬ pre s.ss op → exec run s.w op = .panic (rejKind s.ss op) s.w

end RelRefine

end Ark
