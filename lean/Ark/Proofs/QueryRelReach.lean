/-
  Ark.Proofs.QueryRelReach — property C03 with RELATION TARGETS over histories.

  `Reach run w` — the world `w` is reached from `NewWorld` by accepted calls of
  `registerComponent`, `NewEntity(ids…, rels…)`, `RemoveEntity` (of relation targets too),
  `SetRelations`, `Add(ids…, rels…)` (the operations of `Ark.Props.C04World`, under the hypotheses
  of their `Good.*` theorems — among them: the relation targets named have IDs inside the pool
  slice, which every handle a world issued has) and complete iterations of queries with relation
  targets.

  `reach_qgood` — every such world is `QGood` and has no registered filter; hence
  `Ark.Props.C03Rel.reach_query` (an unregistered filter visits exactly the alive matching
  entities) and `reach_query_cached` (so does a filter registered in that world, through the cache).
-/
import Ark.Proofs.QueryRelAssign

set_option autoImplicit false

namespace Ark
namespace QueryRel

open World Drain Ark.Props.C01World QueryExact

structure QueryOK (w : World) (fo : FilterObj) (extra : List RelID) : Prop where
  uncached : fo.cache = none
  filterOK : FilterOK fo
  extraOK : fo.typed = true → ExtraOK w fo.filter.mask extra
  relsTyped : RelsTyped w fo.filter (fo.rels ++ extra)

/-- `run` is the callback runner; no observer is ever registered, so it is not consulted -/
inductive Reach (run : ProbeRunner) : World → Prop
  | init (cap rel : Nat) : Reach run (World.init cap rel)
  | reg {w : World} (k : CompKind) : Reach run w →
      panicOf (World.registerComponent k w) = none →
      Reach run (World.registerComponent k w).state
  | new {w : World} (p : Path) (ids : List Comp) (vals : List (Comp × Val)) (rels : List RelID) :
      Reach run w →
      (∀ (c : Comp), c ∈ ids → c < w.kinds.length) →
      (rels.map (·.comp)).Nodup → (∀ (r : RelID), r ∈ rels → r.comp ∈ ids) →
      (∀ (r : RelID), r ∈ rels → w.isRelComp r.comp = true) →
      (∀ (r : RelID), r ∈ rels → r.target.id < w.pool.ents.length) →
      w.tables.length < maxU32 → w.entities.length + 1 < 2 ^ 32 →
      panicOf (opNewEntity run p ids vals rels w) = none →
      Reach run (opNewEntity run p ids vals rels w).state
  | del {w : World} (g : Ent) : Reach run w →
      w.alive g = true → (w.index g.id).1 ≠ maxU32 → g.id < w.entities.length →
      w.tables.length + w.relationArchetypes.length + 1 ≤ maxU32 →
      2 * w.entities.length < 2 ^ 32 →
      Reach run (opRemoveEntity run g w).state
  | setRel {w : World} (p : Path) (e : Ent) (mapperIds : List Comp) (rels : List RelID) :
      Reach run w →
      w.alive e = true → (w.index e.id).1 ≠ maxU32 → e.id < w.entities.length →
      rels.isEmpty = false → (rels.map (·.comp)).Nodup →
      (∀ (r : RelID), r ∈ rels → (targetOf w e.id r.comp).isSome = true) →
      (∀ (r : RelID), r ∈ rels → r.target.id < w.pool.ents.length) →
      w.tables.length < maxU32 → w.entities.length + 1 < 2 ^ 32 →
      panicOf (opSetRelations run p e mapperIds rels w) = none →
      Reach run (opSetRelations run p e mapperIds rels w).state
  | add {w : World} (p : Path) (e : Ent) (ids : List Comp) (vals : List (Comp × Val))
      (rels : List RelID) : Reach run w →
      w.alive e = true → (w.index e.id).1 ≠ maxU32 → e.id < w.entities.length →
      (∀ (c : Comp), c ∈ ids → c < w.kinds.length) →
      (rels.map (·.comp)).Nodup → (∀ (r : RelID), r ∈ rels → r.comp ∈ ids) →
      (∀ (r : RelID), r ∈ rels → w.isRelComp r.comp = true) →
      (∀ (r : RelID), r ∈ rels → r.target.id < w.pool.ents.length) →
      w.tables.length < maxU32 → w.entities.length + 1 < 2 ^ 32 →
      panicOf (opAdd run p e ids vals rels w) = none →
      Reach run (opAdd run p e ids vals rels w).state
  | query {w : World} (fo : FilterObj) (extra : List RelID) : Reach run w →
      QueryOK w fo extra → Reach run (drain fo extra w).state

theorem Reach.new_of {run : ProbeRunner} {w : World} (r : Reach run w) {p : Path}
    {ids : List Comp} {vals : List (Comp × Val)} {rels : List RelID}
    (h : Good.NewOK run p ids vals rels w) : Reach run (opNewEntity run p ids vals rels w).state :=
  have ⟨h1, h2, h3, h4, h5, h6, h7, h8⟩ := h
  r.new p ids vals rels h1 h2 h3 h4 h5 h6 h7 h8

theorem Reach.del_of {run : ProbeRunner} {w : World} (r : Reach run w) {g : Ent}
    (h : Good.DelOK g w) : Reach run (opRemoveEntity run g w).state :=
  have ⟨h1, h2, h3, h4, h5⟩ := h
  r.del g h1 h2 h3 h4 h5

theorem Reach.setRel_of {run : ProbeRunner} {w : World} (r : Reach run w)
    {p : Path} {e : Ent} {mapperIds : List Comp} {rels : List RelID}
    (h : Good.SetRelOK run p e mapperIds rels w) :
    Reach run (opSetRelations run p e mapperIds rels w).state :=
  have ⟨h1, h2, h3, h4, h5, h6, h7, h8, h9, h10⟩ := h
  r.setRel p e mapperIds rels h1 h2 h3 h4 h5 h6 h7 h8 h9 h10

theorem Reach.add_of {run : ProbeRunner} {w : World} (r : Reach run w)
    {p : Path} {e : Ent} {ids : List Comp} {vals : List (Comp × Val)} {rels : List RelID}
    (h : Good.AddOK run p e ids vals rels w) : Reach run (opAdd run p e ids vals rels w).state :=
  have ⟨h1, h2, h3, h4, h5, h6, h7, h8, h9, h10, h11⟩ := h
  r.add p e ids vals rels h1 h2 h3 h4 h5 h6 h7 h8 h9 h10 h11

theorem reach_qgood (run : ProbeRunner) {w : World} (r : Reach run w) : QGood w ∧ CacheEmpty w := by
  induction r with
  | init cap rel => exact ⟨qgood_init cap rel, rfl, rfl⟩
  | @reg w k _ hnp ih =>
    obtain ⟨g, he⟩ := ih
    refine ⟨g.registerComponent k hnp, ?_⟩
    obtain ⟨n, hr⟩ := ok_of_panicOf hnp
    obtain ⟨fl, ht, _, _⟩ := g.good
    exact (registerComponent_qkeep ht hr).cache he
  | @new w p ids vals rels _ hreg hnd hin hrc htin hfew hrows hnp ih =>
    obtain ⟨g, he⟩ := ih
    refine ⟨g.newEntity run p hreg hnd hin hrc htin hfew hrows hnp, ?_⟩
    obtain ⟨e, hok⟩ := ok_of_panicOf hnp
    obtain ⟨fl, ht, hl, hno⟩ := g.good
    exact (opNewEntity_qkeep run p ht hl hno hreg hnd hin hfew hrows hok).1.cache he
  | @del w e _ ha hidx hlt hfew hrows ih =>
    obtain ⟨g, he⟩ := ih
    refine ⟨(g.removeEntity run ha hidx hlt hfew hrows).2, ?_⟩
    obtain ⟨fl, ht, hl, hno⟩ := g.good
    obtain ⟨h2, hnf⟩ := live_of_indexed ht hidx hlt
    obtain ⟨w3, hst, q3, _⟩ := opRemoveEntity_qkeep run ht hl hno h2 hnf ha
      (by rw [← ht.link.lenEq]; exact hlt) hfew hrows
    rw [hst]; exact q3.cache he
  | @setRel w p e mids rels _ ha hidx hlt hne hnd hhas htin hfew hrows hnp ih =>
    obtain ⟨g, he⟩ := ih
    refine ⟨g.setRelations run p ha hidx hlt hne hnd hhas htin hfew hrows hnp, ?_⟩
    obtain ⟨u, hok⟩ := ok_of_panicOf hnp
    obtain ⟨fl, ht, hl, hno⟩ := g.good
    obtain ⟨h2, hnf⟩ := live_of_indexed ht hidx hlt
    exact (opSetRelations_qkeep run p ht hl hno h2 hnf ha
      (by rw [← ht.link.lenEq]; exact hlt) hne hnd hhas hrows hok).cache he
  | @add w p e ids vals rels _ ha hidx hlt hreg hnd hin hrc htin hfew hrows hnp ih =>
    obtain ⟨g, he⟩ := ih
    refine ⟨g.add run p ha hidx hlt hreg hnd hin hrc htin hfew hrows hnp, ?_⟩
    obtain ⟨u, hok⟩ := ok_of_panicOf hnp
    obtain ⟨fl, ht, hl, hno⟩ := g.good
    obtain ⟨h2, hnf⟩ := live_of_indexed ht hidx hlt
    exact (opAdd_qkeep run p ht hl hno h2 hnf ha
      (by rw [← ht.link.lenEq]; exact hlt) hreg hnd hin hrows hok).cache he
  | @query w fo extra _ hq ih =>
    obtain ⟨g, he⟩ := ih
    obtain ⟨l1, l2, q, visits, hd, g2, _⟩ :=
      g.query fo extra hq.uncached hq.filterOK hq.extraOK hq.relsTyped
    rw [hd]
    exact ⟨g2, he⟩

end QueryRel
end Ark
