/-
  Ark.Proofs.RelRemove — C01 + C04 at world level: `Remove(e, ids…)` in a world WITH relations
  (`removeCore` / `opRemove`): the components that stay keep values and targets (about the removed
  ones `RemRelPost` says only that they are not among the components afterwards).  `World.remove`
  is `World.exchange` without additions (`removeCore_eq_exchangeCore`), so the specification is
  that of `Exchange` at `add = []`, `rels = []`; likewise the table lookup
  (`findOrCreateTableRemove_eq_add_rel`).
-/
import Ark.Proofs.RelExchangeOp

set_option autoImplicit false

namespace Ark

open World Ark.Props.C01World

namespace World

/-- `hroot`: the root table lists no relation, so starting `findOrCreateTableAdd` there hands
    exactly the old table's relations that stay to the lookup tail. -/
theorem findOrCreateTableRemove_eq_add_rel (oldT : Nat) (startMask m : Mask) (rem : List Comp)
    (w : World) (hg : graphFindRemove startMask rem w = .ok m w)
    (hroot : (w.tbl 0).relIDs = []) :
    findOrCreateTableRemove oldT startMask rem w =
      match findOrCreateTableAdd 0 m [] ((w.tbl oldT).relIDs.filter fun r => m.get r.comp) w with
      | .ok r w' => .ok (r.1, r.2.1, r.2.2, (w.tbl oldT).relIDs.any fun r => !m.get r.comp) w'
      | .panic k w' => .panic k w' := by
  simp only [findOrCreateTableRemove_eq, findOrCreateTableAdd_eq, bind, M.bind, hg, graphFindAdd,
    graphFindAdd.go, relsForAdd_eq, hroot, List.nil_append]
  cases tableFor m ((w.tbl oldT).relIDs.filter fun r => m.get r.comp) w <;> rfl

end World

structure RemRelPost (w : World) (fl : List Nat) (e : Ent) (ids : List Comp) (w' : World) :
    Prop where
  tinv : TInv w' fl
  pool : w'.pool = w.pool
  obs : w'.obs = w.obs
  locks : w'.locks = w.locks
  kinds : w'.kinds = w.kinds
  maxComps : w'.maxComps = w.maxComps
  relArchs : w'.relationArchetypes.length ≤ w.relationArchetypes.length + 1
  comps : ∀ (cs : List Comp), compsOf w e.id = some cs →
    compsOf w' e.id = some (Refine.sortedIds w.kinds.length (cs.filter fun c => decide (c ∉ ids)))
  kept : ∀ (c : Comp) (v : Val), valOf w e.id c = some v → c ∉ ids → valOf w' e.id c = some v
  oldTargets : ∀ (c : Comp) (x : Ent), targetOf w e.id c = some x → c ∉ ids →
    targetOf w' e.id c = some x
  frame : ∀ (j : Nat), j ≠ e.id → SameEnt w w' j ∧ ∀ (c : Comp), targetOf w' j c = targetOf w j c
  tablesLen : w'.tables.length ≤ w.tables.length + 1
  entitiesLen : w'.entities.length = w.entities.length

/-- `Remove(e, rem…)` is `Exchange` with nothing added and no relation targets -/
theorem XchgPre.ofRemove {w : World} {e : Ent} {rem : List Comp} (hne : rem ≠ []) (hnd : rem.Nodup)
    (hpres : ∀ (c : Comp), c ∈ rem → (w.maskOf e).get c = true) : XchgPre w e [] rem [] :=
  { nonempty := fun hh => hne hh.2, remNodup := hnd, remHas := hpres, addNodup := List.nodup_nil
    addReg := fun _ hc => nomatch hc
    addNew := fun _ hc => nomatch hc
    relsNodup := List.nodup_nil
    relsIn := fun _ hr => nomatch hr
    relsRel := fun _ hr => nomatch hr
    relsAll := fun _ hc => nomatch hc
    targets := fun _ hr => nomatch hr }

/-- **C01 + C04, `Remove`**, through any path: for `ids` non-empty, distinct, all of them components
    of `e` (relation components or not), unlocked, no observers, the call never fails. -/
theorem opRemove_rel_spec (run : ProbeRunner) (p : Path) {w : World} {fl : List Nat} (h : TInv w fl)
    (hl : w.isLocked = false) (hno : ∀ (evt : Nat), w.obs.hasObservers evt = false) {e : Ent}
    (h2 : 2 ≤ e.id) (hnf : e.id ∉ fl) (ha : w.alive e = true)
    (hsl : e.id < w.pool.ents.length) {ids : List Comp}
    (hne : ids ≠ []) (hnd : ids.Nodup)
    (hpres : ∀ (c : Comp), c ∈ ids → (w.maskOf e).get c = true)
    (hfew : w.tables.length < maxU32) (hrows : w.entities.length + 1 < 2 ^ 32) :
    ∃ (w' : World), opRemove run p e ids w = .ok () w' ∧ RemRelPost w fl e ids w' := by
  obtain ⟨w', hx, post⟩ := exchangeCore_rel_spec run h hl hno h2 hnf ha hsl
    (XchgPre.ofRemove hne hnd hpres) (fun _ hr => nomatch hr) hfew hrows
  refine ⟨w', by rw [opRemove_eq run p e ids w ha, removeCore_eq_exchangeCore, M.bind, hx]; rfl, ?_⟩
  exact
    { tinv := post.tinv, pool := post.pool, obs := post.obs, locks := post.locks, kinds := post.kinds
      maxComps := post.maxComps, relArchs := post.relArchs
      comps := fun cs hcs => by rw [post.comps cs hcs, List.append_nil]
      kept := post.kept, oldTargets := post.oldTargets, frame := post.frame
      tablesLen := post.tablesLen, entitiesLen := post.entitiesLen }

end Ark
