/-
  C09 at world level: what can be observed on the world a callback sees (the entity-set statement of C03
  on a world WITH observers; on the world a removal callback sees the lock is held, every entity is as
  before the operation and a query finds it exactly once), and what ONE `query` probe of the harness
  records there (the probe is not `ReadOnly`: it leaves the lock's bit pool changed).
-/
import Ark.Proofs.CallbacksOps

section

/-! ## §1 the world a callback sees

  On the world a REMOVAL callback sees (`seen_before*`), given a second `Lock()`/`Unlock()` cycle
  inside the one of the removal (a query opened by a callback), a query finds the entity exactly
  once, at its old row.  The callback runner of the harness, restricted to `look` probes,
  is read-only, log-blind and writes no `cb` records.
-/

set_option autoImplicit false

namespace Ark

open World Spec Ark.Props.C01World QueryExact Drain

/-! ### queries on a world with observers -/

namespace QueryExact

theorem TablesOK.of_noObs {w : World} {f : Filter} {ts : List Nat} (h : TablesOK w.noObs f ts) :
    TablesOK w f ts := ⟨h.nodup, h.sound, h.complete⟩

theorem ArchsOK.to_noObs {w : World} {f : Filter} {as : List Nat} (h : ArchsOK w f as) :
    ArchsOK w.noObs f as := ⟨h.nodup, h.lt, h.complete⟩

theorem ExactVisits.of_noObs {w : World} {fl : List Nat} {f : Filter} {vs : List Visit}
    (h : ExactVisits w.noObs fl f vs) : ExactVisits w fl f vs :=
  ⟨h.nodup, h.sound, h.complete, h.data⟩

end QueryExact

theorem drain_exact_of_selected_obs {w : World} {fl : List Nat} (h : CInvObs w fl) (fo : FilterObj)
    {l1 l2 : Lock} {b : Nat} (hu : l1.unlock b = some l2) {q : QueryObj}
    (ho : qOpen fo [] w = .ok q (w.withLocks l1)) (hqb : q.lockBit = b) {ts : List Nat}
    (hsel : qSelected (w.withLocks l1) q = some ts) (hok : TablesOK w fo.filter ts) :
    ∃ visits, QueryExactOn w fl fo (w.withLocks l1) q visits (w.withLocks l2) := by
  obtain ⟨visits, hd, h3, h4, hcnt, hat, hout⟩ :=
    drain_rows_of_selected fo [] hu ho hqb hsel hok.nodup
  exact ⟨visits, ho, hd, ExactVisits.of_noObs (exact_of_rows (w := w.noObs) h fo.filter ts
    ⟨hok.nodup, hok.sound, hok.complete⟩ visits h3 h4), hcnt, hat, hout⟩

theorem drain_exact_of_archs_obs {w : World} {fl : List Nat} (h : CInvObs w fl) (fo : FilterObj)
    (hc : fo.cache = none) {l1 l2 : Lock} {b : Nat} (hL : LockCycle w.locks l1 b l2)
    (hok : ArchsOK w fo.filter (w.archList (rareOf fo w))) :
    ∃ q visits, QueryExactOn w fl fo (w.withLocks l1) q visits (w.withLocks l2) := by
  have htab : TablesOK w fo.filter (selTables w fo.filter (w.archList (rareOf fo w))) :=
    TablesOK.of_noObs (TablesOK.of_archs (w := w.noObs) h hok.to_noObs)
  obtain ⟨visits, Q⟩ := drain_exact_of_selected_obs h fo hL.unlock
    (qOpen_uncached fo w l1 b hc hL.lock) rfl
    (qSelected_noRel (w.withLocks l1) (openedQ fo w b) rfl
      fun a ha => CInv.noRelArch' h (hok.lt a ha)) htab
  exact ⟨_, visits, Q⟩

/-- **the untyped walk on a world with observers** (`UnsafeFilter`, or a typed filter without
    type parameters): a complete iteration visits exactly the matching alive entities, each once,
    at the row the entity index records, and changes nothing but the lock's bit pool. -/
theorem drain_exact_untyped_obs {w : World} {fl : List Nat} (h : CInvObs w fl) (fo : FilterObj)
    (hc : fo.cache = none) (hu : fo.typed = false ∨ fo.ids = [])
    {l1 l2 : Lock} {b : Nat} (hL : LockCycle w.locks l1 b l2) :
    ∃ q visits, QueryExactOn w fl fo (w.withLocks l1) q visits (w.withLocks l2) :=
  drain_exact_of_archs_obs h fo hc hL (ArchsOK.of_untyped w fo hu)

/-! ### the world a removal callback sees -/

theorem Looked.refl {w : World} {fl : List Nat} (h : CInv w fl) : Looked w fl w where
  cinv := h
  entities := rfl
  pool := rfl
  kinds := rfl
  untouched := Untouched.refl w
  tables := fun _ _ => rfl
  tablesLen := ⟨Nat.le_refl _, Nat.le_succ _⟩
  same := fun _ => ⟨fun _ => rfl, rfl⟩
  alive := fun _ => rfl
  masks := fun _ _ => rfl

def occ (vs : List Visit) (i : Nat) : Nat := (vs.map (·.e.id)).count i

/-- **an exact visit list contains a matching live entity exactly once, at its row** -/
theorem ExactVisits.occ_one {w : World} {fl : List Nat} {f : Filter} {vs : List Visit}
    (h : ExactVisits w fl f vs) {i t r : Nat} (h2 : 2 ≤ i) (hnf : i ∉ fl)
    (hi : w.entities[i]? = some (t, r)) (ht : t ≠ maxU32)
    (hm : f.matchesMask (w.arch (w.tbl t).arch).mask = true) :
    occ vs i = 1 ∧ ∃ v ∈ vs, v.e.id = i ∧ v.table = t ∧ v.row = r := by
  obtain ⟨v, hv, h1, h2', h3⟩ := h.complete i t r h2 hnf hi ht hm
  refine ⟨count_eq_one_of_nodup h.nodup ?_, v, hv, h1, h2', h3⟩
  rw [← h1]
  exact List.mem_map_of_mem (f := fun v : Visit => v.e.id) hv

/-- **what a removal callback sees** (`Remove`, `Exchange`, `RemoveEntity`).  `w1` is the
    observer-free world after the table lookup of the operation (`Looked`; for `RemoveEntity`
    `w1 = w.noObs`); the callback runs on `w1` with the observers and the log of `w` and the lock
    state `l1` of an open `Lock()`/`Unlock()` cycle.  On that world: the lock is held; the
    invariant holds; every handle tests alive as before the operation; every entity has the
    component set and the values it had before the operation (so the components about to be removed
    are still readable with their current values); `NewEntity()` and every other operation
    guarded by `checkLocked` is rejected with the state unchanged. -/
theorem seen_before {w w1 : World} {fl : List Nat} (lk : Looked w.noObs fl w1)
    {l1 l2 : Lock} {b : Nat} (hL : LockCycle w.locks l1 b l2) :
    (w1.reframe w.obs w.log l1).isLocked = true ∧
    CInvObs (w1.reframe w.obs w.log l1) fl ∧
    (∀ x : Ent, (w1.reframe w.obs w.log l1).alive x = w.alive x) ∧
    (∀ j : Nat, SameEnt w (w1.reframe w.obs w.log l1) j) ∧
    (w1.reframe w.obs w.log l1).entities = w.entities ∧
    (∀ run : ProbeRunner, opNewEntity0 run (w1.reframe w.obs w.log l1)
      = .panic .locked (w1.reframe w.obs w.log l1)) := by
  have hlocked : (w1.reframe w.obs w.log l1).isLocked = true := Ark.LockCycle.locked hL
  exact ⟨hlocked, lk.cinv.toObs.reframe _ _ _, lk.alive, lk.same, lk.entities,
    fun run => opNewEntity0_locked run _ hlocked⟩

/-- **a query run by a removal callback finds the entity exactly once**: on the world a removal
    callback sees, a complete iteration of an uncached untyped query (its own lock cycle nested
    in the one of the operation) succeeds, restores everything but the lock's bit pool, and
    visits exactly the alive entities whose mask — their mask BEFORE the operation — matches;
    in particular the entity being changed, once, at the row it had before the operation. -/
theorem seen_before_query {w w1 : World} {fl : List Nat}
    (lk : Looked w.noObs fl w1) {l1 l2 : Lock} {b : Nat} (hL : LockCycle w.locks l1 b l2)
    {l1' l2' : Lock} {b' : Nat} (hL' : LockCycle l1 l1' b' l2') (fo : FilterObj)
    (hc : fo.cache = none) (hu : fo.typed = false ∨ fo.ids = []) :
    ∃ q visits, QueryExactOn (w1.reframe w.obs w.log l1) fl fo
      ((w1.reframe w.obs w.log l1).withLocks l1') q visits
      ((w1.reframe w.obs w.log l1).withLocks l2') :=
  drain_exact_untyped_obs (seen_before lk hL).2.1 fo hc hu hL'

theorem seen_before_mask {w w1 : World} {fl : List Nat} (h : CInvObs w fl)
    (lk : Looked w.noObs fl w1) (l1 : Lock) {i t r : Nat} (hi : w.entities[i]? = some (t, r))
    (ht : t ≠ maxU32) :
    ((w1.reframe w.obs w.log l1).arch ((w1.reframe w.obs w.log l1).tbl t).arch).mask
      = (w.arch (w.tbl t).arch).mask := by
  obtain ⟨hlt, _, _, halt, _, _⟩ := CInv.table_of_entry h hi ht
  have htb : w1.tbl t = w.tbl t := tbl_eq_of_get (lk.tables t hlt)
  show (w1.arch (w1.tbl t).arch).mask = _
  rw [htb]
  exact lk.masks _ halt

/-! ### the callback runner of the harness, restricted to `look` probes -/

/-- what a `look` probe records: liveness of the reported entity, the lock state, its components
    with their values and its relation targets, read through the entity index -/
def lookRec (w : World) (_l : Nat) (e : Ent) (p : Probe) : List LogEv :=
  match p with
  | .look =>
    if w.alive e then
      [.look true w.isLocked
        (((w.tbl (w.index e.id).1).ids.map fun c =>
          (c, ((w.tbl (w.index e.id).1).getComp c (w.index e.id).2).getD 0)))
        ((((w.tbl (w.index e.id).1).ids.zip (w.tbl (w.index e.id).1).targets).zip
            (w.tbl (w.index e.id).1).isRel).filterMap
          fun x => if x.2 then some (x.1.1, x.1.2) else none)]
    else [.look false w.isLocked [] []]
  | _ => []

/-- **the harness' runner is read-only on `look` probes** (for every nesting fuel ≥ 1) -/
theorem runProbe_readOnly (fuel : Nat) : ReadOnly (runProbe (fuel + 1)) (· = Probe.look) lookRec := by
  intro l e p w hp
  subst hp
  simp only [runProbe, bind, M.bind, M.get, lookRec]
  cases ha : w.alive e with
  | true =>
    simp only [if_true, logEv_eq]
  | false => simp only [Bool.false_eq_true, if_false, logEv_eq]

theorem probe_readOnly : ReadOnly World.probe (· = Probe.look) lookRec := runProbe_readOnly 3

theorem lookRec_logBlind : LogBlind lookRec := by
  intro w lg l e p
  cases p <;> rfl

theorem lookRec_noCb : NoCb lookRec := by
  intro w l e p ev hev
  cases p <;> simp only [lookRec] at hev
  · split at hev
    · simp only [List.mem_singleton] at hev; subst hev; rfl
    · simp only [List.mem_singleton] at hev; subst hev; rfl
  all_goals cases hev

/-- an abstract observing runner: every probe records `f` of the world it runs on -/
def observe (f : World → Nat → Ent → LogEv) : ProbeRunner :=
  fun l e _ w => .ok () { w with log := f w l e :: w.log }

theorem observe_readOnly (f : World → Nat → Ent → LogEv) :
    ReadOnly (observe f) (fun _ => True) (fun w l e _ => [f w l e]) :=
  fun _ _ _ _ _ => rfl

end Ark

end

section

/-! ## §2 the `query` probe

  The `query` probe of the harness is not read-only in the sense of `ReadOnly` (a complete
  iteration leaves the lock's bit pool changed, `QueryExact.lockAfterQuery_ne`), so the dispatch
  theorems do not cover it.  This section says what ONE `query` probe records on a world on which
  the iteration is exact: the total is the number of visits, and the reported entity occurs exactly
  once if the filter matches its mask (on the world a removal callback sees:
  `query_probe_in_removal_callback` of Ark/Props/C09World.lean).
-/

set_option autoImplicit false

namespace Ark

open World Spec Ark.Props.C01World QueryExact Drain

theorem runProbe_query (fuel : Nat) (l : Nat) (e : Ent) (f : Nat) (X X' : World) {vs : List Visit}
    (hd : drain ((AL.find? X.filters f).getD {}) [] X = .ok vs X') :
    runProbe (fuel + 1) l e (.query f) X
      = .ok () (X'.addLog [.q f vs.length (vs.filter fun v => v.e == e).length]) := by
  simp only [runProbe, bind, M.bind, M.get, tryW, hd, logEv_eq]

/-- counting by handle and by ID agree on an exact visit list when the entity's row holds its
    handle -/
theorem count_handle_eq_one {w : World} {fl : List Nat} {f : Filter} {vs : List Visit}
    (h : ExactVisits w fl f vs) {e : Ent} {t r : Nat} (h2 : 2 ≤ e.id) (hnf : e.id ∉ fl)
    (hi : w.entities[e.id]? = some (t, r)) (ht : t ≠ maxU32)
    (hm : f.matchesMask (w.arch (w.tbl t).arch).mask = true)
    (hrow : (w.tbl t).getEntity r = e) :
    (vs.filter fun v => v.e == e).length = 1 := by
  obtain ⟨hocc, v0, hv0, hid0, ht0, hr0⟩ := Ark.ExactVisits.occ_one h h2 hnf hi ht hm
  -- a visit has handle `e` iff it has ID `e.id`
  have hiff : ∀ v ∈ vs, (v.e == e) = (v.e.id == e.id) := by
    intro v hv
    obtain ⟨_, _, he, _, _, _, hve, _⟩ := h.sound v hv
    by_cases hid : v.e.id = e.id
    · have : v.e = e := by
        rw [hid, hi] at he
        obtain ⟨rfl, rfl⟩ := Prod.mk.inj (Option.some.inj he)
        rw [hve, hrow]
      rw [this, beq_self_eq_true, beq_self_eq_true]
    · have hne : v.e ≠ e := fun hh => hid (by rw [hh])
      rw [beq_eq_false_iff_ne.mpr hne, beq_eq_false_iff_ne.mpr hid]
  have hfilter : (vs.filter fun v => v.e == e) = vs.filter fun v => v.e.id == e.id :=
    List.filter_congr hiff
  rw [hfilter]
  have hcount : occ vs e.id = (vs.filter fun v => v.e.id == e.id).length := by
    unfold occ
    rw [List.count_eq_countP, List.countP_map, List.countP_eq_length_filter]
    rfl
  rw [← hcount, hocc]

end Ark

end

