/-
  C06 at world level: the lookup loop and the move loop of `exchangeBatch`
  (Ark.Proofs.BatchExchange), the single `Exchange` calls, and the batch without callback.  The
  lookup phase is shared with the callback batches (`XchgPlan`); the comparison of batch and
  singles is in Ark.Proofs.BatchExchangeFn.
-/
import Ark.Proofs.BatchExchange
import Ark.Proofs.BatchRemove
set_option autoImplicit false
namespace Ark
open Ark.Props.C01World
namespace World

/-! ## the lookup loop of `exchangeBatch` -/

/-- the mask after `Exchange(add, rem)` -/
def xmask (add rem : List Comp) (m : Mask) : Mask := add.foldl Mask.set (rem.foldl Mask.clear m)

theorem xmask_get (add rem : List Comp) (m : Mask) (c : Nat) :
    (xmask add rem m).get c =
      ((m.get c && !decide (c ∈ rem)) || decide (c < 256) && decide (c ∈ add)) := by
  rw [xmask, Mask.get_ofList_foldl, Mask.get_foldl_clear]

/-- the precondition of `Exchange(add, rem)` on the mask `m` (`n` registered component types) -/
structure ExchOK (n : Nat) (add rem : List Comp) (m : Mask) : Prop where
  remNodup : rem.Nodup
  pres : ∀ c : Comp, c ∈ rem → m.get c = true
  addNodup : add.Nodup
  reg : ∀ c : Comp, c ∈ add → c < n
  new : ∀ c : Comp, c ∈ add → m.get c = false

/-- the mask of table `t`: that of its archetype -/
def tmask (w : World) (t : Nat) : Mask := (w.arch (w.tbl t).arch).mask

/-- `w'` extends `w` by archetypes and tables (what the table lookups do) -/
structure Ext (w w' : World) : Prop where
  tables : ∀ t : Nat, t < w.tables.length → w'.tables[t]? = w.tables[t]?
  masks : ∀ b : Nat, b < w.archetypes.length → (w'.arch b).mask = (w.arch b).mask
  tablesLen : w.tables.length ≤ w'.tables.length
  archsLen : w.archetypes.length ≤ w'.archetypes.length
  entities : w'.entities = w.entities
  pool : w'.pool = w.pool
  kinds : w'.kinds = w.kinds
  log : w'.log = w.log
  untouched : Untouched w w'

theorem Ext.refl (w : World) : Ext w w :=
  ⟨fun _ _ => rfl, fun _ _ => rfl, Nat.le_refl _, Nat.le_refl _, rfl, rfl, rfl, rfl, Untouched.refl w⟩

theorem Ext.trans {a b c : World} (h1 : Ext a b) (h2 : Ext b c) : Ext a c :=
  ⟨fun t ht => (h2.tables t (Nat.lt_of_lt_of_le ht h1.tablesLen)).trans (h1.tables t ht),
    fun x hx => (h2.masks x (Nat.lt_of_lt_of_le hx h1.archsLen)).trans (h1.masks x hx),
    Nat.le_trans h1.tablesLen h2.tablesLen, Nat.le_trans h1.archsLen h2.archsLen,
    h2.entities.trans h1.entities, h2.pool.trans h1.pool, h2.kinds.trans h1.kinds,
    h2.log.trans h1.log, h1.untouched.trans h2.untouched⟩

theorem Ext.tbl {w w' : World} (h : Ext w w') {t : Nat} (ht : t < w.tables.length) :
    w'.tbl t = w.tbl t :=
  World.tbl_eq_of_get (h.tables t ht)

theorem Ext.tmask {w w' : World} (h : Ext w w') (hS : SInv w) {t : Nat} (ht : t < w.tables.length) :
    tmask w' t = tmask w t := by
  obtain ⟨A, hA, _⟩ := hS.tblArch t _ (get_of_lt ht)
  simp only [World.tmask, h.tbl ht]
  exact h.masks _ (alt_of_get hA)

theorem xmask_ne {n : Nat} {add rem : List Comp} {m : Mask} (ok : ExchOK n add rem m) (hn : n ≤ 256)
    (hne : ¬ (add = [] ∧ rem = [])) : xmask add rem m ≠ m :=
  Mask.exchange_ne hne ok.pres (fun c hc => Nat.lt_of_lt_of_le (ok.reg c hc) hn) ok.new

/-- one table lookup of the batch: the destination of the source table `t` -/
theorem findOrCreateTable_step {w : World} {fl : List Nat} (h : CInv w fl) {t : Nat}
    (ht : t < w.tables.length) {add rem : List Comp} (hne : ¬ (add = [] ∧ rem = []))
    (ok : ExchOK w.kinds.length add rem (tmask w t)) (hfew : w.tables.length < maxU32) :
    ∃ (d a : Nat) (w' : World),
      findOrCreateTable t (tmask w t) add rem [] w =
        .ok (d, a, xmask add rem (tmask w t), false) w' ∧
      CInv w' fl ∧ Ext w w' ∧ d < w'.tables.length ∧ d ≠ t ∧
      tmask w' d = xmask add rem (tmask w t) ∧ w'.tables.length ≤ w.tables.length + 1 := by
  obtain ⟨d, a, w1, hok, hfoc, fc, _, hsame, hneT⟩ :=
    h.table_lookup ht rfl hne ok.remNodup ok.pres ok.addNodup ok.reg ok.new
  have hu := findOrCreateTableAdd_untouched hok
  have hlen1 := findOrCreateTableAdd_tables_len hok
  refine ⟨d, a, w1, hfoc, h.of_lookup fc hu hlen1 hfew,
    ⟨hsame, fc.masks, fc.tablesLen, fc.archsLen, fc.entities, fc.pool, fc.kinds,
      findOrCreateTableAdd_log hok, hu⟩, fc.tblLt, hneT, ?_, hlen1⟩
  simp only [tmask, fc.tblArch, fc.archMask]
  rfl

/-- a source table of the original world `w0` and its destination in the world `W` -/
structure DestOK (w0 : World) (add rem : List Comp) (W : World) (b : BatchTable) : Prop where
  src : b.oldT < w0.tables.length
  nonempty : (w0.tbl b.oldT).len ≠ 0
  len : b.len = (w0.tbl b.oldT).len
  dlt : b.newT < W.tables.length
  ne : b.newT ≠ b.oldT
  dmask : tmask W b.newT = xmask add rem (tmask w0 b.oldT)

theorem DestOK.mono {w0 W W' : World} {add rem : List Comp} {b : BatchTable}
    (d : DestOK w0 add rem W b) (hS : SInv W) (e : Ext W W') : DestOK w0 add rem W' b :=
  ⟨d.src, d.nonempty, d.len, Nat.lt_of_lt_of_le d.dlt e.tablesLen, d.ne,
    (e.tmask hS d.dlt).trans d.dmask⟩

/-- **the lookup loop**: every non-empty selected table gets its destination; the world is
    extended by the archetypes and tables that did not exist -/
theorem findLoop_spec {w0 : World} (hS0 : SInv w0) {fl : List Nat} {add rem : List Comp}
    (hne : ¬ (add = [] ∧ rem = [])) : ∀ (ts : List Nat) (s : Bool × List BatchTable) (w : World),
    CInv w fl → Ext w0 w → (∀ t ∈ ts, t < w0.tables.length) →
    (∀ t ∈ ts, (w0.tbl t).len ≠ 0 → ExchOK w0.kinds.length add rem (tmask w0 t)) →
    w.tables.length + ts.length < maxU32 →
    ∃ (bts : List BatchTable) (w1 : World),
      findLoop add rem ts s w = .ok (s.1, s.2 ++ bts) w1 ∧ CInv w1 fl ∧ Ext w w1 ∧
      bts.map (·.oldT) = ts.filter (fun t => (w0.tbl t).len != 0) ∧
      (∀ b ∈ bts, DestOK w0 add rem w1 b) ∧ w1.tables.length ≤ w.tables.length + ts.length
  | [], s, w, h, _, _, _, _ =>
    ⟨[], w, (by simp [findLoop, pure, M.pure]), h, Ext.refl w, rfl, (fun b hb => by cases hb),
      Nat.le_refl _⟩
  | t :: ts, s, w, h, e0, hlt, hok, hfew => by
    have ht0 := hlt t List.mem_cons_self
    have ht : t < w.tables.length := Nat.lt_of_lt_of_le ht0 e0.tablesLen
    have htbl : w.tbl t = w0.tbl t := e0.tbl ht0
    have hlt' : ∀ t' ∈ ts, t' < w0.tables.length := fun t' h' => hlt t' (List.mem_cons_of_mem _ h')
    have hok' : ∀ t' ∈ ts, (w0.tbl t').len ≠ 0 → ExchOK w0.kinds.length add rem (tmask w0 t') :=
      fun t' h' => hok t' (List.mem_cons_of_mem _ h')
    simp only [List.length_cons] at hfew
    cases h0 : ((w0.tbl t).len == 0) with
    | true =>
      obtain ⟨bts, w1, i1, i2, i3, i4, i5, i6⟩ :=
        findLoop_spec hS0 hne ts s w h e0 hlt' hok' (by omega)
      refine ⟨bts, w1, ?_, i2, i3, ?_, i5, by simp only [List.length_cons]; omega⟩
      · simp only [findLoop, htbl, h0, if_true]; exact i1
      · rw [i4, List.filter_cons]
        have : ((w0.tbl t).len != 0) = false := by simp only [bne, h0, Bool.not_true]
        rw [this]; rfl
    | false =>
      have hnz : (w0.tbl t).len ≠ 0 := by simpa using h0
      have hmask : tmask w t = tmask w0 t := e0.tmask hS0 ht0
      have ok := hok t List.mem_cons_self hnz
      rw [← hmask, ← e0.kinds] at ok
      obtain ⟨d, a, w', hfoc, h', e', hd, hdne, hdm, hl'⟩ :=
        findOrCreateTable_step h ht hne ok (by omega)
      obtain ⟨bts, w1, i1, i2, i3, i4, i5, i6⟩ :=
        findLoop_spec hS0 hne ts (s.1, s.2 ++ [{ oldT := t, newT := d, len := (w.tbl t).len }]) w' h'
          (e0.trans e') hlt' hok' (by omega)
      refine ⟨{ oldT := t, newT := d, len := (w.tbl t).len } :: bts, w1, ?_, i2, e'.trans i3, ?_, ?_,
        by simp only [List.length_cons]; omega⟩
      · have hfoc' : findOrCreateTable t (w.arch (w.tbl t).arch).mask add rem [] w =
            .ok (d, a, xmask add rem (tmask w t), false) w' := hfoc
        simp only [findLoop, htbl, h0, Bool.false_eq_true, if_false]
        rw [← htbl, hfoc']
        simp only [Bool.false_eq_true, if_false]
        rw [i1]
        simp only [List.append_assoc, List.singleton_append]
      · rw [List.map_cons, i4, List.filter_cons]
        have : ((w0.tbl t).len != 0) = true := by simp only [bne, h0, Bool.not_false]
        rw [this]; rfl
      · intro b hb
        rcases List.mem_cons.mp hb with rfl | hb
        · exact DestOK.mono ⟨ht0, hnz, by rw [htbl], hd, hdne, by rw [hdm, hmask]⟩ h'.sinv i3
        · exact i5 b hb


/-! ## the move loop of `exchangeBatch` -/

/-- the moves are independent: distinct sources, distinct destinations, no destination is a
    source; all tables exist -/
structure MovesOK (W : World) (bts : List BatchTable) : Prop where
  srcNodup : (bts.map (·.oldT)).Nodup
  dstNodup : (bts.map (·.newT)).Nodup
  src : ∀ b ∈ bts, b.oldT < W.tables.length
  dst : ∀ b ∈ bts, b.newT < W.tables.length
  disj : ∀ b ∈ bts, ∀ b' ∈ bts, b.newT ≠ b'.oldT

def srcIds (W : World) (bts : List BatchTable) : List Nat :=
  ((bts.map (·.oldT)).flatMap (rowsOf W)).map (·.id)

structure MovedAllPost (W : World) (fl : List Nat) (bts : List BatchTable) (W' : World) : Prop where
  cinv : CInv W' fl
  pool : W'.pool = W.pool
  kinds : W'.kinds = W.kinds
  maxComps : W'.maxComps = W.maxComps
  archetypes : W'.archetypes = W.archetypes
  tablesLen : W'.tables.length = W.tables.length
  entitiesLen : W'.entities.length = W.entities.length
  /-- every entity of a source table has the components of the destination; a component the
      source had keeps its value, the others read zero -/
  moved : ∀ b ∈ bts, ∀ k : Nat, k < (W.tbl b.oldT).len →
    compsOf W' ((W.tbl b.oldT).getEntity k).id = some (W.tbl b.newT).ids ∧
    ∀ c : Comp, c ∈ (W.tbl b.newT).ids →
      valOf W' ((W.tbl b.oldT).getEntity k).id c =
        if c ∈ (W.tbl b.oldT).ids then valOf W ((W.tbl b.oldT).getEntity k).id c else some 0
  /-- every other entity is unchanged -/
  frame : ∀ j : Nat, j ∉ srcIds W bts → SameEnt W W' j

theorem mem_srcIds {W : World} {bts : List BatchTable} {j : Nat} :
    j ∈ srcIds W bts ↔ ∃ b ∈ bts, ∃ k, k < (W.tbl b.oldT).len ∧ ((W.tbl b.oldT).getEntity k).id = j := by
  simp only [srcIds, List.mem_map, List.mem_flatMap, mem_rowsOf]
  constructor
  · rintro ⟨e, ⟨t, ⟨b, hb, rfl⟩, k, hk, rfl⟩, rfl⟩
    exact ⟨b, hb, k, hk, rfl⟩
  · rintro ⟨b, hb, k, hk, rfl⟩
    exact ⟨_, ⟨b.oldT, ⟨b, hb, rfl⟩, k, hk, rfl⟩, rfl⟩

section Moves
variable {W : World} {b : BatchTable} {bts : List BatchTable}

theorem MovesOK.head (ok : MovesOK W (b :: bts)) :
    b.oldT < W.tables.length ∧ b.newT < W.tables.length ∧ b.oldT ≠ b.newT ∧
    ∀ b' ∈ bts, b'.oldT ≠ b.oldT ∧ b'.oldT ≠ b.newT ∧ b'.newT ≠ b.oldT ∧ b'.newT ≠ b.newT := by
  have hsn := List.nodup_cons.mp (List.map_cons ▸ ok.srcNodup)
  have hdn := List.nodup_cons.mp (List.map_cons ▸ ok.dstNodup)
  refine ⟨ok.src b List.mem_cons_self, ok.dst b List.mem_cons_self,
    fun hh => ok.disj b List.mem_cons_self b List.mem_cons_self hh.symm, fun b' hb' => ⟨?_, ?_, ?_, ?_⟩⟩
  · intro hh; exact hsn.1 (List.mem_map.mpr ⟨b', hb', hh⟩)
  · intro hh; exact ok.disj b List.mem_cons_self b' (List.mem_cons_of_mem _ hb') hh.symm
  · exact ok.disj b' (List.mem_cons_of_mem _ hb') b List.mem_cons_self
  · intro hh; exact hdn.1 (List.mem_map.mpr ⟨b', hb', hh⟩)

theorem MovesOK.tail {W' : World} (ok : MovesOK W (b :: bts)) (hl : W'.tables.length = W.tables.length) :
    MovesOK W' bts :=
  ⟨(List.nodup_cons.mp (List.map_cons ▸ ok.srcNodup)).2,
    (List.nodup_cons.mp (List.map_cons ▸ ok.dstNodup)).2,
    fun b' hb' => by rw [hl]; exact ok.src b' (List.mem_cons_of_mem _ hb'),
    fun b' hb' => by rw [hl]; exact ok.dst b' (List.mem_cons_of_mem _ hb'),
    fun b1 h1 b2 h2 => ok.disj b1 (List.mem_cons_of_mem _ h1) b2 (List.mem_cons_of_mem _ h2)⟩

/-- rows of different source tables hold different entities -/
theorem srcRows_ne (hI : IdxInv W) (hsn : ((b :: bts).map (·.oldT)).Nodup)
    (hlt : ∀ (b' : BatchTable), b' ∈ b :: bts → b'.oldT < W.tables.length) {b' : BatchTable}
    (hb' : b' ∈ bts) {k k' : Nat} (hk : k < (W.tbl b.oldT).len) (hk' : k' < (W.tbl b'.oldT).len) :
    ((W.tbl b.oldT).getEntity k).id ≠ ((W.tbl b'.oldT).getEntity k').id := fun heq =>
  (List.nodup_cons.mp hsn).1 (List.mem_map.mpr ⟨b', hb', ((hI.row_inj
    (get_of_lt (hlt b List.mem_cons_self)) (get_of_lt (hlt b' (List.mem_cons_of_mem _ hb'))) hk hk'
      heq).1).symm⟩)

/-- the source IDs of the later moves, after a step that keeps their source tables -/
theorem srcIds_step {W' : World} (hI : IdxInv W) (hsn : ((b :: bts).map (·.oldT)).Nodup)
    (hlt : ∀ (b' : BatchTable), b' ∈ b :: bts → b'.oldT < W.tables.length)
    (hsrc : ∀ b' ∈ bts, W'.tbl b'.oldT = W.tbl b'.oldT) :
    (∀ k : Nat, k < (W.tbl b.oldT).len → ((W.tbl b.oldT).getEntity k).id ∉ srcIds W' bts) ∧
    ∀ j : Nat, j ∉ srcIds W (b :: bts) →
      (∀ k : Nat, k < (W.tbl b.oldT).len → ((W.tbl b.oldT).getEntity k).id ≠ j) ∧
      j ∉ srcIds W' bts := by
  refine ⟨fun k hk hm => ?_, fun j hj => ⟨fun k hk heq => ?_, fun hm => ?_⟩⟩
  · obtain ⟨b', hb', k', hk', heq⟩ := mem_srcIds.mp hm
    rw [hsrc b' hb'] at hk' heq
    exact srcRows_ne hI hsn hlt hb' hk hk' heq.symm
  · exact hj (mem_srcIds.mpr ⟨b, List.mem_cons_self, k, hk, heq⟩)
  · obtain ⟨b', hb', k', hk', heq⟩ := mem_srcIds.mp hm
    rw [hsrc b' hb'] at hk' heq
    exact hj (mem_srcIds.mpr ⟨b', List.mem_cons_of_mem _ hb', k', hk', heq⟩)

end Moves

theorem CInv.rows_add_lt {W : World} {fl : List Nat} (h : CInv W fl)
    (hent : 2 * W.entities.length < 2 ^ 32) (t t' : Nat) : (W.tbl t).len + (W.tbl t').len < 2 ^ 32 := by
  have h1 := h.idx.rows_le t
  have h2 := h.idx.rows_le t'
  omega

/-- **the move loop** (no callback): the tables are moved one after the other -/
theorem moveLoop_post {fl : List Nat} : ∀ (bts : List BatchTable) {W : World}, CInv W fl →
    MovesOK W bts → 2 * W.entities.length < 2 ^ 32 →
    MovedAllPost W fl bts (bts.foldl (moveStep none) W)
  | [], W, h, _, _ =>
    { cinv := h, pool := rfl, kinds := rfl, maxComps := rfl, archetypes := rfl, tablesLen := rfl,
      entitiesLen := rfl, moved := (fun b hb => by cases hb),
      frame := fun _ _ => ⟨fun _ => rfl, rfl⟩ }
  | b :: bts, W, h, ok, hent => by
    obtain ⟨hbo, hbn, hne, hother⟩ := ok.head
    have tp := CInv.tableMoved h hne hbo hbn (CInv.rows_add_lt h hent _ _)
    -- the remaining moves do not touch the two tables
    have hsrc' : ∀ b' ∈ bts, (exchangeTableW W b.oldT b.newT).tbl b'.oldT = W.tbl b'.oldT :=
      fun b' hb' => tp.others _ (hother b' hb').1 (hother b' hb').2.1
    have hdst' : ∀ b' ∈ bts, (exchangeTableW W b.oldT b.newT).tbl b'.newT = W.tbl b'.newT :=
      fun b' hb' => tp.others _ (hother b' hb').2.2.1 (hother b' hb').2.2.2
    have ip := moveLoop_post bts tp.cinv (ok.tail tp.tablesLen) (by rw [tp.entitiesLen]; exact hent)
    obtain ⟨hsep, hsep'⟩ := srcIds_step h.idx ok.srcNodup ok.src hsrc'
    show MovedAllPost W fl (b :: bts) (bts.foldl (moveStep none) (exchangeTableW W b.oldT b.newT))
    exact
      { cinv := ip.cinv
        pool := ip.pool.trans tp.pool
        kinds := ip.kinds.trans tp.kinds
        maxComps := ip.maxComps.trans tp.maxComps
        archetypes := ip.archetypes.trans tp.archetypes
        tablesLen := ip.tablesLen.trans tp.tablesLen
        entitiesLen := ip.entitiesLen.trans tp.entitiesLen
        moved := by
          intro b1 hb1 k hk
          rcases List.mem_cons.mp hb1 with rfl | hb1
          · obtain ⟨_, m2, m3⟩ := tp.moved k hk
            have hs := ip.frame _ (hsep k hk)
            exact ⟨by rw [hs.2]; exact m2, fun c hc => by rw [hs.1 c]; exact m3 c hc⟩
          · have hk' : k < ((exchangeTableW W b.oldT b.newT).tbl b1.oldT).len := by
              rw [hsrc' b1 hb1]; exact hk
            obtain ⟨m2, m3⟩ := ip.moved b1 hb1 k hk'
            rw [hsrc' b1 hb1, hdst' b1 hb1] at m2 m3
            have hfr := (tp.frame _ fun k' hk' => srcRows_ne h.idx ok.srcNodup ok.src hb1 hk' hk).1
            exact ⟨m2, fun c hc => by rw [m3 c hc, hfr.1 c]⟩
        frame := by
          intro j hj
          obtain ⟨h1, h2⟩ := hsep' j hj
          exact ((tp.frame j h1).1).trans (ip.frame j h2) }


/-! ## the single `Exchange` calls -/

/-- the observable outcome of `Exchange(add, rem)` with the written values `vals` on every entity
    of `es` -/
structure ExchangedAllPost (w : World) (fl : List Nat) (es : List Ent) (add rem : List Comp)
    (vals : List (Comp × Val)) (w' : World) : Prop where
  cinv : CInv w' fl
  unlocked : w'.isLocked = w.isLocked
  kinds : w'.kinds = w.kinds
  pool : w'.pool = w.pool
  maxComps : w'.maxComps = w.maxComps
  aliveSame : ∀ x : Ent, w'.alive x = w.alive x
  comps : ∀ e ∈ es, compsOf w' e.id = some ((xmask add rem (w.maskOf e)).toList w.kinds.length)
  kept : ∀ e ∈ es, ∀ (c : Comp) (v : Val), (w.maskOf e).get c = true → c ∉ rem →
    valOf w e.id c = some v →
    valOf w' e.id c = some (if (w.kinds.getD c {}).zst = true then v else applyVals v vals c)
  gone : ∀ e ∈ es, ∀ c : Comp, c ∈ rem → valOf w' e.id c = none
  added : ∀ e ∈ es, ∀ c : Comp, c ∈ add →
    valOf w' e.id c = some (if (w.kinds.getD c {}).zst = true then 0 else applyVals 0 vals c)
  frame : ∀ j : Nat, j ∉ es.map (·.id) → SameEnt w w' j
  entitiesLen : w'.entities.length = w.entities.length

/-- `Exchange(add, rem)` writing `vals`, applied to the handles `l` in order -/
def exchangeSeq (run : ProbeRunner) (p : Path) (add rem : List Comp) (vals : List (Comp × Val))
    (l : List Ent) : W Unit :=
  M.forM' l fun e => opExchange run p e add vals rem []

/-- **the singles**: `Exchange` applied, in any order, to live handles with distinct IDs whose
    masks satisfy the precondition -/
theorem exchangeSeq_post (run : ProbeRunner) (p : Path) {add rem : List Comp}
    (hne : ¬ (add = [] ∧ rem = [])) (vals : List (Comp × Val)) :
    ∀ (l : List Ent) {w : World} {fl : List Nat}, CInv w fl → w.isLocked = false →
    (∀ e ∈ l, 2 ≤ e.id ∧ e.id ∉ fl ∧ w.alive e = true ∧ e.id < w.pool.ents.length ∧
      ExchOK w.kinds.length add rem (w.maskOf e)) →
    (l.map (·.id)).Nodup → w.tables.length + l.length < maxU32 → w.entities.length + 1 < 2 ^ 32 →
    ∃ w'', exchangeSeq run p add rem vals l w = .ok () w'' ∧
      ExchangedAllPost w fl l add rem vals w''
  | [], w, fl, h, _, _, _, _, _ =>
    ⟨w, rfl,
      { cinv := h, unlocked := rfl, kinds := rfl, pool := rfl, maxComps := rfl,
        aliveSame := fun _ => rfl, comps := (fun e he => by cases he),
        kept := (fun e he => by cases he), gone := (fun e he => by cases he),
        added := (fun e he => by cases he), frame := fun _ _ => ⟨fun _ => rfl, rfl⟩,
        entitiesLen := rfl }⟩
  | e :: l, w, fl, h, hl, hlive, hnd, hfew, hent => by
    obtain ⟨h2, hnf, ha, hin, ok⟩ := hlive e List.mem_cons_self
    have hnd' : e.id ∉ l.map (·.id) ∧ (l.map (·.id)).Nodup := by
      rw [List.map_cons] at hnd; exact List.nodup_cons.mp hnd
    simp only [List.length_cons] at hfew
    -- the head `e`: one `Exchange` from `w`, leaving `w1` with the postcondition `sp`
    have hrows : ∀ t : Nat, (w.tbl t).len + 1 < 2 ^ 32 := by
      intro t; have := h.idx.rows_le t; omega
    obtain ⟨w0, _, _, hstep, sp⟩ := opExchange_spec run p h hl h2 hnf ha hin hne ok.remNodup ok.pres
      ok.addNodup ok.reg ok.new vals (by omega) hrows
    generalize writeValsW w0 e vals = w1 at hstep sp
    -- the tail, seen from `w1`: its IDs differ from `e.id`, so `sp.frame` keeps their masks and
    -- with them `ExchOK`; pool and liveness are those of `w`
    have hne' : ∀ e' ∈ l, e'.id ≠ e.id := by
      intro e' he' heq
      exact hnd'.1 (heq ▸ List.mem_map_of_mem he')
    have hmask1 : ∀ e' ∈ l, w1.maskOf e' = w.maskOf e' := by
      intro e' he'
      obtain ⟨a, b, c, d, _⟩ := hlive e' (List.mem_cons_of_mem _ he')
      exact Mask.ext_get _ _ fun x _ => h.link.maskOf_get_congr h.sinv.toSInvMid sp.cinv.link
        sp.cinv.sinv.toSInvMid a b c d b (by rw [sp.aliveSame]; exact c) (by rw [sp.pool]; exact d)
        (sp.frame e'.id (hne' e' he')).2 x
    have hlive1 : ∀ e' ∈ l, 2 ≤ e'.id ∧ e'.id ∉ fl ∧ w1.alive e' = true ∧
        e'.id < w1.pool.ents.length ∧ ExchOK w1.kinds.length add rem (w1.maskOf e') := by
      intro e' he'
      obtain ⟨a, b, c, d, o⟩ := hlive e' (List.mem_cons_of_mem _ he')
      exact ⟨a, b, by rw [sp.aliveSame]; exact c, by rw [sp.pool]; exact d,
        by rw [sp.kinds, hmask1 e' he']; exact o⟩
    obtain ⟨w'', hrest, ip⟩ := exchangeSeq_post run p hne vals l sp.cinv
      (by rw [sp.unlocked]; exact hl) hlive1 hnd'.2
      (by have := sp.tablesLen; omega) (by rw [sp.entitiesLen]; exact hent)
    refine ⟨w'', ?_, ?_⟩
    · simp only [exchangeSeq, M.forM', bind, M.bind, hstep]
      exact hrest
    -- `e` is not in the tail: what `sp` says of it survives the rest (`hfe`).  For `e'` of the tail
    -- `ip` speaks in terms of `w1`; `hmask1`, `sp.frame`, `sp.kinds` bring it back to `w`
    · have hfe := ip.frame e.id hnd'.1
      exact
        { cinv := ip.cinv
          unlocked := ip.unlocked.trans sp.unlocked
          kinds := ip.kinds.trans sp.kinds
          pool := ip.pool.trans sp.pool
          maxComps := ip.maxComps.trans sp.maxComps
          aliveSame := fun x => (ip.aliveSame x).trans (sp.aliveSame x)
          comps := by
            intro e' he'
            rcases List.mem_cons.mp he' with rfl | he'
            · rw [hfe.2]; exact sp.comps
            · rw [ip.comps e' he', hmask1 e' he', sp.kinds]
          kept := by
            intro e' he' c v hc hnr hv
            rcases List.mem_cons.mp he' with rfl | he'
            · rw [hfe.1 c]; exact sp.kept c v hc hnr hv
            · rw [ip.kept e' he' c v (by rw [hmask1 e' he']; exact hc) hnr
                (by rw [(sp.frame e'.id (hne' e' he')).1 c]; exact hv), sp.kinds]
          gone := by
            intro e' he' c hc
            rcases List.mem_cons.mp he' with rfl | he'
            · rw [hfe.1 c]; exact sp.gone c hc
            · exact ip.gone e' he' c hc
          added := by
            intro e' he' c hc
            rcases List.mem_cons.mp he' with rfl | he'
            · rw [hfe.1 c]; exact sp.added c hc
            · rw [ip.added e' he' c hc, sp.kinds]
          frame := by
            intro j hj
            simp only [List.map_cons, List.mem_cons, not_or] at hj
            exact (sp.frame j hj.1).trans (ip.frame j hj.2)
          entitiesLen := ip.entitiesLen.trans sp.entitiesLen }


/-! ## the batch -/

theorem cinv_withLocks {w : World} {fl : List Nat} (h : CInv w fl) (l : Lock) (lg : List LogEv) :
    CInv { w with locks := l, log := lg } fl :=
  h.put4 (w.obs, lg, l, w.stats) h.noObs

/-- a mask cannot satisfy the precondition both before and after the exchange -/
theorem xmask_not_ok {n : Nat} {add rem : List Comp} {m : Mask} (ok : ExchOK n add rem m)
    (hn : n ≤ 256) (hne : ¬ (add = [] ∧ rem = [])) : ¬ ExchOK n add rem (xmask add rem m) := by
  intro ok2
  cases add with
  | cons c rest =>
    have h1 := ok2.new c List.mem_cons_self
    rw [xmask_get] at h1
    have hc256 : c < 256 := Nat.lt_of_lt_of_le (ok.reg c List.mem_cons_self) hn
    simp [hc256] at h1
  | nil =>
    cases rem with
    | nil => exact hne ⟨rfl, rfl⟩
    | cons c rest =>
      have h1 := ok2.pres c List.mem_cons_self
      rw [xmask_get] at h1
      simp at h1

theorem xmask_inj {n : Nat} {add rem : List Comp} {m m' : Mask} (ok : ExchOK n add rem m)
    (ok' : ExchOK n add rem m') (heq : xmask add rem m = xmask add rem m') : m = m' := by
  apply Mask.ext_get
  intro c hc
  have hg := congrArg (fun x => Mask.get x c) heq
  simp only [xmask_get] at hg
  by_cases ha : c ∈ add
  · rw [ok.new c ha, ok'.new c ha]
  · by_cases hr : c ∈ rem
    · rw [ok.pres c hr, ok'.pres c hr]
    · simpa [ha, hr] using hg

/-- two existing tables of the fragment with the same mask are the same table -/
theorem tmask_inj {w : World} {fl : List Nat} (h : CInv w fl) {t t' : Nat} (ht : t < w.tables.length)
    (ht' : t' < w.tables.length) (heq : tmask w t = tmask w t') : t = t' := by
  obtain ⟨A, hA, hAt⟩ := cinv_table_arch h ht
  obtain ⟨A', hA', hAt'⟩ := cinv_table_arch h ht'
  simp only [tmask, arch_of_get hA, arch_of_get hA'] at heq
  have ha := h.sinv.maskUniq _ _ A A' hA hA' heq
  rw [ha] at hA
  rw [hA'] at hA
  have := Option.some.inj hA
  subst this
  rw [← hAt, ← hAt']

theorem cinv_tbl_ids {w : World} {fl : List Nat} (h : CInv w fl) {t : Nat} (ht : t < w.tables.length) :
    (w.tbl t).ids = (tmask w t).toList w.kinds.length := by
  obtain ⟨A, hA, e1, _⟩ := h.sinv.tblArch t _ (get_of_lt ht)
  rw [e1, (h.sinv.comps _ A hA).1, tmask, arch_of_get hA]

theorem tmask_reg {w : World} {fl : List Nat} (h : CInv w fl) {t : Nat} (ht : t < w.tables.length)
    {c : Nat} (hc : (tmask w t).get c = true) : c < w.kinds.length :=
  h.sinv.toSInvMid.tblMask_reg (get_of_lt ht) c hc

theorem mem_tbl_ids_iff {w : World} {fl : List Nat} (h : CInv w fl) {t : Nat} (ht : t < w.tables.length)
    {c : Comp} : c ∈ (w.tbl t).ids ↔ (tmask w t).get c = true :=
  h.sinv.toSInvMid.mem_ids_iff ht c

theorem maskOf_row {w : World} {fl : List Nat} (h : CInv w fl) {t k : Nat} (ht : t < w.tables.length)
    (hk : k < (w.tbl t).len) : w.maskOf ((w.tbl t).getEntity k) = tmask w t := by
  simp only [maskOf, index_of_get (h.idx.rowIdx t _ k (get_of_lt ht) hk), tmask]

/-- the moves found by the lookup loop are independent -/
theorem movesOK_of_dest {w0 W : World} {fl : List Nat} (h0 : CInv w0 fl) (e : Ext w0 W)
    {add rem : List Comp} (hne : ¬ (add = [] ∧ rem = [])) {bts : List BatchTable}
    (hsrc : (bts.map (·.oldT)).Nodup) (hd : ∀ b ∈ bts, DestOK w0 add rem W b)
    (hok : ∀ b ∈ bts, ExchOK w0.kinds.length add rem (tmask w0 b.oldT)) :
    MovesOK W bts := by
  have hn : w0.kinds.length ≤ 256 := by have := h0.kindsLe; omega
  refine ⟨hsrc, ?_, fun b hb => Nat.lt_of_lt_of_le (hd b hb).src e.tablesLen, fun b hb => (hd b hb).dlt,
    ?_⟩
  · unfold List.Nodup at hsrc ⊢
    rw [List.pairwise_map] at hsrc ⊢
    refine List.Pairwise.imp_of_mem ?_ hsrc
    intro b b' hb hb' hne' heq
    apply hne'
    have m1 := (hd b hb).dmask
    have m2 := (hd b' hb').dmask
    rw [heq, m2] at m1
    exact tmask_inj h0 (hd b hb).src (hd b' hb').src (xmask_inj (hok b hb) (hok b' hb') m1.symm)
  · intro b hb b' hb' heq
    have m1 := (hd b hb).dmask
    rw [heq, e.tmask h0.sinv (hd b' hb').src] at m1
    have := hok b' hb'
    rw [m1] at this
    exact xmask_not_ok (hok b hb) hn hne this

/-- the written value: a zero-size component keeps what it reads, otherwise the last write wins -/
def written (w : World) (vs : List (Comp × Val)) (c : Comp) (v : Val) : Val :=
  if (w.kinds.getD c {}).zst = true then v else applyVals v vs c

theorem written_nil (w : World) (c : Comp) : written w [] c = id := by
  funext v
  simp only [written, applyVals, List.foldl_nil, ite_self, id]

/-- an exchange batch up to its move loop: the lock cycle `w.locks → l' → l''`, the moves `bts`
    the lookup loop found, the world `w1` it left, and the batch as the fold of these moves -/
structure XchgPlan (run : ProbeRunner) (w : World) (fl : List Nat) (fo : FilterObj)
    (extra : List RelID) (add rem : List Comp) (l' l'' : Lock) (bts : List BatchTable) (w1 : World) :
    Prop where
  locked : l'.isLocked = true
  unlocked : l''.isLocked = false
  free : LockFree l''
  cinv : CInv w1 fl
  ext : Ext { w with locks := l' } w1
  srcs : bts.map (·.oldT) = (selTables w fo.filter).filter fun t => (w.tbl t).len != 0
  dest : ∀ b ∈ bts, DestOK { w with locks := l' } add rem w1 b
  moves : MovesOK w1 bts
  tablesLe : w1.tables.length ≤ w.tables.length + (selTables w fo.filter).length
  eq : ∀ vals, exchangeBatch run fo extra add rem [] vals w =
    .ok () { bts.foldl (moveStep vals) w1 with locks := l'' }

section Plan
variable {run : ProbeRunner} {w : World} {fl : List Nat} {fo : FilterObj} {extra : List RelID}
  {add rem : List Comp} {l' l'' : Lock} {bts : List BatchTable} {w1 : World}

theorem XchgPlan.src_mem (P : XchgPlan run w fl fo extra add rem l' l'' bts w1) {b : BatchTable}
    (hb : b ∈ bts) : b.oldT ∈ selTables w fo.filter ∧ (w.tbl b.oldT).len ≠ 0 := by
  have : b.oldT ∈ bts.map (·.oldT) := List.mem_map_of_mem hb
  rw [P.srcs, List.mem_filter, bne_iff_ne] at this
  exact this

theorem XchgPlan.dst_ids (P : XchgPlan run w fl fo extra add rem l' l'' bts w1) {b : BatchTable}
    (hb : b ∈ bts) :
    (w1.tbl b.newT).ids = (xmask add rem (tmask w b.oldT)).toList w.kinds.length := by
  rw [cinv_tbl_ids P.cinv (P.dest b hb).dlt, (P.dest b hb).dmask, P.ext.kinds]; rfl

/-- an entity of the selection: its table, its row, its move -/
theorem XchgPlan.sel (P : XchgPlan run w fl fo extra add rem l' l'' bts w1) (h : CInv w fl) :
    ∀ e ∈ selEnts w fo.filter, ∃ b ∈ bts, ∃ k, k < (w.tbl b.oldT).len ∧
      (w.tbl b.oldT).getEntity k = e ∧ b.oldT < w.tables.length ∧ w.maskOf e = tmask w b.oldT := by
  intro e he
  obtain ⟨t, k, ht, hk, rfl⟩ := mem_selEnts.mp he
  have : t ∈ bts.map (·.oldT) := by
    rw [P.srcs, List.mem_filter, bne_iff_ne]
    exact ⟨ht, by omega⟩
  obtain ⟨b0, hb0, rfl⟩ := List.mem_map.mp this
  have hlt := (selTables_tableSet h fo.filter).lt _ ht
  exact ⟨b0, hb0, k, hk, rfl, hlt, maskOf_row h hlt hk⟩

/-- **from the move loop to the batch**: when the world `Wf` the move loop leaves has, for every
    moved row, the components of the destination and the kept values (zero for the others) with
    `vs` written over them, the batch has exchanged the components of every selected entity -/
theorem XchgPlan.post (P : XchgPlan run w fl fo extra add rem l' l'' bts w1) (h : CInv w fl)
    (hl : w.isLocked = false)
    (hok : ∀ t ∈ selTables w fo.filter, (w.tbl t).len ≠ 0 →
      ExchOK w.kinds.length add rem (tmask w t))
    {vs : List (Comp × Val)} {Wf : World} (hcinv : CInv Wf fl) (hpool : Wf.pool = w1.pool)
    (hkinds : Wf.kinds = w1.kinds) (hmax : Wf.maxComps = w1.maxComps)
    (hlen : Wf.entities.length = w1.entities.length)
    (moved : ∀ b ∈ bts, ∀ k : Nat, k < (w1.tbl b.oldT).len →
      compsOf Wf ((w1.tbl b.oldT).getEntity k).id = some (w1.tbl b.newT).ids ∧
      ∀ c : Comp, c ∈ (w1.tbl b.newT).ids →
        valOf Wf ((w1.tbl b.oldT).getEntity k).id c =
          (if c ∈ (w1.tbl b.oldT).ids then valOf w1 ((w1.tbl b.oldT).getEntity k).id c
            else some 0).map (written w1 vs c))
    (frame : ∀ j : Nat, j ∉ srcIds w1 bts → SameEnt w1 Wf j) :
    ExchangedAllPost w fl (selEnts w fo.filter) add rem vs { Wf with locks := l'' } := by
  have S := selTables_tableSet h fo.filter
  -- `w1` is `w` with the lock taken and tables appended: every entity reads the same in both, the
  -- tables of `w` and the registry are unchanged
  have hwl : CInv { w with locks := l' } fl := cinv_withLocks h l' w.log
  have hsw1 : ∀ j : Nat, SameEnt w w1 j :=
    fun j => same_of_prefix hwl.idx P.ext.entities P.ext.tables j
  have htbl1 : ∀ t : Nat, t < w.tables.length → w1.tbl t = w.tbl t := fun t ht => P.ext.tbl ht
  have hk1 : w1.kinds = w.kinds := P.ext.kinds
  have hokb : ∀ b ∈ bts, ExchOK w.kinds.length add rem (tmask w b.oldT) :=
    fun b0 hb0 => hok _ (P.src_mem hb0).1 (P.src_mem hb0).2
  -- releasing the lock at the end changes nothing `valOf` and `compsOf` read
  have hfin : ∀ (j : Nat) (c : Comp),
      valOf ({ Wf with locks := l'' } : World) j c = valOf Wf j c := fun j c => valOf_congr rfl rfl j c
  have hfinC : ∀ j : Nat, compsOf ({ Wf with locks := l'' } : World) j = compsOf Wf j :=
    fun j => compsOf_congr rfl rfl j
  -- `moved`, stated per move and row of `w1`, restated per selected entity in terms of `w` and its
  -- mask: `P.sel` finds the entity's move, the destination's ids are the exchanged mask (`dst_ids`)
  have hmv : ∀ e ∈ selEnts w fo.filter,
      compsOf Wf e.id = some ((xmask add rem (w.maskOf e)).toList w.kinds.length) ∧
      ∀ c : Comp, (xmask add rem (w.maskOf e)).get c = true → c < w.kinds.length →
        valOf Wf e.id c =
          (if (w.maskOf e).get c = true then valOf w e.id c else some 0).map (written w vs c) := by
    intro e he
    obtain ⟨b0, hb0, k, hk, rfl, hlt, hm⟩ := P.sel h e he
    obtain ⟨m1, m2⟩ := moved b0 hb0 k (by rw [htbl1 _ hlt]; exact hk)
    rw [htbl1 _ hlt] at m1 m2
    have hids := P.dst_ids hb0
    refine ⟨by rw [m1, hids, hm], ?_⟩
    intro c hc hcn
    rw [hm] at hc ⊢
    rw [m2 c (by rw [hids, Mask.mem_toList]; exact ⟨hcn, hc⟩), (hsw1 _).1 c]
    have hwr : written w1 vs c = written w vs c := by
      funext v; simp only [written, hk1]
    rw [hwr]
    simp only [mem_tbl_ids_iff h hlt]
  have hokE : ∀ e ∈ selEnts w fo.filter, ExchOK w.kinds.length add rem (w.maskOf e) := by
    intro e he
    obtain ⟨b0, hb0, k, hk, rfl, hlt, hm⟩ := P.sel h e he
    rw [hm]; exact hokb b0 hb0
  have hmreg : ∀ e ∈ selEnts w fo.filter, ∀ c : Nat, (w.maskOf e).get c = true →
      c < w.kinds.length := by
    intro e he c hc
    obtain ⟨b0, hb0, k, hk, rfl, hlt, hm⟩ := P.sel h e he
    rw [hm] at hc; exact tmask_reg h hlt hc
  -- `kept` and `added` are the two branches of `hmv`; `gone`: a removed component is not in the
  -- exchanged mask; `frame`: an ID outside the selection is no source row of any move
  exact
    { cinv := cinv_withLocks hcinv l'' _
      unlocked := by
        show l''.isLocked = w.isLocked
        rw [P.unlocked, hl]
      kinds := hkinds.trans hk1
      pool := hpool.trans P.ext.pool
      maxComps := hmax.trans P.ext.untouched.maxComps
      aliveSame := by
        intro x
        show Wf.pool.alive x = w.pool.alive x
        rw [hpool, P.ext.pool]
      comps := fun e he => by rw [hfinC]; exact (hmv e he).1
      kept := by
        intro e he c v hc hnr hv
        have hx : (xmask add rem (w.maskOf e)).get c = true := by
          rw [xmask_get, hc]; simp [hnr]
        rw [hfin, (hmv e he).2 c hx (hmreg e he c hc), if_pos hc, hv]
        rfl
      gone := by
        intro e he c hc
        rw [hfin]
        apply valOf_none_of_comps (hmv e he).1
        rw [Mask.mem_toList, xmask_get]
        have ok := hokE e he
        have hna : c ∉ add := fun hca => by
          have := ok.new c hca
          rw [ok.pres c hc] at this; cases this
        simp [hc, hna]
      added := by
        intro e he c hc
        have ok := hokE e he
        have hc256 : c < 256 := h.reg_lt_256 (ok.reg c hc)
        have hx : (xmask add rem (w.maskOf e)).get c = true := by
          rw [xmask_get]; simp [hc256, hc]
        rw [hfin, (hmv e he).2 c hx (ok.reg c hc), if_neg (by rw [ok.new c hc]; simp)]
        rfl
      frame := by
        intro j hj
        have hj1 : j ∉ srcIds w1 bts := by
          intro hm
          obtain ⟨b0, hb0, k, hk, heq⟩ := mem_srcIds.mp hm
          have hlt := S.lt _ (P.src_mem hb0).1
          rw [htbl1 _ hlt] at hk heq
          exact hj (List.mem_map.mpr ⟨_, mem_selEnts.mpr ⟨b0.oldT, k, (P.src_mem hb0).1, hk, rfl⟩, heq⟩)
        have := (hsw1 j).trans (frame j hj1)
        exact ⟨fun c => by rw [hfin]; exact this.1 c, by rw [hfinC]; exact this.2⟩
      entitiesLen := by
        show Wf.entities.length = w.entities.length
        rw [hlen, P.ext.entities] }

end Plan

/-- the lookup loop of an exchange batch on an unlocked world of the fragment succeeds (`hfew`:
    it creates at most one table per selected table, and a table id stays below the "no table"
    marker `maxU32`) -/
theorem exchangeBatch_plan (run : ProbeRunner) {w : World} {fl : List Nat} (h : CInv w fl)
    (hl : w.isLocked = false) (hL : LockFree w.locks) (fo : FilterObj) (extra : List RelID)
    (hc : fo.cache = none) {add rem : List Comp} (hne : ¬ (add = [] ∧ rem = []))
    (hok : ∀ t ∈ selTables w fo.filter, (w.tbl t).len ≠ 0 →
      ExchOK w.kinds.length add rem (tmask w t))
    (hfew : w.tables.length + (selTables w fo.filter).length < maxU32) :
    ∃ (l' l'' : Lock) (bts : List BatchTable) (w1 : World),
      XchgPlan run w fl fo extra add rem l' l'' bts w1 := by
  obtain ⟨l', b, l'', k1, k2, k3, k4, k5⟩ := hL.cycle
  have hwl : CInv { w with locks := l' } fl := cinv_withLocks h l' w.log
  have hts : getBatchTables fo extra { w with locks := l' } =
      .ok (selTables w fo.filter) { w with locks := l' } := getBatchTables_frag hwl fo extra hc
  have S := selTables_tableSet h fo.filter
  obtain ⟨bts, w1, i1, i2, i3, i4, i5, i6⟩ := findLoop_spec (w0 := { w with locks := l' }) hwl.sinv
    hne (selTables w fo.filter) (false, []) { w with locks := l' } hwl (Ext.refl _) S.lt hok hfew
  rw [List.nil_append] at i1
  have hno1 : ∀ evt : Nat, w1.obs.hasObservers evt = false := by
    intro evt; rw [i3.untouched.obs]; exact h.noObs evt
  have hsrcmem : ∀ b ∈ bts, b.oldT ∈ selTables w fo.filter ∧ (w.tbl b.oldT).len ≠ 0 := by
    intro b0 hb0
    have : b0.oldT ∈ bts.map (·.oldT) := List.mem_map_of_mem hb0
    rw [i4, List.mem_filter, bne_iff_ne] at this
    exact this
  have hsrcN : (bts.map (·.oldT)).Nodup := by
    rw [i4]; exact List.Pairwise.filter _ S.nodup
  have mok : MovesOK w1 bts := movesOK_of_dest hwl i3 hne hsrcN i5
    (fun b0 hb0 => hok _ (hsrcmem b0 hb0).1 (hsrcmem b0 hb0).2)
  refine ⟨l', l'', bts, w1, k2, k4, k5, i2, i3, i4, i5, mok, i6, fun vals => ?_⟩
  rw [exchangeBatch_eq run fo extra add rem vals w hl (isEmpty_and_eq_false hne) k1 hts i1 hno1]
  exact unlock_ok (by rw [foldl_moveStep_locks, i3.untouched.locks]; exact k3)

/-- **the exchange batch** (no callback) on an unlocked world of the fragment: every selected
    entity gets `Exchange(add, rem)`; the rest is untouched.  `hent`: a move appends the rows of
    the source to the destination, and the row count is a `uint32`; both tables hold indexed
    entities only, so twice the index length bounds the sum (`CInv.rows_add_lt`). -/
theorem exchangeBatch_post (run : ProbeRunner) {w : World} {fl : List Nat} (h : CInv w fl)
    (hl : w.isLocked = false) (hL : LockFree w.locks) (fo : FilterObj) (extra : List RelID)
    (hc : fo.cache = none) {add rem : List Comp} (hne : ¬ (add = [] ∧ rem = []))
    (hok : ∀ t ∈ selTables w fo.filter, (w.tbl t).len ≠ 0 →
      ExchOK w.kinds.length add rem (tmask w t))
    (hfew : w.tables.length + (selTables w fo.filter).length < maxU32)
    (hent : 2 * w.entities.length < 2 ^ 32) :
    ∃ Wf : World, exchangeBatch run fo extra add rem [] none w = .ok () Wf ∧
      ExchangedAllPost w fl (selEnts w fo.filter) add rem [] Wf ∧ LockFree Wf.locks ∧
      Wf.log = w.log := by
  obtain ⟨l', l'', bts, w1, P⟩ := exchangeBatch_plan run h hl hL fo extra hc hne hok hfew
  have mp := moveLoop_post bts P.cinv P.moves (by rw [P.ext.entities]; exact hent)
  refine ⟨_, P.eq none, P.post h hl hok mp.cinv mp.pool mp.kinds mp.maxComps mp.entitiesLen ?_
    mp.frame, P.free, ?_⟩
  · intro b hb k hk
    obtain ⟨m1, m2⟩ := mp.moved b hb k hk
    exact ⟨m1, fun c hc => by rw [m2 c hc, written_nil, Option.map_id]; rfl⟩
  · exact (foldl_keep (moveStep none) (·.log)
      (fun X b0 => (exchangeTableW_rest X b0.oldT b0.newT).2.2.2.2.2) bts w1).trans P.ext.log


/-! ## batch = singles -/

/-- two worlds obtained from `w` by exchanging the same components on the same entities are
    observationally equal -/
theorem ExchangedAllPost.obs_eq {w w' w'' : World} {fl : List Nat} {es es' : List Ent}
    {add rem : List Comp} {vals : List (Comp × Val)}
    (p' : ExchangedAllPost w fl es add rem vals w') (p'' : ExchangedAllPost w fl es' add rem vals w'')
    (hmem : ∀ e : Ent, e ∈ es ↔ e ∈ es')
    (hcomps : ∀ e ∈ es, compsOf w e.id = some ((w.maskOf e).toList w.kinds.length)) :
    w'.pool = w''.pool ∧ (∀ x : Ent, w'.alive x = w''.alive x) ∧
    (∀ (i : Nat) (c : Comp), valOf w' i c = valOf w'' i c) ∧
    (∀ i : Nat, compsOf w' i = compsOf w'' i) ∧ w'.isLocked = w''.isLocked ∧
    w'.kinds = w''.kinds := by
  have hids := mem_ids_congr hmem
  refine ⟨by rw [p'.pool, p''.pool], fun x => by rw [p'.aliveSame, p''.aliveSame], ?_, ?_,
    by rw [p'.unlocked, p''.unlocked], by rw [p'.kinds, p''.kinds]⟩
  · intro i c
    by_cases hx : i ∈ es.map (·.id)
    · obtain ⟨e, he, rfl⟩ := List.mem_map.mp hx
      have he' := (hmem e).mp he
      by_cases hc : c ∈ (xmask add rem (w.maskOf e)).toList w.kinds.length
      · rw [Mask.mem_toList, xmask_get] at hc
        obtain ⟨hcn, hcb⟩ := hc
        by_cases hadd : c ∈ add
        · rw [p'.added e he c hadd, p''.added e he' c hadd]
        · have hkeep : (w.maskOf e).get c = true ∧ c ∉ rem := by
            simp only [hadd, decide_false, Bool.and_false, Bool.or_false, Bool.and_eq_true,
              Bool.not_eq_true', decide_eq_false_iff_not] at hcb
            exact hcb
          obtain ⟨v, hv⟩ := valOf_some_of_comps (hcomps e he)
            (by rw [Mask.mem_toList]; exact ⟨hcn, hkeep.1⟩)
          rw [p'.kept e he c v hkeep.1 hkeep.2 hv, p''.kept e he' c v hkeep.1 hkeep.2 hv]
      · rw [valOf_none_of_comps (p'.comps e he) hc, valOf_none_of_comps (p''.comps e he') hc]
    · rw [(p'.frame i hx).1 c, (p''.frame i (fun hh => hx ((hids _).mpr hh))).1 c]
  · intro i
    by_cases hx : i ∈ es.map (·.id)
    · obtain ⟨e, he, rfl⟩ := List.mem_map.mp hx
      rw [p'.comps e he, p''.comps e ((hmem e).mp he)]
    · rw [(p'.frame i hx).2, (p''.frame i (fun hh => hx ((hids _).mpr hh))).2]

theorem opExchangeBatch_eq_exchangeBatch (run : ProbeRunner) (p : Path) (fo : FilterObj)
    (extra : List RelID) (add rem : List Comp) (vals : Option (List (Comp × Val))) (w : World) :
    opExchangeBatch run p fo extra add rem [] vals w = exchangeBatch run fo extra add rem [] vals w := by
  cases p <;> simp [opExchangeBatch, preCheck, preCheckMap, preCheckTyped, M.forM', bind, M.bind,
    pure, M.pure]

theorem exchOK_iff (n : Nat) (add rem : List Comp) (m : Mask) :
    ExchOK n add rem m ↔ (rem.Nodup ∧ (∀ c ∈ rem, m.get c = true) ∧ add.Nodup ∧ (∀ c ∈ add, c < n) ∧
      ∀ c ∈ add, m.get c = false) :=
  ⟨fun h => ⟨h.remNodup, h.pres, h.addNodup, h.reg, h.new⟩,
    fun ⟨a, b, c, d, e⟩ => ⟨a, b, c, d, e⟩⟩

instance (n : Nat) (add rem : List Comp) (m : Mask) : Decidable (ExchOK n add rem m) :=
  decidable_of_iff _ (exchOK_iff n add rem m).symm

end World
end Ark
