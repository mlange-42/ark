/-
  Ark.Proofs.DumpLoad — `Unsafe.DumpEntities` / `Unsafe.LoadEntities`.

  The observable behaviour of the entity pool (`Get`, `Recycle`, and `Alive` on every ID the pool
  has issued) is a function of its *core* `(entities, next, available)`; the memory behind the
  slice (`stale`) is irrelevant.  `LoadEntities` of a dump into an empty unlocked world runs to
  completion (through the monadic `for` loop): it computes `loadW`, whose pool is exactly the
  dumped core.  Hence the loaded world agrees with the source on liveness and on all future
  handles (`loadW_agrees`).
-/
import Ark.Proofs.Rejects

set_option autoImplicit false

namespace Ark
namespace Pool

/-- What a dump records of a pool. -/
def Core (p : Pool) : List Ent × Nat × Nat := (p.ents, p.next, p.available)

theorem core_eq_iff {p q : Pool} :
    p.Core = q.Core ↔ p.ents = q.ents ∧ p.next = q.next ∧ p.available = q.available := by
  simp only [Core, Prod.mk.injEq]

/-- The handles returned by `n` consecutive `Get`s. -/
def getN : Nat → Pool → List Ent
  | 0, _ => []
  | n + 1, p => p.get.2 :: getN n p.get.1

/-- The pool after `n` consecutive `Get`s. -/
def afterN : Nat → Pool → Pool
  | 0, p => p
  | n + 1, p => afterN n p.get.1

theorem get_core {p q : Pool} (h : p.Core = q.Core) :
    p.get.2 = q.get.2 ∧ p.get.1.Core = q.get.1.Core := by
  obtain ⟨he, hn, ha⟩ := core_eq_iff.mp h
  simp only [get, ha]
  split
  · simp only [getNew, Core, he, hn, ha, and_self]
  · simp only [getRecycled, Core, he, hn, ha, and_self]

theorem recycle_core {p q : Pool} (h : p.Core = q.Core) (e : Ent) :
    (p.recycle e).Core = (q.recycle e).Core := by
  obtain ⟨he, hn, ha⟩ := core_eq_iff.mp h
  simp only [recycle, Core, he, hn, ha]

theorem gets_agree {p q : Pool} (h : p.Core = q.Core) (n : Nat) : p.getN n = q.getN n := by
  induction n generalizing p q with
  | zero => rfl
  | succ n ih =>
    obtain ⟨h2, h1⟩ := get_core h
    simp only [getN, h2, ih h1]

theorem afterN_core {p q : Pool} (h : p.Core = q.Core) (n : Nat) :
    (p.afterN n).Core = (q.afterN n).Core := by
  induction n generalizing p q with
  | zero => exact h
  | succ n ih => exact ih (get_core h).2

theorem alive_core {p q : Pool} (h : p.Core = q.Core) (e : Ent) (hid : e.id < p.ents.length) :
    p.alive e = q.alive e := by
  obtain ⟨he, -, -⟩ := core_eq_iff.mp h
  have hq : e.id < q.ents.length := he ▸ hid
  simp only [alive, he, List.getElem?_append_left hq]

theorem alive_beyond {p : Pool} (hs : p.stale = []) (e : Ent) (hid : p.ents.length ≤ e.id) :
    p.alive e = false := by
  simp only [alive, hs, List.append_nil, List.getElem?_eq_none hid]

end Pool

namespace World

/-- A `for` loop over a list whose body is a plain state update runs to completion; its result
    is the left fold of the update. -/
theorem forIn_modify_apply (f : Nat → World → World) (l : List Nat) (w : World) :
    (forIn l PUnit.unit
        (fun idx _ => (M.modify (f idx) >>= fun _ => pure (ForInStep.yield PUnit.unit) :
          W (ForInStep PUnit))) : W PUnit) w
      = .ok PUnit.unit (l.foldl (fun w i => f i w) w) := by
  induction l generalizing w with
  | nil => rfl
  | cons x xs ih =>
    rw [List.forIn_cons, M.bind_apply, M.bind_apply, M.modify_apply]
    exact ih _

/-- one iteration of the loop of `LoadEntities` -/
def loadStep (w : World) (idx : Nat) : World :=
  { (w.setTbl 0 ((w.tbl 0).add (w.pool.ents.getD idx default)).1) with
    entities := w.entities.set (w.pool.ents.getD idx default).id
      (0, ((w.tbl 0).add (w.pool.ents.getD idx default)).2) }

/-- the world before the loop of `LoadEntities`: pool installed, index and target flags
    re-made, table 0 extended -/
def loadPre (d : Dump) (w : World) : World :=
  let w := if d.entities.length > 0 then
      { w with pool := { ents := d.entities, stale := [], next := d.next, available := d.available } }
    else w
  let w := { w with entities := List.replicate d.entities.length (0, 0),
                    isTarget := List.replicate d.entities.length false }
  w.modTbl 0 fun T => T.extend d.alive.length

/-- what `LoadEntities` computes -/
def loadW (d : Dump) (w : World) : World := d.alive.foldl loadStep (loadPre d w)

/-- **`LoadEntities` on an unlocked world with an empty pool succeeds**, and its result is
    `loadW` (through the monadic `for` loop). -/
theorem opLoad_eq (d : Dump) (w : World) (hl : w.isLocked = false)
    (he : w.pool.ents.length ≤ 2 ∧ w.pool.available = 0) :
    opLoad d w = .ok () (loadW d w) := by
  have h1 : ¬ w.pool.ents.length > 2 := by omega
  unfold opLoad
  by_cases hc : d.entities.length > 0
  · simp only [M.bind_apply, checkLocked, hl, M.get_apply, M.assert_apply, h1, he.2, hc,
      Bool.false_eq_true, if_false, if_true, decide_false, Bool.or_self, Bool.not_false,
      Nat.lt_irrefl, M.modify_apply, forIn_modify_apply, M.pure_apply]
    simp only [loadW, loadPre, hc, if_true]
    rfl
  · simp only [M.bind_apply, checkLocked, hl, M.get_apply, M.assert_apply, h1, he.2, hc,
      Bool.false_eq_true, if_false, decide_false, Bool.or_self, Bool.not_false,
      Nat.lt_irrefl, M.modify_apply, forIn_modify_apply, M.pure_apply]
    simp only [loadW, loadPre, hc, if_false]
    rfl

theorem loadW_proj {β : Type} (p : World → β)
    (hT : ∀ (w : World) (t : Nat) (T : Table), p (w.setTbl t T) = p w)
    (hE : ∀ (w : World) (l : List (Nat × Nat)), p { w with entities := l } = p w)
    (d : Dump) (w : World) : p (loadW d w) = p (loadPre d w) := by
  unfold loadW
  generalize loadPre d w = w0
  induction d.alive generalizing w0 with
  | nil => rfl
  | cons x xs ih =>
    rw [List.foldl_cons, ih]
    show p { (w0.setTbl 0 _) with entities := _ } = p w0
    rw [hE, hT]

theorem loadW_locks (d : Dump) (w : World) : (loadW d w).locks = w.locks := by
  rw [loadW_proj (·.locks) (fun _ _ _ => rfl) (fun _ _ => rfl)]
  simp only [loadPre]; split <;> rfl

theorem loadW_obs (d : Dump) (w : World) : (loadW d w).obs = w.obs := by
  rw [loadW_proj (·.obs) (fun _ _ _ => rfl) (fun _ _ => rfl)]
  simp only [loadPre]; split <;> rfl

theorem loadW_archetypes (d : Dump) (w : World) : (loadW d w).archetypes = w.archetypes := by
  rw [loadW_proj (·.archetypes) (fun _ _ _ => rfl) (fun _ _ => rfl)]
  simp only [loadPre]; split <;> rfl

theorem loadW_kinds (d : Dump) (w : World) : (loadW d w).kinds = w.kinds := by
  rw [loadW_proj (·.kinds) (fun _ _ _ => rfl) (fun _ _ => rfl)]
  simp only [loadPre]; split <;> rfl

theorem loadW_pool (d : Dump) (w : World) (hc : d.entities.length > 0) :
    (loadW d w).pool =
      { ents := d.entities, stale := [], next := d.next, available := d.available } := by
  rw [loadW_proj (·.pool) (fun _ _ _ => rfl) (fun _ _ => rfl)]
  simp only [loadPre, hc, if_true]
  rfl

/-- **what the loaded world answers**, `d` being the dump of the pool `p`: its pool has the core
    of `p`, so `Alive` agrees with the source inside the source's slice, is `false` beyond it, and
    the next handles are the source's -/
theorem loadW_agrees (p : Pool) (d : Dump) (w : World) (hde : d.entities = p.ents)
    (hdn : d.next = p.next) (hda : d.available = p.available) (hc : d.entities.length > 0) :
    (loadW d w).pool.Core = p.Core ∧
    (∀ e : Ent, e.id < p.ents.length → (loadW d w).alive e = p.alive e) ∧
    (∀ e : Ent, p.ents.length ≤ e.id → (loadW d w).alive e = false) ∧
    ∀ n : Nat, (loadW d w).pool.getN n = p.getN n := by
  have hpool := loadW_pool d w hc
  have hcore : (loadW d w).pool.Core = p.Core := by simp only [hpool, Pool.Core, hde, hdn, hda]
  have hlen : (loadW d w).pool.ents.length = p.ents.length := by rw [hpool, ← hde]
  exact ⟨hcore, fun e hid => Pool.alive_core hcore e (by rw [hlen]; exact hid),
    fun e hid => Pool.alive_beyond (by rw [hpool]) e (by rw [hlen]; exact hid),
    fun n => Pool.gets_agree hcore n⟩

theorem opLoad_notEmpty (d : Dump) (w : World) (hl : w.isLocked = false)
    (hne : w.pool.ents.length > 2 ∨ w.pool.available > 0) :
    opLoad d w = .panic .notEmptyWorld w := by
  have h : (!(decide (w.pool.ents.length > 2) || decide (w.pool.available > 0))) = false := by
    rcases hne with h | h <;> simp [h]
  unfold opLoad
  simp only [M.bind_apply, checkLocked, hl, M.get_apply, M.assert_apply, h,
    Bool.false_eq_true, if_false]

end World
end Ark
