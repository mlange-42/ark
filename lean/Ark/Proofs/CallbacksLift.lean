/-
  What a call does with observers, read off what it does without.

  `Lifts o lg m m0 x Q`: `x` is a world without observers, `x.relog o lg` the same world with the
  observers `o` and the log `lg`.  Whatever `m0` does on `x`, `m` does on `x.relog o lg`: a panic
  is the same panic on the reframed state; after a success `(a, x')`, `Q a x' r` holds of the
  outcome `r` of `m`.  The rules walk the common prefix of `m` and `m0` — the checks and the table
  lookup, which commute with `put3`/`put4` — once for both runs, panics included; what is left at
  the leaf is the event block, which without observers does nothing.
-/
import Ark.Proofs.CallbacksFrame

set_option autoImplicit false

namespace Ark

open World Spec

namespace World

theorem checkLocked_state (x : World) : (checkLocked x).state = x := by
  unfold checkLocked; split <;> rfl

theorem assert_state (c : Bool) (k : PanicKind) (x : World) :
    ((M.assert c k : W Unit) x).state = x := by
  rw [M.assert_apply]; split <;> rfl

theorem preCheck_state (p : Path) (ids : List Comp) (rels : List RelID) (x : World) :
    (preCheck p ids rels x).state = x := by
  rcases preCheck_cases p ids rels x with h | ⟨k, h⟩ <;> rw [h] <;> rfl

theorem index_relog (x : World) (o : ObsMgr) (lg : List LogEv) (i : Nat) :
    (x.relog o lg).index i = x.index i := rfl

theorem arch_relog (x : World) (o : ObsMgr) (lg : List LogEv) (a : Nat) :
    (x.relog o lg).arch a = x.arch a := rfl

theorem tbl_relog (x : World) (o : ObsMgr) (lg : List LogEv) (t : Nat) :
    (x.relog o lg).tbl t = x.tbl t := rfl

theorem hasObservers_empty (evt : Nat) : ({} : ObsMgr).hasObservers evt = false := rfl

theorem bind_pure_eq {α : Type} (m : W α) : (m >>= pure) = m := by
  funext s
  rw [M.bind_apply]
  cases m s <;> rfl

/-- a step run only under a condition, then a continuation: `do` copies the continuation into both
    branches of the `if`; this puts it back behind the guarded step -/
theorem ite_then_bind {β : Type} (c : Prop) [Decidable c] (m : W PUnit) (k : PUnit → W β) :
    (if c then m >>= fun r => k r else k PUnit.unit) = ((if c then m else pure PUnit.unit) >>= k) := by
  split <;> rfl

/-- `let l ← if c then m else m'` followed by `k`: `do` copies `k` into both branches -/
theorem ite_bind_same {α β : Type} (c : Prop) [Decidable c] (m m' : W α) (k : α → W β) :
    (if c then m >>= k else m' >>= k) = ((if c then m else m') >>= k) :=
  (M.ite_bind c m m' k).symm

/-- a guarded step that first reads the world, then a continuation -/
theorem ite_get_then_bind {β : Type} (c : Prop) [Decidable c] (m : World → W PUnit)
    (k : PUnit → W β) :
    (if c then M.get >>= fun w => m w >>= fun r => k r else k PUnit.unit)
      = ((if c then M.get >>= m else pure PUnit.unit) >>= k) := by
  split <;> rfl

def KeepsLock {α : Type} (m : W α) : Prop := ∀ x : World, (m x).state.locks = x.locks

theorem KeepsLock.pure {α : Type} (a : α) : KeepsLock (Pure.pure a : W α) := fun _ => rfl

theorem KeepsLock.bind {α β : Type} {m : W α} {f : α → W β} (hm : KeepsLock m)
    (hf : ∀ a, KeepsLock (f a)) : KeepsLock (m >>= f) := by
  intro x
  have := hm x
  rw [M.bind_apply]
  cases hr : m x with
  | panic k s => rw [hr] at this; exact this
  | ok a s => rw [hr] at this; exact (hf a s).trans this

theorem KeepsLock.get_bind {β : Type} {f : World → W β} (hf : ∀ w, KeepsLock (f w)) :
    KeepsLock (M.get >>= f) := fun x => hf x x

theorem KeepsLock.assert (c : Bool) (k : PanicKind) : KeepsLock (M.assert c k : W Unit) := by
  intro x; rw [M.assert_apply]; split <;> rfl

theorem _root_.Ark.Commutes.keepsLock {α : Type} {m : W α} (h : Commutes put4 m) : KeepsLock m :=
  fun x => (h.frames.state_frame x).2.2

theorem keepsLock_checkLocked : KeepsLock checkLocked := by
  intro x; unfold checkLocked; split <;> rfl

theorem keepsLock_addCore (e : Ent) (add : List Comp) (rels : List RelID) :
    KeepsLock (addCore e add rels) := by
  unfold addCore
  refine KeepsLock.bind keepsLock_checkLocked fun _ => ?_
  refine KeepsLock.get_bind fun w => ?_
  refine KeepsLock.bind (KeepsLock.assert _ _) fun _ => ?_
  refine KeepsLock.bind (KeepsLock.assert _ _) fun _ => ?_
  split
  rename_i oldT row _
  simp only []
  refine KeepsLock.bind (commutes_findOrCreateTableAdd _ _ _ _).keepsLock fun r => ?_
  obtain ⟨newT, newA, mask⟩ := r
  simp only []
  refine KeepsLock.bind (commutes_tableAdd _ _).keepsLock fun ni => ?_
  refine KeepsLock.bind (commutes_moveRow _ _ _ _ _ _).keepsLock fun _ => ?_
  refine KeepsLock.bind (commutes_registerTargets _).keepsLock fun _ => ?_
  exact KeepsLock.get_bind fun w => KeepsLock.pure _

theorem keepsLock_newEntityCore (ids : List Comp) (rels : List RelID) :
    KeepsLock (newEntityCore ids rels) := by
  unfold newEntityCore
  refine KeepsLock.bind keepsLock_checkLocked fun _ => ?_
  refine KeepsLock.bind (commutes_findOrCreateTableAdd _ _ _ _).keepsLock fun r => ?_
  obtain ⟨t, a, m⟩ := r
  simp only []
  refine KeepsLock.bind (commutes_placeNew _ _).keepsLock fun y => ?_
  obtain ⟨e, i⟩ := y
  simp only []
  refine KeepsLock.bind (commutes_registerTargets _).keepsLock fun _ => ?_
  exact KeepsLock.get_bind fun w => KeepsLock.pure _

/-- `m` on `x.relog o lg` follows the observer-free run `m0 x`.  The panic branch also records
    `s.locks = x.locks`: a rejection leaves the lock alone, which is what lets `Lifts.panic` state
    the outcome on `s.reframe … w.locks`, and what `Lifts.bindOL` has to thread through every
    common step (`KeepsLock`). -/
def Lifts {α : Type} (o : ObsMgr) (lg : List LogEv) (m m0 : W α) (x : World)
    (Q : α → World → Res World α → Prop) : Prop :=
  x.obs = {} →
    match m0 x with
    | .panic k s => s.locks = x.locks ∧ m (x.relog o lg) = .panic k (s.relog o lg)
    | .ok a x' => Q a x' (m (x.relog o lg))

variable {α β : Type} {o : ObsMgr} {lg : List LogEv}

/-- a common step that neither reads nor writes observers and log, and keeps the lock -/
theorem Lifts.bindOL {A : W α} (hA : Commutes put3 A) (hlk : KeepsLock A)
    {k k0 : α → W β} {x : World} {Q : β → World → Res World β → Prop}
    (h : ∀ (a : α) (x1 : World), A x = .ok a x1 → x1.locks = x.locks →
      Lifts o lg (k a) (k0 a) x1 Q) :
    Lifts o lg (A >>= k) (A >>= k0) x Q := by
  intro hx
  have hs := (hA.framesOL.state_frame x).1
  have hl := hlk x
  simp only [M.bind_apply, hA.framesOL x o lg]
  cases hr : A x with
  | panic c s => rw [hr] at hl; exact ⟨hl, rfl⟩
  | ok a x1 =>
    rw [hr] at hs hl
    have h1 := h a x1 hr hl (hs.trans hx)
    simp only [Res.mapS_ok]
    cases hk : k0 a x1 with
    | panic c s => rw [hk] at h1; exact ⟨h1.1.trans hl, h1.2⟩
    | ok b x2 => rw [hk] at h1; exact h1

theorem Lifts.bind {A : W α} (hA : Commutes put4 A) {k k0 : α → W β} {x : World}
    {Q : β → World → Res World β → Prop}
    (h : ∀ (a : α) (x1 : World), A x = .ok a x1 → x1.locks = x.locks →
      Lifts o lg (k a) (k0 a) x1 Q) :
    Lifts o lg (A >>= k) (A >>= k0) x Q :=
  Lifts.bindOL hA.to3 hA.keepsLock h

theorem Lifts.check {A : W α} (hA : Commutes put3 A) (hst : ∀ x : World, (A x).state = x)
    {k k0 : α → W β} {x : World} {Q : β → World → Res World β → Prop}
    (h : ∀ (a : α), A x = .ok a x → Lifts o lg (k a) (k0 a) x Q) :
    Lifts o lg (A >>= k) (A >>= k0) x Q :=
  Lifts.bindOL hA (fun x => by rw [hst]) fun a x1 h1 _ => by
    have := hst x
    rw [h1] at this
    obtain rfl : x1 = x := this
    exact h a h1

/-- reading the world: the continuations get the world with and without the observers -/
theorem Lifts.get {f f0 : World → W β} {x : World} {Q : β → World → Res World β → Prop}
    (h : Lifts o lg (f (x.relog o lg)) (f0 x) x Q) :
    Lifts o lg (M.get >>= f) (M.get >>= f0) x Q := h

/-- the `Alive` check some access paths put in front of an operation -/
theorem Lifts.aliveIf (c : Prop) [Decidable c] (e : Ent) {k k0 : Unit → W β} {x : World}
    {Q : β → World → Res World β → Prop} (h : Lifts o lg (k ()) (k0 ()) x Q) :
    Lifts o lg
      (if c then M.get >>= fun w => M.assert (w.alive e) .deadEntity >>= fun r => k r else k ())
      (if c then M.get >>= fun w => M.assert (w.alive e) .deadEntity >>= fun r => k0 r else k0 ())
      x Q := by
  split
  · exact Lifts.get (Lifts.check (Commutes.assert _ _) (assert_state _ _) fun _ _ => h)
  · exact h

theorem aliveIf_apply (c : Prop) [Decidable c] (e : Ent) (k : Unit → W β) (w : World)
    (h : ¬ c ∨ w.alive e = true) :
    (if c then M.get >>= fun w => M.assert (w.alive e) .deadEntity >>= fun r => k r else k ()) w
      = k () w := by
  split
  · rename_i hc
    have ha := h.resolve_left (fun hn => hn hc)
    simp only [M.bind_apply, M.get_apply, M.assert_apply, ha, if_true]
  · rfl

theorem Lifts.leaf {m m0 : W β} {x x' : World} {b : β} {Q : β → World → Res World β → Prop}
    (h0 : x.obs = {} → m0 x = .ok b x') (h : x.obs = {} → Q b x' (m (x.relog o lg))) :
    Lifts o lg m m0 x Q := by
  intro hx
  rw [h0 hx]
  exact h hx

/-- both calls replaced by equal ones -/
theorem Lifts.congr {m m' m0 m0' : W α} {x : World} {Q : α → World → Res World α → Prop}
    (hm : m = m') (hm0 : m0 = m0') (h : Lifts o lg m' m0' x Q) : Lifts o lg m m0 x Q :=
  hm ▸ hm0 ▸ h

theorem Lifts.panic {m m0 : W α} {w : World} {Q : α → World → Res World α → Prop}
    (h : Lifts w.obs w.log m m0 w.noObs Q) {k : PanicKind} {s : World}
    (h0 : m0 w.noObs = .panic k s) : m w = .panic k (s.reframe w.obs w.log w.locks) := by
  have := h rfl
  rw [h0] at this
  obtain ⟨h1, h2⟩ := this
  rw [relog_eq_reframe s, h1] at h2
  exact h2

theorem Lifts.panicOL {m m0 : W α} {w : World} {Q : α → World → Res World α → Prop}
    (h : Lifts w.obs w.log m m0 w.noObs Q) {k : PanicKind} {s : World}
    (h0 : m0 w.noObs = .panic k s) : m w = .panic k (s.relog w.obs w.log) := by
  have := h rfl
  rw [h0] at this
  exact this.2

theorem Lifts.ok {m m0 : W α} {w : World} {Q : α → World → Res World α → Prop}
    (h : Lifts w.obs w.log m m0 w.noObs Q) {a : α} {w0 : World}
    (h0 : m0 w.noObs = .ok a w0) : Q a w0 (m w) := by
  have := h rfl
  rw [h0] at this
  exact this

end World

end Ark
