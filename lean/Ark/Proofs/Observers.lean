/-
  Ark.Proofs.Observers — lemmas behind C08: the closed form of `ObsMgr.computeData`, the
  set-level reading of each guard of the `Fire*` predicates, the aggregate invariant of the
  observer manager and its preservation — by `AddObserver`, by `RemoveObserver` (whose two
  recomputation loops are one loop, `recLoop`) and by `Reset` (closed form `reset_eq`: a fold of
  `resetStep` over the event types, each a fold of `clearOne` over its observers).
-/
import Ark.Model.Observers
import Ark.Proofs.MaskLemmas
import Ark.Spec.Observers

namespace Ark
open Spec

/-! ### masks built from ID lists -/
namespace Mask

theorem get_lt {m : Mask} {c : Nat} (h : m.get c = true) : c < 256 := by
  apply Classical.byContradiction
  intro hn
  rw [get_ge m c (by omega)] at h
  cases h

theorem foldl_set_empty (cs : List Nat) : cs.foldl set empty = ofList cs := rfl

theorem foldl_set_ofList (as bs : List Nat) : bs.foldl set (ofList as) = ofList (as ++ bs) := by
  simp [ofList, List.foldl_append]

theorem contains_ofList_iff (m : Mask) (cs : List Nat) (h : ∀ c ∈ cs, c < 256) :
    m.contains (ofList cs) = true ↔ allIn cs m := by
  rw [contains_iff]
  constructor
  · intro H c hc
    apply H
    simp [get_ofList, h c hc, hc]
  · intro H c hc
    simp only [get_ofList, Bool.and_eq_true, decide_eq_true_eq] at hc
    exact H c hc.2

theorem containsAny_ofList_false_iff (m : Mask) (cs : List Nat) :
    m.containsAny (ofList cs) = false ↔ noneIn cs m := by
  rw [containsAny_false_iff]
  constructor
  · intro H c hc
    cases hm : m.get c with
    | false => rfl
    | true =>
      have := H c hm
      simp [get_ofList, get_lt hm, hc] at this
  · intro H c hm
    cases ho : (ofList cs).get c with
    | false => rfl
    | true =>
      simp only [get_ofList, Bool.and_eq_true, decide_eq_true_eq] at ho
      rw [H c ho.2] at hm; cases hm

theorem containsAny_not_ofList_false_iff (m : Mask) (cs : List Nat) :
    m.containsAny (ofList cs).not = false ↔ onlyIn cs m := by
  rw [containsAny_false_iff]
  constructor
  · intro H c hc hm
    have := H c hm
    simpa [get_not, get_ofList, hc] using this
  · intro H c hm
    have hc := get_lt hm
    have := H c hc hm
    simp [get_not, get_ofList, hc, this]

theorem ofList_isZero_false (cs : List Nat) (h : ∀ c ∈ cs, c < 256) (hne : cs.isEmpty = false) :
    (ofList cs).isZero = false := by
  cases cs with
  | nil => cases hne
  | cons x xs =>
    rw [← Bool.not_eq_true, isZero_iff]
    intro H
    have := H x
    simp [get_ofList, h x (by simp)] at this

theorem not_isZero_exists {m : Mask} (h : m.isZero = false) : ∃ c, m.get c = true := by
  apply Classical.byContradiction
  intro hn
  have : m.isZero = true := (isZero_iff m).mpr (fun c => by
    cases hc : m.get c with
    | false => rfl
    | true => exact absurd ⟨c, hc⟩ hn)
  rw [this] at h; cases h

end Mask

/-! ### closed form of `computeData` -/
namespace Spec

/-- effective with-set: `With`, plus `For` for entity events -/
def effWith (s : ObsSpec) : List Comp := if isEntityEvt s.event then s.comps ++ s.with_ else s.with_
/-- effective observed components: `For`, except for entity events -/
def effComps (s : ObsSpec) : List Comp := if isEntityEvt s.event then [] else s.comps

/-- what `AddObserver` computes, as a function of the specification -/
def dataOf (s : ObsSpec) : ObsData :=
  { compsMask := Mask.ofList (effComps s), hasComps := !(effComps s).isEmpty,
    withMask := Mask.ofList (effWith s), hasWith := !(effWith s).isEmpty,
    withoutMask := if s.exclusive then (Mask.ofList (effWith s)).not else Mask.ofList s.without,
    hasWithout := s.exclusive || !s.without.isEmpty }

theorem isEntityEvt_not_rel {e : Nat} (h : isEntityEvt e = true) :
    (e == Ev.onAddRelations || e == Ev.onRemoveRelations) = false := by
  simp only [isEntityEvt, Ev.onCreateEntity, Ev.onRemoveEntity, Bool.or_eq_true, beq_iff_eq] at h
  rcases h with h | h <;> subst h <;> rfl

theorem computeData_eq (s : ObsSpec) (isRel : Comp → Bool) (d : ObsData)
    (h : ObsMgr.computeData s isRel = some d) : d = dataOf s := by
  unfold ObsMgr.computeData at h
  simp only [Mask.foldl_set_empty] at h
  by_cases hent : isEntityEvt s.event = true
  · have hrel := isEntityEvt_not_rel hent
    have hent' : (s.event == Ev.onCreateEntity || s.event == Ev.onRemoveEntity) = true := hent
    simp only [hrel, hent', if_true, Bool.false_eq_true, if_false, Mask.foldl_set_ofList] at h
    have hd : dataOf s =
        { compsMask := Mask.empty, hasComps := false,
          withMask := Mask.ofList (s.comps ++ s.with_),
          hasWith := !(s.comps ++ s.with_).isEmpty,
          withoutMask := if s.exclusive then (Mask.ofList (s.comps ++ s.with_)).not
                         else Mask.ofList s.without,
          hasWithout := s.exclusive || !s.without.isEmpty } := by
      simp [dataOf, effComps, effWith, hent, Mask.ofList]
    rw [hd]
    cases hx : s.exclusive <;> simp only [hx, Bool.false_eq_true, if_false, if_true] at h ⊢ <;>
      · injection h with h
        rw [← h]
        cases hc : s.comps <;> simp [Mask.foldl_set_empty]
  · have hent' : (s.event == Ev.onCreateEntity || s.event == Ev.onRemoveEntity) = false := by
      simpa [isEntityEvt] using hent
    have hd : dataOf s =
        { compsMask := Mask.ofList s.comps, hasComps := !s.comps.isEmpty,
          withMask := Mask.ofList s.with_, hasWith := !s.with_.isEmpty,
          withoutMask := if s.exclusive then (Mask.ofList s.with_).not else Mask.ofList s.without,
          hasWithout := s.exclusive || !s.without.isEmpty } := by
      simp [dataOf, effComps, effWith, hent]
    rw [hd]
    by_cases hrel : (s.event == Ev.onAddRelations || s.event == Ev.onRemoveRelations) = true
    · simp only [hrel, if_true] at h
      by_cases hall : s.comps.all isRel = true
      · simp only [hall, if_true, Mask.foldl_set_empty] at h
        cases hx : s.exclusive <;> simp only [hx, Bool.false_eq_true, if_false, if_true] at h ⊢ <;>
          · injection h with h
            rw [← h]
            simp
      · simp [hall] at h
    · simp only [hrel, hent', Bool.false_eq_true, if_false, Mask.foldl_set_empty] at h
      cases hx : s.exclusive <;> simp only [hx, Bool.false_eq_true, if_false, if_true] at h ⊢ <;>
        · injection h with h
          rw [← h]
          simp

/-! ### the guards of the `Fire*` predicates, read as set conditions -/

theorem wildcard_or_iff {cs : List Comp} {P : Prop} (hP : cs = [] → P) : (cs = [] ∨ P) ↔ P :=
  ⟨fun h => h.elim hP id, Or.inr⟩

/-- `!(has && !mask.Contains(m))` with `has = (cs ≠ [])`, `m = ofList cs` -/
theorem guard_contains (cs : List Comp) (m : Mask) (h : ∀ c ∈ cs, c < 256) :
    (!(!cs.isEmpty && !m.contains (Mask.ofList cs))) = true ↔ allIn cs m := by
  cases cs with
  | nil => simp [allIn]
  | cons x xs =>
    rw [← Mask.contains_ofList_iff m (x :: xs) h]
    simp

/-- the `Without`/`Exclusive` guard -/
theorem guard_without (s : ObsSpec) (ew : List Comp) (m : Mask) :
    (!((s.exclusive || !s.without.isEmpty) &&
        m.containsAny (if s.exclusive then (Mask.ofList ew).not else Mask.ofList s.without))) = true
      ↔ withoutOK s ew m := by
  unfold withoutOK
  cases hx : s.exclusive
  · simp only [Bool.false_or, Bool.false_eq_true, if_false]
    rw [← Mask.containsAny_ofList_false_iff]
    cases hw : s.without with
    | nil => simp [Mask.ofList, Mask.containsAny, Mask.empty]
    | cons x xs => simp
  · simp only [Bool.true_or, Bool.true_and, if_true, Bool.not_eq_true']
    exact Mask.containsAny_not_ofList_false_iff m ew

/-- the `For` guard of `FireAdd` -/
theorem guard_added (cs : List Comp) (old new : Mask) (h : ∀ c ∈ cs, c < 256) :
    (!(!cs.isEmpty && (!new.contains (Mask.ofList cs) || old.containsAny (Mask.ofList cs)))) = true
      ↔ (cs = [] ∨ (allIn cs new ∧ noneIn cs old)) := by
  cases cs with
  | nil => simp
  | cons x xs =>
    rw [← Mask.contains_ofList_iff new (x :: xs) h, ← Mask.containsAny_ofList_false_iff]
    simp

/-- the `For` guard of `FireRemove` -/
theorem guard_removed (cs : List Comp) (old new : Mask) (h : ∀ c ∈ cs, c < 256) :
    (!(!cs.isEmpty && (new.containsAny (Mask.ofList cs) || !old.contains (Mask.ofList cs)))) = true
      ↔ (cs = [] ∨ (allIn cs old ∧ noneIn cs new)) := by
  cases cs with
  | nil => simp
  | cons x xs =>
    rw [← Mask.contains_ofList_iff old (x :: xs) h, ← Mask.containsAny_ofList_false_iff]
    simp [and_comm]

/-- the `For` guard of the other events (`comps = [] ∨ comps ⊆ mask`) -/
theorem guard_contains_wild (cs : List Comp) (m : Mask) (h : ∀ c ∈ cs, c < 256) :
    (!(!cs.isEmpty && !m.contains (Mask.ofList cs))) = true ↔ (cs = [] ∨ allIn cs m) := by
  rw [guard_contains cs m h, wildcard_or_iff]
  rintro rfl; simp [allIn]

theorem IdsOK.effWith {s : ObsSpec} (h : IdsOK s) : ∀ c ∈ effWith s, c < 256 := by
  intro c hc
  unfold Spec.effWith at hc
  split at hc
  · rcases List.mem_append.mp hc with hc | hc
    · exact h.1 c hc
    · exact h.2 c hc
  · exact h.2 c hc

theorem IdsOK.effComps {s : ObsSpec} (h : IdsOK s) : ∀ c ∈ effComps s, c < 256 := by
  intro c hc
  unfold Spec.effComps at hc
  split at hc
  · cases hc
  · exact h.1 c hc

/-! ### per-observer predicates decide the documented rule -/

theorem pred_entity_dataOf (s : ObsSpec) (hid : IdsOK s) (hev : isEntityEvt s.event = true)
    (m : Mask) : Pred.entity (dataOf s) m = true ↔ fires s (.entity m) := by
  have hw : effWith s = s.comps ++ s.with_ := by simp [effWith, hev]
  have hid' := hid.effWith
  rw [hw] at hid'
  simp only [Pred.entity, dataOf, hw, Bool.and_eq_true, fires]
  rw [guard_contains _ m hid', guard_without]

theorem pred_entityRel_dataOf (s : ObsSpec) (hid : IdsOK s) (hev : isEntityEvt s.event = false)
    (m : Mask) : Pred.entityRel (dataOf s) m = true ↔ fires s (.entityRel m) := by
  have hw : effWith s = s.with_ := by simp [effWith, hev]
  have hc : effComps s = s.comps := by simp [effComps, hev]
  simp only [Pred.entityRel, dataOf, hw, hc, Bool.and_eq_true, fires]
  rw [guard_contains_wild _ m hid.1, guard_contains _ m hid.2, guard_without, and_assoc]

theorem pred_add_dataOf (s : ObsSpec) (hid : IdsOK s) (hev : isEntityEvt s.event = false)
    (old new : Mask) : Pred.add (dataOf s) old new = true ↔ fires s (.add old new) := by
  have hw : effWith s = s.with_ := by simp [effWith, hev]
  have hc : effComps s = s.comps := by simp [effComps, hev]
  simp only [Pred.add, dataOf, hw, hc, Bool.and_eq_true, fires]
  rw [guard_added _ old new hid.1, guard_contains _ old hid.2, guard_without, and_assoc]

theorem pred_remove_dataOf (s : ObsSpec) (hid : IdsOK s) (hev : isEntityEvt s.event = false)
    (old new : Mask) : Pred.remove (dataOf s) old new = true ↔ fires s (.remove old new) := by
  have hw : effWith s = s.with_ := by simp [effWith, hev]
  have hc : effComps s = s.comps := by simp [effComps, hev]
  simp only [Pred.remove, dataOf, hw, hc, Bool.and_eq_true, fires]
  rw [guard_removed _ old new hid.1, guard_contains _ old hid.2, guard_without, and_assoc]

theorem pred_set_dataOf (s : ObsSpec) (hid : IdsOK s) (hev : isEntityEvt s.event = false)
    (changed m : Mask) : Pred.set (dataOf s) changed m = true ↔ fires s (.set changed m) := by
  have hw : effWith s = s.with_ := by simp [effWith, hev]
  have hc : effComps s = s.comps := by simp [effComps, hev]
  simp only [Pred.set, dataOf, hw, hc, Bool.and_eq_true, fires]
  rw [guard_contains_wild _ changed hid.1, guard_contains _ m hid.2, guard_without, and_assoc]

end Spec

/-! ### the aggregate invariant of the observer manager -/

namespace Mask

theorem contains_or_left {a b x : Mask} (h : a.contains x = true) : (a.or b).contains x = true := by
  rw [contains_iff] at h ⊢
  intro c hc; simp [get_or, h c hc]

theorem contains_or_right (a b : Mask) : (a.or b).contains b = true := by
  rw [contains_iff]
  intro c hc; simp [get_or, hc]

theorem contains_trans {a b c : Mask} (h1 : a.contains b = true) (h2 : b.contains c = true) :
    a.contains c = true := by
  rw [contains_iff] at h1 h2 ⊢
  intro x hx; exact h1 x (h2 x hx)

theorem contains_refl (a : Mask) : a.contains a = true := by
  rw [contains_iff]; intro c hc; exact hc

end Mask

/-- What `AddObserver` guarantees about the data it computes (for IDs < 256): a set `has…`
    flag means the corresponding mask has at least one bit. -/
def ObsData.WF (d : ObsData) : Prop :=
  (d.hasWith = true → d.withMask.isZero = false) ∧ (d.hasComps = true → d.compsMask.isZero = false)

theorem Spec.dataOf_wf (s : ObsSpec) (hid : IdsOK s) : (dataOf s).WF := by
  constructor
  · intro h
    simp only [dataOf, Bool.not_eq_true'] at h
    exact Mask.ofList_isZero_false _ hid.effWith h
  · intro h
    simp only [dataOf, Bool.not_eq_true'] at h
    exact Mask.ofList_isZero_false _ hid.effComps h

theorem ObsMgr.computeData_wf (s : ObsSpec) (isRel : Comp → Bool) (d : ObsData) (hid : IdsOK s)
    (h : ObsMgr.computeData s isRel = some d) : d.WF := by
  rw [computeData_eq s isRel d h]; exact dataOf_wf s hid

/-- The invariant, over an abstract label ↦ data map.  `ent` = the event type is one of the two
    entity events (for which the manager does not maintain `allComps`/`anyNoComps`). -/
structure AggInvES (data : Nat → ObsData) (es : EvtState) (ent : Bool) : Prop where
  hasObs : es.hasObservers = !es.observers.isEmpty
  wf : ∀ l ∈ es.observers, (data l).WF
  withs : es.anyNoWith = false → ∀ l ∈ es.observers,
    (data l).hasWith = true ∧ (data l).withMask.isZero = false ∧
    es.allWith.contains (data l).withMask = true
  comps : ent = false → es.anyNoComps = false → ∀ l ∈ es.observers,
    (data l).hasComps = true ∧ (data l).compsMask.isZero = false ∧
    es.allComps.contains (data l).compsMask = true

/-- **Aggregate invariant** of event type `evt`: the union masks and "any observer without …"
    flags used by the early-outs cover every registered observer. -/
def AggInv (m : ObsMgr) (evt : Nat) : Prop :=
  AggInvES (fun l => (m.obj l).data) (m.evt evt) (isEntityEvt evt)

theorem AggInvES.congr {data data' : Nat → ObsData} {es : EvtState} {ent : Bool}
    (hd : ∀ l ∈ es.observers, data' l = data l) (h : AggInvES data es ent) :
    AggInvES data' es ent := by
  refine ⟨h.hasObs, ?_, ?_, ?_⟩
  · intro l hl; rw [hd l hl]; exact h.wf l hl
  · intro ha l hl; rw [hd l hl]; exact h.withs ha l hl
  · intro he ha l hl; rw [hd l hl]; exact h.comps he ha l hl

theorem AggInvES.empty (data : Nat → ObsData) (ent : Bool) : AggInvES data {} ent := by
  refine ⟨rfl, ?_, ?_, ?_⟩ <;> simp

/-- the per-event state after `AddObserver` -/
def EvtState.added (es : EvtState) (l : Nat) (d : ObsData) (ent : Bool) : EvtState :=
  let es := { es with observers := es.observers ++ [l], hasObservers := true }
  let es := if d.hasWith then { es with allWith := es.allWith.or d.withMask }
            else { es with anyNoWith := true }
  if ent then es
  else if d.hasComps then { es with allComps := es.allComps.or d.compsMask }
  else { es with anyNoComps := true }

theorem AggInvES.added {data : Nat → ObsData} {es : EvtState} {ent : Bool} (l : Nat) (d : ObsData)
    (hd : d.WF) (h : AggInvES data es ent) :
    AggInvES (fun x => if x = l then d else data x) (es.added l d ent) ent := by
  have hobs : (es.added l d ent).observers = es.observers ++ [l] := by
    unfold EvtState.added; cases d.hasWith <;> cases ent <;> cases d.hasComps <;> rfl
  have hhas : (es.added l d ent).hasObservers = true := by
    unfold EvtState.added; cases d.hasWith <;> cases ent <;> cases d.hasComps <;> rfl
  have hanw : (es.added l d ent).anyNoWith = (es.anyNoWith || !d.hasWith) := by
    unfold EvtState.added; cases d.hasWith <;> cases ent <;> cases d.hasComps <;> simp
  have hallw : d.hasWith = true → (es.added l d ent).allWith = es.allWith.or d.withMask := by
    intro hw
    unfold EvtState.added; rw [hw]; cases ent <;> cases d.hasComps <;> rfl
  have hanc : ent = false → (es.added l d ent).anyNoComps = (es.anyNoComps || !d.hasComps) := by
    intro he
    unfold EvtState.added; rw [he]; cases d.hasWith <;> cases d.hasComps <;> simp
  have hallc : ent = false → d.hasComps = true →
      (es.added l d ent).allComps = es.allComps.or d.compsMask := by
    intro he hc
    unfold EvtState.added; rw [he, hc]; cases d.hasWith <;> rfl
  refine ⟨?_, ?_, ?_, ?_⟩
  · rw [hobs, hhas]; simp
  · intro x hx
    by_cases hxl : x = l
    · simp only [hxl, if_true]; exact hd
    · simp only [hxl, if_false]
      rw [hobs] at hx
      rcases List.mem_append.mp hx with hx | hx
      · exact h.wf x hx
      · exact absurd (List.mem_singleton.mp hx) hxl
  · intro ha x hx
    rw [hanw] at ha
    simp only [Bool.or_eq_false_iff, Bool.not_eq_false'] at ha
    obtain ⟨ha1, ha2⟩ := ha
    rw [hallw ha2]
    by_cases hxl : x = l
    · simp only [hxl, if_true]
      exact ⟨ha2, hd.1 ha2, Mask.contains_or_right _ _⟩
    · simp only [hxl, if_false]
      rw [hobs] at hx
      rcases List.mem_append.mp hx with hx | hx
      · obtain ⟨h1, h2, h3⟩ := h.withs ha1 x hx
        exact ⟨h1, h2, Mask.contains_or_left h3⟩
      · exact absurd (List.mem_singleton.mp hx) hxl
  · intro he ha x hx
    rw [hanc he] at ha
    simp only [Bool.or_eq_false_iff, Bool.not_eq_false'] at ha
    obtain ⟨ha1, ha2⟩ := ha
    rw [hallc he ha2]
    by_cases hxl : x = l
    · simp only [hxl, if_true]
      exact ⟨ha2, hd.2 ha2, Mask.contains_or_right _ _⟩
    · simp only [hxl, if_false]
      rw [hobs] at hx
      rcases List.mem_append.mp hx with hx | hx
      · obtain ⟨h1, h2, h3⟩ := h.comps he ha1 x hx
        exact ⟨h1, h2, Mask.contains_or_left h3⟩
      · exact absurd (List.mem_singleton.mp hx) hxl

namespace ObsMgr

@[simp] theorem evt_setEvt_self (m : ObsMgr) (e : Nat) (s : EvtState) : (m.setEvt e s).evt e = s := by
  simp [evt, setEvt, AL.find?_insert_self]

theorem evt_setEvt_ne (m : ObsMgr) (e e2 : Nat) (s : EvtState) (h : e2 ≠ e) :
    (m.setEvt e s).evt e2 = m.evt e2 := by
  simp [evt, setEvt, AL.find?_insert_ne _ _ _ _ h]

@[simp] theorem obj_setEvt (m : ObsMgr) (e : Nat) (s : EvtState) (x : Nat) :
    (m.setEvt e s).obj x = m.obj x := rfl

@[simp] theorem evt_setObj (m : ObsMgr) (l : Nat) (o : ObsObj) (e : Nat) :
    (m.setObj l o).evt e = m.evt e := rfl

@[simp] theorem obj_setObj_self (m : ObsMgr) (l : Nat) (o : ObsObj) : (m.setObj l o).obj l = o := by
  simp [obj, setObj, AL.find?_insert_self]

theorem obj_setObj_ne (m : ObsMgr) (l x : Nat) (o : ObsObj) (h : x ≠ l) :
    (m.setObj l o).obj x = m.obj x := by
  simp [obj, setObj, AL.find?_insert_ne _ _ _ _ h]

theorem data_setObj_same (m : ObsMgr) (l x : Nat) (o : ObsObj) (h : o.data = (m.obj l).data) :
    ((m.setObj l o).obj x).data = (m.obj x).data := by
  by_cases hx : x = l
  · subst hx; rw [obj_setObj_self, h]
  · rw [obj_setObj_ne _ _ _ _ hx]

/-! #### `AddObserver` -/

theorem addComputed_obj (m : ObsMgr) (l : Nat) (o : ObsObj) (oid : Nat) (d : ObsData) (x : Nat) :
    ((m.addComputed l o oid d).obj x).data = if x = l then d else (m.obj x).data := by
  unfold addComputed
  simp only [obj_setEvt]
  by_cases hx : x = l
  · subst hx
    simp only [if_true]
    show ((m.setObj x { o with data := d, oid := some oid }).obj x).data = d
    rw [obj_setObj_self]
  · simp only [hx, if_false]
    show ((m.setObj l { o with data := d, oid := some oid }).obj x).data = (m.obj x).data
    rw [obj_setObj_ne _ _ _ _ hx]

theorem addComputed_evt_self (m : ObsMgr) (l : Nat) (o : ObsObj) (oid : Nat) (d : ObsData) :
    (m.addComputed l o oid d).evt o.spec.event
      = (m.evt o.spec.event).added l d (isEntityEvt o.spec.event) := by
  unfold addComputed
  simp only [evt_setEvt_self]
  rfl

theorem addComputed_evt_ne (m : ObsMgr) (l : Nat) (o : ObsObj) (oid : Nat) (d : ObsData) (e : Nat)
    (h : e ≠ o.spec.event) : (m.addComputed l o oid d).evt e = m.evt e := by
  unfold addComputed
  simp only []
  rw [evt_setEvt_ne _ _ _ _ h]
  rfl

end ObsMgr

/-- `AddObserver` preserves the invariant of every event type.  For event types other than the
    observer's own, the object must not already be listed there (`Register` panics on an already
    registered observer). -/
theorem AggInv.addComputed {m : ObsMgr} {evt : Nat} (l : Nat) (o : ObsObj) (oid : Nat)
    (d : ObsData) (hd : d.WF) (hfresh : evt ≠ o.spec.event → l ∉ (m.evt evt).observers)
    (h : AggInv m evt) : AggInv (m.addComputed l o oid d) evt := by
  unfold AggInv
  have hdata : (fun x => ((m.addComputed l o oid d).obj x).data)
      = fun x => if x = l then d else (m.obj x).data := by
    funext x; exact ObsMgr.addComputed_obj m l o oid d x
  rw [hdata]
  by_cases he : evt = o.spec.event
  · subst he
    rw [ObsMgr.addComputed_evt_self]
    exact AggInvES.added l d hd h
  · rw [ObsMgr.addComputed_evt_ne _ _ _ _ _ _ he]
    refine AggInvES.congr ?_ h
    intro x hx
    have : x ≠ l := fun hxl => hfresh he (hxl ▸ hx)
    simp [this]

/-! ### early-outs are sound under the invariant -/

namespace Mask

/-- a non-empty `x ⊆ a` with `a ∩ m = ∅` is not contained in `m` -/
theorem not_contains_of_disjoint {a x m : Mask} (hx : x.isZero = false)
    (hax : a.contains x = true) (ham : a.containsAny m = false) : m.contains x = false := by
  rw [← Bool.not_eq_true, contains_iff]
  intro H
  obtain ⟨c, hc⟩ := not_isZero_exists hx
  have h1 := (contains_iff _ _).mp hax c hc
  have h2 := (containsAny_false_iff _ _).mp ham c h1
  rw [H c hc] at h2; cases h2

/-- a non-empty `x ⊆ a ⊆ m` meets `m` -/
theorem containsAny_of_subset {a x m : Mask} (hx : x.isZero = false)
    (hax : a.contains x = true) (hma : m.contains a = true) : m.containsAny x = true := by
  rw [containsAny_iff]
  obtain ⟨c, hc⟩ := not_isZero_exists hx
  exact ⟨c, (contains_iff _ _).mp hma c ((contains_iff _ _).mp hax c hc), hc⟩

end Mask

section EarlySound
variable {data : Nat → ObsData} {es : EvtState} {ent : Bool}

/-- first disjunct family: "no observer without With, and the union of With misses the mask" -/
theorem AggInvES.with_blocks (h : AggInvES data es ent) (m : Mask)
    (he : (!es.anyNoWith && !es.allWith.containsAny m) = true) :
    ∀ l ∈ es.observers, ((data l).hasWith && !m.contains (data l).withMask) = true := by
  simp only [Bool.and_eq_true, Bool.not_eq_true'] at he
  intro l hl
  obtain ⟨h1, h2, h3⟩ := h.withs he.1 l hl
  simp [h1, Mask.not_contains_of_disjoint h2 h3 he.2]

theorem AggInvES.comps_blocks (h : AggInvES data es false) (m : Mask)
    (he : (!es.anyNoComps && !es.allComps.containsAny m) = true) :
    ∀ l ∈ es.observers, ((data l).hasComps && !m.contains (data l).compsMask) = true := by
  simp only [Bool.and_eq_true, Bool.not_eq_true'] at he
  intro l hl
  obtain ⟨h1, h2, h3⟩ := h.comps rfl he.1 l hl
  simp [h1, Mask.not_contains_of_disjoint h2 h3 he.2]

theorem AggInvES.early_entity (h : AggInvES data es ent) (m : Mask)
    (he : Early.entity es m = true) : ∀ l ∈ es.observers, Pred.entity (data l) m = false := by
  intro l hl
  have := h.with_blocks m he l hl
  simp [Pred.entity, this]

theorem AggInvES.early_entityRel (h : AggInvES data es false) (m : Mask)
    (he : Early.entityRel es m = true) : ∀ l ∈ es.observers, Pred.entityRel (data l) m = false := by
  intro l hl
  unfold Early.entityRel at he
  rcases Bool.or_eq_true_iff.mp he with he | he
  · have := h.comps_blocks m he l hl
    simp [Pred.entityRel, this]
  · have := h.with_blocks m he l hl
    simp [Pred.entityRel, this]

theorem AggInvES.early_set (h : AggInvES data es false) (mask emask : Mask)
    (he : Early.set es mask emask = true) :
    ∀ l ∈ es.observers, Pred.set (data l) mask emask = false := by
  intro l hl
  unfold Early.set at he
  rcases Bool.or_eq_true_iff.mp he with he | he
  · have := h.comps_blocks mask he l hl
    simp [Pred.set, this]
  · have := h.with_blocks emask he l hl
    simp [Pred.set, this]

theorem AggInvES.early_add (h : AggInvES data es false) (old new : Mask)
    (he : Early.add es old new = true) :
    ∀ l ∈ es.observers, Pred.add (data l) old new = false := by
  intro l hl
  unfold Early.add at he
  rcases Bool.or_eq_true_iff.mp he with he | he
  · simp only [Bool.and_eq_true, Bool.not_eq_true', Bool.or_eq_true] at he
    obtain ⟨h1, h2, h3⟩ := h.comps rfl he.1 l hl
    rcases he.2 with he2 | he2
    · simp [Pred.add, h1, Mask.not_contains_of_disjoint h2 h3 he2]
    · simp [Pred.add, h1, Mask.containsAny_of_subset h2 h3 he2]
  · have := h.with_blocks old he l hl
    simp [Pred.add, this]

theorem AggInvES.early_remove (h : AggInvES data es false) (old new : Mask)
    (he : Early.remove es old new = true) :
    ∀ l ∈ es.observers, Pred.remove (data l) old new = false := by
  intro l hl
  unfold Early.remove at he
  rcases Bool.or_eq_true_iff.mp he with he | he
  · simp only [Bool.and_eq_true, Bool.not_eq_true', Bool.or_eq_true] at he
    obtain ⟨h1, h2, h3⟩ := h.comps rfl he.1 l hl
    rcases he.2 with he2 | he2
    · simp [Pred.remove, h1, Mask.not_contains_of_disjoint h2 h3 he2]
    · simp [Pred.remove, h1, Mask.containsAny_of_subset h2 h3 he2]
  · have := h.with_blocks old he l hl
    simp [Pred.remove, this]

end EarlySound

/-! ### `RemoveObserver`: the recomputation loops and the swap-remove -/

/-! The two loops are one loop over the data of the listed observers; it is stated in the name
space of the bridge to the Go source (`Ark.Proofs.GenBridge.BookObservers`), which proves the
translated loops equal to the same `recLoop`. -/

namespace GenBridge.Book

/-- The recomputation loop (with its early `break` at the first wildcard observer) over a list of
    observer data: union of the masks before the first wildcard, and whether there is a wildcard. -/
def recLoop (has : ObsData → Bool) (msk : ObsData → Mask) : Mask → List ObsData → Mask × Bool
  | acc, [] => (acc, false)
  | acc, d :: rest => if !has d then (acc, true) else recLoop has msk (acc.or (msk d)) rest

theorem recLoop_unique (m : ObsMgr) (has : ObsData → Bool) (msk : ObsData → Mask)
    (go : Mask → List Nat → Mask × Bool) (hnil : ∀ acc, go acc [] = (acc, false))
    (hcons : ∀ acc l rest, go acc (l :: rest) =
      if !has (m.obj l).data then (acc, true) else go (acc.or (msk (m.obj l).data)) rest) :
    ∀ (obs : List Nat) (acc : Mask), go acc obs = recLoop has msk acc (obs.map fun l => (m.obj l).data) := by
  intro obs
  induction obs with
  | nil => exact hnil
  | cons l rest ih =>
    intro acc
    rw [hcons, List.map_cons, recLoop, ih]

theorem recomputeWith_eq (m : ObsMgr) (obs : List Nat) :
    m.recomputeWith obs = recLoop (·.hasWith) (·.withMask) Mask.empty (obs.map fun l => (m.obj l).data) :=
  recLoop_unique m _ _ (ObsMgr.recomputeWith.go m) (fun _ => rfl) (fun _ _ _ => rfl) obs _

theorem recomputeComps_eq (m : ObsMgr) (obs : List Nat) :
    m.recomputeComps obs = recLoop (·.hasComps) (·.compsMask) Mask.empty (obs.map fun l => (m.obj l).data) :=
  recLoop_unique m _ _ (ObsMgr.recomputeComps.go m) (fun _ => rfl) (fun _ _ _ => rfl) obs _

/-- without a wildcard the union contains what it started from and the mask of every observer -/
theorem recLoop_spec (has : ObsData → Bool) (msk : ObsData → Mask) (ds : List ObsData) (acc : Mask) :
    (recLoop has msk acc ds).2 = false →
      (recLoop has msk acc ds).1.contains acc = true ∧
      ∀ d ∈ ds, has d = true ∧ (recLoop has msk acc ds).1.contains (msk d) = true := by
  induction ds generalizing acc with
  | nil => intro _; exact ⟨Mask.contains_refl _, by simp⟩
  | cons x xs ih =>
    intro h
    unfold recLoop at h ⊢
    cases hw : has x
    · simp [hw] at h
    · simp only [hw, Bool.not_true, Bool.false_eq_true, if_false] at h ⊢
      obtain ⟨h1, h2⟩ := ih _ h
      refine ⟨Mask.contains_trans h1 (Mask.contains_or_left (Mask.contains_refl _)), ?_⟩
      intro d hd
      rcases List.mem_cons.mp hd with hd | hd
      · subst hd
        exact ⟨hw, Mask.contains_trans h1 (Mask.contains_or_right _ _)⟩
      · exact h2 d hd

end GenBridge.Book

namespace ObsMgr
open GenBridge.Book

/-- the observer slice after the swap-remove of `RemoveObserver` -/
def removedObs (obs : List Nat) (idx : Nat) : List Nat :=
  let last := obs.length - 1
  (if idx != last then (obs.set idx (obs.getD last 0)).set last (obs.getD idx 0) else obs).take last

theorem removedObs_subset (obs : List Nat) (idx : Nat) : ∀ x ∈ removedObs obs idx, x ∈ obs := by
  intro x hx
  unfold removedObs at hx
  simp only [] at hx
  split at hx
  · rw [List.take_set_of_le (Nat.le_refl _)] at hx
    rcases List.mem_or_eq_of_mem_set (List.mem_of_mem_take hx) with h | rfl
    · exact h
    · cases obs with
      | nil => cases hx
      | cons a as =>
        rw [List.getD_eq_getElem?_getD, List.getElem?_eq_getElem (by simp)]
        exact List.getElem_mem _
  · exact List.mem_of_mem_take hx

theorem removedObs_isEmpty (obs : List Nat) (idx : Nat) :
    decide (obs.length - 1 > 0) = !(removedObs obs idx).isEmpty := by
  have hlen : (removedObs obs idx).length = obs.length - 1 := by
    unfold removedObs
    simp only []
    split <;> simp <;> omega
  cases h : removedObs obs idx with
  | nil => rw [h] at hlen; simp at hlen; simp; omega
  | cons a as => rw [h] at hlen; simp at hlen; simp; omega

/-- `RemoveObserver` is one `setEvt` on a manager that differs from `m` only in the id map, the
    counter and the id of observer `l`. -/
theorem removeAt_eq (m : ObsMgr) (l oid idx : Nat) :
    ∃ (M : ObsMgr) (es : EvtState), m.removeAt l oid idx = M.setEvt (m.obj l).spec.event es ∧
      M.objs = AL.insert m.objs l { m.obj l with oid := none } ∧ M.events = m.events ∧
      M.maxEventType = m.maxEventType := by
  unfold removeAt
  simp only []
  split <;> split <;> exact ⟨_, _, rfl, rfl, rfl, rfl⟩

theorem removeAt_data (m : ObsMgr) (l oid idx x : Nat) :
    ((m.removeAt l oid idx).obj x).data = (m.obj x).data := by
  obtain ⟨M, es, h, hobjs, _, _⟩ := removeAt_eq m l oid idx
  rw [h, obj_setEvt]
  have : M.obj x = (m.setObj l { m.obj l with oid := none }).obj x := by
    simp only [obj, setObj, hobjs]
  rw [this]
  exact data_setObj_same m l x _ rfl

/-- the per-event state after `RemoveObserver` -/
def removedES (m : ObsMgr) (es : EvtState) (idx : Nat) (ent : Bool) : EvtState :=
  let obs := removedObs es.observers idx
  let es1 := { es with observers := obs, hasObservers := decide (es.observers.length - 1 > 0),
                       allWith := (m.recomputeWith obs).1, anyNoWith := (m.recomputeWith obs).2 }
  if ent then es1
  else { es1 with allComps := (m.recomputeComps obs).1, anyNoComps := (m.recomputeComps obs).2 }

theorem recomputeWith_congr (m m' : ObsMgr) (h : ∀ x, (m'.obj x).data = (m.obj x).data)
    (obs : List Nat) : m'.recomputeWith obs = m.recomputeWith obs := by
  rw [recomputeWith_eq, recomputeWith_eq, List.map_congr_left fun l _ => h l]

theorem recomputeComps_congr (m m' : ObsMgr) (h : ∀ x, (m'.obj x).data = (m.obj x).data)
    (obs : List Nat) : m'.recomputeComps obs = m.recomputeComps obs := by
  rw [recomputeComps_eq, recomputeComps_eq, List.map_congr_left fun l _ => h l]

theorem removeAt_evt_self (m : ObsMgr) (l oid idx : Nat) :
    (m.removeAt l oid idx).evt (m.obj l).spec.event
      = removedES m (m.evt (m.obj l).spec.event) idx (isEntityEvt (m.obj l).spec.event) := by
  have hd : ∀ (M1 : ObsMgr), M1.objs = AL.insert m.objs l { m.obj l with oid := none } →
      ∀ x, (M1.obj x).data = (m.obj x).data := by
    intro M1 h x
    have : M1.obj x = (m.setObj l { m.obj l with oid := none }).obj x := by
      simp only [obj, setObj, h]
    rw [this]
    exact data_setObj_same m l x _ rfl
  unfold removeAt
  simp only []
  split
  · rename_i hc
    simp only [evt_setEvt_self]
    rw [recomputeWith_congr m _ (hd _ rfl), recomputeComps_congr m _ (hd _ rfl)]
    have hc' : (idx != (m.evt (m.obj l).spec.event).observers.length - 1) = true := hc
    unfold removedES removedObs isEntityEvt
    simp only [hc', if_true]
    rfl
  · rename_i hc
    simp only [evt_setEvt_self]
    rw [recomputeWith_congr m _ (hd _ rfl), recomputeComps_congr m _ (hd _ rfl)]
    have hc' : ¬ (idx != (m.evt (m.obj l).spec.event).observers.length - 1) = true := hc
    unfold removedES removedObs isEntityEvt
    simp only [hc']
    rfl

theorem removeAt_evt_ne (m : ObsMgr) (l oid idx e : Nat) (h : e ≠ (m.obj l).spec.event) :
    (m.removeAt l oid idx).evt e = m.evt e := by
  obtain ⟨M, es, heq, _, hev, _⟩ := removeAt_eq m l oid idx
  rw [heq, evt_setEvt_ne _ _ _ _ h]
  simp only [evt, hev]

end ObsMgr

theorem AggInvES.removed {m : ObsMgr} {es : EvtState} {ent : Bool} (idx : Nat)
    (h : AggInvES (fun l => (m.obj l).data) es ent) :
    AggInvES (fun l => (m.obj l).data) (ObsMgr.removedES m es idx ent) ent := by
  have hobs : (ObsMgr.removedES m es idx ent).observers = ObsMgr.removedObs es.observers idx := by
    unfold ObsMgr.removedES; cases ent <;> rfl
  have hhas : (ObsMgr.removedES m es idx ent).hasObservers
      = decide (es.observers.length - 1 > 0) := by
    unfold ObsMgr.removedES; cases ent <;> rfl
  have haw : (ObsMgr.removedES m es idx ent).allWith
      = (m.recomputeWith (ObsMgr.removedObs es.observers idx)).1 := by
    unfold ObsMgr.removedES; cases ent <;> rfl
  have hnw : (ObsMgr.removedES m es idx ent).anyNoWith
      = (m.recomputeWith (ObsMgr.removedObs es.observers idx)).2 := by
    unfold ObsMgr.removedES; cases ent <;> rfl
  have hsub := ObsMgr.removedObs_subset es.observers idx
  refine ⟨?_, ?_, ?_, ?_⟩
  · rw [hobs, hhas]; exact ObsMgr.removedObs_isEmpty _ _
  · intro x hx; rw [hobs] at hx; exact h.wf x (hsub x hx)
  · intro ha x hx
    rw [hobs] at hx
    rw [hnw, GenBridge.Book.recomputeWith_eq] at ha
    rw [haw, GenBridge.Book.recomputeWith_eq]
    obtain ⟨h1, h2⟩ := (GenBridge.Book.recLoop_spec _ _ _ _ ha).2 _ (List.mem_map_of_mem hx)
    exact ⟨h1, (h.wf x (hsub x hx)).1 h1, h2⟩
  · intro he ha x hx
    subst he
    rw [hobs] at hx
    have hac : (ObsMgr.removedES m es idx false).allComps
        = (m.recomputeComps (ObsMgr.removedObs es.observers idx)).1 := rfl
    have hnc : (ObsMgr.removedES m es idx false).anyNoComps
        = (m.recomputeComps (ObsMgr.removedObs es.observers idx)).2 := rfl
    rw [hnc, GenBridge.Book.recomputeComps_eq] at ha
    rw [hac, GenBridge.Book.recomputeComps_eq]
    obtain ⟨h1, h2⟩ := (GenBridge.Book.recLoop_spec _ _ _ _ ha).2 _ (List.mem_map_of_mem hx)
    exact ⟨h1, (h.wf x (hsub x hx)).2 h1, h2⟩

/-- `RemoveObserver` (swap-remove + the two recomputation loops with their early `break`)
    preserves the invariant of every event type, with no side condition. -/
theorem AggInv.removeAt {m : ObsMgr} {evt : Nat} (l oid idx : Nat) (h : AggInv m evt) :
    AggInv (m.removeAt l oid idx) evt := by
  unfold AggInv
  have hdata : (fun x => ((m.removeAt l oid idx).obj x).data) = fun x => (m.obj x).data := by
    funext x; exact ObsMgr.removeAt_data m l oid idx x
  rw [hdata]
  by_cases he : evt = (m.obj l).spec.event
  · subst he
    rw [ObsMgr.removeAt_evt_self]
    exact AggInvES.removed idx h
  · rw [ObsMgr.removeAt_evt_ne _ _ _ _ _ he]
    exact h

/-! ### the empty manager and `Reset` -/

theorem AggInv.init (evt : Nat) : AggInv {} evt := AggInvES.empty _ _

namespace ObsMgr

/-- `m'` differs from `m` only in ways the invariant cannot see, or by emptied event states -/
def ResetRel (m m' : ObsMgr) : Prop :=
  (∀ x, (m'.obj x).data = (m.obj x).data) ∧ ∀ e, m'.evt e = m.evt e ∨ m'.evt e = {}

theorem ResetRel.refl (m : ObsMgr) : ResetRel m m := ⟨fun _ => rfl, fun _ => Or.inl rfl⟩

theorem ResetRel.trans {a b c : ObsMgr} (h1 : ResetRel a b) (h2 : ResetRel b c) : ResetRel a c := by
  refine ⟨fun x => (h2.1 x).trans (h1.1 x), fun e => ?_⟩
  rcases h2.2 e with h | h
  · rw [h]; exact h1.2 e
  · exact Or.inr h

/-- one round of the inner loop of `Reset`: forget the id of observer `l` -/
def clearOne (m : ObsMgr) (l : Nat) : ObsMgr :=
  let o := m.obj l
  let m := { m with indices := AL.erase m.indices (o.oid.getD 0) }
  m.setObj l { o with oid := none }

/-- one round of the outer loop of `Reset`: event type `i` -/
def resetStep (m : ObsMgr) (i : Nat) : ObsMgr :=
  let es := m.evt i
  if !es.hasObservers then m else (es.observers.foldl clearOne m).setEvt i {}

theorem reset_eq (m : ObsMgr) : m.reset =
    if m.indices.isEmpty then { m with maxEventType := 0 } else
    { (List.range (resetBound m.maxEventType)).foldl resetStep m with
      pool := IntPool.reset ((List.range (resetBound m.maxEventType)).foldl resetStep m).pool,
      totalCount := 0, maxEventType := 0 } := rfl

theorem clearOne_resetRel (m : ObsMgr) (l : Nat) : ResetRel m (m.clearOne l) :=
  ⟨fun y => data_setObj_same { m with indices := AL.erase m.indices ((m.obj l).oid.getD 0) } l y _ rfl,
    fun _ => Or.inl rfl⟩

theorem clearAll_resetRel : ∀ (L : List Nat) (m : ObsMgr), ResetRel m (L.foldl clearOne m)
  | [], m => ResetRel.refl m
  | l :: L, m => (clearOne_resetRel m l).trans (clearAll_resetRel L _)

theorem resetStep_resetRel (m : ObsMgr) (i : Nat) : ResetRel m (m.resetStep i) := by
  unfold resetStep
  simp only
  split
  · exact ResetRel.refl m
  · have hin := clearAll_resetRel (m.evt i).observers m
    refine ⟨fun x => hin.1 x, fun e => ?_⟩
    by_cases he : e = i
    · subst he; exact Or.inr (evt_setEvt_self _ _ _)
    · rw [evt_setEvt_ne _ _ _ _ he]; exact hin.2 e

theorem resetSteps_resetRel : ∀ (is : List Nat) (m : ObsMgr), ResetRel m (is.foldl resetStep m)
  | [], m => ResetRel.refl m
  | i :: is, m => (resetStep_resetRel m i).trans (resetSteps_resetRel is _)

theorem reset_rel (m : ObsMgr) : ResetRel m m.reset := by
  rw [reset_eq]
  split
  · exact ⟨fun _ => rfl, fun _ => Or.inl rfl⟩
  · exact resetSteps_resetRel _ m

end ObsMgr

theorem AggInv.of_resetRel {m m' : ObsMgr} {evt : Nat} (hr : ObsMgr.ResetRel m m')
    (h : AggInv m evt) : AggInv m' evt := by
  unfold AggInv
  have hdata : (fun x => (m'.obj x).data) = fun x => (m.obj x).data := by
    funext x; exact hr.1 x
  rw [hdata]
  rcases hr.2 evt with he | he
  · rw [he]; exact h
  · rw [he]; exact AggInvES.empty _ _

theorem AggInv.reset {m : ObsMgr} {evt : Nat} (h : AggInv m evt) : AggInv m.reset evt :=
  AggInv.of_resetRel (ObsMgr.reset_rel m) h

/-! ### the observers a `Fire*` function notifies -/

/-- The observers a `Fire*` function notifies: none if the early-out is enabled and taken,
    otherwise the registered ones (in slice order) whose own test passes.  This is the shape of
    every `fire*` of Ark/Model/World.lean (`useEarly` is their `earlyOut` argument). -/
def ObsMgr.notified (m : ObsMgr) (evt : Nat) (useEarly early : Bool) (pred : ObsData → Bool) :
    List Nat :=
  if useEarly && early then [] else (m.evt evt).observers.filter fun l => pred (m.obj l).data

theorem ObsMgr.notified_eq (m : ObsMgr) (evt : Nat) (useEarly early : Bool) (pred : ObsData → Bool)
    (h : early = true → ∀ l ∈ (m.evt evt).observers, pred (m.obj l).data = false) :
    m.notified evt useEarly early pred
      = (m.evt evt).observers.filter fun l => pred (m.obj l).data := by
  unfold notified
  split
  · rename_i hc
    simp only [Bool.and_eq_true] at hc
    symm
    rw [List.filter_eq_nil_iff]
    intro l hl
    simp [h hc.2 l hl]
  · rfl

/-- Every observer listed under `evt` was registered for `evt` through `AddObserver` (its data is
    what the mask computation yields for its specification) with component IDs below 256. -/
def Registered (m : ObsMgr) (evt : Nat) (isRel : Comp → Bool) : Prop :=
  ∀ l ∈ (m.evt evt).observers,
    (m.obj l).spec.event = evt ∧ IdsOK (m.obj l).spec ∧
    ObsMgr.computeData (m.obj l).spec isRel = some (m.obj l).data

end Ark
