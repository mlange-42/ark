/-
  The single-entity operations with observers and a read-only callback runner.  `Add`,
  `NewEntity(ids…)`, `Remove`, `Exchange` are read off the observer-free call (`*_lifts`: every
  rejection is the same rejection, an accepted call is the observer-free result with the observers
  put back and the log extended); the others are equations (`*_obs_eq`).  The log grows by
  `notifyAll rec e (firing …) seen`, `seen` being the world at the dispatch — AFTER the change for
  creation / addition / set (`seenAfter`; one block for all additions, `additionBlock_eq`), BEFORE
  the row is moved or removed and with the lock held for the removals (one block,
  `removalBlock_eq`; a single round: `lockedRound_eq`).  Under the joint invariant (`*_callbacks`, `CInvObs`): the operation
  succeeds exactly as on `w.noObs`, with the observer-free result and the observers of `w` put
  back.
-/
import Ark.Proofs.Callbacks
import Ark.Proofs.CallbacksLift
import Ark.Proofs.QueryExact

set_option autoImplicit false

namespace Ark

open World Spec Ark.Props.C01World QueryExact

namespace World

/-- the world the callbacks of `Add` / `NewEntity` / `Exchange` (addition part) see, given the
    world `w1` after the structural change: with the typed paths (`Map`, `MapN`) the values are
    already written, with `Unsafe` they are not (the caller writes them after the call) -/
def seenAfter (p : Path) (w1 : World) (e : Ent) (vals : List (Comp × Val)) : World :=
  if p = .unsafe_ then w1 else writeValsW w1 e vals

theorem seenAfter_obs (p : Path) (w1 : World) (e : Ent) (vals : List (Comp × Val)) :
    (seenAfter p w1 e vals).obs = w1.obs := by
  unfold seenAfter; split <;> rfl

theorem writeValsW_addLog (w : World) (e : Ent) (vals : List (Comp × Val)) (lg : List LogEv) :
    writeValsW (w.addLog lg) e vals = (writeValsW w e vals).addLog lg := rfl

/-! `withLocks` and `addLog` are instances of `reframe`: rewriting with these two and
    `reframe_reframe` brings any tower of them into the form `X.reframe o lg lk`, which the
    `*_reframe` lemmas of the row primitives move outwards.  (Leaving such goals to `rfl` makes the
    unifier compare worlds field by field.) -/

theorem registerTargets_nil (w : World) : registerTargets [] w = .ok () w := rfl

theorem registerW_reframe (w : World) (rels : List RelID) (o : ObsMgr) (lg : List LogEv) (lk : Lock) :
    registerW (w.reframe o lg lk) rels = (registerW w rels).reframe o lg lk := rfl

theorem withLocks_reframe (w : World) (o : ObsMgr) (lg : List LogEv) (lk l : Lock) :
    (w.reframe o lg lk).withLocks l = w.reframe o lg l := rfl

theorem addLog_reframe (w : World) (o : ObsMgr) (lg : List LogEv) (lk : Lock) (a : List LogEv) :
    (w.reframe o lg lk).addLog a = w.reframe o (a ++ lg) lk := rfl

theorem addLog_relog (w : World) (o : ObsMgr) (lg a : List LogEv) :
    (w.relog o lg).addLog a = w.relog o (a ++ lg) := rfl

theorem writeValsW_relog (w : World) (e : Ent) (vals : List (Comp × Val)) (o : ObsMgr)
    (lg : List LogEv) : writeValsW (w.relog o lg) e vals = (writeValsW w e vals).relog o lg := rfl

theorem seenAfter_reframe (p : Path) (w : World) (e : Ent) (vals : List (Comp × Val)) (o : ObsMgr)
    (lg : List LogEv) (lk : Lock) :
    seenAfter p (w.reframe o lg lk) e vals = (seenAfter p w e vals).reframe o lg lk := by
  unfold seenAfter; split <;> rfl

theorem seenAfter_relog (p : Path) (w : World) (e : Ent) (vals : List (Comp × Val)) (o : ObsMgr)
    (lg : List LogEv) : seenAfter p (w.relog o lg) e vals = (seenAfter p w e vals).relog o lg := by
  unfold seenAfter; split <;> rfl

theorem withLocks_eq_reframe (w : World) (l : Lock) : w.withLocks l = w.reframe w.obs w.log l := rfl

theorem addLog_eq_reframe (w : World) (lg : List LogEv) :
    w.addLog lg = w.reframe w.obs (lg ++ w.log) w.locks := rfl

end World

/-- the `OnAddRelations` observers an addition-type call notifies: none if it names no relation -/
def firingIfRels (m : ObsMgr) (rels : List RelID) (ev : EvInst) : List Nat :=
  if rels.isEmpty then [] else firing m Ev.onAddRelations ev

/-- what the two rounds of an addition-type operation append to the log (newest first): the
    observers of event type `evt1` selected for `ev1`, run on `seen`; then the `OnAddRelations`
    observers selected for `ev2` (if the call names relations), run on `seen` with the records of
    the first round logged -/
def addRounds (rec : World → Nat → Ent → Probe → List LogEv) (m : ObsMgr) (e : Ent) (evt1 : Nat)
    (ev1 : EvInst) (rels : List RelID) (ev2 : EvInst) (seen : World) : List LogEv :=
  notifyAll rec e (firingIfRels m rels ev2) (seen.addLog (notifyAll rec e (firing m evt1 ev1) seen))
    ++ notifyAll rec e (firing m evt1 ev1) seen

/-- what two successive rounds for the same entity append to the log (newest first): the
    observers `L1` run on `seen`, then `L2` on `seen` with the records of the first round logged -/
def twoRounds (rec : World → Nat → Ent → Probe → List LogEv) (e : Ent) (L1 L2 : List Nat)
    (seen : World) : List LogEv :=
  notifyAll rec e L2 (seen.addLog (notifyAll rec e L1 seen)) ++ notifyAll rec e L1 seen

section Ops

variable {run : ProbeRunner} {S : Probe → Prop} {rec : World → Nat → Ent → Probe → List LogEv}

theorem addRounds_nil (m : ObsMgr) (e : Ent) (evt1 : Nat) (ev1 ev2 : EvInst) (seen : World) :
    addRounds rec m e evt1 ev1 [] ev2 seen = notifyAll rec e (firing m evt1 ev1) seen := rfl

/-- **the addition block** of `Add`, `NewEntity`, `Exchange`: the writes of the typed paths, two
    rounds (the second only under `c`), the writes of the `Unsafe` path, then `k` -/
theorem additionBlock_eq {β : Type} (o : ObsMgr) (e : Ent) (p : Path) (vals : List (Comp × Val))
    (c : Bool) {f1 f2 : W Unit} {L1 L2 : List Nat}
    (h1 : ∀ y : World, y.obs = o → f1 y = .ok () (y.addLog (notifyAll rec e L1 y)))
    (h2 : ∀ y : World, y.obs = o → f2 y = .ok () (y.addLog (notifyAll rec e L2 y)))
    (x : World) (hx : x.obs = o) (k : Unit → W β) :
    ((if (p != .unsafe_) = true then writeVals e vals else pure ()) >>= fun _ => f1 >>= fun _ =>
      (if c = true then f2 else pure ()) >>= fun _ =>
      (if (p == .unsafe_) = true then writeVals e vals else pure ()) >>= k) x
    = k () ((writeValsW x e vals).addLog
        (twoRounds rec e L1 (if c then L2 else []) (seenAfter p x e vals))) := by
  have a1 := h1 x hx
  have a2 := h1 (writeValsW x e vals) hx
  have b1 := h2 (x.addLog (notifyAll rec e L1 x)) hx
  have b2 := h2 ((writeValsW x e vals).addLog (notifyAll rec e L1 (writeValsW x e vals))) hx
  cases c <;> cases p <;>
  simp [M.bind_apply, writeVals_eq, a1, a2, b1, b2, twoRounds, seenAfter, writeValsW_addLog, notifyAll]

theorem additionBlock_end (o : ObsMgr) (e : Ent) (p : Path) (vals : List (Comp × Val))
    (c : Bool) {f1 f2 : W Unit} {L1 L2 : List Nat}
    (h1 : ∀ y : World, y.obs = o → f1 y = .ok () (y.addLog (notifyAll rec e L1 y)))
    (h2 : ∀ y : World, y.obs = o → f2 y = .ok () (y.addLog (notifyAll rec e L2 y)))
    (x : World) (hx : x.obs = o) :
    ((if (p != .unsafe_) = true then writeVals e vals else pure ()) >>= fun _ => f1 >>= fun _ =>
      (if c = true then f2 else pure ()) >>= fun _ =>
      (if (p == .unsafe_) = true then writeVals e vals else pure ())) x
    = .ok () ((writeValsW x e vals).addLog
        (twoRounds rec e L1 (if c then L2 else []) (seenAfter p x e vals))) := by
  have := additionBlock_eq o e p vals c h1 h2 x hx pure
  rwa [bind_pure_eq] at this

theorem twoRounds_nil (e : Ent) (c : Bool) (seen : World) :
    twoRounds rec e [] (if c then [] else []) seen = [] := by cases c <;> rfl

theorem addRounds_eq (m : ObsMgr) (e : Ent) (evt1 : Nat) (ev1 : EvInst) (rels : List RelID)
    (ev2 : EvInst) (seen : World) :
    addRounds rec m e evt1 ev1 rels ev2 seen
      = twoRounds rec e (firing m evt1 ev1)
          (if !rels.isEmpty then firing m Ev.onAddRelations ev2 else []) seen := by
  cases rels <;> rfl

/-- **`Add(e, ids…, rels…)` with observers, from the observer-free call.**  Every rejection is the
    same rejection.  An accepted call is accepted: the writes of the typed paths, then the
    `OnAddComponents` observers, then — if relations are named — the `OnAddRelations` observers, on
    the world after the change, then the writes of the `Unsafe` path. -/
theorem opAdd_lifts (run run0 : ProbeRunner) (p : Path) (e : Ent) (ids : List Comp)
    (vals : List (Comp × Val)) (rels : List RelID) (o : ObsMgr) (lg : List LogEv) (x : World) :
    Lifts o lg (opAdd run p e ids vals rels) (opAdd run0 p e ids vals rels) x fun _ x0 r =>
      ∀ {S : Probe → Prop} {rec : World → Nat → Ent → Probe → List LogEv}, ReadOnly run S rec →
        ScriptsIn o S → ObsOK o →
      ∃ (old new : Mask) (x1 : World), addCore e ids rels x = .ok (old, new) x1 ∧
        x0 = writeValsW x1 e vals ∧
        r = .ok () (x0.relog o
          (addRounds rec o e Ev.onAddComponents (.add old new) rels (.add old new)
            ((seenAfter p x1 e vals).relog o lg) ++ lg)) := by
  unfold opAdd
  refine Lifts.aliveIf _ e ?_
  refine Lifts.check (commutes_preCheck _ _ _).to3 (preCheck_state _ _ _) fun _ _ => ?_
  refine Lifts.bindOL (commutes_addCore _ _ _) (keepsLock_addCore _ _ _) fun r x1 hc _ => ?_
  obtain ⟨old, new⟩ := r
  refine Lifts.leaf (x' := writeValsW x1 e vals) (b := ()) (fun hx => ?_) fun hx => ?_
  · -- the observer-free run is the SAME block lemma, for the runner that records nothing and
    -- with nobody notified (`rec := fun … => []`, `L1 = L2 = []`); likewise in
    -- `opNewEntity_lifts` and `opExchange_lifts`
    simp only [ite_then_bind]
    refine (additionBlock_end (rec := fun _ _ _ _ => []) {} e p vals _
      (L1 := []) (L2 := []) (fun y hy => fireAddIfHas_none run0 _ e old new y (by rw [hy]; rfl))
      (fun y hy => fireAddIfHas_none run0 _ e old new y (by rw [hy]; rfl)) x1 hx).trans ?_
    rw [twoRounds_nil]; rfl
  · intro S rec hro hs hok
    refine ⟨old, new, x1, hc, rfl, ?_⟩
    simp only [ite_then_bind]
    refine (additionBlock_end (rec := rec) o e p vals _
      (fireAddIfHas_readOnly hro hs hok _ (by decide) e _ _)
      (fireAddIfHas_readOnly hro hs hok _ (by decide) e _ _)
      (x1.relog o lg) rfl).trans ?_
    rw [addRounds_eq, writeValsW_relog, seenAfter_relog, addLog_relog]

/-- **`NewEntity(ids…, rels…)` with observers, from the observer-free call.**  Every rejection is the
    same rejection.  An accepted call is accepted with the same handle: the writes of the typed
    paths, then the `OnCreateEntity` observers, then — if relations are named — the `OnAddRelations`
    observers, on the world after the creation, then the writes of the `Unsafe` path. -/
theorem opNewEntity_lifts (run run0 : ProbeRunner) (p : Path) (ids : List Comp)
    (vals : List (Comp × Val)) (rels : List RelID) (o : ObsMgr) (lg : List LogEv) (x : World) :
    Lifts o lg (opNewEntity run p ids vals rels) (opNewEntity run0 p ids vals rels) x fun e x0 r =>
      ∀ {S : Probe → Prop} {rec : World → Nat → Ent → Probe → List LogEv}, ReadOnly run S rec →
        ScriptsIn o S → ObsOK o →
      ∃ (mask : Mask) (x1 : World), newEntityCore ids rels x = .ok (e, mask) x1 ∧
        x0 = writeValsW x1 e vals ∧
        r = .ok e (x0.relog o
          (addRounds rec o e Ev.onCreateEntity (.entity mask) rels (.entityRel mask)
            ((seenAfter p x1 e vals).relog o lg) ++ lg)) := by
  unfold opNewEntity
  refine Lifts.check (commutes_preCheck _ _ _).to3 (preCheck_state _ _ _) fun _ _ => ?_
  refine Lifts.bindOL (commutes_newEntityCore _ _) (keepsLock_newEntityCore _ _) fun r x1 hc _ => ?_
  obtain ⟨e, mask⟩ := r
  refine Lifts.leaf (x' := writeValsW x1 e vals) (b := e) (fun hx => ?_) fun hx => ?_
  · simp only [ite_then_bind]
    refine (additionBlock_eq (rec := fun _ _ _ _ => []) {} e p vals _
      (L1 := []) (L2 := []) (fun y hy => fireCreateEntityIfHas_none run0 e mask y (by rw [hy]; rfl))
      (fun y hy => fireCreateEntityRelIfHas_none run0 e mask y (by rw [hy]; rfl)) x1 hx _).trans ?_
    rw [twoRounds_nil]; rfl
  · intro S rec hro hs hok
    refine ⟨mask, x1, hc, rfl, ?_⟩
    simp only [ite_then_bind]
    refine (additionBlock_eq (rec := rec) o e p vals _
      (fireCreateEntityIfHas_readOnly hro hs hok e mask)
      (fireCreateEntityRelIfHas_readOnly hro hs hok e mask)
      (x1.relog o lg) rfl _).trans ?_
    rw [addRounds_eq, writeValsW_relog, seenAfter_relog, addLog_relog]
    rfl

/-! ### the lock around removal callbacks (`LockCycle`: Ark/Proofs/QueryExact.lean § 4) -/

theorem lock_of_cycle {w : World} {l1 l2 : Lock} {b : Nat} (hL : LockCycle w.locks l1 b l2) :
    World.lock w = .ok b (w.withLocks l1) := by
  simp only [World.lock, hL.lock]; rfl

theorem unlock_of_cycle {w : World} {L l1 l2 : Lock} {b : Nat} (hL : LockCycle L l1 b l2)
    (hw : w.locks = l1) : World.unlock b w = .ok () (w.withLocks l2) := by
  simp only [World.unlock, hw, hL.unlock]; rfl

theorem LockCycle.locked {L l1 l2 : Lock} {b : Nat} (hL : LockCycle L l1 b l2) :
    l1.isLocked = true := by
  have h := hL.unlock
  simp only [Lock.unlock] at h
  split at h
  · rename_i hb
    simp only [Lock.isLocked, bne_iff_ne, ne_eq]
    intro h0
    rw [h0] at hb
    simp at hb
  · cases h

def guarded {α : Type} (c : Bool) (m : W α) : W PUnit :=
  if c then m >>= fun _ => pure PUnit.unit else pure PUnit.unit

/-- `do` copies the continuation of a conditional step into both branches of the `if`; this puts
    it back behind the step -/
theorem ite_bind_guarded {α β : Type} (c : Bool) (m : W α) (k : W β) :
    (if c = true then m >>= fun _ => k else k) = (guarded c m >>= fun _ => k) := by
  cases c
  · rfl
  · funext s
    show M.bind m _ s = M.bind (M.bind m _) _ s
    unfold M.bind
    cases m s <;> rfl

/-- the lock state after the event block of a removal: one `Lock()`/`Unlock()` cycle if there
    are observers of the event type, untouched otherwise -/
def lockAfter (w : World) (evt : Nat) (l2 : Lock) : Lock :=
  if w.obs.hasObservers evt then l2 else w.locks

/-- the `OnRemoveRelations` observers a removal notifies: none unless a relation is removed -/
def firingRemRel (m : ObsMgr) (rr : Bool) (ev : EvInst) : List Nat :=
  if rr then firing m Ev.onRemoveRelations ev else []

/-- what the two rounds of a removal append to the log (newest first): the observers of event
    type `evt1` selected for `ev1`, run on `seen`; then the `OnRemoveRelations` observers selected
    for `ev2` (if a relation is removed: `rr`), run on `seen` with the records of the first round
    logged -/
def remRounds (rec : World → Nat → Ent → Probe → List LogEv) (m : ObsMgr) (e : Ent) (evt1 : Nat)
    (ev1 : EvInst) (rr : Bool) (ev2 : EvInst) (seen : World) : List LogEv :=
  notifyAll rec e (firingRemRel m rr ev2) (seen.addLog (notifyAll rec e (firing m evt1 ev1) seen))
    ++ notifyAll rec e (firing m evt1 ev1) seen

/-- the lock state after the event block of a removal with a relation round: one
    `Lock()`/`Unlock()` cycle if there are observers of `evt1`, or a relation is removed and there
    are `OnRemoveRelations` observers; untouched otherwise -/
def lockAfter2 (w : World) (evt1 : Nat) (rr : Bool) (l2 : Lock) : Lock :=
  if w.obs.hasObservers evt1 || (rr && w.obs.hasObservers Ev.onRemoveRelations) then l2 else w.locks

theorem remRounds_false (m : ObsMgr) (e : Ent) (evt1 : Nat) (ev1 ev2 : EvInst) (seen : World) :
    remRounds rec m e evt1 ev1 false ev2 seen = notifyAll rec e (firing m evt1 ev1) seen := rfl

theorem lockAfter2_false (w : World) (evt1 : Nat) (l2 : Lock) :
    lockAfter2 w evt1 false l2 = lockAfter w evt1 l2 := by
  simp only [lockAfter2, lockAfter, Bool.false_and, Bool.or_false]

/-- **one round under the lock** (`World.setRelations`): `Lock()`, the round on the locked world,
    `Unlock()` — all of it only if there are observers of the event type; without them nobody
    would be selected, so the outcome is one formula -/
theorem lockedRound_eq {α β : Type} {w : World} (hok : ObsOK w.obs) {l1 l2 : Lock} {b : Nat}
    (hL : LockCycle w.locks l1 b l2) (evt : Nat) (ev : EvInst) (e : Ent) {f : W α} {r : α}
    (hf : ∀ y : World, y.obs = w.obs →
      f y = .ok r (y.addLog (notifyAll rec e (firing w.obs evt ev) y))) (k : W β) :
    (if w.obs.hasObservers evt = true then
        lock >>= fun l => f >>= fun _ => unlock l >>= fun _ => k else k) w
      = k (w.reframe w.obs (notifyAll rec e (firing w.obs evt ev) (w.withLocks l1) ++ w.log)
          (lockAfter w evt l2)) := by
  unfold lockAfter
  cases hh : w.obs.hasObservers evt with
  | false => rw [firing_nil_of_no_observers (hok.agg _) hh]; rfl
  | true =>
    rw [if_pos rfl, M.bind_apply, lock_of_cycle hL]
    simp only [M.bind_apply, hf (w.withLocks l1) rfl]
    rw [unlock_of_cycle hL rfl]
    rfl

set_option linter.unusedSimpArgs false in
/-- **the event block of every removal** (`World.remove`, `World.exchange`, `RemoveEntity`): if
    there are observers of `evt1`, or a relation goes (`rr`) and there are `OnRemoveRelations`
    observers, ONE lock around the two rounds.  `f1`, `f2` notify the observers the documented
    rule selects; without observers of an event type nobody is selected, so the outcome is the
    same formula in all eight cases: the continuation `k` runs on `w` with the records of the
    two rounds logged and the lock's bit pool after the cycle. -/
theorem removalBlock_eq {β : Type} {w : World} (hok : ObsOK w.obs) {l1 l2 : Lock} {b : Nat}
    (hL : LockCycle w.locks l1 b l2) (e : Ent) (evt1 : Nat) (ev1 ev2 : EvInst) (rr : Bool)
    {f1 f2 : W Bool} {r1 r2 : Bool}
    (h1 : ∀ x : World, x.obs = w.obs →
      f1 x = .ok r1 (x.addLog (notifyAll rec e (firing w.obs evt1 ev1) x)))
    (h2 : ∀ x : World, x.obs = w.obs →
      f2 x = .ok r2 (x.addLog (notifyAll rec e (firing w.obs Ev.onRemoveRelations ev2) x)))
    (k : W β) :
    (if (w.obs.hasObservers evt1 || rr && w.obs.hasObservers Ev.onRemoveRelations) = true then
        lock >>= fun l => guarded (w.obs.hasObservers evt1) f1 >>= fun _ =>
          guarded (rr && w.obs.hasObservers Ev.onRemoveRelations) f2 >>= fun _ =>
            unlock l >>= fun _ => k
      else k) w
      = k (w.reframe w.obs (remRounds rec w.obs e evt1 ev1 rr ev2 (w.withLocks l1) ++ w.log)
            (lockAfter2 w evt1 rr l2)) := by
  -- every world of the block in the form `w.reframe w.obs LG l1`
  have e1 := h1 (w.reframe w.obs w.log l1) rfl
  have e2a := h2 (w.reframe w.obs w.log l1) rfl
  have e2b := h2 (w.reframe w.obs
    (notifyAll rec e (firing w.obs evt1 ev1) (w.reframe w.obs w.log l1) ++ w.log) l1) rfl
  have hun : ∀ LG : List LogEv, unlock b (w.reframe w.obs LG l1) = .ok () (w.reframe w.obs LG l2) :=
    fun LG => unlock_of_cycle hL rfl
  have n1 : w.obs.hasObservers evt1 = false → firing w.obs evt1 ev1 = [] :=
    fun h => firing_nil_of_no_observers (hok.agg _) h _
  have n2 : w.obs.hasObservers Ev.onRemoveRelations = false →
      firing w.obs Ev.onRemoveRelations ev2 = [] :=
    fun h => firing_nil_of_no_observers (hok.agg _) h _
  unfold remRounds firingRemRel lockAfter2
  -- one `simp only` for the eight cases (hence the linter off): where the block is skipped
  -- `lock_of_cycle`, `hun` and the `e…` are idle and `n1`, `n2` empty the two rounds; where the
  -- lock is taken, `e1` (`n1`) runs (empties) the first round, `e2a` or `e2b` the second one,
  -- according to whether the first has logged, and `n2` empties it when nobody is registered
  cases hc : w.obs.hasObservers evt1 <;> cases rr <;>
    cases hr : w.obs.hasObservers Ev.onRemoveRelations <;>
  simp only [guarded, M.bind_apply, M.pure_apply, Bool.false_and, Bool.true_and, Bool.or_false,
    Bool.or_true, Bool.false_or, Bool.true_or, Bool.or_self, Bool.false_eq_true, if_false, if_true,
    lock_of_cycle hL, e1, e2a, e2b, n1, n2, hc, hr, notifyAll, addLog_nil, List.nil_append,
    List.append_nil, hun, addLog_eq_reframe, withLocks_eq_reframe,
    reframe_reframe, reframe_obs, reframe_log, reframe_locks, List.append_assoc, reframe_self]

/-- the part of `storage.RemoveEntity` after the events (verbatim) -/
def removeEntityTail (e : Ent) (t row : Nat) : W Unit := do
  M.modify fun w =>
    let (T', swapped) := (w.tbl t).remove row
    let w := w.setTbl t T'
    let w := { w with pool := w.pool.recycle e }
    let w := if swapped then
        let se := T'.getEntity row
        { w with entities := w.entities.modify se.id fun (tt, _) => (tt, row) }
      else w
    { w with entities := w.entities.modify e.id fun (_, r) => (maxU32, r) }
  let w ← M.get
  if w.isTarget.getD e.id false then
    cleanupArchetypes e
    M.modify fun w => { w with isTarget := w.isTarget.set e.id false }

theorem removeEntityTail_eq (e : Ent) (t row : Nat) (X : World)
    (hnt : X.isTarget.getD e.id false = false) :
    removeEntityTail e t row X = .ok () (removeRowOf X e t row) := by
  cases hsw : ((X.tbl t).remove row).2 <;>
  simp only [removeEntityTail, bind, M.bind, M.get, M.modify, hsw, removeRowOf, setTbl, hnt,
    Bool.false_eq_true, if_false, if_true, pure, M.pure]

/-- **`RemoveEntity` with observers** (equation, any entity): if there are `OnRemoveEntity`
    observers, or the entity's table has relation columns and there are `OnRemoveRelations`
    observers, the world is locked ONCE, the `OnRemoveEntity` observers the documented rule
    selects are notified, then — if the table has relation columns — the `OnRemoveRelations`
    observers, all on the locked, otherwise unchanged world; the lock is released; then the row
    is removed and, if the entity is a relation target, its relation tables are cleaned up. -/
theorem opRemoveEntity_rel_obs_eq (hro : ReadOnly run S rec) (w : World) (e : Ent)
    (hs : ScriptsIn w.obs S) (hok : ObsOK w.obs) (hl : w.isLocked = false)
    (ha : w.alive e = true) {t row : Nat} (hix : w.index e.id = (t, row))
    {l1 l2 : Lock} {b : Nat} (hL : LockCycle w.locks l1 b l2) :
    opRemoveEntity run e w = removeEntityTail e t row
      (w.reframe w.obs
        (remRounds rec w.obs e Ev.onRemoveEntity (.entity (w.arch (w.tbl t).arch).mask)
          (w.tbl t).hasRelations (.entityRel (w.arch (w.tbl t).arch).mask) (w.withLocks l1) ++ w.log)
        (lockAfter2 w Ev.onRemoveEntity (w.tbl t).hasRelations l2)) := by
  unfold opRemoveEntity
  simp only [ite_bind_guarded]
  simp only [M.bind_apply, checkLocked_unlocked w hl, M.get_apply, M.assert_apply, ha, if_true, hix]
  rw [removalBlock_eq hok hL e _ _ _ _ (fireRemoveEntity_readOnly hro hs hok e _ true)
    (fireRemoveEntityRel_readOnly hro hs hok e _ true)]
  rfl

/-- **`World.remove` with observers, from the observer-free call** (relations or not).  Every
    rejection is the same rejection: all checks and the table lookup precede the events.  After
    the lookup (`x1`, without observers; it may have created the destination archetype and table):
    if there are `OnRemoveComponents` observers, or a relation is removed and there are
    `OnRemoveRelations` observers, the world is locked ONCE, the two rounds (`remRounds`) run on
    the locked world with the entity still in its old row; the lock is released and the row is
    moved: the observer-free result with the observers put back. -/
theorem removeCore_lifts (run run0 : ProbeRunner) (e : Ent) (rem : List Comp) (o : ObsMgr)
    (lg : List LogEv) (x : World) :
    Lifts o lg (removeCore run e rem) (removeCore run0 e rem) x fun _ x0 r =>
      ∀ {S : Probe → Prop} {rec : World → Nat → Ent → Probe → List LogEv}, ReadOnly run S rec →
        ScriptsIn o S → ObsOK o → ∀ {l1 l2 : Lock} {b : Nat}, LockCycle x.locks l1 b l2 →
      ∃ (t a : Nat) (m : Mask) (rr : Bool) (x1 : World),
        findOrCreateTableRemove (x.index e.id).1 (x.maskOf e) rem x = .ok (t, a, m, rr) x1 ∧
        x0 = addMove x1 e (x.index e.id).1 (x.index e.id).2 t m ∧
        r = .ok () (x0.reframe o
          (remRounds rec o e Ev.onRemoveComponents (.remove (x.maskOf e) m) rr
            (.remove (x.maskOf e) m) (x1.reframe o lg l1) ++ lg)
          (lockAfter2 (x.relog o lg) Ev.onRemoveComponents rr l2)) := by
  unfold removeCore
  refine Lifts.check commutes_checkLocked checkLocked_state fun _ _ => ?_
  refine Lifts.get ?_
  refine Lifts.check (Commutes.assert _ _) (assert_state _ _) fun _ _ => ?_
  refine Lifts.check (Commutes.assert _ _) (assert_state _ _) fun _ _ => ?_
  simp only [index_relog, arch_relog, tbl_relog]
  rw [show x.maskOf e = (x.arch (x.tbl (x.index e.id).1).arch).mask from rfl]
  cases x.index e.id with
  | mk oldT row =>
  refine Lifts.bind (commutes_findOrCreateTableRemove _ _ _) fun r x1 hf hlocks => ?_
  obtain ⟨t, a, m, rr⟩ := r
  refine Lifts.leaf (x' := addMove x1 e oldT row t m) (b := ()) (fun hx => ?_) fun _ => ?_
  · simp only [M.bind_apply, M.get_apply, hx, hasObservers_empty, Bool.and_false, Bool.or_false,
      Bool.false_eq_true, if_false]
    rfl
  · intro S rec hro hs hok l1 l2 b hL
    refine ⟨t, a, m, rr, x1, hf, rfl, ?_⟩
    simp only [ite_bind_guarded]
    simp only [M.bind_apply, M.get_apply]
    rw [removalBlock_eq (w := x1.relog o lg) hok (by rw [← hlocks] at hL; exact hL) e _ _ _ rr
      (fireRemove_readOnly hro hs hok _ (by decide) e _ m true)
      (fireRemove_readOnly hro hs hok _ (by decide) e _ m true)]
    refine (addMove_eq e oldT row t m _).trans ?_
    unfold lockAfter2
    simp only [relog_eq_reframe, addMove_reframe, reframe_reframe, reframe_obs, reframe_log,
      reframe_locks, withLocks_reframe, hlocks]
    rfl

/-- `Remove` through any path: the `Alive` check of the untyped paths in front -/
theorem opRemove_lifts (run run0 : ProbeRunner) (p : Path) (e : Ent) (rem : List Comp) (o : ObsMgr)
    (lg : List LogEv) (x : World) {Q : Unit → World → Res World Unit → Prop}
    (h : Lifts o lg (removeCore run e rem) (removeCore run0 e rem) x Q) :
    Lifts o lg (opRemove run p e rem) (opRemove run0 p e rem) x Q := by
  unfold opRemove
  split
  · exact Lifts.get (Lifts.check (Commutes.assert _ _) (assert_state _ _) fun _ _ => h)
  · exact Lifts.check (A := (pure PUnit.unit : W PUnit)) (Commutes.pure _) (fun _ => rfl) fun _ _ => h

/-- the lock state after the event block of `World.exchange` -/
def lockAfterX (w : World) (rem : List Comp) (l2 : Lock) : Lock :=
  if rem.isEmpty then w.locks else lockAfter w Ev.onRemoveComponents l2

/-- the observers notified by the removal part of `World.exchange`: none if nothing is removed -/
def firingX (w : World) (rem : List Comp) (old new : Mask) : List Nat :=
  if rem.isEmpty then [] else firing w.obs Ev.onRemoveComponents (.remove old new)

/-- the `OnRemoveComponents` observers `Exchange` notifies: none if nothing is removed -/
def firingXRem (m : ObsMgr) (rem : List Comp) (ev : EvInst) : List Nat :=
  if rem.isEmpty then [] else firing m Ev.onRemoveComponents ev

/-- the `OnRemoveRelations` observers `Exchange` notifies: none unless something is removed and a
    relation is removed (`rr`) -/
def firingXRemRel (m : ObsMgr) (rem : List Comp) (rr : Bool) (ev : EvInst) : List Nat :=
  if rem.isEmpty then [] else firingRemRel m rr ev

/-- what the removal rounds of `Exchange` append to the log (newest first): the
    `OnRemoveComponents` observers selected for `ev`, run on `seen`; then the `OnRemoveRelations`
    observers selected for `ev` (if a relation is removed), run on `seen` with the records of the
    first round logged -/
def xRemRounds (rec : World → Nat → Ent → Probe → List LogEv) (m : ObsMgr) (e : Ent)
    (rem : List Comp) (rr : Bool) (ev : EvInst) (seen : World) : List LogEv :=
  notifyAll rec e (firingXRemRel m rem rr ev)
      (seen.addLog (notifyAll rec e (firingXRem m rem ev) seen))
    ++ notifyAll rec e (firingXRem m rem ev) seen

/-- the lock state after the removal block of `World.exchange`: untouched if nothing is removed;
    otherwise one `Lock()`/`Unlock()` cycle if there are `OnRemoveComponents` observers, or a
    relation is removed and there are `OnRemoveRelations` observers -/
def lockAfterX2 (w : World) (rem : List Comp) (rr : Bool) (l2 : Lock) : Lock :=
  if rem.isEmpty then w.locks else lockAfter2 w Ev.onRemoveComponents rr l2

theorem xRemRounds_false (e : Ent) (rem : List Comp) (old new : Mask) (w seen : World) :
    xRemRounds rec w.obs e rem false (.remove old new) seen
      = notifyAll rec e (firingX w rem old new) seen := by
  unfold xRemRounds firingXRemRel firingXRem firingX firingRemRel
  split <;> rfl

theorem lockAfterX2_false (w : World) (rem : List Comp) (l2 : Lock) :
    lockAfterX2 w rem false l2 = lockAfterX w rem l2 := by
  unfold lockAfterX2 lockAfterX
  rw [lockAfter2_false]

/-- **`World.exchange` with observers, from the observer-free call** (relations or not).  Every
    rejection is the same rejection: all checks and the table lookup precede the events.  After
    the lookup (`x1`, without observers), if something is removed and there are
    `OnRemoveComponents` observers, or a relation is removed and there are `OnRemoveRelations`
    observers, the world is locked ONCE, the two rounds (`xRemRounds`, for `.remove oldMask m`) run
    on the locked world with the entity still in its old row; the lock is released, the row is
    moved and the given targets are flagged: the observer-free result with the observers put
    back. -/
theorem exchangeCore_lifts (run run0 : ProbeRunner) (e : Ent) (add rem : List Comp) (rels : List RelID)
    (o : ObsMgr) (lg : List LogEv) (x : World) :
    Lifts o lg (exchangeCore run e add rem rels) (exchangeCore run0 e add rem rels) x fun ms x0 r =>
      x0.obs = {} ∧ ∀ {S : Probe → Prop} {rec : World → Nat → Ent → Probe → List LogEv}, ReadOnly run S rec →
        ScriptsIn o S → ObsOK o → ∀ {l1 l2 : Lock} {b : Nat}, LockCycle x.locks l1 b l2 →
      ∃ (t a : Nat) (m : Mask) (rr : Bool) (x1 : World),
        findOrCreateTable (x.index e.id).1 (x.maskOf e) add rem rels x = .ok (t, a, m, rr) x1 ∧
        x0 = registerW (addMove x1 e (x.index e.id).1 (x.index e.id).2 t m) rels ∧
        ms = (x.maskOf e, (x0.arch a).mask) ∧
        r = .ok ms (x0.reframe o
          (xRemRounds rec o e rem rr (.remove (x.maskOf e) m) (x1.reframe o lg l1) ++ lg)
          (lockAfterX2 (x.relog o lg) rem rr l2)) := by
  unfold exchangeCore
  refine Lifts.check commutes_checkLocked checkLocked_state fun _ _ => ?_
  refine Lifts.get ?_
  refine Lifts.check (Commutes.assert _ _) (assert_state _ _) fun _ _ => ?_
  refine Lifts.check (Commutes.assert _ _) (assert_state _ _) fun _ _ => ?_
  simp only [index_relog, arch_relog, tbl_relog]
  rw [show x.maskOf e = (x.arch (x.tbl (x.index e.id).1).arch).mask from rfl]
  cases x.index e.id with
  | mk oldT row =>
  refine Lifts.bind (commutes_findOrCreateTable _ _ _ _ _) fun r x1 hf hlocks => ?_
  obtain ⟨t, a, m, rr⟩ := r
  -- the part after the removal block, on `x1` with any frame
  have htail : ∀ (o' : ObsMgr) (lg' : List LogEv) (lk : Lock),
      ((fun w => Res.ok ((w.tbl t).add e).snd (w.setTbl t ((w.tbl t).add e).fst) : W Nat) >>=
        fun newIndex => moveRow e oldT row t newIndex m >>= fun _ => registerTargets rels >>=
          fun _ => M.get >>= fun w_1 =>
            pure ((x.arch (x.tbl oldT).arch).mask, (w_1.arch a).mask)) (x1.reframe o' lg' lk)
        = .ok ((x.arch (x.tbl oldT).arch).mask,
            ((registerW (addMove x1 e oldT row t m) rels).arch a).mask)
          ((registerW (addMove x1 e oldT row t m) rels).reframe o' lg' lk) := by
    intro o' lg' lk
    show Res.ok (_, ((registerW (addMove (x1.reframe o' lg' lk) e oldT row t m) rels).arch a).mask)
      (registerW (addMove (x1.reframe o' lg' lk) e oldT row t m) rels) = _
    rw [addMove_reframe, registerW_reframe, arch_reframe]
  have h0 : ((fun w => Res.ok ((w.tbl t).add e).snd (w.setTbl t ((w.tbl t).add e).fst) : W Nat) >>=
        fun newIndex => moveRow e oldT row t newIndex m >>= fun _ => registerTargets rels >>=
          fun _ => M.get >>= fun w_1 =>
            pure ((x.arch (x.tbl oldT).arch).mask, (w_1.arch a).mask)) x1
        = .ok ((x.arch (x.tbl oldT).arch).mask,
            ((registerW (addMove x1 e oldT row t m) rels).arch a).mask)
          (registerW (addMove x1 e oldT row t m) rels) := rfl
  have hobs2 : x1.obs = {} → (registerW (addMove x1 e oldT row t m) rels).obs = {} := fun hx =>
    (show (registerW (addMove x1 e oldT row t m) rels).obs = x1.obs from
      (addMove_fields x1 e oldT row t m).2.2.2.obs).trans hx
  simp only [ite_bind_guarded]
  cases hre : rem.isEmpty with
  | true =>
    simp only [Bool.not_true, Bool.false_eq_true, if_false]
    refine Lifts.leaf (fun _ => h0) fun hx => ⟨hobs2 hx, ?_⟩
    intro S rec hro hs hok l1 l2 b hL
    refine ⟨t, a, m, rr, x1, hf, rfl, rfl, ?_⟩
    unfold xRemRounds firingXRem firingXRemRel lockAfterX2
    rw [relog_eq_reframe x1, htail]
    simp only [hre, if_true, notifyAll, List.nil_append, hlocks]
    rfl
  | false =>
    simp only [Bool.not_false, if_true]
    refine Lifts.leaf (x' := registerW (addMove x1 e oldT row t m) rels)
      (b := ((x.arch (x.tbl oldT).arch).mask, ((registerW (addMove x1 e oldT row t m) rels).arch a).mask))
      (fun hx => ?_) fun hx => ⟨hobs2 hx, ?_⟩
    · simp only [M.bind_apply, M.get_apply, hx, hasObservers_empty, Bool.and_false, Bool.or_false,
        Bool.false_eq_true, if_false]
      exact h0
    · intro S rec hro hs hok l1 l2 b hL
      refine ⟨t, a, m, rr, x1, hf, rfl, rfl, ?_⟩
      unfold xRemRounds firingXRem firingXRemRel lockAfterX2
      simp only [M.bind_apply, M.get_apply]
      rw [removalBlock_eq (w := x1.relog o lg) hok (by rw [← hlocks] at hL; exact hL) e _ _ _ rr
        (fireRemove_readOnly hro hs hok _ (by decide) e _ m true)
        (fireRemove_readOnly hro hs hok _ (by decide) e _ m true)]
      rw [relog_eq_reframe x1, reframe_reframe, htail]
      unfold remRounds lockAfter2
      simp only [hre, Bool.false_eq_true, if_false, reframe_obs, reframe_log, reframe_locks,
        withLocks_reframe, hlocks]
      rfl

/-- the observers notified by the addition part of `Exchange`: the `Unsafe` path skips the event
    when nothing is added -/
def firingAddX (m : ObsMgr) (p : Path) (add : List Comp) (old new : Mask) : List Nat :=
  if p = .unsafe_ ∧ add = [] then [] else firing m Ev.onAddComponents (.add old new)

/-- the `OnAddComponents` observers `Exchange` notifies: the `Unsafe` path skips the round when
    nothing is added -/
def firingXAdd (m : ObsMgr) (p : Path) (add : List Comp) (ev : EvInst) : List Nat :=
  if p = .unsafe_ ∧ add = [] then [] else firing m Ev.onAddComponents ev

/-- the `OnAddRelations` observers `Exchange` notifies: none if no relation target is given; the
    `Unsafe` path skips the round when nothing is added -/
def firingXAddRel (m : ObsMgr) (p : Path) (add : List Comp) (rels : List RelID) (ev : EvInst) :
    List Nat :=
  if p = .unsafe_ ∧ add = [] then [] else firingIfRels m rels ev

/-- what the addition rounds of `Exchange` append to the log (newest first) -/
def xAddRounds (rec : World → Nat → Ent → Probe → List LogEv) (m : ObsMgr) (p : Path) (e : Ent)
    (add : List Comp) (rels : List RelID) (ev : EvInst) (seen : World) : List LogEv :=
  notifyAll rec e (firingXAddRel m p add rels ev)
      (seen.addLog (notifyAll rec e (firingXAdd m p add ev) seen))
    ++ notifyAll rec e (firingXAdd m p add ev) seen

def xchgLogB (rec : World → Nat → Ent → Probe → List LogEv) (w w1 : World) (e : Ent)
    (rem : List Comp) (rr : Bool) (old m : Mask) (l1 : Lock) : List LogEv :=
  xRemRounds rec w.obs e rem rr (.remove old m) (w1.reframe w.obs w.log l1) ++ w.log

/-- the world the addition rounds of `Exchange` run on: the observer-free result of
    `World.exchange` (`w2`), with the values written on the typed path (`seenAfter`), the observers
    of `w`, the log after the removal rounds and the final lock state -/
def xchgSeenA (rec : World → Nat → Ent → Probe → List LogEv) (w w1 w2 : World) (p : Path) (e : Ent)
    (vals : List (Comp × Val)) (rem : List Comp) (rr : Bool) (old m : Mask) (l1 l2 : Lock) : World :=
  (seenAfter p w2 e vals).reframe w.obs (xchgLogB rec w w1 e rem rr old m l1) (lockAfterX2 w rem rr l2)

/-- the result of `Exchange` with observers, given the observer-free worlds `w1` (after the table
    lookup) and `w2` (after `World.exchange`), the masks and the `relationRemoved` flag -/
def xchgResult (rec : World → Nat → Ent → Probe → List LogEv) (w w1 w2 : World) (p : Path) (e : Ent)
    (add : List Comp) (vals : List (Comp × Val)) (rem : List Comp) (rels : List RelID) (rr : Bool)
    (old m new : Mask) (l1 l2 : Lock) : World :=
  (writeValsW w2 e vals).reframe w.obs
    (xAddRounds rec w.obs p e add rels (.add old new)
        (xchgSeenA rec w w1 w2 p e vals rem rr old m l1 l2)
      ++ xchgLogB rec w w1 e rem rr old m l1)
    (lockAfterX2 w rem rr l2)

/-- the addition block of `Exchange`: the two rounds only under `c0` -/
theorem xchgAdditionBlock_eq (o : ObsMgr) (e : Ent) (p : Path) (vals : List (Comp × Val))
    (c0 c : Bool) {f1 f2 : W Unit} {L1 L2 : List Nat}
    (h1 : ∀ y : World, y.obs = o → f1 y = .ok () (y.addLog (notifyAll rec e L1 y)))
    (h2 : ∀ y : World, y.obs = o → f2 y = .ok () (y.addLog (notifyAll rec e L2 y)))
    (x : World) (hx : x.obs = o) :
    ((if (p != .unsafe_) = true then writeVals e vals else pure ()) >>= fun _ =>
      if c0 = true then f1 >>= fun _ => (if c = true then f2 else pure ()) >>= fun _ =>
        (if (p == .unsafe_) = true then writeVals e vals else pure ())
      else (if (p == .unsafe_) = true then writeVals e vals else pure ())) x
    = .ok () ((writeValsW x e vals).addLog
        (twoRounds rec e (if c0 then L1 else []) (if c0 then (if c then L2 else []) else [])
          (seenAfter p x e vals))) := by
  cases c0
  · cases p <;> simp [M.bind_apply, writeVals_eq, twoRounds, notifyAll]
  · exact additionBlock_end o e p vals c h1 h2 x hx

theorem xAddRounds_eq (m : ObsMgr) (p : Path) (e : Ent) (add : List Comp) (rels : List RelID)
    (ev : EvInst) (seen : World) :
    xAddRounds rec m p e add rels ev seen
      = twoRounds rec e
          (if (p != .unsafe_ || !add.isEmpty) then firing m Ev.onAddComponents ev else [])
          (if (p != .unsafe_ || !add.isEmpty) then
            (if !rels.isEmpty then firing m Ev.onAddRelations ev else []) else []) seen := by
  cases p <;> cases add <;> cases rels <;> rfl

/-- the `cb` records of two rounds; `addRounds`, `remRounds`, `xRemRounds`, `xAddRounds` are
    `twoRounds` for particular lists, and unification sees through them -/
theorem cbsOf_twoRounds (hn : NoCb rec) (e : Ent) (L1 L2 : List Nat) (seen : World)
    (lg : List LogEv) :
    cbsOf (twoRounds rec e L1 L2 seen ++ lg) =
      (L2.map fun l => (l, e)).reverse ++ ((L1.map fun l => (l, e)).reverse ++ cbsOf lg) := by
  rw [twoRounds, List.append_assoc, cbsOf_append, cbsOf_notifyAll hn, cbsOf_append,
    cbsOf_notifyAll hn]

/-- **`Exchange` with observers, from the observer-free call** (any path).  Every rejection is
    the same rejection: the `Alive` check of the `Unsafe` path, the pre-validation and every check
    of `World.exchange` precede the events.  An accepted call is accepted: the result is
    `xchgResult` — the observer-free result with the observers put back, the lock state
    `lockAfterX2`, the log extended by the removal rounds on `x1` LOCKED and then — unless the path
    is `Unsafe` and nothing is added — the addition rounds on the world after the change. -/
theorem opExchange_lifts (run run0 : ProbeRunner) (p : Path) (e : Ent) (add : List Comp)
    (vals : List (Comp × Val)) (rem : List Comp) (rels : List RelID) (o : ObsMgr) (lg : List LogEv)
    (x : World) :
    Lifts o lg (opExchange run p e add vals rem rels) (opExchange run0 p e add vals rem rels) x
      fun _ x0 r =>
      ∀ {S : Probe → Prop} {rec : World → Nat → Ent → Probe → List LogEv}, ReadOnly run S rec →
        ScriptsIn o S → ObsOK o → ∀ {l1 l2 : Lock} {b : Nat}, LockCycle x.locks l1 b l2 →
      ∃ (old new m : Mask) (t a : Nat) (rr : Bool) (x1 x2 : World),
        findOrCreateTable (x.index e.id).1 (x.maskOf e) add rem rels x = .ok (t, a, m, rr) x1 ∧
        exchangeCore run0 e add rem rels x = .ok (old, new) x2 ∧
        x2 = registerW (addMove x1 e (x.index e.id).1 (x.index e.id).2 t m) rels ∧
        old = x.maskOf e ∧ new = (x2.arch a).mask ∧
        x0 = writeValsW x2 e vals ∧
        r = .ok () (xchgResult rec (x.relog o lg) x1 x2 p e add vals rem rels rr old m new l1 l2) := by
  unfold opExchange
  refine Lifts.aliveIf _ e ?_
  refine Lifts.check (commutes_preCheck _ _ _).to3 (preCheck_state _ _ _) fun _ _ => ?_
  simp only [ite_then_bind]
  intro hx
  have hcore := exchangeCore_lifts run run0 e add rem rels o lg x hx
  rw [M.bind_apply]
  cases hc : exchangeCore run0 e add rem rels x with
  | panic c s =>
    rw [hc] at hcore
    exact ⟨hcore.1, by rw [M.bind_apply, hcore.2]⟩
  | ok ms x2 =>
    rw [hc] at hcore
    obtain ⟨hx2, hcore⟩ := hcore
    simp only []
    rw [xchgAdditionBlock_eq (rec := fun _ _ _ _ => []) {} e p vals _ _ (L1 := []) (L2 := [])
      (fun y hy => fireAddIfHas_none run0 _ e ms.1 ms.2 y (by rw [hy]; rfl))
      (fun y hy => fireAddIfHas_none run0 _ e ms.1 ms.2 y (by rw [hy]; rfl)) x2 hx2]
    simp only [ite_self, twoRounds, notifyAll, List.append_nil, addLog_nil]
    intro S rec hro hs hok l1 l2 b hL
    obtain ⟨t, a, m, rr, x1, hf, hx2e, hms, hr⟩ := hcore hro hs hok hL
    refine ⟨ms.1, ms.2, m, t, a, rr, x1, x2, hf, rfl, hx2e, congrArg Prod.fst hms,
      congrArg Prod.snd hms, rfl, ?_⟩
    rw [M.bind_apply, hr]
    simp only []
    rw [xchgAdditionBlock_eq (rec := rec) o e p vals _ _
      (fireAddIfHas_readOnly hro hs hok _ (by decide) e _ _)
      (fireAddIfHas_readOnly hro hs hok _ (by decide) e _ _)
      _ rfl]
    unfold xchgResult xchgSeenA xchgLogB
    rw [xAddRounds_eq, writeValsW_reframe, seenAfter_reframe, addLog_reframe, congrArg Prod.fst hms]
    rfl
theorem xAddRounds_nil (m : ObsMgr) (p : Path) (e : Ent) (add : List Comp) (old new : Mask)
    (seen : World) :
    xAddRounds rec m p e add [] (.add old new) seen
      = notifyAll rec e (firingAddX m p add old new) seen := by
  unfold xAddRounds firingXAddRel firingXAdd firingAddX
  split <;> rfl

/-- **`NewEntity()` with observers** (equation): the entity is placed into the root table, then
    the `OnCreateEntity` observers are notified on that world. -/
theorem opNewEntity0_obs_eq (hro : ReadOnly run S rec) (w : World) (hs : ScriptsIn w.obs S)
    (hok : ObsOK w.obs) (hl : w.isLocked = false) :
    opNewEntity0 run w = .ok (w.pool.get).2 ((placedW w 0 true).addLog
      (notifyAll rec (w.pool.get).2 (firing w.obs Ev.onCreateEntity (.entity (w.arch 0).mask))
        (placedW w 0 true))) := by
  have hobs := placedW_obs w 0 true
  have harch : (placedW w 0 true).arch 0 = w.arch 0 := by
    rw [placedW_eq]; rfl
  simp only [opNewEntity0, bind, M.bind, checkLocked_unlocked w hl, placeNew_eq, M.get,
    fireCreateEntityIfHas_readOnly hro hs hok _ _ (placedW w 0 true) hobs, pure, M.pure, harch]

/-- **`Set` with observers** (equation): the values are written, then the `OnSetComponents`
    observers are notified on that world, in the caller's lock state. -/
theorem opSet_obs_eq (hro : ReadOnly run S rec) (w : World) (hs : ScriptsIn w.obs S)
    (hok : ObsOK w.obs) (e : Ent) (ids : List Comp) (vals : List (Comp × Val))
    (ha : w.alive e = true)
    (hhas : (ids.all fun c => (w.tbl (w.index e.id).1).has c) = true) :
    opSet run e ids vals w = .ok () ((writeValsW w e vals).addLog
      (notifyAll rec e
        (firing w.obs Ev.onSetComponents (.set (Mask.ofList ids) ((writeValsW w e vals).maskOf e)))
        (writeValsW w e vals))) := by
  simp only [opSet, bind, M.bind, M.get, M.assert, ha, if_true, hhas, writeVals_eq]
  exact guardedRound_eq hok _ _ e (fireSet_readOnly hro hs hok _ (by decide) e _ _ true)
    (writeValsW w e vals) rfl

/-- **`Event.Emit` with observers** (equation, for a custom event type, an alive entity — or the
    zero entity with no components — that has the event's components): the observers of the event
    type the documented rule selects are notified on the unchanged world. -/
theorem opEmit_obs_eq (hro : ReadOnly run S rec) (w : World) (hs : ScriptsIn w.obs S)
    (hok : ObsOK w.obs) (evt : Nat) (comps : List Comp) (e : Ent) (hevt : evt ≤ Ev.custom)
    (hent : if e.isZero then (Mask.ofList comps).isZero = true else w.alive e = true)
    (hcont : ((if e.isZero then (w.arch 0).mask else w.maskOf e).contains (Mask.ofList comps)) = true) :
    opEmit run evt comps e w = .ok () (w.addLog
      (notifyAll rec e
        (firing w.obs evt (.set (Mask.ofList comps) (if e.isZero then (w.arch 0).mask else w.maskOf e)))
        w)) := by
  have hev : evt ≠ Ev.onCreateEntity ∧ evt ≠ Ev.onRemoveEntity := by
    simp only [Ev.custom, Ev.onCreateEntity, Ev.onRemoveEntity] at hevt ⊢
    omega
  cases hh : w.obs.hasObservers evt with
  | false =>
    rw [firing_nil_of_no_observers (hok.agg _) hh]
    simp only [opEmit, bind, M.bind, M.assert, hevt, decide_true, if_true, M.get, hh, Bool.not_false,
      pure, M.pure, notifyAll, addLog_nil]
  | true =>
    cases hz : e.isZero with
    | true =>
      rw [hz] at hent hcont
      simp only [if_true] at hent hcont
      simp only [opEmit, bind, M.bind, M.assert, hevt, decide_true, if_true, M.get, hh, Bool.not_true,
        Bool.false_eq_true, if_false, hz, hent, hcont, pure, M.pure,
        fireSet_readOnly (y := w) (hy := rfl) hro hs hok evt hev]
    | false =>
      rw [hz] at hent hcont
      simp only [Bool.false_eq_true, if_false] at hent hcont
      simp only [opEmit, bind, M.bind, M.assert, hevt, decide_true, if_true, M.get, hh, Bool.not_true,
        Bool.false_eq_true, if_false, hz, hent, hcont, pure, M.pure,
        fireSet_readOnly (y := w) (hy := rfl) hro hs hok evt hev]

/-- **`CopyEntity` with observers** (equation, source without relation components): the copy is
    placed and filled, then the `OnCreateEntity` observers are notified on that world. -/
theorem opCopyEntity_obs_eq (hro : ReadOnly run S rec) (w : World) (hs : ScriptsIn w.obs S)
    (hok : ObsOK w.obs) (src : Ent) (hl : w.isLocked = false) (ha : w.alive src = true)
    {t row : Nat} (hix : w.index src.id = (t, row))
    (hrel : ((copiedW (placedW w t false) t row (w.tbl t).len).arch
      ((copiedW (placedW w t false) t row (w.tbl t).len).tbl t).arch).hasRelations = false) :
    opCopyEntity run src w = .ok (w.pool.get).2
      ((copiedW (placedW w t false) t row (w.tbl t).len).addLog
        (notifyAll rec (w.pool.get).2
          (firing w.obs Ev.onCreateEntity (.entity
            ((copiedW (placedW w t false) t row (w.tbl t).len).arch
              ((copiedW (placedW w t false) t row (w.tbl t).len).tbl t).arch).mask))
          (copiedW (placedW w t false) t row (w.tbl t).len))) := by
  have hobs : (copiedW (placedW w t false) t row (w.tbl t).len).obs = w.obs := placedW_obs w t false
  have hfire := fireCreateEntityIfHas_readOnly hro hs hok (w.pool.get).2
    ((copiedW (placedW w t false) t row (w.tbl t).len).arch
      ((copiedW (placedW w t false) t row (w.tbl t).len).tbl t).arch).mask _ hobs
  simp only [copiedW] at hfire hrel ⊢
  simp only [opCopyEntity, bind, M.bind, checkLocked_unlocked w hl, M.get, M.assert, ha, if_true,
    hix, placeNew_eq, M.modify, hfire, hrel, Bool.false_eq_true, if_false, pure, M.pure]

/-! ## the operations under the joint invariant: callbacks + the observer-free result -/

/-- **`Add` with observers under the invariant** (C08 + C09 for `Add`).  `w1` is the world after
    `World.add` on the world without observers, `w0 = writeValsW w1 e vals` the result of the
    complete observer-free operation (with everything `opAdd_spec` says about
    them).  With observers the operation succeeds as well; its result is `w0` with the observers
    of `w` and the log extended by the notifications of the `OnAddComponents` observers selected by
    the documented rule, each run on the world `seen` — the world after the structural change, with
    the values written for the typed paths and not yet written for `Unsafe`. -/
theorem opAdd_callbacks (hro : ReadOnly run S rec) (run0 : ProbeRunner) (p : Path) {w : World}
    {fl : List Nat} (hs : ScriptsIn w.obs S) (hok : ObsOK w.obs) (h : CInvObs w fl)
    (hl : w.isLocked = false) {e : Ent} (h2 : 2 ≤ e.id) (hnf : e.id ∉ fl) (ha : w.alive e = true)
    (hin : e.id < w.pool.ents.length) {add : List Comp} (hne : add ≠ []) (hnd : add.Nodup)
    (hreg : ∀ (c : Comp), c ∈ add → c < w.kinds.length)
    (hnew : ∀ (c : Comp), c ∈ add → (w.maskOf e).get c = false) (vals : List (Comp × Val))
    (hfew : w.tables.length < maxU32) (hrows : ∀ t : Nat, (w.tbl t).len + 1 < 2 ^ 32) :
    ∃ w1 : World,
      addCore e add [] w.noObs = .ok (w.maskOf e, add.foldl Mask.set (w.maskOf e)) w1 ∧
      AddPost w.noObs fl e add w1 ∧
      opAdd run0 p e add vals [] w.noObs = .ok () (writeValsW w1 e vals) ∧
      OpAddPost w.noObs fl e add vals (writeValsW w1 e vals) ∧
      opAdd run p e add vals [] w = .ok () ((writeValsW w1 e vals).relog w.obs
        (notifyAll rec e
          (firing w.obs Ev.onAddComponents (.add (w.maskOf e) (add.foldl Mask.set (w.maskOf e))))
          ((seenAfter p w1 e vals).relog w.obs w.log) ++ w.log)) := by
  obtain ⟨w1, hcore0, ap, hop0, oap⟩ :=
    opAdd_spec run0 p h hl h2 hnf ha hin hne hnd hreg hnew vals hfew hrows
  refine ⟨w1, hcore0, ap, hop0, oap, ?_⟩
  obtain ⟨old, new, w1', hc, _, hop⟩ :=
    (opAdd_lifts run run0 p e add vals [] w.obs w.log w.noObs).ok hop0 hro hs hok
  rw [hcore0] at hc
  obtain ⟨hc1, hc2⟩ := Res.ok.inj hc
  obtain ⟨h1, h2'⟩ := Prod.mk.inj hc1
  rw [← hc2, ← h1, ← h2', addRounds_nil] at hop
  exact hop

/-- **`RemoveEntity` with observers under the invariant** (C08 + C09 for `RemoveEntity`).  `w0` is
    the result of the observer-free operation (with everything `opRemoveEntity_spec` says).  With
    observers the operation succeeds as well; its result is `w0` with the observers of `w`, the log
    extended by the notifications of the `OnRemoveEntity` observers selected by the documented rule
    — each run on `w.withLocks l1`: the world BEFORE the removal, locked — and the lock state after
    one `Lock()`/`Unlock()` cycle (if there are such observers at all). -/
theorem opRemoveEntity_callbacks (hro : ReadOnly run S rec) (run0 : ProbeRunner) {w : World}
    {fl : List Nat} (hs : ScriptsIn w.obs S) (hok : ObsOK w.obs) (h : CInvObs w fl)
    (hl : w.isLocked = false) {e : Ent} (h2 : 2 ≤ e.id) (hnf : e.id ∉ fl) (ha : w.alive e = true)
    (hin : e.id < w.pool.ents.length) {l1 l2 : Lock} {b : Nat} (hL : LockCycle w.locks l1 b l2) :
    ∃ w0 : World,
      opRemoveEntity run0 e w.noObs = .ok () w0 ∧ RemovedPost w.noObs fl e w0 ∧
      opRemoveEntity run e w = .ok () (w0.reframe w.obs
        (notifyAll rec e (firing w.obs Ev.onRemoveEntity (.entity (w.maskOf e))) (w.withLocks l1)
          ++ w.log)
        (if w.obs.hasObservers Ev.onRemoveEntity then l2 else w.locks)) := by
  obtain ⟨t, row, hix, rp⟩ := CInv.removed h h2 hnf ha hin
  have hix' : w.index e.id = (t, row) := hix
  have hop0 := opRemoveEntity_eq run0 w.noObs e hl ha hix h.noObs (h.noTargets _)
  refine ⟨_, hop0, rp, ?_⟩
  obtain ⟨t', row', he, ht, _⟩ := CInv.live_entry h h2 hnf ha hin
  have hix2 := index_of_get he
  rw [hix] at hix2
  obtain ⟨rfl, rfl⟩ := Prod.mk.inj hix2
  obtain ⟨hlt, _⟩ := CInv.table_of_entry h he ht
  have hrel : (w.tbl t).hasRelations = false := by
    have := CInv.relIDs_nil h hlt
    show (!(w.tbl t).relIDs.isEmpty) = false
    rw [show (w.tbl t).relIDs = [] from this]; rfl
  have hm := maskOf_eq hix'
  rw [opRemoveEntity_rel_obs_eq hro w e hs hok hl ha hix' hL, hrel, remRounds_false, lockAfter2_false,
    removeEntityTail_eq e t row (w.reframe w.obs _ _) (h.noTargets _), removeRowOf_reframe, hm, noObs_eq_reframe,
    removeRowOf_reframe, reframe_reframe]
  rfl

/-- `w1` is `w` after the table lookup of an operation: the destination archetype and table
    exist (one of each may have been created, empty); the entity index, the pool, the registry,
    every row of every table that existed before — hence every entity — are as in `w`. -/
structure Looked (w : World) (fl : List Nat) (w1 : World) : Prop where
  cinv : CInv w1 fl
  entities : w1.entities = w.entities
  pool : w1.pool = w.pool
  kinds : w1.kinds = w.kinds
  untouched : Untouched w w1
  tables : ∀ (t : Nat), t < w.tables.length → w1.tables[t]? = w.tables[t]?
  tablesLen : w.tables.length ≤ w1.tables.length ∧ w1.tables.length ≤ w.tables.length + 1
  same : ∀ j : Nat, SameEnt w w1 j
  alive : ∀ x : Ent, w1.alive x = w.alive x
  masks : ∀ (a : Nat), a < w.archetypes.length → (w1.arch a).mask = (w.arch a).mask

theorem Looked.of_found {w w1 : World} {fl : List Nat} (h : CInv w fl) {mask : Mask} {t a : Nat}
    (fc : FoundOrCreated w w1 mask t a) (hu : Untouched w w1)
    (hsame : ∀ (t' : Nat), t' < w.tables.length → w1.tables[t']? = w.tables[t']?)
    (hlen1 : w1.tables.length ≤ w.tables.length + 1) (hfew : w.tables.length < maxU32) :
    Looked w fl w1 where
  cinv := h.of_lookup fc hu hlen1 hfew
  entities := fc.entities
  pool := fc.pool
  kinds := fc.kinds
  untouched := hu
  tables := hsame
  tablesLen := ⟨fc.tablesLen, hlen1⟩
  same := same_of_prefix h.idx fc.entities hsame
  alive := fun x => by simp only [World.alive, fc.pool]
  masks := fc.masks

/-- **`Remove` with observers under the invariant** (C08 + C09 for `Remove`).  `w1` is the world
    without observers after the table lookup (every entity as before), `w0` the result of the
    observer-free operation.  With observers the operation succeeds as well; its result is `w0`
    with the observers of `w`, the log extended by the notifications of the `OnRemoveComponents`
    observers selected by the documented rule — each run on `w1` LOCKED, i.e. before the entity is
    moved — and the lock state after one `Lock()`/`Unlock()` cycle. -/
theorem opRemove_callbacks (hro : ReadOnly run S rec) (run0 : ProbeRunner) (p : Path) {w : World}
    {fl : List Nat} (hs : ScriptsIn w.obs S) (hok : ObsOK w.obs) (h : CInvObs w fl)
    (hl : w.isLocked = false) {e : Ent} (h2 : 2 ≤ e.id) (hnf : e.id ∉ fl) (ha : w.alive e = true)
    (hin : e.id < w.pool.ents.length) {rem : List Comp} (hne : rem ≠ []) (hnd : rem.Nodup)
    (hpres : ∀ (c : Comp), c ∈ rem → (w.maskOf e).get c = true)
    (hfew : w.tables.length < maxU32) (hrows : ∀ t : Nat, (w.tbl t).len + 1 < 2 ^ 32)
    {l1 l2 : Lock} {b : Nat} (hL : LockCycle w.locks l1 b l2) :
    ∃ w1 w0 : World, Looked w.noObs fl w1 ∧
      opRemove run0 p e rem w.noObs = .ok () w0 ∧ RemovePost w.noObs fl e rem w0 ∧
      opRemove run p e rem w = .ok () (w0.reframe w.obs
        (notifyAll rec e
          (firing w.obs Ev.onRemoveComponents
            (.remove (w.maskOf e) (rem.foldl Mask.clear (w.maskOf e))))
          (w1.reframe w.obs w.log l1) ++ w.log)
        (lockAfter w Ev.onRemoveComponents l2)) := by
  obtain ⟨oldT, row, he, ht, _⟩ := CInv.live_entry h h2 hnf ha hin
  have hix : w.index e.id = (oldT, row) := index_of_get he
  have hm := maskOf_eq hix
  obtain ⟨holdlt, _, _, halt, _, _⟩ := CInv.table_of_entry h he ht
  obtain ⟨t, a, w1, hfoc0, fc, _, hu, hsame, hneT⟩ :=
    h.sinv.findOrCreateTableRemove_spec h.idx h.noRelKinds holdlt (startMask := w.maskOf e) hm
      hnd hpres
  have hlen1 : w1.tables.length ≤ w.tables.length + 1 := by
    have hrel0 : (w.noObs.tbl oldT).relIDs = [] := CInv.relIDs_nil h holdlt
    have hg := graphFindRemove_ok (w.maskOf e) rem w.noObs hpres hnd
    have hok' := hfoc0
    rw [findOrCreateTableRemove_eq_add oldT _ _ rem w.noObs hg hrel0] at hok'
    cases hadd : findOrCreateTableAdd oldT (rem.foldl Mask.clear (w.maskOf e)) [] [] w.noObs with
    | panic k s => rw [hadd] at hok'; cases hok'
    | ok r s =>
      rw [hadd] at hok'
      injection hok' with _ hs'
      subst hs'
      exact (findOrCreateTableAdd_tables_len hadd : _ ≤ w.noObs.tables.length + 1)
  have hlk : Looked w.noObs fl w1 := Looked.of_found h fc hu hsame hlen1 hfew
  obtain ⟨w0, hop0, rp⟩ := opRemove_spec run0 p h hl h2 hnf ha hin hne hnd hpres hfew hrows
  refine ⟨w1, w0, hlk, hop0, rp, ?_⟩
  have hL0 : LockCycle w.noObs.locks l1 b l2 := hL
  obtain ⟨t', a', m', rr', w1', hf, hw0, hop⟩ :=
    (opRemove_lifts run run0 p e rem w.obs w.log w.noObs
      (removeCore_lifts run run0 e rem w.obs w.log w.noObs)).ok hop0 hro hs hok hL0
  have e1 : w.noObs.index e.id = (oldT, row) := hix
  rw [e1] at hf
  have hf' : findOrCreateTableRemove oldT (w.maskOf e) rem w.noObs = .ok (t', a', m', rr') w1' := hf
  rw [hfoc0] at hf'
  obtain ⟨hf1, hw1⟩ := Res.ok.inj hf'
  obtain ⟨h1, h2', h3, h4⟩ : t = t' ∧ a = a' ∧ _ = m' ∧ false = rr' := by
    simpa only [Prod.mk.injEq] using hf1
  rw [← hw1, ← h3, ← h4] at hop
  refine hop.trans ?_
  rw [remRounds_false, lockAfter2_false]
  rfl

/-- **`Exchange` with observers under the invariant** (C08 + C09 for `Exchange`): the removal
    observers are notified on the locked world before the move (only if something is removed),
    the addition observers afterwards on the world `seenAfter` (the `Unsafe` path only if something
    is added). -/
theorem opExchange_callbacks (hro : ReadOnly run S rec) (run0 : ProbeRunner) (p : Path) {w : World}
    {fl : List Nat} (hs : ScriptsIn w.obs S) (hok : ObsOK w.obs) (h : CInvObs w fl)
    (hl : w.isLocked = false) {e : Ent} (h2 : 2 ≤ e.id) (hnf : e.id ∉ fl) (ha : w.alive e = true)
    (hin : e.id < w.pool.ents.length)
    {add rem : List Comp} (hne : ¬ (add = [] ∧ rem = [])) (hrnd : rem.Nodup)
    (hpres : ∀ (c : Comp), c ∈ rem → (w.maskOf e).get c = true) (hand : add.Nodup)
    (hreg : ∀ (c : Comp), c ∈ add → c < w.kinds.length)
    (hnew : ∀ (c : Comp), c ∈ add → (w.maskOf e).get c = false) (vals : List (Comp × Val))
    (hfew : w.tables.length < maxU32) (hrows : ∀ t : Nat, (w.tbl t).len + 1 < 2 ^ 32)
    {l1 l2 : Lock} {b : Nat} (hL : LockCycle w.locks l1 b l2) :
    ∃ w1 w2 : World, Looked w.noObs fl w1 ∧
      exchangeCore run0 e add rem [] w.noObs =
        .ok (w.maskOf e, add.foldl Mask.set (rem.foldl Mask.clear (w.maskOf e))) w2 ∧
      ExchangePost w.noObs fl e add rem w2 ∧
      opExchange run0 p e add vals rem [] w.noObs = .ok () (writeValsW w2 e vals) ∧
      OpExchangePost w.noObs fl e add rem vals (writeValsW w2 e vals) ∧
      opExchange run p e add vals rem [] w = .ok () ((writeValsW w2 e vals).reframe w.obs
        (notifyAll rec e
            (firingAddX w.obs p add (w.maskOf e)
              (add.foldl Mask.set (rem.foldl Mask.clear (w.maskOf e))))
            ((seenAfter p w2 e vals).reframe w.obs
              (notifyAll rec e
                (firingX w rem (w.maskOf e) (add.foldl Mask.set (rem.foldl Mask.clear (w.maskOf e))))
                (w1.reframe w.obs w.log l1) ++ w.log)
              (lockAfterX w rem l2)) ++
          (notifyAll rec e
            (firingX w rem (w.maskOf e) (add.foldl Mask.set (rem.foldl Mask.clear (w.maskOf e))))
            (w1.reframe w.obs w.log l1) ++ w.log))
        (lockAfterX w rem l2)) := by
  obtain ⟨oldT, row, t, a, w1, he, _, hm, hok1, hfoc, fc, _, hsame, _⟩ :=
    h.exchange_lookup h2 hnf ha hin hne hrnd hpres hand hreg hnew
  have hix : w.index e.id = (oldT, row) := index_of_get he
  have hu := findOrCreateTableAdd_untouched hok1
  have hlen1 := findOrCreateTableAdd_tables_len hok1
  have hfoc0 : findOrCreateTable oldT (w.noObs.arch (w.noObs.tbl oldT).arch).mask add rem [] w.noObs =
      .ok (t, a, add.foldl Mask.set (rem.foldl Mask.clear (w.maskOf e)), false) w1 := by
    rw [← hm]; exact hfoc
  have hlk : Looked w.noObs fl w1 := Looked.of_found h fc hu hsame hlen1 hfew
  obtain ⟨w2, hcore0, ep, hop0, oep⟩ :=
    opExchange_spec run0 p h hl h2 hnf ha hin hne hrnd hpres hand hreg hnew vals hfew hrows
  refine ⟨w1, w2, hlk, hcore0, ep, hop0, oep, ?_⟩
  have hL0 : LockCycle w.noObs.locks l1 b l2 := hL
  obtain ⟨old, new, m, t', a', rr, w1', w2', hf, hc, _, _, _, _, hop⟩ :=
    (opExchange_lifts run run0 p e add vals rem [] w.obs w.log w.noObs).ok hop0 hro hs hok hL0
  have e1 : w.noObs.index e.id = (oldT, row) := hix
  rw [e1, show w.noObs.maskOf e = (w.noObs.arch (w.noObs.tbl oldT).arch).mask from hm] at hf
  have hf' : findOrCreateTable oldT (w.noObs.arch (w.noObs.tbl oldT).arch).mask add rem [] w.noObs
      = .ok (t', a', m, rr) w1' := hf
  rw [hfoc0] at hf'
  obtain ⟨hf1, hw1⟩ := Res.ok.inj hf'
  rw [hcore0] at hc
  obtain ⟨hc1, hw2⟩ := Res.ok.inj hc
  obtain ⟨_, _, hm', hrr⟩ : t = t' ∧ a = a' ∧ _ = m ∧ false = rr := by
    simpa only [Prod.mk.injEq] using hf1
  obtain ⟨hold, hnew'⟩ := Prod.mk.inj hc1
  rw [show w.noObs.relog w.obs w.log = w from rfl, ← hw1, ← hw2, ← hm', ← hrr, ← hold, ← hnew'] at hop
  refine hop.trans ?_
  unfold xchgResult xchgSeenA xchgLogB
  rw [xRemRounds_false, lockAfterX2_false, xAddRounds_nil]
  rfl

theorem placedW_noObs (w : World) (t : Nat) (rt : Bool) :
    (placedW w.noObs t rt).reframe w.obs w.log w.locks = placedW w t rt := by
  rw [noObs_eq_reframe, placedW_reframe, reframe_reframe]
  exact reframe_eq_self (placedW_obs w t rt) (placedW_log w t rt) (placedW_locks w t rt)

/-- **`NewEntity(ids…)` with observers under the invariant** (C08 + C09 for `NewEntity`): `w1` is
    the observer-free world after `World.newEntity` (the entity exists with zeroed components),
    `writeValsW w1 e vals` the complete observer-free result.  With observers: the same world, the
    log extended by the notifications of the `OnCreateEntity` observers selected by the documented
    rule for the mask of `ids`, each run on the world `seenAfter` (after the creation). -/
theorem opNewEntity_callbacks (hro : ReadOnly run S rec) (run0 : ProbeRunner) (p : Path) {w : World}
    {fl : List Nat} (hs : ScriptsIn w.obs S) (hok : ObsOK w.obs) (h : CInvObs w fl)
    (hl : w.isLocked = false) {ids : List Comp} (hnd : ids.Nodup)
    (hreg : ∀ (c : Comp), c ∈ ids → c < w.kinds.length) (vals : List (Comp × Val))
    (hfew : w.tables.length < maxU32) (hrows : ∀ t : Nat, (w.tbl t).len + 1 < 2 ^ 32) :
    ∃ w1 : World,
      newEntityCore ids [] w.noObs = .ok ((w.pool.get).2, Mask.ofList ids) w1 ∧
      NewPost w.noObs fl ids [] (w.pool.get).2 w1 ∧
      opNewEntity run0 p ids vals [] w.noObs = .ok (w.pool.get).2 (writeValsW w1 (w.pool.get).2 vals) ∧
      NewPost w.noObs fl ids vals (w.pool.get).2 (writeValsW w1 (w.pool.get).2 vals) ∧
      opNewEntity run p ids vals [] w = .ok (w.pool.get).2
        ((writeValsW w1 (w.pool.get).2 vals).relog w.obs
          (notifyAll rec (w.pool.get).2 (firing w.obs Ev.onCreateEntity (.entity (Mask.ofList ids)))
            ((seenAfter p w1 (w.pool.get).2 vals).relog w.obs w.log) ++ w.log)) := by
  obtain ⟨w1, hcore0, np', hop0, np⟩ := opNewEntity_spec run0 p h hl hnd hreg vals hfew hrows
  refine ⟨w1, hcore0, np', hop0, np, ?_⟩
  obtain ⟨mask, w1', hc, _, hop⟩ :=
    (opNewEntity_lifts run run0 p ids vals [] w.obs w.log w.noObs).ok hop0 hro hs hok
  rw [hcore0] at hc
  obtain ⟨hc1, hc2⟩ := Res.ok.inj hc
  rw [← hc2, ← (Prod.mk.inj hc1).2, addRounds_nil] at hop
  exact hop

/-- **`NewEntity()` with observers under the invariant**: the observer-free result
    `placedW w.noObs 0 true`, with the `OnCreateEntity` observers selected for the empty mask
    notified on it. -/
theorem opNewEntity0_callbacks (hro : ReadOnly run S rec) (run0 : ProbeRunner) {w : World}
    {fl : List Nat} (hs : ScriptsIn w.obs S) (hok : ObsOK w.obs) (h : CInvObs w fl)
    (hl : w.isLocked = false) (hb : (w.tbl 0).len + 1 < 2 ^ 32) :
    ∃ w0 : World,
      opNewEntity0 run0 w.noObs = .ok (w.pool.get).2 w0 ∧
      PlacedPost w.noObs fl 0 (w.pool.get).2 w0 ∧ compsOf w0 (w.pool.get).2.id = some [] ∧
      opNewEntity0 run w = .ok (w.pool.get).2 (w0.relog w.obs
        (notifyAll rec (w.pool.get).2 (firing w.obs Ev.onCreateEntity (.entity Mask.empty))
          (w0.relog w.obs w.log) ++ w.log)) := by
  obtain ⟨hop0, pp, hc⟩ := opNewEntity0_spec run0 h hl hb
  refine ⟨_, hop0, pp, hc, ?_⟩
  have hm : (w.arch 0).mask = Mask.empty := h.sinv.root.2.2
  have hlk : (placedW w.noObs 0 true).locks = w.locks := placedW_locks w.noObs 0 true
  rw [opNewEntity0_obs_eq hro w hs hok hl, hm, ← placedW_noObs w 0 true, addLog_reframe,
    relog_eq_reframe, relog_eq_reframe, hlk]

theorem maskOf_writeValsW (w : World) (e x : Ent) (vals : List (Comp × Val)) :
    (writeValsW w e vals).maskOf x = w.maskOf x := (writeValsW_metaStep w e vals).tmask _

/-- **`Set` with observers under the invariant** (C08 + C09 for `Set`; no lock requirement: the
    callbacks run in the caller's lock state): the values are written, then the `OnSetComponents`
    observers selected by the documented rule (`ids` as changed components, the entity's mask)
    are notified on the world with the new values. -/
theorem opSet_callbacks (hro : ReadOnly run S rec) (run0 : ProbeRunner) {w : World}
    {fl : List Nat} (hs : ScriptsIn w.obs S) (hok : ObsOK w.obs) (h : CInvObs w fl) {e : Ent}
    (h2 : 2 ≤ e.id) (hnf : e.id ∉ fl) (ha : w.alive e = true)
    (hin : e.id < w.pool.ents.length) {ids : List Comp}
    (hhas : ∀ (c : Comp), c ∈ ids → (w.maskOf e).get c = true) (vals : List (Comp × Val)) :
    opSet run0 e ids vals w.noObs = .ok () (writeValsW w.noObs e vals) ∧
    WritePost w.noObs fl e vals (writeValsW w.noObs e vals) ∧
    opSet run e ids vals w = .ok () ((writeValsW w.noObs e vals).relog w.obs
      (notifyAll rec e (firing w.obs Ev.onSetComponents (.set (Mask.ofList ids) (w.maskOf e)))
        ((writeValsW w.noObs e vals).relog w.obs w.log) ++ w.log)) := by
  have hall : (ids.all fun c => (w.tbl (w.index e.id).1).has c) = true := by
    rw [List.all_eq_true]
    intro c hc
    exact (CInv.has_iff h h2 hnf ha hin c).mpr (hhas c hc)
  refine ⟨opSet_eq run0 w.noObs e ids vals ha hall (h.noObs _), CInv.writeVals h h2 hnf ha hin vals, ?_⟩
  rw [opSet_obs_eq hro w hs hok e ids vals ha hall, maskOf_writeValsW]
  rfl

/-- **`CopyEntity` with observers under the invariant**: the observer-free result, with the
    `OnCreateEntity` observers selected for the source's mask notified on it (the copy exists and
    carries the source's values). -/
theorem opCopyEntity_callbacks (hro : ReadOnly run S rec) (run0 : ProbeRunner) {w : World}
    {fl : List Nat} (hs : ScriptsIn w.obs S) (hok : ObsOK w.obs) (h : CInvObs w fl)
    (hl : w.isLocked = false) {src : Ent} (h2 : 2 ≤ src.id) (hnf : src.id ∉ fl)
    (ha : w.alive src = true) (hin : src.id < w.pool.ents.length)
    (hrows : ∀ t : Nat, (w.tbl t).len + 1 < 2 ^ 32) :
    ∃ w0 : World,
      opCopyEntity run0 src w.noObs = .ok (w.pool.get).2 w0 ∧
      CopyPost w.noObs fl src (w.pool.get).2 w0 ∧
      opCopyEntity run src w = .ok (w.pool.get).2 (w0.relog w.obs
        (notifyAll rec (w.pool.get).2 (firing w.obs Ev.onCreateEntity (.entity (w.maskOf src)))
          (w0.relog w.obs w.log) ++ w.log)) := by
  obtain ⟨t, row, hix, cp⟩ := CInv.copied h h2 hnf ha hin hrows
  have hix' : w.index src.id = (t, row) := hix
  refine ⟨_, opCopyEntity_eq run0 w.noObs src hl ha hix h.noObs, cp, ?_⟩
  obtain ⟨t', row', he, ht, _⟩ := CInv.live_entry h h2 hnf ha hin
  have hix2 := index_of_get he
  rw [hix] at hix2
  obtain ⟨rfl, rfl⟩ := Prod.mk.inj hix2
  obtain ⟨hlt, _, _, halt, _, _⟩ := CInv.table_of_entry h he ht
  -- placing and copying keep the metadata of every table, hence its mask
  have ms : MetaStep w (copiedW (placedW w t false) t row (w.tbl t).len) :=
    (placedW_metaStep w t false).trans (copiedW_metaStep _ t row _)
  have hW : copiedW (placedW w t false) t row (w.tbl t).len
      = (copiedW (placedW w.noObs t false) t row (w.noObs.tbl t).len).reframe w.obs w.log w.locks := by
    rw [← placedW_noObs w t false, copiedW_reframe]
    rfl
  have hmask : ((copiedW (placedW w t false) t row (w.tbl t).len).arch
      ((copiedW (placedW w t false) t row (w.tbl t).len).tbl t).arch).mask = w.maskOf src := by
    rw [ms.tmask t]
    simp only [maskOf, hix']
  have hrel : ((copiedW (placedW w t false) t row (w.tbl t).len).arch
      ((copiedW (placedW w t false) t row (w.tbl t).len).tbl t).arch).hasRelations = false := by
    rw [ms.tbl_arch t, arch_congr ms.archetypes]
    obtain ⟨A, hA, _⟩ := h.sinv.tblArch t _ (get_of_lt hlt)
    rw [show w.arch (w.tbl t).arch = w.noObs.arch (w.noObs.tbl t).arch from rfl, arch_of_get hA]
    exact h.noRelArch hA
  have hlk : (copiedW (placedW w.noObs t false) t row (w.noObs.tbl t).len).locks = w.locks :=
    placedW_locks w.noObs t false
  rw [opCopyEntity_obs_eq hro w hs hok src hl ha hix' hrel, hmask, hW, addLog_reframe,
    relog_eq_reframe, relog_eq_reframe, hlk]

end Ops

end Ark
