/-
  C16, second sentence, over the histories of `Ark.RelRefine3` (`Ark.RelRefine2` plus `Exchange` with
  relation components): what one step does to the registry and the two reserved pool slots; what `Sim`
  means for the model worlds (`Sim.observe`, `SameWorlds`) and `TraceEq` on concrete traces; the step
  `xchg` described by the specification, `Sim` along histories, and the main theorem
  `reset_equiv_rel3` (the theorems for `Ark.RelRefine2` follow: its histories are those without `xchg`).
-/
import Ark.Proofs.ResetEquivRel
import Ark.Proofs.RelExchangeHist

section

/-! ## §1 registry and reserved pool slots along a step

For the machine `Ark.RelRefine2`: the registrations of a history, what a run of registrations
  only keeps (`Fresh`), and the two reserved pool slots along a step.  The histories are treated
  in §3.
-/

set_option autoImplicit false

namespace Ark

open World Ark.Props.C01World

namespace RelRefine2

open QueryRel QueryExact RelRefine
open Refine (Outcome outcome Reserved2)

def Op2.isReg : Op2 → Bool
  | .base (.reg _ _ _) => true
  | _ => false

def regsOf2 (ops : List Op2) : List Op2 := ops.filter Op2.isReg

/-- what the registrations-only run keeps: no entity, no handle, the pool of a new world -/
structure Fresh (s : St) : Prop where
  ents : s.ss.ents = []
  issued : s.issued = []
  pool : s.w.pool = Pool.init

theorem reserved2_step2 (run : ProbeRunner) {s : St} {fl : List Nat} (H : HInv2 s fl)
    (hfew : s.w.tables.length + s.w.relationArchetypes.length + 1 ≤ maxU32)
    (hent : 2 * s.w.entities.length < 2 ^ 32) (op : Op2) (h : Reserved2 s.w.pool) :
    Reserved2 (step2 run s op).w.pool := by
  cases op with
  | base op =>
    show Reserved2 (RelRefine.step run s op).w.pool
    by_cases hg : RelRefine.guard s op = true
    · rw [(step_eq run H.base hfew hent op hg).2.2.1]
      split
      case isFalse => exact h
      rename_i hp
      cases op with
      | new _ _ _ _ => exact h.get H.base.tinv.link.pool
      | del e =>
        obtain ⟨en, hf⟩ := hp
        exact h.recycle (H.base.live_facts (find_some_mem hf)).2.2.1
      | _ => exact h
    · rw [RelRefine.step, if_neg hg]; exact h
  | copy e =>
    by_cases hi : e ∈ s.issued
    · rw [(copy_eq run H hent hi).2.2.1]
      split
      · exact h.get H.base.tinv.link.pool
      · exact h
    · have : step2 run s (.copy e) = s := by simp only [step2, decide_eq_true_eq, if_neg hi]
      rw [this]; exact h
  | shrink b => rw [(shrink_desc run H hent b).1.pool]; exact h
  | reset => rw [(reset_desc run H).2.2.1]; exact h.reset
  | fdef f fo => rw [(fdef_desc run s f fo).1.pool]; exact h
  | freg f => rw [(freg_eq run H f).1.pool]; exact h
  | funreg f => rw [(funreg_eq run H f).1.pool]; exact h
  | query f extra => rw [(query_frame run H f extra).1.pool]; exact h

theorem fresh_init (cap rel : Nat) : Fresh (St.init cap rel) := ⟨rfl, rfl, rfl⟩

end RelRefine2

end Ark

end

section

/-! ## §2 what the simulation means for the worlds -/

set_option autoImplicit false

namespace Ark

open World Ark.Props.C01World

namespace RelRefine2

open QueryRel QueryExact RelRefine
open Refine (Outcome outcome Reserved2 keys sortedIds)

theorem _root_.Ark.RelRefine.HInv.observe_id {s : St} {fl : List Nat} (H : HInv s fl) (i : Nat) :
    ((i < 2 ∨ s.w.pool.ents.length ≤ i ∨ i ∈ fl) →
      compsOf s.w i = none ∧ (∀ (c : Comp), valOf s.w i c = none) ∧
        ∀ (c : Comp), targetOf s.w i c = none) ∧
    (2 ≤ i → i < s.w.pool.ents.length → i ∉ fl →
      ∃ (e : Ent) (en : Entry), s.w.pool.ents[i]? = some e ∧ e.id = i ∧ (e, en) ∈ s.ss.ents) := by
  have L := H.tinv.link
  constructor
  · intro h
    have hd := L.not_live h
    exact ⟨(not_indexed hd).1, (not_indexed hd).2, targetOf_none_of_entry hd⟩
  · intro h2 hlt hnf
    have hsl : s.w.pool.ents[i]? = some (s.w.pool.ents[i]'hlt) := List.getElem?_eq_getElem hlt
    have hid := L.pool.self i _ hsl hnf
    have hl : (s.w.pool.ents[i]'hlt) ∈ s.ps.live :=
      (H.ginv.live_iff _).mpr ⟨by rw [hid]; exact h2, by rw [hid]; exact hnf, by rw [hid]; exact hsl⟩
    obtain ⟨x, hx, hxe⟩ := List.mem_map.mp hl
    exact ⟨_, x.2, hsl, hid, by rw [← hxe]; exact hx⟩

/-- through the entity index (`compsOf`, `valOf`, `targetOf`) the two worlds agree on EVERY entity
    ID.  `Alive` is compared only for handles whose generation is not the sentinel `maxU32` (in
    particular every issued handle) or whose ID lies inside the pool slice: the memory `Reset`
    keeps behind the slice holds handles of generation `maxU32` and may differ between the two. -/
theorem Sim.observe {L : List Nat} {s1 s2 : St} {fl1 fl2 : List Nat} (S : Sim L s1 s2)
    (H1 : HInv2 s1 fl1) (H2 : HInv2 s2 fl2) :
    fl1 = fl2 ∧ s1.w.entities.length = s2.w.entities.length ∧
    (s1.w.pool.get).2 = (s2.w.pool.get).2 ∧
    (∀ (i : Nat), compsOf s1.w i = compsOf s2.w i ∧
      (∀ (c : Comp), valOf s1.w i c = valOf s2.w i c) ∧
      ∀ (c : Comp), targetOf s1.w i c = targetOf s2.w i c) ∧
    (∀ (h : Ent), h.gen ≠ maxU32 ∨ h.id < s1.w.pool.ents.length → s1.w.alive h = s2.w.alive h) := by
  obtain ⟨hents, _, _⟩ := Pool.core_eq_iff.mp S.core
  have L1 := H1.base.tinv.link
  have L2 := H2.base.tinv.link
  have hfl : fl1 = fl2 := (Refine.PInv.of_core L1.pool S.core).unique L2.pool
  subst hfl
  have hlen : s1.w.entities.length = s2.w.entities.length := by
    rw [L1.lenEq, L2.lenEq, hents]
  refine ⟨rfl, hlen, (Pool.get_core S.core).1, ?_, ?_⟩
  · intro i
    obtain ⟨n1, l1⟩ := H1.base.observe_id i
    obtain ⟨n2, l2⟩ := H2.base.observe_id i
    by_cases hc : i < 2 ∨ s1.w.pool.ents.length ≤ i ∨ i ∈ fl1
    · obtain ⟨a1, b1, c1⟩ := n1 hc
      obtain ⟨a2, b2, c2⟩ := n2 (by rw [← hents]; exact hc)
      exact ⟨a1.trans a2.symm, fun c => (b1 c).trans (b2 c).symm, fun c => (c1 c).trans (c2 c).symm⟩
    · have h2 : 2 ≤ i := by omega
      have hlt : i < s1.w.pool.ents.length := by omega
      have hnf : i ∉ fl1 := fun h => hc (Or.inr (Or.inr h))
      obtain ⟨e, en, hsl, hid, hm⟩ := l1 h2 hlt hnf
      have := spec_reads_agree H1.base H2.base S.ss S.kinds hm
      rw [hid] at this
      exact this
  · exact Refine.alive_of_core S.core L1.stale L2.stale

/-- two states agree as far as the API shows them -/
def SameWorlds (s1 s2 : St) : Prop :=
  s1.ss = s2.ss ∧ s1.issued = s2.issued ∧ s1.w.kinds = s2.w.kinds ∧
  (s1.w.pool.get).2 = (s2.w.pool.get).2 ∧
  (∀ (i : Nat), compsOf s1.w i = compsOf s2.w i ∧
    (∀ (c : Comp), valOf s1.w i c = valOf s2.w i c) ∧
    ∀ (c : Comp), targetOf s1.w i c = targetOf s2.w i c) ∧
  (∀ (h : Ent), h ∈ s1.issued → s1.w.alive h = s2.w.alive h) ∧
  (∀ (h : Ent), h.gen ≠ maxU32 → s1.w.alive h = s2.w.alive h)

theorem Sim.worlds {L : List Nat} {s1 s2 : St} {fl1 fl2 : List Nat} (S : Sim L s1 s2)
    (H1 : HInv2 s1 fl1) (H2 : HInv2 s2 fl2) : SameWorlds s1 s2 := by
  obtain ⟨_, _, hnext, hobs, hal⟩ := S.observe H1 H2
  exact ⟨S.ss, S.issued, S.kinds, hnext, hobs,
    fun h hi => hal h (Or.inr (H1.base.issued_in hi)), fun h hg => hal h (Or.inl hg)⟩

instance QOut.decEquiv : (a b : QOut) → Decidable (a.Equiv b)
  | .rejected a, .rejected b => inferInstanceAs (Decidable (a = b))
  | .visited a, .visited b => inferInstanceAs (Decidable (a.Perm b))
  | .rejected _, .visited _ => isFalse (fun h => h)
  | .visited _, .rejected _ => isFalse (fun h => h)

instance Out.decEquiv : (a b : Out) → Decidable (a.Equiv b)
  | .call a, .call b => inferInstanceAs (Decidable (a = b))
  | .done, .done => isTrue trivial
  | .query a, .query b => inferInstanceAs (Decidable (a.Equiv b))
  | .call _, .done => isFalse (fun h => h)
  | .call _, .query _ => isFalse (fun h => h)
  | .done, .call _ => isFalse (fun h => h)
  | .done, .query _ => isFalse (fun h => h)
  | .query _, .call _ => isFalse (fun h => h)
  | .query _, .done => isFalse (fun h => h)

instance decOutEq : (a b : Option Out) → Decidable (OutEq a b)
  | none, none => isTrue trivial
  | some a, some b => inferInstanceAs (Decidable (a.Equiv b))
  | none, some _ => isFalse (fun h => h)
  | some _, none => isFalse (fun h => h)

instance decTraceEq : (a b : List (Option Out)) → Decidable (TraceEq a b)
  | [], [] => isTrue trivial
  | a :: as, b :: bs =>
    match decOutEq a b, decTraceEq as bs with
    | isTrue h1, isTrue h2 => isTrue ⟨h1, h2⟩
    | isFalse h1, _ => isFalse (fun h => h1 h.1)
    | _, isFalse h2 => isFalse (fun h => h2 h.2)
  | [], _ :: _ => isFalse (fun h => h)
  | _ :: _, [] => isFalse (fun h => h)

theorem TraceEq.length_eq : ∀ {a b : List (Option Out)}, TraceEq a b → a.length = b.length
  | [], [], _ => rfl
  | _ :: as, _ :: bs, h => by
    simp only [List.length_cons]
    rw [TraceEq.length_eq (a := as) (b := bs) h.2]
  | [], _ :: _, h => h.elim
  | _ :: _, [], h => h.elim

theorem TraceEq.get : ∀ {a b : List (Option Out)}, TraceEq a b → ∀ (n : Nat) (h1 : n < a.length)
    (h2 : n < b.length), OutEq a[n] b[n]
  | [], _, _, _, h1, _ => by cases h1
  | _ :: _, [], h, _, _, _ => h.elim
  | _ :: as, _ :: bs, h, 0, _, _ => h.1
  | _ :: as, _ :: bs, h, n + 1, h1, h2 => by
    simp only [List.getElem_cons_succ]
    exact TraceEq.get (a := as) (b := bs) h.2 n _ _

end RelRefine2

end Ark

end

section

/-! ## §3 the histories of the machine with `Exchange`

The histories of `Ark.RelRefine2` are the histories of `Ark.RelRefine3` without `xchg`, so its
  theorems (`reset_equiv_rel` …) follow by mapping `.base2` over them.
-/

set_option autoImplicit false

namespace Ark

open World Ark.Props.C01World

namespace RelRefine3

open QueryRel QueryExact RelRefine RelRefine2
open Refine (Outcome outcome Reserved2 keys findKind)

theorem xchg_desc (run : ProbeRunner) {s : St} {fl : List Nat} (H : HInv2 s fl)
    (hfew : s.w.tables.length + s.w.relationArchetypes.length + 1 ≤ maxU32)
    (hent : 2 * s.w.entities.length < 2 ^ 32)
    (p : Path) (e : Ent) (add : List Comp) (vals : Refine.Comps) (rem : List Comp) (rels : Rels)
    (hg : guardXchg s p e add rels = true) :
    (preXchg s.ss e add rem rels →
      (step3 run s (.xchg p e add vals rem rels)).ss = specXchg s.ss e add vals rem rels ∧
      (step3 run s (.xchg p e add vals rem rels)).issued = s.issued ∧
      (step3 run s (.xchg p e add vals rem rels)).w.pool = s.w.pool ∧
      (step3 run s (.xchg p e add vals rem rels)).w.kinds = s.w.kinds ∧
      (step3 run s (.xchg p e add vals rem rels)).w.filters = s.w.filters ∧
      outcomeU (opExchange run p e add vals rem rels s.w) = .ok none) ∧
    (¬ preXchg s.ss e add rem rels →
      step3 run s (.xchg p e add vals rem rels) = s ∧
      outcomeU (opExchange run p e add vals rem rels s.w) =
        .panic (rejKindX s.ss p e add rem rels)) := by
  rcases xchg_base run H.base (by omega) (by omega) vals rem hg with
    ⟨hnp, _⟩ | ⟨hp, w', hop, _, post, _, ck⟩
  · have hkind := xchg_rej run H.base vals rem hg hnp
    refine ⟨fun hp => absurd hp hnp, fun _ => ⟨?_, by rw [hkind]; rfl⟩⟩
    simp only [step3, if_pos hg, hkind, Res.state, specXchg_of_not_pre _ _ _ _ _ _ hnp]
  · refine ⟨fun _ => ?_, fun hnp => absurd hp hnp⟩
    simp only [step3, if_pos hg, hop, Res.state]
    exact ⟨trivial, trivial, post.pool, post.kinds, ck.filters, rfl⟩

def stepOut3 (run : ProbeRunner) (L : List Nat) (s : St) : Op3 → Option Out
  | .base2 op => stepOut2 run L s op
  | .xchg p e add vals rem rels =>
    if guardXchg s p e add rels = true then
      some (.call (outcomeU (opExchange run p e add vals rem rels s.w)))
    else none

def labelsAfter3 (L : List Nat) (s : St) : Op3 → List Nat
  | .base2 op => labelsAfter L s op
  | .xchg _ _ _ _ _ _ => L

def trace3 (run : ProbeRunner) : List Nat → St → List Op3 → List (Option Out)
  | _, _, [] => []
  | L, s, op :: ops => stepOut3 run L s op :: trace3 run (labelsAfter3 L s op) (step3 run s op) ops

def labels3 (run : ProbeRunner) : List Nat → St → List Op3 → List Nat
  | L, _, [] => L
  | L, s, op :: ops => labels3 run (labelsAfter3 L s op) (step3 run s op) ops

theorem sim_step3 (run1 run2 : ProbeRunner) {L : List Nat} {s1 s2 : St} {fl1 fl2 : List Nat}
    (H1 : HInv2 s1 fl1) (H2 : HInv2 s2 fl2)
    (hf1 : s1.w.tables.length + s1.w.relationArchetypes.length + 1 ≤ maxU32)
    (he1 : 2 * s1.w.entities.length < 2 ^ 32)
    (hf2 : s2.w.tables.length + s2.w.relationArchetypes.length + 1 ≤ maxU32)
    (he2 : 2 * s2.w.entities.length < 2 ^ 32) (S : Sim L s1 s2) (op : Op3) :
    Sim (labelsAfter3 L s1 op) (step3 run1 s1 op) (step3 run2 s2 op) ∧
    labelsAfter3 L s1 op = labelsAfter3 L s2 op ∧
    OutEq (stepOut3 run1 L s1 op) (stepOut3 run2 L s2 op) := by
  cases op with
  | base2 op => exact sim_step2 run1 run2 H1 H2 hf1 he1 hf2 he2 S op
  | xchg p e add vals rem rels =>
    have hgc : guardXchg s1 p e add rels = guardXchg s2 p e add rels := by
      simp only [guardXchg, tgtsExpr, S.ss, S.issued]
    show Sim L _ _ ∧ L = L ∧ _
    by_cases hg : guardXchg s1 p e add rels = true
    · have hg2 : guardXchg s2 p e add rels = true := by rw [← hgc]; exact hg
      obtain ⟨a1, r1⟩ := xchg_desc run1 H1 hf1 he1 p e add vals rem rels hg
      obtain ⟨a2, r2⟩ := xchg_desc run2 H2 hf2 he2 p e add vals rem rels hg2
      simp only [stepOut3, if_pos hg, if_pos hg2]
      by_cases hp : preXchg s1.ss e add rem rels
      · have hp2 : preXchg s2.ss e add rem rels := by rw [← S.ss]; exact hp
        obtain ⟨b1, b2, b3, b4, b5, b6⟩ := a1 hp
        obtain ⟨c1, c2, c3, c4, c5, c6⟩ := a2 hp2
        refine ⟨⟨?_, ?_, ?_, ?_, ?_⟩, trivial, ?_⟩
        · rw [b1, c1, S.ss]
        · rw [b2, c2, S.issued]
        · rw [b4, c4, S.kinds]
        · rw [b3, c3]; exact S.core
        · intro f hf
          rw [foAt_congr b5, foAt_congr c5]; exact S.heap f hf
        · rw [b6, c6]; exact OutEq.call_refl _
      · have hp2 : ¬ preXchg s2.ss e add rem rels := by rw [← S.ss]; exact hp
        obtain ⟨b1, b2⟩ := r1 hp
        obtain ⟨c1, c2⟩ := r2 hp2
        rw [b1, c1, b2, c2, S.ss]
        exact ⟨S, trivial, OutEq.call_refl _⟩
    · have hg2 : ¬ guardXchg s2 p e add rels = true := by rw [← hgc]; exact hg
      have e1 : step3 run1 s1 (.xchg p e add vals rem rels) = s1 := by simp only [step3, if_neg hg]
      have e2 : step3 run2 s2 (.xchg p e add vals rem rels) = s2 := by simp only [step3, if_neg hg2]
      rw [e1, e2]
      simp only [stepOut3, if_neg hg, if_neg hg2]
      exact ⟨S, trivial, OutEq.none_refl⟩

theorem reach3_append (run : ProbeRunner) (cap rel : Nat) (A B : List Op3) :
    reach3 run cap rel (A ++ B) = runOps3 run (reach3 run cap rel A) B := by
  simp only [reach3, runOps3, List.foldl_append]

theorem sim_run3 (run1 run2 : ProbeRunner) : ∀ (post : List Op3) (L : List Nat) (s1 s2 : St),
    Refine.Along (step3 run1) Ready s1 post → Refine.Along (step3 run2) Ready s2 post →
    Sim L s1 s2 →
    TraceEq (trace3 run1 L s1 post) (trace3 run2 L s2 post) ∧
    labels3 run1 L s1 post = labels3 run2 L s2 post ∧
    Sim (labels3 run1 L s1 post) (runOps3 run1 s1 post) (runOps3 run2 s2 post)
  | [], _, _, _, _, _, S => ⟨trivial, rfl, S⟩
  | op :: ops, L, s1, s2, ⟨⟨fl1, H1, hf1, he1⟩, R1⟩, ⟨⟨fl2, H2, hf2, he2⟩, R2⟩, S => by
    obtain ⟨S', hL, hout⟩ := sim_step3 run1 run2 H1 H2 hf1 he1 hf2 he2 S op
    obtain ⟨t, l, S''⟩ := sim_run3 run1 run2 ops _ _ _ R1 R2 S'
    simp only [trace3, labels3, TraceEq]
    rw [← hL]
    exact ⟨⟨hout, t⟩, l, S''⟩

def Op3.isReg : Op3 → Bool
  | .base2 op => op.isReg
  | .xchg _ _ _ _ _ _ => false

def regsOf3 (ops : List Op3) : List Op3 := ops.filter Op3.isReg

theorem regsOf3_length_le (ops : List Op3) : (regsOf3 ops).length ≤ ops.length :=
  List.length_filter_le _ _

theorem regsOf3_cons (op : Op3) (ops : List Op3) :
    regsOf3 (op :: ops) = if op.isReg = true then op :: regsOf3 ops else regsOf3 ops :=
  List.filter_cons

theorem Op3.eq_reg_of_isReg {op : Op3} (h : op.isReg = true) :
    ∃ (size : Nat) (z ir : Bool), op = .base2 (.base (.reg size z ir)) := by
  cases op with
  | xchg _ _ _ _ _ _ => cases h
  | base2 op =>
    cases op with
    | base bop =>
      cases bop with
      | reg size z ir => exact ⟨size, z, ir, rfl⟩
      | _ => cases h
    | _ => cases h

/-- the registry after one step: only a registration changes it, and only while there is room -/
def kindsStep (ks : List CompKind) : Op3 → List CompKind
  | .base2 (.base (.reg size z ir)) =>
    if ks.length < 256 then ks ++ [{ isRel := ir, zst := z, size := size }] else ks
  | _ => ks

theorem kindsStep_of_not_reg (ks : List CompKind) {op : Op3} (h : op.isReg = false) :
    kindsStep ks op = ks := by
  cases op with
  | xchg _ _ _ _ _ _ => rfl
  | base2 op =>
    cases op with
    | base bop =>
      cases bop with
      | reg _ _ _ => cases h
      | _ => rfl
    | _ => rfl

/-- **the registry evolves on its own**: after a step it is a function of the registry before and
    of the operation (under the invariant the registry flags of the specification are
    `kinds.map`, `HInv.zstEq` and `relEq`, so this also tells the flags) -/
theorem step3_kinds (run : ProbeRunner) {s : St} {fl : List Nat} (H : HInv2 s fl)
    (hfew : s.w.tables.length + s.w.relationArchetypes.length + 1 ≤ maxU32)
    (hent : 2 * s.w.entities.length < 2 ^ 32) (op : Op3) :
    (step3 run s op).w.kinds = kindsStep s.w.kinds op := by
  cases op with
  | xchg p e add vals rem rels =>
    show _ = s.w.kinds
    by_cases hg : guardXchg s p e add rels = true
    · obtain ⟨a, r⟩ := xchg_desc run H hfew hent p e add vals rem rels hg
      by_cases hp : preXchg s.ss e add rem rels
      · exact (a hp).2.2.2.1
      · rw [(r hp).1]
    · simp only [step3, if_neg hg]
  | base2 op =>
    cases op with
    | base op =>
      show (RelRefine.step run s op).w.kinds = _
      by_cases hg : RelRefine.guard s op = true
      · rw [(step_eq run H.base hfew hent op hg).2.2.2.1]
        cases op with
        | reg size z ir =>
          have hz : pre s.ss (.reg size z ir) = (s.w.kinds.length < 256) := by
            show (s.ss.zst.length < 256) = _
            rw [H.base.zstEq, List.length_map]
          simp only [hz, kindsStep, kindsAfter]
        | _ => exact ite_self _
      · rw [RelRefine.step, if_neg hg]
        cases op with
        | reg _ _ _ => exact absurd rfl hg
        | _ => rfl
    | copy e =>
      show (step2 run s (.copy e)).w.kinds = s.w.kinds
      by_cases hi : e ∈ s.issued
      · exact (copy_eq run H hent hi).2.2.2.1
      · simp only [step2, decide_eq_true_eq, if_neg hi]
    | shrink b => exact (shrink_desc run H hent b).1.kinds
    | reset => exact (reset_desc run H).2.2.2.1
    | fdef f fo => exact (fdef_desc run s f fo).1.kinds
    | freg f => exact (freg_eq run H f).1.kinds
    | funreg f => exact (funreg_eq run H f).1.kinds
    | query f extra => exact (query_frame run H f extra).1.kinds

theorem run3_kinds (run : ProbeRunner) : ∀ (ops : List Op3) (s : St),
    Refine.Along (step3 run) Ready s ops →
    (runOps3 run s ops).w.kinds = ops.foldl kindsStep s.w.kinds
  | [], _, _ => rfl
  | op :: ops, s, ⟨⟨_, H, hf, he⟩, R⟩ =>
    (run3_kinds run ops _ R).trans (by rw [step3_kinds run H hf he op]; rfl)

/-- the registry after a history is the registry after its registrations -/
theorem foldl_kindsStep_regsOf3 : ∀ (ops : List Op3) (ks : List CompKind),
    ops.foldl kindsStep ks = (regsOf3 ops).foldl kindsStep ks
  | [], _ => rfl
  | op :: ops, ks => by
    cases hr : op.isReg with
    | false =>
      rw [regsOf3_cons, hr, if_neg Bool.false_ne_true, List.foldl_cons, kindsStep_of_not_reg _ hr]
      exact foldl_kindsStep_regsOf3 ops ks
    | true => rw [regsOf3_cons, hr, if_pos rfl]; exact foldl_kindsStep_regsOf3 ops _

/-- a registration creates no entity, issues no handle and leaves the pool alone -/
theorem fresh_reg (run : ProbeRunner) {s : St} {fl : List Nat} (H : HInv2 s fl)
    (hfew : s.w.tables.length + s.w.relationArchetypes.length + 1 ≤ maxU32)
    (hent : 2 * s.w.entities.length < 2 ^ 32) (F : Fresh s) (size : Nat) (z ir : Bool) :
    Fresh (step3 run s (.base2 (.base (.reg size z ir)))) := by
  show Fresh (RelRefine.step run s (.reg size z ir))
  obtain ⟨a1, a2, a3, _⟩ := step_eq run H.base hfew hent (.reg size z ir) rfl
  exact ⟨by rw [a1]; simp only [specStep]; split <;> exact F.ents,
    by rw [a2]; split <;> exact F.issued, by rw [a3]; split <;> exact F.pool⟩

theorem fresh_regs (run : ProbeRunner) : ∀ (ops : List Op3) (s : St),
    Refine.Along (step3 run) Ready s (regsOf3 ops) → Fresh s →
    Fresh (runOps3 run s (regsOf3 ops))
  | [], _, _, F => F
  | op :: ops, s, R, F => by
    cases hr : op.isReg with
    | false =>
      rw [regsOf3_cons, hr, if_neg Bool.false_ne_true] at R ⊢
      exact fresh_regs run ops s R F
    | true =>
      rw [regsOf3_cons, hr, if_pos rfl] at R ⊢
      obtain ⟨size, z, ir, rfl⟩ := Op3.eq_reg_of_isReg hr
      obtain ⟨⟨_, H, hf, he⟩, R'⟩ := R
      exact fresh_regs run ops _ R' (fresh_reg run H hf he F size z ir)

theorem reserved2_step3 (run : ProbeRunner) {s : St} {fl : List Nat} (H : HInv2 s fl)
    (hfew : s.w.tables.length + s.w.relationArchetypes.length + 1 ≤ maxU32)
    (hent : 2 * s.w.entities.length < 2 ^ 32) (op : Op3) (h : Reserved2 s.w.pool) :
    Reserved2 (step3 run s op).w.pool := by
  cases op with
  | base2 op => exact reserved2_step2 run H hfew hent op h
  | xchg p e add vals rem rels =>
    by_cases hg : guardXchg s p e add rels = true
    · obtain ⟨a, r⟩ := xchg_desc run H hfew hent p e add vals rem rels hg
      by_cases hp : preXchg s.ss e add rem rels
      · rw [(a hp).2.2.1]; exact h
      · rw [(r hp).1]; exact h
    · have : step3 run s (.xchg p e add vals rem rels) = s := by simp only [step3, if_neg hg]
      rw [this]; exact h

theorem reserved2_run3 (run : ProbeRunner) : ∀ (ops : List Op3) (s : St),
    Refine.Along (step3 run) Ready s ops →
    Reserved2 s.w.pool → Reserved2 (runOps3 run s ops).w.pool
  | [], _, _, h => h
  | op :: ops, _, ⟨⟨_, H, hf, he⟩, R⟩, h =>
    reserved2_run3 run ops _ R (reserved2_step3 run H hf he op h)

theorem sim_reset_regs3 (run1 run2 : ProbeRunner) (cap rel cap' rel' : Nat) (pre : List Op3)
    (hlen : pre.length + 1 < 2 ^ 16) :
    Sim [] (reach3 run1 cap rel (pre ++ [.base2 .reset])) (reach3 run2 cap' rel' (regsOf3 pre)) := by
  have hl := regsOf3_length_le pre
  obtain ⟨fl, H⟩ := reach3_inv run1 cap rel pre (by omega)
  obtain ⟨fl2, H2⟩ := reach3_inv run2 cap' rel' (regsOf3 pre) (by omega)
  have R1 := reach3_along run1 cap rel pre [] (by rw [List.nil_append]; omega)
  have R2 := reach3_along run2 cap' rel' (regsOf3 pre) [] (by rw [List.nil_append]; omega)
  have F : Fresh (reach3 run2 cap' rel' (regsOf3 pre)) :=
    fresh_regs run2 pre _ R2 (fresh_init cap' rel')
  -- the registry of both sides is the one the registrations of `pre` make of the initial one
  have hk : (reach3 run1 cap rel pre).w.kinds = (reach3 run2 cap' rel' (regsOf3 pre)).w.kinds :=
    (run3_kinds run1 pre _ R1).trans
      ((foldl_kindsStep_regsOf3 pre _).trans (run3_kinds run2 (regsOf3 pre) _ R2).symm)
  obtain ⟨b1, b2, b3, b4, _, _⟩ := reset_desc run1 H
  rw [reach3_snoc]
  refine ⟨?_, b2.trans F.issued.symm, b4.trans hk, ?_, fun f hf => absurd hf List.not_mem_nil⟩
  · show (step2 run1 (reach3 run1 cap rel pre) .reset).ss = _
    rw [b1, H.base.zstEq, H.base.relEq, hk, ← H2.base.zstEq, ← H2.base.relEq, ← F.ents]
  · show (step2 run1 (reach3 run1 cap rel pre) .reset).w.pool.Core = _
    rw [b3, F.pool]
    exact (reserved2_run3 run1 pre _ R1 Refine.reserved2_init).reset_core

theorem reset_lengths3 {pre post : List Op3} (hlen : pre.length + 1 + post.length < 2 ^ 16) :
    (pre ++ [Op3.base2 .reset] ++ post).length < 2 ^ 16 ∧ (regsOf3 pre ++ post).length < 2 ^ 16 := by
  have := regsOf3_length_le pre
  simp only [List.length_append, List.length_singleton]
  omega

/-- **C16 with relation components and `Exchange`, every later history.**  Let `pre` and `post` be
    histories of the machine `Ark.RelRefine3` (all single-entity operations with relation
    components — `new`, `add`, `rem`, `xchg`, `setrel`, `set`, `del`, `copy` — through any access
    path, `shrink`, `reset`, filter operations, queries; bound `2^16`) and `regsOf3 pre` the
    component registrations of `pre`, in order.  Running `post` after `pre ++ [reset]` and running
    `post` after `regsOf3 pre` on a new world (any initial capacities, any callback runner) gives
    equivalent traces (`TraceEq`: same expressibility, same handles, same panic classes, the same
    visit records of every query up to their order) and ends in states related by `Sim`. -/
theorem reset_equiv_rel3 (run1 run2 : ProbeRunner) (cap rel cap' rel' : Nat) (pre post : List Op3)
    (hlen : pre.length + 1 + post.length < 2 ^ 16) :
    TraceEq (trace3 run1 [] (reach3 run1 cap rel (pre ++ [.base2 .reset])) post)
      (trace3 run2 [] (reach3 run2 cap' rel' (regsOf3 pre)) post) ∧
    Sim (labels3 run1 [] (reach3 run1 cap rel (pre ++ [.base2 .reset])) post)
      (reach3 run1 cap rel (pre ++ [.base2 .reset] ++ post))
      (reach3 run2 cap' rel' (regsOf3 pre ++ post)) := by
  obtain ⟨hl1, hl2⟩ := reset_lengths3 hlen
  obtain ⟨t, _, S⟩ := sim_run3 run1 run2 post [] _ _ (reach3_along run1 cap rel post _ hl1)
    (reach3_along run2 cap' rel' post _ hl2)
    (sim_reset_regs3 run1 run2 cap rel cap' rel' pre (by omega))
  rw [reach3_append run1 cap rel (pre ++ [Op3.base2 .reset]) post,
    reach3_append run2 cap' rel' (regsOf3 pre) post]
  exact ⟨t, S⟩

theorem reset_equiv_rel3_worlds (run1 run2 : ProbeRunner) (cap rel cap' rel' : Nat)
    (pre post : List Op3) (hlen : pre.length + 1 + post.length < 2 ^ 16) :
    SameWorlds (reach3 run1 cap rel (pre ++ [.base2 .reset] ++ post))
      (reach3 run2 cap' rel' (regsOf3 pre ++ post)) := by
  obtain ⟨hl1, hl2⟩ := reset_lengths3 hlen
  obtain ⟨fl1, H1⟩ := reach3_inv run1 cap rel _ hl1
  obtain ⟨fl2, H2⟩ := reach3_inv run2 cap' rel' _ hl2
  exact (reset_equiv_rel3 run1 run2 cap rel cap' rel' pre post hlen).2.worlds H1 H2

end RelRefine3

namespace RelRefine2

open RelRefine RelRefine3

theorem trace3_base2 (run : ProbeRunner) : ∀ (ops : List Op2) (L : List Nat) (s : St),
    trace3 run L s (ops.map .base2) = trace2 run L s ops
  | [], _, _ => rfl
  | op :: ops, L, s => congrArg (stepOut2 run L s op :: ·) (trace3_base2 run ops _ _)

theorem labels3_base2 (run : ProbeRunner) : ∀ (ops : List Op2) (L : List Nat) (s : St),
    labels3 run L s (ops.map .base2) = labels2 run L s ops
  | [], _, _ => rfl
  | _ :: ops, _, _ => labels3_base2 run ops _ _

theorem regsOf3_base2 (ops : List Op2) : regsOf3 (ops.map .base2) = (regsOf2 ops).map .base2 := by
  rw [regsOf3, List.filter_map]; rfl

theorem reach3_reset_base2 (run : ProbeRunner) (cap rel : Nat) (pre post : List Op2) :
    reach3 run cap rel (pre.map .base2 ++ [.base2 .reset] ++ post.map .base2) =
      reach2 run cap rel (pre ++ [.reset] ++ post) := by
  rw [← reach3_base2, List.map_append, List.map_append]; rfl

theorem reach3_regs_base2 (run : ProbeRunner) (cap rel : Nat) (pre post : List Op2) :
    reach3 run cap rel (regsOf3 (pre.map .base2) ++ post.map .base2) =
      reach2 run cap rel (regsOf2 pre ++ post) := by
  rw [← reach3_base2, List.map_append, regsOf3_base2]

/-- **C16 with relation components, every later history.**  Let `pre` and `post` be histories of
    the machine `Ark.RelRefine2` (within the bound `2^16`; `Reset` may occur anywhere in them) and
    `regsOf2 pre` the component registrations of `pre`, in order.  Running `post` after
    `pre ++ [reset]` and running `post` after `regsOf2 pre` on a new world (any initial
    capacities, any callback runner)
    * gives equivalent traces — for every operation of `post`: expressible on both sides or on
      neither, accepted on both or rejected on both with the SAME panic class, a creation returns
      the SAME handle (ID and generation), and a complete query iteration yields the same visit
      records (entity, every component value, every relation target) up to their order —, and
    * ends in states related by `Sim`: same specification (alive handles ↦ components ↦ values,
      relation targets, registry flags), same issued handles, same registry, same pool core, and
      filter objects that agree up to the cache ID. -/
theorem reset_equiv_rel (run1 run2 : ProbeRunner) (cap rel cap' rel' : Nat) (pre post : List Op2)
    (hlen : pre.length + 1 + post.length < 2 ^ 16) :
    TraceEq (trace2 run1 [] (reach2 run1 cap rel (pre ++ [.reset])) post)
      (trace2 run2 [] (reach2 run2 cap' rel' (regsOf2 pre)) post) ∧
    Sim (labels2 run1 [] (reach2 run1 cap rel (pre ++ [.reset])) post)
      (reach2 run1 cap rel (pre ++ [.reset] ++ post))
      (reach2 run2 cap' rel' (regsOf2 pre ++ post)) := by
  have h := reset_equiv_rel3 run1 run2 cap rel cap' rel' (pre.map .base2) (post.map .base2)
    (by rw [List.length_map, List.length_map]; exact hlen)
  have e : reach3 run1 cap rel (pre.map .base2 ++ [.base2 .reset]) =
      reach2 run1 cap rel (pre ++ [.reset]) := by
    rw [← reach3_base2, List.map_append]; rfl
  rw [trace3_base2, trace3_base2, labels3_base2, reach3_reset_base2, reach3_regs_base2, e,
    regsOf3_base2, reach3_base2] at h
  exact h

end RelRefine2

end Ark

end

