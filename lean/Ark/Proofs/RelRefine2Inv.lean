/-
  Property C05 with relations: the filter-side invariant `FInvR` of the relation machine (cache,
  filter heap, component index, rows, lock and ID pools: what the machine carries besides
  `RelRefine.HInv`), `Kept` (what every successful entity operation guarantees about it),
  `SameButCF` (a world that differs in cache and filter heap only), and the filter operations
  `fdef` / `FilterN.Register` / `FilterN.Unregister` in a world with relation tables.
-/
import Ark.Proofs.RelRefine
import Ark.Proofs.QueryRelAssign
import Ark.Proofs.CacheKeep
import Ark.Proofs.FilterOps

set_option autoImplicit false

namespace Ark
namespace RelRefine2

open World Ark.Props.C01World QueryRel QueryExact

/-- **the filter heap agrees with the cache** -/
structure HeapOK (w : World) : Prop where
  reg : ∀ (f : Nat) (fo : FilterObj) (id : Nat), AL.find? w.filters f = some fo →
    fo.cache = some id →
    ∃ (e : CacheEntry), e ∈ w.cache.filters ∧ e.id = id ∧ e.filter = fo.filter ∧ e.rels = fo.rels
  inj : ∀ (f g : Nat) (fo go : FilterObj) (id : Nat), AL.find? w.filters f = some fo →
    AL.find? w.filters g = some go → fo.cache = some id → go.cache = some id → f = g
  /-- a typed filter requires its type parameters (`FilterN` is built from them) -/
  typed : ∀ (f : Nat) (fo : FilterObj), AL.find? w.filters f = some fo → fo.typed = true →
    FilterOK fo
  /-- the fixed relations name relation components the mask requires (`ToRelations`) -/
  rels : ∀ (f : Nat) (fo : FilterObj), AL.find? w.filters f = some fo →
    RelsTyped w fo.filter fo.rels

/-- the cache's ID pool never recycles (`unregister` does not return the ID): every registered
    ID is below the next fresh one -/
structure CachePoolOK (w : World) : Prop where
  avail : w.cache.pool.available = 0
  bound : ∀ (id i : Nat), AL.find? w.cache.indices id = some i → id < w.cache.pool.pool.length

theorem HeapOK.toReg {w : World} (h : HeapOK w) : HeapReg w := ⟨h.reg, h.inj⟩

theorem CachePoolOK.core {w : World} (h : CachePoolOK w) : Ark.CachePoolOK w := ⟨h.avail, h.bound⟩

theorem CachePoolOK.of_core {w : World} (h : Ark.CachePoolOK w) : CachePoolOK w := ⟨h.avail, h.bound⟩

structure FInvR (w : World) : Prop where
  cache : CacheInv w
  heap : HeapOK w
  cidx : CIdx w
  rows : RowsAlive w
  /-- `[]`: no lock bit is outstanding; the bit pool is lawful, so that the `Lock` / `Unlock` cycle of
      an iteration goes through (`Lock.LInv.cycle`): `HInv.unlocked`, the zero mask, does not say that -/
  lock : ∃ (lf : List Nat), Lock.LInv ⟨w.locks, []⟩ lf
  pool : CachePoolOK w

theorem finvR_init (cap rel : Nat) : FInvR (World.init cap rel) where
  cache := cacheInv_init cap rel 256
  heap := by
    refine ⟨?_, ?_, ?_, ?_⟩
    · intro f fo id h; cases h
    · intro f g fo go id h; cases h
    · intro f fo h; cases h
    · intro f fo h; cases h
  cidx := CIdx.init cap rel
  rows := RowsAlive.init cap rel
  lock := ⟨[], Lock.linv_init⟩
  pool := ⟨rfl, fun id i h => by cases h⟩

structure Kept (w w' : World) : Prop where
  q : QKeep w w'
  c : CKeep w w'
  locks : w'.locks = w.locks
  relComp : ∀ (c : Comp), w.isRelComp c = true → w'.isRelComp c = true

theorem Kept.refl (w : World) : Kept w w := ⟨QKeep.refl w, CKeep.refl w, rfl, fun _ h => h⟩

theorem relsTyped_mono {w w' : World} {f : Filter} {rels : List RelID} (h : RelsTyped w f rels)
    (hr : ∀ (c : Comp), w.isRelComp c = true → w'.isRelComp c = true) : RelsTyped w' f rels :=
  fun r hm => ⟨hr _ (h r hm).1, (h r hm).2⟩

theorem FInvR.kept {w w' : World} (h : FInvR w) (k : Kept w w') : FInvR w' where
  cache := k.c.cache h.cache
  heap := by
    refine ⟨?_, ?_, ?_, ?_⟩
    · intro f fo id hf hcid
      rw [k.c.filters] at hf
      obtain ⟨e, he, h1, h2, h3⟩ := h.heap.reg f fo id hf hcid
      obtain ⟨e', he', g1, g2, g3⟩ := entry_of_cacheKeys k.c.keys he
      exact ⟨e', he', g1.trans h1, g2.trans h2, g3.trans h3⟩
    · rw [k.c.filters]; exact h.heap.inj
    · rw [k.c.filters]; exact h.heap.typed
    · intro f fo hf
      rw [k.c.filters] at hf
      exact relsTyped_mono (h.heap.rels f fo hf) k.relComp
  cidx := k.q.cidx h.cidx
  rows := k.q.rows h.rows
  lock := by rw [k.locks]; exact h.lock
  pool := ⟨by rw [k.c.pool]; exact h.pool.avail, by rw [k.c.indices, k.c.pool]; exact h.pool.bound⟩

theorem _root_.Ark.RelRefine.HInv.setCF {s : RelRefine.St} {fl : List Nat}
    (H : RelRefine.HInv s fl) (c : Cache) (F : AL FilterObj)
    (hc : ∀ (e : CacheEntry), e ∈ c.filters → ∀ (r : RelID), r ∈ e.rels →
      e.filter.mask.get r.comp = true) :
    RelRefine.HInv ⟨{ s.w with cache := c, filters := F }, s.issued, s.ss⟩ fl :=
  H.of_kinds (H.tinv.setCF c F hc) H.ginv rfl rfl H.nodup rfl rfl (fun e en hm =>
    (H.ok e en hm).frame ⟨fun c => valOf_congr rfl rfl _ c, compsOf_congr rfl rfl _⟩ (fun _ => rfl))
    H.tgtsOK

/-- `w'` on both sides: `rfl` proves it for every `{ w with cache := c, filters := F }`, and `rw`
    turns a goal about `w'` into one about such a record (as `Ark.SameButCF` of CacheHistOps.lean) -/
def SameButCF (w w' : World) : Prop := w' = { w with cache := w'.cache, filters := w'.filters }

theorem SameButCF.refl (w : World) : SameButCF w w := rfl

theorem _root_.Ark.RelRefine.HInv.sameButCF {s : RelRefine.St} {fl : List Nat}
    (H : RelRefine.HInv s fl) {w' : World} (h : SameButCF s.w w') (hc : CacheRelsOK w') :
    RelRefine.HInv ⟨w', s.issued, s.ss⟩ fl := by
  rw [h]; exact H.setCF _ _ hc

theorem sameButCF_fields {w w' : World} (h : SameButCF w w') :
    w'.tables = w.tables ∧ w'.entities = w.entities ∧ w'.archetypes = w.archetypes ∧
    w'.kinds = w.kinds ∧ w'.componentIndex = w.componentIndex ∧ w'.locks = w.locks ∧
    w'.pool = w.pool ∧ w'.relationArchetypes = w.relationArchetypes := by
  unfold SameButCF at h
  exact ⟨by rw [h], by rw [h], by rw [h], by rw [h], by rw [h], by rw [h], by rw [h], by rw [h]⟩

theorem FInvR.ofCacheHeap {w w2 : World} (h : FInvR w) (hs : SameButCF w w2)
    (hcache : CacheInv w2) (hheap : HeapOK w2) (hpool : CachePoolOK w2) : FInvR w2 := by
  obtain ⟨hT, hE, hA, hK, hCI, hL, hP, _⟩ := sameButCF_fields hs
  exact
    { cache := hcache
      heap := hheap
      cidx := h.cidx.of_frame ⟨hCI, hK, by rw [hA], fun a => by rw [arch_congr hA]⟩
      rows := by
        intro t T r hT' hr
        rw [hT] at hT'
        have : w2.alive (T.getEntity r) = w.alive (T.getEntity r) := by simp only [World.alive, hP]
        rw [this]; exact h.rows t T r hT' hr
      lock := by rw [hL]; exact h.lock
      pool := hpool }

/-- what a client can construct: a fresh (unregistered) filter object; a typed filter requires
    its type parameters (`FilterN` is built from them); the fixed relations of an `UnsafeFilter`
    name relation components the mask requires (the typed constructor checks this itself, see
    `defFilter`; for an `UnsafeFilter` that violates it `Register` and `Query` are Go runtime
    panics — nil dereference in `Matches` —, such objects are not steps of the machine). -/
def guardF (w : World) (fo : FilterObj) : Bool :=
  fo.cache.isNone &&
    (!fo.typed || fo.ids.all fun c => fo.filter.mask.get c) &&
    (fo.typed || fo.rels.all fun r => w.isRelComp r.comp && fo.filter.mask.get r.comp)

/-- the `filter` line of the driver: the typed constructor validates the fixed relations
    (`preCheckTyped`: target zero or alive, relation component, required by the mask); on success
    the object is stored under label `f` (replacing what was there) -/
def defFilter (f : Nat) (fo : FilterObj) (w : World) : World :=
  match (if fo.typed then preCheckTyped fo.filter.mask fo.rels else pure ()) w with
  | .ok _ w' => { w' with filters := AL.insert w'.filters f fo }
  | .panic _ w' => w'

theorem defFilter_cases (f : Nat) (fo : FilterObj) (w : World) :
    defFilter f fo w = w ∨
    (defFilter f fo w = { w with filters := AL.insert w.filters f fo } ∧
      (fo.typed = true → ExtraOK w fo.filter.mask fo.rels)) := by
  unfold defFilter
  cases ht : fo.typed with
  | false => exact Or.inr ⟨rfl, fun h => by cases h⟩
  | true =>
    simp only [if_true]
    rcases preCheckTyped_cases fo.filter.mask w fo.rels with h | ⟨k, h⟩
    · rw [h]; exact Or.inr ⟨rfl, fun _ => (preCheckTyped_ok_iff _ w fo.rels).mp h⟩
    · rw [h]; exact Or.inl rfl

/-- the filter object the driver builds from a `filter` line -/
def mkFilterObj (ids : List Comp) (wo : Option (List Comp)) (excl typed : Bool)
    (rels : List RelID) : FilterObj :=
  let f : Filter := { mask := Mask.ofList ids }
  let f := match wo with | some l => if l.isEmpty then f else f.withoutList l | none => f
  let f := if excl then f.exclusive else f
  { filter := f, ids, rels, typed }

theorem FInvR.setFilters {w : World} (h : FInvR w) (F : AL FilterObj)
    (hheap : HeapOK { w with filters := F }) : FInvR { w with filters := F } :=
  h.ofCacheHeap rfl (h.cache.congr rfl rfl rfl) hheap ⟨h.pool.avail, h.pool.bound⟩

theorem FInvR.defFilter {w : World} (h : FInvR w) (f : Nat) (fo : FilterObj)
    (hg : guardF w fo = true) : FInvR (defFilter f fo w) := by
  rcases defFilter_cases f fo w with he | ⟨he, hex⟩
  · rw [he]; exact h
  · rw [he]
    simp only [guardF, Bool.and_eq_true, Option.isNone_iff_eq_none, Bool.or_eq_true,
      Bool.not_eq_true', List.all_eq_true] at hg
    obtain ⟨⟨hc, hty⟩, hrl⟩ := hg
    have hrels : RelsTyped w fo.filter fo.rels := by
      cases ht : fo.typed with
      | true => exact (hex ht).relsTyped
      | false =>
        rcases hrl with hrl | hrl
        · rw [ht] at hrl; cases hrl
        · exact fun r hr => hrl r hr
    have hr : HeapReg { w with filters := AL.insert w.filters f fo } :=
      h.heap.toReg.insert rfl (fun _ he _ => he) (fun id hid => by rw [hc] at hid; cases hid)
    refine h.setFilters _ ⟨hr.reg, hr.inj, fun g go hgo ht => ?_, fun g go hgo => ?_⟩
    · rcases AL.find?_insert_elim hgo with ⟨_, rfl⟩ | ⟨_, hg'⟩
      · rcases hty with hty | hty
        · rw [hty] at ht; cases ht
        · exact hty
      · exact h.heap.typed g go hg' ht
    · rcases AL.find?_insert_elim hgo with ⟨_, rfl⟩ | ⟨_, hg'⟩
      · exact hrels
      · exact h.heap.rels g go hg'

theorem defFilter_sameButCF (f : Nat) (fo : FilterObj) (w : World) :
    SameButCF w (defFilter f fo w) ∧ (defFilter f fo w).cache = w.cache := by
  rcases defFilter_cases f fo w with he | ⟨he, _⟩
  · rw [he]; exact ⟨SameButCF.refl _, rfl⟩
  · rw [he]; exact ⟨rfl, rfl⟩

/-- the filter object under label `f` (the zero object when the label is unknown) -/
def foAt (w : World) (f : Nat) : FilterObj := (AL.find? w.filters f).getD {}

theorem foAt_facts {w : World} (h : HeapOK w) (f : Nat) :
    RelsTyped w (foAt w f).filter (foAt w f).rels ∧
    ((foAt w f).typed = true → FilterOK (foAt w f)) := by
  cases hfind : AL.find? w.filters f with
  | none =>
    have hz : foAt w f = {} := by simp only [foAt, hfind]; rfl
    rw [hz]
    exact ⟨fun r (hr : r ∈ ([] : List RelID)) => absurd hr List.not_mem_nil,
      fun _ c (hc : c ∈ ([] : List Comp)) => absurd hc List.not_mem_nil⟩
  | some fo0 =>
    have hz : foAt w f = fo0 := by simp only [foAt, hfind]; rfl
    rw [hz]
    exact ⟨h.rels f fo0 hfind, h.typed f fo0 hfind⟩

/-- what `HeapOK` says of single objects survives a change of the `cache` field -/
theorem HeapOK.static_insert {w : World} (h : HeapOK w) (f : Nat) (c : Option Nat) :
    ∀ (g : Nat) (go : FilterObj),
      AL.find? (AL.insert w.filters f { foAt w f with cache := c }) g = some go →
      (go.typed = true → FilterOK go) ∧ RelsTyped w go.filter go.rels :=
  heapStatic_insert (fun fo => (fo.typed = true → FilterOK fo) ∧ RelsTyped w fo.filter fo.rels)
    (fun _ hfo => hfo) ⟨fun _ x hx => (by cases hx), fun r hr => (by cases hr)⟩
    (fun g go hg => ⟨h.typed g go hg, h.rels g go hg⟩)

theorem FInvR.filterRegister {w : World} {fl : List Nat} (h : FInvR w) (ht : TInv w fl) (f : Nat) :
    FInvR (opFilterRegister f w).state ∧ SameButCF w (opFilterRegister f w).state ∧
    CacheRelsOK (opFilterRegister f w).state := by
  cases hc : (foAt w f).cache with
  | some id0 =>
    rw [opFilterRegister_registered f w hc]
    exact ⟨h, SameButCF.refl w, ht.rel.aux.cacheRels⟩
  | none =>
    obtain ⟨hrt, _⟩ := foAt_facts h.heap f
    obtain ⟨ts, w', hop, rfl, hci, hr, hp⟩ := filterRegister_core h.cache h.heap.toReg h.pool.core
      (tablesInv_of_rel ht.rel) f hc (relsOK_of_typed ht.rel.sinv.toSInvMid hrt)
    rw [hop]
    have hs := h.heap.static_insert f (some (w.cache.pool.get).2)
    refine ⟨h.ofCacheHeap rfl hci ⟨hr.reg, hr.inj, fun g go hg => (hs g go hg).1,
      fun g go hg => (hs g go hg).2⟩ (.of_core hp), rfl, fun e he => ?_⟩
    replace he : e ∈ w.cache.filters ++ [newEntry w (foAt w f).filter (foAt w f).rels ts] := he
    rcases List.mem_append.mp he with he | he
    · exact ht.rel.aux.cacheRels e he
    · rw [List.mem_singleton.mp he]
      intro r hrm; exact (hrt r hrm).2

theorem FInvR.filterUnregister {w : World} {fl : List Nat} (h : FInvR w) (ht : TInv w fl) (f : Nat) :
    FInvR (opFilterUnregister f w).state ∧ SameButCF w (opFilterUnregister f w).state ∧
    CacheRelsOK (opFilterUnregister f w).state := by
  cases hc : (foAt w f).cache with
  | none =>
    rw [opFilterUnregister_unregistered f w hc]
    exact ⟨h, SameButCF.refl w, ht.rel.aux.cacheRels⟩
  | some id =>
    obtain ⟨F, I, w', hop, rfl, hci, hr, hp, hback⟩ :=
      filterUnregister_core h.cache h.heap.toReg h.pool.core f hc
    rw [hop]
    have hs := h.heap.static_insert f none
    exact ⟨h.ofCacheHeap rfl hci ⟨hr.reg, hr.inj, fun g go hg => (hs g go hg).1,
      fun g go hg => (hs g go hg).2⟩ (.of_core hp), rfl,
      fun e he => ht.rel.aux.cacheRels e (hback e he)⟩

theorem opFilterRegister_filters {w : World} {fl : List Nat} (h : FInvR w) (ht : TInv w fl) (f : Nat)
    (hc : (foAt w f).cache = none) :
    ∃ (w' : World), opFilterRegister f w = .ok () w' ∧
      w'.filters = AL.insert w.filters f { foAt w f with cache := some (w.cache.pool.get).2 } := by
  obtain ⟨hrt, _⟩ := foAt_facts h.heap f
  obtain ⟨ts, w', hop, rfl, _⟩ := filterRegister_core h.cache h.heap.toReg h.pool.core
    (tablesInv_of_rel ht.rel) f hc (relsOK_of_typed ht.rel.sinv.toSInvMid hrt)
  exact ⟨_, hop, rfl⟩

theorem opFilterUnregister_filters {w : World} (h : FInvR w) (f : Nat) {id : Nat}
    (hc : (foAt w f).cache = some id) :
    ∃ (w' : World), opFilterUnregister f w = .ok () w' ∧
      w'.filters = AL.insert w.filters f { foAt w f with cache := none } := by
  obtain ⟨F, I, w', hop, rfl, _⟩ := filterUnregister_core h.cache h.heap.toReg h.pool.core f hc
  exact ⟨_, hop, rfl⟩

end RelRefine2
end Ark
