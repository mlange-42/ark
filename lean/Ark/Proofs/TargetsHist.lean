/-
  C04 at world level.  §1: `RemoveEntity` of a live entity, relation target or not: its lookup
  lemma `TInv.del_lookup` (removal block, cleanup if flagged, reset of the flag — one case, since
  resetting a flag that is not set changes nothing), `opRemoveEntity_rel_spec`.  §2: `Good w` ("the invariant for some free list, unlocked, no
  observers"), the states in which the C04 theorems apply: it holds of `World.init` (`good_init`)
  and is kept by `registerComponent`, by `NewEntity` with targets and by `RemoveEntity`.
  The other operations keep it where their theorems stand: `Good.setRelations` in TargetsSetRel,
  `Good.add` and the decidable side conditions `Good.NewOK/DelOK/SetRelOK/AddOK` in TargetsAdd,
  `Good.exchange` in RelExchangeOp.
-/
import Ark.Proofs.TargetsLoops

section

/-! ## §1 `RemoveEntity` -/

set_option autoImplicit false

namespace Ark

open World Ark.Props.C01World

namespace World

/-- the state `RemoveEntity` ends with after the cleanup: the target flag is reset -/
def unflagW (w : World) (e : Ent) : World := { w with isTarget := w.isTarget.set e.id false }

/-- resetting a flag that is not set changes nothing -/
theorem unflagW_of_unflagged {w : World} {e : Ent} (h : w.isTarget.getD e.id false = false) :
    unflagW w e = w := by
  have : w.isTarget.set e.id false = w.isTarget := by
    rcases Nat.lt_or_ge e.id w.isTarget.length with hlt | hge
    · rw [List.getD_eq_getElem?_getD, List.getElem?_eq_getElem hlt] at h
      have h' : w.isTarget[e.id] = false := h
      rw [← h']; exact List.set_getElem_self hlt
    · exact List.set_eq_of_length_le hge
  unfold unflagW; rw [this]

/-- without observers, `RemoveEntity` of an alive handle flagged as a relation target, on an
    unlocked world, is the removal block followed by `cleanupArchetypes` and the reset of the
    flag -/
theorem opRemoveEntity_eq_target (run : ProbeRunner) (w : World) (e : Ent) (hl : w.isLocked = false)
    (ha : w.alive e = true) {t row : Nat} (hix : w.index e.id = (t, row))
    (hno : ∀ (evt : Nat), w.obs.hasObservers evt = false)
    (hfl : w.isTarget.getD e.id false = true) :
    opRemoveEntity run e w =
      match cleanupArchetypes e (removeRowOf w e t row) with
      | .panic k s => .panic k s
      | .ok _ s => .ok () (unflagW s e) := by
  cases hsw : ((w.tbl t).remove row).2 <;>
  · simp only [opRemoveEntity, bind, M.bind, checkLocked_unlocked w hl, M.get, M.assert, ha, if_true,
      hno, Bool.and_false, Bool.or_false, Bool.false_eq_true, if_false, hix, M.modify, hsw,
      removeRowOf, setTbl, hfl]
    split <;> (rename_i heq; simp only [heq, unflagW])

end World

theorem targetOf_ne_of_noTarget {w : World} {g : Ent} (hI : IdxInv w) (hE : FreeEmpty w)
    (hN : NoTarget w g.id) (j : Nat) (c : Comp) : targetOf w j c ≠ some g := by
  intro hh
  obtain ⟨t, k, T, hT, hf, hk, he⟩ := targetOf_col hI hE hh
  exact hN t T hT hf k hk (by rw [he])

/-- a step that keeps the table metadata and the flags set leads from `TInv` to the invariants
    of a cleanup, once index, empty free tables and admitted targets are known afterwards -/
theorem TInv.cleanBaseD {w w' : World} {fl : List Nat} {D : List Ent} (h : TInv w fl)
    (ms : MetaStep w w') (hI : IdxInv w')
    (hit : ∀ (i : Nat), w.isTarget.getD i false = true → w'.isTarget.getD i false = true)
    (hE : FreeEmpty w') (hT : TargetsSat (OKTs w' D) w') : CleanBaseD D w' ∧ RInv w' :=
  ⟨{ idx := hI
     sinv := h.rel.sinv.of_metaStep ms
     tgts := hT
     rels := h.rel.aux.rels.of_metaStep ms
     cacheRels := by intro e he; rw [ms.cache] at he; exact h.rel.aux.cacheRels e he
     flags := h.flags.of_metaStep ms hit
     freeEmpty := hE
     relArchs := by
       intro b B hB' hrel
       rw [ms.archetypes] at hB'; rw [ms.relationArchetypes]
       exact h.rel.aux.relArchs b B hB' hrel },
    h.rel.rinv.of_metaStep ms⟩

/-- after the removal block of `RemoveEntity g` the world is ready for the cleanup of `g`: the
    targets are admitted (`g` itself is the only dead one), the relation index is intact -/
theorem TInv.removedRow {w : World} {fl : List Nat} (h : TInv w fl) {g : Ent}
    (ha : w.alive g = true) {t row : Nat}
    (rl : RemovedLink w fl g t row (removeRowOf w g t row)) :
    MetaStep w (removeRowOf w g t row) ∧ CleanBase g (removeRowOf w g t row) ∧
    RInv (removeRowOf w g t row) ∧ (removeRowOf w g t row).entities.length = w.entities.length := by
  have hTt := get_of_lt (lt_of_get (h.link.idx.indexed rl.entry rl.tne).1)
  have ms1 := removeRowOf_metaStep w g t row
  obtain ⟨hB1, hR1⟩ := h.cleanBaseD (D := [g]) ms1 rl.link.idx
    (fun i hi => by rw [removeRowOf_isTarget]; exact hi)
    (h.freeEmpty.of_set rl.tables (fun hf => by
      have := h.freeEmpty t _ hTt (by rw [← (Table.remove_sameMeta _ _).isFree]; exact hf)
      rw [Table.remove_len, this]))
    ((((targetsOK_iff w).1 h.rel.aux.targets).of_metaStep ms1).mono fun x hx => by
      refine okt_iff_single.1 ?_
      rcases hx with h1 | h1
      · exact Or.inl h1
      · by_cases e : x = g
        · exact Or.inr (Or.inr e)
        · -- another alive entity has another ID
          have hid : x.id ≠ g.id := fun e' => e (h.link.alive_inj h1 ha e')
          exact Or.inr (Or.inl ⟨by rw [rl.aliveFrame x hid]; exact h1, hid⟩))
  refine ⟨ms1, cleanBase_iff_single.2 hB1, hR1, ?_⟩
  rw [removeRowOf_entities, unplace_entities]; split <;> simp only [List.length_modify]

structure RemovedRelPost (w : World) (fl : List Nat) (g : Ent) (w' : World) : Prop where
  /-- the ID is pushed on the free list -/
  tinv : TInv w' (g.id :: fl)
  dead : w'.alive g = false
  aliveFrame : ∀ (h : Ent), h.id ≠ g.id → w'.alive h = w.alive h
  /-- every other entity keeps components and values; a target that was `g` reads as the zero
      entity, every other target is kept -/
  frame : ∀ (j : Nat), j ≠ g.id → SameEnt w w' j ∧
    ∀ (c : Comp), targetOf w' j c = zeroed g (targetOf w j c)
  unindexed : (∀ (c : Comp), valOf w' g.id c = none) ∧ compsOf w' g.id = none ∧
    ∀ (c : Comp), targetOf w' g.id c = none
  noTarget : NoTarget w' g.id
  obs : w'.obs = w.obs
  locks : w'.locks = w.locks
  kinds : w'.kinds = w.kinds
  tablesLen : w'.tables.length ≤ w.tables.length + w.relationArchetypes.length
  entitiesLen : w'.entities.length = w.entities.length

structure RemovedRelMore (w : World) (g : Ent) (w' : World) : Prop where
  pool : w'.pool = w.pool.recycle g
  maxComps : w'.maxComps = w.maxComps
  relArchs : w'.relationArchetypes = w.relationArchetypes

/-- after the cleanup of `g` no table targets it: `g` is no longer pending, and its flag can go -/
theorem CleanBaseD.unflag {g : Ent} {D : List Ent} {w : World} (h : CleanBaseD (g :: D) w)
    (hn : NoTarget w g.id) : CleanBaseD D (unflagW w g) :=
  { idx := h.idx.congr rfl rfl
    sinv := h.sinv.congr rfl rfl rfl
    tgts := fun t T hT hf i hi => by
      rcases h.tgts t T hT hf i hi with h1 | ⟨h1, h2⟩ | h1
      · exact Or.inl h1
      · exact Or.inr (Or.inl ⟨h1, fun d hd => h2 d (List.mem_cons_of_mem _ hd)⟩)
      · rcases List.mem_cons.1 h1 with h3 | h3
        · exact absurd (by rw [h3]) (hn t T hT hf i hi)
        · exact Or.inr (Or.inr h3)
    rels := h.rels
    cacheRels := h.cacheRels
    flags := fun t T hT hf i hi hz => by
      show (w.isTarget.set g.id false).getD _ false = true
      rw [List.getD_eq_getElem?_getD, List.getElem?_set_ne (fun x => hn t T hT hf i hi x.symm),
        ← List.getD_eq_getElem?_getD]
      exact h.flags t T hT hf i hi hz
    freeEmpty := h.freeEmpty
    relArchs := h.relArchs }

/-- nothing pending: the structural part of `TInv` -/
theorem CleanBaseD.relInv {w : World} (h : CleanBaseD [] w) (hR : RInv w) : RelInv w where
  sinv := h.sinv
  rinv := hR
  aux :=
    { targets := fun t T hT hf i hi => by
        rcases h.tgts t T hT hf i hi with h1 | ⟨h1, _⟩ | h1
        · exact Or.inl h1
        · exact Or.inr h1
        · cases h1
      rels := h.rels, relArchs := h.relArchs, cacheRels := h.cacheRels }

/-- **the lookup of `RemoveEntity g`** (live `g`, no observers): the removal block (`RemovedLink`),
    `cleanupArchetypes g` if `g` carries the target flag, the reset of the flag.  Both cases in one
    statement: when `g` is not flagged no table targets it after the removal block (`Cleaned` holds of
    that world with itself) and the reset of the flag changes nothing.  `K`: any relation the steps
    of the cleanup keep. -/
theorem TInv.del_lookup (run : ProbeRunner) {K : World → World → Prop} (hK : CleanKeeps K)
    {w : World} {fl : List Nat} (h : TInv w fl) (hl : w.isLocked = false)
    (hno : ∀ (evt : Nat), w.obs.hasObservers evt = false) {g : Ent} (h2 : 2 ≤ g.id)
    (hnf : g.id ∉ fl) (ha : w.alive g = true) (hin : g.id < w.pool.ents.length)
    (hfew : w.tables.length + w.relationArchetypes.length + 1 ≤ maxU32)
    (hrows : 2 * w.entities.length < 2 ^ 32) :
    ∃ (t row : Nat) (w2 : World), RemovedLink w fl g t row (removeRowOf w g t row) ∧
      MetaStep w (removeRowOf w g t row) ∧
      (removeRowOf w g t row).entities.length = w.entities.length ∧
      Cleaned g (removeRowOf w g t row) w2 ∧ K (removeRowOf w g t row) w2 ∧
      opRemoveEntity run g w = .ok () (unflagW w2 g) := by
  have hg0 : g.id ≠ 0 := by omega
  obtain ⟨t, row, hix, rl⟩ := h.link.removed h2 hnf ha hin
  obtain ⟨ms1, hB1, hR1, hE1⟩ := h.removedRow ha rl
  refine ⟨t, row, ?_⟩
  by_cases hfl : w.isTarget.getD g.id false = true
  · obtain ⟨w2, hok, cl, k⟩ := cleanupArchetypes_specK hK hB1 hR1 hg0
      (by rw [ms1.len, (removeRowOf_more w g t row).1]; exact hfew) (by rw [hE1]; exact hrows)
    exact ⟨w2, rl, ms1, hE1, cl, k, by
      rw [opRemoveEntity_eq_target run w g hl ha hix hno hfl]; simp only [hok]⟩
  · have hnt : w.isTarget.getD g.id false = false := by simpa using hfl
    -- a column targeting `g` would carry the flag
    have hno1 : NoTarget (removeRowOf w g t row) g.id := by
      intro t0 T0 hT0 hf i hi hid
      have heq := (hB1.tgts t0 T0 hT0 hf i hi).eq_of_id hg0 hid
      have hz : (T0.targets.getD i Ent.zero).isZero = false := by
        rw [heq]; simp only [Ent.isZero, beq_eq_false_iff_ne]; exact hg0
      have := hB1.flags t0 T0 hT0 hf i hi hz
      rw [heq, removeRowOf_isTarget, hnt] at this
      cases this
    refine ⟨_, rl, ms1, hE1, ⟨hB1, hR1, CleanFrame.refl g _, hno1, Nat.le_add_right _ _⟩,
      hK.refl _, ?_⟩
    rw [unflagW_of_unflagged (by rw [removeRowOf_isTarget]; exact hnt)]
    exact opRemoveEntity_eq run w g hl ha hix hno hnt

/-- `RemovedRelPost` and `RemovedRelMore` in one proof: the lookup, then the records read off
    `RemovedLink` and `Cleaned` -/
theorem opRemoveEntity_rel_full (run : ProbeRunner) {w : World} {fl : List Nat} (h : TInv w fl)
    (hl : w.isLocked = false) (hno : ∀ (evt : Nat), w.obs.hasObservers evt = false) {g : Ent}
    (h2 : 2 ≤ g.id) (hnf : g.id ∉ fl) (ha : w.alive g = true) (hin : g.id < w.pool.ents.length)
    (hfew : w.tables.length + w.relationArchetypes.length + 1 ≤ maxU32)
    (hrows : 2 * w.entities.length < 2 ^ 32) :
    ∃ (w' : World), opRemoveEntity run g w = .ok () w' ∧ RemovedRelPost w fl g w' ∧
      RemovedRelMore w g w' := by
  obtain ⟨t, row, w2, rl, ms1, hE1, cl, _, hok⟩ :=
    h.del_lookup run cleanKeeps_true hl hno h2 hnf ha hin hfew hrows
  obtain ⟨fk, _, fm⟩ := removeRowOf_fields w g t row
  have fra := (removeRowOf_more w g t row).1
  have hTt := get_of_lt (lt_of_get (h.link.idx.indexed rl.entry rl.tne).1)
  have fr := cl.frame
  have hB2 := cl.base
  have hal : ∀ (x : Ent), (unflagW w2 g).alive x = (removeRowOf w g t row).alive x := fun x => by
    show w2.pool.alive x = _; rw [fr.pool]; rfl
  have hlen : w2.tables.length ≤ w.tables.length + w.relationArchetypes.length := by
    have := cl.len; rwa [ms1.len, fra] at this
  have hentry : w2.entities[g.id]? = some (maxU32, row) := by
    rcases fr.idxSame.entry g.id with k | ⟨t0, r0, _, _, k1, k2, _⟩
    · rw [k]; exact rl.unindexed
    · rw [rl.unindexed] at k1
      exact absurd (Prod.mk.inj (Option.some.inj k1)).1.symm k2
  refine ⟨_, hok, ?_, by show w2.pool = _; rw [fr.pool, removeRowOf_pool],
    by show w2.maxComps = _; rw [fr.maxComps, fm],
    by show w2.relationArchetypes = _; rw [fr.relationArchetypes, fra]⟩
  have hB3 := (cleanBase_iff_single.1 cl.base).unflag cl.noTarget
  refine
    { tinv :=
        { rel := hB3.relInv (cl.rinv.congr rfl rfl)
          flags := hB3.flags
          freeEmpty := hB3.freeEmpty
          link := rl.link.transfer hB3.idx fr.pool (fr.idxSame.trans (IdxSame.of_eq rfl))
            (by show (w2.isTarget.set g.id false).length = _; rw [List.length_set, fr.isTarget])
            (by show w2.tables.length ≤ _; omega)
          kindsLe := by
            show w2.kinds.length ≤ w2.maxComps ∧ w2.maxComps ≤ 256
            rw [fr.kinds, fr.maxComps, fk, fm]; exact h.kindsLe }
      dead := by rw [hal]; exact rl.dead
      aliveFrame := fun x hx => by rw [hal]; exact rl.aliveFrame x hx
      frame := ?_
      unindexed := ⟨fun c => by simp only [valOf, unflagW, hentry, if_true],
        by simp only [compsOf, unflagW, hentry, if_true],
        fun c => by simp only [targetOf, unflagW, hentry, if_true]⟩
      noTarget := cl.noTarget
      obs := by show w2.obs = _; rw [fr.obs, removeRowOf_obs]
      locks := by show w2.locks = _; rw [fr.locks, removeRowOf_locks]
      kinds := by show w2.kinds = _; rw [fr.kinds, fk]
      tablesLen := hlen
      entitiesLen := by show w2.entities.length = _; rw [fr.idxSame.len]; exact hE1 }
  · intro j hj
    refine ⟨((rl.frame j hj).trans (fr.same j)).congr rfl rfl, fun c => ?_⟩
    -- the removal block keeps the targets of the others: a swapped row stays in its table
    have htg1 : targetOf (removeRowOf w g t row) j c = targetOf w j c := by
      rcases rl.lookup j hj with ⟨k1, k2⟩ | k
      · have hT1 : (removeRowOf w g t row).tables[t]? = some ((w.tbl t).remove row).1 := by
          rw [rl.tables]; exact List.getElem?_set_self (lt_of_get hTt)
        rw [targetOf_of_entry k1 rl.tne hT1, targetOf_of_entry k2 rl.tne hTt]
        exact Table.targetAt_sameMeta (Table.remove_sameMeta _ _) c
      · exact ms1.targetOf k c
    show targetOf w2 j c = _
    rw [← htg1]
    have hne : targetOf w2 j c ≠ some g :=
      targetOf_ne_of_noTarget hB2.idx hB2.freeEmpty cl.noTarget j c
    rcases fr.tgt j c with k | k
    · rw [k] at hne ⊢
      rw [zeroed, if_neg hne]
    · exact k

/-- **C04, removal of a target**: `RemoveEntity g` for a live `g` (relation target or not), no
    observers registered: it never panics, all invariants are preserved, `g` is dead, every
    other entity keeps its components and values, and its targets are kept except that `g` is
    replaced by the zero entity. -/
theorem opRemoveEntity_rel_spec (run : ProbeRunner) {w : World} {fl : List Nat} (h : TInv w fl)
    (hl : w.isLocked = false) (hno : ∀ (evt : Nat), w.obs.hasObservers evt = false) {g : Ent}
    (h2 : 2 ≤ g.id) (hnf : g.id ∉ fl) (ha : w.alive g = true) (hin : g.id < w.pool.ents.length)
    (hfew : w.tables.length + w.relationArchetypes.length + 1 ≤ maxU32)
    (hrows : 2 * w.entities.length < 2 ^ 32) :
    ∃ (w' : World), opRemoveEntity run g w = .ok () w' ∧ RemovedRelPost w fl g w' :=
  have ⟨w', hok, post, _⟩ := opRemoveEntity_rel_full run h hl hno h2 hnf ha hin hfew hrows
  ⟨w', hok, post⟩

end Ark

end

section

/-! ## §2 iterating the theorems: `Good` worlds

The side conditions of the `Good.*` lemmas are decidable on a concrete world, so that `TInv` of a
world built by running model operations follows by chaining them.
-/

set_option autoImplicit false

namespace Ark

open World Ark.Props.C01World

theorem TInv.registerComponent {w w' : World} {fl : List Nat} (h : TInv w fl) {k : CompKind}
    {n : Nat} (hr : World.registerComponent k w = .ok n w') :
    TInv w' fl ∧ w'.obs = w.obs ∧ w'.locks = w.locks := by
  obtain ⟨_, hks, harch, htab, hent, hpool, hcache⟩ := registerComponent_ok hr
  obtain ⟨hu, fra, hlt⟩ := registerComponent_fields hr
  refine ⟨?_, hu.obs, hu.locks⟩
  have hal : ∀ (x : Ent), w'.alive x = w.alive x := fun x => by simp only [World.alive, hpool]
  exact
    { rel :=
        { sinv := h.rel.sinv.registerComponent hr
          rinv := h.rel.rinv.registerComponent hr
          aux :=
            { targets := by
                intro t T hT hf i hi
                rw [htab] at hT
                rw [hal]; exact h.rel.aux.targets t T hT hf i hi
              rels := by rw [RelListsOK, htab]; exact h.rel.aux.rels
              relArchs := by rw [RelArchsOK, harch, fra]; exact h.rel.aux.relArchs
              cacheRels := by intro e he; rw [hcache] at he; exact h.rel.aux.cacheRels e he } }
      flags := by rw [FlagsOK, htab, hu.isTarget]; exact h.flags
      freeEmpty := by rw [FreeEmpty, htab]; exact h.freeEmpty
      link := h.link.congr (h.link.idx.registerComponent hr) hpool hent (by rw [hu.isTarget])
        (by rw [htab])
      kindsLe := by
        rw [hks, hu.maxComps]
        simp only [List.length_append, List.length_singleton]
        exact ⟨hlt, h.kindsLe.2⟩ }

/-- the class of a panic (`none` = the call returned) -/
def panicOf {α : Type} (r : Res World α) : Option PanicKind :=
  match r with
  | .ok _ _ => none
  | .panic k _ => some k

theorem ok_of_panicOf {α : Type} {r : Res World α} (h : panicOf r = none) :
    ∃ (a : α), r = .ok a r.state := by
  cases r with
  | ok a s => exact ⟨a, rfl⟩
  | panic k s => cases h

/-- an entity the index places in a table is live -/
theorem live_of_indexed {w : World} {fl : List Nat} (ht : TInv w fl) {e : Ent}
    (hidx : (w.index e.id).1 ≠ maxU32) (hlt : e.id < w.entities.length) : 2 ≤ e.id ∧ e.id ∉ fl := by
  have hent : w.entities[e.id]? = some ((w.index e.id).1, (w.index e.id).2) := by
    simp only [World.index, List.getD_eq_getElem?_getD, List.getElem?_eq_getElem hlt,
      Option.getD_some]
  exact ht.link.indexed_live hent hidx

/-- **Good** — the invariant holds for some free list, the world is unlocked and no observer is
    registered: the states in which the C04 theorems apply, closed under them. -/
def Good (w : World) : Prop :=
  ∃ (fl : List Nat), TInv w fl ∧ w.isLocked = false ∧ ∀ (evt : Nat), w.obs.hasObservers evt = false

theorem good_init (cap rel : Nat) : Good (World.init cap rel) :=
  ⟨[], tinv_init cap rel, rfl, fun _ => rfl⟩

/-- how every step keeps `Good`: the invariant after it (for some free list), lock and observers
    as before -/
theorem Good.of_frame {w w' : World} {fl : List Nat} (ht : TInv w' fl) (hlocks : w'.locks = w.locks)
    (hobs : w'.obs = w.obs) (hl : w.isLocked = false)
    (hno : ∀ (evt : Nat), w.obs.hasObservers evt = false) : Good w' :=
  ⟨fl, ht, (congrArg Lock.isLocked hlocks).trans hl, fun evt => by rw [hobs]; exact hno evt⟩

theorem Good.registerComponent {w : World} (h : Good w) (k : CompKind)
    (hnp : panicOf (World.registerComponent k w) = none) :
    Good (World.registerComponent k w).state := by
  obtain ⟨fl, ht, hl, hno⟩ := h
  obtain ⟨n, hr⟩ := ok_of_panicOf hnp
  obtain ⟨ht', fo, fl'⟩ := ht.registerComponent hr
  exact Good.of_frame ht' fl' fo hl hno

theorem Good.newEntity (run : ProbeRunner) (p : Path) {w : World} (h : Good w) {ids : List Comp}
    {vals : List (Comp × Val)} {rels : List RelID}
    (hreg : ∀ (c : Comp), c ∈ ids → c < w.kinds.length)
    (hnd : (rels.map (·.comp)).Nodup) (hin : ∀ (r : RelID), r ∈ rels → r.comp ∈ ids)
    (hrc : ∀ (r : RelID), r ∈ rels → w.isRelComp r.comp = true)
    (htin : ∀ (r : RelID), r ∈ rels → r.target.id < w.pool.ents.length)
    (hfew : w.tables.length < maxU32) (hrows : w.entities.length + 1 < 2 ^ 32)
    (hnp : panicOf (opNewEntity run p ids vals rels w) = none) :
    Good (opNewEntity run p ids vals rels w).state := by
  obtain ⟨fl, ht, hl, hno⟩ := h
  obtain ⟨e, hr⟩ := ok_of_panicOf hnp
  have post := opNewEntity_rel_spec run p ht hl hno hreg hnd hin hrc htin hfew hrows hr
  exact Good.of_frame post.tinv post.locks post.obs hl hno

theorem Good.removeEntity (run : ProbeRunner) {w : World} (h : Good w) {g : Ent}
    (ha : w.alive g = true) (hidx : (w.index g.id).1 ≠ maxU32) (hlt : g.id < w.entities.length)
    (hfew : w.tables.length + w.relationArchetypes.length + 1 ≤ maxU32)
    (hrows : 2 * w.entities.length < 2 ^ 32) :
    panicOf (opRemoveEntity run g w) = none ∧ Good (opRemoveEntity run g w).state := by
  obtain ⟨fl, ht, hl, hno⟩ := h
  obtain ⟨h2, hnf⟩ := live_of_indexed ht hidx hlt
  obtain ⟨w', hok, post⟩ := opRemoveEntity_rel_spec run ht hl hno h2 hnf ha
    (by rw [← ht.link.lenEq]; exact hlt) hfew hrows
  rw [hok]
  exact ⟨rfl, Good.of_frame post.tinv post.locks post.obs hl hno⟩

end Ark

end

