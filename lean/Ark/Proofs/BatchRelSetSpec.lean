/-
  Ark.Proofs.BatchRelSetSpec — C06 + C04 with relations: `setRelationsBatch` against
  `setRelations` applied to every selected entity: both satisfy `SetRelAllPost`, and two worlds
  obtained by assigning the same relations to the same entities are observationally equal.
-/
import Ark.Proofs.BatchRelSet
import Ark.Proofs.BatchRelSingles

set_option autoImplicit false

namespace Ark

open World Ark.Props.C01World QueryRel

/-! ## 1. the postcondition -/

/-- the observable outcome of assigning the relations `rels` to the entities `es` -/
structure SetRelAllPost (w : World) (fl : List Nat) (es : List Ent) (rels : List RelID)
    (w' : World) : Prop where
  tinv : TInv w' fl
  aliveSame : ∀ (x : Ent), w'.alive x = w.alive x
  /-- everybody keeps components and values -/
  same : ∀ (j : Nat), SameEnt w w' j
  /-- the entities of `es` have the targets named … -/
  targets : ∀ (e : Ent), e ∈ es → ∀ (r : RelID), r ∈ rels → targetOf w' e.id r.comp = some r.target
  /-- … and keep their other targets -/
  otherTargets : ∀ (e : Ent), e ∈ es → ∀ (c : Comp), (∀ (r : RelID), r ∈ rels → r.comp ≠ c) →
    targetOf w' e.id c = targetOf w e.id c
  /-- nobody else's targets change -/
  frame : ∀ (j : Nat), j ∉ es.map (·.id) → ∀ (c : Comp), targetOf w' j c = targetOf w j c
  obs : w'.obs = w.obs
  unlocked : w'.isLocked = w.isLocked
  kinds : w'.kinds = w.kinds
  entitiesLen : w'.entities.length = w.entities.length
  qk : QKeep w w'

theorem qkeep_withLocks (w : World) (l : Lock) : QKeep w ({ w with locks := l } : World) :=
  ⟨fun h => h, fun h => h.of_frame ⟨rfl, rfl, rfl, fun _ => rfl⟩, fun h => h⟩

theorem relCols_of_typed {w : World} (hS : SInvMid w) {f : Filter} {rels : List RelID}
    (hr : RelsTyped w f rels) {t : Nat} (hlt : t < w.tables.length)
    (hm : f.matchesMask (w.arch (w.tbl t).arch).mask = true) : RelCols (w.tbl t) rels := by
  intro r hrm
  obtain ⟨i, hi, hi2⟩ := col_of_required hS (get_of_lt hlt) hm (hr r hrm).2
  exact ⟨i, hi, by rw [hi2]; exact (hr r hrm).1⟩

/-! ## what `SetRelAllPost` does not mention -/

/-- what a valid `setRelationsBatch` does to the fields `SetRelAllPost` does not mention -/
structure SetRelAllMore (w w' : World) : Prop where
  pool : w'.pool = w.pool
  maxComps : w'.maxComps = w.maxComps
  relArchs : w'.relationArchetypes = w.relationArchetypes
  tablesLen : w'.tables.length ≤ 2 * w.tables.length

/-! ## 2. the batch -/

/-- **C06 + C04, `setRelationsBatch`**: on an unlocked world without observers satisfying `TInv`,
    for an uncached filter with typed relation constraints, a non-empty assignment `rels` naming
    no component twice, only relation columns of the non-empty tables the filter selects
    (`hcols`; implied by `RelsTyped w fo.filter rels`: `relCols_of_typed`), and only zero or
    alive targets: the batch never fails; `TInv` is kept; every entity keeps liveness, components and
    values; the selected entities have the targets named and keep their other targets; nobody
    else's targets change; the entity pool, the mask width and the relation archetypes are kept and
    at most one table per selected table is created (`SetRelAllMore`).  The lock cycle is a
    parameter (`hcyc`, `hl2`) because the conclusion names the lock state `l2` the batch leaves;
    `LockFree w.locks`, which the batches without relations assume, provides one
    (`LockFree.cycle`). -/
theorem setRelationsBatch_rel_full (run : ProbeRunner) {w : World} {fl : List Nat} (h : TInv w fl)
    (hl : w.isLocked = false) (hno : ∀ (evt : Nat), w.obs.hasObservers evt = false)
    (fo : FilterObj) (extra : List RelID) (hc : fo.cache = none)
    (hr : RelsTyped w fo.filter (fo.rels ++ extra)) {rels : List RelID}
    (hne : rels.isEmpty = false) (hnd : (rels.map (·.comp)).Nodup)
    (hcols : ∀ (t : Nat), t < w.tables.length → TblMatch w fo.filter (fo.rels ++ extra) t →
      (w.tbl t).len ≠ 0 → RelCols (w.tbl t) rels)
    (hval : ∀ (r : RelID), r ∈ rels → r.target.isZero = true ∨ w.alive r.target = true)
    (htin : ∀ (r : RelID), r ∈ rels → r.target.id < w.pool.ents.length)
    {l1 l2 : Lock} {b : Nat} (hcyc : QueryExact.LockCycle w.locks l1 b l2) (hl2 : l2.isLocked = false)
    (hfew : 2 * w.tables.length ≤ maxU32) (hrows : 2 * w.entities.length < 2 ^ 32) :
    ∃ (ts : List Nat) (w' : World), getBatchTables fo extra w = .ok ts w ∧
      setRelationsBatch run fo extra rels false w = .ok () w' ∧
      SetRelAllPost w fl (ts.flatMap (rowsOf w)) rels w' ∧ w'.locks = l2 ∧ SetRelAllMore w w' := by
  have h0 : TInv ({ w with locks := l1 } : World) fl := h.withLocks l1
  obtain ⟨ts, hts0, S0, hok0, hnf0⟩ := getBatchTables_rel h0 fo extra hc hr
  have hsame : getBatchTables fo extra w = .ok ts w :=
    ((commutes_getBatchTables fo extra).frames.of_reframe_ok (w := w) (o := w.obs) (lg := w.log) (lk := l1)
      hts0).1
  have S : TableSet w ts := ⟨S0.nodup, S0.lt⟩
  have hsel : ∀ (t : Nat), t ∈ ts → t < w.tables.length ∧ (w.tbl t).isFree = false ∧
      ((w.tbl t).len ≠ 0 → RelCols (w.tbl t) rels) :=
    fun t ht => ⟨S0.lt t ht, hnf0 t ht, fun hlen => hcols t (S0.lt t ht) (hok0.sound t ht).2 hlen⟩
  have hinit : PrepInv rels ({ w with locks := l1 } : World) [] [] ({ w with locks := l1 } : World) :=
    { rel := h0.rel, idx := h0.link.idx, flags := h0.flags.upTo rels, freeEmpty := h0.freeEmpty
      qk := QKeep.refl _, entities := rfl, pool := rfl, isTarget := rfl, kinds := rfl, obs := rfl
      locks := rfl, maxComps := rfl, keepT := fun _ _ _ => rfl, tablesLe := Nat.le_refl _
      lenB := Nat.le_refl _, frame := fun _ => ⟨⟨fun _ => rfl, rfl⟩, fun _ => rfl⟩
      moves := fun _ hm => by cases hm
      srcNodup := List.nodup_nil
      srcDone := fun _ hm => by cases hm
      covered := fun _ hm => by cases hm }
  obtain ⟨moves, w1, hprep, hP, hra⟩ := prepLoop_full h0.freeEmpty hnd hval ts [] [] _ hinit S0.nodup
    (fun _ _ hm => by cases hm) hsel
  rw [List.nil_append] at hP
  have hno1 : ∀ (evt : Nat), w1.obs.hasObservers evt = false := by
    intro evt; rw [hP.obs]; exact hno evt
  have heq := setRelationsBatch_eq run fo extra rels w hl hne hcyc.lock hts0 hprep hno1
  have hmlen : moves.length ≤ w.tables.length := by
    have := BatchRel.nodup_length_le_of_lt hP.srcNodup (n := w.tables.length) (by
      intro i hi
      obtain ⟨mv, hm, rfl⟩ := List.mem_map.1 hi
      exact (hP.moves mv hm).srcLt)
    rwa [List.length_map] at this
  have hfew1 : w1.tables.length ≤ maxU32 := by
    have := hP.lenB
    have : ({ w with locks := l1 } : World).tables.length = w.tables.length := rfl
    omega
  have hrows1 : 2 * w1.entities.length < 2 ^ 32 := by rw [hP.entities]; exact hrows
  have hM := moveLoop_spec hnd h0.rel.aux.rels h0.freeEmpty hP.keepT hP.idx hfew1 hrows1 moves
    hP.moves hP.srcNodup moves [] w1 rfl
    { idx := hP.idx, ms := MetaStep.refl w1, qk := QKeep.refl w1, freeEmpty := hP.freeEmpty
      pool := rfl, isTarget := rfl, obs := rfl, locks := rfl, maxComps := rfl
      idxSame := IdxSame.refl w1, same := fun _ => ⟨fun _ => rfl, rfl⟩
      srcKeep := fun _ _ => rfl
      entKeep := fun _ _ _ hj _ => hj
      tgtKeep := fun _ _ _ => rfl
      tgtMoved := fun _ _ _ _ _ hm => by cases hm }
  have hlocks : (registerW (moves.foldl moveStepR w1) rels).locks.unlock b = some l2 := by
    show (moves.foldl moveStepR w1).locks.unlock b = some l2
    rw [hM.locks, hP.locks]; exact hcyc.unlock
  rw [unlock_ok hlocks] at heq
  refine ⟨ts, _, hsame, heq, ?_, rfl, ?more⟩
  case more =>
    exact
      { pool := by
          show (moves.foldl moveStepR w1).pool = w.pool
          rw [hM.pool, hP.pool]
        maxComps := by
          show (moves.foldl moveStepR w1).maxComps = w.maxComps
          rw [hM.maxComps, hP.maxComps]
        relArchs := by
          show (moves.foldl moveStepR w1).relationArchetypes = w.relationArchetypes
          rw [hM.ms.relationArchetypes, hra]
        tablesLen := by
          show (moves.foldl moveStepR w1).tables.length ≤ 2 * w.tables.length
          have := hP.lenB
          have e : ({ w with locks := l1 } : World).tables.length = w.tables.length := rfl
          rw [hM.ms.len]; omega }
  have hal2 : ∀ (x : Ent), (moves.foldl moveStepR w1).alive x = w.alive x := by
    intro x
    show (moves.foldl moveStepR w1).pool.alive x = w.pool.alive x
    rw [hM.pool, hP.pool]
  have hvalid : ∀ (r : RelID), r ∈ rels → r.target.isZero = false →
      r.target.id < (moves.foldl moveStepR w1).isTarget.length := by
    intro r hr hz
    rcases hval r hr with k | k
    · rw [k] at hz; cases hz
    · rw [hM.isTarget, hP.isTarget]
      show r.target.id < w.isTarget.length
      rw [h.link.tgtLen]; exact h.link.lt_of_in (htin r hr)
  have link1 : PLink w1 fl := h0.link.transfer hP.idx hP.pool (IdxSame.of_eq hP.entities)
    (by rw [hP.isTarget]) hfew1
  have link2 : PLink (moves.foldl moveStepR w1) fl :=
    link1.transfer hM.idx hM.pool hM.idxSame (by rw [hM.isTarget]) (by rw [hM.ms.len]; exact hfew1)
  have rel2 : RelInv (moves.foldl moveStepR w1) :=
    hP.rel.of_metaStep hM.ms (fun x hx => by
      show (moves.foldl moveStepR w1).pool.alive x = true
      rw [hM.pool]; exact hx)
  have flags2 : FlagsOK (registerW (moves.foldl moveStepR w1) rels) :=
    (hP.flags.of_metaStep hM.ms (fun i hi => by rw [hM.isTarget]; exact hi)).register hvalid
  have htinv : TInv ({ registerW (moves.foldl moveStepR w1) rels with locks := l2 } : World) fl :=
    { rel := rel2.of_metaStep (MetaStep.of_tables_eq rfl rfl rfl rfl rfl) (fun _ ha => ha)
      flags := flags2
      freeEmpty := hM.freeEmpty
      link := link2.congr (hM.idx.congr rfl rfl) rfl rfl (flagFold_length rels _) rfl
      kindsLe := by
        show (moves.foldl moveStepR w1).kinds.length ≤ (moves.foldl moveStepR w1).maxComps ∧
          (moves.foldl moveStepR w1).maxComps ≤ 256
        rw [hM.ms.kinds, hM.maxComps, hP.kinds, hP.maxComps]; exact h.kindsLe }
  have hentry : ∀ (e : Ent), e ∈ ts.flatMap (rowsOf w) → ∃ (t r : Nat), t ∈ ts ∧
      r < (w.tbl t).len ∧ w.entities[e.id]? = some (t, r) := by
    intro e he
    obtain ⟨t, r, ht, hr', rfl⟩ := mem_rows.mp he
    exact ⟨t, r, ht, hr', (h.link.row_live_id (S0.lt t ht) hr').2.2⟩
  have htm : ∀ (t : Nat), t < w.tables.length → t ≠ maxU32 := by
    intro t ht; have := h.link.fewTables; omega
  have hsel2 : ∀ (j t r : Nat), t ∈ ts → r < (w.tbl t).len → w.entities[j]? = some (t, r) →
      (∀ (r' : RelID), r' ∈ rels →
        targetOf (moves.foldl moveStepR w1) j r'.comp = some r'.target) ∧
      ∀ (c : Comp), (∀ (r' : RelID), r' ∈ rels → r'.comp ≠ c) →
        targetOf (moves.foldl moveStepR w1) j c = targetOf w j c := by
    intro j t r ht hrl hj
    have hlt := S0.lt t ht
    have hT := get_of_lt hlt
    have hne0 : (w.tbl t).len ≠ 0 := by omega
    have hcols : RelCols (w.tbl t) rels := (hsel t ht).2.2 hne0
    have htl : (w.tbl t).targets.length = (w.tbl t).ids.length :=
      (h.rel.aux.rels t _ hT (hnf0 t ht)).tlen
    have hj1 : w1.entities[j]? = some (t, r) := by rw [hP.entities]; exact hj
    have hw : ∀ (c : Comp), targetOf w j c = (w.tbl t).targetAt c :=
      fun c => targetOf_of_entry hj (htm t hlt) hT c
    by_cases hex : ∃ (mv : RelMove), mv ∈ moves ∧ mv.oldT = t
    · obtain ⟨mv, hm, he⟩ := hex
      have hmv := hP.moves mv hm
      have hmoved := hM.tgtMoved j t r hj1 mv hm he
      have hold : ({ w with locks := l1 } : World).tbl mv.oldT = w.tbl t := by rw [he]; rfl
      have hdI := hmv.dstIds; have hdR := hmv.dstIsRel; have hdT := hmv.dstTgt
      rw [hold] at hdI hdR hdT
      constructor
      · intro r' hr'
        obtain ⟨i, hi, hir⟩ := hcols r' hr'
        rw [hmoved, Table.targetAt_of_col (by simpa only [Table.colIdx, hdI] using hi)
          (by rw [hdR]; exact hir), hdT i hir, editT_named htl hnd hr' hi]
      · intro c hc
        rw [hmoved, hw]
        simp only [Table.targetAt, Table.colIdx, hdI, hdR]
        split
        · simp only [Option.bind_some]
          split
          · rename_i hlt' hir
            rw [hdT _ hir, editT_kept hc (by simp only [Table.colIdx, hlt', if_true])]
          · rfl
        · rfl
    · have hkeep : ∀ (c : Comp), targetOf (moves.foldl moveStepR w1) j c = targetOf w j c := by
        intro c
        rw [hM.tgtKeep j (fun t' r' hj' mv hm he => by
          rw [hj1] at hj'
          obtain ⟨rfl, _⟩ := Prod.mk.inj (Option.some.inj hj')
          exact hex ⟨mv, hm, he⟩) c, (hP.frame j).2 c]
        rfl
      refine ⟨fun r' hr' => ?_, fun c _ => hkeep c⟩
      rcases hP.covered t ht hne0 with ⟨mv, hm, he⟩ | hun
      · exact absurd ⟨mv, hm, he⟩ hex
      · obtain ⟨i, hi, hir⟩ := hcols r' hr'
        have hun' : editT (w.tbl t) rels = (w.tbl t).targets := hun
        rw [hkeep, hw, Table.targetAt_of_col hi hir, ← hun', editT_named htl hnd hr' hi]
  exact
    { tinv := htinv
      aliveSame := hal2
      same := fun j => ((hP.frame j).1.trans (hM.same j)).congr rfl rfl
      targets := by
        intro e he r' hr'
        obtain ⟨t, r, ht, hrl, hj⟩ := hentry e he
        exact (hsel2 e.id t r ht hrl hj).1 r' hr'
      otherTargets := by
        intro e he c hc
        obtain ⟨t, r, ht, hrl, hj⟩ := hentry e he
        exact (hsel2 e.id t r ht hrl hj).2 c hc
      frame := by
        intro j hj c
        show targetOf (moves.foldl moveStepR w1) j c = targetOf w j c
        rw [hM.tgtKeep j (fun t' r' hj' mv hm he => by
          rw [hP.entities] at hj'
          have hj'' : w.entities[j]? = some (t', r') := hj'
          have hts' : t' ∈ ts := he ▸ hP.srcDone mv hm
          exact hj ((mem_rows_ids_iff h.link.idx S hj'' (htm t' (S0.lt t' hts'))).mpr hts')) c,
          (hP.frame j).2 c]
        rfl
      obs := by
        show (moves.foldl moveStepR w1).obs = w.obs
        rw [hM.obs, hP.obs]
      unlocked := by
        show l2.isLocked = w.locks.isLocked
        rw [hl2]; exact hl.symm
      kinds := by
        show (moves.foldl moveStepR w1).kinds = w.kinds
        rw [hM.ms.kinds, hP.kinds]
      entitiesLen := by
        show (moves.foldl moveStepR w1).entities.length = w.entities.length
        rw [hM.idxSame.len, hP.entities]
      qk := ((((qkeep_withLocks w l1).trans hP.qk).trans hM.qk).trans (registerW_qkeep _ rels)).trans
        (qkeep_withLocks _ l2) }

theorem setRelationsBatch_rel_spec (run : ProbeRunner) {w : World} {fl : List Nat} (h : TInv w fl)
    (hl : w.isLocked = false) (hno : ∀ (evt : Nat), w.obs.hasObservers evt = false)
    (fo : FilterObj) (extra : List RelID) (hc : fo.cache = none)
    (hr : RelsTyped w fo.filter (fo.rels ++ extra)) {rels : List RelID}
    (hne : rels.isEmpty = false) (hnd : (rels.map (·.comp)).Nodup)
    (hcols : ∀ (t : Nat), t < w.tables.length → TblMatch w fo.filter (fo.rels ++ extra) t →
      (w.tbl t).len ≠ 0 → RelCols (w.tbl t) rels)
    (hval : ∀ (r : RelID), r ∈ rels → r.target.isZero = true ∨ w.alive r.target = true)
    (htin : ∀ (r : RelID), r ∈ rels → r.target.id < w.pool.ents.length)
    {l1 l2 : Lock} {b : Nat} (hcyc : QueryExact.LockCycle w.locks l1 b l2) (hl2 : l2.isLocked = false)
    (hfew : 2 * w.tables.length ≤ maxU32) (hrows : 2 * w.entities.length < 2 ^ 32) :
    ∃ (ts : List Nat) (w' : World), getBatchTables fo extra w = .ok ts w ∧
      setRelationsBatch run fo extra rels false w = .ok () w' ∧
      SetRelAllPost w fl (ts.flatMap (rowsOf w)) rels w' ∧ w'.locks = l2 :=
  let ⟨ts, w', a, b, c, d, _⟩ := setRelationsBatch_rel_full run h hl hno fo extra hc hr hne hnd hcols
    hval htin hcyc hl2 hfew hrows
  ⟨ts, w', a, b, c, d⟩

/-! ## 3. the singles -/

/-- `setRelations e rels` applied to the handles `l`, in order -/
def setRelSeq (run : ProbeRunner) (l : List Ent) (rels : List RelID) : W Unit :=
  M.forM' l (fun e => setRelationsCore run e rels)

/-- **the singles**: `setRelations` applied, in any order, to alive handles with distinct IDs
    that have the relation components named; the entity pool is kept, and through an access path
    whose pre-validation the arguments pass in every world with this pool and registry the calls
    are those of `opSetRelations` -/
theorem setRelSeq_full (run : ProbeRunner) {rels : List RelID} (hne : rels.isEmpty = false)
    (hnd : (rels.map (·.comp)).Nodup) (p : Path) (ids : List Comp) :
    ∀ (l : List Ent) {w : World} {fl : List Nat},
    TInv w fl → w.isLocked = false → (∀ (evt : Nat), w.obs.hasObservers evt = false) →
    (∀ (e : Ent), e ∈ l → 2 ≤ e.id ∧ e.id ∉ fl ∧ w.alive e = true ∧
      ∀ (r : RelID), r ∈ rels → (targetOf w e.id r.comp).isSome = true) →
    (∀ (e : Ent), e ∈ l → e.id < w.pool.ents.length) →
    (l.map (·.id)).Nodup →
    (∀ (r : RelID), r ∈ rels → r.target.isZero = true ∨ w.alive r.target = true) →
    (∀ (r : RelID), r ∈ rels → r.target.id < w.pool.ents.length) →
    w.tables.length + l.length < maxU32 → w.entities.length + 1 < 2 ^ 32 →
    ∃ (w'' : World), setRelSeq run l rels w = .ok () w'' ∧ SetRelAllPost w fl l rels w'' ∧
      w''.pool = w.pool ∧
      ((∀ (V : World), V.pool = w.pool → V.kinds = w.kinds →
          preCheck p.setRelCheck ids rels V = .ok () V) →
        M.forM' l (fun e => opSetRelations run p e ids rels) w = .ok () w'')
  | [], w, fl, h, _, _, _, _, _, _, _, _, _ =>
    ⟨w, rfl,
      { tinv := h, aliveSame := fun _ => rfl, same := fun _ => ⟨fun _ => rfl, rfl⟩
        targets := by intro e he; cases he
        otherTargets := by intro e he; cases he
        frame := fun _ _ _ => rfl
        obs := rfl, unlocked := rfl, kinds := rfl, entitiesLen := rfl, qk := QKeep.refl w },
      rfl, fun _ => rfl⟩
  | e :: l, w, fl, h, hl, hno, hlive, hlin, hndi, hval, htin, hfew, hrows => by
    obtain ⟨h2, hnf, ha, hhas⟩ := hlive e List.mem_cons_self
    have hsl := hlin e List.mem_cons_self
    have hnd' : e.id ∉ l.map (·.id) ∧ (l.map (·.id)).Nodup := by
      rw [List.map_cons] at hndi; exact List.nodup_cons.mp hndi
    have hfew1 : w.tables.length < maxU32 := by simp only [List.length_cons] at hfew; omega
    obtain ⟨w1, hok⟩ := setRelationsCore_total run h hl hno h2 hnf ha hsl hne hnd hhas hval
    have sp := setRelationsCore_spec run h hl hno h2 hnf ha hsl hne hnd hhas htin hfew1 hrows hok
    have q1 := setRelationsCore_qkeep run h hl hno h2 hnf ha hsl hne hnd hhas hrows hok
    have more := setRelationsCore_more run h hl hno h2 hnf ha hsl hne hnd hhas hok
    have hplen : w1.pool.ents.length = w.pool.ents.length := by
      rw [← sp.tinv.link.lenEq, sp.entitiesLen, h.link.lenEq]
    have hne' : ∀ (e' : Ent), e' ∈ l → e'.id ≠ e.id := by
      intro e' he' heq
      exact hnd'.1 (heq ▸ List.mem_map_of_mem he')
    have hlive1 : ∀ (e' : Ent), e' ∈ l → 2 ≤ e'.id ∧ e'.id ∉ fl ∧ w1.alive e' = true ∧
        ∀ (r : RelID), r ∈ rels → (targetOf w1 e'.id r.comp).isSome = true := by
      intro e' he'
      obtain ⟨a, b, c, d⟩ := hlive e' (List.mem_cons_of_mem _ he')
      refine ⟨a, b, by rw [sp.aliveSame]; exact c, fun r hr => ?_⟩
      rw [(sp.frame e'.id (hne' e' he')).2 r.comp]; exact d r hr
    obtain ⟨w'', hrest, ip, ipool, iops⟩ := setRelSeq_full run hne hnd p ids l sp.tinv
      (by show w1.locks.isLocked = false; rw [sp.locks]; exact hl)
      (fun evt => by rw [sp.obs]; exact hno evt) hlive1
      (fun e' he' => by rw [hplen]; exact hlin e' (List.mem_cons_of_mem _ he')) hnd'.2
      (fun r hr => by rw [sp.aliveSame]; exact hval r hr)
      (fun r hr => by rw [hplen]; exact htin r hr)
      (by have := sp.tablesLen; simp only [List.length_cons] at hfew; omega)
      (by rw [sp.entitiesLen]; exact hrows)
    refine ⟨w'', ?_, ?_, ipool.trans more.pool, fun hpre => ?_⟩
    · simp only [setRelSeq, M.forM', bind, M.bind, hok]
      exact hrest
    · exact
        { tinv := ip.tinv
          aliveSame := fun x => (ip.aliveSame x).trans (sp.aliveSame x)
          same := by
            intro j
            by_cases hj : j = e.id
            · rw [hj]; exact sp.self.trans (ip.same e.id)
            · exact (sp.frame j hj).1.trans (ip.same j)
          targets := by
            intro e' he' r hr
            rcases List.mem_cons.mp he' with rfl | he'
            · rw [ip.frame e'.id hnd'.1]; exact sp.targets r hr
            · exact ip.targets e' he' r hr
          otherTargets := by
            intro e' he' c hc
            rcases List.mem_cons.mp he' with rfl | he'
            · rw [ip.frame e'.id hnd'.1]; exact sp.otherTargets c hc
            · rw [ip.otherTargets e' he' c hc]; exact (sp.frame e'.id (hne' e' he')).2 c
          frame := by
            intro j hj c
            simp only [List.map_cons, List.mem_cons, not_or] at hj
            rw [ip.frame j hj.2 c]; exact (sp.frame j hj.1).2 c
          obs := ip.obs.trans sp.obs
          unlocked := by
            rw [ip.unlocked]
            show w1.locks.isLocked = w.locks.isLocked
            rw [sp.locks]
          kinds := ip.kinds.trans sp.kinds
          entitiesLen := ip.entitiesLen.trans sp.entitiesLen
          qk := q1.trans ip.qk }
    · simp only [M.forM', opSetRelations, bind, M.bind, hpre w rfl rfl, hok]
      exact iops fun V hp hk => hpre V (hp.trans more.pool) (hk.trans sp.kinds)

theorem setRelSeq_post (run : ProbeRunner) {rels : List RelID} (hne : rels.isEmpty = false)
    (hnd : (rels.map (·.comp)).Nodup) : ∀ (l : List Ent) {w : World} {fl : List Nat},
    TInv w fl → w.isLocked = false → (∀ (evt : Nat), w.obs.hasObservers evt = false) →
    (∀ (e : Ent), e ∈ l → 2 ≤ e.id ∧ e.id ∉ fl ∧ w.alive e = true ∧
      ∀ (r : RelID), r ∈ rels → (targetOf w e.id r.comp).isSome = true) →
    (∀ (e : Ent), e ∈ l → e.id < w.pool.ents.length) →
    (l.map (·.id)).Nodup →
    (∀ (r : RelID), r ∈ rels → r.target.isZero = true ∨ w.alive r.target = true) →
    (∀ (r : RelID), r ∈ rels → r.target.id < w.pool.ents.length) →
    w.tables.length + l.length < maxU32 → w.entities.length + 1 < 2 ^ 32 →
    ∃ (w'' : World), setRelSeq run l rels w = .ok () w'' ∧ SetRelAllPost w fl l rels w'' :=
  fun l _ _ h hl hno hlive hlin hndi hval htin hfew hrows =>
    let ⟨w'', a, b, _⟩ := setRelSeq_full run hne hnd .unsafe_ [] l h hl hno hlive hlin hndi hval htin
      hfew hrows
    ⟨w'', a, b⟩

/-! ## 4. batch = singles -/

/-- two worlds obtained from `w` by assigning the same relations to the same entities (by the
    batch or one by one, in whatever order) are observationally equal: same liveness of every
    handle, same components, values and relation targets of every ID -/
theorem SetRelAllPost.obs_eq {w w' w'' : World} {fl : List Nat} {es es' : List Ent}
    {rels : List RelID} (p' : SetRelAllPost w fl es rels w') (p'' : SetRelAllPost w fl es' rels w'')
    (hmem : ∀ (e : Ent), e ∈ es ↔ e ∈ es') :
    (∀ (x : Ent), w'.alive x = w''.alive x) ∧
    (∀ (i : Nat) (c : Comp), valOf w' i c = valOf w'' i c) ∧
    (∀ (i : Nat), compsOf w' i = compsOf w'' i) ∧
    (∀ (i : Nat) (c : Comp), targetOf w' i c = targetOf w'' i c) ∧
    w'.isLocked = w''.isLocked ∧ w'.kinds = w''.kinds := by
  have hids := mem_ids_congr hmem
  refine ⟨fun x => by rw [p'.aliveSame, p''.aliveSame],
    fun i c => by rw [(p'.same i).1 c, (p''.same i).1 c],
    fun i => by rw [(p'.same i).2, (p''.same i).2], ?_,
    by rw [p'.unlocked, p''.unlocked], by rw [p'.kinds, p''.kinds]⟩
  intro i c
  by_cases hx : i ∈ es.map (·.id)
  · obtain ⟨e, he, hi⟩ := List.mem_map.mp hx
    subst hi
    by_cases hc : ∃ (r : RelID), r ∈ rels ∧ r.comp = c
    · obtain ⟨r, hr, rfl⟩ := hc
      rw [p'.targets e he r hr, p''.targets e ((hmem e).mp he) r hr]
    · have hc' : ∀ (r : RelID), r ∈ rels → r.comp ≠ c := fun r hr he' => hc ⟨r, hr, he'⟩
      rw [p'.otherTargets e he c hc', p''.otherTargets e ((hmem e).mp he) c hc']
  · rw [p'.frame i hx c, p''.frame i (fun hh => hx ((hids _).mpr hh)) c]

/-- **C06 + C04, `setRelationsBatch` = the fold of `setRelations`**: for a valid call (see
    `setRelationsBatch_rel_spec`) on a world whose rows hold alive handles, the batch selects
    exactly the alive entities that match; the batch and `setRelations` applied to these handles
    one by one in ANY order both succeed, both satisfy `SetRelAllPost`, and give the same
    liveness, components, values and relation targets for every ID. -/
theorem setRelationsBatch_eq_singles (run : ProbeRunner) {w : World} {fl : List Nat} (h : TInv w fl)
    (hR : RowsAlive w) (hl : w.isLocked = false)
    (hno : ∀ (evt : Nat), w.obs.hasObservers evt = false)
    (fo : FilterObj) (extra : List RelID) (hc : fo.cache = none)
    (hr : RelsTyped w fo.filter (fo.rels ++ extra)) {rels : List RelID}
    (hne : rels.isEmpty = false) (hnd : (rels.map (·.comp)).Nodup)
    (hcols : ∀ (t : Nat), t < w.tables.length → TblMatch w fo.filter (fo.rels ++ extra) t →
      (w.tbl t).len ≠ 0 → RelCols (w.tbl t) rels)
    (hval : ∀ (r : RelID), r ∈ rels → r.target.isZero = true ∨ w.alive r.target = true)
    (htin : ∀ (r : RelID), r ∈ rels → r.target.id < w.pool.ents.length)
    {l1 l2 : Lock} {b : Nat} (hcyc : QueryExact.LockCycle w.locks l1 b l2) (hl2 : l2.isLocked = false)
    (hfew : 2 * w.tables.length ≤ maxU32) (hrows : 2 * w.entities.length < 2 ^ 32) :
    ∃ (ts : List Nat) (w' : World), getBatchTables fo extra w = .ok ts w ∧
      (∀ (e : Ent), e ∈ ts.flatMap (rowsOf w) ↔
        w.alive e = true ∧ EntMatches w fo.filter (fo.rels ++ extra) e.id) ∧
      setRelationsBatch run fo extra rels false w = .ok () w' ∧
      SetRelAllPost w fl (ts.flatMap (rowsOf w)) rels w' ∧
      ∀ (es' : List Ent), es'.Perm (ts.flatMap (rowsOf w)) →
        w.tables.length + es'.length < maxU32 →
        ∃ (w'' : World), setRelSeq run es' rels w = .ok () w'' ∧ SetRelAllPost w fl es' rels w'' ∧
          (∀ (x : Ent), w'.alive x = w''.alive x) ∧
          (∀ (i : Nat) (c : Comp), valOf w' i c = valOf w'' i c) ∧
          (∀ (i : Nat), compsOf w' i = compsOf w'' i) ∧
          (∀ (i : Nat) (c : Comp), targetOf w' i c = targetOf w'' i c) ∧
          w'.isLocked = w''.isLocked := by
  obtain ⟨ts, w', hts, hb, pb, _⟩ := setRelationsBatch_rel_spec run h hl hno fo extra hc hr hne hnd hcols
    hval htin hcyc hl2 hfew hrows
  obtain ⟨ts2, hts2, S, hok, _⟩ := getBatchTables_rel h fo extra hc hr
  rw [hts] at hts2
  injection hts2 with e1 _
  subst e1
  have hsel := mem_rows_iff_matches h hR hok
  refine ⟨ts, w', hts, hsel, hb, pb, ?_⟩
  intro es' hperm hfew'
  have hlive : ∀ (e : Ent), e ∈ es' → 2 ≤ e.id ∧ e.id ∉ fl ∧ w.alive e = true ∧
      ∀ (r : RelID), r ∈ rels → (targetOf w e.id r.comp).isSome = true := by
    intro e he
    have he' := hperm.mem_iff.mp he
    obtain ⟨a1, a2, a3, _⟩ := h.link.rows_live hR S he'
    refine ⟨a1, a2, a3, fun r hrr => ?_⟩
    obtain ⟨t, r0, ht, hr0, rfl⟩ := mem_rows.mp he'
    have hlt := S.lt t ht
    have hx := (h.link.row_live_id hlt hr0).2.2
    have htm : t ≠ maxU32 := by have := h.link.fewTables; omega
    obtain ⟨i, hi, hir⟩ := hcols t hlt (hok.sound t ht).2 (by omega) r hrr
    rw [targetOf_of_entry hx htm (get_of_lt hlt), Table.targetAt_of_col hi hir]; rfl
  obtain ⟨w'', hs, ps⟩ := setRelSeq_post run hne hnd es' h hl hno hlive
    (fun e he => (h.link.rows_live hR S (hperm.mem_iff.mp he)).2.2.2.1)
    ((hperm.map (·.id)).nodup_iff.mpr (rows_ids_nodup h.link.idx S)) hval htin hfew'
    (by omega)
  obtain ⟨o1, o2, o3, o4, o5, _⟩ := pb.obs_eq ps (fun e => hperm.mem_iff.symm)
  exact ⟨w'', hs, ps, o1, o2, o3, o4, o5⟩

end Ark
