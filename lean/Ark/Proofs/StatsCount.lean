/-
  Ark.Proofs.StatsCount — property C19: the figures `Stats()` reports agree with the contents of
  a reachable world.  The counting is done once for both machines: over `Pool.GInv` (used =
  live handles = alive issued handles) and over `Rows w L cs`, the specification entries `L`
  against the rows of the tables (length of a table, size of an archetype, Σ sizes).  `Agree s st`
  is what C19 demands of the statistics reported at a state of the entity machine.
-/
import Ark.Proofs.StatsReplay

set_option autoImplicit false

namespace Ark

open World Ark.Props.C01World

/-! ## 0. counting with lists -/

/-- the classes of a function into a duplicate-free key list partition a list -/
theorem sum_filter_partition {α κ : Type} [DecidableEq κ] (g : α → κ) :
    ∀ (ks : List κ), ks.Nodup → ∀ (L : List α), (∀ (x : α), x ∈ L → g x ∈ ks) →
      (ks.map fun k => (L.filter fun x => decide (g x = k)).length).sum = L.length := by
  intro ks
  induction ks with
  | nil =>
    intro _ L h
    cases L with
    | nil => rfl
    | cons x xs => exact absurd (h x (by simp)) (by simp)
  | cons k ks ih =>
    intro hnd L h
    obtain ⟨hk, hnd'⟩ := List.nodup_cons.mp hnd
    have hrest := ih hnd' (L.filter fun x => !decide (g x = k)) (by
      intro x hx
      obtain ⟨hxL, hne⟩ := List.mem_filter.mp hx
      have hne' : g x ≠ k := by simpa using hne
      rcases List.mem_cons.mp (h x hxL) with e | e
      · exact absurd e hne'
      · exact e)
    have hsame : (ks.map fun k' => ((L.filter fun x => !decide (g x = k)).filter
        fun x => decide (g x = k')).length) =
        (ks.map fun k' => (L.filter fun x => decide (g x = k')).length) := by
      apply List.map_congr_left
      intro k' hk'
      rw [List.filter_filter]
      congr 1
      apply List.filter_congr
      intro x _
      have hkk : k' ≠ k := fun e => hk (e ▸ hk')
      by_cases hx : g x = k'
      · simp [hx, hkk]
      · simp [hx]
    rw [hsame] at hrest
    simp only [List.map_cons, List.sum_cons, hrest]
    have hsplit : ∀ (L : List α), (L.filter fun x => decide (g x = k)).length +
        (L.filter fun x => !decide (g x = k)).length = L.length := by
      intro L
      induction L with
      | nil => rfl
      | cons x xs ihx =>
        by_cases hx : g x = k
        · simp [hx]; omega
        · simp [hx]; omega
    exact hsplit L

/-! ## 1. the pool: used = live handles = alive issued handles -/

namespace Pool.GInv

variable {ps : Pool.PS} {fl : List Nat}

/-- `entityPool.Len()` is the number of live handles -/
theorem used_eq (g : Pool.GInv ps fl) : ps.p.len = ps.live.length := by
  rw [Pool.len, ← g.pinv.avail, g.count, Pool.reserved, Nat.add_assoc, Nat.add_sub_cancel_left,
    Nat.add_sub_cancel]

/-- `used + recycled = total` -/
theorem total_eq (g : Pool.GInv ps fl) : ps.p.len + ps.p.available = ps.p.cap := by
  rw [g.used_eq, ← g.pinv.avail, Pool.cap, g.count, Pool.reserved, Nat.add_assoc,
    Nat.add_sub_cancel_left]

theorem alive_count (g : Pool.GInv ps fl) (hnd : ps.issued.Nodup) :
    (ps.issued.filter fun e => ps.p.alive e).length = ps.live.length := by
  rw [length_eq_of_nodup_mem (List.Pairwise.filter _ hnd) g.live_nodup]
  intro e
  rw [List.mem_filter]
  exact ⟨fun ⟨hi, ha⟩ => (Pool.alive_iff_live ps fl g e hi).mp ha,
    fun hl => ⟨g.live_issued e hl, (Pool.alive_iff_live ps fl g e (g.live_issued e hl)).mpr hl⟩⟩

theorem live_of_slot (g : Pool.GInv ps fl) {i : Nat} (h2 : 2 ≤ i) (hnf : i ∉ fl)
    (hlt : i < ps.p.ents.length) : ∃ e ∈ ps.live, e.id = i := by
  have hslot := List.getElem?_eq_getElem hlt
  have hself := g.pinv.self i _ hslot hnf
  exact ⟨_, (g.live_iff _).mpr ⟨by rw [hself]; exact h2, by rw [hself]; exact hnf,
    by rw [hself]; exact hslot⟩, hself⟩

end Pool.GInv

/-! ## 2. rows of tables ↔ specification entries; archetype sizes -/

theorem SInvMid.comps_nodup {w : World} (h : SInvMid w) : (w.archetypes.map (·.comps)).Nodup := by
  rw [List.Nodup, List.pairwise_map, List.pairwise_iff_getElem]
  intro i j hi hj hij heq
  have := h.archetype_comps_unique hi hj (by
    rw [arch_of_get (List.getElem?_eq_getElem hi), arch_of_get (List.getElem?_eq_getElem hj)]
    exact heq)
  omega

theorem SInvMid.active {w : World} (h : SInvMid w) {a t : Nat} (ha : a < w.archetypes.length)
    (ht : t ∈ (w.arch a).tables.tables) : t < w.tables.length ∧ (w.tbl t).arch = a := by
  obtain ⟨T, hT, hTa⟩ := h.owned a _ t (aget_of_lt ha) (Or.inl ht)
  exact ⟨lt_of_get hT, by rw [tbl_of_get hT]; exact hTa⟩

/-- **what the counting needs of a state of either machine**: the specification entries `L`
    (an entry `x` is the handle `x.1` with what the specification records of it; `cs x` its
    component set as the world lists it) against the rows of the tables -/
structure Rows (w : World) {β : Type} (L : List (Ent × β)) (cs : Ent × β → List Comp) : Prop where
  sinv : SInvMid w
  ids : (L.map fun x => x.1.id).Nodup
  /-- rows → entries: a row is indexed to itself and holds the handle of an entry -/
  row : ∀ {t r : Nat}, t < w.tables.length → r < (w.tbl t).len →
    w.entities[((w.tbl t).getEntity r).id]? = some (t, r) ∧
      ∃ x ∈ L, x.1.id = ((w.tbl t).getEntity r).id
  /-- entries → rows: an entry is indexed to a row, which holds its handle, of an ACTIVE table
      of the archetype with its component set -/
  entry : ∀ x ∈ L, ∃ (t r : Nat), w.entities[x.1.id]? = some (t, r) ∧ r < (w.tbl t).len ∧
    ((w.tbl t).getEntity r).id = x.1.id ∧ (w.tbl t).arch < w.archetypes.length ∧
    cs x = (w.arch (w.tbl t).arch).comps ∧ t ∈ (w.arch (w.tbl t).arch).tables.tables

namespace Rows

variable {w : World} {β : Type} {L : List (Ent × β)} {cs : Ent × β → List Comp}

/-- **the length of table `t` is the number of specification entries indexed to `t`** -/
theorem table_count (R : Rows w L cs) {t : Nat} (ht : t < w.tables.length) :
    (w.tbl t).len = (L.filter fun x => decide ((w.index x.1.id).1 = t)).length := by
  -- the IDs stored in the rows of `t` are the IDs of the entries indexed to `t`
  have h1 : ((List.range (w.tbl t).len).map fun r => ((w.tbl t).getEntity r).id).Nodup := by
    rw [List.Nodup, List.pairwise_map]
    refine List.Pairwise.imp_of_mem ?_ (List.nodup_range (n := (w.tbl t).len))
    intro a b ha hb hab heq
    have ea := (R.row ht (List.mem_range.mp ha)).1
    rw [heq, (R.row ht (List.mem_range.mp hb)).1] at ea
    exact hab (Prod.mk.inj (Option.some.inj ea)).2.symm
  have h2 : ((L.filter fun x => decide ((w.index x.1.id).1 = t)).map fun x => x.1.id).Nodup :=
    List.Nodup.sublist (List.Sublist.map _ List.filter_sublist) R.ids
  have := length_eq_of_nodup_mem h1 h2 (by
    intro i
    simp only [List.mem_map, List.mem_range, List.mem_filter, decide_eq_true_eq]
    constructor
    · rintro ⟨r, hr, rfl⟩
      obtain ⟨rix, x, hx, hid⟩ := R.row ht hr
      exact ⟨x, ⟨hx, by rw [hid, index_of_get rix]⟩, hid⟩
    · rintro ⟨x, ⟨hx, hxt⟩, rfl⟩
      obtain ⟨t', r, hentry, hr, hid, _⟩ := R.entry x hx
      rw [index_of_get hentry] at hxt
      subst hxt
      exact ⟨r, hr, hid⟩)
  simpa only [List.length_map, List.length_range] using this

theorem entry_arch (R : Rows w L cs) {a : Nat} (ha : a < w.archetypes.length) {x : Ent × β}
    (hx : x ∈ L) (hc : cs x = (w.arch a).comps) : (w.index x.1.id).1 ∈ (w.arch a).tables.tables := by
  obtain ⟨t, r, hentry, _, _, halt, hco, hmem⟩ := R.entry x hx
  rw [index_of_get hentry]
  rw [hco] at hc
  rw [R.sinv.archetype_comps_unique halt ha hc] at hmem
  exact hmem

theorem comps_of_table (R : Rows w L cs) {a t : Nat} (ha : a < w.archetypes.length)
    (ht : t ∈ (w.arch a).tables.tables) {x : Ent × β} (hx : x ∈ L)
    (hi : (w.index x.1.id).1 = t) : cs x = (w.arch a).comps := by
  obtain ⟨t', r, hentry, _, _, _, hco, _⟩ := R.entry x hx
  rw [index_of_get hentry] at hi
  subst hi
  rw [hco, (R.sinv.active ha ht).2]

/-- **the `size` of archetype `a`** (as `archetype.Stats` reports it: the sum over its ACTIVE
    tables) is the number of specification entries whose component set is the component list of
    `a` -/
theorem arch_count (R : Rows w L cs) {a : Nat} (ha : a < w.archetypes.length) :
    (w.archStatsFresh (w.arch a)).size =
      (L.filter fun x => decide (cs x = (w.arch a).comps)).length := by
  have hp := sum_filter_partition (fun (x : Ent × β) => (w.index x.1.id).1)
    (w.arch a).tables.tables (R.sinv.astruct a _ (aget_of_lt ha)).tablesWF.nodup
    (L.filter fun x => decide (cs x = (w.arch a).comps))
    (fun x hx => R.entry_arch ha (List.mem_filter.mp hx).1 (of_decide_eq_true (List.mem_filter.mp hx).2))
  rw [fresh_size, ← hp]
  refine congrArg List.sum (List.map_congr_left fun t ht => ?_)
  rw [R.table_count (R.sinv.active ha ht).1, List.filter_filter]
  refine congrArg List.length (List.filter_congr fun x hx => ?_)
  by_cases hi : (w.index x.1.id).1 = t
  · simp only [hi, decide_true, Bool.true_and]
    exact (decide_eq_true (R.comps_of_table ha ht hx hi)).symm
  · simp only [hi, decide_false, Bool.false_and]

theorem cs_mem (R : Rows w L cs) {x : Ent × β} (hx : x ∈ L) : cs x ∈ w.archetypes.map (·.comps) := by
  obtain ⟨t, r, _, _, _, halt, hco, _⟩ := R.entry x hx
  rw [hco]
  exact List.mem_map.mpr ⟨_, List.mem_of_getElem? (aget_of_lt halt), rfl⟩

/-- **Σ archetype sizes = number of specification entries** -/
theorem sum_arch_sizes (R : Rows w L cs) :
    ((w.archetypes.map w.archStatsFresh).map (·.size)).sum = L.length := by
  rw [← sum_filter_partition cs (w.archetypes.map (·.comps)) R.sinv.comps_nodup L fun x hx => R.cs_mem hx,
    List.map_map, List.map_map]
  refine congrArg List.sum (List.map_congr_left fun A hA => ?_)
  obtain ⟨a, haA⟩ := List.getElem?_of_mem hA
  have := R.arch_count (List.getElem?_eq_some_iff.mp haA).1
  rwa [arch_of_get haA] at this

end Rows

/-! ## 3. the fresh statistics -/

theorem sum_flatMap_tables (l : List ArchStats)
    (h : ∀ (a : ArchStats), a ∈ l → a.size = (a.tables.map (·.size)).sum) :
    ((l.flatMap (·.tables)).map (·.size)).sum = (l.map (·.size)).sum := by
  induction l with
  | nil => rfl
  | cons a l ih =>
    have h1 := h a (by simp)
    have ih' := ih (fun b hb => h b (by simp [hb]))
    simp only [List.flatMap_cons, List.map_append, List.sum_append, List.map_cons,
      List.sum_cons, ih', h1]

namespace World

variable {w : World}

/-- an archetype entry of the fresh statistics is the fresh statistics of the archetype at its
    position -/
theorem forall_fresh {P : ArchStats → Prop}
    (h : ∀ (i : Nat), i < w.archetypes.length → P (w.archStatsFresh (w.arch i))) :
    ∀ (a : ArchStats), a ∈ (statsFresh w).archetypes → P a := by
  intro a ha
  rw [world_archetypes] at ha
  obtain ⟨A, hA, rfl⟩ := List.mem_map.mp ha
  obtain ⟨i, hi⟩ := List.getElem?_of_mem hA
  rw [← arch_of_get hi]
  exact h i (List.getElem?_eq_some_iff.mp hi).1

theorem fresh_one_table {A : Archetype} {t : Nat} (hts : A.tables.tables = [t])
    (hfree : A.freeTables = []) :
    ∃ (ts : TableStats), (w.archStatsFresh A).tables = [ts] ∧
      ts.size = (w.archStatsFresh A).size ∧ ts.capacity = (w.archStatsFresh A).capacity ∧
      (w.archStatsFresh A).freeTables = 0 := by
  refine ⟨tableStats (w.tbl t) (w.memPerEntity A), ?_, ?_, ?_, ?_⟩
  · rw [fresh_tables, hts]; rfl
  · rw [fresh_size, hts]; simp [tableStats]
  · rw [fresh_capacity, hts, hfree]; simp [tableStats]
  · show A.freeTables.length = 0
    rw [hfree]; rfl

end World

theorem SInvMid.fresh_unique {w : World} (h : SInvMid w) (i j : Nat) (a b : ArchStats)
    (hi : (statsFresh w).archetypes[i]? = some a) (hj : (statsFresh w).archetypes[j]? = some b)
    (hab : a.componentIDs = b.componentIDs) : i = j := by
  rw [world_archetypes, List.getElem?_map] at hi hj
  cases hAi : w.archetypes[i]? with
  | none => rw [hAi] at hi; cases hi
  | some Ai =>
    cases hAj : w.archetypes[j]? with
    | none => rw [hAj] at hj; cases hj
    | some Aj =>
      rw [hAi] at hi; rw [hAj] at hj
      cases hi; cases hj
      exact h.archetype_comps_unique (List.getElem?_eq_some_iff.mp hAi).1
        (List.getElem?_eq_some_iff.mp hAj).1 (by rw [arch_of_get hAi, arch_of_get hAj]; exact hab)

namespace Rows

variable {w : World} {β : Type} {L : List (Ent × β)} {cs : Ent × β → List Comp}

theorem fresh_sum (R : Rows w L cs) : ((statsFresh w).archetypes.map (·.size)).sum = L.length := by
  rw [world_archetypes]; exact R.sum_arch_sizes

theorem fresh_complete (R : Rows w L cs) (x : Ent × β) (hx : x ∈ L) :
    ∃ (a : ArchStats), a ∈ (statsFresh w).archetypes ∧ a.componentIDs = cs x := by
  obtain ⟨A, hA, hAc⟩ := List.mem_map.mp (R.cs_mem hx)
  exact ⟨w.archStatsFresh A, by rw [world_archetypes]; exact List.mem_map.mpr ⟨A, hA, rfl⟩, hAc⟩

end Rows

namespace Refine

variable {s : St} {fl : List Nat}

theorem HInv.used_eq (H : HInv s fl) : s.w.pool.len = s.ss.ents.length :=
  H.ginv.used_eq.trans (List.length_map _)

theorem HInv.total_eq (H : HInv s fl) : s.w.pool.len + s.w.pool.available = s.w.pool.cap :=
  H.ginv.total_eq

theorem HInv.alive_count (H : HInv s fl) :
    (s.issued.filter fun e => s.w.alive e).length = s.ss.ents.length :=
  (H.ginv.alive_count H.nodup).trans (List.length_map _)

/-- the component set the specification records for an entry, as the world lists it -/
def specComps (s : St) (x : Ent × Comps) : List Comp := sortedIds s.ss.zst.length (keys x.2)

/-- rows ↔ specification entries at a state of the entity machine (every archetype has one
    table, for ever) -/
theorem HInv.rows (H : HInv s fl) : Rows s.w s.ss.ents (specComps s) where
  sinv := H.cinv.sinv.toSInvMid
  ids := H.ginv.ids_nodup
  row := fun ht hr => by
    obtain ⟨r2, rnf, rlt, rix⟩ := H.cinv.row_live_id ht hr
    obtain ⟨e, he, hid⟩ := H.ginv.live_of_slot r2 rnf (H.cinv.lenEq ▸ rlt)
    obtain ⟨x, hx, hx1⟩ := List.mem_map.mp he
    exact ⟨rix, x, hx, by rw [hx1]; exact hid⟩
  entry := fun x hx => by
    obtain ⟨_, ha, h2, hnf, _, hsl⟩ := H.live_facts (e := x.1) (cs := x.2) hx
    obtain ⟨t, r, hentry, htm, _⟩ :=
      H.cinv.live_entry h2 hnf ha (List.getElem?_eq_some_iff.mp hsl).1
    obtain ⟨hTlt, hr, hid, halt, _, _⟩ := H.cinv.table_of_entry hentry htm
    have hT := get_of_lt hTlt
    obtain ⟨A, hA, e1, _⟩ := H.cinv.sinv.tblArch t _ hT
    have hco := (H.ok x.1 x.2 hx).comps
    rw [compsOf_of_entry hentry htm hT, Option.some.injEq] at hco
    obtain ⟨t0, ht0, _, _⟩ := H.cinv.oneTable halt
    have hf : t0 = t := by have := (H.cinv.table_is_first hTlt).2; rwa [ht0] at this
    refine ⟨t, r, hentry, hr, hid, halt, ?_, by rw [ht0, hf]; exact List.mem_singleton.mpr rfl⟩
    rw [specComps, H.zlen, ← hco, e1, arch_of_get hA]

theorem HInv.table_count (H : HInv s fl) {t : Nat} (ht : t < s.w.tables.length) :
    (s.w.tbl t).len = (s.ss.ents.filter fun x => decide ((s.w.index x.1.id).1 = t)).length :=
  H.rows.table_count ht

theorem HInv.arch_count (H : HInv s fl) {a : Nat} (ha : a < s.w.archetypes.length) :
    (s.w.archStatsFresh (s.w.arch a)).size =
      (s.ss.ents.filter fun x => decide (specComps s x = (s.w.arch a).comps)).length :=
  H.rows.arch_count ha

end Refine

/-! ## 4. the figures `Stats()` reports agree with the contents -/

namespace StatsHist

open Refine CacheHist

/-- **what C19 demands of the statistics `st` reported at the state `s`** of the history machine
    (`s.w` the world, `s.issued` the handles handed out so far, `s.ss.ents` the specification:
    alive handle ↦ component ↦ value, `s.ss.zst` the registered component types). -/
structure Agree (s : St) (st : WorldStats) : Prop where
  /-- `used` = number of specification entries … -/
  used_spec : st.used = s.ss.ents.length
  /-- … = number of issued handles that are alive … -/
  used_alive : st.used = (s.issued.filter fun e => s.w.alive e).length
  /-- … = Σ archetype sizes … -/
  used_archs : st.used = (st.archetypes.map (·.size)).sum
  /-- … = Σ table sizes -/
  used_tables : st.used = ((st.archetypes.flatMap (·.tables)).map (·.size)).sum
  /-- `total = used + recycled` -/
  total : st.total = st.used + st.recycled
  /-- one archetype entry per archetype of the world -/
  arch_len : st.archetypes.length = s.w.archetypes.length
  /-- per archetype: `size` = number of specification entries with exactly its component set -/
  arch_size : ∀ (a : ArchStats), a ∈ st.archetypes →
    a.size = (s.ss.ents.filter fun x => decide (specComps s x = a.componentIDs)).length
  /-- no two archetype entries have the same component list -/
  arch_unique : ∀ (i j : Nat) (a b : ArchStats), st.archetypes[i]? = some a →
    st.archetypes[j]? = some b → a.componentIDs = b.componentIDs → i = j
  /-- the component set of every entity is the component list of an archetype entry -/
  arch_complete : ∀ (x : Ent × Comps), x ∈ s.ss.ents →
    ∃ (a : ArchStats), a ∈ st.archetypes ∧ a.componentIDs = specComps s x
  /-- the component lists name registered components -/
  arch_reg : ∀ (a : ArchStats), a ∈ st.archetypes → ∀ (c : Comp), c ∈ a.componentIDs →
    c < s.ss.zst.length
  /-- in the relation-free fragment every archetype has one table for ever, no free table and no
      relation column; the archetype figures are those of the table -/
  arch_shape : ∀ (a : ArchStats), a ∈ st.archetypes → ∃ (t : TableStats), a.tables = [t] ∧
    t.size = a.size ∧ t.capacity = a.capacity ∧ a.freeTables = 0 ∧ a.numRelations = 0
  /-- every table: `size ≤ capacity` -/
  table_le : ∀ (a : ArchStats), a ∈ st.archetypes → ∀ (t : TableStats), t ∈ a.tables →
    t.size ≤ t.capacity
  /-- memory per entity: 8 bytes for the handle plus the registered sizes of the components -/
  mpe : ∀ (a : ArchStats), a ∈ st.archetypes →
    a.memoryPerEntity = 8 + (a.componentIDs.map fun c => (s.w.kinds.getD c {}).size).sum
  arch_memory : ∀ (a : ArchStats), a ∈ st.archetypes →
    a.memory = a.memoryPerEntity * a.capacity ∧ a.memoryUsed = a.memoryPerEntity * a.size
  table_memory : ∀ (a : ArchStats), a ∈ st.archetypes → ∀ (t : TableStats), t ∈ a.tables →
    t.memory = t.capacity * a.memoryPerEntity ∧ t.memoryUsed = t.size * a.memoryPerEntity
  memory : st.memory = (st.archetypes.map (·.memory)).sum ∧
    st.memoryUsed = (st.archetypes.map (·.memoryUsed)).sum ∧ st.memoryUsed ≤ st.memory
  /-- filter, observer, lock and registry figures -/
  cachedFilters : st.cachedFilters = s.w.cache.filters.length
  observers : st.observers = 0
  locked : st.locked = false
  numComponents : st.numComponents = s.ss.zst.length

theorem tables_le {s : St} {fl : List Nat} (H : HInv s fl) (t : Nat) :
    (s.w.tbl t).len ≤ (s.w.tbl t).cap :=
  (IdxInv_tbl_shape H.cinv.idx t).len_le

/-- **the fresh statistics of a state satisfying the invariant agree with its contents** -/
theorem agree_fresh {s : St} {fl : List Nat} (H : HInv3 s fl) : Agree s (statsFresh s.w) := by
  have HB := H.base.base
  have hc := HB.cinv
  have R := HB.rows
  have hused : (statsFresh s.w).used = s.ss.ents.length := HB.used_eq
  exact
    { used_spec := hused
      used_alive := hused.trans HB.alive_count.symm
      used_archs := hused.trans R.fresh_sum.symm
      used_tables := by
        rw [hused, ← R.fresh_sum]
        exact (sum_flatMap_tables _ (forall_fresh fun _ _ => fresh_size_tables s.w _)).symm
      total := HB.total_eq.symm
      arch_len := by rw [world_archetypes, List.length_map]
      arch_size := forall_fresh fun _ hi => R.arch_count hi
      arch_unique := R.sinv.fresh_unique
      arch_complete := R.fresh_complete
      arch_reg := forall_fresh fun i hi c hcm => by
        rw [HB.zlen]; exact R.sinv.comps_lt (List.mem_of_getElem? (aget_of_lt hi)) hcm
      -- every archetype has one table, no free table and no relation column
      arch_shape := forall_fresh fun i hi => by
        obtain ⟨t, hts, _, _⟩ := hc.oneTable hi
        have hnr := hc.noRelArch' hi
        obtain ⟨ts, h1, h2, h3, h4⟩ := fresh_one_table (w := s.w) hts
          (hc.sinv.nonRelLe _ _ (aget_of_lt hi) hnr).2
        have h0 : (s.w.arch i).numRel = 0 := by simpa [Archetype.hasRelations] using hnr
        exact ⟨ts, h1, h2, h3, h4, h0⟩
      table_le := forall_fresh fun _ _ =>
        fresh_table_size_le s.w _ fun t _ => tables_le HB t
      mpe := forall_fresh fun _ _ => World.memPerEntity_eq s.w _
      arch_memory := forall_fresh fun _ _ => ⟨fresh_memory s.w _, fresh_memoryUsed s.w _⟩
      table_memory := forall_fresh fun _ _ => fresh_table_entry s.w _
      memory := ⟨World.world_memory s.w, World.world_memoryUsed s.w,
        World.world_memoryUsed_le s.w fun _ _ t _ => tables_le HB t⟩
      cachedFilters := rfl
      observers := H.obs0
      locked := HB.unlocked
      numComponents := HB.zlen.symm }

end StatsHist

end Ark
