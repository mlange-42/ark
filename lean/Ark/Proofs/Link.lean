/-
  The layer between the entity index (`IdxInv`), the entity pool (`Pool.PInv`) and the world
  invariants built on them.  `PLink`: index and pool describe the same live IDs.  `TInv` has it as
  a field; `WInv` and `CInv` spell its fields out and give it back as `.link`.  The row transformers
  (`placedW`, `removeRowOf`, `addMove`, `writeValsW`) leave archetypes, registry, cache and table
  metadata alone (`MetaStep`); what each does to the link and to the entities is stated once, as a
  record (`PlacedLink`, `RemovedLink`, `MovedRow`, `Written`), and the world invariants add their
  own part with `of_link` / `of_metaStep`.
  `PLink` does NOT demand that the memory behind the pool slice (`Pool.stale`, kept and invalidated
  by `Reset`) is empty, only that it holds handles of generation `maxU32`, so that it survives
  `Reset`; a live handle is therefore given together with `e.id < w.pool.ents.length`.
  The frame relations `Untouched` and `World.SameFrame` (what the storage operations leave alone)
  stand here because this module lies below every module that states a frame.
-/
import Ark.Props.C01World
import Ark.Proofs.Pool

set_option autoImplicit false

namespace Ark

open World Ark.Props.C01World

/-! `World.Reset` truncates the pool slice but keeps (and invalidates) the memory behind it
(`Pool.stale`), so an invariant that is to survive `Reset` cannot demand `stale = []`.  For a
handle whose ID lies inside the slice, `Alive` does not read that memory. -/

namespace Pool

theorem alive_of_lt {p : Pool} (e : Ent) (hlt : e.id < p.ents.length) :
    p.alive e = match p.ents[e.id]? with
      | some s => s.gen == e.gen
      | none => false := by
  simp only [alive, List.getElem?_append_left hlt]
  cases p.ents[e.id]? <;> rfl

theorem PInv.alive_iff_lt {p : Pool} {fl : List Nat} (h : PInv p fl) (e : Ent)
    (hnf : e.id ∉ fl) (hlt : e.id < p.ents.length) :
    p.alive e = true ↔ p.ents[e.id]? = some e := by
  rw [alive_of_lt e hlt]
  cases hs : p.ents[e.id]? with
  | none => simp
  | some s =>
    have hid := h.self e.id s hs hnf
    simp only [beq_iff_eq, Option.some.injEq]
    constructor
    · intro hg; cases s; cases e; simp_all
    · intro he; rw [he]

theorem alive_congr_slot {p p' : Pool} (e : Ent) (hs : p'.stale = p.stale)
    (hl : p'.ents.length = p.ents.length) (h : p'.ents[e.id]? = p.ents[e.id]?) :
    p'.alive e = p.alive e := by
  simp only [alive]
  rcases Nat.lt_or_ge e.id p.ents.length with h1 | h1
  · rw [List.getElem?_append_left h1, List.getElem?_append_left (by rw [hl]; exact h1), h]
  · rw [List.getElem?_append_right h1, List.getElem?_append_right (by rw [hl]; exact h1), hs, hl]

/-- `Get` changes the answer of `Alive` for the returned ID only — also for IDs behind the slice
    (`getNew` consumes the first cell of the memory behind it) -/
theorem get_alive_frame (p : Pool) (fl : List Nat) (h : PInv p fl) (x : Ent)
    (hx : x.id ≠ (p.get).2.id) : (p.get).1.alive x = p.alive x := by
  have g := get_spec p fl h
  by_cases hav : p.available = 0
  · have hget : p.get = p.getNew := by simp [get, hav]
    rw [hget] at hx ⊢
    have hx' : x.id ≠ p.ents.length := hx
    simp only [alive, getNew]
    rcases Nat.lt_or_ge x.id p.ents.length with h1 | h1
    · rw [List.append_assoc, List.getElem?_append_left h1, List.getElem?_append_left h1]
    · have h2 : p.ents.length < x.id := by omega
      rw [List.getElem?_append_right (by simp only [List.length_append, List.length_singleton]; omega),
        List.getElem?_append_right h1, List.getElem?_drop]
      simp only [List.length_append, List.length_singleton]
      rw [show 1 + (x.id - (p.ents.length + 1)) = x.id - p.ents.length by omega]
  · have hget : p.get = p.getRecycled := by simp [get, hav]
    have hst : (p.get).1.stale = p.stale := by rw [hget]; rfl
    have hlen : (p.get).1.ents.length = p.ents.length := by
      rw [g.length]
      rcases g.cases with ⟨_, b, _⟩ | ⟨a, _⟩
      · have := h.avail
        rw [b] at this
        exact absurd this.symm hav
      · rw [if_neg (by omega)]
    exact alive_congr_slot x hst hlen (g.other x.id hx)

theorem get_stale_sub (p : Pool) : ∀ e ∈ (p.get).1.stale, e ∈ p.stale := by
  intro e he
  by_cases hav : p.available = 0
  · have hget : p.get = p.getNew := by simp [get, hav]
    rw [hget] at he
    exact List.mem_of_mem_drop he
  · have hget : p.get = p.getRecycled := by simp [get, hav]
    rw [hget] at he
    exact he

theorem PInv.reset {p : Pool} {fl : List Nat} (h : PInv p fl) : PInv p.reset [] := by
  have hl : (p.ents.take reserved).length = 2 := by
    rw [List.length_take]; have := h.len2; show min 2 _ = 2; omega
  refine ⟨rfl, List.nodup_nil, (fun i hi => by cases hi), ?_,
    (by show 2 ≤ (p.ents.take reserved).length; omega)⟩
  intro i e he _
  have he' : (p.ents.take reserved)[i]? = some e := he
  have hi : i < 2 := by
    have := (List.getElem?_eq_some_iff.mp he').1; omega
  rw [List.getElem?_take_of_lt (by show i < 2; exact hi)] at he'
  exact h.self i e he' (fun hm => by have := (h.res i hm).1; omega)

end Pool

namespace World

theorem copyRow_sameMeta (O : Table) (row newIndex : Nat) (keep : Mask) (N : Table) :
    Table.SameMeta N (copyRow O row newIndex keep N) := by
  apply Table.foldl_sameMeta
  intro T c
  split
  · split
    · exact Table.setComp_sameMeta T c newIndex _
    · exact Table.SameMeta.refl T
  · exact Table.SameMeta.refl T

theorem writeFold_sameMeta (row : Nat) (vals : List (Comp × Val)) (T : Table) :
    Table.SameMeta T (vals.foldl (fun T (cv : Comp × Val) => T.setComp cv.1 row cv.2) T) :=
  Table.foldl_sameMeta (fun T (cv : Comp × Val) => T.setComp cv.1 row cv.2)
    (fun T cv => Table.setComp_sameMeta T cv.1 row cv.2) vals T

end World

/-- `w'` has the observers, locks, target flags and component limit of `w`: true of moves, writes
    and every `SameFrame` step, not of placing an entity (it may write `isTarget`) -/
structure Untouched (w w' : World) : Prop where
  obs : w'.obs = w.obs
  locks : w'.locks = w.locks
  isTarget : w'.isTarget = w.isTarget
  maxComps : w'.maxComps = w.maxComps

theorem Untouched.refl (w : World) : Untouched w w := ⟨rfl, rfl, rfl, rfl⟩

theorem Untouched.trans {a b c : World} (h1 : Untouched a b) (h2 : Untouched b c) : Untouched a c :=
  ⟨h2.obs.trans h1.obs, h2.locks.trans h1.locks, h2.isTarget.trans h1.isTarget,
    h2.maxComps.trans h1.maxComps⟩

namespace World

/-- `w'` differs from `w` at most in the table store, the archetype store and the cache -/
def SameFrame (w w' : World) : Prop :=
  ∃ (ts : List Table) (as : List Archetype) (c : Cache),
    w' = { w with tables := ts, archetypes := as, cache := c }

theorem SameFrame.refl (w : World) : SameFrame w w :=
  ⟨w.tables, w.archetypes, w.cache, by cases w; rfl⟩

theorem SameFrame.trans {a b c : World} (h1 : SameFrame a b) (h2 : SameFrame b c) :
    SameFrame a c := by
  obtain ⟨_, _, _, rfl⟩ := h1
  obtain ⟨_, _, _, rfl⟩ := h2
  exact ⟨_, _, _, rfl⟩

theorem SameFrame.entities {w w' : World} (h : SameFrame w w') : w'.entities = w.entities := by
  obtain ⟨_, _, _, rfl⟩ := h; rfl
theorem SameFrame.pool {w w' : World} (h : SameFrame w w') : w'.pool = w.pool := by
  obtain ⟨_, _, _, rfl⟩ := h; rfl
theorem SameFrame.isTarget {w w' : World} (h : SameFrame w w') : w'.isTarget = w.isTarget := by
  obtain ⟨_, _, _, rfl⟩ := h; rfl
theorem SameFrame.kinds {w w' : World} (h : SameFrame w w') : w'.kinds = w.kinds := by
  obtain ⟨_, _, _, rfl⟩ := h; rfl
theorem SameFrame.locks {w w' : World} (h : SameFrame w w') : w'.locks = w.locks := by
  obtain ⟨_, _, _, rfl⟩ := h; rfl
theorem SameFrame.obs {w w' : World} (h : SameFrame w w') : w'.obs = w.obs := by
  obtain ⟨_, _, _, rfl⟩ := h; rfl
theorem SameFrame.initCap {w w' : World} (h : SameFrame w w') : w'.initCap = w.initCap := by
  obtain ⟨_, _, _, rfl⟩ := h; rfl
theorem SameFrame.initCapRel {w w' : World} (h : SameFrame w w') : w'.initCapRel = w.initCapRel := by
  obtain ⟨_, _, _, rfl⟩ := h; rfl
theorem SameFrame.componentIndex {w w' : World} (h : SameFrame w w') :
    w'.componentIndex = w.componentIndex := by
  obtain ⟨_, _, _, rfl⟩ := h; rfl
theorem SameFrame.relationArchetypes {w w' : World} (h : SameFrame w w') :
    w'.relationArchetypes = w.relationArchetypes := by
  obtain ⟨_, _, _, rfl⟩ := h; rfl
theorem SameFrame.filters {w w' : World} (h : SameFrame w w') : w'.filters = w.filters := by
  obtain ⟨_, _, _, rfl⟩ := h; rfl
theorem SameFrame.resources {w w' : World} (h : SameFrame w w') : w'.resources = w.resources := by
  obtain ⟨_, _, _, rfl⟩ := h; rfl
theorem SameFrame.log {w w' : World} (h : SameFrame w w') : w'.log = w.log := by
  obtain ⟨_, _, _, rfl⟩ := h; rfl
theorem SameFrame.isLocked {w w' : World} (h : SameFrame w w') : w'.isLocked = w.isLocked := by
  simp only [World.isLocked, h.locks]

theorem SameFrame.untouched {w w' : World} (h : SameFrame w w') :
    Untouched w w' ∧ w'.maxComps = w.maxComps := by
  obtain ⟨ts, as, c, rfl⟩ := h
  exact ⟨⟨rfl, rfl, rfl, rfl⟩, rfl⟩

end World

/-- the index after the step agrees with the index before, up to moving indexed entities
    between (existing) tables -/
structure IdxSame (w w' : World) : Prop where
  len : w'.entities.length = w.entities.length
  entry : ∀ i : Nat, w'.entities[i]? = w.entities[i]? ∨
    ∃ t r t' r', w.entities[i]? = some (t, r) ∧ t ≠ maxU32 ∧
      w'.entities[i]? = some (t', r') ∧ t' ≠ maxU32

theorem IdxSame.refl (w : World) : IdxSame w w := ⟨rfl, fun _ => Or.inl rfl⟩

theorem IdxSame.trans {a b c : World} (h1 : IdxSame a b) (h2 : IdxSame b c) : IdxSame a c where
  len := h2.len.trans h1.len
  entry := by
    intro i
    rcases h2.entry i with e2 | ⟨t, r, t', r', p1, p2, p3, p4⟩
    · rcases h1.entry i with e1 | ⟨t0, r0, t1, r1, q1, q2, q3, q4⟩
      · exact Or.inl (e2.trans e1)
      · exact Or.inr ⟨t0, r0, t1, r1, q1, q2, e2.trans q3, q4⟩
    · rcases h1.entry i with e1 | ⟨t0, r0, t1, r1, q1, q2, q3, q4⟩
      · exact Or.inr ⟨t, r, t', r', e1 ▸ p1, p2, p3, p4⟩
      · exact Or.inr ⟨t0, r0, t', r', q1, q2, p3, p4⟩

theorem IdxSame.of_eq {w w' : World} (h : w'.entities = w.entities) : IdxSame w w' :=
  ⟨by rw [h], fun _ => Or.inl (by rw [h])⟩

theorem sameMeta_set {w w' : World} {t : Nat} {T' : Table} (ht : w'.tables = w.tables.set t T')
    (hlt : t < w.tables.length) (sm : Table.SameMeta (w.tbl t) T') :
    w'.tables.length = w.tables.length ∧
    ∀ (t0 : Nat), t0 < w.tables.length → Table.SameMeta (w.tbl t0) (w'.tbl t0) := by
  refine ⟨by rw [ht, List.length_set], fun t0 _ => ?_⟩
  by_cases h0 : t0 = t
  · subst h0
    rw [tbl_set_self ht hlt]; exact sm
  · rw [tbl_set_ne ht (Ne.symm h0)]; exact Table.SameMeta.refl _

/-- `w'` differs from `w` only in rows, index, pool, flags (archetypes, registry, cache and table
    metadata are the same) -/
structure MetaStep (w w' : World) : Prop where
  archetypes : w'.archetypes = w.archetypes
  kinds : w'.kinds = w.kinds
  relationArchetypes : w'.relationArchetypes = w.relationArchetypes
  cache : w'.cache = w.cache
  len : w'.tables.length = w.tables.length
  tmeta : ∀ (t : Nat), t < w.tables.length → Table.SameMeta (w.tbl t) (w'.tbl t)

theorem MetaStep.refl (w : World) : MetaStep w w :=
  ⟨rfl, rfl, rfl, rfl, rfl, fun _ _ => Table.SameMeta.refl _⟩

theorem MetaStep.trans {a b c : World} (h1 : MetaStep a b) (h2 : MetaStep b c) : MetaStep a c :=
  ⟨h2.archetypes.trans h1.archetypes, h2.kinds.trans h1.kinds,
    h2.relationArchetypes.trans h1.relationArchetypes, h2.cache.trans h1.cache,
    h2.len.trans h1.len,
    fun t ht => (h1.tmeta t ht).trans (h2.tmeta t (by rw [h1.len]; exact ht))⟩

theorem MetaStep.tbl_arch {w w' : World} (ms : MetaStep w w') (t : Nat) :
    (w'.tbl t).arch = (w.tbl t).arch := by
  by_cases ht : t < w.tables.length
  · exact (ms.tmeta t ht).arch
  · rw [tbl_of_ge (Nat.le_of_not_lt ht), tbl_of_ge (by rw [ms.len]; exact Nat.le_of_not_lt ht)]

/-- a step that keeps the table metadata keeps the mask of every table -/
theorem MetaStep.tmask {w w' : World} (ms : MetaStep w w') (t : Nat) :
    (w'.arch (w'.tbl t).arch).mask = (w.arch (w.tbl t).arch).mask := by
  rw [ms.tbl_arch, arch_congr ms.archetypes]

theorem MetaStep.of_tables_eq {w w' : World} (ha : w'.archetypes = w.archetypes)
    (hk : w'.kinds = w.kinds) (hra : w'.relationArchetypes = w.relationArchetypes)
    (hc : w'.cache = w.cache) (ht : w'.tables = w.tables) : MetaStep w w' :=
  ⟨ha, hk, hra, hc, by rw [ht], fun t _ => by
    have : w'.tbl t = w.tbl t := tbl_congr ht _
    rw [this]; exact Table.SameMeta.refl _⟩

theorem MetaStep.of_set {w w' : World} {t : Nat} {T' : Table} (ha : w'.archetypes = w.archetypes)
    (hk : w'.kinds = w.kinds) (hra : w'.relationArchetypes = w.relationArchetypes)
    (hc : w'.cache = w.cache) (ht : w'.tables = w.tables.set t T')
    (sm : t < w.tables.length → Table.SameMeta (w.tbl t) T') : MetaStep w w' := by
  rcases Nat.lt_or_ge t w.tables.length with hlt | hge
  · obtain ⟨h1, h2⟩ := sameMeta_set ht hlt (sm hlt)
    exact ⟨ha, hk, hra, hc, h1, h2⟩
  · refine MetaStep.of_tables_eq ha hk hra hc ?_
    rw [ht]
    apply List.ext_getElem?
    intro i
    rw [List.getElem?_set]
    split
    · rename_i h; subst h
      rw [if_neg (by omega), List.getElem?_eq_none hge]
    · rfl

namespace World

theorem placedW_obs (w : World) (t : Nat) (rt : Bool) : (placedW w t rt).obs = w.obs := by
  rw [placedW_eq]

theorem placedW_locks (w : World) (t : Nat) (rt : Bool) : (placedW w t rt).locks = w.locks := by
  rw [placedW_eq]

theorem placedW_log (w : World) (t : Nat) (rt : Bool) : (placedW w t rt).log = w.log := by
  rw [placedW_eq]

theorem placedW_pool (w : World) (t : Nat) (rt : Bool) : (placedW w t rt).pool = (w.pool.get).1 := by
  rw [placedW_eq]

theorem placedW_fields (w : World) (t : Nat) (rt : Bool) :
    (placedW w t rt).kinds = w.kinds ∧ (placedW w t rt).archetypes = w.archetypes ∧
    (placedW w t rt).maxComps = w.maxComps := by
  rw [placedW_eq]; exact ⟨rfl, rfl, rfl⟩

theorem placedW_isTarget' (w : World) (t : Nat) (rt : Bool) :
    (placedW w t rt).isTarget =
      if (w.pool.get).2.id = w.entities.length then w.isTarget ++ [false]
      else if rt = true then w.isTarget.set (w.pool.get).2.id false else w.isTarget := by
  rw [placedW_eq]

theorem removeRowOf_fields (w : World) (e : Ent) (t row : Nat) :
    (removeRowOf w e t row).kinds = w.kinds ∧ (removeRowOf w e t row).archetypes = w.archetypes ∧
    (removeRowOf w e t row).maxComps = w.maxComps := by
  rw [removeRowOf_eq, unplace_eq]; exact ⟨rfl, rfl, rfl⟩

theorem placedW_more (w : World) (t : Nat) (rt : Bool) :
    (placedW w t rt).relationArchetypes = w.relationArchetypes ∧ (placedW w t rt).cache = w.cache := by
  rw [placedW_eq]; exact ⟨rfl, rfl⟩

theorem placedW_metaStep (w : World) (t : Nat) (rt : Bool) : MetaStep w (placedW w t rt) := by
  obtain ⟨fk, fa, _⟩ := placedW_fields w t rt
  obtain ⟨h1, h2⟩ := placedW_more w t rt
  obtain ⟨_, hT⟩ := placedW_place w t rt
  exact MetaStep.of_set fa fk h1 h2 (by rw [hT, place_tables]) (fun _ => Table.add_sameMeta _ _)

/-- `placeNew` sets no target flag -/
theorem placedW_flag_le (w : World) (t : Nat) (rt : Bool) (i : Nat)
    (h : (placedW w t rt).isTarget.getD i false = true) : w.isTarget.getD i false = true := by
  rw [placedW_isTarget'] at h
  simp only [List.getD_eq_getElem?_getD] at h ⊢
  split at h
  · rw [List.getElem?_append] at h
    split at h
    · exact h
    · cases hx : [false][i - w.isTarget.length]? with
      | none => rw [hx] at h; cases h
      | some b =>
        rw [hx] at h
        obtain rfl := (List.mem_singleton.mp (List.mem_of_getElem? hx))
        cases h
  · split at h
    · rw [List.getElem?_set] at h
      split at h
      · split at h <;> cases h
      · exact h
    · exact h

theorem removeRowOf_pool (w : World) (e : Ent) (t row : Nat) :
    (removeRowOf w e t row).pool = w.pool.recycle e := by
  rw [removeRowOf_eq]

theorem removeRowOf_isTarget (w : World) (e : Ent) (t row : Nat) :
    (removeRowOf w e t row).isTarget = w.isTarget := by
  rw [removeRowOf_eq, unplace_eq]

theorem removeRowOf_obs (w : World) (e : Ent) (t row : Nat) :
    (removeRowOf w e t row).obs = w.obs := by
  rw [removeRowOf_eq, unplace_eq]

theorem removeRowOf_locks (w : World) (e : Ent) (t row : Nat) :
    (removeRowOf w e t row).locks = w.locks := by
  rw [removeRowOf_eq, unplace_eq]

theorem removeRowOf_more (w : World) (e : Ent) (t row : Nat) :
    (removeRowOf w e t row).relationArchetypes = w.relationArchetypes ∧
    (removeRowOf w e t row).cache = w.cache := by
  rw [removeRowOf_eq, unplace_eq]; exact ⟨rfl, rfl⟩

theorem removeRowOf_metaStep (w : World) (e : Ent) (t row : Nat) :
    MetaStep w (removeRowOf w e t row) := by
  obtain ⟨fk, fa, _⟩ := removeRowOf_fields w e t row
  obtain ⟨fra, fc⟩ := removeRowOf_more w e t row
  exact MetaStep.of_set fa fk fra fc (by rw [removeRowOf_tables, unplace_tables])
    (fun _ => Table.remove_sameMeta _ _)

theorem addMove_fields (w : World) (e : Ent) (oldT row newT : Nat) (keep : Mask) :
    (addMove w e oldT row newT keep).pool = w.pool ∧
    (addMove w e oldT row newT keep).kinds = w.kinds ∧
    (addMove w e oldT row newT keep).archetypes = w.archetypes ∧
    Untouched w (addMove w e oldT row newT keep) := by
  rw [addMove_frame]; exact ⟨rfl, rfl, rfl, rfl, rfl, rfl, rfl⟩

theorem addMove_tables (w : World) (e : Ent) (oldT row newT : Nat) (keep : Mask)
    (hne : oldT ≠ newT) (hnl : newT < w.tables.length) (hel : e.id < w.entities.length) :
    (addMove w e oldT row newT keep).tables =
      (w.tables.set oldT ((w.tbl oldT).remove row).1).set newT
        (copyRow (w.tbl oldT) row (w.tbl newT).len keep ((w.tbl newT).add e).1) := by
  rw [(addMove_decomp w e oldT row newT keep hne hnl hel).1]
  simp only [setTbl_tables, place_tables, unplace_tables, List.set_set]

theorem addMove_tbl (w : World) (e : Ent) (oldT row newT : Nat) (keep : Mask)
    (hne : oldT ≠ newT) (hnl : newT < w.tables.length) (hol : oldT < w.tables.length)
    (hel : e.id < w.entities.length) :
    (addMove w e oldT row newT keep).tables.length = w.tables.length ∧
    (addMove w e oldT row newT keep).tbl oldT = ((w.tbl oldT).remove row).1 ∧
    (addMove w e oldT row newT keep).tbl newT =
      copyRow (w.tbl oldT) row (w.tbl newT).len keep ((w.tbl newT).add e).1 ∧
    ∀ t : Nat, t ≠ oldT → t ≠ newT → (addMove w e oldT row newT keep).tbl t = w.tbl t := by
  have hT := addMove_tables w e oldT row newT keep hne hnl hel
  refine ⟨by rw [hT]; simp only [List.length_set], ?_, ?_, ?_⟩
  · apply tbl_of_get
    rw [hT, List.getElem?_set_ne (Ne.symm hne)]
    exact List.getElem?_set_self hol
  · apply tbl_of_get
    rw [hT]
    exact List.getElem?_set_self (by rw [List.length_set]; exact hnl)
  · intro t h1 h2
    simp only [tbl, hT, List.getD_eq_getElem?_getD, List.getElem?_set_ne (Ne.symm h2),
      List.getElem?_set_ne (Ne.symm h1)]

theorem addMove_lookup {w : World} (h : IdxInv w) {e : Ent} {oldT row newT : Nat} (keep : Mask)
    (hne : oldT ≠ newT) (he : w.entities[e.id]? = some (oldT, row)) (ht : oldT ≠ maxU32)
    (hnl : newT < w.tables.length) (hb : (w.tbl newT).len + 1 < 2 ^ 32) (i : Nat) :
    (addMove w e oldT row newT keep).entities[i]? =
      if i = e.id then some (newT, (w.tbl newT).len)
      else if row ≠ (w.tbl oldT).len - 1 ∧ i = ((w.tbl oldT).getEntity ((w.tbl oldT).len - 1)).id then
        some (oldT, row)
      else w.entities[i]? := by
  obtain ⟨_, _, hle, _, _, _, _, hune⟩ := h.addMove_steps keep hne he ht hnl hb
  have hel : e.id < w.entities.length := by
    rcases Nat.lt_or_ge e.id w.entities.length with h1 | h1
    · exact h1
    · rw [List.getElem?_eq_none h1] at he; cases he
  rw [(addMove_decomp w e oldT row newT keep hne hnl hel).2, setTbl_entities,
    place_lookup _ e newT hle, hune]
  by_cases hi : i = e.id
  · rw [if_pos hi, if_pos hi]
  · rw [if_neg hi, if_neg hi, unplace_lookup h he ht i, if_neg hi]

theorem addMove_entities_len (w : World) (e : Ent) (oldT row newT : Nat) (keep : Mask) :
    (addMove w e oldT row newT keep).entities.length = w.entities.length := by
  rw [addMove, moveRowW_entities]
  simp only [setTbl_entities, List.length_set]
  split <;> simp only [List.length_modify]

theorem addMove_more (w : World) (e : Ent) (oldT row newT : Nat) (keep : Mask) :
    (addMove w e oldT row newT keep).relationArchetypes = w.relationArchetypes ∧
    (addMove w e oldT row newT keep).cache = w.cache := by
  rw [addMove_frame]; exact ⟨rfl, rfl⟩

theorem addMove_metaStep (w : World) (e : Ent) {oldT newT : Nat} (row : Nat) (keep : Mask)
    (hne : oldT ≠ newT) (hnl : newT < w.tables.length) (hol : oldT < w.tables.length)
    (hel : e.id < w.entities.length) : MetaStep w (addMove w e oldT row newT keep) := by
  obtain ⟨_, fk, fa, _⟩ := addMove_fields w e oldT row newT keep
  obtain ⟨fra, fc⟩ := addMove_more w e oldT row newT keep
  obtain ⟨tl, t1, t2, t3⟩ := addMove_tbl w e oldT row newT keep hne hnl hol hel
  refine ⟨fa, fk, fra, fc, tl, fun t _ => ?_⟩
  by_cases e1 : t = oldT
  · subst e1; rw [t1]; exact Table.remove_sameMeta _ _
  · by_cases e2 : t = newT
    · subst e2; rw [t2]
      exact (Table.add_sameMeta _ _).trans (copyRow_sameMeta _ _ _ _ _)
    · rw [t3 t e1 e2]; exact Table.SameMeta.refl _

theorem writeValsW_entities (w : World) (e : Ent) (vals : List (Comp × Val)) :
    (writeValsW w e vals).entities = w.entities := rfl

theorem writeValsW_pool (w : World) (e : Ent) (vals : List (Comp × Val)) :
    (writeValsW w e vals).pool = w.pool := rfl

theorem writeValsW_untouched (w : World) (e : Ent) (vals : List (Comp × Val)) :
    Untouched w (writeValsW w e vals) := ⟨rfl, rfl, rfl, rfl⟩

theorem writeValsW_metaStep (w : World) (e : Ent) (vals : List (Comp × Val)) :
    MetaStep w (writeValsW w e vals) :=
  MetaStep.of_set rfl rfl rfl rfl rfl (fun _ => writeFold_sameMeta _ _ _)

theorem writeValsW_tables_len (w : World) (e : Ent) (vals : List (Comp × Val)) :
    (writeValsW w e vals).tables.length = w.tables.length := (writeValsW_metaStep w e vals).len

end World

theorem Pool.lt_of_slot {p : Pool} {e : Ent} (h : p.ents[e.id]? = some e) : e.id < p.ents.length :=
  (List.getElem?_eq_some_iff.mp h).1

/-- the entity index and the entity pool describe the same set of live IDs (`fl` = the ghost
    free list of the pool); the memory behind the pool slice only holds invalidated handles -/
structure PLink (w : World) (fl : List Nat) : Prop where
  idx : IdxInv w
  pool : Pool.PInv w.pool fl
  stale : ∀ (e : Ent), e ∈ w.pool.stale → e.gen = maxU32
  lenEq : w.entities.length = w.pool.ents.length
  tgtLen : w.isTarget.length = w.entities.length
  freeUnindexed : ∀ (i : Nat), i ∈ fl → ∃ (r : Nat), w.entities[i]? = some (maxU32, r)
  reservedUnindexed : ∀ (i : Nat), i < 2 → ∃ (r : Nat), w.entities[i]? = some (maxU32, r)
  liveIndexed : ∀ (i : Nat), 2 ≤ i → i < w.entities.length → i ∉ fl →
    ∃ (t r : Nat), w.entities[i]? = some (t, r) ∧ t ≠ maxU32
  /-- `maxU32` as a table number means "no table" in the index: with this bound an existing
      table `t < w.tables.length` has `t ≠ maxU32` -/
  fewTables : w.tables.length ≤ maxU32

namespace PLink

variable {w : World} {fl : List Nat}

theorem aliveIff (h : PLink w fl) (e : Ent) (hnf : e.id ∉ fl) (hin : e.id < w.pool.ents.length) :
    w.alive e = true ↔ w.pool.ents[e.id]? = some e := by
  simp only [World.alive]
  exact h.pool.alive_iff_lt e hnf hin

theorem lt_of_in (h : PLink w fl) {e : Ent} (hin : e.id < w.pool.ents.length) :
    e.id < w.entities.length := by rw [h.lenEq]; exact hin

/-- the memory behind the slice only holds handles of generation `maxU32` -/
theorem alive_in (h : PLink w fl) {e : Ent} (ha : w.alive e = true) (hg : e.gen ≠ maxU32) :
    e.id < w.pool.ents.length := by
  rcases Nat.lt_or_ge e.id w.pool.ents.length with h1 | h1
  · exact h1
  · rw [World.alive, Pool.alive_beyond_stale h.stale hg h1] at ha
    cases ha

theorem alive_lt (h : PLink w fl) {e : Ent} (ha : w.alive e = true) (hg : e.gen ≠ maxU32) :
    e.id < w.entities.length := h.lt_of_in (h.alive_in ha hg)

/-- also behind the slice: liveness compares with the stored handle -/
theorem alive_inj (_h : PLink w fl) {e e' : Ent} (ha : w.alive e = true) (ha' : w.alive e' = true)
    (hid : e.id = e'.id) : e = e' := by
  simp only [World.alive, Pool.alive] at ha ha'
  rw [hid] at ha
  cases hs : (w.pool.ents ++ w.pool.stale)[e'.id]? with
  | none => rw [hs] at ha; cases ha
  | some s =>
    rw [hs] at ha ha'
    simp only [beq_iff_eq] at ha ha'
    cases e; cases e'; simp_all

theorem live_entry (h : PLink w fl) {e : Ent} (h2 : 2 ≤ e.id) (hnf : e.id ∉ fl)
    (ha : w.alive e = true) (hin : e.id < w.pool.ents.length) :
    ∃ (t r : Nat), w.entities[e.id]? = some (t, r) ∧ t ≠ maxU32 ∧ w.pool.ents[e.id]? = some e := by
  have hs := (h.aliveIff e hnf hin).mp ha
  obtain ⟨t, r, hi, ht⟩ := h.liveIndexed e.id h2 (h.lt_of_in hin) hnf
  exact ⟨t, r, hi, ht, hs⟩

theorem transfer {w' : World} (h : PLink w fl) (hidx : IdxInv w') (hpool : w'.pool = w.pool)
    (hent : IdxSame w w') (hit : w'.isTarget.length = w.isTarget.length)
    (hfew : w'.tables.length ≤ maxU32) : PLink w' fl where
  idx := hidx
  pool := by rw [hpool]; exact h.pool
  stale := by rw [hpool]; exact h.stale
  lenEq := by rw [hent.len, hpool]; exact h.lenEq
  tgtLen := by rw [hit, hent.len]; exact h.tgtLen
  freeUnindexed := by
    intro i hi
    obtain ⟨r, hr⟩ := h.freeUnindexed i hi
    rcases hent.entry i with he | ⟨t, r1, _, _, h1, h2, _⟩
    · exact ⟨r, by rw [he]; exact hr⟩
    · rw [hr] at h1
      exact absurd (Prod.mk.inj (Option.some.inj h1)).1.symm h2
  reservedUnindexed := by
    intro i hi
    obtain ⟨r, hr⟩ := h.reservedUnindexed i hi
    rcases hent.entry i with he | ⟨t, r1, _, _, h1, h2, _⟩
    · exact ⟨r, by rw [he]; exact hr⟩
    · rw [hr] at h1
      exact absurd (Prod.mk.inj (Option.some.inj h1)).1.symm h2
  liveIndexed := by
    intro i h2 hlt hnf
    rcases hent.entry i with he | ⟨_, _, t', r', _, _, h3, h4⟩
    · rw [he]; exact h.liveIndexed i h2 (by rw [← hent.len]; exact hlt) hnf
    · exact ⟨t', r', h3, h4⟩
  fewTables := hfew

end PLink

/-- what `placeNew` does (`w` before, `w'` after, `e` the handle the pool gave out, now in the new
    last row of table `t`); the ghost free list goes from `fl` to `fl.tail` -/
structure PlacedLink (w : World) (fl : List Nat) (t : Nat) (e : Ent) (w' : World) : Prop where
  link : PLink w' fl.tail
  ge2 : 2 ≤ e.id
  notin : e.id ∉ fl.tail
  idLe : e.id ≤ w.entities.length
  /-- the ID was not in use: a brand-new slot, or the head of the free list -/
  unused : (e.id = w.entities.length ∧ fl = [] ∧ e.gen = 0) ∨
    (e.id < w.entities.length ∧ fl = e.id :: fl.tail)
  alive : w'.alive e = true
  aliveFrame : ∀ (h : Ent), h.id ≠ e.id → w'.alive h = w.alive h
  /-- (for a handle behind the pool slice this fails: `getNew` overwrites the first cell of the
      memory `Reset` kept there) -/
  aliveMono : ∀ (h : Ent), h.id < w.pool.ents.length → w.alive h = true → w'.alive h = true
  frame : ∀ (j : Nat), j ≠ e.id → SameEnt w w' j
  lookup : ∀ (i : Nat), w'.entities[i]? =
    if i = e.id then some (t, (w.tbl t).len) else w.entities[i]?
  tables : w'.tables = w.tables.set t ((w.tbl t).add e).1
  comps : compsOf w' e.id = some (w.tbl t).ids
  zero : ∀ (c : Comp), c ∈ (w.tbl t).ids → valOf w' e.id c = some 0
  /-- every ID but the placed one keeps its target flag (the placed ID's starts `false` in a new
      slot; in a recycled one the `isTarget[id] = false` of `createEntity` resets it) -/
  flags : ∀ (i : Nat), i ≠ e.id → w'.isTarget.getD i false = w.isTarget.getD i false

/-- **placement**: `placeNew t rt` for an existing table `t` with room for one more row. -/
theorem PLink.placed {w : World} {fl : List Nat} (h : PLink w fl) {t : Nat}
    (hlt : t < w.tables.length) (rt : Bool) (hb : (w.tbl t).len + 1 < 2 ^ 32) :
    PlacedLink w fl t (w.pool.get).2 (placedW w t rt) := by
  -- `g`: the handle `pool.get` gives out; index and tables of `placedW` are `World.place`'s for it
  have g := Pool.get_spec w.pool fl h.pool
  obtain ⟨hE, hT⟩ := placedW_place w t rt
  have hTt := get_of_lt hlt
  have hSt := h.idx.shape t _ hTt
  have htm : t ≠ maxU32 := by have := h.fewTables; omega
  have hle : (w.pool.get).2.id ≤ w.entities.length := by
    rw [h.lenEq]; rcases g.cases with ⟨a, _⟩ | ⟨a, _⟩ <;> omega
  -- the new index: one entry written at the handle's ID, one cell longer only for a brand-new ID
  have hL : ∀ (i : Nat), (placedW w t rt).entities[i]? =
      if i = (w.pool.get).2.id then some (t, (w.tbl t).len) else w.entities[i]? := by
    intro i; rw [hE]; exact place_lookup w _ t hle i
  have hlen : (placedW w t rt).entities.length =
      if (w.pool.get).2.id = w.entities.length then w.entities.length + 1
      else w.entities.length := by
    rw [hE, place_entities]
    split
    · simp only [List.length_append, List.length_singleton]
    · simp only [List.length_set]
  -- the ID was unindexed (past the end, or free with table `maxU32`), so no row holds it and
  -- `IdxInv.place` applies
  have hmemfl : (w.pool.get).2.id = w.entities.length ∨ (w.pool.get).2.id ∈ fl := by
    rcases g.cases with ⟨a, _⟩ | ⟨_, b, _⟩
    · left; rw [h.lenEq]; exact a
    · right; rw [b]; exact List.mem_cons_self
  have hfree : ∀ (t' r' : Nat), w.entities[(w.pool.get).2.id]? = some (t', r') →
      w.tables.length ≤ t' := by
    intro t' r' hx
    rcases hmemfl with a | a
    · rw [a, List.getElem?_eq_none (Nat.le_refl _)] at hx; cases hx
    · obtain ⟨r, hr⟩ := h.freeUnindexed _ a
      rw [hr] at hx
      obtain ⟨rfl, _⟩ := Prod.mk.inj (Option.some.inj hx)
      exact h.fewTables
  have hidx : IdxInv (placedW w t rt) :=
    (h.idx.place (w.pool.get).2 hlt hb hle (h.idx.fresh_of_free _ hfree)).congr hE hT
  have hTab : (placedW w t rt).tables = w.tables.set t ((w.tbl t).add (w.pool.get).2).1 := by
    rw [hT, place_tables]
  have htlen : (placedW w t rt).tables.length = w.tables.length := by
    rw [hTab, List.length_set]
  -- frames: `get` only shrinks the stale memory; other IDs keep aliveness, components and values
  have hst' : ∀ (e : Ent), e ∈ (placedW w t rt).pool.stale → e.gen = maxU32 := by
    rw [placedW_pool]
    exact fun e he => h.stale e (Pool.get_stale_sub w.pool e he)
  have hAF : ∀ (x : Ent), x.id ≠ (w.pool.get).2.id → (placedW w t rt).alive x = w.alive x := by
    intro x hx
    show (placedW w t rt).pool.alive x = w.pool.alive x
    rw [placedW_pool]
    exact Pool.get_alive_frame w.pool fl h.pool x hx
  have hFr : ∀ (j : Nat), j ≠ (w.pool.get).2.id → SameEnt w (placedW w t rt) j :=
    fun j hj => (same_place h.idx _ t hle hj).congr hE hT
  have hlink : PLink (placedW w t rt) fl.tail := by
    refine
      { idx := hidx
        pool := by rw [placedW_pool]; exact g.pinv
        stale := hst'
        lenEq := by rw [hlen, placedW_pool, g.length, h.lenEq]
        tgtLen := ?_
        freeUnindexed := ?_
        reservedUnindexed := ?_
        liveIndexed := ?_
        fewTables := by rw [htlen]; exact h.fewTables }
    · rw [hlen, placedW_isTarget']
      split
      · simp only [List.length_append, List.length_singleton, h.tgtLen]
      · split
        · simp only [List.length_set, h.tgtLen]
        · exact h.tgtLen
    · intro i hi
      have hne : i ≠ (w.pool.get).2.id := fun hh => g.notin (hh ▸ hi)
      rw [hL, if_neg hne]
      exact h.freeUnindexed i (List.mem_of_mem_tail hi)
    · intro i hi
      have hne : i ≠ (w.pool.get).2.id := by have := g.ge2; omega
      rw [hL, if_neg hne]
      exact h.reservedUnindexed i hi
    -- `liveIndexed`: the placed ID is indexed at `t`; any other live ID was live before (below the
    -- old length, and neither the popped head nor in the tail)
    · intro i h2 hlt' hnf
      rw [hL]
      by_cases hne : i = (w.pool.get).2.id
      · rw [if_pos hne]
        exact ⟨t, _, rfl, htm⟩
      · rw [if_neg hne]
        rw [hlen] at hlt'
        rcases g.cases with ⟨a, b, _⟩ | ⟨a, b, _⟩
        · rw [h.lenEq.symm] at a
          rw [if_pos a] at hlt'
          exact h.liveIndexed i h2 (by omega) (by rw [b]; simp)
        · rw [h.lenEq.symm] at a
          rw [if_neg (by omega)] at hlt'
          refine h.liveIndexed i h2 hlt' ?_
          rw [b]
          intro hm
          rcases List.mem_cons.mp hm with hm | hm
          · exact hne hm
          · exact hnf hm
  -- the placed handle: indexed to the new last row of `t`, and alive since it fills its pool slot
  have hentE : (placedW w t rt).entities[(w.pool.get).2.id]? = some (t, (w.tbl t).len) := by
    rw [hL, if_pos rfl]
  have htabE : (placedW w t rt).tables[t]? = some ((w.tbl t).add (w.pool.get).2).1 := by
    rw [hTab]; exact List.getElem?_set_self hlt
  have hsl : (placedW w t rt).pool.ents[(w.pool.get).2.id]? = some (w.pool.get).2 := by
    rw [placedW_pool]; exact g.slot
  have halive : (placedW w t rt).alive (w.pool.get).2 = true :=
    (hlink.aliveIff (w.pool.get).2 g.notin (List.getElem?_eq_some_iff.mp hsl).1).mpr hsl
  refine
    { link := hlink
      ge2 := g.ge2
      notin := g.notin
      idLe := hle
      unused := ?_
      alive := halive
      aliveFrame := hAF
      aliveMono := ?_
      frame := hFr
      lookup := hL
      tables := hTab
      comps := ?_
      zero := ?_
      flags := ?_ }
  · rcases g.cases with ⟨a, b, c⟩ | ⟨a, b, _⟩
    · exact Or.inl ⟨by rw [h.lenEq]; exact a, b, c⟩
    · exact Or.inr ⟨by rw [h.lenEq]; exact a, b⟩
  · intro x hxin hx
    by_cases hxe : x.id = (w.pool.get).2.id
    · -- the recycled slot keeps its generation; a new slot lies behind the slice
      have hxa := hx
      rw [World.alive, Pool.alive_of_lt x hxin] at hxa
      rcases g.cases with ⟨a, _, _⟩ | ⟨_, _, s, hs, hsg⟩
      · rw [hxe, a] at hxin; exact absurd hxin (Nat.lt_irrefl _)
      · rw [hxe, hs] at hxa
        have : x = (w.pool.get).2 := by
          have h1 : s.gen = x.gen := by simpa using hxa
          cases hx' : x; cases hg' : (w.pool.get).2
          rw [hx', hg'] at hxe; rw [hx'] at h1; rw [hg'] at hsg
          simp only at hxe h1 hsg
          subst hxe; rw [← h1, hsg]
        rw [this]; exact halive
    · rw [hAF x hxe]; exact hx
  · rw [compsOf_of_entry hentE htm htabE, Table.add_ids]
  -- `zero`: `Table.add` zero-fills the new row, which is where the index sends the ID
  · intro c hc
    obtain ⟨j, hj⟩ := colIdx_some_iff_mem.mpr hc
    have hjN : ((w.tbl t).add (w.pool.get).2).1.colIdx c = some j := by
      simp only [Table.colIdx, Table.add_ids]; exact hj
    have hzero : ((w.tbl t).add (w.pool.get).2).1.cell j (w.tbl t).len = 0 := by
      have := Table.add_new_row_zero hSt (w.pool.get).2 j
      rw [Table.add_snd] at this; exact this
    rw [valOf_of_entry hentE htm htabE, Table.getComp, hjN, Option.map_some, hzero]
  -- `flags`, by the shape of the new `isTarget`: `false` appended, reset at the placed ID, or same
  · intro i hi
    rw [placedW_isTarget']
    split
    · rename_i he
      rw [List.getD_eq_getElem?_getD, List.getD_eq_getElem?_getD]
      rcases Nat.lt_or_ge i w.isTarget.length with h1 | h1
      · rw [List.getElem?_append_left h1]
      · have : i ≠ w.isTarget.length := by rw [h.tgtLen, ← he]; exact hi
        rw [List.getElem?_eq_none h1, List.getElem?_eq_none (by simp; omega)]
    · split
      · rw [List.getD_eq_getElem?_getD, List.getD_eq_getElem?_getD,
          List.getElem?_set_ne (fun hh => hi hh.symm)]
      · rfl

/-- what the removal block of `RemoveEntity` does to the live `e` in row `row` of table `t` (`w`
    before, `w'` after); the ghost free list goes from `fl` to `e.id :: fl` -/
structure RemovedLink (w : World) (fl : List Nat) (e : Ent) (t row : Nat) (w' : World) : Prop where
  link : PLink w' (e.id :: fl)
  entry : w.entities[e.id]? = some (t, row)
  tne : t ≠ maxU32
  slot : w.pool.ents[e.id]? = some e
  dead : w'.alive e = false
  aliveFrame : ∀ (h : Ent), h.id ≠ e.id → w'.alive h = w.alive h
  frame : ∀ (j : Nat), j ≠ e.id → SameEnt w w' j
  unindexed : w'.entities[e.id]? = some (maxU32, row)
  /-- every other index entry is unchanged or is the swapped entity's (same table, new row) -/
  lookup : ∀ (i : Nat), i ≠ e.id →
    (w'.entities[i]? = some (t, row) ∧ w.entities[i]? = some (t, (w.tbl t).len - 1)) ∨
    w'.entities[i]? = w.entities[i]?
  tables : w'.tables = w.tables.set t ((w.tbl t).remove row).1
  rowLt : row < (w.tbl t).len

/-- **removal**: the removal block of `RemoveEntity` for a live handle in any table. -/
theorem PLink.removed {w : World} {fl : List Nat} (h : PLink w fl) {e : Ent} (h2 : 2 ≤ e.id)
    (hnf : e.id ∉ fl) (ha : w.alive e = true) (hin : e.id < w.pool.ents.length) :
    ∃ (t row : Nat), w.index e.id = (t, row) ∧ RemovedLink w fl e t row (removeRowOf w e t row) := by
  obtain ⟨t, row, he, ht, hs⟩ := h.live_entry h2 hnf ha hin
  refine ⟨t, row, index_of_get he, ?_⟩
  obtain ⟨hTt, hrow, hid⟩ := h.idx.indexed he ht
  -- the removed world is `unplace` on index and tables, `recycle` on the pool (`hE`, `hT`, `hP`):
  -- every fact below is read off one of the three
  obtain ⟨rp, rslot, rother, rlen, rstale, _⟩ := Pool.recycle_spec w.pool fl e h.pool h2 hnf hs
  have hE := removeRowOf_entities w e t row
  have hT := removeRowOf_tables w e t row
  have hP := removeRowOf_pool w e t row
  -- the index at the other IDs: only the entity swapped in from the last row moves, to `row`;
  -- `hse` is its old entry
  have hse := h.idx.rowIdx t _ ((w.tbl t).len - 1) hTt (by omega)
  have hL : ∀ (i : Nat), i ≠ e.id →
      ((removeRowOf w e t row).entities[i]? = some (t, row) ∧
        w.entities[i]? = some (t, (w.tbl t).len - 1)) ∨
      (removeRowOf w e t row).entities[i]? = w.entities[i]? := by
    intro i hi
    rw [hE, unplace_lookup h.idx he ht i, if_neg hi]
    by_cases hc : row ≠ (w.tbl t).len - 1 ∧ i = ((w.tbl t).getEntity ((w.tbl t).len - 1)).id
    · rw [if_pos hc]; left; exact ⟨rfl, by rw [hc.2]; exact hse⟩
    · rw [if_neg hc]; right; rfl
  have hLe : (removeRowOf w e t row).entities[e.id]? = some (maxU32, row) := by
    rw [hE, unplace_lookup h.idx he ht e.id, if_pos rfl]
  have hlen : (removeRowOf w e t row).entities.length = w.entities.length := by
    rw [hE, unplace_entities]; split <;> simp only [List.length_modify]
  have hTab : (removeRowOf w e t row).tables = w.tables.set t ((w.tbl t).remove row).1 := by
    rw [hT, unplace_tables]
  have htlen : (removeRowOf w e t row).tables.length = w.tables.length := by
    rw [hTab, List.length_set]
  have hst' : ∀ (x : Ent), x ∈ (removeRowOf w e t row).pool.stale → x.gen = maxU32 := by
    rw [hP, rstale]; exact h.stale
  have hAF : ∀ (x : Ent), x.id ≠ e.id → (removeRowOf w e t row).alive x = w.alive x := by
    intro x hx
    show (removeRowOf w e t row).pool.alive x = w.pool.alive x
    rw [hP]
    exact Pool.alive_congr_slot x rstale rlen (rother x.id hx)
  -- the invariant with `e.id` pushed on the free list; its three index clauses go through `hL`
  have hlink : PLink (removeRowOf w e t row) (e.id :: fl) := by
    refine
      { idx := h.idx.removeRowOf he ht
        pool := by rw [hP]; exact rp
        stale := hst'
        lenEq := by rw [hlen, hP, rlen]; exact h.lenEq
        tgtLen := by rw [hlen, removeRowOf_isTarget]; exact h.tgtLen
        freeUnindexed := ?_
        reservedUnindexed := ?_
        liveIndexed := ?_
        fewTables := by rw [htlen]; exact h.fewTables }
    -- free and reserved IDs stay unindexed: none of them is the swapped entity, whose old entry
    -- is in the table `t ≠ maxU32`
    · intro i hi
      rcases List.mem_cons.mp hi with rfl | hi
      · exact ⟨row, hLe⟩
      · have hne : i ≠ e.id := fun hh => hnf (hh ▸ hi)
        obtain ⟨r, hr⟩ := h.freeUnindexed i hi
        rcases hL i hne with ⟨_, b⟩ | b
        · rw [hr] at b
          exact absurd (Prod.mk.inj (Option.some.inj b)).1.symm ht
        · exact ⟨r, by rw [b]; exact hr⟩
    · intro i hi
      have hne : i ≠ e.id := by omega
      obtain ⟨r, hr⟩ := h.reservedUnindexed i hi
      rcases hL i hne with ⟨_, b⟩ | b
      · rw [hr] at b
        exact absurd (Prod.mk.inj (Option.some.inj b)).1.symm ht
      · exact ⟨r, by rw [b]; exact hr⟩
    -- a live ID other than `e.id`: the swapped entity is indexed to `(t, row)`, any other as before
    · intro i hi2 hlt' hnf'
      have hne : i ≠ e.id := fun hh => hnf' (by rw [hh]; exact List.mem_cons_self)
      have hnf'' : i ∉ fl := fun hh => hnf' (List.mem_cons_of_mem _ hh)
      rcases hL i hne with ⟨a, _⟩ | b
      · exact ⟨t, row, a, ht⟩
      · rw [b]; exact h.liveIndexed i hi2 (by rw [← hlen]; exact hlt') hnf''
  refine
    { link := hlink
      entry := he
      tne := ht
      slot := hs
      dead := ?_
      aliveFrame := hAF
      frame := fun j hj => remove_frame h.idx he ht hj
      unindexed := hLe
      lookup := hL
      tables := hTab
      rowLt := hrow }
  -- `e` is dead: `recycle` bumped the generation in its slot, so the handle no longer matches it
  show (removeRowOf w e t row).pool.alive e = false
  rw [Pool.alive_of_lt e (by rw [hP, rlen]; exact hin), hP, rslot]
  show (e.gen + 1 == e.gen) = false
  simp

theorem PLink.indexed_live {w : World} {fl : List Nat} (h : PLink w fl) {i t r : Nat}
    (hi : w.entities[i]? = some (t, r)) (ht : t ≠ maxU32) : 2 ≤ i ∧ i ∉ fl := by
  constructor
  · rcases Nat.lt_or_ge i 2 with h1 | h1
    · obtain ⟨r', hr'⟩ := h.reservedUnindexed i h1
      rw [hr'] at hi
      exact absurd (Prod.mk.inj (Option.some.inj hi)).1 (fun e => ht e.symm)
    · exact h1
  · intro hm
    obtain ⟨r', hr'⟩ := h.freeUnindexed i hm
    rw [hr'] at hi
    exact absurd (Prod.mk.inj (Option.some.inj hi)).1 (fun e => ht e.symm)

/-- **tables → index**: the entity in a live row of a table has a live ID (not reserved, not on
    the free list) that is indexed to exactly that row.  (That the stored handle also carries
    the current generation is not a consequence: the index knows IDs only.) -/
theorem PLink.row_live_id {w : World} {fl : List Nat} (h : PLink w fl) {t r : Nat}
    (ht : t < w.tables.length) (hr : r < (w.tbl t).len) :
    2 ≤ ((w.tbl t).getEntity r).id ∧ ((w.tbl t).getEntity r).id ∉ fl ∧
    w.entities[((w.tbl t).getEntity r).id]? = some (t, r) := by
  have hx := h.idx.rowIdx t _ r (get_of_lt ht) hr
  obtain ⟨h2, hnf⟩ := h.indexed_live hx (Nat.ne_of_lt (Nat.lt_of_lt_of_le ht h.fewTables))
  exact ⟨h2, hnf, hx⟩

/-- an ID that is reserved, beyond the pool slice or on the free list has no entry into a table -/
theorem PLink.not_live {w : World} {fl : List Nat} (h : PLink w fl) {i : Nat}
    (hi : i < 2 ∨ w.pool.ents.length ≤ i ∨ i ∈ fl) (t r : Nat)
    (hh : w.entities[i]? = some (t, r)) : t = maxU32 :=
  Decidable.byContradiction fun ht => by
    obtain ⟨h2, hnf⟩ := h.indexed_live hh ht
    have hlt := h.lenEq ▸ (List.getElem?_eq_some_iff.mp hh).1
    rcases hi with a | a | a
    · exact Nat.not_lt.mpr h2 a
    · exact Nat.not_lt.mpr a hlt
    · exact hnf a

/-- with only the reserved slots left no ID is indexed to a table -/
theorem PLink.unindexed {w : World} (h : PLink w []) (hlen : w.entities.length = 2) (i : Nat) :
    (∀ (t r : Nat), w.entities[i]? = some (t, r) → t = maxU32) ∧ compsOf w i = none ∧
    ∀ (c : Comp), valOf w i c = none :=
  have hnone := h.not_live (i := i) ((Nat.lt_or_ge i 2).imp_right fun a =>
    Or.inl (h.lenEq ▸ hlen ▸ a))
  ⟨hnone, not_indexed hnone⟩

theorem PLink.congr {w w' : World} {fl : List Nat} (h : PLink w fl) (hidx : IdxInv w')
    (hp : w'.pool = w.pool) (he : w'.entities = w.entities)
    (hit : w'.isTarget.length = w.isTarget.length) (htl : w'.tables.length = w.tables.length) :
    PLink w' fl :=
  h.transfer hidx hp (IdxSame.of_eq he) hit (by rw [htl]; exact h.fewTables)

/-- what the move of `e` from row `row` of `oldT` to the table `newT` does (`w1` before, `w2`
    after) -/
structure MovedRow (w1 : World) (fl : List Nat) (e : Ent) (oldT row newT : Nat) (keep : Mask)
    (w2 : World) : Prop where
  link : PLink w2 fl
  step : MetaStep w1 w2
  untouched : Untouched w1 w2
  pool : w2.pool = w1.pool
  entitiesLen : w2.entities.length = w1.entities.length
  others : ∀ (t : Nat), t ≠ oldT → t ≠ newT → w2.tbl t = w1.tbl t
  entry : w2.entities[e.id]? = some (newT, (w1.tbl newT).len)
  /-- every other index entry is unchanged or is the swapped entity's (same table, new row) -/
  lookup : ∀ (i : Nat), i ≠ e.id →
    (w2.entities[i]? = some (oldT, row) ∧ w1.entities[i]? = some (oldT, (w1.tbl oldT).len - 1)) ∨
    w2.entities[i]? = w1.entities[i]?
  frame : ∀ (j : Nat), j ≠ e.id → SameEnt w1 w2 j
  comps : compsOf w2 e.id = some (w1.tbl newT).ids
  /-- a component of the new table keeps its value if it is kept and the old table had it, else
      reads zero -/
  vals : ∀ (c : Comp), (w1.tbl newT).has c = true → valOf w2 e.id c =
    if keep.get c = true ∧ (w1.tbl oldT).has c = true then valOf w1 e.id c else some 0

/-- **the move**: "add `e` to `newT`, then `moveRow`" (the tail of `add` / `remove` / `exchange` /
    `setRelations`).  `hz` as in `move_keeps_values`: a component has the same zero-size flag in
    both tables. -/
theorem PLink.moved {w1 : World} {fl : List Nat} (h : PLink w1 fl) {e : Ent}
    {oldT row newT : Nat} (keep : Mask) (he1 : w1.entities[e.id]? = some (oldT, row))
    (htm : oldT ≠ maxU32) (hne : oldT ≠ newT) (hnl : newT < w1.tables.length)
    (hb1 : (w1.tbl newT).len + 1 < 2 ^ 32)
    (hz : ∀ (c : Comp) (i j : Nat), (w1.tbl oldT).colIdx c = some i →
      (w1.tbl newT).colIdx c = some j →
      (w1.tbl newT).zst.getD j false = (w1.tbl oldT).zst.getD i false) :
    MovedRow w1 fl e oldT row newT keep (addMove w1 e oldT row newT keep) := by
  have hI1 := h.idx
  have hel1 : e.id < w1.entities.length := (List.getElem?_eq_some_iff.1 he1).1
  obtain ⟨hTo, hrow, _⟩ := hI1.indexed he1 htm
  have hlt1 := lt_of_get hTo
  have hntm : newT ≠ maxU32 := Nat.ne_of_lt (Nat.lt_of_lt_of_le hnl h.fewTables)
  obtain ⟨fp, _, _, fu⟩ := addMove_fields w1 e oldT row newT keep
  have ms := addMove_metaStep w1 e row keep hne hnl hlt1 hel1
  have hoth := (addMove_tbl w1 e oldT row newT keep hne hnl hlt1 hel1).2.2.2
  have hI2 := hI1.addMove keep hne he1 htm hnl hb1
  have hL := addMove_lookup hI1 keep hne he1 htm hnl hb1
  have elen := addMove_entities_len w1 e oldT row newT keep
  have hvals := fun (c : Comp) => move_keeps_values hI1 keep hne he1 htm hnl hntm hb1 hz (c := c)
  have hframe := fun (j : Nat) => move_frame hI1 keep hne he1 htm hnl hb1 (j := j)
  -- only the facts collected so far are used: the moved world becomes a variable
  generalize addMove w1 e oldT row newT keep = w2 at *
  have hse := hI1.rowIdx oldT _ ((w1.tbl oldT).len - 1) hTo
    (Nat.sub_lt (Nat.zero_lt_of_lt hrow) Nat.one_pos)
  have hent : w2.entities[e.id]? = some (newT, (w1.tbl newT).len) := by rw [hL, if_pos rfl]
  have hlook : ∀ (i : Nat), i ≠ e.id →
      (w2.entities[i]? = some (oldT, row) ∧ w1.entities[i]? = some (oldT, (w1.tbl oldT).len - 1)) ∨
      w2.entities[i]? = w1.entities[i]? := by
    intro i hi
    rw [hL i, if_neg hi]
    by_cases hsw : row ≠ (w1.tbl oldT).len - 1 ∧ i = ((w1.tbl oldT).getEntity ((w1.tbl oldT).len - 1)).id
    · rw [if_pos hsw]; exact Or.inl ⟨rfl, hsw.2 ▸ hse⟩
    · rw [if_neg hsw]; exact Or.inr rfl
  have hIS : IdxSame w1 w2 := by
    refine ⟨elen, fun i => ?_⟩
    by_cases hi : i = e.id
    · exact Or.inr ⟨oldT, row, newT, _, hi ▸ he1, htm, hi ▸ hent, hntm⟩
    · rcases hlook i hi with ⟨a, b⟩ | b
      · exact Or.inr ⟨oldT, _, oldT, row, b, htm, a, htm⟩
      · exact Or.inl b
  exact
    { link := h.transfer hI2 fp hIS (by rw [fu.isTarget]) (ms.len ▸ h.fewTables)
      step := ms
      untouched := fu
      pool := fp
      entitiesLen := elen
      others := hoth
      entry := hent
      lookup := hlook
      frame := fun j hj => ⟨(hframe j hj).1, (hframe j hj).2⟩
      comps := by
        rw [compsOf_of_entry hent hntm (get_of_lt (ms.len ▸ hnl)), (ms.tmeta newT hnl).ids]
      vals := fun c hc => hvals c hc }

/-- what the writes of `Set` / `Add` / `NewEntity` do (`t` = the table of `e`) -/
structure Written (w : World) (fl : List Nat) (e : Ent) (t : Nat) (vals : List (Comp × Val))
    (w' : World) : Prop where
  link : PLink w' fl
  step : MetaStep w w'
  tables : ∃ (T' : Table), w'.tables = w.tables.set t T' ∧ T'.len = (w.tbl t).len ∧
    T'.ids = (w.tbl t).ids
  rowsLen : ∀ (t' : Nat), (w'.tbl t').len = (w.tbl t').len
  frame : ∀ (j : Nat), j ≠ e.id → SameEnt w w' j
  unwritten : ∀ (c : Comp), (∀ cv ∈ vals, cv.1 ≠ c) → valOf w' e.id c = valOf w e.id c
  comps : compsOf w' e.id = compsOf w e.id

theorem PLink.writeVals {w : World} {fl : List Nat} (h : PLink w fl) {e : Ent} {t row : Nat}
    (he : w.entities[e.id]? = some (t, row)) (ht : t ≠ maxU32) (vals : List (Comp × Val)) :
    Written w fl e t vals (writeValsW w e vals) := by
  obtain ⟨hT, hrow, _⟩ := h.idx.indexed he ht
  have hlt := lt_of_get hT
  have hw := writeVals_writeRel (w.tbl t) row vals hrow
  obtain ⟨f1, f2, f3⟩ := write_frame h.idx e vals he ht
  have ms := writeValsW_metaStep w e vals
  have hI := h.idx.writeVals e vals he ht
  rw [writeValsW_at he] at f1 f2 f3 ms hI ⊢
  exact
    { link := h.transfer hI rfl (IdxSame.of_eq rfl) rfl (ms.len ▸ h.fewTables)
      step := ms
      tables := ⟨_, rfl, hw.len, hw.ids⟩
      rowsLen := fun t' => by
        by_cases htt : t' = t
        · subst htt; rw [setTbl_tbl_self _ hlt]; exact hw.len
        · rw [setTbl_tbl_ne w _ (Ne.symm htt)]
      frame := fun j hj => ⟨(f1 j hj).1, (f1 j hj).2⟩
      unwritten := f2
      comps := f3 }

end Ark
