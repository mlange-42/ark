/-
  Along the histories of the machine of `Ark.Proofs.RelRefine2Machine`: no generation of a
  non-reserved pool slot exceeds the number of operations (every step is at most one `PoolStep`), so no
  issued handle carries the sentinel generation `maxU32` (§1); and what Ark/Props/C01Rel.lean needs
  beside the invariant (§2: `Op2.isQuiet`, equal index and tables give equal components, values and
  targets).
-/
import Ark.Proofs.RelRefine2Reset

section

/-! ## §1 generations along histories

What `Ark.Refine.reach_genBound` is for the relation-free machine.  `maxU32` is the generation
  `Reset` writes into the memory it keeps behind the pool slice.
-/

set_option autoImplicit false

namespace Ark
namespace RelRefine2

open World Ark.Props.C01World QueryRel QueryExact RelRefine
open Refine (PoolStep GenBound)

theorem step2_poolStep (run : ProbeRunner) {s : St} {fl : List Nat} (H : HInv2 s fl)
    (hfew : s.w.tables.length + s.w.relationArchetypes.length + 1 ≤ maxU32)
    (hent : 2 * s.w.entities.length < 2 ^ 32) (op : Op2) :
    PoolStep s.w.pool (step2 run s op).w.pool := by
  have cf : ∀ {w' : World}, SameButCF s.w w' → PoolStep s.w.pool w'.pool := by
    intro w' hs
    obtain ⟨_, _, _, _, _, _, h7, _⟩ := sameButCF_fields hs
    exact Or.inl h7
  cases op with
  | base op => exact (step_pool run H.base hfew hent op).2
  | copy e =>
    by_cases hi : e ∈ s.issued
    case neg =>
      simp only [step2, decide_eq_true_eq, if_neg hi]
      exact Or.inl rfl
    obtain ⟨acc, rej⟩ := step2_copy_eq run H hent hi
    cases hf : find s.ss.ents e with
    | none => rw [(rej hf).2]; exact Or.inl rfl
    | some en =>
      obtain ⟨w', _, post, hstep⟩ := acc en hf
      rw [hstep]
      exact Or.inr (Or.inl post.pool)
  | shrink bounded =>
    obtain ⟨hstep, _, hrel⟩ := step2_shrink_eq run H hent bounded
    rw [hstep]
    exact Or.inl hrel.frame.pool
  | reset =>
    have post := step2_reset_spec run H
    rw [post.state]
    exact Or.inr (Or.inr (Or.inr (resetW_pool s.w)))
  | fdef f fo =>
    simp only [step2]
    split
    · exact cf (defFilter_sameButCF f fo s.w).1
    · exact Or.inl rfl
  | freg f => exact cf (H.finv.filterRegister H.base.tinv f).2.1
  | funreg f => exact cf (H.finv.filterUnregister H.base.tinv f).2.1
  | query f extra =>
    rcases step2_query_eq run H f extra with h | ⟨l2, _, h⟩ <;> rw [h] <;> exact Or.inl rfl

theorem reach2_genBound_take (run : ProbeRunner) (cap rel : Nat) (ops : List Op2)
    (hlen : ops.length < 2 ^ 16) : ∀ (n : Nat), n ≤ ops.length →
    GenBound n (reach2 run cap rel (ops.take n)).w.pool
  | 0, _ => Refine.GenBound.init
  | n + 1, hn => by
    have ih := reach2_genBound_take run cap rel ops hlen n (by omega)
    have hlt : n < ops.length := by omega
    have htake : ops.take (n + 1) = ops.take n ++ [ops[n]] := by
      rw [List.take_add_one, List.getElem?_eq_getElem hlt]; rfl
    have hl : (ops.take n).length = n := by rw [List.length_take]; omega
    obtain ⟨fl, H⟩ := reach2_inv run cap rel (ops.take n) (by rw [hl]; omega)
    obtain ⟨hfew, hent⟩ := reach2_fits run cap rel (ops.take n) (by rw [hl]; omega)
    rw [htake, reach2_snoc]
    exact ih.step H.base.ginv.pinv (step2_poolStep run H hfew hent _)

theorem reach2_genBound (run : ProbeRunner) (cap rel : Nat) (ops : List Op2)
    (hlen : ops.length < 2 ^ 16) : GenBound ops.length (reach2 run cap rel ops).w.pool := by
  have := reach2_genBound_take run cap rel ops hlen ops.length (Nat.le_refl _)
  rwa [List.take_length] at this

theorem reach2_issued_gen (run : ProbeRunner) (cap rel : Nat) (ops : List Op2)
    (hlen : ops.length < 2 ^ 16) :
    ∀ (h : Ent), h ∈ (reach2 run cap rel ops).issued → h.gen ≤ ops.length ∧ h.gen ≠ maxU32 := by
  obtain ⟨fl, H⟩ := reach2_inv run cap rel ops hlen
  exact (reach2_genBound run cap rel ops hlen).issued H.base.ginv
    (Nat.lt_trans hlen (by simp only [maxU32]; omega))

end RelRefine2
end Ark

end

section

/-! ## §2 what the property theorems need beside the invariant -/

set_option autoImplicit false

namespace Ark
namespace RelRefine2

open World Ark.Props.C01World QueryRel QueryExact RelRefine

/-- the operations that are not about entities: `Shrink`, the filter operations, queries -/
def Op2.isQuiet : Op2 → Bool
  | .base _ => false
  | .copy _ => false
  | .reset => false
  | _ => true

theorem same_of_tables {w w' : World} (he : w'.entities = w.entities) (ht : w'.tables = w.tables)
    (j : Nat) : SameEnt w w' j ∧ ∀ (c : Comp), targetOf w' j c = targetOf w j c :=
  ⟨⟨fun c => valOf_congr he ht j c, compsOf_congr he ht j⟩,
    fun c => by simp only [targetOf, he, ht]⟩

end RelRefine2
end Ark

end

