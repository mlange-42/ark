/-
  Ark.Proofs.Codec — the binary (big endian, 8 bytes) and JSON (`[id, gen]`) forms of an entity
  handle decode to what was encoded; malformed binary input is rejected exactly when its length
  is not 8.
-/
import Ark.Model.Codec

namespace Ark
namespace Codec

/-- byte lane `k … k+7` of a word, cut out and put back in place -/
theorem getLsbD_lane (v : BitVec 32) (k i : Nat) :
    (((v >>> k).setWidth 8).setWidth 32 <<< k).getLsbD i =
      (decide (k ≤ i ∧ i < k + 8) && v.getLsbD i) := by
  simp only [BitVec.getLsbD_shiftLeft, BitVec.getLsbD_setWidth, BitVec.getLsbD_ushiftRight]
  by_cases hk : k ≤ i
  · rw [Nat.add_sub_cancel' hk]
    cases hv : v.getLsbD i
    · simp
    · have := BitVec.lt_of_getLsbD hv
      have e : (i - k < 8) = (i < k + 8) := by apply propext; omega
      have h2 : i - k < 32 := by omega
      simp [hk, this, e, h2, Nat.not_lt.mpr hk]
  · simp [hk, Nat.lt_of_not_le hk]

/-- `binary.BigEndian.Uint32 ∘ binary.BigEndian.PutUint32 = id`: the four lanes cover the word. -/
theorem getU32_putU32 (v : BitVec 32) :
    getU32 ((v >>> 24).setWidth 8) ((v >>> 16).setWidth 8) ((v >>> 8).setWidth 8)
      (v.setWidth 8) = v := by
  apply BitVec.eq_of_getLsbD_eq
  intro i hi
  have h0 := getLsbD_lane v 0 i
  rw [BitVec.ushiftRight_zero, BitVec.shiftLeft_zero] at h0
  simp only [getU32, BitVec.getLsbD_or, getLsbD_lane, h0]
  cases v.getLsbD i
  · simp
  · simp; omega

theorem getU32_of_putU32 (v : U32) (a b c d : Byte) (h : putU32 v = [a, b, c, d]) :
    getU32 a b c d = v := by
  simp only [putU32, List.cons.injEq, and_true] at h
  obtain ⟨rfl, rfl, rfl, rfl⟩ := h
  exact getU32_putU32 v

theorem unmarshal_marshal (id gen : U32) :
    unmarshalBinary (marshalBinary id gen) = some (id, gen) := by
  simp only [marshalBinary, putU32, List.cons_append, List.nil_append, unmarshalBinary,
    getU32_putU32]

theorem marshal_length (id gen : U32) : (marshalBinary id gen).length = 8 := rfl

theorem appendBinary_eq (buf : List Byte) (id gen : U32) :
    appendBinary buf id gen = buf ++ marshalBinary id gen := by
  simp only [appendBinary, marshalBinary, List.append_assoc]

theorem unmarshal_append (buf : List Byte) (id gen : U32) :
    unmarshalBinary ((appendBinary buf id gen).drop buf.length) = some (id, gen) := by
  rw [appendBinary_eq, List.drop_left, unmarshal_marshal]

theorem unmarshal_none_iff (data : List Byte) :
    unmarshalBinary data = none ↔ data.length ≠ 8 := by
  unfold unmarshalBinary
  split
  · simp
  · rename_i h
    constructor
    · intro _ hl
      match data, hl with
      | [a0, a1, a2, a3, b0, b1, b2, b3], _ => exact h _ _ _ _ _ _ _ _ rfl
    · intro _; rfl

theorem marshal_injective {a b c d : U32} (h : marshalBinary a b = marshalBinary c d) :
    a = c ∧ b = d := by
  have := congrArg unmarshalBinary h
  rw [unmarshal_marshal, unmarshal_marshal] at this
  injection this with this
  injection this with h1 h2
  exact ⟨h1, h2⟩

theorem unmarshalJSON_marshalJSON (id gen : U32) :
    unmarshalJSON (marshalJSON id gen) = some (id, gen) := by
  simp [unmarshalJSON, marshalJSON, id.isLt, gen.isLt]

end Codec
end Ark
