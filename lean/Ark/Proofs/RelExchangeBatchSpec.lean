/-
  `exchangeBatch` with relations against `Exchange` applied to every selected entity: both satisfy
  `XchgAllPost` for the entities in the rows of the selected tables, so batch = singles
  (observationally: same liveness, components, values and relation targets for every ID).
-/
import Ark.Proofs.BatchRelSingles
import Ark.Proofs.RelExchangeBatchLoops
import Ark.Proofs.RelExchangeOp

set_option autoImplicit false

namespace Ark

open World Ark.Props.C01World QueryRel

/-! ## 1. the postcondition -/

/-- the observable outcome of `Exchange(add, rem, rels)` (no values written) on the entities `es` -/
structure XchgAllPost (w : World) (fl : List Nat) (es : List Ent) (add rem : List Comp)
    (rels : List RelID) (w' : World) : Prop where
  tinv : TInv w' fl
  aliveSame : ∀ (x : Ent), w'.alive x = w.alive x
  comps : ∀ (e : Ent), e ∈ es → ∀ (cs : List Comp), compsOf w e.id = some cs →
    compsOf w' e.id =
      some (Refine.sortedIds w.kinds.length ((cs.filter fun c => decide (c ∉ rem)) ++ add))
  kept : ∀ (e : Ent), e ∈ es → ∀ (c : Comp) (v : Val), valOf w e.id c = some v → c ∉ rem →
    valOf w' e.id c = some v
  added : ∀ (e : Ent), e ∈ es → ∀ (c : Comp), c ∈ add → valOf w' e.id c = some 0
  /-- **the relation targets afterwards**: the old ones on the components that stay, and the given
      ones — no other -/
  targetIff : ∀ (e : Ent), e ∈ es → ∀ (c : Comp) (x : Ent), targetOf w' e.id c = some x ↔
    ((c ∉ rem ∧ targetOf w e.id c = some x) ∨ (⟨c, x⟩ : RelID) ∈ rels)
  frame : ∀ (j : Nat), j ∉ es.map (·.id) →
    SameEnt w w' j ∧ ∀ (c : Comp), targetOf w' j c = targetOf w j c
  obs : w'.obs = w.obs
  unlocked : w'.isLocked = w.isLocked
  kinds : w'.kinds = w.kinds
  entitiesLen : w'.entities.length = w.entities.length

theorem mem_ids_of_valOf {w : World} {i t r : Nat} (hi : w.entities[i]? = some (t, r))
    (ht : t ≠ maxU32) (hT : w.tables[t]? = some (w.tbl t)) {c : Comp} {v : Val}
    (hv : valOf w i c = some v) : c ∈ (w.tbl t).ids := by
  rw [valOf_of_entry hi ht hT, Table.getComp] at hv
  cases hci : (w.tbl t).colIdx c with
  | none => rw [hci] at hv; cases hv
  | some k => exact colIdx_some_iff_mem.1 ⟨k, hci⟩

/-! ## rows hold alive handles, through the moves -/

/-- one table move keeps "rows hold alive handles": the handles of the source rows sit behind the
    old rows of the destination, the pool is untouched -/
theorem TableMovedRel.rows {w : World} {fl : List Nat} {rels : List RelID} {src dst : Nat}
    {w' : World} (tp : TableMovedRel w fl rels src dst w') (hR : RowsAlive w) : RowsAlive w' := by
  apply rowsAlive_of_tbl
  intro t r hr
  have hal : ∀ (x : Ent), w'.alive x = w.alive x := fun x => by simp only [World.alive, tp.pool]
  by_cases h1 : t = src
  · subst h1; rw [tp.srcEmpty] at hr; omega
  · by_cases h2 : t = dst
    · subst h2
      rw [tp.dstLen] at hr
      rw [tp.dstRows r hr, hal]
      split
      · rename_i hlt; exact hR.tbl hlt
      · exact hR.tbl (by omega)
    · rw [tp.others t h1 h2] at hr ⊢
      rw [hal]; exact hR.tbl hr

theorem moveLoopX_rows {fl : List Nat} {rels : List RelID} :
    ∀ (bts : List BatchTable) {W : World}, MoveSt W fl rels → MovesX W bts →
    2 * W.entities.length < 2 ^ 32 →
    (bts ≠ [] →
      ∀ (r : RelID), r ∈ rels → r.target.isZero = false → r.target.id < W.isTarget.length) →
    RowsAlive W → RowsAlive (bts.foldl (moveStepX rels) W)
  | [], _, _, _, _, _, hR => hR
  | b :: bts, W, h, ok, hent, hreg0, hR => by
    have hreg := hreg0 (List.cons_ne_nil _ _)
    obtain ⟨tp, ok'⟩ := ok.head h hent hreg
    exact moveLoopX_rows bts tp.st ok' (by rw [tp.entitiesLen]; exact hent)
      (fun _ r hr hz => by rw [tp.isTargetLen]; exact hreg r hr hz) (tp.rows hR)

/-- what a valid `exchangeBatch` does to the fields `XchgAllPost` does not mention -/
structure XchgAllMore (w w' : World) (n : Nat) : Prop where
  pool : w'.pool = w.pool
  maxComps : w'.maxComps = w.maxComps
  relArchs : w'.relationArchetypes.length ≤ w.relationArchetypes.length + n
  tablesLen : w'.tables.length ≤ w.tables.length + n
  rows : RowsAlive w → RowsAlive w'

/-! ## 2. the batch -/

/-- **C06 + C04, the exchange batch over relation tables** (`exchangeBatch` with callback `nil`):
    on an unlocked world without observers satisfying `TInv`, for an uncached filter with typed
    relation constraints, not both component lists empty, and the preconditions of `Exchange`
    (`XchgPreM`) on the mask of every non-empty table the filter selects: the batch never fails;
    `TInv` is kept; every entity in the rows of the selected tables gets `Exchange(add, rem, rels)`;
    nobody else changes. -/
theorem exchangeBatch_rel_full (run : ProbeRunner) {w : World} {fl : List Nat} (h : TInv w fl)
    (hl : w.isLocked = false) (hno : ∀ (evt : Nat), w.obs.hasObservers evt = false)
    (fo : FilterObj) (extra : List RelID) (hc : fo.cache = none)
    (hr : RelsTyped w fo.filter (fo.rels ++ extra)) {add rem : List Comp} {rels : List RelID}
    (hne : ¬ (add = [] ∧ rem = []))
    (hpre : ∀ (t : Nat), t < w.tables.length → TblMatch w fo.filter (fo.rels ++ extra) t →
      (w.tbl t).len ≠ 0 → XchgPreM w (tmask w t) add rem rels)
    (htin : ∀ (r : RelID), r ∈ rels → r.target.id < w.pool.ents.length)
    {l1 l2 : Lock} {b : Nat} (hcyc : QueryExact.LockCycle w.locks l1 b l2) (hl2 : l2.isLocked = false)
    (hfew : 2 * w.tables.length < maxU32) (hrows : 2 * w.entities.length < 2 ^ 32) :
    ∃ (ts : List Nat) (w' : World), getBatchTables fo extra w = .ok ts w ∧
      exchangeBatch run fo extra add rem rels none w = .ok () w' ∧
      XchgAllPost w fl (ts.flatMap (rowsOf w)) add rem rels w' ∧ w'.locks = l2 ∧
      XchgAllMore w w' w.tables.length := by
  have h0 : TInv ({ w with locks := l1 } : World) fl := h.withLocks l1
  obtain ⟨ts, hts0, S0, hok0, hnf0⟩ := getBatchTables_rel h0 fo extra hc hr
  have hsame : getBatchTables fo extra w = .ok ts w :=
    ((commutes_getBatchTables fo extra).frames.of_reframe_ok (w := w) (o := w.obs) (lg := w.log) (lk := l1)
      hts0).1
  have S : TableSet w ts := ⟨S0.nodup, S0.lt⟩
  have hS0 : SInvMid ({ w with locks := l1 } : World) := h0.rel.sinv.toSInvMid
  have hS : SInvMid w := h.rel.sinv.toSInvMid
  have hk256 : w.kinds.length ≤ 256 := Nat.le_trans h.kindsLe.1 h.kindsLe.2
  have htslen : ts.length ≤ w.tables.length :=
    BatchRel.nodup_length_le_of_lt S0.nodup (n := w.tables.length) (fun i hi => S0.lt i hi)
  have hpre0 : ∀ (t : Nat), t ∈ ts → (({ w with locks := l1 } : World).tbl t).len ≠ 0 →
      XchgPreM ({ w with locks := l1 } : World) (tmask ({ w with locks := l1 } : World) t)
        add rem rels := by
    intro t ht hlen
    exact (hpre t (S0.lt t ht) (hok0.sound t ht).2 hlen).congr (fun _ => rfl) rfl rfl
  obtain ⟨rr, bts, w1, i1, i2, i3, i4, i5, i6, i7, i8⟩ :=
    findLoopX_spec hS0 (fl := fl) (add := add) (rem := rem) (rels := rels) hk256 ts (false, [])
      ({ w with locks := l1 } : World) (h0.moveSt rels) (LExt.refl _)
      (fun t ht => ⟨S0.lt t ht, hnf0 t ht⟩) hpre0
      (by show w.tables.length + ts.length < maxU32; omega)
  simp only [List.nil_append] at i1
  have hno1 : ∀ (evt : Nat), w1.obs.hasObservers evt = false := by
    intro evt; rw [i3.untouched.obs]; exact hno evt
  have hneB := isEmpty_and_eq_false hne
  have hbatch := exchangeBatch_rel_eq run fo extra add rem rels w hl hneB hcyc.lock hts0 i1 hno1
  have hsrcmem : ∀ (b0 : BatchTable), b0 ∈ bts → b0.oldT ∈ ts ∧ (w.tbl b0.oldT).len ≠ 0 := by
    intro b0 hb0
    have : b0.oldT ∈ bts.map (·.oldT) := List.mem_map_of_mem hb0
    rw [i4, List.mem_filter] at this
    refine ⟨this.1, ?_⟩
    have h2 := this.2
    simp only [bne_iff_ne, ne_eq] at h2
    exact h2
  have hokb : ∀ (b0 : BatchTable), b0 ∈ bts →
      XchgPreM ({ w with locks := l1 } : World)
        (tmask ({ w with locks := l1 } : World) b0.oldT) add rem rels :=
    fun b0 hb0 => hpre0 _ (hsrcmem b0 hb0).1 (hsrcmem b0 hb0).2
  have hsrcN : (bts.map (·.oldT)).Nodup := by
    rw [i4]; exact List.Pairwise.filter _ S0.nodup
  have mok : MovesX w1 bts := movesX_of_dest hS0 i3 hk256 hsrcN i5 hokb
  have hreg : bts ≠ [] → ∀ (r : RelID), r ∈ rels → r.target.isZero = false →
      r.target.id < w1.isTarget.length := by
    intro hb r hrm hz
    obtain ⟨b0, hb0⟩ := List.exists_mem_of_ne_nil bts hb
    rw [i3.untouched.isTarget]
    show r.target.id < w.isTarget.length
    rw [h.link.tgtLen]; exact h.link.lt_of_in (htin r hrm)
  have ma := moveLoopX_post bts i2 mok (by rw [i3.entities]; exact hrows) hreg
  have hrowsW := moveLoopX_rows bts i2 mok (by rw [i3.entities]; exact hrows) hreg
  -- from here on the world after the moves is a variable
  generalize bts.foldl (moveStepX rels) w1 = W at ma hrowsW hbatch
  have hlocks : (registerW W rels).locks.unlock b = some l2 := by
    show W.locks.unlock b = some l2
    rw [ma.locks, i3.untouched.locks]; exact hcyc.unlock
  rw [unlock_ok hlocks] at hbatch
  refine ⟨ts, _, hsame, hbatch, ?_, rfl, ?more⟩
  case more =>
    exact
      { pool := by
          show W.pool = w.pool
          rw [ma.pool, i3.pool]
        maxComps := by
          show W.maxComps = w.maxComps
          rw [ma.maxComps, i3.untouched.maxComps]
        relArchs := by
          show W.relationArchetypes.length ≤ _
          rw [ma.ms.relationArchetypes]
          have : ({ w with locks := l1 } : World).relationArchetypes = w.relationArchetypes := rfl
          rw [this] at i7
          omega
        tablesLen := by
          show W.tables.length ≤ _
          rw [ma.ms.len]
          have : ({ w with locks := l1 } : World).tables = w.tables := rfl
          rw [this] at i6
          omega
        rows := fun hR t T r hT hr => hrowsW
          (RowsAlive.lookup (w := ({ w with locks := l1 } : World)) hR (findLoopX_keeps _ _ i1))
          t T r hT hr }
  -- the registration after the lookup loop flags the targets, moved table or not
  have hregAll : ∀ (r : RelID), r ∈ rels → r.target.isZero = false →
      r.target.id < W.isTarget.length := by
    intro r hrm hz
    rw [ma.isTargetLen, i3.untouched.isTarget]
    show r.target.id < w.isTarget.length
    rw [h.link.tgtLen]; exact h.link.lt_of_in (htin r hrm)
  have htinvM : TInv (registerW W rels) fl :=
    { rel := ma.st.rel.of_metaStep (registerW_metaStep _ rels) (fun _ hh => hh)
      flags := ma.st.flags.register hregAll
      freeEmpty := fun t T hT hf => ma.st.freeEmpty t T hT hf
      link := ma.st.link.transfer (ma.st.link.idx.congr rfl rfl) rfl (IdxSame.of_eq rfl)
        (flagFold_length rels _) ma.st.link.fewTables
      kindsLe := by
        show W.kinds.length ≤ W.maxComps ∧
          W.maxComps ≤ 256
        rw [ma.ms.kinds, ma.maxComps, i3.kinds, i3.untouched.maxComps]; exact h.kindsLe }
  have htinv : TInv ({ registerW W rels with locks := l2 } : World) fl :=
    htinvM.withLocks l2
  have htm : ∀ (t : Nat), t < w.tables.length → t ≠ maxU32 := by
    intro t ht; have := h.link.fewTables; omega
  have hfr1 : ∀ (j : Nat), SameEnt w w1 j ∧ ∀ (c : Comp), targetOf w1 j c = targetOf w j c := by
    intro j
    obtain ⟨s1, g1⟩ := i3.frame j
    exact ⟨⟨fun c => (s1.1 c).trans (valOf_congr rfl rfl j c), s1.2.trans (compsOf_congr rfl rfl j)⟩,
      fun c => g1 c⟩
  have htbl1 : ∀ (t : Nat), t ∈ ts → w1.tbl t = w.tbl t :=
    fun t ht => i3.tbl (S0.lt t ht) (hnf0 t ht)
  have hfinV : ∀ (j : Nat) (c : Comp),
      valOf ({ registerW W rels with locks := l2 } : World) j c =
        valOf W j c := fun j c => valOf_congr rfl rfl j c
  have hfinC : ∀ (j : Nat),
      compsOf ({ registerW W rels with locks := l2 } : World) j =
        compsOf W j := fun j => compsOf_congr rfl rfl j
  have hfinT : ∀ (j : Nat) (c : Comp),
      targetOf ({ registerW W rels with locks := l2 } : World) j c =
        targetOf W j c := fun j c => rfl
  have hsel : ∀ (e : Ent), e ∈ ts.flatMap (rowsOf w) → ∃ (b0 : BatchTable), b0 ∈ bts ∧
      ∃ (k : Nat), k < (w.tbl b0.oldT).len ∧ (w.tbl b0.oldT).getEntity k = e ∧ b0.oldT ∈ ts ∧
        w.entities[e.id]? = some (b0.oldT, k) := by
    intro e he
    obtain ⟨t, k, ht, hk, rfl⟩ := mem_rows.mp he
    have : t ∈ bts.map (·.oldT) := by
      rw [i4, List.mem_filter]
      exact ⟨ht, by simp only [bne_iff_ne, ne_eq]; show ¬ (w.tbl t).len = 0; omega⟩
    obtain ⟨b0, hb0, rfl⟩ := List.mem_map.mp this
    exact ⟨b0, hb0, k, hk, rfl, ht, (h.link.row_live_id (S0.lt _ ht) hk).2.2⟩
  have hmv : ∀ (e : Ent), e ∈ ts.flatMap (rowsOf w) → ∃ (t k d : Nat), t ∈ ts ∧
      w.entities[e.id]? = some (t, k) ∧
      XchgPreM w (tmask w t) add rem rels ∧
      compsOf W e.id = some (w1.tbl d).ids ∧
      (w1.tbl d).ids = (xmask add rem (tmask w t)).toList w.kinds.length ∧
      (∀ (c : Comp), c ∈ (w1.tbl d).ids ↔ (((tmask w t).get c = true ∧ c ∉ rem) ∨ c ∈ add)) ∧
      (∀ (c : Comp), c ∈ (w1.tbl d).ids → valOf W e.id c =
        if c ∈ (w.tbl t).ids then valOf w e.id c else some 0) ∧
      (∀ (c : Comp) (x : Ent), targetOf W e.id c = some x ↔
        ((c ∉ rem ∧ targetOf w e.id c = some x) ∨ (⟨c, x⟩ : RelID) ∈ rels)) := by
    intro e he
    obtain ⟨b0, hb0, k, hk, rfl, ht, hx⟩ := hsel e he
    have hd := i5 b0 hb0
    have hlt := S0.lt _ ht
    have hk' : k < (w1.tbl b0.oldT).len := by rw [htbl1 _ ht]; exact hk
    obtain ⟨m1, m2, m3⟩ := ma.moved b0 hb0 k hk'
    rw [htbl1 _ ht] at m1 m2 m3
    refine ⟨b0.oldT, k, b0.newT, ht, hx, hpre _ hlt (hok0.sound _ ht).2 (hsrcmem b0 hb0).2, m1,
      hd.idsEq, hd.ids, ?_, ?_⟩
    · intro c hc
      rw [m2 c hc, (hfr1 _).1.1 c]
    · intro c x
      rw [m3 c, hd.tgt c x, targetOf_of_entry hx (htm _ hlt) (get_of_lt hlt)]
      rfl
  exact
    { tinv := htinv
      aliveSame := by
        intro x
        show W.pool.alive x = w.pool.alive x
        rw [ma.pool, i3.pool]
      comps := by
        intro e he cs hcs
        obtain ⟨t, k, d, ht, hx, hp, m1, idsEq, mids, _, _⟩ := hmv e he
        have hlt := S0.lt _ ht
        have hcs' : cs = (w.tbl t).ids := by
          rw [compsOf_of_entry hx (htm _ hlt) (get_of_lt hlt)] at hcs
          exact (Option.some.inj hcs).symm
        rw [hfinC, m1, idsEq]
        refine congrArg some ?_
        apply Refine.toList_eq_sortedIds
        intro c hcn
        have h1 : (xmask add rem (tmask w t)).get c = true ↔ c ∈ (w1.tbl d).ids := by
          rw [idsEq, Mask.mem_toList]; exact ⟨fun hh => ⟨hcn, hh⟩, fun hh => hh.2⟩
        rw [h1, mids c, hcs', List.mem_append, List.mem_filter, tbl_ids_iff_tmask hS hlt c]
        simp only [decide_eq_true_eq]
      kept := by
        intro e he c v hv hnr
        obtain ⟨t, k, d, ht, hx, hp, _, _, mids, mv, _⟩ := hmv e he
        have hlt := S0.lt _ ht
        have hcold : c ∈ (w.tbl t).ids := mem_ids_of_valOf hx (htm _ hlt) (get_of_lt hlt) hv
        have hcd : c ∈ (w1.tbl d).ids :=
          (mids c).2 (Or.inl ⟨(tbl_ids_iff_tmask hS hlt c).1 hcold, hnr⟩)
        rw [hfinV, mv c hcd, if_pos hcold, hv]
      added := by
        intro e he c hc
        obtain ⟨t, k, d, ht, hx, hp, _, _, mids, mv, _⟩ := hmv e he
        have hlt := S0.lt _ ht
        have hnold : c ∉ (w.tbl t).ids := by
          intro hh
          have := hp.addNew c hc
          rw [(tbl_ids_iff_tmask hS hlt c).1 hh] at this; cases this
        rw [hfinV, mv c ((mids c).2 (Or.inr hc)), if_neg hnold]
      targetIff := by
        intro e he c x
        obtain ⟨_, _, _, _, _, _, _, _, _, _, mt⟩ := hmv e he
        rw [hfinT]; exact mt c x
      frame := by
        intro j hj
        have hj1 : j ∉ srcIds w1 bts := by
          intro hm
          obtain ⟨b0, hb0, k, hk, heq⟩ := mem_srcIds.mp hm
          rw [htbl1 _ (hsrcmem b0 hb0).1] at hk heq
          exact hj (List.mem_map.mpr ⟨_, mem_rows.mpr ⟨b0.oldT, k, (hsrcmem b0 hb0).1, hk, rfl⟩, heq⟩)
        obtain ⟨s1, g1⟩ := hfr1 j
        obtain ⟨s2, g2⟩ := ma.frame j hj1
        have s := s1.trans s2
        exact ⟨⟨fun c => by rw [hfinV]; exact s.1 c, by rw [hfinC]; exact s.2⟩,
          fun c => by rw [hfinT, g2 c, g1 c]⟩
      obs := by
        show W.obs = w.obs
        rw [ma.obs, i3.untouched.obs]
      unlocked := by
        show l2.isLocked = w.locks.isLocked
        rw [hl2]; exact hl.symm
      kinds := by
        show W.kinds = w.kinds
        rw [ma.ms.kinds, i3.kinds]
      entitiesLen := by
        show W.entities.length = w.entities.length
        rw [ma.entitiesLen, i3.entities] }

/-! ## 3. the singles -/

/-- `Exchange(e, add, rem, rels)` (no values written) applied to the handles `l`, in order, through
    the access path `p` -/
def xchgSeq (run : ProbeRunner) (p : Path) (add rem : List Comp) (rels : List RelID)
    (l : List Ent) : W Unit :=
  M.forM' l fun e => opExchange run p e add [] rem rels

theorem XchgPre.congr {w w' : World} {e : Ent} {add rem : List Comp} {rels : List RelID}
    (h : XchgPre w e add rem rels) (hm : ∀ (c : Comp), (w'.maskOf e).get c = (w.maskOf e).get c)
    (hk : w'.kinds = w.kinds) (hp : w'.pool = w.pool) : XchgPre w' e add rem rels :=
  (h.toM.congr hm hk hp).toPre

/-- **the singles**: `Exchange` applied, in any order and through any access path, to alive handles
    with distinct IDs that satisfy the preconditions; the entity pool is kept -/
theorem xchgSeq_full (run : ProbeRunner) (p : Path) {add rem : List Comp} {rels : List RelID} :
    ∀ (l : List Ent) {w : World} {fl : List Nat}, TInv w fl → w.isLocked = false →
    (∀ (evt : Nat), w.obs.hasObservers evt = false) →
    (∀ (e : Ent), e ∈ l → 2 ≤ e.id ∧ e.id ∉ fl ∧ w.alive e = true ∧ XchgPre w e add rem rels) →
    (∀ (e : Ent), e ∈ l → e.id < w.pool.ents.length) →
    (l.map (·.id)).Nodup →
    (∀ (r : RelID), r ∈ rels → r.target.id < w.pool.ents.length) →
    w.tables.length + l.length < maxU32 → w.entities.length + 1 < 2 ^ 32 →
    ∃ (w'' : World), xchgSeq run p add rem rels l w = .ok () w'' ∧
      XchgAllPost w fl l add rem rels w'' ∧ w''.pool = w.pool
  | [], w, fl, h, _, _, _, _, _, _, _, _ =>
    ⟨w, rfl,
      { tinv := h, aliveSame := fun _ => rfl
        comps := by intro e he; cases he
        kept := by intro e he; cases he
        added := by intro e he; cases he
        targetIff := by intro e he; cases he
        frame := fun _ _ => ⟨⟨fun _ => rfl, rfl⟩, fun _ => rfl⟩
        obs := rfl, unlocked := rfl, kinds := rfl, entitiesLen := rfl }, rfl⟩
  | e :: l, w, fl, h, hl, hno, hlive, hlin, hndi, htin, hfew, hrows => by
    obtain ⟨h2, hnf, ha, hp⟩ := hlive e List.mem_cons_self
    have hsl := hlin e List.mem_cons_self
    have hnd' : e.id ∉ l.map (·.id) ∧ (l.map (·.id)).Nodup := by
      rw [List.map_cons] at hndi; exact List.nodup_cons.mp hndi
    simp only [List.length_cons] at hfew
    obtain ⟨w1, hok, sp⟩ := opExchange_rel_spec run p h hl hno h2 hnf ha hsl hp [] htin (by omega)
      hrows
    have hplen : w1.pool.ents.length = w.pool.ents.length := by rw [sp.pool]
    have hne' : ∀ (e' : Ent), e' ∈ l → e'.id ≠ e.id := by
      intro e' he' heq
      exact hnd'.1 (heq ▸ List.mem_map_of_mem he')
    have hlive1 : ∀ (e' : Ent), e' ∈ l → 2 ≤ e'.id ∧ e'.id ∉ fl ∧ w1.alive e' = true ∧
        XchgPre w1 e' add rem rels := by
      intro e' he'
      obtain ⟨a, b, c, d⟩ := hlive e' (List.mem_cons_of_mem _ he')
      have c1 : w1.alive e' = true := by rw [sp.aliveSame]; exact c
      have d1 := hlin e' (List.mem_cons_of_mem _ he')
      exact ⟨a, b, c1, d.congr
        (h.link.maskOf_get_congr h.rel.sinv.toSInvMid sp.tinv.link sp.tinv.rel.sinv.toSInvMid a b c d1
          b c1 (by rw [hplen]; exact d1) (sp.frame e'.id (hne' e' he')).1.2) sp.kinds sp.pool⟩
    obtain ⟨w'', hrest, ip, ipool⟩ := xchgSeq_full run p l sp.tinv
      (by show w1.locks.isLocked = false; rw [sp.locks]; exact hl)
      (fun evt => by rw [sp.obs]; exact hno evt) hlive1
      (fun e' he' => by rw [hplen]; exact hlin e' (List.mem_cons_of_mem _ he')) hnd'.2
      (fun r hr => by rw [hplen]; exact htin r hr)
      (by have := sp.tablesLen; omega) (by rw [sp.entitiesLen]; exact hrows)
    refine ⟨w'', ?_, ?_, ipool.trans sp.pool⟩
    · simp only [xchgSeq, M.forM', bind, M.bind, hok]
      exact hrest
    · obtain ⟨hfe, hfeT⟩ := ip.frame e.id hnd'.1
      exact
        { tinv := ip.tinv
          aliveSame := fun x => (ip.aliveSame x).trans (sp.aliveSame x)
          comps := by
            intro e' he' cs hcs
            rcases List.mem_cons.mp he' with rfl | he'
            · rw [hfe.2]; exact sp.comps cs hcs
            · rw [ip.comps e' he' cs (by rw [(sp.frame e'.id (hne' e' he')).1.2]; exact hcs),
                sp.kinds]
          kept := by
            intro e' he' c v hv hnr
            rcases List.mem_cons.mp he' with rfl | he'
            · rw [hfe.1 c, sp.kept c v hv hnr]
              simp only [applyVals, List.foldl_nil, ite_self]
            · exact ip.kept e' he' c v
                (by rw [(sp.frame e'.id (hne' e' he')).1.1 c]; exact hv) hnr
          added := by
            intro e' he' c hc
            rcases List.mem_cons.mp he' with rfl | he'
            · rw [hfe.1 c, sp.added c hc]
              simp only [applyVals, List.foldl_nil, ite_self]
            · exact ip.added e' he' c hc
          targetIff := by
            intro e' he' c x
            rcases List.mem_cons.mp he' with rfl | he'
            · rw [hfeT c]
              constructor
              · exact sp.targetsOnly c x
              · rintro (⟨hnr, hx⟩ | hr)
                · exact sp.oldTargets c x hx hnr
                · exact sp.targets ⟨c, x⟩ hr
            · rw [ip.targetIff e' he' c x, (sp.frame e'.id (hne' e' he')).2 c]
          frame := by
            intro j hj
            simp only [List.map_cons, List.mem_cons, not_or] at hj
            obtain ⟨s1, g1⟩ := sp.frame j hj.1
            obtain ⟨s2, g2⟩ := ip.frame j hj.2
            exact ⟨s1.trans s2, fun c => (g2 c).trans (g1 c)⟩
          obs := ip.obs.trans sp.obs
          unlocked := by
            rw [ip.unlocked]
            show w1.locks.isLocked = w.locks.isLocked
            rw [sp.locks]
          kinds := ip.kinds.trans sp.kinds
          entitiesLen := ip.entitiesLen.trans sp.entitiesLen }

/-! ## 4. batch = singles -/

theorem option_eq_of_some_iff {α : Type} {a b : Option α}
    (h : ∀ (x : α), a = some x ↔ b = some x) : a = b := by
  cases a with
  | none =>
    cases b with
    | none => rfl
    | some y => exact absurd ((h y).2 rfl) (by simp)
  | some x => exact ((h x).1 rfl).symm

/-- two worlds obtained from `w` by the same exchange on the same entities (by the batch or one by
    one, in whatever order) are observationally equal: same liveness of every handle, same
    components, values and relation targets of every ID -/
theorem XchgAllPost.obs_eq {w w' w'' : World} {fl : List Nat} {es es' : List Ent}
    {add rem : List Comp} {rels : List RelID} (p' : XchgAllPost w fl es add rem rels w')
    (p'' : XchgAllPost w fl es' add rem rels w'') (hmem : ∀ (e : Ent), e ∈ es ↔ e ∈ es')
    (hcomps : ∀ (e : Ent), e ∈ es → ∃ (cs : List Comp), compsOf w e.id = some cs) :
    (∀ (x : Ent), w'.alive x = w''.alive x) ∧
    (∀ (i : Nat) (c : Comp), valOf w' i c = valOf w'' i c) ∧
    (∀ (i : Nat), compsOf w' i = compsOf w'' i) ∧
    (∀ (i : Nat) (c : Comp), targetOf w' i c = targetOf w'' i c) ∧
    w'.isLocked = w''.isLocked ∧ w'.kinds = w''.kinds := by
  have hids := mem_ids_congr hmem
  refine ⟨fun x => by rw [p'.aliveSame, p''.aliveSame], ?_, ?_, ?_,
    by rw [p'.unlocked, p''.unlocked], by rw [p'.kinds, p''.kinds]⟩
  · intro i c
    by_cases hx : i ∈ es.map (·.id)
    · obtain ⟨e, he, rfl⟩ := List.mem_map.mp hx
      have he' := (hmem e).mp he
      obtain ⟨cs, hcs⟩ := hcomps e he
      by_cases hc : c ∈ Refine.sortedIds w.kinds.length
          ((cs.filter fun c => decide (c ∉ rem)) ++ add)
      · by_cases hadd : c ∈ add
        · rw [p'.added e he c hadd, p''.added e he' c hadd]
        · have hkeep : c ∈ cs ∧ c ∉ rem := by
            rcases List.mem_append.mp (Refine.mem_sortedIds.mp hc).2 with k | k
            · obtain ⟨k1, k2⟩ := List.mem_filter.mp k
              exact ⟨k1, by simpa using k2⟩
            · exact absurd k hadd
          obtain ⟨v, hv⟩ := valOf_some_of_comps hcs hkeep.1
          rw [p'.kept e he c v hv hkeep.2, p''.kept e he' c v hv hkeep.2]
      · rw [valOf_none_of_comps (p'.comps e he cs hcs) hc,
          valOf_none_of_comps (p''.comps e he' cs hcs) hc]
    · rw [(p'.frame i hx).1.1 c, (p''.frame i (fun hh => hx ((hids _).mpr hh))).1.1 c]
  · intro i
    by_cases hx : i ∈ es.map (·.id)
    · obtain ⟨e, he, rfl⟩ := List.mem_map.mp hx
      obtain ⟨cs, hcs⟩ := hcomps e he
      rw [p'.comps e he cs hcs, p''.comps e ((hmem e).mp he) cs hcs]
    · rw [(p'.frame i hx).1.2, (p''.frame i (fun hh => hx ((hids _).mpr hh))).1.2]
  · intro i c
    by_cases hx : i ∈ es.map (·.id)
    · obtain ⟨e, he, rfl⟩ := List.mem_map.mp hx
      apply option_eq_of_some_iff
      intro x
      rw [p'.targetIff e he c x, p''.targetIff e ((hmem e).mp he) c x]
    · rw [(p'.frame i hx).2 c, (p''.frame i (fun hh => hx ((hids _).mpr hh))).2 c]

/-- through an access path whose pre-validation passes, the batch is `exchangeBatch` (through
    `Unsafe` always) -/
theorem World.opExchangeBatch_rel_eq (run : ProbeRunner) (p : Path) (fo : FilterObj)
    (extra : List RelID) (add rem : List Comp) (rels : List RelID)
    (vals : Option (List (Comp × Val))) (w : World) (hpre : preCheck p add rels w = .ok () w) :
    opExchangeBatch run p fo extra add rem rels vals w =
      exchangeBatch run fo extra add rem rels vals w := by
  simp only [opExchangeBatch, bind, M.bind, hpre]

/-! ## 5. deciding the hypotheses on concrete worlds -/

theorem xchgPreM_iff (w : World) (m : Mask) (add rem : List Comp) (rels : List RelID) :
    XchgPreM w m add rem rels ↔
      (¬ (add = [] ∧ rem = []) ∧ rem.Nodup ∧ (∀ (c : Comp), c ∈ rem → m.get c = true) ∧ add.Nodup ∧
        (∀ (c : Comp), c ∈ add → c < w.kinds.length) ∧ (∀ (c : Comp), c ∈ add → m.get c = false) ∧
        (rels.map (·.comp)).Nodup ∧ (∀ (r : RelID), r ∈ rels → r.comp ∈ add) ∧
        (∀ (r : RelID), r ∈ rels → w.isRelComp r.comp = true) ∧
        (∀ (c : Comp), c ∈ add → w.isRelComp c = true → c ∈ rels.map (·.comp)) ∧
        ∀ (r : RelID), r ∈ rels → r.target.isZero = true ∨ w.alive r.target = true) :=
  ⟨fun h => ⟨h.nonempty, h.remNodup, h.remHas, h.addNodup, h.addReg, h.addNew, h.relsNodup,
      h.relsIn, h.relsRel, h.relsAll, h.targets⟩,
    fun ⟨a, b, c, d, e, f, g, i, j, k, l⟩ => ⟨a, b, c, d, e, f, g, i, j, k, l⟩⟩

instance (w : World) (m : Mask) (add rem : List Comp) (rels : List RelID) :
    Decidable (XchgPreM w m add rem rels) :=
  decidable_of_iff _ (xchgPreM_iff w m add rem rels).symm

instance (w : World) (f : Filter) (rels : List RelID) (t : Nat) :
    Decidable (QueryRel.TblMatch w f rels t) := by
  unfold QueryRel.TblMatch; exact inferInstance

/-- what `Good.exchange` asks of a call, as one proposition (one evaluation on a concrete world) -/
def Good.ExchangeOK (e : Ent) (add rem : List Comp) (rels : List RelID) (w : World) : Prop :=
  w.alive e = true ∧ (w.index e.id).1 ≠ maxU32 ∧ e.id < w.entities.length ∧
  XchgPreM w (w.maskOf e) add rem rels ∧
  (∀ (r : RelID), r ∈ rels → r.target.id < w.pool.ents.length) ∧
  w.tables.length < maxU32 ∧ w.entities.length + 1 < 2 ^ 32

instance {e : Ent} {add rem : List Comp} {rels : List RelID} {w : World} :
    Decidable (Good.ExchangeOK e add rem rels w) := by unfold Good.ExchangeOK; infer_instance

theorem Good.exchange_of {w : World} (g : Good w) (run : ProbeRunner) (p : Path) {e : Ent}
    {add rem : List Comp} {rels : List RelID} (h : Good.ExchangeOK e add rem rels w)
    (vals : List (Comp × Val)) :
    panicOf (opExchange run p e add vals rem rels w) = none ∧
      Good (opExchange run p e add vals rem rels w).state :=
  have ⟨h1, h2, h3, h4, h5, h6, h7⟩ := h
  g.exchange run p h1 h2 h3 h4.toPre vals h5 h6 h7

end Ark
