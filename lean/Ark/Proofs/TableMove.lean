/-
  Moving all rows of one table behind the rows of another: the bulk move of `moveEntities`
  (`Table.addAll`) and of `exchangeTable` (`addAllEntities` and the column copies).  What the move
  does to the index (`RowsMoved`) and what every entity reads afterwards (`TableMovedCore`) is
  stated for an arbitrary new destination table with the right rows and cells, so that both bulk
  moves are instances: `moveEntities` here, `exchangeTable` in Ark.Proofs.BatchExchange
  (`exchangeTableW_core`).
-/
import Ark.Proofs.Link

set_option autoImplicit false

namespace Ark

open Ark.Props.C01World

namespace World

/-- what moving all rows of `src` behind the rows of `dst` does to the index -/
structure RowsMoved (w w' : World) (src dst : Nat) (D' : Table) : Prop where
  tables : w'.tables = (w.tables.set dst D').set src (w.tbl src).reset
  moved : ∀ k : Nat, k < (w.tbl src).len →
    w'.entities[((w.tbl src).getEntity k).id]? = some (dst, (w.tbl dst).len + k)
  others : ∀ i : Nat, (∀ k : Nat, k < (w.tbl src).len → ((w.tbl src).getEntity k).id ≠ i) →
    w'.entities[i]? = w.entities[i]?
  entitiesLen : w'.entities.length = w.entities.length

/-- the index loop of a bulk move: row `k` of `src` is re-indexed to row `len dst + k` of `dst`;
    `ge k` is the handle the loop reads for it (from the source, or from the new rows of the
    destination) -/
theorem rowsMoved_of_fold {w w' : World} (h : IdxInv w) {src dst : Nat} (hs : src < w.tables.length)
    {D' : Table} (hT : w'.tables = (w.tables.set dst D').set src (w.tbl src).reset)
    {ge : Nat → Ent} (hge : ∀ k : Nat, k < (w.tbl src).len → ge k = (w.tbl src).getEntity k)
    (hE : w'.entities = (List.range (w.tbl src).len).foldl
      (fun E k => E.set (ge k).id (dst, (w.tbl dst).len + k)) w.entities) :
    RowsMoved w w' src dst D' := by
  have hS := get_of_lt hs
  refine ⟨hT, ?_, ?_, by rw [hE, foldl_set_length]⟩
  · intro k hk
    rw [hE]
    apply foldl_set_hit _ (fun k => (dst, (w.tbl dst).len + k)) _ k _ _ hk (by rw [hge k hk])
    · intro k' hk' hkk heq
      rw [hge k' hk'] at heq
      exact hkk (h.row_inj hS hS hk' hk heq).2
    · have := h.rowIdx src _ k hS hk
      rcases Nat.lt_or_ge ((w.tbl src).getEntity k).id w.entities.length with h1 | h1
      · exact h1
      · rw [List.getElem?_eq_none h1] at this; cases this
  · intro i hi
    rw [hE]
    exact foldl_set_miss _ _ i _ _ (fun k hk => by rw [hge k hk]; exact hi k hk)

end World

open World

/-- **I2 is kept by moving all rows of a table behind the rows of another** (whatever is done to
    the component columns) -/
theorem IdxInv.rowsMoved {w w' : World} (h : IdxInv w) {src dst : Nat} (hne : src ≠ dst)
    (hs : src < w.tables.length) (hd : dst < w.tables.length) {D' : Table} (hDS : D'.Shape)
    (hDid : D'.id = (w.tbl dst).id) (hDlen : D'.len = (w.tbl dst).len + (w.tbl src).len)
    (hDent : ∀ r : Nat, r < D'.len → D'.getEntity r =
      if r < (w.tbl dst).len then (w.tbl dst).getEntity r
      else (w.tbl src).getEntity (r - (w.tbl dst).len))
    (m : RowsMoved w w' src dst D') : IdxInv w' := by
  have hS := get_of_lt hs
  have hD := get_of_lt hd
  have hSs := h.shape src _ hS
  have hTS := m.tables
  have hget : ∀ (t1 : Nat) (T1 : Table), w'.tables[t1]? = some T1 →
      (t1 = src ∧ T1 = (w.tbl src).reset) ∨ (t1 = dst ∧ T1 = D') ∨
      (t1 ≠ src ∧ t1 ≠ dst ∧ w.tables[t1]? = some T1) := by
    intro t1 T1 h1
    rw [hTS] at h1
    rcases getElem?_set_cases h1 with h2 | ⟨h2, h3⟩
    · exact Or.inl h2
    · rcases getElem?_set_cases h3 with h4 | ⟨h4, h5⟩
      · exact Or.inr (Or.inl h4)
      · exact Or.inr (Or.inr ⟨h2, h4, h5⟩)
  have hDnew : w'.tables[dst]? = some D' := by
    rw [hTS, List.getElem?_set_ne hne]; exact List.getElem?_set_self hd
  have hother : ∀ (t1 : Nat) (T1 : Table) (r : Nat), w.tables[t1]? = some T1 → r < T1.len →
      t1 ≠ src → ∀ k : Nat, k < (w.tbl src).len →
      ((w.tbl src).getEntity k).id ≠ (T1.getEntity r).id := by
    intro t1 T1 r h1 hr h2 k hk heq
    exact h2 (h.row_inj hS h1 hk hr heq).1.symm
  refine ⟨?_, ?_, ?_, ?_⟩
  · intro t1 T1 h1
    rcases hget t1 T1 h1 with ⟨_, rfl⟩ | ⟨_, rfl⟩ | ⟨_, _, h2⟩
    · exact Table.reset_shape hSs
    · exact hDS
    · exact h.shape t1 T1 h2
  · intro t1 T1 h1
    rcases hget t1 T1 h1 with ⟨rfl, rfl⟩ | ⟨rfl, rfl⟩ | ⟨_, _, h2⟩
    · rw [(Table.SameMeta.of_reset _).id]; exact h.tid t1 _ hS
    · rw [hDid]; exact h.tid t1 _ hD
    · exact h.tid t1 T1 h2
  · intro t1 T1 r h1 hr
    rcases hget t1 T1 h1 with ⟨rfl, rfl⟩ | ⟨rfl, rfl⟩ | ⟨h2, _, h3⟩
    · rw [Table.reset_len] at hr; exact absurd hr (Nat.not_lt_zero _)
    · rw [hDent r hr]
      rw [hDlen] at hr
      by_cases hrl : r < (w.tbl t1).len
      · rw [if_pos hrl, m.others _ (hother t1 _ r hD hrl (Ne.symm hne))]
        exact h.rowIdx t1 _ r hD hrl
      · rw [if_neg hrl, m.moved _ (by omega)]
        congr 2; omega
    · rw [m.others _ (hother t1 T1 r h3 hr h2)]; exact h.rowIdx t1 T1 r h3 hr
  · intro i t1 r1 hi ht1
    by_cases hex : ∃ k : Nat, k < (w.tbl src).len ∧ ((w.tbl src).getEntity k).id = i
    · obtain ⟨k, hk, rfl⟩ := hex
      rw [m.moved k hk] at hi
      obtain ⟨rfl, rfl⟩ := Prod.mk.inj (Option.some.inj hi)
      refine ⟨_, hDnew, by rw [hDlen]; omega, ?_⟩
      rw [hDent _ (by rw [hDlen]; omega), if_neg (by omega)]
      congr 2; omega
    · have hno : ∀ k : Nat, k < (w.tbl src).len → ((w.tbl src).getEntity k).id ≠ i :=
        fun k hk heq => hex ⟨k, hk, heq⟩
      rw [m.others i hno] at hi
      obtain ⟨T1, hT1, hr1, hid1⟩ := h.idxRow i t1 r1 hi ht1
      have hts : t1 ≠ src := by
        intro heq; subst heq
        have := tbl_of_get hT1; subst this
        exact hno r1 hr1 hid1
      by_cases htd : t1 = dst
      · subst htd
        have := tbl_of_get hT1; subst this
        refine ⟨_, hDnew, by rw [hDlen]; omega, ?_⟩
        rw [hDent r1 (by rw [hDlen]; omega), if_pos hr1]; exact hid1
      · refine ⟨T1, ?_, hr1, hid1⟩
        rw [hTS, List.getElem?_set_ne (Ne.symm hts), List.getElem?_set_ne (Ne.symm htd)]
        exact hT1

namespace World

/-- what moving all rows of `src` behind the rows of `dst` does to the entity index and to what every
    entity reads (`X` the world afterwards), under the index invariant alone: the part of a table
    move that the fragment without relations and the relation fragment share -/
structure TableMovedCore (w : World) (src dst : Nat) (X : World) : Prop where
  idx : IdxInv X
  idxSame : IdxSame w X
  tablesLen : X.tables.length = w.tables.length
  tmeta : ∀ t : Nat, t < w.tables.length → Table.SameMeta (w.tbl t) (X.tbl t)
  moved : ∀ k : Nat, k < (w.tbl src).len →
    X.entities[((w.tbl src).getEntity k).id]? = some (dst, (w.tbl dst).len + k) ∧
    compsOf X ((w.tbl src).getEntity k).id = some (w.tbl dst).ids ∧
    ∀ c : Comp, c ∈ (w.tbl dst).ids →
      valOf X ((w.tbl src).getEntity k).id c =
        if c ∈ (w.tbl src).ids then valOf w ((w.tbl src).getEntity k).id c else some 0
  frame : ∀ j : Nat, (∀ k : Nat, k < (w.tbl src).len → ((w.tbl src).getEntity k).id ≠ j) →
    SameEnt w X j ∧ X.entities[j]? = w.entities[j]?
  srcTbl : X.tbl src = (w.tbl src).reset
  dstGet : X.tables[dst]? = some (X.tbl dst)
  dstLen : (X.tbl dst).len = (w.tbl dst).len + (w.tbl src).len
  dstRows : ∀ r : Nat, r < (w.tbl dst).len + (w.tbl src).len → (X.tbl dst).getEntity r =
    if r < (w.tbl dst).len then (w.tbl dst).getEntity r
    else (w.tbl src).getEntity (r - (w.tbl dst).len)
  others : ∀ t : Nat, t ≠ src → t ≠ dst → X.tbl t = w.tbl t

/-- **moving all rows of `src` behind the rows of `dst`**, whatever the new destination table `D'`
    is as long as it has the shape, the metadata and the old rows of `dst`, the handles of `src`
    behind them, and in the new rows the cells of `src` (zero where `src` has no such column):
    `exchangeTable` and `moveEntities` are the two instances -/
theorem TableMovedCore.of_rows {w X : World} (hI : IdxInv w) {src dst : Nat} (hne : src ≠ dst)
    (ho : src < w.tables.length) (hn : dst < w.tables.length) (hsm : src ≠ maxU32) (hdm : dst ≠ maxU32)
    {D' : Table} (m : RowsMoved w X src dst D') (hDS : D'.Shape)
    (hDsm : Table.SameMeta (w.tbl dst) D')
    (hDlen : D'.len = (w.tbl dst).len + (w.tbl src).len)
    (hDent : ∀ r : Nat, r < D'.len → D'.getEntity r =
      if r < (w.tbl dst).len then (w.tbl dst).getEntity r
      else (w.tbl src).getEntity (r - (w.tbl dst).len))
    (hbelow : ∀ i r : Nat, r < (w.tbl dst).len → D'.cell i r = (w.tbl dst).cell i r)
    (hnew : ∀ (c : Comp) (kk : Nat), (w.tbl dst).colIdx c = some kk → ∀ k : Nat,
      k < (w.tbl src).len → D'.cell kk ((w.tbl dst).len + k) =
        match (w.tbl src).colIdx c with
        | some j => (w.tbl src).cell j k
        | none => 0) :
    TableMovedCore w src dst X := by
  -- `X` has `w`'s tables with `D'` at `dst` and `src` emptied; that the index fits them needs the
  -- handles of `D'` only and is `rowsMoved`
  have hT := m.tables
  have hOt := get_of_lt ho
  have hidx : IdxInv X := hI.rowsMoved hne ho hn hDS hDsm.id hDlen hDent m
  have htlen : X.tables.length = w.tables.length := by
    rw [hT, List.length_set, List.length_set]
  have hTn : X.tables[dst]? = some D' := by
    rw [hT, List.getElem?_set_ne hne]; exact List.getElem?_set_self hn
  have hTo : X.tables[src]? = some (w.tbl src).reset := by
    rw [hT]; exact List.getElem?_set_self (by rw [List.length_set]; exact ho)
  have hTother : ∀ t : Nat, t ≠ src → t ≠ dst → X.tables[t]? = w.tables[t]? := by
    intro t h1 h2
    rw [hT, List.getElem?_set_ne (Ne.symm h1), List.getElem?_set_ne (Ne.symm h2)]
  refine
    { idx := hidx
      idxSame := ⟨m.entitiesLen, fun i => ?_⟩
      tablesLen := htlen
      tmeta := fun t _ => ?_
      moved := fun k hk => ?_
      frame := fun j hj => ?_
      srcTbl := tbl_of_get hTo
      dstGet := by rw [tbl_of_get hTn]; exact hTn
      dstLen := by rw [tbl_of_get hTn]; exact hDlen
      dstRows := by
        intro r hr
        rw [tbl_of_get hTn]; exact hDent r (by rw [hDlen]; exact hr)
      others := by
        intro t h1 h2
        exact tbl_eq_of_get (hTother t h1 h2) }
  -- an ID of a row of `src` now points into `dst`; any other keeps its entry
  · by_cases hex : ∃ k : Nat, k < (w.tbl src).len ∧ ((w.tbl src).getEntity k).id = i
    · obtain ⟨k, hk, rfl⟩ := hex
      exact Or.inr ⟨src, k, dst, _, hI.rowIdx src _ k hOt hk, hsm, m.moved k hk, hdm⟩
    · exact Or.inl (m.others i (fun k hk heq => hex ⟨k, hk, heq⟩))
  · by_cases h1 : t = src
    · subst h1; rw [tbl_of_get hTo]; exact Table.SameMeta.of_reset _
    · by_cases h2 : t = dst
      · subst h2; rw [tbl_of_get hTn]; exact hDsm
      · rw [tbl_eq_of_get (hTother t h1 h2)]; exact Table.SameMeta.refl _
  -- row `k` of `src` is row `len dst + k` of `D'`: the columns are those of `dst` (same metadata), the
  -- cell is `src`'s where `src` has the column and zero where not, `hnew`
  · have hent := m.moved k hk
    have hold := hI.rowIdx src _ k hOt hk
    refine ⟨hent, ?_, ?_⟩
    · rw [compsOf_of_entry hent hdm hTn, hDsm.ids]
    · intro c hc
      obtain ⟨kk, hkk⟩ := colIdx_some_iff_mem.mpr hc
      have hkkD : D'.colIdx c = some kk := by
        simp only [Table.colIdx, hDsm.ids]; exact hkk
      rw [valOf_of_entry hent hdm hTn, Table.getComp, hkkD, Option.map_some, hnew c kk hkk k hk,
        valOf_of_entry hold hsm hOt, Table.getComp]
      cases hj : (w.tbl src).colIdx c with
      | some j =>
        rw [if_pos (colIdx_some_iff_mem.mp ⟨j, hj⟩), Option.map_some]
      | none =>
        rw [if_neg (fun hco => by
          obtain ⟨j, hj'⟩ := colIdx_some_iff_mem.mpr hco
          rw [hj] at hj'; cases hj')]
  -- an ID outside `src` keeps its entry; what it reads could change only in `dst`, whose old rows `D'`
  -- has kept, `hbelow`
  · have he := m.others j hj
    refine ⟨?_, he⟩
    cases hx : w.entities[j]? with
    | none => exact same_of_entry he (fun t r hh => by rw [hx] at hh; cases hh)
    | some p =>
      obtain ⟨t, r⟩ := p
      by_cases ht : t = maxU32
      · exact same_of_entry he (fun t' r' hh => by rw [hx] at hh; cases hh; exact ht)
      · obtain ⟨hTt, hr, hid⟩ := hI.indexed hx ht
        have hto : t ≠ src := by
          intro heq; subst heq; exact hj r hr hid
        by_cases htn : t = dst
        · subst htn
          exact same_of_rows hx (by rw [he]; exact hx) ht ht hTt hTn hDsm.ids
            (fun i => hbelow i r hr)
        · exact same_of_rows hx (by rw [he]; exact hx) ht ht hTt
            (by rw [hTother t hto htn]; exact hTt) rfl (fun _ => rfl)

end World

/-- `moveEntities src dst (len src)` on the index -/
theorem moveEntitiesW_rows {w : World} (h : IdxInv w) {src dst : Nat} (hne : src ≠ dst)
    (hs : src < w.tables.length) (hd : dst < w.tables.length)
    (hb : (w.tbl dst).len + (w.tbl src).len < 2 ^ 32) :
    RowsMoved w (moveEntitiesW w src dst (w.tbl src).len) src dst
      ((w.tbl dst).addAll (w.tbl src) (w.tbl src).len) := by
  obtain ⟨hTS, hE⟩ := moveEntitiesW_spec w src dst (w.tbl src).len hne hd
  refine rowsMoved_of_fold h hs hTS (fun k hk => ?_) hE
  rw [Table.addAll_getEntity (h.shape dst _ (get_of_lt hd)) (h.shape src _ (get_of_lt hs)) _
    (Nat.le_refl _) hb _ (by omega), if_neg (by omega), Nat.add_sub_cancel_left]

/-- **`moveEntities src dst (len src)`** for two tables of the same layout: every entity reads what
    it read before -/
theorem moveEntitiesW_core {w : World} (h : IdxInv w) {src dst : Nat} (hne : src ≠ dst)
    (hs : src < w.tables.length) (hd : dst < w.tables.length) (hsm : src ≠ maxU32)
    (hdm : dst ≠ maxU32) (hids : (w.tbl src).ids = (w.tbl dst).ids)
    (hzst : (w.tbl src).zst = (w.tbl dst).zst)
    (hb : (w.tbl dst).len + (w.tbl src).len < 2 ^ 32) :
    TableMovedCore w src dst (moveEntitiesW w src dst (w.tbl src).len) := by
  have hSs := h.shape src _ (get_of_lt hs)
  have hDs := h.shape dst _ (get_of_lt hd)
  have hcell := Table.addAll_cell hDs hSs hids _ (Nat.le_refl _) hb
  refine TableMovedCore.of_rows h hne hs hd hsm hdm (moveEntitiesW_rows h hne hs hd hb)
    (Table.addAll_shape hDs hSs hids hzst _ (Nat.le_refl _) hb) (Table.addAll_sameMeta _ _ _)
    (Table.addAll_len _ _ _)
    (fun r hr => Table.addAll_getEntity hDs hSs _ (Nat.le_refl _) hb r
      (by rw [Table.addAll_len] at hr; exact hr))
    (fun i r hr => by rw [hcell, if_pos hr]) ?_
  intro c kk hkk k hk
  have hj : (w.tbl src).colIdx c = some kk := by simpa only [Table.colIdx, hids] using hkk
  rw [hcell, if_neg (by omega), if_pos (by omega), Nat.add_sub_cancel_left, hj]

namespace IdxInv

theorem moveEntities {w : World} (h : IdxInv w) {src dst count : Nat} (hne : src ≠ dst)
    (hs : src < w.tables.length) (hd : dst < w.tables.length) (hc : count = (w.tbl src).len)
    (hids : (w.tbl src).ids = (w.tbl dst).ids) (hzst : (w.tbl src).zst = (w.tbl dst).zst)
    (hb : (w.tbl dst).len + count < 2 ^ 32) :
    IdxInv (moveEntitiesW w src dst count) := by
  subst hc
  have hSs := h.shape src _ (get_of_lt hs)
  have hDs := h.shape dst _ (get_of_lt hd)
  exact h.rowsMoved hne hs hd (Table.addAll_shape hDs hSs hids hzst _ (Nat.le_refl _) hb)
    (Table.addAll_sameMeta _ _ _).id (Table.addAll_len _ _ _)
    (fun r hr => Table.addAll_getEntity hDs hSs _ (Nat.le_refl _) hb r
      (by rw [Table.addAll_len] at hr; exact hr))
    (moveEntitiesW_rows h hne hs hd hb)

end IdxInv

end Ark
