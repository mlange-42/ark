/-
  Ark.Proofs.GenBridge.BookObservers — the tail of `observerManager.RemoveObserver` (events.go) that
  recomputes the per-event aggregates (`allWith`/`anyNoWith`, `allComps`/`anyNoComps`) from the
  observers that remain, translated statement by statement from the Go source on every run
  (tools/extract/book.go → Ark/Generated/BookObservers.lean; the `bitMask` method `OrI` is the
  word-level translation of mask256.go), proved equal to the model's recomputation
  (`ObsMgr.recomputeWith` / `recomputeComps`, used by `ObsMgr.removeAt`; both are `recLoop` of
  Ark/Proofs/Observers.lean) for ALL manager states.

  These aggregates feed the early-outs of every `Fire*` function: C08 ("whether an observer fires does
  not depend on which other observers are or were registered") needs them to be a function of the
  CURRENT observer list, whatever the registration history — which is what the recomputation provides.
-/
import Ark.Generated.BookObservers
import Ark.Proofs.Observers
import Ark.Proofs.MaskWords
import Ark.Proofs.GenBridge.BookTableIDs

namespace Ark.GenBridge.Book
open Ark Ark.Generated Ark.Generated.Book Ark.MaskWords

/-- the source's `observerData` as the model's (the fields the recomputation reads) -/
def toData (g : G_observerData) : ObsData :=
  { compsMask := abs g.compsMask, withMask := abs g.withMask, hasComps := g.hasComps, hasWith := g.hasWith }

/-! ### the translated loops -/

/-- one iteration of a translated recomputation loop, on (union so far, flag list, break flag) -/
def pStep (has : G_observerData → Bool) (msk : G_observerData → M256) (e : Nat)
    (s : M256 × List Bool × Bool) (d : G_observerData) : M256 × List Bool × Bool :=
  if s.2.2 then s else if !has d then (s.1, s.2.1.set e true, true) else (M256.OrI s.1 (msk d), s.2.1, false)

theorem pFold_brk (has : G_observerData → Bool) (msk : G_observerData → M256) (e : Nat) :
    ∀ (L : List G_observerData) (aw : M256) (fl : List Bool),
      L.foldl (pStep has msk e) (aw, fl, true) = (aw, fl, true) := by
  intro L
  induction L with
  | nil => intro aw fl; rfl
  | cons d rest ih => intro aw fl; simp only [List.foldl_cons, pStep, if_true]; exact ih aw fl

theorem pFold_eq (has : G_observerData → Bool) (msk : G_observerData → M256) (e : Nat)
    (hasM : ObsData → Bool) (mskM : ObsData → Mask)
    (hhas : ∀ d, has d = hasM (toData d)) (hmsk : ∀ d, abs (msk d) = mskM (toData d)) :
    ∀ (L : List G_observerData) (aw : M256) (fl : List Bool),
      abs (L.foldl (pStep has msk e) (aw, fl, false)).1 = (recLoop hasM mskM (abs aw) (L.map toData)).1 ∧
      (L.foldl (pStep has msk e) (aw, fl, false)).2.1 =
        (if (recLoop hasM mskM (abs aw) (L.map toData)).2 then fl.set e true else fl) ∧
      (L.foldl (pStep has msk e) (aw, fl, false)).2.2 = (recLoop hasM mskM (abs aw) (L.map toData)).2 := by
  intro L
  induction L with
  | nil => intro aw fl; simp [recLoop]
  | cons d rest ih =>
    intro aw fl
    simp only [List.foldl_cons, List.map_cons, recLoop, pStep, Bool.false_eq_true, if_false]
    rw [← hhas d]
    cases hd : has d with
    | false => simp [pFold_brk]
    | true =>
      simp only [Bool.not_true, Bool.false_eq_true, if_false]
      have := ih (M256.OrI aw (msk d)) fl
      rw [orI_eq, hmsk d] at this
      exact this

/-- the step of a translated loop as the generated code spells it: state = (union, manager, break
    flag); the data is read from the manager's own list, the flag list is one of its fields -/
def gStep (has : G_observerData → Bool) (msk : G_observerData → M256) (e : Nat)
    (get : G_observerManager → List Bool) (put : G_observerManager → List Bool → G_observerManager)
    (s : M256 × G_observerManager × Bool) (i : Nat) : M256 × G_observerManager × Bool :=
  let r := pStep has msk e (s.1, get s.2.1, s.2.2) ((s.2.1.observers.getD e []).getD i default)
  (r.1, put s.2.1 r.2.1, r.2.2)

/-- a translated loop (step `F`, found by unification and shown to be `gStep`) over the positions
    `idxs` of the manager's observer list `L` is the list loop `pStep` over the entries read -/
theorem gFold_eq (has : G_observerData → Bool) (msk : G_observerData → M256) (e : Nat)
    (get : G_observerManager → List Bool) (put : G_observerManager → List Bool → G_observerManager)
    (hobs : ∀ m fl, (put m fl).observers = m.observers) (hgp : ∀ m fl, get (put m fl) = fl)
    (hpp : ∀ m a b, put (put m a) b = put m b) (hpg : ∀ m, put m (get m) = m)
    (L : List G_observerData) (F : M256 × G_observerManager × Bool → Nat → M256 × G_observerManager × Bool)
    (hF : ∀ s i, F s i = gStep has msk e get put s i) :
    ∀ (idxs : List Nat) (aw : M256) (m : G_observerManager) (brk : Bool), m.observers.getD e [] = L →
      idxs.foldl F (aw, m, brk) =
        (((idxs.map (L.getD · default)).foldl (pStep has msk e) (aw, get m, brk)).1,
         put m ((idxs.map (L.getD · default)).foldl (pStep has msk e) (aw, get m, brk)).2.1,
         ((idxs.map (L.getD · default)).foldl (pStep has msk e) (aw, get m, brk)).2.2) := by
  obtain rfl : F = gStep has msk e get put := funext fun s => funext (hF s)
  intro idxs aw m brk hL
  rw [List.foldl_map]
  exact foldl_hom (fun r => (r.1, put m r.2.1, r.2.2)) (fun _ => True)
    (fun r i => pStep has msk e r (L.getD i default)) (gStep has msk e get put)
    (fun a i _ => ⟨by simp only [gStep, hobs, hgp, hpp, hL], trivial⟩) idxs (aw, get m, brk) _
    (by rw [hpg]) trivial

theorem abs_zero256 : abs (⟨⟨0#64, 0#64, 0#64, 0#64⟩⟩ : M256) = Mask.empty := by
  simp [abs, abs_zero, Mask.empty]

theorem set_set_same {α : Type} (l : List α) (i : Nat) (a b : α) : (l.set i a).set i b = l.set i b := by
  simp

/-- the test for the entity events `OnCreateEntity`/`OnRemoveEntity`, as the source and as the
    statements below spell it -/
theorem entityEvent_iff (e : Nat) : (e == 249 || e == 250) = true ↔ (e = 249 ∨ e = 250) := by
  simp

/-- what the translated tail computes, written with the loops as list folds -/
def aggSpec (g : G_observerManager) (o : G_Observer) : G_observerManager :=
  let L := g.observers.getD o.event []
  let w := L.foldl (pStep (·.hasWith) (·.withMask) o.event)
    ((⟨⟨0#64, 0#64, 0#64, 0#64⟩⟩ : M256), g.anyNoWith.set o.event false, false)
  let g1 : G_observerManager := { g with anyNoWith := w.2.1, allWith := g.allWith.set o.event w.1 }
  if o.event == 249 || o.event == 250 then g1 else
  let c := L.foldl (pStep (·.hasComps) (·.compsMask) o.event)
    ((⟨⟨0#64, 0#64, 0#64, 0#64⟩⟩ : M256), g.anyNoComps.set o.event false, false)
  { g1 with anyNoComps := c.2.1, allComps := g.allComps.set o.event c.1 }

theorem aggregates_eq_spec (g : G_observerManager) (o : G_Observer) :
    observerManager_RemoveObserver_aggregates g o = aggSpec g o := by
  unfold observerManager_RemoveObserver_aggregates
  extract_lets z m1 m2 b0 b1
  rw [gFold_eq (·.hasWith) (·.withMask) o.event (·.anyNoWith)
        (fun m fl => ({ m with anyNoWith := fl } : G_observerManager))
        (fun _ _ => rfl) (fun _ _ => rfl) (fun _ _ _ => rfl) (fun _ => rfl)
        (g.observers.getD o.event []) _
        (by
          rintro ⟨aw, m, brk⟩ i
          simp only [gStep, pStep]
          cases brk <;> simp [b1]
          split <;> simp_all)
        _ _ _ _ (by simp [m2, m1])]
  have hr : (m2.observers.getD o.event []).length = (g.observers.getD o.event []).length := by simp [m2, m1]
  rw [hr, range_map_getD (fun d => d), List.map_id']
  have hw0 : List.foldl (pStep (·.hasWith) (·.withMask) o.event) (z, m2.anyNoWith, b0) (g.observers.getD o.event []) =
      List.foldl (pStep (·.hasWith) (·.withMask) o.event)
        ((⟨⟨0#64, 0#64, 0#64, 0#64⟩⟩ : M256), g.anyNoWith.set o.event false, false) (g.observers.getD o.event []) := rfl
  rw [hw0]
  unfold aggSpec
  extract_lets L w g1
  show (match (w.1, ({ m2 with anyNoWith := w.2.1 } : G_observerManager), w.2.2) with | (allWith, m, brk_2) => _) = _
  dsimp only
  by_cases hev : (o.event == 249 || o.event == 250) = true
  · rw [if_pos hev, if_pos hev]
  · rw [if_neg hev, if_neg hev]
    rw [gFold_eq (·.hasComps) (·.compsMask) o.event (·.anyNoComps)
          (fun m fl => ({ m with anyNoComps := fl } : G_observerManager))
          (fun _ _ => rfl) (fun _ _ => rfl) (fun _ _ _ => rfl) (fun _ => rfl)
          (g.observers.getD o.event []) _
          (by
            rintro ⟨aw, m, brk⟩ i
            simp only [gStep, pStep]
            cases brk <;> simp [b1]
            split <;> simp_all)
          _ _ _ _ (by simp [m2, m1])]
    rw [hr, range_map_getD (fun d => d), List.map_id']


/-- **The tail of `RemoveObserver` as in the source**: for the event type of the removed observer, the
    union masks and wildcard flags become the recomputation over the observers that remain — the
    model's `recomputeWith` / `recomputeComps` (`recomputeWith_eq`) —, for `OnCreateEntity`/`OnRemoveEntity`
    only the `With` pair; the observer lists and every other event type's entries are untouched. -/
theorem removeObserver_aggregates_eq (g : G_observerManager) (o : G_Observer) :
    (observerManager_RemoveObserver_aggregates g o).observers = g.observers ∧
    (observerManager_RemoveObserver_aggregates g o).allWith.map abs =
      (g.allWith.map abs).set o.event
        (recLoop (·.hasWith) (·.withMask) Mask.empty ((g.observers.getD o.event []).map toData)).1 ∧
    (observerManager_RemoveObserver_aggregates g o).anyNoWith =
      g.anyNoWith.set o.event
        (recLoop (·.hasWith) (·.withMask) Mask.empty ((g.observers.getD o.event []).map toData)).2 ∧
    (if o.event = 249 ∨ o.event = 250 then
      (observerManager_RemoveObserver_aggregates g o).allComps = g.allComps ∧
      (observerManager_RemoveObserver_aggregates g o).anyNoComps = g.anyNoComps
    else
      (observerManager_RemoveObserver_aggregates g o).allComps.map abs =
        (g.allComps.map abs).set o.event
          (recLoop (·.hasComps) (·.compsMask) Mask.empty ((g.observers.getD o.event []).map toData)).1 ∧
      (observerManager_RemoveObserver_aggregates g o).anyNoComps =
        g.anyNoComps.set o.event
          (recLoop (·.hasComps) (·.compsMask) Mask.empty ((g.observers.getD o.event []).map toData)).2) := by
  rw [aggregates_eq_spec]
  have hW := pFold_eq (·.hasWith) (·.withMask) o.event (·.hasWith) (·.withMask) (fun _ => rfl) (fun _ => rfl)
    (g.observers.getD o.event []) (⟨⟨0#64, 0#64, 0#64, 0#64⟩⟩ : M256) (g.anyNoWith.set o.event false)
  have hC := pFold_eq (·.hasComps) (·.compsMask) o.event (·.hasComps) (·.compsMask) (fun _ => rfl) (fun _ => rfl)
    (g.observers.getD o.event []) (⟨⟨0#64, 0#64, 0#64, 0#64⟩⟩ : M256) (g.anyNoComps.set o.event false)
  rw [abs_zero256] at hW hC
  obtain ⟨hW1, hW2, _⟩ := hW
  obtain ⟨hC1, hC2, _⟩ := hC
  have hflag : ∀ (fl : List Bool) (b : Bool), (if b then (fl.set o.event false).set o.event true else fl.set o.event false) = fl.set o.event b := by
    intro fl b; cases b <;> simp
  unfold aggSpec
  by_cases hev : o.event = 249 ∨ o.event = 250
  · have hev' := (entityEvent_iff o.event).mpr hev
    simp only [hev', if_true, hev]
    refine ⟨?_, ?_, ?_, ?_⟩
    all_goals first
      | trivial
      | (simp only [List.map_set, hW1]; done)
      | (rw [hW2, hflag]; done)
      | (exact ⟨rfl, rfl⟩)
  · have hev' := Bool.eq_false_iff.mpr (mt (entityEvent_iff o.event).mp hev)
    simp only [hev', Bool.false_eq_true, if_false, hev]
    refine ⟨?_, ?_, ?_, ?_, ?_⟩
    all_goals first
      | trivial
      | (simp only [List.map_set, hW1]; done)
      | (rw [hW2, hflag]; done)
      | (simp only [List.map_set, hC1]; done)
      | (rw [hC2, hflag]; done)


/-! ### the tail of `AddObserver`: the aggregates absorb the new observer -/

theorem map_abs_getD (l : List M256) (i : Nat) :
    (l.map abs).getD i Mask.empty = abs (l.getD i (⟨⟨0#64, 0#64, 0#64, 0#64⟩⟩ : M256)) := by
  simp only [List.getD_eq_getElem?_getD, List.getElem?_map]
  cases l[i]? <;> simp [abs_zero256]

theorem opt_abs_getD (x : Option M256) :
    (Option.map abs x).getD Mask.empty = abs (x.getD (⟨⟨0#64, 0#64, 0#64, 0#64⟩⟩ : M256)) := by
  cases x <;> simp [abs_zero256]

/-- **The tail of `AddObserver` as in the source** — what the model's `ObsMgr.addComputed` does to the
    event type's state: an observer with `With` components is OR-ed into the union, one without sets the
    wildcard flag; the same for `For` components unless the event is an entity event; nothing else
    changes. -/
theorem addObserver_aggregates_eq (g : G_observerManager) (o : G_Observer) (w : G_World) :
    (observerManager_AddObserver_aggregates g o w).observers = g.observers ∧
    (if o.hasWith = true then
      (observerManager_AddObserver_aggregates g o w).allWith.map abs =
        (g.allWith.map abs).set o.event (((g.allWith.map abs).getD o.event Mask.empty).or (abs o.withMask)) ∧
      (observerManager_AddObserver_aggregates g o w).anyNoWith = g.anyNoWith
    else
      (observerManager_AddObserver_aggregates g o w).allWith = g.allWith ∧
      (observerManager_AddObserver_aggregates g o w).anyNoWith = g.anyNoWith.set o.event true) ∧
    (if o.event = 249 ∨ o.event = 250 then
      (observerManager_AddObserver_aggregates g o w).allComps = g.allComps ∧
      (observerManager_AddObserver_aggregates g o w).anyNoComps = g.anyNoComps
    else if o.hasComps = true then
      (observerManager_AddObserver_aggregates g o w).allComps.map abs =
        (g.allComps.map abs).set o.event (((g.allComps.map abs).getD o.event Mask.empty).or (abs o.compsMask)) ∧
      (observerManager_AddObserver_aggregates g o w).anyNoComps = g.anyNoComps
    else
      (observerManager_AddObserver_aggregates g o w).allComps = g.allComps ∧
      (observerManager_AddObserver_aggregates g o w).anyNoComps = g.anyNoComps.set o.event true) := by
  unfold observerManager_AddObserver_aggregates
  by_cases hev : o.event = 249 ∨ o.event = 250
  · have hev' := (entityEvent_iff o.event).mpr hev
    cases hw : o.hasWith <;> simp [hev', hev, hw, List.map_set, orI_eq, opt_abs_getD]
  · have hev' := Bool.eq_false_iff.mpr (mt (entityEvent_iff o.event).mp hev)
    cases hw : o.hasWith <;> cases hc : o.hasComps <;>
      simp [hev', hev, hw, hc, List.map_set, orI_eq, opt_abs_getD]

end Ark.GenBridge.Book
