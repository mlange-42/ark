/-
  Ark.Proofs.GenBridge.Obs — observer firing conditions (events.go).
  Ties definitions REGENERATED from the Go source (tools/extract, on every run) to the
  hand-written model: the model's definition is proved equal to what the code says now, for all
  inputs. A change of the Go logic changes the generated definition and breaks these theorems (a
  harmless rewrite, e.g. commuted conjuncts, still passes: the proofs are case analyses, not
  syntactic equalities). One file per source fragment group, so that an untranslatable fragment
  affects only the properties that depend on it.
  `…_skip` is the per-observer condition under which `Fire…` does `continue` (the callback does not
  run), `…_early` the condition under which it returns before the loop.
-/
import Ark.Generated.Obs
import Ark.Model.Observers

namespace Ark.GenBridge
open Ark

theorem fireCreateEntity_skip_eq (d : ObsData) (mask : Mask) :
    Generated.fireCreateEntity_skip d.hasComps d.hasWith d.hasWithout d.compsMask d.withMask d.withoutMask mask
      = !Pred.entity d mask := by
  unfold Generated.fireCreateEntity_skip Pred.entity
  generalize d.hasComps = b1; generalize d.hasWith = b2; generalize d.hasWithout = b3
  cases b1 <;> cases b2 <;> cases b3 <;> simp <;>
    (first | rfl | (repeat (first | (cases Mask.contains _ _) | (cases Mask.containsAny _ _)) <;> simp))

theorem fireCreateEntity_early_eq (es : EvtState) (mask : Mask) :
    Generated.fireCreateEntity_early es.anyNoComps es.anyNoWith es.allComps es.allWith mask
      = Early.entity es mask := by
  unfold Generated.fireCreateEntity_early Early.entity
  generalize es.anyNoComps = b1; generalize es.anyNoWith = b2
  cases b1 <;> cases b2 <;> simp

theorem fireCreateEntityRel_skip_eq (d : ObsData) (mask : Mask) :
    Generated.fireCreateEntityRel_skip d.hasComps d.hasWith d.hasWithout d.compsMask d.withMask d.withoutMask mask
      = !Pred.entityRel d mask := by
  unfold Generated.fireCreateEntityRel_skip Pred.entityRel
  generalize d.hasComps = b1; generalize d.hasWith = b2; generalize d.hasWithout = b3
  cases b1 <;> cases b2 <;> cases b3 <;> simp <;>
    (first | rfl | (repeat (first | (cases Mask.contains _ _) | (cases Mask.containsAny _ _)) <;> simp))

theorem fireCreateEntityRel_early_eq (es : EvtState) (mask : Mask) :
    Generated.fireCreateEntityRel_early es.anyNoComps es.anyNoWith es.allComps es.allWith mask
      = Early.entityRel es mask := by
  unfold Generated.fireCreateEntityRel_early Early.entityRel
  generalize es.anyNoComps = b1; generalize es.anyNoWith = b2
  cases b1 <;> cases b2 <;> simp

theorem fireRemoveEntity_skip_eq (d : ObsData) (mask : Mask) :
    Generated.fireRemoveEntity_skip d.hasComps d.hasWith d.hasWithout d.compsMask d.withMask d.withoutMask mask
      = !Pred.entity d mask := by
  unfold Generated.fireRemoveEntity_skip Pred.entity
  generalize d.hasComps = b1; generalize d.hasWith = b2; generalize d.hasWithout = b3
  cases b1 <;> cases b2 <;> cases b3 <;> simp <;>
    (first | rfl | (repeat (first | (cases Mask.contains _ _) | (cases Mask.containsAny _ _)) <;> simp))

theorem fireRemoveEntity_early_eq (es : EvtState) (mask : Mask) :
    Generated.fireRemoveEntity_early es.anyNoComps es.anyNoWith es.allComps es.allWith mask
      = Early.entity es mask := by
  unfold Generated.fireRemoveEntity_early Early.entity
  generalize es.anyNoComps = b1; generalize es.anyNoWith = b2
  cases b1 <;> cases b2 <;> simp

theorem fireRemoveEntityRel_skip_eq (d : ObsData) (mask : Mask) :
    Generated.fireRemoveEntityRel_skip d.hasComps d.hasWith d.hasWithout d.compsMask d.withMask d.withoutMask mask
      = !Pred.entityRel d mask := by
  unfold Generated.fireRemoveEntityRel_skip Pred.entityRel
  generalize d.hasComps = b1; generalize d.hasWith = b2; generalize d.hasWithout = b3
  cases b1 <;> cases b2 <;> cases b3 <;> simp <;>
    (first | rfl | (repeat (first | (cases Mask.contains _ _) | (cases Mask.containsAny _ _)) <;> simp))

theorem fireRemoveEntityRel_early_eq (es : EvtState) (mask : Mask) :
    Generated.fireRemoveEntityRel_early es.anyNoComps es.anyNoWith es.allComps es.allWith mask
      = Early.entityRel es mask := by
  unfold Generated.fireRemoveEntityRel_early Early.entityRel
  generalize es.anyNoComps = b1; generalize es.anyNoWith = b2
  cases b1 <;> cases b2 <;> simp

theorem fireAdd_skip_eq (d : ObsData) (oldMask : Mask) (newMask : Mask) :
    Generated.fireAdd_skip d.hasComps d.hasWith d.hasWithout d.compsMask d.withMask d.withoutMask oldMask newMask
      = !Pred.add d oldMask newMask := by
  unfold Generated.fireAdd_skip Pred.add
  generalize d.hasComps = b1; generalize d.hasWith = b2; generalize d.hasWithout = b3
  cases b1 <;> cases b2 <;> cases b3 <;> simp <;>
    (first | rfl | (repeat (first | (cases Mask.contains _ _) | (cases Mask.containsAny _ _)) <;> simp))

theorem fireAdd_early_eq (es : EvtState) (oldMask : Mask) (newMask : Mask) :
    Generated.fireAdd_early es.anyNoComps es.anyNoWith es.allComps es.allWith oldMask newMask
      = Early.add es oldMask newMask := by
  unfold Generated.fireAdd_early Early.add
  generalize es.anyNoComps = b1; generalize es.anyNoWith = b2
  cases b1 <;> cases b2 <;> simp

theorem fireRemove_skip_eq (d : ObsData) (oldMask : Mask) (newMask : Mask) :
    Generated.fireRemove_skip d.hasComps d.hasWith d.hasWithout d.compsMask d.withMask d.withoutMask oldMask newMask
      = !Pred.remove d oldMask newMask := by
  unfold Generated.fireRemove_skip Pred.remove
  generalize d.hasComps = b1; generalize d.hasWith = b2; generalize d.hasWithout = b3
  cases b1 <;> cases b2 <;> cases b3 <;> simp <;>
    (first | rfl | (repeat (first | (cases Mask.contains _ _) | (cases Mask.containsAny _ _)) <;> simp))

theorem fireRemove_early_eq (es : EvtState) (oldMask : Mask) (newMask : Mask) :
    Generated.fireRemove_early es.anyNoComps es.anyNoWith es.allComps es.allWith oldMask newMask
      = Early.remove es oldMask newMask := by
  unfold Generated.fireRemove_early Early.remove
  generalize es.anyNoComps = b1; generalize es.anyNoWith = b2
  cases b1 <;> cases b2 <;> simp

theorem fireSet_skip_eq (d : ObsData) (mask : Mask) (newMask : Mask) :
    Generated.fireSet_skip d.hasComps d.hasWith d.hasWithout d.compsMask d.withMask d.withoutMask mask newMask
      = !Pred.set d mask newMask := by
  unfold Generated.fireSet_skip Pred.set
  generalize d.hasComps = b1; generalize d.hasWith = b2; generalize d.hasWithout = b3
  cases b1 <;> cases b2 <;> cases b3 <;> simp <;>
    (first | rfl | (repeat (first | (cases Mask.contains _ _) | (cases Mask.containsAny _ _)) <;> simp))

theorem fireSet_early_eq (es : EvtState) (mask : Mask) (newMask : Mask) :
    Generated.fireSet_early es.anyNoComps es.anyNoWith es.allComps es.allWith mask newMask
      = Early.set es mask newMask := by
  unfold Generated.fireSet_early Early.set
  generalize es.anyNoComps = b1; generalize es.anyNoWith = b2
  cases b1 <;> cases b2 <;> simp

theorem fireSetRelations_skip_eq (d : ObsData) (mask : Mask) (newMask : Mask) :
    Generated.fireSetRelations_skip d.hasComps d.hasWith d.hasWithout d.compsMask d.withMask d.withoutMask mask newMask
      = !Pred.set d mask newMask := by
  unfold Generated.fireSetRelations_skip Pred.set
  generalize d.hasComps = b1; generalize d.hasWith = b2; generalize d.hasWithout = b3
  cases b1 <;> cases b2 <;> cases b3 <;> simp <;>
    (first | rfl | (repeat (first | (cases Mask.contains _ _) | (cases Mask.containsAny _ _)) <;> simp))

theorem fireSetRelations_early_eq (es : EvtState) (mask : Mask) (newMask : Mask) :
    Generated.fireSetRelations_early es.anyNoComps es.anyNoWith es.allComps es.allWith mask newMask
      = Early.set es mask newMask := by
  unfold Generated.fireSetRelations_early Early.set
  generalize es.anyNoComps = b1; generalize es.anyNoWith = b2
  cases b1 <;> cases b2 <;> simp

theorem fireCustom_skip_eq (d : ObsData) (mask : Mask) (entityMask : Mask) :
    Generated.fireCustom_skip d.hasComps d.hasWith d.hasWithout d.compsMask d.withMask d.withoutMask mask entityMask
      = !Pred.set d mask entityMask := by
  unfold Generated.fireCustom_skip Pred.set
  generalize d.hasComps = b1; generalize d.hasWith = b2; generalize d.hasWithout = b3
  cases b1 <;> cases b2 <;> cases b3 <;> simp <;>
    (first | rfl | (repeat (first | (cases Mask.contains _ _) | (cases Mask.containsAny _ _)) <;> simp))

theorem fireCustom_early_eq (es : EvtState) (mask : Mask) (entityMask : Mask) :
    Generated.fireCustom_early es.anyNoComps es.anyNoWith es.allComps es.allWith mask entityMask
      = Early.set es mask entityMask := by
  unfold Generated.fireCustom_early Early.set
  generalize es.anyNoComps = b1; generalize es.anyNoWith = b2
  cases b1 <;> cases b2 <;> simp

/-- the `Fire…IfHas` wrappers test `hasObservers` and delegate with the early-out enabled (shape
    checked by the extractor; the definitions exist only when the check passed) -/
theorem ifHas_wrappers :
    (Generated.fireCreateEntityIfHas_wrapper, Generated.fireCreateEntityRelIfHas_wrapper,
      Generated.fireAddIfHas_wrapper) = ((), (), ()) := rfl

end Ark.GenBridge
