/-
  Ark.Proofs.GenBridge.BookStats — the incremental statistics of archetype.go / table.go
  (`table.Stats`, `table.UpdateStats`, `archetype.UpdateStats` over the RE-USED `stats.Archetype`),
  translated statement by statement from the Go source on every run (tools/extract/book.go →
  Ark/Generated/BookStats.lean), proved equal to the model's `tableStats` / `archStatsUpdate`
  for ALL worlds, ALL archetypes and EVERY stored object, without hypothesis: a table ID that is
  not an index of `w.tables` reads the zero table on both sides (`gTable default = default`).

  The model is blind to the truncation of the re-used slice (`modelTablesNoTrunc_eq`); the
  translated source is not: with the truncation dropped from the Go function the generated
  definition keeps the stale tail of `stats.Tables` and `updateStats_eq` is false (the hypothesis
  `st.Tables.length = max L0 lo` of `rounds_eq` fails for the first loop).
-/
import Ark.Generated.BookStats
import Ark.Proofs.GenBridge.BookArchetype
import Ark.Proofs.Stats

set_option autoImplicit false

namespace Ark.GenBridge.Book
open Ark Ark.World Ark.Generated.Book

/-! ## 1. projections -/

/-- the model's table as the structure generated from the Go struct, WITH `len` and `cap` -/
def gTable (T : Table) : G_table := { ofTable T with len := T.len, cap := T.cap }

def gStorage (w : World) : G_storage := { tables := w.tables.map gTable }

def gTableStats (t : TableStats) : G_stats_Table :=
  { Size := t.size, Capacity := t.capacity, Memory := t.memory, MemoryUsed := t.memoryUsed }

/-- `stats.Archetype` (the fields `archetype.UpdateStats` reads or writes; `componentIDs` and
    `numRelations` are neither) -/
def gArchStats (s : ArchStats) : G_stats_Archetype :=
  { Tables := s.tables.map gTableStats, Size := s.size, Capacity := s.capacity, Memory := s.memory,
    MemoryUsed := s.memoryUsed, MemoryPerEntity := s.memoryPerEntity, FreeTables := s.freeTables }

theorem gTable_default : gTable default = default := rfl

/-- `storage.tables[id]` on the projected store is the projection of the model's `w.tbl id`,
    for EVERY `id` (out of range: the zero table on both sides) -/
theorem gStorage_getD (w : World) (id : Nat) :
    (gStorage w).tables.getD id default = gTable (w.tbl id) := by
  simp only [gStorage, World.tbl, List.getD_eq_getElem?_getD, List.getElem?_map]
  cases w.tables[id]? <;> rfl

/-! ## 2. `table.Stats`, `table.UpdateStats` -/

theorem tableUpdateStats_eq_stats (t : G_table) (mpe : Nat) (old : G_stats_Table) :
    table_UpdateStats t mpe old = table_Stats t mpe := rfl

/-! ## 3. the loops of `archetype.UpdateStats`, whatever their shape

The loop bodies of the generated definition are never spelled here: a loop over the active tables is
recognised by what one round DOES (`IsRound`: the entry of the `i`-th table is written at position
`i` of the stored list — overwriting the slot if there is one, appending otherwise — and its four
figures are added to the sums), the loop over the free tables by being additive.  The step
functions are found by unification; the per-round obligations are discharged by `simp`.  So the
proof goes through for the source with one in-place loop followed by one appending loop as well as
for one merged loop, with the free tables summed before or after. -/

/-- the state of the loops: `cap`, `count`, `memory`, `memoryUsed`, `stats` -/
abbrev Acc := Nat × Nat × Nat × Nat × G_stats_Archetype

/-- the entry of the `i`-th active table -/
def entry (S : G_storage) (tbls : List Nat) (mpe : Nat) (i : Nat) : G_stats_Table :=
  table_Stats (S.tables.getD (tbls.getD i 0) default) mpe

/-- the four figures of the entries `g i`, `i ∈ l`, summed -/
def sumOf (f : G_stats_Table → Nat) (g : Nat → G_stats_Table) (l : List Nat) : Nat :=
  (l.map fun i => f (g i)).sum

theorem sumOf_append (f : G_stats_Table → Nat) (g : Nat → G_stats_Table) (l₁ l₂ : List Nat) :
    sumOf f g (l₁ ++ l₂) = sumOf f g l₁ + sumOf f g l₂ := by
  simp [sumOf]

theorem sumOf_cons (f : G_stats_Table → Nat) (g : Nat → G_stats_Table) (x : Nat) (l : List Nat) :
    sumOf f g (x :: l) = f (g x) + sumOf f g l := by
  simp [sumOf]

/-- write `x` at position `i`: overwrite the slot when it exists, append otherwise -/
def putAt (l : List G_stats_Table) (i : Nat) (x : G_stats_Table) : List G_stats_Table :=
  if i < l.length then l.set i x else l ++ [x]

theorem putAt_length (l : List G_stats_Table) (i : Nat) (x : G_stats_Table) (L0 : Nat)
    (h : l.length = max L0 i) : (putAt l i x).length = max L0 (i + 1) := by
  unfold putAt
  split
  · rw [List.length_set]; omega
  · rw [List.length_append, List.length_singleton]; omega

theorem putAt_take (l : List G_stats_Table) (i : Nat) (x : G_stats_Table) (h : i ≤ l.length) :
    (putAt l i x).take (i + 1) = l.take i ++ [x] := by
  unfold putAt
  split
  · next hlt =>
    rw [List.take_set, List.take_succ_eq_append_getElem hlt,
      List.set_append_right _ _ (by rw [List.length_take]; omega)]
    simp [List.length_take, Nat.min_eq_left h]
  · next hge =>
    have : i = l.length := by omega
    subst this
    rw [List.take_of_length_le (by simp), List.take_of_length_le (Nat.le_refl _)]

theorem putAt_drop (l : List G_stats_Table) (i k : Nat) (x : G_stats_Table) :
    (putAt l i x).drop (i + 1 + k) = l.drop (i + 1 + k) := by
  unfold putAt
  split
  · rw [List.drop_set_of_lt (by omega)]
  · rw [List.drop_eq_nil_of_le (by simp; omega), List.drop_eq_nil_of_le (by omega)]

/-- `F` is one round of a statistics loop -/
def IsRound (S : G_storage) (tbls : List Nat) (mpe L0 : Nat) (F : Acc → Nat → Acc) (lo hi : Nat) : Prop :=
  ∀ (c n m u : Nat) (st : G_stats_Archetype) (i : Nat), lo ≤ i → i < hi → st.MemoryPerEntity = mpe →
    st.Tables.length = max L0 i →
    F (c, n, m, u, st) i =
      (c + (entry S tbls mpe i).Capacity, n + (entry S tbls mpe i).Size,
       m + (entry S tbls mpe i).Memory, u + (entry S tbls mpe i).MemoryUsed,
       { st with Tables := putAt st.Tables i (entry S tbls mpe i) })

theorem rounds_eq (S : G_storage) (tbls : List Nat) (mpe L0 : Nat) (F : Acc → Nat → Acc) :
    ∀ (len lo : Nat) (a : Acc), IsRound S tbls mpe L0 F lo (lo + len) →
    a.2.2.2.2.MemoryPerEntity = mpe → a.2.2.2.2.Tables.length = max L0 lo →
    (List.range' lo len).foldl F a =
      (a.1 + sumOf (·.Capacity) (entry S tbls mpe) (List.range' lo len),
       a.2.1 + sumOf (·.Size) (entry S tbls mpe) (List.range' lo len),
       a.2.2.1 + sumOf (·.Memory) (entry S tbls mpe) (List.range' lo len),
       a.2.2.2.1 + sumOf (·.MemoryUsed) (entry S tbls mpe) (List.range' lo len),
       { a.2.2.2.2 with Tables := a.2.2.2.2.Tables.take lo ++
           (List.range' lo len).map (entry S tbls mpe) ++ a.2.2.2.2.Tables.drop (lo + len) }) := by
  intro len
  induction len with
  | zero =>
    intro lo a _ _ _
    obtain ⟨c, n, m, u, st⟩ := a
    simp [sumOf]
  | succ len ih =>
    intro lo a hF hmpe hlen
    obtain ⟨c, n, m, u, st⟩ := a
    rw [List.range'_succ, List.foldl_cons, hF c n m u st lo (Nat.le_refl _) (by omega) hmpe hlen]
    have hF' : IsRound S tbls mpe L0 F (lo + 1) (lo + 1 + len) :=
      fun c n m u st i h1 h2 => hF c n m u st i (by omega) (by omega)
    rw [ih (lo + 1) _ hF']
    · have h1 : lo ≤ st.Tables.length := by simp only at hlen; omega
      have h2 : lo + 1 + len = lo + (len + 1) := by omega
      have h3 := putAt_drop st.Tables lo len (entry S tbls mpe lo)
      rw [h2] at h3
      simp only [sumOf_cons, Nat.add_assoc, List.map_cons, putAt_take _ _ _ h1, h3, h2,
        List.append_assoc, List.singleton_append]
    · exact hmpe
    · exact putAt_length _ _ _ _ hlen


/-! ## 3b. the three loops of `archetype.UpdateStats`, written by hand

`step1`, `step2`, `step3` are hand-written step functions (they do not mention the generated
`archetype_UpdateStats`, so nothing ties them to the source as it is), `loop2_eq`, `loop3_eq`
(and `source_inplace_loop` of Ark/Props/C19Src.lean for `step1`) their closed forms.
`updateStats_eq` does NOT go through them. -/

/-- the body of the in-place loop -/
def step1 (S : G_storage) (tables : TableIDs) : Acc → Nat → Acc :=
  fun (cap, count, memory, memoryUsed, stats) i =>
    let out_1 := (table_UpdateStats ((((S).tables).getD ((((tables).tables).getD (i) 0)) default)) ((stats).MemoryPerEntity) ((((stats).Tables).getD (i) default)))
    let stats := ({ (stats) with Tables := (((stats).Tables).set (i) (out_1)) } : G_stats_Archetype)
    let cap := (cap + ((((stats).Tables).getD (i) default)).Capacity)
    let count := (count + ((((stats).Tables).getD (i) default)).Size)
    let memory := (memory + ((((stats).Tables).getD (i) default)).Memory)
    let memoryUsed := (memoryUsed + ((((stats).Tables).getD (i) default)).MemoryUsed)
    (cap, count, memory, memoryUsed, stats)

/-- the body of the appending loop -/
def step2 (S : G_storage) (tables : TableIDs) : Acc → Nat → Acc :=
  fun (cap, count, memory, memoryUsed, stats) i =>
    let tableStats := (table_Stats ((((S).tables).getD ((((tables).tables).getD (i) 0)) default)) ((stats).MemoryPerEntity))
    let stats := ({ (stats) with Tables := ((stats).Tables ++ [tableStats]) } : G_stats_Archetype)
    let cap := (cap + (tableStats).Capacity)
    let count := (count + (tableStats).Size)
    let memory := (memory + (tableStats).Memory)
    let memoryUsed := (memoryUsed + (tableStats).MemoryUsed)
    (cap, count, memory, memoryUsed, stats)

/-- the body of the free-table loop -/
def step3 (S : G_storage) (free : List Nat) (mpe : Nat) : Nat × Nat → Nat → Nat × Nat :=
  fun (cap, memory) i_2 =>
    let id := ((free).getD (i_2) 0)
    let cap := (cap + ((((S).tables).getD (id) default)).cap)
    let memory := (memory + (mpe * ((((S).tables).getD (id) default)).cap))
    (cap, memory)

theorem step1_eq (S : G_storage) (tables : TableIDs) (c n m u : Nat) (st : G_stats_Archetype)
    (i : Nat) (hi : i < st.Tables.length) :
    step1 S tables (c, n, m, u, st) i =
      (c + (entry S tables.tables st.MemoryPerEntity i).Capacity,
       n + (entry S tables.tables st.MemoryPerEntity i).Size,
       m + (entry S tables.tables st.MemoryPerEntity i).Memory,
       u + (entry S tables.tables st.MemoryPerEntity i).MemoryUsed,
       { st with Tables := st.Tables.set i (entry S tables.tables st.MemoryPerEntity i) }) := by
  have hget : ∀ (x : G_stats_Table), (st.Tables.set i x).getD i default = x := by
    intro x
    rw [List.getD_eq_getElem?_getD, List.getElem?_set_self hi]; rfl
  simp only [step1, tableUpdateStats_eq_stats, hget, entry]

theorem loop2_eq (S : G_storage) (tables : TableIDs) : ∀ (len lo c n m u : Nat)
    (st : G_stats_Archetype),
    (List.range' lo len).foldl (step2 S tables) (c, n, m, u, st) =
      (c + sumOf (·.Capacity) (entry S tables.tables st.MemoryPerEntity) (List.range' lo len),
       n + sumOf (·.Size) (entry S tables.tables st.MemoryPerEntity) (List.range' lo len),
       m + sumOf (·.Memory) (entry S tables.tables st.MemoryPerEntity) (List.range' lo len),
       u + sumOf (·.MemoryUsed) (entry S tables.tables st.MemoryPerEntity) (List.range' lo len),
       { st with Tables := st.Tables ++
                   (List.range' lo len).map (entry S tables.tables st.MemoryPerEntity) }) := by
  intro len
  induction len with
  | zero => intro lo c n m u st; simp [sumOf]
  | succ len ih =>
    intro lo c n m u st
    rw [List.range'_succ, List.foldl_cons]
    have hs : step2 S tables (c, n, m, u, st) lo =
        (c + (entry S tables.tables st.MemoryPerEntity lo).Capacity,
         n + (entry S tables.tables st.MemoryPerEntity lo).Size,
         m + (entry S tables.tables st.MemoryPerEntity lo).Memory,
         u + (entry S tables.tables st.MemoryPerEntity lo).MemoryUsed,
         { st with Tables := st.Tables ++ [entry S tables.tables st.MemoryPerEntity lo] }) := rfl
    rw [hs, ih]
    simp only [sumOf_cons, Nat.add_assoc, List.map_cons, List.append_assoc, List.singleton_append]

theorem loop3_eq (S : G_storage) (free : List Nat) (mpe : Nat) : ∀ (k c m : Nat),
    (List.range k).foldl (step3 S free mpe) (c, m) =
      (c + ((List.range k).map fun i => (S.tables.getD (free.getD i 0) default).cap).sum,
       m + mpe * ((List.range k).map fun i => (S.tables.getD (free.getD i 0) default).cap).sum) := by
  intro k c m
  rw [foldl_additive2 (step3 S free mpe) (fun _ _ _ => by simp [step3])]
  simp only [step3, Nat.zero_add, sum_map_mul_left]

/-! ## 4. `archetype.UpdateStats` = `archStatsUpdate` -/

theorem entry_eq (w : World) (tbls : List Nat) (mpe i : Nat) :
    entry (gStorage w) tbls mpe i = gTableStats (tableStats (w.tbl (tbls.getD i 0)) mpe) := by
  rw [entry, gStorage_getD]; rfl

theorem entries_eq (w : World) (tbls : List Nat) (mpe : Nat) :
    (List.range tbls.length).map (entry (gStorage w) tbls mpe) =
      (tbls.map fun t => tableStats (w.tbl t) mpe).map gTableStats :=
  calc (List.range tbls.length).map (entry (gStorage w) tbls mpe)
      = (List.range tbls.length).map
          (fun i => gTableStats (tableStats (w.tbl (tbls.getD i 0)) mpe)) :=
        List.map_congr_left fun i _ => entry_eq w tbls mpe i
    _ = tbls.map (fun t => gTableStats (tableStats (w.tbl t) mpe)) :=
        range_map_getD (fun t => gTableStats (tableStats (w.tbl t) mpe)) 0 tbls
    _ = _ := by rw [List.map_map]; rfl

theorem sumOf_entries (w : World) (tbls : List Nat) (mpe : Nat) (f : G_stats_Table → Nat)
    (f' : TableStats → Nat) (hf : ∀ (t : TableStats), f (gTableStats t) = f' t) :
    sumOf f (entry (gStorage w) tbls mpe) (List.range tbls.length) =
      ((tbls.map fun t => tableStats (w.tbl t) mpe).map f').sum := by
  have h : (List.range tbls.length).map (fun i => f (entry (gStorage w) tbls mpe i)) =
      (tbls.map fun t => tableStats (w.tbl t) mpe).map f' :=
    calc (List.range tbls.length).map (fun i => f (entry (gStorage w) tbls mpe i))
        = (List.range tbls.length).map
            (fun i => f' (tableStats (w.tbl (tbls.getD i 0)) mpe)) :=
          List.map_congr_left fun i _ => by rw [entry_eq, hf]
      _ = tbls.map (fun t => f' (tableStats (w.tbl t) mpe)) :=
          range_map_getD (fun t => f' (tableStats (w.tbl t) mpe)) 0 tbls
      _ = _ := by rw [List.map_map]; rfl
  rw [sumOf, h]

theorem range_split' (k n : Nat) (hkn : k ≤ n) :
    List.range k ++ List.range' k (n - k) = List.range n := by
  rw [List.range_eq_range', List.range_eq_range']
  have := List.range'_append (s := 0) (m := k) (n := n - k) (step := 1)
  rw [Nat.one_mul, Nat.zero_add] at this
  rw [this]
  congr 1
  omega

theorem sumOf_nil (f : G_stats_Table → Nat) (g : Nat → G_stats_Table) : sumOf f g [] = 0 := rfl

/-- two consecutive loops over the positions below `n` are one -/
theorem sumOf_split (f : G_stats_Table → Nat) (g : Nat → G_stats_Table) (a n : Nat) (h : a ≤ n) :
    sumOf f g (List.range a) + sumOf f g (List.range' a (n - a)) = sumOf f g (List.range n) := by
  rw [← sumOf_append, range_split' a n h]

theorem map_split {β : Type} (g : Nat → β) (a n : Nat) (h : a ≤ n) :
    List.map g (List.range a) ++ List.map g (List.range' a (n - a)) = List.map g (List.range n) := by
  rw [← List.map_append, range_split' a n h]

theorem map_split_assoc {β : Type} (g : Nat → β) (a n : Nat) (h : a ≤ n) (z : List β) :
    List.map g (List.range a) ++ (List.map g (List.range' a (n - a)) ++ z) =
      List.map g (List.range n) ++ z := by
  rw [← List.append_assoc, map_split g a n h]

theorem drop_take_self' {β : Type} (l : List β) (n : Nat) : (l.take n).drop n = [] :=
  List.drop_eq_nil_of_le (List.length_take_le n l)

theorem drop_map_range {β : Type} (g : Nat → β) (a k : Nat) :
    (List.map g (List.range a)).drop (a + k) = [] :=
  List.drop_eq_nil_of_le (by simp)

theorem take_map_range {β : Type} (g : Nat → β) (a : Nat) :
    (List.map g (List.range a)).take a = List.map g (List.range a) :=
  List.take_of_length_le (by simp)

/-- the model side: the updated entry does not depend on the stored list of table entries -/
theorem gArchStats_update (w : World) (A : Archetype) (st : ArchStats) :
    gArchStats (w.archStatsUpdate A st) =
      { Tables := (A.tables.tables.map fun t => tableStats (w.tbl t) st.memoryPerEntity).map
          gTableStats
        Size := ((A.tables.tables.map fun t => tableStats (w.tbl t) st.memoryPerEntity).map
          (·.size)).sum
        Capacity := ((A.tables.tables.map fun t => tableStats (w.tbl t) st.memoryPerEntity).map
          (·.capacity)).sum + (A.freeTables.map fun t => (w.tbl t).cap).sum
        Memory := ((A.tables.tables.map fun t => tableStats (w.tbl t) st.memoryPerEntity).map
          (·.memory)).sum + st.memoryPerEntity * (A.freeTables.map fun t => (w.tbl t).cap).sum
        MemoryUsed := ((A.tables.tables.map fun t => tableStats (w.tbl t) st.memoryPerEntity).map
          (·.memoryUsed)).sum
        MemoryPerEntity := st.memoryPerEntity
        FreeTables := A.freeTables.length } := by
  simp only [gArchStats, archStatsUpdate, map_take_append_map_drop, foldl_add_zero]

-- the simp sets below cover both shapes of the loops (two loops / one merged loop): for either
-- shape some of their lemmas do not fire
set_option linter.unusedSimpArgs false in
/-- `archetype.UpdateStats` on a stored list that is not longer than the list of active tables
    (nothing to truncate) -/
theorem updateStats_eq_of_le (w : World) (A : Archetype) (st : ArchStats)
    (hle : st.tables.length ≤ A.tables.tables.length) :
    archetype_UpdateStats (ofArch A) (gArchStats st) (gStorage w) =
      gArchStats (w.archStatsUpdate A st) := by
  rw [gArchStats_update]
  -- the free tables
  have hfree : ((List.range A.freeTables.length).map fun i =>
      ((gStorage w).tables.getD (A.freeTables.getD i 0) default).cap) =
      A.freeTables.map fun t => (w.tbl t).cap := by
    have h : (fun i => ((gStorage w).tables.getD (A.freeTables.getD i 0) default).cap) =
        fun i => (w.tbl (A.freeTables.getD i 0)).cap := by
      funext i; rw [gStorage_getD]; rfl
    rw [h]
    exact range_map_getD (fun t => (w.tbl t).cap) 0 A.freeTables
  -- what is left of the stored list behind the active tables: nothing
  have hdrop : ∀ (k : Nat), st.tables.length ≤ k → List.drop k (List.map gTableStats st.tables) = [] :=
    fun k hk => List.drop_eq_nil_of_le (by rw [List.length_map]; exact hk)
  unfold archetype_UpdateStats
  have hlt' : ¬ (ofArch A).tables.tables.length < (gArchStats st).Tables.length := by
    simpa [ofArch, gArchStats] using hle
  simp only [hlt', decide_false, Bool.false_eq_true, if_false, List.range_eq_range']
  -- the loop over the free tables, as a sum: over a single figure or over a pair of figures
  try (rw [foldl_additive1]; rotate_left; (· intros; (try simp only []); omega))
  try (rw [foldl_additive2]; rotate_left; (· intros; simp))
  -- the loops over the active tables: the first one starts at position 0; a second one, if the
  -- source has one, goes on where the first one stopped
  rw [rounds_eq (gStorage w) A.tables.tables st.memoryPerEntity st.tables.length _ _ 0]
  try rw [rounds_eq (gStorage w) A.tables.tables st.memoryPerEntity st.tables.length]
  rotate_left
  -- per loop: one round is `IsRound` (the cases "the slot exists" / "does not exist" are decided
  -- first, `i < st.tables.length`, the length of the stored list; `simp` does the rest), the entry's
  -- `MemoryPerEntity`, the length of the stored list when the loop starts
  iterate 2 try (
    · intro c n m u s i hlo hhi hmpe hlen
      simp only [gArchStats, ofArch, List.length_take, List.length_map, Nat.zero_add] at hlo hhi hlen
      by_cases hi : i < st.tables.length
      · first
        | (exfalso; omega)
        | (have hil : i < s.Tables.length := by omega
           simp [putAt, entry, tableUpdateStats_eq_stats, gArchStats, ofArch, hi, hil, hmpe,
             List.getD_eq_getElem?_getD]
           done)
      · first
        | (exfalso; omega)
        | (have hil : s.Tables.length = i := by omega
           subst hil
           simp [putAt, entry, tableUpdateStats_eq_stats, gArchStats, ofArch, hi, hmpe,
             List.getD_eq_getElem?_getD]
           done)
    · simp [gArchStats]
    · (simp [gArchStats, ofArch] <;> omega))
  -- the sums and the list of the entries, in the model's terms: consecutive loops are joined,
  -- what is left of the stored list behind the active tables is empty
  simp only [← List.range_eq_range', Nat.zero_add, Nat.add_zero, List.take_zero, List.nil_append,
    List.append_nil, gArchStats, ofArch, List.length_map, List.length_take, Nat.sub_self,
    List.range'_zero, List.map_nil, sumOf_nil, drop_take_self', hdrop, drop_map_range, take_map_range,
    Nat.le_refl, Nat.le_add_right, hle,
    map_split _ _ _ hle, map_split_assoc _ _ _ hle, sumOf_split _ _ _ _ hle, sum_map_mul_left]
  all_goals try simp only [entries_eq, hfree,
    sumOf_entries w _ _ (·.Capacity) (·.capacity) (fun _ => rfl),
    sumOf_entries w _ _ (·.Size) (·.size) (fun _ => rfl),
    sumOf_entries w _ _ (·.Memory) (·.memory) (fun _ => rfl),
    sumOf_entries w _ _ (·.MemoryUsed) (·.memoryUsed) (fun _ => rfl)]
  all_goals simp [Nat.add_comm]

/-- **`archetype.UpdateStats`, as translated from the source, is the model's `archStatsUpdate`** —
    for every world, every archetype and EVERY stored object (more, fewer or as many table
    entries as the archetype has active tables; any figures).  No hypothesis: table IDs outside
    `w.tables` read the zero table on both sides. -/
theorem updateStats_eq (w : World) (A : Archetype) (st : ArchStats) :
    archetype_UpdateStats (ofArch A) (gArchStats st) (gStorage w) =
      gArchStats (w.archStatsUpdate A st) := by
  by_cases hlt : A.tables.tables.length < st.tables.length
  · -- FEWER active tables than stored entries: the source truncates the stored list and goes on
    -- as on the truncated entry
    have htr : archetype_UpdateStats (ofArch A) (gArchStats st) (gStorage w) =
        archetype_UpdateStats (ofArch A)
          (gArchStats { st with tables := st.tables.take A.tables.tables.length }) (gStorage w) := by
      have h1 : (ofArch A).tables.tables.length < (gArchStats st).Tables.length := by
        simpa [ofArch, gArchStats] using hlt
      have h2 : ¬ (ofArch A).tables.tables.length <
          (gArchStats { st with tables := st.tables.take A.tables.tables.length }).Tables.length := by
        simpa [ofArch, gArchStats] using Nat.min_le_left _ _
      unfold archetype_UpdateStats
      simp only [h1, h2, decide_true, decide_false, Bool.false_eq_true, if_true, if_false]
      simp only [gArchStats, ofArch, List.map_take, List.length_take, List.length_map,
        Nat.min_eq_left (Nat.le_of_lt hlt)]
    rw [htr, updateStats_eq_of_le w A _ (by simp [List.length_take]; omega), gArchStats_update,
      gArchStats_update]
  · exact updateStats_eq_of_le w A st (Nat.le_of_not_lt hlt)

/-! ## 5. consequences -/

/-- **`World.Stats()` of the model, per archetype, is what the translated source computes**: the
    entry at a position that has a stored entry is `archetype.UpdateStats` of the archetype, the
    stored entry and the table store — for any world and any stored object -/
theorem statsUpdate_entry (w : World) (st : WorldStats) (i : Nat) (A : Archetype) (s : ArchStats)
    (hA : w.archetypes[i]? = some A) (hs : st.archetypes[i]? = some s) :
    ((w.statsUpdate st).archetypes[i]?).map gArchStats =
      some (archetype_UpdateStats (ofArch A) (gArchStats s) (gStorage w)) := by
  have hi : i < st.archetypes.length := (List.getElem?_eq_some_iff.mp hs).1
  have hz : ((w.archetypes.take st.archetypes.length).zip st.archetypes)[i]? = some (A, s) :=
    List.getElem?_zip_eq_some.mpr ⟨by rw [List.getElem?_take_of_lt hi]; exact hA, hs⟩
  have hlen : i < (((w.archetypes.take st.archetypes.length).zip st.archetypes).map
      fun (p : Archetype × ArchStats) => w.archStatsUpdate p.1 p.2).length := by
    rw [List.length_map]; exact (List.getElem?_eq_some_iff.mp hz).1
  have : (w.statsUpdate st).archetypes[i]? = some (w.archStatsUpdate A s) := by
    show ((((w.archetypes.take st.archetypes.length).zip st.archetypes).map
      fun (p : Archetype × ArchStats) => w.archStatsUpdate p.1 p.2) ++ _)[i]? = _
    rw [List.getElem?_append_left hlen, List.getElem?_map, hz]
    rfl
  rw [this, Option.map_some, updateStats_eq]

end Ark.GenBridge.Book
