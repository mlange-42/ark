/-
  Ark.Proofs.GenBridge.BookArchetype — the relation-index bookkeeping of archetype.go
  (`HasRelations`, `GetFreeTable`, `FreeTable`, `removeTableRelations`, `FreeAllTables`,
  `AddTable`, `RemoveTarget`), translated statement by statement from the Go source on every run
  (tools/extract/book.go → Ark/Generated/BookArchetype.lean), proved equal to the model's
  `Archetype` operations for ALL archetypes and tables.

  `ofArch` / `ofTable` project the model's structures onto the structures generated from the Go
  struct declarations (Go splits a table into `columns[i].{isRelation,target}`, the model keeps
  the parallel lists `isRel`/`targets`).  Hypotheses that appear are layout facts of `SInv`
  (`tblArch`: a table copies its archetype's layout; `comps`/`astruct`: metadata lengths):
  Go reads the relation flag from the table's column, the model from the archetype.
-/
import Ark.Generated.BookArchetype
import Ark.Proofs.GenBridge.BookTableIDs

namespace Ark.GenBridge.Book
open Ark Ark.Generated.Book

def ofArch (A : Archetype) : G_archetype :=
  { isRelation := A.isRel, freeTables := A.freeTables, targetTables := A.targetTables,
    relationTables := A.relationTables, tables := A.tables, numRelations := A.numRel }

def ofTable (T : Table) : G_table :=
  { ids := T.ids.map fun _ => {}
    columns := (List.range T.ids.length).map fun i =>
      { target := T.targets.getD i Ent.zero, isRelation := T.isRel.getD i false }
    id := T.id, isFree := T.isFree }

theorem ofTable_col (T : Table) (hlen : T.isRel.length ≤ T.ids.length) (i : Nat) :
    ((ofTable T).columns.getD i default).isRelation = T.isRel.getD i false ∧
    (T.isRel.getD i false = true → ((ofTable T).columns.getD i default).target = T.targets.getD i Ent.zero) := by
  unfold ofTable
  by_cases hi : i < T.ids.length
  · simp [List.getD_eq_getElem?_getD, hi]
  · have h1 : T.isRel.getD i false = false := by
      simp [List.getD_eq_getElem?_getD, List.getElem?_eq_none (show T.isRel.length ≤ i by omega)]
    have hcol : ((List.range T.ids.length).map fun i =>
        ({ target := T.targets.getD i Ent.zero, isRelation := T.isRel.getD i false } : G_column)).getD i default = default := by
      simp [List.getD_eq_getElem?_getD, hi]
    simp only [hcol, h1]
    exact ⟨rfl, fun h => by cases h⟩

theorem hasRelations_eq (A : Archetype) : archetype_HasRelations (ofArch A) = A.hasRelations := by
  simp [archetype_HasRelations, ofArch, Archetype.hasRelations]

theorem getFreeTable_eq (A : Archetype) :
    archetype_GetFreeTable (ofArch A) =
      match A.getFreeTable with
      | some (A', t) => (ofArch A', t, true)
      | none => (ofArch A, 0, false) := by
  unfold archetype_GetFreeTable Archetype.getFreeTable
  cases hfl : A.freeTables.getLast? with
  | none =>
    have : A.freeTables = [] := List.getLast?_eq_none_iff.1 hfl
    simp [ofArch, this]
  | some t =>
    have hne : A.freeTables ≠ [] := by intro h; rw [h] at hfl; cases hfl
    have hlen : 0 < A.freeTables.length := List.length_pos_iff.2 hne
    have ht : A.freeTables.getD (A.freeTables.length - 1) 0 = t := by
      rw [List.getLast?_eq_getElem?] at hfl
      rw [List.getD_eq_getElem?_getD, hfl]; rfl
    -- the emptiness test, however the source spells it (`len == 0`, `len < 1`)
    have hz : (A.freeTables.length == 0) = false := by
      simp; omega
    have hz' : ¬ A.freeTables.length < 1 := by omega
    simp only [ofArch, hz, hz', decide_false, Bool.false_eq_true, if_false, ht, List.dropLast_eq_take]

theorem freeTable_eq (A : Archetype) (T : Table) :
    archetype_FreeTable (ofArch A) (ofTable T) =
      (ofArch (A.freeTable T.id), ofTable { T with isFree := true }) := by
  unfold archetype_FreeTable Archetype.freeTable
  simp only [remove_eq]
  by_cases h1 : A.numRel ≤ 1
  · simp [ofArch, ofTable, h1]
  · have hfold := foldl_field (σ := G_archetype) (fun a => a.relationTables)
      (fun a v => ({ a with relationTables := v } : G_archetype))
      (fun l i => l.set i (AL.mapVals (l.getD i []) fun v => (v.remove T.id).1))
      (fun _ _ => rfl) (fun _ _ _ => rfl) (fun _ => rfl)
    simp only [ofArch, ofTable, h1, decide_false, Bool.false_eq_true, if_false, Prod.mk.injEq, and_true]
    have := hfold (List.range A.relationTables.length)
      ({ isRelation := A.isRel, freeTables := A.freeTables ++ [T.id], targetTables := A.targetTables,
         relationTables := A.relationTables, tables := (A.tables.remove T.id).1,
         numRelations := A.numRel } : G_archetype)
    simp only at this
    rw [this, foldl_set_map (fun m => AL.mapVals m fun v => (v.remove T.id).1) [] A.relationTables]

theorem freeAllTables_eq (A : Archetype) (S : G_storage) :
    (archetype_FreeAllTables (ofArch A) S).1 = ofArch A.freeAllTables := by
  unfold archetype_FreeAllTables Archetype.freeAllTables
  simp only [clear_eq]
  have hfold := foldl_field (σ := G_archetype) (fun a => a.relationTables)
    (fun a v => ({ a with relationTables := v } : G_archetype))
    (fun l i => l.set i ([] : AL TableIDs))
    (fun _ _ => rfl) (fun _ _ _ => rfl) (fun _ => rfl)
  have := hfold (List.range A.relationTables.length)
    ({ isRelation := A.isRel, freeTables := A.freeTables ++ A.tables.tables, targetTables := A.targetTables,
       relationTables := A.relationTables, tables := A.tables.clear, numRelations := A.numRel } : G_archetype)
  simp only [ofArch] at this ⊢
  rw [this]
  have hm := foldl_set_map (fun _ : AL TableIDs => ([] : AL TableIDs)) [] A.relationTables
  rw [hm]
  simp [TableIDs.clear]


/-- `storage.tables[t].isFree = true` -/
def markFree (S : G_storage) (t : Nat) : G_storage :=
  { S with tables := S.tables.set t ({ (S.tables.getD t default) with isFree := true } : G_table) }

theorem markFree_fold (ts : List Nat) (S : G_storage) :
    (ts.foldl markFree S).tables.length = S.tables.length ∧
    ∀ t, (ts.foldl markFree S).tables.getD t default =
      if t ∈ ts ∧ t < S.tables.length
      then ({ (S.tables.getD t default) with isFree := true } : G_table) else S.tables.getD t default := by
  induction ts generalizing S with
  | nil => simp
  | cons x xs ih =>
    rw [List.foldl_cons]
    obtain ⟨h1, h2⟩ := ih (markFree S x)
    have hl : (markFree S x).tables.length = S.tables.length := by simp [markFree]
    refine ⟨h1.trans hl, fun t => ?_⟩
    rw [h2 t, hl]
    by_cases htx : t = x
    · subst htx
      by_cases hlt : t < S.tables.length
      · simp [markFree, hlt, List.getD_eq_getElem?_getD]
      · simp [markFree, hlt]
    · simp only [markFree, List.getD_eq_getElem?_getD, List.getElem?_set_ne (Ne.symm htx), List.mem_cons, htx,
        false_or]

/-- the storage side of `FreeAllTables`: exactly the archetype's active tables are marked free,
    nothing else of the table store changes -/
theorem freeAllTables_storage (A : Archetype) (S : G_storage) :
    (archetype_FreeAllTables (ofArch A) S).2 = A.tables.tables.foldl markFree S := by
  unfold archetype_FreeAllTables
  simp only [ofArch]
  rw [← foldl_range_getD' markFree 0 A.tables.tables S]
  rfl


/-! ### `RemoveTarget` -/

theorem set_getD_self {α : Type} (l : List α) (i : Nat) (d : α) : l.set i (l[i]?.getD d) = l := by
  by_cases h : i < l.length
  · rw [List.getElem?_eq_getElem h, Option.getD_some, List.set_getElem_self]
  · exact List.set_eq_of_length_le (Nat.le_of_not_lt h)

theorem removeTarget_eq (A : Archetype) (e : Ent) (hlen : A.isRel.length = A.relationTables.length) :
    archetype_RemoveTarget (ofArch A) e = ofArch (A.removeTarget e) := by
  unfold archetype_RemoveTarget Archetype.removeTarget
  -- the loop writes `relationTables` only
  rw [foldl_hom (fun l => ({ ofArch A with relationTables := l } : G_archetype)) (fun _ => True)
    (fun l i => l.set i (if A.isRel.getD i false = true then AL.erase (l.getD i []) e.id else l.getD i []))
    _ (fun l i _ => ⟨by cases hr : A.isRel[i]?.getD false <;> simp [ofArch, hr, set_getD_self], trivial⟩)
    _ A.relationTables (ofArch A) rfl trivial]
  simp only [ofArch]
  congr 1
  apply List.ext_getElem?
  intro i
  rw [foldl_set_idx_get (fun i m => if A.isRel.getD i false = true then AL.erase m e.id else m)]
  by_cases hi : i < A.relationTables.length
  · have hi' : i < A.isRel.length := by omega
    have hz : (A.relationTables.zip A.isRel)[i]? = some (A.relationTables[i], A.isRel[i]) := by
      rw [List.getElem?_eq_some_iff]
      exact ⟨by simp [List.length_zip]; omega, by simp⟩
    simp [hi, hi', List.getD_eq_getElem?_getD, hz]
  · simp [hi, hlen]


/-! ### `removeTableRelations`, `AddTable` -/

@[simp] theorem ofTable_id (T : Table) : (ofTable T).id = T.id := rfl

/-- one round of a loop over the columns of a table that has the archetype's layout, seen through
    `ofArch`: both sides skip a column that is no relation column (the source reads the flag from
    the table, the model from the archetype); at a relation column the source reads the target the
    model reads.  `E`, `M` are the bodies of the two loops, found by unification. -/
theorem colStep (A : Archetype) (T : Table) (hrel : T.isRel = A.isRel)
    (hlen : T.isRel.length ≤ T.ids.length) (a : Archetype) (ha : a.isRel = A.isRel) (i : Nat)
    (E : G_archetype) (M : Archetype) (hM : M.isRel = a.isRel)
    (h : a.isRel.getD i false = true →
      ((ofTable T).columns.getD i default).target = T.targets.getD i Ent.zero → E = ofArch M) :
    (if !((ofTable T).columns.getD i default).isRelation then ofArch a else E) =
      ofArch (if !(a.isRel.getD i false) then a else M) ∧
    (if !(a.isRel.getD i false) then a else M).isRel = A.isRel := by
  obtain ⟨c1, c2⟩ := ofTable_col T hlen i
  rw [c1, hrel, ← ha]
  cases hr : a.isRel.getD i false with
  | false => exact ⟨rfl, rfl⟩
  | true => exact ⟨h hr (c2 (by rw [hrel, ← ha]; exact hr)), hM⟩

/-- `removeTableRelations`, for a table that has the layout of the archetype (`SInv.tblArch`) -/
theorem removeTableRelations_eq (A : Archetype) (T : Table) (hrel : T.isRel = A.isRel)
    (hlen : T.isRel.length ≤ T.ids.length) (hcomps : T.ids.length = A.comps.length) :
    archetype_removeTableRelations (ofArch A) (ofTable T) =
      ofArch (A.removeTableRelations T.id T.targets) := by
  unfold archetype_removeTableRelations Archetype.removeTableRelations
  simp only [remove_eq]
  have hcl : (ofTable T).columns.length = A.comps.length := by simp [ofTable, hcomps]
  rw [hcl]
  apply foldl_hom ofArch (fun a => a.isRel = A.isRel)
  · intro a i ha
    refine colStep A T hrel hlen a ha i _ _ rfl (fun _ ct => ?_)
    simp only [ct, ofArch]
    cases h1 : AL.find? (a.relationTables.getD i []) (T.targets.getD i Ent.zero).id <;>
      cases h2 : AL.find? a.targetTables (T.targets.getD i Ent.zero).id <;>
      simp [set_getD_self]
  · rfl
  · rfl

/-- `AddTable`, for a table that has the layout of the archetype (`SInv.tblArch`) -/
theorem addTable_eq (A : Archetype) (T : Table) (hrel : T.isRel = A.isRel)
    (hlen : T.isRel.length ≤ T.ids.length) (hcomps : T.ids.length = A.comps.length) :
    archetype_AddTable (ofArch A) (ofTable T) = ofArch (A.addTable T.id T.targets) := by
  unfold archetype_AddTable Archetype.addTable
  simp only [append_eq, newTableIDs_eq]
  have hil : (ofTable T).ids.length = A.comps.length := by simp [ofTable, hcomps]
  rw [hil]
  change (if (!archetype_HasRelations (ofArch { A with tables := A.tables.append T.id })) = true
      then ofArch { A with tables := A.tables.append T.id }
      else List.foldl _ (ofArch { A with tables := A.tables.append T.id }) _) = _
  rw [hasRelations_eq]
  cases hr0 : ({ A with tables := A.tables.append T.id } : Archetype).hasRelations with
  | false => simp
  | true =>
    simp only [Bool.not_true, Bool.false_eq_true, if_false]
    apply foldl_hom ofArch (fun a => a.isRel = A.isRel)
    · intro a i ha
      refine colStep A T hrel hlen a ha i _ _ rfl (fun _ ct => ?_)
      simp only [ct, ofArch]
      simp only [List.getD_eq_getElem?_getD]
      rcases Option.eq_none_or_eq_some (AL.find? (a.relationTables[i]?.getD []) (T.targets[i]?.getD Ent.zero).id) with h1 | ⟨ts1, h1⟩ <;>
        rcases Option.eq_none_or_eq_some (AL.find? a.targetTables (T.targets[i]?.getD Ent.zero).id) with h2 | ⟨ts2, h2⟩
      · simp [h1, h2, newTableIDs_eq]
      · rcases Option.eq_none_or_eq_some (AL.find? ts2.indices T.id) with h3 | ⟨x3, h3⟩ <;>
          simp [h1, h2, h3, TableIDs.hasIndex, AL.contains, newTableIDs_eq]
      · simp [h1, h2, newTableIDs_eq]
      · rcases Option.eq_none_or_eq_some (AL.find? ts2.indices T.id) with h3 | ⟨x3, h3⟩ <;>
          simp [h1, h2, h3, TableIDs.hasIndex, AL.contains, newTableIDs_eq]
    · rfl
    · rfl

/-! ### `GetTables`: the relation lookup a query with relation targets reads -/

/-- `ofArch` with the `componentsMap` array of the source: the column index of every component that
    is a column (the source stores -1 for the others and, for those, indexes out of range — the model's
    `none`; the theorem below is about components that are columns). -/
def ofArchM (A : Archetype) : G_archetype :=
  { ofArch A with componentsMap := (List.range 256).map fun c => (A.colIdx c).getD 0 }

/-- the model's relation pair as the Go `relationID` -/
def ofRel (r : RelID) : G_relationID := { target := r.target, component := { id := r.comp } }

/-- `GetTables(relations)` as in the source = the model's `getTables`, whenever the first named
    relation component is a column of the archetype (otherwise the model yields the Go panic). -/
theorem getTables_eq (A : Archetype) (rels : List RelID)
    (hcol : ∀ r, rels.head? = some r → A.hasRelations = true → r.comp < 256 ∧ (A.colIdx r.comp).isSome) :
    some (archetype_GetTables (ofArchM A) (rels.map ofRel)) = A.getTables rels := by
  unfold archetype_GetTables Archetype.getTables
  have hh : archetype_HasRelations (ofArchM A) = A.hasRelations := by
    simp [archetype_HasRelations, ofArchM, ofArch, Archetype.hasRelations]
  rw [hh]
  cases hr : A.hasRelations with
  | false => simp [ofArchM, ofArch]
  | true =>
    cases rels with
    | nil => simp [ofArchM, ofArch]
    | cons r rest =>
      obtain ⟨hlt, hsome⟩ := hcol r rfl hr
      obtain ⟨i, hi⟩ := Option.isSome_iff_exists.mp hsome
      have hidx : ((ofArchM A).componentsMap.getD r.comp 0) = i := by
        simp [ofArchM, List.getD_eq_getElem?_getD, hlt, hi]
      have hidx' : (ofArchM A).componentsMap[r.comp]?.getD 0 = i := by
        simpa [List.getD_eq_getElem?_getD] using hidx
      have hrt : (ofArchM A).relationTables = A.relationTables := by simp [ofArchM, ofArch]
      -- shape-robust: whatever order of tests and whichever lets the source uses
      simp only [Bool.not_true, Bool.false_or, Bool.or_false, List.length_map, List.length_cons,
        Nat.add_eq_zero_iff, Nat.succ_ne_zero, and_false, beq_iff_eq, ↓reduceIte, hi, List.map_cons,
        List.getD_cons_zero, ofRel, hidx, hidx', hrt, Bool.false_eq_true, List.getD_eq_getElem?_getD,
        List.getElem?_cons_zero, Option.getD_some]
      generalize AL.find? (A.relationTables[i]?.getD []) r.target.id = o
      cases o <;> simp

end Ark.GenBridge.Book
