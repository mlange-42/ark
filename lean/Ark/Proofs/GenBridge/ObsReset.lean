/-
  Ark.Proofs.GenBridge.ObsReset — loop bound of `observerManager.Reset` (events.go).
  Ties definitions REGENERATED from the Go source (tools/extract, on every run) to the
  hand-written model: the model's definition is proved equal to what the code says now, for all
  inputs. A change of the Go logic changes the generated definition and breaks these theorems (a
  harmless rewrite, e.g. commuted conjuncts, still passes: the proofs are case analyses, not
  syntactic equalities). One file per source fragment group, so that an untranslatable fragment
  affects only the properties that depend on it.
-/
import Ark.Generated.ObsReset
import Ark.Model.Observers

namespace Ark.GenBridge
open Ark

theorem observerReset_bound_eq (n : Nat) : Generated.observerReset_bound n = ObsMgr.resetBound n := by
  unfold Generated.observerReset_bound ObsMgr.resetBound
  omega

/-- the loop of `observerManager.Reset` visits every event type up to the highest registered one
    (for all 256 values of the `uint8` event type) -/
theorem observerReset_covers : ∀ maxEvt : Nat, maxEvt < 256 → ∀ e, e ≤ maxEvt → e < Generated.observerReset_bound maxEvt := by
  intro m _ e he
  unfold Generated.observerReset_bound
  omega

end Ark.GenBridge
