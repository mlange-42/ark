/-
  Ark.Proofs.GenBridge.Filter — `filter.matches` (filter.go).
  Ties definitions REGENERATED from the Go source (tools/extract, on every run) to the
  hand-written model: the model's definition is proved equal to what the code says now, for all
  inputs. A change of the Go logic changes the generated definition and breaks these theorems (a
  harmless rewrite, e.g. commuted conjuncts, still passes: the proofs are case analyses, not
  syntactic equalities). One file per source fragment group, so that an untranslatable fragment
  affects only the properties that depend on it.
-/
import Ark.Generated.Filter
import Ark.Model.Mask

namespace Ark.GenBridge
open Ark

theorem filter_matches_eq (f : Filter) (m : Mask) :
    Generated.filter_matches f.mask f.without f.hasWithout m = f.matchesMask m := by
  unfold Generated.filter_matches Filter.matchesMask
  cases f.hasWithout <;> simp

end Ark.GenBridge
