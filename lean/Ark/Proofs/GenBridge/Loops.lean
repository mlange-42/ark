/-
  Ark.Proofs.GenBridge.Loops — the loop idioms of the translated Go code, each as one equation.
  The translator renders a `for` loop as a `List.foldl` over `List.range`/`range'` whose state is the
  tuple of the variables the body assigns; the bridges rewrite with these lemmas, the step function
  of the generated fold being found by unification:
  a loop over positions is a loop over the elements read; an in-place update loop is a `map`; a loop
  is seen through a projection or through one field of a record (`foldl_hom`, `foldl_field`); a loop
  with `return`/`panic` inside is `List.findSome?`; a loop that only adds is a sum.
-/

namespace Ark.GenBridge.Book

/-! ### a loop over positions -/

theorem range_map_getD_idx {α β : Type} (f : α → Nat → β) (d : α) (l : List α) :
    (List.range l.length).map (fun i => f (l.getD i d) i) = l.zipIdx.map fun p => f p.1 p.2 := by
  apply List.ext_getElem?
  intro i
  rw [List.getElem?_map, List.getElem?_map, List.getElem?_zipIdx, Nat.zero_add]
  by_cases hi : i < l.length
  · rw [List.getElem?_range hi, List.getElem?_eq_getElem hi, Option.map_some, Option.map_some,
      Option.map_some, List.getD_eq_getElem?_getD, List.getElem?_eq_getElem hi, Option.getD_some]
  · rw [List.getElem?_eq_none (by simpa using hi), List.getElem?_eq_none (Nat.le_of_not_lt hi)]
    rfl

theorem range_map_getD {α β : Type} (f : α → β) (d : α) (l : List α) :
    (List.range l.length).map (fun i => f (l.getD i d)) = l.map f := by
  rw [range_map_getD_idx (fun a _ => f a)]
  exact (List.map_map (f := Prod.fst) (g := f)).symm.trans (by rw [List.zipIdx_map_fst])

theorem foldl_range_getD {α β : Type} (f : β → α → Nat → β) (d : α) (l : List α) (init : β) :
    (List.range l.length).foldl (fun acc i => f acc (l.getD i d) i) init =
      l.zipIdx.foldl (fun acc p => f acc p.1 p.2) init := by
  have h := congrArg (List.foldl (fun acc (p : α × Nat) => f acc p.1 p.2) init)
    (range_map_getD_idx Prod.mk d l)
  rwa [List.foldl_map, List.foldl_map] at h

theorem foldl_range_getD' {α β : Type} (f : β → α → β) (d : α) (l : List α) (init : β) :
    (List.range l.length).foldl (fun acc i => f acc (l.getD i d)) init = l.foldl f init := by
  rw [← List.foldl_map (g := f) (f := fun i => l.getD i d), range_map_getD (fun a => a), List.map_id']

/-! ### an in-place update loop; a loop seen through a projection -/

/-- entry `j` after the first `k` rounds of the in-place loop `l[i] = f i l[i]` -/
theorem foldl_set_idx_get {α : Type} (f : Nat → α → α) (d : α) (l : List α) (k j : Nat) :
    ((List.range k).foldl (fun l i => l.set i (f i (l.getD i d))) l)[j]? =
      if j < k then (l[j]?).map (f j) else l[j]? := by
  induction k with
  | zero => rfl
  | succ k ih =>
    rw [List.range_succ, List.foldl_append, List.foldl_cons, List.foldl_nil]
    by_cases hjk : j = k
    · subst hjk
      rw [List.getElem?_set_self', List.getD_eq_getElem?_getD, ih, if_neg (Nat.lt_irrefl j),
        if_pos (Nat.lt_succ_self j)]
      cases l[j]? <;> rfl
    · rw [List.getElem?_set_ne (Ne.symm hjk), ih]
      have : j < k + 1 ↔ j < k := by omega
      simp only [this]

theorem foldl_set_map {α : Type} (f : α → α) (d : α) (l : List α) :
    (List.range l.length).foldl (fun l i => l.set i (f (l.getD i d))) l = l.map f := by
  apply List.ext_getElem?
  intro j
  rw [foldl_set_idx_get (fun _ => f), List.getElem?_map]
  split
  · rfl
  · next hj => rw [List.getElem?_eq_none (Nat.le_of_not_lt hj)]; rfl

/-- a loop on `σ` seen through `h : σ → τ` (a projection, or one field of a structure put back
    into it), as long as `P` holds; the step `g` of the generated loop is found by unification -/
theorem foldl_hom {σ τ ι : Type} (h : σ → τ) (P : σ → Prop) (f : σ → ι → σ) (g : τ → ι → τ)
    (hstep : ∀ a i, P a → g (h a) i = h (f a i) ∧ P (f a i)) (xs : List ι) (a : σ) (b : τ)
    (hb : b = h a) (ha : P a) : xs.foldl g b = h (xs.foldl f a) := by
  subst hb
  induction xs generalizing a with
  | nil => rfl
  | cons x xs ih =>
    rw [List.foldl_cons, List.foldl_cons, (hstep a x ha).1]
    exact ih _ (hstep a x ha).2

theorem foldl_field {σ α ι : Type} (get : σ → α) (put : σ → α → σ) (g : α → ι → α)
    (hget : ∀ s v, get (put s v) = v) (hput : ∀ s v w, put (put s v) w = put s w)
    (hid : ∀ s, put s (get s) = s) (xs : List ι) (s : σ) :
    xs.foldl (fun s i => put s (g (get s) i)) s = put s (xs.foldl g (get s)) :=
  foldl_hom (put s) (fun _ => True) g _ (fun v i _ => ⟨by rw [hget, hput], trivial⟩) xs (get s) s
    (hid s).symm trivial

/-! ### loops with an early exit

The translator renders `return`/`panic` inside a loop by a fold whose state carries
`ret : Option <result>`; once it is `some`, the remaining iterations keep it.  Such a fold is
`List.findSome?` of the per-iteration outcome.  The generated step function is matched by
unification (`F`), the outcome `g` is given by the proof: the statement does not depend on how the
source spells the loop body. -/

theorem foldl_early {ι ρ : Type} (xs : List ι) (F : Option ρ → ι → Option ρ) (g : ι → Option ρ)
    (hsome : ∀ (r : ρ) (x : ι), F (some r) x = some r) (hnone : ∀ (x : ι), x ∈ xs → F none x = g x)
    (init : Option ρ) :
    xs.foldl F init = init.or (xs.findSome? g) := by
  induction xs generalizing init with
  | nil => cases init <;> rfl
  | cons x xs ih =>
    rw [List.foldl_cons, ih (fun y hy => hnone y (List.mem_cons_of_mem _ hy))]
    cases init with
    | some r => rw [hsome]; rfl
    | none =>
      rw [hnone x (List.mem_cons_self ..), Option.none_or, List.findSome?_cons]
      cases g x <;> rfl

theorem findSome?_range_getElem {α ρ : Type} (l : List α) (g : α → Option ρ) (G : Nat → Option ρ)
    (hG : ∀ (i : Nat) (h : i < l.length), G i = g l[i]) :
    (List.range l.length).findSome? G = l.findSome? g := by
  induction l generalizing G with
  | nil => rfl
  | cons x xs ih =>
    rw [List.length_cons, List.range_succ_eq_map, List.findSome?_cons, List.findSome?_map,
      hG 0 (by simp), List.findSome?_cons]
    have := ih (G ∘ Nat.succ) (fun i h => by
      have := hG (i + 1) (by simp; omega)
      simpa using this)
    simp only [List.getElem_cons_zero]
    rw [this]

theorem foldl_early_pos {α ρ : Type} (l : List α) (g : α → Option ρ) (F : Option ρ → Nat → Option ρ)
    (hsome : ∀ (r : ρ) (i : Nat), F (some r) i = some r)
    (hnone : ∀ (i : Nat) (h : i < l.length), F none i = g l[i]) :
    (List.range l.length).foldl F none = l.findSome? g := by
  rw [foldl_early _ F (F none) hsome (fun _ _ => rfl), Option.none_or]
  exact findSome?_range_getElem l g _ hnone

/-! ### loops that only add -/

theorem foldl_additive1 (F : Nat → Nat → Nat) (hF : ∀ (t i : Nat), F t i = t + F 0 i) (l : List Nat)
    (t : Nat) : l.foldl F t = t + (l.map (F 0)).sum := by
  induction l generalizing t with
  | nil => simp
  | cons x xs ih => rw [List.foldl_cons, ih, hF t x]; simp [Nat.add_assoc]

theorem foldl_additive2 (F : Nat × Nat → Nat → Nat × Nat)
    (hF : ∀ (c m i : Nat), F (c, m) i = (c + (F (0, 0) i).1, m + (F (0, 0) i).2)) (l : List Nat)
    (a : Nat × Nat) :
    l.foldl F a = (a.1 + (l.map fun i => (F (0, 0) i).1).sum,
                   a.2 + (l.map fun i => (F (0, 0) i).2).sum) := by
  induction l generalizing a with
  | nil => simp
  | cons x xs ih =>
    obtain ⟨c, m⟩ := a
    rw [List.foldl_cons, ih, hF c m x]; simp [Nat.add_assoc]

theorem sum_map_mul_left {α : Type} (xs : List α) (f : α → Nat) (k : Nat) :
    (xs.map fun x => k * f x).sum = k * (xs.map f).sum := by
  induction xs with
  | nil => simp
  | cons x xs ih => simp [ih, Nat.mul_add]

end Ark.GenBridge.Book
