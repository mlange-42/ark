/-
  Ark.Proofs.GenBridge.BookTableIDs — `tableIDs` of archetype.go (`newTableIDs`, `Append`,
  `Remove`, `Clear`), translated statement by statement from the Go source on every run
  (tools/extract/book.go → Ark/Generated/BookTableIDs.lean), proved equal to the model's
  `TableIDs` operations for ALL inputs.  A change of the Go code changes the generated definition
  and breaks the corresponding theorem; a harmless rewrite that yields the same function does not.
-/
import Ark.Generated.BookTableIDs
import Ark.Proofs.TableIDs
import Ark.Proofs.GenBridge.Loops

namespace Ark.GenBridge.Book
open Ark Ark.Generated.Book

theorem newTableIDs_eq (ts : List Nat) : newTableIDs ts = TableIDs.ofList ts := by
  unfold newTableIDs TableIDs.ofList
  simp only [foldl_range_getD (fun (m : AL Nat) t i => AL.insert m t i) 0 ts []]

theorem append_eq (t : TableIDs) (id : Nat) : tableIDs_Append t id = t.append id := by
  unfold tableIDs_Append TableIDs.append
  simp

theorem clear_eq (t : TableIDs) : tableIDs_Clear t = t.clear := by
  unfold tableIDs_Clear TableIDs.clear
  simp

/-- `Remove` (the model re-reads the slice after the swap exactly as the Go code does, so the
    equality needs no well-formedness hypothesis) -/
theorem remove_eq (t : TableIDs) (id : Nat) : tableIDs_Remove t id = t.remove id := by
  unfold tableIDs_Remove TableIDs.remove
  cases hf : AL.find? t.indices id with
  | none => simp
  | some index =>
    simp only [Option.getD_some, Option.isSome_some, Bool.not_true, Bool.false_eq_true, if_false]
    by_cases hne : index = t.tables.length - 1
    · simp [hne]
    · -- both orientations of the comparison (`index != last` / `last != index`)
      have hne1 : (index != t.tables.length - 1) = true := by simpa using hne
      have hne2 : (t.tables.length - 1 != index) = true := by simpa using Ne.symm hne
      simp only [hne1, hne2, if_true]

end Ark.GenBridge.Book
