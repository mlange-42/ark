/-
  Ark.Proofs.GenBridge.BookLock — `lock.go`, translated statement by statement from the Go source
  on every run (tools/extract/book.go → Ark/Generated/BookLock.lean), proved equal to the model's
  `Lock` operations for ALL lock states.

  This is where two translators compose: the lock's `bitPool` methods are the bookkeeping-level
  translation of pool.go (Generated/BookPool.lean, related to `BitPool` in GenBridge/BookPool.lean),
  its `bitMask64` methods are the word-level translation of mask64.go (Generated/Words.lean, related
  to `Mask64` in Proofs/MaskWords.lean).  `sync.Mutex` calls are erased by the translator (sequential
  semantics); the mutex discipline is the business of Generated/FactsMutex.lean and the race runs.
-/
import Ark.Generated.BookLock
import Ark.Proofs.GenBridge.BookPool
import Ark.Proofs.MaskWords
import Ark.Proofs.Lock

namespace Ark.GenBridge.Book
open Ark Ark.Generated Ark.Generated.Book Ark.MaskWords

/-- The model's lock as the structure generated from the Go struct. -/
def ofLock (l : Lock) : G_lock := { bitPool := l.pool, locks := ⟨l.locks⟩ }

/-- … and back (`abs64` reads the word). -/
def toLock (g : G_lock) : Lock := { pool := g.bitPool, locks := abs64 g.locks }

@[simp] theorem toLock_ofLock (l : Lock) : toLock (ofLock l) = l := rfl
@[simp] theorem ofLock_toLock (g : G_lock) : ofLock (toLock g) = g := by
  cases g with | mk p l => cases l; rfl

theorem newLock_eq : toLock newLock = ({} : Lock) := by
  simp [toLock, newLock, newBitPool, abs64]

/-- A bit index that fits a byte is passed to the word-level methods unchanged. -/
theorem ofNat8_toNat {b : Nat} (h : b < 256) : (BitVec.ofNat 8 b).toNat = b := by
  simp [BitVec.toNat_ofNat, Nat.mod_eq_of_lt h]

/-- `Lock()`: a bit from the pool (panic when all 64 are out), set in the mask.  Hypotheses: the head
    of a non-empty free chain is a position of the array (as for `bitPool_get_eq`), and the bit the
    pool hands out fits the `uint8` the source carries it in — both parts of `Lock.LInv`. -/
theorem lock_eq (l : Lock) (hn : l.pool.available ≠ 0 → l.pool.next < l.pool.bits.length)
    (hb : ∀ p b, l.pool.get = some (p, b) → b < 256) :
    (lock_Lock (ofLock l)).map (fun r => (toLock r.1, r.2)) = l.lock := by
  unfold lock_Lock Lock.lock
  simp only [ofLock, bitPool_get_eq l.pool hn]
  cases h : l.pool.get with
  | none => rfl
  | some r =>
    obtain ⟨p, b⟩ := r
    have hb' := ofNat8_toNat (hb p b h)
    simp [toLock, abs64, M64.Set, BitVec.shiftLeft_eq', hb']

/-- `LockSafe()` is `Lock()` between the mutex calls. -/
theorem lockSafe_eq (g : G_lock) : lock_LockSafe g = lock_Lock g := rfl

/-- `Unlock(b)`: "unbalanced unlock" panic unless the bit is set; otherwise cleared and recycled.
    For `b < 64` — the bits `Lock()` hands out.  For `64 ≤ b` the source's `Get` is true (the shift
    yields a zero mask, `get64_out_of_range`) and `Recycle` then fails with Go's index-out-of-range panic, which
    the translation of slices as lists does not exhibit; the model panics there too (`getLsbD`). -/
theorem unlock_eq (l : Lock) (b : Nat) (hb : b < 64) :
    (lock_Unlock (ofLock l) b).map toLock = l.unlock b := by
  unfold lock_Unlock Lock.unlock
  have hg : M64.Get (ofLock l).locks (BitVec.ofNat 8 b) = l.locks.getLsbD b := by
    rw [get64_eq _ _ (by rw [ofNat8_toNat (by omega)]; exact hb)]; simp [ofLock, abs64, Mask64.get, ofNat8_toNat (show b < 256 by omega)]
  simp only [hg]
  cases h : l.locks.getLsbD b
  · simp
  · simp [toLock, ofLock, abs64, M64.Clear, BitVec.shiftLeft_eq',
      ofNat8_toNat (show b < 256 by omega), bitPool_recycle_eq]

/-- `UnlockSafe(b)` is `Unlock(b)` between the mutex calls. -/
theorem unlockSafe_eq (g : G_lock) (b : Nat) : lock_UnlockSafe g b = lock_Unlock g b := rfl

theorem isLocked_eq (l : Lock) : lock_IsLocked (ofLock l) = l.isLocked := by
  simp [lock_IsLocked, Lock.isLocked, ofLock, M64.IsZero, bne]

theorem reset_eq (l : Lock) : toLock (lock_Reset (ofLock l)) = l.reset := by
  simp [lock_Reset, Lock.reset, toLock, ofLock, abs64, bitPool_reset_eq]


/-! ### Every history: the source's lock, run from `newLock()`, is the model's lock

  The hypotheses of `lock_eq` are consequences of `Lock.LInv`, which holds after every history
  (`Lock.run_inv`); so on the states that lock/unlock/reset histories reach the translated functions
  and the model agree outright. -/

open Ark.Lock in
theorem linv_hn {s : LS} {fl : List Nat} (g : LInv s fl) :
    s.l.pool.available ≠ 0 → s.l.pool.next < s.l.pool.bits.length := by
  intro h0
  have hav := g.avail
  cases fl with
  | nil => simp at hav; omega
  | cons x fl' =>
    obtain ⟨n, hn⟩ : ∃ n, s.l.pool.available = n + 1 := ⟨s.l.pool.available - 1, by omega⟩
    have hch := g.ch
    rw [hn] at hch
    obtain ⟨hx, _⟩ := chain_succ _ _ _ _ _ hch
    have := g.fl_lt x (by simp)
    have := g.len64
    have := g.bits_len
    omega

open Ark.Lock in
theorem linv_hb {s : LS} {fl : List Nat} (g : LInv s fl) :
    ∀ p b, s.l.pool.get = some (p, b) → b < 256 := by
  intro p b h
  rcases lock_spec s fl g with ⟨hn, _⟩ | ⟨l', b', hl, hb', _⟩
  · simp [Lock.lock, h] at hn
  · simp only [Lock.lock, h, Option.some.injEq, Prod.mk.injEq] at hl
    omega

/-- One step of the source's lock (translated functions); a panic leaves the lock unchanged, as in
    `Lock.LS.step`. -/
def gstep (g : G_lock) : Lock.Op → G_lock
  | .lock => match lock_Lock g with | some (g', _) => g' | none => g
  | .unlock b => match lock_Unlock g b with | some g' => g' | none => g
  | .reset => lock_Reset g

/-- the bits a history passes to `Unlock` are bits `Lock()` can hand out -/
def opOK : Lock.Op → Prop
  | .unlock b => b < 64
  | _ => True

open Ark.Lock in
theorem gstep_eq (s : LS) (fl : List Nat) (g : LInv s fl) (op : Op) (hop : opOK op) :
    toLock (gstep (ofLock s.l) op) = (s.step op).l := by
  cases op with
  | lock =>
    simp only [gstep, LS.step, ← lock_eq s.l (linv_hn g) (linv_hb g)]
    cases lock_Lock (ofLock s.l) <;> rfl
  | unlock b =>
    simp only [gstep, LS.step, ← unlock_eq s.l b hop]
    cases lock_Unlock (ofLock s.l) b <;> rfl
  | reset => simpa [gstep, LS.step] using reset_eq s.l

open Ark.Lock in
/-- **Every lock history.**  Running the functions translated from lock.go (with pool.go and
    mask64.go below them) from `newLock()` gives, after any sequence of `Lock()`, `Unlock(b)` (b < 64)
    and `Reset()`, exactly the model's lock — on which C07's theorems are proved. -/
theorem run_eq (ops : List Op) (hops : ∀ op ∈ ops, opOK op) :
    toLock (ops.foldl gstep newLock) = (LS.init.run ops).l := by
  suffices H : ∀ (s : LS) (fl : List Nat), LInv s fl → ∀ (gl : G_lock), toLock gl = s.l →
      (∀ op ∈ ops, opOK op) → toLock (ops.foldl gstep gl) = (s.run ops).l from
    H LS.init [] linv_init newLock newLock_eq hops
  induction ops with
  | nil => intro s fl _ gl h _; simpa [LS.run] using h
  | cons op ops ih =>
    intro s fl g gl h hall
    obtain ⟨fl', g'⟩ := step_inv s fl g op
    have hgl : gl = ofLock s.l := by rw [← h, ofLock_toLock]
    have hstep := gstep_eq s fl g op (hall op (by simp))
    simp only [List.foldl_cons, LS.run]
    have := ih (fun op' h' => hops op' (by simp [h'])) (s.step op) fl' g' (gstep gl op) (by rw [hgl]; exact hstep)
      (fun op' h' => hall op' (by simp [h']))
    simpa [LS.run] using this

end Ark.GenBridge.Book
