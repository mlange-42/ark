/-
  Ark.Proofs.GenBridge.BookCache — the filter-cache bookkeeping of cache.go (`getEntry`,
  `unregister`, `removeTable`, `Reset`), translated statement by statement from the Go source on
  every run (tools/extract/book.go → Ark/Generated/BookCache.lean), proved equal to the model's
  cache operations for ALL cache states.

  `ofCache` projects the model's cache onto the structures generated from the Go structs.  In Go a
  cache entry points to the filter it was registered for and that filter's `cache` field holds the
  entry's ID; the model keeps this back reference in the filter heap (`HeapOK` of
  `Ark.Proofs.CacheHistOps`), so the projection writes the entry's own ID there.  `register` and
  `addTable` call into the mask and table matching code and stay with the correspondence check.
-/
import Ark.Generated.BookCache
import Ark.Proofs.GenBridge.BookArchetype
import Ark.Proofs.GenBridge.BookPool
import Ark.Model.World

namespace Ark.GenBridge.Book
open Ark Ark.World Ark.Generated.Book

def ofEntry (e : CacheEntry) : G_cacheEntry :=
  { filter := { cache := e.id }, tables := e.tables, id := e.id }

def ofCache (C : Cache) : G_cache :=
  { indices := C.indices, filters := C.filters.map ofEntry, intPool := C.pool }

theorem ofEntry_default : ofEntry default = default := rfl

theorem getD_map_ofEntry (F : List CacheEntry) (k : Nat) :
    (F.map ofEntry).getD k default = ofEntry (F.getD k default) := by
  rw [List.getD_eq_getElem?_getD, List.getD_eq_getElem?_getD, List.getElem?_map]
  cases F[k]? <;> rfl

theorem cache_getEntry_eq (w : World) (id : Nat) (e : CacheEntry) (h : w.cacheEntry? id = some e) :
    cache_getEntry (ofCache w.cache) id = ofEntry e := by
  unfold cacheEntry? at h
  unfold cache_getEntry ofCache
  cases hf : AL.find? w.cache.indices id with
  | none => rw [hf] at h; cases h
  | some idx =>
    rw [hf] at h
    simp only at h
    simp only [Option.getD_some, getD_map_ofEntry]
    rw [List.getD_eq_getElem?_getD, h]
    rfl

theorem cache_removeTable_eq (w : World) (T : Table) :
    cache_removeTable (ofCache w.cache) (ofTable T) = ofCache (w.cacheRemoveTable T.id).cache := by
  unfold cache_removeTable cacheRemoveTable
  simp only [remove_eq, ofTable_id]
  have hfold := foldl_field (σ := G_cache) (fun c => c.filters)
    (fun c v => ({ c with filters := v } : G_cache))
    (fun l i => l.set i ({ (l.getD i default) with tables := ((l.getD i default).tables.remove T.id).1 } : G_cacheEntry))
    (fun _ _ => rfl) (fun _ _ _ => rfl) (fun _ => rfl)
  have := hfold (List.range (ofCache w.cache).filters.length) (ofCache w.cache)
  simp only at this
  rw [this]
  rw [foldl_set_map (fun (e : G_cacheEntry) => ({ e with tables := (e.tables.remove T.id).1 } : G_cacheEntry)) default]
  simp only [ofCache, List.map_map]
  congr 1

-- the simp set below covers both statement orders of the swap (which lemmas fire depends on the shape)
set_option linter.unusedSimpArgs false in
/-- `unregister`: unknown IDs panic; otherwise the model's swap-remove of the entry (for an index
    map whose entries are positions of the entry slice, which `CacheInv.index` guarantees), and the
    filter's `cache` field is reset to "not registered" -/
theorem cache_unregister_eq (w : World) (id : Nat)
    (hidx : ∀ idx, AL.find? w.cache.indices id = some idx → idx < w.cache.filters.length) :
    cache_unregister (ofCache w.cache) { cache := id } =
      match cacheUnregister id w with
      | .panic _ _ => none
      | .ok _ w' => some (ofCache w'.cache, { cache := maxU32 }) := by
  cases hf : AL.find? w.cache.indices id with
  | none =>
    unfold cache_unregister cacheUnregister
    simp [ofCache, hf]
  | some idx =>
    have hlt := hidx idx hf
    unfold cache_unregister cacheUnregister
    simp only [ofCache, hf, Option.getD_some, Option.isSome_some, Bool.not_true, Bool.false_eq_true, if_false,
      List.length_map]
    by_cases hne : idx = w.cache.filters.length - 1
    · subst hne
      simp [List.take_set_of_le, List.map_take]
    · have hne' : (idx != w.cache.filters.length - 1) = true := by simpa using hne
      have hne2 : ¬ w.cache.filters.length - 1 = idx := fun h => hne h.symm
      have hlast : w.cache.filters.length - 1 < w.cache.filters.length := by omega
      simp only [hne', if_true, List.take_set_of_le, getD_map_ofEntry, ← List.map_set, List.map_take]
      simp [List.getD_eq_getElem?_getD, hne, hne2, hlt, hlast, List.take_set_of_le, ofEntry]

theorem cache_reset_eq (w : World) :
    cache_Reset (ofCache w.cache) = ofCache w.cacheReset.cache := by
  unfold cache_Reset cacheReset
  by_cases he : w.cache.indices.isEmpty = true
  · have : w.cache.indices = [] := List.isEmpty_iff.mp he
    simp [ofCache, this]
  · have hne : (w.cache.indices.length == 0) = false := by
      cases hh : w.cache.indices with
      | nil => simp [hh] at he
      | cons _ _ => simp
    have hpool : ∀ (xs : List Nat) (c : G_cache),
        (xs.foldl (fun (c : G_cache) i =>
          ({ c with filters := c.filters.set i ({ (c.filters.getD i default) with filter := ({ (c.filters.getD i default).filter with cache := maxU32 } : G_filter) } : G_cacheEntry) } : G_cache)) c).intPool = c.intPool := by
      intro xs
      induction xs with
      | nil => intro c; rfl
      | cons x xs ih => intro c; rw [List.foldl_cons, ih]
    simp only [ofCache, hne, he, intPool_reset_eq, Bool.false_eq_true, if_false, List.take_zero, hpool]
    rfl

end Ark.GenBridge.Book
