/-
  Ark.Proofs.GenBridge.BookLookup — the exact table lookup (`table.MatchesExact`, `table.Matches`
  of table.go; `archetype.GetTable`, `archetype.getTableSlowPath` of archetype.go), translated
  statement by statement from the Go source on every run (tools/extract/book.go →
  Ark/Generated/BookLookup.lean), proved equal to the model's `Table.matchesExact`,
  `Table.matchesRels` and `World.getTable`, INCLUDING which panic is raised.

  Vocabulary.
  * The generated functions return `GoRes R` (`.ok r` / `.panic ⟨message, integer arguments⟩`; for
    `panic(fmt.Sprintf(f, …))` the message is the format string `f`).  `panicKind` reads the message
    as the model's `PanicKind` ("relation targets must be fully specified" ↦ `.relUnspecified`,
    "component %d is not a relation component" ↦ `.notRelation`, "relation component %d specified
    more than once" ↦ `.relTwice`, anything else — the nil dereference — ↦ `.runtime`), and
    `GoRes.classify` turns a `GoRes R` into a `KRes R` (`.ok r` / `.panic kind`).
  * `ofTableL T` is the model's table as the Go `table` the lookup reads: `components` (Go:
    `[]*column`, 256 entries, nil for the components the table has no column for) has at `c` the
    column `⟨target, isRelation⟩` of `T.colIdx c`; `relationIDs`, `id` as in the model.
    `ofStorageL w` are the world's tables; `ofArchM`, `ofRel` come from `BookArchetype`.
  * Hypotheses.  `IdsLt256 T` (a table's component IDs are < 256 — Go's `ID.id` is a `uint8`, the
    `components` array has 256 entries; `SInv` provides it: `idsLt256_of_sinv`).  For `GetTable`:
    `LookupOK w A` (the tables the archetype lists — in `tables` and in its relation index — exist,
    have their position as `id` and satisfy `IdsLt256`; provided by `SInv` and `RInv`:
    `lookupOK_of_inv`), `rels.length < 256` (the source compares `uint8(len(relations))`, see the
    finding below) and — as in `getTables_eq` — that the first named relation component is a column
    of the archetype (for a component that is not, the source indexes `relationTables[-1]`: a Go
    runtime panic, the model's `.panic .runtime`; the translation has no negative numbers).

  FINDING (`uint8(len(relations))`).  `getTableSlowPath` compares `uint8(len(relations)) <
  a.numRelations`.  For a relation list of 256 entries the conversion wraps to 0 and the source
  panics "relation targets must be fully specified" although enough relations were given (the
  model — like a reader of the message — goes on to the duplicate scan: `.relTwice`; both sides
  panic, only the message differs): `getTable_len256_differs` below.  Hence the hypothesis
  `rels.length < 256` in `getTableSlowPath_eq` / `getTable_eq`.
-/
import Ark.Generated.BookLookup
import Ark.Proofs.GenBridge.BookArchetype
import Ark.Proofs.SInv

namespace Ark.GenBridge.Book
open Ark Ark.Generated.Book

-- the `simp` calls that normalise the generated terms list the lemmas for every shape the source may
-- take (e.g. `for j := 0; j < i; j++` / `for j := range i`); for the current shape some are not used
set_option linter.unusedSimpArgs false

/-! ### results with classified panics -/

/-- a result whose panic is one of the model's panic kinds -/
inductive KRes (α : Type) where
  | ok : α → KRes α
  | panic : PanicKind → KRes α
  deriving Repr, DecidableEq

/-- the panic message of the source as the model's panic kind -/
def panicKind (p : GoPanic) : PanicKind :=
  if p.msg = "relation targets must be fully specified" then .relUnspecified
  else if p.msg = "component %d is not a relation component" then .notRelation
  else if p.msg = "relation component %d specified more than once" then .relTwice
  else .runtime

/-- a generated result with its panic classified -/
def _root_.Ark.Generated.Book.GoRes.classify {α : Type} : GoRes α → KRes α
  | .ok a => .ok a
  | .panic p => .panic (panicKind p)

/-- the model's result of a world operation without the state (the operations here do not change it) -/
def resK {α : Type} : Res World α → KRes α
  | .ok a _ => .ok a
  | .panic k _ => .panic k

/-- the outcome of the model's `matchesExact` as a result -/
def exactK : Table.ExactRes → KRes Bool
  | .yes => .ok true
  | .no => .ok false
  | .tooFew => .panic .relUnspecified
  | .notRelation => .panic .notRelation

/-- the outcome of the model's `matchesRels` as a result (`none`: Go's nil dereference) -/
def matchesK : Option Bool → KRes Bool
  | some b => .ok b
  | none => .panic .runtime

/-! ### the representation of tables, storage -/

/-- a table's component IDs are below 256 (Go's `ID.id` is a `uint8`) -/
def IdsLt256 (T : Table) : Prop := ∀ (c : Comp), c ∈ T.ids → c < 256

/-- the column of component `c` as the Go `column` the lookup reads (`none`: nil) -/
def colOf (T : Table) (c : Comp) : Option G_column :=
  (T.colIdx c).map fun i =>
    ({ target := T.targets.getD i Ent.zero, isRelation := T.isRel.getD i false } : G_column)

/-- the model's table as the Go `table` of the lookup -/
def ofTableL (T : Table) : G_table_L :=
  { components := (List.range 256).map (colOf T)
    relationIDs := T.relIDs.map ofRel
    id := T.id }

/-- the world's tables as the Go `storage` of the lookup -/
def ofStorageL (w : World) : G_storage_L := { tables := w.tables.map ofTableL }

theorem mem_ids_of_colIdx {T : Table} {c : Comp} {i : Nat} (h : T.colIdx c = some i) : c ∈ T.ids := by
  unfold Table.colIdx at h
  simp only at h
  split at h
  · rename_i hlt; exact List.idxOf_lt_length_iff.mp hlt
  · cases h

theorem components_getD (T : Table) (h : IdsLt256 T) (c : Nat) :
    (ofTableL T).components.getD c none = colOf T c := by
  by_cases hc : c < 256
  · simp [ofTableL, List.getD_eq_getElem?_getD, hc]
  · have hnone : T.colIdx c = none := by
      cases hi : T.colIdx c with
      | none => rfl
      | some i =>
        exact absurd (h c (mem_ids_of_colIdx hi)) hc
    simp [ofTableL, List.getD_eq_getElem?_getD, hc, colOf, hnone]

theorem storage_getD (w : World) (t : Nat) (ht : t < w.tables.length) :
    (ofStorageL w).tables.getD t default = ofTableL (w.tbl t) := by
  simp [ofStorageL, World.tbl, List.getD_eq_getElem?_getD, ht]

theorem ofRel_getElem (rels : List RelID) (i : Nat) (h : i < rels.length) :
    (rels.map ofRel).getD i default = ofRel rels[i] := by
  simp [List.getD_eq_getElem?_getD, h]

/-! ### `MatchesExact` -/

/-- the outcome of one iteration of the loop of `MatchesExact` for the relation `r` (`none`: go on) -/
def exactStep (T : Table) (r : RelID) : Option (GoRes Bool) :=
  match T.colIdx r.comp with
  | none => none
  | some i =>
    if !(T.isRel.getD i false) then
      some (.panic { msg := "component %d is not a relation component", args := [r.comp] })
    else if r.target != T.targets.getD i Ent.zero then some (.ok false) else none

theorem exactStep_go (T : Table) (rels : List RelID) :
    (match rels.findSome? (exactStep T) with
      | some r => r.classify
      | none => .ok true) = exactK (Table.matchesExact.go T rels) := by
  induction rels with
  | nil => rfl
  | cons r rest ih =>
    rw [List.findSome?_cons]
    unfold Table.matchesExact.go
    cases hc : T.colIdx r.comp with
    | none =>
      have hs : exactStep T r = none := by simp [exactStep, hc]
      rw [hs]; exact ih
    | some i =>
      cases hr : T.isRel[i]?.getD false with
      | false =>
        have hs : exactStep T r =
            some (.panic { msg := "component %d is not a relation component", args := [r.comp] }) := by
          simp [exactStep, hc, hr, List.getD_eq_getElem?_getD]
        rw [hs]
        simp [hr, GoRes.classify, panicKind, exactK, List.getD_eq_getElem?_getD]
      | true =>
        by_cases ht : r.target = T.targets[i]?.getD Ent.zero
        · have hs : exactStep T r = none := by simp [exactStep, hc, hr, ht, List.getD_eq_getElem?_getD]
          rw [hs]
          simpa [hr, ht, List.getD_eq_getElem?_getD] using ih
        · have hs : exactStep T r = some (.ok false) := by simp [exactStep, hc, hr, ht, List.getD_eq_getElem?_getD]
          rw [hs]
          simp [hr, ht, GoRes.classify, exactK, List.getD_eq_getElem?_getD]

/-- **`MatchesExact(relations)` as in the source = the model's `Table.matchesExact`**, with the
    panic it raises ("relation targets must be fully specified" / "component %d is not a relation
    component"; the nil dereference the translation makes explicit never happens). -/
theorem matchesExact_eq (T : Table) (rels : List RelID) (hids : IdsLt256 T) :
    (table_MatchesExact (ofTableL T) (rels.map ofRel)).classify = exactK (T.matchesExact rels) := by
  unfold table_MatchesExact Table.matchesExact
  have hl : (ofTableL T).relationIDs.length = T.relIDs.length := by simp [ofTableL]
  simp only [List.length_map, hl]
  by_cases hfew : rels.length < T.relIDs.length
  · simp [hfew, GoRes.classify, panicKind, exactK]
  · simp only [hfew, decide_false, Bool.false_eq_true, if_false]
    rw [foldl_early_pos rels (exactStep T), ← exactStep_go]
    · cases rels.findSome? (exactStep T) <;> rfl
    · intro r i; simp
    · intro i hi
      simp only [ofRel_getElem rels i hi, components_getD T hids, ofRel, exactStep, colOf]
      cases T.colIdx rels[i].comp with
      | none => simp
      | some j =>
        cases T.isRel.getD j false <;> simp

/-! ### `Matches` -/

/-- Go's panic for a nil dereference -/
def nilDeref : GoPanic :=
  { msg := "runtime error: invalid memory address or nil pointer dereference", args := [] }

/-- the outcome of one iteration of the loop of `Matches` for the relation `r` (`none`: go on) -/
def matchStep (T : Table) (r : RelID) : Option (GoRes Bool) :=
  match T.colIdx r.comp with
  | none => some (.panic nilDeref)
  | some i => if r.target != T.targets.getD i Ent.zero then some (.ok false) else none

theorem matchStep_go (T : Table) (rels : List RelID) :
    (match rels.findSome? (matchStep T) with
      | some r => r.classify
      | none => .ok true) = matchesK (Table.matchesRels.go T rels) := by
  induction rels with
  | nil => rfl
  | cons r rest ih =>
    rw [List.findSome?_cons]
    unfold Table.matchesRels.go
    cases hc : T.colIdx r.comp with
    | none =>
      have hs : matchStep T r = some (.panic nilDeref) := by simp [matchStep, hc]
      rw [hs]
      simp [GoRes.classify, panicKind, nilDeref, matchesK]
    | some i =>
      by_cases ht : r.target = T.targets[i]?.getD Ent.zero
      · have hs : matchStep T r = none := by simp [matchStep, hc, ht, List.getD_eq_getElem?_getD]
        rw [hs]
        simpa [ht, List.getD_eq_getElem?_getD] using ih
      · have hs : matchStep T r = some (.ok false) := by
          simp [matchStep, hc, ht, List.getD_eq_getElem?_getD]
        rw [hs]
        simp [ht, GoRes.classify, matchesK, List.getD_eq_getElem?_getD]

/-- **`Matches(relations)` as in the source = the model's `Table.matchesRels`**; a relation naming a
    component the table has no column for is Go's nil dereference (`.runtime`), in the source as in
    the model. -/
theorem matches_eq (T : Table) (rels : List RelID) (hids : IdsLt256 T) :
    (table_Matches (ofTableL T) (rels.map ofRel)).classify = matchesK (T.matchesRels rels) := by
  -- The guard of the source (`len(relations) == 0 || !t.HasRelations()`, in whichever order the two
  -- operands are written) is never spelled here: the model's guard is decided first, the source's `if`
  -- is then discharged by `if_pos`/`if_neg` (its condition found by unification) and `simp` on the atoms.
  have hl : (ofTableL T).relationIDs.length = T.relIDs.length := by simp [ofTableL]
  by_cases hc : (rels.isEmpty || !T.hasRelations) = true
  · have hM : T.matchesRels rels = some true := by simp only [Table.matchesRels, hc, if_true]
    have hat : rels = [] ∨ T.relIDs = [] := by
      cases rels <;> cases h : T.relIDs <;> simp_all [Table.hasRelations]
    rw [hM]
    unfold table_Matches
    rw [if_pos (by rcases hat with h | h <;> simp [h, hl])]
    rfl
  · have hM : T.matchesRels rels = Table.matchesRels.go T rels := by
      simp only [Table.matchesRels, hc, Bool.false_eq_true, if_false]
    have hat : rels ≠ [] ∧ T.relIDs ≠ [] := by
      cases rels <;> cases h : T.relIDs <;> simp_all [Table.hasRelations]
    rw [hM]
    unfold table_Matches
    rw [if_neg (by
      have h1 : rels.length ≠ 0 := fun h => hat.1 (List.eq_nil_of_length_eq_zero h)
      have h2 : T.relIDs.length ≠ 0 := fun h => hat.2 (List.eq_nil_of_length_eq_zero h)
      simp [hl, h1, h2, Nat.pos_of_ne_zero h2])]
    simp only [List.length_map]
    rw [foldl_early_pos rels (matchStep T), ← matchStep_go]
    · cases rels.findSome? (matchStep T) <;> rfl
    · intro r i; simp
    · intro i hi
      simp only [ofRel_getElem rels i hi, components_getD T hids, ofRel, matchStep, colOf, nilDeref]
      cases T.colIdx rels[i].comp <;> simp

/-! ### the duplicate scan of `getTableSlowPath` -/

/-- the panic of the duplicate scan -/
def dupPanic (ρ : Type) (c : Nat) : GoRes ρ :=
  .panic { msg := "relation component %d specified more than once", args := [c] }

/-- the outcome of the two nested loops over the positions of the component list `cs` -/
def dupScan (ρ : Type) (cs : List Nat) : Option (GoRes ρ) :=
  (List.range' 1 (cs.length - 1)).findSome? fun i =>
    (List.range' 0 i).findSome? fun j =>
      if cs.getD i 0 == cs.getD j 0 then some (dupPanic ρ (cs.getD i 0)) else none

theorem dupScan_eq_none_iff (ρ : Type) (cs : List Nat) : dupScan ρ cs = none ↔ cs.Nodup := by
  unfold dupScan
  simp only [List.findSome?_eq_none_iff, List.mem_range'_1, Nat.zero_add, Nat.zero_le, true_and,
    ite_eq_right_iff, reduceCtorEq, imp_false, beq_iff_eq, List.Nodup, List.pairwise_iff_getElem]
  constructor
  · intro h i j hi hj hij heq
    refine h j ⟨by omega, by omega⟩ i hij ?_
    simp [List.getD_eq_getElem?_getD, hi, hj, heq]
  · intro h i hi j hj heq
    have hi' : i < cs.length := by omega
    have hj' : j < cs.length := by omega
    simp only [List.getD_eq_getElem?_getD, List.getElem?_eq_getElem hi', List.getElem?_eq_getElem hj',
      Option.getD_some] at heq
    exact h j i hj' hi' hj heq.symm

theorem dupScan_some (ρ : Type) (cs : List Nat) (r : GoRes ρ) (h : dupScan ρ cs = some r) :
    ∃ (c : Nat), r = dupPanic ρ c := by
  unfold dupScan at h
  obtain ⟨i, _, hi⟩ := List.exists_of_findSome?_eq_some h
  obtain ⟨j, _, hj⟩ := List.exists_of_findSome?_eq_some hi
  split at hj
  · exact ⟨_, (Option.some.inj hj).symm⟩
  · cases hj

/-- the duplicate found by the scan (the scan without the type of the result it is embedded in) -/
def dupFind (cs : List Nat) : Option Nat :=
  (List.range' 1 (cs.length - 1)).findSome? fun i =>
    (List.range' 0 i).findSome? fun j =>
      if cs.getD i 0 == cs.getD j 0 then some (cs.getD i 0) else none

theorem findSome?_map_opt {α β γ : Type} (l : List α) (f : α → Option β) (g : β → γ) :
    l.findSome? (fun x => (f x).map g) = (l.findSome? f).map g := by
  induction l with
  | nil => rfl
  | cons x xs ih =>
    rw [List.findSome?_cons, List.findSome?_cons]
    cases f x with
    | some b => rfl
    | none => exact ih

/-- the scan is the same in whatever result type it is embedded (in the caller: the result of
    `getTableSlowPath`; in a helper function: the helper's own result) -/
theorem dupScan_eq_map (ρ : Type) (cs : List Nat) : dupScan ρ cs = (dupFind cs).map (dupPanic ρ) := by
  unfold dupScan dupFind
  rw [← findSome?_map_opt]
  congr 1
  funext i
  rw [← findSome?_map_opt]
  congr 1
  funext j
  split <;> rfl

theorem dupScan_dup (cs : List Nat) (h : ¬ cs.Nodup) :
    ∃ (c : Nat), ∀ (ρ : Type), dupScan ρ cs = some (dupPanic ρ c) := by
  cases hf : dupFind cs with
  | none =>
    exfalso; apply h
    rw [← dupScan_eq_none_iff Unit, dupScan_eq_map, hf]; rfl
  | some c => exact ⟨c, fun ρ => by rw [dupScan_eq_map, hf]; rfl⟩

theorem comp_getD (rels : List RelID) (i : Nat) :
    ((rels.map ofRel).getD i default).component.id = (rels.map (·.comp)).getD i 0 := by
  by_cases h : i < rels.length
  · simp [List.getD_eq_getElem?_getD, h, ofRel]
  · simp [List.getD_eq_getElem?_getD, h]
    rfl

/-! ### `GetTable` -/

/-- the model's result of `getTable` as the result the source returns: the table found, by value -/
def expectK (w : World) : Res World (Option Nat) → KRes (Option G_table_L × Bool)
  | .ok (some t) _ => .ok (some (ofTableL (w.tbl t)), true)
  | .ok none _ => .ok (none, false)
  | .panic k _ => .panic k

/-- the tables an archetype lists (its only table when it has no relation column; the tables of its
    relation index) exist, and their component IDs are below 256 -/
structure LookupOK (w : World) (A : Archetype) : Prop where
  first : A.hasRelations = false → ∀ (t : Nat), A.tables.tables.head? = some t → t < w.tables.length
  index : ∀ (i g : Nat) (ts : TableIDs), AL.find? (A.relationTables.getD i []) g = some ts →
    ∀ (t : Nat), t ∈ ts.tables → t < w.tables.length ∧ IdsLt256 (w.tbl t)

/-- the outcome of one iteration of the last loop of `getTableSlowPath` for the table `t` -/
def lookStep (w : World) (rels : List RelID) (t : Nat) : Option (GoRes (Option G_table_L × Bool)) :=
  match table_MatchesExact (ofTableL (w.tbl t)) (rels.map ofRel) with
  | .panic e => some (.panic e)
  | .ok c => if c then some (.ok (some (ofTableL (w.tbl t)), true)) else none

theorem classify_ok {α : Type} {x : GoRes α} {a : α} (h : x.classify = .ok a) : x = .ok a := by
  cases x with
  | ok b => simp only [GoRes.classify, KRes.ok.injEq] at h; rw [h]
  | panic p => simp [GoRes.classify] at h

theorem classify_panic {α : Type} {x : GoRes α} {k : PanicKind} (h : x.classify = .panic k) :
    ∃ (p : GoPanic), x = .panic p ∧ panicKind p = k := by
  cases x with
  | ok b => simp [GoRes.classify] at h
  | panic p => exact ⟨p, rfl, by simpa [GoRes.classify] using h⟩

theorem lookStep_go (w : World) (rels : List RelID) (ts : List Nat)
    (hts : ∀ (t : Nat), t ∈ ts → IdsLt256 (w.tbl t)) :
    (match ts.findSome? (lookStep w rels) with
      | some r => r.classify
      | none => .ok (none, false)) = expectK w (World.getTable.go rels w ts) := by
  induction ts with
  | nil => rfl
  | cons t rest ih =>
    rw [List.findSome?_cons]
    unfold World.getTable.go
    have hm := matchesExact_eq (w.tbl t) rels (hts t (List.mem_cons_self ..))
    have ih' := ih (fun t' h => hts t' (List.mem_cons_of_mem _ h))
    cases hx : (w.tbl t).matchesExact rels with
    | yes =>
      rw [hx] at hm
      have hs : lookStep w rels t = some (.ok (some (ofTableL (w.tbl t)), true)) := by
        simp [lookStep, classify_ok hm]
      rw [hs]; rfl
    | no =>
      rw [hx] at hm
      have hs : lookStep w rels t = none := by simp [lookStep, classify_ok hm]
      rw [hs]; exact ih'
    | tooFew =>
      rw [hx] at hm
      obtain ⟨p, hp, hk⟩ := classify_panic hm
      have hs : lookStep w rels t = some (.panic p) := by simp [lookStep, hp]
      rw [hs]
      simp [GoRes.classify, hk, expectK]
    | notRelation =>
      rw [hx] at hm
      obtain ⟨p, hp, hk⟩ := classify_panic hm
      have hs : lookStep w rels t = some (.panic p) := by simp [lookStep, hp]
      rw [hs]
      simp [GoRes.classify, hk, expectK]

/-- **`getTableSlowPath` as in the source = the slow path of the model's `getTable`** (an archetype
    with relation columns and at least one active table): the count check, the duplicate scan, the
    lookup of the first relation in the relation index and the exact match of the tables listed
    there, with the panic each of them raises. -/
theorem getTableSlowPath_eq (w : World) (a : Nat) (rels : List RelID)
    (hne : (w.arch a).tables.tables.isEmpty = false) (hrel : (w.arch a).hasRelations = true)
    (hok : LookupOK w (w.arch a)) (hlen : rels.length < 256)
    (h256 : ∀ (r : RelID), rels.head? = some r → r.comp < 256)
    (hrt : World.getTable a rels w ≠ .panic .runtime w) :
    (archetype_getTableSlowPath (ofArchM (w.arch a)) (ofStorageL w) (rels.map ofRel)).classify =
      expectK w (World.getTable a rels w) := by
  -- `hrt'`: `hrt` with `getTable` unfolded along with the goal; it excludes the runtime panic
  have hrt' := hrt
  revert hrt'
  unfold archetype_getTableSlowPath World.getTable
  intro hrt'
  simp only [hne, hrel, Bool.false_eq_true, if_false, Bool.not_true]
  generalize hA : w.arch a = A at *
  have hnum : (ofArchM A).numRelations = A.numRel := rfl
  have hrt : (ofArchM A).relationTables = A.relationTables := rfl
  -- `for j := 0; j < i; j++` and `for j := range i` are the same list of positions
  simp only [List.length_map, List.length_take, hnum, hrt, Nat.mod_eq_of_lt hlen, Nat.sub_zero,
    ← List.range_eq_range']
  by_cases hfew : rels.length < A.numRel
  · simp [hfew, GoRes.classify, panicKind, expectK]
  · simp only [hfew, decide_false, Bool.false_eq_true, if_false]
    -- the duplicate scan (in place, or in a helper function called here; the earlier entries
    -- visited by position `j < i` or by ranging over `relations[:i]`)
    rw [foldl_early (List.range' 1 (rels.length - 1)) _
      (fun i => (List.range i).findSome? fun j =>
        if (rels.map (·.comp)).getD i 0 == (rels.map (·.comp)).getD j 0
        then some (dupPanic _ ((rels.map (·.comp)).getD i 0)) else none)
      (fun r i => by simp)
      (by
        intro i hi
        have hmin : min i rels.length = i := by
          have := (List.mem_range'_1.mp hi).2
          omega
        simp only [Option.isSome_none, Bool.false_eq_true, if_false]
        try simp only [hmin]
        rw [foldl_early (List.range i) _ (fun j =>
          if (rels.map (·.comp)).getD i 0 == (rels.map (·.comp)).getD j 0
          then some (dupPanic _ ((rels.map (·.comp)).getD i 0)) else none)
          (fun r j => by simp)
          (by
            intro j hj
            have hj' : j < i := List.mem_range.mp hj
            have htake : ∀ (l : List G_relationID), (l.take i).getD j default = l.getD j default := by
              intro l
              simp [List.getD_eq_getElem?_getD, List.getElem?_take, hj']
            -- what remains (if anything) is the order of the two sides of `==`
            simp only [htake, comp_getD, dupPanic, Option.isSome_none, Bool.false_eq_true, if_false] <;> (
              generalize (rels.map (·.comp)).getD i 0 = x
              generalize (rels.map (·.comp)).getD j 0 = y
              by_cases h : x = y
              · subst h; simp
              · have h' : ¬ y = x := fun e => h e.symm
                simp [h, h']))]
        rw [Option.none_or, ite_self])]
    -- both loops are now `findSome?`, together `dupScan`: it finds a pair iff there is a duplicate
    have hscan : ∀ (ρ : Type), (List.range' 1 (rels.length - 1)).findSome? (fun i =>
        (List.range i).findSome? fun j =>
          if (rels.map (·.comp)).getD i 0 == (rels.map (·.comp)).getD j 0
          then some (dupPanic ρ ((rels.map (·.comp)).getD i 0)) else none) =
        dupScan ρ (rels.map (·.comp)) := by
      intro ρ
      simp [dupScan, List.range_eq_range']
    rw [hscan, Option.none_or]
    by_cases hnd : (rels.map (·.comp)).Nodup
    case neg =>
      obtain ⟨c, hc⟩ := dupScan_dup _ hnd
      have htw : World.namedTwice [] rels = true := (World.namedTwice_nil_eq_true_iff rels).mpr hnd
      rw [hc]
      simp [htw, dupPanic, GoRes.classify, panicKind, expectK]
    case pos =>
      have hd : ∀ (ρ : Type), dupScan ρ (rels.map (·.comp)) = none :=
        fun ρ => (dupScan_eq_none_iff ρ _).mpr hnd
      have htw : World.namedTwice [] rels = false := (World.namedTwice_nil_eq_false_iff rels).mpr hnd
      rw [hd]
      simp only [htw, Bool.false_eq_true, if_false]
      -- a first relation exists: `numRel > 0` as the archetype has relations, `rels` no shorter
      cases rels with
      | nil =>
        exfalso
        have : 0 < A.numRel := by simpa [Archetype.hasRelations] using hrel
        simp at hfew; omega
      | cons r0 rest =>
        have hlt := h256 r0 rfl
        -- its component is a column: else the model reports the runtime panic, against `hrt'`
        have hsome : (A.colIdx r0.comp).isSome = true := by
          cases hc : A.colIdx r0.comp with
          | some i => rfl
          | none =>
            exfalso; apply hrt'
            simp [hne, hrel, htw, hc]
            simp at hfew; omega
        obtain ⟨i, hi⟩ := Option.isSome_iff_exists.mp hsome
        have hidx : (ofArchM A).componentsMap.getD r0.comp 0 = i := by
          simp [ofArchM, List.getD_eq_getElem?_getD, hlt, hi]
        simp only [List.map_cons, List.getD_cons_zero, ofRel, hidx, hi]
        cases hf : AL.find? (A.relationTables.getD i []) r0.target.id with
        | none => simp [GoRes.classify, expectK]
        | some ts =>
          simp only [Option.isSome_some, Bool.not_true, Bool.false_eq_true, if_false, Option.getD_some]
          have hts := hok.index i r0.target.id ts hf
          -- the last loop, returning early, is `findSome?` of `lookStep`: then `lookStep_go`
          rw [foldl_early_pos ts.tables (lookStep w (r0 :: rest)),
            ← lookStep_go w (r0 :: rest) ts.tables (fun t ht => (hts t ht).2)]
          · cases ts.tables.findSome? (lookStep w (r0 :: rest)) <;> rfl
          · intro r k; simp
          -- iteration `k` takes `ts.tables[k]` from the storage (it exists, `hts`): its `lookStep`
          · intro k hk
            have hget : ts.tables.getD k 0 = ts.tables[k] := by simp [List.getD_eq_getElem?_getD, hk]
            have hst := storage_getD w _ (hts _ (List.getElem_mem hk)).1
            simp only [hget, hst, lookStep, List.map_cons, ofRel]
            cases table_MatchesExact (ofTableL (w.tbl ts.tables[k]))
              (({ target := r0.target, component := { id := r0.comp } } : G_relationID) ::
                rest.map ofRel) with
            | panic e => simp
            | ok c => cases c <;> simp

/-- **`GetTable(storage, relations)` as in the source = the model's `World.getTable`**: the result
    (no table / the table found, by value), or the panic raised ("relation targets must be fully
    specified", "relation component %d specified more than once", "component %d is not a relation
    component"), for every relation list of fewer than 256 entries on which the model does not
    report the Go runtime panic (the first relation names a component that is not a column of the
    archetype: index −1, which the translation cannot express). -/
theorem getTable_eq (w : World) (a : Nat) (rels : List RelID)
    (hok : LookupOK w (w.arch a)) (hlen : rels.length < 256)
    (h256 : ∀ (r : RelID), rels.head? = some r → r.comp < 256)
    (hrt : World.getTable a rels w ≠ .panic .runtime w) :
    (archetype_GetTable (ofArchM (w.arch a)) (ofStorageL w) (rels.map ofRel)).classify =
      expectK w (World.getTable a rels w) := by
  -- shape-robust: the two early returns are decided by `simp` from the facts about the archetype,
  -- whichever way the source spells the tests
  have htt : (ofArchM (w.arch a)).tables.tables = (w.arch a).tables.tables := rfl
  have hnn : (ofArchM (w.arch a)).numRelations = (w.arch a).numRel := rfl
  cases hts : (w.arch a).tables.tables with
  | nil =>
    simp [archetype_GetTable, World.getTable, htt, hts, GoRes.classify, expectK]
  | cons t0 trest =>
    have hne : (w.arch a).tables.tables.isEmpty = false := by rw [hts]; rfl
    cases hrel : (w.arch a).hasRelations with
    | false =>
      have hnum : (w.arch a).numRel = 0 := by simpa [Archetype.hasRelations] using hrel
      have hfirst : t0 < w.tables.length := hok.first hrel t0 (by rw [hts]; rfl)
      have hst := storage_getD w _ hfirst
      have hst' : (ofStorageL w).tables[t0]?.getD default = ofTableL (w.tbl t0) := by
        simpa [List.getD_eq_getElem?_getD] using hst
      simp [archetype_GetTable, archetype_HasRelations, World.getTable, htt, hnn, hts, hnum,
        Archetype.hasRelations, hst, hst', GoRes.classify, expectK]
    | true =>
      have hnum : 0 < (w.arch a).numRel := by simpa [Archetype.hasRelations] using hrel
      have := getTableSlowPath_eq w a rels hne hrel hok hlen h256 hrt
      simpa [archetype_GetTable, archetype_HasRelations, htt, hnn, hts, hnum, Nat.ne_of_gt hnum] using this

/-! ### the hypotheses are provided by the invariants -/

theorem mask_toList_lt (m : Mask) (n c : Nat) (h : c ∈ m.toList n) : c < 256 := by
  have hg : m.get c = true := by
    simp only [Mask.toList, List.mem_filter] at h; exact h.2
  by_cases hc : c < 256
  · exact hc
  · simp [Mask.get, BitVec.getLsbD_of_ge m c (by omega)] at hg

/-- under `SInv` the component IDs of every table are below 256 (they are bits of a 256-bit mask) -/
theorem idsLt256_of_sinv {w : World} (h : SInvMid w) {t : Nat} {T : Table}
    (hT : w.tables[t]? = some T) : IdsLt256 T := by
  obtain ⟨A, hA, hids, _⟩ := h.tblArch t T hT
  intro c hc
  rw [hids, (h.comps _ A hA).1] at hc
  exact mask_toList_lt _ _ _ hc

/-- `SInv` (tables an archetype lists exist, table layout) and `RInv` (the relation index lists
    active tables only) provide `LookupOK` for every archetype (also for an index out of range) -/
theorem lookupOK_of_inv {w : World} (hS : SInvMid w) (hR : RInv w) (a : Nat) : LookupOK w (w.arch a) := by
  cases hA : w.archetypes[a]? with
  | none =>
    have hd : w.arch a = default := by simp [World.arch, List.getD_eq_getElem?_getD, hA]
    rw [hd]
    refine ⟨fun _ t ht => ?_, fun i g ts hf => ?_⟩
    · cases ht
    · have : (default : Archetype).relationTables.getD i [] = [] := by
        show ([] : List (AL TableIDs)).getD i [] = []
        simp
      rw [this] at hf; cases hf
  | some A =>
    rw [World.arch_of_get hA]
    have hex : ∀ (t : Nat), t ∈ A.tables.tables → t < w.tables.length ∧ IdsLt256 (w.tbl t) := by
      intro t ht
      obtain ⟨T, hT, _⟩ := hS.owned a A t hA (Or.inl ht)
      have hlt : t < w.tables.length := by
        rcases Nat.lt_or_ge t w.tables.length with h | h
        · exact h
        · rw [List.getElem?_eq_none h] at hT; cases hT
      have htbl : w.tbl t = T := by simp [World.tbl, List.getD_eq_getElem?_getD, hT]
      exact ⟨hlt, htbl ▸ idsLt256_of_sinv hS hT⟩
    refine ⟨fun _ t ht => (hex t ?_).1, fun i g ts hf t ht => hex t ?_⟩
    · cases h : A.tables.tables with
      | nil => rw [h] at ht; cases ht
      | cons t0 rest => rw [h] at ht; cases ht; simp
    · exact (hR a A hA).relIndexSound i g ts hf t ht

theorem getTable_eq_of_inv (w : World) (a : Nat) (rels : List RelID) (hS : SInvMid w) (hR : RInv w)
    (hlen : rels.length < 256) (h256 : ∀ (r : RelID), rels.head? = some r → r.comp < 256)
    (hrt : World.getTable a rels w ≠ .panic .runtime w) :
    (archetype_GetTable (ofArchM (w.arch a)) (ofStorageL w) (rels.map ofRel)).classify =
      expectK w (World.getTable a rels w) :=
  getTable_eq w a rels (lookupOK_of_inv hS hR a) hlen h256 hrt

/-- the table returned is the table of the model's ID: under `SInv` the `id` field of the value
    returned is that ID -/
theorem ofTableL_id_of_sinv {w : World} (h : SInvMid w) {t : Nat} (ht : t < w.tables.length) :
    (ofTableL (w.tbl t)).id = t := by
  have hT : w.tables[t]? = some (w.tbl t) := by
    simp [World.tbl, List.getD_eq_getElem?_getD, List.getElem?_eq_getElem ht]
  obtain ⟨_, _, _, _, _, hid⟩ := h.tblArch t _ hT
  exact hid

theorem ne_runtime_of_resK {w : World} {r : Res World (Option Nat)} (h : resK r ≠ .panic .runtime) :
    r ≠ .panic .runtime w := by
  intro he; rw [he] at h; exact h rfl

/-! ### a decidable form of `LookupOK` (for concrete worlds) -/

/-- every table the archetype lists (in `tables` and in its relation index) exists and has component
    IDs below 256 -/
def lookupOKB (w : World) (A : Archetype) : Bool :=
  A.tables.tables.all (fun t => decide (t < w.tables.length)) &&
  A.relationTables.all fun m => m.all fun p => p.2.tables.all fun t =>
    decide (t < w.tables.length) && (w.tbl t).ids.all fun c => decide (c < 256)

theorem lookupOKB_sound {w : World} {A : Archetype} (h : lookupOKB w A = true) : LookupOK w A := by
  simp only [lookupOKB, Bool.and_eq_true, List.all_eq_true, decide_eq_true_eq] at h
  obtain ⟨h1, h2⟩ := h
  refine ⟨fun _ t ht => h1 t (List.mem_of_mem_head? ht), fun i g ts hf t ht => ?_⟩
  have hm : A.relationTables.getD i [] ∈ A.relationTables := by
    rw [List.getD_eq_getElem?_getD]
    cases hi : A.relationTables[i]? with
    | none => rw [List.getD_eq_getElem?_getD, hi] at hf; cases hf
    | some m => exact List.mem_of_getElem? hi
  obtain ⟨hlt, hids⟩ := h2 _ hm _ (AL.mem_of_find? _ g ts hf) t ht
  exact ⟨hlt, fun c hc => hids c hc⟩

/-! ### non-vacuity: a world with a relation archetype and two of its tables -/

namespace Example

def run : World.ProbeRunner := fun _ _ _ => pure ()
def x : Ent := ⟨2, 0⟩
def y : Ent := ⟨3, 0⟩

/-- component 0 is a relation component, component 1 is not; entities `x = 2.0`, `y = 3.0`; archetype 1
    = `{0, 1}` has table 1 (`0 → x`, entity `4.0`) and table 2 (`0 → y`, entity `5.0`) -/
def lw : World :=
  let w := World.init 2 2
  let w := (World.registerComponent { isRel := true } w).state
  let w := (World.registerComponent {} w).state
  let w := (World.opNewEntity run .unsafe_ [] [] [] w).state
  let w := (World.opNewEntity run .unsafe_ [] [] [] w).state
  let w := (World.opNewEntity run .typed [0, 1] [] [⟨0, x⟩] w).state
  (World.opNewEntity run .typed [0, 1] [] [⟨0, y⟩] w).state

example : ((lw.arch 1).hasRelations, (lw.arch 1).tables.tables, (lw.tbl 1).relIDs, (lw.tbl 2).relIDs) =
    (true, [1, 2], [⟨0, x⟩], [⟨0, y⟩]) := by decide +kernel

/-- the hypotheses of `getTable_eq` hold on this world, for both archetypes -/
theorem lw_ok : LookupOK lw (lw.arch 1) ∧ LookupOK lw (lw.arch 0) ∧ IdsLt256 (lw.tbl 1) :=
  by
  -- one evaluation of the world for the three facts
  have h : (lookupOKB lw (lw.arch 1) && lookupOKB lw (lw.arch 0) &&
      (lw.tbl 1).ids.all fun c => decide (c < 256)) = true := by decide +kernel
  simp only [Bool.and_eq_true, List.all_eq_true, decide_eq_true_eq] at h
  exact ⟨lookupOKB_sound h.1.1, lookupOKB_sound h.1.2, h.2⟩

/-- the generated functions, run: the table found (by value, `id = 2`), no table for an unknown target,
    and each of the three panics with its message and argument -/
example :
    archetype_GetTable (ofArchM (lw.arch 1)) (ofStorageL lw) [ofRel ⟨0, y⟩] =
      .ok (some (ofTableL (lw.tbl 2)), true) ∧
    (ofTableL (lw.tbl 2)).id = 2 ∧
    archetype_GetTable (ofArchM (lw.arch 1)) (ofStorageL lw) [ofRel ⟨0, ⟨4, 0⟩⟩] = .ok (none, false) ∧
    archetype_GetTable (ofArchM (lw.arch 1)) (ofStorageL lw) [] =
      .panic { msg := "relation targets must be fully specified", args := [] } ∧
    archetype_GetTable (ofArchM (lw.arch 1)) (ofStorageL lw) [ofRel ⟨1, x⟩, ofRel ⟨0, x⟩, ofRel ⟨1, y⟩] =
      .panic { msg := "relation component %d specified more than once", args := [1] } ∧
    archetype_GetTable (ofArchM (lw.arch 1)) (ofStorageL lw) [ofRel ⟨0, x⟩, ofRel ⟨1, x⟩] =
      .panic { msg := "component %d is not a relation component", args := [1] } ∧
    archetype_GetTable (ofArchM (lw.arch 0)) (ofStorageL lw) [ofRel ⟨0, x⟩] =
      .ok (some (ofTableL (lw.tbl 0)), true) := by
  decide +kernel

/-- … and the model on the same arguments (what `getTable_eq` equates them with) -/
example :
    resK (World.getTable 1 [⟨0, y⟩] lw) = .ok (some 2) ∧
    resK (World.getTable 1 [⟨0, ⟨4, 0⟩⟩] lw) = .ok none ∧
    resK (World.getTable 1 [] lw) = .panic .relUnspecified ∧
    resK (World.getTable 1 [⟨1, x⟩, ⟨0, x⟩, ⟨1, y⟩] lw) = .panic .relTwice ∧
    resK (World.getTable 1 [⟨0, x⟩, ⟨1, x⟩] lw) = .panic .notRelation ∧
    resK (World.getTable 0 [⟨0, x⟩] lw) = .ok (some 0) := by
  decide +kernel

/-- `getTable_eq` instantiated -/
example :
    (archetype_GetTable (ofArchM (lw.arch 1)) (ofStorageL lw) ([⟨0, y⟩].map ofRel)).classify =
      expectK lw (World.getTable 1 [⟨0, y⟩] lw) :=
  getTable_eq lw 1 [⟨0, y⟩] lw_ok.1 (by decide) (by intro r h; cases h; decide)
    (ne_runtime_of_resK (by decide +kernel))

/-- `MatchesExact` / `Matches` run on table 2 (`0 → y`): match, mismatch, too few, a non-relation
    component; `Matches` with a component that is no column is Go's nil dereference -/
example :
    table_MatchesExact (ofTableL (lw.tbl 2)) [ofRel ⟨0, y⟩] = .ok true ∧
    table_MatchesExact (ofTableL (lw.tbl 2)) [ofRel ⟨0, x⟩] = .ok false ∧
    table_MatchesExact (ofTableL (lw.tbl 2)) [ofRel ⟨0, ⟨3, 1⟩⟩] = .ok false ∧
    table_MatchesExact (ofTableL (lw.tbl 2)) [] =
      .panic { msg := "relation targets must be fully specified", args := [] } ∧
    table_MatchesExact (ofTableL (lw.tbl 2)) [ofRel ⟨1, y⟩] =
      .panic { msg := "component %d is not a relation component", args := [1] } ∧
    table_MatchesExact (ofTableL (lw.tbl 2)) [ofRel ⟨7, y⟩, ofRel ⟨0, y⟩] = .ok true ∧
    table_Matches (ofTableL (lw.tbl 2)) [ofRel ⟨0, y⟩] = .ok true ∧
    table_Matches (ofTableL (lw.tbl 2)) [] = .ok true ∧
    table_Matches (ofTableL (lw.tbl 2)) [ofRel ⟨0, x⟩] = .ok false ∧
    table_Matches (ofTableL (lw.tbl 2)) [ofRel ⟨7, y⟩] = .panic nilDeref ∧
    (lw.tbl 2).matchesRels [⟨7, y⟩] = none := by
  decide +kernel

/-- **the finding**: 256 relations for an archetype with one relation component.  The source
    compares `uint8(len(relations)) = 0` with `numRelations = 1` and panics "relation targets must be
    fully specified"; the model (the count is sufficient) goes on to the duplicate scan.  Both
    panic; the message differs.  Hence `rels.length < 256` in `getTable_eq`. -/
theorem getTable_len256_differs :
    (archetype_GetTable (ofArchM (lw.arch 1)) (ofStorageL lw)
        ((List.replicate 256 (⟨0, x⟩ : RelID)).map ofRel)).classify = .panic .relUnspecified ∧
    resK (World.getTable 1 (List.replicate 256 ⟨0, x⟩) lw) = .panic .relTwice := by
  decide +kernel

end Example

end Ark.GenBridge.Book
