/-
  Ark.Proofs.GenBridge.BookPool — `entityPool`, `bitPool`, `intPool` of pool.go, translated
  statement by statement from the Go source on every run (tools/extract/book.go →
  Ark/Generated/BookPool.lean), proved equal to the model's `Pool` / `BitPool` / `IntPool`
  operations for ALL pool states.

  `ofPool` projects the model's pool onto the structure generated from the Go struct: the model
  additionally keeps `stale`, the memory behind the slice (read by the unchecked `Alive`), which a
  translation of slices as values cannot see; the theorems state what the translated functions do
  to `entities`, `next`, `available` — for `Reset` that the slice is truncated to the reserved
  entries and the free list emptied (that the truncated entries' generations are invalidated in
  the memory behind is part of the model only and is covered by the correspondence check).
-/
import Ark.Generated.BookPool
import Ark.Model.Pool

namespace Ark.GenBridge.Book
open Ark Ark.Generated.Book

/-- the pool as the translated functions see it (`reserved` = 2: zero and wildcard entity) -/
def ofPool (P : Pool) : G_entityPool :=
  { entities := P.ents, next := P.next, available := P.available, reserved := Pool.reserved }

theorem entityPool_getNew_eq (P : Pool) :
    entityPool_getNew (ofPool P) = (ofPool P.getNew.1, P.getNew.2) := by
  simp [entityPool_getNew, ofPool, Pool.getNew]

theorem entityPool_get_eq (P : Pool) :
    entityPool_Get (ofPool P) = (ofPool P.get.1, P.get.2) := by
  unfold entityPool_Get Pool.get
  by_cases h : P.available = 0
  · simp [h, ofPool, entityPool_getNew, Pool.getNew]
  · have h' : (P.available == 0) = false := by simpa using h
    simp [ofPool, h, h', Pool.getRecycled]

theorem entityPool_recycle_eq (P : Pool) (e : Ent) :
    entityPool_Recycle (ofPool P) e =
      if e.id < Pool.reserved then none else some (ofPool (P.recycle e)) := by
  unfold entityPool_Recycle Pool.recycle
  by_cases h : e.id < Pool.reserved
  · simp [ofPool, h]
  · simp only [ofPool, h, decide_false, Bool.false_eq_true, if_false, Option.some.injEq]
    by_cases hl : e.id < P.ents.length
    · simp [List.getD_eq_getElem?_getD, hl]
    · have : P.ents.length ≤ e.id := by omega
      simp [List.set_eq_of_length_le this]

theorem entityPool_reset_eq (P : Pool) :
    (entityPool_Reset (ofPool P)).entities = P.reset.ents ∧
    (entityPool_Reset (ofPool P)).next = P.reset.next ∧
    (entityPool_Reset (ofPool P)).available = P.reset.available ∧
    (entityPool_Reset (ofPool P)).reserved = Pool.reserved := by
  unfold entityPool_Reset Pool.reset
  simp only [ofPool]
  -- the loop only touches positions ≥ reserved
  have key : ∀ (xs : List Nat) (p : G_entityPool), (∀ i ∈ xs, Pool.reserved ≤ i) →
      let p' := xs.foldl (fun (p : G_entityPool) i =>
        ({ p with entities := p.entities.set i ({ (p.entities.getD i default) with gen := maxU32 } : Ent) } : G_entityPool)) p
      p'.entities.take Pool.reserved = p.entities.take Pool.reserved ∧ p'.next = p.next ∧
        p'.available = p.available ∧ p'.reserved = p.reserved := by
    intro xs
    induction xs with
    | nil => intro p _; simp
    | cons x xs ih =>
      intro p hx
      have hx1 := hx x (List.mem_cons_self)
      have := ih ({ p with entities := p.entities.set x ({ (p.entities.getD x default) with gen := maxU32 } : Ent) } : G_entityPool)
        (fun i hi => hx i (List.mem_cons_of_mem _ hi))
      simp only [List.foldl_cons] at this ⊢
      refine ⟨?_, this.2.1, this.2.2.1, this.2.2.2⟩
      rw [this.1]
      rw [List.take_set_of_le hx1]
  have := key (List.range' Pool.reserved (P.ents.length - Pool.reserved))
    ({ entities := P.ents, next := P.next, available := P.available, reserved := Pool.reserved } : G_entityPool)
    (by intro i hi; exact (List.mem_range'_1.1 hi).1)
  simp only at this
  obtain ⟨h1, _, _, h4⟩ := this
  refine ⟨?_, trivial, trivial, ?_⟩
  · simp only [h4]; exact h1
  · exact h4

theorem entityPool_len_eq (P : Pool) : entityPool_Len (ofPool P) = P.len := by
  simp [entityPool_Len, ofPool, Pool.len]

theorem entityPool_cap_eq (P : Pool) : entityPool_Cap (ofPool P) = P.cap := by
  simp [entityPool_Cap, ofPool, Pool.cap]

/-! ### `bitPool` (the lock bits): the model's `BitPool` has the Go field names -/

/-- `Get`: a fresh bit (panic at 64), or the head of the free chain.  The hypothesis — the head of a
    non-empty free chain is a position of the array, part of `Lock.LInv` — is not needed for the
    source as it is; it makes the equality independent of whether the code returns `p.bits[curr]`
    (after `p.bits[curr] = curr`) or `curr` itself, which differ only where Go panics. -/
theorem bitPool_get_eq (p : BitPool) (hn : p.available ≠ 0 → p.next < p.bits.length) :
    bitPool_Get p = p.get := by
  unfold bitPool_Get bitPool_getNew BitPool.get
  by_cases h : p.available = 0
  · have h' : (p.available == 0) = true := by simpa using h
    by_cases h2 : p.length ≥ 64 <;> simp [h, h2]
  · have h' : (p.available == 0) = false := by simpa using h
    have hlt := hn h
    simp [h, h', List.getD_eq_getElem?_getD, List.getElem?_set_self hlt]

theorem bitPool_recycle_eq (p : BitPool) (b : Nat) : bitPool_Recycle p b = p.recycle b := by
  simp [bitPool_Recycle, BitPool.recycle]

theorem bitPool_reset_eq (p : BitPool) : bitPool_Reset p = p.reset := by
  simp [bitPool_Reset, BitPool.reset]

/-! ### `intPool` (cache and observer IDs) -/

theorem intPool_recycle_eq (p : IntPool) (e : Nat) : intPool_Recycle p e = p.recycle e := by
  simp [intPool_Recycle, IntPool.recycle]

theorem intPool_reset_eq (p : IntPool) : intPool_Reset p = p.reset := by
  simp [intPool_Reset, IntPool.reset]

end Ark.GenBridge.Book
