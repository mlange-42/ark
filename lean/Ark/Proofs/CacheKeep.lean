/-
  The filter cache along the storage steps that change which tables are active, for ANY world satisfying
  the structural invariant (relation components or not); both C05 machines rest on it.  `CKeep w w'`:
  `CacheInv` carries over, the cache keeps its keys, its ID map and its ID pool, the filter heap is
  untouched — for a new archetype (it selects nothing), for `createTable` (`cache.addTable`), and for
  their composition in a successful `findOrCreateTableAdd` (`FocShape`); `CIdxH`: the component index an
  uncached typed query walks, kept by the same steps.  `CKeep` and the two `_ckeep` lemmas are declared in
  `namespace RelRefine2`, which the relation-free machine (`CacheHistOps`) opens as well.
-/
import Ark.Proofs.CompIndex
import Ark.Proofs.Lookups
import Ark.Proofs.ShrinkInv

section

/-! ## §1 `createArchetype` and `createTable` -/

set_option autoImplicit false

namespace Ark

theorem World.entry_of_cacheKeys {w w' : World} (hk : w'.cacheKeys = w.cacheKeys) {e : CacheEntry}
    (he : e ∈ w.cache.filters) :
    ∃ (e' : CacheEntry), e' ∈ w'.cache.filters ∧ e'.id = e.id ∧ e'.filter = e.filter ∧
      e'.rels = e.rels := by
  have hm : (e.id, e.filter, e.rels) ∈ w'.cacheKeys := by
    rw [hk]; exact List.mem_map.mpr ⟨e, he, rfl⟩
  obtain ⟨e', he', heq⟩ := List.mem_map.mp hm
  injection heq with g1 g23
  injection g23 with g2 g3
  exact ⟨e', he', g1, g2, g3⟩

namespace RelRefine2

open World Ark.Props.C01World

/-- **the cache invariant carries over** from `w` to `w'`; the keys of the cache (ID, filter and
    fixed relations of every entry, in order), its ID map, its ID pool and the filter heap are
    the same -/
structure CKeep (w w' : World) : Prop where
  cache : CacheInv w → CacheInv w'
  keys : w'.cacheKeys = w.cacheKeys
  indices : w'.cache.indices = w.cache.indices
  pool : w'.cache.pool = w.cache.pool
  filters : w'.filters = w.filters

theorem CKeep.refl (w : World) : CKeep w w := ⟨id, rfl, rfl, rfl, rfl⟩

theorem CKeep.trans {a b c : World} (h1 : CKeep a b) (h2 : CKeep b c) : CKeep a c :=
  ⟨fun h => h2.cache (h1.cache h), h2.keys.trans h1.keys, h2.indices.trans h1.indices,
    h2.pool.trans h1.pool, h2.filters.trans h1.filters⟩

theorem CKeep.of_selected {w w' : World} (hc : w'.cache = w.cache) (hf : w'.filters = w.filters)
    (hs : ∀ (f : Filter) (rels : List RelID) (t : Nat), Selected w' f rels t ↔ Selected w f rels t) :
    CKeep w w' :=
  ⟨fun h => cacheInv_congr h hc hs, by simp only [cacheKeys, hc], by rw [hc], by rw [hc], hf⟩

theorem createArchetypeW_ckeep (w : World) (mask : Mask) : CKeep w (createArchetypeW w mask) :=
  CKeep.of_selected
    (createArchetypeW_proj (·.cache) (fun _ _ _ => rfl) (fun _ _ => rfl) w mask)
    (createArchetypeW_proj (·.filters) (fun _ _ _ => rfl) (fun _ _ => rfl) w mask)
    (selected_append_arch mask
      (createArchetypeW_proj (·.archetypes) (fun _ _ _ => rfl) (fun _ _ => rfl) w mask)
      (createArchetypeW_proj (·.tables) (fun _ _ _ => rfl) (fun _ _ => rfl) w mask))

/-- relations allowed, the table fresh or recycled; `hnr`: an archetype without relation column
    has no table yet -/
theorem createTable_ckeep {w w' : World} (h : SInvMid w) {a : Nat} {rels : List RelID} {t : Nat}
    (ha : a < w.archetypes.length)
    (hnr : (w.arch a).hasRelations = false → (w.arch a).tables.tables = [])
    (hok : World.createTable a rels w = .ok t w') : CKeep w w' := by
  obtain ⟨_, h2, h3, h4, h5⟩ := createTable_ok hok
  have hA := aget_of_lt ha
  obtain ⟨A2, Tn, ta, _, _, _, _, _, e3, _⟩ := h.createTableS_added hA h2 h3 hnr
  rw [← h4] at ta
  have hd := ta.toCache e3
  have hid : ((createTableS w a rels).1.tbl t).id = t := by
    rw [tbl_of_get ta.tget_self]; exact ta.tId
  have heq := cacheAddTable_eq h5
  refine ⟨fun hc => (cacheAddTable_inv hc hd hid h5).1, ?_, by rw [heq, ← e3], by rw [heq, ← e3],
    (createTable_sameFrame hok).filters⟩
  rw [heq]
  simp only [cacheKeys, e3, List.map_map]
  apply List.map_congr_left
  intro e _
  simp only [Function.comp, addTableEntry_id, addTableEntry_filter, addTableEntry_rels]

end RelRefine2
end Ark

end

section

/-! ## §2 `findOrCreateTableAdd`; the component index -/

set_option autoImplicit false

namespace Ark

open World RelRefine2

/-- the shape of a successful `tableFor` / `findOrCreateTableAdd`: `w'` arises from `w` by: find
    the archetype or append it (`w1`), then find its table or create one. -/
structure FocShape (w w1 w' : World) : Prop where
  arch : w1 = w ∨ ∃ (mask : Mask), w.findArch mask = none ∧
    (∀ (c : Nat), mask.get c = true → c < w.kinds.length) ∧ w1 = createArchetypeW w mask
  mid : SInvMid w1
  tab : w' = w1 ∨ ∃ (a : Nat) (rels : List RelID) (t : Nat), a < w1.archetypes.length ∧
    ((w1.arch a).hasRelations = false → (w1.arch a).tables.tables = []) ∧
    World.createTable a rels w1 = .ok t w'

theorem SInv.tableFor_shape {w w' : World} (h : SInv w) {mask : Mask} {rels : List RelID}
    {p : Nat × Nat} (hreg : ∀ (c : Nat), mask.get c = true → c < w.kinds.length)
    (hok : tableFor mask rels w = .ok p w') : ∃ (w1 : World), FocShape w w1 w' := by
  obtain ⟨t, a⟩ := p
  obtain ⟨a1, w1, ha, hmid, _, halt, _, _, _, _, _, _, _, _, hcase⟩ := h.findOrCreateArch mask hreg
  obtain ⟨rfl, hgo⟩ := tableFor_cases ha hok
  refine ⟨w1, ?_, hmid, ?_⟩
  · rcases hcase with ⟨_, rfl⟩ | ⟨hf, _, _⟩
    · exact Or.inl rfl
    · refine Or.inr ⟨_, hf, hreg, ?_⟩
      simp only [World.findOrCreateArch, hf, createArchetype_eq] at ha
      injection ha with _ h2
      exact h2.symm
  · rcases getOrCreate_ok_iff.1 hgo with ⟨_, rfl⟩ | ⟨hgt, hct⟩
    · exact Or.inl rfl
    · exact Or.inr ⟨_, _, _, halt, getTable_none_noRel hgt, hct⟩

theorem SInv.foc_shape {w w' : World} (h : SInv w) {oldT : Nat} {startMask : Mask}
    {add : List Comp} {rels : List RelID} {r : Nat × Nat × Mask}
    (hstart : ∀ (c : Nat), startMask.get c = true → c < w.kinds.length)
    (hreg : ∀ (c : Comp), c ∈ add → c < w.kinds.length)
    (hok : World.findOrCreateTableAdd oldT startMask add rels w = .ok r w') :
    ∃ (w1 : World), FocShape w w1 w' := by
  obtain ⟨t, a, mask⟩ := r
  obtain ⟨_, rfl, ht⟩ := findOrCreateTableAdd_ok hok
  exact h.tableFor_shape (Mask.get_foldl_set_reg hstart hreg) ht

namespace FocShape

variable {w w1 w' : World}

/-- a new archetype selects nothing, a new table is announced to the cache -/
theorem ckeep (s : FocShape w w1 w') : CKeep w w' := by
  have k1 : CKeep w w1 := by
    rcases s.arch with rfl | ⟨mask, _, _, rfl⟩
    · exact CKeep.refl _
    · exact createArchetypeW_ckeep w mask
  rcases s.tab with rfl | ⟨a, rels, t, halt, hnr, hct⟩
  · exact k1
  · exact k1.trans (createTable_ckeep s.mid halt hnr hct)

theorem filters (s : FocShape w w1 w') : w'.filters = w.filters := s.ckeep.filters

end FocShape

/-- **the component index**: one entry per registered component; entry `c` is the ascending
    list of the archetypes whose mask has bit `c` (`storage.componentIndex`, what the uncached
    query of a typed filter walks). -/
structure CIdxH (w : World) : Prop where
  len : w.componentIndex.length = w.kinds.length
  idx : ∀ (c : Nat), c < w.kinds.length →
    w.componentIndex.getD c [] =
      (List.range w.archetypes.length).filter fun a => (w.arch a).mask.get c

theorem CIdxH.init (cap rel : Nat) : CIdxH (World.init cap rel) :=
  ⟨rfl, fun c hc => absurd hc (Nat.not_lt_zero c)⟩

theorem CIdxH.congr {w w' : World} (h : CIdxH w) (hk : w'.kinds = w.kinds)
    (hci : w'.componentIndex = w.componentIndex)
    (hlen : w'.archetypes.length = w.archetypes.length)
    (hm : ∀ (a : Nat), a < w.archetypes.length → (w'.arch a).mask = (w.arch a).mask) : CIdxH w' := by
  refine ⟨by rw [hci, hk]; exact h.len, fun c hc => ?_⟩
  rw [hci, hlen, h.idx c (by rw [← hk]; exact hc)]
  apply List.filter_congr
  intro a ha
  rw [hm a (List.mem_range.mp ha)]

theorem CIdxH.createArchetypeW {w : World} (h : CIdxH w) (mask : Mask) :
    CIdxH (createArchetypeW w mask) := by
  have hk : (World.createArchetypeW w mask).kinds = w.kinds :=
    createArchetypeW_proj (·.kinds) (fun _ _ _ => rfl) (fun _ _ => rfl) w mask
  have ha : (World.createArchetypeW w mask).archetypes = w.archetypes ++ [newArch w mask] :=
    createArchetypeW_proj (·.archetypes) (fun _ _ _ => rfl) (fun _ _ => rfl) w mask
  have hold : ∀ (a : Nat), a < w.archetypes.length →
      (World.createArchetypeW w mask).arch a = w.arch a := by
    intro a hlt
    simp only [arch, ha, List.getD_eq_getElem?_getD, List.getElem?_append_left hlt]
  have hnew : (World.createArchetypeW w mask).arch w.archetypes.length = newArch w mask := by
    apply arch_of_get; rw [ha]; exact List.getElem?_concat_length
  refine ⟨by rw [createArchetypeW_ci, hk, foldl_ciStep_length]; exact h.len, fun c hc => ?_⟩
  rw [hk] at hc
  have hm : (newArch w mask).mask = mask := rfl
  rw [createArchetypeW_ci, foldl_ciStep_getD _ _ _ c (Mask.toList_nodup _ _), h.idx c hc, ha]
  simp only [List.length_append, List.length_singleton, List.range_succ, List.filter_append,
    Mask.mem_toList, hc, h.len, true_and, List.filter_cons, List.filter_nil, hnew, hm]
  rw [List.filter_congr fun a hlt => by rw [← hold a (List.mem_range.mp hlt)]]
  cases mask.get c <;> simp

/-- the new component is in no mask (`SInvMid.maskReg`) -/
theorem CIdxH.registerComponent {w w' : World} (h : CIdxH w) (hS : SInvMid w) {k : CompKind}
    {n : Nat} (hr : World.registerComponent k w = .ok n w') : CIdxH w' := by
  rw [registerComponent_ok_eq hr]
  refine ⟨by simp only [List.length_append, List.length_singleton, h.len], fun c hc => ?_⟩
  simp only [List.length_append, List.length_singleton] at hc
  show (w.componentIndex ++ [[]]).getD c [] =
    (List.range w.archetypes.length).filter fun a => (w.arch a).mask.get c
  rcases Nat.lt_or_ge c w.kinds.length with h1 | h1
  · rw [getD_append_left' _ _ _ _ (by rw [h.len]; exact h1)]
    exact h.idx c h1
  · have hce : c = w.componentIndex.length := by rw [h.len]; omega
    subst hce
    simp only [List.getD_eq_getElem?_getD, List.getElem?_concat_length, Option.getD_some]
    symm
    rw [List.filter_eq_nil_iff]
    intro a ha hg
    have := hS.maskReg a _ (aget_of_lt (List.mem_range.mp ha)) _ hg
    rw [h.len] at this
    exact absurd this (Nat.lt_irrefl _)

theorem CIdxH.createTable {w w' : World} (h : CIdxH w) (hS : SInvMid w) {a : Nat}
    {rels : List RelID} {t : Nat} (ha : a < w.archetypes.length)
    (hnr : (w.arch a).hasRelations = false → (w.arch a).tables.tables = [])
    (hok : World.createTable a rels w = .ok t w') : CIdxH w' := by
  have ct := hS.createTable ha hnr hok
  refine h.congr ct.kinds (createTable_ciFrame hok).ci ct.archLen ?_
  intro b _
  by_cases hb : b = a
  · subst hb; exact ct.archA.1
  · rw [arch_eq_of_get (ct.otherArchs b hb)]

theorem FocShape.cidx {w w1 w' : World} (s : FocShape w w1 w') (h : CIdxH w) : CIdxH w' := by
  have h1 : CIdxH w1 := by
    rcases s.arch with rfl | ⟨mask, _, _, rfl⟩
    · exact h
    · exact h.createArchetypeW mask
  rcases s.tab with rfl | ⟨a, rels, t, halt, hnr, hct⟩
  · exact h1
  · exact h1.createTable s.mid halt hnr hct

end Ark

end

