/-
  Ark.Proofs.Commutes — "the action neither reads nor writes a part of the world".

  `Commutes put m`: running `m` on a world with the part `put` replaces set to `x` gives the
  result of `m` with that part set to `x` — for success and panic.  It is closed under the
  constructs of the `do` notation whatever `put` is.  With the laws of a lens (`get`), the part is
  unchanged by `m` (`keeps`), and `m` commutes with replacing any smaller part (`sub`).

  Two parts are used: `put4` (observers, log, lock, statistics object), which no storage primitive
  looks at, and `put3` (the same without the lock) for actions that call `checkLocked`.  `Frames`,
  `FramesOL` (`Proofs/CallbacksFrame`) and `Indep` (`Proofs/StatsFrame`) are `Commutes` for
  sub-parts of these.
-/
import Ark.Proofs.RefineCore

set_option autoImplicit false

namespace Ark

open World

/-- the action neither reads nor writes the part of the world that `put` replaces -/
def Commutes {σ α : Type} (put : World → σ → World) (m : W α) : Prop :=
  ∀ (w : World) (x : σ), m (put w x) = (m w).mapS (put · x)

namespace Commutes

variable {σ α β : Type} {put : World → σ → World}

theorem pure (a : α) : Commutes put (Pure.pure a : W α) := fun _ _ => rfl

theorem bind {m : W α} {f : α → W β} (hm : Commutes put m) (hf : ∀ (a : α), Commutes put (f a)) :
    Commutes put (m >>= f) := by
  intro w x
  rw [M.bind_apply, hm w x, M.bind_apply]
  cases m w with
  | ok a w' => exact hf a w' x
  | panic k w' => rfl

/-- `do let w ← get; f w`, where `f` reads fields outside the part -/
theorem get_bind {f : World → W β} (hr : ∀ (w : World) (x : σ), f (put w x) = f w)
    (hf : ∀ (w : World), Commutes put (f w)) : Commutes put (M.get >>= f) := by
  intro w x
  show f (put w x) (put w x) = (f w w).mapS (put · x)
  rw [hr]; exact hf w w x

theorem modify {g : World → World} (hg : ∀ (w : World) (x : σ), g (put w x) = put (g w) x) :
    Commutes put (M.modify g) := fun w x => congrArg (Res.ok ()) (hg w x)

theorem assert (c : Bool) (k : PanicKind) : Commutes put (M.assert c k : W Unit) := fun w x => by
  cases c <;> rfl

theorem panic (k : PanicKind) : Commutes put (M.panic k : W α) := fun _ _ => rfl

theorem ite {c : Prop} [Decidable c] {a b : W α} (ha : Commutes put a) (hb : Commutes put b) :
    Commutes put (if c then a else b) := by
  split
  · exact ha
  · exact hb

/-- `if c then x` followed by `k`, as the `do` notation writes it (`k` is a join point) -/
theorem when_then {c : Prop} [Decidable c] {x : W Unit} {k : Unit → W β} (hx : Commutes put x)
    (hk : ∀ (u : Unit), Commutes put (k u)) : Commutes put (if c then x >>= k else k ()) :=
  ite (bind hx hk) (hk ())

theorem forM' {γ : Type} {g : γ → W Unit} (hg : ∀ (x : γ), Commutes put (g x)) :
    ∀ (l : List γ), Commutes put (M.forM' l g)
  | [] => pure ()
  | x :: l => bind (m := g x) (f := fun _ => M.forM' l g) (hg x) fun _ => forM' hg l

/-- an action that succeeds with a value and a state computed from fields outside the part -/
theorem of_eq {m : W α} {a : World → α} {g : World → World} (hm : ∀ (w : World), m w = .ok (a w) (g w))
    (ha : ∀ (w : World) (x : σ), a (put w x) = a w)
    (hg : ∀ (w : World) (x : σ), g (put w x) = put (g w) x) : Commutes put m := fun w x => by
  rw [hm, hm, ha, hg]; rfl

section lens

variable {m : W α} (get : World → σ) (h1 : ∀ (w : World), put w (get w) = w)
  (h2 : ∀ (w : World) (x : σ), get (put w x) = x)
include h1 h2

omit h2 in
/-- an action that hands back the world it was given and looks at fields outside the part only
    (`h` follows from a statement about ANY two worlds that agree on what the action reads) -/
theorem of_reader (h : ∀ (w : World) (x : σ), m (put w x) = (m w).mapS fun _ => put w x) :
    Commutes put m := fun w x => by
  have hs := congrArg Res.state (h w (get w))
  rw [h1, Res.state_mapS] at hs
  exact (h w x).trans (Res.mapS_congr _ (by rw [hs]))

theorem keeps (h : Commutes put m) (w : World) : get (m w).state = get w := by
  have := congrArg Res.state (h w (get w))
  rw [h1, Res.state_mapS] at this
  rw [this, h2]

/-- an action that commutes with replacing a part commutes with replacing a smaller part (`e`: the
    larger part with the smaller one replaced) -/
theorem sub {τ : Type} {put' : World → τ → World} (e : σ → τ → σ)
    (he : ∀ (w : World) (y : τ), put' w y = put w (e (get w) y)) (h : Commutes put m) :
    Commutes put' m := fun w y => by
  rw [he, h]
  exact Res.mapS_congr _ (by rw [he, keeps get h1 h2 h])

end lens

end Commutes

namespace World

/-- observers, log, lock and statistics object: no storage primitive looks at them -/
def put4 (w : World) (x : ObsMgr × List LogEv × Lock × WorldStats) : World :=
  { w with obs := x.1, log := x.2.1, locks := x.2.2.1, stats := x.2.2.2 }

def get4 (w : World) : ObsMgr × List LogEv × Lock × WorldStats := (w.obs, w.log, w.locks, w.stats)

/-- the same without the lock, for actions that call `checkLocked` -/
def put3 (w : World) (x : ObsMgr × List LogEv × WorldStats) : World :=
  { w with obs := x.1, log := x.2.1, stats := x.2.2 }

def get3 (w : World) : ObsMgr × List LogEv × WorldStats := (w.obs, w.log, w.stats)

end World

theorem Commutes.to3 {α : Type} {m : W α} (h : Commutes put4 m) : Commutes put3 m :=
  h.sub get4 (fun _ => rfl) (fun _ _ => rfl) (fun F x => (x.1, x.2.1, F.2.2.1, x.2.2)) fun _ _ => rfl

namespace World

/-- the mask walks do not look at the world at all -/
theorem commutes_graphFindAdd (m : Mask) (add : List Comp) : Commutes put4 (graphFindAdd m add) :=
  Commutes.of_reader get4 (fun _ => rfl) fun w _ => graphFindAdd_go_any w _ add m

theorem commutes_graphFindRemove (m : Mask) (rem : List Comp) :
    Commutes put4 (graphFindRemove m rem) :=
  Commutes.of_reader get4 (fun _ => rfl) fun w _ => graphFindRemove_go_any w _ rem m

theorem commutes_graphFind (start m : Mask) (add rem : List Comp) :
    Commutes put4 (graphFind start m add rem) :=
  Commutes.of_reader get4 (fun _ => rfl) fun w _ => graphFind_any start m add rem w _

variable (x : ObsMgr × List LogEv × Lock × WorldStats)

theorem foldl_put4 {γ : Type} (F : World → γ → World)
    (hF : ∀ (w : World) (c : γ), F (w.put4 x) c = (F w c).put4 x) : ∀ (l : List γ) (w : World),
      l.foldl F (w.put4 x) = (l.foldl F w).put4 x
  | [], _ => rfl
  | c :: l, w => by
    rw [List.foldl_cons, List.foldl_cons, hF]
    exact foldl_put4 F hF l _

/-- `createArchetypeW` with its reads of the world made parameters -/
def caW (n : Nat) (l : List Comp) (A : Archetype) (c : Bool) (w : World) : World :=
  let w2 := l.foldl (caStep n) { w with archetypes := w.archetypes ++ [A] }
  if c then { w2 with relationArchetypes := w2.relationArchetypes ++ [n] } else w2

theorem createArchetypeW_eq_caW (w : World) (mask : Mask) :
    createArchetypeW w mask = caW w.archetypes.length (mask.toList w.kinds.length) (newArch w mask)
      (newArch w mask).hasRelations w := rfl

theorem caW_put4 (n : Nat) (l : List Comp) (A : Archetype) (c : Bool) (w : World) :
    caW n l A c (w.put4 x) = (caW n l A c w).put4 x := by
  unfold caW
  have h2 : ({ w.put4 x with archetypes := (w.put4 x).archetypes ++ [A] } : World) =
      ({ w with archetypes := w.archetypes ++ [A] } : World).put4 x := rfl
  simp only [h2, foldl_put4 x (caStep n) (fun _ _ => rfl)]
  cases c <;> rfl

theorem createArchetypeW_put4 (w : World) (mask : Mask) :
    createArchetypeW (w.put4 x) mask = (createArchetypeW w mask).put4 x := by
  rw [createArchetypeW_eq_caW, createArchetypeW_eq_caW]
  exact caW_put4 x _ _ _ _ w

theorem commutes_findOrCreateArch (mask : Mask) : Commutes put4 (findOrCreateArch mask) :=
  fun w x => by
  unfold findOrCreateArch
  rw [show (w.put4 x).findArch mask = w.findArch mask from rfl]
  cases w.findArch mask with
  | some a => rfl
  | none =>
    show createArchetype mask (w.put4 x) = _
    rw [createArchetype_eq, createArchetype_eq, createArchetypeW_put4]
    rfl

theorem getTable_go_any (rels : List RelID) (w w' : World) (ht : w'.tables = w.tables) :
    ∀ (ts : List Nat), getTable.go rels w' ts = (getTable.go rels w ts).mapS fun _ => w'
  | [] => rfl
  | t :: rest => by
    simp only [getTable.go]
    have : w'.tbl t = w.tbl t := tbl_congr ht _
    rw [this]
    split
    · rfl
    · exact getTable_go_any rels w w' ht rest
    · rfl
    · rfl

theorem getTable_any (a : Nat) (rels : List RelID) (w w' : World) (ha : w'.arch a = w.arch a)
    (ht : w'.tables = w.tables) :
    getTable a rels w' = (getTable a rels w).mapS fun _ => w' := by
  unfold getTable
  simp only [ha]
  by_cases h1 : (w.arch a).tables.tables.isEmpty = true
  · rw [if_pos h1, if_pos h1]; rfl
  rw [if_neg h1, if_neg h1]
  by_cases h2 : (!(w.arch a).hasRelations) = true
  · rw [if_pos h2, if_pos h2]; rfl
  rw [if_neg h2, if_neg h2]
  by_cases h3 : rels.length < (w.arch a).numRel
  · rw [if_pos h3, if_pos h3]; rfl
  rw [if_neg h3, if_neg h3]
  by_cases h4 : namedTwice [] rels = true
  · rw [if_pos h4, if_pos h4]; rfl
  rw [if_neg h4, if_neg h4]
  cases rels with
  | nil => rfl
  | cons r0 rest =>
    simp only []
    cases (w.arch a).colIdx r0.comp with
    | none => rfl
    | some i =>
      simp only []
      cases AL.find? ((w.arch a).relationTables.getD i []) r0.target.id with
      | none => rfl
      | some ts => exact getTable_go_any _ w w' ht _

theorem commutes_getTable (a : Nat) (rels : List RelID) : Commutes put4 (getTable a rels) :=
  Commutes.of_reader get4 (fun _ => rfl) fun w _ => getTable_any a rels w _ rfl rfl

theorem cacheAddTable_put4 (w : World) (T : Table) :
    (w.put4 x).cacheAddTable T = (w.cacheAddTable T).map fun s => s.put4 x := by
  unfold cacheAddTable
  simp only [show (w.put4 x).arch T.arch = w.arch T.arch from rfl,
    show (w.put4 x).cache = w.cache from rfl]
  split <;> rfl

theorem createTableS_put4 (w : World) (a : Nat) (rels : List RelID) :
    createTableS (w.put4 x) a rels =
      ((createTableS w a rels).1.put4 x, (createTableS w a rels).2) := by
  unfold createTableS
  rw [show (w.put4 x).arch a = w.arch a from rfl]
  split <;> rfl

theorem ctFinish_put4 (w : World) (n : Nat) :
    ctFinish (w.put4 x, n) = (ctFinish (w, n)).mapS (·.put4 x) := by
  unfold ctFinish
  simp only [show (w.put4 x).tbl n = w.tbl n from rfl, cacheAddTable_put4]
  cases w.cacheAddTable (w.tbl n) <;> rfl

theorem commutes_checkRelationTarget (t : Ent) : Commutes put4 (checkRelationTarget t) :=
  fun w x => by
  unfold checkRelationTarget
  rw [show (w.put4 x).alive t = w.alive t from rfl]
  split <;> rfl

theorem commutes_checkRelationComponent (c : Comp) : Commutes put4 (checkRelationComponent c) :=
  fun w x => by
  unfold checkRelationComponent
  rw [show (w.put4 x).isRelComp c = w.isRelComp c from rfl]
  split <;> rfl

theorem commutes_relCheck (r : RelID) : Commutes put4 (relCheck r) :=
  Commutes.bind (commutes_checkRelationComponent r.comp) fun _ =>
    commutes_checkRelationTarget r.target

theorem relPanic_put4 (w : World) (rels : List RelID) : relPanic (w.put4 x) rels = relPanic w rels := by
  unfold relPanic
  rw [Commutes.forM' commutes_relCheck rels w x]
  cases M.forM' rels relCheck w <;> rfl

theorem commutes_createTable (a : Nat) (rels : List RelID) : Commutes put4 (createTable a rels) :=
  fun w x => by
  rw [createTable_eq, createTable_eq]
  have hv : RelsValid (w.put4 x) rels ↔ RelsValid w rels := Iff.rfl
  rw [show (w.put4 x).arch a = w.arch a from rfl]
  split
  · rfl
  · split
    · rfl
    · by_cases h3 : RelsValid w rels
      · rw [if_pos h3, if_pos (hv.mpr h3), createTableS_put4]
        exact ctFinish_put4 x _ _
      · rw [if_neg h3, if_neg (fun h => h3 (hv.mp h)), relPanic_put4]
        rfl

theorem commutes_getOrCreate (a : Nat) (rels : List RelID) : Commutes put4 (getOrCreate a rels) :=
  Commutes.bind (commutes_getTable a rels) fun r => by
    cases r with
    | some t => exact Commutes.pure _
    | none => exact commutes_createTable a rels

theorem commutes_tableFor (mask : Mask) (rels : List RelID) : Commutes put4 (tableFor mask rels) :=
  Commutes.bind (commutes_findOrCreateArch mask) fun a =>
    Commutes.bind (commutes_getOrCreate a rels) fun _ => Commutes.pure _

/-- a lookup in the form of `lookup_eq`: a mask walk, then `tableFor` -/
theorem commutes_lookup {β : Type} {walk : W Mask} (hw : Commutes put4 walk)
    (rels : Mask → List RelID) (f : Mask → Nat × Nat → β) :
    Commutes put4 (walk >>= fun m => tableFor m (rels m) >>= fun p => pure (f m p)) :=
  Commutes.bind hw fun m => Commutes.bind (commutes_tableFor m _) fun _ => Commutes.pure _

-- the relation list a lookup reads off the old table is the same in `w.put4 x` and in `w`
theorem commutes_findOrCreateTableAdd (oldT : Nat) (startMask : Mask) (add : List Comp)
    (rels : List RelID) : Commutes put4 (findOrCreateTableAdd oldT startMask add rels) :=
  fun w x => by
  rw [findOrCreateTableAdd_eq, findOrCreateTableAdd_eq]
  exact commutes_lookup (commutes_graphFindAdd _ _) _ _ w x

theorem commutes_findOrCreateTableRemove (oldT : Nat) (startMask : Mask) (rem : List Comp) :
    Commutes put4 (findOrCreateTableRemove oldT startMask rem) := fun w x => by
  rw [findOrCreateTableRemove_eq, findOrCreateTableRemove_eq]
  exact commutes_lookup (commutes_graphFindRemove _ _) _ _ w x

theorem commutes_findOrCreateTable (oldT : Nat) (startMask : Mask) (add rem : List Comp)
    (rels : List RelID) : Commutes put4 (findOrCreateTable oldT startMask add rem rels) :=
  fun w x => by
  rw [findOrCreateTable_eq, findOrCreateTable_eq]
  exact commutes_lookup (commutes_graphFind _ _ _ _) _ _ w x

theorem placedW_put4 (w : World) (t : Nat) (rt : Bool) :
    placedW (w.put4 x) t rt = (placedW w t rt).put4 x := by
  unfold placedW World.put4 World.setTbl World.tbl
  dsimp only
  split <;> rfl

theorem moveRowW_put4 (w : World) (e : Ent) (oldT row newT ni : Nat) (keep : Mask) :
    moveRowW (w.put4 x) e oldT row newT ni keep = (moveRowW w e oldT row newT ni keep).put4 x := by
  rw [moveRowW_eq, moveRowW_eq]
  rfl

theorem addMove_put4 (w : World) (e : Ent) (oldT row newT : Nat) (keep : Mask) :
    addMove (w.put4 x) e oldT row newT keep = (addMove w e oldT row newT keep).put4 x := by
  show moveRowW ((w.setTbl newT ((w.tbl newT).add e).1).put4 x) e oldT row newT
    ((w.tbl newT).add e).2 keep = _
  rw [moveRowW_put4]
  rfl

theorem removeRowOf_put4 (w : World) (e : Ent) (t row : Nat) :
    removeRowOf (w.put4 x) e t row = (removeRowOf w e t row).put4 x := by
  unfold removeRowOf World.put4 World.setTbl World.tbl
  dsimp only
  split <;> rfl

theorem moveEntitiesW_put4 (w : World) (src dst count : Nat) :
    moveEntitiesW (w.put4 x) src dst count = (moveEntitiesW w src dst count).put4 x := by
  show ((List.range (((w.modTbl dst fun D => D.addAll (w.tbl src) count).tbl dst).len -
      (w.tbl dst).len)).foldl (idxStep dst (w.tbl dst).len)
    ((w.modTbl dst fun D => D.addAll (w.tbl src) count).put4 x)).modTbl src Table.reset = _
  rw [foldl_put4 x _ fun _ _ => rfl]
  rfl

theorem commutes_placeNew (t : Nat) (rt : Bool) : Commutes put4 (placeNew t rt) :=
  Commutes.of_eq (placeNew_eq t rt) (fun _ _ => rfl) fun w x => placedW_put4 x w t rt

theorem commutes_moveRow (e : Ent) (oldT row newT ni : Nat) (keep : Mask) :
    Commutes put4 (moveRow e oldT row newT ni keep) :=
  Commutes.modify fun w x => moveRowW_put4 x w e oldT row newT ni keep

theorem commutes_registerTargets (rels : List RelID) : Commutes put4 (registerTargets rels) :=
  Commutes.modify fun _ _ => rfl

theorem commutes_moveEntities (src dst count : Nat) : Commutes put4 (moveEntities src dst count) :=
  Commutes.of_eq (moveEntities_eq src dst count) (fun _ _ => rfl)
    fun w x => moveEntitiesW_put4 x w src dst count

theorem commutes_tableAdd (newT : Nat) (e : Ent) :
    Commutes put4 (fun w => let (N, i) := (w.tbl newT).add e; Res.ok i (w.setTbl newT N) : W Nat) :=
  fun _ _ => rfl

-- the pre-validation of relation arguments reads the registry and the pool only
theorem commutes_preCheckTyped (m : Mask) (rels : List RelID) :
    Commutes put4 (preCheckTyped m rels) :=
  Commutes.forM' (fun _ => Commutes.bind (commutes_checkRelationTarget _) fun _ =>
    Commutes.bind (commutes_checkRelationComponent _) fun _ => Commutes.assert _ _) rels

theorem commutes_preCheck (p : Path) (ids : List Comp) (rels : List RelID) :
    Commutes put4 (preCheck p ids rels) := by
  cases p
  · exact commutes_preCheckTyped _ rels
  · exact Commutes.forM' (fun _ => Commutes.bind (commutes_checkRelationTarget _) fun _ =>
      commutes_checkRelationComponent _) rels
  · exact commutes_preCheckTyped _ rels

theorem commutes_checkLocked : Commutes put3 checkLocked := fun w x => by
  unfold checkLocked
  rw [show (w.put3 x).isLocked = w.isLocked from rfl]
  split <;> rfl

theorem commutes_addCore (e : Ent) (add : List Comp) (rels : List RelID) :
    Commutes put3 (addCore e add rels) := by
  unfold addCore
  refine Commutes.bind commutes_checkLocked fun _ => ?_
  refine Commutes.get_bind (fun _ _ => rfl) fun w => ?_
  refine Commutes.bind (Commutes.assert _ _) fun _ => ?_
  refine Commutes.bind (Commutes.assert _ _) fun _ => ?_
  generalize w.index e.id = ix
  obtain ⟨oldT, row⟩ := ix
  dsimp only
  refine Commutes.bind (commutes_findOrCreateTableAdd _ _ _ _).to3 fun r => ?_
  obtain ⟨newT, newA, mask⟩ := r
  dsimp only
  refine Commutes.bind (commutes_tableAdd newT e).to3 fun ni => ?_
  refine Commutes.bind (commutes_moveRow _ _ _ _ _ _).to3 fun _ => ?_
  refine Commutes.bind (commutes_registerTargets _).to3 fun _ => ?_
  exact Commutes.get_bind (fun _ _ => rfl) fun _ => Commutes.pure _

theorem commutes_newEntityCore (ids : List Comp) (rels : List RelID) :
    Commutes put3 (newEntityCore ids rels) := by
  unfold newEntityCore
  refine Commutes.bind commutes_checkLocked fun _ => ?_
  refine Commutes.bind (commutes_findOrCreateTableAdd _ _ _ _).to3 fun r => ?_
  obtain ⟨t, a, m⟩ := r
  dsimp only
  refine Commutes.bind (commutes_placeNew _ _).to3 fun y => ?_
  obtain ⟨e, i⟩ := y
  dsimp only
  refine Commutes.bind (commutes_registerTargets _).to3 fun _ => ?_
  exact Commutes.get_bind (fun _ _ => rfl) fun _ => Commutes.pure _

end World

open Ark.Props.C01World in
/-- `CInv` does not read the log, the lock or the statistics object, and of the observers only
    "none registered" -/
theorem CInv.put4 {w : World} {fl : List Nat} (h : CInv w fl)
    (x : ObsMgr × List LogEv × Lock × WorldStats) (ho : ∀ evt : Nat, x.1.hasObservers evt = false) :
    CInv (w.put4 x) fl where
  idx := h.idx.congr rfl rfl
  sinv := h.sinv.congr rfl rfl rfl
  pool := h.pool
  stale := h.stale
  lenEq := h.lenEq
  tgtLen := h.tgtLen
  freeUnindexed := h.freeUnindexed
  reservedUnindexed := h.reservedUnindexed
  liveIndexed := h.liveIndexed
  fewTables := h.fewTables
  noRelKinds := h.noRelKinds
  kindsLe := h.kindsLe
  noTargets := h.noTargets
  noObs := ho

end Ark
