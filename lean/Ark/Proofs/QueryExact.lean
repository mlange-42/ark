/-
  Property C03 at the level of ENTITY SETS: on a world
  satisfying the joint invariant `CInv w fl` of the non-relation, observer-free fragment, a
  complete iteration `World.drain fo []` of an uncached filter object visits exactly the alive
  entities whose archetype mask the filter matches, each once, and reports for every visit the
  row the entity index points to.

  **The lock state after a query is NOT the lock state before**: the bit pool of `lock.go`
  remembers the bit handed out (`length`, `next`, `available` change), see `lockCycle_default`,
  `lockAfterQuery_ne`.  So `drain` does not restore the world literally; it restores everything
  but `locks.pool` (`w.withLocks l2`).  A hypothesis `fo.rels = []` is not needed: in the
  fragment no archetype has a relation column, so the relations of the filter object are never
  consulted.
-/
import Ark.Proofs.RefineCore
import Ark.Proofs.Drain
import Ark.Proofs.Lock

set_option autoImplicit false

namespace Ark
namespace QueryExact

open World Drain Ark.Props.C01World

/-! ## 0. list facts -/

theorem nodup_map_of_nodup_map {α β γ : Type} (l : List α) (f : α → β) (g : α → γ)
    (hf : (l.map f).Nodup) (h : ∀ a ∈ l, ∀ b ∈ l, g a = g b → f a = f b) : (l.map g).Nodup := by
  rw [List.Nodup, List.pairwise_map] at hf ⊢
  exact List.Pairwise.imp_of_mem (fun ha hb hab heq => hab (h _ ha _ hb heq)) hf

theorem _root_.Ark.length_eq_of_nodup_mem {α : Type} {l1 l2 : List α} (h1 : l1.Nodup)
    (h2 : l2.Nodup) (h : ∀ a, a ∈ l1 ↔ a ∈ l2) : l1.length = l2.length :=
  ((List.perm_ext_iff_of_nodup h1 h2).mpr h).length_eq

/-- the IDs of the live handles are pairwise different: a live handle is the content of its slot -/
theorem _root_.Ark.Pool.GInv.ids_nodup {β : Type} {p : Pool} {issued : List Ent}
    {L : List (Ent × β)} {fl : List Nat} (g : Pool.GInv ⟨p, issued, L.map (·.1)⟩ fl) :
    (L.map fun x => x.1.id).Nodup :=
  nodup_map_of_nodup_map L (·.1) (fun x => x.1.id) g.live_nodup fun a ha b hb hid => by
    have h1 := ((g.live_iff a.1).mp (List.mem_map_of_mem ha)).2.2
    rw [show a.1.id = b.1.id from hid, ((g.live_iff b.1).mp (List.mem_map_of_mem hb)).2.2] at h1
    exact (Option.some.inj h1).symm

theorem map_pointwise {α β γ : Type} (l : List α) (f : α → β) (g : α → γ) (k : β → γ) (l2 : List β)
    (h1 : l.map f = l2) (h2 : l.map g = l2.map k) : ∀ a ∈ l, g a = k (f a) := by
  subst h1
  rw [List.map_map] at h2
  exact List.map_inj_left.mp h2

/-! ## 1. the counting walk in the relation-free fragment -/

/-- the tables the counting walk selects from the archetype list `as` when no archetype has a
    relation column: the first (only) table of every archetype whose mask the filter matches -/
def selTables (w : World) (f : Filter) (as : List Nat) : List Nat :=
  (as.filter fun a => f.matchesMask (w.arch a).mask).map
    fun a => (w.arch a).tables.tables.getD 0 0

theorem foldl_selA_noRel (w : World) (f : Filter) (rels : List RelID) :
    ∀ (as : List Nat) (acc : List Nat), (∀ a ∈ as, (w.arch a).hasRelations = false) →
      as.foldl (selA w f rels) (some acc) = some (acc ++ selTables w f as) := by
  intro as
  induction as with
  | nil => intro acc _; simp [selTables]
  | cons a rest ih =>
    intro acc h
    have ha := h a List.mem_cons_self
    have hrest : ∀ x ∈ rest, (w.arch x).hasRelations = false :=
      fun x hx => h x (List.mem_cons_of_mem _ hx)
    rw [List.foldl_cons]
    by_cases hm : f.matchesMask (w.arch a).mask = true
    · have : selA w f rels (some acc) a = some (acc ++ [(w.arch a).tables.tables.getD 0 0]) := by
        simp [selA, hm, ha]
      rw [this, ih _ hrest]
      simp [selTables, hm]
    · have hm' : f.matchesMask (w.arch a).mask = false := by simpa using hm
      have : selA w f rels (some acc) a = some acc := by simp [selA, hm']
      rw [this, ih _ hrest]
      simp [selTables, hm']

theorem qSelected_noRel (w : World) (q : QueryObj) (hc : q.cacheTables = none)
    (h : ∀ a ∈ w.archList q.rare, (w.arch a).hasRelations = false) :
    qSelected w q = some (selTables w q.filter (w.archList q.rare)) := by
  rw [qSelected_eq, hc]
  simpa using foldl_selA_noRel w q.filter q.rels _ [] h

theorem mem_selTables {w : World} {f : Filter} {as : List Nat} {t : Nat} :
    t ∈ selTables w f as ↔
      ∃ a ∈ as, f.matchesMask (w.arch a).mask = true ∧ t = (w.arch a).tables.tables.getD 0 0 := by
  simp only [selTables, List.mem_map, List.mem_filter]
  constructor
  · rintro ⟨a, ⟨h1, h2⟩, rfl⟩; exact ⟨a, h1, h2, rfl⟩
  · rintro ⟨a, h1, h2, rfl⟩; exact ⟨a, ⟨h1, h2⟩, rfl⟩

/-- what the archetype list a query walks must satisfy -/
structure ArchsOK (w : World) (f : Filter) (as : List Nat) : Prop where
  nodup : as.Nodup
  lt : ∀ a ∈ as, a < w.archetypes.length
  complete : ∀ a : Nat, a < w.archetypes.length → f.matchesMask (w.arch a).mask = true → a ∈ as

/-- the list of all archetypes (`UnsafeFilter`, filters without type parameters) -/
theorem ArchsOK.all (w : World) (f : Filter) : ArchsOK w f (w.archList none) where
  nodup := List.nodup_range
  lt := fun _ ha => List.mem_range.mp ha
  complete := fun _ ha _ => List.mem_range.mpr ha

/-! ## 2. archetypes and their one table under `CInv` (`CInv.oneTable`, `CInv.table_is_first`:
  Ark.Proofs.RefineCore) -/

section
variable {w : World} {fl : List Nat}

theorem selTables_nodup (h : CInv w fl) (f : Filter) {as : List Nat} (hnd : as.Nodup)
    (hlt : ∀ a ∈ as, a < w.archetypes.length) : (selTables w f as).Nodup := by
  unfold selTables
  rw [List.Nodup, List.pairwise_map]
  refine List.Pairwise.imp_of_mem ?_ (List.Pairwise.filter _ hnd)
  intro a b ha hb hab heq
  have ha' := hlt a (List.mem_filter.mp ha).1
  have hb' := hlt b (List.mem_filter.mp hb).1
  obtain ⟨ta, hta, _, hta2⟩ := h.oneTable ha'
  obtain ⟨tb, htb, _, htb2⟩ := h.oneTable hb'
  rw [hta, htb] at heq
  simp only [List.getD_cons_zero] at heq
  subst heq
  exact hab (hta2.symm.trans htb2)

end

/-! ## 3. the entity-set statement -/

/-- **what a complete query iteration over the world `w` with filter `f` must deliver**
    (`fl` is the ghost free list of the entity pool: the IDs `≥ 2` outside `fl` are the alive
    ones).  `nodup`: no ID twice; `sound`: every visit is an alive ID, at the row the entity
    index records for it, reporting the handle stored there, in a table whose archetype mask the
    filter matches; `complete`: every alive ID whose archetype mask matches is visited (at its
    row); `data`: random access through the index (`valOf`) reads the cell of the visited row. -/
structure ExactVisits (w : World) (fl : List Nat) (f : Filter) (visits : List Visit) : Prop where
  nodup : (visits.map (·.e.id)).Nodup
  sound : ∀ v ∈ visits, 2 ≤ v.e.id ∧ v.e.id ∉ fl ∧ w.entities[v.e.id]? = some (v.table, v.row) ∧
    v.table ≠ maxU32 ∧ v.table < w.tables.length ∧ v.row < (w.tbl v.table).len ∧
    v.e = (w.tbl v.table).getEntity v.row ∧
    f.matchesMask (w.arch (w.tbl v.table).arch).mask = true
  complete : ∀ i t r : Nat, 2 ≤ i → i ∉ fl → w.entities[i]? = some (t, r) → t ≠ maxU32 →
    f.matchesMask (w.arch (w.tbl t).arch).mask = true →
    ∃ v ∈ visits, v.e.id = i ∧ v.table = t ∧ v.row = r
  data : ∀ v ∈ visits, ∀ c : Comp, valOf w v.e.id c = (w.tbl v.table).getComp c v.row

theorem mem_rows {w : World} {ts : List Nat} {p : Nat × Nat} :
    p ∈ ts.flatMap (rowsOf w) ↔ p.1 ∈ ts ∧ p.2 < (w.tbl p.1).len := by
  simp only [List.mem_flatMap, rowsOf, List.mem_map, List.mem_range]
  constructor
  · rintro ⟨t, ht, r, hr, rfl⟩; exact ⟨ht, hr⟩
  · rintro ⟨h1, h2⟩; exact ⟨p.1, h1, p.2, h2, rfl⟩

/-- what the list of tables a query iterates over must satisfy (in the relation-free fragment):
    duplicate-free, only existing tables whose archetype mask the filter matches, and every
    NON-EMPTY such table (the cached walk skips empty tables, the uncached one lists them) -/
structure TablesOK (w : World) (f : Filter) (ts : List Nat) : Prop where
  nodup : ts.Nodup
  sound : ∀ t ∈ ts, t < w.tables.length ∧ f.matchesMask (w.arch (w.tbl t).arch).mask = true
  complete : ∀ t : Nat, t < w.tables.length → (w.tbl t).len ≠ 0 →
    f.matchesMask (w.arch (w.tbl t).arch).mask = true → t ∈ ts

theorem TablesOK.of_archs {w : World} {fl : List Nat} (h : CInv w fl) {f : Filter} {as : List Nat}
    (hok : ArchsOK w f as) : TablesOK w f (selTables w f as) where
  nodup := selTables_nodup h f hok.nodup hok.lt
  sound := by
    intro t ht
    obtain ⟨a, ha, hm, rfl⟩ := mem_selTables.mp ht
    obtain ⟨t0, ht0, hlt, harch⟩ := h.oneTable (hok.lt a ha)
    rw [ht0]
    simp only [List.getD_cons_zero]
    exact ⟨hlt, by rw [harch]; exact hm⟩
  complete := by
    intro t ht _ hmatch
    obtain ⟨f1, f2⟩ := h.table_is_first ht
    exact mem_selTables.mpr ⟨_, hok.complete _ f1 hmatch, hmatch, f2.symm⟩

/-- **from rows to entities**, for any property `P` of tables and any link between rows and
    index (`hrow`: tables → index, `hent`: index → tables) -/
theorem exact_of_rows_gen {w : World} {fl : List Nat} (hfew : w.tables.length ≤ maxU32)
    (hrow : ∀ {t r : Nat}, t < w.tables.length → r < (w.tbl t).len →
      2 ≤ ((w.tbl t).getEntity r).id ∧ ((w.tbl t).getEntity r).id ∉ fl ∧
      w.entities[((w.tbl t).getEntity r).id]? = some (t, r))
    (hent : ∀ {i t r : Nat}, w.entities[i]? = some (t, r) → t ≠ maxU32 →
      t < w.tables.length ∧ r < (w.tbl t).len ∧ ((w.tbl t).getEntity r).id = i)
    (P : Nat → Prop) {ts : List Nat} (hnd : ts.Nodup)
    (hsound : ∀ t ∈ ts, t < w.tables.length ∧ P t)
    (hcomplete : ∀ t : Nat, t < w.tables.length → (w.tbl t).len ≠ 0 → P t → t ∈ ts)
    {visits : List Visit}
    (h3 : visits.map (fun v => (v.table, v.row)) = ts.flatMap (rowsOf w))
    (h4 : visits.map (·.e) = (ts.flatMap (rowsOf w)).map
      (fun p => (w.tbl p.1).getEntity p.2)) :
    (visits.map (·.e.id)).Nodup ∧
    (∀ v ∈ visits, 2 ≤ v.e.id ∧ v.e.id ∉ fl ∧ w.entities[v.e.id]? = some (v.table, v.row) ∧
      v.table ≠ maxU32 ∧ v.table < w.tables.length ∧ v.row < (w.tbl v.table).len ∧
      v.e = (w.tbl v.table).getEntity v.row ∧ P v.table) ∧
    (∀ i t r : Nat, w.entities[i]? = some (t, r) → t ≠ maxU32 → P t →
      ∃ v ∈ visits, v.e.id = i ∧ v.table = t ∧ v.row = r) ∧
    ∀ v ∈ visits, ∀ c : Comp, valOf w v.e.id c = (w.tbl v.table).getComp c v.row := by
  have hv : ∀ v ∈ visits, v.e = (w.tbl v.table).getEntity v.row :=
    map_pointwise visits (fun v => (v.table, v.row)) (·.e)
      (fun p => (w.tbl p.1).getEntity p.2) _ h3 h4
  have hsnd : ∀ v ∈ visits, 2 ≤ v.e.id ∧ v.e.id ∉ fl ∧
      w.entities[v.e.id]? = some (v.table, v.row) ∧
      v.table ≠ maxU32 ∧ v.table < w.tables.length ∧ v.row < (w.tbl v.table).len ∧
      v.e = (w.tbl v.table).getEntity v.row ∧ P v.table := by
    intro v hvm
    have hm : (v.table, v.row) ∈ ts.flatMap (rowsOf w) := by
      rw [← h3]; exact List.mem_map.mpr ⟨v, hvm, rfl⟩
    obtain ⟨m1, m2⟩ := mem_rows.mp hm
    obtain ⟨s1, s2⟩ := hsound _ m1
    obtain ⟨r1, r2, r4⟩ := hrow s1 m2
    rw [← hv v hvm] at r1 r2 r4
    exact ⟨r1, r2, r4, by omega, s1, m2, hv v hvm, s2⟩
  refine ⟨?_, hsnd, ?_, ?_⟩
  · -- two visits of one ID are visits of one row, and no row is listed twice
    have hrnd : (visits.map (fun v => (v.table, v.row))).Nodup := by
      rw [h3]; exact rows_nodup w _ hnd
    refine nodup_map_of_nodup_map visits _ _ hrnd ?_
    intro a ha b hb heq
    have ea := (hsnd a ha).2.2.1
    rw [show a.e.id = b.e.id from heq, (hsnd b hb).2.2.1] at ea
    exact (Option.some.inj ea).symm
  · intro i t r hi htm hP
    obtain ⟨e1, e2, e3⟩ := hent hi htm
    have hm : (t, r) ∈ visits.map (fun v => (v.table, v.row)) := by
      rw [h3]; exact mem_rows.mpr ⟨hcomplete t e1 (by omega) hP, e2⟩
    obtain ⟨v, hvm, hveq⟩ := List.mem_map.mp hm
    injection hveq with hvt hvr
    refine ⟨v, hvm, ?_, hvt, hvr⟩
    rw [hv v hvm, hvt, hvr]; exact e3
  · intro v hvm c
    obtain ⟨_, _, s3, s4, s5, _⟩ := hsnd v hvm
    rw [valOf_of_entry s3 s4 (get_of_lt s5)]

theorem exact_of_rows {w : World} {fl : List Nat} (h : CInv w fl) (f : Filter) (ts : List Nat)
    (hok : TablesOK w f ts) (visits : List Visit)
    (h3 : visits.map (fun v => (v.table, v.row)) = ts.flatMap (rowsOf w))
    (h4 : visits.map (·.e) = (ts.flatMap (rowsOf w)).map
      (fun p => (w.tbl p.1).getEntity p.2)) :
    ExactVisits w fl f visits := by
  obtain ⟨x1, x2, x3, x4⟩ := exact_of_rows_gen h.fewTables
    (fun ht hr => ⟨(h.row_live_id ht hr).1, (h.row_live_id ht hr).2.1, (h.row_live_id ht hr).2.2.2⟩)
    (fun hi ht => ⟨(h.table_of_entry hi ht).1, (h.table_of_entry hi ht).2.1,
      (h.table_of_entry hi ht).2.2.1⟩)
    (fun t => f.matchesMask (w.arch (w.tbl t).arch).mask = true) hok.nodup hok.sound hok.complete
    h3 h4
  exact ⟨x1, x2, fun i t r _ _ => x3 i t r, x4⟩

/-! ## 4. the lock around a query -/

/-- `Lock()` on `L` hands out bit `b` and `Unlock(b)` then succeeds -/
structure LockCycle (L l1 : Lock) (b : Nat) (l2 : Lock) : Prop where
  lock : L.lock = some (l1, b)
  unlock : l1.unlock b = some l2

/-- the lock while the (only) query is open on a world whose lock was in its initial state -/
def lockDuringQuery : Lock := { pool := { length := 1 }, locks := 1#64 }

/-- the lock after a query on a world whose lock was in its initial state: the mask is zero
    again, the bit pool remembers that bit 0 was handed out and returned -/
def lockAfterQuery : Lock := { pool := { length := 1, available := 1 }, locks := 0#64 }

/-- on the initial lock state (the lock state of every world the history machine of
    `Ark.Refine` reaches): the bit pool remembers the bit, the mask is restored -/
theorem lockCycle_default : LockCycle {} lockDuringQuery 0 lockAfterQuery := by
  constructor <;> decide +kernel

theorem lockAfterQuery_ne : lockAfterQuery ≠ ({} : Lock) := by decide +kernel

theorem lockAfterQuery_unlocked : lockAfterQuery.isLocked = false := by decide +kernel

/-- a second query after the first: the same bit is handed out again and the lock returns to
    `lockAfterQuery` (so from the first query on the lock state is stable) -/
theorem lockCycle_again : LockCycle lockAfterQuery { pool := { length := 1 }, locks := 1#64 } 0 lockAfterQuery := by
  constructor <;> decide +kernel

/-- the lock cycle of a query on an unlocked world in a lawful lock state: it goes through and
    leaves such a world -/
theorem LockCycle.of_free {L : Lock} (h : ∃ (lf : List Nat), Lock.LInv ⟨L, []⟩ lf) :
    ∃ l1 b l2, LockCycle L l1 b l2 ∧ l2.isLocked = false ∧
      ∃ (lf2 : List Nat), Lock.LInv ⟨l2, []⟩ lf2 := by
  obtain ⟨_, g⟩ := h
  obtain ⟨l1, b, l2, _, hl, hu, _, g2, _⟩ := g.cycle (Nat.zero_lt_succ _)
  exact ⟨l1, b, l2, ⟨hl, hu⟩, g2.unlocked_iff.mpr rfl, _, g2⟩

/-! ## 5. opening a query -/

/-- the query object `Query()` returns for an unregistered filter, with lock bit `b` -/
def openedQ (fo : FilterObj) (w : World) (b : Nat) : QueryObj := openedWith fo [] none w b

/-- `FilterN.Query()` / `UnsafeFilter.Query()` without per-call relations on an unregistered
    filter: no check can fail but the lock -/
theorem qOpen_uncached (fo : FilterObj) (w : World) (l1 : Lock) (b : Nat)
    (hc : fo.cache = none) (hl : w.locks.lock = some (l1, b)) :
    qOpen fo [] w = .ok (openedQ fo w b) { w with locks := l1 } :=
  qOpen_eq fo [] w (fun _ => rfl) (cacheTablesOf_uncached w hc) hl

/-! ## 6. the complete iteration -/

/-- everything C03 says about one query, on the world `w` before the query: the opened query
    `q` lives on the locked world `w1`; the iteration returns `visits` and leaves `w2`. -/
structure QueryExactOn (w : World) (fl : List Nat) (fo : FilterObj) (w1 : World) (q : QueryObj)
    (visits : List Visit) (w2 : World) : Prop where
  opened : qOpen fo [] w = .ok q w1
  drained : drain fo [] w = .ok visits w2
  exact : ExactVisits w fl fo.filter visits
  count : qCount w1 q = some visits.length
  /-- `EntityAt(i)` is the `i`-th visited entity … -/
  entityAt : ∀ (i : Nat) (hi : i < visits.length), qEntityAt w1 q i = some (some visits[i].e)
  /-- … and the out-of-bounds panic from `Count` on -/
  entityAtOut : ∀ i : Nat, visits.length ≤ i → qEntityAt w1 q i = some none

/-- the part of a complete iteration that needs no invariant -/
theorem drain_rows_of_selected {w : World} (fo : FilterObj) (extra : List RelID) {l1 l2 : Lock}
    {b : Nat} (hu : l1.unlock b = some l2) {q : QueryObj}
    (ho : qOpen fo extra w = .ok q (w.withLocks l1)) (hqb : q.lockBit = b) {ts : List Nat}
    (hsel : qSelected (w.withLocks l1) q = some ts) (hnd : ts.Nodup) :
    ∃ visits, drain fo extra w = .ok visits (w.withLocks l2) ∧
      visits.map (fun v => (v.table, v.row)) = ts.flatMap (rowsOf w) ∧
      visits.map (·.e) = (ts.flatMap (rowsOf w)).map (fun p => (w.tbl p.1).getEntity p.2) ∧
      qCount (w.withLocks l1) q = some visits.length ∧
      (∀ (i : Nat) (hi : i < visits.length),
        qEntityAt (w.withLocks l1) q i = some (some visits[i].e)) ∧
      ∀ i : Nat, visits.length ≤ i → qEntityAt (w.withLocks l1) q i = some none := by
  obtain ⟨w1, hw1⟩ : ∃ w1 : World, w1 = w.withLocks l1 := ⟨_, rfl⟩
  rw [← hw1] at ho hsel ⊢
  have hrows : rowsOf w1 = rowsOf w := by rw [hw1]; rfl
  have hw2 : ({ w1 with locks := l2 } : World) = w.withLocks l2 := by rw [hw1]; rfl
  obtain ⟨visits, hd, h3, h4⟩ := drain_rows_monadic fo extra w w1 q _ l2 ho hsel hnd
    (by rw [hqb, hw1]; exact hu)
  have hget : (fun p : Nat × Nat => (w1.tbl p.1).getEntity p.2) =
      (fun p : Nat × Nat => (w.tbl p.1).getEntity p.2) := by rw [hw1]; rfl
  rw [hrows] at h3 h4
  rw [hget] at h4
  rw [hw2] at hd
  have hexp : expected w1 q = some (ts.flatMap (rowsOf w)) := by
    simp [expected, hsel, hrows]
  have hlen : visits.length = (ts.flatMap (rowsOf w)).length := by
    rw [← h3, List.length_map]
  refine ⟨visits, hd, h3, h4, ?_, ?_, ?_⟩
  · simp only [qCount, hsel, Option.map_some]
    rw [hlen, flatMap_rowsOf_length, foldl_add_eq_sum, hw1]
    rfl
  · intro i hi
    have hi' : i < (ts.flatMap (rowsOf w)).length := by
      rw [← hlen]; exact hi
    rw [(entityAt_eq_visit w1 q _ i hexp).1 hi']
    have : visits[i].e = (visits.map (·.e))[i]'(by rw [List.length_map]; exact hi) := by
      rw [List.getElem_map]
    rw [this]
    simp only [h4, List.getElem_map]
    exact congrArg (fun x => some (some x)) (congrFun hget _)
  · intro i hi
    exact (entityAt_eq_visit w1 q _ i hexp).2 (by rw [← hlen]; exact hi)

/-- **generic in the opened query**: if moreover the table list selected is good, `drain`
    visits exactly the matching alive entities. -/
theorem drain_exact_of_selected {w : World} {fl : List Nat} (h : CInv w fl) (fo : FilterObj)
    {l1 l2 : Lock} {b : Nat} (hu : l1.unlock b = some l2) {q : QueryObj}
    (ho : qOpen fo [] w = .ok q (w.withLocks l1)) (hqb : q.lockBit = b) {ts : List Nat}
    (hsel : qSelected (w.withLocks l1) q = some ts) (hok : TablesOK w fo.filter ts) :
    ∃ visits, QueryExactOn w fl fo (w.withLocks l1) q visits (w.withLocks l2) := by
  obtain ⟨visits, hd, h3, h4, hcnt, hat, hout⟩ :=
    drain_rows_of_selected fo [] hu ho hqb hsel hok.nodup
  exact ⟨visits, ho, hd, exact_of_rows h fo.filter _ hok visits h3 h4, hcnt, hat, hout⟩

/-- **generic in the walked archetype list**: if the archetype list the query walks
    (`archList` of all archetypes, or of the rare component) is duplicate-free, consists of
    existing archetypes and contains every archetype the filter matches, `drain` visits exactly
    the matching alive entities, and changes nothing but the lock. -/
theorem drain_exact_of_archs {w : World} {fl : List Nat} (h : CInv w fl) (fo : FilterObj)
    (hc : fo.cache = none) {l1 l2 : Lock} {b : Nat} (hL : LockCycle w.locks l1 b l2)
    (hok : ArchsOK w fo.filter (w.archList (rareOf fo w))) :
    ∃ q visits, QueryExactOn w fl fo (w.withLocks l1) q visits (w.withLocks l2) := by
  obtain ⟨visits, Q⟩ := drain_exact_of_selected h fo hL.unlock (qOpen_uncached fo w l1 b hc hL.lock) rfl
    (qSelected_noRel (w.withLocks l1) (openedQ fo w b) rfl fun a ha => h.noRelArch' (hok.lt a ha))
    (TablesOK.of_archs h hok)
  exact ⟨_, visits, Q⟩

theorem ArchsOK.of_untyped (w : World) (fo : FilterObj) (hu : fo.typed = false ∨ fo.ids = []) :
    ArchsOK w fo.filter (w.archList (rareOf fo w)) := by
  have : rareOf fo w = none := by
    rcases hu with hu | hu <;> simp [rareOf, hu]
  rw [this]
  exact ArchsOK.all w fo.filter

/-- **the untyped walk** (`UnsafeFilter`, or a typed filter without type
    parameters): the query walks all archetypes. -/
theorem drain_exact_untyped {w : World} {fl : List Nat} (h : CInv w fl) (fo : FilterObj)
    (hc : fo.cache = none) (hu : fo.typed = false ∨ fo.ids = [])
    {l1 l2 : Lock} {b : Nat} (hL : LockCycle w.locks l1 b l2) :
    ∃ q visits, QueryExactOn w fl fo (w.withLocks l1) q visits (w.withLocks l2) :=
  drain_exact_of_archs h fo hc hL (ArchsOK.of_untyped w fo hu)

end QueryExact
end Ark
