/-
  `SetRelationsBatch` as a step of the machine with batch steps (`OpRB.setrelb`): the entry point with
  the pre-validation of the relation arguments (a list that fails, and the empty list, are refused with
  the world unchanged), and the step — rejected with nothing changed, or the fold of the single
  `SetRelations` steps over the selection.
-/
import Ark.Proofs.BatchRelSetSpec
import Ark.Proofs.RelRefineBatchDel

section

/-! ## §1 the entry point with the pre-validation

The entry point of `SetRelationsBatch` with the pre-validation of the relation arguments: a list
  that passes is handed to `setRelationsBatch`; a list that fails (a removed entity as target, a
  component that is not a relation component) and the empty list are refused with the world unchanged.
-/

set_option autoImplicit false

namespace Ark

open World Ark.Props.C01World QueryRel


namespace World

theorem opSetRelationsBatch_ok_eq (run : ProbeRunner) (p : Path) (fo : FilterObj)
    (extra : List RelID) (mapperIds : List Comp) (rels : List RelID) (w : World)
    (hpre : preCheck p mapperIds rels w = .ok () w) :
    opSetRelationsBatch run p fo extra mapperIds rels false w =
      setRelationsBatch run fo extra rels false w := by
  simp only [opSetRelationsBatch, bind, M.bind, hpre]

theorem opSetRelationsBatch_refused (run : ProbeRunner) (p : Path) (fo : FilterObj)
    (extra : List RelID) (mapperIds : List Comp) (rels : List RelID) (w : World) {k : PanicKind}
    (h : relsVerdict w (checkMask p mapperIds) rels = some k) :
    opSetRelationsBatch run p fo extra mapperIds rels false w = .panic k w := by
  have hpre : preCheck p mapperIds rels w = .panic k w := by rw [preCheck_eq, h]
  simp only [opSetRelationsBatch, bind, M.bind, hpre]

theorem opSetRelationsBatch_noRelations (run : ProbeRunner) (p : Path) (fo : FilterObj)
    (extra : List RelID) (w : World) (hl : w.isLocked = false) :
    opSetRelationsBatch run p fo extra [] [] false w = .panic .noRelations w := by
  have hpre : preCheck p [] [] w = .ok () w := preCheck_nil_apply p [] w
  simp only [opSetRelationsBatch, bind, M.bind, hpre, setRelationsBatch, checkLocked_unlocked w hl,
    M.assert, List.isEmpty_nil, Bool.not_true, Bool.false_eq_true, if_false]

end World

end Ark

end

section

/-! ## §2 the step

`SetRelationsBatch` as a step of the machine (`OpRB.setrelb`).  An expressible call whose
  precondition fails is rejected with nothing changed (the empty list: `noRelations`; a removed entity
  as target or a non-relation component: refused by the pre-validation); one whose precondition holds
  succeeds, and the specification step is the fold of the single `SetRelations` steps over the
  selection.  The folds of the specification are folds of guarded updates (`updIf`), whose closed form
  does not depend on the order; any world that agrees with that closed form keeps the invariant
  (`HInv.mapAll`), which gives the step lemma; `runOps_setrels`: the run of the single `setrel` steps
  is the sequence of single calls (for `setrelb_is_singles` of Ark/Props/C01RelBatch.lean).
-/

set_option autoImplicit false

namespace Ark

open World Ark.Props.C01World QueryRel

namespace RelRefineB

open RelRefine
open Refine (Comps keys sortedIds writeComps zeros)

/-! ### specification level -/

/-- an entry after `SetRelations(rels…)` -/
def setEntry (rels : Rels) (en : Entry) : Entry := { en with rels := setRels en.rels rels }

theorem targetsValid_of_keys {s s' : Spec} {rels : Rels} (hk : s'.map (·.1) = s.map (·.1))
    (h : TargetsValid s rels) : TargetsValid s' rels := by
  intro r hr
  rcases h r hr with k | k
  · exact Or.inl k
  · right
    rw [find_isSome_iff] at k ⊢
    rw [hk]; exact k

theorem upd_eq_map (s : Spec) (e : Ent) (f : Entry → Entry) :
    upd s e f = s.map fun x => if x.1 = e then (x.1, f x.2) else x := rfl

/-- one guarded update of the specification: the entry of `e`, if there is one and it satisfies
    `P`, is replaced by its image under `g` (which may read the zero-size flags) — the shape of the
    specification steps of `SetRelations` and `Exchange` -/
def updIf (P : SS → Entry → Prop) [∀ ss en, Decidable (P ss en)] (g : List Bool → Entry → Entry)
    (ss : SS) (e : Ent) : SS :=
  match find ss.ents e with
  | none => ss
  | some en => if P ss en then { ss with ents := upd ss.ents e (g ss.zst) } else ss

section updIf

variable {P : SS → Entry → Prop} [∀ ss en, Decidable (P ss en)] {g : List Bool → Entry → Entry}

theorem updIf_of_ok {ss : SS} {e : Ent} {en : Entry} (hf : find ss.ents e = some en)
    (h : P ss en) : updIf P g ss e = { ss with ents := upd ss.ents e (g ss.zst) } := by
  simp only [updIf, hf, if_pos h]

theorem updIf_of_not {ss : SS} {e : Ent} (h : ∀ en, find ss.ents e = some en → ¬ P ss en) :
    updIf P g ss e = ss := by
  simp only [updIf]
  cases hf : find ss.ents e with
  | none => rfl
  | some en => exact if_neg (h en hf)

theorem updIf_zst (ss : SS) (e : Ent) :
    (updIf P g ss e).zst = ss.zst ∧ (updIf P g ss e).isRel = ss.isRel := by
  simp only [updIf]
  split
  · exact ⟨rfl, rfl⟩
  · split <;> exact ⟨rfl, rfl⟩

theorem foldl_updIf_zst : ∀ (es : List Ent) (ss : SS),
    (es.foldl (updIf P g) ss).zst = ss.zst ∧ (es.foldl (updIf P g) ss).isRel = ss.isRel
  | [], _ => ⟨rfl, rfl⟩
  | e :: es, ss => by
    rw [List.foldl_cons, (foldl_updIf_zst es _).1, (foldl_updIf_zst es _).2]
    exact updIf_zst ss e

/-- **a fold of valid guarded updates, in closed form** (independent of the order), when `P`
    reads the entries of the specification only through the list of their handles -/
theorem foldl_updIf_ok (hP : ∀ (ss : SS) (E : Spec) (en : Entry),
      E.map (·.1) = ss.ents.map (·.1) → P ss en → P { ss with ents := E } en) :
    ∀ (es : List Ent) (ss : SS), es.Nodup →
    (∀ e ∈ es, ∃ en, find ss.ents e = some en ∧ P ss en) →
    (es.foldl (updIf P g) ss).ents =
      ss.ents.map fun x => if x.1 ∈ es then (x.1, g ss.zst x.2) else x
  | [], ss, _, _ => by
    show ss.ents = _
    simp only [List.not_mem_nil, if_false, List.map_id']
  | e :: es, ss, hes, hall => by
    obtain ⟨hne, hes'⟩ := List.nodup_cons.mp hes
    obtain ⟨en, hf, hok⟩ := hall e List.mem_cons_self
    rw [List.foldl_cons, updIf_of_ok hf hok]
    have hk : (upd ss.ents e (g ss.zst)).map (·.1) = ss.ents.map (·.1) := upd_keys _ _ _
    rw [foldl_updIf_ok hP es { ss with ents := upd ss.ents e (g ss.zst) } hes' (by
      intro e' he'
      obtain ⟨en', hf', hok'⟩ := hall e' (List.mem_cons_of_mem _ he')
      have hne' : e' ≠ e := fun hh => hne (hh ▸ he')
      exact ⟨en', (find_upd_ne _ _ hne').trans hf', hP ss _ en' hk hok'⟩)]
    show (upd ss.ents e (g ss.zst)).map _ = _
    rw [upd_eq_map, List.map_map]
    apply List.map_congr_left
    intro x _
    simp only [Function.comp]
    by_cases hx : x.1 = e
    · rw [if_pos hx]
      have h2 : x.1 ∉ es := hx ▸ hne
      rw [if_neg h2, if_pos (by rw [hx]; exact List.mem_cons_self)]
    · rw [if_neg hx]
      by_cases h2 : x.1 ∈ es
      · rw [if_pos h2, if_pos (List.mem_cons_of_mem _ h2)]
      · rw [if_neg h2, if_neg (fun hh => by
          rcases List.mem_cons.mp hh with k | k
          · exact hx k
          · exact h2 k)]

theorem foldl_updIf_rej : ∀ (es : List Ent) (ss : SS),
    (∀ e ∈ es, ∀ en, find ss.ents e = some en → ¬ P ss en) → es.foldl (updIf P g) ss = ss
  | [], _, _ => rfl
  | e :: es, ss, hall => by
    rw [List.foldl_cons, updIf_of_not (hall e List.mem_cons_self)]
    exact foldl_updIf_rej es ss (fun e' he' => hall e' (List.mem_cons_of_mem _ he'))

theorem foldl_updIf_frame (x : Ent) : ∀ (es : List Ent) (ss : SS), x ∉ es →
    find (es.foldl (updIf P g) ss).ents x = find ss.ents x
  | [], _, _ => rfl
  | e :: es, ss, hx => by
    simp only [List.mem_cons, not_or] at hx
    rw [List.foldl_cons, foldl_updIf_frame x es _ hx.2]
    simp only [updIf]
    cases hf : find ss.ents e with
    | none => rfl
    | some en =>
      by_cases hok : P ss en
      · simp only [if_pos hok]; exact find_upd_ne _ _ hx.1
      · simp only [if_neg hok]

theorem foldl_updIf_perm (hP : ∀ (ss : SS) (E : Spec) (en : Entry),
      E.map (·.1) = ss.ents.map (·.1) → P ss en → P { ss with ents := E } en)
    {ss : SS} {es es' : List Ent} (hes : es.Nodup) (hes' : es'.Nodup)
    (hall : ∀ e ∈ es, ∃ en, find ss.ents e = some en ∧ P ss en)
    (hmem : ∀ (e : Ent), e ∈ es ↔ e ∈ es') :
    es.foldl (updIf P g) ss = es'.foldl (updIf P g) ss := by
  have h1 := foldl_updIf_ok (g := g) hP es ss hes hall
  have h2 := foldl_updIf_ok (g := g) hP es' ss hes' (fun e he => hall e ((hmem e).mpr he))
  refine (SS.eq_mk (h1.trans ?_) (foldl_updIf_zst es ss)).trans
    (SS.eq_mk h2 (foldl_updIf_zst es' ss)).symm
  exact List.map_congr_left fun x _ => by simp only [hmem]

end updIf

/-! The fold of the single `SetRelations` steps is such a fold. -/

theorem setRelOK_keys (rels : Rels) (ss : SS) (E : Spec) (en : Entry)
    (hk : E.map (·.1) = ss.ents.map (·.1)) (h : SetRelOK ss en rels) :
    SetRelOK { ss with ents := E } en rels :=
  ⟨h.1, h.2.1, h.2.2.1, targetsValid_of_keys hk h.2.2.2⟩

theorem specSetRelAll_zst (ss : SS) (p : Path) (rels : Rels) (es : List Ent) :
    (specSetRelAll ss p rels es).zst = ss.zst ∧ (specSetRelAll ss p rels es).isRel = ss.isRel :=
  foldl_updIf_zst (P := fun ss en => SetRelOK ss en rels) (g := fun _ => setEntry rels) es ss

theorem specSetRelAll_ok (p : Path) (rels : Rels) (es : List Ent) (ss : SS) (hes : es.Nodup)
    (hall : ∀ e ∈ es, ∃ en, find ss.ents e = some en ∧ SetRelOK ss en rels) :
    (specSetRelAll ss p rels es).ents =
      ss.ents.map fun x => if x.1 ∈ es then (x.1, setEntry rels x.2) else x :=
  foldl_updIf_ok (g := fun _ => setEntry rels) (setRelOK_keys rels) es ss hes hall

theorem specSetRelAll_rej (p : Path) (rels : Rels) (es : List Ent) (ss : SS)
    (hall : ∀ e ∈ es, ∀ en, find ss.ents e = some en → ¬ SetRelOK ss en rels) :
    specSetRelAll ss p rels es = ss :=
  foldl_updIf_rej (g := fun _ => setEntry rels) es ss hall

theorem specSetRelAll_frame (p : Path) (rels : Rels) (x : Ent) (es : List Ent) (ss : SS)
    (hx : x ∉ es) : find (specSetRelAll ss p rels es).ents x = find ss.ents x :=
  foldl_updIf_frame (P := fun ss en => SetRelOK ss en rels) (g := fun _ => setEntry rels) x es ss hx

theorem specSetRelAll_perm {ss : SS} (p : Path) (rels : Rels) {es es' : List Ent} (hes : es.Nodup)
    (hes' : es'.Nodup) (hall : ∀ e ∈ es, ∃ en, find ss.ents e = some en ∧ SetRelOK ss en rels)
    (hmem : ∀ (e : Ent), e ∈ es ↔ e ∈ es') :
    specSetRelAll ss p rels es = specSetRelAll ss p rels es' :=
  foldl_updIf_perm (g := fun _ => setEntry rels) (setRelOK_keys rels) hes hes' hall hmem

/-! ### any world that assigned `rels` to `es` realises the fold of the single assignments -/

/-- **replacing the entries of the handles `es` by their images under `g` keeps the invariant**,
    whatever produced the world: the new entries agree with it, their targets are specified, every
    other ID keeps components, values and targets -/
theorem HInv.mapAll {s : St} {fl : List Nat} (H : HInv s fl) {es : List Ent} {g : Entry → Entry}
    {w' : World} (hsub : ∀ e ∈ es, e ∈ s.ss.ents.map (·.1)) (htinv : TInv w' fl)
    (hunl : w'.isLocked = false) (hobs : w'.obs = s.w.obs) (hkinds : w'.kinds = s.w.kinds)
    (hpool : w'.pool = s.w.pool) (hmax : w'.maxComps = s.w.maxComps)
    (hok : ∀ (x : Ent) (en : Entry), x ∈ es → (x, en) ∈ s.ss.ents →
      EntOK w' s.w.kinds.length s.ss.isRel x (g en) ∧ TargetsValid s.ss.ents (g en).rels)
    (hframe : ∀ (j : Nat), j ∉ es.map (·.id) →
      SameEnt s.w w' j ∧ ∀ (c : Comp), targetOf w' j c = targetOf s.w j c) :
    HInv ⟨w', s.issued,
      ⟨s.ss.ents.map fun x => if x.1 ∈ es then (x.1, g x.2) else x, s.ss.zst, s.ss.isRel⟩⟩ fl := by
  have hkeys : (s.ss.ents.map fun x => if x.1 ∈ es then (x.1, g x.2) else x).map (·.1) =
      s.ss.ents.map (·.1) := by
    rw [List.map_map]
    apply List.map_congr_left
    intro x _
    simp only [Function.comp]
    split <;> rfl
  have hid : ∀ (x : Ent) (en : Entry), (x, en) ∈ s.ss.ents → x ∉ es → x.id ∉ es.map (·.id) := by
    intro x en hx hne hmm
    obtain ⟨e, he, heq⟩ := List.mem_map.mp hmm
    obtain ⟨y, hy, hy1⟩ := List.mem_map.mp (hsub e he)
    have : e = x := H.id_inj (show (e, y.2) ∈ s.ss.ents from hy1 ▸ hy) hx heq
    exact hne (this ▸ he)
  have hmem : ∀ (x : Ent) (en' : Entry),
      (x, en') ∈ (s.ss.ents.map fun x => if x.1 ∈ es then (x.1, g x.2) else x) →
      ∃ en, (x, en) ∈ s.ss.ents ∧ ((x ∈ es ∧ en' = g en) ∨ (x ∉ es ∧ en' = en)) := by
    intro x en' hx
    obtain ⟨y, hy, heq⟩ := List.mem_map.mp hx
    by_cases hy1 : y.1 ∈ es
    · rw [if_pos hy1] at heq
      injection heq with h1 h2
      subst h1
      exact ⟨y.2, hy, Or.inl ⟨hy1, h2.symm⟩⟩
    · rw [if_neg hy1] at heq
      subst heq
      exact ⟨_, hy, Or.inr ⟨hy1, rfl⟩⟩
  exact
    { tinv := htinv
      ginv := by
        have : (⟨w', s.issued, ⟨s.ss.ents.map fun x =>
            if x.1 ∈ es then (x.1, g x.2) else x, s.ss.zst, s.ss.isRel⟩⟩ : St).ps = s.ps := by
          simp only [St.ps, hpool, hkeys]
        rw [this]; exact H.ginv
      unlocked := hunl
      noObs := fun evt => by show w'.obs.hasObservers evt = false; rw [hobs]; exact H.noObs evt
      nodup := H.nodup
      zstEq := by show s.ss.zst = w'.kinds.map (·.zst); rw [hkinds]; exact H.zstEq
      relEq := by show s.ss.isRel = w'.kinds.map (·.isRel); rw [hkinds]; exact H.relEq
      maxc := hmax.trans H.maxc
      ok := by
        intro x en' hx
        show EntOK w' w'.kinds.length s.ss.isRel x en'
        rw [hkinds]
        obtain ⟨en, hx0, hcase⟩ := hmem x en' hx
        rcases hcase with ⟨hin, h2⟩ | ⟨hnin, h2⟩
        · rw [h2]; exact (hok x en hin hx0).1
        · rw [h2]
          exact (H.ok x en hx0).frame (hframe x.id (hid x en hx0 hnin)).1
            (hframe x.id (hid x en hx0 hnin)).2
      tgtsOK := by
        intro x en' hx r hr
        have key : r.target.isZero = true ∨ (find s.ss.ents r.target).isSome = true := by
          obtain ⟨en, hx0, hcase⟩ := hmem x en' hx
          rcases hcase with ⟨hin, h2⟩ | ⟨_, h2⟩
          · rw [h2] at hr
            exact (hok x en hin hx0).2 r hr
          · rw [h2] at hr
            exact H.tgtsOK x en hx0 r hr
        rcases key with k | k
        · exact Or.inl k
        · right
          rw [find_isSome_iff] at k ⊢
          rw [hkeys]; exact k }

/-- **the assignment to a duplicate-free list of specified handles keeps the invariant**, whatever
    produced the world (`SetRelAllPost`, pool and mask width kept) -/
theorem HInv.setRelAll {s : St} {fl : List Nat} (H : HInv s fl) {es : List Ent} {rels : Rels}
    {w' : World} (hsub : ∀ e ∈ es, e ∈ s.ss.ents.map (·.1))
    (hv : TargetsValid s.ss.ents rels) (post : SetRelAllPost s.w fl es rels w')
    (hpool : w'.pool = s.w.pool) (hmax : w'.maxComps = s.w.maxComps) :
    HInv ⟨w', s.issued,
      ⟨s.ss.ents.map fun x => if x.1 ∈ es then (x.1, setEntry rels x.2) else x, s.ss.zst,
        s.ss.isRel⟩⟩ fl := by
  refine HInv.mapAll H hsub post.tinv (by rw [post.unlocked]; exact H.unlocked) post.obs post.kinds hpool
    hmax (fun x en hin hx0 => ?_) (fun j hj => ⟨post.same j, post.frame j hj⟩)
  have ok := H.ok x en hx0
  constructor
  · exact ok.setrel (post.same x.id) (post.targets x hin) (post.otherTargets x hin)
  · intro r hr
    rcases mem_setRels (show r ∈ setRels en.rels rels from hr) with ⟨h1, _⟩ | ⟨h1, _⟩
    · exact hv r h1
    · exact H.tgtsOK x en hx0 r h1

/-! ### the step -/

theorem guard_setrelb {s : St} {p : Path} {f : Filter} {frels rels : Rels}
    (hg : guardRB s (.setrelb p f frels rels) = true) :
    frelsExpr s.ss f frels = true ∧ tgtsExpr s rels = true ∧
      (rels = [] ∨ ((rels.map (·.comp)).Nodup ∧ ∀ r ∈ rels, f.mask.get r.comp = true)) := by
  simp only [guardRB, Bool.and_eq_true, Bool.or_eq_true, List.all_eq_true, decide_eq_true_eq,
    List.isEmpty_iff] at hg
  exact ⟨hg.1.1, hg.1.2, hg.2⟩

theorem isRel_lt {s : St} {fl : List Nat} (H : HInv s fl) {c : Comp}
    (h : s.ss.isRel.getD c false = true) : c < 256 := by
  rcases Nat.lt_or_ge c s.ss.isRel.length with h1 | h1
  · have : s.ss.isRel.length = s.w.kinds.length := by rw [H.relEq, List.length_map]
    exact H.reg256 (this ▸ h1)
  · simp [List.getD_eq_getElem?_getD, List.getElem?_eq_none h1] at h

/-- the pre-validation of the relation arguments passes: targets zero or alive, relation
    components, each among the components `ids` the access path tests membership against -/
theorem preCheck_ok_of_mem {w : World} (q : Path) {ids : List Comp} {rels : Rels}
    (hval : ∀ r ∈ rels, r.target.isZero = true ∨ w.alive r.target = true)
    (hrc : ∀ r ∈ rels, w.isRelComp r.comp = true ∧ r.comp < 256 ∧ r.comp ∈ ids) :
    preCheck q ids rels w = .ok () w :=
  preCheck_ok_of_valid q ids w rels fun r hr => ⟨hval r hr, (hrc r hr).1, by
    rw [Mask.get_ofList]; simp [(hrc r hr).2.1, (hrc r hr).2.2]⟩

theorem setRelOK_of_match {s : St} {fl : List Nat} (H : HInv s fl) {f : Filter} {frels rels : Rels}
    (hne : rels ≠ []) (hnd : (rels.map (·.comp)).Nodup)
    (hmask : ∀ r ∈ rels, f.mask.get r.comp = true)
    (hrel : ∀ r ∈ rels, s.ss.isRel.getD r.comp false = true) (hv : TargetsValid s.ss.ents rels)
    {e : Ent} {en : Entry} (hm : (e, en) ∈ s.ss.ents) (hmatch : entryMatches f frels en = true) :
    SetRelOK s.ss en rels := by
  refine ⟨hne, hnd, fun r hr => ?_, hv⟩
  have ok := H.ok e en hm
  simp only [entryMatches, Bool.and_eq_true] at hmatch
  have h1 := ((Filter.matchesMask_iff f _).mp hmatch.1).1 r.comp (hmask r hr)
  rw [Mask.get_ofList] at h1
  simp only [Bool.and_eq_true, decide_eq_true_eq] at h1
  exact (ok.relKeys r.comp).mpr ⟨h1.2, hrel r hr⟩

theorem step_setrelb (run : ProbeRunner) {s : St} {fl : List Nat} (H : HInvRB s fl) (p : Path)
    (f : Filter) (frels rels : Rels) (hg : guardRB s (.setrelb p f frels rels) = true)
    (hroom : Room s (.setrelb p f frels rels)) :
    (¬ preRB s.ss (.setrelb p f frels rels) →
      (∃ k, opSetRelationsBatch run p (foOf f frels) [] (rels.map (·.comp)) rels false s.w =
        .panic k s.w) ∧ stepRB run s (.setrelb p f frels rels) = s) ∧
    (preRB s.ss (.setrelb p f frels rels) →
      ∃ w' : World,
        opSetRelationsBatch run p (foOf f frels) [] (rels.map (·.comp)) rels false s.w = .ok () w' ∧
        stepRB run s (.setrelb p f frels rels) =
          ⟨w', s.issued, specStepRB s.ss [] (.setrelb p f frels rels)⟩ ∧
        SetRelAllPost s.w fl (selEnts s.w f frels) rels w' ∧ SetRelAllMore s.w w' ∧
        specStepRB s.ss [] (.setrelb p f frels rels) =
          specSetRelAll s.ss p rels (selEnts s.w f frels) ∧
        (specStepRB s.ss [] (.setrelb p f frels rels)).ents = (s.ss.ents.map fun x =>
          if x.1 ∈ matching s.ss f frels then (x.1, setEntry rels x.2) else x) ∧
        HInvRB (stepRB run s (.setrelb p f frels rels)) fl) := by
  have h := H.hinv.tinv
  obtain ⟨hgx, hx, hcase⟩ := guard_setrelb hg
  obtain ⟨hfew, hrows⟩ := hroom
  have hnd := H.hinv.ginv.live_nodup
  obtain ⟨ts, hts, S, hsel, hiff, hids, hlen⟩ := sel_spec H hgx
  constructor
  · -- rejected
    intro hnp
    -- any panic that leaves the world unchanged will do, provided no match admits the single
    -- assignment: then the fold of the specification changes nothing either
    have hrej : ∀ {k : PanicKind},
        opSetRelationsBatch run p (foOf f frels) [] (rels.map (·.comp)) rels false s.w =
          .panic k s.w →
        (∀ e ∈ matching s.ss f frels, ∀ en, find s.ss.ents e = some en → ¬ SetRelOK s.ss en rels) →
        (∃ k, opSetRelationsBatch run p (foOf f frels) [] (rels.map (·.comp)) rels false s.w =
          .panic k s.w) ∧ stepRB run s (.setrelb p f frels rels) = s := by
      intro k hop hall
      refine ⟨⟨k, hop⟩, ?_⟩
      exact stepBatch_panic run hg k (by simp only [execRB, hop]) (specSetRelAll_rej p rels _ s.ss hall)
    by_cases hne : rels = []
    · subst hne
      exact hrej (opSetRelationsBatch_noRelations run p (foOf f frels) [] s.w H.hinv.unlocked)
        (fun e _ en _ hok => hok.1 rfl)
    · cases hvd : relsVerdict s.w (checkMask p (rels.map (·.comp))) rels with
      | none =>
        -- the pre-validation passes: then the precondition holds
        obtain ⟨hv, hrel, _⟩ := H.hinv.valid_of_verdict hx hvd
        exact absurd ⟨hne, hrel, hv⟩ hnp
      | some k =>
        refine hrej (opSetRelationsBatch_refused run p (foOf f frels) [] _ rels s.w hvd) ?_
        intro e he en hf hok
        -- a valid single step would make the precondition of the batch hold
        apply hnp
        refine ⟨hne, fun r' hr' => ?_, hok.2.2.2⟩
        have ok := H.hinv.ok e en (find_some_mem hf)
        exact ((ok.relKeys r'.comp).mp (hok.2.2.1 r' hr')).2
  · -- accepted
    rintro ⟨hne, hrel, hv⟩
    obtain ⟨hrnd, hmask⟩ : (rels.map (·.comp)).Nodup ∧ ∀ r ∈ rels, f.mask.get r.comp = true := by
      rcases hcase with k | k
      · exact absurd k hne
      · exact k
    have hemp : rels.isEmpty = false := by
      cases rels with
      | nil => exact absurd rfl hne
      | cons _ _ => rfl
    -- the pre-validation passes (its membership test is against `rels.map (·.comp)` itself), so
    -- the entry point is `setRelationsBatch` (`heq`)
    have hrc : ∀ r ∈ rels, s.w.isRelComp r.comp = true := fun r hr => by
      rw [← H.hinv.rget]; exact hrel r hr
    have hval := H.hinv.targets_alive hv
    have heq := opSetRelationsBatch_ok_eq run p (foOf f frels) [] _ rels s.w
      (preCheck_ok_of_mem p hval fun r hr =>
        ⟨hrc r hr, isRel_lt H.hinv (hrel r hr), List.mem_map.mpr ⟨r, hr, rfl⟩⟩)
    obtain ⟨l1, b, l2, hcyc, hl2, lf2, hl2inv⟩ := QueryExact.LockCycle.of_free H.lock
    have hr := relsTyped_of_expr H.hinv hgx
    -- `rels` names relation components the filter's mask requires, so every selected table has a
    -- relation column for each (`hcols`)
    have hrt : RelsTyped s.w (foOf f frels).filter rels := fun r hr' => ⟨hrc r hr', hmask r hr'⟩
    have hcols : ∀ (t : Nat), t < s.w.tables.length →
        TblMatch s.w (foOf f frels).filter ((foOf f frels).rels ++ []) t → (s.w.tbl t).len ≠ 0 →
        RelCols (s.w.tbl t) rels :=
      fun t hlt hm _ => relCols_of_typed h.rel.sinv.toSInvMid hrt hlt hm.1
    obtain ⟨ts2, w', hts2, hb, pb, hlk, more⟩ := setRelationsBatch_rel_full run h H.hinv.unlocked
      H.hinv.noObs (foOf f frels) [] rfl hr hemp hrnd hcols hval (H.hinv.targets_in hv) hcyc hl2
      hfew hrows
    rw [hts] at hts2
    injection hts2 with e1 _
    subst e1
    rw [← hsel] at pb
    have hop : opSetRelationsBatch run p (foOf f frels) [] (rels.map (·.comp)) rels false s.w =
        .ok () w' := by rw [heq]; exact hb
    have hstep : stepRB run s (.setrelb p f frels rels) = _ :=
      stepBatch_ok run hg w' (by simp only [execRB, hop])
    -- specification side: `matching` and `selEnts` have the same members, neither a duplicate, and
    -- every member passes, so the two folds agree (`hspec`) and have the closed form `hents`
    have hallM : ∀ e ∈ matching s.ss f frels, ∃ en, find s.ss.ents e = some en ∧
        SetRelOK s.ss en rels := by
      intro e he
      obtain ⟨en, hm, hmm⟩ := mem_matching.mp he
      exact ⟨en, find_of_mem hnd hm, setRelOK_of_match H.hinv hne hrnd hmask hrel hv hm hmm⟩
    have hspec : specStepRB s.ss [] (.setrelb p f frels rels) =
        specSetRelAll s.ss p rels (selEnts s.w f frels) :=
      specSetRelAll_perm p rels (matching_nodup hnd f frels) (nodup_of_ids hids) hallM
        (fun e => (hiff e).symm)
    have hents : (specStepRB s.ss [] (.setrelb p f frels rels)).ents = (s.ss.ents.map fun x =>
        if x.1 ∈ matching s.ss f frels then (x.1, setEntry rels x.2) else x) :=
      specSetRelAll_ok p rels _ s.ss (matching_nodup hnd f frels) hallM
    refine ⟨w', hop, hstep, pb, more, hspec, hents, ?_⟩
    rw [hstep]
    rw [SS.eq_mk hents (specSetRelAll_zst s.ss p rels (matching s.ss f frels))]
    -- the postcondition restated over `matching` (same members as `selEnts`), the list the
    -- specification state now mentions and `HInv.setRelAll` is applied to
    have pbM : SetRelAllPost s.w fl (matching s.ss f frels) rels w' :=
      { pb with
        targets := fun e he => pb.targets e ((hiff e).mpr he)
        otherTargets := fun e he => pb.otherTargets e ((hiff e).mpr he)
        frame := fun j hj => pb.frame j (fun hh => hj (by
          obtain ⟨e, he, rfl⟩ := List.mem_map.mp hh
          exact List.mem_map.mpr ⟨e, (hiff e).mp he, rfl⟩)) }
    exact ⟨HInv.setRelAll H.hinv (fun e he => matching_sub he) hv pbM more.pool more.maxComps,
      pb.qk.rows H.rows, lf2, by rw [hlk]; exact hl2inv⟩

/-! ### the run of the single steps -/

theorem runOps_setrels (run : ProbeRunner) (p : Path) (rels : Rels) :
    ∀ (es : List Ent) (s : St) (w'' : World), (∀ e ∈ es, e ∈ s.issued) → tgtsExpr s rels = true →
    M.forM' es (fun e => opSetRelations run p e (rels.map (·.comp)) rels) s.w = .ok () w'' →
    runOps run s (es.map fun e => .setrel p e rels) = ⟨w'', s.issued, specSetRelAll s.ss p rels es⟩
  | [], s, w'', _, _, h => by
    simp only [M.forM', pure, M.pure] at h
    injection h with _ hw
    subst hw
    rfl
  | e :: es, s, w'', hi, hx, h => by
    simp only [M.forM', bind, M.bind] at h
    cases hop : opSetRelations run p e (rels.map (·.comp)) rels s.w with
    | panic k w1 => rw [hop] at h; cases h
    | ok u w1 =>
      rw [hop] at h
      have hg : guard s (.setrel p e rels) = true := guard_setrel.mpr ⟨hi e List.mem_cons_self, hx⟩
      have hst : step run s (.setrel p e rels) =
          ⟨w1, s.issued, specStep s.ss default (.setrel p e rels)⟩ := by
        rw [step_of_guard hg]
        simp only [exec, hop, Res.state, retOf, issuedAfter, Option.getD_none]
      show runOps run (step run s (.setrel p e rels)) (es.map fun e => .setrel p e rels) = _
      rw [hst]
      exact runOps_setrels run p rels es ⟨w1, s.issued, specStep s.ss default (.setrel p e rels)⟩ w''
        (fun e' he' => hi e' (List.mem_cons_of_mem _ he')) hx h

end RelRefineB

end Ark

end

