/-
  Which tables the counting walk of a query selects (`qSelected`, what `Count`, `EntityAt` and, by
  `Ark.Proofs.Drain`, the cursor go by), on any world with the storage facts `TablesInv` and the
  panic-freedom `RelsOK` of `Ark.Proofs.CacheInv`: the uncached walk exactly the `Selected` tables, each
  once (`uncached_selected`); the cached walk the non-empty tables of the entry's list that match the
  per-call relations (`cachedSel`).  Then the CACHED variant of `Ark.Proofs.QueryExact` (Layer A.3): under
  `CacheInv` and `CInv` a registered filter object yields the same entity set as the uncached walk
  (`drain_exact_cached`); `cacheRegister_exact`: these hypotheses are satisfiable.
-/
import Ark.Proofs.CacheInv
import Ark.Proofs.QueryExact

section

/-! ## §1 which tables a query selects -/

set_option autoImplicit false

namespace Ark
namespace QueryExact

open World Drain

theorem qSelected_withLocks (w : World) (l : Lock) (q : QueryObj) :
    qSelected (w.withLocks l) q = qSelected w q := rfl

def relSel (w : World) (f : Filter) (rels : List RelID) (as : List Nat) : List Nat :=
  as.flatMap fun a => w.archSel f rels (w.arch a)

theorem selA_rel {w : World} (H : TablesInv w) {f : Filter} {rels : List RelID}
    (hok : RelsOK w f rels) {a : Nat} (ha : a < w.archetypes.length) (acc : List Nat) :
    selA w f rels (some acc) a = some (acc ++ w.archSel f rels (w.arch a)) := by
  obtain ⟨_, _, h3⟩ := archSel_spec H hok (aget_of_lt ha)
  simp only [selA, archSel]
  by_cases hm : f.matchesMask (w.arch a).mask = true
  case neg => simp [hm]
  by_cases hr : (w.arch a).hasRelations = true
  case neg => simp [hm, hr]
  obtain ⟨ts, hts, hnone⟩ := h3 hm hr
  simp only [hm, hr, Bool.not_true, Bool.false_eq_true, if_false, hts, Option.getD_some]
  exact innerFold w rels ts hnone acc

theorem foldl_selA_rel {w : World} (H : TablesInv w) {f : Filter} {rels : List RelID}
    (hok : RelsOK w f rels) : ∀ (as : List Nat) (acc : List Nat),
      (∀ (a : Nat), a ∈ as → a < w.archetypes.length) →
      as.foldl (selA w f rels) (some acc) = some (acc ++ relSel w f rels as) := by
  intro as
  induction as with
  | nil => intro acc _; simp [relSel]
  | cons a rest ih =>
    intro acc hlt
    rw [List.foldl_cons, selA_rel H hok (hlt a List.mem_cons_self),
      ih _ (fun x hx => hlt x (List.mem_cons_of_mem _ hx))]
    simp [relSel]

theorem qSelected_rel {w : World} (H : TablesInv w) (q : QueryObj) (hc : q.cacheTables = none)
    (hok : RelsOK w q.filter q.rels)
    (hlt : ∀ (a : Nat), a ∈ w.archList q.rare → a < w.archetypes.length) :
    qSelected w q = some (relSel w q.filter q.rels (w.archList q.rare)) := by
  rw [qSelected_eq, hc]
  simpa using foldl_selA_rel H hok _ [] hlt

theorem mem_relSel {w : World} (H : TablesInv w) {f : Filter} {rels : List RelID}
    (hok : RelsOK w f rels) {as : List Nat} (hlt : ∀ (a : Nat), a ∈ as → a < w.archetypes.length)
    {t : Nat} :
    t ∈ relSel w f rels as ↔ ∃ (a : Nat), a ∈ as ∧ t ∈ (w.arch a).tables.tables ∧
      f.matchesMask (w.arch a).mask = true ∧ (w.tbl t).matchesRels rels = some true := by
  simp only [relSel, List.mem_flatMap]
  constructor
  · rintro ⟨a, ha, ht⟩
    exact ⟨a, ha, ((archSel_spec H hok (aget_of_lt (hlt a ha))).2.1 t).mp ht⟩
  · rintro ⟨a, ha, ht⟩
    exact ⟨a, ha, ((archSel_spec H hok (aget_of_lt (hlt a ha))).2.1 t).mpr ht⟩

theorem relSel_nodup {w : World} (H : TablesInv w) {f : Filter} {rels : List RelID}
    (hok : RelsOK w f rels) {as : List Nat} (hnd : as.Nodup)
    (hlt : ∀ (a : Nat), a ∈ as → a < w.archetypes.length) : (relSel w f rels as).Nodup := by
  unfold relSel List.Nodup
  rw [List.pairwise_flatMap]
  refine ⟨fun a ha => (archSel_spec H hok (aget_of_lt (hlt a ha))).1, ?_⟩
  refine List.Pairwise.imp_of_mem ?_ hnd
  intro a b ha hb hab x hx y hy hxy
  have h1 := ((archSel_spec H hok (aget_of_lt (hlt a ha))).2.1 x).mp hx
  have h2 := ((archSel_spec H hok (aget_of_lt (hlt b hb))).2.1 y).mp hy
  have e1 := H.arch a _ (aget_of_lt (hlt a ha)) x h1.1
  have e2 := H.arch b _ (aget_of_lt (hlt b hb)) y h2.1
  rw [hxy] at e1
  exact hab (e1.symm.trans e2)

theorem mem_relSel_iff_selected {w : World} (H : TablesInv w) {f : Filter} {rels : List RelID}
    (hok : RelsOK w f rels) {as : List Nat} (harchs : ArchsOK w f as) {t : Nat} :
    t ∈ relSel w f rels as ↔ Selected w f rels t := by
  rw [mem_relSel H hok harchs.lt]
  constructor
  · rintro ⟨a, ha, h1, h2, h3⟩
    exact ⟨a, _, aget_of_lt (harchs.lt a ha), h1, h2, h3⟩
  · rintro ⟨a, A, hA, h1, h2, h3⟩
    have := arch_of_get hA
    subst this
    exact ⟨a, harchs.complete a (alt_of_get hA) h2, h1, h2, h3⟩

theorem uncached_selected {w : World} (H : TablesInv w) (q : QueryObj)
    (hc : q.cacheTables = none) (hok : RelsOK w q.filter q.rels)
    (harchs : ArchsOK w q.filter (w.archList q.rare)) :
    ∃ (ts : List Nat), qSelected w q = some ts ∧ ts.Nodup ∧
      ∀ (t : Nat), t ∈ ts ↔ Selected w q.filter q.rels t :=
  ⟨_, qSelected_rel H q hc hok harchs.lt, relSel_nodup H hok harchs.nodup harchs.lt,
    fun _ => mem_relSel_iff_selected H hok harchs⟩

/-- what the cached counting walk keeps of the entry's table list: the non-empty tables on which
    `Matches(per-call relations)` answers yes -/
def cachedSel (w : World) (rels : List RelID) (ts : List Nat) : List Nat :=
  ts.filter fun t => (w.tbl t).len != 0 && (w.tbl t).matchesRels rels == some true

theorem foldl_selC_rel (w : World) (rels : List RelID) : ∀ (ts : List Nat) (acc : List Nat),
    (∀ (t : Nat), t ∈ ts → (w.tbl t).len ≠ 0 → (w.tbl t).matchesRels rels ≠ none) →
    ts.foldl (selC w rels) (some acc) = some (acc ++ cachedSel w rels ts) := by
  intro ts
  induction ts with
  | nil => intro acc _; simp [cachedSel]
  | cons t rest ih =>
    intro acc h
    have ih' := fun acc' => ih acc' (fun x hx => h x (List.mem_cons_of_mem _ hx))
    rw [List.foldl_cons]
    by_cases hl : (w.tbl t).len = 0
    · have e : selC w rels (some acc) t = some acc := by simp [selC, hl]
      rw [e, ih']
      simp [cachedSel, hl]
    · cases hm : (w.tbl t).matchesRels rels with
      | none => exact absurd hm (h t List.mem_cons_self hl)
      | some b =>
        cases b with
        | false =>
          have e : selC w rels (some acc) t = some acc := by simp [selC, hl, hm]
          rw [e, ih']
          simp [cachedSel, hm]
        | true =>
          have e : selC w rels (some acc) t = some (acc ++ [t]) := by simp [selC, hl, hm]
          rw [e, ih']
          simp [cachedSel, hl, hm]

theorem qSelected_cached (w : World) (q : QueryObj) (ts : List Nat)
    (hc : q.cacheTables = some ts)
    (h : ∀ (t : Nat), t ∈ ts → (w.tbl t).len ≠ 0 → (w.tbl t).matchesRels q.rels ≠ none) :
    qSelected w q = some (cachedSel w q.rels ts) := by
  rw [qSelected_eq, hc]
  simpa using foldl_selC_rel w q.rels ts [] h

/-- when every listed table matches the per-call relations (there are none, or the tables have
    no relation column), the cached walk keeps the non-empty tables -/
theorem mem_cachedSel_of_matches {w : World} {rels : List RelID} {ts : List Nat}
    (hm : ∀ (t : Nat), t ∈ ts → (w.tbl t).matchesRels rels = some true) (t : Nat) :
    t ∈ cachedSel w rels ts ↔ t ∈ ts ∧ (w.tbl t).len ≠ 0 := by
  simp only [cachedSel, List.mem_filter, Bool.and_eq_true, bne_iff_ne, ne_eq, beq_iff_eq]
  exact ⟨fun h => ⟨h.1, h.2.1⟩, fun h => ⟨h.1, h.2, hm t h.1⟩⟩

end QueryExact
end Ark

end

section

/-! ## §2 the cached variant of the exact query

A registered filter object (`fo.cache = some id`) does not walk archetypes: `Query()` reads the
  table list of its cache entry, and the cursor skips the tables that are empty.  `NoRelW`: where no
  relation component is registered, `TablesInv` and `RelsOK` hold and selection does not look at the
  tables.
-/

set_option autoImplicit false

namespace Ark
namespace QueryExact

open World Drain Ark.Props.C01World

theorem selected_iff {w : World} {fl : List Nat} (h : CInv w fl) (f : Filter) (rels : List RelID)
    (t : Nat) : Selected w f rels t ↔
      t < w.tables.length ∧ f.matchesMask (w.arch (w.tbl t).arch).mask = true := by
  constructor
  · rintro ⟨a, A, hA, ht, hm, _⟩
    obtain ⟨hlt, hta, _⟩ := (h.sinv.active_iff hA).1 ht
    exact ⟨hlt, by rw [hta, arch_of_get hA]; exact hm⟩
  · rintro ⟨ht, hm⟩
    obtain ⟨ha, hfirst⟩ := h.table_is_first ht
    obtain ⟨t0, ht0, _, _⟩ := h.oneTable ha
    refine ⟨(w.tbl t).arch, _, aget_of_lt ha, ?_, hm, ?_⟩
    · rw [ht0] at hfirst ⊢
      simp only [List.getD_cons_zero] at hfirst
      rw [hfirst]; exact List.mem_singleton.mpr rfl
    · apply Table.matchesRels_noRel
      simp [Table.hasRelations, h.relIDs_nil ht]

/-- **Layer A.3 — the cached variant.**  `fo` is registered (`fo.cache = some id`), the cache
    holds the entry `ce` under that ID, and the entry was made for the filter of `fo`.  Under
    `CInv` and `CacheInv` the query visits exactly the alive entities whose archetype mask the
    filter matches, each once — the same entity set as the uncached walk
    (`drain_exact_untyped`, `drain_exact`). -/
theorem drain_exact_cached {w : World} {fl : List Nat} (h : CInv w fl) (hC : CacheInv w)
    (fo : FilterObj) {id : Nat} {ce : CacheEntry} (hc : fo.cache = some id)
    (he : w.cacheEntry? id = some ce) (hf : ce.filter = fo.filter)
    {l1 l2 : Lock} {b : Nat} (hL : LockCycle w.locks l1 b l2) :
    ∃ q visits, QueryExactOn w fl fo (w.withLocks l1) q visits (w.withLocks l2) := by
  have ho := qOpen_eq fo [] w (fun _ => rfl) (cacheTablesOf_cached hc he) hL.lock
  obtain ⟨hmem, _⟩ := hC.entry_of_lookup he
  obtain ⟨hwf, hsel⟩ := hC.entries ce hmem
  have hmat : ∀ (t : Nat), t ∈ ce.tables.tables → (w.tbl t).matchesRels (effRels fo []) = some true :=
    fun t _ => by rw [effRels_cached hc]; exact Table.matchesRels_nil _
  have hq : qSelected (w.withLocks l1) (openedWith fo [] (some ce.tables.tables) w b) =
      some (cachedSel w (effRels fo []) ce.tables.tables) :=
    (qSelected_withLocks w l1 _).trans (qSelected_cached w
      (openedWith fo [] (some ce.tables.tables) w b) _ rfl
      (fun t ht _ hn => by cases (hmat t ht).symm.trans hn))
  have hok : TablesOK w fo.filter (cachedSel w (effRels fo []) ce.tables.tables) := by
    refine ⟨List.Pairwise.filter _ hwf.nodup, ?_, ?_⟩
    · intro t ht
      have := (selected_iff h ce.filter ce.rels t).mp
        ((hsel t).mp ((mem_cachedSel_of_matches hmat t).mp ht).1)
      rw [hf] at this; exact this
    · intro t ht hne hm
      exact (mem_cachedSel_of_matches hmat t).mpr ⟨(hsel t).mpr
        ((selected_iff h ce.filter ce.rels t).mpr ⟨ht, by rw [hf]; exact hm⟩), hne⟩
  obtain ⟨visits, Q⟩ := drain_exact_of_selected h fo hL.unlock ho rfl hq hok
  exact ⟨_, visits, Q⟩

/-- the storage facts the cache proofs rely on: all but `hasRel` are part of `SInv` and `RInv` -/
theorem TablesInv.of_sinv {w : World} (hS : SInv w) (hR : RInv w)
    (hrel : ∀ (a : Nat) (A : Archetype), w.archetypes[a]? = some A →
      ∀ (t : Nat), t ∈ A.tables.tables → (w.tbl t).hasRelations = A.hasRelations) :
    TablesInv w where
  index := hR
  arch := by
    intro a A hA t ht
    exact ((hS.active_iff hA).1 ht).2.1
  ids := by
    intro a A hA t ht
    obtain ⟨hlt, hta, _⟩ := (hS.active_iff hA).1 ht
    rw [(hS.fits hlt).2.2.ids, hta, arch_of_get hA]
  hasRel := hrel
  single := fun a A hA hr => hS.settled a A hA hr

end QueryExact

open World Ark.Props.C01World

structure NoRelW (w : World) : Prop where
  sinv : SInv w
  kinds : ∀ (c : Comp), (w.kinds.getD c {}).isRel = false

theorem CInv.noRelW {w : World} {fl : List Nat} (h : CInv w fl) : NoRelW w :=
  ⟨h.sinv, h.noRelKinds⟩

namespace NoRelW

variable {w : World}

theorem arch (h : NoRelW w) {a : Nat} {A : Archetype} (hA : w.archetypes[a]? = some A) :
    A.hasRelations = false :=
  h.sinv.toSInvMid.hasRelations_false_of_kinds hA (fun c _ => h.kinds c)

theorem tblNoRel (h : NoRelW w) {a : Nat} {A : Archetype} (hA : w.archetypes[a]? = some A)
    {t : Nat} (ht : t ∈ A.tables.tables) : (w.tbl t).hasRelations = false := by
  obtain ⟨T, hT, hTa⟩ := h.sinv.owned a A t hA (Or.inl ht)
  have hr : (w.arch T.arch).hasRelations = false := by
    rw [hTa, arch_of_get hA]; exact h.arch hA
  have := h.sinv.toSInvMid.relIDs_nil hT hr
  rw [tbl_of_get hT]
  simp [Table.hasRelations, this]

/-- in the fragment, selection does not look at the tables -/
theorem selected_iff (h : NoRelW w) (f : Filter) (rels : List RelID) (t : Nat) :
    Selected w f rels t ↔ ∃ (a : Nat) (A : Archetype), w.archetypes[a]? = some A ∧
      t ∈ A.tables.tables ∧ f.matchesMask A.mask = true := by
  constructor
  · rintro ⟨a, A, hA, h1, h2, _⟩; exact ⟨a, A, hA, h1, h2⟩
  · rintro ⟨a, A, hA, h1, h2⟩
    exact ⟨a, A, hA, h1, h2, Table.matchesRels_noRel _ (h.tblNoRel hA h1) rels⟩

/-- the walk cannot hit a nil dereference: there is no relation archetype -/
theorem relsOK (h : NoRelW w) (f : Filter) (rels : List RelID) : RelsOK w f rels := by
  intro a A hA _ hr
  rw [h.arch hA] at hr; cases hr

theorem tablesInv (h : NoRelW w) (hR : RInv w) : TablesInv w :=
  QueryExact.TablesInv.of_sinv h.sinv hR fun _ _ hA _ ht => by rw [h.tblNoRel hA ht, h.arch hA]

end NoRelW

namespace QueryExact

open Drain

theorem CInv.of_cache {w w' : World} {fl : List Nat} (h : CInv w fl)
    (he : w'.entities = w.entities) (ht : w'.tables = w.tables)
    (ha : w'.archetypes = w.archetypes) (hk : w'.kinds = w.kinds) (hp : w'.pool = w.pool)
    (hu : Untouched w w') : CInv w' fl :=
  h.transfer (h.idx.congr he ht) (h.sinv.congr ha ht hk) hp
    ⟨by rw [he], fun i => Or.inl (by rw [he])⟩ hk hu (by rw [ht]; exact h.fewTables)

/-- **registering a filter**: on a world satisfying `CInv`, `RInv` and `CacheInv` whose cache ID
    pool hands out an unused ID, `cache.register` succeeds, changes only the cache, keeps the
    invariants, and the new entry is found under the returned ID with the given filter. -/
theorem cacheRegister_exact {w : World} {fl : List Nat} (h : CInv w fl) (hR : RInv w)
    (hC : CacheInv w) (f : Filter) (rels : List RelID)
    (hfresh : AL.find? w.cache.indices (w.cache.pool.get).2 = none) :
    ∃ (w' : World) (ce : CacheEntry),
      cacheRegister f rels w = .ok (w.cache.pool.get).2 w' ∧
      CInv w' fl ∧ CacheInv w' ∧ RInv w' ∧
      w'.cacheEntry? (w.cache.pool.get).2 = some ce ∧ ce.filter = f ∧ ce.rels = rels ∧
      w'.entities = w.entities ∧ w'.tables = w.tables ∧ w'.archetypes = w.archetypes ∧
      w'.kinds = w.kinds ∧ w'.pool = w.pool ∧ w'.locks = w.locks ∧
      w'.componentIndex = w.componentIndex := by
  obtain ⟨ts, hts, _, _⟩ := getCacheTables_spec (h.noRelW.tablesInv hR) (h.noRelW.relsOK f rels)
  obtain ⟨w', ce, hreg, hC', ha, ht, hce, _, hcf, hcr, _⟩ :=
    cacheRegister_inv hC (h.noRelW.tablesInv hR) (h.noRelW.relsOK f rels) hfresh
  have heq := cacheRegister_eq w f rels ts hts
  rw [heq] at hreg
  injection hreg with _ hw
  subst hw
  refine ⟨_, ce, heq, CInv.of_cache h rfl rfl rfl rfl rfl ⟨rfl, rfl, rfl, rfl⟩, hC',
    hR.congr rfl rfl, hce, hcf, hcr, rfl, rfl, rfl, rfl, rfl, rfl, rfl⟩

end QueryExact
end Ark

end

