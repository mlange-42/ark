/-
  Property C03 with RELATION TARGETS: `QGood` is kept by every operation of `Ark.Props.C04World`.
  `QKeep w w'` (of `Ark.Proofs.QueryOps`: `RowsAlive`, `CIdx`, `CacheEmpty` carry over) is shown per
  operation, as a `trans` chain over the transformers the operation's lookup lemma names, and turned into
  `QGood`: component registration and creation with targets; `RemoveEntity`, including the removal of a
  relation target with its `cleanupArchetypes`; `SetRelations` and `Add` with targets.
-/
import Ark.Proofs.QueryOps
import Ark.Proofs.QueryRelHist
import Ark.Proofs.TargetsAdd

section

/-! ## §1 registration and creation

`CacheEmpty` says that no filter is registered; a `QKeep` (`…_qkeep`) is turned into `QGood` by
  `QGood.of_qkeep`.
-/

set_option autoImplicit false

namespace Ark
namespace QueryRel

open World Drain Ark.Props.C01World QueryExact

theorem QGood.of_qkeep {w w' : World} (g : QGood w) (good' : Good w') (qk : QKeep w w')
    (hl : w'.locks = w.locks) : QGood w' :=
  ⟨good', qk.cidx g.cidx, qk.rows g.rows, by rw [hl]; exact g.lock⟩

theorem unflagW_qkeep (w : World) (e : Ent) : QKeep w (unflagW w e) :=
  ⟨fun hr => hr, fun hc => hc.of_frame ⟨rfl, rfl, rfl, fun _ => rfl⟩, fun he => he⟩

theorem registerComponent_locks {k : CompKind} {w w' : World} {n : Nat}
    (h : World.registerComponent k w = .ok n w') : w'.locks = w.locks := by
  rw [registerComponent_ok_eq h]

theorem registerComponent_qkeep {k : CompKind} {w w' : World} {n : Nat} {fl : List Nat}
    (ht : TInv w fl) (hr : World.registerComponent k w = .ok n w') : QKeep w w' := by
  obtain ⟨_, _, _, htab, _, hp, hc⟩ := registerComponent_ok hr
  exact ⟨fun h => h.lookup (LookupKeeps.of_tables hp htab),
    fun h => h.registerComponent ht.rel.sinv.maskReg hr, fun h => h.of_eq hc⟩

theorem QGood.registerComponent {w : World} (g : QGood w) (k : CompKind)
    (hnp : panicOf (World.registerComponent k w) = none) :
    QGood (World.registerComponent k w).state := by
  obtain ⟨n, hr⟩ := ok_of_panicOf hnp
  obtain ⟨fl, ht, _, _⟩ := g.good
  have qk := registerComponent_qkeep ht hr
  exact g.of_qkeep (g.good.registerComponent k hnp) qk (registerComponent_locks hr)

theorem opNewEntity_qkeep (run : ProbeRunner) (p : Path) {w : World} {fl : List Nat}
    (h : TInv w fl) (hl : w.isLocked = false) (hno : ∀ (evt : Nat), w.obs.hasObservers evt = false)
    {ids : List Comp} {vals : List (Comp × Val)} {rels : List RelID}
    (hreg : ∀ (c : Comp), c ∈ ids → c < w.kinds.length)
    (hnd : (rels.map (·.comp)).Nodup) (hin : ∀ (r : RelID), r ∈ rels → r.comp ∈ ids)
    (hfew : w.tables.length < maxU32) (hrows : w.entities.length + 1 < 2 ^ 32)
    {e : Ent} {w' : World} (hok : opNewEntity run p ids vals rels w = .ok e w') :
    QKeep w w' ∧ w'.locks = w.locks := by
  obtain ⟨t, a, m, w1, hf, _, ar, link1, hb, rfl, rfl⟩ :=
    h.new_lookup run p hl hno hreg hnd hin hfew hrows hok
  refine ⟨(((findOrCreateTableAdd_qkeep hf).trans (placedW_qkeep link1 ar.foc.tblLt false hb)).trans
    (registerW_qkeep _ rels)).trans (writeValsW_qkeep _ _ vals), ?_⟩
  show (placedW w1 t false).locks = w.locks
  rw [placedW_locks, ar.untouched.locks]

theorem QGood.newEntity (run : ProbeRunner) (p : Path) {w : World} (g : QGood w) {ids : List Comp}
    {vals : List (Comp × Val)} {rels : List RelID}
    (hreg : ∀ (c : Comp), c ∈ ids → c < w.kinds.length)
    (hnd : (rels.map (·.comp)).Nodup) (hin : ∀ (r : RelID), r ∈ rels → r.comp ∈ ids)
    (hrc : ∀ (r : RelID), r ∈ rels → w.isRelComp r.comp = true)
    (htin : ∀ (r : RelID), r ∈ rels → r.target.id < w.pool.ents.length)
    (hfew : w.tables.length < maxU32) (hrows : w.entities.length + 1 < 2 ^ 32)
    (hnp : panicOf (opNewEntity run p ids vals rels w) = none) :
    QGood (opNewEntity run p ids vals rels w).state := by
  have good' := g.good.newEntity run p hreg hnd hin hrc htin hfew hrows hnp
  obtain ⟨fl, h, hl, hno⟩ := g.good
  obtain ⟨e, hok⟩ := ok_of_panicOf hnp
  generalize (opNewEntity run p ids vals rels w).state = w' at hok good' ⊢
  obtain ⟨qk, hlk⟩ := opNewEntity_qkeep run p h hl hno hreg hnd hin hfew hrows hok
  exact g.of_qkeep good' qk hlk

end QueryRel
end Ark

end

section

/-! ## §2 `RemoveEntity`

`QKeep` is shown for the four primitive steps of the cleanup (`getOrCreate`, `moveEntities`, the
  freeing block, `RemoveTarget`: `cleanKeeps_qkeep`); `cleanupArchetypes_specK` of
  `Ark.Proofs.TargetsLoops` carries it through the loops.
-/

set_option autoImplicit false

namespace Ark
namespace QueryRel

open World Ark.Props.C01World

theorem moved_qkeep {w : World} (hI : IdxInv w) {src dst : Nat} (hne : src ≠ dst)
    (hs : src < w.tables.length) (hd : dst < w.tables.length)
    (hb : (w.tbl dst).len + (w.tbl src).len < 2 ^ 32) :
    QKeep w (moveEntitiesW w src dst (w.tbl src).len) := by
  obtain ⟨hTS, _⟩ := moveEntitiesW_spec w src dst (w.tbl src).len hne hd
  obtain ⟨fa, fk, _, fc, fp, _⟩ := moveEntitiesW_fields w src dst (w.tbl src).len
  refine ⟨?_, fun hc => hc.of_frame ⟨?_, fk, by rw [fa], fun b => by rw [arch_congr fa]⟩,
    fun he => he.of_eq fc⟩
  · intro hr
    have hSs := hI.shape src _ (get_of_lt hs)
    have hDs := hI.shape dst _ (get_of_lt hd)
    have hal : ∀ (e : Ent), (moveEntitiesW w src dst (w.tbl src).len).alive e = w.alive e :=
      fun e => by simp only [World.alive, fp]
    intro t T r hT hrl
    rw [hal]
    rw [hTS] at hT
    by_cases h1 : t = src
    · subst h1
      rw [List.getElem?_set_self (by rw [List.length_set]; exact hs)] at hT
      obtain rfl := Option.some.inj hT
      rw [Table.reset_len] at hrl; exact absurd hrl (Nat.not_lt_zero _)
    · rw [List.getElem?_set_ne (Ne.symm h1)] at hT
      by_cases h2 : t = dst
      · subst h2
        rw [List.getElem?_set_self hd] at hT
        obtain rfl := Option.some.inj hT
        rw [Table.addAll_len] at hrl
        rw [Table.addAll_getEntity hDs hSs _ (Nat.le_refl _) hb r hrl]
        split
        · rename_i hlt; exact hr.tbl hlt
        · rename_i hge; exact hr.tbl (by omega)
      · rw [List.getElem?_set_ne (Ne.symm h2)] at hT
        exact hr t T r hT hrl
  · exact moveEntitiesW_keep (·.componentIndex) (fun _ _ _ => rfl) (fun _ _ _ _ => rfl) w src dst _

theorem freeW_qkeep (w : World) (a tid : Nat) : QKeep w (freeW w a tid) := by
  have hf : CIFrame w (freeW w a tid) :=
    ((modArch_ciFrame w a _ (fun A => (Archetype.freeTable_archRel A tid).mask)).trans
      (modTbl_ciFrame _ tid (fun T => { T with isFree := true }))).trans
      (c := freeW w a tid) ⟨rfl, rfl, rfl, fun _ => rfl⟩
  refine ⟨fun hr => RowsAlive.modTbl (w := w.modArch a fun A => A.freeTable tid) hr tid
      (f := fun T => { T with isFree := true }) ⟨rfl, rfl⟩,
    fun hc => hc.of_frame hf, fun he => ⟨he.1, ?_⟩⟩
  show (w.cache.filters.map _) = []
  rw [he.2]; rfl

theorem removeTarget_qkeep (w : World) (a : Nat) (g : Ent) :
    QKeep w (w.modArch a fun A => A.removeTarget g) :=
  ⟨fun hr => hr, fun hc => hc.of_frame (modArch_ciFrame w a _ (fun _ => rfl)), fun he => he⟩

theorem cleanKeeps_qkeep : CleanKeeps QKeep :=
  ⟨QKeep.refl, QKeep.trans, fun _ _ _ h => getOrCreate_qkeep h,
    fun hI hne hs hd hb => moved_qkeep hI hne hs hd hb, fun _ _ _ => freeW_qkeep _ _ _,
    removeTarget_qkeep _ _ _⟩

theorem opRemoveEntity_qkeep (run : ProbeRunner) {w : World} {fl : List Nat} (h : TInv w fl)
    (hl : w.isLocked = false) (hno : ∀ (evt : Nat), w.obs.hasObservers evt = false) {g : Ent}
    (h2 : 2 ≤ g.id) (hnf : g.id ∉ fl) (ha : w.alive g = true) (hsl : g.id < w.pool.ents.length)
    (hfew : w.tables.length + w.relationArchetypes.length + 1 ≤ maxU32)
    (hrows : 2 * w.entities.length < 2 ^ 32) :
    ∃ (w3 : World), opRemoveEntity run g w = .ok () w3 ∧ QKeep w w3 ∧ w3.locks = w.locks := by
  obtain ⟨t, row, w2, rl, _, _, cl, q2, hok⟩ :=
    h.del_lookup run cleanKeeps_qkeep hl hno h2 hnf ha hsl hfew hrows
  have q1 := removeRowOf_qkeep w g t row fun hr =>
    hr.removeRow h.link.idx rl.entry rl.tne rl.tables rl.aliveFrame
  exact ⟨_, hok, (q1.trans q2).trans (unflagW_qkeep w2 g), by
    show w2.locks = w.locks; rw [cl.frame.locks, removeRowOf_locks]⟩

theorem QGood.removeEntity (run : ProbeRunner) {w : World} (q : QGood w) {g : Ent}
    (ha : w.alive g = true) (hidx : (w.index g.id).1 ≠ maxU32) (hlt : g.id < w.entities.length)
    (hfew : w.tables.length + w.relationArchetypes.length + 1 ≤ maxU32)
    (hrows : 2 * w.entities.length < 2 ^ 32) :
    panicOf (opRemoveEntity run g w) = none ∧ QGood (opRemoveEntity run g w).state := by
  obtain ⟨hnp, good'⟩ := q.good.removeEntity run ha hidx hlt hfew hrows
  refine ⟨hnp, ?_⟩
  obtain ⟨fl, h, hl, hno⟩ := q.good
  obtain ⟨h2, hnf⟩ := live_of_indexed h hidx hlt
  obtain ⟨w3, hst, q3, hlk⟩ := opRemoveEntity_qkeep run h hl hno h2 hnf ha
    (by rw [← h.link.lenEq]; exact hlt) hfew hrows
  rw [hst] at good' ⊢
  exact q.of_qkeep good' q3 hlk

end QueryRel
end Ark

end

section

/-! ## §3 `SetRelations` and `Add` -/

set_option autoImplicit false

namespace Ark
namespace QueryRel

open World Drain Ark.Props.C01World QueryExact

theorem setRelationsCore_qkeep (run : ProbeRunner) {w : World} {fl : List Nat} (h : TInv w fl)
    (hl : w.isLocked = false) (hno : ∀ (evt : Nat), w.obs.hasObservers evt = false) {e : Ent}
    (h2 : 2 ≤ e.id) (hnf : e.id ∉ fl) (ha : w.alive e = true)
    (hsl : e.id < w.pool.ents.length) {rels : List RelID}
    (hne : rels.isEmpty = false) (hnd : (rels.map (·.comp)).Nodup)
    (hhas : ∀ (r : RelID), r ∈ rels → (targetOf w e.id r.comp).isSome = true)
    (hrows : w.entities.length + 1 < 2 ^ 32)
    {w' : World} (hok : setRelationsCore run e rels w = .ok () w') : QKeep w w' := by
  obtain ⟨oldT, row, he, htm, _, _, _, hcase⟩ :=
    h.set_lookup run hl hno h2 hnf ha hsl hne hnd hhas hok
  rcases hcase with ⟨_, rfl⟩ | ⟨nt, w1, hgo, _, hI1, _, _, cg, _, rfl⟩
  · exact QKeep.refl _
  · have hb1 : (w1.tbl nt).len + 1 < 2 ^ 32 := by
      have := hI1.rows_le nt
      rw [cg.entities] at this; omega
    exact ((getOrCreate_qkeep hgo).trans
      (addMove_qkeep hI1 _ (by simp only [World.alive, cg.pool]; exact ha)
        (by rw [cg.entities]; exact he) htm (Ne.symm cg.ntNe) cg.ntLt hb1)).trans
      (registerW_qkeep _ rels)

theorem opSetRelations_qkeep (run : ProbeRunner) (p : Path) {w : World} {fl : List Nat}
    (h : TInv w fl) (hl : w.isLocked = false) (hno : ∀ (evt : Nat), w.obs.hasObservers evt = false)
    {e : Ent} (h2 : 2 ≤ e.id) (hnf : e.id ∉ fl) (ha : w.alive e = true)
    (hsl : e.id < w.pool.ents.length) {mapperIds : List Comp}
    {rels : List RelID} (hne : rels.isEmpty = false) (hnd : (rels.map (·.comp)).Nodup)
    (hhas : ∀ (r : RelID), r ∈ rels → (targetOf w e.id r.comp).isSome = true)
    (hrows : w.entities.length + 1 < 2 ^ 32)
    {w' : World} (hok : opSetRelations run p e mapperIds rels w = .ok () w') : QKeep w w' := by
  have hpre : preCheck p.setRelCheck mapperIds rels w = .ok () w := by
    rcases preCheck_cases p.setRelCheck mapperIds rels w with h1 | ⟨k, h1⟩
    · exact h1
    · simp [opSetRelations, bind, M.bind, h1] at hok
  simp only [opSetRelations, bind, M.bind, hpre] at hok
  exact setRelationsCore_qkeep run h hl hno h2 hnf ha hsl hne hnd hhas hrows hok

theorem QGood.setRelations (run : ProbeRunner) (p : Path) {w : World} (q : QGood w) {e : Ent}
    (ha : w.alive e = true) (hidx : (w.index e.id).1 ≠ maxU32) (hlt : e.id < w.entities.length)
    {mapperIds : List Comp} {rels : List RelID} (hne : rels.isEmpty = false)
    (hnd : (rels.map (·.comp)).Nodup)
    (hhas : ∀ (r : RelID), r ∈ rels → (targetOf w e.id r.comp).isSome = true)
    (htin : ∀ (r : RelID), r ∈ rels → r.target.id < w.pool.ents.length)
    (hfew : w.tables.length < maxU32) (hrows : w.entities.length + 1 < 2 ^ 32)
    (hnp : panicOf (opSetRelations run p e mapperIds rels w) = none) :
    QGood (opSetRelations run p e mapperIds rels w).state := by
  have good' := q.good.setRelations run p ha hidx hlt hne hnd hhas htin hfew hrows hnp
  obtain ⟨fl, ht, hl, hno⟩ := q.good
  obtain ⟨h2, hnf⟩ := live_of_indexed ht hidx hlt
  obtain ⟨u, hr⟩ := ok_of_panicOf hnp
  generalize (opSetRelations run p e mapperIds rels w).state = w' at hr good' ⊢
  have hsl : e.id < w.pool.ents.length := by rw [← ht.link.lenEq]; exact hlt
  have post := opSetRelations_spec run p ht hl hno h2 hnf ha hsl hne hnd hhas htin hfew hrows hr
  have qk := opSetRelations_qkeep run p ht hl hno h2 hnf ha hsl hne hnd hhas hrows hr
  exact q.of_qkeep good' qk post.locks

theorem opAdd_qkeep (run : ProbeRunner) (p : Path) {w : World} {fl : List Nat} (h : TInv w fl)
    (hl : w.isLocked = false) (hno : ∀ (evt : Nat), w.obs.hasObservers evt = false) {e : Ent}
    (h2 : 2 ≤ e.id) (hnf : e.id ∉ fl) (ha : w.alive e = true)
    (hsl : e.id < w.pool.ents.length) {ids : List Comp}
    {vals : List (Comp × Val)} {rels : List RelID}
    (hreg : ∀ (c : Comp), c ∈ ids → c < w.kinds.length)
    (hnd : (rels.map (·.comp)).Nodup) (hin : ∀ (r : RelID), r ∈ rels → r.comp ∈ ids)
    (hrows : w.entities.length + 1 < 2 ^ 32)
    {w' : World} (hok : opAdd run p e ids vals rels w = .ok () w') : QKeep w w' := by
  obtain ⟨oldT, row, newT, newA, mask, w1, he, htm, _, _, _, hf, _, ar, hne', rfl⟩ :=
    h.add_lookup run p hl hno h2 hnf ha hsl hreg hnd hin hok
  have foc := ar.foc
  have hI1 : IdxInv w1 := foc.idx h.link.idx
  have hb1 : (w1.tbl newT).len + 1 < 2 ^ 32 := by
    have := hI1.rows_le newT
    rw [foc.entities] at this; omega
  exact (((findOrCreateTableAdd_qkeep hf).trans
    (addMove_qkeep hI1 mask (by simp only [World.alive, foc.pool]; exact ha)
      (by rw [foc.entities]; exact he) htm hne' foc.tblLt hb1)).trans
    (registerW_qkeep _ rels)).trans (writeValsW_qkeep _ e vals)

theorem QGood.add (run : ProbeRunner) (p : Path) {w : World} (q : QGood w) {e : Ent}
    (ha : w.alive e = true) (hidx : (w.index e.id).1 ≠ maxU32) (hlt : e.id < w.entities.length)
    {ids : List Comp} {vals : List (Comp × Val)} {rels : List RelID}
    (hreg : ∀ (c : Comp), c ∈ ids → c < w.kinds.length)
    (hnd : (rels.map (·.comp)).Nodup) (hin : ∀ (r : RelID), r ∈ rels → r.comp ∈ ids)
    (hrc : ∀ (r : RelID), r ∈ rels → w.isRelComp r.comp = true)
    (htin : ∀ (r : RelID), r ∈ rels → r.target.id < w.pool.ents.length)
    (hfew : w.tables.length < maxU32) (hrows : w.entities.length + 1 < 2 ^ 32)
    (hnp : panicOf (opAdd run p e ids vals rels w) = none) :
    QGood (opAdd run p e ids vals rels w).state := by
  have good' := q.good.add run p ha hidx hlt hreg hnd hin hrc htin hfew hrows hnp
  obtain ⟨fl, ht, hl, hno⟩ := q.good
  obtain ⟨h2, hnf⟩ := live_of_indexed ht hidx hlt
  obtain ⟨u, hr⟩ := ok_of_panicOf hnp
  generalize (opAdd run p e ids vals rels w).state = w' at hr good' ⊢
  have hsl : e.id < w.pool.ents.length := by rw [← ht.link.lenEq]; exact hlt
  have post := opAdd_rel_spec run p ht hl hno h2 hnf ha hsl hreg hnd hin hrc htin hfew hrows hr
  have qk := opAdd_qkeep run p ht hl hno h2 hnf ha hsl hreg hnd hin hrows hr
  exact q.of_qkeep good' qk post.locks

end QueryRel
end Ark

end

