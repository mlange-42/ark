/-
  `exchangeBatch` (the add / remove / exchange batches; no callback function, no relations) with
  observers.  The table selection and the lookup loop run BEFORE the lock is taken and neither read
  nor write it.  Under the lock ALL removal callbacks run (table by table, row by
  row, with the masks before and after the exchange of that table) before any table is moved; then
  all tables are moved; then ALL addition callbacks run; then the lock is released.
-/
import Ark.Proofs.BatchExchange
import Ark.Proofs.CallbacksOps
import Ark.Proofs.CallbacksRounds

set_option autoImplicit false

namespace Ark

open World Spec Ark.Props.C01World QueryExact

namespace World

theorem exchangeTableW_reframe (w : World) (oldT newT : Nat) (o : ObsMgr) (lg : List LogEv)
    (lk : Lock) :
    exchangeTableW (w.reframe o lg lk) oldT newT = (exchangeTableW w oldT newT).reframe o lg lk := by
  unfold exchangeTableW
  simp only []
  have h1 : ∀ t, (w.reframe o lg lk).tbl t = w.tbl t := fun _ => rfl
  have h2 : ∀ a, (w.reframe o lg lk).arch a = w.arch a := fun _ => rfl
  rw [h1, h1, h2, foldl_reframe _ o lg lk fun _ _ => rfl]
  rfl

theorem moveStep_none_reframe (w : World) (b : BatchTable) (o : ObsMgr) (lg : List LogEv)
    (lk : Lock) : moveStep none (w.reframe o lg lk) b = (moveStep none w b).reframe o lg lk :=
  exchangeTableW_reframe w b.oldT b.newT o lg lk

theorem foldl_moveStep_none_reframe (o : ObsMgr) (lg : List LogEv) (lk : Lock)
    (bts : List BatchTable) (w : World) :
    bts.foldl (moveStep none) (w.reframe o lg lk) = (bts.foldl (moveStep none) w).reframe o lg lk :=
  foldl_reframe _ o lg lk (fun w b => moveStep_none_reframe w b o lg lk) bts w

/-- the moved tables as the second loop of `exchangeBatch` records them -/
def movedList : List BatchTable → World → List BatchTable
  | [], _ => []
  | b :: bs, w =>
    { oldT := b.oldT, newT := b.newT, start := (w.tbl b.newT).len, len := (w.tbl b.oldT).len } ::
      movedList bs (moveStep none w b)

theorem loop2_none_list : ∀ (bts : List BatchTable) (s : List BatchTable) (w : World),
    (forIn bts s (fun (b : BatchTable) (__s : List BatchTable) => (do
      let __x ← exchangeTable b.oldT b.newT []
      pure (ForInStep.yield
        (__s ++ [{ oldT := b.oldT, newT := b.newT, start := __x.fst, len := __x.snd }]))
      : W (ForInStep (List BatchTable)))) : W (List BatchTable)) w =
      .ok (s ++ movedList bts w) (bts.foldl (moveStep none) w)
  | [], s, w => by simp [movedList]
  | b :: bts, s, w => by
    rw [List.forIn_cons, M.bind_apply, M.bind_apply, exchangeTable_eq]
    simp only [M.pure_apply]
    rw [loop2_none_list bts _ (exchangeTableW w b.oldT b.newT)]
    simp only [movedList, List.foldl_cons, moveStep, List.append_assoc, List.singleton_append]

theorem movedList_reframe (o : ObsMgr) (lg : List LogEv) (lk : Lock) :
    ∀ (bts : List BatchTable) (w : World), movedList bts (w.reframe o lg lk) = movedList bts w
  | [], _ => rfl
  | b :: bts, w => by
    simp only [movedList, moveStep_none_reframe]
    rw [movedList_reframe o lg lk bts]
    rfl

end World

/-- the rounds of the component-removal callbacks of an exchange batch: pair by pair, row by row,
    with the masks of source and destination -/
def remBatchRounds (m : ObsMgr) (bts : List BatchTable) (X : World) : List Round :=
  bts.flatMap fun b =>
    rowRounds (firing m Ev.onRemoveComponents
        (.remove (X.arch (X.tbl b.oldT).arch).mask (X.arch (X.tbl b.newT).arch).mask))
      ((List.range b.len).map (X.tbl b.oldT).getEntity)

/-- the rounds of the component-addition callbacks: moved pair by moved pair, moved row by row -/
def addBatchRounds (m : ObsMgr) (bts : List BatchTable) (X : World) : List Round :=
  bts.flatMap fun b =>
    rowRounds (firing m Ev.onAddComponents
        (.add (X.arch (X.tbl b.oldT).arch).mask (X.arch (X.tbl b.newT).arch).mask))
      ((List.range b.len).map fun i => (X.tbl b.newT).getEntity (b.start + i))

theorem remBatchRounds_reframe (m : ObsMgr) (bts : List BatchTable) (Z : World) (o : ObsMgr)
    (lg : List LogEv) (lk : Lock) :
    remBatchRounds m bts (Z.reframe o lg lk) = remBatchRounds m bts Z := by
  simp only [remBatchRounds, arch_reframe, tbl_reframe]

theorem addBatchRounds_reframe (m : ObsMgr) (bts : List BatchTable) (Z : World) (o : ObsMgr)
    (lg : List LogEv) (lk : Lock) :
    addBatchRounds m bts (Z.reframe o lg lk) = addBatchRounds m bts Z := by
  simp only [addBatchRounds, arch_reframe, tbl_reframe]

section

variable {run : ProbeRunner} {S : Probe → Prop} {rec : World → Nat → Ent → Probe → List LogEv}

/-- **`exchangeBatch` with observers** (equation; no callback function, no relations, no relation
    removed).  `w1` is the locked world after the table selection, the lookup loop (`findLoop`;
    it creates the destination archetypes and tables) and `Lock` — selection and lookup loop run
    before `Lock` and do not touch the lock, so `w1` is also the result of the lookup loop started
    in the world with the lock `l1` taken, which is how the hypothesis `hfind` is stated.  ALL
    removal callbacks run on `w1` (only the log grows); then all tables are moved (`moveStep`);
    then ALL addition callbacks run on the world with every table moved; then the lock is
    released. -/
theorem exchangeBatch_obs_eq (hro : ReadOnly run S rec) (fo : FilterObj) (extra : List RelID)
    (add rem : List Comp) (w : World) (hs : ScriptsIn w.obs S) (hok : ObsOK w.obs)
    (hl : w.isLocked = false) (hne : (add.isEmpty && rem.isEmpty) = false)
    {l1 l2 : Lock} {b : Nat} (hL : LockCycle w.locks l1 b l2) {ts : List Nat}
    (hts : getBatchTables fo extra w = .ok ts w) {bts : List BatchTable} {w1 : World}
    (hfind : findLoop add rem ts (false, []) (w.withLocks l1) = .ok (false, bts) w1) :
    exchangeBatch run fo extra add rem [] none w = .ok ()
      ((bts.foldl (moveStep none) w1).reframe w.obs
        ((if add.isEmpty then [] else
            roundsLog rec (addBatchRounds w.obs (movedList bts w1) (bts.foldl (moveStep none) w1))
              ((bts.foldl (moveStep none) w1).addLog
                (if rem.isEmpty then [] else roundsLog rec (remBatchRounds w.obs bts w1) w1))) ++
          ((if rem.isEmpty then [] else roundsLog rec (remBatchRounds w.obs bts w1) w1) ++ w.log))
        l2) := by
  obtain ⟨hobs, hlog, hlocks⟩ : w1.obs = w.obs ∧ w1.log = w.log ∧ w1.locks = l1 := by
    have := (frames_findLoop add rem ts (false, [])).state_frame (w.withLocks l1)
    rw [hfind] at this; exact this
  -- normal form of every world from here on: `Z.reframe w.obs LG l1`; the two guarded loops
  have hRem : ∀ (Z : World) (LG : List LogEv), _ = Res.ok PUnit.unit ((Z.reframe w.obs LG l1).addLog
      (roundsLog rec (remBatchRounds w.obs bts (Z.reframe w.obs LG l1)) (Z.reframe w.obs LG l1))) :=
    fun Z LG => guardedRounds (rec := rec) hok Ev.onRemoveComponents
      (fun Y (b : BatchTable) =>
        .remove (Y.arch (Y.tbl b.oldT).arch).mask (Y.arch (Y.tbl b.newT).arch).mask)
      (fun Y b => (List.range b.len).map (Y.tbl b.oldT).getEntity) (fun _ _ _ => rfl)
      (fun _ _ _ => rfl)
      (fun Y b e eo => fireRemove run Ev.onRemoveComponents e (Y.arch (Y.tbl b.oldT).arch).mask
        (Y.arch (Y.tbl b.newT).arch).mask eo)
      (fun _ _ e eo => fireRemove_readOnly hro hs hok _ (by decide) e _ _ eo) bts
      (Z.reframe w.obs LG l1) rfl
  have hAdd : ∀ (bs : List BatchTable) (Z : World) (LG : List LogEv), _ = Res.ok PUnit.unit
      ((Z.reframe w.obs LG l1).addLog
        (roundsLog rec (addBatchRounds w.obs bs (Z.reframe w.obs LG l1)) (Z.reframe w.obs LG l1))) :=
    fun bs Z LG => guardedRounds (rec := rec) hok Ev.onAddComponents
      (fun Y (b : BatchTable) =>
        .add (Y.arch (Y.tbl b.oldT).arch).mask (Y.arch (Y.tbl b.newT).arch).mask)
      (fun Y b => (List.range b.len).map fun i => (Y.tbl b.newT).getEntity (b.start + i))
      (fun _ _ _ => rfl) (fun _ _ _ => rfl)
      (fun Y b e eo => fireAdd run Ev.onAddComponents e (Y.arch (Y.tbl b.oldT).arch).mask
        (Y.arch (Y.tbl b.newT).arch).mask eo)
      (fun _ _ e eo => fireAdd_readOnly hro hs hok _ (by decide) e _ _ eo) bs
      (Z.reframe w.obs LG l1) rfl
  obtain ⟨W0, hW0⟩ : ∃ W0 : World, w1 = W0.reframe w.obs w.log l1 :=
    ⟨w1, (reframe_eq_self hobs hlog hlocks).symm⟩
  subst hW0
  have r1 : ∀ (Z : World) (LG L : List LogEv),
      (Z.reframe w.obs LG l1).addLog L = Z.reframe w.obs (L ++ LG) l1 := fun _ _ _ => rfl
  have r2 : ∀ (Z : World) (LG : List LogEv) (evt : Nat),
      (Z.reframe w.obs LG l1).obs.hasObservers evt = w.obs.hasObservers evt := fun _ _ _ => rfl
  have hun : ∀ (X : World) (LG : List LogEv),
      World.unlock b (X.reframe w.obs LG l1) = .ok () (X.reframe w.obs LG l2) :=
    fun X LG => unlock_of_cycle hL rfl
  -- the lookup loop runs BEFORE the lock is taken; it neither reads nor writes the lock
  have hfind0 : findLoop add rem ts (false, []) w
      = .ok (false, bts) (W0.reframe w.obs w.log w.locks) :=
    ((frames_findLoop add rem ts (false, [])).of_reframe_ok (w := w) (o := w.obs) (lg := w.log)
      (lk := l1) hfind).1
  have hlock0 : World.lock (W0.reframe w.obs w.log w.locks) = .ok b (W0.reframe w.obs w.log l1) :=
    lock_of_cycle (w := W0.reframe w.obs w.log w.locks) hL
  unfold exchangeBatch
  simp only [ite_then_bind]
  -- the common prefix once; the case split on hypotheses only
  simp only [M.bind_apply, checkLocked_unlocked w hl, M.assert_apply, hne, Bool.not_false, if_true,
    hts, forIn_findLoopX, ← findLoop_eq, hfind0, registerTargets_nil_apply, hlock0]
  rcases Bool.eq_false_or_eq_true rem.isEmpty with hr | hr <;>
    rcases Bool.eq_false_or_eq_true add.isEmpty with ha | ha
  · exact absurd hne (by rw [hr, ha]; decide)
  all_goals simp only [hr, ha, M.bind_apply, Bool.not_false, Bool.not_true, if_true, M.get_apply, r2,
    Bool.false_eq_true, if_false, hRem, loop2_none_list, List.nil_append, r1,
    foldl_moveStep_none_reframe, movedList_reframe, hAdd, List.isEmpty_nil, Bool.false_and,
    remBatchRounds_reframe, addBatchRounds_reframe, hun, reframe_reframe, M.pure_apply]

end

/-! ## the records of an exchange batch -/

/-- the rows of one table of an exchange batch with the observers selected for it -/
def xRemCbs (m : ObsMgr) (b : BatchTable) (X : World) : List (Nat × Ent) :=
  ((List.range b.len).map (X.tbl b.oldT).getEntity).flatMap fun e =>
    (firing m Ev.onRemoveComponents
      (.remove (X.arch (X.tbl b.oldT).arch).mask (X.arch (X.tbl b.newT).arch).mask)).map
        fun l => (l, e)

def xAddCbs (m : ObsMgr) (b : BatchTable) (X : World) : List (Nat × Ent) :=
  ((List.range b.len).map fun i => (X.tbl b.newT).getEntity (b.start + i)).flatMap fun e =>
    (firing m Ev.onAddComponents
      (.add (X.arch (X.tbl b.oldT).arch).mask (X.arch (X.tbl b.newT).arch).mask)).map
        fun l => (l, e)

/-- the records of the callbacks of one table, as a function of the world alone -/
def xRemFlat (rec : World → Nat → Ent → Probe → List LogEv) (m : ObsMgr) (b : BatchTable)
    (X : World) : List LogEv :=
  ((List.range b.len).map (X.tbl b.oldT).getEntity).reverse.flatMap fun e =>
    (firing m Ev.onRemoveComponents
      (.remove (X.arch (X.tbl b.oldT).arch).mask (X.arch (X.tbl b.newT).arch).mask)).reverse.flatMap
        fun l => notifyFlat rec l e X

def xAddFlat (rec : World → Nat → Ent → Probe → List LogEv) (m : ObsMgr) (b : BatchTable)
    (X : World) : List LogEv :=
  ((List.range b.len).map fun i => (X.tbl b.newT).getEntity (b.start + i)).reverse.flatMap fun e =>
    (firing m Ev.onAddComponents
      (.add (X.arch (X.tbl b.oldT).arch).mask (X.arch (X.tbl b.newT).arch).mask)).reverse.flatMap
        fun l => notifyFlat rec l e X

section

variable {rec : World → Nat → Ent → Probe → List LogEv}

theorem roundCbs_remBatchRounds (m : ObsMgr) (bts : List BatchTable) (X : World) :
    roundCbs (remBatchRounds m bts X) = bts.flatMap fun b => xRemCbs m b X := by
  rw [remBatchRounds, roundCbs_flatMap]
  simp only [roundCbs_rowRounds, xRemCbs]

theorem roundCbs_addBatchRounds (m : ObsMgr) (bts : List BatchTable) (X : World) :
    roundCbs (addBatchRounds m bts X) = bts.flatMap fun b => xAddCbs m b X := by
  rw [addBatchRounds, roundCbs_flatMap]
  simp only [roundCbs_rowRounds, xAddCbs]

theorem roundFlat_remBatchRounds (m : ObsMgr) (bts : List BatchTable) (X Y : World) :
    roundFlat rec Y (remBatchRounds m bts X)
      = bts.reverse.flatMap fun b =>
          ((List.range b.len).map (X.tbl b.oldT).getEntity).reverse.flatMap fun e =>
            (firing m Ev.onRemoveComponents
              (.remove (X.arch (X.tbl b.oldT).arch).mask (X.arch (X.tbl b.newT).arch).mask)).reverse.flatMap
                fun l => notifyFlat rec l e Y := by
  rw [remBatchRounds, roundFlat_flatMap]
  simp only [roundFlat_rowRounds]

theorem roundFlat_addBatchRounds (m : ObsMgr) (bts : List BatchTable) (X Y : World) :
    roundFlat rec Y (addBatchRounds m bts X)
      = bts.reverse.flatMap fun b =>
          ((List.range b.len).map fun i => (X.tbl b.newT).getEntity (b.start + i)).reverse.flatMap fun e =>
            (firing m Ev.onAddComponents
              (.add (X.arch (X.tbl b.oldT).arch).mask (X.arch (X.tbl b.newT).arch).mask)).reverse.flatMap
                fun l => notifyFlat rec l e Y := by
  rw [addBatchRounds, roundFlat_flatMap]
  simp only [roundFlat_rowRounds]

end

end Ark
