/-
  Ark.Proofs.Drain — property C03, iteration part: the cursor machine of `Query.Next`
  (`qNext` / `qNextTable` / `qNextArchetype`) visits exactly the rows of the tables selected by
  the counting walk (`qSelected`, which `Count` and `EntityAt` use), in the same order.

  A cursor denotes the rows it still yields (`remaining`); one `Next` from a state satisfying
  `Inv` takes the head of that list (`step`), so a drain is an induction on the list
  (`drainAux_of_remaining`, `drainFrom_of_remaining`), and a fresh cursor denotes the rows of the
  counting walk (`remaining_fresh`).  `Query()` itself is given in closed form (`qOpen_closed`).
-/
import Ark.Model.Ops

namespace Ark
namespace Drain
open World

/-! ## Definitions -/

/-- the rows of table `t`, in order -/
def rowsOf (w : World) (t : Nat) : List (Nat × Nat) :=
  (List.range (w.tbl t).len).map (fun r => (t, r))

/-- the (table,row) pairs a query is expected to visit: the rows of the tables selected by the
    counting walk -/
def expected (w : World) (q : QueryObj) : Option (List (Nat × Nat)) :=
  (qSelected w q).map (fun ts => ts.flatMap (rowsOf w))

/-- `qNext` without its effect on the world (the final `qClose`): `none` = panic. -/
def qNextPure (w : World) (q : QueryObj) : Option (QueryObj × Bool) :=
  if q.table < -1 then none else
  if (q.index : Int) < q.maxIndex then some ({ q with index := q.index + 1 }, true) else
  match q.cacheTables with
  | some ts => qNextTable w q ts
  | none =>
    match (if q.archetype ≥ 0 then qNextTable w q q.tables else some (q, false)) with
    | none => none
    | some (q, true) => some (q, true)
    | some (q, false) => qNextArchetype w q

/-- iterate the pure step; result: final cursor, whether the end was reported (`Next` returned
    `false`), and the (table,row) pairs seen after each successful step. -/
def drainPureAux (w : World) (q : QueryObj) : Nat → Option (QueryObj × Bool × List (Nat × Nat))
  | 0 => some (q, false, [])
  | fuel + 1 =>
    match qNextPure w q with
    | none => none
    | some (q', false) => some (q', true, [])
    | some (q', true) =>
      (drainPureAux w q' fuel).map fun r => (r.1, r.2.1, (q'.cur.getD 0, q'.index) :: r.2.2)

/-- the visited (table,row) pairs -/
def drainPure (w : World) (q : QueryObj) (fuel : Nat) : Option (List (Nat × Nat)) :=
  (drainPureAux w q fuel).map (·.2.2)

/-- a freshly opened query -/
structure Fresh (q : QueryObj) : Prop where
  archetype : q.archetype = -1
  table : q.table = -1
  index : q.index = 0
  maxIndex : q.maxIndex = -1
  tables : q.tables = []
  cur : q.cur = none

/-! ## Denotation of the cursor state -/

/-- rows of the current table still to come -/
def curRows (q : QueryObj) : List (Nat × Nat) :=
  (List.range' (q.index + 1) ((q.maxIndex + 1).toNat - (q.index + 1))).map
    (fun r => (q.cur.getD 0, r))

/-- what the cursor yields from a list of tables (`nextTable` skips empty tables before
    looking at the relation targets) -/
def scanRows (w : World) (rels : List RelID) : List Nat → Option (List (Nat × Nat))
  | [] => some []
  | t :: rest =>
    if (w.tbl t).len == 0 then scanRows w rels rest else
    match (w.tbl t).matchesRels rels with
    | none => none
    | some false => scanRows w rels rest
    | some true => (scanRows w rels rest).map (rowsOf w t ++ ·)

/-- what the cursor yields from a list of archetypes -/
def archRows (w : World) (f : Filter) (rels : List RelID) : List Nat → Option (List (Nat × Nat))
  | [] => some []
  | a :: rest =>
    if !f.matchesMask (w.arch a).mask then archRows w f rels rest
    else if !(w.arch a).hasRelations then
      (archRows w f rels rest).map (rowsOf w ((w.arch a).tables.tables.getD 0 0) ++ ·)
    else
      match (w.arch a).getTables rels with
      | none => none
      | some ts =>
        match scanRows w rels ts with
        | none => none
        | some r1 => (archRows w f rels rest).map (r1 ++ ·)

/-- everything the cursor still yields from state `q` -/
def remaining (w : World) (q : QueryObj) : Option (List (Nat × Nat)) :=
  match q.cacheTables with
  | some ts => (scanRows w q.rels (ts.drop (q.table + 1).toNat)).map (curRows q ++ ·)
  | none =>
    match scanRows w q.rels (q.tables.drop (q.table + 1).toNat),
          archRows w q.filter q.rels ((w.archList q.rare).drop (q.archetype + 1).toNat) with
    | some r1, some r2 => some (curRows q ++ (r1 ++ r2))
    | _, _ => none

/-- fields no step changes -/
structure Frame (q q' : QueryObj) : Prop where
  filter : q'.filter = q.filter
  rels : q'.rels = q.rels
  cacheTables : q'.cacheTables = q.cacheTables
  rare : q'.rare = q.rare
  lockBit : q'.lockBit = q.lockBit

theorem Frame.refl (q : QueryObj) : Frame q q := ⟨rfl, rfl, rfl, rfl, rfl⟩

theorem Frame.trans {a b c : QueryObj} (h1 : Frame a b) (h2 : Frame b c) : Frame a c :=
  ⟨h2.filter.trans h1.filter, h2.rels.trans h1.rels, h2.cacheTables.trans h1.cacheTables,
   h2.rare.trans h1.rare, h2.lockBit.trans h1.lockBit⟩

/-- loop invariant of the cursor between two `Next` calls -/
structure Inv (q : QueryObj) : Prop where
  table_ge : -1 ≤ q.table
  arch_ge : -1 ≤ q.archetype
  fresh_tables : q.archetype < 0 → q.tables = []
  cur_ok : 0 ≤ q.maxIndex → (∃ t, q.cur = some t) ∧ 0 ≤ q.table

/-! ## Small list facts -/

theorem rowsOf_eq (w : World) (t : Nat) :
    rowsOf w t = (List.range' 0 (w.tbl t).len).map (fun r => (t, r)) := by
  simp [rowsOf, List.range_eq_range']

theorem rowsOf_length (w : World) (t : Nat) : (rowsOf w t).length = (w.tbl t).len := by
  simp [rowsOf]

theorem rowsOf_empty (w : World) (t : Nat) (h : (w.tbl t).len = 0) : rowsOf w t = [] := by
  simp [rowsOf, h]

/-- `q'` differs from `q` only in cursor fields below the archetype level -/
structure Keep (q q' : QueryObj) : Prop extends Frame q q' where
  archetype : q'.archetype = q.archetype
  tables : q'.tables = q.tables

/-- outcome of `nextTable` relative to the rows its table list still yields -/
def TblOut (w : World) (tables : List Nat) (q : QueryObj) (res : Option (QueryObj × Bool)) :
    List (Nat × Nat) → Prop
  | [] => ∃ q', res = some (q', false) ∧ Keep q q' ∧ -1 ≤ q'.table
  | r :: rs => ∃ q', res = some (q', true) ∧ Keep q q' ∧ 0 ≤ q'.table ∧ 0 ≤ q'.maxIndex ∧
      q'.cur = some r.1 ∧ q'.index = r.2 ∧
      ∃ r1, scanRows w q.rels (tables.drop (q'.table + 1).toNat) = some r1 ∧ rs = curRows q' ++ r1

theorem Keep.refl (q : QueryObj) : Keep q q := ⟨Frame.refl q, rfl, rfl⟩

theorem Keep.trans {a b c : QueryObj} (h1 : Keep a b) (h2 : Keep b c) : Keep a c :=
  ⟨h1.toFrame.trans h2.toFrame, h2.archetype.trans h1.archetype, h2.tables.trans h1.tables⟩

theorem TblOut.of_keep {w : World} {tables : List Nat} {q0 q : QueryObj}
    {res : Option (QueryObj × Bool)} {rows : List (Nat × Nat)} (hk : Keep q0 q)
    (h : TblOut w tables q res rows) : TblOut w tables q0 res rows := by
  cases rows with
  | nil =>
    obtain ⟨q', h1, h2, h3⟩ := h
    exact ⟨q', h1, hk.trans h2, h3⟩
  | cons r rs =>
    obtain ⟨q', h1, h2, h3, h4, h5, h6, r1, h7, h8⟩ := h
    exact ⟨q', h1, hk.trans h2, h3, h4, h5, h6, r1, hk.rels ▸ h7, h8⟩

theorem rowsOf_cons (w : World) (t : Nat) (h : (w.tbl t).len ≠ 0) :
    rowsOf w t = (t, 0) :: (List.range' 1 ((w.tbl t).len - 1)).map (fun r => (t, r)) := by
  rw [rowsOf_eq]
  obtain ⟨n, hn⟩ : ∃ n, (w.tbl t).len = n + 1 := ⟨(w.tbl t).len - 1, by omega⟩
  rw [hn]; simp [List.range'_succ]

theorem curRows_setTable (w : World) (q : QueryObj) (k : Int) (t : Nat) :
    curRows (qSetTable w q k t) = (List.range' 1 ((w.tbl t).len - 1)).map (fun r => (t, r)) := by
  simp only [curRows, qSetTable, Option.getD_some]
  congr 2
  omega

/-- A cursor `i ≥ -1` into `l` with `l.drop (i + 1) = x :: rest`: the loop condition holds, the
    element read after advancing is `x`, and the advanced cursor leaves `rest`. -/
theorem cursor_cons {l : List Nat} {i : Int} {x : Nat} {rest : List Nat} (hge : -1 ≤ i)
    (hdrop : l.drop (i + 1).toNat = x :: rest) :
    i < (l.length : Int) - 1 ∧ l.getD (i + 1).toNat 0 = x ∧ l.drop (i + 1 + 1).toNat = rest := by
  have hlen : (i + 1).toNat < l.length := by
    apply Nat.lt_of_not_le
    intro h
    rw [List.drop_eq_nil_iff.mpr h] at hdrop
    cases hdrop
  rw [List.drop_eq_getElem_cons hlen] at hdrop
  injection hdrop with hx hrest
  refine ⟨by omega, ?_, ?_⟩
  · rw [List.getD_eq_getElem?_getD, List.getElem?_eq_getElem hlen, hx]; rfl
  · rw [← hrest]; congr 1; omega

theorem cursor_nil {l : List Nat} {i : Int} (hge : -1 ≤ i) (hdrop : l.drop (i + 1).toNat = []) :
    ¬ i < (l.length : Int) - 1 := by
  have := List.drop_eq_nil_iff.mp hdrop
  omega

/-- `nextTable`'s loop: skips empty and non-matching tables, stops at the first non-empty
    matching one; the internal fuel `suf.length` is enough. -/
theorem nextTable_go (w : World) (tables : List Nat) :
    ∀ (suf : List Nat) (q : QueryObj) (fuel : Nat) (rows : List (Nat × Nat)),
      -1 ≤ q.table → tables.drop (q.table + 1).toNat = suf → suf.length ≤ fuel →
      scanRows w q.rels suf = some rows →
      TblOut w tables q (qNextTable.go w tables q fuel) rows := by
  intro suf
  induction suf with
  | nil =>
    intro q fuel rows hge hdrop _ hscan
    simp only [scanRows, Option.some.injEq] at hscan
    subst hscan
    have hres : qNextTable.go w tables q fuel = some (q, false) := by
      cases fuel with
      | zero => rfl
      | succ f => rw [qNextTable.go.eq_2, if_neg (cursor_nil hge hdrop)]
    exact ⟨q, hres, ⟨Frame.refl q, rfl, rfl⟩, hge⟩
  | cons t rest ih =>
    intro q fuel rows hge hdrop hfuel hscan
    obtain ⟨hcond, hget, hrest'⟩ := cursor_cons hge hdrop
    obtain ⟨f, rfl⟩ : ∃ f, fuel = f + 1 := Nat.exists_eq_add_one.2 (Nat.lt_of_lt_of_le (Nat.succ_pos _) hfuel)
    have hf : rest.length ≤ f := Nat.le_of_succ_le_succ hfuel
    rw [qNextTable.go.eq_2]
    simp only [hcond, if_true, hget]
    simp only [scanRows] at hscan
    -- the stepped cursor
    have step := fun rows hs =>
      ih { q with table := q.table + 1 } f rows (by show -1 ≤ q.table + 1; omega) hrest' hf hs
    by_cases hl : (w.tbl t).len = 0
    · simp only [hl, beq_self_eq_true, if_true] at hscan ⊢
      exact TblOut.of_keep (q := { q with table := q.table + 1 }) ⟨⟨rfl, rfl, rfl, rfl, rfl⟩, rfl, rfl⟩
            (step rows hscan)
    · have hl' : ((w.tbl t).len == 0) = false := by simp [hl]
      simp only [hl', Bool.false_eq_true, if_false] at hscan ⊢
      cases hm : (w.tbl t).matchesRels q.rels with
      | none => simp [hm] at hscan
      | some b =>
        cases b with
        | false =>
          simp only [hm] at hscan ⊢
          exact TblOut.of_keep (q := { q with table := q.table + 1 }) ⟨⟨rfl, rfl, rfl, rfl, rfl⟩, rfl, rfl⟩
            (step rows hscan)
        | true =>
          simp only [hm, Option.map_eq_some_iff] at hscan ⊢
          obtain ⟨r1, hr1, rfl⟩ := hscan
          rw [rowsOf_cons w t hl]
          refine ⟨_, rfl, ⟨⟨rfl, rfl, rfl, rfl, rfl⟩, rfl, rfl⟩, ?_, ?_, rfl, rfl, r1, ?_, ?_⟩
          · show 0 ≤ q.table + 1; omega
          · show 0 ≤ ((w.tbl t).len : Int) - 1; omega
          · show scanRows w q.rels (tables.drop ((q.table + 1) + 1).toNat) = some r1
            rw [hrest']; exact hr1
          · rw [curRows_setTable]; rfl

/-- `nextTable(tables)`: its internal fuel `tables.length + 1` is always sufficient. -/
theorem nextTable_out (w : World) (tables : List Nat) (q : QueryObj) (rows : List (Nat × Nat))
    (hge : -1 ≤ q.table)
    (hscan : scanRows w q.rels (tables.drop (q.table + 1).toNat) = some rows) :
    TblOut w tables q (qNextTable w q tables) rows := by
  show TblOut w tables q (qNextTable.go w tables q (tables.length + 1)) rows
  exact nextTable_go w tables _ q _ rows hge rfl (by simp; omega) hscan

theorem scanRows_nil_drop (w : World) (rels : List RelID) :
    ∀ (ts : List Nat) (k : Nat), scanRows w rels ts = some [] → scanRows w rels (ts.drop k) = some [] := by
  intro ts
  induction ts with
  | nil => intro k h; simpa using h
  | cons t rest ih =>
    intro k h
    cases k with
    | zero => simpa using h
    | succ k =>
      simp only [List.drop_succ_cons]
      apply ih
      simp only [scanRows] at h
      by_cases hl : (w.tbl t).len = 0
      · simpa [hl] using h
      · have hl' : ((w.tbl t).len == 0) = false := by simp [hl]
        simp only [hl', Bool.false_eq_true, if_false] at h
        cases hm : (w.tbl t).matchesRels rels with
        | none => simp [hm] at h
        | some b =>
          cases b with
          | false => simpa [hm] using h
          | true =>
            simp only [hm, Option.map_eq_some_iff] at h
            obtain ⟨r1, _, h2⟩ := h
            rw [rowsOf_cons w t hl] at h2
            cases h2

/-- outcome of `nextArchetype` relative to the rows its archetype list still yields -/
def ArchOut (w : World) (archs : List Nat) (q : QueryObj) (res : Option (QueryObj × Bool)) :
    List (Nat × Nat) → Prop
  | [] => ∃ q', res = some (q', false) ∧ Frame q q' ∧ -1 ≤ q'.table
  | r :: rs => ∃ q', res = some (q', true) ∧ Frame q q' ∧ 0 ≤ q'.table ∧ 0 ≤ q'.archetype ∧
      0 ≤ q'.maxIndex ∧ q'.cur = some r.1 ∧ q'.index = r.2 ∧
      ∃ r1 r2, scanRows w q.rels (q'.tables.drop (q'.table + 1).toNat) = some r1 ∧
        archRows w q.filter q.rels (archs.drop (q'.archetype + 1).toNat) = some r2 ∧
        rs = curRows q' ++ (r1 ++ r2)

theorem ArchOut.of_frame {w : World} {archs : List Nat} {q0 q : QueryObj}
    {res : Option (QueryObj × Bool)} {rows : List (Nat × Nat)} (hk : Frame q0 q)
    (h : ArchOut w archs q res rows) : ArchOut w archs q0 res rows := by
  cases rows with
  | nil =>
    obtain ⟨q', h1, h2, h3⟩ := h
    exact ⟨q', h1, hk.trans h2, h3⟩
  | cons r rs =>
    obtain ⟨q', h1, h2, h3, h4, h5, h6, h7, r1, r2, h8, h9, h10⟩ := h
    exact ⟨q', h1, hk.trans h2, h3, h4, h5, h6, h7, r1, r2, hk.rels ▸ h8,
      hk.rels ▸ hk.filter ▸ h9, h10⟩

/-- `nextArchetype`'s loop: skips archetypes whose mask does not match; takes the single table
    of a non-relation archetype if it is non-empty; delegates to `nextTable` on
    `GetTables(relations)` for a relation archetype.  Fuel `suf.length` is enough.  `q.tables`
    may be a stale list of a previous relation archetype: all its tables were rejected. -/
theorem nextArchetype_go (w : World) (archs : List Nat) :
    ∀ (suf : List Nat) (q : QueryObj) (fuel : Nat) (rows : List (Nat × Nat)),
      -1 ≤ q.archetype → -1 ≤ q.table → scanRows w q.rels q.tables = some [] →
      archs.drop (q.archetype + 1).toNat = suf → suf.length ≤ fuel →
      archRows w q.filter q.rels suf = some rows →
      ArchOut w archs q (qNextArchetype.go w archs q fuel) rows := by
  intro suf
  induction suf with
  | nil =>
    intro q fuel rows hge htab _ hdrop _ hscan
    simp only [archRows, Option.some.injEq] at hscan
    subst hscan
    have hres : qNextArchetype.go w archs q fuel = some (q, false) := by
      cases fuel with
      | zero => rfl
      | succ f => rw [qNextArchetype.go.eq_2, if_neg (cursor_nil hge hdrop)]
    exact ⟨q, hres, Frame.refl q, htab⟩
  | cons a rest ih =>
    intro q fuel rows hge htab hstale hdrop hfuel hscan
    -- one iteration: the cursor advances to `a`; `archRows` at `a` and the loop body branch on the
    -- same tests (mask, relations, emptiness): each branch of the one meets the same of the other
    obtain ⟨hcond, hget, hrest'⟩ := cursor_cons hge hdrop
    obtain ⟨f, rfl⟩ : ∃ f, fuel = f + 1 := Nat.exists_eq_add_one.2 (Nat.lt_of_lt_of_le (Nat.succ_pos _) hfuel)
    have hf : rest.length ≤ f := Nat.le_of_succ_le_succ hfuel
    have hge1 : (-1 : Int) ≤ q.archetype + 1 := Int.le_trans hge (Int.le_add_one (Int.le_refl _))
    rw [qNextArchetype.go.eq_2]
    simp only [hcond, if_true, hget]
    simp only [archRows] at hscan
    have fr1 : Frame q { q with archetype := q.archetype + 1 } := ⟨rfl, rfl, rfl, rfl, rfl⟩
    by_cases hmask : q.filter.matchesMask (w.arch a).mask = true
    · simp only [hmask, Bool.not_true, Bool.false_eq_true, if_false] at hscan ⊢
      by_cases hrel : (w.arch a).hasRelations = true
      -- relation archetype: `nextTable` runs on the new list `ts` from `table = -1`;
      -- `rA` is what `ts` yields
      · simp only [hrel, Bool.not_true, Bool.false_eq_true, if_false] at hscan ⊢
        cases hgt : (w.arch a).getTables q.rels with
        | none => simp [hgt] at hscan
        | some ts =>
          simp only [hgt] at hscan ⊢
          cases hsc : scanRows w q.rels ts with
          | none => simp [hsc] at hscan
          | some rA =>
            simp only [hsc, Option.map_eq_some_iff] at hscan
            obtain ⟨r2, hr2, rfl⟩ := hscan
            have nt := nextTable_out w ts
              { q with archetype := q.archetype + 1, tables := ts, table := -1 } rA
              (by show (-1 : Int) ≤ -1; omega) (by simpa using hsc)
            cases rA with
            | nil =>
              -- nothing in `ts`: go on from the cursor `nextTable` left; `hsc` now says that
              -- the list `ts`, stale from here on, yields no rows
              obtain ⟨q3, h3, hk3, ht3⟩ := nt
              simp only [h3, List.nil_append]
              refine ArchOut.of_frame (q := q3) ⟨hk3.filter, hk3.rels, hk3.cacheTables, hk3.rare, hk3.lockBit⟩ ?_
              have e1 : q3.rels = q.rels := hk3.rels
              have e2 : q3.filter = q.filter := hk3.filter
              have e3 : q3.archetype = q.archetype + 1 := hk3.archetype
              have e4 : q3.tables = ts := hk3.tables
              apply ih q3 f r2 (by rw [e3]; exact hge1) ht3 (by rw [e1, e4]; exact hsc)
                (by rw [e3]; exact hrest') hf (by rw [e1, e2]; exact hr2)
            | cons r rs =>
              -- a row in `ts`: after it come `curRows q3`, the rest of `ts` (`r1`) and the
              -- later archetypes (`r2`)
              obtain ⟨q3, h3, hk3, ht3, hm3, hc3, hi3, r1, hr1, hrs⟩ := nt
              simp only [h3, List.cons_append]
              have e3 : q3.archetype = q.archetype + 1 := hk3.archetype
              have e4 : q3.tables = ts := hk3.tables
              refine ⟨q3, rfl, ⟨hk3.filter, hk3.rels, hk3.cacheTables, hk3.rare, hk3.lockBit⟩, ht3, by omega, hm3, hc3, hi3, r1, r2,
                by rw [e4]; exact hr1, by rw [e3, hrest']; exact hr2, ?_⟩
              rw [hrs, List.append_assoc]
      -- plain archetype: its single table, taken iff non-empty
      · have hrel' : (w.arch a).hasRelations = false := by simpa using hrel
        simp only [hrel', Bool.not_false, if_true, Option.map_eq_some_iff] at hscan ⊢
        obtain ⟨r2, hr2, rfl⟩ := hscan
        by_cases hl : (w.tbl ((w.arch a).tables.tables.getD 0 0)).len = 0
        · have : ¬ (w.tbl ((w.arch a).tables.tables.getD 0 0)).len > 0 := by omega
          simp only [this, if_false, rowsOf_empty w _ hl, List.nil_append]
          exact ArchOut.of_frame (q := { q with archetype := q.archetype + 1 }) fr1
            (ih _ f r2 hge1 htab hstale hrest' hf hr2)
        -- the cursor stops with `table = 0` but keeps the stale `q.tables`: by `hstale` that list
        -- contributes no rows to what remains
        · have : (w.tbl ((w.arch a).tables.tables.getD 0 0)).len > 0 := by omega
          simp only [this, if_true, rowsOf_cons w _ hl, List.cons_append]
          refine ⟨_, rfl, ⟨rfl, rfl, rfl, rfl, rfl⟩, ?_, ?_, ?_, rfl, rfl, [], r2, ?_, ?_, ?_⟩
          · show (0 : Int) ≤ 0; omega
          · show 0 ≤ q.archetype + 1; omega
          · show 0 ≤ ((w.tbl ((w.arch a).tables.tables.getD 0 0)).len : Int) - 1; omega
          · exact scanRows_nil_drop w q.rels q.tables _ hstale
          · show archRows w q.filter q.rels (archs.drop ((q.archetype + 1) + 1).toNat) = some r2
            rw [hrest']; exact hr2
          · rw [curRows_setTable]; rfl
    · have hmask' : q.filter.matchesMask (w.arch a).mask = false := by simpa using hmask
      simp only [hmask', Bool.not_false, if_true] at hscan ⊢
      exact ArchOut.of_frame (q := { q with archetype := q.archetype + 1 }) fr1
        (ih _ f rows hge1 htab hstale hrest' hf hscan)

/-- `nextArchetype`: its internal fuel `archs.length + 1` is always sufficient. -/
theorem nextArchetype_out (w : World) (q : QueryObj) (rows : List (Nat × Nat))
    (hge : -1 ≤ q.archetype) (htab : -1 ≤ q.table)
    (hscan : archRows w q.filter q.rels ((w.archList q.rare).drop (q.archetype + 1).toNat)
      = some rows) :
    ArchOut w (w.archList q.rare) q (qNextArchetype w q) rows := by
  show ArchOut w (w.archList q.rare) q (qNextArchetype.go w (w.archList q.rare)
    { q with tables := [] } ((w.archList q.rare).length + 1)) rows
  exact ArchOut.of_frame (q := { q with tables := [] }) ⟨rfl, rfl, rfl, rfl, rfl⟩
    (nextArchetype_go w _ _ { q with tables := [] } _ rows hge htab rfl rfl (by simp; omega) hscan)

/-! ## One `Next` step -/

theorem curRows_step (q : QueryObj) (h : (q.index : Int) < q.maxIndex) :
    curRows q = (q.cur.getD 0, q.index + 1) :: curRows { q with index := q.index + 1 } := by
  have hk : (q.maxIndex + 1).toNat - (q.index + 1) =
      (q.maxIndex + 1).toNat - (q.index + 1 + 1) + 1 := by omega
  simp only [curRows]
  rw [hk, List.range'_succ]
  rfl

theorem curRows_done (q : QueryObj) (h : ¬ (q.index : Int) < q.maxIndex) : curRows q = [] := by
  simp only [curRows]
  have : (q.maxIndex + 1).toNat - (q.index + 1) = 0 := by omega
  rw [this]; rfl

/-- outcome of one `Next` relative to the rows still to come -/
def StepOut (w : World) (q : QueryObj) (res : Option (QueryObj × Bool)) :
    List (Nat × Nat) → Prop
  | [] => ∃ q', res = some (q', false) ∧ Frame q q' ∧ -1 ≤ q'.table
  | r :: rs => ∃ q', res = some (q', true) ∧ Frame q q' ∧ Inv q' ∧ 0 ≤ q'.table ∧
      q'.cur = some r.1 ∧ q'.index = r.2 ∧ remaining w q' = some rs

theorem StepOut.of_frame {w : World} {q0 q : QueryObj}
    {res : Option (QueryObj × Bool)} {rows : List (Nat × Nat)} (hk : Frame q0 q)
    (h : StepOut w q res rows) : StepOut w q0 res rows := by
  cases rows with
  | nil =>
    obtain ⟨q', h1, h2, h3⟩ := h
    exact ⟨q', h1, hk.trans h2, h3⟩
  | cons r rs =>
    obtain ⟨q', h1, h2, h3⟩ := h
    exact ⟨q', h1, hk.trans h2, h3⟩

theorem StepOut.of_arch {w : World} {q : QueryObj} {res : Option (QueryObj × Bool)}
    {rows : List (Nat × Nat)} (hc : q.cacheTables = none)
    (h : ArchOut w (w.archList q.rare) q res rows) : StepOut w q res rows := by
  cases rows with
  | nil => exact h
  | cons r rs =>
    obtain ⟨q', h1, h2, h3, h4, h5, h6, h7, r1, r2, h8, h9, h10⟩ := h
    refine ⟨q', h1, h2, ⟨by omega, by omega, fun hh => by omega, fun _ => ⟨⟨_, h6⟩, h3⟩⟩,
      h3, h6, h7, ?_⟩
    simp only [remaining, h2.cacheTables, hc, h2.rels, h2.filter, h2.rare, h8, h9, h10]

/-- one `Next` call from a state satisfying the invariant yields the head of the remaining
    rows (or reports the end when there are none) and re-establishes the invariant -/
theorem step (w : World) (q : QueryObj) (rows : List (Nat × Nat)) (hinv : Inv q)
    (hrem : remaining w q = some rows) : StepOut w q (qNextPure w q) rows := by
  have hlt : ¬ q.table < -1 := by have := hinv.table_ge; omega
  by_cases hidx : (q.index : Int) < q.maxIndex
  · -- next row of the current table
    have hres : qNextPure w q = some ({ q with index := q.index + 1 }, true) := by
      simp [qNextPure, hlt, hidx]
    obtain ⟨⟨t, ht⟩, htab⟩ := hinv.cur_ok (by omega)
    rw [hres]
    -- in either mode `remaining` is `curRows q ++ tail` with `tail` independent of `index`:
    -- `curRows_step` exposes the head, the rest is what the stepped cursor denotes
    have key : ∃ rs, rows = (q.cur.getD 0, q.index + 1) :: rs ∧
        remaining w { q with index := q.index + 1 } = some rs := by
      simp only [remaining] at hrem ⊢
      rw [curRows_step q hidx] at hrem
      cases hc : q.cacheTables with
      | some ts =>
        simp only [hc, Option.map_eq_some_iff] at hrem ⊢
        obtain ⟨x, hx, rfl⟩ := hrem
        exact ⟨_, rfl, x, hx, rfl⟩
      | none =>
        simp only [hc] at hrem ⊢
        split at hrem
        · next r1 r2 h1 h2 =>
          simp only [Option.some.injEq] at hrem
          subst hrem
          exact ⟨_, rfl, rfl⟩
        · cases hrem
    obtain ⟨rs, rfl, hrs⟩ := key
    exact ⟨_, rfl, ⟨rfl, rfl, rfl, rfl, rfl⟩,
      ⟨hinv.table_ge, hinv.arch_ge, hinv.fresh_tables, hinv.cur_ok⟩, htab, by simp [ht], rfl, hrs⟩
  -- current table exhausted (`curRows q = []`): `Next` goes on to `nextTable`, whose outcome
  -- (`TblOut`) is read against the shape of the rows its list still yields
  · have hcr := curRows_done q hidx
    cases hc : q.cacheTables with
    | some ts =>
      -- cached query: a single table list, so `rows` is exactly what `nextTable` scans; `Inv` of
      -- the new cursor comes from `Keep` (archetype and `tables` unchanged) and the found table
      have hres : qNextPure w q = qNextTable w q ts := by
        simp [qNextPure, hlt, hidx, hc]
      simp only [remaining, hc, hcr, List.nil_append, Option.map_id'] at hrem
      have nt := nextTable_out w ts q rows hinv.table_ge hrem
      rw [hres]
      cases rows with
      | nil =>
        obtain ⟨q', h1, h2, h3⟩ := nt
        exact ⟨q', h1, h2.toFrame, h3⟩
      | cons r rs =>
        obtain ⟨q', h1, h2, h3, h4, h5, h6, r1, h7, h8⟩ := nt
        refine ⟨q', h1, h2.toFrame, ⟨by omega, by rw [h2.archetype]; exact hinv.arch_ge,
          fun hh => by rw [h2.tables]; exact hinv.fresh_tables (by rw [← h2.archetype]; exact hh),
          fun _ => ⟨⟨_, h5⟩, h3⟩⟩, h3, h5, h6, ?_⟩
        simp only [remaining, h2.cacheTables, hc, h2.rels, h7, h8, Option.map_some]
    | none =>
      -- uncached: `rows = r1 ++ r2`, `r1` from the rest of the current archetype's tables,
      -- `r2` from the later archetypes
      simp only [remaining, hc, hcr, List.nil_append] at hrem
      split at hrem
      · next r1 r2 h1 h2 =>
        simp only [Option.some.injEq] at hrem
        subst hrem
        by_cases ha : q.archetype ≥ 0
        · have hres : qNextPure w q =
              match qNextTable w q q.tables with
              | none => none
              | some (q, true) => some (q, true)
              | some (q, false) => qNextArchetype w q := by
            simp [qNextPure, hlt, hidx, hc, ha]
          have nt := nextTable_out w q.tables q r1 hinv.table_ge h1
          rw [hres]
          cases r1 with
          | nil =>
            -- `r1 = []`: `nextArchetype` takes over from the `q'` that `nextTable` left; by `Keep`
            -- it is `q` from the archetype level up, so `h2` still says what the later ones yield
            obtain ⟨q', h3, hk, h4⟩ := nt
            simp only [h3, List.nil_append]
            refine StepOut.of_frame hk.toFrame (StepOut.of_arch (hk.cacheTables.trans hc) ?_)
            apply nextArchetype_out w q' r2 (by rw [hk.archetype]; exact hinv.arch_ge) h4
            rw [hk.filter, hk.rels, hk.rare, hk.archetype]; exact h2
          | cons r rs =>
            obtain ⟨q', h3, hk, h4, h5, h6, h7, r1', h8, h9⟩ := nt
            simp only [h3, List.cons_append]
            refine ⟨q', rfl, hk.toFrame, ⟨by omega, by rw [hk.archetype]; exact hinv.arch_ge,
              fun hh => by rw [hk.tables]; exact hinv.fresh_tables (by rw [← hk.archetype]; exact hh),
              fun _ => ⟨⟨_, h6⟩, h4⟩⟩, h4, h6, h7, ?_⟩
            simp only [remaining, hk.cacheTables, hc, hk.rels, hk.filter, hk.rare, hk.tables,
              hk.archetype, h8, h2, h9, List.append_assoc]
        -- fresh cursor (`archetype = -1`): `tables = []` by `Inv.fresh_tables`, so `r1 = []` and
        -- `nextArchetype` alone produces `rows`
        · have hres : qNextPure w q = qNextArchetype w q := by
            simp [qNextPure, hlt, hidx, hc, ha]
          have ht : q.tables = [] := hinv.fresh_tables (by omega)
          rw [ht] at h1
          simp only [List.drop_nil, scanRows, Option.some.injEq] at h1
          subst h1
          rw [hres]
          exact StepOut.of_arch hc (nextArchetype_out w q _ hinv.arch_ge hinv.table_ge h2)
      · cases hrem

/-! ## Draining -/

theorem drainAux_of_remaining (w : World) :
    ∀ (rows : List (Nat × Nat)) (q : QueryObj) (fuel : Nat), Inv q → remaining w q = some rows →
      rows.length < fuel →
      ∃ qf, drainPureAux w q fuel = some (qf, true, rows) ∧ Frame q qf ∧ -1 ≤ qf.table := by
  intro rows
  induction rows with
  | nil =>
    intro q fuel hinv hrem hfuel
    obtain ⟨f, rfl⟩ := Nat.exists_eq_add_one.2 (Nat.zero_lt_of_lt hfuel)
    obtain ⟨q', h1, h2, h3⟩ := step w q [] hinv hrem
    exact ⟨q', by simp [drainPureAux, h1], h2, h3⟩
  | cons r rs ih =>
    intro q fuel hinv hrem hfuel
    obtain ⟨f, rfl⟩ := Nat.exists_eq_add_one.2 (Nat.zero_lt_of_lt hfuel)
    obtain ⟨q', h1, h2, h3, _, h5, h6, h7⟩ := step w q (r :: rs) hinv hrem
    obtain ⟨qf, g1, g2, g3⟩ := ih q' f h3 h7 (Nat.lt_of_succ_lt_succ hfuel)
    refine ⟨qf, ?_, h2.trans g2, g3⟩
    simp [drainPureAux, h1, g1, h5, h6]

/-! ## The counting walk, recursively -/

/-- step of the cached counting walk -/
def selC (w : World) (rels : List RelID) (acc : Option (List Nat)) (t : Nat) : Option (List Nat) :=
  match acc with
  | none => none
  | some acc =>
    let T := w.tbl t
    if T.len == 0 then some acc else
    match T.matchesRels rels with
    | none => none
    | some true => some (acc ++ [t])
    | some false => some acc

/-- inner step of the uncached counting walk (tables of a relation archetype) -/
def selT (w : World) (rels : List RelID) (acc : Option (List Nat)) (t : Nat) : Option (List Nat) :=
  match acc with
  | none => none
  | some acc =>
    match (w.tbl t).matchesRels rels with
    | none => none
    | some true => some (acc ++ [t])
    | some false => some acc

/-- outer step of the uncached counting walk -/
def selA (w : World) (f : Filter) (rels : List RelID) (acc : Option (List Nat)) (a : Nat) :
    Option (List Nat) :=
  match acc with
  | none => none
  | some acc =>
    let A := w.arch a
    if !f.matchesMask A.mask then some acc
    else if !A.hasRelations then some (acc ++ [A.tables.tables.getD 0 0])
    else match A.getTables rels with
      | none => none
      | some ts => ts.foldl (selT w rels) (some acc)

theorem qSelected_eq (w : World) (q : QueryObj) :
    qSelected w q = match q.cacheTables with
      | some ts => ts.foldl (selC w q.rels) (some [])
      | none => (w.archList q.rare).foldl (selA w q.filter q.rels) (some []) := rfl

theorem foldl_none {α : Type} (s : Option α → Nat → Option α) (hn : ∀ t, s none t = none)
    (ts : List Nat) : ts.foldl s none = none := by
  induction ts with
  | nil => rfl
  | cons t rest ih => rw [List.foldl_cons, hn, ih]

theorem foldl_selA_none (w : World) (f : Filter) (rels : List RelID) (as : List Nat) :
    as.foldl (selA w f rels) none = none :=
  foldl_none _ (fun _ => rfl) as

/-- A counting step that skips the tables in `P` (all of them empty) and is `selT` on the others
    selects tables whose rows are what `scanRows` yields: `selT` itself (`P` empty) and `selC`
    (`P` = the empty tables) are of this form. -/
theorem sel_spec (w : World) (rels : List RelID) (s : Option (List Nat) → Nat → Option (List Nat))
    (P : Nat → Bool) (hs : ∀ acc t, s acc t = if P t then acc else selT w rels acc t)
    (hP : ∀ t, P t = true → (w.tbl t).len = 0) :
    ∀ (ts : List Nat) (acc res : List Nat), ts.foldl s (some acc) = some res →
      ∃ sel, res = acc ++ sel ∧ scanRows w rels ts = some (sel.flatMap (rowsOf w)) := by
  have hn : ∀ t, s none t = none := fun t => by rw [hs]; split <;> rfl
  intro ts
  induction ts with
  | nil =>
    intro acc res h
    simp only [List.foldl_nil, Option.some.injEq] at h
    exact ⟨[], by simp [h], rfl⟩
  | cons t rest ih =>
    intro acc res h
    rw [List.foldl_cons, hs] at h
    simp only [scanRows]
    by_cases hp : P t = true
    · rw [if_pos hp] at h
      simpa [hP t hp] using ih acc res h
    · rw [if_neg hp] at h
      cases hm : (w.tbl t).matchesRels rels with
      | none =>
        have e : selT w rels (some acc) t = none := by simp [selT, hm]
        rw [e, foldl_none s hn] at h
        cases h
      | some b =>
        cases b with
        | false =>
          have e : selT w rels (some acc) t = some acc := by simp [selT, hm]
          rw [e] at h
          obtain ⟨sel, h1, h2⟩ := ih acc res h
          exact ⟨sel, h1, by simp [h2]⟩
        | true =>
          have e : selT w rels (some acc) t = some (acc ++ [t]) := by simp [selT, hm]
          rw [e] at h
          obtain ⟨sel, h1, h2⟩ := ih _ res h
          refine ⟨t :: sel, by simp [h1], ?_⟩
          by_cases hl : (w.tbl t).len = 0
          · simp [hl, h2, rowsOf_empty w t hl]
          · simp [hl, h2]

theorem selT_spec (w : World) (rels : List RelID) :
    ∀ (ts : List Nat) (acc res : List Nat), ts.foldl (selT w rels) (some acc) = some res →
      ∃ sel, res = acc ++ sel ∧ scanRows w rels ts = some (sel.flatMap (rowsOf w)) :=
  sel_spec w rels _ (fun _ => false) (fun _ _ => rfl) (fun _ h => nomatch h)

theorem selC_spec (w : World) (rels : List RelID) :
    ∀ (ts : List Nat) (acc res : List Nat), ts.foldl (selC w rels) (some acc) = some res →
      ∃ sel, res = acc ++ sel ∧ scanRows w rels ts = some (sel.flatMap (rowsOf w)) :=
  sel_spec w rels _ (fun t => (w.tbl t).len == 0) (fun acc t => by
      cases acc with
      | none => exact (ite_self _).symm
      | some _ => rfl)
    (fun _ h => eq_of_beq h)

theorem selA_spec (w : World) (f : Filter) (rels : List RelID) :
    ∀ (as : List Nat) (acc res : List Nat), as.foldl (selA w f rels) (some acc) = some res →
      ∃ sel, res = acc ++ sel ∧ archRows w f rels as = some (sel.flatMap (rowsOf w)) := by
  intro as
  induction as with
  | nil =>
    intro acc res h
    simp only [List.foldl_nil, Option.some.injEq] at h
    exact ⟨[], by simp [h], rfl⟩
  | cons a rest ih =>
    intro acc res h
    simp only [List.foldl_cons] at h
    cases hx : selA w f rels (some acc) a with
    | none => rw [hx, foldl_selA_none] at h; cases h
    | some acc' =>
      rw [hx] at h
      obtain ⟨sel', h1, h2⟩ := ih acc' res h
      simp only [archRows]
      simp only [selA] at hx
      by_cases hmask : f.matchesMask (w.arch a).mask = true
      · simp only [hmask, Bool.not_true, Bool.false_eq_true, if_false] at hx ⊢
        by_cases hrel : (w.arch a).hasRelations = true
        · simp only [hrel, Bool.not_true, Bool.false_eq_true, if_false] at hx ⊢
          cases hgt : (w.arch a).getTables rels with
          | none => simp [hgt] at hx
          | some ts =>
            simp only [hgt] at hx ⊢
            obtain ⟨selA', g1, g2⟩ := selT_spec w rels ts acc acc' hx
            exact ⟨selA' ++ sel', by simp [h1, g1], by simp [g2, h2]⟩
        · have hrel' : (w.arch a).hasRelations = false := by simpa using hrel
          simp only [hrel', Bool.not_false, if_true, Option.some.injEq] at hx ⊢
          exact ⟨(w.arch a).tables.tables.getD 0 0 :: sel', by simp [h1, ← hx], by simp [h2]⟩
      · have hmask' : f.matchesMask (w.arch a).mask = false := by simpa using hmask
        simp only [hmask', Bool.not_false, if_true, Option.some.injEq] at hx ⊢
        exact ⟨sel', by simp [h1, ← hx], h2⟩

/-! ## A fresh cursor denotes the rows of the counting walk -/

theorem Fresh.inv {q : QueryObj} (hf : Fresh q) : Inv q :=
  ⟨by rw [hf.table]; omega, by rw [hf.archetype]; omega, fun _ => hf.tables,
   fun h => by rw [hf.maxIndex] at h; omega⟩

theorem remaining_fresh (w : World) (q : QueryObj) (ts : List Nat) (hf : Fresh q)
    (hsel : qSelected w q = some ts) : remaining w q = some (ts.flatMap (rowsOf w)) := by
  have hcr : curRows q = [] := curRows_done q (by rw [hf.index, hf.maxIndex]; omega)
  rw [qSelected_eq] at hsel
  simp only [remaining, hcr, hf.table, hf.archetype, hf.tables]
  cases hc : q.cacheTables with
  | some ts0 =>
    simp only [hc] at hsel ⊢
    obtain ⟨sel, h1, h2⟩ := selC_spec w q.rels ts0 [] ts hsel
    simp only [List.nil_append] at h1
    subst h1
    simpa using h2
  | none =>
    simp only [hc] at hsel ⊢
    obtain ⟨sel, h1, h2⟩ := selA_spec w q.filter q.rels _ [] ts hsel
    simp only [List.nil_append] at h1
    subst h1
    simp [scanRows, h2]

/-! ## Fuel: `drainFuel w` is enough when the selected tables are pairwise distinct -/

theorem foldl_add_eq_sum (l : List Nat) : l.foldl (· + ·) 0 = l.sum := List.sum_eq_foldl.symm

theorem flatMap_rowsOf_length (w : World) (ts : List Nat) :
    (ts.flatMap (rowsOf w)).length = (ts.map fun t => (w.tbl t).len).sum := by
  simp [List.length_flatMap, rowsOf_length]

theorem sum_set_zero : ∀ (L : List Nat) (t : Nat), (L.set t 0).sum + L.getD t 0 = L.sum := by
  intro L
  induction L with
  | nil => intro t; simp
  | cons x L ih =>
    intro t
    cases t with
    | zero => simp; omega
    | succ t =>
      have := ih t
      simp only [List.set_cons_succ, List.sum_cons, List.getD_cons_succ]
      omega

theorem sum_getD_le_of_nodup : ∀ (ts : List Nat) (L : List Nat), ts.Nodup →
    (ts.map fun t => L.getD t 0).sum ≤ L.sum := by
  intro ts
  induction ts with
  | nil => intro L _; simp
  | cons t ts ih =>
    intro L hnd
    obtain ⟨hnot, hnd'⟩ := List.nodup_cons.mp hnd
    have h1 := ih (L.set t 0) hnd'
    have h2 : (ts.map fun s => (L.set t 0).getD s 0) = ts.map fun s => L.getD s 0 := by
      apply List.map_congr_left
      intro s hs
      have : t ≠ s := fun e => hnot (e ▸ hs)
      simp [List.getD_eq_getElem?_getD, List.getElem?_set_ne this]
    rw [h2] at h1
    have h3 := sum_set_zero L t
    simp only [List.map_cons, List.sum_cons]
    omega

theorem rows_lt_drainFuel (w : World) (ts : List Nat) (hnd : ts.Nodup) :
    (ts.flatMap (rowsOf w)).length < drainFuel w := by
  rw [flatMap_rowsOf_length]
  have h := sum_getD_le_of_nodup ts (w.tables.map (·.len)) hnd
  have e : (ts.map fun t => (w.tables.map (·.len)).getD t 0) = ts.map fun t => (w.tbl t).len := by
    apply List.map_congr_left
    intro t _
    simp only [World.tbl, List.getD_eq_getElem?_getD, List.getElem?_map]
    cases w.tables[t]? <;> rfl
  rw [e] at h
  simp only [drainFuel, foldl_add_eq_sum]
  omega

/-! ## `Count` and `EntityAt` -/

/-- `Count` equals the number of rows visited -/
theorem count_eq_visits (w : World) (q : QueryObj) (n : Nat) (h : qCount w q = some n) :
    ∃ rows, expected w q = some rows ∧ rows.length = n := by
  simp only [qCount, Option.map_eq_some_iff] at h
  obtain ⟨ts, hts, rfl⟩ := h
  exact ⟨ts.flatMap (rowsOf w), by simp [expected, hts],
    by rw [flatMap_rowsOf_length, foldl_add_eq_sum]⟩

theorem entityAt_go (w : World) (i : Nat) : ∀ (ts : List Nat) (count : Nat), count ≤ i →
    qEntityAt.go w i count ts =
      ((ts.flatMap (rowsOf w))[i - count]?).map (fun p => (w.tbl p.1).getEntity p.2) := by
  intro ts
  induction ts with
  | nil => intro count _; simp [qEntityAt.go]
  | cons t rest ih =>
    intro count hle
    simp only [qEntityAt.go, List.flatMap_cons]
    by_cases h : count + (w.tbl t).len > i
    · have hlt : i - count < (rowsOf w t).length := by rw [rowsOf_length]; omega
      simp only [h, if_true]
      rw [List.getElem?_append_left hlt]
      have hlt' : i - count < (w.tbl t).len := by omega
      simp [rowsOf, hlt']
    · have hge : (rowsOf w t).length ≤ i - count := by rw [rowsOf_length]; omega
      simp only [h, if_false]
      rw [ih _ (by omega), List.getElem?_append_right hge, rowsOf_length]
      congr 2
      omega

/-- `EntityAt(i)` is the entity at the `i`-th visited row, and the out-of-bounds panic
    (`some none`) when there is no such row -/
theorem entityAt_eq (w : World) (q : QueryObj) (i : Nat) :
    qEntityAt w q i =
      (expected w q).map fun rows => (rows[i]?).map fun p => (w.tbl p.1).getEntity p.2 := by
  simp only [qEntityAt, expected, Option.map_map]
  congr 1
  funext ts
  simpa using entityAt_go w i ts 0 (Nat.zero_le _)

theorem entityAt_eq_visit (w : World) (q : QueryObj) (rows : List (Nat × Nat)) (i : Nat)
    (hrows : expected w q = some rows) :
    (∀ (h : i < rows.length),
        qEntityAt w q i = some (some ((w.tbl rows[i].1).getEntity rows[i].2))) ∧
    (rows.length ≤ i → qEntityAt w q i = some none) := by
  rw [entityAt_eq, hrows]
  constructor
  · intro h; simp [h]
  · intro h; simp [h]

/-! ## Monadic level: `qNext`, `drainFrom` -/


theorem qNext_eq (q : QueryObj) (w : World) :
    qNext q w = match qNextPure w q with
      | none => if q.table < -1 then .panic .queryDone w else .panic .runtime w
      | some (q', true) => .ok (q', true) w
      | some (q', false) =>
        match qClose q' w with
        | .ok q'' w' => .ok (q'', false) w'
        | .panic k w' => .panic k w' := by
  unfold qNext qNextPure
  by_cases h1 : q.table < -1
  · simp [h1]
  · by_cases h2 : (q.index : Int) < q.maxIndex
    · simp [h1, h2]
    · simp only [h1, h2, if_false, M.bind_apply, M.get_apply]
      cases q.cacheTables with
      | some ts =>
        simp only []
        rcases w.qNextTable q ts with _ | ⟨q1, _ | _⟩ <;> simp
        cases qClose q1 w <;> rfl
      | none =>
        simp only []
        generalize (if q.archetype ≥ 0 then w.qNextTable q q.tables else some (q, false)) = r1
        rcases r1 with _ | ⟨q1, _ | _⟩
        · simp
        · simp only []
          rcases w.qNextArchetype q1 with _ | ⟨q2, _ | _⟩ <;> simp
          cases qClose q2 w <;> rfl
        · simp

/-- the cursor after `Close` -/
def closed (q : QueryObj) : QueryObj :=
  { q with archetype := -2, table := -2, tables := [], cur := none, cacheTables := none }

theorem qClose_ok (q : QueryObj) (w : World) (l' : Lock) (h : -1 ≤ q.table)
    (hl : w.locks.unlock q.lockBit = some l') :
    qClose q w = .ok (closed q) { w with locks := l' } := by
  have h1 : ¬ q.table < -1 := by omega
  simp [qClose, h1, unlock, hl, closed]

theorem drainFrom_true (q q' : QueryObj) (w : World) (fuel : Nat)
    (h : qNext q w = .ok (q', true) w) :
    drainFrom q (fuel + 1) w =
      match drainFrom q' fuel w with
      | .ok (qf, rest) w' =>
        .ok (qf, { e := (qEntity w q').getD Ent.zero, table := q'.cur.getD 0, row := q'.index } :: rest) w'
      | .panic k w' => .panic k w' := by
  simp [drainFrom, h]
  cases drainFrom q' fuel w <;> rfl

theorem drainFrom_false (q q' : QueryObj) (w w' : World) (fuel : Nat)
    (h : qNext q w = .ok (q', false) w') :
    drainFrom q (fuel + 1) w = .ok (q', []) w' := by
  simp [drainFrom, h]

theorem qEntity_at (w : World) (q : QueryObj) (t : Nat) (h1 : 0 ≤ q.table) (h2 : q.cur = some t) :
    qEntity w q = some ((w.tbl t).getEntity q.index) := by
  have : ¬ q.table < 0 := by omega
  simp [qEntity, this, h2]

theorem drainFrom_of_remaining (w : World) (l' : Lock) :
    ∀ (rows : List (Nat × Nat)) (q : QueryObj) (fuel : Nat), Inv q → remaining w q = some rows →
      rows.length < fuel → w.locks.unlock q.lockBit = some l' →
      ∃ qf visits, drainFrom q fuel w = .ok (closed qf, visits) { w with locks := l' } ∧
        Frame q qf ∧ visits.map (fun v => (v.table, v.row)) = rows ∧
        visits.map (·.e) = rows.map (fun p => (w.tbl p.1).getEntity p.2) := by
  intro rows
  induction rows with
  | nil =>
    intro q fuel hinv hrem hfuel hl
    obtain ⟨f, rfl⟩ := Nat.exists_eq_add_one.2 (Nat.zero_lt_of_lt hfuel)
    obtain ⟨q', h1, h2, h3⟩ := step w q [] hinv hrem
    have hn : qNext q w = .ok (closed q', false) { w with locks := l' } := by
      rw [qNext_eq, h1]
      simp only []
      rw [qClose_ok q' w l' h3 (by rw [h2.lockBit]; exact hl)]
    exact ⟨q', [], drainFrom_false q _ w _ f hn, h2, rfl, rfl⟩
  | cons r rs ih =>
    intro q fuel hinv hrem hfuel hl
    obtain ⟨f, rfl⟩ := Nat.exists_eq_add_one.2 (Nat.zero_lt_of_lt hfuel)
    obtain ⟨q', h1, h2, h3, h4, h5, h6, h7⟩ := step w q (r :: rs) hinv hrem
    have hn : qNext q w = .ok (q', true) w := by rw [qNext_eq, h1]
    obtain ⟨qf, visits, g1, g2, g3, g4⟩ :=
      ih q' f h3 h7 (Nat.lt_of_succ_lt_succ hfuel) (by rw [h2.lockBit]; exact hl)
    refine ⟨qf, { e := (qEntity w q').getD Ent.zero, table := q'.cur.getD 0, row := q'.index }
      :: visits, ?_, h2.trans g2, ?_, ?_⟩
    · rw [drainFrom_true q q' w f hn, g1]
    · simp [g3, h5, h6]
    · simp [g4, qEntity_at w q' r.1 h4 h5, h6]

/-! ## Every row exactly once -/

theorem rows_nodup (w : World) (ts : List Nat) (hnd : ts.Nodup) :
    (ts.flatMap (rowsOf w)).Nodup := by
  induction ts with
  | nil => simp
  | cons t rest ih =>
    obtain ⟨hnot, hnd'⟩ := List.nodup_cons.mp hnd
    rw [List.flatMap_cons, List.nodup_append]
    refine ⟨?_, ih hnd', ?_⟩
    · unfold rowsOf
      refine List.Pairwise.map _ ?_ (List.nodup_range (n := (w.tbl t).len))
      intro a b hab h
      exact hab (by injection h)
    · intro a ha b hb hab
      subst hab
      simp only [rowsOf, List.mem_map, List.mem_flatMap] at ha hb
      obtain ⟨_, _, rfl⟩ := ha
      obtain ⟨t', ht', _, _, h⟩ := hb
      injection h with h1 _
      exact hnot (h1 ▸ ht')

/-! ## `drain` = open + iterate + close -/

def _root_.Ark.World.withLocks (w : World) (l : Lock) : World := { w with locks := l }

theorem _root_.Ark.World.withLocks_withLocks (w : World) (l l' : Lock) :
    (w.withLocks l).withLocks l' = w.withLocks l' := rfl

theorem _root_.Ark.World.withLocks_self (w : World) : w.withLocks w.locks = w := rfl

/-- the archetype list selector `Query()` computes: the rare component of a typed filter with
    type parameters, otherwise all archetypes -/
def rareOf (fo : FilterObj) (w : World) : Option Comp :=
  if (fo.typed && !fo.ids.isEmpty) = true then some (w.rareComponent fo.ids) else none

/-- the query object `Query(extra…)` returns: `ct` is what it read of the cache (`none` for an
    unregistered filter, the entry's table list for a registered one), `b` the lock bit -/
def openedWith (fo : FilterObj) (extra : List RelID) (ct : Option (List Nat)) (w : World) (b : Nat) :
    QueryObj :=
  { filter := fo.filter, rels := effRels fo extra, cacheTables := ct, rare := rareOf fo w,
    lockBit := b }

/-- what `Query(extra…)` reads of the cache; `none`: the entry is missing (a runtime panic) -/
def cacheTablesOf (w : World) (fo : FilterObj) : Option (Option (List Nat)) :=
  match fo.cache with
  | some id => (w.cacheEntry? id).map fun ce => some ce.tables.tables
  | none => some none

theorem cacheTablesOf_uncached (w : World) {fo : FilterObj} (hc : fo.cache = none) :
    cacheTablesOf w fo = some none := by
  simp only [cacheTablesOf, hc]

theorem cacheTablesOf_cached {w : World} {fo : FilterObj} {id : Nat} {ce : CacheEntry}
    (hc : fo.cache = some id) (he : w.cacheEntry? id = some ce) :
    cacheTablesOf w fo = some (some ce.tables.tables) := by
  simp only [cacheTablesOf, hc, he, Option.map_some]

theorem effRels_uncached {fo : FilterObj} (hc : fo.cache = none) (extra : List RelID) :
    effRels fo extra = fo.rels ++ extra := by
  simp [effRels, hc]

theorem effRels_cached {fo : FilterObj} {id : Nat} (hc : fo.cache = some id) (extra : List RelID) :
    effRels fo extra = extra := by
  simp [effRels, hc]

/-- **`FilterN.Query(extra…)` / `UnsafeFilter.Query(extra…)` in closed form**: a typed filter
    validates the per-call relations, a registered filter looks up its cache entry, then `Lock()`;
    the first of the three to fail is the panic, and nothing has been written before it. -/
theorem qOpen_closed (fo : FilterObj) (extra : List RelID) (w : World) :
    qOpen fo extra w =
      match (if fo.typed then preCheckTyped fo.filter.mask extra else pure ()) w with
      | .panic k w' => .panic k w'
      | .ok _ w' =>
        match cacheTablesOf w' fo with
        | none => .panic .runtime w'
        | some ct =>
          match w'.locks.lock with
          | none => .panic .outOfLocks w'
          | some (l1, b) => .ok (openedWith fo extra ct w' b) (w'.withLocks l1) := by
  -- what follows the validation, on the world `w'` it leaves
  have tail : ∀ (w' : World), (do
      let w ← M.get
      let cacheTables ← match fo.cache with
        | some id =>
          match w.cacheEntry? id with
          | some ce => pure (some ce.tables.tables)
          | none => M.panic .runtime
        | none => pure none
      let rare := if fo.typed && !fo.ids.isEmpty then some (w.rareComponent fo.ids) else none
      let b ← lock
      pure { filter := fo.filter, rels := effRels fo extra, cacheTables, rare, lockBit := b } :
        W QueryObj) w' =
        match cacheTablesOf w' fo with
        | none => .panic .runtime w'
        | some ct =>
          match w'.locks.lock with
          | none => .panic .outOfLocks w'
          | some (l1, b) => .ok (openedWith fo extra ct w' b) (w'.withLocks l1) := by
    intro w'
    unfold cacheTablesOf openedWith rareOf World.withLocks
    cases fo.cache with
    | none => cases hl : w'.locks.lock <;> simp [World.lock, hl, bind, M.bind, M.get, pure, M.pure]
    | some id =>
      cases he : w'.cacheEntry? id with
      | none => simp [he, bind, M.bind, M.get, M.panic]
      | some ce =>
        cases hl : w'.locks.lock <;> simp [he, World.lock, hl, bind, M.bind, M.get, pure, M.pure]
  unfold qOpen
  by_cases ht : fo.typed = true
  · rw [if_pos ht, if_pos ht, M.bind_apply]
    cases preCheckTyped fo.filter.mask extra w with
    | panic k w' => rfl
    | ok u w' => exact tail w'
  · rw [if_neg ht, if_neg ht]
    exact tail w

/-- once a typed filter has accepted the per-call relations and the entry of a registered filter
    has been found, `Lock()` decides -/
theorem qOpen_checked (fo : FilterObj) (extra : List RelID) (w : World)
    (hpre : fo.typed = true → preCheckTyped fo.filter.mask extra w = .ok () w)
    {ct : Option (List Nat)} (hct : cacheTablesOf w fo = some ct) :
    qOpen fo extra w =
      match w.locks.lock with
      | none => .panic .outOfLocks w
      | some (l1, b) => .ok (openedWith fo extra ct w b) (w.withLocks l1) := by
  have hp : (if fo.typed then preCheckTyped fo.filter.mask extra else pure ()) w = .ok () w := by
    split
    · exact hpre ‹_›
    · rfl
  rw [qOpen_closed, hp]
  simp only [hct]

theorem qOpen_eq (fo : FilterObj) (extra : List RelID) (w : World)
    (hpre : fo.typed = true → preCheckTyped fo.filter.mask extra w = .ok () w)
    {ct : Option (List Nat)} (hct : cacheTablesOf w fo = some ct) {l1 : Lock} {b : Nat}
    (hl : w.locks.lock = some (l1, b)) :
    qOpen fo extra w = .ok (openedWith fo extra ct w b) (w.withLocks l1) := by
  rw [qOpen_checked fo extra w hpre hct, hl]

/-- a typed filter that rejects the per-call relations panics before anything else -/
theorem qOpen_rejected {fo : FilterObj} {extra : List RelID} {w w' : World} {k : PanicKind}
    (ht : fo.typed = true) (h : preCheckTyped fo.filter.mask extra w = .panic k w') :
    qOpen fo extra w = .panic k w' := by
  rw [qOpen_closed, if_pos ht, h]

theorem drain_of_qOpen_panic {fo : FilterObj} {extra : List RelID} {w w' : World} {k : PanicKind}
    (h : qOpen fo extra w = .panic k w') : drain fo extra w = .panic k w' := by
  simp only [drain, M.bind_apply, h]

theorem qOpen_fresh (fo : FilterObj) (extra : List RelID) (w w1 : World) (q : QueryObj)
    (h : qOpen fo extra w = .ok q w1) : Fresh q := by
  rw [qOpen_closed] at h
  split at h
  · cases h
  · split at h
    · cases h
    · split at h
      · cases h
      · cases h; exact ⟨rfl, rfl, rfl, rfl, rfl, rfl⟩

/-- **Monadic drain, complete operation**: if opening succeeds (yielding `q` on the locked world
    `w1`), the counting walk selects pairwise distinct tables `ts` and the lock bit taken by
    `qOpen` can be released, then `drain` returns exactly the rows of `ts` with their entities,
    and the only difference between `w1` and the final world is the lock. -/
theorem drain_rows_monadic (fo : FilterObj) (extra : List RelID) (w w1 : World) (q : QueryObj)
    (ts : List Nat) (l' : Lock) (ho : qOpen fo extra w = .ok q w1)
    (hsel : qSelected w1 q = some ts) (hnd : ts.Nodup)
    (hl : w1.locks.unlock q.lockBit = some l') :
    ∃ visits, drain fo extra w = .ok visits { w1 with locks := l' } ∧
      visits.map (fun v => (v.table, v.row)) = ts.flatMap (rowsOf w1) ∧
      visits.map (·.e) = (ts.flatMap (rowsOf w1)).map (fun p => (w1.tbl p.1).getEntity p.2) := by
  have hf := qOpen_fresh fo extra w w1 q ho
  obtain ⟨qf, visits, h1, _, h3, h4⟩ := drainFrom_of_remaining w1 l' _ q _ hf.inv
    (remaining_fresh w1 q ts hf hsel) (rows_lt_drainFuel w1 ts hnd) hl
  exact ⟨visits, by simp [drain, ho, h1], h3, h4⟩

end Drain
end Ark
