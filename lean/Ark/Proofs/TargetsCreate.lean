/-
  Ark.Proofs.TargetsCreate — C04 at world level: `findOrCreateTableAdd` in a world with relations
  (`AddedRel`; `AddedRelU` while the targets of a batch are not flagged yet), the relation
  invariants along the row steps of a creation (`placedW`, `registerW`, `writeValsW`; the writes
  under `TInv`: `WriteRelPost`), and `NewEntity` with relations (`opNewEntity_rel_full`:
  `NewRelPost` and `NewRelMore` in one proof; `opNewEntity_rel_spec` is its first half).
-/
import Ark.Proofs.TargetsInv

set_option autoImplicit false

namespace Ark

open World Ark.Props.C01World

/-! ## 1. `findOrCreateTableAdd` with relations -/

namespace World

theorem relsForAdd_eq (old : Table) (rels : List RelID) : relsForAdd old rels = old.relIDs ++ rels := by
  unfold relsForAdd
  cases rels with
  | nil => simp
  | cons r rest => simp

theorem graphFindAdd_go_new (w : World) : ∀ (add : List Comp) (m m' : Mask) (w' : World),
    graphFindAdd.go w m add = .ok m' w' → ∀ (c : Comp), c ∈ add → m.get c = false
  | [], _, _, _, _, c, hc => by cases hc
  | x :: rest, m, m', w', h, c, hc => by
    simp only [graphFindAdd.go] at h
    split at h
    · cases h
    · rename_i hx
      rcases List.mem_cons.1 hc with rfl | hm
      · simpa using hx
      · have := graphFindAdd_go_new w rest (m.set x) m' w' h c hm
        rw [Mask.get_set] at this
        cases hg : m.get c with
        | false => rfl
        | true => rw [hg] at this; simp at this

theorem graphFindAdd_new {m m' : Mask} {add : List Comp} {w w' : World}
    (h : graphFindAdd m add w = .ok m' w') : ∀ (c : Comp), c ∈ add → m.get c = false :=
  graphFindAdd_go_new w add m m' w' h

theorem findOrCreateTableAdd_new {oldT : Nat} {startMask : Mask} {add : List Comp}
    {rels : List RelID} {w w' : World} {r : Nat × Nat × Mask}
    (hok : findOrCreateTableAdd oldT startMask add rels w = .ok r w') :
    ∀ (c : Comp), c ∈ add → startMask.get c = false :=
  graphFindAdd_new (graphFindAdd_of_lookup_ok hok)

end World

structure AddedRel (w w' : World) (oldT : Nat) (rels : List RelID) (mask : Mask) (t a : Nat) :
    Prop where
  foc : FoundOrCreated w w' mask t a
  rel : RelInv w'
  flags : FlagsOKUpTo w' rels
  freeEmpty : FreeEmpty w'
  untouched : Untouched w w'
  relArchs : w.relationArchetypes.length ≤ w'.relationArchetypes.length
  tgt : ∀ (r : RelID), r ∈ (w.tbl oldT).relIDs ++ rels → w.isRelComp r.comp = true →
    ∀ (i : Nat), (w'.tbl t).colIdx r.comp = some i →
      (w'.tbl t).isRel.getD i false = true ∧ (w'.tbl t).targets.getD i Ent.zero = r.target
  tkeep : t < w.tables.length → w'.tables[t]? = w.tables[t]? ∨ (w.tbl t).isFree = true
  tablesLen : w'.tables.length ≤ w.tables.length + 1

/-- `AddedRel` while the flags are complete only up to `rels0` (inside the lookup loop of a batch,
    where no target of the batch's relations is flagged yet) -/
structure AddedRelU (w w' : World) (oldT : Nat) (rels rels0 : List RelID) (mask : Mask) (t a : Nat) :
    Prop where
  foc : FoundOrCreated w w' mask t a
  rel : RelInv w'
  flags : FlagsOKUpTo w' rels0
  freeEmpty : FreeEmpty w'
  untouched : Untouched w w'
  relArchs : w.relationArchetypes.length ≤ w'.relationArchetypes.length
  tgt : ∀ (r : RelID), r ∈ (w.tbl oldT).relIDs ++ rels → w.isRelComp r.comp = true →
    ∀ (i : Nat), (w'.tbl t).colIdx r.comp = some i →
      (w'.tbl t).isRel.getD i false = true ∧ (w'.tbl t).targets.getD i Ent.zero = r.target
  tkeep : t < w.tables.length → w'.tables[t]? = w.tables[t]? ∨ (w.tbl t).isFree = true
  tablesLen : w'.tables.length ≤ w.tables.length + 1

/-- the lookup of `newEntity` / `add` with relations; `(w.tbl oldT).relIDs ++ rels` is the list it
    hands to `getTable` / `createTable` (`relsForAdd_eq`) -/
theorem RelInv.findOrCreateTableAddU {w w' : World} (hR : RelInv w) {rels0 : List RelID}
    (hF : FlagsOKUpTo w rels0) (hE : FreeEmpty w) {oldT : Nat} {startMask mask : Mask}
    {add : List Comp} {rels : List RelID} {t a : Nat}
    (hstart : ∀ (c : Nat), startMask.get c = true → c < w.kinds.length)
    (hreg : ∀ (c : Comp), c ∈ add → c < w.kinds.length)
    (hsub : ∀ (r : RelID), r ∈ (w.tbl oldT).relIDs ++ rels → r.target.isZero = false →
      w.isTarget.getD r.target.id false = true ∨
        ∃ (r0 : RelID), r0 ∈ rels0 ∧ r0.target = r.target)
    (hok : World.findOrCreateTableAdd oldT startMask add rels w = .ok (t, a, mask) w') :
    mask = add.foldl Mask.set startMask ∧ AddedRelU w w' oldT rels rels0 mask t a := by
  obtain ⟨hmask, foc, hrinv'⟩ := hR.sinv.findOrCreateTableAdd_of_ok_rinv hR.rinv hstart hreg hok
  have hu := findOrCreateTableAdd_untouched hok
  have hlen := findOrCreateTableAdd_tables_len hok
  refine ⟨hmask, ?_⟩
  -- `w1`, the world between `findOrCreateArch` and `getOrCreate` (only `SInvMid` holds there), comes
  -- from the total spec of `findOrCreateArch`; `tableFor_cases` identifies it with the run in `hok`
  obtain ⟨a1, w1, ha, hmid, hset, halt, hmask1, hpre, hlen1, ht, hk, he, hp, hc1, hcase⟩ :=
    hR.sinv.findOrCreateArch (add.foldl Mask.set startMask) (Mask.get_foldl_set_reg hstart hreg)
  obtain ⟨rfl, hgo⟩ := tableFor_cases ha (hmask ▸ (findOrCreateTableAdd_ok hok).2.2)
  have hbr := getOrCreate_ok_iff.1 hgo
  -- `findOrCreateArch` adds at most an archetype: tables, kinds and `isTarget` of `w1` are those of `w`,
  -- so the hypotheses on `w` hold of `w1`
  have hu1 := findOrCreateArch_untouched ha
  have aux1 : RelAux w1 := hR.aux.findOrCreateArch ha
  have hold1 : w1.tbl oldT = w.tbl oldT := tbl_congr ht _
  have hflag1 : FlagsOKUpTo w1 rels0 := by
    intro t0 T0 hT0 hf i hi hz
    rw [ht] at hT0; rw [hu1.isTarget]; exact hF t0 T0 hT0 hf i hi hz
  have hfree1 : FreeEmpty w1 := by
    intro t0 T0 hT0 hf; rw [ht] at hT0; exact hE t0 T0 hT0 hf
  have hrc1 : ∀ (c : Comp), w1.isRelComp c = w.isRelComp c := fun c => by
    simp only [World.isRelComp, hk]
  have hra1 := (findOrCreateArch_relArchs ha).1
  rcases hbr with ⟨hgt, rfl⟩ | ⟨hgt, hct⟩
  -- `getTable` found `t`: no change after `w1`, and its exact match against the same list gives `tgt`
  · refine
      { foc := foc, rel := ⟨foc.sinv, hrinv', aux1⟩, flags := hflag1, freeEmpty := hfree1,
        untouched := hu, relArchs := hra1, tgt := ?_, tkeep := fun _ => Or.inl (by rw [ht]),
        tablesLen := hlen }
    intro r hr hrc i hi
    have hTt := get_of_lt foc.tblLt
    have hcg := Table.colIdx_get hi
    -- `getTable_found` wants an archetype with relations: `r.comp` is a relation column of its table `t`
    have hrel : (w'.tbl t).isRel.getD i false = true := by
      obtain ⟨A, hA, e1, e2, _⟩ := foc.sinv.tblArch t _ hTt
      rw [e1] at hcg
      rw [e2, (foc.sinv.kindsOf _ A i r.comp hA hcg).1]
      rw [← hrc1] at hrc; exact hrc
    have hhas : (w'.arch a).hasRelations = true := by
      obtain ⟨A, hA, _, e2, _⟩ := foc.sinv.tblArch t _ hTt
      rw [foc.tblArch] at hA
      rw [arch_of_get hA]
      rw [e2] at hrel
      exact (foc.sinv.astruct _ A hA).hasRelations_of_rel hrel
    have hm := getTable_found hgt hhas
    rw [relsForAdd_eq] at hm
    exact (Table.matchesExact_yes hm).2 r hr i hi
  -- `getTable` found nothing; `createTable` asks that an archetype without relations have no table
  -- yet: it has none, or `getTable` had returned it
  · have hnr : (w1.arch a).hasRelations = false → (w1.arch a).tables.tables = [] := by
      intro hr
      rw [getTable_noRel _ hr] at hgt
      injection hgt with hgt _
      split at hgt
      · rename_i he
        exact List.isEmpty_iff.1 he
      · cases hgt
    have ct := hmid.createTable halt hnr hct
    rw [relsForAdd_eq] at ct hct
    -- `createTable` has checked that the list names no component twice
    have aux' : RelAux w' := aux1.created halt ct hct hmid (createTable_ok_nodup hct)
    obtain ⟨hTt, hTa, hTr, hTf, hTg, hTi⟩ := ct.tbl
    have hu2 := createTable_untouched hct
    refine
      { foc := foc, rel := ⟨foc.sinv, hrinv', aux'⟩, flags := ?_, freeEmpty := hfree1.created ct,
        untouched := hu, relArchs := by rw [(createTable_relArchs_cacheRels hct).1]; exact hra1,
        tgt := ?_, tkeep := ?_, tablesLen := hlen }
    -- every target of the new table is in the list: flagged already or a target of `rels0`, `hsub`
    · apply hflag1.created ct hu2.isTarget
      intro r hr hz
      rw [hu1.isTarget]
      exact hsub r hr hz
    · intro r hr _ i hi
      have hex := aux'.rels t _ hTt hTf
      exact hex.col (ct.sinvMid.ids_nodup hTt) (by rw [hTr]; exact hr) hi
    -- an index below the old length means `createTable` recycled a free table
    · intro hlt
      rcases ct.kind with ⟨k1, _⟩ | ⟨_, _, _, k4, _⟩
      · rw [ht] at k1; omega
      · right
        have : w1.tbl t = w.tbl t := tbl_congr ht _
        rw [← this]; exact k4

theorem AddedRelU.toRel {w w' : World} {oldT : Nat} {rels : List RelID} {mask : Mask} {t a : Nat}
    (ar : AddedRelU w w' oldT rels rels mask t a) : AddedRel w w' oldT rels mask t a :=
  ⟨ar.foc, ar.rel, ar.flags, ar.freeEmpty, ar.untouched, ar.relArchs, ar.tgt, ar.tkeep, ar.tablesLen⟩

theorem AddedRel.toU {w w' : World} {oldT : Nat} {rels : List RelID} {mask : Mask} {t a : Nat}
    (ar : AddedRel w w' oldT rels mask t a) : AddedRelU w w' oldT rels rels mask t a :=
  ⟨ar.foc, ar.rel, ar.flags, ar.freeEmpty, ar.untouched, ar.relArchs, ar.tgt, ar.tkeep, ar.tablesLen⟩

/-- a listed relation whose component is a column of the destination: the destination stores its
    target there -/
theorem AddedRelU.targetAt {w w' : World} {oldT : Nat} {rels rels0 : List RelID} {mask : Mask}
    {t a : Nat} (ar : AddedRelU w w' oldT rels rels0 mask t a) {r : RelID}
    (hr : r ∈ (w.tbl oldT).relIDs ++ rels) (hrc : w.isRelComp r.comp = true)
    (hc : r.comp ∈ (w'.tbl t).ids) : (w'.tbl t).targetAt r.comp = some r.target := by
  obtain ⟨i, hi⟩ := colIdx_some_iff_mem.mpr hc
  obtain ⟨k2, k3⟩ := ar.tgt r hr hrc i hi
  rw [Table.targetAt_of_col hi k2, k3]

/-- under the full flag invariant: the old relations are flagged already, the new ones are those
    still to be flagged -/
theorem RelInv.findOrCreateTableAdd_of_flags {w w' : World} (hR : RelInv w) (hF : FlagsOK w)
    (hE : FreeEmpty w) {oldT : Nat} {startMask mask : Mask} {add : List Comp} {rels : List RelID}
    {t a : Nat}
    (hstart : ∀ (c : Nat), startMask.get c = true → c < w.kinds.length)
    (hreg : ∀ (c : Comp), c ∈ add → c < w.kinds.length)
    (hold : oldT < w.tables.length) (hofree : (w.tbl oldT).isFree = false)
    (hok : World.findOrCreateTableAdd oldT startMask add rels w = .ok (t, a, mask) w') :
    mask = add.foldl Mask.set startMask ∧ AddedRel w w' oldT rels mask t a := by
  have hOT := get_of_lt hold
  obtain ⟨hm, ar⟩ := hR.findOrCreateTableAddU (hF.upTo rels) hE hstart hreg (fun r hr hz => by
    rcases List.mem_append.1 hr with h1 | h1
    · left
      obtain ⟨i, _, h3, h4⟩ := (hR.aux.rels oldT _ hOT hofree).sound r h1
      rw [← h4] at hz ⊢
      exact hF oldT _ hOT hofree i h3 hz
    · exact Or.inr ⟨r, h1, rfl⟩) hok
  exact ⟨hm, ar.toRel⟩

/-- (`hom`, `hnd`, `hin` say that the list handed to the lookup names no component twice; when a
    table is created, `createTable` has checked that itself) -/
theorem RelInv.findOrCreateTableAdd {w w' : World} (hR : RelInv w) (hF : FlagsOK w)
    (hE : FreeEmpty w) {oldT : Nat} {startMask mask : Mask} {add : List Comp} {rels : List RelID}
    {t a : Nat}
    (hstart : ∀ (c : Nat), startMask.get c = true → c < w.kinds.length)
    (hreg : ∀ (c : Comp), c ∈ add → c < w.kinds.length)
    (hold : oldT < w.tables.length) (hofree : (w.tbl oldT).isFree = false)
    (hom : ∀ (r : RelID), r ∈ (w.tbl oldT).relIDs → startMask.get r.comp = true)
    (hnd : (rels.map (·.comp)).Nodup) (hin : ∀ (r : RelID), r ∈ rels → r.comp ∈ add)
    (hok : World.findOrCreateTableAdd oldT startMask add rels w = .ok (t, a, mask) w') :
    mask = add.foldl Mask.set startMask ∧ AddedRel w w' oldT rels mask t a :=
  hR.findOrCreateTableAdd_of_flags hF hE hstart hreg hold hofree hok

theorem World.findOrCreateTableAdd_relArchs {w w' : World} {oldT : Nat}
    {startMask mask : Mask} {add : List Comp} {rels : List RelID} {t a : Nat}
    (hok : findOrCreateTableAdd oldT startMask add rels w = .ok (t, a, mask) w') :
    w'.relationArchetypes.length ≤ w.relationArchetypes.length + 1 := by
  obtain ⟨w1, ha, hgo⟩ := tableFor_ok_iff.1 (findOrCreateTableAdd_ok hok).2.2
  rw [getOrCreate_induct (fun w w' => w'.relationArchetypes = w.relationArchetypes) (fun _ => rfl)
    (fun h => (createTable_sameFrame h).relationArchetypes) hgo]
  exact (findOrCreateArch_relArchs ha).2

/-- a table lookup that leaves the destination as it was, unless that was a recycled (free, hence
    empty) table, changes no entity -/
theorem FoundOrCreated.frame {w w' : World} {mask : Mask} {t a : Nat}
    (foc : FoundOrCreated w w' mask t a)
    (tkeep : t < w.tables.length → w'.tables[t]? = w.tables[t]? ∨ (w.tbl t).isFree = true)
    (hI : IdxInv w) (hE : FreeEmpty w) (j : Nat) :
    SameEnt w w' j ∧ ∀ (c : Comp), targetOf w' j c = targetOf w j c := by
  refine frame_of_rows hI foc.entities (fun t0 T0 hT0 hpos => ?_) j
  have hlt := lt_of_get hT0
  -- a table with rows is not a recycled one
  have hkeep : w'.tables[t0]? = w.tables[t0]? := by
    by_cases htt : t0 = t
    · subst htt
      refine (tkeep hlt).resolve_right fun hf => ?_
      have := hE t0 T0 hT0 (by rw [← tbl_of_get hT0]; exact hf)
      omega
    · exact foc.others t0 hlt htt
  exact ⟨T0, by rw [hkeep]; exact hT0, rfl, rfl, rfl, rfl⟩

theorem AddedRel.frame {w w' : World} {oldT : Nat} {rels : List RelID} {mask : Mask} {t a : Nat}
    (ar : AddedRel w w' oldT rels mask t a) (hI : IdxInv w) (hE : FreeEmpty w) (j : Nat) :
    SameEnt w w' j ∧ ∀ (c : Comp), targetOf w' j c = targetOf w j c :=
  ar.foc.frame ar.tkeep hI hE j

theorem AddedRelU.frame {w w' : World} {oldT : Nat} {rels rels0 : List RelID} {mask : Mask}
    {t a : Nat} (ar : AddedRelU w w' oldT rels rels0 mask t a) (hI : IdxInv w) (hE : FreeEmpty w)
    (j : Nat) : SameEnt w w' j ∧ ∀ (c : Comp), targetOf w' j c = targetOf w j c :=
  ar.foc.frame ar.tkeep hI hE j

/-! ## 2. the row steps `placedW`, `registerW`, `writeValsW` and the relation invariants -/

theorem FreeEmpty.of_set {w w' : World} (h : FreeEmpty w) {t : Nat} {T' : Table}
    (ht : w'.tables = w.tables.set t T') (hT' : T'.isFree = true → T'.len = 0) : FreeEmpty w' := by
  intro t0 T0 hT0 hf
  rw [ht, List.getElem?_set] at hT0
  split at hT0
  · split at hT0
    · obtain rfl := Option.some.inj hT0
      exact hT' hf
    · cases hT0
  · exact h t0 T0 hT0 hf

namespace World

theorem placedW_flags_mono (w : World) (t : Nat) (i : Nat) (h : w.isTarget.getD i false = true) :
    (placedW w t false).isTarget.getD i false = true := by
  rw [placedW_isTarget']
  split
  · have hi : i < w.isTarget.length := by
      rcases Nat.lt_or_ge i w.isTarget.length with h1 | h1
      · exact h1
      · rw [List.getD_eq_getElem?_getD, List.getElem?_eq_none h1] at h; cases h
    rw [List.getD_eq_getElem?_getD, List.getElem?_append_left hi, ← List.getD_eq_getElem?_getD]
    exact h
  · simp only [Bool.false_eq_true, if_false]; exact h

theorem registerW_metaStep (w : World) (rels : List RelID) : MetaStep w (registerW w rels) :=
  MetaStep.of_tables_eq rfl rfl rfl rfl rfl

theorem registerW_fields (w : World) (rels : List RelID) :
    (registerW w rels).obs = w.obs ∧ (registerW w rels).locks = w.locks ∧
    (registerW w rels).entities = w.entities ∧ (registerW w rels).pool = w.pool ∧
    (registerW w rels).maxComps = w.maxComps := ⟨rfl, rfl, rfl, rfl, rfl⟩

theorem registerW_sameEnt (w : World) (rels : List RelID) (j : Nat) :
    SameEnt w (registerW w rels) j :=
  ⟨fun c => valOf_congr rfl rfl j c, compsOf_congr rfl rfl j⟩

end World

theorem PLink.register {w : World} {fl : List Nat} (h : PLink w fl) (rels : List RelID) :
    PLink (registerW w rels) fl :=
  h.congr (h.idx.congr rfl rfl) rfl rfl (flagFold_length rels _) rfl

theorem TInv.writeVals {w : World} {fl : List Nat} (h : TInv w fl) (e : Ent)
    (vals : List (Comp × Val)) {t r : Nat} (hent : w.entities[e.id]? = some (t, r))
    (htm : t ≠ maxU32) : TInv (writeValsW w e vals) fl := by
  have wr := h.link.writeVals hent htm vals
  have ms := wr.step
  obtain ⟨T', hT', hlen, _⟩ := wr.tables
  have hlt := lt_of_get (h.link.idx.indexed hent htm).1
  refine ⟨h.rel.of_metaStep ms (fun _ hx => hx), h.flags.of_metaStep ms (fun _ hi => hi), ?_,
    wr.link, h.kindsLe⟩
  -- the written table keeps its length
  refine FreeEmpty.of_set h.freeEmpty hT' fun hf => ?_
  have hT't : (writeValsW w e vals).tbl t = T' := tbl_set_self hT' hlt
  rw [hlen]
  exact h.freeEmpty t _ (get_of_lt hlt) (by rw [← (ms.tmeta t hlt).isFree, hT't]; exact hf)

structure WriteRelPost (w : World) (fl : List Nat) (e : Ent) (vals : List (Comp × Val))
    (w' : World) : Prop where
  tinv : TInv w' fl
  pool : w'.pool = w.pool
  obs : w'.obs = w.obs
  locks : w'.locks = w.locks
  kinds : w'.kinds = w.kinds
  maxComps : w'.maxComps = w.maxComps
  relArchs : w'.relationArchetypes = w.relationArchetypes
  comps : compsOf w' e.id = compsOf w e.id
  vals : ∀ (c : Comp) (v : Val), valOf w e.id c = some v →
    valOf w' e.id c = some (if (w.kinds.getD c {}).zst = true then v else applyVals v vals c)
  frame : ∀ (j : Nat), j ≠ e.id → SameEnt w w' j
  targets : ∀ (j : Nat) (c : Comp), targetOf w' j c = targetOf w j c
  tablesLen : w'.tables.length = w.tables.length
  entitiesLen : w'.entities.length = w.entities.length

theorem TInv.writeValsRel {w : World} {fl : List Nat} (h : TInv w fl) {e : Ent} (h2 : 2 ≤ e.id)
    (hnf : e.id ∉ fl) (ha : w.alive e = true)
    (hsl : e.id < w.pool.ents.length) (vals : List (Comp × Val)) :
    WriteRelPost w fl e vals (writeValsW w e vals) := by
  obtain ⟨t, row, he, htm, _⟩ := h.link.live_entry h2 hnf ha hsl
  have wr := h.link.writeVals he htm vals
  exact
    { tinv := h.writeVals e vals he htm
      pool := rfl, obs := rfl, locks := rfl, kinds := rfl, maxComps := rfl, relArchs := rfl
      comps := wr.comps
      vals := fun c v hv => valOf_writeVals h.link.idx h.rel.sinv.toSInvMid he htm vals hv
      frame := wr.frame
      targets := fun j c => wr.step.targetOf rfl c
      tablesLen := wr.step.len
      entitiesLen := rfl }

/-! ## 3. `NewEntity` with relations -/

theorem SInvMid.root_notFree {w : World} (h : SInvMid w) : (w.tbl 0).isFree = false := by
  obtain ⟨h0, h1, _⟩ := h.root
  have hT := get_of_lt h0
  obtain ⟨A, hA, _⟩ := h.tblArch 0 _ hT
  have hm := (h.member 0 _ hT).2
  rw [h1] at hA hm
  have hnr := h.root_noRel
  rw [arch_of_get hA] at hnr hm
  have := (h.nonRelLe 0 A hA hnr).2
  cases hf : (w.tbl 0).isFree with
  | false => rfl
  -- `simp_all`: `0 ∈ A.freeTables` (`hm.1 hf`) against `A.freeTables = []`, the `this` from `nonRelLe`
  | true => have := hm.1 hf; simp_all

structure NewRelPost (w : World) (fl : List Nat) (rels : List RelID) (e : Ent) (w' : World) :
    Prop where
  /-- the free list loses its head (if any) -/
  tinv : TInv w' fl.tail
  ent : e = (w.pool.get).2
  ge2 : 2 ≤ e.id
  notin : e.id ∉ fl.tail
  alive : w'.alive e = true
  /-- (inside the pool slice; `getNew` overwrites the first cell of the memory behind it) -/
  aliveMono : ∀ (h : Ent), h.id < w.pool.ents.length → w.alive h = true → w'.alive h = true
  aliveFrame : ∀ (h : Ent), h.id ≠ e.id → w'.alive h = w.alive h
  valid : ∀ (r : RelID), r ∈ rels → r.target.isZero = true ∨ w.alive r.target = true
  targets : ∀ (r : RelID), r ∈ rels → targetOf w' e.id r.comp = some r.target
  frame : ∀ (j : Nat), j ≠ e.id → SameEnt w w' j ∧ ∀ (c : Comp), targetOf w' j c = targetOf w j c
  obs : w'.obs = w.obs
  locks : w'.locks = w.locks
  kinds : w'.kinds = w.kinds
  tablesLen : w'.tables.length ≤ w.tables.length + 1
  entitiesLen : w'.entities.length ≤ w.entities.length + 1

structure NewRelMore (w : World) (ids : List Comp) (vals : List (Comp × Val)) (e : Ent)
    (w' : World) : Prop where
  pool : w'.pool = (w.pool.get).1
  maxComps : w'.maxComps = w.maxComps
  comps : compsOf w' e.id = some ((Mask.ofList ids).toList w.kinds.length)
  vals : ∀ (c : Comp), c ∈ ids →
    valOf w' e.id c = some (if (w.kinds.getD c {}).zst = true then 0 else applyVals 0 vals c)
  relArchs : w'.relationArchetypes.length ≤ w.relationArchetypes.length + 1

theorem opNewEntity_ok_eq (run : ProbeRunner) {p : Path} {w w' : World} (hl : w.isLocked = false)
    (hno : ∀ (evt : Nat), w.obs.hasObservers evt = false) {ids : List Comp}
    {vals : List (Comp × Val)} {rels : List RelID} {e : Ent}
    (hok : opNewEntity run p ids vals rels w = .ok e w') :
    ∃ (t a : Nat) (m : Mask) (w1 : World),
      findOrCreateTableAdd 0 Mask.empty ids rels w = .ok (t, a, m) w1 ∧ e = (w1.pool.get).2 ∧
      w' = writeValsW (registerW (placedW w1 t false) rels) (w1.pool.get).2 vals := by
  have hpre : preCheck p ids rels w = .ok () w := by
    rcases preCheck_cases p ids rels w with h1 | ⟨k, h1⟩
    · exact h1
    · simp [opNewEntity, bind, M.bind, h1] at hok
  cases hf : findOrCreateTableAdd 0 Mask.empty ids rels w with
  | panic k s =>
    simp [opNewEntity, newEntityCore, bind, M.bind, hpre, checkLocked_unlocked w hl, hf] at hok
  | ok res w1 =>
    obtain ⟨t, a, m⟩ := res
    rw [opNewEntity_rel_eq run p ids vals rels w hl hpre hf
      (fun evt => by rw [(findOrCreateTableAdd_untouched hf).obs]; exact hno evt)] at hok
    injection hok with he hw
    exact ⟨t, a, m, w1, rfl, he.symm, hw.symm⟩

/-- the lookup of an accepted `NewEntity(ids…, rels…)`, from the root table.  `hfew`: `maxU32` is
    `maxTableID`, the table the entity index gives an unused entity (`table.go`), so the table the
    lookup may create needs an ID below it (`PLink.fewTables`).  `hrows`: row counts stay below
    `2 ^ 32` (Go's `uint32` row indices, the range of the model's `capPow2`), and a table has no more
    rows than the index has entries (`IdxInv.rows_le`). -/
theorem TInv.new_lookup (run : ProbeRunner) (p : Path) {w : World} {fl : List Nat} (h : TInv w fl)
    (hl : w.isLocked = false) (hno : ∀ (evt : Nat), w.obs.hasObservers evt = false)
    {ids : List Comp} {vals : List (Comp × Val)} {rels : List RelID}
    (hreg : ∀ (c : Comp), c ∈ ids → c < w.kinds.length)
    (hnd : (rels.map (·.comp)).Nodup) (hin : ∀ (r : RelID), r ∈ rels → r.comp ∈ ids)
    (hfew : w.tables.length < maxU32) (hrows : w.entities.length + 1 < 2 ^ 32)
    {e : Ent} {w' : World} (hok : opNewEntity run p ids vals rels w = .ok e w') :
    ∃ (t a : Nat) (m : Mask) (w1 : World),
      findOrCreateTableAdd 0 Mask.empty ids rels w = .ok (t, a, m) w1 ∧
      m = ids.foldl Mask.set Mask.empty ∧ AddedRel w w1 0 rels m t a ∧ PLink w1 fl ∧
      (w1.tbl t).len + 1 < 2 ^ 32 ∧ e = (w1.pool.get).2 ∧
      w' = writeValsW (registerW (placedW w1 t false) rels) (w1.pool.get).2 vals := by
  obtain ⟨t, a, m, w1, hf, he, hw⟩ := opNewEntity_ok_eq run hl hno hok
  have hS := h.rel.sinv
  have hrel0 : (w.tbl 0).relIDs = [] := hS.toSInvMid.root_relIDs
  obtain ⟨hmask, ar⟩ := h.rel.findOrCreateTableAdd h.flags h.freeEmpty
    (fun c hc => by simp at hc) hreg hS.root.1 hS.toSInvMid.root_notFree
    (fun r hr => by rw [hrel0] at hr; cases hr) hnd hin hf
  have hI1 : IdxInv w1 := ar.foc.idx h.link.idx
  refine ⟨t, a, m, w1, hf, hmask, ar, h.link.of_lookup ar.foc ar.untouched ar.tablesLen hfew, ?_, he,
    hw⟩
  have := hI1.rows_le t
  rw [ar.foc.entities] at this; omega

/-- the pre-validation of every path checks each target, whatever the world -/
theorem opNewEntity_ok_valid (run : ProbeRunner) (p : Path) {w w' : World} {e : Ent}
    {ids : List Comp} {vals : List (Comp × Val)} {rels : List RelID}
    (hok : opNewEntity run p ids vals rels w = .ok e w') :
    ∀ (r : RelID), r ∈ rels → r.target.isZero = true ∨ w.alive r.target = true := by
  have hpre : preCheck p ids rels w = .ok () w := by
    rcases preCheck_cases p ids rels w with h1 | ⟨k, h1⟩
    · exact h1
    · simp [opNewEntity, bind, M.bind, h1] at hok
  exact fun r hr => (preCheck_ok_valid p ids w rels hpre r hr).1

/-- `opNewEntity_ok_valid` under the hypotheses of `opNewEntity_rel_spec` except `htin`: the form
    `Ark/Props/C04World.lean` states (`newEntity_names_valid_targets`) -/
theorem opNewEntity_rel_valid (run : ProbeRunner) (p : Path) {w : World} {fl : List Nat}
    (h : TInv w fl) (hl : w.isLocked = false) (hno : ∀ (evt : Nat), w.obs.hasObservers evt = false)
    {ids : List Comp} {vals : List (Comp × Val)} {rels : List RelID}
    (hreg : ∀ (c : Comp), c ∈ ids → c < w.kinds.length)
    (hnd : (rels.map (·.comp)).Nodup) (hin : ∀ (r : RelID), r ∈ rels → r.comp ∈ ids)
    (hrc : ∀ (r : RelID), r ∈ rels → w.isRelComp r.comp = true)
    (hfew : w.tables.length < maxU32) (hrows : w.entities.length + 1 < 2 ^ 32)
    {e : Ent} {w' : World} (hok : opNewEntity run p ids vals rels w = .ok e w') :
    ∀ (r : RelID), r ∈ rels → r.target.isZero = true ∨ w.alive r.target = true :=
  opNewEntity_ok_valid run p hok

/-- `NewRelPost` and `NewRelMore` in one proof: the lookup (`TInv.new_lookup`), the placement
    (`PLink.placed`), `registerTargets`, then the writes (`TInv.writeValsRel`) -/
theorem opNewEntity_rel_full (run : ProbeRunner) (p : Path) {w : World} {fl : List Nat}
    (h : TInv w fl) (hl : w.isLocked = false) (hno : ∀ (evt : Nat), w.obs.hasObservers evt = false)
    {ids : List Comp} {vals : List (Comp × Val)} {rels : List RelID}
    (hreg : ∀ (c : Comp), c ∈ ids → c < w.kinds.length)
    (hnd : (rels.map (·.comp)).Nodup) (hin : ∀ (r : RelID), r ∈ rels → r.comp ∈ ids)
    (hrc : ∀ (r : RelID), r ∈ rels → w.isRelComp r.comp = true)
    (htin : ∀ (r : RelID), r ∈ rels → r.target.id < w.pool.ents.length)
    (hfew : w.tables.length < maxU32) (hrows : w.entities.length + 1 < 2 ^ 32)
    {e : Ent} {w' : World} (hok : opNewEntity run p ids vals rels w = .ok e w') :
    NewRelPost w fl rels e w' ∧ NewRelMore w ids vals e w' := by
  have hvalid := opNewEntity_ok_valid run p hok
  -- `w1` is the world after the lookup; `e` and `w'` become the placement, registration and writes on it
  obtain ⟨t, a, m, w1, hf, hmask, ar, link1, hb, rfl, rfl⟩ :=
    h.new_lookup run p hl hno hreg hnd hin hfew hrows hok
  have foc := ar.foc
  have hu := ar.untouched
  -- all that is used of the placed world; from here on it is a variable
  have pp := link1.placed foc.tblLt false hb
  have ms2 := placedW_metaStep w1 t false
  have hpool := placedW_pool w1 t false
  have hflags := placedW_flags_mono w1 t
  obtain ⟨hkinds, _, hmaxc⟩ := placedW_fields w1 t false
  have hobs2 := placedW_obs w1 t false
  have hlocks2 := placedW_locks w1 t false
  have hra2 := (placedW_more w1 t false).1
  have hE2 := (placedW_place w1 t false).1
  generalize placedW w1 t false = w2 at *
  have ms3 := registerW_metaStep w2 rels
  have hentE : (registerW w2 rels).entities[(w1.pool.get).2.id]? = some (t, (w1.tbl t).len) := by
    show w2.entities[_]? = _; rw [pp.lookup, if_pos rfl]
  have hmem : ∀ (c : Comp), c ∈ ids → c ∈ (w1.tbl t).ids := by
    intro c hc
    rw [foc.tblIds, Mask.mem_toList, hmask, Mask.get_ofList_foldl]
    have h1 := hreg c hc
    have h256 : c < 256 := Nat.lt_of_lt_of_le h1 (Nat.le_trans h.kindsLe.1 h.kindsLe.2)
    exact ⟨h1, by simp [h256, hc]⟩
  -- the invariant after `registerTargets`
  have t3 : TInv (registerW w2 rels) fl.tail :=
    ⟨ar.rel.of_metaStep_in
        (ar.flags.targetsIn (link1.tgtLen.trans link1.lenEq)
          (fun r hr => by rw [foc.pool]; exact htin r hr))
        (ms2.trans ms3) (fun x hxin hx => pp.aliveMono x hxin hx),
      -- a nonzero target is alive (`hvalid`): its ID is inside `isTarget`, which the placement only grows
      (ar.flags.of_metaStep ms2 hflags).register (fun r hr hz => by
        rcases hvalid r hr with h1 | h1
        · rw [h1] at hz; cases hz
        · have h3 := h.link.lt_of_in (htin r hr)
          have h4 : w1.isTarget.length ≤ w2.isTarget.length := by
            rw [pp.link.tgtLen, link1.tgtLen, hE2, place_entities]; split <;> simp
          rw [← h.link.tgtLen, ← hu.isTarget] at h3
          omega),
      ar.freeEmpty.of_set pp.tables (fun hf => by
        rw [(Table.add_sameMeta _ _).isFree, foc.tblFree] at hf; cases hf),
      pp.link.register rels, by
        show w2.kinds.length ≤ w2.maxComps ∧ w2.maxComps ≤ 256
        rw [hkinds, hmaxc, hu.maxComps, foc.kinds]; exact h.kindsLe⟩
  -- the writes go to the row the placement appended, `hentE`
  have wp := t3.writeValsRel pp.ge2 pp.notin pp.alive
    (by rw [← t3.link.lenEq]; exact (List.getElem?_eq_some_iff.1 hentE).1) vals
  have hms := ms2.trans ms3
  have hal4 : ∀ (x : Ent), (writeValsW (registerW w2 rels) (w1.pool.get).2 vals).alive x =
      w2.alive x := fun x => by rw [World.alive, wp.pool]; rfl
  have hal1 : ∀ (x : Ent), w1.alive x = w.alive x := fun x => by simp only [World.alive, foc.pool]
  constructor
  · refine
      { tinv := wp.tinv
        ent := by rw [foc.pool]
        ge2 := pp.ge2
        notin := pp.notin
        alive := by rw [hal4]; exact pp.alive
        aliveMono := fun x hxin hx => by
          rw [hal4]; exact pp.aliveMono x (by rw [foc.pool]; exact hxin) (by rw [hal1]; exact hx)
        aliveFrame := fun x hx => by rw [hal4, pp.aliveFrame x hx, hal1]
        valid := hvalid
        targets := ?_
        frame := ?_
        obs := by rw [wp.obs]; show w2.obs = _; rw [hobs2, hu.obs]
        locks := by rw [wp.locks]; show w2.locks = _; rw [hlocks2, hu.locks]
        kinds := by rw [wp.kinds, hms.kinds, foc.kinds]
        tablesLen := by rw [wp.tablesLen, hms.len]; exact ar.tablesLen
        entitiesLen := by
          rw [wp.entitiesLen]; show w2.entities.length ≤ _
          rw [← foc.entities, hE2, place_entities]; split <;> simp }
    · -- the column of an assigned relation in the new entity's table
      intro r hr
      have htm : t ≠ maxU32 := by have := foc.tblLt; have := link1.fewTables; omega
      rw [wp.targets, targetOf_of_entry hentE htm (get_of_lt (by rw [hms.len]; exact foc.tblLt)),
        Table.targetAt_sameMeta (hms.tmeta t foc.tblLt),
        ar.toU.targetAt (List.mem_append_right _ hr) (hrc r hr) (hmem r.comp (hin r hr))]
    -- another ID: each of the four stages leaves it alone; placement and registration keep the tables'
    -- metadata (`hms`), so its targets are still those after the lookup, `g1`
    · intro j hj
      obtain ⟨f1, g1⟩ := ar.frame h.link.idx h.freeEmpty j
      refine ⟨((f1.trans (pp.frame j hj)).trans (registerW_sameEnt _ rels j)).trans (wp.frame j hj),
        fun c => ?_⟩
      rw [wp.targets, ← g1 c]
      exact hms.targetOf (by show w2.entities[j]? = _; rw [pp.lookup, if_neg hj]) c
  · exact
      { pool := by rw [wp.pool]; show w2.pool = _; rw [hpool, foc.pool]
        maxComps := by rw [wp.maxComps]; exact hmaxc.trans hu.maxComps
        comps := by
          rw [wp.comps, (registerW_sameEnt w2 rels _).2, pp.comps, foc.tblIds, hmask]; rfl
        vals := fun c hc => by
          rw [wp.vals c 0 (by rw [(registerW_sameEnt w2 rels _).1]; exact pp.zero c (hmem c hc))]
          show some (if (w2.kinds.getD c {}).zst = true then _ else _) = _
          rw [hkinds, foc.kinds]
        relArchs := by
          rw [wp.relArchs]; show w2.relationArchetypes.length ≤ _
          rw [hra2]; exact findOrCreateTableAdd_relArchs hf }

/-- **C04, creation**: an accepted `NewEntity(ids…, rels…)` through any path — `rels` names
    relation components among `ids`, none twice, with targets whose IDs lie inside the pool slice
    (`htin`; every handle the world has issued does; see `forged_target_after_reset` in
    `Ark/Props/C05Rel.lean` for what a forged target behind the slice does after a `Reset`) — keeps
    all invariants, gives the new entity the targets named, and changes no other entity (no
    observers registered).  The size bounds `hfew`, `hrows` are explained at `TInv.new_lookup`. -/
theorem opNewEntity_rel_spec (run : ProbeRunner) (p : Path) {w : World} {fl : List Nat}
    (h : TInv w fl) (hl : w.isLocked = false) (hno : ∀ (evt : Nat), w.obs.hasObservers evt = false)
    {ids : List Comp} {vals : List (Comp × Val)} {rels : List RelID}
    (hreg : ∀ (c : Comp), c ∈ ids → c < w.kinds.length)
    (hnd : (rels.map (·.comp)).Nodup) (hin : ∀ (r : RelID), r ∈ rels → r.comp ∈ ids)
    (hrc : ∀ (r : RelID), r ∈ rels → w.isRelComp r.comp = true)
    (htin : ∀ (r : RelID), r ∈ rels → r.target.id < w.pool.ents.length)
    (hfew : w.tables.length < maxU32) (hrows : w.entities.length + 1 < 2 ^ 32)
    {e : Ent} {w' : World} (hok : opNewEntity run p ids vals rels w = .ok e w') :
    NewRelPost w fl rels e w' :=
  (opNewEntity_rel_full run p h hl hno hreg hnd hin hrc htin hfew hrows hok).1

end Ark
