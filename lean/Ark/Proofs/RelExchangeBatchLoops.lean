/-
  The exchange batch over relation tables (callback `nil`, no observers): its normal form (the lock is
  taken only after the lookup loop), one table move under the invariants of the relation fragment
  (`MoveSt.tableMoved`), and the two loops — the lookup loop gives every non-empty selected table a
  destination (`DestX`), the moves are independent (`MovesX`), so the move loop is a sequence of single
  table moves.
-/
import Ark.Proofs.QueryRel
import Ark.Proofs.RelExchangeLookup

section

/-! ## §1 normal form and one table move

  The lock is taken only after the lookup loop (Go: defect D27 repaired;
  `exchangeBatch_rel_eq_planFirst`, the case `vals = none` of `exchangeBatch_rel_after_find` in
  Ark.Proofs.BatchExchange; a panic of that loop leaves the lock as it was:
  `exchangeBatch_rel_findLoop_panic`, there too).  `exchangeBatch_rel_eq` has `Lock` FIRST: an
  equation of the operation too, because selection and lookup loop neither read nor write the lock;
  the specifications downstream are proved from this form.
-/

set_option autoImplicit false

namespace Ark

open World Ark.Props.C01World QueryRel

namespace World

/-! ### `exchangeTable`, `exchangeBatch` with relations as pure functions -/

theorem exchangeTableW_registerW (w : World) (oldT newT : Nat) (rels : List RelID) :
    exchangeTableW (registerW w rels) oldT newT = registerW (exchangeTableW w oldT newT) rels := by
  simp only [exchangeTableW, foldl_exIdxStep]
  rfl

theorem foldl_moveStepX_registerW (rels : List RelID) : ∀ (bts : List BatchTable) (w : World),
    bts.foldl (moveStepX rels) (registerW w rels) = registerW (bts.foldl (moveStepX rels) w) rels
  | [], _ => rfl
  | b :: bts, w => by
    simp only [List.foldl_cons]
    have : moveStepX rels (registerW w rels) b = registerW (moveStepX rels w b) rels := by
      simp only [moveStepX, exchangeTableW_registerW]
    rw [this]
    exact foldl_moveStepX_registerW rels bts (moveStepX rels w b)

/-- without observers and callback, `exchangeBatch` with relations is, in the order in which it
    runs: the table selection, the lookup loop, `registerTargets` (ONCE, unconditionally: also when
    no table is selected or every selected table is empty — as the Go code does), `Lock`, the move
    loop, `Unlock` -/
theorem exchangeBatch_rel_eq_planFirst (run : ProbeRunner) (fo : FilterObj) (extra : List RelID)
    (add rem : List Comp) (rels : List RelID) (w : World) (hl : w.isLocked = false)
    (hne : (add.isEmpty && rem.isEmpty) = false) {ts : List Nat}
    (hts : getBatchTables fo extra w = .ok ts w)
    {rr : Bool} {bts : List BatchTable} {w1 : World}
    (hfind : findLoopX add rem rels ts (false, []) w = .ok (rr, bts) w1)
    {l' : Lock} {b : Nat} (hlk : w1.locks.lock = some (l', b))
    (hno : ∀ (evt : Nat), w1.obs.hasObservers evt = false) :
    exchangeBatch run fo extra add rem rels none w =
      unlock b (bts.foldl (moveStepX rels) { registerW w1 rels with locks := l' }) :=
  exchangeBatch_rel_after_find run fo extra add rem rels none w hl hne hts hfind hlk hno

/-- without observers and callback, `exchangeBatch` with relations is also: `Lock`, the table
    selection, the lookup loop, the move loop, `registerTargets` (the registration the operation
    performs once after the lookup loop commutes with the move loop: `foldl_moveStepX_registerW`),
    `Unlock` — not the order in which it runs (`exchangeBatch_rel_eq_planFirst`), but the table
    selection and the lookup loop neither read nor write the lock -/
theorem exchangeBatch_rel_eq (run : ProbeRunner) (fo : FilterObj) (extra : List RelID)
    (add rem : List Comp) (rels : List RelID) (w : World) (hl : w.isLocked = false)
    (hne : (add.isEmpty && rem.isEmpty) = false) {l' : Lock} {b : Nat}
    (hlk : w.locks.lock = some (l', b)) {ts : List Nat}
    (hts : getBatchTables fo extra { w with locks := l' } = .ok ts { w with locks := l' })
    {rr : Bool} {bts : List BatchTable} {w1 : World}
    (hfind : findLoopX add rem rels ts (false, []) { w with locks := l' } = .ok (rr, bts) w1)
    (hno : ∀ (evt : Nat), w1.obs.hasObservers evt = false) :
    exchangeBatch run fo extra add rem rels none w =
      unlock b (registerW (bts.foldl (moveStepX rels) w1) rels) := by
  rw [exchangeBatch_rel_lockFirst run fo extra add rem rels none w hl hne hlk hts hfind hno,
    moveStepXF_none, foldl_moveStepX_registerW]

end World

/-! ### one table move under the invariants of the relation fragment -/

/-- the invariant of the move loop of the batch: everything of `TInv` except that the targets of
    `rels` need not be flagged yet -/
structure MoveSt (w : World) (fl : List Nat) (rels : List RelID) : Prop where
  rel : RelInv w
  flags : FlagsOKUpTo w rels
  freeEmpty : FreeEmpty w
  link : PLink w fl

theorem TInv.moveSt {w : World} {fl : List Nat} (h : TInv w fl) (rels : List RelID) :
    MoveSt w fl rels := ⟨h.rel, h.flags.upTo rels, h.freeEmpty, h.link⟩

structure TableMovedRel (w : World) (fl : List Nat) (rels : List RelID) (src dst : Nat)
    (w' : World) : Prop where
  st : MoveSt w' fl rels
  flagsOK : FlagsOK w'
  ms : MetaStep w w'
  pool : w'.pool = w.pool
  obs : w'.obs = w.obs
  locks : w'.locks = w.locks
  maxComps : w'.maxComps = w.maxComps
  isTargetLen : w'.isTarget.length = w.isTarget.length
  flagsMono : ∀ (i : Nat), w.isTarget.getD i false = true → w'.isTarget.getD i false = true
  /-- every moved entity sits behind the old rows of the destination, has its columns and its
      relation targets; a component the source had keeps its value, the others read zero -/
  moved : ∀ (k : Nat), k < (w.tbl src).len →
    w'.entities[((w.tbl src).getEntity k).id]? = some (dst, (w.tbl dst).len + k) ∧
    compsOf w' ((w.tbl src).getEntity k).id = some (w.tbl dst).ids ∧
    (∀ (c : Comp), c ∈ (w.tbl dst).ids →
      valOf w' ((w.tbl src).getEntity k).id c =
        if c ∈ (w.tbl src).ids then valOf w ((w.tbl src).getEntity k).id c else some 0) ∧
    ∀ (c : Comp), targetOf w' ((w.tbl src).getEntity k).id c = (w.tbl dst).targetAt c
  frame : ∀ (j : Nat), (∀ (k : Nat), k < (w.tbl src).len → ((w.tbl src).getEntity k).id ≠ j) →
    SameEnt w w' j ∧ w'.entities[j]? = w.entities[j]? ∧
      ∀ (c : Comp), targetOf w' j c = targetOf w j c
  entitiesLen : w'.entities.length = w.entities.length
  srcEmpty : (w'.tbl src).len = 0
  dstLen : (w'.tbl dst).len = (w.tbl dst).len + (w.tbl src).len
  others : ∀ (t : Nat), t ≠ src → t ≠ dst → w'.tbl t = w.tbl t
  /-- the rows of the source table stay where they are in every other table's view: the handle in
      row `k` of `src` before is the handle in row `len dst + k` of `dst` after -/
  dstRows : ∀ (r : Nat), r < (w.tbl dst).len + (w.tbl src).len → (w'.tbl dst).getEntity r =
    if r < (w.tbl dst).len then (w.tbl dst).getEntity r
    else (w.tbl src).getEntity (r - (w.tbl dst).len)

/-- **one table move**: `exchangeTable src dst rels` for two existing, different tables, `dst` not
    free; the targets of `rels` index the flag array -/
theorem MoveSt.tableMoved {w : World} {fl : List Nat} {rels : List RelID} (h : MoveSt w fl rels)
    {src dst : Nat} (hne : src ≠ dst) (ho : src < w.tables.length) (hn : dst < w.tables.length)
    (hdf : (w.tbl dst).isFree = false)
    (hb : (w.tbl dst).len + (w.tbl src).len < 2 ^ 32)
    (hreg : ∀ (r : RelID), r ∈ rels → r.target.isZero = false → r.target.id < w.isTarget.length) :
    TableMovedRel w fl rels src dst (registerW (exchangeTableW w src dst) rels) := by
  have c := exchangeTableW_core h.link.idx h.rel.sinv.toSInvMid h.link.fewTables hne ho hn hb
  obtain ⟨fP, fK, fA, fI, fM, _⟩ := exchangeTableW_rest w src dst
  have ⟨fRA, fC⟩ : (exchangeTableW w src dst).relationArchetypes = w.relationArchetypes ∧
      (exchangeTableW w src dst).cache = w.cache := by
    obtain ⟨_, _, hX⟩ := exchangeTableW_frame w src dst
    rw [hX]; exact ⟨rfl, rfl⟩
  have fO := exchangeTableW_obs w src dst
  have fL := exchangeTableW_locks w src dst
  generalize exchangeTableW w src dst = X at c fP fK fA fI fM fRA fC fO fL ⊢
  have ms1 : MetaStep w X := ⟨fA, fK, fRA, fC, c.tablesLen, c.tmeta⟩
  have ms : MetaStep w (registerW X rels) := ms1.trans (registerW_metaStep _ rels)
  have htm : dst ≠ maxU32 := by have := h.link.fewTables; omega
  have hflagsOK : FlagsOK (registerW X rels) :=
    (h.flags.of_metaStep ms1 (fun i hi => by rw [fI]; exact hi)).register
      (fun r hr hz => by rw [fI]; exact hreg r hr hz)
  have hfree : FreeEmpty (registerW X rels) := by
    intro t0 T0 hT0 hf
    have hT0' : X.tables[t0]? = some T0 := hT0
    have hlt : t0 < w.tables.length := by rw [← c.tablesLen]; exact lt_of_get hT0'
    by_cases h1 : t0 = src
    · subst h1; rw [← tbl_of_get hT0', c.srcTbl]; rfl
    · by_cases h2 : t0 = dst
      · subst h2
        rw [← tbl_of_get hT0', (c.tmeta t0 hlt).isFree, hdf] at hf; cases hf
      · rw [← tbl_of_get hT0', c.others t0 h1 h2] at hf ⊢
        exact h.freeEmpty t0 _ (get_of_lt hlt) hf
  have hlink : PLink (registerW X rels) fl :=
    (h.link.transfer c.idx fP c.idxSame (by rw [fI])
      (by rw [c.tablesLen]; exact h.link.fewTables)).congr
      (c.idx.congr rfl rfl) rfl rfl (flagFold_length rels _) rfl
  exact
    { st := ⟨h.rel.of_metaStep ms (fun x hx => by
          show X.pool.alive x = true
          rw [fP]; exact hx), hflagsOK.upTo rels, hfree, hlink⟩
      flagsOK := hflagsOK
      ms := ms
      pool := fP
      obs := fO
      locks := fL
      maxComps := fM
      isTargetLen := by
        show (rels.foldl (fun (it : List Bool) r => it.set r.target.id true)
          X.isTarget).length = _
        rw [flagFold_length, fI]
      flagsMono := by
        intro i hi
        show (rels.foldl (fun (it : List Bool) r => it.set r.target.id true)
          X.isTarget).getD i false = true
        rw [fI]
        exact flagFold_mono _ _ _ hi
      moved := fun k hk =>
        let ⟨m1, m2, m3⟩ := c.moved k hk
        ⟨m1, (compsOf_congr rfl rfl _).trans m2,
          fun cc hc => (valOf_congr rfl rfl _ cc).trans (m3 cc hc),
          fun cc => (targetOf_of_entry (w := registerW X rels) m1 htm c.dstGet cc).trans
            (Table.targetAt_sameMeta (c.tmeta dst hn) cc)⟩
      frame := fun j hj =>
        let ⟨f1, f2⟩ := c.frame j hj
        ⟨⟨fun cc => (valOf_congr rfl rfl j cc).trans (f1.1 cc), (compsOf_congr rfl rfl j).trans f1.2⟩,
          f2, fun cc => ms.targetOf (w' := registerW X rels) f2 cc⟩
      entitiesLen := c.idxSame.len
      srcEmpty := by
        show (X.tbl src).len = 0
        rw [c.srcTbl]; rfl
      dstLen := c.dstLen
      others := c.others
      dstRows := c.dstRows }

end Ark

end

section

/-! ## §2 the two loops

  Several sources may share one destination, when the relation components in which they differ
  are removed.
-/

set_option autoImplicit false

namespace Ark

open World Ark.Props.C01World QueryRel

/-! ### what the lookups do to the world -/

/-- `w'` extends `w` as the table lookups of the batch do -/
structure LExt (w w' : World) : Prop where
  keepT : ∀ (t : Nat), t < w.tables.length → (w.tbl t).isFree = false →
    w'.tables[t]? = w.tables[t]?
  masks : ∀ (b : Nat), b < w.archetypes.length → (w'.arch b).mask = (w.arch b).mask
  tablesLen : w.tables.length ≤ w'.tables.length
  archsLen : w.archetypes.length ≤ w'.archetypes.length
  entities : w'.entities = w.entities
  pool : w'.pool = w.pool
  kinds : w'.kinds = w.kinds
  untouched : Untouched w w'
  frame : ∀ (j : Nat), SameEnt w w' j ∧ ∀ (c : Comp), targetOf w' j c = targetOf w j c

theorem LExt.refl (w : World) : LExt w w :=
  ⟨fun _ _ _ => rfl, fun _ _ => rfl, Nat.le_refl _, Nat.le_refl _, rfl, rfl, rfl, Untouched.refl w,
    fun _ => ⟨⟨fun _ => rfl, rfl⟩, fun _ => rfl⟩⟩

theorem LExt.tbl {w w' : World} (h : LExt w w') {t : Nat} (ht : t < w.tables.length)
    (hf : (w.tbl t).isFree = false) : w'.tbl t = w.tbl t :=
  World.tbl_eq_of_get (h.keepT t ht hf)

theorem LExt.trans {a b c : World} (h1 : LExt a b) (h2 : LExt b c) : LExt a c where
  keepT := by
    intro t ht hf
    have e1 := h1.tbl ht hf
    rw [h2.keepT t (Nat.lt_of_lt_of_le ht h1.tablesLen) (by rw [e1]; exact hf)]
    exact h1.keepT t ht hf
  masks := fun x hx => (h2.masks x (Nat.lt_of_lt_of_le hx h1.archsLen)).trans (h1.masks x hx)
  tablesLen := Nat.le_trans h1.tablesLen h2.tablesLen
  archsLen := Nat.le_trans h1.archsLen h2.archsLen
  entities := h2.entities.trans h1.entities
  pool := h2.pool.trans h1.pool
  kinds := h2.kinds.trans h1.kinds
  untouched := h1.untouched.trans h2.untouched
  frame := fun j => ⟨(h1.frame j).1.trans (h2.frame j).1,
    fun c => ((h2.frame j).2 c).trans ((h1.frame j).2 c)⟩

theorem LExt.tmask {w w' : World} (h : LExt w w') (hS : SInvMid w) {t : Nat}
    (ht : t < w.tables.length) (hf : (w.tbl t).isFree = false) : tmask w' t = tmask w t := by
  obtain ⟨A, hA, _⟩ := hS.tblArch t _ (get_of_lt ht)
  simp only [World.tmask, h.tbl ht hf]
  exact h.masks _ (alt_of_get hA)

/-- a table lookup with relations extends the world -/
theorem AddedRelU.lext {w w1 : World} {oldT : Nat} {rels rels0 : List RelID} {mask : Mask}
    {t a : Nat} (ar : AddedRelU w w1 oldT rels rels0 mask t a) (hI : IdxInv w) (hE : FreeEmpty w) :
    LExt w w1 where
  keepT := by
    intro t0 ht0 hf0
    by_cases h0 : t0 = t
    · subst h0
      rcases ar.tkeep ht0 with k | k
      · exact k
      · rw [hf0] at k; cases k
    · exact ar.foc.others t0 ht0 h0
  masks := ar.foc.masks
  tablesLen := ar.foc.tablesLen
  archsLen := ar.foc.archsLen
  entities := ar.foc.entities
  pool := ar.foc.pool
  kinds := ar.foc.kinds
  untouched := ar.untouched
  frame := ar.frame hI hE

theorem XchgLooked.moveSt {w w1 : World} {fl : List Nat} {oldT : Nat} {add rem : List Comp}
    {rels : List RelID} {t a : Nat} (lk : XchgLooked w w1 oldT add rem rels t a)
    (h : MoveSt w fl rels) (hfew : w.tables.length < maxU32) : MoveSt w1 fl rels :=
  ⟨lk.ar.rel, lk.ar.flags, lk.ar.freeEmpty,
    h.link.of_lookup lk.ar.foc lk.ar.untouched lk.ar.tablesLen hfew⟩

theorem XchgPreM.congr {w w' : World} {m m' : Mask} {add rem : List Comp} {rels : List RelID}
    (h : XchgPreM w m add rem rels) (hm : ∀ (c : Comp), m'.get c = m.get c)
    (hk : w'.kinds = w.kinds) (hp : w'.pool = w.pool) : XchgPreM w' m' add rem rels where
  nonempty := h.nonempty
  remNodup := h.remNodup
  remHas := fun c hc => by rw [hm]; exact h.remHas c hc
  addNodup := h.addNodup
  addReg := by rw [hk]; exact h.addReg
  addNew := fun c hc => by rw [hm]; exact h.addNew c hc
  relsNodup := h.relsNodup
  relsIn := h.relsIn
  relsRel := fun r hr => by simp only [World.isRelComp, hk]; exact h.relsRel r hr
  relsAll := fun c hc hr => h.relsAll c hc (by simp only [World.isRelComp, hk] at hr; exact hr)
  targets := fun r hr => by simp only [World.alive, hp]; exact h.targets r hr

theorem XchgPreM.exchOK {w : World} {m : Mask} {add rem : List Comp} {rels : List RelID}
    (h : XchgPreM w m add rem rels) : ExchOK w.kinds.length add rem m :=
  ⟨h.remNodup, h.remHas, h.addNodup, h.addReg, h.addNew⟩

/-! ### the lookup loop -/

/-- a source table of the original world `w0` and its destination in the world `W` -/
structure DestX (w0 : World) (add rem : List Comp) (rels : List RelID) (W : World)
    (b : BatchTable) : Prop where
  src : b.oldT < w0.tables.length
  srcNF : (w0.tbl b.oldT).isFree = false
  nonempty : (w0.tbl b.oldT).len ≠ 0
  len : b.len = (w0.tbl b.oldT).len
  dlt : b.newT < W.tables.length
  dNF : (W.tbl b.newT).isFree = false
  ne : b.newT ≠ b.oldT
  dmask : tmask W b.newT = xmask add rem (tmask w0 b.oldT)
  idsEq : (W.tbl b.newT).ids = (xmask add rem (tmask w0 b.oldT)).toList w0.kinds.length
  ids : ∀ (c : Comp), c ∈ (W.tbl b.newT).ids ↔
    (((tmask w0 b.oldT).get c = true ∧ c ∉ rem) ∨ c ∈ add)
  tgt : ∀ (c : Comp) (x : Ent), (W.tbl b.newT).targetAt c = some x ↔
    ((c ∉ rem ∧ (w0.tbl b.oldT).targetAt c = some x) ∨ (⟨c, x⟩ : RelID) ∈ rels)

theorem DestX.mono {w0 W W' : World} {add rem : List Comp} {rels : List RelID} {b : BatchTable}
    (d : DestX w0 add rem rels W b) (hS : SInvMid W) (e : LExt W W') :
    DestX w0 add rem rels W' b := by
  have ht := e.tbl d.dlt d.dNF
  exact
    { src := d.src, srcNF := d.srcNF, nonempty := d.nonempty, len := d.len
      dlt := Nat.lt_of_lt_of_le d.dlt e.tablesLen
      dNF := by rw [ht]; exact d.dNF
      ne := d.ne
      dmask := (e.tmask hS d.dlt d.dNF).trans d.dmask
      idsEq := by rw [ht]; exact d.idsEq
      ids := by rw [ht]; exact d.ids
      tgt := by rw [ht]; exact d.tgt }

/-- **the lookup loop**: every non-empty selected table gets its destination; the world is extended
    by the archetypes and tables that did not exist; nothing happens when every table is empty -/
theorem findLoopX_spec {w0 : World} (hS0 : SInvMid w0) {fl : List Nat} {add rem : List Comp}
    {rels : List RelID} (hk256 : w0.kinds.length ≤ 256) :
    ∀ (ts : List Nat) (s : Bool × List BatchTable) (w : World),
    MoveSt w fl rels → LExt w0 w →
    (∀ (t : Nat), t ∈ ts → t < w0.tables.length ∧ (w0.tbl t).isFree = false) →
    (∀ (t : Nat), t ∈ ts → (w0.tbl t).len ≠ 0 → XchgPreM w0 (tmask w0 t) add rem rels) →
    w.tables.length + ts.length < maxU32 →
    ∃ (rr : Bool) (bts : List BatchTable) (w1 : World),
      findLoopX add rem rels ts s w = .ok (rr, s.2 ++ bts) w1 ∧ MoveSt w1 fl rels ∧ LExt w w1 ∧
      bts.map (·.oldT) = ts.filter (fun t => (w0.tbl t).len != 0) ∧
      (∀ (b : BatchTable), b ∈ bts → DestX w0 add rem rels w1 b) ∧
      w1.tables.length ≤ w.tables.length + ts.length ∧
      w1.relationArchetypes.length ≤ w.relationArchetypes.length + ts.length ∧
      (bts = [] → w1 = w)
  | [], s, w, h, _, _, _, _ =>
    ⟨s.1, [], w, (by simp [findLoopX, pure, M.pure]), h, LExt.refl w, rfl,
      (fun b hb => by cases hb), Nat.le_refl _, Nat.le_refl _, fun _ => rfl⟩
  | t :: ts, s, w, h, e0, hlt, hok, hfew => by
    -- `t` was in use in `w0`, so the extensions made so far (`e0`) left it alone: `w` sees it as `w0` does
    obtain ⟨ht0, hnf0⟩ := hlt t List.mem_cons_self
    have ht : t < w.tables.length := Nat.lt_of_lt_of_le ht0 e0.tablesLen
    have htbl : w.tbl t = w0.tbl t := e0.tbl ht0 hnf0
    have hlt' : ∀ (t' : Nat), t' ∈ ts → t' < w0.tables.length ∧ (w0.tbl t').isFree = false :=
      fun t' h' => hlt t' (List.mem_cons_of_mem _ h')
    have hok' : ∀ (t' : Nat), t' ∈ ts → (w0.tbl t').len ≠ 0 →
        XchgPreM w0 (tmask w0 t') add rem rels :=
      fun t' h' => hok t' (List.mem_cons_of_mem _ h')
    simp only [List.length_cons] at hfew
    cases h0 : ((w0.tbl t).len == 0) with
    | true =>
      -- an empty table is skipped: the tail's answer is the answer
      obtain ⟨rr, bts, w1, i1, i2, i3, i4, i5, i6, i7, i8⟩ :=
        findLoopX_spec hS0 hk256 ts s w h e0 hlt' hok' (by omega)
      refine ⟨rr, bts, w1, ?_, i2, i3, ?_, i5, by simp only [List.length_cons]; omega,
        by simp only [List.length_cons]; omega, i8⟩
      · simp only [findLoopX, htbl, h0, if_true]; exact i1
      · rw [i4, List.filter_cons]
        have : ((w0.tbl t).len != 0) = false := by simp only [bne, h0, Bool.not_true]
        rw [this]; rfl
    | false =>
      -- the lookup runs in `w`, its precondition was given in `w0`: mask, kinds and pool agree
      have hnz : (w0.tbl t).len ≠ 0 := by simpa using h0
      have hmask : tmask w t = tmask w0 t := e0.tmask hS0 ht0 hnf0
      have pre : XchgPreM w (tmask w t) add rem rels := by
        rw [hmask]; exact (hok t List.mem_cons_self hnz).congr (fun _ => rfl) e0.kinds e0.pool
      obtain ⟨d, a, w', lk⟩ := xchgLookup h.rel h.flags h.freeEmpty (by rw [e0.kinds]; exact hk256)
        ht (by rw [htbl]; exact hnf0) pre
      have e' : LExt w w' := lk.ar.lext h.link.idx h.freeEmpty
      have h' : MoveSt w' fl rels := lk.moveSt h (by omega)
      have hl' : w'.tables.length ≤ w.tables.length + 1 := lk.ar.tablesLen
      -- the tail starts from what the loop body leaves: flag raised if a relation goes, `t`'s pair appended
      obtain ⟨rr, bts, w1, i1, i2, i3, i4, i5, i6, i7, _⟩ :=
        findLoopX_spec hS0 hk256 ts
          (if (xchgRelRemoved (w.tbl t) (xmask add rem (tmask w t)) rem) = true then
              (true, s.2 ++ [{ oldT := t, newT := d, len := (w.tbl t).len }])
            else (s.1, s.2 ++ [{ oldT := t, newT := d, len := (w.tbl t).len }])) w' h'
          (e0.trans e') hlt' hok' (by omega)
      -- of that accumulator only the list matters for the result, and it is the same in both branches
      have hs2 : (if (xchgRelRemoved (w.tbl t) (xmask add rem (tmask w t)) rem) = true then
              ((true, s.2 ++ [{ oldT := t, newT := d, len := (w.tbl t).len }]) :
                Bool × List BatchTable)
            else (s.1, s.2 ++ [{ oldT := t, newT := d, len := (w.tbl t).len }])).2 =
          s.2 ++ [{ oldT := t, newT := d, len := (w.tbl t).len }] := by
        split <;> rfl
      refine ⟨rr, { oldT := t, newT := d, len := (w.tbl t).len } :: bts, w1, ?_, i2, e'.trans i3,
        ?_, ?_, by simp only [List.length_cons]; omega, ?_, fun hh => by cases hh⟩
      · have hfoc' : findOrCreateTable t (w.arch (w.tbl t).arch).mask add rem rels w =
            .ok (d, a, xmask add rem (tmask w t),
              xchgRelRemoved (w.tbl t) (xmask add rem (tmask w t)) rem) w' := lk.call
        simp only [findLoopX, htbl, h0, Bool.false_eq_true, if_false]
        rw [← htbl, hfoc']
        simp only
        rw [i1, hs2]
        simp only [List.append_assoc, List.singleton_append]
      · rw [List.map_cons, i4, List.filter_cons]
        have : ((w0.tbl t).len != 0) = true := by simp only [bne, h0, Bool.not_false]
        rw [this]; rfl
      · intro b hb
        rcases List.mem_cons.mp hb with rfl | hb
        -- `t`'s own pair: `DestX` in `w'` is the lookup's record with `w`'s view of `t` replaced by `w0`'s;
        -- the tail only extends `w'`
        · have foc := lk.ar.foc
          have dx : DestX w0 add rem rels w' { oldT := t, newT := d, len := (w.tbl t).len } :=
            { src := ht0, srcNF := hnf0, nonempty := hnz, len := by rw [htbl]
              dlt := foc.tblLt, dNF := foc.tblFree, ne := Ne.symm lk.ne
              dmask := by
                show tmask w' d = xmask add rem (tmask w0 t)
                rw [← hmask]
                simp only [tmask, foc.tblArch, foc.archMask]
              idsEq := by
                show (w'.tbl d).ids = _
                rw [lk.idsEq, hmask, e0.kinds]
              ids := by
                intro c
                show c ∈ (w'.tbl d).ids ↔ _
                rw [lk.ids, hmask]
              tgt := by
                intro c x
                show (w'.tbl d).targetAt c = some x ↔ _
                rw [lk.targetAt_iff, htbl] }
          exact dx.mono h'.rel.sinv.toSInvMid i3
        · exact i5 b hb
      · have := lk.relArchs
        simp only [List.length_cons]; omega

/-- the lookup loop keeps the pool and the rows in use of every table -/
theorem World.findLoopX_keeps {add rem : List Comp} {rels : List RelID} :
    ∀ (ts : List Nat) (s : Bool × List BatchTable) {w w1 : World} {x : Bool × List BatchTable},
      findLoopX add rem rels ts s w = .ok x w1 → LookupKeeps w w1
  | [], _, w, _, _, h => by
    injection h with _ hw
    exact hw ▸ LookupKeeps.refl w
  | t :: ts, s, w, _, _, h => by
    simp only [findLoopX] at h
    split at h
    · exact findLoopX_keeps ts s h
    · cases hf : findOrCreateTable t (w.arch (w.tbl t).arch).mask add rem rels w with
      | panic k w' => rw [hf] at h; cases h
      | ok y w' =>
        rw [hf] at h
        exact (findOrCreateTable_keeps hf).trans (findLoopX_keeps ts _ h)

/-! ### the move loop -/

/-- the moves are independent: distinct sources, no destination is a source; all tables exist, the
    destinations are not free -/
structure MovesX (W : World) (bts : List BatchTable) : Prop where
  srcNodup : (bts.map (·.oldT)).Nodup
  src : ∀ (b : BatchTable), b ∈ bts → b.oldT < W.tables.length
  dst : ∀ (b : BatchTable), b ∈ bts → b.newT < W.tables.length
  dstNF : ∀ (b : BatchTable), b ∈ bts → (W.tbl b.newT).isFree = false
  disj : ∀ (b : BatchTable), b ∈ bts → ∀ (b' : BatchTable), b' ∈ bts → b.newT ≠ b'.oldT

theorem movesX_of_dest {w0 W : World} (hS0 : SInvMid w0) (e : LExt w0 W)
    (hk256 : w0.kinds.length ≤ 256) {add rem : List Comp} {rels : List RelID}
    {bts : List BatchTable} (hsrc : (bts.map (·.oldT)).Nodup)
    (hd : ∀ (b : BatchTable), b ∈ bts → DestX w0 add rem rels W b)
    (hok : ∀ (b : BatchTable), b ∈ bts → XchgPreM w0 (tmask w0 b.oldT) add rem rels) :
    MovesX W bts := by
  refine ⟨hsrc, fun b hb => Nat.lt_of_lt_of_le (hd b hb).src e.tablesLen, fun b hb => (hd b hb).dlt,
    fun b hb => (hd b hb).dNF, ?_⟩
  intro b hb b' hb' heq
  have m1 := (hd b hb).dmask
  rw [heq, e.tmask hS0 (hd b' hb').src (hd b' hb').srcNF] at m1
  have ok' := (hok b' hb').exchOK
  rw [m1] at ok'
  exact xmask_not_ok (hok b hb).exchOK hk256 (hok b hb).nonempty ok'

theorem MovesX.head {W : World} {fl : List Nat} {rels : List RelID} {b : BatchTable}
    {bts : List BatchTable} (ok : MovesX W (b :: bts)) (h : MoveSt W fl rels)
    (hent : 2 * W.entities.length < 2 ^ 32)
    (hreg : ∀ (r : RelID), r ∈ rels → r.target.isZero = false → r.target.id < W.isTarget.length) :
    TableMovedRel W fl rels b.oldT b.newT (moveStepX rels W b) ∧
      MovesX (moveStepX rels W b) bts := by
  have hne : b.oldT ≠ b.newT := fun hh => ok.disj b List.mem_cons_self b List.mem_cons_self hh.symm
  have hb : (W.tbl b.newT).len + (W.tbl b.oldT).len < 2 ^ 32 := by
    have h1 := h.link.idx.rows_le b.newT
    have h2 := h.link.idx.rows_le b.oldT
    omega
  have tp : TableMovedRel W fl rels b.oldT b.newT (moveStepX rels W b) :=
    h.tableMoved hne (ok.src b List.mem_cons_self) (ok.dst b List.mem_cons_self)
      (ok.dstNF b List.mem_cons_self) hb hreg
  have hsn := ok.srcNodup
  rw [List.map_cons] at hsn
  exact ⟨tp, (List.nodup_cons.mp hsn).2,
    fun b' hb' => by rw [tp.ms.len]; exact ok.src b' (List.mem_cons_of_mem _ hb'),
    fun b' hb' => by rw [tp.ms.len]; exact ok.dst b' (List.mem_cons_of_mem _ hb'),
    fun b' hb' => by
      rw [(tp.ms.tmeta _ (ok.dst b' (List.mem_cons_of_mem _ hb'))).isFree]
      exact ok.dstNF b' (List.mem_cons_of_mem _ hb'),
    fun b1 h1 b2 h2 => ok.disj b1 (List.mem_cons_of_mem _ h1) b2 (List.mem_cons_of_mem _ h2)⟩

structure MovedAllX (W : World) (fl : List Nat) (rels : List RelID) (bts : List BatchTable)
    (W' : World) : Prop where
  st : MoveSt W' fl rels
  flagsOK : bts ≠ [] → FlagsOK W'
  ms : MetaStep W W'
  pool : W'.pool = W.pool
  obs : W'.obs = W.obs
  locks : W'.locks = W.locks
  maxComps : W'.maxComps = W.maxComps
  isTargetLen : W'.isTarget.length = W.isTarget.length
  entitiesLen : W'.entities.length = W.entities.length
  /-- every entity of a source table has the columns and the relation targets of the destination;
      a component the source had keeps its value, the others read zero -/
  moved : ∀ (b : BatchTable), b ∈ bts → ∀ (k : Nat), k < (W.tbl b.oldT).len →
    compsOf W' ((W.tbl b.oldT).getEntity k).id = some (W.tbl b.newT).ids ∧
    (∀ (c : Comp), c ∈ (W.tbl b.newT).ids →
      valOf W' ((W.tbl b.oldT).getEntity k).id c =
        if c ∈ (W.tbl b.oldT).ids then valOf W ((W.tbl b.oldT).getEntity k).id c else some 0) ∧
    ∀ (c : Comp), targetOf W' ((W.tbl b.oldT).getEntity k).id c = (W.tbl b.newT).targetAt c
  frame : ∀ (j : Nat), j ∉ srcIds W bts →
    SameEnt W W' j ∧ ∀ (c : Comp), targetOf W' j c = targetOf W j c

theorem moveLoopX_post {fl : List Nat} {rels : List RelID} :
    ∀ (bts : List BatchTable) {W : World}, MoveSt W fl rels → MovesX W bts →
    2 * W.entities.length < 2 ^ 32 →
    (bts ≠ [] →
      ∀ (r : RelID), r ∈ rels → r.target.isZero = false → r.target.id < W.isTarget.length) →
    MovedAllX W fl rels bts (bts.foldl (moveStepX rels) W)
  | [], W, h, _, _, _ =>
    { st := h, flagsOK := fun hh => absurd rfl hh, ms := MetaStep.refl W, pool := rfl, obs := rfl
      locks := rfl, maxComps := rfl, isTargetLen := rfl, entitiesLen := rfl
      moved := (fun b hb => by cases hb)
      frame := fun _ _ => ⟨⟨fun _ => rfl, rfl⟩, fun _ => rfl⟩ }
  | b :: bts, W, h, ok, hent, hreg0 => by
    have hreg := hreg0 (List.cons_ne_nil _ _)
    have hI := h.link.idx
    obtain ⟨tp, ok'⟩ := ok.head h hent hreg
    -- the sources of the remaining moves are untouched
    have hsrc' : ∀ (b' : BatchTable), b' ∈ bts →
        (moveStepX rels W b).tbl b'.oldT = W.tbl b'.oldT :=
      fun b' hb' => tp.others _
        (fun hh => (List.nodup_cons.mp ok.srcNodup).1 (List.mem_map.mpr ⟨b', hb', hh⟩))
        (fun hh => ok.disj b List.mem_cons_self b' (List.mem_cons_of_mem _ hb') hh.symm)
    have hdstM : ∀ (b' : BatchTable), b' ∈ bts →
        Table.SameMeta (W.tbl b'.newT) ((moveStepX rels W b).tbl b'.newT) :=
      fun b' hb' => tp.ms.tmeta _ (ok.dst b' (List.mem_cons_of_mem _ hb'))
    have ip := moveLoopX_post bts tp.st ok' (by rw [tp.entitiesLen]; exact hent)
      (fun _ r hr hz => by rw [tp.isTargetLen]; exact hreg r hr hz)
    obtain ⟨hsep, hsep'⟩ := srcIds_step hI ok.srcNodup ok.src hsrc'
    show MovedAllX W fl rels (b :: bts) (bts.foldl (moveStepX rels) (moveStepX rels W b))
    exact
      { st := ip.st
        flagsOK := by
          intro _
          by_cases hbts : bts = []
          · have hfold : bts.foldl (moveStepX rels) (moveStepX rels W b) = moveStepX rels W b := by
              rw [hbts]; rfl
            rw [hfold]; exact tp.flagsOK
          · exact ip.flagsOK hbts
        ms := tp.ms.trans ip.ms
        pool := ip.pool.trans tp.pool
        obs := ip.obs.trans tp.obs
        locks := ip.locks.trans tp.locks
        maxComps := ip.maxComps.trans tp.maxComps
        isTargetLen := ip.isTargetLen.trans tp.isTargetLen
        entitiesLen := ip.entitiesLen.trans tp.entitiesLen
        moved := by
          intro b1 hb1 k hk
          rcases List.mem_cons.mp hb1 with rfl | hb1
          · obtain ⟨_, m2, m3, m4⟩ := tp.moved k hk
            obtain ⟨hs, hst⟩ := ip.frame _ (hsep k hk)
            exact ⟨by rw [hs.2]; exact m2, fun c hc => by rw [hs.1 c]; exact m3 c hc,
              fun c => by rw [hst c]; exact m4 c⟩
          · have hk' : k < ((moveStepX rels W b).tbl b1.oldT).len := by
              rw [hsrc' b1 hb1]; exact hk
            obtain ⟨m2, m3, m4⟩ := ip.moved b1 hb1 k hk'
            rw [hsrc' b1 hb1] at m2 m3 m4
            have hmeta := hdstM b1 hb1
            rw [hmeta.ids] at m2 m3
            have hfr := (tp.frame _ fun k' hk' => srcRows_ne hI ok.srcNodup ok.src hb1 hk' hk).1
            exact ⟨m2, fun c hc => by rw [m3 c hc, hfr.1 c],
              fun c => by rw [m4 c]; exact (Table.targetAt_sameMeta hmeta c)⟩
        frame := by
          intro j hj
          obtain ⟨h1, h2⟩ := hsep' j hj
          obtain ⟨s1, _, g1⟩ := tp.frame j h1
          obtain ⟨s2, g2⟩ := ip.frame j h2
          exact ⟨s1.trans s2, fun c => (g2 c).trans (g1 c)⟩ }

end Ark

end

