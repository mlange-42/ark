/-
  `World.add` and `World.remove` are the two degenerate cases of `World.exchange`, as functions of the
  world, observers and panics included (§2: `addCore_eq_exchangeCore`, `removeCore_eq_exchangeCore`).
  Before that (§1), the laws of the state-and-panic monad `M` that rewrite a program without running
  it; they are what proves §2.
-/
import Ark.Proofs.SInv

section

/-! ## §1 the laws of the monad

The laws of the state-and-panic monad `M` that rewrite a program without
  running it: associativity, `pure` on either side, a conditional or an assertion in front of a
  bind.  Two programs written with `do` that differ only in where a common tail is attached are
  equal by `simp only` with these.  Last, the loop rule for `M.forM'` (`forM'_hoare`).
-/

namespace Ark
namespace M

variable {σ α β γ : Type}

theorem bind_bind (m : M σ α) (f : α → M σ β) (g : β → M σ γ) :
    M.bind (M.bind m f) g = M.bind m fun a => M.bind (f a) g := by
  funext s
  simp only [M.bind]
  cases m s <;> rfl

theorem pure_bind (a : α) (f : α → M σ β) : M.bind (M.pure a) f = f a := rfl

theorem bind_pure_unit (m : M σ Unit) : (M.bind m fun _ => M.pure ()) = m := by
  funext s
  simp only [M.bind]
  cases m s <;> rfl

theorem ite_bind (c : Prop) [Decidable c] (x y : M σ α) (f : α → M σ β) :
    M.bind (if c then x else y) f = if c then M.bind x f else M.bind y f := by
  split <;> rfl

theorem get_bind_const (m : M σ β) : (M.bind M.get fun _ => m) = m := rfl

/-- what follows a passed assertion may use it -/
theorem assert_bind_congr (c : Bool) (k : PanicKind) {f g : Unit → M σ β}
    (h : c = true → f () = g ()) : M.bind (M.assert c k) f = M.bind (M.assert c k) g := by
  cases c with
  | false => rfl
  | true => funext s; exact congrFun (h rfl) s

end M

/-- the loop rule for `M.forM'`; the invariant `I` sees what is left of the list -/
theorem forM'_hoare {σ α : Type} (f : α → M σ Unit) (I : List α → σ → Prop)
    (hstep : ∀ (x : α) (rest : List α) (s : σ), I (x :: rest) s →
      ∃ (s' : σ), f x s = .ok () s' ∧ I rest s') :
    ∀ (xs : List α) (s : σ), I xs s → ∃ (s' : σ), M.forM' xs f s = .ok () s' ∧ I [] s'
  | [], s, h => ⟨s, rfl, h⟩
  | x :: rest, s, h => by
    obtain ⟨s1, h1, h2⟩ := hstep x rest s h
    obtain ⟨s2, h3, h4⟩ := forM'_hoare f I hstep rest s1 h2
    exact ⟨s2, by simp only [M.forM', bind, M.bind, h1, h3], h4⟩

end Ark

end

section

/-! ## §2 `add` and `remove` as cases of `exchange`

As functions of the world, observers and panics included,
  `addCore e add rels = exchangeCore run e add [] rels` and
  `removeCore run e rem = exchangeCore run e [] rem [] >>= fun _ => pure ()`.
  For this the three functions are written with their shared blocks (`moveTo`, `fireRemoves`), and
  the exchange lookup with an empty list is the lookup of the other operation
  (`findOrCreateTable … [] rem [] = findOrCreateTableRemove …`,
  `findOrCreateTable … add [] rels = findOrCreateTableAdd …`).
-/

set_option autoImplicit false

namespace Ark

namespace World

theorem graphFind_nil_add (s m : Mask) (rem : List Comp) :
    graphFind s m [] rem = graphFindRemove m rem := by
  funext w
  unfold graphFind
  cases graphFindRemove m rem w <;> rfl

/-- while the running mask contains the start mask, the second check of `graph.Find`
    ("added and removed") cannot fire before the first ("already has") -/
theorem graphFind_go_eq_add (s : Mask) (w : World) : ∀ (add : List Comp) (m : Mask),
    (∀ (c : Comp), s.get c = true → m.get c = true) →
    graphFind.go s w m add = graphFindAdd.go w m add
  | [], _, _ => rfl
  | c :: rest, m, h => by
    simp only [graphFind.go, graphFindAdd.go]
    cases hm : m.get c with
    | true => rfl
    | false =>
      have hs : s.get c = false := by
        cases hs : s.get c with
        | false => rfl
        | true => rw [h c hs] at hm; cases hm
      simp only [hs, Bool.false_eq_true, if_false]
      apply graphFind_go_eq_add s w rest
      intro c' hc'
      rw [Mask.get_set, h c' hc', Bool.true_or]

theorem graphFind_nil_rem (m : Mask) (add : List Comp) :
    graphFind m m add [] = graphFindAdd m add :=
  funext fun w => graphFind_go_eq_add m w add m (fun _ h => h)

theorem findOrCreateTable_nil_add (oldT : Nat) (m : Mask) (rem : List Comp)
    (hne : rem.isEmpty = false) :
    findOrCreateTable oldT m [] rem [] = findOrCreateTableRemove oldT m rem := by
  simp only [findOrCreateTable, findOrCreateTableRemove, graphFind_nil_add, hne, Bool.not_false,
    if_true, List.append_nil]

theorem findOrCreateTable_nil_rem (oldT : Nat) (m : Mask) (add : List Comp) (rels : List RelID) :
    findOrCreateTable oldT m add [] rels =
      M.bind (findOrCreateTableAdd oldT m add rels) fun r => M.pure (r.1, r.2.1, r.2.2, false) := by
  funext w
  have hx : ∀ (T : Table) (m' : Mask), xchgRels T m' [] rels = relsForAdd T rels ∧
      xchgRelRemoved T m' [] = false := fun _ _ => ⟨rfl, rfl⟩
  simp only [findOrCreateTable_eq, findOrCreateTableAdd_eq, graphFind_nil_rem, hx, bind, M.bind]
  cases graphFindAdd m add w with
  | panic k s => rfl
  | ok m' s =>
    dsimp only
    cases tableFor m' (relsForAdd (w.tbl oldT) rels) s <;> rfl

/-- the row move at the end of `add` / `remove` / `exchange` / `setRelations` -/
def moveTo (e : Ent) (oldT row newT : Nat) (keep : Mask) : W Unit := do
  let newIndex ← (fun w => let (N, i) := (w.tbl newT).add e; Res.ok i (w.setTbl newT N) : W Nat)
  moveRow e oldT row newT newIndex keep

/-- the `OnRemove…` events of `remove` / `exchange` -/
def fireRemoves (run : ProbeRunner) (e : Ent) (oldMask mask : Mask) (relRemoved : Bool) : W Unit := do
  let w ← M.get
  let hasCompObs := w.obs.hasObservers Ev.onRemoveComponents
  let hasRelObs := relRemoved && w.obs.hasObservers Ev.onRemoveRelations
  if hasCompObs || hasRelObs then
    let l ← lock
    if hasCompObs then let _ ← fireRemove run Ev.onRemoveComponents e oldMask mask true
    if hasRelObs then let _ ← fireRemove run Ev.onRemoveRelations e oldMask mask true
    unlock l

theorem removeCore_def (run : ProbeRunner) (e : Ent) (rem : List Comp) :
    removeCore run e rem = (do
      checkLocked
      let w ← M.get
      M.assert (w.alive e) .deadEntity
      M.assert (!rem.isEmpty) .noComponents
      let (oldT, row) := w.index e.id
      let oldMask := (w.arch (w.tbl oldT).arch).mask
      let (newT, _, mask, relRemoved) ← findOrCreateTableRemove oldT oldMask rem
      fireRemoves run e oldMask mask relRemoved
      moveTo e oldT row newT mask) := by
  -- `do` has copied the tail into every branch of the observer block
  simp only [removeCore, fireRemoves, moveTo, bind, pure, M.bind_bind, M.ite_bind, M.pure_bind]

theorem exchangeCore_def (run : ProbeRunner) (e : Ent) (add rem : List Comp) (rels : List RelID) :
    exchangeCore run e add rem rels = (do
      checkLocked
      let w ← M.get
      M.assert (w.alive e) .deadEntity
      M.assert (!(add.isEmpty && rem.isEmpty)) .noComponents
      let (oldT, row) := w.index e.id
      let oldMask := (w.arch (w.tbl oldT).arch).mask
      let (newT, newA, mask, relRemoved) ← findOrCreateTable oldT oldMask add rem rels
      if !rem.isEmpty then fireRemoves run e oldMask mask relRemoved
      moveTo e oldT row newT mask
      registerTargets rels
      let w ← M.get
      pure (oldMask, (w.arch newA).mask)) := by
  simp only [exchangeCore, fireRemoves, moveTo, bind, pure, M.bind_bind, M.ite_bind, M.pure_bind]
  rfl

theorem addCore_def (e : Ent) (add : List Comp) (rels : List RelID) :
    addCore e add rels = (do
      checkLocked
      let w ← M.get
      M.assert (w.alive e) .deadEntity
      M.assert (!add.isEmpty) .noComponents
      let (oldT, row) := w.index e.id
      let oldMask := (w.arch (w.tbl oldT).arch).mask
      let (newT, newA, mask) ← findOrCreateTableAdd oldT oldMask add rels
      moveTo e oldT row newT mask
      registerTargets rels
      let w ← M.get
      pure (oldMask, (w.arch newA).mask)) := rfl

theorem registerTargets_nil_eq : registerTargets [] = M.pure () := rfl

theorem removeCore_eq_exchangeCore (run : ProbeRunner) (e : Ent) (rem : List Comp) :
    removeCore run e rem = M.bind (exchangeCore run e [] rem []) fun _ => M.pure () := by
  rw [removeCore_def, exchangeCore_def]
  simp only [bind, pure, M.bind_bind, List.isEmpty_nil, Bool.true_and]
  refine congrArg (M.bind checkLocked) (funext fun _ => congrArg (M.bind M.get) (funext fun w =>
    congrArg (M.bind _) (funext fun _ => M.assert_bind_congr _ _ fun hne => ?_)))
  have hne' : rem.isEmpty = false := by simpa using hne
  simp only [findOrCreateTable_nil_add _ _ _ hne', hne, if_true, M.bind_bind, M.pure_bind,
    registerTargets_nil_eq, M.get_bind_const, M.bind_pure_unit]

theorem addCore_eq_exchangeCore (run : ProbeRunner) (e : Ent) (add : List Comp) (rels : List RelID) :
    addCore e add rels = exchangeCore run e add [] rels := by
  rw [addCore_def, exchangeCore_def]
  simp only [bind, pure, findOrCreateTable_nil_rem, M.bind_bind, M.pure_bind, List.isEmpty_nil,
    Bool.and_true, Bool.not_true, Bool.false_eq_true, if_false]

end World

end Ark

end

