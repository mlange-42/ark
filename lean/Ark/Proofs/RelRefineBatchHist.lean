/-
  The machine with batch steps along histories: the invariant holds along every history that stays
  within a size budget (`(T, A, E)`: tables, relation archetypes, index slots), and what a batch step
  leaves of the entry of an entity it does not select.
-/
import Ark.Proofs.RelRefineBatchXchg

section

/-! ## §1 histories within a size budget

The invariant of the machine with batch steps holds along every history that stays within a size
  budget.  A triple `(T, A, E)` bounds the number of tables, of relation archetypes and of index
  slots.  A single operation needs `T + A + 1 ≤ 2^32−1`, `2·E < 2^32` and costs `(1 + A, 1, 1)`
  (`RemoveEntity` of a relation target may create one table per relation archetype); `delb` needs
  `T + E·A + 1 ≤ 2^32−1` (every removed entity may be a target) and costs `(E·A, 0, 0)`; `setrelb`
  creates at most one table per selected table: it needs `2·T ≤ 2^32−1` and at most doubles `T`; the
  single `xchg` is like a single operation; `xchgb` creates at most one table AND one relation
  archetype per selected table: it needs `2·T < 2^32−1` and costs `(T, T, 0)`.  `NewWorld` is
  `(1, 0, 2)`.
-/

set_option autoImplicit false

namespace Ark

open World Ark.Props.C01World QueryRel

namespace RelRefineB

open RelRefine
open RelRefine3 (XchgOK xchgEntry specXchg preXchg guardXchg)
open Refine (Comps keys sortedIds writeComps zeros)

/-! ### the size budget -/

/-- the budget: tables, relation archetypes, index slots -/
structure Budget where
  tables : Nat
  relArchs : Nat
  slots : Nat
  deriving DecidableEq, Repr

/-- what a step may add to the budget -/
def grow (b : Budget) : OpRB → Budget
  | .base _ => ⟨b.tables + 1 + b.relArchs, b.relArchs + 1, b.slots + 1⟩
  | .delb _ _ => ⟨b.tables + b.slots * b.relArchs, b.relArchs, b.slots⟩
  | .setrelb _ _ _ _ => ⟨2 * b.tables, b.relArchs, b.slots⟩
  | .xchg _ _ _ _ _ _ => ⟨b.tables + 1 + b.relArchs, b.relArchs + 1, b.slots + 1⟩
  | .xchgb _ _ _ _ _ _ => ⟨2 * b.tables, b.relArchs + b.tables, b.slots⟩

/-- what a step needs of the budget -/
def need (b : Budget) : OpRB → Prop
  | .base _ => b.tables + b.relArchs + 1 ≤ maxU32 ∧ 2 * b.slots < 2 ^ 32
  | .delb _ _ => b.tables + b.slots * b.relArchs + 1 ≤ maxU32 ∧ 2 * b.slots < 2 ^ 32
  | .setrelb _ _ _ _ => 2 * b.tables ≤ maxU32 ∧ 2 * b.slots < 2 ^ 32
  | .xchg _ _ _ _ _ _ => b.tables + b.relArchs + 1 ≤ maxU32 ∧ 2 * b.slots < 2 ^ 32
  | .xchgb _ _ _ _ _ _ => 2 * b.tables < maxU32 ∧ 2 * b.slots < 2 ^ 32

instance (b : Budget) (op : OpRB) : Decidable (need b op) := by
  cases op <;> simp only [need] <;> exact inferInstance

/-- every operation of the history finds the room it needs -/
def Fits (b : Budget) : List OpRB → Prop
  | [] => True
  | op :: ops => need b op ∧ Fits (grow b op) ops

def Fits.dec : ∀ (ops : List OpRB) (b : Budget), Decidable (Fits b ops)
  | [], _ => isTrue trivial
  | op :: ops, b =>
    have : Decidable (Fits (grow b op) ops) := Fits.dec ops (grow b op)
    inferInstanceAs (Decidable (need b op ∧ Fits (grow b op) ops))

instance (b : Budget) (ops : List OpRB) : Decidable (Fits b ops) := Fits.dec ops b

/-- the budget after a history -/
def budget (b : Budget) (ops : List OpRB) : Budget := ops.foldl grow b

/-- the budget of `NewWorld` -/
def Budget.init : Budget := ⟨1, 0, 2⟩

theorem fits_append (b : Budget) (l1 l2 : List OpRB) :
    Fits b (l1 ++ l2) ↔ Fits b l1 ∧ Fits (budget b l1) l2 := by
  induction l1 generalizing b with
  | nil => simp [Fits, budget]
  | cons op l1 ih =>
    simp only [List.cons_append, Fits, budget, List.foldl_cons]
    rw [ih]
    exact and_assoc.symm

theorem fits_snoc (b : Budget) (ops : List OpRB) (op : OpRB) :
    Fits b (ops ++ [op]) ↔ Fits b ops ∧ need (budget b ops) op := by
  rw [fits_append]
  simp [Fits]

/-- the sizes of the world are within the budget -/
def Sized (s : St) (b : Budget) : Prop :=
  s.w.tables.length ≤ b.tables ∧ s.w.relationArchetypes.length ≤ b.relArchs ∧
    s.w.entities.length ≤ b.slots

theorem room_of_need {s : St} {b : Budget} (hs : Sized s b) (op : OpRB) (hn : need b op) :
    Room s op := by
  obtain ⟨h1, h2, h3⟩ := hs
  -- `need` is `Room` of the budget, and `Room` is monotone in the three sizes
  have hE : 2 * b.slots < 2 ^ 32 → 2 * s.w.entities.length < 2 ^ 32 :=
    Nat.lt_of_le_of_lt (Nat.mul_le_mul_left 2 h3)
  cases op with
  | base op =>
    exact ⟨Nat.le_trans (Nat.add_le_add_right (Nat.add_le_add h1 h2) 1) hn.1, hE hn.2⟩
  | delb f frels =>
    exact ⟨Nat.le_trans (Nat.add_le_add_right (Nat.add_le_add h1 (Nat.mul_le_mul h3 h2)) 1) hn.1,
      hE hn.2⟩
  | setrelb p f frels rels => exact ⟨Nat.le_trans (Nat.mul_le_mul_left 2 h1) hn.1, hE hn.2⟩
  | xchg p e add vals rem rels => exact ⟨by have := hn.1; omega, by have := hn.2; omega⟩
  | xchgb p f frels add rem rels =>
    exact ⟨Nat.lt_of_le_of_lt (Nat.mul_le_mul_left 2 h1) hn.1, hE hn.2⟩

theorem Sized.single {s s' : St} {b : Budget} (hs : Sized s b)
    (hT : s'.w.tables.length ≤ s.w.tables.length + 1 + s.w.relationArchetypes.length)
    (hA : s'.w.relationArchetypes.length ≤ s.w.relationArchetypes.length + 1)
    (hE : s'.w.entities.length ≤ s.w.entities.length + 1) :
    Sized s' ⟨b.tables + 1 + b.relArchs, b.relArchs + 1, b.slots + 1⟩ := by
  obtain ⟨h1, h2, h3⟩ := hs
  exact ⟨by show _ ≤ b.tables + 1 + b.relArchs; omega, by show _ ≤ b.relArchs + 1; omega,
    by show _ ≤ b.slots + 1; omega⟩

theorem sized_grow {s : St} {b : Budget} (hs : Sized s b) (op : OpRB) : Sized s (grow b op) := by
  have single := hs.single (s' := s) (Nat.le_trans (Nat.le_succ _) (Nat.le_add_right _ _))
    (Nat.le_succ _) (Nat.le_succ _)
  obtain ⟨h1, h2, h3⟩ := hs
  cases op with
  | base op => exact single
  | delb f frels => exact ⟨Nat.le_trans h1 (Nat.le_add_right _ _), h2, h3⟩
  | setrelb p f frels rels => exact ⟨by show _ ≤ 2 * b.tables; omega, h2, h3⟩
  | xchg p e add vals rem rels => exact single
  | xchgb p f frels add rem rels => exact ⟨by show _ ≤ 2 * b.tables; omega,
      Nat.le_trans h2 (Nat.le_add_right _ _), h3⟩

/-! ### one step -/

theorem execRB_base (run : ProbeRunner) (w : World) (op : Op) :
    execRB run w (.base op) =
      match exec run w op with
      | .ok r w' => .ok r.toList w'
      | .panic k w' => .panic k w' := rfl

theorem stepRB_goal (run : ProbeRunner) {s : St} {fl : List Nat} (H : HInvRB s fl) {b : Budget}
    (hs : Sized s b) (op : OpRB) (hn : need b op) :
    (∃ fl', HInvRB (stepRB run s op) fl') ∧ Sized (stepRB run s op) (grow b op) ∧
    (guardRB s op = true → ¬ preRB s.ss op →
      (∃ k, execRB run s.w op = .panic k s.w) ∧ stepRB run s op = s) ∧
    (guardRB s op = true → preRB s.ss op → ∃ r w', execRB run s.w op = .ok r w') := by
  by_cases hg : guardRB s op = true
  case neg =>
    have hst : stepRB run s op = s := by cases op <;> exact if_neg hg
    rw [hst]
    exact ⟨⟨fl, H⟩, sized_grow hs _, fun h => absurd h hg, fun h => absurd h hg⟩
  have hroom := room_of_need hs op hn
  obtain ⟨h1, h2, h3⟩ := hs
  cases op with
  | base op =>
    obtain ⟨hfew, hent⟩ := hroom
    -- a step of `Ark.RelRefine` keeps what the batches need: rows hold alive handles, the lock
    have k := RelRefine2.step_kept run H.hinv hfew hent op
    obtain ⟨⟨fl1, g0⟩, g1, g2, g3, grej, gok⟩ := step_goal run H.hinv hfew hent op
    refine ⟨⟨fl1, g0, k.q.rows H.rows, by
        show ∃ (lf : List Nat), Lock.LInv ⟨(step run s op).w.locks, []⟩ lf
        rw [k.locks]; exact H.lock⟩,
      Sized.single ⟨h1, h2, h3⟩ g1 g2 g3, ?_, ?_⟩
    · intro hg hnp
      obtain ⟨k, hk⟩ := grej hg hnp
      refine ⟨⟨k, by rw [execRB_base, hk]⟩, ?_⟩
      show step run s op = s
      rw [step_of_guard hg, hk]
      simp only [Res.state, retOf, issuedAfter, specStep_of_not_pre _ _ op hnp]
    · intro hg hp
      obtain ⟨r, w', hex⟩ := gok hg hp
      exact ⟨r.toList, w', by rw [execRB_base, hex]⟩
  | delb f frels =>
    obtain ⟨w', hop, hst, post, _, g0⟩ := step_delb run H f frels hg hroom
    obtain ⟨_, _, _, _, _, _, hlen⟩ := sel_spec H (show frelsExpr s.ss f frels = true from hg)
    refine ⟨⟨_, g0⟩, ?_, fun _ hnp => absurd trivial hnp,
      fun _ _ => ⟨[], w', by simp only [execRB, hop]⟩⟩
    rw [hst]
    have hmul := Nat.mul_le_mul (Nat.le_trans hlen h3) h2
    exact ⟨by show w'.tables.length ≤ b.tables + b.slots * b.relArchs; have := post.tablesLen; omega,
      by show w'.relationArchetypes.length ≤ b.relArchs; rw [post.relationArchetypes]; exact h2,
      by show w'.entities.length ≤ b.slots; rw [post.entitiesLen]; exact h3⟩
  | setrelb p f frels rels =>
    obtain ⟨grej, gok⟩ := step_setrelb run H p f frels rels hg hroom
    rcases Classical.em (preRB s.ss (.setrelb p f frels rels)) with hp | hnp
    · obtain ⟨w', hop, hst, post, more, _, _, g0⟩ := gok hp
      refine ⟨⟨fl, g0⟩, ?_, fun _ hnp => absurd hp hnp,
        fun _ _ => ⟨[], w', by simp only [execRB, hop]⟩⟩
      rw [hst]
      exact ⟨by show w'.tables.length ≤ 2 * b.tables; have := more.tablesLen; omega,
        by show w'.relationArchetypes.length ≤ b.relArchs; rw [more.relArchs]; exact h2,
        by show w'.entities.length ≤ b.slots; rw [post.entitiesLen]; exact h3⟩
    · obtain ⟨⟨k, hk⟩, hst⟩ := grej hnp
      rw [hst]
      exact ⟨⟨fl, H⟩, sized_grow ⟨h1, h2, h3⟩ _, fun _ _ => ⟨⟨k, by simp only [execRB, hk]⟩, rfl⟩,
        fun _ hp => absurd hp hnp⟩
  | xchg p e add vals rem rels =>
    obtain ⟨g0, ⟨g1, g2, g3⟩, grej, gok⟩ := step_xchg run H hroom.1 hroom.2 p e add vals rem rels
    refine ⟨g0, Sized.single ⟨h1, h2, h3⟩ (Nat.le_trans g1 (Nat.le_add_right _ _)) g2
      (Nat.le_trans (Nat.le_of_eq g3) (Nat.le_succ _)), ?_, ?_⟩
    · intro hg hnp
      obtain ⟨⟨k, hk⟩, hst⟩ := grej hg hnp
      exact ⟨⟨k, by simp only [execRB, hk]⟩, hst⟩
    · intro hg hp
      obtain ⟨w', hop⟩ := gok hg hp
      exact ⟨[], w', by simp only [execRB, hop]⟩
  | xchgb p f frels add rem rels =>
    obtain ⟨grej, gok⟩ := step_xchgb run H p f frels add rem rels hg hroom
    rcases Classical.em (preRB s.ss (.xchgb p f frels add rem rels)) with hp | hnp
    · obtain ⟨w', hop, hst, post, more, _, _, g0⟩ := gok hp
      refine ⟨⟨fl, g0⟩, ?_, fun _ hnp => absurd hp hnp,
        fun _ _ => ⟨[], w', by simp only [execRB, hop]⟩⟩
      rw [hst]
      exact ⟨by show w'.tables.length ≤ 2 * b.tables; have := more.tablesLen; omega,
        by show w'.relationArchetypes.length ≤ b.relArchs + b.tables; have := more.relArchs; omega,
        by show w'.entities.length ≤ b.slots; rw [post.entitiesLen]; exact h3⟩
    · obtain ⟨⟨k, hk⟩, hst⟩ := grej hnp
      rw [hst]
      exact ⟨⟨fl, H⟩, sized_grow ⟨h1, h2, h3⟩ _, fun _ _ => ⟨⟨k, by simp only [execRB, hk]⟩, rfl⟩,
        fun _ hp => absurd hp hnp⟩

/-! ### along histories -/

theorem runRB_inv (run : ProbeRunner) (ops : List OpRB) : ∀ (s : St) (fl : List Nat) (b : Budget),
    HInvRB s fl → Sized s b → Fits b ops →
    ∃ fl', HInvRB (runOpsRB run s ops) fl' ∧ Sized (runOpsRB run s ops) (budget b ops) := by
  induction ops with
  | nil => intro s fl b h hs _; exact ⟨fl, h, hs⟩
  | cons op ops ih =>
    intro s fl b h hs hf
    obtain ⟨⟨fl1, h1⟩, hs1, _, _⟩ := stepRB_goal run h hs op hf.1
    exact ih _ fl1 _ h1 hs1 hf.2

theorem sized_init (cap rel : Nat) : Sized (St.init cap rel) Budget.init :=
  ⟨Nat.le_refl _, Nat.le_refl _, Nat.le_refl _⟩

theorem reachRB_inv (run : ProbeRunner) (cap rel : Nat) (ops : List OpRB)
    (hf : Fits Budget.init ops) : ∃ fl, HInvRB (reachRB run cap rel ops) fl := by
  obtain ⟨fl, h, _⟩ := runRB_inv run ops _ [] Budget.init (hinvRB_init cap rel) (sized_init cap rel) hf
  exact ⟨fl, h⟩

theorem reachRB_sized (run : ProbeRunner) (cap rel : Nat) (ops : List OpRB)
    (hf : Fits Budget.init ops) : Sized (reachRB run cap rel ops) (budget Budget.init ops) := by
  obtain ⟨_, _, h⟩ := runRB_inv run ops _ [] Budget.init (hinvRB_init cap rel) (sized_init cap rel) hf
  exact h

theorem reachRB_step (run : ProbeRunner) (cap rel : Nat) (ops : List OpRB) (op : OpRB)
    (hf : Fits Budget.init (ops ++ [op])) :
    ∃ fl, HInvRB (reachRB run cap rel ops) fl ∧
    (∃ fl', HInvRB (reachRB run cap rel (ops ++ [op])) fl') ∧
    Room (reachRB run cap rel ops) op ∧
    (guardRB (reachRB run cap rel ops) op = true → ¬ preRB (reachRB run cap rel ops).ss op →
      (∃ k, execRB run (reachRB run cap rel ops).w op = .panic k (reachRB run cap rel ops).w) ∧
      reachRB run cap rel (ops ++ [op]) = reachRB run cap rel ops) ∧
    (guardRB (reachRB run cap rel ops) op = true → preRB (reachRB run cap rel ops).ss op →
      ∃ r w', execRB run (reachRB run cap rel ops).w op = .ok r w') := by
  obtain ⟨hf1, hn⟩ := (fits_snoc _ _ _).mp hf
  obtain ⟨fl, H⟩ := reachRB_inv run cap rel ops hf1
  have hs := reachRB_sized run cap rel ops hf1
  obtain ⟨g0, _, grej, gok⟩ := stepRB_goal run H hs op hn
  rw [reachRB_snoc]
  exact ⟨fl, H, g0, room_of_need hs op hn, grej, gok⟩

/-! ### simple sufficient bounds -/

/-- histories of single operations: the bound of `RelRefine.run_sizes` -/
theorem fits_base_gen : ∀ (ops : List Op) (b : Budget),
    b.tables + ops.length * (b.relArchs + ops.length) + b.relArchs + ops.length + 1 ≤ maxU32 →
    2 * (b.slots + ops.length) < 2 ^ 32 → Fits b (ops.map .base)
  | [], _, _, _ => trivial
  | op :: ops, b, h1, h2 =>
    ⟨⟨room_one h1, slots_one h2⟩, fits_base_gen ops (grow b (.base op))
      (quad_room_step _ (Nat.le_refl _) (Nat.le_refl _) h1) (slots_step _ (Nat.le_refl _) h2)⟩

theorem fits_base (ops : List Op) (hlen : ops.length < 2 ^ 16) :
    Fits Budget.init (ops.map .base) := by
  have hsq : ops.length * ops.length ≤ 65535 * 65535 := Nat.mul_le_mul (by omega) (by omega)
  apply fits_base_gen
  · show 1 + ops.length * (0 + ops.length) + 0 + ops.length + 1 ≤ maxU32
    rw [Nat.zero_add]; simp only [maxU32]; omega
  · show 2 * (2 + ops.length) < 2 ^ 32; omega

/-- the batches that may double the number of tables -/
def OpRB.doubles : OpRB → Bool
  | .setrelb _ _ _ _ => true
  | .xchgb _ _ _ _ _ _ => true
  | _ => false

/-- a step that does not double, with `n` steps to follow, at most `N` relation archetypes and
    `N + 2` index slots at the end, and room for `C = (N + 2)·(N + 1)` more tables per step: it finds
    its room, and the same holds after it with `n` in place of `n + 1` -/
theorem need_of_room {N n : Nat} {b : Budget} {op : OpRB} (hd : op.doubles = false)
    (hA : b.relArchs + (n + 1) ≤ N) (hE : b.slots + (n + 1) ≤ N + 2)
    (hT : b.tables + (n + 1 + 1) * ((N + 2) * (N + 1)) + 1 ≤ maxU32) (hN : 2 * (N + 2) < 2 ^ 32) :
    need b op ∧ (grow b op).relArchs + n ≤ N ∧ (grow b op).slots + n ≤ N + 2 ∧
      (grow b op).tables + (n + 1) * ((N + 2) * (N + 1)) + 1 ≤ maxU32 := by
  rw [Nat.succ_mul (n + 1)] at hT
  have hC1 : 1 * (N + 1) ≤ (N + 2) * (N + 1) := Nat.mul_le_mul_right _ (by omega)
  have hC2 : b.slots * b.relArchs ≤ (N + 2) * (N + 1) := Nat.mul_le_mul (by omega) (by omega)
  have single : (b.tables + b.relArchs + 1 ≤ maxU32 ∧ 2 * b.slots < 2 ^ 32) ∧
      b.relArchs + 1 + n ≤ N ∧ b.slots + 1 + n ≤ N + 2 ∧
      b.tables + 1 + b.relArchs + (n + 1) * ((N + 2) * (N + 1)) + 1 ≤ maxU32 := by omega
  cases op with
  | base o => exact single
  | delb f frels =>
    exact (by omega : (b.tables + b.slots * b.relArchs + 1 ≤ maxU32 ∧ 2 * b.slots < 2 ^ 32) ∧
      b.relArchs + n ≤ N ∧ b.slots + n ≤ N + 2 ∧
      b.tables + b.slots * b.relArchs + (n + 1) * ((N + 2) * (N + 1)) + 1 ≤ maxU32)
  | setrelb p f frels rels => cases hd
  | xchg p e add vals rem rels => exact single
  | xchgb p f frels add rem rels => cases hd

/-- histories without `setrelb` / `xchgb`: with at most `N` relation archetypes and `N + 2` index
    slots at the end, every step adds at most `C = (N + 2)·(N + 1)` tables -/
theorem fits_of_length_gen (N : Nat) : ∀ (ops : List OpRB) (b : Budget),
    (∀ op ∈ ops, op.doubles = false) →
    b.relArchs + ops.length ≤ N → b.slots + ops.length ≤ N + 2 →
    b.tables + (ops.length + 1) * ((N + 2) * (N + 1)) + 1 ≤ maxU32 → 2 * (N + 2) < 2 ^ 32 →
    Fits b ops
  | [], _, _, _, _, _, _ => trivial
  | op :: ops, _, hx, hA, hE, hT, hN =>
    have ⟨hn, gA, gE, gT⟩ := need_of_room (hx op List.mem_cons_self) hA hE hT hN
    ⟨hn, fits_of_length_gen N ops _ (fun o ho => hx o (List.mem_cons_of_mem _ ho)) gA gE gT hN⟩

end RelRefineB

end Ark

end

section

/-! ## §2 frame statements

Frame statements for the machine with batch steps: what a batch step leaves of the entry of an
  entity it does not select.  (A single step and an entity it does not name:
  `RelRefine.step_entry_kept`; two states realising the same entry: `RelRefine.HInv.same_entry`.)
-/

set_option autoImplicit false

namespace Ark

open World Ark.Props.C01World QueryRel

namespace RelRefineB

open RelRefine
open RelRefine3 (XchgOK xchgEntry specXchg preXchg guardXchg)
open Refine (Comps keys sortedIds writeComps zeros)

/-! ### batches: the entries of the entities that are not selected -/

theorem detachAll_of_no_target {es : List Ent} {en : Entry} (h : ∀ r ∈ en.rels, r.target ∉ es) :
    detachAll es en = en := by
  simp only [detachAll]
  have : en.rels.map (zeroInRel es) = en.rels := by
    rw [List.map_congr_left (g := id) (fun r hr => by
      simp only [zeroInRel, zeroIn_of_not_mem (h r hr), id]), List.map_id]
  rw [this]

theorem not_matching {ss : SS} (hnd : (ss.ents.map (·.1)).Nodup) (f : Filter) (frels : Rels)
    {x : Ent} {en : Entry} (hm : (x, en) ∈ ss.ents) (hnm : entryMatches f frels en = false) :
    x ∉ matching ss f frels := fun h => by
  rw [(mem_matching_of_mem hnd f frels hm).mp h] at hnm; cases hnm

/-- **frame** (specification, `delb`): a specified entity the filter does not match keeps its
    entry, with every target among the selected entities zeroed -/
theorem entry_after_delb {ss : SS} (hnd : (ss.ents.map (·.1)).Nodup) (f : Filter) (frels : Rels)
    {x : Ent} {en : Entry} (hm : (x, en) ∈ ss.ents) (hnm : entryMatches f frels en = false) :
    (x, detachAll (matching ss f frels) en) ∈ (specStepRB ss [] (.delb f frels)).ents := by
  show (x, _) ∈ (specDelAll ss (matching ss f frels)).ents
  rw [mem_specDelAll hnd (fun e he => matching_sub he) (matching_nodup hnd f frels)]
  exact ⟨en, hm, not_matching hnd f frels hm hnm, rfl⟩

/-- `setrelb`, `xchgb`, `xchg` are folds of guarded updates (`updIf`), which leave the entry of a
    handle they do not fold over alone (`foldl_updIf_frame`) -/
theorem entry_after_setrelb {ss : SS} (hnd : (ss.ents.map (·.1)).Nodup) (p : Path) (f : Filter)
    (frels rels : Rels) {x : Ent} {en : Entry} (hm : (x, en) ∈ ss.ents)
    (hnm : entryMatches f frels en = false) :
    (x, en) ∈ (specStepRB ss [] (.setrelb p f frels rels)).ents :=
  find_some_mem ((specSetRelAll_frame p rels x _ ss (not_matching hnd f frels hm hnm)).trans
    (find_of_mem hnd hm))

theorem entry_after_xchgb {ss : SS} (hnd : (ss.ents.map (·.1)).Nodup) (p : Path) (f : Filter)
    (frels : Rels) (add rem : List Comp) (rels : Rels) {x : Ent} {en : Entry}
    (hm : (x, en) ∈ ss.ents) (hnm : entryMatches f frels en = false) :
    (x, en) ∈ (specStepRB ss [] (.xchgb p f frels add rem rels)).ents :=
  find_some_mem ((specXchgAll_frame add rem rels x _ ss (not_matching hnd f frels hm hnm)).trans
    (find_of_mem hnd hm))

theorem entry_after_xchg {ss : SS} (hnd : (ss.ents.map (·.1)).Nodup) (p : Path) (e : Ent)
    (add : List Comp) (vals : Comps) (rem : List Comp) (rels : Rels) {x : Ent} {en : Entry}
    (hm : (x, en) ∈ ss.ents) (hne : x ≠ e) :
    (x, en) ∈ (specStepRB ss [] (.xchg p e add vals rem rels)).ents :=
  find_some_mem ((foldl_updIf_frame (P := fun ss en => XchgOK ss en add rem rels)
    (g := fun z => xchgEntry z add vals rem rels) x [e] ss (by simpa using hne)).trans
    (find_of_mem hnd hm))

end RelRefineB

end Ark

end

