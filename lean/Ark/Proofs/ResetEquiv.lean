/-
  Ark.Proofs.ResetEquiv — C16, second sentence ("from then on every history has the same outcome as on a
  new world with the same component types registered in the same order"), for the history machine
  `Ark.Refine`.  §1: the outcome of every operation is a function of the specification state and the
  next pool handle (`specOutcome`, `exec_outcome`).  §2: the state after `pre ++ [reset]` and the state
  after the registrations of `pre` on a new world are related by a simulation `Sim`, kept by every
  later step (`reset_equiv`); `Sim` is then read off on the model worlds and on queries
  (`reset_equiv_worlds`, `reset_equiv_cached`).
-/
import Ark.Proofs.QueryHist

section

/-! ## §1 the outcome of an operation as a function of the specification

The OUTCOME of every operation of the history machine `Ark.Refine` is a function of the
  specification state and of the next handle of the entity pool: `Refine.exec_facts`
  (Ark/Proofs/Refine.lean) gives the returned handle, the panic class, the pool and the registry
  after an expressible call; here the precondition is made decidable and the outcome is stated as
  the function `specOutcome` (`exec_outcome`).
-/

set_option autoImplicit false

namespace Ark

open World Ark.Props.C01World

namespace Refine

def decSome (o : Option Comps) (P : Comps → Prop) [∀ cs, Decidable (P cs)] :
    Decidable (∃ cs, o = some cs ∧ P cs) :=
  match o with
  | none => isFalse (by rintro ⟨_, h, _⟩; cases h)
  | some cs =>
    if h : P cs then isTrue ⟨cs, rfl, h⟩
    else isFalse (by rintro ⟨cs', h', hp⟩; cases h'; exact h hp)

def decSome' (o : Option Comps) : Decidable (∃ cs, o = some cs) :=
  match o with
  | none => isFalse (by rintro ⟨_, h⟩; cases h)
  | some cs => isTrue ⟨cs, rfl⟩

instance instDecidablePre (ss : SS) : (op : Op) → Decidable (pre ss op)
  | .reg _ _ => inferInstanceAs (Decidable (ss.zst.length < 256))
  | .new _ ids _ => inferInstanceAs (Decidable (ids.Nodup ∧ ∀ c ∈ ids, c < ss.zst.length))
  | .new0 => isTrue trivial
  | .add _ e ids _ => decSome (find ss.ents e)
      (fun cs => ids ≠ [] ∧ ids.Nodup ∧ ∀ c ∈ ids, c < ss.zst.length ∧ c ∉ keys cs)
  | .rem _ e ids => decSome (find ss.ents e) (fun cs => ids ≠ [] ∧ ids.Nodup ∧ ∀ c ∈ ids, c ∈ keys cs)
  | .xchg _ e add rem _ => decSome (find ss.ents e) (fun cs => XchgOK ss.zst.length cs add rem)
  | .set e vals => decSome (find ss.ents e) (fun cs => ∀ cv ∈ vals, cv.1 ∈ keys cs)
  | .del e => decSome' (find ss.ents e)
  | .copy e => decSome' (find ss.ents e)
  | .shrink _ => isTrue trivial
  | .reset => isTrue trivial

def specOutcome (ss : SS) (fresh : Ent) (op : Op) : Outcome :=
  if pre ss op then .ok (retSpec fresh op) else .panic (rejKind ss op)

/-- the issued handles after an ACCEPTED operation (`fresh` = the pool's next handle) -/
def issuedSpec (issued : List Ent) (fresh : Ent) (op : Op) : List Ent :=
  if op.isReset = true then [] else
  match retSpec fresh op with
  | some e => e :: issued
  | none => issued

/-- **one expressible step, by the specification**: every part later operations depend on — the
    specification, the issued handles, the pool, the registry — and the outcome of the call are
    functions of those parts before the step (a refused call changes nothing: `specStep` ignores
    the handle when the precondition fails) -/
theorem step_eq (run : ProbeRunner) {s : St} {fl : List Nat} (H : HInv s fl)
    (hfew : s.w.tables.length < maxU32) (hent : s.w.entities.length + 1 < 2 ^ 32) (op : Op)
    (hg : guard s op = true) :
    (step run s op).ss = specStep s.ss ((retSpec (s.w.pool.get).2 op).getD default) op ∧
    (step run s op).issued =
      (if pre s.ss op then issuedSpec s.issued (s.w.pool.get).2 op else s.issued) ∧
    (step run s op).w.pool = (if pre s.ss op then poolAfter s.w.pool op else s.w.pool) ∧
    (step run s op).w.kinds = (if pre s.ss op then kindsAfter s.w.kinds op else s.w.kinds) ∧
    outcome (exec run s.w op) = specOutcome s.ss (s.w.pool.get).2 op := by
  have F := exec_facts run H hfew hent op hg
  rw [step_of_guard hg, specOutcome]
  by_cases hp : pre s.ss op
  · obtain ⟨w', hex, hpool, hk⟩ := F.acc hp
    simp only [hex, if_pos hp]
    exact ⟨rfl, rfl, hpool, hk, rfl⟩
  · simp only [F.rej hp, if_neg hp, Res.state, retOf, issuedAfter,
      specStep_of_not_pre s.ss _ op hp]
    exact ⟨trivial, trivial, trivial, trivial, rfl⟩

/-- **the outcome of a call is a function of the specification** (and of the pool's next
    handle): returned handle, accept/reject decision and panic class -/
theorem exec_outcome (run : ProbeRunner) {s : St} {fl : List Nat} (H : HInv s fl)
    (hfew : s.w.tables.length < maxU32) (hent : s.w.entities.length + 1 < 2 ^ 32) (op : Op)
    (hg : guard s op = true) :
    outcome (exec run s.w op) = specOutcome s.ss (s.w.pool.get).2 op :=
  (step_eq run H hfew hent op hg).2.2.2.2

end Refine

end Ark

end

section

/-! ## §2 the simulation and the theorem

The state after `pre ++ [reset]` and the state after the registrations of `pre` on a new world
  are related by a simulation `Sim` (equal specification, issued handles, registry, pool core;
  archetypes, tables, capacities and the memory behind the pool slice may differ).  Every step
  keeps `Sim` and shows the client the same; `Sim` is then read off on the model worlds and on
  queries.
-/

set_option autoImplicit false

namespace Ark

open World Ark.Props.C01World

namespace Refine

/-- what the client sees of one operation: `none` if it is not expressible (`guard`), otherwise
    the returned handle or the panic class -/
def stepOut (run : ProbeRunner) (s : St) (op : Op) : Option Outcome :=
  if guard s op = true then some (outcome (exec run s.w op)) else none

def trace (run : ProbeRunner) : St → List Op → List (Option Outcome)
  | _, [] => []
  | s, op :: ops => stepOut run s op :: trace run (step run s op) ops

theorem trace_length (run : ProbeRunner) (ops : List Op) : ∀ s : St, (trace run s ops).length = ops.length := by
  induction ops with
  | nil => intro s; rfl
  | cons op ops ih => intro s; simp only [trace, List.length_cons, ih]

/-- the hypotheses of the step lemmas: the invariant, and room for one more table and index slot -/
def Ready (s : St) : Prop :=
  ∃ fl, HInv s fl ∧ s.w.tables.length < maxU32 ∧ s.w.entities.length + 1 < 2 ^ 32

/-- a history within the length bound is `Ready` before each of its steps -/
theorem reach_along (run : ProbeRunner) (cap rel : Nat) (ops A : List Op)
    (h : (A ++ ops).length < 2 ^ 32 - 2) : Along (step run) Ready (reach run cap rel A) ops :=
  along_of_reach (step run) Ready (St.init cap rel) (2 ^ 32 - 3)
    (fun A hA => show Ready (reach run cap rel A) from
      let ⟨b1, b2⟩ := reach_bounds run cap rel A (by omega)
      let ⟨fl, H⟩ := reach_hinv run cap rel A (by omega)
      ⟨fl, H, by simp only [maxU32]; omega, by omega⟩) ops A (by omega)

theorem runOps_append (run : ProbeRunner) (s : St) (a b : List Op) :
    runOps run s (a ++ b) = runOps run (runOps run s a) b := by
  simp only [runOps, List.foldl_append]

theorem reach_append (run : ProbeRunner) (cap rel : Nat) (a b : List Op) :
    reach run cap rel (a ++ b) = runOps run (reach run cap rel a) b := by
  simp only [reach, runOps_append]

/-- **the simulation relation**: the two machine states agree on everything later operations
    depend on — the specification (entities, component sets, values, registry flags), the handles
    the client holds, the registry, and the core of the entity pool.  The worlds themselves may
    differ (archetypes, tables, capacities, the memory behind the pool slice). -/
structure Sim (s1 s2 : St) : Prop where
  ss : s1.ss = s2.ss
  issued : s1.issued = s2.issued
  kinds : s1.w.kinds = s2.w.kinds
  core : s1.w.pool.Core = s2.w.pool.Core

theorem Sim.refl (s : St) : Sim s s := ⟨rfl, rfl, rfl, rfl⟩

theorem Sim.symm {s1 s2 : St} (h : Sim s1 s2) : Sim s2 s1 :=
  ⟨h.ss.symm, h.issued.symm, h.kinds.symm, h.core.symm⟩

theorem guard_congr {s1 s2 : St} (S : Sim s1 s2) (op : Op) : guard s1 op = guard s2 op := by
  cases op <;> simp only [guard, S.ss, S.issued]

theorem poolAfter_core {p q : Pool} (h : p.Core = q.Core) (op : Op) :
    (poolAfter p op).Core = (poolAfter q op).Core := by
  cases op with
  | new _ _ _ => exact (Pool.get_core h).2
  | new0 => exact (Pool.get_core h).2
  | copy _ => exact (Pool.get_core h).2
  | del e => exact Pool.recycle_core h e
  | reset =>
    obtain ⟨he, _, _⟩ := Pool.core_eq_iff.mp h
    simp only [poolAfter, Pool.reset, Pool.Core, he]
  | _ => exact h

theorem sim_step (run1 run2 : ProbeRunner) {s1 s2 : St} {fl1 fl2 : List Nat} (H1 : HInv s1 fl1)
    (H2 : HInv s2 fl2) (hf1 : s1.w.tables.length < maxU32)
    (he1 : s1.w.entities.length + 1 < 2 ^ 32) (hf2 : s2.w.tables.length < maxU32)
    (he2 : s2.w.entities.length + 1 < 2 ^ 32) (S : Sim s1 s2) (op : Op) :
    Sim (step run1 s1 op) (step run2 s2 op) ∧ stepOut run1 s1 op = stepOut run2 s2 op := by
  have hgc := guard_congr S op
  by_cases hg : guard s1 op = true
  · have hg2 : guard s2 op = true := hgc ▸ hg
    obtain ⟨a1, a2, a3, a4, a5⟩ := step_eq run1 H1 hf1 he1 op hg
    obtain ⟨b1, b2, b3, b4, b5⟩ := step_eq run2 H2 hf2 he2 op hg2
    have hfresh : (s1.w.pool.get).2 = (s2.w.pool.get).2 := (Pool.get_core S.core).1
    refine ⟨⟨by rw [a1, b1, S.ss, hfresh], by rw [a2, b2, S.ss, S.issued, hfresh],
      by rw [a4, b4, S.ss, S.kinds], ?_⟩,
      by rw [stepOut, stepOut, if_pos hg, if_pos hg2, a5, b5, S.ss, hfresh]⟩
    rw [a3, b3, S.ss]
    split
    · exact poolAfter_core S.core op
    · exact S.core
  · have hg2 : ¬ guard s2 op = true := by rw [← hgc]; exact hg
    rw [step, step, if_neg hg, if_neg hg2, stepOut, stepOut, if_neg hg, if_neg hg2]
    exact ⟨S, rfl⟩

theorem sim_run (run1 run2 : ProbeRunner) : ∀ (ops : List Op) (s1 s2 : St),
    Along (step run1) Ready s1 ops → Along (step run2) Ready s2 ops → Sim s1 s2 →
    Sim (runOps run1 s1 ops) (runOps run2 s2 ops) ∧ trace run1 s1 ops = trace run2 s2 ops
  | [], _, _, _, _, S => ⟨S, rfl⟩
  | op :: ops, s1, s2, ⟨⟨_, H1, hf1, he1⟩, R1⟩, ⟨⟨_, H2, hf2, he2⟩, R2⟩, S => by
    obtain ⟨S', hout⟩ := sim_step run1 run2 H1 H2 hf1 he1 hf2 he2 S op
    obtain ⟨S'', htr⟩ := sim_run run1 run2 ops _ _ R1 R2 S'
    exact ⟨S'', by simp only [trace, hout, htr]⟩

def Op.isReg : Op → Bool
  | .reg _ _ => true
  | _ => false

def regsOf (ops : List Op) : List Op := ops.filter Op.isReg

theorem regsOf_length_le (ops : List Op) : (regsOf ops).length ≤ ops.length :=
  List.length_filter_le _ _

theorem regsOf_cons (op : Op) (ops : List Op) :
    regsOf (op :: ops) = if op.isReg = true then op :: regsOf ops else regsOf ops :=
  List.filter_cons

theorem Op.eq_reg_of_isReg {op : Op} (h : op.isReg = true) : ∃ size z, op = .reg size z := by
  cases op with
  | reg size z => exact ⟨size, z, rfl⟩
  | _ => cases h

/-- the registry after one step: only a registration changes it, and only while there is room -/
def kindsStep (ks : List CompKind) (op : Op) : List CompKind :=
  if ks.length < 256 then kindsAfter ks op else ks

theorem kindsStep_of_not_reg (ks : List CompKind) {op : Op} (h : op.isReg = false) :
    kindsStep ks op = ks := by
  cases op with
  | reg _ _ => cases h
  | _ => exact ite_self _

/-- **the registry evolves on its own**: after a step it is a function of the registry before and
    of the operation (under the invariant the registry flags of the specification are
    `kinds.map`, `HInv.zstEq`, so this also tells the flags) -/
theorem step_kinds (run : ProbeRunner) {s : St} {fl : List Nat} (H : HInv s fl)
    (hfew : s.w.tables.length < maxU32) (hent : s.w.entities.length + 1 < 2 ^ 32) (op : Op) :
    (step run s op).w.kinds = kindsStep s.w.kinds op := by
  by_cases hg : guard s op = true
  · rw [(step_eq run H hfew hent op hg).2.2.2.1, kindsStep]
    cases op with
    | reg size z =>
      have hz : pre s.ss (.reg size z) = (s.w.kinds.length < 256) := by
        show (s.ss.zst.length < 256) = _
        rw [H.zstEq, List.length_map]
      simp only [hz]
    | _ => exact (ite_self _).trans (ite_self _).symm
  · rw [step, if_neg hg]
    cases op with
    | reg _ _ => exact absurd rfl hg
    | _ => exact (ite_self _).symm

theorem run_kinds (run : ProbeRunner) : ∀ (ops : List Op) (s : St), Along (step run) Ready s ops →
    (runOps run s ops).w.kinds = ops.foldl kindsStep s.w.kinds
  | [], _, _ => rfl
  | op :: ops, s, ⟨⟨_, H, hf, he⟩, R⟩ =>
    (run_kinds run ops _ R).trans (by rw [step_kinds run H hf he op]; rfl)

/-- the registry after a history is the registry after its registrations -/
theorem foldl_kindsStep_regsOf : ∀ (ops : List Op) (ks : List CompKind),
    ops.foldl kindsStep ks = (regsOf ops).foldl kindsStep ks
  | [], _ => rfl
  | op :: ops, ks => by
    cases hr : op.isReg with
    | false =>
      rw [regsOf_cons, hr, if_neg Bool.false_ne_true, List.foldl_cons, kindsStep_of_not_reg _ hr]
      exact foldl_kindsStep_regsOf ops ks
    | true => rw [regsOf_cons, hr, if_pos rfl]; exact foldl_kindsStep_regsOf ops _

/-- what the registrations-only run keeps: no entity, no handle, the pool of a new world -/
structure Fresh (s : St) : Prop where
  ents : s.ss.ents = []
  issued : s.issued = []
  pool : s.w.pool = Pool.init

/-- a registration creates no entity, issues no handle and leaves the pool alone -/
theorem Fresh.reg (run : ProbeRunner) {s : St} {fl : List Nat} (H : HInv s fl)
    (hfew : s.w.tables.length < maxU32) (hent : s.w.entities.length + 1 < 2 ^ 32) (F : Fresh s)
    (size : Nat) (z : Bool) : Fresh (step run s (.reg size z)) := by
  obtain ⟨a1, a2, a3, _⟩ := step_eq run H hfew hent (.reg size z) rfl
  exact ⟨by rw [a1]; simp only [specStep]; split <;> exact F.ents,
    by rw [a2]; split <;> exact F.issued, by rw [a3]; split <;> exact F.pool⟩

theorem Fresh.regs (run : ProbeRunner) : ∀ (ops : List Op) (s : St),
    Along (step run) Ready s (regsOf ops) → Fresh s → Fresh (runOps run s (regsOf ops))
  | [], _, _, F => F
  | op :: ops, s, R, F => by
    cases hr : op.isReg with
    | false => rw [regsOf_cons, hr, if_neg Bool.false_ne_true] at R ⊢; exact Fresh.regs run ops s R F
    | true =>
      rw [regsOf_cons, hr, if_pos rfl] at R ⊢
      obtain ⟨size, z, rfl⟩ := Op.eq_reg_of_isReg hr
      obtain ⟨⟨_, H, hf, he⟩, R'⟩ := R
      exact Fresh.regs run ops _ R' (F.reg run H hf he size z)

def Reserved2 (p : Pool) : Prop :=
  p.ents[0]? = some ⟨0, maxU32⟩ ∧ p.ents[1]? = some ⟨1, maxU32⟩

theorem reserved2_init : Reserved2 Pool.init := ⟨rfl, rfl⟩

theorem Reserved2.take {p : Pool} (h : Reserved2 p) : p.ents.take 2 = Pool.init.ents := by
  obtain ⟨h0, h1⟩ := h
  match hp : p.ents with
  | [] => rw [hp] at h0; cases h0
  | [a] => rw [hp] at h1; cases h1
  | a :: b :: rest =>
    rw [hp] at h0 h1
    simp only [List.getElem?_cons_zero, List.getElem?_cons_succ, Option.some.injEq] at h0 h1
    subst h0; subst h1
    rfl

theorem Reserved2.reset_core {p : Pool} (h : Reserved2 p) : p.reset.Core = Pool.init.Core := by
  simp only [Pool.reset, Pool.Core, Pool.reserved, h.take]
  rfl

theorem Reserved2.get {p : Pool} {fl : List Nat} (h : Reserved2 p) (hp : Pool.PInv p fl) :
    Reserved2 (p.get).1 := by
  have g := Pool.get_spec p fl hp
  have h2 := g.ge2
  exact ⟨by rw [g.other 0 (by omega)]; exact h.1, by rw [g.other 1 (by omega)]; exact h.2⟩

theorem Reserved2.recycle {p : Pool} (h : Reserved2 p) {e : Ent} (h2 : 2 ≤ e.id) :
    Reserved2 (p.recycle e) := by
  refine ⟨?_, ?_⟩
  · show (p.ents.set e.id _)[0]? = _
    rw [List.getElem?_set_ne (by omega)]; exact h.1
  · show (p.ents.set e.id _)[1]? = _
    rw [List.getElem?_set_ne (by omega)]; exact h.2

theorem Reserved2.reset {p : Pool} (h : Reserved2 p) : Reserved2 p.reset := by
  have := h.take
  show (p.ents.take 2)[0]? = _ ∧ (p.ents.take 2)[1]? = _
  rw [this]; exact ⟨rfl, rfl⟩

theorem reserved2_step (run : ProbeRunner) {s : St} {fl : List Nat} (H : HInv s fl)
    (hfew : s.w.tables.length < maxU32) (hent : s.w.entities.length + 1 < 2 ^ 32) (op : Op)
    (h : Reserved2 s.w.pool) : Reserved2 (step run s op).w.pool := by
  by_cases hg : guard s op = true
  case neg => rw [step, if_neg hg]; exact h
  rw [(step_eq run H hfew hent op hg).2.2.1]
  split
  case isFalse => exact h
  rename_i hp
  cases op with
  | new _ _ _ => exact h.get H.cinv.pool
  | new0 => exact h.get H.cinv.pool
  | copy _ => exact h.get H.cinv.pool
  | del e =>
    obtain ⟨cs, hf⟩ := hp
    exact h.recycle (H.live_facts (find_some_mem hf)).2.2.1
  | reset => exact h.reset
  | _ => exact h

theorem reach_reserved (run : ProbeRunner) (cap rel : Nat) (ops : List Op)
    (hlen : ops.length < 2 ^ 32 - 2) : Reserved2 (reach run cap rel ops).w.pool :=
  (run_of_step (step run) (·.w.tables.length) (·.w.entities.length)
    (fun _ s => (∃ fl, HInv s fl) ∧ Reserved2 s.w.pool)
    (fun _ _ op ⟨⟨_, H⟩, h⟩ hf he =>
      have G := step_goal run H hf he op
      ⟨⟨G.1, reserved2_step run H hf he op h⟩, G.2.1, G.2.2.1⟩)
    ops 0 _ ⟨⟨[], hinv_init cap rel⟩, reserved2_init⟩
    (init_fits cap rel hlen).1 (init_fits cap rel hlen).2).1.2

theorem sim_reset_regs (run1 run2 : ProbeRunner) (cap rel cap' rel' : Nat) (pre : List Op)
    (hlen : pre.length + 1 < 2 ^ 32 - 2) :
    Sim (reach run1 cap rel (pre ++ [.reset])) (reach run2 cap' rel' (regsOf pre)) := by
  have hl := regsOf_length_le pre
  obtain ⟨⟨fl, H, hf, he⟩, _⟩ := reach_along run1 cap rel [.reset] pre
    (by rw [List.length_append]; exact hlen)
  obtain ⟨fl2, H2⟩ := reach_hinv run2 cap' rel' (regsOf pre) (by omega)
  have R1 := reach_along run1 cap rel pre [] (by rw [List.nil_append]; omega)
  have R2 := reach_along run2 cap' rel' (regsOf pre) [] (by rw [List.nil_append]; omega)
  have F : Fresh (reach run2 cap' rel' (regsOf pre)) := Fresh.regs run2 pre _ R2 ⟨rfl, rfl, rfl⟩
  -- the registry of both sides is the one the registrations of `pre` make of the initial one
  have hk : (reach run1 cap rel pre).w.kinds = (reach run2 cap' rel' (regsOf pre)).w.kinds :=
    (run_kinds run1 pre _ R1).trans
      ((foldl_kindsStep_regsOf pre _).trans (run_kinds run2 (regsOf pre) _ R2).symm)
  obtain ⟨b1, b2, b3, b4, _⟩ := step_eq run1 H hf he .reset rfl
  have hp : Refine.pre (reach run1 cap rel pre).ss .reset := trivial
  rw [if_pos hp] at b2 b3 b4
  rw [reach_snoc]
  refine ⟨?_, b2.trans F.issued.symm, b4.trans hk, ?_⟩
  · rw [b1]
    show (⟨[], (reach run1 cap rel pre).ss.zst⟩ : SS) = _
    rw [H.zstEq, hk, ← H2.zstEq, ← F.ents]
  · rw [b3, F.pool]
    exact (reach_reserved run1 cap rel pre (by omega)).reset_core

theorem reset_lengths {pre post : List Op} (hlen : pre.length + 1 + post.length < 2 ^ 32 - 2) :
    (pre ++ [Op.reset] ++ post).length < 2 ^ 32 - 2 ∧ (regsOf pre ++ post).length < 2 ^ 32 - 2 := by
  have := regsOf_length_le pre
  simp only [List.length_append, List.length_singleton]
  omega

/-- **C16, every later history**: let `pre` and `post` be histories of the machine (within the
    bound) and `regsOf pre` the registrations of `pre`, in order.  Running `post` after
    `pre ++ [reset]` and running `post` after `regsOf pre` on a new world
    * gives the same trace — for every operation of `post`: expressible on both sides or on
      neither, accepted on both or rejected on both with the same panic class, and a creation
      returns the SAME handle (ID and generation) —, and
    * ends in states related by `Sim`: same specification (alive handles ↦ components ↦ values,
      registry flags), same issued handles, same registry, same pool core. -/
theorem reset_equiv (run1 run2 : ProbeRunner) (cap rel cap' rel' : Nat) (pre post : List Op)
    (hlen : pre.length + 1 + post.length < 2 ^ 32 - 2) :
    trace run1 (reach run1 cap rel (pre ++ [.reset])) post =
      trace run2 (reach run2 cap' rel' (regsOf pre)) post ∧
    Sim (reach run1 cap rel (pre ++ [.reset] ++ post)) (reach run2 cap' rel' (regsOf pre ++ post)) := by
  obtain ⟨hl3, hl4⟩ := reset_lengths hlen
  have S := sim_reset_regs run1 run2 cap rel cap' rel' pre
    (Nat.lt_of_le_of_lt (Nat.le_add_right _ _) hlen)
  obtain ⟨S', htr⟩ := sim_run run1 run2 post _ _
    (reach_along run1 cap rel post (pre ++ [.reset]) hl3)
    (reach_along run2 cap' rel' post (regsOf pre) hl4) S
  rw [reach_append run1 cap rel (pre ++ [Op.reset]) post, reach_append run2 cap' rel' (regsOf pre) post]
  exact ⟨htr, S'⟩

theorem PInv.of_core {p q : Pool} {fl : List Nat} (h : Pool.PInv p fl) (hc : p.Core = q.Core) :
    Pool.PInv q fl := by
  obtain ⟨he, hn, ha⟩ := Pool.core_eq_iff.mp hc
  exact ⟨by rw [← he, ← hn, ← ha]; exact h.ch, h.nodup, by rw [← he]; exact h.res,
    by rw [← he]; exact h.self, by rw [← he]; exact h.len2⟩

theorem HInv.observe_id {s : St} {fl : List Nat} (H : HInv s fl) (i : Nat) :
    ((i < 2 ∨ s.w.pool.ents.length ≤ i ∨ i ∈ fl) →
      compsOf s.w i = none ∧ ∀ c : Comp, valOf s.w i c = none) ∧
    (2 ≤ i → i < s.w.pool.ents.length → i ∉ fl →
      ∃ e cs, s.w.pool.ents[i]? = some e ∧ e.id = i ∧ (e, cs) ∈ s.ss.ents) := by
  constructor
  · exact fun h => not_indexed (H.cinv.link.not_live h)
  · intro h2 hlt hnf
    have hsl : s.w.pool.ents[i]? = some (s.w.pool.ents[i]'hlt) := List.getElem?_eq_getElem hlt
    have hid := H.cinv.pool.self i _ hsl hnf
    have hl : (s.w.pool.ents[i]'hlt) ∈ s.ps.live :=
      (H.ginv.live_iff _).mpr ⟨by rw [hid]; exact h2, by rw [hid]; exact hnf, by rw [hid]; exact hsl⟩
    obtain ⟨x, hx, hxe⟩ := List.mem_map.mp hl
    exact ⟨_, x.2, hsl, hid, by rw [← hxe]; exact hx⟩

theorem alive_of_core {p q : Pool} (hc : p.Core = q.Core) (hp : ∀ e ∈ p.stale, e.gen = maxU32)
    (hq : ∀ e ∈ q.stale, e.gen = maxU32) (h : Ent)
    (hh : h.gen ≠ maxU32 ∨ h.id < p.ents.length) : p.alive h = q.alive h := by
  by_cases hlt : h.id < p.ents.length
  · exact Pool.alive_core hc h hlt
  · have hg : h.gen ≠ maxU32 := hh.resolve_right hlt
    have hle := Nat.le_of_not_lt hlt
    rw [Pool.alive_beyond_stale hp hg hle,
      Pool.alive_beyond_stale hq hg (by rw [← (Pool.core_eq_iff.mp hc).1]; exact hle)]

/-- **`Sim` on the model worlds**: two states related by `Sim` that satisfy the invariant agree
    * on the component set and on every component value of EVERY entity ID (through the entity
      index: `compsOf`, `valOf`),
    * on `Alive` of every handle whose generation is not the sentinel `maxU32` (in particular of
      every issued handle), and of every handle whose ID lies inside the pool slice,
    * on the free list, the number of index slots and the next handle. -/
theorem Sim.observe {s1 s2 : St} {fl1 fl2 : List Nat} (S : Sim s1 s2) (H1 : HInv s1 fl1)
    (H2 : HInv s2 fl2) :
    fl1 = fl2 ∧ s1.w.entities.length = s2.w.entities.length ∧
    (s1.w.pool.get).2 = (s2.w.pool.get).2 ∧
    (∀ i : Nat, compsOf s1.w i = compsOf s2.w i ∧ ∀ c : Comp, valOf s1.w i c = valOf s2.w i c) ∧
    (∀ h : Ent, h.gen ≠ maxU32 ∨ h.id < s1.w.pool.ents.length → s1.w.alive h = s2.w.alive h) := by
  obtain ⟨hents, _, _⟩ := Pool.core_eq_iff.mp S.core
  have hfl : fl1 = fl2 := (PInv.of_core H1.cinv.pool S.core).unique H2.cinv.pool
  subst hfl
  have hlen : s1.w.entities.length = s2.w.entities.length := by
    rw [H1.cinv.lenEq, H2.cinv.lenEq, hents]
  refine ⟨rfl, hlen, (Pool.get_core S.core).1, ?_, ?_⟩
  · intro i
    obtain ⟨n1, l1⟩ := H1.observe_id i
    obtain ⟨n2, l2⟩ := H2.observe_id i
    by_cases hc : i < 2 ∨ s1.w.pool.ents.length ≤ i ∨ i ∈ fl1
    · obtain ⟨a1, b1⟩ := n1 hc
      obtain ⟨a2, b2⟩ := n2 (by rw [← hents]; exact hc)
      exact ⟨a1.trans a2.symm, fun c => (b1 c).trans (b2 c).symm⟩
    · have h2 : 2 ≤ i := by omega
      have hlt : i < s1.w.pool.ents.length := by omega
      have hnf : i ∉ fl1 := fun h => hc (Or.inr (Or.inr h))
      obtain ⟨e, cs, hsl, hid, hm⟩ := l1 h2 hlt hnf
      have hm2 : (e, cs) ∈ s2.ss.ents := by rw [← S.ss]; exact hm
      have ok1 := H1.ok e cs hm
      have ok2 := H2.ok e cs hm2
      have c1 := ok1.comps
      have c2 := ok2.comps
      rw [hid] at c1 c2
      rw [← S.kinds] at c2
      refine ⟨c1.trans c2.symm, fun c => ?_⟩
      by_cases hk : c ∈ keys cs
      · obtain ⟨cv, hcv, rfl⟩ := List.mem_map.mp hk
        have v1 := ok1.vals cv hcv
        have v2 := ok2.vals cv hcv
        rw [hid] at v1 v2
        exact v1.trans v2.symm
      · have hn : c ∉ sortedIds s1.w.kinds.length (keys cs) := fun hh => hk (mem_sortedIds.mp hh).2
        rw [valOf_none_of_comps c1 hn, valOf_none_of_comps c2 hn]
  · exact alive_of_core S.core H1.cinv.stale H2.cinv.stale

open QueryExact

/-- **the same query on both sides**: on two states related by `Sim` (invariants on both sides) two
    queries built from filter objects with the same filter visit the same SET of entities, the
    same number of them (`Count` agrees), and for every entity visited on both sides the cells
    the two visits point to hold the same values (iteration order and table/row may differ). -/
theorem Sim.queries {s1 s2 : St} {fl1 fl2 : List Nat} (S : Sim s1 s2) (H1 : HInv s1 fl1)
    (H2 : HInv s2 fl2) {fo1 fo2 : FilterObj} (hfo : fo1.filter = fo2.filter)
    {w1 w1' w2 w2' : World} {q1 q2 : QueryObj}
    {v1 v2 : List Visit} (M1 : QueryMeetsSpec s1 fo1 w1 q1 v1 w1')
    (M2 : QueryMeetsSpec s2 fo2 w2 q2 v2 w2') :
    (∀ e : Ent, e ∈ v1.map (·.e) ↔ e ∈ v2.map (·.e)) ∧
    v1.length = v2.length ∧ qCount w1 q1 = qCount w2 q2 ∧
    ∀ a ∈ v1, ∀ b ∈ v2, a.e = b.e → ∀ c : Comp,
      (s1.w.tbl a.table).getComp c a.row = (s2.w.tbl b.table).getComp c b.row := by
  have hmem : ∀ e : Ent, e ∈ v1.map (·.e) ↔ e ∈ v2.map (·.e) := by
    intro e
    rw [M1.exact e, M2.exact e, S.ss, hfo]
  have hlen : v1.length = v2.length := by
    have := length_eq_of_nodup_mem M1.nodup M2.nodup hmem
    simpa only [List.length_map] using this
  refine ⟨hmem, hlen, by rw [M1.count, M2.count, hlen], ?_⟩
  intro a ha b hb hab c
  obtain ⟨_, _, _, hobs, _⟩ := S.observe H1 H2
  rw [← (M1.data a ha).1 c, ← (M2.data b hb).1 c, hab]
  exact (hobs b.e.id).2 c

theorem HInv.cacheRegister {s : St} {fl : List Nat} (H : HInv s fl) (X : XInv s.w) (f : Filter)
    (rels : List RelID) :
    ∃ (id : Nat) (w' : World), cacheRegister f rels s.w = .ok id w' ∧
      HInv ⟨w', s.issued, s.ss⟩ fl ∧ w'.kinds = s.w.kinds ∧ w'.pool = s.w.pool ∧
      ∀ fo : FilterObj, fo.cache = some id → fo.filter = f →
        ∃ q visits, QueryMeetsSpec ⟨w', s.issued, s.ss⟩ fo (w'.withLocks lockDuringQuery) q visits
          (w'.withLocks lockAfterQuery) := by
  obtain ⟨w', ce, hreg, hc', hC', _, hce, hcf, _, he, ht, _, hk, hp, hl, _⟩ :=
    cacheRegister_exact H.cinv X.rinv X.cache.cacheInv f rels (by rw [X.cache.1]; rfl)
  have hm : w'.maxComps = s.w.maxComps := by
    have heq := hreg
    unfold World.cacheRegister at heq
    simp only at heq
    split at heq
    · cases heq
    · injection heq with _ hw; subst hw; rfl
  have H' : HInv ⟨w', s.issued, s.ss⟩ fl := H.of_cache hc' he ht hk hp hl hm
  refine ⟨_, w', hreg, H', hk, hp, ?_⟩
  intro fo hfc hff
  have hrows' : RowsAlive w' := X.rows.lookup (LookupKeeps.of_tables hp ht)
  have hL : LockCycle w'.locks lockDuringQuery 0 lockAfterQuery := by
    rw [hl, X.locks]; exact lockCycle_default
  obtain ⟨q, visits, Q⟩ := drain_exact_cached hc' hC' fo hfc hce (hcf.trans hff.symm) hL
  exact ⟨q, visits, meets_of_exactOn (s := ⟨w', s.issued, s.ss⟩) H' hrows' Q⟩

theorem Sim.queries_cached {s1 s2 : St} {fl1 fl2 : List Nat} (S : Sim s1 s2) (H1 : HInv s1 fl1)
    (H2 : HInv s2 fl2) (X1 : XInv s1.w) (X2 : XInv s2.w) (f : Filter) (rels : List RelID) :
    ∃ (id1 id2 : Nat) (w1 w2 : World),
      cacheRegister f rels s1.w = .ok id1 w1 ∧ cacheRegister f rels s2.w = .ok id2 w2 ∧
      ∀ fo1 fo2 : FilterObj, fo1.cache = some id1 → fo1.filter = f → fo2.cache = some id2 →
        fo2.filter = f →
        ∃ q1 v1 q2 v2,
          QueryMeetsSpec ⟨w1, s1.issued, s1.ss⟩ fo1 (w1.withLocks lockDuringQuery) q1 v1
            (w1.withLocks lockAfterQuery) ∧
          QueryMeetsSpec ⟨w2, s2.issued, s2.ss⟩ fo2 (w2.withLocks lockDuringQuery) q2 v2
            (w2.withLocks lockAfterQuery) ∧
          (∀ e : Ent, e ∈ v1.map (·.e) ↔ e ∈ v2.map (·.e)) ∧ v1.length = v2.length ∧
          qCount (w1.withLocks lockDuringQuery) q1 = qCount (w2.withLocks lockDuringQuery) q2 ∧
          ∀ a ∈ v1, ∀ b ∈ v2, a.e = b.e → ∀ c : Comp,
            (w1.tbl a.table).getComp c a.row = (w2.tbl b.table).getComp c b.row := by
  obtain ⟨id1, w1, r1, H1', k1, p1, Q1⟩ := H1.cacheRegister X1 f rels
  obtain ⟨id2, w2, r2, H2', k2, p2, Q2⟩ := H2.cacheRegister X2 f rels
  have S' : Sim ⟨w1, s1.issued, s1.ss⟩ ⟨w2, s2.issued, s2.ss⟩ :=
    ⟨S.ss, S.issued, by show w1.kinds = w2.kinds; rw [k1, k2]; exact S.kinds,
      by show w1.pool.Core = w2.pool.Core; rw [p1, p2]; exact S.core⟩
  refine ⟨id1, id2, w1, w2, r1, r2, ?_⟩
  intro fo1 fo2 c1 f1 c2 f2
  obtain ⟨q1, v1, M1⟩ := Q1 fo1 c1 f1
  obtain ⟨q2, v2, M2⟩ := Q2 fo2 c2 f2
  exact ⟨q1, v1, q2, v2, M1, M2, S'.queries H1' H2' (f1.trans f2.symm) M1 M2⟩

/-- **C16 on the model worlds**: with `A` the state after `pre ++ [reset] ++ post` and `B` the state
    after `regsOf pre ++ post` on a new world,
    * the specification, the issued handles and the registry are equal;
    * the next handle a creation would return is the same;
    * for EVERY entity ID the component set and all component values agree;
    * `Alive` agrees for every issued handle, and for every handle whatsoever whose generation is
      not the sentinel `maxU32`;
    * every query from an unregistered filter object (whose mask requires its type parameters)
      succeeds on both sides, visits the same SET of entities — exactly the specified entities the
      filter matches —, counts the same, and the cells visited for the same entity hold the same
      values. -/
theorem reset_equiv_worlds (run1 run2 : ProbeRunner) (cap rel cap' rel' : Nat) (pre post : List Op)
    (hlen : pre.length + 1 + post.length < 2 ^ 32 - 2) :
    (reach run1 cap rel (pre ++ [.reset] ++ post)).ss =
      (reach run2 cap' rel' (regsOf pre ++ post)).ss ∧
    (reach run1 cap rel (pre ++ [.reset] ++ post)).issued =
      (reach run2 cap' rel' (regsOf pre ++ post)).issued ∧
    (reach run1 cap rel (pre ++ [.reset] ++ post)).w.kinds =
      (reach run2 cap' rel' (regsOf pre ++ post)).w.kinds ∧
    ((reach run1 cap rel (pre ++ [.reset] ++ post)).w.pool.get).2 =
      ((reach run2 cap' rel' (regsOf pre ++ post)).w.pool.get).2 ∧
    (∀ i : Nat,
      compsOf (reach run1 cap rel (pre ++ [.reset] ++ post)).w i =
        compsOf (reach run2 cap' rel' (regsOf pre ++ post)).w i ∧
      ∀ c : Comp, valOf (reach run1 cap rel (pre ++ [.reset] ++ post)).w i c =
        valOf (reach run2 cap' rel' (regsOf pre ++ post)).w i c) ∧
    (∀ h ∈ (reach run1 cap rel (pre ++ [.reset] ++ post)).issued,
      (reach run1 cap rel (pre ++ [.reset] ++ post)).w.alive h =
        (reach run2 cap' rel' (regsOf pre ++ post)).w.alive h) ∧
    (∀ h : Ent, h.gen ≠ maxU32 →
      (reach run1 cap rel (pre ++ [.reset] ++ post)).w.alive h =
        (reach run2 cap' rel' (regsOf pre ++ post)).w.alive h) ∧
    ∀ fo : FilterObj, fo.cache = none → FilterOK fo →
      ∃ q1 v1 q2 v2,
        QueryMeetsSpec (reach run1 cap rel (pre ++ [.reset] ++ post)) fo
          ((reach run1 cap rel (pre ++ [.reset] ++ post)).w.withLocks lockDuringQuery) q1 v1
          ((reach run1 cap rel (pre ++ [.reset] ++ post)).w.withLocks lockAfterQuery) ∧
        QueryMeetsSpec (reach run2 cap' rel' (regsOf pre ++ post)) fo
          ((reach run2 cap' rel' (regsOf pre ++ post)).w.withLocks lockDuringQuery) q2 v2
          ((reach run2 cap' rel' (regsOf pre ++ post)).w.withLocks lockAfterQuery) ∧
        (∀ e : Ent, e ∈ v1.map (·.e) ↔ e ∈ v2.map (·.e)) ∧ v1.length = v2.length ∧
        qCount ((reach run1 cap rel (pre ++ [.reset] ++ post)).w.withLocks lockDuringQuery) q1 =
          qCount ((reach run2 cap' rel' (regsOf pre ++ post)).w.withLocks lockDuringQuery) q2 ∧
        ∀ a ∈ v1, ∀ b ∈ v2, a.e = b.e → ∀ c : Comp,
          ((reach run1 cap rel (pre ++ [.reset] ++ post)).w.tbl a.table).getComp c a.row =
            ((reach run2 cap' rel' (regsOf pre ++ post)).w.tbl b.table).getComp c b.row := by
  obtain ⟨hl1, hl2⟩ := reset_lengths hlen
  obtain ⟨fl1, H1⟩ := reach_hinv run1 cap rel _ hl1
  obtain ⟨fl2, H2⟩ := reach_hinv run2 cap' rel' _ hl2
  have S := (reset_equiv run1 run2 cap rel cap' rel' pre post hlen).2
  obtain ⟨_, _, hnext, hobs, hal⟩ := S.observe H1 H2
  refine ⟨S.ss, S.issued, S.kinds, hnext, hobs, ?_, fun h hg => hal h (Or.inl hg), ?_⟩
  · intro h hi
    obtain ⟨_, sl, hsl, _⟩ := H1.ginv.issued_bound h hi
    exact hal h (Or.inr (List.getElem?_eq_some_iff.mp hsl).1)
  · intro fo hc hok
    obtain ⟨q1, v1, M1⟩ := query_exact run1 cap rel _ hl1 fo hc hok
    obtain ⟨q2, v2, M2⟩ := query_exact run2 cap' rel' _ hl2 fo hc hok
    exact ⟨q1, v1, q2, v2, M1, M2, S.queries H1 H2 rfl M1 M2⟩

/-- **C16, queries through the filter cache**: after `pre ++ [reset] ++ post` and after
    `regsOf pre ++ post`, registering the same filter succeeds on both sides, and the queries
    through the two cache entries visit the same set of entities, count the same and read the
    same values -/
theorem reset_equiv_cached (run1 run2 : ProbeRunner) (cap rel cap' rel' : Nat) (pre post : List Op)
    (hlen : pre.length + 1 + post.length < 2 ^ 32 - 2) (f : Filter) (rels : List RelID) :
    ∃ (id1 id2 : Nat) (w1 w2 : World),
      cacheRegister f rels (reach run1 cap rel (pre ++ [.reset] ++ post)).w = .ok id1 w1 ∧
      cacheRegister f rels (reach run2 cap' rel' (regsOf pre ++ post)).w = .ok id2 w2 ∧
      ∀ fo1 fo2 : FilterObj, fo1.cache = some id1 → fo1.filter = f → fo2.cache = some id2 →
        fo2.filter = f →
        ∃ q1 v1 q2 v2,
          QueryMeetsSpec ⟨w1, (reach run1 cap rel (pre ++ [.reset] ++ post)).issued,
            (reach run1 cap rel (pre ++ [.reset] ++ post)).ss⟩ fo1
            (w1.withLocks lockDuringQuery) q1 v1 (w1.withLocks lockAfterQuery) ∧
          QueryMeetsSpec ⟨w2, (reach run2 cap' rel' (regsOf pre ++ post)).issued,
            (reach run2 cap' rel' (regsOf pre ++ post)).ss⟩ fo2
            (w2.withLocks lockDuringQuery) q2 v2 (w2.withLocks lockAfterQuery) ∧
          (∀ e : Ent, e ∈ v1.map (·.e) ↔ e ∈ v2.map (·.e)) ∧ v1.length = v2.length ∧
          qCount (w1.withLocks lockDuringQuery) q1 = qCount (w2.withLocks lockDuringQuery) q2 ∧
          ∀ a ∈ v1, ∀ b ∈ v2, a.e = b.e → ∀ c : Comp,
            (w1.tbl a.table).getComp c a.row = (w2.tbl b.table).getComp c b.row := by
  obtain ⟨hl1, hl2⟩ := reset_lengths hlen
  obtain ⟨fl1, H1⟩ := reach_hinv run1 cap rel _ hl1
  obtain ⟨fl2, H2⟩ := reach_hinv run2 cap' rel' _ hl2
  have S := (reset_equiv run1 run2 cap rel cap' rel' pre post hlen).2
  exact S.queries_cached H1 H2 (reach_xinv run1 cap rel _ hl1) (reach_xinv run2 cap' rel' _ hl2) f rels

end Refine

end Ark

end

