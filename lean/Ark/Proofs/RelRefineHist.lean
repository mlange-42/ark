/-
  Ark.Proofs.RelRefineHist — the relation machine `Ark.RelRefine` over histories of any length
  (`ops.length < 2^16`, see `Ark/Proofs/RelRefineSteps.lean` for the bound): the state reached
  realises the specification, a step is rejected without effect or accepted according to `pre`,
  an operation other than `del` changes the entity it names only (in the specification and in the
  world), and a valid step does the same through every access path.
  `Ark/Props/C04Hist.lean` restates them and proves the effect of each operation from them.
-/
import Ark.Proofs.RelRefineSteps

set_option autoImplicit false

namespace Ark

open World Ark.Props.C01World

namespace RelRefine

open Refine (Comps keys sortedIds writeComps zeros)

variable (run : ProbeRunner) (cap rel : Nat)

theorem length_snoc_lt {ops : List Op} (op : Op) {n : Nat} (h : ops.length + 1 < n) :
    (ops ++ [op]).length < n := by
  rw [List.length_append]; exact h

theorem refines (ops : List Op) (hlen : ops.length < 2 ^ 16) (e : Ent) (en : Entry)
    (hm : (e, en) ∈ (reach run cap rel ops).ss.ents) :
    (reach run cap rel ops).w.alive e = true ∧
    compsOf (reach run cap rel ops).w e.id =
      some (sortedIds (reach run cap rel ops).w.kinds.length (keys en.comps)) ∧
    (∀ cv ∈ en.comps, valOf (reach run cap rel ops).w e.id cv.1 = some cv.2) ∧
    (∀ r ∈ en.rels, targetOf (reach run cap rel ops).w e.id r.comp = some r.target) ∧
    (keys en.comps).Nodup ∧ (∀ c ∈ keys en.comps, c < (reach run cap rel ops).w.kinds.length) ∧
    (en.rels.map (·.comp)).Nodup ∧
    (∀ c : Comp, c ∈ en.rels.map (·.comp) ↔
      c ∈ keys en.comps ∧ (reach run cap rel ops).w.isRelComp c = true) := by
  obtain ⟨fl, h⟩ := reach_hinv run cap rel ops hlen
  obtain ⟨_, ha, _⟩ := h.live_facts hm
  have ok := h.ok e en hm
  exact ⟨ha, ok.comps, ok.vals, ok.tgts, ok.nodup, ok.reg, ok.relNodup,
    fun c => by rw [ok.relKeys c, h.rget]⟩

theorem refines_absent (ops : List Op) (hlen : ops.length < 2 ^ 16) (e : Ent) (en : Entry)
    (hm : (e, en) ∈ (reach run cap rel ops).ss.ents) (c : Comp) :
    (c ∉ keys en.comps → valOf (reach run cap rel ops).w e.id c = none) ∧
    (c ∉ en.rels.map (·.comp) → targetOf (reach run cap rel ops).w e.id c = none) := by
  obtain ⟨fl, h⟩ := reach_hinv run cap rel ops hlen
  have ok := h.ok e en hm
  constructor
  · intro hc
    exact valOf_none_of_comps ok.comps (fun hh => hc (Refine.mem_sortedIds.mp hh).2)
  · intro hc
    cases ht : targetOf (reach run cap rel ops).w e.id c with
    | none => rfl
    | some x =>
      exact absurd ((h.target_isSome_iff hm c).mp (by rw [ht]; rfl)) hc

theorem alive_iff_specified (ops : List Op) (hlen : ops.length < 2 ^ 16) (h : Ent)
    (hi : h ∈ (reach run cap rel ops).issued) :
    (reach run cap rel ops).w.alive h = true ↔ h ∈ (reach run cap rel ops).ss.ents.map (·.1) := by
  obtain ⟨fl, hinv⟩ := reach_hinv run cap rel ops hlen
  exact Pool.alive_iff_live _ fl hinv.ginv h hi

theorem spec_handles_nodup (ops : List Op) (hlen : ops.length < 2 ^ 16) :
    ((reach run cap rel ops).ss.ents.map (·.1)).Nodup ∧
    (∀ h ∈ (reach run cap rel ops).ss.ents.map (·.1), h ∈ (reach run cap rel ops).issued) ∧
    (reach run cap rel ops).issued.Nodup := by
  obtain ⟨fl, hinv⟩ := reach_hinv run cap rel ops hlen
  exact ⟨hinv.ginv.live_nodup, hinv.ginv.live_issued, hinv.nodup⟩

/-- a step of the machine (`guard`) whose precondition (`pre`, a statement about the specification
    only) fails: the model panics with the world unchanged, and the whole machine state is
    unchanged.  This includes a dead target named through any path (`Unsafe` validates its
    relation arguments like the typed API). -/
theorem rejected (ops : List Op) (op : Op) (hlen : ops.length + 1 < 2 ^ 16)
    (hg : guard (reach run cap rel ops) op = true) (hnp : ¬ pre (reach run cap rel ops).ss op) :
    (∃ k, exec run (reach run cap rel ops).w op = .panic k (reach run cap rel ops).w) ∧
    (∀ fresh, specStep (reach run cap rel ops).ss fresh op = (reach run cap rel ops).ss) ∧
    reach run cap rel (ops ++ [op]) = reach run cap rel ops := by
  obtain ⟨fl, h⟩ := reach_hinv run cap rel ops (by omega)
  obtain ⟨hfew, hent⟩ := reach_fits run cap rel ops hlen
  obtain ⟨_, _, _, _, hrej, _⟩ := step_goal run h hfew hent op
  obtain ⟨k, hk⟩ := hrej hg hnp
  have hspec : ∀ fresh, specStep (reach run cap rel ops).ss fresh op = (reach run cap rel ops).ss :=
    fun fresh => specStep_of_not_pre _ fresh op hnp
  refine ⟨⟨k, hk⟩, hspec, ?_⟩
  rw [reach_snoc, step_of_guard hg, hk]
  simp only [Res.state, retOf, issuedAfter, hspec]

theorem accepted (ops : List Op) (op : Op) (hlen : ops.length + 1 < 2 ^ 16)
    (hg : guard (reach run cap rel ops) op = true) (hp : pre (reach run cap rel ops).ss op) :
    ∃ r w', exec run (reach run cap rel ops).w op = .ok r w' := by
  obtain ⟨fl, h⟩ := reach_hinv run cap rel ops (by omega)
  obtain ⟨hfew, hent⟩ := reach_fits run cap rel ops hlen
  obtain ⟨_, _, _, _, _, hacc⟩ := step_goal run h hfew hent op
  exact hacc hg hp

theorem reach_snoc_same (ops : List Op) (op : Op) (hlen : ops.length + 1 < 2 ^ 16)
    (h : ¬ (guard (reach run cap rel ops) op = true ∧ pre (reach run cap rel ops).ss op)) :
    reach run cap rel (ops ++ [op]) = reach run cap rel ops := by
  by_cases hg : guard (reach run cap rel ops) op = true
  · exact (rejected run cap rel ops op hlen hg (fun hp => h ⟨hg, hp⟩)).2.2
  · rw [reach_snoc, step, if_neg hg]

/-- the entity an operation is about (`fresh` = the handle a successful `new` returns) -/
def target (fresh : Ent) : Op → Option Ent
  | .reg _ _ _ => none
  | .new _ _ _ _ => some fresh
  | .add _ e _ _ _ => some e
  | .rem _ e _ => some e
  | .setrel _ e _ => some e
  | .set e _ => some e
  | .del e => some e

/-- the entity an operation names (`reg` and `new` name none) -/
def subject : Op → Option Ent
  | .reg _ _ _ => none
  | .new _ _ _ _ => none
  | .add _ e _ _ _ => some e
  | .rem _ e _ => some e
  | .setrel _ e _ => some e
  | .set e _ => some e
  | .del e => some e

def Op.isDel : Op → Bool
  | .del _ => true
  | _ => false

theorem specStep_find_ne (ss : SS) (fresh : Ent) {op : Op} {e x : Ent} (hs : subject op = some e)
    (hd : op.isDel = false) (hne : x ≠ e) :
    find (specStep ss fresh op).ents x = find ss.ents x := by
  cases op with
  | reg _ _ _ => cases hs
  | new _ _ _ _ => cases hs
  | del _ => cases hd
  | add _ e' _ _ _ | rem _ e' _ | setrel _ e' _ | set e' _ =>
    injection hs with hs
    subst hs
    simp only [specStep]
    cases find ss.ents e' with
    | none => rfl
    | some en =>
      simp only
      split
      · dsimp only
        exact find_upd_ne ss.ents _ hne
      · rfl

theorem specStep_frame (ss : SS) (fresh : Ent) (op : Op) (x : Ent) (hd : op.isDel = false)
    (hx : target fresh op ≠ some x) : find (specStep ss fresh op).ents x = find ss.ents x := by
  cases op with
  | reg size z ir => simp only [specStep]; split <;> rfl
  | new p ids vals rels =>
    have hne : fresh ≠ x := fun hh => hx (by rw [hh]; rfl)
    simp only [specStep]
    split
    · simp only [find, if_neg hne]
    · rfl
  | del e => cases hd
  | add _ e _ _ _ | rem _ e _ | setrel _ e _ | set e _ =>
    exact specStep_find_ne ss fresh rfl hd (fun hh => hx (by rw [hh]; rfl))

/-- after a step, an entry that the specification step holds whatever handle is returned -/
theorem entry_of_step (ops : List Op) {op : Op} (hg : guard (reach run cap rel ops) op = true)
    {x : Ent} {en' : Entry}
    (hf : ∀ fresh, find (specStep (reach run cap rel ops).ss fresh op).ents x = some en') :
    (x, en') ∈ (reach run cap rel (ops ++ [op])).ss.ents := by
  rw [reach_snoc, step_of_guard hg]
  exact find_some_mem (hf _)

theorem entry_after (ops : List Op) (op : Op) {x : Ent} {en' : Entry}
    (hf : ∀ fresh, find (specStep (reach run cap rel ops).ss fresh op).ents x = some en')
    (hf0 : find (reach run cap rel ops).ss.ents x = some en') :
    (x, en') ∈ (reach run cap rel (ops ++ [op])).ss.ents := by
  by_cases hg : guard (reach run cap rel ops) op = true
  · exact entry_of_step run cap rel ops hg hf
  · rw [reach_snoc, step, if_neg hg]
    exact find_some_mem hf0

theorem step_spec (ops : List Op) (op : Op) (hlen : ops.length + 1 < 2 ^ 16)
    (hg : guard (reach run cap rel ops) op = true) (hp : pre (reach run cap rel ops).ss op) :
    ∃ (r : Option Ent) (w' : World), exec run (reach run cap rel ops).w op = .ok r w' ∧
      reach run cap rel (ops ++ [op]) =
        ⟨w', issuedAfter (reach run cap rel ops).issued (.ok r w'),
          specStep (reach run cap rel ops).ss (r.getD default) op⟩ ∧
      (∀ e, r = some e → e ∉ (reach run cap rel ops).issued) := by
  obtain ⟨r, w', hex⟩ := accepted run cap rel ops op hlen hg hp
  have hst : reach run cap rel (ops ++ [op]) =
      ⟨w', issuedAfter (reach run cap rel ops).issued (.ok r w'),
        specStep (reach run cap rel ops).ss (r.getD default) op⟩ := by
    rw [reach_snoc, step_of_guard hg, hex]
    rfl
  refine ⟨r, w', hex, hst, ?_⟩
  intro e he
  subst he
  have hlen' := length_snoc_lt op hlen
  have hnd := (spec_handles_nodup run cap rel (ops ++ [op]) hlen').2.2
  rw [hst] at hnd
  exact (List.nodup_cons.mp hnd).1

theorem exec_new_ret {w : World} {p : Path} {ids : List Comp} {vals : Comps} {rels : Rels}
    {r : Option Ent} {w' : World} (h : exec run w (.new p ids vals rels) = .ok r w') :
    ∃ e, r = some e := by
  simp only [exec] at h
  cases hc : opNewEntity run p ids vals rels w with
  | panic k w1 => rw [hc] at h; cases h
  | ok e1 w1 => rw [hc] at h; injection h with h1 _; exact ⟨e1, h1.symm⟩

/-- a step other than `del` that does not name `x` keeps the entry of `x` (the handle a `new`
    returns was never issued, so it is not `x`) -/
theorem step_entry_kept {s : St} {fl : List Nat} (H : HInv s fl) (op : Op)
    (hfew : s.w.tables.length + s.w.relationArchetypes.length + 1 ≤ maxU32)
    (hent : 2 * s.w.entities.length < 2 ^ 32) {x : Ent} {en : Entry} (hm : (x, en) ∈ s.ss.ents)
    (hd : op.isDel = false) (hx : subject op ≠ some x) :
    (x, en) ∈ (step run s op).ss.ents := by
  obtain ⟨hi, _, h2, _, hf, _⟩ := H.live_facts hm
  by_cases hg : guard s op = true
  · rw [step_of_guard hg]
    apply find_some_mem
    show find (specStep s.ss ((retOf (exec run s.w op)).getD default) op).ents x = some en
    rw [specStep_frame _ _ op x hd ?_]; exact hf
    cases op with
    | new p ids vals rels =>
      intro hh
      simp only [target, Option.some.injEq] at hh
      -- the handle returned is new, or the default handle
      obtain ⟨⟨fl', H'⟩, _⟩ := step_goal run H hfew hent (.new p ids vals rels)
      have hnd := H'.nodup
      rw [step_of_guard hg] at hnd
      simp only [issuedAfter] at hnd
      cases hr : retOf (exec run s.w (.new p ids vals rels)) with
      | none =>
        rw [hr] at hh
        simp only [Option.getD_none] at hh
        rw [← hh] at h2
        -- `h2 : 2 ≤ (default : Ent).id`, and the derived `default : Ent` is `⟨0, 0⟩`
        exact absurd h2 (by decide)
      | some e =>
        rw [hr] at hh hnd
        simp only [Option.getD_some] at hh
        exact (List.nodup_cons.mp hnd).1 (hh ▸ hi)
    | reg _ _ _ => intro hh; cases hh
    | add _ e _ _ _ => exact hx
    | rem _ e _ => exact hx
    | setrel _ e _ => exact hx
    | set e _ => exact hx
    | del e => exact hx
  · rw [step, if_neg hg]; exact hm

/-- for `del g` see `Ark.Props.C04Hist.del_detaches` -/
theorem frame_world (ops : List Op) (op : Op) (hlen : ops.length + 1 < 2 ^ 16) (x : Ent)
    (en : Entry) (hm : (x, en) ∈ (reach run cap rel ops).ss.ents)
    (hd : op.isDel = false) (hx : subject op ≠ some x) :
    compsOf (reach run cap rel (ops ++ [op])).w x.id = compsOf (reach run cap rel ops).w x.id ∧
    (∀ c : Comp, valOf (reach run cap rel (ops ++ [op])).w x.id c =
      valOf (reach run cap rel ops).w x.id c) ∧
    (∀ c : Comp, targetOf (reach run cap rel (ops ++ [op])).w x.id c =
      targetOf (reach run cap rel ops).w x.id c) := by
  obtain ⟨_, h⟩ := reach_hinv run cap rel ops (by omega)
  obtain ⟨_, h'⟩ := reach_hinv run cap rel _ (length_snoc_lt op hlen)
  obtain ⟨hfew, hent⟩ := reach_fits run cap rel ops hlen
  refine h.same_entry h' hm ?_
  rw [reach_snoc]
  exact step_entry_kept run h op hfew hent hm hd hx

theorem setrel_assigns (ops : List Op) (p : Path) (e : Ent) (rels : Rels)
    (hlen : ops.length + 1 < 2 ^ 16) (en : Entry)
    (hm : (e, en) ∈ (reach run cap rel ops).ss.ents)
    (hg : guard (reach run cap rel ops) (.setrel p e rels) = true)
    (hp : SetRelOK (reach run cap rel ops).ss en rels) :
    (e, { en with rels := setRels en.rels rels }) ∈
      (reach run cap rel (ops ++ [.setrel p e rels])).ss.ents ∧
    (∀ r ∈ rels, targetOf (reach run cap rel (ops ++ [.setrel p e rels])).w e.id r.comp =
      some r.target) ∧
    (∀ r ∈ en.rels, (∀ r' ∈ rels, r'.comp ≠ r.comp) →
      targetOf (reach run cap rel (ops ++ [.setrel p e rels])).w e.id r.comp = some r.target) ∧
    compsOf (reach run cap rel (ops ++ [.setrel p e rels])).w e.id =
      compsOf (reach run cap rel ops).w e.id ∧
    (∀ c : Comp, valOf (reach run cap rel (ops ++ [.setrel p e rels])).w e.id c =
      valOf (reach run cap rel ops).w e.id c) := by
  obtain ⟨fl, h⟩ := reach_hinv run cap rel ops (by omega)
  have hf : find (reach run cap rel ops).ss.ents e = some en := find_of_mem h.ginv.live_nodup hm
  have hlen' := length_snoc_lt (Op.setrel p e rels) hlen
  have hm' : (e, { en with rels := setRels en.rels rels }) ∈
      (reach run cap rel (ops ++ [.setrel p e rels])).ss.ents :=
    entry_of_step run cap rel ops hg fun _ => by
      simp only [specStep, hf, if_pos hp]
      exact find_upd_self _ hf
  obtain ⟨_, _, _, t2, _⟩ := refines run cap rel _ hlen' e _ hm'
  obtain ⟨_, h'⟩ := reach_hinv run cap rel _ hlen'
  exact ⟨hm', fun r hr => t2 r (setRels_mem_new hp.2.1 hr (hp.2.2.1 r hr)),
    fun r hr hnot => t2 r (setRels_mem_old hr hnot), h.same_comps h' hm hm' rfl⟩

/-- the relation `r` of `x`'s entry survives the specification step of any operation other than
    `del` that neither re-assigns nor removes its component (`fresh ≠ x`: the handle returned is
    new) -/
theorem specStep_keeps_rel (ss : SS) (fresh : Ent) (op : Op) {x : Ent} {en : Entry} {r : RelID}
    (hf : find ss.ents x = some en) (hr : r ∈ en.rels) (hd : op.isDel = false)
    (hs : ∀ p rels', op = .setrel p x rels' → ∀ r' ∈ rels', r'.comp ≠ r.comp)
    (hrm : ∀ p ids', op = .rem p x ids' → r.comp ∉ ids')
    (hfr : ∀ p ids vals rels, op = .new p ids vals rels → fresh ≠ x) :
    ∃ en', find (specStep ss fresh op).ents x = some en' ∧ r ∈ en'.rels := by
  -- on another entity's entry the step does nothing; on `x`'s own, the relation stays
  have other : ∀ {e : Ent}, subject op = some e → x ≠ e →
      ∃ en', find (specStep ss fresh op).ents x = some en' ∧ r ∈ en'.rels :=
    fun hs hxe => ⟨en, (specStep_find_ne ss fresh hs hd hxe).trans hf, hr⟩
  cases op with
  | reg size z ir => simp only [specStep]; split <;> exact ⟨en, hf, hr⟩
  | new p ids vals rels =>
    simp only [specStep]
    split
    · exact ⟨en, by simp only [find, if_neg (hfr p ids vals rels rfl)]; exact hf, hr⟩
    · exact ⟨en, hf, hr⟩
  | del e => cases hd
  | add p e ids vals rels =>
    by_cases hxe : x = e
    case neg => exact other rfl hxe
    subst hxe
    simp only [specStep, hf]
    split
    · dsimp only
      exact ⟨_, find_upd_self _ hf, List.mem_append_left _ hr⟩
    · exact ⟨en, hf, hr⟩
  | rem p e ids =>
    by_cases hxe : x = e
    case neg => exact other rfl hxe
    subst hxe
    simp only [specStep, hf]
    split
    · dsimp only
      exact ⟨_, find_upd_self _ hf, List.mem_filter.mpr ⟨hr, by simpa using hrm p ids rfl⟩⟩
    · exact ⟨en, hf, hr⟩
  | setrel p e rels =>
    by_cases hxe : x = e
    case neg => exact other rfl hxe
    subst hxe
    simp only [specStep, hf]
    split
    · dsimp only
      exact ⟨_, find_upd_self _ hf, setRels_mem_old hr (hs p rels rfl)⟩
    · exact ⟨en, hf, hr⟩
  | set e vals =>
    by_cases hxe : x = e
    case neg => exact other rfl hxe
    subst hxe
    simp only [specStep, hf]
    split
    · dsimp only
      exact ⟨_, find_upd_self _ hf, hr⟩
    · exact ⟨en, hf, hr⟩

theorem dead_of_unspecified (ops : List Op) (hlen : ops.length < 2 ^ 16) (h : Ent)
    (hi : h ∈ (reach run cap rel ops).issued)
    (hn : find (reach run cap rel ops).ss.ents h = none) :
    (reach run cap rel ops).w.alive h = false := by
  obtain ⟨_, H⟩ := reach_hinv run cap rel ops hlen
  exact H.dead hi hn

def Op.withPath (q : Path) : Op → Op
  | .new _ ids vals rels => .new q ids vals rels
  | .add _ e ids vals rels => .add q e ids vals rels
  | .rem _ e ids => .rem q e ids
  | .setrel _ e rels => .setrel q e rels
  | op => op

/-- **any access path** — a valid step gives the same result (world, returned handle) through
    `Unsafe…`, `Map…` and `MapN…`, it is a step through each of them, and the machine reaches the
    same state: all the theorems hold whichever path each valid operation of a history takes.
    (A rejected call that is a step through two paths differs in the class of the panic only.) -/
theorem any_access_path (ops : List Op) (op : Op) (q : Path) (hlen : ops.length + 1 < 2 ^ 16)
    (hg : guard (reach run cap rel ops) op = true) (hp : pre (reach run cap rel ops).ss op) :
    guard (reach run cap rel ops) (op.withPath q) = true ∧
    exec run (reach run cap rel ops).w (op.withPath q) = exec run (reach run cap rel ops).w op ∧
    reach run cap rel (ops ++ [op.withPath q]) = reach run cap rel (ops ++ [op]) := by
  obtain ⟨fl, H⟩ := reach_hinv run cap rel ops (by omega)
  -- guard and result first (`key`); the reached state then follows, the path being no argument of
  -- the specification step
  have key : guard (reach run cap rel ops) (op.withPath q) = true ∧
      exec run (reach run cap rel ops).w (op.withPath q) = exec run (reach run cap rel ops).w op := by
    cases op with
    -- no path in these three: `withPath` is the identity
    | reg size z ir => exact ⟨hg, rfl⟩
    | set e vals => exact ⟨hg, rfl⟩
    | del e => exact ⟨hg, rfl⟩
    | new p ids vals rels =>
      -- `RelsStep` on `q` from the path-free `RelsWF` of `pre`; the result from totality, which
      -- gives one outcome for all paths (`hok`)
      obtain ⟨⟨hreg, _⟩, hx⟩ := guard_new.mp hg
      obtain ⟨hnd, _, hwf, hv⟩ := hp
      refine ⟨guard_new.mpr ⟨⟨hreg, hwf.relsStep q⟩, hx⟩, ?_⟩
      simp only [Op.withPath, exec]
      obtain ⟨_, _, hok⟩ := opNewEntity_rel_ok run H.tinv H.unlocked H.noObs (vals := vals) hnd
        (fun c hc => by rw [← H.zlen]; exact hreg c hc) hwf.1 (fun r hr => (hwf.2.1 r hr).1)
        (fun r hr => by rw [← H.rget]; exact (hwf.2.1 r hr).2)
        (fun c hc hr => hwf.2.2 c hc (by rw [H.rget]; exact hr)) (H.targets_alive hv)
      rw [hok q, hok p]
    | add p e ids vals rels =>
      -- as `new`; totality also wants the components absent from `e`'s mask: `pre` says so of the
      -- specification entry, the refinement (`H.comps_iff`) carries it to the world
      obtain ⟨⟨⟨hi, hreg⟩, _⟩, hx⟩ := guard_add.mp hg
      obtain ⟨en, hf, ⟨hne, hnd, hall⟩, hwf, hv⟩ := hp
      have L := H.live hf
      refine ⟨guard_add.mpr ⟨⟨⟨hi, hreg⟩, hwf.relsStep q⟩, hx⟩, ?_⟩
      simp only [Op.withPath, exec]
      obtain ⟨_, hok⟩ := opAdd_rel_ok run H.tinv H.unlocked H.noObs L.ge2 L.notFree L.alive L.slot
        (vals := vals) hne hnd (fun c hc => by rw [← H.zlen]; exact hreg c hc)
        (fun c hc => by
          cases hgc : ((reach run cap rel ops).w.maskOf e).get c with
          | false => rfl
          | true => exact absurd ((L.mask c).mp hgc) (hall c hc).2)
        hwf.1 (fun r hr => (hwf.2.1 r hr).1)
        (fun r hr => by rw [← H.rget]; exact (hwf.2.1 r hr).2)
        (fun c hc hr => hwf.2.2 c hc (by rw [H.rget]; exact hr)) (H.targets_alive hv)
      rw [hok q, hok p]
    | rem p e ids =>
      -- the paths differ in an `Alive` check only, which a live handle passes
      obtain ⟨en, hf, _⟩ := hp
      obtain ⟨_, ha, _⟩ := H.live_facts (find_some_mem hf)
      refine ⟨hg, ?_⟩
      simp only [Op.withPath, exec]
      rw [opRemove_eq run q e ids _ ha, opRemove_eq run p e ids _ ha]
    | setrel p e rels =>
      -- the paths differ in the pre-validation only; it passes on each: live targets, and every
      -- component named is a registered relation component, being a relation key of `e`
      obtain ⟨en, hf, _, _, hhas, hv⟩ := hp
      have hm := find_some_mem hf
      have ok := H.ok e en hm
      refine ⟨hg, ?_⟩
      simp only [Op.withPath, exec]
      rw [opSetRelations_path_indep run q p e (H.targets_alive hv) (fun r hr => by
        obtain ⟨h1, h3⟩ := (ok.relKeys r.comp).mp (hhas r hr)
        exact ⟨by rw [← H.rget]; exact h3, H.reg256 (ok.reg r.comp h1)⟩)]
  refine ⟨key.1, key.2, ?_⟩
  have hsp : ∀ fresh, specStep (reach run cap rel ops).ss fresh (op.withPath q) =
      specStep (reach run cap rel ops).ss fresh op := by
    intro fresh; cases op <;> rfl
  rw [reach_snoc, reach_snoc, step_of_guard key.1, step_of_guard hg, key.2]
  simp only [hsp]

end RelRefine

end Ark
