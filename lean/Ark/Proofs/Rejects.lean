/-
  Ark.Proofs.Rejects — precondition violations are rejected with the state unchanged: every
  structural operation of the model on a locked world, and every checked single-entity
  operation on a dead handle or with an empty component list, returns `panic` with exactly the
  state it was called on.
-/
import Ark.Model.Ops

set_option autoImplicit false

namespace Ark.World

theorem checkLocked_locked (w : World) (h : w.isLocked = true) : checkLocked w = .panic .locked w := by
  simp [checkLocked, h]

theorem checkLocked_unlocked (w : World) (h : w.isLocked = false) : checkLocked w = .ok () w := by
  simp [checkLocked, h]

theorem bind_ok {α β : Type} {m : W α} {f : α → W β} {w w' : World} {b : β}
    (h : (m >>= f) w = .ok b w') : ∃ a s, m w = .ok a s ∧ f a s = .ok b w' := by
  simp only [bind, M.bind] at h
  cases hm : m w with
  | ok a s => rw [hm] at h; exact ⟨a, s, rfl, h⟩
  | panic k s => rw [hm] at h; cases h

theorem locked_bind {α : Type} (f : Unit → W α) (w : World) (h : w.isLocked = true) :
    (checkLocked >>= f) w = .panic .locked w := by
  simp only [bind, M.bind, checkLocked, h, if_true]

theorem dead_bind {α : Type} (e : Ent) (f : World → Unit → W α) (w : World)
    (hl : w.isLocked = false) (hd : w.alive e = false) :
    (checkLocked >>= fun _ => M.get >>= fun w' => M.assert (w'.alive e) .deadEntity >>= f w') w =
      .panic .deadEntity w := by
  simp [bind, M.bind, checkLocked, hl, hd, M.get, M.assert]

/-- an operation whose third check (a list is not empty) fails is rejected with that check's
    panic -/
theorem empty_bind {α : Type} (e : Ent) (k : PanicKind) (f : World → Unit → W α) (w : World)
    (hl : w.isLocked = false) (ha : w.alive e = true) :
    (checkLocked >>= fun _ => M.get >>= fun w' => M.assert (w'.alive e) .deadEntity >>= fun _ =>
      M.assert false k >>= f w') w = .panic k w := by
  simp [bind, M.bind, checkLocked, hl, ha, M.get, M.assert]

section Locked
variable (run : ProbeRunner) (w : World) (h : w.isLocked = true)
include h

theorem opNewEntity0_locked : opNewEntity0 run w = .panic .locked w :=
  locked_bind _ w h
theorem newEntityCore_locked (ids : List Comp) (rels : List RelID) :
    newEntityCore ids rels w = .panic .locked w :=
  locked_bind _ w h
theorem addCore_locked (e : Ent) (a : List Comp) (r : List RelID) : addCore e a r w = .panic .locked w :=
  locked_bind _ w h
theorem removeCore_locked (e : Ent) (a : List Comp) : removeCore run e a w = .panic .locked w :=
  locked_bind _ w h
theorem exchangeCore_locked (e : Ent) (a b : List Comp) (r : List RelID) :
    exchangeCore run e a b r w = .panic .locked w :=
  locked_bind _ w h
theorem setRelationsCore_locked (e : Ent) (r : List RelID) : setRelationsCore run e r w = .panic .locked w :=
  locked_bind _ w h
theorem opRemoveEntity_locked (e : Ent) : opRemoveEntity run e w = .panic .locked w :=
  locked_bind _ w h
theorem opCopyEntity_locked (e : Ent) : opCopyEntity run e w = .panic .locked w :=
  locked_bind _ w h
theorem opNewEntities_locked (n : Nat) (f : Bool) : opNewEntities run n f w = .panic .locked w :=
  locked_bind _ w h
theorem opNewBatch_locked (p : Path) (n : Nat) (ids : List Comp) (v : List (Comp × Val)) (r : List RelID) (f : Bool) :
    opNewBatch run p n ids v r f w = .panic .locked w :=
  locked_bind _ w h
theorem exchangeBatch_locked (fo : FilterObj) (ex : List RelID) (a b : List Comp) (r : List RelID)
    (v : Option (List (Comp × Val))) : exchangeBatch run fo ex a b r v w = .panic .locked w :=
  locked_bind _ w h
theorem setRelationsBatch_locked (fo : FilterObj) (ex r : List RelID) (f : Bool) :
    setRelationsBatch run fo ex r f w = .panic .locked w :=
  locked_bind _ w h
theorem opRemoveEntities_locked (fo : FilterObj) (ex : List RelID) (f : Bool) :
    opRemoveEntities run fo ex f w = .panic .locked w :=
  locked_bind _ w h
theorem opReset_locked : opReset w = .panic .locked w :=
  locked_bind _ w h
theorem opShrink_locked (b : Bool) : opShrink b w = .panic .locked w :=
  locked_bind _ w h
theorem opLoad_locked' (d : Dump) : opLoad d w = .panic .locked w :=
  locked_bind _ w h
/-- registering a new component type on a locked world is rolled back: nothing is consumed -/
theorem registerComponent_locked (k : CompKind) (hn : w.kinds.length < w.maxComps) :
    registerComponent k w = .panic .registerLocked w := by
  unfold registerComponent
  have : ¬ w.kinds.length ≥ w.maxComps := Nat.not_le.2 hn
  simp [this, h]

end Locked

section Dead
variable (run : ProbeRunner) (w : World) (hl : w.isLocked = false) (e : Ent) (hd : w.alive e = false)
include hl hd

theorem addCore_dead (a : List Comp) (r : List RelID) : addCore e a r w = .panic .deadEntity w :=
  dead_bind e _ w hl hd
theorem removeCore_dead (a : List Comp) : removeCore run e a w = .panic .deadEntity w :=
  dead_bind e _ w hl hd
theorem exchangeCore_dead (a b : List Comp) (r : List RelID) :
    exchangeCore run e a b r w = .panic .deadEntity w :=
  dead_bind e _ w hl hd
theorem setRelationsCore_dead (r : List RelID) : setRelationsCore run e r w = .panic .deadEntity w :=
  dead_bind e _ w hl hd
theorem opRemoveEntity_dead : opRemoveEntity run e w = .panic .deadEntity w :=
  dead_bind e _ w hl hd
theorem opCopyEntity_dead : opCopyEntity run e w = .panic .deadEntity w :=
  dead_bind e _ w hl hd
omit hl in
theorem opSet_dead (ids : List Comp) (v : List (Comp × Val)) : opSet run e ids v w = .panic .deadEntity w := by
  unfold opSet; simp [bind, M.bind, hd, M.get, M.assert]
end Dead

section Empty
variable (run : ProbeRunner) (w : World) (hl : w.isLocked = false) (e : Ent) (ha : w.alive e = true)
include hl ha

theorem addCore_noComponents (r : List RelID) : addCore e [] r w = .panic .noComponents w :=
  empty_bind e _ _ w hl ha
theorem removeCore_noComponents : removeCore run e [] w = .panic .noComponents w :=
  empty_bind e _ _ w hl ha
theorem exchangeCore_noComponents (r : List RelID) : exchangeCore run e [] [] r w = .panic .noComponents w :=
  empty_bind e _ _ w hl ha
theorem setRelationsCore_noRelations : setRelationsCore run e [] w = .panic .noRelations w :=
  empty_bind e _ _ w hl ha
end Empty

theorem graphFindAdd_state (m : Mask) (add : List Comp) (w : World) :
    (graphFindAdd m add w).state = w := by
  unfold graphFindAdd
  generalize m = mm
  induction add generalizing mm with
  | nil => simp [graphFindAdd.go, Res.state]
  | cons c rest ih =>
    simp only [graphFindAdd.go]
    split
    · rfl
    · exact ih _

theorem graphFindAdd_already (m : Mask) (c : Comp) (rest : List Comp) (w : World) (h : m.get c = true) :
    graphFindAdd m (c :: rest) w = .panic .alreadyHas w := by
  simp [graphFindAdd, graphFindAdd.go, h]

theorem graphFindRemove_missing (m : Mask) (c : Comp) (rest : List Comp) (w : World) (h : m.get c = false) :
    graphFindRemove m (c :: rest) w = .panic .missing w := by
  simp [graphFindRemove, graphFindRemove.go, h]

end Ark.World
