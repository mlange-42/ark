/-
  Ark.Props.C01World — C01 at world level.  This module DEFINES the vocabulary in which every later
  module says what an entity reads: `valOf` and `compsOf` (component values and component set of an
  ID, read through the entity index), `SameEnt` (an ID reads the same in two worlds) with
  `not_indexed` and `same_of_rows`, and for the copy loop of a move `copyVal`, `colIdx_inj`,
  `colIdx_some_iff_mem`; proof modules import it and `open Ark.Props.C01World`.
  Its theorems are the frame / faithfulness consequences of the row-moving primitives ("an
  operation on one entity never changes another entity"): `move_frame`, `remove_frame`,
  `write_frame`, `move_keeps_values`.  A decidable form of the entity index ↔ rows invariant (I2)
  with a concrete reachable world closes the module; the invariant itself (`IdxInv`) and its
  preservation are in Ark/Proofs/IdxInv.lean.
-/
import Ark.Proofs.IdxInv

set_option autoImplicit false

namespace Ark.Props.C01World
open Ark Ark.World Ark.Table

/-- the value of component `c` of the entity with ID `i`, read through the index
    (`none` if the ID is not indexed to a table or the table has no such column) -/
def valOf (w : World) (i : Nat) (c : Comp) : Option Val :=
  match w.entities[i]? with
  | some (t, r) => if t = maxU32 then none else (w.tables[t]?).bind fun T => T.getComp c r
  | none => none

/-- the component set of the entity with ID `i` (its table's `ids`) -/
def compsOf (w : World) (i : Nat) : Option (List Comp) :=
  match w.entities[i]? with
  | some (t, _) => if t = maxU32 then none else (w.tables[t]?).map fun T => T.ids
  | none => none

/-- entity `j` has the same component set and the same values in `w'` as in `w` -/
def SameEnt (w w' : World) (j : Nat) : Prop :=
  (∀ c : Comp, valOf w' j c = valOf w j c) ∧ compsOf w' j = compsOf w j

theorem SameEnt.trans {a b c : World} {j : Nat} (h1 : SameEnt a b j) (h2 : SameEnt b c j) :
    SameEnt a c j :=
  ⟨fun x => (h2.1 x).trans (h1.1 x), h2.2.trans h1.2⟩

theorem valOf_congr {w w' : World} (he : w'.entities = w.entities) (ht : w'.tables = w.tables)
    (j : Nat) (c : Comp) : valOf w' j c = valOf w j c := by
  simp only [valOf, he, ht]

theorem compsOf_congr {w w' : World} (he : w'.entities = w.entities) (ht : w'.tables = w.tables)
    (j : Nat) : compsOf w' j = compsOf w j := by
  simp only [compsOf, he, ht]

theorem SameEnt.congr {a b b' : World} {j : Nat} (h : SameEnt a b j)
    (he : b'.entities = b.entities) (ht : b'.tables = b.tables) : SameEnt a b' j :=
  ⟨fun c => (valOf_congr he ht j c).trans (h.1 c), (compsOf_congr he ht j).trans h.2⟩

theorem valOf_of_entry {w : World} {i t r : Nat} {T : Table} (hi : w.entities[i]? = some (t, r))
    (ht : t ≠ maxU32) (hT : w.tables[t]? = some T) (c : Comp) : valOf w i c = T.getComp c r := by
  simp only [valOf, hi, ht, if_false, hT, Option.bind_some]

theorem compsOf_of_entry {w : World} {i t r : Nat} {T : Table} (hi : w.entities[i]? = some (t, r))
    (ht : t ≠ maxU32) (hT : w.tables[t]? = some T) : compsOf w i = some T.ids := by
  simp only [compsOf, hi, ht, if_false, hT, Option.map_some]

/-- an ID without an entry into a table has no component set and no values -/
theorem not_indexed {w : World} {i : Nat}
    (h : ∀ t r : Nat, w.entities[i]? = some (t, r) → t = maxU32) :
    compsOf w i = none ∧ ∀ c : Comp, valOf w i c = none := by
  unfold compsOf valOf
  cases hx : w.entities[i]? with
  | none => exact ⟨rfl, fun _ => rfl⟩
  | some p => obtain ⟨t, r⟩ := p; simp only [h t r hx, if_true]; exact ⟨trivial, fun _ => trivial⟩

/-- a value is read through an entry into a table -/
theorem entry_of_valOf {w : World} {i : Nat} {c : Comp} {v : Val} (h : valOf w i c = some v) :
    ∃ (t r : Nat), w.entities[i]? = some (t, r) ∧ t ≠ maxU32 :=
  Classical.byContradiction fun hn => by
    rw [(not_indexed fun t r hh => Classical.byContradiction fun ht => hn ⟨t, r, hh, ht⟩).2 c] at h
    cases h

theorem compsOf_unindexed {w : World} {i r : Nat} (h : w.entities[i]? = some (maxU32, r)) :
    compsOf w i = none ∧ ∀ c : Comp, valOf w i c = none :=
  not_indexed fun t r' hh => by rw [h] at hh; cases hh; rfl

/-- a component set is read through an entry into an existing table -/
theorem entry_of_compsOf {w : World} {i : Nat} {cs : List Comp} (h : compsOf w i = some cs) :
    ∃ (t r : Nat), w.entities[i]? = some (t, r) ∧ t ≠ maxU32 ∧ t < w.tables.length ∧
      cs = (w.tbl t).ids := by
  cases hx : w.entities[i]? with
  | none => rw [(not_indexed fun t r hh => by rw [hx] at hh; cases hh).1] at h; cases h
  | some p =>
    obtain ⟨t, r⟩ := p
    by_cases hm : t = maxU32
    · rw [(not_indexed fun t' r' hh => by rw [hx] at hh; cases hh; exact hm).1] at h; cases h
    · cases hT : w.tables[t]? with
      | none => simp only [compsOf, hx, hm, if_false, hT, Option.map_none] at h; cases h
      | some T =>
        rw [compsOf_of_entry hx hm hT] at h
        exact ⟨t, r, rfl, hm, lt_of_get hT, by rw [tbl_of_get hT]; exact (Option.some.inj h).symm⟩

theorem same_of_entry {w w' : World} {j : Nat} (he : w'.entities[j]? = w.entities[j]?)
    (hdead : ∀ t r : Nat, w.entities[j]? = some (t, r) → t = maxU32) : SameEnt w w' j := by
  have h := not_indexed hdead
  have h' := not_indexed (w := w') fun t r hh => hdead t r (he ▸ hh)
  exact ⟨fun c => (h'.2 c).trans (h.2 c).symm, h'.1.trans h.1.symm⟩

theorem same_of_rows {w w' : World} {j t r t' r' : Nat} {T T' : Table}
    (hi : w.entities[j]? = some (t, r)) (hi' : w'.entities[j]? = some (t', r'))
    (ht : t ≠ maxU32) (ht' : t' ≠ maxU32)
    (hT : w.tables[t]? = some T) (hT' : w'.tables[t']? = some T')
    (hids : T'.ids = T.ids) (hcell : ∀ i : Nat, T'.cell i r' = T.cell i r) : SameEnt w w' j := by
  constructor
  · intro c
    simp only [valOf_of_entry hi ht hT, valOf_of_entry hi' ht' hT', Table.getComp, Table.colIdx, hids,
      hcell]
  · rw [compsOf_of_entry hi ht hT, compsOf_of_entry hi' ht' hT', hids]

theorem same_of_stay {w w' : World} (h : IdxInv w) {j : Nat}
    (hL : w'.entities[j]? = w.entities[j]?)
    (hT : ∀ t r : Nat, w.entities[j]? = some (t, r) → w.tables[t]? = some (w.tbl t) →
      r < (w.tbl t).len → ((w.tbl t).getEntity r).id = j →
      ∃ T', w'.tables[t]? = some T' ∧ T'.ids = (w.tbl t).ids ∧
        ∀ i : Nat, T'.cell i r = (w.tbl t).cell i r) : SameEnt w w' j := by
  cases hx : w.entities[j]? with
  | none => exact same_of_entry hL (fun t r hh => by rw [hx] at hh; cases hh)
  | some p =>
    obtain ⟨t1, r1⟩ := p
    by_cases ht1 : t1 = maxU32
    · exact same_of_entry hL (fun t r hh => by rw [hx] at hh; cases hh; exact ht1)
    · obtain ⟨T1, hT1, hr1, hid1⟩ := h.idxRow j t1 r1 hx ht1
      have := tbl_of_get hT1; subst this
      obtain ⟨T', hT', hids, hcell⟩ := hT t1 r1 hx hT1 hr1 hid1
      exact same_of_rows hx (hL.trans hx) ht1 ht1 hT1 hT' hids hcell

theorem same_write {w : World} (h : IdxInv w) {t row j : Nat} {T' : Table}
    (hw : WriteRel row (w.tbl t) T') (hj : ((w.tbl t).getEntity row).id ≠ j) :
    SameEnt w (w.setTbl t T') j := by
  refine same_of_stay h rfl fun t1 r1 _ hT1 _ hid1 => ?_
  by_cases htt : t1 = t
  · subst htt
    exact ⟨T', setTbl_get_self T' (lt_of_get hT1), hw.ids,
      fun i => hw.other i r1 fun heq => hj (heq ▸ hid1)⟩
  · exact ⟨_, by rw [setTbl_get_ne w T' (Ne.symm htt)]; exact hT1, rfl, fun _ => rfl⟩

theorem same_unplace {w : World} (h : IdxInv w) {e : Ent} {t row : Nat}
    (he : w.entities[e.id]? = some (t, row)) (ht : t ≠ maxU32) {j : Nat} (hj : j ≠ e.id) :
    SameEnt w (unplace w e t row) j := by
  obtain ⟨hT, hrow, hid⟩ := h.indexed he ht
  have hS := h.shape t _ hT
  have hlt := lt_of_get hT
  have hL := unplace_lookup h he ht j
  rw [if_neg hj] at hL
  have hse := h.rowIdx t _ ((w.tbl t).len - 1) hT (by omega)
  have hTnew : (unplace w e t row).tables[t]? = some ((w.tbl t).remove row).1 := by
    rw [unplace_tables]; exact List.getElem?_set_self hlt
  by_cases hsw : row ≠ (w.tbl t).len - 1 ∧ j = ((w.tbl t).getEntity ((w.tbl t).len - 1)).id
  · rw [if_pos hsw] at hL
    obtain ⟨hrl, rfl⟩ := hsw
    refine same_of_rows hse hL ht ht hT hTnew (Table.remove_ids _ _) (fun i => ?_)
    rw [Table.remove_cell hS row hrow, if_neg hrl, if_pos rfl]
  · rw [if_neg hsw] at hL
    refine same_of_stay h hL fun t1 r1 _ hT1 _ hid1 => ?_
    by_cases htt : t1 = t
    · subst htt
      have hr_ne : r1 ≠ row := fun heq => hj ((heq ▸ hid1).symm.trans hid)
      have hr_ne2 : r1 ≠ (w.tbl t1).len - 1 := by
        intro heq
        by_cases hrl : row = (w.tbl t1).len - 1
        · exact hr_ne (heq.trans hrl.symm)
        · exact hsw ⟨hrl, by rw [← heq]; exact hid1.symm⟩
      refine ⟨_, hTnew, Table.remove_ids _ _, fun i => ?_⟩
      rw [Table.remove_cell hS row hrow, if_neg hr_ne2, if_neg hr_ne]
    · exact ⟨_, by rw [unplace_tables, List.getElem?_set_ne (Ne.symm htt)]; exact hT1, rfl,
        fun _ => rfl⟩

theorem same_place {w : World} (h : IdxInv w) (e : Ent) (t : Nat)
    (hle : e.id ≤ w.entities.length) {j : Nat} (hj : j ≠ e.id) :
    SameEnt w (place w e t) j := by
  have hL := place_lookup w e t hle j
  rw [if_neg hj] at hL
  refine same_of_stay h hL fun t1 r1 _ hT1 hr1 _ => ?_
  by_cases htt : t1 = t
  · subst htt
    exact ⟨_, by rw [place_tables]; exact List.getElem?_set_self (lt_of_get hT1),
      Table.add_ids _ e, fun i => Table.add_cell_lt _ e i r1 hr1⟩
  · exact ⟨_, by rw [place_tables, List.getElem?_set_ne (Ne.symm htt)]; exact hT1, rfl,
      fun _ => rfl⟩

/-- "add `e` to `newT`, then `moveRow`" (the tail of `add`/`remove`/`exchange`/
    `setRelations`) leaves every other entity ID with the same values and the same component
    set. -/
theorem move_frame {w : World} (h : IdxInv w) {e : Ent} {oldT row newT : Nat} (keep : Mask)
    (hne : oldT ≠ newT) (he : w.entities[e.id]? = some (oldT, row)) (ht : oldT ≠ maxU32)
    (hnl : newT < w.tables.length) (hb : (w.tbl newT).len + 1 < 2 ^ 32)
    {j : Nat} (hj : j ≠ e.id) :
    (∀ c : Comp, valOf (addMove w e oldT row newT keep) j c = valOf w j c) ∧
    compsOf (addMove w e oldT row newT keep) j = compsOf w j := by
  obtain ⟨h1, h2, hle, hpl, _, hge, hw, _⟩ := h.addMove_steps keep hne he ht hnl hb
  have hel : e.id < w.entities.length := (List.getElem?_eq_some_iff.mp he).1
  have s1 := same_unplace h he ht hj
  have s2 := same_place h1 e newT hle hj
  have s3 : SameEnt (place (unplace w e oldT row) e newT)
      ((place (unplace w e oldT row) e newT).setTbl newT
        (copyRow (w.tbl oldT) row (w.tbl newT).len keep ((w.tbl newT).add e).1)) j := by
    apply same_write h2 (row := (w.tbl newT).len)
    · rw [hpl]; exact hw
    · rw [hpl, hge]; exact fun hh => hj hh.symm
  obtain ⟨e1, e2⟩ := addMove_decomp w e oldT row newT keep hne hnl hel
  exact ((s1.trans s2).trans s3).congr e2 e1

/-- The removal block of `opRemoveEntity` leaves every other entity ID with
    the same values and component set. -/
theorem remove_frame {w : World} (h : IdxInv w) {e : Ent} {t row : Nat}
    (he : w.entities[e.id]? = some (t, row)) (ht : t ≠ maxU32) {j : Nat} (hj : j ≠ e.id) :
    (∀ c : Comp, valOf (removeRowOf w e t row) j c = valOf w j c) ∧
    compsOf (removeRowOf w e t row) j = compsOf w j :=
  (same_unplace h he ht hj).congr (removeRowOf_entities w e t row) (removeRowOf_tables w e t row)

theorem colIdx_inj {T : Table} {c c' : Comp} {j : Nat} (h : T.colIdx c = some j)
    (h' : T.colIdx c' = some j) : c = c' := by
  simp only [Table.colIdx] at h h'
  split at h
  · rename_i hl
    split at h'
    · rename_i hl'
      have e1 : T.ids.idxOf c = T.ids.idxOf c' := (Option.some.inj h).trans (Option.some.inj h').symm
      have a1 := List.getElem_idxOf hl
      have a2 := List.getElem_idxOf hl'
      rw [← a1, ← a2]
      simp only [e1]
    · cases h'
  · cases h

theorem getComp_setComp_ne (T : Table) {c c' : Comp} (hne : c ≠ c') (row : Nat) (v : Val) (r : Nat) :
    (T.setComp c' row v).getComp c r = T.getComp c r := by
  simp only [Table.setComp]
  cases h' : T.colIdx c' with
  | none => rfl
  | some j' =>
    simp only
    have hids : (T.setCell j' row v).ids = T.ids := by
      simp only [Table.setCell]; split <;> rfl
    simp only [Table.getComp, Table.colIdx, hids]
    cases hc : T.colIdx c with
    | none => simp only [Table.colIdx] at hc; simp only [hc, Option.map_none]
    | some j =>
      simp only [Table.colIdx] at hc; simp only [hc, Option.map_some]
      have hjj : j ≠ j' := by
        intro heq; subst heq
        exact hne (colIdx_inj (by simpa only [Table.colIdx] using hc) h')
      rw [Table.setCell_cell_ne T j' row v j r (Or.inl hjj)]

theorem getComp_writeVals_ne (c : Comp) (row r : Nat) :
    ∀ (vals : List (Comp × Val)) (T : Table), (∀ cv ∈ vals, cv.1 ≠ c) →
      (vals.foldl (fun T (cv : Comp × Val) => T.setComp cv.1 row cv.2) T).getComp c r =
        T.getComp c r
  | [], _, _ => rfl
  | cv :: vals, T, h => by
    simp only [List.foldl_cons]
    rw [getComp_writeVals_ne c row r vals _ (fun x hx => h x (List.mem_cons_of_mem _ hx))]
    exact getComp_setComp_ne T (fun hh => h cv List.mem_cons_self hh.symm) row cv.2 r

/-- `writeVals e vals` changes only `valOf e.id c` for `c` in `vals`:
    other entities keep everything, `e` keeps its component set and the values of all
    components not written. -/
theorem write_frame {w : World} (h : IdxInv w) (e : Ent) (vals : List (Comp × Val)) {t row : Nat}
    (he : w.entities[e.id]? = some (t, row)) (ht : t ≠ maxU32) :
    (∀ j : Nat, j ≠ e.id → (∀ c : Comp, valOf (writeValsW w e vals) j c = valOf w j c) ∧
      compsOf (writeValsW w e vals) j = compsOf w j) ∧
    (∀ c : Comp, (∀ cv ∈ vals, cv.1 ≠ c) → valOf (writeValsW w e vals) e.id c = valOf w e.id c) ∧
    compsOf (writeValsW w e vals) e.id = compsOf w e.id := by
  obtain ⟨hT, hrow, hid⟩ := h.indexed he ht
  have hw := writeVals_writeRel (w.tbl t) row vals hrow
  have hWV := writeValsW_at he vals
  have hTn : (writeValsW w e vals).tables[t]? = some
      (vals.foldl (fun T (cv : Comp × Val) => T.setComp cv.1 row cv.2) (w.tbl t)) := by
    rw [hWV]; exact setTbl_get_self _ (lt_of_get hT)
  have hEn : (writeValsW w e vals).entities = w.entities := rfl
  refine ⟨fun j hj => ?_, fun c hc => ?_, ?_⟩
  · rw [hWV]
    exact same_write h hw (by rw [hid]; exact fun hh => hj hh.symm)
  · rw [valOf_of_entry (hEn ▸ he) ht hTn, valOf_of_entry he ht hT]
    exact getComp_writeVals_ne c row row vals _ hc
  · rw [compsOf_of_entry (hEn ▸ he) ht hTn, compsOf_of_entry he ht hT, hw.ids]

/-- the value the copy loop writes into cell `(j, idx)` (`j` = column of `c`), if any -/
def copyVal (O : Table) (row : Nat) (keep : Mask) (zst : List Bool) (c : Comp) (j : Nat) :
    Option Val :=
  if keep.get c = true ∧ zst.getD j false = false then O.getComp c row else none

theorem copyStep_cell {O N : Table} (hN : N.Shape) (row idx : Nat) (keep : Mask)
    (hidx : idx < N.len) {c : Comp} {j : Nat} (hj : N.colIdx c = some j) (x : Comp) :
    (copyStep O row idx keep N x).cell j idx =
      if x = c then (copyVal O row keep N.zst c j).getD (N.cell j idx) else N.cell j idx := by
  by_cases hx : x = c
  · subst hx
    rw [if_pos rfl]
    simp only [copyStep, copyVal]
    cases hk : keep.get x with
    | false => simp
    | true =>
      simp only [if_true, true_and]
      cases hv : O.getComp x row with
      | none => simp
      | some v =>
        simp only [Table.setComp, hj]
        cases hz : N.zst.getD j false with
        | true => simp [Table.setCell_zst N j idx v hz]
        | false =>
          simp only [if_true, Option.getD_some]
          exact Table.setCell_cell_self hN j idx v (Table.colIdx_lt hj) hz
            (by have := hN.len_le; omega)
  · rw [if_neg hx]
    simp only [copyStep]
    split
    · split
      · rename_i v _
        simp only [Table.setComp]
        cases hx' : N.colIdx x with
        | none => rfl
        | some j' =>
          simp only
          have : j ≠ j' := by
            intro heq; subst heq; exact hx (colIdx_inj hx' hj)
          exact Table.setCell_cell_ne N j' idx v j idx (Or.inl this)
      · rfl
    · rfl

theorem copyFold_cell (O : Table) (row idx : Nat) (keep : Mask) (c : Comp) (j : Nat) :
    ∀ (l : List Comp) (N : Table), N.Shape → idx < N.len → N.colIdx c = some j →
      (l.foldl (copyStep O row idx keep) N).cell j idx =
        if c ∈ l then (copyVal O row keep N.zst c j).getD (N.cell j idx) else N.cell j idx
  | [], N, _, _, _ => by simp
  | x :: l, N, hN, hidx, hj => by
    have hw := copyStep_writeRel O row idx keep N x hidx
    simp only [List.foldl_cons]
    rw [copyFold_cell O row idx keep c j l _ (hw.shape hN) (by rw [hw.len]; exact hidx)
      (by rw [hw.colIdx]; exact hj), hw.zst, copyStep_cell hN row idx keep hidx hj x]
    by_cases hx : x = c
    · subst hx
      simp only [if_true, List.mem_cons, true_or]
      cases copyVal O row keep N.zst x j <;> simp
    · simp only [hx, if_false, List.mem_cons, Ne.symm hx, false_or]

theorem colIdx_some_iff_mem {T : Table} {c : Comp} : (∃ i, T.colIdx c = some i) ↔ c ∈ T.ids := by
  simp only [Table.colIdx]
  constructor
  · rintro ⟨i, hi⟩
    split at hi
    · rename_i hl; exact List.idxOf_lt_length_iff.mp hl
    · cases hi
  · intro hm
    exact ⟨_, by rw [if_pos (List.idxOf_lt_length_iff.mpr hm)]⟩

/-- After "add `e` to `newT`, then `moveRow`", for every component `c`
    of the new table: if `c` is selected by `keep` and the old table has it, `e` keeps its value;
    otherwise (component only in the new table, or not kept) it reads the zero value
    (uninitialised add).  `hz`: a component has the same zero-size flag in both tables (the
    flag is a function of the component type). -/
theorem move_keeps_values {w : World} (h : IdxInv w) {e : Ent} {oldT row newT : Nat} (keep : Mask)
    (hne : oldT ≠ newT) (he : w.entities[e.id]? = some (oldT, row)) (ht : oldT ≠ maxU32)
    (hnl : newT < w.tables.length) (hnm : newT ≠ maxU32)
    (hb : (w.tbl newT).len + 1 < 2 ^ 32)
    (hz : ∀ (c : Comp) (i j : Nat), (w.tbl oldT).colIdx c = some i → (w.tbl newT).colIdx c = some j →
      (w.tbl newT).zst.getD j false = (w.tbl oldT).zst.getD i false)
    {c : Comp} (hc : (w.tbl newT).has c = true) :
    valOf (addMove w e oldT row newT keep) e.id c =
      if keep.get c = true ∧ (w.tbl oldT).has c = true then valOf w e.id c else some 0 := by
  obtain ⟨h1, h2, hle, hpl, hSN, hge, hw, hune⟩ := h.addMove_steps keep hne he ht hnl hb
  obtain ⟨hTo, hrow, hid⟩ := h.indexed he ht
  have hSO := h.shape oldT _ hTo
  have hS0 := h.shape newT _ (get_of_lt hnl)
  have hel : e.id < w.entities.length := (List.getElem?_eq_some_iff.mp he).1
  obtain ⟨e1, e2⟩ := addMove_decomp w e oldT row newT keep hne hnl hel
  -- the index entry and the table of `e` after the move
  have hent : (addMove w e oldT row newT keep).entities[e.id]? = some (newT, (w.tbl newT).len) := by
    rw [e2, setTbl_entities, place_lookup _ e newT hle, if_pos rfl, hune]
  have hplt : newT < (place (unplace w e oldT row) e newT).tables.length := by
    rw [place_tables, List.length_set, unplace_tables, List.length_set]; exact hnl
  have htab : (addMove w e oldT row newT keep).tables[newT]? =
      some (copyRow (w.tbl oldT) row (w.tbl newT).len keep ((w.tbl newT).add e).1) := by
    rw [e1]; exact setTbl_get_self _ hplt
  -- the column of `c` in the new table
  obtain ⟨j, hj0⟩ : ∃ j, (w.tbl newT).colIdx c = some j := by
    simp only [Table.has, Option.isSome_iff_exists] at hc; exact hc
  have hjN : ((w.tbl newT).add e).1.colIdx c = some j := by
    simp only [Table.colIdx, Table.add_ids]; exact hj0
  have hjC : (copyRow (w.tbl oldT) row (w.tbl newT).len keep ((w.tbl newT).add e).1).colIdx c
      = some j := by rw [hw.colIdx]; exact hjN
  have hzero : ((w.tbl newT).add e).1.cell j (w.tbl newT).len = 0 := by
    have := Table.add_new_row_zero hS0 e j
    rw [Table.add_snd] at this; exact this
  have hcell := copyFold_cell (w.tbl oldT) row (w.tbl newT).len keep c j (w.tbl oldT).ids
    ((w.tbl newT).add e).1 hSN (by rw [Table.add_fst_len]; omega) hjN
  rw [← copyRow_eq_foldl, hzero, Table.add_zst] at hcell
  -- read both sides
  simp only [valOf_of_entry hent hnm htab, valOf_of_entry he ht hTo, Table.getComp, hjC,
    Option.map_some, hcell]
  cases hio : (w.tbl oldT).colIdx c with
  | none =>
    have hnm : c ∉ (w.tbl oldT).ids := by
      intro hm
      obtain ⟨i, hi⟩ := colIdx_some_iff_mem.mpr hm
      rw [hio] at hi; cases hi
    simp [hnm, Table.has, hio]
  | some i =>
    have hm : c ∈ (w.tbl oldT).ids := colIdx_some_iff_mem.mp ⟨i, hio⟩
    simp only [hm, if_true, Table.has, hio, Option.isSome_some, and_true, Option.map_some]
    cases hk : keep.get c with
    | false => simp [copyVal, hk]
    | true =>
      simp only [copyVal, hk, true_and, if_true, Table.getComp, hio, Option.map_some]
      cases hzz : (w.tbl newT).zst.getD j false with
      | false => simp
      | true =>
        have hzo : (w.tbl oldT).zst.getD i false = true := by rw [← hz c i j hio hj0]; exact hzz
        simp [hSO.zst_zero i hzo row]

/-! ### a decidable version of the invariant, and a concrete reachable world (non-vacuity) -/

def shapeB (T : Table) : Bool :=
  decide (T.len ≤ T.cap) && (T.ents.length == T.cap) && (T.cols.length == T.ids.length) &&
  (T.zst.length == T.ids.length) &&
  (T.cols.all fun col => (col.length == T.cap) &&
    (List.range col.length).all fun r => decide (r < T.len) || (col.getD r 0 == 0)) &&
  ((List.range T.cols.length).all fun i =>
    !(T.zst.getD i false) || (T.cols.getD i []).all fun v => v == 0)

theorem shapeB_sound {T : Table} (h : shapeB T = true) : T.Shape := by
  simp only [shapeB, Bool.and_eq_true, decide_eq_true_eq, beq_iff_eq, List.all_eq_true,
    List.mem_range, Bool.or_eq_true, Bool.not_eq_true'] at h
  obtain ⟨⟨⟨⟨⟨h1, h2⟩, h3⟩, h4⟩, h5⟩, h6⟩ := h
  refine ⟨h1, h2, h3, h4, fun col hc => (h5 col hc).1, ?_, ?_⟩
  · intro col hc r hr
    rcases Nat.lt_or_ge r col.length with hlt | hge
    · rcases (h5 col hc).2 r hlt with h7 | h7
      · omega
      · exact h7
    · simp [List.getD_eq_getElem?_getD, List.getElem?_eq_none hge]
  · intro i hz r
    rcases Nat.lt_or_ge i T.cols.length with hlt | hge
    · rcases h6 i hlt with h7 | h7
      · rw [h7] at hz; cases hz
      · simp only [Table.cell, List.getD_eq_getElem?_getD]
        cases hr : (T.cols[i]?.getD [])[r]? with
        | none => rfl
        | some v =>
          have hm : v ∈ T.cols[i]?.getD [] := List.mem_of_getElem? hr
          have := h7 v (by simpa only [List.getD_eq_getElem?_getD] using hm)
          simp only [Option.getD_some]; exact this
    · simp [Table.cell, List.getD_eq_getElem?_getD, List.getElem?_eq_none hge]

def idxInvB (w : World) : Bool :=
  ((List.range w.tables.length).all fun t =>
    ((w.tbl t).id == t) && shapeB (w.tbl t) &&
    (List.range (w.tbl t).len).all fun r =>
      w.entities[((w.tbl t).getEntity r).id]? == some (t, r)) &&
  ((List.range w.entities.length).all fun i =>
    ((w.index i).1 == maxU32) ||
      (decide ((w.index i).1 < w.tables.length) &&
        decide ((w.index i).2 < (w.tbl (w.index i).1).len) &&
        (((w.tbl (w.index i).1).getEntity (w.index i).2).id == i)))

theorem idxInvB_sound {w : World} (h : idxInvB w = true) : IdxInv w := by
  simp only [idxInvB, Bool.and_eq_true, decide_eq_true_eq, beq_iff_eq, List.all_eq_true,
    List.mem_range, Bool.or_eq_true] at h
  obtain ⟨hT, hI⟩ := h
  refine ⟨?_, ?_, ?_, ?_⟩
  · intro t T hget
    have := (hT t (lt_of_get hget)).1.2
    rw [tbl_of_get hget] at this; exact shapeB_sound this
  · intro t T hget
    have := (hT t (lt_of_get hget)).1.1
    rw [tbl_of_get hget] at this; exact this
  · intro t T r hget hr
    have := (hT t (lt_of_get hget)).2
    rw [tbl_of_get hget] at this; exact this r hr
  · intro i t r hi ht
    have hil : i < w.entities.length := by
      rcases Nat.lt_or_ge i w.entities.length with h1 | h1
      · exact h1
      · rw [List.getElem?_eq_none h1] at hi; cases hi
    have hix := index_of_get hi
    rcases hI i hil with h1 | ⟨⟨h1, h2⟩, h3⟩
    · rw [hix] at h1; exact absurd h1 ht
    · rw [hix] at h1 h2 h3
      exact ⟨w.tbl t, get_of_lt h1, h2, h3⟩

/-- a callback runner that does nothing (no observers are registered below) -/
def noProbe : ProbeRunner := fun _ _ _ => pure ()

/-- a small world built with the model's own operations: two component types, two entities
    with component 0 (values 7 and 9) -/
def demo0 : World :=
  let w := World.init 1 1
  let w := (registerComponent {} w).state
  let w := (registerComponent {} w).state
  let w := (opNewEntity noProbe .unsafe_ [0] [(0, 7)] [] w).state
  (opNewEntity noProbe .unsafe_ [0] [(0, 9)] [] w).state

/-- … then component 1 (value 5) is added to the first entity, which moves it to another table
    and swaps the second entity into its row -/
def demo : World := (opAdd noProbe .unsafe_ ⟨2, 0⟩ [1] [(1, 5)] [] demo0).state

/-- non-vacuity: the invariant holds in both concrete worlds -/
theorem demo_idxInv : IdxInv demo0 ∧ IdxInv demo :=
  ⟨idxInvB_sound (by decide +kernel), idxInvB_sound (by decide +kernel)⟩

/-- the concrete frame facts: entity 3 keeps value 9 and component set `[0]` although its row
    changed from 1 to 0; entity 2 keeps 7, gains component 1 with the written value 5 -/
example :
    demo0.entities = [(maxU32, 0), (maxU32, 0), (1, 0), (1, 1)] ∧
    demo.entities = [(maxU32, 0), (maxU32, 0), (2, 0), (1, 0)] ∧
    (valOf demo0 2 0, valOf demo0 3 0, compsOf demo0 2, compsOf demo0 3) =
      (some 7, some 9, some [0], some [0]) ∧
    (valOf demo 2 0, valOf demo 2 1, valOf demo 3 0, valOf demo 3 1) =
      (some 7, some 5, some 9, none) ∧
    (compsOf demo 2, compsOf demo 3) = (some [0, 1], some [0]) := by
  decide +kernel

/-- the hypotheses of `move_frame` / `move_keeps_values` are satisfiable: they hold for the move
    performed by `opAdd` in `demo0` (entity 2 from table 1 to table 2) once table 2 exists -/
example : ∃ w : World, IdxInv w ∧ w.entities[2]? = some (1, 0) ∧ (1 : Nat) ≠ 2 ∧ 1 ≠ maxU32 ∧
    2 < w.tables.length ∧ (w.tbl 2).len + 1 < 2 ^ 32 ∧
    valOf (addMove w ⟨2, 0⟩ 1 0 2 (Mask.ofList [0, 1])) 3 0 = some 9 ∧
    valOf (addMove w ⟨2, 0⟩ 1 0 2 (Mask.ofList [0, 1])) 2 0 = some 7 ∧
    valOf (addMove w ⟨2, 0⟩ 1 0 2 (Mask.ofList [0, 1])) 2 1 = some 0 :=
  ⟨(findOrCreateTableAdd 1 (Mask.ofList [0]) [1] [] demo0).state,
    idxInvB_sound (by decide +kernel), by decide +kernel⟩

end Ark.Props.C01World
