/-
  Ark.Props.C19Src — C19, the source side of the incremental update:

    "[…] Statistics that were updated incrementally over a history equal those of a world that
     replays the history and is asked once."

  `archetype.UpdateStats` (archetype.go), `table.Stats` and `table.UpdateStats` (table.go) are
  translated statement by statement from the Go source on every run of the extractor
  (tools/extract/book.go → Ark/Generated/BookStats.lean: the truncation of the re-used
  `stats.Tables`, the in-place loop, the appending loop, the free-table loop, the four sums
  accumulated inside the loops).  This file states that the TRANSLATED SOURCE computes what the
  model's `archStatsUpdate` computes — for every world, every archetype and every stored object —
  and hence what `World.Stats()` of the model reports per archetype at every reachable state of
  the history machines.

  Why: the model's `archStatsUpdate` is blind to the truncation of the re-used slice
  (`Ark.Props.C19Rel.model_is_blind_to_truncation`); the translated source is not.  A change of the
  Go function — e.g. `cntOld := min(len(stats.Tables), cntNew)` without
  `stats.Tables = stats.Tables[:cntNew]` — changes the generated definition, and
  `source_updateStats_eq` is false of it: the changed function keeps the stale tail,
  `source_truncates` fails for it.

  Vocabulary (Ark/Proofs/GenBridge/BookStats.lean): `gTable T` — the model's table as the
  structure generated from the Go struct `table` (`ofTable T` with `len`, `cap`); `gStorage w` —
  the table store `storage.tables`; `gTableStats`, `gArchStats` — `stats.Table`, `stats.Archetype`
  (the fields the translated functions read or write); `ofArch A` — the Go struct `archetype`.
  No hypothesis on table IDs is needed: an ID outside `w.tables` reads the zero table on both
  sides (`gStorage_getD`).
-/
import Ark.Props.C19
import Ark.Props.C19Rel
import Ark.Proofs.GenBridge.BookStats

set_option autoImplicit false

namespace Ark.Props.C19Src
open Ark Ark.World Ark.Generated.Book Ark.GenBridge.Book

/-! ## 1. tables -/

/-- `table.Stats(memPerEntity)` as in the source = the model's `tableStats` -/
theorem source_tableStats_eq (T : Table) (mpe : Nat) :
    table_Stats (gTable T) mpe = gTableStats (tableStats T mpe) := rfl

/-- `table.UpdateStats(memPerEntity, &stats)` as in the source overwrites all four fields of the
    re-used entry: = the model's `tableStats`, whatever the entry was -/
theorem source_tableUpdateStats_eq (T : Table) (mpe : Nat) (old : G_stats_Table) :
    table_UpdateStats (gTable T) mpe old = gTableStats (tableStats T mpe) := rfl

/-- `storage.tables[id]` of the projected store is the model's `w.tbl id`, for every `id` -/
theorem source_table_lookup (w : World) (id : Nat) :
    (gStorage w).tables.getD id default = gTable (w.tbl id) :=
  gStorage_getD w id

/-! ## 2. `archetype.UpdateStats` -/

/-- **`archetype.UpdateStats` as translated from the source = the model's `archStatsUpdate`**, for
    every world, every archetype and EVERY stored object (its table list longer than, shorter
    than or as long as the archetype's active-table list; any figures) -/
theorem source_updateStats_eq (w : World) (A : Archetype) (st : ArchStats) :
    archetype_UpdateStats (ofArch A) (gArchStats st) (gStorage w) =
      gArchStats (w.archStatsUpdate A st) :=
  updateStats_eq w A st

/-- the in-place loop on the re-used slice: the first `k` entries are overwritten, what lies
    behind them STAYS (so a stored list that is not truncated keeps its stale tail), and the four
    sums of the new entries are accumulated -/
theorem source_inplace_loop (S : G_storage) (tables : TableIDs) (k c n m u : Nat)
    (st : G_stats_Archetype) (hk : k ≤ st.Tables.length) :
    (List.range k).foldl (step1 S tables) (c, n, m, u, st) =
      (c + sumOf (·.Capacity) (entry S tables.tables st.MemoryPerEntity) (List.range k),
       n + sumOf (·.Size) (entry S tables.tables st.MemoryPerEntity) (List.range k),
       m + sumOf (·.Memory) (entry S tables.tables st.MemoryPerEntity) (List.range k),
       u + sumOf (·.MemoryUsed) (entry S tables.tables st.MemoryPerEntity) (List.range k),
       { st with Tables := (List.range k).map (entry S tables.tables st.MemoryPerEntity) ++
                   st.Tables.drop k }) := by
  -- one `IsRound` loop from position 0, every slot written exists
  rw [List.range_eq_range', rounds_eq S tables.tables st.MemoryPerEntity st.Tables.length
    (step1 S tables) k 0 (c, n, m, u, st) ?_ rfl (Nat.max_eq_left (Nat.zero_le _)).symm]
  · simp
  · intro c n m u s i _ hi hmpe hlen
    have his : i < s.Tables.length := by omega
    rw [step1_eq S tables c n m u s i his, hmpe, putAt, if_pos his]

/-- the source truncates: whatever the stored entry was, afterwards there are as many table
    entries as the archetype has active tables -/
theorem source_truncates (w : World) (A : Archetype) (st : ArchStats) :
    (archetype_UpdateStats (ofArch A) (gArchStats st) (gStorage w)).Tables.length =
      A.tables.tables.length := by
  rw [updateStats_eq]
  simp [gArchStats, archStatsUpdate]

/-- the source computes the FRESH entry when the stored entry carries the archetype's three
    immutable figures (`StatAgrees`) -/
theorem source_updateStats_eq_fresh (w : World) (A : Archetype) (st : ArchStats)
    (h : StatAgrees w st A) :
    archetype_UpdateStats (ofArch A) (gArchStats st) (gStorage w) =
      gArchStats (w.archStatsFresh A) := by
  rw [updateStats_eq, archStatsUpdate_eq_fresh w A st h]

/-! ## 3. `World.Stats()` of the model, per archetype, is what the source computes -/

/-- for ANY world and ANY stored object: the entry of `World.Stats()` at a position that has a
    stored entry is `archetype.UpdateStats` of the archetype, the stored entry and the table
    store -/
theorem stats_entry_is_source (w : World) (st : WorldStats) (i : Nat) (A : Archetype)
    (s : ArchStats) (hA : w.archetypes[i]? = some A) (hs : st.archetypes[i]? = some s) :
    ((w.statsUpdate st).archetypes[i]?).map gArchStats =
      some (archetype_UpdateStats (ofArch A) (gArchStats s) (gStorage w)) :=
  statsUpdate_entry w st i A s hA hs

/-- **at every state the relation machine with `Stats()` calls reaches by a history shorter than
    `2^16`** (`Ark.RelStats.reach4`: entity operations with relations, `Exchange`, `CopyEntity`, `Shrink`,
    `Reset`, filters, queries, earlier `Stats()` calls): `Stats()` returns the fresh statistics,
    and for every archetype that has a stored entry the translated source — run on the archetype,
    the STORED entry (which may list more or fewer tables than are active now) and the table
    store — computes exactly the entry `Stats()` reports -/
theorem reach4_source (run : ProbeRunner) (cap rel : Nat) (ops : List RelStats.Op4)
    (hlen : ops.length < 2 ^ 16) (i : Nat) (A : Archetype) (s : ArchStats)
    (hA : (RelStats.reach4 run cap rel ops).w.archetypes[i]? = some A)
    (hs : (RelStats.reach4 run cap rel ops).w.stats.archetypes[i]? = some s) :
    opStats (RelStats.reach4 run cap rel ops).w =
      .ok (statsFresh (RelStats.reach4 run cap rel ops).w)
        { (RelStats.reach4 run cap rel ops).w with
          stats := statsFresh (RelStats.reach4 run cap rel ops).w } ∧
    ((statsFresh (RelStats.reach4 run cap rel ops).w).archetypes[i]?).map gArchStats =
      some (archetype_UpdateStats (ofArch A) (gArchStats s)
        (gStorage (RelStats.reach4 run cap rel ops).w)) := by
  obtain ⟨fl, H⟩ := RelStats.reach4_inv run cap rel ops hlen
  refine ⟨opStats_eq _ H.compat, ?_⟩
  rw [← statsUpdate_eq_fresh _ _ H.compat]
  exact statsUpdate_entry _ _ i A s hA hs

/-- the same for the relation-free machine of `Ark.Props.C19Hist` (any length below `2^32 - 2`) -/
theorem reach3_source (run : ProbeRunner) (cap rel : Nat) (ops : List StatsHist.Op3)
    (hlen : ops.length < 2 ^ 32 - 2) (i : Nat) (A : Archetype) (s : ArchStats)
    (hA : (StatsHist.reach3 run cap rel ops).w.archetypes[i]? = some A)
    (hs : (StatsHist.reach3 run cap rel ops).w.stats.archetypes[i]? = some s) :
    ((statsFresh (StatsHist.reach3 run cap rel ops).w).archetypes[i]?).map gArchStats =
      some (archetype_UpdateStats (ofArch A) (gArchStats s)
        (gStorage (StatsHist.reach3 run cap rel ops).w)) := by
  obtain ⟨fl, H⟩ := StatsHist.reach3_inv run cap rel ops hlen
  rw [← statsUpdate_eq_fresh _ _ H.compat]
  exact statsUpdate_entry _ _ i A s hA hs

/-! ## 4. non-vacuity: the demo history of `Ark.Props.C19Rel`

Before the second `Stats()` call (step 13) the stored entry of the relation archetype `{0,1}` lists
3 tables, the archetype has 1 active table and 2 free ones: the translated source truncates.
Before the fifth call (step 19, after `Reset`) it lists 2 tables, the archetype has none.  Before
the third (step 15) it lists 1, the archetype has 2: the source appends. -/

open Ark.Props.C19Rel in
/-- the translated source, run on the stored (stale) entry, gives the entry `Stats()` reports: at
    the truncating call (3 → 1), the appending call (1 → 2), and after `Reset` (2 → 0) -/
example :
    ((at_ 13).w.stats.archetypes.getD 1 default).tables.length = 3 ∧
    (archetype_UpdateStats (ofArch ((at_ 13).w.arch 1))
        (gArchStats ((at_ 13).w.stats.archetypes.getD 1 default)) (gStorage (at_ 13).w)) =
      gArchStats ((at_ 14).w.stats.archetypes.getD 1 default) ∧
    (archetype_UpdateStats (ofArch ((at_ 13).w.arch 1))
        (gArchStats ((at_ 13).w.stats.archetypes.getD 1 default)) (gStorage (at_ 13).w)).Tables =
      [{ Size := 1, Capacity := 2, Memory := 40, MemoryUsed := 20 }] ∧
    (archetype_UpdateStats (ofArch ((at_ 15).w.arch 1))
        (gArchStats ((at_ 15).w.stats.archetypes.getD 1 default)) (gStorage (at_ 15).w)) =
      gArchStats ((at_ 16).w.stats.archetypes.getD 1 default) ∧
    (archetype_UpdateStats (ofArch ((at_ 19).w.arch 1))
        (gArchStats ((at_ 19).w.stats.archetypes.getD 1 default)) (gStorage (at_ 19).w)) =
      gArchStats ((at_ 20).w.stats.archetypes.getD 1 default) ∧
    (archetype_UpdateStats (ofArch ((at_ 19).w.arch 1))
        (gArchStats ((at_ 19).w.stats.archetypes.getD 1 default)) (gStorage (at_ 19).w)).Tables
      = [] := by
  decide +kernel

open Ark.Props.C19Rel in
/-- the hypotheses of `reach4_source` are satisfiable at step 13 -/
example :
    (demoOps.take 13).length < 2 ^ 16 ∧
    (at_ 13).w.archetypes[1]? = some ((at_ 13).w.arch 1) ∧
    (at_ 13).w.stats.archetypes[1]? = some ((at_ 13).w.stats.archetypes.getD 1 default) := by
  decide +kernel

end Ark.Props.C19Src
