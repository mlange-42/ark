/-
  C16 (world level) — Reset returns the world to a reusable empty state.

  Definitions (Ark/Proofs/ResetInv.lean): `EmptyState w` (what is left after `Reset`: the two
  reserved index entries, the initial pool core with invalidated memory behind it, empty zeroed
  tables, relation archetypes with all tables on the free list and empty relation indices,
  non-relation archetypes with their one table, empty cache, no registered filter or observer
  object, clear lock, no resources), `ResetPost w w'` (`EmptyState w'` + all invariants and side
  conditions again + registry untouched + no old handle alive), `LikeFresh w' f` (agreement with
  a new world at the level later operations observe).

  Hypotheses.  Besides `SInv`, `IdxInv`, `RInv`, `CacheInv` and "the world is unlocked":
    * `FreeEmpty w`  — tables on a free list are empty (`Reset` does not touch free tables);
    * `Reserved w`   — pool slots 0/1 hold the sentinel generation, index entries 0/1 point at no
                       table, `isTarget` has them;
    * `StaleOK w`    — the memory behind the pool slice only holds the sentinel generation (D14);
    * `ObsBound w`   — `maxEventType` bounds the event types with observers (loop bound, D6);
    * `ObsReg w`     — a registered observer object is listed under its event type, and an empty
                       id map means no observers (the early return of `observerManager.Reset`);
    * `FilterReg w`  — a filter object marked as cached refers to a cache entry (with `CacheInv`:
                       the early return of `cache.Reset`).
  All of them hold in a new world (`reset_hyps_init`) and again after `Reset` (`ResetPost`), so
  `Reset` can be iterated.  §5 has a concrete world on which `Reset` does not reach the empty
  state for `FreeEmpty`, `CacheInv`, `FilterReg`, `ObsReg` and `ObsBound` (none for `Reserved`
  and `StaleOK`).

  What is NOT proved: that every later history has the same outcome in `w'` as in a new world
  with the same registrations.  `reset_like_fresh` states the agreement on the pool core (same
  handles from any number of creations), liveness, lock, cache, observers, resources and that
  every query is empty.  Deliberate differences that remain: components, archetypes, tables,
  filter objects and observer objects stay registered; table capacities are kept; and — small
  observations about the Go code, reachable — cache and observer IDs are never recycled and
  their pools are only reset when something is registered at the time of `Reset`
  (`reset_keeps_cache_id_pool`, `reset_keeps_observer_id_pool`).  An observer whose `Register`
  panicked used to keep an ID through `Reset` (defect D20; repaired:
  `failed_register_keeps_no_id`).
-/
import Ark.Proofs.ResetInv
import Ark.Model.Ops

namespace Ark.Props.C16World
open Ark Ark.World

/-! ### 1. `Reset` as a function, and what it establishes -/

/-- on an unlocked world `Reset` succeeds; its result is the pure function `resetW` -/
theorem reset_succeeds : type_of% @World.opReset_eq := @World.opReset_eq

/-- the archetype loop: relation archetypes become `FreeAllTables` of themselves … -/
theorem reset_archetypes : type_of% @World.resetW_archetypes := @World.resetW_archetypes

/-- … active tables are reset (and marked free in relation archetypes), free tables untouched -/
theorem reset_tables : type_of% @World.resetW_tables := @World.resetW_tables

/-- **C16.**  `Reset` on an unlocked world satisfying the invariants succeeds and leaves the
    empty state `EmptyState w'`, with `SInv`, `IdxInv`, `RInv`, `CacheInv` and all side conditions
    re-established, the registry untouched (`kinds`, configuration, per archetype `id`, `mask`,
    `comps`, `isRel`, `zst`; per table `id`, `arch`, `ids`, `cap`) and no handle of the previous
    epoch alive (`ResetPost`). -/
theorem reset_establishes (w : World) (hl : w.isLocked = false) (hS : SInv w) (hI : IdxInv w)
    (hR : RInv w) (hC : CacheInv w) (hFE : FreeEmpty w) (hRes : Reserved w) (hSt : StaleOK w)
    (hOB : ObsBound w) (hOR : ObsReg w) (hFR : FilterReg w) :
    ∃ (w' : World), opReset w = .ok () w' ∧ ResetPost w w' :=
  Ark.reset_establishes w hl hS hI hR hC hFE hRes hSt hOB hOR hFR

/-- the single conclusions, for use without the record -/
theorem reset_emptyState : type_of% @EmptyState.resetW := @EmptyState.resetW
theorem reset_sinv : type_of% @SInv.resetW := @SInv.resetW
theorem reset_idxInv : type_of% @IdxInv.resetW := @IdxInv.resetW
theorem reset_rinv : type_of% @RInv.resetW := @RInv.resetW

/-- `Reset` of an unlocked world whose memory behind the pool slice holds only the sentinel
    generation (D14) leaves no handle of the previous epoch alive: the pool is reset, nothing
    else is asked of the world -/
theorem reset_kills_of_stale (w : World) (hl : w.isLocked = false) (hSt : StaleOK w) :
    opReset w = .ok () (resetW w) ∧
      ∀ (h : Ent), 2 ≤ h.id → h.gen ≠ maxU32 → (resetW w).alive h = false :=
  ⟨opReset_eq w hl, fun h h2 hg => by
    show (resetW w).pool.alive h = false
    rw [resetW_pool]
    exact Ark.Props.C02.reset_kills w.pool hSt h h2 hg⟩

/-- no handle of the previous epoch is alive after `Reset` (world level) -/
theorem reset_kills_old_handles (w : World) (hl : w.isLocked = false) (hS : SInv w) (hI : IdxInv w)
    (hR : RInv w) (hC : CacheInv w) (hFE : FreeEmpty w) (hRes : Reserved w) (hSt : StaleOK w)
    (hOB : ObsBound w) (hOR : ObsReg w) (hFR : FilterReg w) :
    ∃ (w' : World), opReset w = .ok () w' ∧
      ∀ (h : Ent), 2 ≤ h.id → h.gen ≠ maxU32 → w'.alive h = false := by
  exact ⟨_, reset_kills_of_stale w hl hSt⟩

/-- the hypotheses hold in a new world -/
theorem reset_hyps_init : type_of% @Ark.reset_hyps_init := @Ark.reset_hyps_init

/-- hence `Reset` of a new world, and `Reset` after `Reset`, establish the empty state -/
theorem reset_twice (cap relCap maxComps : Nat) :
    ∃ (w1 w2 : World), opReset (World.init cap relCap maxComps) = .ok () w1 ∧
      opReset w1 = .ok () w2 ∧ EmptyState w1 ∧ EmptyState w2 := by
  obtain ⟨hl, hS, hI, hR, hC, hFE, hRes, hSt, hOB, hOR, hFR⟩ := Ark.reset_hyps_init cap relCap maxComps
  obtain ⟨w1, h1, p1⟩ := Ark.reset_establishes _ hl hS hI hR hC hFE hRes hSt hOB hOR hFR
  have hl1 : w1.isLocked = false := by
    simp only [World.isLocked, Lock.isLocked, p1.empty.unlocked]; rfl
  obtain ⟨w2, h2, p2⟩ := Ark.reset_establishes w1 hl1 p1.sinv p1.idx p1.rinv p1.cache p1.freeEmpty
    p1.reserved p1.stale p1.obsBound p1.obsReg p1.filterReg
  exact ⟨w1, w2, h1, h2, p1.empty, p2.empty⟩

/-! ### 2. the observer manager -/

/-- `observerManager.Reset` unregisters every observer, provided `maxEventType` bounds the
    observed event types and registered observers are listed -/
theorem observers_reset_clears : type_of% @ObsMgr.reset_clears := @ObsMgr.reset_clears

/-- `maxEventType` bounds the observed event types: invariant of `AddObserver` … -/
theorem obsBound_addObserver : type_of% @ObsMgr.Bound.addComputed := @ObsMgr.Bound.addComputed

/-- … and of `RemoveObserver` (of a registered observer) -/
theorem obsBound_removeObserver : type_of% @ObsMgr.Bound.removeAt := @ObsMgr.Bound.removeAt

/-! ### 3. the reset world and a new world -/

/-- a world in the empty state agrees with a new world on everything `LikeFresh` lists -/
theorem emptyState_like_fresh : type_of% @EmptyState.likeFresh := @EmptyState.likeFresh

/-- **`Reset` vs. a new world with the same configuration**: same pool core — so the same
    handles are issued by the same sequence of creations (`handles`, `nextHandle`) —, no alive
    entity, same lock state and next lock bit, empty cache, no observers, no resources; all
    tables are empty, so the uncached walk `getCacheTables` of every filter selects only empty
    tables, every query counts 0 and visits no row. -/
theorem reset_like_fresh (w : World) (hl : w.isLocked = false) (hS : SInv w) (hI : IdxInv w)
    (hR : RInv w) (hC : CacheInv w) (hFE : FreeEmpty w) (hRes : Reserved w) (hSt : StaleOK w)
    (hOB : ObsBound w) (hOR : ObsReg w) (hFR : FilterReg w) :
    ∃ (w' : World), opReset w = .ok () w' ∧
      LikeFresh w' (World.init w.initCap w.initCapRel w.maxComps) :=
  Ark.reset_like_fresh w hl hS hI hR hC hFE hRes hSt hOB hOR hFR

/-- in a world whose tables are all empty every query counts 0 and visits no row (applies to
    the reset world also while a query holds the lock) -/
theorem empty_world_queries_count_zero : type_of% @allEmpty_count := @allEmpty_count
theorem empty_world_queries_visit_nothing : type_of% @allEmpty_expected := @allEmpty_expected

/-- the component-free fragment: `WInv` (with "no memory behind the pool slice" weakened to
    "only invalidated memory", `WInvR`) holds again after `Reset`, with the empty free list -/
theorem reset_winv : type_of% @WInv.reset := @WInv.reset

/-! ### 4. non-vacuity: a concrete world -/

section Demo

private def noRun : ProbeRunner := fun _ _ _ => pure ()

/-- Components 0 (plain) and 1 (relation); a filter object "has 0" (label 0), registered;
    observers 10 (`OnCreateEntity`) and 11 (`OnRemoveRelations`, event type 255), registered;
    a resource; entities: two targets `p1 = 2.0`, `p2 = 3.0` in the root table, `4.0` with
    component 0, `5.0` and `6.0` with components 0, 1 and relation targets `p1`, `p2` (two tables
    of the relation archetype), `7.0` created and removed (free list of the pool); one query on
    the registered filter opened and closed. -/
private def setup : W (List Ent) := do
  let _ ← registerComponent {}
  let _ ← registerComponent { isRel := true }
  M.modify fun w => { w with
    filters := [(0, { filter := { mask := Mask.ofList [0] }, ids := [0] })]
    obs := (w.obs.setObj 10 { spec := { event := Ev.onCreateEntity } }).setObj 11
      { spec := { event := Ev.onRemoveRelations, comps := [1] } }
    resources := [(0, 42)], resKinds := 1 }
  opObsRegister 10
  opObsRegister 11
  let p1 ← opNewEntity0 noRun
  let p2 ← opNewEntity0 noRun
  let a ← opNewEntity noRun .unsafe_ [0] [(0, 5)] []
  let c1 ← opNewEntity noRun .unsafe_ [0, 1] [(0, 7)] [⟨1, p1⟩]
  let c2 ← opNewEntity noRun .unsafe_ [0, 1] [(0, 8)] [⟨1, p2⟩]
  let d ← opNewEntity0 noRun
  opRemoveEntity noRun d
  opFilterRegister 0
  let w ← M.get
  let q ← qOpen ((AL.find? w.filters 0).getD {}) []
  let _ ← qClose q
  pure [p1, p2, a, c1, c2, d]

private def isOk {α : Type} : Res World α → Bool
  | .ok _ _ => true
  | .panic _ _ => false

private def value {α : Type} (d : α) : Res World α → α
  | .ok a _ => a
  | .panic _ _ => d

/-- the world before `Reset` -/
private def w0 : World := (setup (World.init 4 2)).state
/-- the world after `Reset` -/
private def w1 : World := (opReset w0).state

private def activeOf (w : World) : List (List Nat) := w.archetypes.map (·.tables.tables)
private def freeOf (w : World) : List (List Nat) := w.archetypes.map (·.freeTables)
private def tgtIdxOf (w : World) : List Nat := w.archetypes.map (·.targetTables.length)
private def relIdxOf (w : World) : List (List Nat) :=
  w.archetypes.map fun A => A.relationTables.map (·.length)
private def lensOf (w : World) : List Nat := w.tables.map (·.len)
private def isFreeOf (w : World) : List Bool := w.tables.map (·.isFree)
private def colsOf (w : World) : List (List (List Val)) := w.tables.map (·.cols)

-- the set-up runs, issues the handles 2.0 … 7.0, and leaves an unlocked, populated world
example : isOk (setup (World.init 4 2)) = true ∧
    value [] (setup (World.init 4 2)) = [⟨2, 0⟩, ⟨3, 0⟩, ⟨4, 0⟩, ⟨5, 0⟩, ⟨6, 0⟩, ⟨7, 0⟩] ∧
    w0.isLocked = false := by decide +kernel

example : w0.entities = [(maxU32, 0), (maxU32, 0), (0, 0), (0, 1), (1, 0), (2, 0), (3, 0), (maxU32, 2)] ∧
    w0.archetypes.map (·.comps) = [[], [0], [0, 1]] ∧ w0.tables.map (·.arch) = [0, 1, 2, 2] ∧
    activeOf w0 = [[0], [1], [2, 3]] ∧ freeOf w0 = [[], [], []] ∧ tgtIdxOf w0 = [0, 0, 2] ∧
    relIdxOf w0 = [[], [0], [0, 2]] ∧ lensOf w0 = [2, 1, 1, 1] ∧
    isFreeOf w0 = [false, false, false, false] ∧
    colsOf w0 = [[], [[5, 0, 0, 0]], [[7, 0], [0, 0]], [[8, 0], [0, 0]]] := by
  decide +kernel

example : w0.cache.indices = [(0, 0)] ∧ w0.cache.filters.map (·.tables.tables) = [[1, 2, 3]] ∧
    w0.filters.map (·.2.cache) = [some 0] ∧
    w0.obs.totalCount = 2 ∧ w0.obs.maxEventType = 255 ∧ w0.obs.hasObservers 255 = true ∧
    w0.obs.hasObservers Ev.onCreateEntity = true ∧
    (w0.obs.obj 10).oid = some 0 ∧ (w0.obs.obj 11).oid = some 1 ∧
    w0.resources = [(0, 42)] ∧ w0.pool.available = 1 ∧ w0.pool.ents.length = 8 ∧
    (w0.alive ⟨2, 0⟩ && w0.alive ⟨5, 0⟩ && w0.alive ⟨6, 0⟩) = true ∧ w0.alive ⟨7, 0⟩ = false := by
  decide +kernel

-- `Reset` succeeds
example : isOk (opReset w0) = true := by decide +kernel

-- no old handle is alive (also not the recycled one with its bumped generation)
example : ([⟨2, 0⟩, ⟨3, 0⟩, ⟨4, 0⟩, ⟨5, 0⟩, ⟨6, 0⟩, ⟨7, 0⟩, ⟨7, 1⟩].map w1.alive).all (· == false)
    = true := by decide +kernel

-- index and pool: only the reserved entries; the memory behind the pool is invalidated;
-- the next handle is 2.0, as in a new world
example : w1.entities = [(maxU32, 0), (maxU32, 0)] ∧ w1.isTarget = [false, false] ∧
    w1.pool.ents = Pool.init.ents ∧ w1.pool.next = 0 ∧ w1.pool.available = 0 ∧
    w1.pool.stale.map (·.gen) = List.replicate 6 maxU32 ∧
    w1.pool.get.2 = ⟨2, 0⟩ ∧ (World.init 4 2).pool.get.2 = ⟨2, 0⟩ := by decide +kernel

-- tables are empty and zeroed; the two tables of the relation archetype are on its free list,
-- its relation indices are empty; the non-relation archetypes keep their table
example : w1.archetypes.map (·.comps) = [[], [0], [0, 1]] ∧ w1.tables.map (·.arch) = [0, 1, 2, 2] ∧
    activeOf w1 = [[0], [1], []] ∧ freeOf w1 = [[], [], [2, 3]] ∧ tgtIdxOf w1 = [0, 0, 0] ∧
    relIdxOf w1 = [[], [0], [0, 0]] ∧ lensOf w1 = [0, 0, 0, 0] ∧
    isFreeOf w1 = [false, false, true, true] ∧
    colsOf w1 = [[], [[0, 0, 0, 0]], [[0, 0], [0, 0]], [[0, 0], [0, 0]]] := by
  decide +kernel

-- cache, filter object, observers, lock, resources
example : w1.cache.indices = [] ∧ w1.cache.filters.length = 0 ∧ w1.filters.map (·.2.cache) = [none] ∧
    w1.obs.totalCount = 0 ∧ w1.obs.maxEventType = 0 ∧ w1.obs.indices = [] ∧
    ((List.range 256).all fun evt => w1.obs.hasObservers evt == false) = true ∧
    (w1.obs.obj 10).oid = none ∧ (w1.obs.obj 11).oid = none ∧
    w1.isLocked = false ∧ w1.resources = [] ∧ w1.kinds.length = 2 := by decide +kernel

-- the registered filter's query (uncached after `Reset`) and the uncached walk find nothing
example : (w1.getCacheTables { mask := Mask.ofList [0] } []).map (·.map fun t => (w1.tbl t).len)
    = some [0] := by decide +kernel

-- the world is usable: the next entity is 2.0, the next relation table is a recycled one
example :
    let r := (do
      let p ← opNewEntity0 noRun
      let c ← opNewEntity noRun .unsafe_ [0, 1] [(0, 9)] [⟨1, p⟩]
      let w ← M.get
      pure (p, c, w.index c.id, (w.arch 2).freeTables) : W _) w1
    isOk r = true ∧ value (Ent.zero, Ent.zero, (0, 0), []) r = (⟨2, 0⟩, ⟨3, 0⟩, (3, 0), [2]) := by
  decide +kernel

/-! ### 5. hypotheses that are needed; two observations about reachable states -/

/-- `FreeEmpty`: `Reset` does not touch a table on a free list (here: table 1 of a relation
    archetype, on its free list with one row) -/
example :
    let A1 : Archetype := { Archetype.new 1 (Mask.ofList [0]) [0] [true] [false] [] with freeTables := [1] }
    let T1 : Table := { Table.new 1 1 [0] [true] [false] 2 [⟨0, 0⟩] [⟨0, ⟨0, 0⟩⟩] with len := 1, isFree := true }
    let w : World := { World.init 2 2 with
      archetypes := (World.init 2 2).archetypes ++ [A1], tables := (World.init 2 2).tables ++ [T1] }
    isOk (opReset w) = true ∧ ((opReset w).state.tbl 1).len = 1 := by decide +kernel

/-- `CacheInv`: with an empty ID map `cache.Reset` returns early and keeps the entries -/
example :
    let w : World := { World.init 2 2 with
      cache := { filters := [{ id := 0, filter := {}, rels := [], tables := {} }] } }
    (opReset w).state.cache.filters.length = 1 := by decide +kernel

/-- `FilterReg`: a filter object whose cache ID is unknown to the cache stays marked -/
example :
    let w : World := { World.init 2 2 with filters := [(0, { cache := some 5 })] }
    (opReset w).state.filters.map (·.2.cache) = [some 5] := by decide +kernel

/-- `ObsReg`: with an empty ID map `observerManager.Reset` returns early -/
example :
    let w : World := { World.init 2 2 with
      obs := { events := [(249, { observers := [10], hasObservers := true })], maxEventType := 249 } }
    (opReset w).state.obs.hasObservers 249 = true := by decide +kernel

/-- `ObsBound`: event types above `maxEventType` are not visited -/
example :
    let w : World := { World.init 2 2 with
      obs := { events := [(255, { observers := [10], hasObservers := true })], indices := [(0, 0)],
               maxEventType := 3 } }
    (opReset w).state.obs.hasObservers 255 = true := by decide +kernel

/-- a filter registered and unregistered again, then `Reset` -/
private def cacheIdScript : W Unit := do
  M.modify fun w => { w with filters := [(0, {}), (1, {})] }
  opFilterRegister 0
  opFilterRegister 1
  opFilterUnregister 0
  opFilterUnregister 1
  opReset

/-- **Observation (reachable).**  `cache.unregister` never recycles the cache ID, and
    `cache.Reset` returns early when no filter is registered, so the cache's ID pool is NOT
    reset: after `Reset` the first registered filter gets ID 2, in a new world ID 0.  (IDs are
    internal and 32 bits wide; nothing else depends on them.) -/
theorem reset_keeps_cache_id_pool :
    isOk (cacheIdScript (World.init 2 2)) = true ∧
    (cacheIdScript (World.init 2 2)).state.cache.pool ≠ {} ∧
    ((cacheIdScript (World.init 2 2)).state.cache.pool.get).2 = 2 ∧
    ((World.init 2 2).cache.pool.get).2 = 0 := by decide +kernel

/-- an observer registered and unregistered again (twice), then `Reset` -/
private def obsIdScript : W Unit := do
  M.modify fun w => { w with
    obs := (w.obs.setObj 10 { spec := { event := Ev.onCreateEntity } }).setObj 11
      { spec := { event := Ev.onCreateEntity } } }
  opObsRegister 10
  opObsRegister 11
  opObsUnregister 10
  opObsUnregister 11
  opReset

/-- **Observation (reachable).**  The same for the observer manager: `RemoveObserver` never
    recycles the observer ID, and without registered observers `Reset` does not reset the ID pool. -/
theorem reset_keeps_observer_id_pool :
    isOk (obsIdScript (World.init 2 2)) = true ∧
    (obsIdScript (World.init 2 2)).state.obs.pool ≠ {} ∧
    ((obsIdScript (World.init 2 2)).state.obs.pool.get).2 = 2 ∧
    ((World.init 2 2).obs.pool.get).2 = 0 := by decide +kernel

/-- a relation observer on a non-relation component: `Register` panics, the panic is recovered,
    then `Reset` -/
private def badObsScript : W Bool := do
  let _ ← registerComponent {}
  M.modify fun w => { w with
    obs := w.obs.setObj 12 { spec := { event := Ev.onAddRelations, comps := [0] } } }
  let r ← tryW (opObsRegister 12)
  opReset
  pure (match r with | .error .obsNonRelation => true | _ => false)

/-- **Repaired defect D20.**  `observerManager.AddObserver` used to assign `o.id = m.pool.Get()`
    BEFORE validating the components of a relation observer; a recovered "non-relation component in
    relation observer" panic then left the observer with an ID although it was listed nowhere:
    it could neither be registered ("already registered") nor unregistered again, not even after
    `Reset` — and the reset world differed from a new one.  The ID is now taken after the checks:
    a rejected registration leaves the object unregistered, no ID is consumed, and registering it
    again is rejected for the same reason as on a new world. -/
theorem failed_register_keeps_no_id :
    isOk (badObsScript (World.init 2 2)) = true ∧
    value false (badObsScript (World.init 2 2)) = true ∧
    ((badObsScript (World.init 2 2)).state.obs.obj 12).oid = none ∧
    (badObsScript (World.init 2 2)).state.obs.totalCount = 0 ∧
    ((badObsScript (World.init 2 2)).state.obs.pool.get).2 = 0 ∧
    (match opObsRegister 12 (badObsScript (World.init 2 2)).state with
      | .panic .obsNonRelation _ => true | _ => false) = true := by
  decide +kernel

end Demo

end Ark.Props.C16World
