import Ark.Proofs.Table
import Ark.Props.C11
import Ark.Props.C01World
import Ark.Props.C01Hist
import Ark.Props.C01Struct
import Ark.Proofs.GenBridge.Table
import Ark.Props.C01Refine
import Ark.Props.C04Hist
import Ark.Props.C01Rel
import Ark.Props.C01Xchg
import Ark.Props.C01Batch

namespace Ark.Props.C01
open Ark Ark.World

/-! C01 — the component store is faithful to the operation history: the obligations of the
    property, from the table level (statements spelled out in Ark/Proofs/Table.lean) over the world
    level to histories of operations. -/

/-- a value written through a component pointer is read back; every other cell is unchanged (frame) -/
theorem write_then_read : type_of% @Table.setCell_get := @Table.setCell_get

/-- swap-remove: only the last row moves (into the vacated row); all other rows keep entity and values -/
theorem swap_remove_moves_only_last : type_of% @Table.remove_spec := @Table.remove_spec

/-- re-allocation, extend, alloc and add never change rows in use -/
theorem growth_preserves_rows : type_of% @Table.add_preserves_rows := @Table.add_preserves_rows

/-- shrinking never changes rows in use -/
theorem shrink_preserves_rows : type_of% @Table.shrink_preserves_rows := @Table.shrink_preserves_rows

/-- `AddAll` (batch move): old rows, then the source rows in order, then zeros -/
theorem bulk_move_is_rowwise : type_of% @Table.addAll_cell := @Table.addAll_cell

/-- `CopyToEnd` (batch exchange): the last `count` rows receive the source values, nothing else changes -/
theorem column_copy_is_rowwise : type_of% @Table.copyToEnd_cell := @Table.copyToEnd_cell

/-- the table shape invariant holds after any table history -/
theorem table_shape_reachable : type_of% @Ark.Props.C11.shape_reachable := @Ark.Props.C11.shape_reachable

/-- `Extend` re-allocates exactly when the Go code does (regenerated condition) -/
theorem extend_as_in_source : type_of% @GenBridge.tableExtend_eq := @GenBridge.tableExtend_eq


/-! ### World level: the entity index ↔ rows invariant and the frame property (an operation on
    one entity never changes the components or values of any other entity). -/

/-- a new world satisfies the index ↔ rows invariant -/
theorem index_inv_init : type_of% @Ark.IdxInv.init := @Ark.IdxInv.init

/-- creating an entity keeps it (the pool hands out an ID that is not indexed) -/
theorem index_inv_create : type_of% @Ark.IdxInv.placeNew := @Ark.IdxInv.placeNew

/-- moving an entity to another table (add/remove/exchange/set relations) keeps it -/
theorem index_inv_move : type_of% @Ark.IdxInv.addMove := @Ark.IdxInv.addMove

/-- removing an entity (swap-remove + index fix-up of the swapped row) keeps it -/
theorem index_inv_remove : type_of% @Ark.IdxInv.removeRowOf := @Ark.IdxInv.removeRowOf

/-- moving all rows of a table (batch relation change, target cleanup) keeps it -/
theorem index_inv_batch_move : type_of% @Ark.IdxInv.moveEntities := @Ark.IdxInv.moveEntities

/-- batch creation keeps it -/
theorem index_inv_batch_create : type_of% @Ark.IdxInv.createEntities := @Ark.IdxInv.createEntities

/-- writing component values keeps it -/
theorem index_inv_write : type_of% @Ark.IdxInv.writeVals := @Ark.IdxInv.writeVals

/-- creating a table keeps it -/
theorem index_inv_new_table : type_of% @Ark.IdxInv.append_new_table := @Ark.IdxInv.append_new_table

/-- FRAME: moving entity e between tables changes no value and no component set of any other entity -/
theorem move_frame : type_of% @Ark.Props.C01World.move_frame := @Ark.Props.C01World.move_frame

/-- the moved entity keeps the values of the components it keeps; newly added components read zero -/
theorem move_keeps_values : type_of% @Ark.Props.C01World.move_keeps_values := @Ark.Props.C01World.move_keeps_values

/-- FRAME: removing an entity changes no other entity -/
theorem remove_frame : type_of% @Ark.Props.C01World.remove_frame := @Ark.Props.C01World.remove_frame

/-- FRAME: writing values of e changes only those components of e -/
theorem write_frame : type_of% @Ark.Props.C01World.write_frame := @Ark.Props.C01World.write_frame


/-! ### Operation level, histories within the size bound (fragment: creation without components, removal,
    Set; no observers): the joint world invariant holds after every history; each operation changes
    only its own entity. -/

/-- after every history of fewer than 2^32 − 1 NewEntity/RemoveEntity/Set calls the joint invariant (index ↔ rows, pool free list, freed IDs unindexed, live IDs indexed) holds -/
theorem hist_world_invariant : type_of% @Ark.Props.C01Hist.reach_winv := @Ark.Props.C01Hist.reach_winv

/-- `NewEntity()` (without components, `opNewEntity0`): returns the pool handle, keeps the invariant, the new entity is alive with no components, every other entity is unchanged -/
theorem newEntity_spec : type_of% @Ark.newEntity0_spec_partial := @Ark.newEntity0_spec_partial

/-- `RemoveEntity` of a live handle, in a world of entities without components (`WInv`): keeps the invariant, the handle is dead and unindexed, every other entity is unchanged -/
theorem removeEntity_spec : type_of% @Ark.removeEntity_spec_partial := @Ark.removeEntity_spec_partial

/-- writing values keeps the invariant and changes only the written components of that entity -/
theorem set_spec : type_of% @Ark.writeVals_winv := @Ark.writeVals_winv

/-! ### Structure: archetypes ↔ tables (I4, I9, I10) preserved by archetype and table creation;
    the table an added component set leads to. -/

/-- a new world satisfies the structural invariant -/
theorem struct_init : type_of% @Ark.Props.C01Struct.sinv_init := @Ark.Props.C01Struct.sinv_init

/-- adding components finds or creates the table of exactly the enlarged component set, in another table than the old one, leaving all existing rows and the entity index untouched -/
theorem struct_findOrCreateTableAdd : type_of% @Ark.SInv.findOrCreateTableAdd_spec := @Ark.SInv.findOrCreateTableAdd_spec

/-- adding a component that is already present is rejected without effect -/
theorem struct_add_rejects_present : type_of% @Ark.Props.C01Struct.findOrCreateTableAdd_rejects := @Ark.Props.C01Struct.findOrCreateTableAdd_rejects


/-! ## refinement to the specification map (Props/C01Refine): every history of register / new / new0 / add /
    remove / exchange / set / copy / remove-entity / shrink / reset operations on non-relation components, through any access path, from the initial world, is
    simulated by the obvious map `handle ↦ component ↦ value`; rejected calls change nothing -/

/-- the joint invariant `CInv` holds after every history within the bound -/
theorem refine_reach_cinv : type_of% @Ark.Props.C01Refine.reach_cinv := @Ark.Props.C01Refine.reach_cinv

/-- the specification's registry is the model's: same number of component types, same zero-size flags -/
theorem refine_registry_agrees : type_of% @Ark.Props.C01Refine.registry_agrees := @Ark.Props.C01Refine.registry_agrees

/-- **refinement**: every entry of the specification is an alive entity with exactly the recorded components and values -/
theorem refine_refines : type_of% @Ark.Props.C01Refine.refines := @Ark.Props.C01Refine.refines

/-- a component that is not a key of the entry is absent from the entity -/
theorem refine_refines_absent : type_of% @Ark.Props.C01Refine.refines_absent := @Ark.Props.C01Refine.refines_absent

/-- `sortedIds n ks` is the strictly ascending list of the members of `ks` below `n` -/
theorem refine_sortedIds_sorted : type_of% @Ark.Props.C01Refine.sortedIds_sorted := @Ark.Props.C01Refine.sortedIds_sorted

/-- a handle returned by a creating call is alive iff the specification has an entry for it -/
theorem refine_alive_iff_specified : type_of% @Ark.Props.C01Refine.alive_iff_specified := @Ark.Props.C01Refine.alive_iff_specified

/-- a returned handle without an entry is not alive -/
theorem refine_unspecified_dead : type_of% @Ark.Props.C01Refine.unspecified_dead := @Ark.Props.C01Refine.unspecified_dead

/-- the entries have pairwise different handles, all of them returned handles, and no handle was returned twice -/
theorem refine_spec_handles_nodup : type_of% @Ark.Props.C01Refine.spec_handles_nodup := @Ark.Props.C01Refine.spec_handles_nodup

/-- an expressible operation whose precondition fails panics with the world, and the whole machine state, unchanged -/
theorem refine_rejected : type_of% @Ark.Props.C01Refine.rejected := @Ark.Props.C01Refine.rejected

/-- an expressible operation whose precondition holds succeeds -/
theorem refine_accepted : type_of% @Ark.Props.C01Refine.accepted := @Ark.Props.C01Refine.accepted

/-- the specification step of an operation on `e` (other than `Reset`) changes only `e`'s entry -/
theorem refine_frame : type_of% @Ark.Props.C01Refine.frame := @Ark.Props.C01Refine.frame

/-- an operation on one entity changes the component set and the values of no other specified entity -/
theorem refine_frame_world : type_of% @Ark.Props.C01Refine.frame_world := @Ark.Props.C01Refine.frame_world

/-- after a valid `set` every component reads the last value written to it, else its old value (a zero-size component is not written) -/
theorem refine_last_write_wins_set : type_of% @Ark.Props.C01Refine.last_write_wins_set := @Ark.Props.C01Refine.last_write_wins_set

/-- after a valid `add` an added component reads the last value written to it (zero if none), an old one the last value written, else its old value -/
theorem refine_last_write_wins_add : type_of% @Ark.Props.C01Refine.last_write_wins_add := @Ark.Props.C01Refine.last_write_wins_add

/-- `lastVal vals c = some v` iff `(c, v)` is the last pair for `c` in `vals` -/
theorem refine_lastVal_spec : type_of% @Ark.Props.C01Refine.lastVal_spec := @Ark.Props.C01Refine.lastVal_spec

/-- after a valid exchange every kept component reads its last written value, every added one the last value given (zero if none), removed ones are gone -/
theorem refine_last_write_wins_xchg : type_of% @Ark.Props.C01Refine.last_write_wins_xchg := @Ark.Props.C01Refine.last_write_wins_xchg

/-- `CopyEntity` yields a fresh handle with the same components and values; the source is unchanged -/
theorem refine_copy_effect : type_of% @Ark.Props.C01Refine.copy_effect := @Ark.Props.C01Refine.copy_effect

/-- `NewEntity()` without components yields a fresh alive handle with the empty component set -/
theorem refine_new0_effect : type_of% @Ark.Props.C01Refine.new0_effect := @Ark.Props.C01Refine.new0_effect

/-- `Shrink` (bounded or not) as a step of the machine: the specification is unchanged and still refined -/
theorem refine_shrink_invisible : type_of% @Ark.Props.C01Refine.shrink_invisible := @Ark.Props.C01Refine.shrink_invisible

/-- no handle issued in a history carries a generation above the history's length (in particular never `MaxUint32`) -/
theorem refine_issued_gen_bound : type_of% @Ark.Props.C01Refine.issued_gen_bound := @Ark.Props.C01Refine.issued_gen_bound

/-- `Reset` as a step: the specification is empty, no handle of the previous epoch is alive, the registry is kept -/
theorem refine_reset_effect : type_of% @Ark.Props.C01Refine.reset_effect := @Ark.Props.C01Refine.reset_effect

/-- a history gives the same state whichever access path (Unsafe / Map / typed tuple) each operation uses -/
theorem refine_any_access_path : type_of% @Ark.Props.C01Refine.any_access_path := @Ark.Props.C01Refine.any_access_path



/-! ### … and with relation components (Props/C04Hist: the refinement machine with relation targets) -/

/-- **refinement with relations**: every specification entry is realised — the entity is alive, its component set, every value AND every relation target are the specified ones -/
theorem rel_refines : type_of% @Ark.Props.C04Hist.refines := @Ark.Props.C04Hist.refines

/-- a component that is not specified is absent -/
theorem rel_refines_absent : type_of% @Ark.Props.C04Hist.refines_absent := @Ark.Props.C04Hist.refines_absent

/-- a call whose specification-level precondition fails (dead handle, component present/absent, dead target, …) panics with the world and the machine state unchanged -/
theorem rel_rejected : type_of% @Ark.Props.C04Hist.rejected := @Ark.Props.C04Hist.rejected

/-- every other expressible call succeeds — totality of all seven operations on every access path -/
theorem rel_accepted : type_of% @Ark.Props.C04Hist.accepted := @Ark.Props.C04Hist.accepted

/-- an operation on one entity changes no other entity's components, values or targets -/
theorem rel_frame_world : type_of% @Ark.Props.C04Hist.frame_world := @Ark.Props.C04Hist.frame_world

/-- `RemoveEntity(e)` changes, of the other entities, exactly the targets that were `e` -/
theorem rel_frame_del : type_of% @Ark.Props.C04Hist.frame_del := @Ark.Props.C04Hist.frame_del


/-! ### The relation machine extended by CopyEntity, Shrink, Reset, filters and queries (Props/C01Rel) -/

/-- after every history of the extended relation machine (Reset anywhere in it) every specified entity is alive with exactly the specified components, values and relation targets -/
theorem rel2_refines : type_of% @Ark.Props.C01Rel.refines := @Ark.Props.C01Rel.refines

/-- a handle the client holds is alive iff the specification has an entry for it -/
theorem rel2_alive_iff_specified : type_of% @Ark.Props.C01Rel.alive_iff_specified := @Ark.Props.C01Rel.alive_iff_specified

/-- Shrink, the filter operations and queries leave the specification and the handles alone -/
theorem rel2_quiet_keeps_spec : type_of% @Ark.Props.C01Rel.quiet_keeps_spec := @Ark.Props.C01Rel.quiet_keeps_spec

/-- Shrink, the filter operations and queries change no entity's components, values, relation targets or aliveness -/
theorem rel2_quiet_is_invisible : type_of% @Ark.Props.C01Rel.quiet_is_invisible := @Ark.Props.C01Rel.quiet_is_invisible

/-- Shrink as a step of the relation machine keeps the invariant with the specification unchanged -/
theorem rel2_shrink_step : type_of% @Ark.Props.C01Rel.shrink_step := @Ark.Props.C01Rel.shrink_step

/-- CopyEntity with relations: the copy has exactly the components, values and relation targets of the source; no other entity changes -/
theorem rel2_copy_assigns : type_of% @Ark.Props.C01Rel.copy_assigns := @Ark.Props.C01Rel.copy_assigns

/-- CopyEntity of a handle that is not alive is rejected without effect -/
theorem rel2_copy_rejected : type_of% @Ark.Props.C01Rel.copy_rejected := @Ark.Props.C01Rel.copy_rejected

/-- CopyEntity at world level in a world with relations never fails for a live entity -/
theorem rel2_copyEntity_rel : type_of% @Ark.Props.C01Rel.copyEntity_rel := @Ark.Props.C01Rel.copyEntity_rel

/-- Reset in the relation machine ends the epoch: specification empty, registry kept, nothing issued, no ID indexed to a table, cache empty, every handle issued before is dead -/
theorem rel2_reset_effect : type_of% @Ark.Props.C01Rel.reset_effect := @Ark.Props.C01Rel.reset_effect

/-- no handle issued along a history of the relation machine carries the sentinel generation MaxUint32 -/
theorem rel2_issued_gen_bound : type_of% @Ark.Props.C01Rel.issued_gen_bound := @Ark.Props.C01Rel.issued_gen_bound



/-! ### Exchange with relation components (Props/C01Xchg): world level, machine step, batch -/

/-- **Exchange(e, add, rem, rels) in a world with relations**: for a live entity and the documented preconditions the call never fails on any access path; e then has the components (current \\ rem) ∪ add, added components hold the given values, kept ones keep theirs, added relation components have the targets given, kept ones keep theirs; nobody else changes; the invariant is kept -/
theorem xchg_exchange_accepted : type_of% @Ark.Props.C01Xchg.exchange_accepted := @Ark.Props.C01Xchg.exchange_accepted

/-- a dead handle is rejected with the world unchanged -/
theorem xchg_exchange_rejected_dead : type_of% @Ark.Props.C01Xchg.exchange_rejected_dead := @Ark.Props.C01Xchg.exchange_rejected_dead

/-- empty add and rem lists are rejected with the world unchanged -/
theorem xchg_exchange_rejected_empty : type_of% @Ark.Props.C01Xchg.exchange_rejected_empty := @Ark.Props.C01Xchg.exchange_rejected_empty

/-- adding a present / removing an absent component / naming one twice is rejected with the world unchanged -/
theorem xchg_exchange_rejected_misfit : type_of% @Ark.Props.C01Xchg.exchange_rejected_misfit := @Ark.Props.C01Xchg.exchange_rejected_misfit

/-- unfitting relation arguments (dead target, non-relation component, component not added) are rejected with the world unchanged, on every path (since the repair of the `Unsafe` API) -/
theorem xchg_exchange_rejected_badRel : type_of% @Ark.Props.C01Xchg.exchange_rejected_badRel := @Ark.Props.C01Xchg.exchange_rejected_badRel

/-- an accepted call was on a live entity with non-empty, distinct, fitting component lists -/
theorem xchg_exchange_accepted_only_if : type_of% @Ark.Props.C01Xchg.exchange_accepted_only_if := @Ark.Props.C01Xchg.exchange_accepted_only_if

/-- xchg as a step of the relation machine (on top of copy/shrink/filters/queries) keeps the invariant -/
theorem xchg_xchg_keeps_invariant : type_of% @Ark.Props.C01Xchg.xchg_keeps_invariant := @Ark.Props.C01Xchg.xchg_keeps_invariant

/-- the invariant after every Reset-free history with xchg steps -/
theorem xchg_reach_inv : type_of% @Ark.Props.C01Xchg.reach_inv := @Ark.Props.C01Xchg.reach_inv

/-- refinement after every such history -/
theorem xchg_refines : type_of% @Ark.Props.C01Xchg.refines := @Ark.Props.C01Xchg.refines

/-- a handle is alive iff specified -/
theorem xchg_alive_iff_specified : type_of% @Ark.Props.C01Xchg.alive_iff_specified := @Ark.Props.C01Xchg.alive_iff_specified

/-- a history without xchg is a history of the machine below -/
theorem xchg_conservative : type_of% @Ark.Props.C01Xchg.conservative := @Ark.Props.C01Xchg.conservative

/-- a step whose precondition fails panics with the world and the machine state unchanged -/
theorem xchg_xchg_rejected : type_of% @Ark.Props.C01Xchg.xchg_rejected := @Ark.Props.C01Xchg.xchg_rejected

/-- every other step succeeds -/
theorem xchg_xchg_accepted : type_of% @Ark.Props.C01Xchg.xchg_accepted := @Ark.Props.C01Xchg.xchg_accepted

/-- an xchg step changes no other entity -/
theorem xchg_xchg_others : type_of% @Ark.Props.C01Xchg.xchg_others := @Ark.Props.C01Xchg.xchg_others

/-- what an xchg step does to the entity's entry -/
theorem xchg_xchg_effect : type_of% @Ark.Props.C01Xchg.xchg_effect := @Ark.Props.C01Xchg.xchg_effect



/-! ### The batch forms as steps of the refinement machine (Props/C01Batch) -/

/-- the invariant after every history of single AND batch operations (newb / delb / xchgb, observer-free, within the size budget `Fits`) -/
theorem batch_reach_inv : type_of% @Ark.Props.C01Batch.reach_inv := @Ark.Props.C01Batch.reach_inv

/-- a history of single operations is the same history of the machine below -/
theorem batch_base_histories : type_of% @Ark.Props.C01Batch.base_histories := @Ark.Props.C01Batch.base_histories

/-- **C01 with the batch forms**: after every history of single and batch operations every specified entity is alive with exactly the specified components and the last written values — the specification step of a batch being the single operation applied to every specified entity whose component set the filter matches -/
theorem batch_refines : type_of% @Ark.Props.C01Batch.refines := @Ark.Props.C01Batch.refines

/-- components the specification does not list are absent -/
theorem batch_refines_absent : type_of% @Ark.Props.C01Batch.refines_absent := @Ark.Props.C01Batch.refines_absent

/-- a handle is alive iff specified -/
theorem batch_alive_iff_specified : type_of% @Ark.Props.C01Batch.alive_iff_specified := @Ark.Props.C01Batch.alive_iff_specified

/-- a batch step whose precondition fails panics with the world and the machine state unchanged -/
theorem batch_rejected : type_of% @Ark.Props.C01Batch.rejected := @Ark.Props.C01Batch.rejected

/-- every other batch step succeeds -/
theorem batch_accepted : type_of% @Ark.Props.C01Batch.accepted := @Ark.Props.C01Batch.accepted

/-- the entities a batch selects are exactly the specified entities whose key set matches the filter -/
theorem batch_selection_agrees : type_of% @Ark.Props.C01Batch.selection_agrees := @Ark.Props.C01Batch.selection_agrees

/-- RemoveEntities: the specification keeps exactly the non-matching entries; every matching entity is dead -/
theorem batch_delb_effect : type_of% @Ark.Props.C01Batch.delb_effect := @Ark.Props.C01Batch.delb_effect

/-- the delb step and the run of single removals reach the same specification, handles, pool and observable world -/
theorem batch_delb_is_singles : type_of% @Ark.Props.C01Batch.delb_is_singles := @Ark.Props.C01Batch.delb_is_singles

/-- NewBatch(n > 0): equal, as machine states, to n single creations; n fresh distinct handles -/
theorem batch_newb_effect : type_of% @Ark.Props.C01Batch.newb_effect := @Ark.Props.C01Batch.newb_effect

/-- a batch creation creates at most one table -/
theorem batch_newb_one_table : type_of% @Ark.Props.C01Batch.newb_one_table := @Ark.Props.C01Batch.newb_one_table

/-- batch add/remove/exchange: the specification is mapped on the matching entries; removed components are gone, added ones read the last written value or zero, kept ones keep theirs -/
theorem batch_xchgb_effect : type_of% @Ark.Props.C01Batch.xchgb_effect := @Ark.Props.C01Batch.xchgb_effect

/-- the xchgb step and the run of single exchanges agree on specification, handles, pool and observable world -/
theorem batch_xchgb_is_singles : type_of% @Ark.Props.C01Batch.xchgb_is_singles := @Ark.Props.C01Batch.xchgb_is_singles

/-- **an entity the filter does not match keeps components and values**; NewBatch changes no existing entity -/
theorem batch_frame_world_batch : type_of% @Ark.Props.C01Batch.frame_world_batch := @Ark.Props.C01Batch.frame_world_batch

/-- the size budget: below 2^32 − 2 in total cost (a single operation 1, newb n costs max n 1, delb 0) every history without exchange batches fits -/
theorem batch_fits_without_xchgb : type_of% @Ark.Props.C01Batch.fits_without_xchgb := @Ark.Props.C01Batch.fits_without_xchgb

/-- … and with exchange batches (each may double the number of tables) -/
theorem batch_fits_with_xchgb : type_of% @Ark.Props.C01Batch.fits_with_xchgb := @Ark.Props.C01Batch.fits_with_xchgb


end Ark.Props.C01
