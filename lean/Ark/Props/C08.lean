/-
  C08 — Observers fire exactly per their declared filter, whatever else is registered.

  The per-observer test of every `Fire*` function of events.go, applied to the masks `AddObserver`
  computes from a specification, decides exactly the documented rule `Spec.fires`
  (Ark/Spec/Observers.lean) — for all masks, all specifications with component IDs below 256; the
  per-event aggregates satisfy `AggInv` initially and after `AddObserver`, `RemoveObserver` and
  `Reset`; under `AggInv` an early return of a `Fire*` function loses no observer.  Hence the
  observers notified are exactly the registered ones whose specification fires, whatever else is
  registered.

  The model follows the repaired `FireRemove` (D5: the per-observer test is the mirror of
  `FireAdd`); with the earlier test `pred_remove_spec` is false (For(A,B), only A removed).

  Hypothesis recorded once (`Spec.IdsOK`): the IDs given to `For`/`With` are below 256.
-/
import Ark.Proofs.Observers
import Ark.Proofs.GenBridge.Obs
import Ark.Props.C20Words

namespace Ark.Props.C08
open Ark Ark.Spec

/-! ### a. per-observer predicate ⇔ documented rule -/

/-- `FireCreateEntity` / `FireRemoveEntity`. -/
theorem pred_entity_spec (s : ObsSpec) (isRel : Comp → Bool) (d : ObsData)
    (hd : ObsMgr.computeData s isRel = some d) (hid : IdsOK s)
    (hev : s.event = Ev.onCreateEntity ∨ s.event = Ev.onRemoveEntity) (m : Mask) :
    Pred.entity d m = true ↔ Spec.fires s (.entity m) := by
  rw [computeData_eq s isRel d hd]
  refine pred_entity_dataOf s hid ?_ m
  rcases hev with h | h <;> simp [isEntityEvt, h]

private theorem not_ent {e : Nat} (h : e ≠ Ev.onCreateEntity ∧ e ≠ Ev.onRemoveEntity) :
    isEntityEvt e = false := by
  simp [isEntityEvt, h.1, h.2]

/-- `FireCreateEntityRel` / `FireRemoveEntityRel` (event types OnAddRelations /
    OnRemoveRelations; stated for every non-entity event type). -/
theorem pred_entityRel_spec (s : ObsSpec) (isRel : Comp → Bool) (d : ObsData)
    (hd : ObsMgr.computeData s isRel = some d) (hid : IdsOK s)
    (hev : s.event ≠ Ev.onCreateEntity ∧ s.event ≠ Ev.onRemoveEntity) (m : Mask) :
    Pred.entityRel d m = true ↔ Spec.fires s (.entityRel m) := by
  rw [computeData_eq s isRel d hd]
  exact pred_entityRel_dataOf s hid (not_ent hev) m

/-- `FireAdd` (OnAddComponents, OnAddRelations; stated for every non-entity event type). -/
theorem pred_add_spec (s : ObsSpec) (isRel : Comp → Bool) (d : ObsData)
    (hd : ObsMgr.computeData s isRel = some d) (hid : IdsOK s)
    (hev : s.event ≠ Ev.onCreateEntity ∧ s.event ≠ Ev.onRemoveEntity) (old new : Mask) :
    Pred.add d old new = true ↔ Spec.fires s (.add old new) := by
  rw [computeData_eq s isRel d hd]
  exact pred_add_dataOf s hid (not_ent hev) old new

/-- `FireRemove` (OnRemoveComponents, OnRemoveRelations; every non-entity event type). -/
theorem pred_remove_spec (s : ObsSpec) (isRel : Comp → Bool) (d : ObsData)
    (hd : ObsMgr.computeData s isRel = some d) (hid : IdsOK s)
    (hev : s.event ≠ Ev.onCreateEntity ∧ s.event ≠ Ev.onRemoveEntity) (old new : Mask) :
    Pred.remove d old new = true ↔ Spec.fires s (.remove old new) := by
  rw [computeData_eq s isRel d hd]
  exact pred_remove_dataOf s hid (not_ent hev) old new

/-- `FireSet`, `FireSetRelations`, `FireCustom` (OnSetComponents, relation re-targeting, custom
    events; every non-entity event type). -/
theorem pred_set_spec (s : ObsSpec) (isRel : Comp → Bool) (d : ObsData)
    (hd : ObsMgr.computeData s isRel = some d) (hid : IdsOK s)
    (hev : s.event ≠ Ev.onCreateEntity ∧ s.event ≠ Ev.onRemoveEntity) (changed m : Mask) :
    Pred.set d changed m = true ↔ Spec.fires s (.set changed m) := by
  rw [computeData_eq s isRel d hd]
  exact pred_set_dataOf s hid (not_ent hev) changed m

/-! ### c. early-outs never suppress an observer that should fire -/

theorem earlyOut_entity_sound (m : ObsMgr) (evt : Nat) (h : AggInv m evt) (mask : Mask)
    (he : Early.entity (m.evt evt) mask = true) :
    ∀ l ∈ (m.evt evt).observers, Pred.entity (m.obj l).data mask = false :=
  AggInvES.early_entity h mask he

theorem earlyOut_entityRel_sound (m : ObsMgr) (evt : Nat) (h : AggInv m evt)
    (hev : evt ≠ Ev.onCreateEntity ∧ evt ≠ Ev.onRemoveEntity) (mask : Mask)
    (he : Early.entityRel (m.evt evt) mask = true) :
    ∀ l ∈ (m.evt evt).observers, Pred.entityRel (m.obj l).data mask = false := by
  unfold AggInv at h; rw [not_ent hev] at h
  exact AggInvES.early_entityRel h mask he

theorem earlyOut_add_sound (m : ObsMgr) (evt : Nat) (h : AggInv m evt)
    (hev : evt ≠ Ev.onCreateEntity ∧ evt ≠ Ev.onRemoveEntity) (old new : Mask)
    (he : Early.add (m.evt evt) old new = true) :
    ∀ l ∈ (m.evt evt).observers, Pred.add (m.obj l).data old new = false := by
  unfold AggInv at h; rw [not_ent hev] at h
  exact AggInvES.early_add h old new he

theorem earlyOut_remove_sound (m : ObsMgr) (evt : Nat) (h : AggInv m evt)
    (hev : evt ≠ Ev.onCreateEntity ∧ evt ≠ Ev.onRemoveEntity) (old new : Mask)
    (he : Early.remove (m.evt evt) old new = true) :
    ∀ l ∈ (m.evt evt).observers, Pred.remove (m.obj l).data old new = false := by
  unfold AggInv at h; rw [not_ent hev] at h
  exact AggInvES.early_remove h old new he

theorem earlyOut_set_sound (m : ObsMgr) (evt : Nat) (h : AggInv m evt)
    (hev : evt ≠ Ev.onCreateEntity ∧ evt ≠ Ev.onRemoveEntity) (mask emask : Mask)
    (he : Early.set (m.evt evt) mask emask = true) :
    ∀ l ∈ (m.evt evt).observers, Pred.set (m.obj l).data mask emask = false := by
  unfold AggInv at h; rw [not_ent hev] at h
  exact AggInvES.early_set h mask emask he

/-! ### d. the set of notified observers does not depend on the early-out -/

/- `ObsMgr.notified m evt useEarly early pred` (Ark/Proofs/Observers.lean) is the list of observers
   a `Fire*` function notifies: `[]` if the early-out is enabled and taken, otherwise the
   registered ones (in slice order) whose own test passes — the shape of every `fire*` of
   Ark/Model/World.lean. -/

theorem dispatch_independent_entity (m : ObsMgr) (evt : Nat) (h : AggInv m evt) (mask : Mask)
    (useEarly : Bool) :
    m.notified evt useEarly (Early.entity (m.evt evt) mask) (fun d => Pred.entity d mask)
      = (m.evt evt).observers.filter fun l => Pred.entity (m.obj l).data mask :=
  ObsMgr.notified_eq _ _ _ _ _ (earlyOut_entity_sound m evt h mask)

theorem dispatch_independent_entityRel (m : ObsMgr) (evt : Nat) (h : AggInv m evt)
    (hev : evt ≠ Ev.onCreateEntity ∧ evt ≠ Ev.onRemoveEntity) (mask : Mask) (useEarly : Bool) :
    m.notified evt useEarly (Early.entityRel (m.evt evt) mask) (fun d => Pred.entityRel d mask)
      = (m.evt evt).observers.filter fun l => Pred.entityRel (m.obj l).data mask :=
  ObsMgr.notified_eq _ _ _ _ _ (earlyOut_entityRel_sound m evt h hev mask)

theorem dispatch_independent_add (m : ObsMgr) (evt : Nat) (h : AggInv m evt)
    (hev : evt ≠ Ev.onCreateEntity ∧ evt ≠ Ev.onRemoveEntity) (old new : Mask) (useEarly : Bool) :
    m.notified evt useEarly (Early.add (m.evt evt) old new) (fun d => Pred.add d old new)
      = (m.evt evt).observers.filter fun l => Pred.add (m.obj l).data old new :=
  ObsMgr.notified_eq _ _ _ _ _ (earlyOut_add_sound m evt h hev old new)

theorem dispatch_independent_remove (m : ObsMgr) (evt : Nat) (h : AggInv m evt)
    (hev : evt ≠ Ev.onCreateEntity ∧ evt ≠ Ev.onRemoveEntity) (old new : Mask) (useEarly : Bool) :
    m.notified evt useEarly (Early.remove (m.evt evt) old new) (fun d => Pred.remove d old new)
      = (m.evt evt).observers.filter fun l => Pred.remove (m.obj l).data old new :=
  ObsMgr.notified_eq _ _ _ _ _ (earlyOut_remove_sound m evt h hev old new)

theorem dispatch_independent_set (m : ObsMgr) (evt : Nat) (h : AggInv m evt)
    (hev : evt ≠ Ev.onCreateEntity ∧ evt ≠ Ev.onRemoveEntity) (mask emask : Mask)
    (useEarly : Bool) :
    m.notified evt useEarly (Early.set (m.evt evt) mask emask) (fun d => Pred.set d mask emask)
      = (m.evt evt).observers.filter fun l => Pred.set (m.obj l).data mask emask :=
  ObsMgr.notified_eq _ _ _ _ _ (earlyOut_set_sound m evt h hev mask emask)

/-! ### d'. … and is exactly the set of registered observers whose declared filter matches -/

/- `Registered m evt isRel` (Ark/Proofs/Observers.lean): every observer listed under `evt` was
   registered for `evt` through `AddObserver` — its data is what the mask computation yields for
   its specification — with component IDs below 256. -/

private theorem filter_spec {obs : List Nat} {p : Nat → Bool} {q : Nat → Prop} [DecidablePred q]
    (h : ∀ l ∈ obs, p l = true ↔ q l) : obs.filter p = obs.filter fun l => decide (q l) := by
  apply List.filter_congr
  intro l hl
  rw [Bool.eq_iff_iff, decide_eq_true_iff]
  exact h l hl

theorem dispatch_exact_entity (m : ObsMgr) (evt : Nat) (isRel : Comp → Bool) (h : AggInv m evt)
    (hreg : Registered m evt isRel) (hev : evt = Ev.onCreateEntity ∨ evt = Ev.onRemoveEntity)
    (mask : Mask) (useEarly : Bool) :
    m.notified evt useEarly (Early.entity (m.evt evt) mask) (fun d => Pred.entity d mask)
      = (m.evt evt).observers.filter fun l => decide (Spec.fires (m.obj l).spec (.entity mask)) := by
  rw [dispatch_independent_entity m evt h mask useEarly]
  refine filter_spec fun l hl => ?_
  obtain ⟨h1, h2, h3⟩ := hreg l hl
  exact pred_entity_spec _ isRel _ h3 h2 (h1 ▸ hev) mask

theorem dispatch_exact_entityRel (m : ObsMgr) (evt : Nat) (isRel : Comp → Bool) (h : AggInv m evt)
    (hreg : Registered m evt isRel) (hev : evt ≠ Ev.onCreateEntity ∧ evt ≠ Ev.onRemoveEntity)
    (mask : Mask) (useEarly : Bool) :
    m.notified evt useEarly (Early.entityRel (m.evt evt) mask) (fun d => Pred.entityRel d mask)
      = (m.evt evt).observers.filter fun l =>
          decide (Spec.fires (m.obj l).spec (.entityRel mask)) := by
  rw [dispatch_independent_entityRel m evt h hev mask useEarly]
  refine filter_spec fun l hl => ?_
  obtain ⟨h1, h2, h3⟩ := hreg l hl
  exact pred_entityRel_spec _ isRel _ h3 h2 (h1 ▸ hev) mask

theorem dispatch_exact_add (m : ObsMgr) (evt : Nat) (isRel : Comp → Bool) (h : AggInv m evt)
    (hreg : Registered m evt isRel) (hev : evt ≠ Ev.onCreateEntity ∧ evt ≠ Ev.onRemoveEntity)
    (old new : Mask) (useEarly : Bool) :
    m.notified evt useEarly (Early.add (m.evt evt) old new) (fun d => Pred.add d old new)
      = (m.evt evt).observers.filter fun l =>
          decide (Spec.fires (m.obj l).spec (.add old new)) := by
  rw [dispatch_independent_add m evt h hev old new useEarly]
  refine filter_spec fun l hl => ?_
  obtain ⟨h1, h2, h3⟩ := hreg l hl
  exact pred_add_spec _ isRel _ h3 h2 (h1 ▸ hev) old new

theorem dispatch_exact_remove (m : ObsMgr) (evt : Nat) (isRel : Comp → Bool) (h : AggInv m evt)
    (hreg : Registered m evt isRel) (hev : evt ≠ Ev.onCreateEntity ∧ evt ≠ Ev.onRemoveEntity)
    (old new : Mask) (useEarly : Bool) :
    m.notified evt useEarly (Early.remove (m.evt evt) old new) (fun d => Pred.remove d old new)
      = (m.evt evt).observers.filter fun l =>
          decide (Spec.fires (m.obj l).spec (.remove old new)) := by
  rw [dispatch_independent_remove m evt h hev old new useEarly]
  refine filter_spec fun l hl => ?_
  obtain ⟨h1, h2, h3⟩ := hreg l hl
  exact pred_remove_spec _ isRel _ h3 h2 (h1 ▸ hev) old new

theorem dispatch_exact_set (m : ObsMgr) (evt : Nat) (isRel : Comp → Bool) (h : AggInv m evt)
    (hreg : Registered m evt isRel) (hev : evt ≠ Ev.onCreateEntity ∧ evt ≠ Ev.onRemoveEntity)
    (mask emask : Mask) (useEarly : Bool) :
    m.notified evt useEarly (Early.set (m.evt evt) mask emask) (fun d => Pred.set d mask emask)
      = (m.evt evt).observers.filter fun l =>
          decide (Spec.fires (m.obj l).spec (.set mask emask)) := by
  rw [dispatch_independent_set m evt h hev mask emask useEarly]
  refine filter_spec fun l hl => ?_
  obtain ⟨h1, h2, h3⟩ := hreg l hl
  exact pred_set_spec _ isRel _ h3 h2 (h1 ▸ hev) mask emask

/-! ### b. the aggregate invariant is established and preserved -/

/-- the empty manager -/
theorem aggInv_init (evt : Nat) : AggInv {} evt := AggInv.init evt

/-- `AddObserver`, for data produced by its own mask computation.  For event types other than
    the observer's own, the object must not already be listed there (`Register` panics on an
    already registered observer). -/
theorem aggInv_addObserver (m : ObsMgr) (evt l : Nat) (o : ObsObj) (oid : Nat)
    (isRel : Comp → Bool) (d : ObsData) (hd : ObsMgr.computeData o.spec isRel = some d)
    (hid : IdsOK o.spec) (hfresh : evt ≠ o.spec.event → l ∉ (m.evt evt).observers)
    (h : AggInv m evt) : AggInv (m.addComputed l o oid d) evt :=
  AggInv.addComputed l o oid d (ObsMgr.computeData_wf o.spec isRel d hid hd) hfresh h

/-- `RemoveObserver`: swap-remove and both recomputation loops (with their early `break`), for
    any object, id and index. -/
theorem aggInv_removeObserver (m : ObsMgr) (evt l oid idx : Nat) (h : AggInv m evt) :
    AggInv (m.removeAt l oid idx) evt := AggInv.removeAt l oid idx h

/-- `Reset`. -/
theorem aggInv_reset (m : ObsMgr) (evt : Nat) (h : AggInv m evt) : AggInv m.reset evt :=
  AggInv.reset h

/-! ### e. non-vacuity -/

section Examples
open Mask

/-- `Observe(OnRemoveComponents).For(A,B)` with A = 0, B = 1 -/
private def sRemAB : ObsSpec := { event := Ev.onRemoveComponents, comps := [0, 1] }

-- fires when A and B are removed together …
example : Spec.fires sRemAB (.remove (ofList [0, 1, 2]) (ofList [2])) := by decide
-- … not when only A is removed (D5), nor when the entity never had B
example : ¬ Spec.fires sRemAB (.remove (ofList [0, 1, 2]) (ofList [1, 2])) := by decide
example : ¬ Spec.fires sRemAB (.remove (ofList [0, 2]) (ofList [2])) := by decide
-- and the implementation agrees on these instances
example : (ObsMgr.computeData sRemAB (fun _ => false)).map
    (fun d => (Pred.remove d (ofList [0, 1, 2]) (ofList [2]),
               Pred.remove d (ofList [0, 1, 2]) (ofList [1, 2]))) = some (true, false) := by decide

/-- `Observe(OnAddComponents).For(A).With(C).Without(D)`, A = 0, C = 2, D = 3 -/
private def sAdd : ObsSpec :=
  { event := Ev.onAddComponents, comps := [0], with_ := [2], without := [3] }

example : Spec.fires sAdd (.add (ofList [2]) (ofList [0, 2])) := by decide
-- `With` is evaluated on the old mask
example : ¬ Spec.fires sAdd (.add (ofList []) (ofList [0, 2])) := by decide
example : ¬ Spec.fires sAdd (.add (ofList [2, 3]) (ofList [0, 2, 3])) := by decide
-- A was already there: not "added"
example : ¬ Spec.fires sAdd (.add (ofList [0, 2]) (ofList [0, 1, 2])) := by decide

/-- `Observe(OnCreateEntity).For(A).With(B).Exclusive()` -/
private def sCreateExcl : ObsSpec :=
  { event := Ev.onCreateEntity, comps := [0], with_ := [1], exclusive := true }

set_option maxRecDepth 8192 in
example : Spec.fires sCreateExcl (.entity (ofList [0, 1])) := by decide +kernel
set_option maxRecDepth 8192 in
example : ¬ Spec.fires sCreateExcl (.entity (ofList [0, 1, 2])) := by decide +kernel
example : ¬ Spec.fires sCreateExcl (.entity (ofList [0])) := by decide

/-- wildcard observer (`For` nothing) on OnSetComponents with `With(B)` -/
private def sSetWild : ObsSpec := { event := Ev.onSetComponents, with_ := [1] }

example : Spec.fires sSetWild (.set (ofList [5]) (ofList [1, 5])) := by decide
example : ¬ Spec.fires sSetWild (.set (ofList [5]) (ofList [5])) := by decide

/-- a manager with two OnAddComponents observers: `For(A)` (label 10) and `For(B).With(C)`
    (label 11), registered through the model of `AddObserver` -/
private def mgr2 : ObsMgr :=
  let o1 : ObsObj := { spec := { event := Ev.onAddComponents, comps := [0] } }
  let o2 : ObsObj := { spec := { event := Ev.onAddComponents, comps := [1], with_ := [2] } }
  let d1 := (ObsMgr.computeData o1.spec (fun _ => false)).getD {}
  let d2 := (ObsMgr.computeData o2.spec (fun _ => false)).getD {}
  (({} : ObsMgr).addComputed 10 o1 0 d1).addComputed 11 o2 1 d2

-- adding D = 3 only: the early-out is taken, and indeed no observer's own test passes
example : Early.add (mgr2.evt Ev.onAddComponents) (ofList [2]) (ofList [2, 3]) = true := by decide
example : (mgr2.evt Ev.onAddComponents).observers.filter
    (fun l => Pred.add (mgr2.obj l).data (ofList [2]) (ofList [2, 3])) = [] := by decide
-- adding A: no early-out, exactly the `For(A)` observer is notified, with or without early-out
example : mgr2.notified Ev.onAddComponents true
    (Early.add (mgr2.evt Ev.onAddComponents) (ofList [2]) (ofList [0, 2]))
    (fun d => Pred.add d (ofList [2]) (ofList [0, 2])) = [10] := by decide
-- adding A and B to an entity with C: both
example : mgr2.notified Ev.onAddComponents true
    (Early.add (mgr2.evt Ev.onAddComponents) (ofList [2]) (ofList [0, 1, 2]))
    (fun d => Pred.add d (ofList [2]) (ofList [0, 1, 2])) = [10, 11] := by decide
-- after unregistering the `For(A)` observer the union masks shrink: adding A is an early-out
example : Early.add ((mgr2.removeAt 10 0 0).evt Ev.onAddComponents) (ofList [2]) (ofList [0, 2])
    = true := by decide

end Examples


/-! ### Tie to the source: the predicates and early-outs above ARE the ones regenerated from
    events.go on this run (Ark/Generated/Obs.lean; Ark/Proofs/GenBridge/Obs.lean), for all masks
    and flags. -/

/-- `fireCreateEntity`: the per-observer test of the Go code equals the predicate of the model -/
theorem fireCreateEntity_pred_as_in_source : type_of% @Ark.GenBridge.fireCreateEntity_skip_eq := @Ark.GenBridge.fireCreateEntity_skip_eq

/-- `fireCreateEntity`: the early-out of the Go code equals the early-out of the model -/
theorem fireCreateEntity_early_as_in_source : type_of% @Ark.GenBridge.fireCreateEntity_early_eq := @Ark.GenBridge.fireCreateEntity_early_eq

/-- `fireCreateEntityRel`: the per-observer test of the Go code equals the predicate of the model -/
theorem fireCreateEntityRel_pred_as_in_source : type_of% @Ark.GenBridge.fireCreateEntityRel_skip_eq := @Ark.GenBridge.fireCreateEntityRel_skip_eq

/-- `fireCreateEntityRel`: the early-out of the Go code equals the early-out of the model -/
theorem fireCreateEntityRel_early_as_in_source : type_of% @Ark.GenBridge.fireCreateEntityRel_early_eq := @Ark.GenBridge.fireCreateEntityRel_early_eq

/-- `fireRemoveEntity`: the per-observer test of the Go code equals the predicate of the model -/
theorem fireRemoveEntity_pred_as_in_source : type_of% @Ark.GenBridge.fireRemoveEntity_skip_eq := @Ark.GenBridge.fireRemoveEntity_skip_eq

/-- `fireRemoveEntity`: the early-out of the Go code equals the early-out of the model -/
theorem fireRemoveEntity_early_as_in_source : type_of% @Ark.GenBridge.fireRemoveEntity_early_eq := @Ark.GenBridge.fireRemoveEntity_early_eq

/-- `fireRemoveEntityRel`: the per-observer test of the Go code equals the predicate of the model -/
theorem fireRemoveEntityRel_pred_as_in_source : type_of% @Ark.GenBridge.fireRemoveEntityRel_skip_eq := @Ark.GenBridge.fireRemoveEntityRel_skip_eq

/-- `fireRemoveEntityRel`: the early-out of the Go code equals the early-out of the model -/
theorem fireRemoveEntityRel_early_as_in_source : type_of% @Ark.GenBridge.fireRemoveEntityRel_early_eq := @Ark.GenBridge.fireRemoveEntityRel_early_eq

/-- `fireAdd`: the per-observer test of the Go code equals the predicate of the model -/
theorem fireAdd_pred_as_in_source : type_of% @Ark.GenBridge.fireAdd_skip_eq := @Ark.GenBridge.fireAdd_skip_eq

/-- `fireAdd`: the early-out of the Go code equals the early-out of the model -/
theorem fireAdd_early_as_in_source : type_of% @Ark.GenBridge.fireAdd_early_eq := @Ark.GenBridge.fireAdd_early_eq

/-- `fireRemove`: the per-observer test of the Go code equals the predicate of the model -/
theorem fireRemove_pred_as_in_source : type_of% @Ark.GenBridge.fireRemove_skip_eq := @Ark.GenBridge.fireRemove_skip_eq

/-- `fireRemove`: the early-out of the Go code equals the early-out of the model -/
theorem fireRemove_early_as_in_source : type_of% @Ark.GenBridge.fireRemove_early_eq := @Ark.GenBridge.fireRemove_early_eq

/-- `fireSet`: the per-observer test of the Go code equals the predicate of the model -/
theorem fireSet_pred_as_in_source : type_of% @Ark.GenBridge.fireSet_skip_eq := @Ark.GenBridge.fireSet_skip_eq

/-- `fireSet`: the early-out of the Go code equals the early-out of the model -/
theorem fireSet_early_as_in_source : type_of% @Ark.GenBridge.fireSet_early_eq := @Ark.GenBridge.fireSet_early_eq

/-- `fireSetRelations`: the per-observer test of the Go code equals the predicate of the model -/
theorem fireSetRelations_pred_as_in_source : type_of% @Ark.GenBridge.fireSetRelations_skip_eq := @Ark.GenBridge.fireSetRelations_skip_eq

/-- `fireSetRelations`: the early-out of the Go code equals the early-out of the model -/
theorem fireSetRelations_early_as_in_source : type_of% @Ark.GenBridge.fireSetRelations_early_eq := @Ark.GenBridge.fireSetRelations_early_eq

/-- `fireCustom`: the per-observer test of the Go code equals the predicate of the model -/
theorem fireCustom_pred_as_in_source : type_of% @Ark.GenBridge.fireCustom_skip_eq := @Ark.GenBridge.fireCustom_skip_eq

/-- `fireCustom`: the early-out of the Go code equals the early-out of the model -/
theorem fireCustom_early_as_in_source : type_of% @Ark.GenBridge.fireCustom_early_eq := @Ark.GenBridge.fireCustom_early_eq


/-! ## the mask operations the observer conditions rely on, as the word-level Go code computes them -/

theorem words_mask256_contains : type_of% @Ark.Props.C20Words.mask256_contains := @Ark.Props.C20Words.mask256_contains

theorem words_mask256_containsAny : type_of% @Ark.Props.C20Words.mask256_containsAny := @Ark.Props.C20Words.mask256_containsAny

theorem words_mask256_orI : type_of% @Ark.Props.C20Words.mask256_orI := @Ark.Props.C20Words.mask256_orI

theorem words_mask256_isZero : type_of% @Ark.Props.C20Words.mask256_isZero := @Ark.Props.C20Words.mask256_isZero

theorem words_mask256_set : type_of% @Ark.Props.C20Words.mask256_set := @Ark.Props.C20Words.mask256_set

theorem words_mask256_reset : type_of% @Ark.Props.C20Words.mask256_reset := @Ark.Props.C20Words.mask256_reset

theorem words_mask64_contains : type_of% @Ark.Props.C20Words.mask64_contains := @Ark.Props.C20Words.mask64_contains

theorem words_mask64_containsAny : type_of% @Ark.Props.C20Words.mask64_containsAny := @Ark.Props.C20Words.mask64_containsAny

theorem words_mask64_orI : type_of% @Ark.Props.C20Words.mask64_orI := @Ark.Props.C20Words.mask64_orI


end Ark.Props.C08
