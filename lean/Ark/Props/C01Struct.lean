/-
  Ark.Props.C01Struct — C01 at the storage level: the structural invariant tying archetypes and
  tables together (design invariants I4, I9, I10; `SInv` of Ark/Proofs/SInv.lean), its
  preservation by component registration, archetype creation and table creation / recycling,
  and the specification of `findOrCreateTableAdd` (the table lookup behind `NewEntity`, `Add`).
  The proofs are in Ark/Proofs/SInv.lean.

  * `SInvMid w` holds at every point of `storage.go`; `SInv w` = `SInvMid w` + every archetype
    without relation column has exactly one table ("settled").  `createArchetype` leaves the new
    archetype unsettled, the `createTable` that follows settles it.
  * `RInv w` is the relation-index invariant (`IndexInv` of Ark/Proofs/ArchIndex.lean for every
    archetype, against the targets stored in the world's tables).
  * `CreatedTable`, `FoundOrCreated` are the result records of `createTable` and
    `findOrCreateTableAdd`.
-/
import Ark.Proofs.SInv

namespace Ark.Props.C01Struct
open Ark Ark.World

/-! ## 1. the invariant holds initially -/

theorem sinv_init (cap rel : Nat) (maxComps : Nat := 256) : SInv (World.init cap rel maxComps) :=
  Ark.sinv_init cap rel maxComps

theorem rinv_init (cap rel : Nat) (maxComps : Nat := 256) : RInv (World.init cap rel maxComps) :=
  RInv.init cap rel maxComps

/-! ## 2. preservation -/

/-- (2a) `registerComponent` on success keeps `SInv`, `RInv`, `IdxInv`; it only appends to the
    registry (tables, archetypes, entity index, pool, cache untouched). -/
theorem registerComponent_preserves {w w' : World} {k : CompKind} {n : Nat}
    (hr : registerComponent k w = .ok n w') :
    n = w.kinds.length ∧ w'.kinds = w.kinds ++ [k] ∧ w'.archetypes = w.archetypes ∧
    w'.tables = w.tables ∧ w'.entities = w.entities ∧ w'.pool = w.pool ∧
    (SInv w → SInv w') ∧ (RInv w → RInv w') ∧ (IdxInv w → IdxInv w') := by
  obtain ⟨h1, h2, h3, h4, h5, h6, _⟩ := registerComponent_ok hr
  exact ⟨h1, h2, h3, h4, h5, h6, fun h => h.registerComponent hr, fun h => h.registerComponent hr,
    fun h => h.registerComponent hr⟩

/-- … and when it fails the state is unchanged -/
theorem registerComponent_rejects {w w' : World} {k : CompKind} {p : PanicKind}
    (hr : registerComponent k w = .panic p w') : w' = w := registerComponent_panic hr

/-- (2b) `createArchetype mask` for a new mask of registered components. -/
theorem createArchetype_preserves {w : World} (h : SInv w) (mask : Mask)
    (hnone : w.findArch mask = none) (hreg : ∀ (c : Nat), mask.get c = true → c < w.kinds.length) :
    ∃ (w' : World), createArchetype mask w = .ok w.archetypes.length w' ∧
      SInvMid w' ∧ (∀ (a : Nat), a ≠ w.archetypes.length → SettledAt w' a) ∧
      w'.archetypes = w.archetypes ++ [newArch w mask] ∧
      (w'.arch w.archetypes.length).mask = mask ∧
      (w'.arch w.archetypes.length).tables.tables = [] ∧
      (w'.arch w.archetypes.length).freeTables = [] ∧
      w'.tables = w.tables ∧ w'.kinds = w.kinds ∧ w'.entities = w.entities ∧ w'.pool = w.pool ∧
      w'.cache = w.cache :=
  h.createArchetype mask hnone hreg

/-- (2c) `findOrCreateArch mask`. -/
theorem findOrCreateArch_spec {w : World} (h : SInv w) (mask : Mask)
    (hreg : ∀ (c : Nat), mask.get c = true → c < w.kinds.length) :
    ∃ (a : Nat) (w' : World), findOrCreateArch mask w = .ok a w' ∧
      SInvMid w' ∧ (∀ (b : Nat), b ≠ a → SettledAt w' b) ∧
      a < w'.archetypes.length ∧ (w'.arch a).mask = mask ∧
      (∀ (b : Nat), b < w.archetypes.length → w'.archetypes[b]? = w.archetypes[b]?) ∧
      w.archetypes.length ≤ w'.archetypes.length ∧
      w'.tables = w.tables ∧ w'.kinds = w.kinds ∧ w'.entities = w.entities ∧ w'.pool = w.pool ∧
      w'.cache = w.cache ∧
      ((w.findArch mask = some a ∧ w' = w) ∨
       (w.findArch mask = none ∧ a = w.archetypes.length ∧
          w'.archetypes = w.archetypes ++ [newArch w mask])) :=
  h.findOrCreateArch mask hreg

theorem findOrCreateArch_rinv {w w' : World} (h : RInv w) {mask : Mask} {a : Nat}
    (hr : findOrCreateArch mask w = .ok a w') : RInv w' := h.findOrCreateArch hr

/-- (2d) `createTable a rels` on success, for an existing archetype which — if it has no relation
    column — has no table yet: all facts of `CreatedTable` (the checks passed; the table exists,
    belongs to `a`, is active; fresh and empty, or recycled with its rows untouched; everything
    else unchanged; `SInvMid`, `IdxInv`, `RInv` preserved; `a` settled). -/
theorem createTable_spec {w w' : World} (h : SInvMid w) {a : Nat} {rels : List RelID} {t : Nat}
    (ha : a < w.archetypes.length)
    (hnr : (w.arch a).hasRelations = false → (w.arch a).tables.tables = [])
    (hok : createTable a rels w = .ok t w') : CreatedTable w w' a rels t :=
  h.createTable ha hnr hok

/-- (2d) … which restores `SInv` when every other archetype was settled -/
theorem createTable_settles {w w' : World} {a : Nat} {rels : List RelID} {t : Nat}
    (ct : CreatedTable w w' a rels t) (hs : ∀ (b : Nat), b ≠ a → SettledAt w b) : SInv w' :=
  ct.sinv hs

/-- (2d) `createTable` for an existing archetype with relation columns on a settled world (the
    `setRelations` / `cleanupArchetypes` / exchange paths) -/
theorem createTable_rel_spec {w w' : World} (h : SInv w) {a : Nat} {rels : List RelID} {t : Nat}
    (ha : a < w.archetypes.length) (hr : (w.arch a).hasRelations = true)
    (hok : createTable a rels w = .ok t w') : CreatedTable w w' a rels t ∧ SInv w' := by
  have ct := h.toSInvMid.createTable ha (fun hf => by rw [hr] at hf; cases hf) hok
  exact ⟨ct, ct.sinv fun b _ => h.settled b⟩

/-- (2d) `createTable` is: the argument checks (length; the first loop `checkRelList`: a relation
    component named twice panics `.relTwice` — the repair of defect D18, §7 —, a component that is
    no column is the Go index −1 `.runtime` panic; `RelsValid`), then the storage part
    `createTableS`, then `cache.addTable` (`ctFinish`) -/
theorem createTable_decomposition (a : Nat) (rels : List RelID) (w : World) :
    createTable a rels w =
      if rels.length < (w.arch a).numRel then .panic .relUnspecified w
      else match checkRelList (w.arch a) [] rels with
        | some k => .panic k w
        | none =>
          if RelsValid w rels then ctFinish (createTableS w a rels)
          else .panic (relPanic w rels) w :=
  createTable_eq a rels w

/-- (2d) the first loop of `createTable` (`checkRelList`, with the check added by the repair of
    defect D18, see §7) passes exactly when no relation component is named twice and every named
    component is a column of the archetype -/
theorem checkRelList_passes_iff (A : Archetype) (rels : List RelID) :
    checkRelList A [] rels = none ↔
      (rels.map (·.comp)).Nodup ∧ ∀ (r : RelID), r ∈ rels → (A.colIdx r.comp).isSome = true :=
  checkRelList_nil_eq_none_iff A rels

/-- (2d) a successful `createTable` was given a relation list naming no component twice -/
theorem createTable_rels_nodup {a : Nat} {rels : List RelID} {w w' : World} {t : Nat}
    (h : createTable a rels w = .ok t w') : (rels.map (·.comp)).Nodup :=
  createTable_ok_nodup h

/-- (2d) a relation list naming a component twice is rejected with the state unchanged -/
theorem createTable_rejects_twice {a : Nat} {rels : List RelID} {w : World}
    (h : ¬ (rels.map (·.comp)).Nodup) :
    ∃ (k : PanicKind), createTable a rels w = .panic k w ∧
      (k = .relUnspecified ∨ k = .relTwice ∨ k = .runtime) := by
  rw [createTable_eq]
  split
  · exact ⟨_, rfl, Or.inl rfl⟩
  · cases h2 : checkRelList (w.arch a) [] rels with
    | none => exact absurd ((checkRelList_nil_eq_none_iff _ _).1 h2).1 h
    | some k => exact ⟨k, rfl, Or.inr (checkRelList_some _ _ _ _ h2)⟩

/-- (2d) totality: when the arguments pass the checks (`hnd`: no relation component named
    twice, forced by the repair of D18) and the cached filters are
    well-formed (`CacheRelsOK`: every relation a cached filter fixes names a component the filter
    requires), `createTable` succeeds. -/
theorem createTable_total {w : World} (h : SInvMid w) (hc : CacheRelsOK w) {a : Nat}
    {rels : List RelID} (ha : a < w.archetypes.length)
    (hnr : (w.arch a).hasRelations = false → (w.arch a).tables.tables = [])
    (h1 : (w.arch a).numRel ≤ rels.length)
    (h2 : ∀ (r : RelID), r ∈ rels → ((w.arch a).colIdx r.comp).isSome = true)
    (hnd : (rels.map (·.comp)).Nodup)
    (h3 : RelsValid w rels) :
    ∃ (t : Nat) (w' : World), createTable a rels w = .ok t w' ∧ CreatedTable w w' a rels t :=
  h.createTable_total hc ha hnr h1 h2 hnd h3

/-- (2e) `getTable` never changes the state … -/
theorem getTable_pure (a : Nat) (rels : List RelID) (w : World) : (getTable a rels w).state = w :=
  getTable_state a rels w

/-- (2e) … and what it finds is an active table of the archetype -/
theorem getTable_found_active {w w' : World} (h : RInv w) {a : Nat} {rels : List RelID} {t : Nat}
    (ha : a < w.archetypes.length) (hg : getTable a rels w = .ok (some t) w') :
    w' = w ∧ t ∈ (w.arch a).tables.tables :=
  ⟨getTable_ok_state hg, h.getTable_some_mem ha hg⟩

/-! ## 3. `findOrCreateTableAdd` -/

/-- total specification, relation-free case (see `SInv.findOrCreateTableAdd_spec`) -/
theorem findOrCreateTableAdd_spec {w : World} (h : SInv w) (hI : IdxInv w) {oldT : Nat}
    (hold : oldT < w.tables.length) {startMask : Mask}
    (hstart : startMask = (w.arch (w.tbl oldT).arch).mask)
    (hnrOld : (w.arch (w.tbl oldT).arch).hasRelations = false)
    {add : List Comp} (hnd : add.Nodup) (hnew : ∀ (c : Comp), c ∈ add → startMask.get c = false)
    (hreg : ∀ (c : Comp), c ∈ add → c < w.kinds.length)
    (hnr : ∀ (c : Comp), c ∈ add → (w.kinds.getD c {}).isRel = false) :
    ∃ (t a : Nat) (w' : World),
      findOrCreateTableAdd oldT startMask add [] w = .ok (t, a, add.foldl Mask.set startMask) w' ∧
      FoundOrCreated w w' (add.foldl Mask.set startMask) t a ∧ IdxInv w' ∧
      (∀ (t' : Nat), t' < w.tables.length → w'.tables[t']? = w.tables[t']?) ∧
      (add ≠ [] → (∀ (c : Comp), c ∈ add → c < 256) → t ≠ oldT) :=
  h.findOrCreateTableAdd_spec hI hold hstart hnrOld hnd hnew hreg hnr

/-- the creation instance (`newEntity`): old table 0, empty start mask -/
theorem findOrCreateTableAdd_spec_new {w : World} (h : SInv w) (hI : IdxInv w)
    {add : List Comp} (hnd : add.Nodup) (hreg : ∀ (c : Comp), c ∈ add → c < w.kinds.length)
    (hnr : ∀ (c : Comp), c ∈ add → (w.kinds.getD c {}).isRel = false) :
    ∃ (t a : Nat) (w' : World),
      findOrCreateTableAdd 0 Mask.empty add [] w = .ok (t, a, Mask.ofList add) w' ∧
      FoundOrCreated w w' (Mask.ofList add) t a ∧ IdxInv w' ∧
      (∀ (t' : Nat), t' < w.tables.length → w'.tables[t']? = w.tables[t']?) ∧
      (add ≠ [] → (∀ (c : Comp), c ∈ add → c < 256) → t ≠ 0) :=
  h.findOrCreateTableAdd_spec_new hI hnd hreg hnr

/-- general form (any `add`, any `rels`, relation components included), on success -/
theorem findOrCreateTableAdd_of_ok {w w' : World} (h : SInv w) (hR : RInv w) {oldT : Nat}
    {startMask mask : Mask} {add : List Comp} {rels : List RelID} {t a : Nat}
    (hstart : ∀ (c : Nat), startMask.get c = true → c < w.kinds.length)
    (hreg : ∀ (c : Comp), c ∈ add → c < w.kinds.length)
    (hok : findOrCreateTableAdd oldT startMask add rels w = .ok (t, a, mask) w') :
    mask = add.foldl Mask.set startMask ∧ FoundOrCreated w w' mask t a ∧ RInv w' :=
  h.findOrCreateTableAdd_of_ok_rinv hR hstart hreg hok

/-- the rejection: a component already in the running mask (present in the start mask, or
    listed twice) is refused with `alreadyHas` and the state unchanged -/
theorem findOrCreateTableAdd_rejects (oldT : Nat) (startMask : Mask) (pre : List Comp) (c : Comp)
    (post : List Comp) (rels : List RelID) (w : World)
    (h : (pre.foldl Mask.set startMask).get c = true) :
    findOrCreateTableAdd oldT startMask (pre ++ c :: post) rels w = .panic .alreadyHas w :=
  findOrCreateTableAdd_reject oldT startMask pre c post rels w h

/-- the mask walk has exactly these two outcomes -/
theorem graphFindAdd_outcomes (m : Mask) (add : List Comp) (w : World) :
    graphFindAdd m add w = .ok (add.foldl Mask.set m) w ∨
    (graphFindAdd m add w = .panic .alreadyHas w ∧
      ∃ (pre : List Comp) (c : Comp) (post : List Comp), add = pre ++ c :: post ∧
        (pre.foldl Mask.set m).get c = true) :=
  graphFindAdd_cases m add w

/-! ## 4. consequences -/

/-- no two archetypes have the same component set (mask) … -/
theorem archetype_masks_unique {w : World} (h : SInv w) {a b : Nat}
    (ha : a < w.archetypes.length) (hb : b < w.archetypes.length)
    (hm : (w.arch a).mask = (w.arch b).mask) : a = b :=
  h.toSInvMid.archetype_masks_unique ha hb hm

/-- … nor the same column list -/
theorem archetype_comps_unique {w : World} (h : SInv w) {a b : Nat}
    (ha : a < w.archetypes.length) (hb : b < w.archetypes.length)
    (hc : (w.arch a).comps = (w.arch b).comps) : a = b :=
  h.toSInvMid.archetype_comps_unique ha hb hc

/-- an archetype without relation column has exactly one table and no free table -/
theorem nonRelation_single_table {w : World} (h : SInv w) {a : Nat} (ha : a < w.archetypes.length)
    (hr : (w.arch a).hasRelations = false) :
    (w.arch a).tables.tables.length = 1 ∧ (w.arch a).freeTables = [] :=
  h.nonRel a _ (aget_of_lt ha) hr

/-- every table is listed by exactly its own archetype: active iff not free -/
theorem table_listed_once {w : World} (h : SInv w) {t : Nat} (ht : t < w.tables.length) :
    ((w.tbl t).isFree = false ↔ t ∈ (w.arch (w.tbl t).arch).tables.tables) ∧
    ((w.tbl t).isFree = true ↔ t ∈ (w.arch (w.tbl t).arch).freeTables) ∧
    ∀ (b : Nat), b < w.archetypes.length →
      (t ∈ (w.arch b).tables.tables ∨ t ∈ (w.arch b).freeTables) → b = (w.tbl t).arch := by
  have hT := get_of_lt ht
  refine ⟨(h.member t _ hT).1, (h.member t _ hT).2, ?_⟩
  intro b hb hm
  obtain ⟨T, hT', hTb⟩ := h.owned b _ t (aget_of_lt hb) hm
  rw [hT] at hT'
  rw [← Option.some.inj hT'] at hTb
  exact hTb.symm

/-! ## 5. a decidable form of the invariant (bounded quantifiers only) -/

def WFB (t : TableIDs) : Prop :=
  t.tables.Nodup ∧ (t.indices.map (·.1)).Nodup ∧
  (∀ p, p ∈ t.indices → t.tables[p.2]? = some p.1) ∧
  (∀ i, i < t.tables.length → AL.find? t.indices (t.tables.getD i 0) = some i)

instance (t : TableIDs) : Decidable (WFB t) := by unfold WFB; exact inferInstance

theorem WFB.sound {t : TableIDs} (h : WFB t) : t.WF := by
  obtain ⟨h1, h2, h3, h4⟩ := h
  refine ⟨h1, h2, ?_⟩
  intro id i
  constructor
  · intro hf; exact h3 (id, i) (AL.mem_of_find? _ _ _ hf)
  · intro hg
    obtain ⟨hlt, hv⟩ := List.getElem?_eq_some_iff.1 hg
    have := h4 i hlt
    rw [List.getD_eq_getElem?_getD, hg] at this
    exact this

def StructB (A : Archetype) : Prop :=
  WFB A.tables ∧ A.freeTables.Nodup ∧ (∀ t, t ∈ A.tables.tables → t ∉ A.freeTables) ∧
  A.relationTables.length = A.comps.length ∧ A.isRel.length = A.comps.length ∧
  A.numRel = (A.isRel.filter fun b => b).length

instance (A : Archetype) : Decidable (StructB A) := by unfold StructB; exact inferInstance

theorem StructB.sound {A : Archetype} (h : StructB A) : A.Struct :=
  ⟨h.1.sound, h.2.1, h.2.2.1, h.2.2.2.1, h.2.2.2.2.1, h.2.2.2.2.2⟩

/-- the per-archetype part of `SInv` -/
def ArchOK (w : World) (a : Nat) : Prop :=
  (w.arch a).id = a ∧
  (∀ b, b < w.archetypes.length → (w.arch a).mask = (w.arch b).mask → a = b) ∧
  (w.arch a).mask >>> w.kinds.length = 0#256 ∧
  (w.arch a).comps = (w.arch a).mask.toList w.kinds.length ∧
  (w.arch a).isRel.length = (w.arch a).comps.length ∧
  (w.arch a).zst.length = (w.arch a).comps.length ∧
  (∀ i, i < (w.arch a).comps.length →
    (w.arch a).isRel.getD i false = (w.kinds.getD ((w.arch a).comps.getD i 0) {}).isRel ∧
    (w.arch a).zst.getD i false = (w.kinds.getD ((w.arch a).comps.getD i 0) {}).zst) ∧
  (∀ t, t ∈ (w.arch a).tables.tables ++ (w.arch a).freeTables →
    t < w.tables.length ∧ (w.tbl t).arch = a) ∧
  StructB (w.arch a) ∧
  ((w.arch a).hasRelations = false →
    (w.arch a).tables.tables.length = 1 ∧ (w.arch a).freeTables = [])

instance (w : World) (a : Nat) : Decidable (ArchOK w a) := by unfold ArchOK; exact inferInstance

/-- the per-table part of `SInv` -/
def TableOK (w : World) (t : Nat) : Prop :=
  (w.tbl t).arch < w.archetypes.length ∧
  (w.tbl t).ids = (w.arch (w.tbl t).arch).comps ∧
  (w.tbl t).isRel = (w.arch (w.tbl t).arch).isRel ∧
  (w.tbl t).zst = (w.arch (w.tbl t).arch).zst ∧
  (w.tbl t).id = t ∧
  (∀ r, r ∈ (w.tbl t).relIDs → ∃ i, i < (w.tbl t).ids.length ∧
    (w.tbl t).ids[i]? = some r.comp ∧ (w.tbl t).isRel.getD i false = true) ∧
  ((w.tbl t).isFree = false ↔ t ∈ (w.arch (w.tbl t).arch).tables.tables) ∧
  ((w.tbl t).isFree = true ↔ t ∈ (w.arch (w.tbl t).arch).freeTables)

instance (w : World) (t : Nat) : Decidable (TableOK w t) := by unfold TableOK; exact inferInstance

/-- `SInv` with bounded quantifiers only: decidable, so `decide` checks it on concrete worlds -/
def SInvB (w : World) : Prop :=
  (∀ a, a < w.archetypes.length → ArchOK w a) ∧ (∀ t, t < w.tables.length → TableOK w t) ∧
  0 < w.tables.length ∧ (w.tbl 0).arch = 0 ∧ (w.arch 0).mask = Mask.empty

instance (w : World) : Decidable (SInvB w) := by unfold SInvB; exact inferInstance

def sinvB (w : World) : Bool := decide (SInvB w)

theorem SInvB.sound {w : World} (h : SInvB w) : SInv w := by
  obtain ⟨hA, hT, h0, h1, h2⟩ := h
  have hA' : ∀ {a : Nat} {A : Archetype}, w.archetypes[a]? = some A →
      ArchOK w a ∧ w.arch a = A := fun hg => ⟨hA _ (alt_of_get hg), arch_of_get hg⟩
  have hT' : ∀ {t : Nat} {T : Table}, w.tables[t]? = some T →
      TableOK w t ∧ w.tbl t = T := fun hg => ⟨hT _ (lt_of_get hg), tbl_of_get hg⟩
  refine { archId := ?_, maskUniq := ?_, maskReg := ?_, comps := ?_, kindsOf := ?_, tblArch := ?_,
           relCols := ?_, member := ?_, owned := ?_, astruct := ?_, nonRelLe := ?_,
           root := ⟨h0, h1, h2⟩, settled := ?_ }
  · intro a A hg
    obtain ⟨ok, rfl⟩ := hA' hg; exact ok.1
  · intro a b A B hga hgb hm
    obtain ⟨ok, rfl⟩ := hA' hga
    obtain ⟨_, rfl⟩ := hA' hgb
    exact ok.2.1 b (alt_of_get hgb) hm
  · intro a A hg c hc
    obtain ⟨ok, rfl⟩ := hA' hg
    -- a bit at or above `kinds.length` would survive the shift
    refine Nat.lt_of_not_le fun hge => ?_
    have := congrArg (·.getLsbD (c - w.kinds.length)) ok.2.2.1
    simp only [BitVec.getLsbD_ushiftRight, Nat.add_sub_cancel' hge, BitVec.getLsbD_zero] at this
    exact Bool.noConfusion (hc.symm.trans this)
  · intro a A hg
    obtain ⟨ok, rfl⟩ := hA' hg
    exact ⟨ok.2.2.2.1, ok.2.2.2.2.1, ok.2.2.2.2.2.1⟩
  · intro a A i c hg hc
    obtain ⟨ok, rfl⟩ := hA' hg
    obtain ⟨hlt, hv⟩ := List.getElem?_eq_some_iff.1 hc
    have := ok.2.2.2.2.2.2.1 i hlt
    have hcd : (w.arch a).comps.getD i 0 = c := by rw [List.getD_eq_getElem?_getD, hc]; rfl
    rw [hcd] at this
    exact this
  · intro t T hg
    obtain ⟨ok, rfl⟩ := hT' hg
    exact ⟨_, aget_of_lt ok.1, ok.2.1, ok.2.2.1, ok.2.2.2.1, ok.2.2.2.2.1⟩
  · intro t T hg r hr
    obtain ⟨ok, rfl⟩ := hT' hg
    obtain ⟨i, _, h3, h4⟩ := ok.2.2.2.2.2.1 r hr
    exact ⟨i, h3, h4⟩
  · intro t T hg
    obtain ⟨ok, rfl⟩ := hT' hg
    exact ok.2.2.2.2.2.2
  · intro a A t hg hm
    obtain ⟨ok, rfl⟩ := hA' hg
    obtain ⟨hlt, harch⟩ := ok.2.2.2.2.2.2.2.1 t (by
      rcases hm with hm | hm
      · exact List.mem_append_left _ hm
      · exact List.mem_append_right _ hm)
    exact ⟨_, get_of_lt hlt, harch⟩
  · intro a A hg
    obtain ⟨ok, rfl⟩ := hA' hg
    exact ok.2.2.2.2.2.2.2.2.1.sound
  · intro a A hg hr
    obtain ⟨ok, rfl⟩ := hA' hg
    obtain ⟨h3, h4⟩ := ok.2.2.2.2.2.2.2.2.2 hr
    exact ⟨by omega, h4⟩
  · intro a A hg hr
    obtain ⟨ok, rfl⟩ := hA' hg
    exact (ok.2.2.2.2.2.2.2.2.2 hr).1

theorem sinvB_sound {w : World} (h : sinvB w = true) : SInv w :=
  SInvB.sound (of_decide_eq_true h)

/-! ## 6. a concrete history (non-vacuity)

Three component types (0, 1 plain; 2 a relation), entities in five archetypes, two tables of the
relation archetype `{0, 2}` for two targets; removing target 5 frees table 5 (its entity moves to
a new table 6 with the zero target); the next creation with a new target recycles table 5. -/

/-- a callback runner that does nothing (no observers are registered below) -/
def noProbe : ProbeRunner := fun _ _ _ => pure ()

def demo0 : World :=
  let w := World.init 1 1
  let w := (registerComponent {} w).state
  let w := (registerComponent {} w).state
  (registerComponent { isRel := true } w).state

def demo1 : World :=
  let w := demo0
  let w := (opNewEntity noProbe .unsafe_ [0] [(0, 7)] [] w).state                 -- entity 2
  let w := (opNewEntity noProbe .unsafe_ [0, 1] [(0, 8), (1, 9)] [] w).state      -- entity 3
  let w := (opNewEntity noProbe .unsafe_ [] [] [] w).state                        -- entity 4
  let w := (opNewEntity noProbe .unsafe_ [1] [(1, 3)] [] w).state                 -- entity 5
  let w := (opNewEntity noProbe .unsafe_ [0, 2] [(0, 1)] [⟨2, ⟨4, 0⟩⟩] w).state   -- 6 → target 4
  let w := (opNewEntity noProbe .unsafe_ [0, 2] [(0, 2)] [⟨2, ⟨5, 0⟩⟩] w).state   -- 7 → target 5
  (opNewEntity noProbe .unsafe_ [0, 2] [(0, 3)] [⟨2, ⟨4, 0⟩⟩] w).state            -- 8 → target 4

/-- target 5 dies: table 5 is freed, entity 7 moves to the new table 6 (zero target) -/
def demo2 : World := (opRemoveEntity noProbe ⟨5, 0⟩ demo1).state

/-- a creation with the new target 2 recycles table 5 -/
def demo3 : World := (opNewEntity noProbe .unsafe_ [0, 2] [(0, 4)] [⟨2, ⟨2, 0⟩⟩] demo2).state

/-- what the examples look at, per archetype: columns, active tables, free tables, number of
    relation columns -/
structure ArchRow where
  comps : List Nat
  active : List Nat
  free : List Nat
  numRel : Nat
  deriving DecidableEq, Repr

/-- … and per table: archetype, rows, free?, relation targets (component, target ID) -/
structure TableRow where
  arch : Nat
  len : Nat
  isFree : Bool
  rels : List (Nat × Nat)
  deriving DecidableEq, Repr

structure Summary where
  archs : List ArchRow
  tables : List TableRow
  deriving DecidableEq, Repr

def summary (w : World) : Summary :=
  { archs := w.archetypes.map fun A => ⟨A.comps, A.tables.tables, A.freeTables, A.numRel⟩
    tables := w.tables.map fun T => ⟨T.arch, T.len, T.isFree, T.relIDs.map fun r => (r.comp, r.target.id)⟩ }

/-- the invariant holds in all four concrete worlds (checked by the decidable form) -/
theorem demo_sinv : SInv demo0 ∧ SInv demo1 ∧ SInv demo2 ∧ SInv demo3 :=
  -- one evaluation: `demo1`, `demo2`, `demo3` continue one another
  have ⟨h0, h1, h2, h3⟩ : sinvB demo0 = true ∧ sinvB demo1 = true ∧ sinvB demo2 = true ∧
      sinvB demo3 = true := by decide +kernel
  ⟨sinvB_sound h0, sinvB_sound h1, sinvB_sound h2, sinvB_sound h3⟩

example : summary demo1 =
    ⟨[⟨[], [0], [], 0⟩, ⟨[0], [1], [], 0⟩, ⟨[0, 1], [2], [], 0⟩, ⟨[1], [3], [], 0⟩,
      ⟨[0, 2], [4, 5], [], 1⟩],
     [⟨0, 1, false, []⟩, ⟨1, 1, false, []⟩, ⟨2, 1, false, []⟩, ⟨3, 1, false, []⟩,
      ⟨4, 2, false, [(2, 4)]⟩, ⟨4, 1, false, [(2, 5)]⟩]⟩ := by decide +kernel

/-- after the removal of target 5: table 5 is free (and listed as free by archetype 4, not as
    active), table 6 is new -/
example : summary demo2 =
    ⟨[⟨[], [0], [], 0⟩, ⟨[0], [1], [], 0⟩, ⟨[0, 1], [2], [], 0⟩, ⟨[1], [3], [], 0⟩,
      ⟨[0, 2], [4, 6], [5], 1⟩],
     [⟨0, 1, false, []⟩, ⟨1, 1, false, []⟩, ⟨2, 1, false, []⟩, ⟨3, 0, false, []⟩,
      ⟨4, 2, false, [(2, 4)]⟩, ⟨4, 0, true, [(2, 5)]⟩, ⟨4, 1, false, [(2, 0)]⟩]⟩ := by decide +kernel

/-- after the next creation: table 5 is recycled for target 2 and active again; no table added -/
example : summary demo3 =
    ⟨[⟨[], [0], [], 0⟩, ⟨[0], [1], [], 0⟩, ⟨[0, 1], [2], [], 0⟩, ⟨[1], [3], [], 0⟩,
      ⟨[0, 2], [4, 6, 5], [], 1⟩],
     [⟨0, 1, false, []⟩, ⟨1, 1, false, []⟩, ⟨2, 1, false, []⟩, ⟨3, 0, false, []⟩,
      ⟨4, 2, false, [(2, 4)]⟩, ⟨4, 1, false, [(2, 2)]⟩, ⟨4, 1, false, [(2, 0)]⟩]⟩ := by decide +kernel

/-- the membership facts of `SInv`, concretely -/
example :
    5 ∈ (demo2.arch 4).freeTables ∧ 5 ∉ (demo2.arch 4).tables.tables ∧ (demo2.tbl 5).isFree = true ∧
    5 ∈ (demo3.arch 4).tables.tables ∧ 5 ∉ (demo3.arch 4).freeTables ∧ (demo3.tbl 5).isFree = false ∧
    (demo3.tbl 5).arch = 4 ∧ demo3.tables.length = demo2.tables.length ∧
    (demo1.arch 4).mask = Mask.ofList [0, 2] ∧ (demo1.arch 4).hasRelations = true ∧
    (demo1.arch 2).hasRelations = false := by decide +kernel

theorem registerComponent_state {k : CompKind} {w : World} (h1 : w.kinds.length < w.maxComps)
    (h2 : w.isLocked = false) :
    registerComponent k w = .ok w.kinds.length (registerComponent k w).state := by
  unfold registerComponent
  simp only [ge_iff_le, Nat.not_le.2 h1, if_false, h2, Bool.false_eq_true, Res.state]

/-- the index invariant of the entity-free world `demo0`, by the preservation theorems -/
theorem demo0_idx : IdxInv demo0 :=
  ((IdxInv.init 1 1 256).registerComponent
      (registerComponent_state (by decide +kernel) (by decide +kernel))
    |>.registerComponent (registerComponent_state (by decide +kernel) (by decide +kernel))
    |>.registerComponent (registerComponent_state (by decide +kernel) (by decide +kernel)))

/-- the hypotheses of the total specification are satisfiable: `NewEntity` with components
    `[0, 1]` in `demo0` … -/
example : ∃ (t a : Nat) (w' : World),
    findOrCreateTableAdd 0 Mask.empty [0, 1] [] demo0 = .ok (t, a, Mask.ofList [0, 1]) w' ∧
    FoundOrCreated demo0 w' (Mask.ofList [0, 1]) t a ∧ IdxInv w' ∧
    (∀ (t' : Nat), t' < demo0.tables.length → w'.tables[t']? = demo0.tables[t']?) ∧
    (([0, 1] : List Comp) ≠ [] → (∀ (c : Comp), c ∈ [0, 1] → c < 256) → t ≠ 0) :=
  findOrCreateTableAdd_spec_new demo_sinv.1 demo0_idx (by decide) (by decide +kernel)
    (by decide +kernel)

/-- the result of a `findOrCreateTable*` call: table, archetype, "the mask is `m0`", summary of
    the state reached (`none` = panic) -/
def outcome (m0 : Mask) (r : Res World (Nat × Nat × Mask)) : Option (Nat × Nat × Bool × Summary) :=
  match r with
  | .ok (t, a, m) w' => some (t, a, m == m0, summary w')
  | .panic _ _ => none

/-- … and concretely it returns the new table 1 of the new archetype 1 -/
example :
    outcome (Mask.ofList [0, 1]) (findOrCreateTableAdd 0 Mask.empty [0, 1] [] demo0) =
      some (1, 1, true,
        ⟨[⟨[], [0], [], 0⟩, ⟨[0, 1], [1], [], 0⟩], [⟨0, 0, false, []⟩, ⟨1, 0, false, []⟩]⟩) := by
  decide +kernel

/-- `Add` of component 1 to an entity of table 1 (archetype `{0}`) in `demo1` finds the existing
    table 2 of archetype `{0, 1}` and changes nothing -/
example :
    outcome (Mask.ofList [0, 1]) (findOrCreateTableAdd 1 (Mask.ofList [0]) [1] [] demo1) =
      some (2, 2, true, summary demo1) := by
  decide +kernel

/-- the rejection, concretely: component 0 is already in the mask of table 1 -/
example : findOrCreateTableAdd 1 (Mask.ofList [0]) [1, 0] [] demo1 = .panic .alreadyHas demo1 :=
  findOrCreateTableAdd_rejects 1 (Mask.ofList [0]) [1] 0 [] [] demo1 (by decide +kernel)

/-! ## 7. a recorded finding, repaired: the same relation component listed twice (defect D18)

This was defect D18 of the Go library, found by proof.  The unrepaired `createTable` only checked
`len(relations) ≥ numRelations`; it wrote `targets[idx]` per relation (the last one won) but
stored the WHOLE list as the table's `relationIDs`.  So a relation list naming one relation
component twice was accepted, `relIDs.length > numRel`, and once the overwritten target died an
unrelated `Add` on such an entity was rejected with `deadTarget`, because `findOrCreateTableAdd`
handed the stale pair back to `createTable`
(`Unsafe.NewEntityRel(ids, RelID(c, p1), RelID(c, p2)); RemoveEntity(p1); Unsafe.Add(e, pos)`
panicked "can't use a dead entity as relation target").

The repair (`var seen bitMask` in the first loop of `createTable`; `checkRelList` in the model)
REJECTS such a list with "relation component %d specified more than once" (`.relTwice`):
`createTable_rels_nodup`, `createTable_rejects_twice` above.  What the model says about the
history of the finding, exactly: the `NewEntity` panics `.relTwice`; `createTable` itself leaves
the state as it found it, but `findOrCreateTable` has already created the archetype `{0}` (Go:
`createArchetype` runs before `createTable`), which stays behind WITHOUT a table — as after every
other panic of `createTable` (e.g. `deadTarget`).  Tables, entity index, pool, cache and lock are
untouched, `SInv` holds, and a later well-formed creation uses the archetype. -/

/-- two entities (2, 3), relation component 0 and ordinary component 1 registered -/
def dupPre : World :=
  let w := World.init 1 1
  let w := (registerComponent { isRel := true } w).state
  let w := (registerComponent {} w).state
  let w := (opNewEntity0 noProbe w).state                                              -- entity 2
  (opNewEntity0 noProbe w).state                                                       -- entity 3

/-- the history of the finding: `NewEntity` naming relation component 0 twice (targets 2, 3) -/
def dupTry : Res World Ent :=
  opNewEntity noProbe .unsafe_ [0] [] [⟨0, ⟨2, 0⟩⟩, ⟨0, ⟨3, 0⟩⟩] dupPre

/-- the world the rejected call leaves behind -/
def dup0 : World := dupTry.state

/-- a well-formed creation afterwards (entity 4 with relation 0 → 3) -/
def dup1 : World := (opNewEntity noProbe .unsafe_ [0] [] [⟨0, ⟨3, 0⟩⟩] dup0).state

def panicOf {α : Type} (r : Res World α) : Option PanicKind :=
  match r with
  | .ok _ _ => none
  | .panic k _ => some k

/-- **the history of D18 is rejected**: `relTwice`; no entity, no table was created; the
    archetype `{0}` created on the way stays, without tables -/
example :
    panicOf dupTry = some .relTwice ∧
    summary dupPre = ⟨[⟨[], [0], [], 0⟩], [⟨0, 2, false, []⟩]⟩ ∧
    summary dup0 = ⟨[⟨[], [0], [], 0⟩, ⟨[0], [], [], 1⟩], [⟨0, 2, false, []⟩]⟩ ∧
    dup0.tables = dupPre.tables ∧ dup0.entities = dupPre.entities ∧ dup0.pool = dupPre.pool ∧
    dup0.cache = dupPre.cache ∧ dup0.isLocked = false ∧
    dup0.alive ⟨2, 0⟩ = true ∧ dup0.alive ⟨3, 0⟩ = true ∧ dup0.alive ⟨4, 0⟩ = false := by
  decide +kernel

/-- the rejection at the level of `createTable` (archetype 1 = `{0}` of `dup0`): state unchanged;
    the same for a triple whose repetition is not adjacent; a list naming a non-column FIRST is
    the runtime panic as before; too short a list is `relUnspecified` as before -/
example :
    createTable 1 [⟨0, ⟨2, 0⟩⟩, ⟨0, ⟨3, 0⟩⟩] dup0 = .panic .relTwice dup0 ∧
    createTable 1 [⟨0, ⟨2, 0⟩⟩, ⟨0, ⟨2, 0⟩⟩] dup0 = .panic .relTwice dup0 ∧
    createTable 1 [⟨1, ⟨2, 0⟩⟩, ⟨0, ⟨2, 0⟩⟩, ⟨0, ⟨3, 0⟩⟩] dup0 = .panic .runtime dup0 ∧
    createTable 1 [⟨0, ⟨2, 0⟩⟩, ⟨1, ⟨2, 0⟩⟩, ⟨0, ⟨3, 0⟩⟩] dup0 = .panic .runtime dup0 ∧
    createTable 1 [] dup0 = .panic .relUnspecified dup0 :=
  ⟨createTable_of_check (by decide +kernel) (by decide +kernel),
   createTable_of_check (by decide +kernel) (by decide +kernel),
   createTable_of_check (by decide +kernel) (by decide +kernel),
   createTable_of_check (by decide +kernel) (by decide +kernel),
   createTable_of_short (by decide +kernel)⟩

/-- afterwards a well-formed creation is accepted and settles in the archetype left behind;
    removing the target and an unrelated `Add` then work (the `deadTarget` of D18 is gone) -/
example :
    panicOf (opNewEntity noProbe .unsafe_ [0] [] [⟨0, ⟨3, 0⟩⟩] dup0) = none ∧
    summary dup1 = ⟨[⟨[], [0], [], 0⟩, ⟨[0], [1], [], 1⟩],
      [⟨0, 2, false, []⟩, ⟨1, 1, false, [(0, 3)]⟩]⟩ ∧
    (dup1.arch 1).numRel = 1 ∧ (dup1.tbl 1).getRelation 0 = ⟨3, 0⟩ ∧
    panicOf (opRemoveEntity noProbe ⟨2, 0⟩ dup1) = none ∧
    panicOf (opAdd noProbe .unsafe_ ⟨4, 0⟩ [1] [] []
      (opRemoveEntity noProbe ⟨2, 0⟩ dup1).state) = none := by
  decide +kernel

/-- the structural invariant is not affected -/
example : SInv dup0 ∧ SInv dup1 :=
  -- decided together: `dup1` continues `dup0`
  have ⟨h0, h1⟩ : sinvB dup0 = true ∧ sinvB dup1 = true := by decide +kernel
  ⟨sinvB_sound h0, sinvB_sound h1⟩

end Ark.Props.C01Struct
