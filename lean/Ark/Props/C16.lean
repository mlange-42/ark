import Ark.Proofs.GenBridge.ObsReset
import Ark.Props.C02
import Ark.Props.C08
import Ark.Proofs.Rejects
import Ark.Props.C16World
import Ark.Proofs.GenBridge.BookPool
import Ark.Proofs.GenBridge.BookArchetype
import Ark.Proofs.GenBridge.BookCache
import Ark.Props.C16Hist
import Ark.Props.C16Register
import Ark.Props.C16Rel

namespace Ark.Props.C16
open Ark

/-! C16 — Reset returns the world to a reusable empty state (pool, observers, lock). -/

/-- the observer-reset loop bound of the model IS the regenerated one -/
theorem observer_reset_loop_as_in_source : type_of% @GenBridge.observerReset_bound_eq := @GenBridge.observerReset_bound_eq

/-- the loop visits every event type up to the highest registered one, for all 256 event types (repaired defect D6) -/
theorem observer_reset_covers_all_events : type_of% @GenBridge.observerReset_covers := @GenBridge.observerReset_covers

/-- no handle of the previous epoch is alive after Reset (repaired defect D14) -/
theorem reset_kills_old_handles : type_of% @Ark.Props.C02.reset_kills := @Ark.Props.C02.reset_kills

/-- Reset on a locked world panics without effect -/
theorem reset_locked : type_of% @World.opReset_locked := @World.opReset_locked

/-- after `Reset` the pool is the initial pool again: same handles will be issued as by a new world -/
theorem pool_reset_core (p : Pool) (h2 : p.ents.take 2 = Pool.init.ents) :
    p.reset.ents = Pool.init.ents ∧ p.reset.next = Pool.init.next ∧ p.reset.available = Pool.init.available := by
  simp [Pool.reset, Pool.reserved, h2, Pool.init]

/-- the lock is clear after `Reset` -/
theorem lock_reset (l : Lock) : l.reset.isLocked = false := by
  simp [Lock.reset, Lock.isLocked]


/-! ## world level (Props/C16World): `Reset` as a pure function, the empty state it establishes, the
    invariants it re-establishes (so that it can be iterated), agreement with a new world on everything
    later operations read first, and three recorded facts about IDs that survive a `Reset` -/

theorem world_reset_succeeds : type_of% @Ark.Props.C16World.reset_succeeds := @Ark.Props.C16World.reset_succeeds

theorem world_reset_archetypes : type_of% @Ark.Props.C16World.reset_archetypes := @Ark.Props.C16World.reset_archetypes

theorem world_reset_tables : type_of% @Ark.Props.C16World.reset_tables := @Ark.Props.C16World.reset_tables

theorem world_reset_establishes : type_of% @Ark.Props.C16World.reset_establishes := @Ark.Props.C16World.reset_establishes

theorem world_reset_emptyState : type_of% @Ark.Props.C16World.reset_emptyState := @Ark.Props.C16World.reset_emptyState

theorem world_reset_sinv : type_of% @Ark.Props.C16World.reset_sinv := @Ark.Props.C16World.reset_sinv

theorem world_reset_idxInv : type_of% @Ark.Props.C16World.reset_idxInv := @Ark.Props.C16World.reset_idxInv

theorem world_reset_rinv : type_of% @Ark.Props.C16World.reset_rinv := @Ark.Props.C16World.reset_rinv

theorem world_reset_kills_old_handles : type_of% @Ark.Props.C16World.reset_kills_old_handles := @Ark.Props.C16World.reset_kills_old_handles

theorem world_reset_hyps_init : type_of% @Ark.Props.C16World.reset_hyps_init := @Ark.Props.C16World.reset_hyps_init

theorem world_reset_twice : type_of% @Ark.Props.C16World.reset_twice := @Ark.Props.C16World.reset_twice

theorem world_observers_reset_clears : type_of% @Ark.Props.C16World.observers_reset_clears := @Ark.Props.C16World.observers_reset_clears

theorem world_obsBound_addObserver : type_of% @Ark.Props.C16World.obsBound_addObserver := @Ark.Props.C16World.obsBound_addObserver

theorem world_obsBound_removeObserver : type_of% @Ark.Props.C16World.obsBound_removeObserver := @Ark.Props.C16World.obsBound_removeObserver

theorem world_emptyState_like_fresh : type_of% @Ark.Props.C16World.emptyState_like_fresh := @Ark.Props.C16World.emptyState_like_fresh

theorem world_reset_like_fresh : type_of% @Ark.Props.C16World.reset_like_fresh := @Ark.Props.C16World.reset_like_fresh

theorem world_empty_world_queries_count_zero : type_of% @Ark.Props.C16World.empty_world_queries_count_zero := @Ark.Props.C16World.empty_world_queries_count_zero

theorem world_empty_world_queries_visit_nothing : type_of% @Ark.Props.C16World.empty_world_queries_visit_nothing := @Ark.Props.C16World.empty_world_queries_visit_nothing

theorem world_reset_winv : type_of% @Ark.Props.C16World.reset_winv := @Ark.Props.C16World.reset_winv

theorem world_reset_keeps_cache_id_pool : type_of% @Ark.Props.C16World.reset_keeps_cache_id_pool := @Ark.Props.C16World.reset_keeps_cache_id_pool

theorem world_reset_keeps_observer_id_pool : type_of% @Ark.Props.C16World.reset_keeps_observer_id_pool := @Ark.Props.C16World.reset_keeps_observer_id_pool

theorem world_failed_register_keeps_no_id : type_of% @Ark.Props.C16World.failed_register_keeps_no_id := @Ark.Props.C16World.failed_register_keeps_no_id



/-! ### The code itself: the relation-index bookkeeping of archetype.go, translated statement by statement on every run -/

/-- `archetype.FreeAllTables` as in the source = the model's `freeAllTables`: every per-column lookup and the per-target lookup are emptied -/
theorem src_freeAllTables : type_of% @Ark.GenBridge.Book.freeAllTables_eq := @Ark.GenBridge.Book.freeAllTables_eq
/-- … and exactly the archetype's active tables are marked free in the table store -/
theorem src_freeAllTables_storage : type_of% @Ark.GenBridge.Book.freeAllTables_storage := @Ark.GenBridge.Book.freeAllTables_storage
/-- what marking a list of tables free does to the table store -/
theorem src_markFree : type_of% @Ark.GenBridge.Book.markFree_fold := @Ark.GenBridge.Book.markFree_fold

/-! ### The code itself: `bitPool` of pool.go (the lock bits), translated statement by statement on every run -/

/-- `bitPool.Get`/`getNew` as in the source = the model's `BitPool.get` (panic at 64 bits) -/
theorem src_bitPool_get' : type_of% @Ark.GenBridge.Book.bitPool_get_eq := @Ark.GenBridge.Book.bitPool_get_eq
/-- `bitPool.Recycle` as in the source = the model's -/
theorem src_bitPool_recycle' : type_of% @Ark.GenBridge.Book.bitPool_recycle_eq := @Ark.GenBridge.Book.bitPool_recycle_eq
/-- `bitPool.Reset` as in the source = the model's (all three counters cleared) -/
theorem src_bitPool_reset : type_of% @Ark.GenBridge.Book.bitPool_reset_eq := @Ark.GenBridge.Book.bitPool_reset_eq
/-- `intPool.Reset` (cache and observer IDs) as in the source = the model's -/
theorem src_intPool_reset : type_of% @Ark.GenBridge.Book.intPool_reset_eq := @Ark.GenBridge.Book.intPool_reset_eq
/-- `entityPool.Reset` as in the source: slice truncated to the reserved entries, free list emptied -/
theorem src_pool_reset' : type_of% @Ark.GenBridge.Book.entityPool_reset_eq := @Ark.GenBridge.Book.entityPool_reset_eq


/-! ### The code itself: the bookkeeping of cache.go, translated statement by statement on every run -/

/-- `cache.Reset` as in the source = the model's: nothing to do when no filter is registered, otherwise entries, index map and ID pool are dropped -/
theorem src_cache_reset : type_of% @Ark.GenBridge.Book.cache_reset_eq := @Ark.GenBridge.Book.cache_reset_eq


/-! ### After Reset every history has the same outcome as on a new world (Props/C16Hist, C16Register) -/

/-- **C16, second sentence**: for every history `pre` and every later history `post` (registrations and further resets anywhere; `pre.length + 1 + post.length < 2^32 − 2`), running `post` after `pre ++ [reset]` and after the registrations of `pre` alone on a NEW world (any capacities) give the same trace: the same expressibility, accept/reject decision, panic class and returned handle for every operation -/
theorem hist_same_trace : type_of% @Ark.Props.C16Hist.same_trace := @Ark.Props.C16Hist.same_trace

/-- … and the two machine states are in simulation after every prefix of `post` (equal specification, issued handles, registry, pool core) -/
theorem hist_same_state_after_every_prefix : type_of% @Ark.Props.C16Hist.same_state_after_every_prefix := @Ark.Props.C16Hist.same_state_after_every_prefix

/-- … hence the two model worlds agree on the free list, the next handle, `compsOf`/`valOf` of every ID and `alive` of every issued handle -/
theorem hist_same_worlds : type_of% @Ark.Props.C16Hist.same_worlds := @Ark.Props.C16Hist.same_worlds

/-- … and queries (uncached or through a cache entry registered on both sides) visit the same set of entities with the same values -/
theorem hist_same_cached_queries : type_of% @Ark.Props.C16Hist.same_cached_queries := @Ark.Props.C16Hist.same_cached_queries

/-- the outcome of a call (returned handle or panic class) is a function of the specification and the next pool handle -/
theorem hist_outcome_from_spec : type_of% @Ark.Props.C16Hist.outcome_from_spec := @Ark.Props.C16Hist.outcome_from_spec

/-- the simulation relation is preserved by every step -/
theorem hist_sim_is_a_simulation : type_of% @Ark.Props.C16Hist.sim_is_a_simulation := @Ark.Props.C16Hist.sim_is_a_simulation

/-- finding: on a forged handle with generation `MaxUint32` the two worlds may answer `Alive` differently (no issued handle has that generation) -/
theorem hist_forged_sentinel_handle_differs : type_of% @Ark.Props.C16Hist.forged_sentinel_handle_differs := @Ark.Props.C16Hist.forged_sentinel_handle_differs

/-- after Reset every filter object is unregistered and can be registered again (full model, with relations) -/
theorem rereg_filters_can_be_registered_again : type_of% @Ark.Props.C16Register.filters_can_be_registered_again := @Ark.Props.C16Register.filters_can_be_registered_again

/-- after Reset every observer object is unregistered and registers again exactly when it passed the checks before -/
theorem rereg_observers_can_be_registered_again : type_of% @Ark.Props.C16Register.observers_can_be_registered_again := @Ark.Props.C16Register.observers_can_be_registered_again

/-- finding (model level): a filter whose first relation names a non-column of a kept relation archetype panics before and after Reset but not on a new world; not constructible through the typed API -/
theorem rereg_bogus_relation_filter : type_of% @Ark.Props.C16Register.bogus_relation_filter := @Ark.Props.C16Register.bogus_relation_filter


/-! ### Reset ≡ new world for the relation machines (Props/C16Rel) -/

/-- **C16, second sentence, with relation components**: for every `pre`, `post` (together < 2^16 operations of the relation machine: new/add/remove/set-relations/set/remove-entity/copy/shrink/reset/filter definition, registration, un-registration/queries with fixed and per-call targets) the trace of `post` after `pre ++ [reset]` and after the registrations of `pre` on a NEW world of any capacities are equal output by output — returned handle or panic class; the visits of a query (entity, every value, every relation target) as a permutation -/
theorem relhist_same_trace : type_of% @Ark.Props.C16Rel.same_trace := @Ark.Props.C16Rel.same_trace

/-- … and after every prefix of `post` the two machine states are in simulation: equal specification, issued handles, registry, pool core, filter objects up to the cache ID; nothing is said about tables, table IDs, capacities or the cache -/
theorem relhist_same_state_after_every_prefix : type_of% @Ark.Props.C16Rel.same_state_after_every_prefix := @Ark.Props.C16Rel.same_state_after_every_prefix

/-- one step keeps the simulation, with equal outputs -/
theorem relhist_same_step : type_of% @Ark.Props.C16Rel.same_step := @Ark.Props.C16Rel.same_step

/-- the simulation holds right after the reset -/
theorem relhist_related_after_reset : type_of% @Ark.Props.C16Rel.related_after_reset := @Ark.Props.C16Rel.related_after_reset

/-- hence the two worlds agree on the components, values and relation targets of every entity ID, on `alive` of every issued handle and on the next handle -/
theorem relhist_same_worlds : type_of% @Ark.Props.C16Rel.same_worlds := @Ark.Props.C16Rel.same_worlds

/-- the same query on two worlds in simulation is rejected with the same class or visits the same records up to order -/
theorem relhist_same_query : type_of% @Ark.Props.C16Rel.same_query := @Ark.Props.C16Rel.same_query

/-- the outcome of a call (returned handle or panic class, in closed form) is a function of the specification and the next pool handle -/
theorem relhist_outcome_from_spec : type_of% @Ark.Props.C16Rel.outcome_from_spec := @Ark.Props.C16Rel.outcome_from_spec

/-- the same with `Exchange` (machine of C01Xchg) -/
theorem relhist_same_trace3 : type_of% @Ark.Props.C16Rel.same_trace3 := @Ark.Props.C16Rel.same_trace3

/-- … simulation after every prefix, with `Exchange` -/
theorem relhist_same_state3 : type_of% @Ark.Props.C16Rel.same_state3 := @Ark.Props.C16Rel.same_state3

/-- … agreement of the worlds, with `Exchange` -/
theorem relhist_same_worlds3 : type_of% @Ark.Props.C16Rel.same_worlds3 := @Ark.Props.C16Rel.same_worlds3

/-- the outcome of `Exchange` from the specification -/
theorem relhist_xchg_outcome_from_spec : type_of% @Ark.Props.C16Rel.xchg_outcome_from_spec := @Ark.Props.C16Rel.xchg_outcome_from_spec

/-- non-vacuity: in the demo the reset world and the new world place the same entities in different tables (LIFO recycling of freed tables) -/
theorem relhist_demo_tables_differ : type_of% @Ark.Props.C16Rel.demo_tables_differ := @Ark.Props.C16Rel.demo_tables_differ

/-- non-vacuity: the two demo traces of 24 operations differ as lists (archetype order of a query) and satisfy the trace equivalence -/
theorem relhist_demo_traces_equiv : type_of% @Ark.Props.C16Rel.demo_traces_equiv := @Ark.Props.C16Rel.demo_traces_equiv

/-- finding: a forged handle with generation `MaxUint32` as relation target of a query is accepted in the reset world and rejected on a new one (no issued handle has that generation) -/
theorem relhist_forged_sentinel_target_differs : type_of% @Ark.Props.C16Rel.forged_sentinel_target_differs := @Ark.Props.C16Rel.forged_sentinel_target_differs

/-- finding: the boolean result of `Shrink` depends on capacities, which persist over `Reset`; it is not part of the trace -/
theorem relhist_shrink_result_differs : type_of% @Ark.Props.C16Rel.shrink_result_differs := @Ark.Props.C16Rel.shrink_result_differs


end Ark.Props.C16
