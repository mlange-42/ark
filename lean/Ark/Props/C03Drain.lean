import Ark.Proofs.Drain

namespace Ark.Props.C03Drain
open Ark Ark.World Ark.Drain

/-! C03 — a query visits each matching entity exactly once; `Count` equals the number of
    entities visited; `EntityAt(i)` is the `i`-th visited entity (iteration part).

    Vocabulary (all in `Ark.Proofs.Drain`):
    * `rowsOf w t` — the rows `(t,0) … (t,len-1)` of table `t`;
    * `expected w q` — the rows of the tables selected by the counting walk `qSelected`
      (the walk behind `Count`/`EntityAt`), in walk order; `none` = Go runtime panic;
    * `Fresh q` — the cursor fields of a freshly opened query;
    * `qNextPure` — `Query.Next` without the final `Close`; `drainPure` iterates it and records
      `(table,row)` after every successful step; `drainPureAux` also returns the final cursor and
      whether the end (`false`) was reported;
    * `closed q` — the cursor after `Close`;
    * `Frame q q'` — `q'` has the filter, relations, cache list, archetype list and lock bit of `q`. -/

/-- the drain, full form: from a freshly opened query on an unchanged world, if the counting
    walk selects `ts` (no runtime panic), `Next` yields exactly the rows of `ts`, in order — empty
    tables contribute nothing — and then reports `false`.  Any fuel above the number of rows
    suffices (in particular the fuels inside `nextTable`/`nextArchetype` always suffice). -/
theorem drain_rows_full (w : World) (q : QueryObj) (ts : List Nat) (fuel : Nat) (hf : Fresh q)
    (hsel : qSelected w q = some ts) (hfuel : (ts.flatMap (rowsOf w)).length < fuel) :
    ∃ qf, drainPureAux w q fuel = some (qf, true, ts.flatMap (rowsOf w)) ∧ Frame q qf ∧
      -1 ≤ qf.table :=
  drainAux_of_remaining w _ q fuel hf.inv (remaining_fresh w q ts hf hsel) hfuel

theorem drain_rows_of_fuel (w : World) (q : QueryObj) (ts : List Nat) (fuel : Nat) (hf : Fresh q)
    (hsel : qSelected w q = some ts) (hfuel : (ts.flatMap (rowsOf w)).length < fuel) :
    drainPure w q fuel = expected w q := by
  obtain ⟨qf, h, _⟩ := drain_rows_full w q ts fuel hf hsel hfuel
  simp [drainPure, expected, h, hsel]

/-- `drain_rows_of_fuel` with the model's fuel: needs the selected tables to be pairwise distinct
    (without that hypothesis the statement is false, see `drainFuel_counterexample`). -/
theorem drain_rows_partial (w : World) (q : QueryObj) (ts : List Nat) (fuel : Nat) (hf : Fresh q)
    (hsel : qSelected w q = some ts) (hnd : ts.Nodup) (hfuel : drainFuel w ≤ fuel) :
    drainPure w q fuel = expected w q :=
  drain_rows_of_fuel w q ts fuel hf hsel (Nat.lt_of_lt_of_le (rows_lt_drainFuel w ts hnd) hfuel)

/-- `Count` equals the number of rows visited -/
theorem count_eq_visits (w : World) (q : QueryObj) (n : Nat) (h : qCount w q = some n) :
    ∃ rows, expected w q = some rows ∧ rows.length = n :=
  Drain.count_eq_visits w q n h

/-- `EntityAt(i)` is the entity stored at the `i`-th visited row; beyond the last row it is the
    out-of-bounds panic (`some none`) -/
theorem entityAt_eq_visit (w : World) (q : QueryObj) (rows : List (Nat × Nat)) (i : Nat)
    (hrows : expected w q = some rows) :
    (∀ (h : i < rows.length),
        qEntityAt w q i = some (some ((w.tbl rows[i].1).getEntity rows[i].2))) ∧
    (rows.length ≤ i → qEntityAt w q i = some none) :=
  Drain.entityAt_eq_visit w q rows i hrows

/-- the model's `drainFrom` on a world where the query's lock bit is held: visits exactly the
    expected rows, reports the entities stored there, closes the query; only the lock changes -/
theorem drainFrom_rows (w : World) (q : QueryObj) (ts : List Nat) (l' : Lock)
    (hf : Fresh q) (hsel : qSelected w q = some ts) (hnd : ts.Nodup)
    (hl : w.locks.unlock q.lockBit = some l') :
    ∃ qf visits, drainFrom q (drainFuel w) w = .ok (closed qf, visits) { w with locks := l' } ∧
      Frame q qf ∧
      visits.map (fun v => (v.table, v.row)) = ts.flatMap (rowsOf w) ∧
      visits.map (·.e) = (ts.flatMap (rowsOf w)).map (fun p => (w.tbl p.1).getEntity p.2) :=
  drainFrom_of_remaining w l' _ q _ hf.inv (remaining_fresh w q ts hf hsel)
    (rows_lt_drainFuel w ts hnd) hl

/-- the same for any fuel above the number of rows, without the distinctness hypothesis -/
theorem drainFrom_rows_of_fuel (w : World) (q : QueryObj) (ts : List Nat) (l' : Lock) (fuel : Nat)
    (hf : Fresh q) (hsel : qSelected w q = some ts)
    (hl : w.locks.unlock q.lockBit = some l')
    (hfuel : (ts.flatMap (rowsOf w)).length < fuel) :
    ∃ qf visits, drainFrom q fuel w = .ok (closed qf, visits) { w with locks := l' } ∧
      Frame q qf ∧
      visits.map (fun v => (v.table, v.row)) = ts.flatMap (rowsOf w) ∧
      visits.map (·.e) = (ts.flatMap (rowsOf w)).map (fun p => (w.tbl p.1).getEntity p.2) :=
  drainFrom_of_remaining w l' _ q fuel hf.inv (remaining_fresh w q ts hf hsel) hfuel hl

/-- a query delivered by `qOpen` is fresh -/
theorem qOpen_fresh (fo : FilterObj) (extra : List RelID) (w w1 : World) (q : QueryObj)
    (h : qOpen fo extra w = .ok q w1) : Fresh q :=
  Drain.qOpen_fresh fo extra w w1 q h

/-- the complete operation `drain` (open, iterate, close) -/
theorem drain_rows_monadic (fo : FilterObj) (extra : List RelID) (w w1 : World) (q : QueryObj)
    (ts : List Nat) (l' : Lock) (ho : qOpen fo extra w = .ok q w1)
    (hsel : qSelected w1 q = some ts) (hnd : ts.Nodup)
    (hl : w1.locks.unlock q.lockBit = some l') :
    ∃ visits, drain fo extra w = .ok visits { w1 with locks := l' } ∧
      visits.map (fun v => (v.table, v.row)) = ts.flatMap (rowsOf w1) ∧
      visits.map (·.e) = (ts.flatMap (rowsOf w1)).map (fun p => (w1.tbl p.1).getEntity p.2) :=
  Drain.drain_rows_monadic fo extra w w1 q ts l' ho hsel hnd hl

/-- every row exactly once: pairwise distinct selected tables give pairwise distinct visits -/
theorem visits_nodup (w : World) (q : QueryObj) (ts : List Nat) (hf : Fresh q)
    (hsel : qSelected w q = some ts) (hnd : ts.Nodup) :
    ∃ rows, drainPure w q (drainFuel w) = some rows ∧ expected w q = some rows ∧ rows.Nodup := by
  refine ⟨ts.flatMap (rowsOf w), ?_, by simp [expected, hsel], Drain.rows_nodup w ts hnd⟩
  rw [drain_rows_partial w q ts _ hf hsel hnd (Nat.le_refl _)]
  simp [expected, hsel]

/-! ## Non-vacuity: a concrete world built with the model's operations -/

/-- components 0, 1 (plain), 2 (relation); two parents in table 0; two entities with `[0]`
    (table 1); one entity with `[0,1]` created and removed (table 2 stays, empty); three entities
    with `[0,2]`, targets `p1`, `p2`, `p1` (tables 3 and 4 of the relation archetype) -/
def build : W Unit := do
  let _ ← registerComponent {}
  let _ ← registerComponent {}
  let _ ← registerComponent { isRel := true }
  let p1 ← opNewEntity0 probe
  let p2 ← opNewEntity0 probe
  let _ ← opNewEntity probe .typed [0] [] []
  let _ ← opNewEntity probe .typed [0] [] []
  let e3 ← opNewEntity probe .typed [0, 1] [] []
  opRemoveEntity probe e3
  let _ ← opNewEntity probe .typed [0, 2] [] [⟨2, p1⟩]
  let _ ← opNewEntity probe .typed [0, 2] [] [⟨2, p2⟩]
  let _ ← opNewEntity probe .typed [0, 2] [] [⟨2, p1⟩]

def wDemo : World := (build (World.init 2 2)).state

/-- filter "has component 0" -/
def foA : FilterObj := { filter := { mask := Mask.ofList [0] }, ids := [0] }
/-- filter "has components 0 and 2" (queried with relation target `p1 = ⟨2,0⟩`) -/
def foB : FilterObj := { filter := { mask := Mask.ofList [0, 2] }, ids := [0, 2] }

/-- run a check on the opened query and the locked world -/
def onOpen (fo : FilterObj) (extra : List RelID) (w : World) (f : QueryObj → World → Bool) : Bool :=
  match qOpen fo extra w with
  | .ok q w1 => f q w1
  | .panic _ _ => false

example :
    wDemo.tables.map (·.len) = [2, 2, 0, 2, 1] ∧
    wDemo.archetypes.map (·.tables.tables) = [[0], [1], [2], [3, 4]] := by
  decide +kernel

/-- uncached query over all tables with component 0: the walk selects tables 1, 2, 3, 4; the
    drain visits the rows of 1, 3, 4, skips the empty table 2; `Count` = 5 = number of visits;
    `EntityAt` agrees with the visit order and panics out of bounds at 5 -/
example : onOpen foA [] wDemo (fun q w =>
    qSelected w q == some [1, 2, 3, 4] &&
    drainPure w q (drainFuel w) == some [(1, 0), (1, 1), (3, 0), (3, 1), (4, 0)] &&
    expected w q == some [(1, 0), (1, 1), (3, 0), (3, 1), (4, 0)] &&
    qCount w q == some 5 &&
    (List.range 6).map (qEntityAt w q) ==
      [some (some ⟨4, 0⟩), some (some ⟨5, 0⟩), some (some ⟨6, 1⟩), some (some ⟨8, 0⟩),
       some (some ⟨7, 0⟩), some none] &&
    (match drainFrom q (drainFuel w) w with
     | .ok (_, vs) w' =>
       vs.map (fun v => (v.e, v.table, v.row)) ==
         [(⟨4, 0⟩, 1, 0), (⟨5, 0⟩, 1, 1), (⟨6, 1⟩, 3, 0), (⟨8, 0⟩, 3, 1), (⟨7, 0⟩, 4, 0)] &&
       !w'.isLocked && w.isLocked
     | .panic _ _ => false)) = true := by
  decide +kernel

/-- relation query (target `p1`): only table 3 of the relation archetype -/
example : onOpen foB [⟨2, ⟨2, 0⟩⟩] wDemo (fun q w =>
    qSelected w q == some [3] &&
    drainPure w q (drainFuel w) == some [(3, 0), (3, 1)] &&
    qCount w q == some 2 &&
    qEntityAt w q 1 == some (some ⟨8, 0⟩) && qEntityAt w q 2 == some none) = true := by
  decide +kernel

/-- cached query: register the filter of `foA`, then query through the cache entry -/
example :
    (match cacheRegister foA.filter [] wDemo with
     | .ok id w => onOpen { foA with cache := some id } [] w (fun q w =>
        q.cacheTables == some [1, 2, 3, 4] &&
        qSelected w q == some [1, 3, 4] &&
        drainPure w q (drainFuel w) == some [(1, 0), (1, 1), (3, 0), (3, 1), (4, 0)] &&
        qCount w q == some 5 && qEntityAt w q 4 == some (some ⟨7, 0⟩))
     | .panic _ _ => false) = true := by
  decide +kernel

/-- Why `drain_rows_partial` needs more than `fuel ≥ drainFuel w`: on a (non-reachable) cursor whose
    cached table list repeats table 1 ten times, the expected rows are 20 while `drainFuel w = 18`;
    the drain with that fuel stops early.  With fuel 21 it is complete (`drain_rows_of_fuel`). -/
def qRep : QueryObj :=
  { filter := {}, rels := [], cacheTables := some (List.replicate 10 1), rare := none, lockBit := 0 }

theorem drainFuel_counterexample :
    Fresh qRep ∧ drainFuel wDemo = 18 ∧
    (expected wDemo qRep).map (·.length) = some 20 ∧
    (drainPure wDemo qRep (drainFuel wDemo)).map (·.length) = some 18 ∧
    drainPure wDemo qRep (drainFuel wDemo) ≠ expected wDemo qRep ∧
    drainPure wDemo qRep 21 = expected wDemo qRep := by
  refine ⟨⟨rfl, rfl, rfl, rfl, rfl, rfl⟩, ?_⟩
  decide +kernel

end Ark.Props.C03Drain
