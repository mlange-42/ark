import Ark.Proofs.GenBridge.Filter
import Ark.Proofs.MaskLemmas
import Ark.Proofs.ArchIndex
import Ark.Props.C03Drain
import Ark.Props.C20Words
import Ark.Proofs.GenBridge.BookArchetype
import Ark.Props.C03Exact
import Ark.Props.C03Rel

namespace Ark.Props.C03
open Ark

/-! C03 — queries return exactly the matching entities (selection logic). -/

/-- the filter test of the model IS the regenerated `filter.matches` of the Go source, for all masks -/
theorem filter_matches_as_in_source : type_of% @GenBridge.filter_matches_eq := @GenBridge.filter_matches_eq

/-- set-level meaning of the filter test: every required component present, no excluded component present -/
theorem filter_matches_setlevel : type_of% @Filter.matchesMask_iff := @Filter.matchesMask_iff

/-- an exclusive filter matches exactly the component set of the filter -/
theorem exclusive_matches_exactly : type_of% @Filter.exclusive_matches_iff := @Filter.exclusive_matches_iff

/-- the per-target table lookup returns exactly the active tables with that target, without duplicates -/
theorem relation_lookup_complete : type_of% @Archetype.IndexInv.getTables_complete := @Archetype.IndexInv.getTables_complete

/-- without relation targets (or relations) the lookup returns all active tables, without duplicates -/
theorem relation_lookup_all : type_of% @Archetype.IndexInv.getTables_all := @Archetype.IndexInv.getTables_all


/-! ### The cursor machine: iterating a freshly opened query visits exactly the rows of the selected
    tables, in order, once; Count and EntityAt agree with the iteration. -/

/-- the cursor visits exactly the rows of the tables the counting walk selects (cached and uncached queries) -/
theorem drain_visits_selected_rows : type_of% @Ark.Props.C03Drain.drain_rows_partial := @Ark.Props.C03Drain.drain_rows_partial

/-- Count equals the number of rows visited -/
theorem count_eq_visits : type_of% @Ark.Props.C03Drain.count_eq_visits := @Ark.Props.C03Drain.count_eq_visits

/-- EntityAt(i) is the i-th visited entity; beyond Count it is the out-of-bounds panic -/
theorem entityAt_eq_visit : type_of% @Ark.Props.C03Drain.entityAt_eq_visit := @Ark.Props.C03Drain.entityAt_eq_visit

/-- every row is visited exactly once when the selected tables are duplicate-free -/
theorem visits_nodup : type_of% @Ark.Props.C03Drain.visits_nodup := @Ark.Props.C03Drain.visits_nodup

/-- a complete iteration returns these visits and only releases its lock bit -/
theorem drain_closes_and_unlocks : type_of% @Ark.Props.C03Drain.drain_rows_monadic := @Ark.Props.C03Drain.drain_rows_monadic


/-! ## the mask tests `filter.matches` relies on, as the word-level Go code computes them -/

theorem words_mask256_contains : type_of% @Ark.Props.C20Words.mask256_contains := @Ark.Props.C20Words.mask256_contains

theorem words_mask256_containsAny : type_of% @Ark.Props.C20Words.mask256_containsAny := @Ark.Props.C20Words.mask256_containsAny

theorem words_mask256_not : type_of% @Ark.Props.C20Words.mask256_not := @Ark.Props.C20Words.mask256_not

theorem words_mask256_get : type_of% @Ark.Props.C20Words.mask256_get := @Ark.Props.C20Words.mask256_get

theorem words_mask256_ofIDs : type_of% @Ark.Props.C20Words.mask256_ofIDs := @Ark.Props.C20Words.mask256_ofIDs

theorem words_mask64_contains : type_of% @Ark.Props.C20Words.mask64_contains := @Ark.Props.C20Words.mask64_contains

theorem words_mask64_containsAny : type_of% @Ark.Props.C20Words.mask64_containsAny := @Ark.Props.C20Words.mask64_containsAny

theorem words_mask64_not : type_of% @Ark.Props.C20Words.mask64_not := @Ark.Props.C20Words.mask64_not



/-! ### The code itself: the relation-index bookkeeping of archetype.go, translated statement by statement on every run -/

/-- `archetype.AddTable` as in the source = the model's `Archetype.addTable`, for every archetype and every table with the archetype's layout -/
theorem src_idx_addTable : type_of% @Ark.GenBridge.Book.addTable_eq := @Ark.GenBridge.Book.addTable_eq
/-- `archetype.RemoveTarget` as in the source = the model's -/
theorem src_idx_removeTarget : type_of% @Ark.GenBridge.Book.removeTarget_eq := @Ark.GenBridge.Book.removeTarget_eq
/-- `archetype.GetFreeTable` as in the source = the model's (pop the last free table) -/
theorem src_idx_getFreeTable : type_of% @Ark.GenBridge.Book.getFreeTable_eq := @Ark.GenBridge.Book.getFreeTable_eq
/-- `archetype.HasRelations` as in the source = the model's -/
theorem src_idx_hasRelations : type_of% @Ark.GenBridge.Book.hasRelations_eq := @Ark.GenBridge.Book.hasRelations_eq
/-- `archetype.FreeAllTables` as in the source = the model's `freeAllTables`: every per-column lookup and the per-target lookup are emptied -/
theorem src_idx_freeAllTables : type_of% @Ark.GenBridge.Book.freeAllTables_eq := @Ark.GenBridge.Book.freeAllTables_eq
/-- … and exactly the archetype's active tables are marked free in the table store -/
theorem src_idx_freeAllTables_storage : type_of% @Ark.GenBridge.Book.freeAllTables_storage := @Ark.GenBridge.Book.freeAllTables_storage
/-- what marking a list of tables free does to the table store -/
theorem src_idx_markFree : type_of% @Ark.GenBridge.Book.markFree_fold := @Ark.GenBridge.Book.markFree_fold
/-- `archetype.GetTables(relations)` — the lookup a query with relation targets reads — as in the source = the model's `getTables`, whenever the first named relation component is a column of the archetype (otherwise Go's index panic, the model's `none`) -/
theorem src_idx_getTables : type_of% @Ark.GenBridge.Book.getTables_eq := @Ark.GenBridge.Book.getTables_eq


/-! ### End to end (Props/C03Exact): entity sets, over whole histories -/

/-- **C03 end to end**: after every history of the refinement machine (eleven operations, any access path) a query on any uncached filter object visits exactly the specified (= alive) entities whose component set matches, each once, at the row the entity index records, and the cell it points to holds the last written value; Count = number of visits; EntityAt(i) = i-th visit; the world is unchanged up to the lock's bit pool -/
theorem hist_query_exact : type_of% @Ark.Props.C03Exact.query_exact := @Ark.Props.C03Exact.query_exact

/-- the same through a registered (cached) filter -/
theorem hist_query_exact_cached : type_of% @Ark.Props.C03Exact.query_exact_cached := @Ark.Props.C03Exact.query_exact_cached

/-- Count equals the number of matching specification entries -/
theorem hist_count_spec : type_of% @Ark.Props.C03Exact.count_spec := @Ark.Props.C03Exact.count_spec

/-- set-level reading of the match condition on the specification's key set -/
theorem hist_matches_keys_iff : type_of% @Ark.Props.C03Exact.matches_keys_iff := @Ark.Props.C03Exact.matches_keys_iff

/-- state level (any world satisfying the joint invariant): the walk over all archetypes -/
theorem hist_drain_exact_untyped : type_of% @Ark.Props.C03Exact.drain_exact_untyped := @Ark.Props.C03Exact.drain_exact_untyped

/-- state level: the walk over `componentIndex[rare]` of typed filters, under the component-index invariant -/
theorem hist_drain_exact_typed : type_of% @Ark.Props.C03Exact.drain_exact_typed := @Ark.Props.C03Exact.drain_exact_typed

/-- state level: any uncached filter object -/
theorem hist_drain_exact : type_of% @Ark.Props.C03Exact.drain_exact := @Ark.Props.C03Exact.drain_exact

/-- state level: through the cache entry, under the cache invariant -/
theorem hist_drain_exact_cached : type_of% @Ark.Props.C03Exact.drain_exact_cached := @Ark.Props.C03Exact.drain_exact_cached

/-- the component-index invariant holds after every history -/
theorem hist_reach_cidx : type_of% @Ark.Props.C03Exact.reach_cidx := @Ark.Props.C03Exact.reach_cidx

/-- the handle stored in every table row is the alive handle of its ID, after every history -/
theorem hist_reach_rowsAlive : type_of% @Ark.Props.C03Exact.reach_rowsAlive := @Ark.Props.C03Exact.reach_rowsAlive

/-- the joint extra invariant (component index, rows alive, lock, relation index, empty cache) holds after every history -/
theorem hist_reach_xinv : type_of% @Ark.Props.C03Exact.reach_xinv := @Ark.Props.C03Exact.reach_xinv

/-- finding: Lock/Unlock restores the lock mask but not the bit pool's free list -/
theorem hist_lock_not_restored : type_of% @Ark.Props.C03Exact.lock_not_restored := @Ark.Props.C03Exact.lock_not_restored

/-- finding: a typed filter object whose type list is not required by its mask misses entities (not constructible through the typed API) -/
theorem hist_filterOK_necessary : type_of% @Ark.Props.C03Exact.filterOK_necessary := @Ark.Props.C03Exact.filterOK_necessary

/-- finding: with all 64 lock bits outstanding the query panics -/
theorem hist_lock_necessary : type_of% @Ark.Props.C03Exact.lock_necessary := @Ark.Props.C03Exact.lock_necessary


/-! ### With relation targets (Props/C03Rel) -/

/-- **C03 with relation targets**, state level under the world invariant `TInv`: a query with relations fixed in the filter and/or given per call succeeds and visits, once each, exactly the alive entities whose component set matches AND whose target for every named relation is the one given; each visit sits at the row the index records; the targets it yields are the entity's; Count and EntityAt agree with the iteration -/
theorem rel_drain_rel : type_of% @Ark.Props.C03Rel.drain_rel := @Ark.Props.C03Rel.drain_rel

/-- the same for the walk over all archetypes (`UnsafeFilter`) -/
theorem rel_drain_rel_untyped : type_of% @Ark.Props.C03Rel.drain_rel_untyped := @Ark.Props.C03Rel.drain_rel_untyped

/-- the same through a registered filter (fixed relations in the cache entry, per-call relations matched by the cursor) -/
theorem rel_drain_rel_cached : type_of% @Ark.Props.C03Rel.drain_rel_cached := @Ark.Props.C03Rel.drain_rel_cached

/-- the visited handles are duplicate-free and are exactly the alive handles that match -/
theorem rel_visited_iff : type_of% @Ark.Props.C03Rel.visited_iff := @Ark.Props.C03Rel.visited_iff

/-- every reported handle is alive -/
theorem rel_visits_alive : type_of% @Ark.Props.C03Rel.visits_alive := @Ark.Props.C03Rel.visits_alive

/-- every yielded target is zero or alive -/
theorem rel_yielded_target_ok : type_of% @Ark.Props.C03Rel.yielded_target_ok := @Ark.Props.C03Rel.yielded_target_ok

/-- a query naming a dead (also a recycled) target visits nothing -/
theorem rel_dead_target_visits_nothing : type_of% @Ark.Props.C03Rel.dead_target_visits_nothing := @Ark.Props.C03Rel.dead_target_visits_nothing

/-- a typed query with a bad per-call relation is rejected before the lock is taken -/
theorem rel_drain_rejected : type_of% @Ark.Props.C03Rel.drain_rejected := @Ark.Props.C03Rel.drain_rejected

/-- after every history of ACCEPTED calls of register / new / remove-entity / set-relations / add with relations (and queries; `QueryRel.Reach` has no step for a call that panics), an unregistered query is exact -/
theorem rel_reach_query : type_of% @Ark.Props.C03Rel.reach_query := @Ark.Props.C03Rel.reach_query

/-- … and so is a query through a filter registered in the reached world -/
theorem rel_reach_query_cached : type_of% @Ark.Props.C03Rel.reach_query_cached := @Ark.Props.C03Rel.reach_query_cached

/-- the invariants needed (world invariant, component index, rows alive, idle lock) hold after every such history -/
theorem rel_reach_qgood : type_of% @Ark.Props.C03Rel.reach_qgood := @Ark.Props.C03Rel.reach_qgood

/-- finding: `UnsafeFilter.Query(rel…)` validates nothing; naming a relation on a filter that also matches archetypes without that component yields entities that have no such relation -/
theorem rel_relsTyped_necessary_sound : type_of% @Ark.Props.C03Rel.relsTyped_necessary_sound := @Ark.Props.C03Rel.relsTyped_necessary_sound

/-- finding: … or panics (index −1) when a matching archetype has other relation columns but not the named one -/
theorem rel_relsTyped_necessary_panic : type_of% @Ark.Props.C03Rel.relsTyped_necessary_panic := @Ark.Props.C03Rel.relsTyped_necessary_panic

/-- finding: … or matches a non-relation component given with the zero target -/
theorem rel_relsTyped_necessary_nonrel : type_of% @Ark.Props.C03Rel.relsTyped_necessary_nonrel := @Ark.Props.C03Rel.relsTyped_necessary_nonrel

end Ark.Props.C03
