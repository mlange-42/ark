/-
  Ark.Props.C08Src — the part of C08's theorems that is stated over definitions TRANSLATED from the
  Go source on every run at the bookkeeping level (tools/extract/book.go): the tail of
  `observerManager.RemoveObserver` that recomputes the per-event aggregates the early-outs of all
  `Fire*` functions read.  (The predicates and early-outs themselves are translated at the expression
  level and re-exported in Props/C08.lean.)  Kept apart from Props/C08.lean because other properties'
  proofs import that file.
-/
import Ark.Props.C08
import Ark.Proofs.GenBridge.BookObservers

namespace Ark.Props.C08Src
open Ark Ark.Generated Ark.Generated.Book

/-- **`RemoveObserver` as in the source leaves the aggregates a function of the CURRENT observer list**:
    for the event type of the removed observer the union masks and wildcard flags become the
    recomputation (`recLoop`: union of the masks before the first wildcard observer, and whether there
    is a wildcard) over the observers that remain — for entity events the `With` pair only —; observer
    lists and all other entries are untouched.  Whatever was registered or un-registered before has no
    influence: the right-hand sides mention the current list only. -/
theorem src_removeObserver_aggregates : type_of% @Ark.GenBridge.Book.removeObserver_aggregates_eq :=
  @Ark.GenBridge.Book.removeObserver_aggregates_eq
/-- **`AddObserver` as in the source** (its tail after the observer was appended): an observer with `With`
    components is OR-ed into the union of its event type, one without sets the wildcard flag; the same
    for `For` components unless the event is an entity event; nothing else changes — what the model's
    `ObsMgr.addComputed` does, on which `AggInv` (the early-outs never suppress an observer that should
    fire) is proved. -/
theorem src_addObserver_aggregates : type_of% @Ark.GenBridge.Book.addObserver_aggregates_eq :=
  @Ark.GenBridge.Book.addObserver_aggregates_eq
/-- the translated tail, with its loops as list folds -/
theorem src_removeObserver_aggregates_spec : type_of% @Ark.GenBridge.Book.aggregates_eq_spec :=
  @Ark.GenBridge.Book.aggregates_eq_spec
/-- the model's `recomputeWith` (used by `ObsMgr.removeAt`, on which `AggInv` and C08's theorems are
    proved) is the same `recLoop` over the data of the listed observers -/
theorem model_recomputeWith : type_of% @Ark.GenBridge.Book.recomputeWith_eq := @Ark.GenBridge.Book.recomputeWith_eq
theorem model_recomputeComps : type_of% @Ark.GenBridge.Book.recomputeComps_eq := @Ark.GenBridge.Book.recomputeComps_eq

/-- non-vacuity: event 251 (`OnAddComponents`) with a wildcard observer listed first and an observer
    for component 3 behind it: the translated tail stops at the wildcard — flag set, union empty —; with
    the wildcard gone the union is component 3's bit and the flag is clear. -/
example :
    let d3 : G_observerData := { hasComps := true, compsMask := ⟨⟨8#64, 0#64, 0#64, 0#64⟩⟩ }
    let z : M256 := ⟨⟨0#64, 0#64, 0#64, 0#64⟩⟩
    let g (l : List G_observerData) : G_observerManager :=
      { observers := (List.replicate 251 []) ++ [l], allComps := List.replicate 252 z, allWith := List.replicate 252 z,
        anyNoComps := List.replicate 252 false, anyNoWith := List.replicate 252 false }
    let r1 := observerManager_RemoveObserver_aggregates (g [{}, d3]) { event := 251 }
    let r2 := observerManager_RemoveObserver_aggregates (g [d3]) { event := 251 }
    (r1.anyNoComps.getD 251 false, r1.allComps.getD 251 z) = (true, z) ∧
    (r2.anyNoComps.getD 251 false, r2.allComps.getD 251 z) = (false, ⟨⟨8#64, 0#64, 0#64, 0#64⟩⟩) := by
  decide +kernel

end Ark.Props.C08Src
