/-
  Ark.Props.C19Hist — C19 over histories (shorter than 2^32 − 2), for the non-relation,
  observer-free fragment with components:

    "World statistics always agree with the actual contents: used entities equals the number of
     alive entities and the sum of archetype and table sizes, total equals used plus recycled
     […], no two archetypes have the same component set, every table's size is at most its
     capacity, memory figures are the documented products and sums, and filter, observer and lock
     figures match what is registered.  Statistics that were updated incrementally over a history
     equal those of a world that replays the history and is asked once."

  The machine (`Ark.StatsHist.step3`, Ark/Proofs/StatsHist.lean) interleaves, from
  `World.init cap rel`, in any order:
    * `op (base o)` — the eleven entity operations of `Ark.Refine`: `registerComponent`,
      `NewEntity(ids…)`, `NewEntity()`, `Add`, `Remove`, `Exchange` (each through the `Unsafe`,
      `Map` or `MapN` path), `Set`, `RemoveEntity`, `CopyEntity`, `Shrink`, `Reset`;
    * `op (fdef f fo)`, `op (freg f)`, `op (funreg f)` — the filter operations of `Ark.CacheHist`;
    * `stats` — `World.Stats()` (`World.opStats`): updates the ONE re-used object `w.stats` in
      place (archetype entries by position, new ones appended; `componentIDs`, `numRelations`,
      `memoryPerEntity` of an existing entry are never recomputed) and returns it.

  `statsFresh w` is what a world asked for the first time reports (Ark/Model/Stats.lean);
  `Compatible st w` what the in-place update relies on; `Agree s st`: the figures `st` agree with
  the contents of state `s` (all clauses of C19).

  Hypotheses recorded once: all figures are naturals (no overflow of Go's `int`); the two
  figures of `stats.World` that depend on Go's slice growth policy (`Entities.Capacity` and the
  pool/index part of `Memory`) are not modelled, hence "total does not exceed capacity" is not
  stated; observers and locks: this machine has no observer operations and is observed between
  operations, so the figures are `0` / `false` (they are `w.obs.totalCount` / `w.isLocked`).
  `cachedFilters` is the number of entries of the cache (`fdef` may overwrite a registered filter
  object, whose entry then stays in the cache — as a dropped `Filter` does in Go).
-/
import Ark.Proofs.StatsCount
import Ark.Proofs.StatsReplay
import Ark.Proofs.Eval

set_option autoImplicit false

namespace Ark.Props.C19Hist
open Ark Ark.World Ark.Refine Ark.CacheHist Ark.StatsHist

variable (run : ProbeRunner) (cap rel : Nat)

/-! ## 1. every operation keeps what `Stats()` relies on -/

/-- `SStep w w'` spelled out. -/
theorem sstep_iff (w w' : World) :
    SStep w w' ↔ Mono w w' ∧ w'.stats = w.stats ∧ (w.obs.totalCount = 0 → w'.obs.totalCount = 0) :=
  ⟨fun h => ⟨h.mono, h.stats, h.obs0⟩, fun h => ⟨h.1, h.2.1, h.2.2⟩⟩

/-- **Every successful entity operation** (all eleven) only appends archetypes, keeps component
    list, relation count and registered component sizes of the existing ones, and does not touch
    the statistics object. -/
theorem every_operation_is_sstep {s : St} {fl : List Nat} (H : HInv s fl) {op : Refine.Op}
    (hg : guard s op = true) {r : Option Ent} {w' : World}
    (hex : exec run s.w op = .ok r w') : SStep s.w w' :=
  exec_sstep run H hex

/-- every step of the entity machine (also a rejected call, which leaves the world alone) -/
theorem every_step_is_sstep {s : St} {fl : List Nat} (H : HInv s fl)
    (hfew : s.w.tables.length < maxU32) (hent : s.w.entities.length + 1 < 2 ^ 32)
    (op : Refine.Op) : SStep s.w (Refine.step run s op).w :=
  step_sstep run H hfew hent op

/-- the three table lookups, `registerComponent`, `Shrink`, `Reset` -/
theorem lookups_sstep :
    (∀ {oldT : Nat} {startMask : Mask} {add : List Comp} {rels : List RelID} {w w' : World}
        {r : Nat × Nat × Mask},
        findOrCreateTableAdd oldT startMask add rels w = .ok r w' → SStep w w') ∧
    (∀ {oldT : Nat} {startMask : Mask} {rem : List Comp} {w w' : World}
        {r : Nat × Nat × Mask × Bool},
        findOrCreateTableRemove oldT startMask rem w = .ok r w' → SStep w w') ∧
    (∀ {oldT : Nat} {startMask : Mask} {add rem : List Comp} {rels : List RelID} {w w' : World}
        {r : Nat × Nat × Mask × Bool},
        findOrCreateTable oldT startMask add rem rels w = .ok r w' → SStep w w') :=
  SStep.lookups

theorem registerComponent_sstep {w w' : World} (hS : SInvMid w) {k : CompKind} {n : Nat}
    (h : registerComponent k w = .ok n w') : SStep w w' := SStep.registerComponent hS h

theorem shrink_sstep (w : World) (bounded : Bool) : SStep w (shrinkPure w bounded).1 :=
  SStep.shrinkPure w bounded

theorem reset_sstep {w : World} (hS : SInv w) : SStep w (resetW w) := SStep.reset hS

/-- **"`w.stats` is compatible with `w`" is kept by every `SStep`** -/
theorem compatible_kept {w w' : World} (h : Compatible w.stats w) (st : SStep w w') :
    Compatible w'.stats w' := h.sstep st

/-! ## 2. the invariant at every reachable state -/

theorem reach3_invariant (ops : List Op3) (hlen : ops.length < 2 ^ 32 - 2) :
    ∃ fl, HInv3 (reach3 run cap rel ops) fl := reach3_inv run cap rel ops hlen

theorem step3_keeps {s : St} {fl : List Nat} (H : HInv3 s fl)
    (hfew : s.w.tables.length < maxU32) (hent : s.w.entities.length + 1 < 2 ^ 32) (op : Op3) :
    ∃ fl', HInv3 (step3 run s op) fl' := (step3_inv run H hfew hent op).1

theorem reach3_compatible (ops : List Op3) (hlen : ops.length < 2 ^ 32 - 2) :
    Compatible (reach3 run cap rel ops).w.stats (reach3 run cap rel ops).w := by
  obtain ⟨fl, H⟩ := reach3_inv run cap rel ops hlen
  exact H.compat

/-! ## 3. incremental = fresh, at every `Stats()` call of every history -/

/-- **incremental = fresh**: after ANY history (shorter than `2^32 − 2`) of entity operations,
    filter operations and earlier `Stats()` calls, `Stats()` returns (and stores) exactly the statistics a world asked for the
    first time would report. -/
theorem stats_incremental_eq_fresh (ops : List Op3) (hlen : ops.length < 2 ^ 32 - 2) :
    opStats (reach3 run cap rel ops).w =
      .ok (statsFresh (reach3 run cap rel ops).w)
        { (reach3 run cap rel ops).w with stats := statsFresh (reach3 run cap rel ops).w } :=
  reach3_opStats run cap rel ops hlen

/-- the statistics object after the history `ops ++ [stats]` is the fresh statistics of the
    world after `ops` -/
theorem stats_object_after (ops : List Op3) (hlen : ops.length < 2 ^ 32 - 2) :
    (reach3 run cap rel (ops ++ [.stats])).w.stats = statsFresh (reach3 run cap rel ops).w := by
  obtain ⟨fl, H⟩ := reach3_inv run cap rel ops hlen
  rw [reach3_snoc, step3_stats_w run H.compat]

/-- **asked once**: the answer equals the answer of the same world whose statistics object is
    empty (a world that was never asked before) -/
theorem stats_asked_once (ops : List Op3) (hlen : ops.length < 2 ^ 32 - 2) :
    ∃ (st : WorldStats) (w1 w2 : World),
      opStats (reach3 run cap rel ops).w = .ok st w1 ∧
      opStats { (reach3 run cap rel ops).w with stats := {} } = .ok st w2 ∧ w1 = w2 := by
  refine ⟨_, _, _, reach3_opStats run cap rel ops hlen,
    opStats_eq' (reach3 run cap rel ops).w {} (compatible_empty _), rfl⟩

/-! ## 3b. incremental = replay -/

/-- **no operation reads the statistics object**: a successful operation of the entity machine
    (all eleven) run on the world with ANOTHER statistics object succeeds too, returns the same
    handle and leaves the same world up to `stats` -/
theorem no_operation_reads_stats {s : St} {fl : List Nat} (H : HInv s fl) {op : Refine.Op}
    (hg : guard s op = true) {r : Option Ent} {w' : World}
    (hex : exec run s.w op = .ok r w') (st : WorldStats) :
    exec run (s.w.setStats st) op = .ok r (w'.setStats st) :=
  exec_setStats run H hex st

/-- the three table lookups, `registerComponent` and the filter registration neither read nor
    write the statistics object (`Indep m`: `m (w.setStats st) = liftS st (m w)`) -/
theorem storage_indep :
    (∀ (oldT : Nat) (m : Mask) (add : List Comp) (rels : List RelID),
      Indep (findOrCreateTableAdd oldT m add rels)) ∧
    (∀ (oldT : Nat) (m : Mask) (rem : List Comp), Indep (findOrCreateTableRemove oldT m rem)) ∧
    (∀ (oldT : Nat) (m : Mask) (add rem : List Comp) (rels : List RelID),
      Indep (findOrCreateTable oldT m add rem rels)) ∧
    (∀ (k : CompKind), Indep (registerComponent k)) ∧
    (∀ (f : Nat), Indep (opFilterRegister f)) ∧ (∀ (f : Nat), Indep (opFilterUnregister f)) :=
  ⟨indep_findOrCreateTableAdd, indep_findOrCreateTableRemove, indep_findOrCreateTable,
    indep_registerComponent, indep_opFilterRegister, indep_opFilterUnregister⟩

/-- every step of the machine with filters commutes with replacing the statistics object -/
theorem step_commutes {s : St} {fl : List Nat} (H : HInv2 s fl)
    (hfew : s.w.tables.length < maxU32) (hent : s.w.entities.length + 1 < 2 ^ 32) (op : Op2)
    (st : WorldStats) : step2 run (s.setStats st) op = (step2 run s op).setStats st :=
  step2_setStats run H op st

/-- **replay**: the state a history with `Stats()` calls reaches is the state the same history
    WITHOUT those calls (`strip ops`, a history of `Ark.CacheHist`) reaches, with another
    statistics object: same world up to `w.stats`, same handles, same specification -/
theorem history_replay (ops : List Op3) (hlen : ops.length < 2 ^ 32 - 2) :
    ∃ (st : WorldStats),
      reach3 run cap rel ops = (reach2 run cap rel (strip ops)).setStats st :=
  replay run cap rel ops hlen

/-- **incremental = replay.**  `Stats()` after a history with interleaved `Stats()` calls
    returns exactly what `Stats()` returns in a world that replays the history without those
    calls — a world whose statistics object is still the initial, empty one — and is asked
    once. -/
theorem stats_incremental_eq_replay (ops : List Op3) (hlen : ops.length < 2 ^ 32 - 2) :
    opStats (reach3 run cap rel ops).w =
      .ok (statsFresh (reach2 run cap rel (strip ops)).w)
        ((reach2 run cap rel (strip ops)).w.setStats
          (statsFresh (reach2 run cap rel (strip ops)).w)) ∧
    opStats (reach2 run cap rel (strip ops)).w =
      .ok (statsFresh (reach2 run cap rel (strip ops)).w)
        ((reach2 run cap rel (strip ops)).w.setStats
          (statsFresh (reach2 run cap rel (strip ops)).w)) ∧
    (reach2 run cap rel (strip ops)).w.stats = {} :=
  replay_stats run cap rel ops hlen

/-! ## 4. the figures agree with the contents -/

/-- **C19 at every reachable state.** -/
theorem stats_agree (ops : List Op3) (hlen : ops.length < 2 ^ 32 - 2) :
    ∃ (st : WorldStats),
      opStats (reach3 run cap rel ops).w =
        .ok st { (reach3 run cap rel ops).w with stats := st } ∧
      st = statsFresh (reach3 run cap rel ops).w ∧
      Agree (reach3 run cap rel ops) st := by
  obtain ⟨fl, H⟩ := reach3_inv run cap rel ops hlen
  exact ⟨_, opStats_eq _ H.compat, rfl, agree_fresh H⟩

/-- the same for any state satisfying the invariant -/
theorem agree_of_inv {s : St} {fl : List Nat} (H : HInv3 s fl) : Agree s (statsFresh s.w) :=
  agree_fresh H

section clauses
variable {s : St} {st : WorldStats} (A : Agree s st)
include A

/-- `used` = specification entries = alive issued handles = Σ archetype sizes = Σ table sizes -/
theorem used_four_ways :
    st.used = s.ss.ents.length ∧
    st.used = (s.issued.filter fun e => s.w.alive e).length ∧
    st.used = (st.archetypes.map (·.size)).sum ∧
    st.used = ((st.archetypes.flatMap (·.tables)).map (·.size)).sum :=
  ⟨A.used_spec, A.used_alive, A.used_archs, A.used_tables⟩

theorem total_eq : st.total = st.used + st.recycled := A.total

/-- per archetype: `size` = number of entities with exactly this component set -/
theorem arch_size (a : ArchStats) (ha : a ∈ st.archetypes) :
    a.size = (s.ss.ents.filter fun x => decide (specComps s x = a.componentIDs)).length :=
  A.arch_size a ha

/-- no two archetype entries have the same component list, and every entity's component set is
    one of them -/
theorem arch_unique_complete :
    (∀ (i j : Nat) (a b : ArchStats), st.archetypes[i]? = some a → st.archetypes[j]? = some b →
      a.componentIDs = b.componentIDs → i = j) ∧
    (∀ (x : Ent × Comps), x ∈ s.ss.ents →
      ∃ (a : ArchStats), a ∈ st.archetypes ∧ a.componentIDs = specComps s x) :=
  ⟨A.arch_unique, A.arch_complete⟩

theorem table_size_le (a : ArchStats) (ha : a ∈ st.archetypes) (t : TableStats)
    (ht : t ∈ a.tables) : t.size ≤ t.capacity := A.table_le a ha t ht

/-- one table per archetype for ever, no free table, no relation column -/
theorem arch_one_table (a : ArchStats) (ha : a ∈ st.archetypes) :
    ∃ (t : TableStats), a.tables = [t] ∧ t.size = a.size ∧ t.capacity = a.capacity ∧
      a.freeTables = 0 ∧ a.numRelations = 0 := A.arch_shape a ha

/-- memory figures: the documented products and sums -/
theorem memory_figures :
    (∀ (a : ArchStats), a ∈ st.archetypes →
      a.memoryPerEntity = 8 + (a.componentIDs.map fun c => (s.w.kinds.getD c {}).size).sum ∧
      a.memory = a.memoryPerEntity * a.capacity ∧ a.memoryUsed = a.memoryPerEntity * a.size ∧
      ∀ (t : TableStats), t ∈ a.tables →
        t.memory = t.capacity * a.memoryPerEntity ∧ t.memoryUsed = t.size * a.memoryPerEntity) ∧
    st.memory = (st.archetypes.map (·.memory)).sum ∧
    st.memoryUsed = (st.archetypes.map (·.memoryUsed)).sum ∧ st.memoryUsed ≤ st.memory :=
  ⟨fun a ha => ⟨A.mpe a ha, (A.arch_memory a ha).1, (A.arch_memory a ha).2, A.table_memory a ha⟩,
    A.memory.1, A.memory.2.1, A.memory.2.2⟩

theorem counters :
    st.cachedFilters = s.w.cache.filters.length ∧ st.observers = 0 ∧ st.locked = false ∧
    st.numComponents = s.ss.zst.length :=
  ⟨A.cachedFilters, A.observers, A.locked, A.numComponents⟩

end clauses

/-- the counting lemmas behind `Agree`, for any state satisfying `Refine.HInv` -/
theorem counting {s : St} {fl : List Nat} (H : HInv s fl) :
    s.w.pool.len = s.ss.ents.length ∧
    (s.issued.filter fun e => s.w.alive e).length = s.ss.ents.length ∧
    (∀ (t : Nat), t < s.w.tables.length →
      (s.w.tbl t).len = (s.ss.ents.filter fun x => decide ((s.w.index x.1.id).1 = t)).length) ∧
    (∀ (a : Nat), a < s.w.archetypes.length →
      (s.w.archStatsFresh (s.w.arch a)).size =
        (s.ss.ents.filter fun x => decide (specComps s x = (s.w.arch a).comps)).length) :=
  ⟨H.used_eq, H.alive_count, fun _ ht => H.table_count ht, fun _ ha => H.arch_count ha⟩

/-! ## 5. non-vacuity: a concrete history

`NewWorld(2, 1)`; two component types (ID 0 of 4 bytes, ID 1 zero-sized); `Stats()` (one
archetype); an entity `{0}` (archetype 1 is new) and an entity without components; `Stats()`; a
filter is defined and registered; `Add(e3, 0, 1)` creates archetype 2 AFTER the second call;
`RemoveEntity(e2)` empties archetype 1 and recycles a slot; `Stats()` (the stored object has two
archetype entries, the world three); `Shrink`; `Reset`; `Stats()`; `NewEntity()` (hands out
`⟨2,0⟩` again); `Stats()`. -/

def noProbe : ProbeRunner := fun _ _ _ => pure ()

def demoOps : List Op3 :=
  [.op (.base (.reg 4 false)), .op (.base (.reg 0 true)),
   .stats,
   .op (.base (.new .unsafe_ [0] [(0, 7)])),
   .op (.base .new0),
   .stats,
   .op (.fdef 1 (mkFilterObj [0] none false true [])), .op (.freg 1),
   .op (.base (.add .unsafe_ ⟨3, 0⟩ [0, 1] [])),
   .op (.base (.del ⟨2, 0⟩)),
   .stats,
   .op (.base (.shrink false)),
   .op (.base .reset),
   .stats,
   .op (.base .new0),
   .stats]

/-- the state after the first `k` operations -/
def at_ (k : Nat) : St := reach3 noProbe 2 1 (demoOps.take k)

/-- the hypothesis of the history theorems -/
example : demoOps.length < 2 ^ 32 - 2 := by decide

/-- the hypotheses of `agree_of_inv`, `every_operation_is_sstep`, `no_operation_reads_stats`,
    `step_commutes` are satisfiable: the invariants hold at the states of the demo history -/
example : (∃ fl, HInv3 (at_ 10) fl) ∧ (∃ fl, HInv2 (at_ 8) fl) ∧ (∃ fl, HInv (at_ 8) fl) := by
  obtain ⟨fl, H⟩ := reach3_invariant noProbe 2 1 (demoOps.take 10) (by decide)
  obtain ⟨fl', H'⟩ := reach3_invariant noProbe 2 1 (demoOps.take 8) (by decide)
  exact ⟨⟨fl, H⟩, ⟨fl', H'.base⟩, ⟨fl', H'.base.base⟩⟩

example : Agree (at_ 10) (statsFresh (at_ 10).w) := by
  obtain ⟨fl, H⟩ := reach3_invariant noProbe 2 1 (demoOps.take 10) (by decide)
  exact agree_of_inv H

/-- the operation at step 9 (`Add(e3, 0, 1)`, which creates an archetype) is accepted and
    succeeds: `every_operation_is_sstep` and `no_operation_reads_stats` apply to it -/
def isOk {α : Type} : Res World α → Bool
  | .ok _ _ => true
  | .panic _ _ => false

example :
    guard (at_ 8) (.add .unsafe_ ⟨3, 0⟩ [0, 1] []) = true ∧
    isOk (exec noProbe (at_ 8).w (.add .unsafe_ ⟨3, 0⟩ [0, 1] [])) = true ∧
    (exec noProbe (at_ 8).w (.add .unsafe_ ⟨3, 0⟩ [0, 1] [])).state.archetypes.length = 3 ∧
    (at_ 8).w.archetypes.length = 2 := by
  decide +kernel

/-- all guards of the demo history hold: the operations are steps, none is skipped -/
example :
    guardF (at_ 6).w (mkFilterObj [0] none false true []) = true ∧
    guard (at_ 8) (.add .unsafe_ ⟨3, 0⟩ [0, 1] []) = true ∧
    guard (at_ 9) (.del ⟨2, 0⟩) = true := by
  decide +kernel

/-- before the third call (step 10) the stored object is stale — it has 2 archetype entries, the
    world 3 archetypes, an entity moved and one was removed — and compatible; the call repairs
    it -/
example :
    (at_ 10).w.stats.archetypes.length = 2 ∧ (at_ 10).w.archetypes.length = 3 ∧
    (at_ 10).w.stats ≠ statsFresh (at_ 10).w ∧
    compatibleB (at_ 10).w.stats (at_ 10).w = true ∧
    (at_ 11).w.stats = statsFresh (at_ 10).w ∧
    (at_ 11).w.stats = statsFresh (at_ 11).w := by
  open KernelEq in decide +kernel

/-- the figures reported by the third call: 1 alive entity `{0,1}`, 1 recycled slot, 2 slots in
    total; archetype sizes 0, 0, 1; 12 bytes per entity for `{0}` and for `{0,1}` (component 1 is
    zero-sized); one cached filter -/
example :
    let st := statsFresh (at_ 10).w
    (st.used, st.recycled, st.total) = (1, 1, 2) ∧
    (st.archetypes.map fun a => (a.componentIDs, a.size, a.capacity, a.memoryPerEntity, a.memory,
        a.memoryUsed)) = [([], 0, 2, 8, 16, 0), ([0], 0, 2, 12, 24, 0), ([0, 1], 1, 2, 12, 24, 12)] ∧
    (st.memory, st.memoryUsed) = (64, 12) ∧
    (st.cachedFilters, st.observers, st.locked, st.numComponents) = (1, 0, false, 2) ∧
    (at_ 10).ss.ents.map (·.1) = [⟨3, 0⟩] ∧
    (at_ 10).issued = [⟨3, 0⟩, ⟨2, 0⟩] ∧
    (at_ 10).ss.ents.map (specComps (at_ 10)) = [[0, 1]] := by
  decide +kernel

/-- after `Reset` (step 13) the stored object still describes one entity; `Stats()` reports an
    empty world with the three archetypes kept; the next `NewEntity()` is counted again -/
example :
    (at_ 13).w.stats.used = 1 ∧ (statsFresh (at_ 13).w).used = 0 ∧
    (statsFresh (at_ 13).w).cachedFilters = 0 ∧
    (statsFresh (at_ 13).w).archetypes.map (·.size) = [0, 0, 0] ∧
    (at_ 14).w.stats = statsFresh (at_ 13).w ∧
    (at_ 15).issued = [⟨2, 0⟩] ∧
    (statsFresh (at_ 15).w).used = 1 ∧
    (statsFresh (at_ 15).w).archetypes.map (·.size) = [1, 0, 0] ∧
    (at_ 16).w.stats = statsFresh (at_ 15).w := by
  open KernelEq in decide +kernel

/-- replay on the demo history: without the five `Stats()` calls the history has eleven steps;
    the replaying world was never asked (empty object) and reports, asked once, what the world
    with the incrementally updated object reports -/
example :
    (strip demoOps).length = 11 ∧
    (reach2 noProbe 2 1 (strip demoOps)).w.stats = {} ∧
    (at_ 16).w.stats ≠ {} ∧
    statsUpdate (at_ 16).w (at_ 16).w.stats =
      statsUpdate (reach2 noProbe 2 1 (strip demoOps)).w {} ∧
    (at_ 16).issued = (reach2 noProbe 2 1 (strip demoOps)).issued ∧
    (at_ 16).w.entities = (reach2 noProbe 2 1 (strip demoOps)).w.entities := by
  open KernelEq in decide +kernel

/-- the hypothesis `Compatible` is needed for `incremental = fresh` (see also
    `Ark.Props.C19.Small`): an object whose second entry has a wrong `memoryPerEntity` is not
    repaired by the update -/
example :
    let w := (at_ 10).w
    let bad : WorldStats := { w.stats with
      archetypes := w.stats.archetypes.map fun a => { a with memoryPerEntity := 0 } }
    statsUpdate w bad ≠ statsFresh w := by
  decide +kernel

end Ark.Props.C19Hist
