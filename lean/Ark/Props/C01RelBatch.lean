/-
  Ark.Props.C01RelBatch — C01 / C04 / C06 for the observer-free fragment WITH RELATION COMPONENTS
  and WITH THE BATCH FORMS AS STEPS, over histories within the size budget `Fits Budget.init`:

    C01 "After any sequence of valid operations (create, add, remove, exchange, set, copy, remove
         entity, THEIR BATCH FORMS, reset, shrink) every alive entity has exactly the set of
         components those operations imply, and every component holds the value most recently
         written to it through any access path.  An operation on one entity never changes the
         components or values of any other entity."
    C04 "… every relation component of an alive entity points to the target most recently
         assigned, or to zero after the target was removed."
    C06 "A batch operation has the same effect as the single operation applied to each selected
         entity."

  The machine (`Ark.RelRefineB`, Ark/Proofs/RelRefineBatch*.lean) wraps the relation machine of
  `Ark.RelRefine` (Ark/Props/C04Hist.lean: `reg | new p | add p | rem p | setrel p | set | del`, all
  with relation arguments; specification `handle ↦ (component ↦ value, relation component ↦
  target)`):

    base op                  an operation of `Ark.RelRefine`
    delb f frels             `World.RemoveEntities(batch, nil)` on the uncached filter with mask
                             part `f` and the relation constraints `frels` (`.Relations(…)`);
                             removed entities may be relation TARGETS of others, also of each other
    setrelb p f frels rels   `SetRelationsBatch(batch, rels…)` on that filter through path `p`
    xchg p e add vals rem rels     `Exchange(e, add, rem, rels…)` writing `vals` (the single
                             operation of `Ark.RelRefine3`, here as a step next to the batches)
    xchgb p f frels add rem rels   `AddBatch` / `RemoveBatch` / `ExchangeBatch` with the relation
                             targets `rels` for the added relation components, callback `nil`

  and the SPECIFICATION STEP OF A BATCH IS THE SPECIFICATION STEP OF THE SINGLE OPERATION APPLIED TO
  EVERY SELECTED ENTITY (`specStepRB`): folded over the specified entities the filter matches
  (`matching`: mask test on the key set, every relation asked for recorded).  For `delb` this is
  the fold of `RelRefine.specStep … (.del e)`, which drops `e`'s entry AND sets to the zero entity
  every target equal to `e` in every other entry.  The specification never looks at the model.

  Not a step of this machine: `newb` (`NewBatch(n, ids…, rels…)` with relation targets).  What is
  missing:
  (a) no world-level theorem about `opNewBatch` on relation worlds exists to reduce it to
  (Ark/Proofs/BatchNew*.lean are about worlds without relations, `BatchRel*` / `RelExchangeBatch*`
  cover removal, `SetRelationsBatch` and the exchange batches only); (b) the batch is NOT literally
  the run of the singles there: `createEntities` resets the `isTarget` flag of a recycled ID
  (`createStep`), `newEntity` (`placeNew t false`) does not, so `createEntitiesW_eq_placeN` needs
  "no flag is set"; (c) that `createEntities` keeps `FlagsOK` needs "no non-free table has a target
  whose ID is free", which the world invariant `TInv` does not give — `TargetsOK` says a table
  target is `alive`, and `alive` (a generation comparison) also holds for the not yet issued
  next-generation handle of a free ID.  Such states are not reachable (targets must be handles the
  client was given), but no invariant of the development records it.
  The exchange batch is the callback-free form (`ExchangeBatch(batch, nil)`); the `…BatchFn` forms
  on relation tables are not steps.

  Scope (`guardRB`): as in `Ark.RelRefine`; the relation constraints of a filter name relation
  components the mask part requires (what `.Relations(…)` accepts); `setrelb` names targets the
  client was given, and — unless `rels = []`, rejected cleanly — no component twice and only
  components the filter REQUIRES.  A `SetRelationsBatch` on a component some selected entity lacks
  panics in the planning loop, after destination tables may have been created (finding below; the
  world is not left locked: the lock is taken after the planning, repair D27): it is
  not rejected with the world unchanged, and not a step.  A removed target and a
  non-relation component ARE steps (rejected by the pre-validation, nothing touched).  `xchgb`:
  as the single `xchg` (registered IDs to add, `RelsStep`, expressible targets), and the part of
  the precondition of `Exchange` that concerns the component set (`XchgLocal`: `rem` distinct
  components it has, `add` distinct components it lacks) holds on EVERY selected entity — or both
  lists are empty, which is rejected cleanly; a batch whose precondition fails on some selected
  entity panics in the planning loop and keeps the tables created before (finding below; the
  world is not left locked, D27) and is not a step.

  Bound (`Fits Budget.init ops`, Ark/Proofs/RelRefineBatchHist.lean): a budget (tables, relation
  archetypes, index slots) starting at `(1, 0, 2)`; decidable.  Sufficient: `fits_base`
  (`ops.length < 2^16` single operations, the bound of `Ark.RelRefine`), `fits_without_doubling` (fewer
  than `2^10` single operations and batch removals; `setrelb` and `xchgb` may double the number of
  tables, for histories with them `Fits` is checked by `decide`).
-/
import Ark.Proofs.RelRefineBatchHist
import Ark.Props.C01Refine
import Ark.Proofs.RelRefineHist

set_option autoImplicit false

namespace Ark.Props.C01RelBatch
open Ark Ark.World Ark.RelRefine Ark.RelRefineB Ark.Props.C01World
open Ark.RelRefine3 (XchgOK xchgEntry specXchg preXchg guardXchg)
open Ark.Refine (Comps keys sortedIds)

variable (run : ProbeRunner) (cap rel : Nat)

/-! ## the invariant along histories -/

/-- the invariant of the machine with batch steps (`HInvRB` = `RelRefine.HInv` + rows hold alive
    handles + the lock's bit pool is consistent, no lock outstanding) holds after every history
    within the bound -/
theorem reach_inv (ops : List OpRB) (hf : Fits Budget.init ops) :
    ∃ fl, HInvRB (reachRB run cap rel ops) fl := reachRB_inv run cap rel ops hf

/-- the world-level invariant `TInv`, an unlocked world, rows holding alive handles -/
theorem reach_tinv (ops : List OpRB) (hf : Fits Budget.init ops) :
    ∃ fl, TInv (reachRB run cap rel ops).w fl ∧ (reachRB run cap rel ops).w.isLocked = false ∧
      RowsAlive (reachRB run cap rel ops).w := by
  obtain ⟨fl, h⟩ := reachRB_inv run cap rel ops hf
  exact ⟨fl, h.hinv.tinv, h.hinv.unlocked, h.rows⟩

/-- histories of single operations are the histories of `Ark.RelRefine`, with its bound -/
theorem base_histories (ops : List Op) (hlen : ops.length < 2 ^ 16) :
    reachRB run cap rel (ops.map .base) = reach run cap rel ops ∧
      Fits Budget.init (ops.map .base) :=
  ⟨reachRB_base run cap rel ops, fits_base ops hlen⟩

/-- fewer than `2^10` single operations (`xchg` included) and batch removals always fit -/
theorem fits_without_doubling (ops : List OpRB) (hx : ∀ op ∈ ops, op.doubles = false)
    (hlen : ops.length < 2 ^ 10) : Fits Budget.init ops := by
  apply fits_of_length_gen 1024 ops _ hx
  · show 0 + ops.length ≤ 1024; omega
  · show 2 + ops.length ≤ 1024 + 2; omega
  · show 1 + (ops.length + 1) * ((1024 + 2) * (1024 + 1)) + 1 ≤ maxU32
    have : (ops.length + 1) * ((1024 + 2) * (1024 + 1)) ≤ 1024 * ((1024 + 2) * (1024 + 1)) :=
      Nat.mul_le_mul_right _ (by omega)
    simp only [maxU32]
    omega
  · omega

/-! ## refinement: the theorem C01 / C04 ask for -/

/-- **refines — the history theorem**: after every history of single AND batch operations within
    the bound, for every entry `(e, en)` of the specification: `e` is alive, its component set is
    the sorted list of the keys of `en.comps`, every component holds the recorded (= last written)
    value, and every relation component has the recorded target (= the last assigned one, or the
    zero entity after the target was removed — singly or by a batch); the recorded relations are
    exactly the relation components among the keys. -/
theorem refines (ops : List OpRB) (hf : Fits Budget.init ops) (e : Ent) (en : Entry)
    (hm : (e, en) ∈ (reachRB run cap rel ops).ss.ents) :
    (reachRB run cap rel ops).w.alive e = true ∧
    compsOf (reachRB run cap rel ops).w e.id =
      some (sortedIds (reachRB run cap rel ops).w.kinds.length (keys en.comps)) ∧
    (∀ cv ∈ en.comps, valOf (reachRB run cap rel ops).w e.id cv.1 = some cv.2) ∧
    (∀ r ∈ en.rels, targetOf (reachRB run cap rel ops).w e.id r.comp = some r.target) ∧
    (keys en.comps).Nodup ∧ (∀ c ∈ keys en.comps, c < (reachRB run cap rel ops).w.kinds.length) ∧
    (en.rels.map (·.comp)).Nodup ∧
    (∀ c : Comp, c ∈ en.rels.map (·.comp) ↔
      c ∈ keys en.comps ∧ (reachRB run cap rel ops).w.isRelComp c = true) := by
  obtain ⟨fl, h⟩ := reachRB_inv run cap rel ops hf
  obtain ⟨_, ha, _⟩ := h.hinv.live_facts hm
  have ok := h.hinv.ok e en hm
  exact ⟨ha, ok.comps, ok.vals, ok.tgts, ok.nodup, ok.reg, ok.relNodup,
    fun c => by rw [ok.relKeys c, h.hinv.rget]⟩

/-- … a component that is not a key of the entry is absent, and a component for which the entry
    records no relation carries no target -/
theorem refines_absent (ops : List OpRB) (hf : Fits Budget.init ops) (e : Ent) (en : Entry)
    (hm : (e, en) ∈ (reachRB run cap rel ops).ss.ents) (c : Comp) :
    (c ∉ keys en.comps → valOf (reachRB run cap rel ops).w e.id c = none) ∧
    (c ∉ en.rels.map (·.comp) → targetOf (reachRB run cap rel ops).w e.id c = none) := by
  obtain ⟨fl, h⟩ := reachRB_inv run cap rel ops hf
  have ok := h.hinv.ok e en hm
  constructor
  · intro hc
    exact valOf_none_of_comps ok.comps (fun hh => hc (Refine.mem_sortedIds.mp hh).2)
  · intro hc
    cases ht : targetOf (reachRB run cap rel ops).w e.id c with
    | none => rfl
    | some x => exact absurd ((h.hinv.target_isSome_iff hm c).mp (by rw [ht]; rfl)) hc

/-- **exactly the alive entities are specified**: a handle some creating call returned is alive
    iff the specification has an entry for it -/
theorem alive_iff_specified (ops : List OpRB) (hf : Fits Budget.init ops) (h : Ent)
    (hi : h ∈ (reachRB run cap rel ops).issued) :
    (reachRB run cap rel ops).w.alive h = true ↔
      h ∈ (reachRB run cap rel ops).ss.ents.map (·.1) := by
  obtain ⟨fl, hinv⟩ := reachRB_inv run cap rel ops hf
  exact Pool.alive_iff_live _ fl hinv.hinv.ginv h hi

theorem unspecified_dead (ops : List OpRB) (hf : Fits Budget.init ops) (h : Ent)
    (hi : h ∈ (reachRB run cap rel ops).issued)
    (hn : h ∉ (reachRB run cap rel ops).ss.ents.map (·.1)) :
    (reachRB run cap rel ops).w.alive h = false := by
  cases ha : (reachRB run cap rel ops).w.alive h with
  | false => rfl
  | true => exact absurd ((alive_iff_specified run cap rel ops hf h hi).mp ha) hn

theorem spec_handles_nodup (ops : List OpRB) (hf : Fits Budget.init ops) :
    ((reachRB run cap rel ops).ss.ents.map (·.1)).Nodup ∧
    (∀ h ∈ (reachRB run cap rel ops).ss.ents.map (·.1), h ∈ (reachRB run cap rel ops).issued) ∧
    (reachRB run cap rel ops).issued.Nodup := by
  obtain ⟨fl, hinv⟩ := reachRB_inv run cap rel ops hf
  exact ⟨hinv.hinv.ginv.live_nodup, hinv.hinv.ginv.live_issued, hinv.hinv.nodup⟩

/-- the specification's registry is the model's -/
theorem registry_agrees (ops : List OpRB) (hf : Fits Budget.init ops) :
    (reachRB run cap rel ops).ss.zst = (reachRB run cap rel ops).w.kinds.map (·.zst) ∧
    (reachRB run cap rel ops).ss.isRel = (reachRB run cap rel ops).w.kinds.map (·.isRel) := by
  obtain ⟨fl, h⟩ := reachRB_inv run cap rel ops hf
  exact ⟨h.hinv.zstEq, h.hinv.relEq⟩

/-- **targets are the zero entity or alive** (C04): every target the specification records is the
    zero entity or a specified — hence alive — entity, also after batch removals of targets -/
theorem targets_zero_or_alive (ops : List OpRB) (hf : Fits Budget.init ops) (e : Ent) (en : Entry)
    (hm : (e, en) ∈ (reachRB run cap rel ops).ss.ents) (r : RelID) (hr : r ∈ en.rels) :
    r.target.isZero = true ∨ (r.target ∈ (reachRB run cap rel ops).ss.ents.map (·.1) ∧
      (reachRB run cap rel ops).w.alive r.target = true) := by
  obtain ⟨fl, h⟩ := reachRB_inv run cap rel ops hf
  rcases h.hinv.tgtsOK e en hm r hr with k | k
  · exact Or.inl k
  · exact Or.inr ⟨find_isSome_iff.mp k, h.hinv.alive_of_find k⟩

/-! ## invalid operations are rejected without effect, valid ones succeed -/

/-- **rejected** — an expressible operation, single or batch (`guardRB`), whose precondition
    (`preRB`, a statement about the specification only: none for `delb`; for `setrelb` "the list is
    not empty, names relation components only, and every target is the zero entity or specified")
    fails: the model panics with the world unchanged, and the whole machine state (world, returned
    handles, specification) is unchanged. -/
theorem rejected (ops : List OpRB) (op : OpRB) (hf : Fits Budget.init (ops ++ [op]))
    (hg : guardRB (reachRB run cap rel ops) op = true)
    (hnp : ¬ preRB (reachRB run cap rel ops).ss op) :
    (∃ k, execRB run (reachRB run cap rel ops).w op = .panic k (reachRB run cap rel ops).w) ∧
    reachRB run cap rel (ops ++ [op]) = reachRB run cap rel ops := by
  obtain ⟨_, _, _, _, grej, _⟩ := reachRB_step run cap rel ops op hf
  exact grej hg hnp

/-- **accepted** — an expressible operation whose precondition holds succeeds -/
theorem accepted (ops : List OpRB) (op : OpRB) (hf : Fits Budget.init (ops ++ [op]))
    (hg : guardRB (reachRB run cap rel ops) op = true)
    (hp : preRB (reachRB run cap rel ops).ss op) :
    ∃ r w', execRB run (reachRB run cap rel ops).w op = .ok r w' := by
  obtain ⟨_, _, _, _, _, gok⟩ := reachRB_step run cap rel ops op hf
  exact gok hg hp

/-- a batch removal on an expressible filter is always accepted (an empty selection removes
    nothing) -/
theorem delb_accepted (ops : List OpRB) (f : Filter) (frels : Rels)
    (hf : Fits Budget.init (ops ++ [.delb f frels]))
    (hg : guardRB (reachRB run cap rel ops) (.delb f frels) = true) :
    ∃ w', opRemoveEntities run (foOf f frels) [] false (reachRB run cap rel ops).w = .ok () w' := by
  obtain ⟨fl, H, _, hroom, _, _⟩ := reachRB_step run cap rel ops _ hf
  obtain ⟨w', hop, _⟩ := step_delb run H f frels hg hroom
  exact ⟨w', hop⟩

/-! ## the batch steps -/

/-- **model selection = specification selection**: at every reachable state the entities a batch
    on an expressible filter touches in the model (`selEnts`: the selected tables, row by row) are
    exactly the entities of the specification the filter matches: the mask test on the key set,
    and every relation asked for recorded -/
theorem selection_agrees (ops : List OpRB) (hf : Fits Budget.init ops) (f : Filter) (frels : Rels)
    (hg : frelsExpr (reachRB run cap rel ops).ss f frels = true) (e : Ent) :
    e ∈ selEnts (reachRB run cap rel ops).w f frels ↔
      ∃ en, (e, en) ∈ (reachRB run cap rel ops).ss.ents ∧
        f.matchesMask (Mask.ofList (keys en.comps)) = true ∧ ∀ r ∈ frels, r ∈ en.rels := by
  obtain ⟨fl, H⟩ := reachRB_inv run cap rel ops hf
  obtain ⟨_, _, _, _, hiff, _⟩ := sel_spec H hg
  rw [hiff e, mem_matching]
  simp only [entryMatches, Bool.and_eq_true, List.all_eq_true, decide_eq_true_eq]

theorem id_not_selected {s : St} {fl : List Nat} (H : HInvRB s fl) {f : Filter} {frels : Rels}
    (hiff : ∀ e, e ∈ selEnts s.w f frels ↔ e ∈ matching s.ss f frels) {x : Ent} {en : Entry}
    (hm : (x, en) ∈ s.ss.ents) (hnm : x ∉ matching s.ss f frels) :
    x.id ∉ (selEnts s.w f frels).map (·.id) := by
  intro hmm
  obtain ⟨e, he, heq⟩ := List.mem_map.mp hmm
  obtain ⟨en', hm', _⟩ := mem_matching.mp ((hiff e).mp he)
  exact hnm (H.hinv.id_inj hm' hm heq ▸ (hiff e).mp he)

/-- **batch removal** — the specification loses exactly the matching entries and every target
    among the removed entities reads the zero entity in the entries that stay (= the fold of the
    single `RemoveEntity` steps over them, in any order); no handle is issued.  In the world:
    every matching entity is dead and its ID is not indexed any more; every other specified entity
    keeps its component set and its values, and each of its targets reads the zero entity if it
    was removed and is unchanged otherwise. -/
theorem delb_effect (ops : List OpRB) (f : Filter) (frels : Rels)
    (hf : Fits Budget.init (ops ++ [.delb f frels]))
    (hg : guardRB (reachRB run cap rel ops) (.delb f frels) = true) :
    (reachRB run cap rel (ops ++ [.delb f frels])).ss.ents =
      ((reachRB run cap rel ops).ss.ents.filter fun x =>
        decide (x.1 ∉ matching (reachRB run cap rel ops).ss f frels)).map (fun x =>
          (x.1, detachAll (matching (reachRB run cap rel ops).ss f frels) x.2)) ∧
    (reachRB run cap rel (ops ++ [.delb f frels])).ss.zst = (reachRB run cap rel ops).ss.zst ∧
    (reachRB run cap rel (ops ++ [.delb f frels])).issued = (reachRB run cap rel ops).issued ∧
    (∀ (e : Ent), e ∈ matching (reachRB run cap rel ops).ss f frels →
      (reachRB run cap rel (ops ++ [.delb f frels])).w.alive e = false ∧
      compsOf (reachRB run cap rel (ops ++ [.delb f frels])).w e.id = none ∧
      (∀ c : Comp, valOf (reachRB run cap rel (ops ++ [.delb f frels])).w e.id c = none) ∧
      ∀ c : Comp, targetOf (reachRB run cap rel (ops ++ [.delb f frels])).w e.id c = none) ∧
    ∀ (x : Ent) (en : Entry), (x, en) ∈ (reachRB run cap rel ops).ss.ents →
      x ∉ matching (reachRB run cap rel ops).ss f frels →
      (reachRB run cap rel (ops ++ [.delb f frels])).w.alive x = true ∧
      compsOf (reachRB run cap rel (ops ++ [.delb f frels])).w x.id =
        compsOf (reachRB run cap rel ops).w x.id ∧
      (∀ c : Comp, valOf (reachRB run cap rel (ops ++ [.delb f frels])).w x.id c =
        valOf (reachRB run cap rel ops).w x.id c) ∧
      ∀ c : Comp, targetOf (reachRB run cap rel (ops ++ [.delb f frels])).w x.id c =
        (targetOf (reachRB run cap rel ops).w x.id c).map
          (zeroIn (matching (reachRB run cap rel ops).ss f frels)) := by
  obtain ⟨fl, H, _, hroom, _, _⟩ := reachRB_step run cap rel ops _ hf
  obtain ⟨w', _, hst, post, _, H'⟩ := step_delb run H f frels hg hroom
  obtain ⟨_, _, _, _, hiff, hids, _⟩ := sel_spec H (show frelsExpr _ f frels = true from hg)
  have hnd := H.hinv.ginv.live_nodup
  rw [reachRB_snoc, hst]
  refine ⟨specDelAll_ents _ _ hnd (fun e he => matching_sub he) (matching_nodup hnd f frels),
    specDelAll_zst _ _, rfl, ?_, ?_⟩
  · intro e he
    have hs := (hiff e).mpr he
    exact ⟨post.dead e hs, (post.unindexed e hs).2.1, (post.unindexed e hs).1,
      (post.unindexed e hs).2.2⟩
  · intro x en hm hnm
    have hid := id_not_selected H hiff hm hnm
    obtain ⟨hsame, htg⟩ := post.frame x.id hid
    refine ⟨?_, hsame.2, hsame.1, fun c => ?_⟩
    · show w'.alive x = true
      rw [post.aliveFrame x hid]; exact (H.hinv.live_facts hm).2.1
    · show targetOf w' x.id c = _
      rw [htg c]
      cases targetOf (reachRB run cap rel ops).w x.id c with
      | none => rfl
      | some t => simp only [Option.map_some, zeroIn_congr hiff]

/-- **batch removal = the single removals** (C06 with relation targets, as steps of the machine):
    within the size bound of the singles, the step `delb f frels` and the run of `del e` over the
    selected entities in the batch's order reach the same specification, the same issued handles,
    the same pool (every later creation returns the same handle), and worlds that agree on the
    liveness of every handle and on the components, values and relation targets of every ID. -/
theorem delb_is_singles (ops : List OpRB) (f : Filter) (frels : Rels) (hf : Fits Budget.init ops)
    (hg : guardRB (reachRB run cap rel ops) (.delb f frels) = true)
    (hfew : (reachRB run cap rel ops).w.tables.length +
      (selEnts (reachRB run cap rel ops).w f frels).length *
        (reachRB run cap rel ops).w.relationArchetypes.length + 1 ≤ maxU32)
    (hrows : 2 * (reachRB run cap rel ops).w.entities.length < 2 ^ 32) :
    ∃ sb ss' : St,
      stepRB run (reachRB run cap rel ops) (.delb f frels) = sb ∧
      runOps run (reachRB run cap rel ops)
        ((selEnts (reachRB run cap rel ops).w f frels).map .del) = ss' ∧
      sb.ss = ss'.ss ∧ sb.issued = ss'.issued ∧ sb.w.pool = ss'.w.pool ∧
      (∀ x : Ent, sb.w.alive x = ss'.w.alive x) ∧
      (∀ (i : Nat) (c : Comp), valOf sb.w i c = valOf ss'.w i c) ∧
      (∀ i : Nat, compsOf sb.w i = compsOf ss'.w i) ∧
      (∀ (i : Nat) (c : Comp), targetOf sb.w i c = targetOf ss'.w i c) ∧
      ∃ fl', HInv ss' fl' := by
  obtain ⟨fl, H⟩ := reachRB_inv run cap rel ops hf
  generalize reachRB run cap rel ops = s at H hg hfew hrows ⊢
  have h := H.hinv.tinv
  have hgx : frelsExpr s.ss f frels = true := hg
  have hr := relsTyped_of_expr H.hinv hgx
  obtain ⟨ts, hts, S, hsel, hiff, hids, hlen⟩ := sel_spec H hgx
  obtain ⟨ts2, hts2, _, hboth⟩ := opRemoveEntities_rel_eq_singles run h H.rows H.hinv.unlocked
    H.hinv.noObs (foOf f frels) [] rfl hr hrows
  rw [hts] at hts2
  injection hts2 with e1 _
  subst e1
  rw [← hsel] at hboth
  obtain ⟨w', w'', hb, hs, pb, ps, hpool⟩ := hboth hfew
  have hnd := H.hinv.ginv.live_nodup
  have hsub : ∀ e ∈ selEnts s.w f frels, e ∈ s.ss.ents.map (·.1) :=
    fun e he => matching_sub ((hiff e).mp he)
  have hspec : specStepRB s.ss [] (.delb f frels) = specDelAll s.ss (selEnts s.w f frels) :=
    specDelAll_perm hnd (fun e he => matching_sub he) (matching_nodup hnd f frels)
      (nodup_of_ids hids) (fun e => (hiff e).symm)
  obtain ⟨o1, o2, o3, o4, _, _⟩ := pb.obs_eq ps (fun _ => Iff.rfl)
  have hstep : stepRB run s (.delb f frels) = ⟨w', s.issued, specDelAll s.ss (selEnts s.w f frels)⟩ := by
    rw [← hspec]; exact stepBatch_ok run hg w' (by simp only [execRB, hb])
  have hrun := runOps_dels run _ s w'' (fun e he => H.hinv.ginv.live_issued e (hsub e he)) hs
  refine ⟨_, _, rfl, rfl, ?_⟩
  rw [hstep, hrun]
  exact ⟨rfl, rfl, hpool, o1, o2, o3, o4, _, HInv.removedAll H.hinv hsub (nodup_of_ids hids) ps⟩

/-- the specification step of `delb` does not depend on the order in which the selected entities
    are removed: any duplicate-free list with the same members gives the same specification -/
theorem delb_any_order (ops : List OpRB) (f : Filter) (frels : Rels) (hf : Fits Budget.init ops)
    (es : List Ent) (hes : es.Nodup)
    (hmem : ∀ e, e ∈ es ↔ e ∈ matching (reachRB run cap rel ops).ss f frels) :
    specStepRB (reachRB run cap rel ops).ss [] (.delb f frels) =
      specDelAll (reachRB run cap rel ops).ss es := by
  obtain ⟨fl, H⟩ := reachRB_inv run cap rel ops hf
  have hnd := H.hinv.ginv.live_nodup
  exact specDelAll_perm hnd (fun e he => matching_sub he) (matching_nodup hnd f frels) hes
    (fun e => (hmem e).symm)

/-- **`SetRelationsBatch`** — a valid call succeeds; the specification assigns `rels` in exactly
    the matching entries (the fold of the single `SetRelations` steps over them) and keeps the
    others; no handle is issued.  In the world: everybody keeps liveness, components and values;
    every matching entity has the targets named and keeps its other targets; nobody else's targets
    change. -/
theorem setrelb_effect (ops : List OpRB) (p : Path) (f : Filter) (frels rels : Rels)
    (hf : Fits Budget.init (ops ++ [.setrelb p f frels rels]))
    (hg : guardRB (reachRB run cap rel ops) (.setrelb p f frels rels) = true)
    (hp : preRB (reachRB run cap rel ops).ss (.setrelb p f frels rels)) :
    (reachRB run cap rel (ops ++ [.setrelb p f frels rels])).ss.ents =
      (reachRB run cap rel ops).ss.ents.map (fun x =>
        if x.1 ∈ matching (reachRB run cap rel ops).ss f frels then (x.1, setEntry rels x.2)
        else x) ∧
    (reachRB run cap rel (ops ++ [.setrelb p f frels rels])).issued =
      (reachRB run cap rel ops).issued ∧
    (∀ x : Ent, (reachRB run cap rel (ops ++ [.setrelb p f frels rels])).w.alive x =
      (reachRB run cap rel ops).w.alive x) ∧
    (∀ j : Nat, SameEnt (reachRB run cap rel ops).w
      (reachRB run cap rel (ops ++ [.setrelb p f frels rels])).w j) ∧
    (∀ e ∈ matching (reachRB run cap rel ops).ss f frels,
      (∀ r ∈ rels, targetOf (reachRB run cap rel (ops ++ [.setrelb p f frels rels])).w e.id r.comp =
        some r.target) ∧
      ∀ c : Comp, (∀ r ∈ rels, r.comp ≠ c) →
        targetOf (reachRB run cap rel (ops ++ [.setrelb p f frels rels])).w e.id c =
          targetOf (reachRB run cap rel ops).w e.id c) ∧
    ∀ (x : Ent) (en : Entry), (x, en) ∈ (reachRB run cap rel ops).ss.ents →
      x ∉ matching (reachRB run cap rel ops).ss f frels → ∀ c : Comp,
      targetOf (reachRB run cap rel (ops ++ [.setrelb p f frels rels])).w x.id c =
        targetOf (reachRB run cap rel ops).w x.id c := by
  obtain ⟨fl, H, _, hroom, _, _⟩ := reachRB_step run cap rel ops _ hf
  obtain ⟨_, gok⟩ := step_setrelb run H p f frels rels hg hroom
  obtain ⟨w', _, hst, post, _, _, hents, _⟩ := gok hp
  obtain ⟨hgx, _, _⟩ := guard_setrelb hg
  obtain ⟨_, _, _, _, hiff, _, _⟩ := sel_spec H hgx
  rw [reachRB_snoc, hst]
  refine ⟨hents, rfl, post.aliveSame, post.same, ?_, ?_⟩
  · intro e he
    exact ⟨post.targets e ((hiff e).mpr he), post.otherTargets e ((hiff e).mpr he)⟩
  · intro x en hm hnm c
    exact post.frame x.id (id_not_selected H hiff hm hnm) c

/-- **`SetRelationsBatch` = the single `SetRelations`** (C06, as steps of the machine; the singles
    may create one table each, hence the explicit size bound): same specification, same issued
    handles, same pool, worlds that agree on liveness, components, values and relation targets. -/
theorem setrelb_is_singles (ops : List OpRB) (p : Path) (f : Filter) (frels rels : Rels)
    (hf : Fits Budget.init (ops ++ [.setrelb p f frels rels]))
    (hg : guardRB (reachRB run cap rel ops) (.setrelb p f frels rels) = true)
    (hp : preRB (reachRB run cap rel ops).ss (.setrelb p f frels rels))
    (hfew : (reachRB run cap rel ops).w.tables.length +
      (selEnts (reachRB run cap rel ops).w f frels).length < maxU32) :
    ∃ sb ss' : St,
      stepRB run (reachRB run cap rel ops) (.setrelb p f frels rels) = sb ∧
      runOps run (reachRB run cap rel ops)
        ((selEnts (reachRB run cap rel ops).w f frels).map fun e => .setrel p e rels) = ss' ∧
      sb.ss = ss'.ss ∧ sb.issued = ss'.issued ∧ sb.w.pool = ss'.w.pool ∧
      (∀ x : Ent, sb.w.alive x = ss'.w.alive x) ∧
      (∀ (i : Nat) (c : Comp), valOf sb.w i c = valOf ss'.w i c) ∧
      (∀ i : Nat, compsOf sb.w i = compsOf ss'.w i) ∧
      (∀ (i : Nat) (c : Comp), targetOf sb.w i c = targetOf ss'.w i c) := by
  obtain ⟨fl, H, _, hroom, _, _⟩ := reachRB_step run cap rel ops _ hf
  generalize reachRB run cap rel ops = s at H hg hp hroom hfew ⊢
  have h := H.hinv.tinv
  obtain ⟨hgx, hx, hcase⟩ := guard_setrelb hg
  obtain ⟨hne, hrel, hv⟩ := hp
  obtain ⟨hrnd, hmask⟩ : (rels.map (·.comp)).Nodup ∧ ∀ r ∈ rels, f.mask.get r.comp = true := by
    rcases hcase with k | k
    · exact absurd k hne
    · exact k
  have hemp : rels.isEmpty = false := by
    cases rels with
    | nil => exact absurd rfl hne
    | cons _ _ => rfl
  obtain ⟨_, hstepB⟩ := step_setrelb run H p f frels rels hg hroom
  obtain ⟨w', _, hstep, pb, more, hspec, _, _⟩ := hstepB ⟨hne, hrel, hv⟩
  obtain ⟨_, _, _, _, _, hids, _⟩ := sel_spec H hgx
  have hrc : ∀ r ∈ rels, s.w.isRelComp r.comp = true ∧ r.comp < 256 := fun r hr =>
    ⟨by rw [← H.hinv.rget]; exact hrel r hr, isRel_lt H.hinv (hrel r hr)⟩
  have hval := H.hinv.targets_alive hv
  have htin := H.hinv.targets_in hv
  have hlive : ∀ (e : Ent), e ∈ selEnts s.w f frels → 2 ≤ e.id ∧ e.id ∉ fl ∧ s.w.alive e = true ∧
      ∀ (r : RelID), r ∈ rels → (targetOf s.w e.id r.comp).isSome = true := by
    intro e he
    obtain ⟨h2, hnf, ha, _, _, en, hm, hmm⟩ := sel_live H hgx he
    have hloc := setRelOK_of_match H.hinv hne hrnd hmask hrel hv hm hmm
    exact ⟨h2, hnf, ha, fun r hr => (H.hinv.target_isSome_iff hm r.comp).mpr (hloc.2.2.1 r hr)⟩
  have hlin : ∀ (e : Ent), e ∈ selEnts s.w f frels → e.id < s.w.pool.ents.length :=
    fun e he => (sel_live H hgx he).2.2.2.1
  obtain ⟨w'', _, ps, hpool, hops⟩ := setRelSeq_full run hemp hrnd p (rels.map (·.comp))
    (selEnts s.w f frels) h H.hinv.unlocked H.hinv.noObs hlive hlin hids hval htin hfew
    (by have := hroom.2; omega)
  have hiss : ∀ e ∈ selEnts s.w f frels, e ∈ s.issued := fun e he => (sel_live H hgx he).2.2.2.2.1
  -- the pre-validation reads liveness of the targets and the registry only
  have hrun := runOps_setrels run p rels (selEnts s.w f frels) s w'' hiss hx (hops fun V hp hk =>
    preCheck_ok_of_mem p.setRelCheck
      (fun r hr => by simp only [World.alive, hp]; exact hval r hr)
      fun r hr => ⟨by simp only [World.isRelComp, hk]; exact (hrc r hr).1, (hrc r hr).2,
        List.mem_map.mpr ⟨r, hr, rfl⟩⟩)
  obtain ⟨o1, o2, o3, o4, _, _⟩ := pb.obs_eq ps (fun _ => Iff.rfl)
  refine ⟨_, _, rfl, rfl, ?_⟩
  rw [hstep, hspec, hrun]
  exact ⟨rfl, rfl, more.pool.trans hpool.symm, o1, o2, o3, o4⟩

/-- **the single `Exchange` with relation targets** — an accepted `xchg p e add vals rem rels`
    rewrites exactly the entry of `e`: the components that stay keep their values, the added ones
    start at zero, then `vals` are written; the relations that stay, then the given ones -/
theorem xchg_effect (ops : List OpRB) (p : Path) (e : Ent) (add : List Comp) (vals : Comps)
    (rem : List Comp) (rels : Rels) (hf : Fits Budget.init (ops ++ [.xchg p e add vals rem rels]))
    (hg : guardRB (reachRB run cap rel ops) (.xchg p e add vals rem rels) = true) (en : Entry)
    (hfe : find (reachRB run cap rel ops).ss.ents e = some en)
    (hok : XchgOK (reachRB run cap rel ops).ss en add rem rels) :
    (reachRB run cap rel (ops ++ [.xchg p e add vals rem rels])).ss.ents =
      upd (reachRB run cap rel ops).ss.ents e
        (xchgEntry (reachRB run cap rel ops).ss.zst add vals rem rels) ∧
    (reachRB run cap rel (ops ++ [.xchg p e add vals rem rels])).issued =
      (reachRB run cap rel ops).issued ∧
    ∃ w', opExchange run p e add vals rem rels (reachRB run cap rel ops).w = .ok () w' := by
  obtain ⟨fl, H, _, hroom, _, _⟩ := reachRB_step run cap rel ops _ hf
  obtain ⟨_, _, _, gok⟩ := step_xchg run H hroom.1 hroom.2 p e add vals rem rels
  obtain ⟨w', hop⟩ := gok hg ⟨en, hfe, hok⟩
  have hst : stepRB run _ (.xchg p e add vals rem rels) = _ :=
    stepBatch_ok run hg w' (by simp only [execRB, hop])
  rw [reachRB_snoc, hst]
  exact ⟨by simp only [specStepRB, specXchg, hfe, if_pos hok], rfl, w', hop⟩

/-- **exchange batch over relation tables** — a valid call succeeds; the specification rewrites
    exactly the matching entries by `xchgEntry … add [] rem rels` (the fold of the single `Exchange`
    steps over them) and keeps the others; no handle is issued.  In the world: everybody keeps
    liveness; every matching entity has the components `(current \ rem) ∪ add`, keeps the values of
    the components that stay, reads zero in the added ones, and has exactly the relation targets:
    its old ones on the components that stay, and the given ones; nobody else changes. -/
theorem xchgb_effect (ops : List OpRB) (p : Path) (f : Filter) (frels : Rels) (add rem : List Comp)
    (rels : Rels) (hf : Fits Budget.init (ops ++ [.xchgb p f frels add rem rels]))
    (hg : guardRB (reachRB run cap rel ops) (.xchgb p f frels add rem rels) = true)
    (hp : preRB (reachRB run cap rel ops).ss (.xchgb p f frels add rem rels)) :
    (reachRB run cap rel (ops ++ [.xchgb p f frels add rem rels])).ss.ents =
      (reachRB run cap rel ops).ss.ents.map (fun x =>
        if x.1 ∈ matching (reachRB run cap rel ops).ss f frels then
          (x.1, xchgEntry (reachRB run cap rel ops).ss.zst add [] rem rels x.2)
        else x) ∧
    (reachRB run cap rel (ops ++ [.xchgb p f frels add rem rels])).issued =
      (reachRB run cap rel ops).issued ∧
    (∃ fl, XchgAllPost (reachRB run cap rel ops).w fl
      (selEnts (reachRB run cap rel ops).w f frels) add rem rels
      (reachRB run cap rel (ops ++ [.xchgb p f frels add rem rels])).w) ∧
    (∀ e, e ∈ selEnts (reachRB run cap rel ops).w f frels ↔
      e ∈ matching (reachRB run cap rel ops).ss f frels) := by
  obtain ⟨fl, H, _, hroom, _, _⟩ := reachRB_step run cap rel ops _ hf
  obtain ⟨_, gok⟩ := step_xchgb run H p f frels add rem rels hg hroom
  obtain ⟨w', _, hst, post, _, _, hents, _⟩ := gok hp
  obtain ⟨hgx, _⟩ := guard_xchgb hg
  obtain ⟨_, _, _, _, hiff, _, _⟩ := sel_spec H hgx
  rw [reachRB_snoc, hst]
  exact ⟨hents, rfl, ⟨fl, post⟩, hiff⟩

/-- … spelled out for the matching entities and the others -/
theorem xchgb_world (ops : List OpRB) (p : Path) (f : Filter) (frels : Rels) (add rem : List Comp)
    (rels : Rels) (hf : Fits Budget.init (ops ++ [.xchgb p f frels add rem rels]))
    (hg : guardRB (reachRB run cap rel ops) (.xchgb p f frels add rem rels) = true)
    (hp : preRB (reachRB run cap rel ops).ss (.xchgb p f frels add rem rels)) :
    (∀ (e : Ent) (en : Entry), (e, en) ∈ (reachRB run cap rel ops).ss.ents →
      entryMatches f frels en = true →
      (∀ c ∈ rem, valOf (reachRB run cap rel (ops ++ [.xchgb p f frels add rem rels])).w e.id c = none ∧
        targetOf (reachRB run cap rel (ops ++ [.xchgb p f frels add rem rels])).w e.id c = none) ∧
      (∀ c ∈ add, valOf (reachRB run cap rel (ops ++ [.xchgb p f frels add rem rels])).w e.id c =
        some 0) ∧
      (∀ cv ∈ en.comps, cv.1 ∉ rem →
        valOf (reachRB run cap rel (ops ++ [.xchgb p f frels add rem rels])).w e.id cv.1 = some cv.2) ∧
      (∀ r ∈ rels, targetOf (reachRB run cap rel (ops ++ [.xchgb p f frels add rem rels])).w e.id r.comp =
        some r.target) ∧
      (∀ r ∈ en.rels, r.comp ∉ rem →
        targetOf (reachRB run cap rel (ops ++ [.xchgb p f frels add rem rels])).w e.id r.comp =
          some r.target)) ∧
    (∀ (x : Ent) (en : Entry), (x, en) ∈ (reachRB run cap rel ops).ss.ents →
      entryMatches f frels en = false →
      compsOf (reachRB run cap rel (ops ++ [.xchgb p f frels add rem rels])).w x.id =
        compsOf (reachRB run cap rel ops).w x.id ∧
      (∀ c : Comp, valOf (reachRB run cap rel (ops ++ [.xchgb p f frels add rem rels])).w x.id c =
        valOf (reachRB run cap rel ops).w x.id c) ∧
      ∀ c : Comp, targetOf (reachRB run cap rel (ops ++ [.xchgb p f frels add rem rels])).w x.id c =
        targetOf (reachRB run cap rel ops).w x.id c) := by
  obtain ⟨hents, _, _, _⟩ := xchgb_effect run cap rel ops p f frels add rem rels hf hg hp
  obtain ⟨hf1, _⟩ := (fits_snoc _ _ _).mp hf
  obtain ⟨fl, H⟩ := reachRB_inv run cap rel ops hf1
  have hnd := H.hinv.ginv.live_nodup
  constructor
  · intro e en hm hmm
    have hmem : e ∈ matching (reachRB run cap rel ops).ss f frels :=
      (mem_matching_of_mem hnd f frels hm).mpr hmm
    have hm' : (e, xchgEntry (reachRB run cap rel ops).ss.zst add [] rem rels en) ∈
        (reachRB run cap rel (ops ++ [.xchgb p f frels add rem rels])).ss.ents := by
      rw [hents]
      refine List.mem_map.mpr ⟨(e, en), hm, ?_⟩
      simp only [hmem, if_true]
    obtain ⟨_, _, v2, t2, hknd, _, hrnd2, hrk⟩ := refines run cap rel _ hf e _ hm'
    have hkeys : keys (xchgEntry (reachRB run cap rel ops).ss.zst add [] rem rels en).comps =
        ((keys en.comps).filter fun c => decide (c ∉ rem)) ++ add := by
      show keys (Refine.writeComps _ [] ((en.comps.filter fun cv => decide (cv.1 ∉ rem)) ++
        Refine.zeros add)) = _
      rw [Refine.keys_writeComps, Refine.keys_append, Refine.keys_zeros, keys_filter_eq]
    obtain ⟨hgx, _, _, _, hcase⟩ := guard_xchgb hg
    have hloc : XchgLocal en add rem := by
      rcases hcase with k | k
      · exact absurd k hp.1
      · exact k e en hm hmm
    have hnk : ∀ c ∈ rem,
        c ∉ keys (xchgEntry (reachRB run cap rel ops).ss.zst add [] rem rels en).comps := by
      intro c hc hk
      rw [hkeys, List.mem_append, List.mem_filter] at hk
      rcases hk with ⟨_, k⟩ | k
      · simp at k; exact k hc
      · exact hloc.2.2.2 c k (hloc.2.1 c hc)
    refine ⟨fun c hc => ?_, fun c hc => ?_, fun cv hcv hnr => ?_, fun r hr => ?_, fun r hr hnr => ?_⟩
    · obtain ⟨a1, a2⟩ := refines_absent run cap rel _ hf e _ hm' c
      refine ⟨a1 (hnk c hc), a2 ?_⟩
      intro hk
      exact hnk c hc ((hrk c).mp hk).1
    · simpa [lastVal] using Refine.writeComps_reads v2
        (List.mem_append_right _ (List.mem_map.mpr ⟨c, hc, rfl⟩))
    · simpa [lastVal] using Refine.writeComps_reads (c := cv.1) (v := cv.2) v2
        (List.mem_append_left _ (List.mem_filter.mpr ⟨hcv, by simpa using hnr⟩))
    · exact t2 r (List.mem_append_right _ hr)
    · exact t2 r (List.mem_append_left _ (List.mem_filter.mpr ⟨hr, by simpa using hnr⟩))
  · intro x en hm hnm
    obtain ⟨fl', H'⟩ := reachRB_inv run cap rel _ hf
    apply H.hinv.same_entry H'.hinv hm
    rw [reachRB_snoc]
    exact stepBatch_entry run hm fun _ => entry_after_xchgb hnd p f frels add rem rels hm hnm

/-- **exchange batch = the single `Exchange`s** (C06 over relation tables, as steps of the
    machine; the singles may create one table each, hence the explicit size bound): same
    specification, same issued handles, same pool, worlds that agree on liveness, components,
    values and relation targets. -/
theorem xchgb_is_singles (ops : List OpRB) (p : Path) (f : Filter) (frels : Rels)
    (add rem : List Comp) (rels : Rels)
    (hf : Fits Budget.init (ops ++ [.xchgb p f frels add rem rels]))
    (hg : guardRB (reachRB run cap rel ops) (.xchgb p f frels add rem rels) = true)
    (hp : preRB (reachRB run cap rel ops).ss (.xchgb p f frels add rem rels))
    (hfew : (reachRB run cap rel ops).w.tables.length +
      (selEnts (reachRB run cap rel ops).w f frels).length < maxU32) :
    ∃ sb ss' : St,
      stepRB run (reachRB run cap rel ops) (.xchgb p f frels add rem rels) = sb ∧
      runOpsRB run (reachRB run cap rel ops)
        ((selEnts (reachRB run cap rel ops).w f frels).map fun e => .xchg p e add [] rem rels) = ss' ∧
      sb.ss = ss'.ss ∧ sb.issued = ss'.issued ∧ sb.w.pool = ss'.w.pool ∧
      (∀ x : Ent, sb.w.alive x = ss'.w.alive x) ∧
      (∀ (i : Nat) (c : Comp), valOf sb.w i c = valOf ss'.w i c) ∧
      (∀ i : Nat, compsOf sb.w i = compsOf ss'.w i) ∧
      (∀ (i : Nat) (c : Comp), targetOf sb.w i c = targetOf ss'.w i c) := by
  obtain ⟨fl, H, _, hroom, _, _⟩ := reachRB_step run cap rel ops _ hf
  generalize reachRB run cap rel ops = s at H hg hp hroom hfew ⊢
  have h := H.hinv.tinv
  have HB := H.hinv
  obtain ⟨hgx, hreg, hst, hx, hcase⟩ := guard_xchgb hg
  obtain ⟨hne, hrin, hv⟩ := hp
  have hgl : XchgGlobal s.ss add rem rels := ⟨hne, hreg, ⟨hst.1, hrin, hst.2.2⟩, hv⟩
  have hloc : ∀ (x : Ent) (en : Entry), (x, en) ∈ s.ss.ents → entryMatches f frels en = true →
      XchgLocal en add rem := by
    rcases hcase with k | k
    · exact absurd k hne
    · exact k
  obtain ⟨_, hstepB⟩ := step_xchgb run H p f frels add rem rels hg hroom
  obtain ⟨w', _, hstep, pb, more, hspec, _, _⟩ := hstepB ⟨hne, hrin, hv⟩
  obtain ⟨_, _, _, _, _, hids, _⟩ := sel_spec H hgx
  have htin := HB.targets_in hv
  have hlive : ∀ (e : Ent), e ∈ selEnts s.w f frels → 2 ≤ e.id ∧ e.id ∉ fl ∧ s.w.alive e = true ∧
      XchgPre s.w e add rem rels := by
    intro e he
    obtain ⟨h2, hnf, ha, _, _, en, hm, hmm⟩ := sel_live H hgx he
    exact ⟨h2, hnf, ha, xchgPre_of_ok HB hm (xchgOK_of hgl (hloc e en hm hmm))⟩
  have hlin : ∀ (e : Ent), e ∈ selEnts s.w f frels → e.id < s.w.pool.ents.length :=
    fun e he => (sel_live H hgx he).2.2.2.1
  have hent1 : s.w.entities.length + 1 < 2 ^ 32 := by have := hroom.2; omega
  obtain ⟨w'', hs, ps, hpool⟩ := xchgSeq_full run p (selEnts s.w f frels) h HB.unlocked HB.noObs hlive
    hlin hids htin hfew hent1
  have hiss : ∀ e ∈ selEnts s.w f frels, e ∈ s.issued := fun e he => (sel_live H hgx he).2.2.2.2.1
  have hrun := runOpsRB_xchgs run p add rem rels (selEnts s.w f frels) s w'' hiss hreg hst hx hs
  have hcomps : ∀ (e : Ent), e ∈ selEnts s.w f frels → ∃ (cs : List Comp),
      compsOf s.w e.id = some cs := by
    intro e he
    exact h.compsOf_live (hlive e he).1 (hlive e he).2.1 (hlive e he).2.2.1 (hlin e he)
  obtain ⟨o1, o2, o3, o4, _, _⟩ := pb.obs_eq ps (fun _ => Iff.rfl) hcomps
  refine ⟨_, _, rfl, rfl, ?_⟩
  rw [hstep, hspec, hrun]
  exact ⟨rfl, rfl, more.pool.trans hpool.symm, o1, o2, o3, o4⟩

/-! ## frame -/

/-- **frame** (specification): a batch step changes only the entries of the selected entities —
    an entity the filter does not match keeps its entry; after `delb` every target of it that was
    selected reads the zero entity -/
theorem frame_delb (ops : List OpRB) (hf : Fits Budget.init ops) (f : Filter) (frels : Rels)
    (x : Ent) (en : Entry) (hm : (x, en) ∈ (reachRB run cap rel ops).ss.ents)
    (hnm : entryMatches f frels en = false) :
    (x, detachAll (matching (reachRB run cap rel ops).ss f frels) en) ∈
      (specStepRB (reachRB run cap rel ops).ss [] (.delb f frels)).ents := by
  obtain ⟨fl, H⟩ := reachRB_inv run cap rel ops hf
  exact entry_after_delb H.hinv.ginv.live_nodup f frels hm hnm

theorem frame_setrelb (ops : List OpRB) (hf : Fits Budget.init ops) (p : Path) (f : Filter)
    (frels rels : Rels) (x : Ent) (en : Entry) (hm : (x, en) ∈ (reachRB run cap rel ops).ss.ents)
    (hnm : entryMatches f frels en = false) :
    (x, en) ∈ (specStepRB (reachRB run cap rel ops).ss [] (.setrelb p f frels rels)).ents := by
  obtain ⟨fl, H⟩ := reachRB_inv run cap rel ops hf
  exact entry_after_setrelb H.hinv.ginv.live_nodup p f frels rels hm hnm

theorem frame_xchgb (ops : List OpRB) (hf : Fits Budget.init ops) (p : Path) (f : Filter)
    (frels : Rels) (add rem : List Comp) (rels : Rels) (x : Ent) (en : Entry)
    (hm : (x, en) ∈ (reachRB run cap rel ops).ss.ents) (hnm : entryMatches f frels en = false) :
    (x, en) ∈ (specStepRB (reachRB run cap rel ops).ss [] (.xchgb p f frels add rem rels)).ents := by
  obtain ⟨fl, H⟩ := reachRB_inv run cap rel ops hf
  exact entry_after_xchgb H.hinv.ginv.live_nodup p f frels add rem rels hm hnm

theorem same_entry_same_entity (ops : List OpRB) (op : OpRB) (hf : Fits Budget.init (ops ++ [op]))
    (x : Ent) (en : Entry) (hm : (x, en) ∈ (reachRB run cap rel ops).ss.ents)
    (hm' : (x, en) ∈ (reachRB run cap rel (ops ++ [op])).ss.ents) :
    compsOf (reachRB run cap rel (ops ++ [op])).w x.id = compsOf (reachRB run cap rel ops).w x.id ∧
    (∀ c : Comp, valOf (reachRB run cap rel (ops ++ [op])).w x.id c =
      valOf (reachRB run cap rel ops).w x.id c) ∧
    ∀ c : Comp, targetOf (reachRB run cap rel (ops ++ [op])).w x.id c =
      targetOf (reachRB run cap rel ops).w x.id c := by
  obtain ⟨hf1, _⟩ := (fits_snoc _ _ _).mp hf
  obtain ⟨fl, H⟩ := reachRB_inv run cap rel ops hf1
  obtain ⟨fl', H'⟩ := reachRB_inv run cap rel _ hf
  exact H.hinv.same_entry H'.hinv hm hm'

/-- **frame** (model), single operations inside mixed histories: an operation of `Ark.RelRefine`
    other than `del` that does not name `x` (`subject`) changes nothing of the specified entity
    `x`: component set, values, relation targets.  (For `del g` — and the batch removal — the
    targets equal to a removed entity become the zero entity: `delb_effect`.) -/
theorem frame_world_base (ops : List OpRB) (op : Op) (hf : Fits Budget.init (ops ++ [.base op]))
    (x : Ent) (en : Entry) (hm : (x, en) ∈ (reachRB run cap rel ops).ss.ents)
    (hd : op.isDel = false) (hx : subject op ≠ some x) :
    compsOf (reachRB run cap rel (ops ++ [.base op])).w x.id =
      compsOf (reachRB run cap rel ops).w x.id ∧
    (∀ c : Comp, valOf (reachRB run cap rel (ops ++ [.base op])).w x.id c =
      valOf (reachRB run cap rel ops).w x.id c) ∧
    ∀ c : Comp, targetOf (reachRB run cap rel (ops ++ [.base op])).w x.id c =
      targetOf (reachRB run cap rel ops).w x.id c := by
  obtain ⟨fl, H, _, hroom, _, _⟩ := reachRB_step run cap rel ops _ hf
  apply same_entry_same_entity run cap rel ops (.base op) hf x en hm
  rw [reachRB_snoc]
  exact step_entry_kept run H.hinv op hroom.1 hroom.2 hm hd hx

/-- **frame** (model), batches: a batch on a filter never changes an entity the filter does not
    match and that has no selected entity as a target — every specified entity whose entry the
    filter does not match and none of whose recorded targets is matched has the same component
    set, the same values and the same relation targets before and after `delb` / `setrelb` /
    `xchgb`; and a single `xchg` on `e` changes no other entity.
    (An unmatched entity WITH a removed target keeps components and values and reads zero for that
    target: `delb_effect`.) -/
theorem frame_world_batch (ops : List OpRB) (op : OpRB) (hf : Fits Budget.init (ops ++ [op]))
    (x : Ent) (en : Entry) (hm : (x, en) ∈ (reachRB run cap rel ops).ss.ents)
    (hop : (∃ f frels, op = .delb f frels ∧ entryMatches f frels en = false ∧
        ∀ r ∈ en.rels, r.target ∉ matching (reachRB run cap rel ops).ss f frels) ∨
      (∃ p f frels rels, op = .setrelb p f frels rels ∧ entryMatches f frels en = false) ∨
      (∃ p f frels add rem rels, op = .xchgb p f frels add rem rels ∧
        entryMatches f frels en = false) ∨
      (∃ p e add vals rem rels, op = .xchg p e add vals rem rels ∧ x ≠ e)) :
    compsOf (reachRB run cap rel (ops ++ [op])).w x.id = compsOf (reachRB run cap rel ops).w x.id ∧
    (∀ c : Comp, valOf (reachRB run cap rel (ops ++ [op])).w x.id c =
      valOf (reachRB run cap rel ops).w x.id c) ∧
    ∀ c : Comp, targetOf (reachRB run cap rel (ops ++ [op])).w x.id c =
      targetOf (reachRB run cap rel ops).w x.id c := by
  obtain ⟨hf1, _⟩ := (fits_snoc _ _ _).mp hf
  obtain ⟨fl, H⟩ := reachRB_inv run cap rel ops hf1
  have hnd := H.hinv.ginv.live_nodup
  apply same_entry_same_entity run cap rel ops op hf x en hm
  rw [reachRB_snoc]
  rcases hop with ⟨f, frels, rfl, hnm, hnt⟩ | ⟨p, f, frels, rels, rfl, hnm⟩ |
    ⟨p, f, frels, add, rem, rels, rfl, hnm⟩ | ⟨p, e, add, vals, rem, rels, rfl, hne⟩
  · refine stepBatch_entry run hm fun _ => ?_
    have := entry_after_delb hnd f frels hm hnm
    rw [detachAll_of_no_target hnt] at this
    exact this
  · exact stepBatch_entry run hm fun _ => entry_after_setrelb hnd p f frels rels hm hnm
  · exact stepBatch_entry run hm fun _ => entry_after_xchgb hnd p f frels add rem rels hm hnm
  · exact stepBatch_entry run hm fun _ => entry_after_xchg hnd p e add vals rem rels hm hne

/-! ## non-vacuity: a concrete history with relation targets among the batch-removed

Components: 0 = `ChildOf` (relation), 1 = `Pos`, 2 = `Parent` (marker).  Grandparent `gp = 2.0`;
parents `pa = 3.0`, `pb = 4.0` (children of `gp`, marked `Parent`); children `5.0`, `7.0` of `pa`,
child `6.0` of `pb`.  Then: `SetRelationsBatch` re-parents the children of `pa` to `pb` (filter
"has `ChildOf`, target `pa`"); `RemoveEntities` on "has `Parent`" removes BOTH parents at once —
they are the targets of `5.0 6.0 7.0`, which are detached, and children of `gp`; finally
`RemoveEntities` on "has `ChildOf`, target zero" removes the three orphans. -/

/-- the uncached filter "has all of `cs`" -/
def has (cs : List Comp) : Filter := { mask := Mask.ofList cs }

def gp : Ent := ⟨2, 0⟩
def pa : Ent := ⟨3, 0⟩
def pb : Ent := ⟨4, 0⟩

def demoOps : List OpRB :=
  [.base (.reg 0 true true), .base (.reg 8 false false), .base (.reg 0 true false),
   .base (.new .typed [1] [(1, 1)] []),
   .base (.new .typed [0, 1, 2] [(1, 2)] [⟨0, gp⟩]),
   .base (.new .typed [0, 1, 2] [(1, 3)] [⟨0, gp⟩]),
   .base (.new .typed [0, 1] [(1, 4)] [⟨0, pa⟩]),
   .base (.new .unsafe_ [0, 1] [(1, 5)] [⟨0, pb⟩]),
   .base (.new .typed [0, 1] [(1, 6)] [⟨0, pa⟩]),
   .setrelb .typed (has [0]) [⟨0, pa⟩] [⟨0, pb⟩],
   .delb (has [2]) [],
   .delb (has [0]) [⟨0, Ent.zero⟩]]

/-- the model agrees with the specification entry by entry (decidable form of `refines`) -/
def agrees (s : St) : Bool :=
  s.ss.ents.all fun x =>
    s.w.alive x.1 && (compsOf s.w x.1.id == some (sortedIds s.w.kinds.length (keys x.2.comps))) &&
      (x.2.comps.all fun cv => valOf s.w x.1.id cv.1 == some cv.2) &&
      (x.2.rels.all fun r => targetOf s.w x.1.id r.comp == some r.target)

/-- the history is within the bound, every operation of it is expressible (`guardRB`) and its
    precondition holds where it is issued; the budget it uses (tables, relation archetypes, index
    slots) -/
example :
    Fits Budget.init demoOps ∧ budget Budget.init demoOps = ⟨290, 9, 11⟩ ∧
    ((List.range 12).map fun k =>
      guardRB (reachRB noProbe 2 2 (demoOps.take k)) (demoOps.getD k (.delb {} []))) =
      List.replicate 12 true ∧
    preRB (reachRB noProbe 2 2 (demoOps.take 9)).ss (.setrelb .typed (has [0]) [⟨0, pa⟩] [⟨0, pb⟩]) := by
  simp only [preRB]
  decide +kernel

/-- the invariant holds at the end of the history -/
example : ∃ fl, HInvRB (reachRB noProbe 2 2 demoOps) fl :=
  reach_inv noProbe 2 2 demoOps (by decide +kernel)

/-- before the batches: the specification; model and specification select the same entities -/
example :
    (reachRB noProbe 2 2 (demoOps.take 9)).ss.ents =
      [(⟨7, 0⟩, ⟨[(0, 0), (1, 6)], [⟨0, pa⟩]⟩), (⟨6, 0⟩, ⟨[(0, 0), (1, 5)], [⟨0, pb⟩]⟩),
       (⟨5, 0⟩, ⟨[(0, 0), (1, 4)], [⟨0, pa⟩]⟩),
       (pb, ⟨[(0, 0), (1, 3), (2, 0)], [⟨0, gp⟩]⟩), (pa, ⟨[(0, 0), (1, 2), (2, 0)], [⟨0, gp⟩]⟩),
       (gp, ⟨[(1, 1)], []⟩)] ∧
    agrees (reachRB noProbe 2 2 (demoOps.take 9)) = true ∧
    matching (reachRB noProbe 2 2 (demoOps.take 9)).ss (has [0]) [⟨0, pa⟩] = [⟨7, 0⟩, ⟨5, 0⟩] ∧
    selEnts (reachRB noProbe 2 2 (demoOps.take 9)).w (has [0]) [⟨0, pa⟩] = [⟨5, 0⟩, ⟨7, 0⟩] ∧
    matching (reachRB noProbe 2 2 (demoOps.take 9)).ss (has [2]) [] = [pb, pa] ∧
    selEnts (reachRB noProbe 2 2 (demoOps.take 9)).w (has [2]) [] = [pa, pb] := by
  decide +kernel

/-- after `SetRelationsBatch`: the children of `pa` are children of `pb`; values kept -/
example :
    (reachRB noProbe 2 2 (demoOps.take 10)).ss.ents =
      [(⟨7, 0⟩, ⟨[(0, 0), (1, 6)], [⟨0, pb⟩]⟩), (⟨6, 0⟩, ⟨[(0, 0), (1, 5)], [⟨0, pb⟩]⟩),
       (⟨5, 0⟩, ⟨[(0, 0), (1, 4)], [⟨0, pb⟩]⟩),
       (pb, ⟨[(0, 0), (1, 3), (2, 0)], [⟨0, gp⟩]⟩), (pa, ⟨[(0, 0), (1, 2), (2, 0)], [⟨0, gp⟩]⟩),
       (gp, ⟨[(1, 1)], []⟩)] ∧
    agrees (reachRB noProbe 2 2 (demoOps.take 10)) = true ∧
    (reachRB noProbe 2 2 (demoOps.take 10)).w.isLocked = false ∧
    (targetOf (reachRB noProbe 2 2 (demoOps.take 10)).w 5 0,
      targetOf (reachRB noProbe 2 2 (demoOps.take 10)).w 7 0,
      valOf (reachRB noProbe 2 2 (demoOps.take 10)).w 7 1) = (some pb, some pb, some 6) := by
  decide +kernel

/-- after the batch removal of both parents: their entries are gone, the three children read the
    zero entity as target and keep their values; the removed handles are dead; then the orphans
    are removed by a filter WITH a relation constraint (target zero); `gp` is left -/
example :
    (reachRB noProbe 2 2 (demoOps.take 11)).ss.ents =
      [(⟨7, 0⟩, ⟨[(0, 0), (1, 6)], [⟨0, Ent.zero⟩]⟩), (⟨6, 0⟩, ⟨[(0, 0), (1, 5)], [⟨0, Ent.zero⟩]⟩),
       (⟨5, 0⟩, ⟨[(0, 0), (1, 4)], [⟨0, Ent.zero⟩]⟩), (gp, ⟨[(1, 1)], []⟩)] ∧
    agrees (reachRB noProbe 2 2 (demoOps.take 11)) = true ∧
    ((reachRB noProbe 2 2 (demoOps.take 11)).w.alive pa, (reachRB noProbe 2 2 (demoOps.take 11)).w.alive pb) =
      (false, false) ∧
    (targetOf (reachRB noProbe 2 2 (demoOps.take 11)).w 5 0,
      targetOf (reachRB noProbe 2 2 (demoOps.take 11)).w 6 0,
      valOf (reachRB noProbe 2 2 (demoOps.take 11)).w 6 1) = (some Ent.zero, some Ent.zero, some 5) ∧
    (reachRB noProbe 2 2 demoOps).ss.ents = [(gp, ⟨[(1, 1)], []⟩)] ∧
    agrees (reachRB noProbe 2 2 demoOps) = true ∧
    (reachRB noProbe 2 2 demoOps).issued.map (reachRB noProbe 2 2 demoOps).w.alive =
      [false, false, false, false, false, true] := by
  decide +kernel

/-- the batch removal against the run of single removals, in the state before it: the hypotheses
    of `delb_is_singles` hold, and the two machine states agree (checked directly) -/
example :
    (reachRB noProbe 2 2 (demoOps.take 10)).w.tables.length +
      (selEnts (reachRB noProbe 2 2 (demoOps.take 10)).w (has [2]) []).length *
        (reachRB noProbe 2 2 (demoOps.take 10)).w.relationArchetypes.length + 1 ≤ maxU32 ∧
    (stepRB noProbe (reachRB noProbe 2 2 (demoOps.take 10)) (.delb (has [2]) [])).ss.ents =
      (runOps noProbe (reachRB noProbe 2 2 (demoOps.take 10)) [.del pa, .del pb]).ss.ents ∧
    (stepRB noProbe (reachRB noProbe 2 2 (demoOps.take 10)) (.delb (has [2]) [])).w.pool =
      (runOps noProbe (reachRB noProbe 2 2 (demoOps.take 10)) [.del pa, .del pb]).w.pool ∧
    (stepRB noProbe (reachRB noProbe 2 2 (demoOps.take 10)) (.delb (has [2]) [])).ss.ents =
      (runOps noProbe (reachRB noProbe 2 2 (demoOps.take 10)) [.del pb, .del pa]).ss.ents := by
  decide +kernel

/-- rejected batches in the state before the batches: the empty relation list, a removed entity
    as target (after `pa` was removed singly), a component that is not a relation component — the
    world comes back unchanged and the machine state does not move -/
example :
    panicOf (execRB noProbe (reachRB noProbe 2 2 (demoOps.take 9)).w (.setrelb .typed (has [0]) [] [])) =
      some .noRelations ∧
    panicOf (execRB noProbe (reachRB noProbe 2 2 (demoOps.take 9 ++ [.base (.del pa)])).w
      (.setrelb .typed (has [0]) [] [⟨0, pa⟩])) = some .deadTarget ∧
    guardRB (reachRB noProbe 2 2 (demoOps.take 9 ++ [.base (.del pa)]))
      (.setrelb .typed (has [0]) [] [⟨0, pa⟩]) = true ∧
    (stepRB noProbe (reachRB noProbe 2 2 (demoOps.take 9 ++ [.base (.del pa)]))
      (.setrelb .typed (has [0]) [] [⟨0, pa⟩])).w.tables =
      (reachRB noProbe 2 2 (demoOps.take 9 ++ [.base (.del pa)])).w.tables ∧
    panicOf (execRB noProbe (reachRB noProbe 2 2 (demoOps.take 9)).w
      (.setrelb .map1 (has [1]) [] [⟨1, gp⟩])) = some .notRelation ∧
    guardRB (reachRB noProbe 2 2 (demoOps.take 9)) (.setrelb .map1 (has [1]) [] [⟨1, gp⟩]) = true ∧
    (stepRB noProbe (reachRB noProbe 2 2 (demoOps.take 9)) (.setrelb .map1 (has [1]) [] [⟨1, gp⟩])).ss.ents =
      (reachRB noProbe 2 2 (demoOps.take 9)).ss.ents := by
  decide +kernel

/-- **finding (why "only components the filter requires" is part of `guardRB`)**: in the state
    before the batches the filter "has `Pos`" selects all six entities; `gp` has no `ChildOf`.
    `SetRelationsBatch(ChildOf → pb)` on it passes the pre-validation and panics (`noRelComponent`)
    when the planning loop reaches the table of `gp` — here the first table, so nothing was created
    yet.  With one more entity `8.0` that has `Pos` and `Parent` but no `ChildOf`, the filter "has
    `Parent`" selects the table of `pa`, `pb` first: the planning creates the destination table
    (`ChildOf → pb`) for it and THEN panics at the table of `8.0`.  The world lock is taken only
    after the planning loop (defect D27 repaired), so the world is NOT left locked; but the table
    the planning created remains (6 → 7 tables),
    so such a call is not "rejected with the world unchanged", and it is not a step of the machine
    (`guardRB = false`). -/
example :
    guardRB (reachRB noProbe 2 2 (demoOps.take 9)) (.setrelb .typed (has [1]) [] [⟨0, pb⟩]) = false ∧
    panicOf (execRB noProbe (reachRB noProbe 2 2 (demoOps.take 9)).w
      (.setrelb .typed (has [1]) [] [⟨0, pb⟩])) = some .noRelComponent ∧
    (reachRB noProbe 2 2 (demoOps.take 9)).w.isLocked = false ∧
    (execRB noProbe (reachRB noProbe 2 2 (demoOps.take 9)).w
      (.setrelb .typed (has [1]) [] [⟨0, pb⟩])).state.isLocked = false := by
  decide +kernel

example :
    guardRB (reachRB noProbe 2 2 (demoOps.take 9 ++ [.base (.new .typed [1, 2] [] [])]))
      (.setrelb .typed (has [2]) [] [⟨0, pb⟩]) = false ∧
    panicOf (execRB noProbe (reachRB noProbe 2 2 (demoOps.take 9 ++ [.base (.new .typed [1, 2] [] [])])).w
      (.setrelb .typed (has [2]) [] [⟨0, pb⟩])) = some .noRelComponent ∧
    (reachRB noProbe 2 2 (demoOps.take 9 ++ [.base (.new .typed [1, 2] [] [])])).w.tables.length = 6 ∧
    (execRB noProbe (reachRB noProbe 2 2 (demoOps.take 9 ++ [.base (.new .typed [1, 2] [] [])])).w
      (.setrelb .typed (has [2]) [] [⟨0, pb⟩])).state.tables.length = 7 ∧
    (execRB noProbe (reachRB noProbe 2 2 (demoOps.take 9 ++ [.base (.new .typed [1, 2] [] [])])).w
      (.setrelb .typed (has [2]) [] [⟨0, pb⟩])).state.isLocked = false ∧
    (execRB noProbe (reachRB noProbe 2 2 (demoOps.take 9 ++ [.base (.new .typed [1, 2] [] [])])).w
      (.setrelb .typed (has [2]) [] [⟨0, pb⟩])).state.entities =
      (reachRB noProbe 2 2 (demoOps.take 9 ++ [.base (.new .typed [1, 2] [] [])])).w.entities := by
  decide +kernel

/-! ## non-vacuity: exchange batches over relation tables

From the state before the batches of `demoOps`: `AddBatch` of the relation component `ChildOf` with
target `pb` to everything that has `Pos` but no `ChildOf` (that is `gp`: now a child of its own
grandchild's parent); `RemoveBatch` of the marker `Parent`; `ExchangeBatch` on "has `ChildOf`,
target `gp`" (`pa`, `pb`): remove the relation component `ChildOf` — the relation goes with it —
and add `Parent`; a single `Exchange` on `5.0`, writing `Pos`. -/

def demoX : List OpRB :=
  demoOps.take 9 ++
  [.xchgb .typed ((has [1]).withoutList [0]) [] [0] [] [⟨0, pb⟩],
   .xchgb .unsafe_ (has [2]) [] [] [2] [],
   .xchgb .typed (has [0]) [⟨0, gp⟩] [2] [0] [],
   .xchg .typed ⟨5, 0⟩ [2] [(1, 40)] [0] []]

/-- the history is within the bound, every operation is expressible, the preconditions of the
    three batches hold where they are issued -/
example :
    Fits Budget.init demoX ∧
    ((List.range 13).map fun k =>
      guardRB (reachRB noProbe 2 2 (demoX.take k)) (demoX.getD k (.delb {} []))) =
      List.replicate 13 true ∧
    preRB (reachRB noProbe 2 2 (demoX.take 9)).ss
      (.xchgb .typed ((has [1]).withoutList [0]) [] [0] [] [⟨0, pb⟩]) ∧
    preRB (reachRB noProbe 2 2 (demoX.take 10)).ss (.xchgb .unsafe_ (has [2]) [] [] [2] []) ∧
    preRB (reachRB noProbe 2 2 (demoX.take 11)).ss (.xchgb .typed (has [0]) [⟨0, gp⟩] [2] [0] []) := by
  simp only [preRB]
  decide +kernel

example : ∃ fl, HInvRB (reachRB noProbe 2 2 demoX) fl :=
  reach_inv noProbe 2 2 demoX (by decide +kernel)

/-- the specification after each of the three batches and the single `Exchange`; the model agrees;
    model and specification select the same entities (in different orders) -/
example :
    (reachRB noProbe 2 2 (demoX.take 10)).ss.ents.getLast? = some (gp, ⟨[(1, 1), (0, 0)], [⟨0, pb⟩]⟩) ∧
    ((reachRB noProbe 2 2 (demoX.take 11)).ss.ents.map fun x => (x.1.id, keys x.2.comps)) =
      [(7, [0, 1]), (6, [0, 1]), (5, [0, 1]), (4, [0, 1]), (3, [0, 1]), (2, [1, 0])] ∧
    (reachRB noProbe 2 2 (demoX.take 12)).ss.ents =
      [(⟨7, 0⟩, ⟨[(0, 0), (1, 6)], [⟨0, pa⟩]⟩), (⟨6, 0⟩, ⟨[(0, 0), (1, 5)], [⟨0, pb⟩]⟩),
       (⟨5, 0⟩, ⟨[(0, 0), (1, 4)], [⟨0, pa⟩]⟩), (pb, ⟨[(1, 3), (2, 0)], []⟩),
       (pa, ⟨[(1, 2), (2, 0)], []⟩), (gp, ⟨[(1, 1), (0, 0)], [⟨0, pb⟩]⟩)] ∧
    (reachRB noProbe 2 2 demoX).ss.ents =
      [(⟨7, 0⟩, ⟨[(0, 0), (1, 6)], [⟨0, pa⟩]⟩), (⟨6, 0⟩, ⟨[(0, 0), (1, 5)], [⟨0, pb⟩]⟩),
       (⟨5, 0⟩, ⟨[(1, 40), (2, 0)], []⟩), (pb, ⟨[(1, 3), (2, 0)], []⟩),
       (pa, ⟨[(1, 2), (2, 0)], []⟩), (gp, ⟨[(1, 1), (0, 0)], [⟨0, pb⟩]⟩)] ∧
    ((List.range 14).map fun k => agrees (reachRB noProbe 2 2 (demoX.take k))) =
      List.replicate 14 true ∧
    matching (reachRB noProbe 2 2 (demoX.take 11)).ss (has [0]) [⟨0, gp⟩] = [pb, pa] ∧
    selEnts (reachRB noProbe 2 2 (demoX.take 11)).w (has [0]) [⟨0, gp⟩] = [pa, pb] ∧
    (targetOf (reachRB noProbe 2 2 (demoX.take 12)).w 3 0, valOf (reachRB noProbe 2 2 (demoX.take 12)).w 3 0,
      valOf (reachRB noProbe 2 2 (demoX.take 12)).w 3 2, targetOf (reachRB noProbe 2 2 (demoX.take 12)).w 2 0,
      (reachRB noProbe 2 2 (demoX.take 12)).w.isLocked) = (none, none, some 0, some pb, false) := by
  decide +kernel

/-- the exchange batch against the run of the single `Exchange`s (hypothesis of
    `xchgb_is_singles`, and the two machine states compared directly) -/
example :
    (reachRB noProbe 2 2 (demoX.take 11)).w.tables.length +
      (selEnts (reachRB noProbe 2 2 (demoX.take 11)).w (has [0]) [⟨0, gp⟩]).length < maxU32 ∧
    (stepRB noProbe (reachRB noProbe 2 2 (demoX.take 11))
      (.xchgb .typed (has [0]) [⟨0, gp⟩] [2] [0] [])).ss.ents =
      (runOpsRB noProbe (reachRB noProbe 2 2 (demoX.take 11))
        [.xchg .typed pa [2] [] [0] [], .xchg .typed pb [2] [] [0] []]).ss.ents ∧
    (stepRB noProbe (reachRB noProbe 2 2 (demoX.take 11))
      (.xchgb .typed (has [0]) [⟨0, gp⟩] [2] [0] [])).w.pool =
      (runOpsRB noProbe (reachRB noProbe 2 2 (demoX.take 11))
        [.xchg .typed pa [2] [] [0] [], .xchg .typed pb [2] [] [0] []]).w.pool := by
  decide +kernel

/-- rejected exchange batches: both lists empty; a removed entity as target — the world comes back
    unchanged and the machine state does not move -/
example :
    panicOf (execRB noProbe (reachRB noProbe 2 2 (demoX.take 9)).w (.xchgb .typed (has [1]) [] [] [] [])) =
      some .noComponents ∧
    guardRB (reachRB noProbe 2 2 (demoX.take 9)) (.xchgb .typed (has [1]) [] [] [] []) = true ∧
    panicOf (execRB noProbe (reachRB noProbe 2 2 (demoX.take 9 ++ [.base (.del pa)])).w
      (.xchgb .typed ((has [1]).withoutList [0]) [] [0] [] [⟨0, pa⟩])) = some .deadTarget ∧
    guardRB (reachRB noProbe 2 2 (demoX.take 9 ++ [.base (.del pa)]))
      (.xchgb .typed ((has [1]).withoutList [0]) [] [0] [] [⟨0, pa⟩]) = true ∧
    (stepRB noProbe (reachRB noProbe 2 2 (demoX.take 9 ++ [.base (.del pa)]))
      (.xchgb .typed ((has [1]).withoutList [0]) [] [0] [] [⟨0, pa⟩])).w.tables =
      (reachRB noProbe 2 2 (demoX.take 9 ++ [.base (.del pa)])).w.tables := by
  decide +kernel

/-- **finding (why the precondition of an exchange batch on every selected entity is part of
    `guardRB`)**, on relation tables as on plain ones: "has `Pos`: add `ChildOf → gp`" meets its
    precondition on `gp` and fails it on the five entities that already have `ChildOf`.  The
    planning loop creates the destination table of `gp`'s table (5 → 6 tables) and then panics
    (`alreadyHas`).  The lock is taken only after the planning (defect D27 repaired), so the world
    is not left locked and later operations go on; but the table created by the planning remains:
    the call is not "rejected with the world unchanged".  Not a step. -/
example :
    guardRB (reachRB noProbe 2 2 (demoX.take 9)) (.xchgb .typed (has [1]) [] [0] [] [⟨0, gp⟩]) = false ∧
    panicOf (execRB noProbe (reachRB noProbe 2 2 (demoX.take 9)).w
      (.xchgb .typed (has [1]) [] [0] [] [⟨0, gp⟩])) = some .alreadyHas ∧
    (reachRB noProbe 2 2 (demoX.take 9)).w.tables.length = 5 ∧
    (execRB noProbe (reachRB noProbe 2 2 (demoX.take 9)).w
      (.xchgb .typed (has [1]) [] [0] [] [⟨0, gp⟩])).state.tables.length = 6 ∧
    (execRB noProbe (reachRB noProbe 2 2 (demoX.take 9)).w
      (.xchgb .typed (has [1]) [] [0] [] [⟨0, gp⟩])).state.isLocked = false ∧
    (execRB noProbe (reachRB noProbe 2 2 (demoX.take 9)).w
      (.xchgb .typed (has [1]) [] [0] [] [⟨0, gp⟩])).state.entities =
      (reachRB noProbe 2 2 (demoX.take 9)).w.entities ∧
    panicOf (execRB noProbe (execRB noProbe (reachRB noProbe 2 2 (demoX.take 9)).w
      (.xchgb .typed (has [1]) [] [0] [] [⟨0, gp⟩])).state (.base (.new .typed [1] [] []))) = none := by
  decide +kernel

end Ark.Props.C01RelBatch
