/-
  C08 + C09 at world level for the batch operations: which callbacks run, and that all removal
  callbacks run before any entity is changed and all creation callbacks after all are created.

  Setting as in Ark/Props/C08World.lean (`Setting run S rec w fl`), with a log-blind runner for the
  C09 part.  The batch operations lock the world around their callbacks (`LockCycle`).

  The callers of events.go loop `for i in rows: if !fire(row i, earlyOut) break; earlyOut = false`:
  `fire` notifies the same observers for every row (whether an observer fires depends on masks
  only, which all rows of a table share) and reports whether there were any; so stopping after a
  first row that notified nobody skips nothing (`batch_idiom_loses_no_callback`).
  Each batch behaves exactly as the observer-free batch, plus the `cb` records; every record of a
  round is a function of ONE locked world: for `NewBatch` all entities already created, for
  `RemoveEntities` no entity removed yet, for the exchange batches first ALL removal callbacks on
  the world in which no table has been moved, then all moves, then ALL addition callbacks (defects
  D8/D10 of the Go code).  Hypothesis of `exchangeBatch_callbacks`: the lookup loop succeeds
  without removing a relation; it neither reads nor writes the lock (`frames_findLoop`), so it is
  stated for the loop on the world with the lock `l1` already taken.

  Not covered: batches with a callback function (`withFn`), relation batches (`setRelationsBatch`).
-/
import Ark.Proofs.CallbacksBatchX
import Ark.Props.C09World
import Ark.Proofs.CallbacksBatch

set_option autoImplicit false

namespace Ark.Props.C09Batch
open Ark Ark.World Ark.Spec Ark.QueryExact Ark.Props.C01World

variable {run : ProbeRunner} {S : Probe → Prop} {rec : World → Nat → Ent → Probe → List LogEv}
  {w : World} {fl : List Nat}

theorem batch_idiom_loses_no_callback (fire : Ent → Bool → W Bool) (fired : List Nat) (o : ObsMgr)
    (hfire : ∀ (e : Ent) (eo : Bool) (w : World), w.obs = o →
      fire e eo w = .ok (!fired.isEmpty) (w.addLog (notifyAll rec e fired w)))
    (ents : List Ent) (w : World) (hw : w.obs = o) :
    fireRows fire ents w = .ok () (w.addLog (rowsLog rec fired ents w)) := by
  rw [rowsLog_eq]
  exact fireRows_rounds fire fired o hfire ents w hw

/-- the `cb` records of a batch notification: every entity in order, every fired observer in
    order -/
theorem batch_records (hn : NoCb rec) (fired : List Nat) (ents : List Ent) (w : World) :
    cbsOf (rowsLog rec fired ents w) = (ents.flatMap fun e => fired.map fun l => (l, e)).reverse := by
  rw [rowsLog_eq, cbsOf_roundsLog hn, roundCbs_rowRounds]

theorem newBatch_callbacks (st : Setting run S rec w fl) (hb : LogBlind rec) (run0 : ProbeRunner)
    (p : Path) (hl : w.isLocked = false) {ids : List Comp} (hnd : ids.Nodup)
    (hreg : ∀ (c : Comp), c ∈ ids → c < w.kinds.length) (vals : List (Comp × Val)) (count : Nat)
    {l1 l2 : Lock} {b : Nat} (hL : LockCycle w.locks l1 b l2) :
    ∃ (t : Nat) (w1 seen w' : World),
      opNewBatch run0 p count ids vals [] false w.noObs
        = .ok (t, (w1.tbl t).len) (createEntitiesW w1 t count) ∧
      opNewBatch run p count ids vals [] false w = .ok (t, (w1.tbl t).len) w' ∧
      FrameOf (createEntitiesW w1 t count) w w' ∧
      seen = (createEntitiesW w1 t count).reframe w.obs w.log l1 ∧ seen.isLocked = true ∧
      cbsOf w'.log =
        ((rowEnts seen t (w1.tbl t).len count).flatMap fun e =>
          (firing w.obs Ev.onCreateEntity (.entity (Mask.ofList ids))).map fun l => (l, e)).reverse
        ++ cbsOf w.log ∧
      w'.log =
        ((rowEnts seen t (w1.tbl t).len count).reverse.flatMap fun e =>
          (firing w.obs Ev.onCreateEntity (.entity (Mask.ofList ids))).reverse.flatMap
            fun l => notifyFlat rec l e seen) ++ w.log := by
  have h := st.inv
  obtain ⟨t, a, w1, hfoc0, fc, _, _, _⟩ :=
    h.sinv.findOrCreateTableAdd_spec_new h.idx hnd hreg (fun c _ => h.noRelKinds c)
  have hu := findOrCreateTableAdd_untouched hfoc0
  have hfoc : findOrCreateTableAdd 0 Mask.empty ids [] w
      = .ok (t, a, Mask.ofList ids) (w1.reframe w.obs w.log w.locks) := by
    have := frames_findOrCreateTableAdd 0 Mask.empty ids [] w.noObs w.obs w.log w.locks
    rw [hfoc0] at this
    exact this
  have heq := opNewBatch_obs_eq st.ro p count ids vals w st.scripts st.obs hl hfoc hL
  have h0 := opNewBatch_eq run0 p count ids vals w.noObs hl hfoc0 (by rw [hu.obs]; exact h.noObs)
  rw [createEntitiesW_reframe] at heq
  refine ⟨t, w1, (createEntitiesW w1 t count).reframe w.obs w.log l1, _, h0, heq, rfl, rfl,
    Ark.LockCycle.locked hL, ?_, ?_⟩
  · show cbsOf (roundsLog rec _ _ ++ w.log) = _
    rw [cbsOf_append, cbsOf_roundsLog st.noCb, roundCbs_rowRounds]
    rfl
  · show roundsLog rec _ _ ++ w.log = _
    rw [roundsLog_blind hb]
    exact congrArg (· ++ _) (roundFlat_rowRounds _ _ _)

theorem removeEntities_callbacks (st : Setting run S rec w fl) (hb : LogBlind rec)
    (run0 : ProbeRunner) (hl : w.isLocked = false) (fo : FilterObj) (extra : List RelID)
    (hc : fo.cache = none) {l1 l2 : Lock} {b : Nat} (hL : LockCycle w.locks l1 b l2) :
    ∃ w' : World,
      opRemoveEntities run0 fo extra false w.noObs
        = .ok () (removeTablesW w.noObs (World.selTables w.noObs fo.filter)) ∧
      opRemoveEntities run fo extra false w = .ok () w' ∧
      FrameOf (removeTablesW w.noObs (World.selTables w.noObs fo.filter)) w w' ∧
      cbsOf w'.log =
        ((World.selTables w fo.filter).flatMap fun t =>
          ((List.range (w.tbl t).len).map (w.tbl t).getEntity).flatMap fun e =>
            (firing w.obs Ev.onRemoveEntity (.entity (w.arch (w.tbl t).arch).mask)).map
              fun l => (l, e)).reverse ++ cbsOf w.log ∧
      w'.log =
        ((World.selTables w fo.filter).reverse.flatMap fun t =>
          ((List.range (w.tbl t).len).map (w.tbl t).getEntity).reverse.flatMap fun e =>
            (firing w.obs Ev.onRemoveEntity (.entity (w.arch (w.tbl t).arch).mask)).reverse.flatMap
              fun l => notifyFlat rec l e (w.withLocks l1)) ++ w.log := by
  have h := st.inv
  have hts0 := getBatchTables_frag h fo extra hc
  have hts : getBatchTables fo extra w = .ok (World.selTables w fo.filter) w := by
    have := frames_getBatchTables fo extra w.noObs w.obs w.log w.locks
    rw [hts0] at this
    exact this
  have hnr : ∀ t ∈ World.selTables w fo.filter, (w.tbl t).hasRelations = false := by
    intro t ht
    have S := selTables_tableSet h fo.filter
    have hlt : t < w.tables.length := S.lt t ht
    have := CInv.relIDs_nil h hlt
    show (!(w.tbl t).relIDs.isEmpty) = false
    rw [show (w.tbl t).relIDs = [] from this]; rfl
  have heq := opRemoveEntities_obs_eq st.ro fo extra w st.scripts st.obs hl (h.noTargets) hts hnr hL
  refine ⟨_, opRemoveEntities_eq run0 fo extra w.noObs hl h.noObs h.noTargets hts0, heq, ?_, ?_, ?_⟩
  · show _ = (removeTablesW w.noObs _).reframe w.obs _ _
    rw [noObs_eq_reframe, removeTablesW_reframe, reframe_reframe]
    rfl
  · show cbsOf (roundsLog rec _ _ ++ w.log) = _
    rw [cbsOf_append, cbsOf_roundsLog st.noCb, tableRounds, roundCbs_flatMap]
    simp only [roundCbs_rowRounds]
  · show roundsLog rec _ _ ++ w.log = _
    rw [roundsLog_blind hb]
    show roundFlat rec _ (tableRounds _ _ _) ++ _ = _
    rw [tableRounds, roundFlat_flatMap]
    simp only [roundFlat_rowRounds]

theorem exchangeBatch_callbacks (st : Setting run S rec w fl) (hb : LogBlind rec)
    (run0 : ProbeRunner) (hl : w.isLocked = false) (fo : FilterObj) (extra : List RelID)
    (hc : fo.cache = none) {add rem : List Comp} (hne : (add.isEmpty && rem.isEmpty) = false)
    {l1 l2 : Lock} {b : Nat} (hL : LockCycle w.locks l1 b l2) {bts : List BatchTable} {w10 : World}
    (hfind : findLoop add rem (World.selTables w.noObs fo.filter) (false, [])
      (w.noObs.withLocks l1) = .ok (false, bts) w10) :
    ∃ seenB seenA w' : World,
      exchangeBatch run0 fo extra add rem [] none w.noObs
        = .ok () ((bts.foldl (moveStep none) w10).withLocks l2) ∧
      exchangeBatch run fo extra add rem [] none w = .ok () w' ∧
      FrameOf (bts.foldl (moveStep none) w10) w w' ∧
      seenB = w10.reframe w.obs w.log l1 ∧
      seenA = (bts.foldl (moveStep none) w10).reframe w.obs w.log l1 ∧
      cbsOf w'.log =
        (if add.isEmpty then [] else
          ((movedList bts w10).flatMap fun b => xAddCbs w.obs b seenA).reverse) ++
        ((if rem.isEmpty then [] else (bts.flatMap fun b => xRemCbs w.obs b seenB).reverse) ++
          cbsOf w.log) ∧
      w'.log =
        (if add.isEmpty then [] else
          ((movedList bts w10).reverse.flatMap fun b => xAddFlat rec w.obs b seenA)) ++
        ((if rem.isEmpty then [] else (bts.reverse.flatMap fun b => xRemFlat rec w.obs b seenB)) ++
          w.log) := by
  have h := st.inv
  have hts0 := getBatchTables_frag h fo extra hc
  have hts : getBatchTables fo extra w = .ok (World.selTables w.noObs fo.filter) w := by
    have := frames_getBatchTables fo extra w.noObs w.obs w.log w.locks
    rw [hts0] at this
    exact this
  have hfind1 : findLoop add rem (World.selTables w.noObs fo.filter) (false, []) (w.withLocks l1)
      = .ok (false, bts) (w10.reframe w.obs w.log l1) := by
    have := frames_findLoop add rem (World.selTables w.noObs fo.filter) (false, [])
      (w.noObs.withLocks l1) w.obs w.log l1
    rw [hfind] at this
    exact this
  have heq := exchangeBatch_obs_eq st.ro fo extra add rem w st.scripts st.obs hl hne hL hts hfind1
  obtain ⟨hobs0, _, hlocks0⟩ : w10.obs = w.noObs.obs ∧ w10.log = w.log ∧ w10.locks = l1 := by
    have := (frames_findLoop add rem (World.selTables w.noObs fo.filter) (false, [])).state_frame
      (w.noObs.withLocks l1)
    rw [hfind] at this; exact this
  have hts0L : getBatchTables fo extra { w.noObs with locks := l1 }
      = .ok (World.selTables w.noObs fo.filter) { w.noObs with locks := l1 } := by
    have := frames_getBatchTables fo extra w.noObs w.noObs.obs w.noObs.log l1
    rw [hts0] at this
    exact this
  have h0 := exchangeBatch_eq run0 fo extra add rem none w.noObs hl hne hL.lock hts0L hfind
    (by rw [hobs0]; exact h.noObs)
  have hun0 : World.unlock b (bts.foldl (moveStep none) w10)
      = .ok () ((bts.foldl (moveStep none) w10).withLocks l2) :=
    unlock_of_cycle hL (by rw [foldl_moveStep_locks, hlocks0])
  rw [hun0] at h0
  rw [foldl_moveStep_none_reframe, movedList_reframe] at heq
  refine ⟨w10.reframe w.obs w.log l1, (bts.foldl (moveStep none) w10).reframe w.obs w.log l1, _,
    h0, heq, rfl, rfl, rfl, ?_, ?_⟩
  · show cbsOf (_ ++ (_ ++ w.log)) = _
    rw [cbsOf_append, cbsOf_append]
    congr 1
    · split
      · rfl
      · rw [cbsOf_roundsLog st.noCb, roundCbs_addBatchRounds]
    · congr 1
      split
      · rfl
      · rw [cbsOf_roundsLog st.noCb, roundCbs_remBatchRounds]
  · show _ ++ (_ ++ w.log) = _
    congr 1
    · split
      · rfl
      · rw [roundsLog_blind hb]
        exact (roundFlat_addLog hb _ _ _).trans (roundFlat_addBatchRounds _ _ _ _)
    · congr 1
      split
      · rfl
      · rw [roundsLog_blind hb]
        exact roundFlat_remBatchRounds _ _ _ _

/-! ### non-vacuity: the demo world of C08World -/

section Demo
open Ark.Props.C08World Ark.Props.C09World

set_option synthInstance.maxSize 2048

/-- "has component 0" as an `UnsafeFilter` -/
def foZero : FilterObj := { filter := { mask := Mask.ofList [0] }, typed := false }

/-- `RemoveEntities` of everything with component 0 on the demo world: table `[0]` (`⟨2,0⟩`) is
    notified to `For(0)` and `For(0).Exclusive()`, table `[0,1]` (`⟨3,0⟩`) to `For(0)` only; all
    three callbacks see both entities alive and the world locked; afterwards both are dead.
    `NewBatch(2, [1])`: `OnCreateEntity` for both new entities, each seeing the world locked with
    BOTH already alive. -/
example :
    cbsAfter (opRemoveEntities World.probe foZero [] false wObs)
      = some [(4, e3), (6, e2), (4, e2)] ∧
    looksAfter (opRemoveEntities World.probe foZero [] false wObs)
      = some [(true, true, [(0, 20), (1, 21)]), (true, true, [(0, 10)]), (true, true, [(0, 10)])] ∧
    (match opRemoveEntities World.probe foZero [] false wObs with
     | .ok _ w' => (w'.alive e2, w'.alive e3, w'.isLocked) | .panic _ _ => (true, true, true))
      = (false, false, false) := by
  decide +kernel

example :
    cbsAfter (opNewBatch World.probe .typed 2 [1] [] [] false wObs)
      = some [(7, ⟨5, 0⟩), (7, ⟨4, 0⟩)] ∧
    looksAfter (opNewBatch World.probe .typed 2 [1] [] [] false wObs)
      = some [(true, true, [(1, 0)]), (true, true, [(1, 0)])] := by
  decide +kernel

/-- removing component 0 from everything that has it, as a batch: `OnRemoveComponents.For(0)` is
    notified for `⟨2,0⟩` and `⟨3,0⟩`; both callbacks run before anything is moved (both still see
    component 0 with its value) under the lock; afterwards the component is gone -/
example :
    cbsAfter (exchangeBatch World.probe foZero [] [] [0] [] none wObs) = some [(5, e3), (5, e2)] ∧
    looksAfter (exchangeBatch World.probe foZero [] [] [0] [] none wObs)
      = some [(true, true, [(0, 20), (1, 21)]), (true, true, [(0, 10)])] ∧
    (match exchangeBatch World.probe foZero [] [] [0] [] none wObs with
     | .ok _ w' => (valOf w' 2 0, valOf w' 3 0, valOf w' 3 1, w'.isLocked)
     | .panic _ _ => (none, none, none, true)) = (none, none, some 21, false) := by
  decide +kernel

/-- the hypotheses of `exchangeBatch_callbacks` are satisfiable: the lookup loop on the demo
    world -/
example : ∃ bts w10,
    findLoop [] [0] (World.selTables wObs.noObs foZero.filter) (false, [])
      (wObs.noObs.withLocks lockDuringQuery) = .ok (false, bts) w10 ∧ bts.length = 2 := by
  cases h : findLoop [] [0] (World.selTables wObs.noObs foZero.filter) (false, [])
      (wObs.noObs.withLocks lockDuringQuery) with
  | ok r w10 =>
    obtain ⟨rr, bts⟩ := r
    have h1 : (match findLoop [] [0] (World.selTables wObs.noObs foZero.filter) (false, [])
        (wObs.noObs.withLocks lockDuringQuery) with
      | .ok r _ => (r.1, r.2.length) | .panic _ _ => (true, 0)) = (false, 2) := by decide +kernel
    rw [h] at h1
    obtain ⟨rfl, hlen⟩ := Prod.mk.inj h1
    exact ⟨bts, w10, rfl, hlen⟩
  | panic k s =>
    have h1 : (match findLoop [] [0] (World.selTables wObs.noObs foZero.filter) (false, [])
        (wObs.noObs.withLocks lockDuringQuery) with
      | .ok _ _ => true | .panic _ _ => false) = true := by decide +kernel
    rw [h] at h1
    cases h1

/-- the theorem applied to the demo world -/
example : ∃ w' : World,
    opRemoveEntities World.probe foZero [] false wObs = .ok () w' ∧
    cbsOf w'.log = [(4, e3), (6, e2), (4, e2)] := by
  obtain ⟨st, hb, _, _, hl, hL, _, _⟩ := demo_setting
  obtain ⟨w', _, h2, _, h4, _⟩ := removeEntities_callbacks st hb quiet hl foZero [] rfl hL
  refine ⟨w', h2, ?_⟩
  rw [h4]
  decide +kernel

end Demo

end Ark.Props.C09Batch
