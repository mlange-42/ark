/-
  Ark.Props.C05Rel — C05 over histories of fewer than `2^16` operations, for the observer-free fragment WITH
  relation components:

    "At every point in time a registered filter yields the same entities […] as an identical
     unregistered filter, including relation targets fixed in the filter and extra targets passed
     per query.  Registration, unregistration, Reset, Shrink, and the creation, freeing and
     recycling of tables never make the two diverge."

  How.  The machine `Ark.RelRefine2.step2` (Ark/Proofs/RelRefine2Machine.lean) interleaves, from
  `World.init cap rel` and in any order, the operations `Op2`: those of the relation machine
  `Ark.RelRefine` (C04) — among them `RemoveEntity` of a relation TARGET, whose
  `cleanupArchetypes` frees the tables of that target (`cache.removeTable`) and moves their rows
  into zero-target tables that are found, created or RECYCLED (`cache.addTable`) —, `CopyEntity`
  (the copy sits in the table of its source), `Shrink` (frees empty relation tables), the
  construction of a filter object (typed or `UnsafeFilter`, fixed relations allowed), `Register`
  / `Unregister`, a complete iteration of `Query(extra…)`, and `Reset`.  Its inductive invariant `HInv2` is that of C04 together with the
  filter side, whose core is `CacheInv` (I11): every cache entry lists exactly the tables
  selected by its filter and FIXED relations.  Every storage step carries `CacheInv` over (§ 1),
  so the invariant holds along histories (§ 2), and there the walk through the cache and the
  walk of the identical unregistered object `{ fo with cache := none }` see the same tables (§ 3).

  FINDING (§ 6).  The guards `guardF` (on `fdef`) and `guardQ` (on `query`) restrict
  `UnsafeFilter` objects to fixed / per-call relations that name relation components required by
  the mask.  Without them `Register` and `Query` are Go runtime panics (nil dereference in
  `GetTables` / `Matches`), the latter leaving the world locked — shown on a concrete world.  The
  typed API cannot build such objects.

  `Reset` (§ 4) IS a step of the histories: it succeeds, empties the specification (a new epoch
  of handles) and the cache, and unregisters every filter object, so nothing is left that could
  diverge; `HInv2` holds again (`reset_step`, `reset_effect`, `reset_history_invariant`).
  `entityPool.Reset` writes generation `MaxUint32` into the pooled handles (since the repair of
  defect D14) and keeps them in the memory behind the re-sliced pool (`Pool.stale`); `TInv` only
  demands that this memory holds invalidated handles.  FINDING (end of § 5): because of that
  memory, a handle FORGED with an ID behind the slice and generation `MaxUint32` tests alive
  after a `Reset`; the operation theorems of the relation development therefore speak about
  handles whose ID lies inside the pool slice (`e.id < w.pool.ents.length`) — every handle the
  world issued does (`Ark.RelRefine.HInv.issued_in`), and no issued handle carries that
  generation (`issued_gen_bound`).
-/
import Ark.Proofs.RelRefine2Gen
import Ark.Proofs.Eval

set_option autoImplicit false

namespace Ark.Props.C05Rel
open Ark Ark.World Ark.RelRefine Ark.RelRefine2 Ark.QueryRel Ark.QueryExact

variable (run : ProbeRunner) (cap rel : Nat)

/-! ## 1. the cache along the storage steps (world level) -/

/-- **table creation** (fresh or RECYCLED slot): `createTable` makes the table active and runs
    `cache.addTable`; the cache invariant carries over -/
theorem createTable_keeps_cache {w w' : World} (h : SInvMid w) {a : Nat} {rels : List RelID}
    {t : Nat} (ha : a < w.archetypes.length)
    (hnr : (w.arch a).hasRelations = false → (w.arch a).tables.tables = [])
    (hok : World.createTable a rels w = .ok t w') : CKeep w w' :=
  createTable_ckeep h ha hnr hok

/-- **freeing a table** in `cleanupArchetypes`: `FreeTable`, `isFree`, `cache.removeTable` -/
theorem freeTable_keeps_cache {w : World} (h : SInvMid w) {a tid : Nat}
    (ha : a < w.archetypes.length) (hact : tid ∈ (w.arch a).tables.tables) :
    CKeep w (freeW w a tid) :=
  freeW_ckeep h ha hact

/-- **`RemoveEntity`, also of a relation target** (tables freed, zero-target tables found,
    created or recycled), never fails and keeps the cache invariant -/
theorem removeEntity_keeps_cache {w : World} {fl : List Nat} (h : TInv w fl)
    (hl : w.isLocked = false) (hno : ∀ (evt : Nat), w.obs.hasObservers evt = false) {g : Ent}
    (h2 : 2 ≤ g.id) (hnf : g.id ∉ fl) (ha : w.alive g = true) (hsl : g.id < w.pool.ents.length)
    (hfew : w.tables.length + w.relationArchetypes.length + 1 ≤ maxU32)
    (hrows : 2 * w.entities.length < 2 ^ 32) :
    ∃ (w3 : World), opRemoveEntity run g w = .ok () w3 ∧ CKeep w w3 :=
  opRemoveEntity_ckeep run h hl hno h2 hnf ha hsl hfew hrows

theorem newEntity_keeps_cache (p : Path) {w : World} {fl : List Nat}
    (h : TInv w fl) (hl : w.isLocked = false) (hno : ∀ (evt : Nat), w.obs.hasObservers evt = false)
    {ids : List Comp} {vals : List (Comp × Val)} {rels : List RelID}
    (hreg : ∀ (c : Comp), c ∈ ids → c < w.kinds.length)
    {e : Ent} {w' : World} (hok : opNewEntity run p ids vals rels w = .ok e w') : CKeep w w' :=
  opNewEntity_ckeep run p h hl hno hreg hok

theorem setRelations_keeps_cache (p : Path) {w : World} {fl : List Nat}
    (h : TInv w fl) (hl : w.isLocked = false) (hno : ∀ (evt : Nat), w.obs.hasObservers evt = false)
    {e : Ent} (h2 : 2 ≤ e.id) (hnf : e.id ∉ fl) (ha : w.alive e = true)
    (hsl : e.id < w.pool.ents.length) {mapperIds : List Comp}
    {rels : List RelID} (hne : rels.isEmpty = false) (hnd : (rels.map (·.comp)).Nodup)
    (hhas : ∀ (r : RelID), r ∈ rels → (targetOf w e.id r.comp).isSome = true)
    {w' : World} (hok : opSetRelations run p e mapperIds rels w = .ok () w') : CKeep w w' :=
  opSetRelations_ckeep run p h hl hno h2 hnf ha hsl hne hnd hhas hok

/-- every accepted operation of the relation machine (`reg`, `new p`, `add p`, `rem p`,
    `setrel p`, `set`, `del`) keeps the filter-side state -/
theorem base_keeps {s : St} {fl : List Nat} (H : HInv s fl)
    (hfew : s.w.tables.length + s.w.relationArchetypes.length + 1 ≤ maxU32)
    (hent : 2 * s.w.entities.length < 2 ^ 32) {op : Op} (hg : RelRefine.guard s op = true)
    (hp : pre s.ss op) {r : Option Ent} {w' : World} (hex : exec run s.w op = .ok r w') :
    Kept s.w w' :=
  exec_kept run H hfew hent hg hp hex

/-- `FilterN.Register` in a world with relation tables -/
theorem register_keeps {w : World} {fl : List Nat} (h : FInvR w) (ht : TInv w fl) (f : Nat) :
    FInvR (opFilterRegister f w).state ∧ SameButCF w (opFilterRegister f w).state ∧
    CacheRelsOK (opFilterRegister f w).state :=
  h.filterRegister ht f

theorem unregister_keeps {w : World} {fl : List Nat} (h : FInvR w) (ht : TInv w fl) (f : Nat) :
    FInvR (opFilterUnregister f w).state ∧ SameButCF w (opFilterUnregister f w).state ∧
    CacheRelsOK (opFilterUnregister f w).state :=
  h.filterUnregister ht f

/-! ## 2. the invariant along histories -/

theorem step2_keeps {s : St} {fl : List Nat} (H : HInv2 s fl)
    (hfew : s.w.tables.length + s.w.relationArchetypes.length + 1 ≤ maxU32)
    (hent : 2 * s.w.entities.length < 2 ^ 32) (op : Op2) :
    ∃ fl', HInv2 (step2 run s op) fl' :=
  (step2_inv run H hfew hent op).1

/-- **the invariant holds after every history** (`Reset` anywhere in it) -/
theorem reach2_invariant (ops : List Op2) (hlen : ops.length < 2 ^ 16) :
    ∃ fl, HInv2 (reach2 run cap rel ops) fl :=
  reach2_inv run cap rel ops hlen

theorem reach2_cache_invariant (ops : List Op2) (hlen : ops.length < 2 ^ 16) :
    CacheInv (reach2 run cap rel ops).w := by
  obtain ⟨fl, H⟩ := reach2_inv run cap rel ops hlen
  exact H.cacheInv

/-- `Shrink` as a step keeps the invariant (empty relation tables are freed and leave the cache) -/
theorem shrink_keeps {s : St} {fl : List Nat} (H : HInv2 s fl)
    (hent : 2 * s.w.entities.length < 2 ^ 32) (bounded : Bool) :
    ∃ fl', HInv2 (step2 run s (.shrink bounded)) fl' :=
  (step2_shrink run H hent bounded).1

/-! ## 3. the headline -/

/-- **C05 with relations, at every reachable state.**  For a filter object registered under
    `id` (fixed relations allowed) and any admissible per-call relations (`ExtraAdmissible`: they
    pass the `preCheckTyped` of a typed filter; given to an `UnsafeFilter` they name relation
    components its mask requires, anything else is a Go nil dereference in `Matches`, § 6): the
    cache entry is found under `id`, its table list is duplicate-free and has exactly the members
    of the uncached walk; the iteration through the cache and the iteration of the identical
    unregistered object `{ fo with cache := none }` both succeed, leave the same world, are exact
    (`Observed`: the visits are exactly the alive entities matching filter, fixed and per-call
    relations, each once, with their own data and targets; `Count`, `EntityAt` agree) and visit
    the same entities. -/
theorem cached_agrees (ops : List Op2) (hlen : ops.length < 2 ^ 16)
    {f : Nat} {fo : FilterObj} {id : Nat}
    (hfind : AL.find? (reach2 run cap rel ops).w.filters f = some fo) (hc : fo.cache = some id)
    {extra : List RelID} (hx : ExtraAdmissible (reach2 run cap rel ops).w fo extra) :
    ∃ (ce : CacheEntry), (reach2 run cap rel ops).w.cacheEntry? id = some ce ∧
      ce.filter = fo.filter ∧ ce.rels = fo.rels ∧
      (∃ (ts : List Nat), (reach2 run cap rel ops).w.getCacheTables fo.filter fo.rels = some ts ∧
        ts.Nodup ∧ ce.tables.tables.Nodup ∧ ∀ (t : Nat), t ∈ ce.tables.tables ↔ t ∈ ts) ∧
      ∃ (l1 l2 : Lock) (q qu : QueryObj) (visits visitsU : List Visit),
        drain fo extra (reach2 run cap rel ops).w =
          .ok visits ((reach2 run cap rel ops).w.withLocks l2) ∧
        drain { fo with cache := none } extra (reach2 run cap rel ops).w =
          .ok visitsU ((reach2 run cap rel ops).w.withLocks l2) ∧
        Observed (reach2 run cap rel ops).w fo extra ((reach2 run cap rel ops).w.withLocks l1) q
          visits ∧
        Observed (reach2 run cap rel ops).w { fo with cache := none } extra
          ((reach2 run cap rel ops).w.withLocks l1) qu visitsU ∧
        (visits.map (·.e)).Perm (visitsU.map (·.e)) := by
  obtain ⟨fl, H⟩ := reach2_inv run cap rel ops hlen
  exact H.cached_agrees hfind hc hx

theorem cached_agrees_at {s : St} {fl : List Nat} (H : HInv2 s fl) {f : Nat} {fo : FilterObj}
    {id : Nat} (hfind : AL.find? s.w.filters f = some fo) (hc : fo.cache = some id)
    {extra : List RelID} (hx : ExtraAdmissible s.w fo extra) :
    ∃ (ce : CacheEntry), s.w.cacheEntry? id = some ce ∧ ce.filter = fo.filter ∧
      ce.rels = fo.rels ∧
      (∃ (ts : List Nat), s.w.getCacheTables fo.filter fo.rels = some ts ∧ ts.Nodup ∧
        ce.tables.tables.Nodup ∧ ∀ (t : Nat), t ∈ ce.tables.tables ↔ t ∈ ts) ∧
      ∃ (l1 l2 : Lock) (q qu : QueryObj) (visits visitsU : List Visit),
        drain fo extra s.w = .ok visits (s.w.withLocks l2) ∧
        drain { fo with cache := none } extra s.w = .ok visitsU (s.w.withLocks l2) ∧
        Observed s.w fo extra (s.w.withLocks l1) q visits ∧
        Observed s.w { fo with cache := none } extra (s.w.withLocks l1) qu visitsU ∧
        (visits.map (·.e)).Perm (visitsU.map (·.e)) :=
  H.cached_agrees hfind hc hx

/-! ## 4. `Reset` -/

/-- **`Reset` as a step**: from any state of the machine it succeeds; the state afterwards is
    `⟨resetW w, [], ⟨[], zst, isRel⟩⟩` (specification emptied, nothing issued: a new epoch); the
    joint invariant `TInv` holds with an empty free list, the WHOLE filter-side invariant holds
    (cache empty, every filter object unregistered), `HInv2` holds; no ID is indexed to a table;
    no handle with an unreserved ID and a generation other than `MaxUint32` is alive -/
theorem reset_step {s : St} {fl : List Nat} (H : HInv2 s fl) :
    ResetStepPost s (step2 run s .reset) :=
  step2_reset_spec run H

/-- the same statement as `reset_step` -/
theorem reset_step_partial {s : St} {fl : List Nat} (H : HInv2 s fl) :
    ResetStepPost s (step2 run s .reset) :=
  reset_step run H

/-- **`Reset` keeps the invariant of the machine** -/
theorem reset_keeps_invariant {s : St} {fl : List Nat} (H : HInv2 s fl) :
    HInv2 (step2 run s .reset) [] :=
  (reset_step run H).hinv

/-- **no handle that was issued carries the sentinel generation** `MaxUint32` (the generation
    `Reset` writes into the memory it keeps): generations are bounded by the length of the
    history -/
theorem issued_gen_bound (ops : List Op2) (hlen : ops.length < 2 ^ 16) :
    ∀ (h : Ent), h ∈ (reach2 run cap rel ops).issued → h.gen ≤ ops.length ∧ h.gen ≠ maxU32 :=
  reach2_issued_gen run cap rel ops hlen

/-- **`Reset` ends the epoch**: after `ops ++ [reset]` the specification has no entity, the
    registry is kept, nothing counts as issued, no ID is indexed to a table (no component set,
    value or relation target can be read), the cache is empty, every filter object is
    unregistered, and every handle issued before is dead -/
theorem reset_effect (ops : List Op2) (hlen : ops.length + 1 < 2 ^ 16) :
    (reach2 run cap rel (ops ++ [.reset])).ss.ents = [] ∧
    (reach2 run cap rel (ops ++ [.reset])).ss.zst = (reach2 run cap rel ops).ss.zst ∧
    (reach2 run cap rel (ops ++ [.reset])).ss.isRel = (reach2 run cap rel ops).ss.isRel ∧
    (reach2 run cap rel (ops ++ [.reset])).issued = [] ∧
    (reach2 run cap rel (ops ++ [.reset])).w.kinds = (reach2 run cap rel ops).w.kinds ∧
    (∀ (i : Nat), Ark.Props.C01World.compsOf (reach2 run cap rel (ops ++ [.reset])).w i = none ∧
      (∀ (c : Comp), Ark.Props.C01World.valOf (reach2 run cap rel (ops ++ [.reset])).w i c = none) ∧
      ∀ (c : Comp), targetOf (reach2 run cap rel (ops ++ [.reset])).w i c = none) ∧
    ((reach2 run cap rel (ops ++ [.reset])).w.cache.indices = [] ∧
      (reach2 run cap rel (ops ++ [.reset])).w.cache.filters = []) ∧
    (∀ (f : Nat) (fo : FilterObj),
      AL.find? (reach2 run cap rel (ops ++ [.reset])).w.filters f = some fo → fo.cache = none) ∧
    ∀ (h : Ent), h ∈ (reach2 run cap rel ops).issued →
      (reach2 run cap rel (ops ++ [.reset])).w.alive h = false := by
  obtain ⟨fl, H⟩ := reach2_inv run cap rel ops (by omega)
  have post := step2_reset_spec run H
  rw [reach2_snoc]
  refine ⟨by rw [post.state], by rw [post.state], by rw [post.state], by rw [post.state],
    by rw [post.state]; exact resetW_kinds _, post.unindexed, post.cacheEmpty, post.unregistered,
    fun h hi => ?_⟩
  obtain ⟨h2, _⟩ := H.base.ginv.issued_bound h hi
  exact post.dead h h2 (reach2_issued_gen run cap rel ops (by omega) h hi).2

/-! ## 5. non-vacuity: a concrete history

Component 0 = `ChildOf` (a zero-size relation component), component 1 = `Pos`.  Parents `2.0`,
`3.0`.  Filter 0 = `Filter2[ChildOf, Pos].Relations(ChildOf ↦ 2.0)` (typed, fixed relation),
filter 1 = `Filter1[ChildOf]` (typed), filter 2 = an `UnsafeFilter` on both components with the
fixed relation `ChildOf ↦ zero`; all three are registered BEFORE any relation table exists.
Children `4.0`, `5.0` of `2.0` (table 1) and `6.0` of `3.0` (table 2); a query; `6.0` is removed
(table 2 empty but active); `Shrink` frees table 2 — it leaves entry 1; parent `2.0` is removed:
its children move into the zero-target table, which RECYCLES table 2 — it enters entries 1 and 2
— and table 1 is freed — it leaves entries 0 and 1; a new parent `2.1` and its child, whose
table recycles table 1 — it enters entry 1 only; filter 0 is unregistered (swap-remove in the
entry slice); a query through the cache. -/

def p1 : Ent := ⟨2, 0⟩
def p2 : Ent := ⟨3, 0⟩
def p3 : Ent := ⟨2, 1⟩

def demoOps : List Op2 :=
  [.base (.reg 0 true true), .base (.reg 8 false false),
   .base (.new .unsafe_ [] [] []), .base (.new .unsafe_ [] [] []),
   .fdef 0 (mkFilterObj [0, 1] none false true [⟨0, p1⟩]),
   .fdef 1 (mkFilterObj [0] none false true []),
   .fdef 2 (mkFilterObj [0, 1] none false false [⟨0, Ent.zero⟩]),
   .freg 0, .freg 1, .freg 2,
   .base (.new .typed [0, 1] [(1, 7)] [⟨0, p1⟩]),
   .base (.new .typed [0, 1] [(1, 8)] [⟨0, p1⟩]),
   .base (.new .unsafe_ [0, 1] [(1, 9)] [⟨0, p2⟩]),
   .query 1 [⟨0, p2⟩],
   .base (.del ⟨6, 0⟩),
   .shrink false,
   .base (.del p1),
   .base (.new .unsafe_ [] [] []),
   .base (.new .map1 [0, 1] [(1, 5)] [⟨0, p3⟩]),
   .funreg 0,
   .query 2 []]

/-- table id, archetype, rows, free?, per-column relation targets -/
def summary (w : World) : List (Nat × Nat × Nat × Bool × List Ent) :=
  w.tables.map fun T => (T.id, T.arch, T.len, T.isFree, T.targets)

/-- entry id, fixed relations, cached table list -/
def cacheSummary (w : World) : List (Nat × List RelID × List Nat) :=
  w.cache.filters.map fun e => (e.id, e.rels, e.tables.tables)

/-- the entities a complete iteration visits -/
def visitsOf (fo : FilterObj) (extra : List RelID) (w : World) : Option (List Ent) :=
  match drain fo extra w with
  | .ok vs _ => some (vs.map (·.e))
  | .panic _ _ => none

/-- Boolean form of `ExtraAdmissible` -/
def extraAdmB (w : World) (fo : FilterObj) (extra : List RelID) : Bool :=
  (!fo.typed || extra.all fun r => (r.target.isZero || w.alive r.target) && w.isRelComp r.comp &&
    fo.filter.mask.get r.comp) &&
  (fo.typed || extra.all fun r => w.isRelComp r.comp && fo.filter.mask.get r.comp)

theorem extraAdmissible_of_check {w : World} {fo : FilterObj} {extra : List RelID}
    (h : extraAdmB w fo extra = true) : ExtraAdmissible w fo extra := by
  simp only [extraAdmB, Bool.and_eq_true, Bool.or_eq_true, Bool.not_eq_true', List.all_eq_true] at h
  obtain ⟨h1, h2⟩ := h
  constructor
  · intro ht r hr
    rcases h1 with h1 | h1
    · rw [ht] at h1; cases h1
    · obtain ⟨⟨a, b⟩, c⟩ := h1 r hr
      exact ⟨a, b, c⟩
  · intro ht r hr
    rcases h2 with h2 | h2
    · rw [ht] at h2; cases h2
    · exact h2 r hr

example : demoOps.length < 2 ^ 16 := by decide +kernel

/-- after the three children were created: both relation tables are cached — table 1 by the entry
    with the fixed relation `ChildOf ↦ 2.0` and by the entry without, table 2 only by the latter;
    the entry with the fixed relation `ChildOf ↦ zero` lists nothing -/
example :
    summary (reach2 noRun 2 2 (demoOps.take 13)).w =
      [(0, 0, 2, false, []), (1, 1, 2, false, [p1, Ent.zero]), (2, 1, 1, false, [p2, Ent.zero])] ∧
    cacheSummary (reach2 noRun 2 2 (demoOps.take 13)).w =
      [(0, [⟨0, p1⟩], [1]), (1, [], [1, 2]), (2, [⟨0, Ent.zero⟩], [])] := by
  decide +kernel

/-- `Shrink` frees the empty table 2: it leaves the entry that listed it -/
example :
    summary (reach2 noRun 2 2 (demoOps.take 16)).w =
      [(0, 0, 2, false, []), (1, 1, 2, false, [p1, Ent.zero]), (2, 1, 0, true, [p2, Ent.zero])] ∧
    cacheSummary (reach2 noRun 2 2 (demoOps.take 16)).w =
      [(0, [⟨0, p1⟩], [1]), (1, [], [1]), (2, [⟨0, Ent.zero⟩], [])] := by
  decide +kernel

/-- the target `2.0` is removed: table 1 is freed and leaves entries 0 and 1; the zero-target
    table RECYCLES table 2 and enters entry 1 and the entry with the fixed relation
    `ChildOf ↦ zero` -/
example :
    summary (reach2 noRun 2 2 (demoOps.take 17)).w =
      [(0, 0, 1, false, []), (1, 1, 0, true, [p1, Ent.zero]),
       (2, 1, 2, false, [Ent.zero, Ent.zero])] ∧
    cacheSummary (reach2 noRun 2 2 (demoOps.take 17)).w =
      [(0, [⟨0, p1⟩], []), (1, [], [2]), (2, [⟨0, Ent.zero⟩], [2])] := by
  decide +kernel

/-- the final state: the child of the new parent `2.1` sits in the recycled table 1, cached by
    entry 1 only; filter 0 is unregistered (the entry slice was swap-removed) -/
example :
    summary (reach2 noRun 2 2 demoOps).w =
      [(0, 0, 2, false, []), (1, 1, 1, false, [p3, Ent.zero]),
       (2, 1, 2, false, [Ent.zero, Ent.zero])] ∧
    cacheSummary (reach2 noRun 2 2 demoOps).w =
      [(2, [⟨0, Ent.zero⟩], [2]), (1, [], [2, 1])] ∧
    ((reach2 noRun 2 2 demoOps).w.filters.map fun p => (p.1, p.2.cache)) =
      [(0, none), (1, some 1), (2, some 2)] ∧
    ((reach2 noRun 2 2 demoOps).w.filters.map fun p => p.2.typed) = [true, true, false] := by
  decide +kernel

/-- the hypotheses of `cached_agrees` are satisfiable in the final state: filter 1 (typed,
    registered) with the per-call relation `ChildOf ↦ 2.1`, filter 2 (`UnsafeFilter` with a fixed
    relation, registered) without per-call relations -/
example :
    (AL.find? (reach2 noRun 2 2 demoOps).w.filters 1).map (·.cache) = some (some 1) ∧
    extraAdmB (reach2 noRun 2 2 demoOps).w (foAt (reach2 noRun 2 2 demoOps).w 1) [⟨0, p3⟩] = true ∧
    (AL.find? (reach2 noRun 2 2 demoOps).w.filters 2).map (·.cache) = some (some 2) ∧
    extraAdmB (reach2 noRun 2 2 demoOps).w (foAt (reach2 noRun 2 2 demoOps).w 2) [] = true := by
  decide +kernel

/-- `cached_agrees` applied to the final state of the history: filter 1 with the per-call relation
    `ChildOf ↦ 2.1`, and the `UnsafeFilter` 2 with its fixed relation `ChildOf ↦ zero` -/
example :
    (∃ (ce : CacheEntry) (l2 : Lock) (visits visitsU : List Visit),
      (reach2 noRun 2 2 demoOps).w.cacheEntry? 1 = some ce ∧
      drain (foAt (reach2 noRun 2 2 demoOps).w 1) [⟨0, p3⟩] (reach2 noRun 2 2 demoOps).w =
        .ok visits ((reach2 noRun 2 2 demoOps).w.withLocks l2) ∧
      drain { foAt (reach2 noRun 2 2 demoOps).w 1 with cache := none } [⟨0, p3⟩]
        (reach2 noRun 2 2 demoOps).w = .ok visitsU ((reach2 noRun 2 2 demoOps).w.withLocks l2) ∧
      (visits.map (·.e)).Perm (visitsU.map (·.e))) ∧
    (∃ (ce : CacheEntry) (l2 : Lock) (visits visitsU : List Visit),
      (reach2 noRun 2 2 demoOps).w.cacheEntry? 2 = some ce ∧
      drain (foAt (reach2 noRun 2 2 demoOps).w 2) [] (reach2 noRun 2 2 demoOps).w =
        .ok visits ((reach2 noRun 2 2 demoOps).w.withLocks l2) ∧
      drain { foAt (reach2 noRun 2 2 demoOps).w 2 with cache := none } []
        (reach2 noRun 2 2 demoOps).w = .ok visitsU ((reach2 noRun 2 2 demoOps).w.withLocks l2) ∧
      (visits.map (·.e)).Perm (visitsU.map (·.e))) := by
  have hlen : demoOps.length < 2 ^ 16 := by decide
  -- the hypotheses of both applications, by one evaluation of the history
  have ⟨f1, c1, x1, f2, c2, x2⟩ :
      AL.find? (reach2 noRun 2 2 demoOps).w.filters 1 = some (foAt (reach2 noRun 2 2 demoOps).w 1) ∧
      (foAt (reach2 noRun 2 2 demoOps).w 1).cache = some 1 ∧
      extraAdmB (reach2 noRun 2 2 demoOps).w (foAt (reach2 noRun 2 2 demoOps).w 1) [⟨0, p3⟩] = true ∧
      AL.find? (reach2 noRun 2 2 demoOps).w.filters 2 = some (foAt (reach2 noRun 2 2 demoOps).w 2) ∧
      (foAt (reach2 noRun 2 2 demoOps).w 2).cache = some 2 ∧
      extraAdmB (reach2 noRun 2 2 demoOps).w (foAt (reach2 noRun 2 2 demoOps).w 2) [] = true := by
    decide +kernel
  constructor
  · obtain ⟨ce, h1, _, _, _, _, l2, _, _, visits, visitsU, d1, d2, _, _, hp⟩ :=
      cached_agrees noRun 2 2 demoOps hlen f1 c1 (extraAdmissible_of_check x1)
    exact ⟨ce, l2, visits, visitsU, h1, d1, d2, hp⟩
  · obtain ⟨ce, h1, _, _, _, _, l2, _, _, visits, visitsU, d1, d2, _, _, hp⟩ :=
      cached_agrees noRun 2 2 demoOps hlen f2 c2 (extraAdmissible_of_check x2)
    exact ⟨ce, l2, visits, visitsU, h1, d1, d2, hp⟩

/-- … and what the theorem says there, computed: cached walk = uncached walk (as sets of tables),
    cached iteration = uncached iteration -/
example :
    (reach2 noRun 2 2 demoOps).w.getCacheTables (foAt (reach2 noRun 2 2 demoOps).w 1).filter [] =
      some [2, 1] ∧
    (reach2 noRun 2 2 demoOps).w.getCacheTables (foAt (reach2 noRun 2 2 demoOps).w 2).filter
      [⟨0, Ent.zero⟩] = some [2] ∧
    visitsOf (foAt (reach2 noRun 2 2 demoOps).w 1) [⟨0, p3⟩] (reach2 noRun 2 2 demoOps).w =
      some [⟨6, 1⟩] ∧
    visitsOf { foAt (reach2 noRun 2 2 demoOps).w 1 with cache := none } [⟨0, p3⟩]
      (reach2 noRun 2 2 demoOps).w = some [⟨6, 1⟩] ∧
    visitsOf (foAt (reach2 noRun 2 2 demoOps).w 2) [] (reach2 noRun 2 2 demoOps).w =
      some [⟨4, 0⟩, ⟨5, 0⟩] ∧
    visitsOf { foAt (reach2 noRun 2 2 demoOps).w 2 with cache := none } []
      (reach2 noRun 2 2 demoOps).w = some [⟨4, 0⟩, ⟨5, 0⟩] := by
  decide +kernel

/-- the hypotheses of the world-level theorems are satisfiable: before `del 2.0` the handle is
    alive, flagged as a target, and the size bounds hold -/
example :
    (reach2 noRun 2 2 (demoOps.take 16)).w.alive p1 = true ∧
    (reach2 noRun 2 2 (demoOps.take 16)).w.isTarget.getD 2 false = true ∧
    (reach2 noRun 2 2 (demoOps.take 16)).w.tables.length +
      (reach2 noRun 2 2 (demoOps.take 16)).w.relationArchetypes.length + 1 ≤ maxU32 ∧
    2 * (reach2 noRun 2 2 (demoOps.take 16)).w.entities.length < 2 ^ 32 := by
  decide +kernel

/-! ### a history with `Reset`: relation tables recycled in the new epoch

The history above, then `Reset` — the cache is emptied, the three filter objects are unregistered,
both relation tables are freed, the five handles of the pool stay behind its slice with generation
`MaxUint32` — then: two parents (the pool re-issues `2.0` and `3.0`, the handles of the ended
epoch), filters 1 and 2 registered again (the cache's ID pool starts afresh: IDs 0 and 1), a child
of `2.0` (its table RECYCLES table 1), a child of `3.0` (RECYCLES table 2), a child of the zero
entity (a third relation table), a query through the cache, the removal of the target `2.0`
(table 1 freed again, its child moves to the zero-target table 3), a query. -/

def resetOps : List Op2 := demoOps ++
  [.reset,
   .base (.new .unsafe_ [] [] []), .base (.new .unsafe_ [] [] []),
   .freg 1, .freg 2,
   .base (.new .typed [0, 1] [(1, 7)] [⟨0, p1⟩]),
   .base (.new .unsafe_ [0, 1] [(1, 9)] [⟨0, p2⟩]),
   .base (.new .map1 [0, 1] [(1, 3)] [⟨0, Ent.zero⟩]),
   .query 1 [⟨0, p1⟩],
   .base (.del p1),
   .query 2 []]

/-- `Reset` in the final state of `demoOps` (`reset_step`): every table is empty, both relation
    tables are free; the cache is emptied and every filter object is unregistered; the
    specification is empty and nothing counts as issued; the pool keeps the five invalidated
    handles behind its slice; every handle issued before is dead -/
example :
    summary (reach2 noRun 2 2 (resetOps.take 22)).w =
      [(0, 0, 0, false, []), (1, 1, 0, true, [p3, Ent.zero]),
       (2, 1, 0, true, [Ent.zero, Ent.zero])] ∧
    cacheSummary (reach2 noRun 2 2 (resetOps.take 22)).w = [] ∧
    ((reach2 noRun 2 2 (resetOps.take 22)).w.filters.map fun p => (p.1, p.2.cache)) =
      [(0, none), (1, none), (2, none)] ∧
    (reach2 noRun 2 2 (resetOps.take 22)).ss.ents = [] ∧
    (reach2 noRun 2 2 (resetOps.take 22)).issued = [] ∧
    (reach2 noRun 2 2 (resetOps.take 22)).w.pool.stale =
      [⟨2, maxU32⟩, ⟨3, maxU32⟩, ⟨4, maxU32⟩, ⟨5, maxU32⟩, ⟨6, maxU32⟩] ∧
    (reach2 noRun 2 2 (resetOps.take 21)).issued =
      [⟨6, 1⟩, ⟨2, 1⟩, ⟨6, 0⟩, ⟨5, 0⟩, ⟨4, 0⟩, ⟨3, 0⟩, ⟨2, 0⟩] ∧
    (reach2 noRun 2 2 (resetOps.take 21)).issued.map (reach2 noRun 2 2 (resetOps.take 22)).w.alive =
      [false, false, false, false, false, false, false] := by
  decide +kernel

/-- **`Reset` inside a history**: in
    the new epoch the child of the re-issued parent `2.0` sits in the RECYCLED relation table 1,
    cached by the re-registered filter 1 (cache ID 0 again); two invalidated handles are still
    behind the pool slice — and the joint invariant `TInv` and the invariant `HInv2` of the
    machine hold there, as they do in the final state -/
theorem reset_history_invariant :
    summary (reach2 noRun 2 2 (resetOps.take 27)).w =
      [(0, 0, 2, false, []), (1, 1, 1, false, [p1, Ent.zero]),
       (2, 1, 0, true, [Ent.zero, Ent.zero])] ∧
    cacheSummary (reach2 noRun 2 2 (resetOps.take 27)).w =
      [(0, [], [1]), (1, [⟨0, Ent.zero⟩], [])] ∧
    (reach2 noRun 2 2 (resetOps.take 27)).w.pool.stale = [⟨5, maxU32⟩, ⟨6, maxU32⟩] ∧
    (∃ (fl : List Nat), TInv (reach2 noRun 2 2 (resetOps.take 27)).w fl) ∧
    (∃ (fl : List Nat), HInv2 (reach2 noRun 2 2 (resetOps.take 27)) fl) ∧
    (∃ (fl : List Nat), HInv2 (reach2 noRun 2 2 resetOps) fl) := by
  obtain ⟨fl, H⟩ := reach2_invariant noRun 2 2 (resetOps.take 27) (by decide)
  have ⟨h1, h2, h3⟩ : summary (reach2 noRun 2 2 (resetOps.take 27)).w =
        [(0, 0, 2, false, []), (1, 1, 1, false, [p1, Ent.zero]),
         (2, 1, 0, true, [Ent.zero, Ent.zero])] ∧
      cacheSummary (reach2 noRun 2 2 (resetOps.take 27)).w =
        [(0, [], [1]), (1, [⟨0, Ent.zero⟩], [])] ∧
      (reach2 noRun 2 2 (resetOps.take 27)).w.pool.stale = [⟨5, maxU32⟩, ⟨6, maxU32⟩] := by
    decide +kernel
  exact ⟨h1, h2, h3, ⟨fl, H.base.tinv⟩, ⟨fl, H⟩, reach2_invariant noRun 2 2 resetOps (by decide)⟩

/-- the final state of the history with `Reset`: table 2 recycled for the child of `3.0`, table 1
    freed again by the removal of `2.0` (its child moved to the zero-target table 3); the memory
    behind the pool slice is used up; the specification has the entities of the new epoch only -/
example :
    summary (reach2 noRun 2 2 resetOps).w =
      [(0, 0, 1, false, []), (1, 1, 0, true, [p1, Ent.zero]), (2, 1, 1, false, [p2, Ent.zero]),
       (3, 1, 2, false, [Ent.zero, Ent.zero])] ∧
    cacheSummary (reach2 noRun 2 2 resetOps).w = [(0, [], [3, 2]), (1, [⟨0, Ent.zero⟩], [3])] ∧
    ((reach2 noRun 2 2 resetOps).w.filters.map fun p => (p.1, p.2.cache)) =
      [(0, none), (1, some 0), (2, some 1)] ∧
    (reach2 noRun 2 2 resetOps).w.pool.stale = [] ∧
    (reach2 noRun 2 2 resetOps).issued = [⟨6, 0⟩, ⟨5, 0⟩, ⟨4, 0⟩, ⟨3, 0⟩, ⟨2, 0⟩] ∧
    (reach2 noRun 2 2 resetOps).ss.ents.map (·.1) = [⟨6, 0⟩, ⟨5, 0⟩, ⟨4, 0⟩, ⟨3, 0⟩] :=
  and_of_decide of_decide_eq_true (by decide +kernel)

/-- `cached_agrees` applied after the `Reset`: the hypotheses hold for filter 1 (registered again,
    per-call relation `ChildOf ↦ 2.0`) before the removal of `2.0`, and for filter 2 in the final
    state; cached and uncached iteration visit the same entities -/
example :
    (AL.find? (reach2 noRun 2 2 (resetOps.take 29)).w.filters 1).map (·.cache) = some (some 0) ∧
    extraAdmB (reach2 noRun 2 2 (resetOps.take 29)).w (foAt (reach2 noRun 2 2 (resetOps.take 29)).w 1)
      [⟨0, p1⟩] = true ∧
    visitsOf (foAt (reach2 noRun 2 2 (resetOps.take 29)).w 1) [⟨0, p1⟩]
      (reach2 noRun 2 2 (resetOps.take 29)).w = some [⟨4, 0⟩] ∧
    visitsOf { foAt (reach2 noRun 2 2 (resetOps.take 29)).w 1 with cache := none } [⟨0, p1⟩]
      (reach2 noRun 2 2 (resetOps.take 29)).w = some [⟨4, 0⟩] ∧
    (AL.find? (reach2 noRun 2 2 resetOps).w.filters 2).map (·.cache) = some (some 1) ∧
    extraAdmB (reach2 noRun 2 2 resetOps).w (foAt (reach2 noRun 2 2 resetOps).w 2) [] = true ∧
    visitsOf (foAt (reach2 noRun 2 2 resetOps).w 2) [] (reach2 noRun 2 2 resetOps).w =
      some [⟨6, 0⟩, ⟨4, 0⟩] ∧
    visitsOf { foAt (reach2 noRun 2 2 resetOps).w 2 with cache := none } []
      (reach2 noRun 2 2 resetOps).w = some [⟨6, 0⟩, ⟨4, 0⟩] := by
  decide +kernel

/-! ### finding: after a `Reset`, a forged handle behind the pool slice

`Alive` is an unchecked read of the pool's memory, and `Reset` keeps the invalidated handles
(generation `MaxUint32`) behind the re-sliced pool.  So after `reg; new; reset` the handle
`2.MaxUint32` — which the world never issued (`issued_gen_bound`) — tests alive although its ID
lies behind the pool slice (and behind the entity index and the target flags).  This is why the
operation theorems of the relation development (`Ark.Props.C04World`) speak about handles whose
ID lies inside the pool slice, for the entity and for the relation targets named: -/

def forgeOps : List Op2 := [.base (.reg 0 true true), .base (.new .unsafe_ [] [] []), .reset]

def forged : Ent := ⟨2, maxU32⟩

/-- **the hypothesis "the targets' IDs lie inside the pool slice" of `C04World.newEntity_assigns_targets`
    is necessary**: in the world after `reg; new; reset` the joint invariant holds, the forged
    handle tests alive, and `NewEntity` with the forged handle as relation target is ACCEPTED (on
    the typed path too: the pre-validation asks `Alive`); the new entity gets the ID of the forged
    handle, whose slot now holds generation 0 — the table of the new entity targets a handle that
    is neither zero nor alive, and the joint invariant is broken -/
theorem forged_target_after_reset :
    (∃ (fl : List Nat), TInv (reach2 noRun 2 2 forgeOps).w fl) ∧
    (reach2 noRun 2 2 forgeOps).w.alive forged = true ∧
    (reach2 noRun 2 2 forgeOps).w.pool.ents.length = 2 ∧
    panicOf (opNewEntity noRun .typed [0] [] [⟨0, forged⟩] (reach2 noRun 2 2 forgeOps).w) = none ∧
    summary (opNewEntity noRun .typed [0] [] [⟨0, forged⟩] (reach2 noRun 2 2 forgeOps).w).state =
      [(0, 0, 0, false, []), (1, 1, 1, false, [forged])] ∧
    (opNewEntity noRun .typed [0] [] [⟨0, forged⟩] (reach2 noRun 2 2 forgeOps).w).state.alive forged
      = false ∧
    ¬ ∃ (fl : List Nat),
      TInv (opNewEntity noRun .typed [0] [] [⟨0, forged⟩] (reach2 noRun 2 2 forgeOps).w).state fl := by
  obtain ⟨fl, H⟩ := reach2_invariant noRun 2 2 forgeOps (by decide +kernel)
  refine ⟨⟨fl, H.base.tinv⟩, by decide +kernel, by decide +kernel, by decide +kernel,
    by decide +kernel, by decide +kernel, ?_⟩
  rintro ⟨fl', h⟩
  have := h.rel.aux.targets 1
    ((opNewEntity noRun .typed [0] [] [⟨0, forged⟩] (reach2 noRun 2 2 forgeOps).w).state.tbl 1)
    (by decide +kernel) (by decide +kernel) 0 (by decide +kernel)
  revert this
  decide +kernel

/-- **the hypothesis "the entity's ID lies inside the pool slice" of `C04World.removeEntity_post` is
    necessary**: `RemoveEntity` of the forged handle is not rejected (`Alive` answers yes; in Go the
    index lookup behind the slice is a runtime panic, the model reads the default entry) and puts
    an ID behind the slice on the free list — the pool invariant is broken -/
theorem forged_entity_after_reset :
    panicOf (opRemoveEntity noRun forged (reach2 noRun 2 2 forgeOps).w) = none ∧
    (opRemoveEntity noRun forged (reach2 noRun 2 2 forgeOps).w).state.pool.available = 1 ∧
    (opRemoveEntity noRun forged (reach2 noRun 2 2 forgeOps).w).state.pool.next = 2 ∧
    (opRemoveEntity noRun forged (reach2 noRun 2 2 forgeOps).w).state.pool.ents.length = 2 ∧
    ¬ ∃ (fl : List Nat), TInv (opRemoveEntity noRun forged (reach2 noRun 2 2 forgeOps).w).state fl := by
  refine ⟨by decide +kernel, by decide +kernel, by decide +kernel, by decide +kernel, ?_⟩
  rintro ⟨fl', h⟩
  have hp := h.link.pool
  have h1 := hp.avail
  have h2 := hp.avail_le
  have e1 : (opRemoveEntity noRun forged (reach2 noRun 2 2 forgeOps).w).state.pool.available = 1 := by
    decide +kernel
  have e2 : (opRemoveEntity noRun forged (reach2 noRun 2 2 forgeOps).w).state.pool.ents.length = 2 := by
    decide +kernel
  rw [e1] at h1
  rw [e2] at h2
  omega

/-- after the history `new; reset` the pool keeps the invalidated handle behind its slice -/
theorem reset_keeps_memory :
    (reach2 Ark.RelRefine2.noRun 4 4 resetDemo).w.pool.stale = [⟨2, maxU32⟩] := by
  decide +kernel

/-! ## 6. the guards `guardF` / `guardQ` are needed

`ChildOf` (0, relation), `Pos` (1), `Likes` (2, relation); one entity with `Pos` and `Likes`.  An
`UnsafeFilter` on `Pos` whose fixed relation names `ChildOf` — a component its mask does not
require — is not accepted by `guardF`: the archetype `{Pos, Likes}` matches the mask, has
relation columns, and lacks the column `ChildOf`, so `GetTables` / `Matches` index with −1.
Put into the heap anyway, `Register` panics (class `runtime`) after taking a cache ID, and
`Query` panics with the world left LOCKED.  The same happens when the relation is passed per
call (`guardQ`).  A typed filter cannot be built this way (`ToRelations` checks the mask). -/

def ops3 : List Op2 :=
  [.base (.reg 0 true true), .base (.reg 8 false false), .base (.reg 0 true true),
   .base (.new .unsafe_ [] [] []),
   .base (.new .unsafe_ [1, 2] [] [⟨2, ⟨2, 0⟩⟩])]

def badFo : FilterObj := mkFilterObj [1] none false false [⟨0, Ent.zero⟩]
def okFo : FilterObj := mkFilterObj [1] none false false []
def w3 : World := (reach2 noRun 2 2 ops3).w
def w3bad : World := { w3 with filters := AL.insert w3.filters 7 badFo }

example :
    guardF w3 badFo = false ∧
    panicOf (opFilterRegister 7 w3bad) = some .runtime ∧
    (opFilterRegister 7 w3bad).state.cache.pool.pool.length = 1 ∧
    (opFilterRegister 7 w3bad).state.cache.filters = [] ∧
    panicOf (drain badFo [] w3) = some .runtime ∧
    (drain badFo [] w3).state.isLocked = true ∧
    guardF w3 okFo = true ∧
    guardQ w3 okFo [⟨0, Ent.zero⟩] = false ∧
    panicOf (drain okFo [⟨0, Ent.zero⟩] w3) = some .runtime ∧
    (drain okFo [⟨0, Ent.zero⟩] w3).state.isLocked = true := by
  decide +kernel

end Ark.Props.C05Rel
