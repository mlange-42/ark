import Ark.Proofs.CacheInv

namespace Ark.Props.C05Cache
open Ark Ark.World

/-! C05 — registered (cached) filters are indistinguishable from unregistered ones.

    `Selected w f rels t` is the cache- and walk-independent meaning of "table `t` is selected by
    filter `f` with relations `rels`".  `getCacheTables` (the uncached walk) computes exactly
    that set; the cache invariant `CacheInv` (I11) says every entry's table list is that set
    too, and every cache operation preserves it.

    Hypotheses used throughout:
    * `TablesInv w` — storage facts: every archetype satisfies `Archetype.IndexInv` w.r.t. the
      tables' targets; active tables point back to their archetype, share its column layout
      and its `HasRelations()`; an archetype without relation columns has exactly one active
      table.
    * `RelsOK w f rels` — the walk does not hit a Go runtime panic: in every relation archetype
      the filter matches, each relation names a column and the first one names a relation
      column.  `relsOK_of_mask` derives it from what the typed filter API checks. -/

/-! ### the uncached walk -/

/-- the uncached walk succeeds, is duplicate-free, and lists exactly the selected tables -/
theorem getCacheTables_spec {w : World} (H : TablesInv w) {f : Filter} {rels : List RelID}
    (hok : RelsOK w f rels) :
    ∃ (ts : List Nat), w.getCacheTables f rels = some ts ∧ ts.Nodup ∧
      ∀ (t : Nat), t ∈ ts ↔ Selected w f rels t :=
  World.getCacheTables_spec H hok

/-- the API's relation checks (relation component, contained in the filter mask) give `RelsOK` -/
theorem relsOK_of_mask : type_of% @World.relsOK_of_mask := @World.relsOK_of_mask

/-! ### cached = uncached -/

/-- For a registered entry (found via `cacheEntry? id`) the cached table list and the uncached
    walk select the same set of tables. -/
theorem cached_eq_uncached {w : World} (h : CacheInv w) (H : TablesInv w) {id : Nat}
    {e : CacheEntry} (he : w.cacheEntry? id = some e) (hok : RelsOK w e.filter e.rels) :
    ∀ (t : Nat), t ∈ e.tables.tables ↔
      ∃ (ts : List Nat), w.getCacheTables e.filter e.rels = some ts ∧ t ∈ ts := by
  intro t
  obtain ⟨_, _, ts, hts, _, hiff⟩ := h.cached_eq_uncached H he hok
  constructor
  · intro ht; exact ⟨ts, hts, (hiff t).1 ht⟩
  · rintro ⟨ts', hts', ht⟩
    rw [hts] at hts'; injection hts' with hts'; subst hts'
    exact (hiff t).2 ht

/-- Both lists are duplicate-free (and the walk does not panic); the entry carries the ID it
    was looked up by. -/
theorem cached_eq_uncached_nodup {w : World} (h : CacheInv w) (H : TablesInv w) {id : Nat}
    {e : CacheEntry} (he : w.cacheEntry? id = some e) (hok : RelsOK w e.filter e.rels) :
    e.id = id ∧ e.tables.tables.Nodup ∧
    ∃ (ts : List Nat), w.getCacheTables e.filter e.rels = some ts ∧ ts.Nodup ∧
      ∀ (t : Nat), t ∈ e.tables.tables ↔ t ∈ ts :=
  h.cached_eq_uncached H he hok

/-! ### the invariant and its preservation -/

/-- `CacheInv` is the conjunction: unique keys ∧ exact position map ∧ every entry is a
    well-formed `tableIDs` listing exactly the selected tables -/
theorem cacheInv_iff : type_of% @World.cacheInv_iff := @World.cacheInv_iff

/-- (a) an empty cache satisfies the invariant -/
theorem inv_empty : type_of% @World.cacheInv_of_empty := @World.cacheInv_of_empty

/-- (a) in particular a new world -/
theorem inv_init : type_of% @World.cacheInv_init := @World.cacheInv_init

/-- (b) `register`: succeeds, returns the pool's ID, re-establishes the invariant; the new entry
    has the given filter/relations and exactly the selected tables; all other IDs resolve as
    before; storage untouched.  (Hypothesis: the pool's ID is not registered.) -/
theorem inv_register : type_of% @World.cacheRegister_inv := @World.cacheRegister_inv

/-- (c) `unregister` (swap-remove + index fix-up) preserves the invariant; the ID is gone, all
    other IDs resolve to the same entries -/
theorem inv_unregister : type_of% @World.cacheUnregister_inv := @World.cacheUnregister_inv

/-- (c) unregistering an unknown ID panics without changing anything -/
theorem unregister_unknown : type_of% @World.cacheUnregister_unknown :=
  @World.cacheUnregister_unknown

/-- (d) world-level: when table `t` becomes active (`TableAdded w w' a t`), `cache.addTable`
    re-establishes the invariant -/
theorem inv_addTable : type_of% @World.cacheAddTable_inv := @World.cacheAddTable_inv

/-- (d) `cache.addTable` does not panic when `Matches` is defined for the matching entries -/
theorem addTable_isSome : type_of% @World.cacheAddTable_isSome := @World.cacheAddTable_isSome

/-- (d) what `cache.addTable` computes: the entry slice mapped through `addTableEntry` -/
theorem addTable_eq : type_of% @World.cacheAddTable_eq := @World.cacheAddTable_eq

/-- (d) per-entry form: the entry gains exactly `T.id`, and only if filter and relations match -/
theorem addTable_entry : type_of% @World.addTableEntry_spec := @World.addTableEntry_spec

/-- (e) world-level: when table `t` stops being active (`TableRemoved w w' a t`),
    `cache.removeTable` re-establishes the invariant -/
theorem inv_removeTable : type_of% @World.cacheRemoveTable_inv := @World.cacheRemoveTable_inv

/-- (e) per-entry form: the entry loses exactly `t` -/
theorem removeTable_entry : type_of% @World.removeTableEntry_spec := @World.removeTableEntry_spec

/-- (d)/(e) selection of all other tables is unaffected by the change -/
theorem selected_other : type_of% @World.ActiveChange.selected_ne :=
  @World.ActiveChange.selected_ne

/-- (d) the new table is selected iff the filter matches its archetype and it matches the
    relations -/
theorem selected_new : type_of% @World.TableAdded.selected_new := @World.TableAdded.selected_new

/-- (f) `Reset` yields the empty cache -/
theorem reset_empty : type_of% @World.cacheReset_empty := @World.cacheReset_empty

/-- (f) and hence re-establishes the invariant -/
theorem inv_reset : type_of% @World.cacheReset_inv := @World.cacheReset_inv

/-! ### non-vacuity on a concrete world

    `World.init 2 2`; component 0 plain, component 1 a relation; targets `p1`, `p2`; a child of
    `p1`; two registered filters over `{0, 1}`: one without relations (ID 0), one with the fixed
    relation `(1, p2)` (ID 1).  Then: a child of `p2` (creates another matching table, goes
    through `cache.addTable`), removal of `p1` and of `p2` (`cleanupArchetypes`: frees the
    target's table through `cache.removeTable`, creates the zero-target table through
    `cache.addTable`).  After every step both entries agree, as sets, with the uncached walk. -/

open World.CacheDemo in
/-- the cached lists after each step, and the eight agreement checks -/
theorem demo_agree :
    result script (World.init 2 2) =
      some ([[[1], []], [[1, 2], [2]], [[3, 2], [2]], [[3], []]], List.replicate 8 true) := by
  decide +kernel

open World.CacheDemo in
example : (result script (World.init 2 2)).map (·.2) = some (List.replicate 8 true) := by
  decide +kernel

/-! The hypotheses of (d)/(e) are met by the model's own steps: `wA` → `wB0` is the storage part
    of `createTable` for the child of `p2` (table 2 becomes active in archetype 1, cache not yet
    told), `wB` → `wR` is the storage part of freeing table 1 in `cleanupArchetypes`. -/

/-- the storage part of `createTable` is a `TableAdded` step -/
theorem demo_tableAdded : type_of% @World.CacheDemo.demo_tableAdded :=
  @World.CacheDemo.demo_tableAdded

open World.CacheDemo in
/-- … and `cache.addTable` on it yields exactly the cache the model's `createTable` produced;
    before the call the first entry disagrees with the walk, afterwards both agree -/
theorem demo_addTable_runs :
    (wB0.cacheAddTable (wB0.tbl 2)).map (·.cache) = some wB.cache ∧ (wB0.tbl 2).id = 2 ∧
      agree wB0 0 = false ∧ agree wB 0 = true ∧ agree wB 1 = true := by
  decide +kernel

/-- the storage part of freeing a table is a `TableRemoved` step -/
theorem demo_tableRemoved : type_of% @World.CacheDemo.demo_tableRemoved :=
  @World.CacheDemo.demo_tableRemoved

open World.CacheDemo in
/-- … before `cache.removeTable` the first entry disagrees with the walk, afterwards both
    entries agree -/
theorem demo_removeTable_runs :
    agree wR 0 = false ∧ agree (wR.cacheRemoveTable 1) 0 = true ∧
      agree (wR.cacheRemoveTable 1) 1 = true := by
  decide +kernel

end Ark.Props.C05Cache
