import Ark.Proofs.ShrinkInv

namespace Ark.Props.C15World
open Ark Ark.World

/-! C15 — Shrink is invisible and convergent (world level).

    `opShrink bounded` is Go's `storage.Shrink` (`bounded` = `stopAfter == 0`: stop after the
    first table where work was found).  On an unlocked world it equals the pure, structurally
    recursive `shrinkPure` (`shrink_is_pure`), whose loop step `shrinkStep w t` shrinks table `t`
    and, if it is an active empty relation table, frees it.

    `World.hasWork w t` is `tableHasWork` of table `t`, `World.work w` the number of such tables;
    `World.RowsBounded w`: every table has fewer than `2^32` rows (Go's `uint32` row indices; the
    model's `capPow2` doubles at most 33 times); `World.shrinkIter fuel w` calls the bounded Shrink
    until it returns `false`.

    Hypotheses: the world is unlocked (`Shrink` on a locked world panics: `C15.shrink_locked`);
    the entity-index invariant `IdxInv` (it supplies the zero tail of the columns, without which
    re-allocating a column WOULD change cells beyond `len`) and `RowsBounded` for parts 1 and 3;
    `SInv`, `RInv` (and `CacheInv`) for part 2; nothing beyond "unlocked" for part 4. -/

/-! ### the pure reformulation -/

/-- the monadic loop of `storage.Shrink` is the pure recursion -/
theorem shrink_is_pure (bounded : Bool) (w : World) (hl : w.isLocked = false) :
    opShrink bounded w = .ok (shrinkPure w bounded).2 (shrinkPure w bounded).1 :=
  World.opShrink_eq bounded w hl

/-- the loop step in normal form -/
theorem shrinkStep_eq : type_of% @World.shrinkStep_eq := @World.shrinkStep_eq

/-- the work predicate is "can shrink below the minimum-respecting bound, or is freeable" -/
theorem tableHasWork_eq (w : World) (T : Table) :
    w.tableHasWork T = (T.canShrink (w.minCap T) || freeable T) :=
  World.tableHasWork_eq w T

/-! ### 1. invisible -/

/-- **Shrink is invisible.**  On an unlocked world with the index invariant `Shrink` succeeds,
    keeps the index invariant, the entity index and the pool; every entity ID has the same
    component set and the same values; every table keeps `len`, `ids`, relation targets, the
    entity rows in use and all component cells (those beyond `len` are still zero); capacities
    do not grow and still hold all rows; `isFree` is at most set. -/
theorem shrink_invisible {w : World} (bounded : Bool) (hl : w.isLocked = false) (h : IdxInv w)
    (hb : RowsBounded w) :
    ∃ (b : Bool) (w' : World), opShrink bounded w = .ok b w' ∧ IdxInv w' ∧ ShrinkRel w w' ∧
      w'.entities = w.entities ∧ w'.pool = w.pool ∧ w'.isLocked = false ∧
      (∀ (i : Nat) (c : Comp), C01World.valOf w' i c = C01World.valOf w i c) ∧
      (∀ (i : Nat), C01World.compsOf w' i = C01World.compsOf w i) ∧
      w'.tables.length = w.tables.length ∧
      ∀ (t : Nat), (w'.tbl t).len = (w.tbl t).len ∧ (w'.tbl t).ids = (w.tbl t).ids ∧
        (w'.tbl t).targets = (w.tbl t).targets ∧ (w'.tbl t).relIDs = (w.tbl t).relIDs ∧
        (w'.tbl t).cap ≤ (w.tbl t).cap ∧ (w'.tbl t).len ≤ (w'.tbl t).cap ∧
        (∀ (r : Nat), r < (w.tbl t).len → (w'.tbl t).getEntity r = (w.tbl t).getEntity r) ∧
        (∀ (i r : Nat), (w'.tbl t).cell i r = (w.tbl t).cell i r) ∧
        (∀ (i r : Nat), (w'.tbl t).len ≤ r → (w'.tbl t).cell i r = 0) ∧
        ((w.tbl t).isFree = true → (w'.tbl t).isFree = true) :=
  World.shrink_invisible bounded hl h hb

/-- nothing outside the table store, the archetype store and the cache changes -/
theorem shrinkRel_frame {w w' : World} (h : ShrinkRel w w') :
    ∃ (ts : List Table) (as : List Archetype) (c : Cache),
      w' = { w with tables := ts, archetypes := as, cache := c } := h.frame

/-- per table: everything but `cap`, the dead part of the entity column and `isFree` is kept;
    `isFree` changes only for an active empty relation table, and only to `true` -/
theorem shrinkRel_table {w w' : World} (h : ShrinkRel w w') (t : Nat) :
    (w'.tbl t).id = (w.tbl t).id ∧ (w'.tbl t).arch = (w.tbl t).arch ∧
    (w'.tbl t).ids = (w.tbl t).ids ∧ (w'.tbl t).isRel = (w.tbl t).isRel ∧
    (w'.tbl t).zst = (w.tbl t).zst ∧ (w'.tbl t).targets = (w.tbl t).targets ∧
    (w'.tbl t).relIDs = (w.tbl t).relIDs ∧ (w'.tbl t).len = (w.tbl t).len ∧
    (w'.tbl t).cap ≤ (w.tbl t).cap ∧
    (∀ (r : Nat), r < (w.tbl t).len → (w'.tbl t).getEntity r = (w.tbl t).getEntity r) ∧
    (∀ (i r : Nat), (w'.tbl t).cell i r = (w.tbl t).cell i r) ∧
    ((w'.tbl t).isFree = (w.tbl t).isFree ∨
      (freeable (w.tbl t) = true ∧ (w'.tbl t).isFree = true)) ∧
    ((w'.tbl t).cap = (w.tbl t).cap ∨
      (w'.tbl t).cap = max (capPow2 (w.tbl t).len) (w.minCap (w.tbl t))) :=
  let r := h.tbl t
  ⟨r.id, r.arch, r.ids, r.isRel, r.zst, r.targets, r.relIDs, r.len, r.cap_le, r.ent, r.cell, r.free,
    h.capEq t⟩

/-- archetypes keep `id`, `mask`, column layout; the cache keeps its ID map, its ID pool and the
    `(id, filter, relations)` of every entry (only table lists change) -/
theorem shrinkRel_arch_cache {w w' : World} (h : ShrinkRel w w') :
    w'.archetypes.length = w.archetypes.length ∧
    (∀ (a : Nat), (w'.arch a).id = (w.arch a).id ∧ (w'.arch a).mask = (w.arch a).mask ∧
      (w'.arch a).comps = (w.arch a).comps ∧ (w'.arch a).isRel = (w.arch a).isRel ∧
      (w'.arch a).zst = (w.arch a).zst ∧ (w'.arch a).numRel = (w.arch a).numRel) ∧
    w'.cache.indices = w.cache.indices ∧ w'.cache.pool = w.cache.pool ∧
    w'.cacheKeys = w.cacheKeys :=
  ⟨h.alen, fun a => let r := h.arch a; ⟨r.id, r.mask, r.comps, r.isRel, r.zst, r.numRel⟩,
    h.cacheIdx, h.cachePool, h.cacheKeys⟩

/-- relation targets and liveness as an observer reads them -/
theorem shrinkRel_getRelation {w w' : World} (h : ShrinkRel w w') (t : Nat) (c : Comp) :
    (w'.tbl t).getRelation c = (w.tbl t).getRelation c := (h.tbl t).getRelation c

theorem shrinkRel_alive {w w' : World} (h : ShrinkRel w w') (e : Ent) :
    w'.alive e = w.alive e := h.alive e

/-! ### 2. keeps the structure -/

/-- **Shrink keeps the structural invariant, the relation-index invariant and the cache
    invariant**: a freed table leaves the per-target lookups (`FreeTable` +
    `removeTableRelations`, repaired defect D1) and the cached filters (`cache.removeTable`). -/
theorem shrink_keeps_structure {w : World} (bounded : Bool) (hl : w.isLocked = false)
    (h : SInv w) (hr : RInv w) :
    ∃ (b : Bool) (w' : World), opShrink bounded w = .ok b w' ∧ SInv w' ∧ RInv w' ∧
      (CacheInv w → CacheInv w') :=
  World.shrink_keeps_structure bounded hl h hr

/-- one loop step keeps all three -/
theorem shrinkStep_struct : type_of% @World.shrinkStep_struct := @World.shrinkStep_struct

/-! ### 3. capacities after the unbounded call -/

/-- **After `Shrink` with a budget that does not run out** the flag is `false`, no table has
    work: `len ≤ cap ≤ max (capPow2 len) minCap`; the capacity is the old one if that was within
    the bound and exactly the bound otherwise; no active relation table is empty. -/
theorem shrink_caps {w : World} (hl : w.isLocked = false) (h : IdxInv w) (hb : RowsBounded w) :
    ∃ (w' : World), opShrink false w = .ok false w' ∧ work w' = 0 ∧
      ∀ (t : Nat),
        (w'.tbl t).len ≤ (w'.tbl t).cap ∧
        (w'.tbl t).cap ≤ max (capPow2 (w'.tbl t).len) (w'.minCap (w'.tbl t)) ∧
        (w'.tbl t).cap =
          (if (w.tbl t).cap ≤ max (capPow2 (w.tbl t).len) (w.minCap (w.tbl t)) then (w.tbl t).cap
           else max (capPow2 (w.tbl t).len) (w.minCap (w.tbl t))) ∧
        freeable (w'.tbl t) = false ∧ w'.hasWork t = false :=
  World.shrink_caps hl h hb

/-- the unbounded call returns `false` and leaves no work — no invariant needed -/
theorem shrink_unbounded_no_work (w : World) (hl : w.isLocked = false) :
    ∃ (w' : World), opShrink false w = .ok false w' ∧ work w' = 0 := by
  obtain ⟨h1, h2⟩ := World.shrinkPure_unbounded w
  exact ⟨_, by rw [World.opShrink_eq false w hl, h1], h2⟩

/-- "no work" spelled out -/
theorem hasWork_false_iff (w : World) (t : Nat) :
    w.hasWork t = false ↔
      (w.tbl t).cap ≤ max (capPow2 (w.tbl t).len) (w.minCap (w.tbl t)) ∧
        freeable (w.tbl t) = false :=
  World.hasWork_false_iff w t

/-! ### 4. exact flag, progress, convergence -/

/-- **The returned flag of a bounded call is exact**: `true` iff some table still has work. -/
theorem shrink_result_exact {w : World} (hl : w.isLocked = false) :
    ∃ (b : Bool) (w' : World), opShrink true w = .ok b w' ∧
      (b = true ↔ ∃ (t : Nat), t < w'.tables.length ∧ w'.tableHasWork (w'.tbl t) = true) ∧
      (b = true ↔ 0 < work w') :=
  World.shrink_result_exact hl

/-- the bounded call does nothing, or performs exactly one step, on the first table with work;
    the flag is "some later table has work" (those tables are untouched) -/
theorem shrink_bounded_one_step (w : World) :
    (work w = 0 ∧ shrinkPure w true = (w, false)) ∨
    ∃ (t : Nat), t < w.tables.length ∧ (∀ (p : Nat), p < t → w.hasWork p = false) ∧
      w.hasWork t = true ∧ (shrinkPure w true).1 = (shrinkStep w t).1 ∧
      (shrinkPure w true).2 = (List.range (w.tables.length - (t + 1))).any
        fun k => w.hasWork (t + 1 + k) :=
  World.shrinkPure_bounded w

/-- **Progress**: a bounded call on a world with work strictly decreases `work` (by one); on a
    world without work neither kind of call changes anything and both return `false`. -/
theorem shrink_progress {w : World} (hl : w.isLocked = false) :
    (0 < work w → ∃ (b : Bool) (w' : World), opShrink true w = .ok b w' ∧ work w' + 1 = work w) ∧
    (work w = 0 → ∀ (bounded : Bool), opShrink bounded w = .ok false w) :=
  World.shrink_progress hl

/-- **Convergence**: iterating the bounded call (fuel `work w + 1`; `max (work w) 1` calls are
    made) ends with the flag `false` in a world without work, a fixed point of both kinds of
    call, that the start world is related to as in part 1. -/
theorem shrink_converges {w : World} (hl : w.isLocked = false) (h : IdxInv w) (hb : RowsBounded w) :
    (shrinkIter (work w + 1) w).2 = false ∧ work (shrinkIter (work w + 1) w).1 = 0 ∧
    (∀ (bounded : Bool), opShrink bounded (shrinkIter (work w + 1) w).1 =
      .ok false (shrinkIter (work w + 1) w).1) ∧
    IdxInv (shrinkIter (work w + 1) w).1 ∧ ShrinkRel w (shrinkIter (work w + 1) w).1 :=
  World.shrink_converges hl h hb

/-- the fuel bound alone (no invariant needed) -/
theorem shrink_converges_fuel {w : World} (hl : w.isLocked = false) (k : Nat) (hk : work w ≤ k)
    (hpos : 0 < k) : (shrinkIter k w).2 = false ∧ work (shrinkIter k w).1 = 0 := by
  obtain ⟨h1, h2, _, _⟩ := shrinkIter_spec (fun _ => True) (fun _ _ _ => trivial) k w hl hk hpos trivial
  exact ⟨h1, h2⟩

/-- the structural invariants at the end of the iteration -/
theorem shrink_converges_structure {w : World} (hl : w.isLocked = false) (h : SInv w) (hr : RInv w)
    (hc : CacheInv w) :
    SInv (shrinkIter (work w + 1) w).1 ∧ RInv (shrinkIter (work w + 1) w).1 ∧
      CacheInv (shrinkIter (work w + 1) w).1 :=
  (shrinkIter_spec (fun w' => SInv w' ∧ RInv w' ∧ CacheInv w')
    (fun _ t ⟨a, b, c⟩ => shrinkStep_struct a b c t)
    (work w + 1) w hl (Nat.le_succ _) (Nat.succ_pos _) ⟨h, hr, hc⟩).2.2.1

/-! ### 5. a concrete run

    `NewWorld(1, 1)`, a plain component 0 and a relation component 1; table 0 (no components)
    grew to capacity 8 and holds 3 entities; relation table 1 (target `p1`, alive) grew to
    capacity 8 and is empty; relation table 2 (target `p2`) has capacity 4 and one entity (ID 15)
    with value 42. -/

open World.ShrinkDemo in
/-- the start: three tables with work, unlocked; entity 15 has components `[0, 1]`, value 42 -/
example :
    summary w0 = [(3, 8, false, 0), (0, 8, false, 1), (1, 4, false, 1)] ∧
    work w0 = 3 ∧ w0.isLocked = false ∧ w0.initCap = 1 ∧ w0.initCapRel = 1 ∧
    w0.alive ⟨2, 0⟩ = true ∧ ((w0.tbl 1).targets.map (·.id)) = [0, 2] ∧
    (w0.arch 1).tables.tables = [1, 2] ∧ (w0.arch 1).freeTables = [] ∧
    C01World.valOf w0 15 0 = some 42 ∧ C01World.compsOf w0 15 = some [0, 1] := by
  decide +kernel

open World.ShrinkDemo in
/-- three bounded calls: `true` (table 0: 8 → 4), `true` (table 1: 8 → 1 and freed — its target
    is alive), `false` (table 2: 4 → 1); a fourth call changes nothing -/
example :
    (callBounded w0).2 = some true ∧
      summary w1 = [(3, 4, false, 0), (0, 8, false, 1), (1, 4, false, 1)] ∧ work w1 = 2 ∧
    (callBounded w1).2 = some true ∧
      summary w2 = [(3, 4, false, 0), (0, 1, true, 1), (1, 4, false, 1)] ∧ work w2 = 1 ∧
    (callBounded w2).2 = some false ∧
      summary w3 = [(3, 4, false, 0), (0, 1, true, 1), (1, 1, false, 1)] ∧ work w3 = 0 ∧
    (callBounded w3).2 = some false ∧ (callBounded w3).1.tables = w3.tables ∧
    (callUnbounded w3).2 = some false ∧ (callUnbounded w3).1.tables = w3.tables := by
  decide +kernel

open World.ShrinkDemo in
/-- the freed table left the archetype's table list, the per-target lookups and entered the free
    list; entities, values and the alive target are as before -/
example :
    (w3.arch 1).tables.tables = [2] ∧ (w3.arch 1).freeTables = [1] ∧
    (w3.arch 1).getTables [⟨1, ⟨2, 0⟩⟩] = some [] ∧ (w0.arch 1).getTables [⟨1, ⟨2, 0⟩⟩] = some [1] ∧
    (w3.arch 1).getTables [⟨1, ⟨3, 0⟩⟩] = some [2] ∧
    w3.entities = w0.entities ∧ w3.pool = w0.pool ∧ w3.alive ⟨2, 0⟩ = true ∧
    C01World.valOf w3 15 0 = some 42 ∧ C01World.compsOf w3 15 = some [0, 1] ∧
    (List.range 20).all (fun i => decide (C01World.valOf w3 i 0 = C01World.valOf w0 i 0) &&
      decide (C01World.compsOf w3 i = C01World.compsOf w0 i)) = true := by
  decide +kernel

open World.ShrinkDemo in
/-- the unbounded call: flag `false`, the same tables and archetypes as after the iteration;
    `shrinkIter` with fuel `work w0 + 1 = 4` reaches the same world with the flag `false` -/
example :
    (callUnbounded w0).2 = some false ∧ wU.tables = w3.tables ∧ wU.archetypes = w3.archetypes ∧
    work wU = 0 ∧
    (shrinkIter 4 w0).2 = false ∧ (shrinkIter 4 w0).1.tables = w3.tables ∧
    (shrinkIter 3 w0).2 = false ∧ (shrinkIter 2 w0).2 = true := by
  decide +kernel

end Ark.Props.C15World
