/-
  C17 — Entity state serialization round-trips.

  (a) Codec.  `Entity.MarshalBinary` / `AppendBinary` / `UnmarshalBinary` (big endian, 8 bytes)
      and `MarshalJSON` / `UnmarshalJSON` (`[id, gen]`): decoding an encoding returns the handle,
      encoding is injective, and binary input is rejected exactly when its length is not 8.
      IDs and generations are 32-bit words (`BitVec 32`), bytes are `BitVec 8`.

  (b) Dump/load.  `Unsafe.DumpEntities` records `(entities, alive, next, available)` of the
      pool; `Unsafe.LoadEntities` into an unlocked, empty world succeeds and installs exactly
      that pool core.  Since `Get`, `Recycle` and `Alive` (on IDs inside the live slice) are
      functions of the core, the loaded world agrees with the source on the liveness of every
      handle whose ID the source has issued in its current epoch (`id < len(entities)`), and
      every sequence of subsequent creations returns the same handles.

  Scope note for (b): for an ID at or beyond `len(entities)` the source's unchecked `Alive`
  reads the memory kept behind the slice by `Reset` (`stale` in the model), which a dump does
  not record; the loaded world answers `false` there (`load_alive_beyond`).  Such IDs have not
  been issued since the last `Reset`.
-/
import Ark.Proofs.Codec
import Ark.Proofs.DumpLoad
import Ark.Props.C17Hist

namespace Ark.Props.C17
open Ark Ark.Codec Ark.World

/-! ### (a) codec -/

/-- `BigEndian.Uint32` of the four bytes written by `BigEndian.PutUint32` is the word. -/
theorem getU32_putU32 (v : U32) (a b c d : Byte) (h : putU32 v = [a, b, c, d]) :
    getU32 a b c d = v :=
  Codec.getU32_of_putU32 v a b c d h

/-- `UnmarshalBinary(MarshalBinary(e)) = e`. -/
theorem unmarshal_marshal (id gen : U32) :
    unmarshalBinary (marshalBinary id gen) = some (id, gen) :=
  Codec.unmarshal_marshal id gen

/-- `AppendBinary(buf)` is `buf` followed by the 8-byte encoding … -/
theorem appendBinary_eq (buf : List Byte) (id gen : U32) :
    appendBinary buf id gen = buf ++ marshalBinary id gen :=
  Codec.appendBinary_eq buf id gen

/-- … so decoding the appended bytes returns the handle. -/
theorem unmarshal_append (buf : List Byte) (id gen : U32) :
    unmarshalBinary ((appendBinary buf id gen).drop buf.length) = some (id, gen) :=
  Codec.unmarshal_append buf id gen

/-- Malformed input is rejected exactly when the length is not 8. -/
theorem unmarshal_none_iff (data : List Byte) :
    unmarshalBinary data = none ↔ data.length ≠ 8 :=
  Codec.unmarshal_none_iff data

/-- Distinct handles have distinct encodings. -/
theorem marshal_injective (a b c d : U32) (h : marshalBinary a b = marshalBinary c d) :
    a = c ∧ b = d :=
  Codec.marshal_injective h

/-- `UnmarshalJSON(MarshalJSON(e)) = e`. -/
theorem unmarshalJSON_marshalJSON (id gen : U32) :
    unmarshalJSON (marshalJSON id gen) = some (id, gen) :=
  Codec.unmarshalJSON_marshalJSON id gen

/-! non-vacuity -/

example : unmarshalBinary (marshalBinary 0xFFFFFFFF#32 0#32) = some (0xFFFFFFFF#32, 0#32) := by
  decide
example : marshalBinary 0xFFFFFFFF#32 0#32 = [0xFF, 0xFF, 0xFF, 0xFF, 0, 0, 0, 0] := by decide
example : unmarshalJSON (marshalJSON 0xFFFFFFFF#32 0#32) = some (0xFFFFFFFF#32, 0#32) := by
  decide
example : unmarshalBinary [] = none := by decide
example : unmarshalBinary [1, 2, 3, 4, 5, 6, 7] = none := by decide
example : unmarshalBinary [1, 2, 3, 4, 5, 6, 7, 8, 9] = none := by decide
example : unmarshalBinary [0, 0, 1, 2, 0, 0, 0, 3] = some (0x102#32, 3#32) := by decide

/-! ### (b) dump / load -/

/-- `Get` and `Recycle` are determined by (and act on) the pool core. -/
theorem get_core (p q : Pool) (h : p.Core = q.Core) :
    p.get.2 = q.get.2 ∧ p.get.1.Core = q.get.1.Core :=
  Pool.get_core h

theorem recycle_core (p q : Pool) (h : p.Core = q.Core) (e : Ent) :
    (p.recycle e).Core = (q.recycle e).Core :=
  Pool.recycle_core h e

/-- Pools with the same core hand out the same handles, for any number of creations. -/
theorem gets_agree (p q : Pool) (h : p.Core = q.Core) (n : Nat) : p.getN n = q.getN n :=
  Pool.gets_agree h n

/-- Pools with the same core agree on `Alive` for every ID inside the live slice. -/
theorem alive_core (p q : Pool) (h : p.Core = q.Core) (e : Ent) (hid : e.id < p.ents.length) :
    p.alive e = q.alive e :=
  Pool.alive_core h e hid

/-- `LoadEntities` of the dump of pool `p` into an unlocked empty world succeeds and installs
    the core of `p`. -/
theorem load_core (p : Pool) (d : Dump) (w : World)
    (hde : d.entities = p.ents) (hdn : d.next = p.next) (hda : d.available = p.available)
    (hc : d.entities.length > 0)
    (hl : w.isLocked = false) (he : w.pool.ents.length ≤ 2 ∧ w.pool.available = 0) :
    ∃ w', opLoad d w = .ok () w' ∧ w'.pool.Core = p.Core :=
  ⟨_, opLoad_eq d w hl he, (loadW_agrees p d w hde hdn hda hc).1⟩

/-- After the load, `Alive` agrees with the source on every handle whose ID lies in the
    source's live slice. -/
theorem load_alive_agree (p : Pool) (d : Dump) (w : World)
    (hde : d.entities = p.ents) (hdn : d.next = p.next) (hda : d.available = p.available)
    (hc : d.entities.length > 0)
    (hl : w.isLocked = false) (he : w.pool.ents.length ≤ 2 ∧ w.pool.available = 0) :
    ∃ w', opLoad d w = .ok () w' ∧ ∀ e : Ent, e.id < p.ents.length → w'.alive e = p.alive e :=
  ⟨_, opLoad_eq d w hl he, (loadW_agrees p d w hde hdn hda hc).2.1⟩

/-- Beyond the source's live slice the loaded world answers `false`. -/
theorem load_alive_beyond (p : Pool) (d : Dump) (w : World)
    (hde : d.entities = p.ents) (hdn : d.next = p.next) (hda : d.available = p.available)
    (hc : d.entities.length > 0)
    (hl : w.isLocked = false) (he : w.pool.ents.length ≤ 2 ∧ w.pool.available = 0) :
    ∃ w', opLoad d w = .ok () w' ∧ ∀ e : Ent, p.ents.length ≤ e.id → w'.alive e = false :=
  ⟨_, opLoad_eq d w hl he, (loadW_agrees p d w hde hdn hda hc).2.2.1⟩

/-- After the load, any number of consecutive creations return the same handles as in the
    source. -/
theorem load_gets_agree (p : Pool) (d : Dump) (w : World)
    (hde : d.entities = p.ents) (hdn : d.next = p.next) (hda : d.available = p.available)
    (hc : d.entities.length > 0)
    (hl : w.isLocked = false) (he : w.pool.ents.length ≤ 2 ∧ w.pool.available = 0) :
    ∃ w', opLoad d w = .ok () w' ∧ ∀ n, w'.pool.getN n = p.getN n :=
  ⟨_, opLoad_eq d w hl he, (loadW_agrees p d w hde hdn hda hc).2.2.2⟩

/-- `LoadEntities` refuses a locked or a non-empty world. -/
theorem load_locked (d : Dump) (w : World) (hl : w.isLocked = true) :
    opLoad d w = .panic .locked w :=
  World.opLoad_locked' w hl d

theorem load_notEmpty (d : Dump) (w : World) (hl : w.isLocked = false)
    (hne : w.pool.ents.length > 2 ∨ w.pool.available > 0) :
    opLoad d w = .panic .notEmptyWorld w :=
  World.opLoad_notEmpty d w hl hne

/-! non-vacuity: a fresh world satisfies the hypotheses on the target; a pool with a recycled
    slot is a source whose next creations are the recycled handle, then a new one. -/

example : (World.init 8 8).isLocked = false ∧
    (World.init 8 8).pool.ents.length ≤ 2 ∧ (World.init 8 8).pool.available = 0 := by decide

/-- source: create 2, 3; remove 2 -/
private def src : Pool := (Pool.init.get.1.get.1).recycle ⟨2, 0⟩

example : src.Core = ([⟨0, maxU32⟩, ⟨1, maxU32⟩, ⟨0, 1⟩, ⟨3, 0⟩], 2, 1) := by decide
example : src.getN 2 = [⟨2, 1⟩, ⟨4, 0⟩] := by decide
example : src.alive ⟨2, 0⟩ = false ∧ src.alive ⟨3, 0⟩ = true := by decide


/-! ### Over histories shorter than 2^32 − 2 (Props/C17Hist) -/

/-- `DumpEntities` at a state satisfying the invariant succeeds, changes only the lock's bit pool, and its `alive` list is duplicate-free and lists exactly the live IDs -/
theorem hist_dump_spec : type_of% @Ark.Props.C17Hist.dump_spec := @Ark.Props.C17Hist.dump_spec

/-- **C17, first sentence** over histories: dump after any history, load into the reset world or into a new world with the same registrations (any capacities): every handle issued in the history has the same `Alive` answer as at dump time -/
theorem hist_dump_load_alive_and_handles : type_of% @Ark.Props.C17Hist.dump_load_alive_and_handles := @Ark.Props.C17Hist.dump_load_alive_and_handles

/-- … and any sequence of entity creations afterwards returns the same handles in the source, the reset world and the new world -/
theorem hist_dump_load_creations : type_of% @Ark.Props.C17Hist.dump_load_creations := @Ark.Props.C17Hist.dump_load_creations

/-- the handle of any successful creation, with or without components, is the next handle of the pool -/
theorem hist_creation_handle : type_of% @Ark.Props.C17Hist.creation_handle := @Ark.Props.C17Hist.creation_handle

/-- the loaded world: registry, archetypes and the other tables are the target's; pool core, free list and issued handles are the source's; every alive handle sits in a row of table 0 with its generation and is indexed to it; all other tables are empty -/
theorem hist_loaded_world : type_of% @Ark.Props.C17Hist.loaded_world := @Ark.Props.C17Hist.loaded_world

/-- with the dead index entries normalised the loaded world satisfies the full history invariant with the source's entities (without components) -/
theorem hist_loaded_world_normalised : type_of% @Ark.Props.C17Hist.loaded_world_normalised := @Ark.Props.C17Hist.loaded_world_normalised

/-- finding: `LoadEntities` leaves the index entries of reserved and free IDs at `(table 0, row 0)` instead of `(no table, _)`; unobservable (every access is behind the `Alive` check) but the loaded world does not satisfy `CInv` literally -/
theorem hist_loaded_index_deviates : type_of% @Ark.Props.C17Hist.loaded_index_deviates := @Ark.Props.C17Hist.loaded_index_deviates

end Ark.Props.C17
