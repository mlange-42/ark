/-
  C20 (word level) — the Go mask code, regenerated statement by statement into
  `Ark/Generated/Words.lean`, computes exactly the mask operations of the model.

  `bitMask256` (`[4]uint64`) is read as one 256-bit vector by `abs` (word 0 = bits 0…63) and
  `bitMask64` (`uint64`) by `abs64`; both are injective.  Every method of the two mask types —
  `Get Set Clear Not OrI Reset IsZero Contains ContainsAny Equals TotalBitsSet` and the
  constructors `newMask256` / `newMask64` — is the corresponding operation of `Ark.Mask` /
  `Ark.Mask64`; the dynamic array indices of `bitMask256` are in range for every `uint8`
  argument (no run-time panic).  A change of the Go mask code that alters its meaning changes the
  regenerated file and breaks one of these theorems.

  One hypothesis: `bitMask64.Get(bit)` with `bit ≥ 64` computes the mask `1 << bit = 0` and
  answers `true` (`mask64_get_out_of_range`), where the model's `Mask64.get` answers `false`;
  `mask64_get` therefore assumes `bit < 64`.  The tiny build never has a component ID ≥ 64 (its
  registry is full at 64 types).  `Set` / `Clear` with `bit ≥ 64` are no-ops in the Go code and
  in the model alike, and need no hypothesis.
-/
import Ark.Proofs.MaskWords

namespace Ark.Props.C20Words
open Ark Ark.Generated Ark.MaskWords

/-! ## `bitMask256` -/

theorem mask256_abs_injective : type_of% @Ark.MaskWords.abs_injective := @Ark.MaskWords.abs_injective
theorem mask256_get_inRange : type_of% @Ark.MaskWords.get_inRange := @Ark.MaskWords.get_inRange
theorem mask256_set_inRange : type_of% @Ark.MaskWords.set_inRange := @Ark.MaskWords.set_inRange
theorem mask256_clear_inRange : type_of% @Ark.MaskWords.clear_inRange := @Ark.MaskWords.clear_inRange
theorem mask256_get : type_of% @Ark.MaskWords.get_eq := @Ark.MaskWords.get_eq
theorem mask256_set : type_of% @Ark.MaskWords.set_eq := @Ark.MaskWords.set_eq
theorem mask256_clear : type_of% @Ark.MaskWords.clear_eq := @Ark.MaskWords.clear_eq
theorem mask256_not : type_of% @Ark.MaskWords.not_eq := @Ark.MaskWords.not_eq
theorem mask256_orI : type_of% @Ark.MaskWords.orI_eq := @Ark.MaskWords.orI_eq
theorem mask256_reset : type_of% @Ark.MaskWords.reset_eq := @Ark.MaskWords.reset_eq
theorem mask256_isZero : type_of% @Ark.MaskWords.isZero_eq := @Ark.MaskWords.isZero_eq
theorem mask256_contains : type_of% @Ark.MaskWords.contains_eq := @Ark.MaskWords.contains_eq
theorem mask256_containsAny : type_of% @Ark.MaskWords.containsAny_eq := @Ark.MaskWords.containsAny_eq
theorem mask256_equals : type_of% @Ark.MaskWords.equals_eq := @Ark.MaskWords.equals_eq
theorem mask256_totalBitsSet : type_of% @Ark.MaskWords.totalBitsSet_eq := @Ark.MaskWords.totalBitsSet_eq
theorem mask256_ofIDs : type_of% @Ark.MaskWords.ofIDs_eq := @Ark.MaskWords.ofIDs_eq

/-! ## `bitMask64` -/

theorem mask64_abs_injective : type_of% @Ark.MaskWords.abs64_injective := @Ark.MaskWords.abs64_injective
theorem mask64_get : type_of% @Ark.MaskWords.get64_eq := @Ark.MaskWords.get64_eq
theorem mask64_get_out_of_range : type_of% @Ark.MaskWords.get64_out_of_range := @Ark.MaskWords.get64_out_of_range
theorem mask64_set : type_of% @Ark.MaskWords.set64_eq := @Ark.MaskWords.set64_eq
theorem mask64_clear : type_of% @Ark.MaskWords.clear64_eq := @Ark.MaskWords.clear64_eq
theorem mask64_not : type_of% @Ark.MaskWords.not64_eq := @Ark.MaskWords.not64_eq
theorem mask64_orI : type_of% @Ark.MaskWords.orI64_eq := @Ark.MaskWords.orI64_eq
theorem mask64_reset : type_of% @Ark.MaskWords.reset64_eq := @Ark.MaskWords.reset64_eq
theorem mask64_isZero : type_of% @Ark.MaskWords.isZero64_eq := @Ark.MaskWords.isZero64_eq
theorem mask64_contains : type_of% @Ark.MaskWords.contains64_eq := @Ark.MaskWords.contains64_eq
theorem mask64_containsAny : type_of% @Ark.MaskWords.containsAny64_eq := @Ark.MaskWords.containsAny64_eq
theorem mask64_equals : type_of% @Ark.MaskWords.equals64_eq := @Ark.MaskWords.equals64_eq
theorem mask64_totalBitsSet : type_of% @Ark.MaskWords.totalBitsSet64_eq := @Ark.MaskWords.totalBitsSet64_eq
theorem mask64_ofIDs : type_of% @Ark.MaskWords.ofIDs64_eq := @Ark.MaskWords.ofIDs64_eq

/-! ## Non-vacuity: the generated code evaluated on masks with bits in every word -/

/-- IDs 0, 63, 64, 127, 128, 191, 192, 255: the first and last bit of each word. -/
private def m8 : M256 := M256.ofIDs [0#8, 63#8, 64#8, 127#8, 128#8, 191#8, 192#8, 255#8]
private def mLow : M256 := M256.ofIDs [63#8, 192#8]
private def mOther : M256 := M256.ofIDs [1#8, 65#8, 129#8, 193#8]

example : m8.bits = ⟨0x8000000000000001#64, 0x8000000000000001#64, 0x8000000000000001#64,
    0x8000000000000001#64⟩ := by decide +kernel
example : ([0#8, 63#8, 64#8, 127#8, 128#8, 191#8, 192#8, 255#8].map m8.Get) =
    [true, true, true, true, true, true, true, true] := by decide +kernel
example : ([1#8, 62#8, 65#8, 126#8, 129#8, 190#8, 193#8, 254#8].map m8.Get) =
    [false, false, false, false, false, false, false, false] := by decide +kernel
example : m8.Contains mLow = true ∧ mLow.Contains m8 = false := by decide +kernel
example : m8.ContainsAny mLow = true ∧ m8.ContainsAny mOther = false := by decide +kernel
example : m8.TotalBitsSet = 8 := by decide +kernel
example : m8.Not.TotalBitsSet = 248 := by decide +kernel
example : m8.Not.Get 255#8 = false ∧ m8.Not.Get 254#8 = true ∧ m8.Not.Get 1#8 = true := by decide +kernel
example : m8.Not.ContainsAny m8 = false ∧ (m8.OrI m8.Not).Not.IsZero = true := by decide +kernel
example : (m8.Clear 191#8).Get 191#8 = false ∧ (m8.Clear 191#8).Get 128#8 = true ∧
    (m8.Clear 191#8).TotalBitsSet = 7 := by decide +kernel
example : (m8.Clear 191#8).Equals m8 = false ∧ ((m8.Clear 191#8).Set 191#8).Equals m8 = true := by
  decide +kernel
example : (mLow.OrI mOther).TotalBitsSet = 6 ∧ m8.Reset.IsZero = true ∧ m8.IsZero = false := by
  decide +kernel

private def t4 : M64 := M64.ofIDs [0#8, 31#8, 32#8, 63#8]

example : t4.bits = 0x8000000180000001#64 := by decide +kernel
example : ([0#8, 31#8, 32#8, 63#8, 1#8, 62#8].map t4.Get) =
    [true, true, true, true, false, false] := by decide +kernel
example : t4.TotalBitsSet = 4 ∧ t4.Not.TotalBitsSet = 60 := by decide +kernel
example : t4.Contains (M64.ofIDs [31#8, 63#8]) = true ∧ t4.ContainsAny (M64.ofIDs [1#8]) = false ∧
    t4.ContainsAny (M64.ofIDs [1#8, 32#8]) = true := by decide +kernel
example : (t4.Clear 63#8).Get 63#8 = false ∧ (t4.Clear 63#8).TotalBitsSet = 3 := by decide +kernel
/-- beyond the width: `Set`/`Clear` do nothing, `Get` answers `true` (the caveat above). -/
example : (t4.Set 64#8).Equals t4 = true ∧ (t4.Clear 200#8).Equals t4 = true ∧
    t4.Get 64#8 = true ∧ (M64.ofIDs []).Get 255#8 = true := by decide +kernel

end Ark.Props.C20Words
