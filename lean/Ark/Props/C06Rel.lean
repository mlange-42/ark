/-
  Ark.Props.C06Rel — C06 + C04 in worlds WITH relations: a batch removal whose selection contains
  relation targets (also targets of each other, also several targets of one table) leaves the
  world that `RemoveEntity` applied to each selected entity leaves, in any order.

  Setting: the joint invariant `TInv w fl` (relations, relation targets, per-target tables),
  `RowsAlive w` (both are part of `QGood` of `Ark.Props.C03Rel`), unlocked world, no observers,
  uncached filter whose relation constraints — fixed by `.Relations(…)` and per call — are typed
  (`RelsTyped`).  `ReachB run w`: `w` is reached from `NewWorld` by the single operations with
  relation targets, queries, and the two batches.
-/
import Ark.Proofs.BatchRelReach
import Ark.Props.C03Rel

namespace Ark.Props.C06Rel
open Ark Ark.World Ark.Props.C01World Ark.QueryRel

/-! ## 1. the batch removal -/

/-- without observers and callback, `RemoveEntities(batch, nil)` is the un-indexing loop over the
    selected tables followed by `cleanupArchetypes e` + reset of the target flag for every
    selected entity that carried the flag -/
theorem removeEntities_is_unindex_then_cleanups : type_of% @opRemoveEntities_eq_rel :=
  @opRemoveEntities_eq_rel

/-- **the batch never fails and removes exactly the rows of the selected tables**: `TInv` for the
    free list extended by the removed IDs; every selected entity is dead and un-indexed; every
    other entity keeps liveness, components and values; its targets are unchanged except that a
    removed target reads as the zero entity (for ANY duplicate-free list of existing tables the
    selection returns) -/
theorem removeEntities_rel_spec : type_of% @opRemoveEntities_rel_spec := @opRemoveEntities_rel_spec

/-- the selection of an uncached batch with typed relation constraints succeeds, changes nothing,
    and returns a duplicate-free list of existing matching tables containing every non-empty
    matching table -/
theorem batch_selection_rel : type_of% @getBatchTables_rel := @getBatchTables_rel

/-- **the selected entities are exactly the alive entities that match the filter and its
    relation targets** -/
theorem selected_iff_alive_matching : type_of% @mem_rows_iff_matches := @mem_rows_iff_matches

/-- the singles: `RemoveEntity` applied, in any order, to alive handles with distinct IDs -/
theorem removeSeq_rel_spec : type_of% @removeSeq_rel_post := @removeSeq_rel_post

/-- two worlds obtained by removing the same set of entities are observationally equal:
    `Alive`, components, values and relation targets of every ID -/
theorem removed_obs_eq : type_of% @RemovedAllRelPost.obs_eq := @RemovedAllRelPost.obs_eq

/-- **C06 with relation targets among the removed**: batch and singles in the batch's order both
    succeed, both satisfy `RemovedAllRelPost`, and even their entity pools are equal -/
theorem removeEntities_rel_eq_singles : type_of% @opRemoveEntities_rel_eq_singles :=
  @opRemoveEntities_rel_eq_singles

/-- **order independence**: the singles in ANY order give the same `Alive`, components, values
    and relation targets as the batch -/
theorem removeEntities_rel_any_order : type_of% @opRemoveEntities_rel_any_order :=
  @opRemoveEntities_rel_any_order

/-! ## 2. the cleanup with several pending dead targets (C04) -/

/-- one iteration of the inner loop of `cleanupArchetypes g` while the dead targets `D ∋ g` are
    pending: never panics; the rows move to the table with EVERY dead target replaced by the zero
    entity (`zeroDead`), the table is freed, the invariants "up to the pending targets" are kept -/
theorem cleanTable_step_pending : type_of% @cleanTable_stepD := @cleanTable_stepD

/-- `cleanupArchetypes g` while `D ∋ g` is pending: never panics, restores the full relation
    index, afterwards no non-free table targets `g` -/
theorem cleanupArchetypes_pending : type_of% @cleanupArchetypes_specD := @cleanupArchetypes_specD

/-- the world after the un-indexing loop satisfies the cleanup invariants for the pending dead
    targets `cleanupList w ts` -/
theorem unindexed_satisfies_cleanup_invariants : type_of% @unindexed_base := @unindexed_base

/-- the cleanup loop over all pending targets never panics and leaves nothing pending -/
theorem cleanup_loop_spec : type_of% @cleanupAll_spec := @cleanupAll_spec

/-! ## 3. `setRelationsBatch` -/

/-- without observers and callback, `setRelationsBatch` is — in the order in which it runs since
    the repair of defect D27 — the table selection, the loop of `prepareRelationsMove`, `Lock`,
    `moveEntities` for every collected move, `registerTargets`, `Unlock` -/
theorem setRelationsBatch_normal_form_planFirst : type_of% @setRelationsBatch_eq_planFirst :=
  @setRelationsBatch_eq_planFirst

/-- a panic of the lookup loop is the batch's panic, with the same state: the lock has not been
    taken (see Ark/Props/C07Batch.lean for what that state is) -/
theorem setRelationsBatch_lookup_panic : type_of% @setRelationsBatch_prepLoop_panic :=
  @setRelationsBatch_prepLoop_panic

/-- … and hence also `Lock`, the table selection, the loop of `prepareRelationsMove`,
    `moveEntities` for every collected move, `registerTargets`, `Unlock` (the order before the
    repair) whenever the lookup loop succeeds: selection and lookup loop neither read nor write
    the lock -/
theorem setRelationsBatch_normal_form : type_of% @setRelationsBatch_eq := @setRelationsBatch_eq

/-- **a table whose targets the assignment does not change is skipped** (`prepareRelationsMove`
    returns `none`, the world is untouched) … -/
theorem unchanged_table_skipped : type_of% @prepareRelationsMove_skipped :=
  @prepareRelationsMove_skipped

/-- … and only such a table -/
theorem changed_table_moves : type_of% @prepareRelationsMove_moves := @prepareRelationsMove_moves

/-- the lookup loop never fails for a valid call; every collected move goes from a selected table
    whose targets change to another non-free table of the same layout holding the edited targets -/
theorem lookup_loop_spec : type_of% @prepLoop_spec := @prepLoop_spec

/-- the move loop: the entities of a source read the targets of its destination, everybody else
    keeps targets, all keep components and values -/
theorem move_loop_spec : type_of% @moveLoop_spec := @moveLoop_spec

/-- **the batch never fails for a valid call** and assigns exactly the targets named to exactly
    the selected entities; `TInv` is kept -/
theorem setRelationsBatch_spec : type_of% @setRelationsBatch_rel_spec := @setRelationsBatch_rel_spec

/-- the singles: `setRelations` applied, in any order, to alive handles with distinct IDs that
    have the relation components named -/
theorem setRelSeq_spec : type_of% @setRelSeq_post := @setRelSeq_post

/-- **C06, `setRelationsBatch` = the fold of `setRelations`** over the selected entities in ANY
    order: same `Alive`, components, values and relation targets for every ID -/
theorem setRelationsBatch_eq_fold : type_of% @setRelationsBatch_eq_singles :=
  @setRelationsBatch_eq_singles

/-! ## 4. along chains of `QGood` steps, over histories -/

/-- `RemoveEntities(batch, nil)` never panics on a `QGood` world and leaves a `QGood` world (so
    queries, single operations and further batches can follow) -/
theorem qgood_removeEntities : type_of% @QGood.removeEntities := @QGood.removeEntities

/-- so does a valid `setRelationsBatch` -/
theorem qgood_setRelationsBatch : type_of% @QGood.setRelationsBatch := @QGood.setRelationsBatch

/-- a history of single operations and queries is a history -/
theorem reachB_of_reach : type_of% @ReachB.ofReach := @ReachB.ofReach

/-- every world reached by a history with batches is `QGood` and has no registered filter -/
theorem reachB_is_qgood : type_of% @reachB_qgood := @reachB_qgood

/-- **C06 + C04 over histories**: after every history, batch removal = single removals in any
    order (never failing, also when relation targets are removed) -/
theorem removeEntities_after_every_history : type_of% @reachB_removeEntities :=
  @reachB_removeEntities

/-- … and batch assignment = single assignments in any order -/
theorem setRelationsBatch_after_every_history : type_of% @reachB_setRelationsBatch :=
  @reachB_setRelationsBatch

/-- C03 still holds after batches: a query visits exactly the alive matching entities -/
theorem query_after_every_history : type_of% @reachB_query := @reachB_query

/-! ## 5. a concrete world: two parents that are themselves children of a grandparent, removed
together by one batch

Components: 0 = `ChildOf` (relation), 1 = `Pos`, 2 = `Parent` (marker), 3 = `Friend` (relation).
Entities: grandparent `gp = 2.0`; parents `pa = 3.0`, `pb = 4.0` (children of `gp`, marked
`Parent`); children 5, 7 of `pa`, child 6 of `pb`; entity 8 is a child of `pa` AND a friend of
`pb` — one table with two removed targets (the situation of defect D2). -/

open Ark.Props.C04World (noRun summary TabSum)

def g2 : World :=
  let w := World.init 2 2
  let w := (registerComponent { isRel := true } w).state
  let w := (registerComponent {} w).state
  let w := (registerComponent {} w).state
  (registerComponent { isRel := true } w).state

def gp : Ent := ⟨2, 0⟩
def pa : Ent := ⟨3, 0⟩
def pb : Ent := ⟨4, 0⟩

def g3 : World := (opNewEntity noRun .typed [1] [(1, 1)] [] g2).state                   -- gp
def g4 : World := (opNewEntity noRun .typed [0, 1, 2] [(1, 2)] [⟨0, gp⟩] g3).state      -- pa
def g5 : World := (opNewEntity noRun .typed [0, 1, 2] [(1, 3)] [⟨0, gp⟩] g4).state      -- pb
def g6 : World := (opNewEntity noRun .typed [0, 1] [(1, 4)] [⟨0, pa⟩] g5).state         -- 5
def g7 : World := (opNewEntity noRun .typed [0, 1] [(1, 5)] [⟨0, pb⟩] g6).state         -- 6
def g8 : World := (opNewEntity noRun .typed [0, 1] [(1, 6)] [⟨0, pa⟩] g7).state         -- 7
def g9 : World := (opNewEntity noRun .typed [0, 1, 3] [(1, 7)] [⟨0, pa⟩, ⟨3, pb⟩] g8).state  -- 8

/-- `Filter1[Parent]` -/
def foParent : FilterObj := { filter := { mask := Mask.ofList [2] }, ids := [2] }
/-- `Filter1[ChildOf].Relations(RelIdx(0, gp))`: the children of the grandparent -/
def foChildOfGp : FilterObj := { filter := { mask := Mask.ofList [0] }, ids := [0], rels := [⟨0, gp⟩] }

/-- the batch: `RemoveEntities(Filter1[Parent].Batch(), nil)` -/
def g10 : World := (opRemoveEntities noRun foParent [] false g9).state
/-- the same set selected through the relation: `RemoveEntities(…Relations(ChildOf → gp)…)` -/
def g10r : World := (opRemoveEntities noRun foChildOfGp [] false g9).state
/-- the singles, in the batch's order and in the other order -/
def g10s : World := (removeSeq noRun [pa, pb] g9).state
def g10s' : World := (removeSeq noRun [pb, pa] g9).state

theorem reach_g2 : Reach noRun g2 :=
  ((((Reach.init 2 2).reg { isRel := true } (by decide +kernel)).reg {} (by decide +kernel)).reg {}
    (by decide +kernel)).reg { isRel := true } (by decide +kernel)

/-- every creation of the demo history satisfies the hypotheses of its step theorem, and `g9` is
    small enough for the batches (decided together: each world continues the one before) -/
theorem g_steps :
    Good.NewOK noRun .typed [1] [(1, 1)] [] g2 ∧
    Good.NewOK noRun .typed [0, 1, 2] [(1, 2)] [⟨0, gp⟩] g3 ∧
    Good.NewOK noRun .typed [0, 1, 2] [(1, 3)] [⟨0, gp⟩] g4 ∧
    Good.NewOK noRun .typed [0, 1] [(1, 4)] [⟨0, pa⟩] g5 ∧
    Good.NewOK noRun .typed [0, 1] [(1, 5)] [⟨0, pb⟩] g6 ∧
    Good.NewOK noRun .typed [0, 1] [(1, 6)] [⟨0, pa⟩] g7 ∧
    Good.NewOK noRun .typed [0, 1, 3] [(1, 7)] [⟨0, pa⟩, ⟨3, pb⟩] g8 ∧
    g9.tables.length + g9.entities.length * g9.relationArchetypes.length + 1 ≤ maxU32 ∧
    2 * g9.entities.length < 2 ^ 32 := by
  decide +kernel

theorem reach_g9 : Reach noRun g9 :=
  have ⟨h3, h4, h5, h6, h7, h8, h9, _⟩ := g_steps
  ((((((reach_g2.new_of h3).new_of h4).new_of h5).new_of h6).new_of h7).new_of h8).new_of h9

theorem g9_small :
    g9.tables.length + g9.entities.length * g9.relationArchetypes.length + 1 ≤ maxU32 ∧
    2 * g9.entities.length < 2 ^ 32 :=
  g_steps.2.2.2.2.2.2.2

/-- **non-vacuity**: the hypotheses of the theorems of §1 hold in `g9`, for the marker filter and
    for the filter with a relation constraint -/
example : ∃ (fl : List Nat), TInv g9 fl ∧ RowsAlive g9 ∧ g9.isLocked = false ∧
    (∀ (evt : Nat), g9.obs.hasObservers evt = false) ∧
    RelsTyped g9 foParent.filter (foParent.rels ++ []) ∧
    RelsTyped g9 foChildOfGp.filter (foChildOfGp.rels ++ []) ∧
    2 * g9.entities.length < 2 ^ 32 ∧
    g9.tables.length + g9.entities.length * g9.relationArchetypes.length + 1 ≤ maxU32 := by
  have q := (reach_qgood noRun reach_g9).1
  obtain ⟨fl, h, hl, hno⟩ := q.good
  exact ⟨fl, h, q.rows, hl, hno, RelsTyped.nil _ _, by unfold RelsTyped; decide +kernel,
    g9_small.2, g9_small.1⟩

/-- **non-vacuity of the multi-target cleanup invariants**: after the un-indexing loop of the
    batch over table 2 (the parents), TWO dead targets are pending, `pa` and `pb`, and the world
    satisfies `CleanBaseD [pa, pb]`, the full relation index `RInv` and `DeadSet` — the
    hypotheses of `cleanupArchetypes_pending` with `g = pa`, `D = [pa, pb]` -/
example : cleanupList g9 [2] = [pa, pb] ∧
    CleanBaseD [pa, pb] (removeTablesW g9 [2]) ∧ RInv (removeTablesW g9 [2]) ∧
    DeadSet (removeTablesW g9 [2]).pool [pa, pb] ∧ pa ∈ [pa, pb] := by
  have q := (reach_qgood noRun reach_g9).1
  obtain ⟨fl, h, _, _⟩ := q.good
  have hl : cleanupList g9 [2] = [pa, pb] := by decide +kernel
  have := unindexed_base h q.rows (ts := [2]) ⟨by decide, fun t ht => by
    have : t = 2 := by simpa using ht
    subst this; decide +kernel⟩
  rw [hl] at this
  exact ⟨hl, this.1, this.2.1, this.2.2, List.mem_cons_self⟩

/-- the theorems applied: the batch never panics and leaves a `QGood` world -/
theorem qgood_g10 : panicOf (opRemoveEntities noRun foParent [] false g9) = none ∧ QGood g10 := by
  have := (reach_qgood noRun reach_g9).1.removeEntities noRun foParent [] rfl
    (RelsTyped.nil _ _) g9_small.1 g9_small.2
  exact ⟨this.1, this.2.1⟩

/-- before the batch: `pa`, `pb` are children of `gp` (table 2); 5 and 7 are children of `pa`
    (table 3), 6 of `pb` (table 4), 8 is a child of `pa` and a friend of `pb` (table 5) -/
example :
    summary g9 = [⟨0, 0, 0, false, []⟩, ⟨1, 1, 1, false, [Ent.zero]⟩,
      ⟨2, 2, 2, false, [gp, Ent.zero, Ent.zero]⟩, ⟨3, 3, 2, false, [pa, Ent.zero]⟩,
      ⟨4, 3, 1, false, [pb, Ent.zero]⟩, ⟨5, 4, 1, false, [pa, Ent.zero, pb]⟩] ∧
    (targetOf g9 3 0, targetOf g9 4 0) = (some gp, some gp) ∧
    (targetOf g9 5 0, targetOf g9 6 0, targetOf g9 7 0, targetOf g9 8 0, targetOf g9 8 3) =
      (some pa, some pb, some pa, some pa, some pb) ∧
    g9.isTarget = [false, false, true, true, true, false, false, false, false] := by
  decide +kernel

/-- **after ONE batch removing both parents**: both are dead; the grandparent is alive and keeps
    its flag; the tables of the removed targets (3, 4, 5) are free and empty; the children 5, 6, 7
    sit together in the new table 6 with the zero target, entity 8 in the new table 7 with BOTH
    targets reset; everybody keeps components and values; the flags of `pa`, `pb` are reset -/
example :
    panicOf (opRemoveEntities noRun foParent [] false g9) = none ∧
    (g10.alive pa, g10.alive pb, g10.alive gp) = (false, false, true) ∧
    summary g10 = [⟨0, 0, 0, false, []⟩, ⟨1, 1, 1, false, [Ent.zero]⟩,
      ⟨2, 2, 0, false, [gp, Ent.zero, Ent.zero]⟩, ⟨3, 3, 0, true, [pa, Ent.zero]⟩,
      ⟨4, 3, 0, true, [pb, Ent.zero]⟩, ⟨5, 4, 0, true, [pa, Ent.zero, pb]⟩,
      ⟨6, 3, 3, false, [Ent.zero, Ent.zero]⟩, ⟨7, 4, 1, false, [Ent.zero, Ent.zero, Ent.zero]⟩] ∧
    (targetOf g10 5 0, targetOf g10 6 0, targetOf g10 7 0, targetOf g10 8 0, targetOf g10 8 3) =
      (some Ent.zero, some Ent.zero, some Ent.zero, some Ent.zero, some Ent.zero) ∧
    (valOf g10 5 1, valOf g10 6 1, valOf g10 7 1, valOf g10 8 1, valOf g10 2 1) =
      (some 4, some 5, some 6, some 7, some 1) ∧
    (compsOf g10 3, compsOf g10 4, targetOf g10 3 0, targetOf g10 4 0) = (none, none, none, none) ∧
    g10.isTarget = [false, false, true, false, false, false, false, false, false] := by
  decide +kernel

/-- what the clients see of a world after the removal of both parents -/
def seen (w : World) : List Bool × List (Option Ent) × List (Option Val) × List (Option (List Comp)) :=
  ([w.alive pa, w.alive pb, w.alive gp],
   [targetOf w 5 0, targetOf w 6 0, targetOf w 7 0, targetOf w 8 0, targetOf w 8 3],
   [valOf w 5 1, valOf w 6 1, valOf w 7 1, valOf w 8 1, valOf w 2 1],
   [compsOf w 3, compsOf w 4, compsOf w 8])

/-- the same entities selected through the relation constraint "child of `gp`", and the singles
    in both orders: same liveness, components, values and targets as the batch (the table
    layouts differ); batch and singles in the batch's order have EQUAL pools -/
example : panicOf (opRemoveEntities noRun foChildOfGp [] false g9) = none ∧ seen g10r = seen g10 := by
  decide +kernel

example : panicOf (removeSeq noRun [pa, pb] g9) = none ∧ seen g10s = seen g10 ∧
    g10.pool = g10s.pool := by
  decide +kernel

example : panicOf (removeSeq noRun [pb, pa] g9) = none ∧ seen g10s' = seen g10 := by
  decide +kernel

/-! ### `setRelationsBatch` in the same world -/

/-- `Filter2[ChildOf, Pos].Without(Parent)`: the children 5, 6, 7, 8 -/
def foKids : FilterObj :=
  { filter := { mask := Mask.ofList [0, 1], without := Mask.ofList [2], hasWithout := true }
    ids := [0, 1] }

/-- the batch: every child becomes a child of `pb` -/
def s10 : World := (setRelationsBatch noRun foKids [] [⟨0, pb⟩] false g9).state
/-- the singles, in an order that is not the batch's -/
def s10s : World := (setRelSeq noRun [⟨8, 0⟩, ⟨6, 0⟩, ⟨5, 0⟩, ⟨7, 0⟩] [⟨0, pb⟩] g9).state

theorem g9_assign_ok : RelsTyped g9 foKids.filter [⟨0, pb⟩] ∧
    (∀ (r : RelID), r ∈ [(⟨0, pb⟩ : RelID)] → r.target.isZero = true ∨ g9.alive r.target = true) ∧
    (∀ (r : RelID), r ∈ [(⟨0, pb⟩ : RelID)] → r.target.id < g9.pool.ents.length) ∧
    2 * g9.tables.length ≤ maxU32 := by
  unfold RelsTyped
  decide +kernel

/-- **non-vacuity**: the additional hypotheses of `setRelationsBatch_eq_fold` hold in `g9` -/
example : RelsTyped g9 foKids.filter (foKids.rels ++ []) ∧ RelsTyped g9 foKids.filter [⟨0, pb⟩] ∧
    (∀ (r : RelID), r ∈ [(⟨0, pb⟩ : RelID)] → r.target.isZero = true ∨ g9.alive r.target = true) ∧
    2 * g9.tables.length ≤ maxU32 ∧
    ∃ (l1 l2 : Lock) (b : Nat), QueryExact.LockCycle g9.locks l1 b l2 ∧ l2.isLocked = false := by
  refine ⟨RelsTyped.nil _ _, g9_assign_ok.1, g9_assign_ok.2.1, g9_assign_ok.2.2.2, ?_⟩
  · obtain ⟨l1, l2, b, hc, q2⟩ := (reach_qgood noRun reach_g9).1.lockCycle
    obtain ⟨_, _, hl, _⟩ := q2.good
    exact ⟨l1, l2, b, hc, hl⟩

/-- the selection is tables 3 (children of `pa`), 4 (child of `pb`) and 5; table 4 is SKIPPED (its
    target is `pb` already); the children of `pa` move into the existing table 4; entity 8 moves
    to a new table with targets `(pb, pb)`; everybody keeps values; the parents are untouched -/
example :
    panicOf (setRelationsBatch noRun foKids [] [⟨0, pb⟩] false g9) = none ∧
    (match getBatchTables foKids [] g9 with | .ok ts _ => ts | .panic _ _ => []) = [3, 4, 5] ∧
    (match prepareRelationsMove 4 1 [⟨0, pb⟩] g9 with
      | .ok o _ => o.isNone | .panic _ _ => false) = true ∧
    summary s10 = [⟨0, 0, 0, false, []⟩, ⟨1, 1, 1, false, [Ent.zero]⟩,
      ⟨2, 2, 2, false, [gp, Ent.zero, Ent.zero]⟩, ⟨3, 3, 0, false, [pa, Ent.zero]⟩,
      ⟨4, 3, 3, false, [pb, Ent.zero]⟩, ⟨5, 4, 0, false, [pa, Ent.zero, pb]⟩,
      ⟨6, 4, 1, false, [pb, Ent.zero, pb]⟩] ∧
    (targetOf s10 5 0, targetOf s10 6 0, targetOf s10 7 0, targetOf s10 8 0, targetOf s10 8 3) =
      (some pb, some pb, some pb, some pb, some pb) ∧
    (targetOf s10 3 0, targetOf s10 4 0) = (some gp, some gp) ∧
    (valOf s10 5 1, valOf s10 6 1, valOf s10 7 1, valOf s10 8 1) =
      (some 4, some 5, some 6, some 7) := by
  decide +kernel

/-- what the clients see after the assignment -/
def seenS (w : World) : List Bool × List (Option Ent) × List (Option Val) × List (Option (List Comp)) :=
  ([w.alive pa, w.alive pb, w.alive gp],
   [targetOf w 3 0, targetOf w 4 0, targetOf w 5 0, targetOf w 6 0, targetOf w 7 0, targetOf w 8 0,
    targetOf w 8 3],
   [valOf w 5 1, valOf w 6 1, valOf w 7 1, valOf w 8 1, valOf w 2 1],
   [compsOf w 3, compsOf w 5, compsOf w 8])

/-- the fold of `setRelations` in another order gives the same observable world -/
example : panicOf (setRelSeq noRun [⟨8, 0⟩, ⟨6, 0⟩, ⟨5, 0⟩, ⟨7, 0⟩] [⟨0, pb⟩] g9) = none ∧
    seenS s10s = seenS s10 := by
  decide +kernel

/-! ### histories with batches -/

/-- the worlds after the batches are reached by histories … -/
theorem reachB_g10 : ReachB noRun g10 :=
  (ReachB.ofReach reach_g9).delBatch foParent [] rfl (RelsTyped.nil _ _) g9_small.1 g9_small.2

theorem reachB_s10 : ReachB noRun s10 :=
  (ReachB.ofReach reach_g9).setRelBatch foKids [] [⟨0, pb⟩] rfl (RelsTyped.nil _ _) rfl (by decide)
    g9_assign_ok.1 g9_assign_ok.2.1 g9_assign_ok.2.2.1 g9_assign_ok.2.2.2 g9_small.2

/-- … and histories continue after them: after the re-parenting, one batch with the relation
    constraint "child of `pb`" removes the four children, a second batch removes both parents
    (relation targets whose tables are empty by now) … -/
def foChildOfPb : FilterObj :=
  { filter := { mask := Mask.ofList [0, 1] }, ids := [0, 1], rels := [⟨0, pb⟩] }
def s11 : World := (opRemoveEntities noRun foChildOfPb [] false s10).state
def s12 : World := (opRemoveEntities noRun foParent [] false s11).state

/-- the hypotheses of the two batches that follow, decided together (`s11` continues `s10`) -/
theorem s_small :
    (RelsTyped s10 foChildOfPb.filter (foChildOfPb.rels ++ []) ∧
      s10.tables.length + s10.entities.length * s10.relationArchetypes.length + 1 ≤ maxU32 ∧
      2 * s10.entities.length < 2 ^ 32) ∧
    s11.tables.length + s11.entities.length * s11.relationArchetypes.length + 1 ≤ maxU32 ∧
    2 * s11.entities.length < 2 ^ 32 := by
  unfold RelsTyped
  decide +kernel

theorem reachB_s11 : ReachB noRun s11 :=
  reachB_s10.delBatch foChildOfPb [] rfl s_small.1.1 s_small.1.2.1 s_small.1.2.2

theorem reachB_s12 : ReachB noRun s12 :=
  reachB_s11.delBatch foParent [] rfl (RelsTyped.nil _ _) s_small.2.1 s_small.2.2

/-- … leaving the grandparent alone; every table of a removed target is free, the only non-free
    relation table is the (empty) table of the children of the alive `gp`; only `gp` is flagged -/
example :
    ([5, 6, 7, 8].map fun i => compsOf s11 i) = [none, none, none, none] ∧
    (s11.alive pa, s11.alive pb) = (true, true) ∧
    (s12.alive pa, s12.alive pb, s12.alive gp, valOf s12 2 1) = (false, false, true, some 1) ∧
    ((summary s12).filter fun T => T.len != 0) = [⟨1, 1, 1, false, [Ent.zero]⟩] ∧
    ((summary s12).filter fun T => T.arch ≥ 2 && !T.free) =
      [⟨2, 2, 0, false, [gp, Ent.zero, Ent.zero]⟩] ∧
    s12.isTarget = [false, false, true, false, false, false, false, false, false] := by
  decide +kernel

end Ark.Props.C06Rel
