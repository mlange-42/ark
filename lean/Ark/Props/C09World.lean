/-
  C09 at world level — when callbacks run and what they see.

  "Callbacks for creation, addition, set and relation assignment run after the change and
  callbacks for removals run before it.  Inside a callback the reported entity is alive, is the
  entity the operation affects, appears exactly once in any query, and its components (including
  those about to be removed) are readable with their current values; the world is locked during
  removal and batch callbacks and in the caller's lock state otherwise."

  Formalisation.  In the setting of Ark/Props/C08World.lean, for a read-only runner whose records
  do not depend on the log (`LogBlind rec`; the `look` probe of the harness: `lookRec_logBlind`),
  the complete log an operation writes is

      (fired.reverse.flatMap fun l => notifyFlat rec l e seen) ++ w.log

  — for every notified observer `l` (the documented set `fired`, C08) its `cb l e` record and the
  records `rec seen l e p` of the probes `p` of its script — where `seen` is ONE world, the same
  for all observers of a notification round: "the world the callbacks see".  Each theorem
  `*_sees` identifies `seen` and states what holds on it.  `e` is the entity the operation
  affects (for creations: the returned handle).

  * AFTER the change, in the caller's lock state: `add_sees`, `newEntity_sees`, `newEntity0_sees`,
    `copyEntity_sees`, `set_sees` (no lock requirement at all), the addition round of
    `exchange_sees`.  On `seen` the entity is alive with its NEW component set.  Values: through
    the typed paths (`Map`, `MapN`) the values passed to the call are already written (`seen` is
    the final world up to the log); through `Unsafe.Add`/`Unsafe.NewEntity` the added components
    still read zero — the caller writes them after the call returns (that is how the Go API works).
  * BEFORE the change, under the lock: `remove_sees`, `removeEntity_sees`, the removal round of
    `exchange_sees`.  On `seen`: `isLocked = true`; EVERY entity — the reported one included — has
    the component set and values it had before the call (`SameEnt w seen j` for all `j`), so the
    components about to be removed are readable with their current values; every handle tests
    alive as before; structural operations are rejected with the state unchanged (`NewEntity()`
    shown; all of Ark/Proofs/Rejects.lean apply to a locked world); a complete iteration of any
    uncached untyped query succeeds, restores everything but the lock's bit pool and is exact for
    the entity sets of the world BEFORE the removal (`QueryExactOn`): the reported entity occurs
    exactly once, at its old row, if the filter matches its old mask, not at all otherwise
    (`exact_visits_once`).

  Finding: for `Remove`/`Exchange` the world the removal callbacks see is not literally the world
  before the call with the lock held: the destination archetype and table of the move have already
  been created if they did not exist (`Looked`); they are empty, and no entity-level observation
  (liveness, components, values, queries) can tell the difference.
-/
import Ark.Props.C08World
import Ark.Proofs.CallbacksSeen

set_option autoImplicit false

namespace Ark.Props.C09World
open Ark Ark.World Ark.Spec Ark.Refine Ark.QueryExact Ark.Props.C01World

variable {run : ProbeRunner} {S : Probe → Prop} {rec : World → Nat → Ent → Probe → List LogEv}
  {w : World} {fl : List Nat}

/-! ### after the change -/

theorem add_sees (st : Setting run S rec w fl) (hb : LogBlind rec) (p : Path)
    (hl : w.isLocked = false) {e : Ent} (he : Live w fl e) {add : List Comp} (hne : add ≠ [])
    (hnd : add.Nodup) (hreg : ∀ (c : Comp), c ∈ add → c < w.kinds.length)
    (hnew : ∀ (c : Comp), c ∈ add → (w.maskOf e).get c = false) (vals : List (Comp × Val))
    (hfew : w.tables.length < maxU32) (hrows : ∀ t : Nat, (w.tbl t).len + 1 < 2 ^ 32) :
    ∃ seen w' : World,
      opAdd run p e add vals [] w = .ok () w' ∧
      w'.log = ((firing w.obs Ev.onAddComponents
          (.add (w.maskOf e) (add.foldl Mask.set (w.maskOf e)))).reverse.flatMap
            fun l => notifyFlat rec l e seen) ++ w.log ∧
      seen.obs = w.obs ∧ seen.isLocked = w.isLocked ∧ (∀ x : Ent, seen.alive x = w.alive x) ∧
      compsOf seen e.id = some ((add.foldl Mask.set (w.maskOf e)).toList w.kinds.length) ∧
      (∀ c : Comp, c ∈ add → valOf seen e.id c =
        some (if p = .unsafe_ ∨ (w.kinds.getD c {}).zst = true then 0 else applyVals 0 vals c)) ∧
      (∀ j : Nat, j ≠ e.id → SameEnt w seen j) ∧
      (p ≠ .unsafe_ → seen = w'.relog w.obs w.log) := by
  obtain ⟨w1, _, ap, _, oap, h5⟩ := opAdd_callbacks st.ro (fun _ _ _ => pure ()) p st.scripts st.obs
    st.inv hl he.ge2 he.notFree he.alive he.inPool hne hnd hreg hnew vals hfew hrows
  refine ⟨(seenAfter p w1 e vals).relog w.obs w.log, _, h5, log_round hb _ _ _ _, rfl, ?_⟩
  unfold seenAfter
  by_cases hp : p = .unsafe_
  · simp only [hp, if_true]
    refine ⟨ap.unlocked, ap.aliveSame, ap.comps, fun c hc => ?_, ap.frame, fun h => absurd rfl h⟩
    simp only [true_or, if_true]
    exact ap.added c hc
  · simp only [hp, if_false]
    refine ⟨oap.unlocked, oap.aliveSame, oap.comps, fun c hc => ?_, oap.frame, fun _ => rfl⟩
    simp only [false_or]
    exact oap.added c hc

theorem newEntity_sees (st : Setting run S rec w fl) (hb : LogBlind rec) (p : Path)
    (hl : w.isLocked = false) {ids : List Comp} (hnd : ids.Nodup)
    (hreg : ∀ (c : Comp), c ∈ ids → c < w.kinds.length) (vals : List (Comp × Val))
    (hfew : w.tables.length < maxU32) (hrows : ∀ t : Nat, (w.tbl t).len + 1 < 2 ^ 32) :
    ∃ seen w' : World,
      opNewEntity run p ids vals [] w = .ok (w.pool.get).2 w' ∧
      w'.log = ((firing w.obs Ev.onCreateEntity (.entity (Mask.ofList ids))).reverse.flatMap
            fun l => notifyFlat rec l (w.pool.get).2 seen) ++ w.log ∧
      seen.obs = w.obs ∧ seen.isLocked = w.isLocked ∧ seen.alive (w.pool.get).2 = true ∧
      compsOf seen (w.pool.get).2.id = some ((Mask.ofList ids).toList w.kinds.length) ∧
      (∀ c : Comp, c ∈ ids → valOf seen (w.pool.get).2.id c =
        some (if p = .unsafe_ ∨ (w.kinds.getD c {}).zst = true then 0 else applyVals 0 vals c)) ∧
      (∀ j : Nat, j ≠ (w.pool.get).2.id → SameEnt w seen j) ∧
      (p ≠ .unsafe_ → seen = w'.relog w.obs w.log) := by
  obtain ⟨w1, _, np1, _, np, h5⟩ := opNewEntity_callbacks st.ro (fun _ _ _ => pure ()) p st.scripts
    st.obs st.inv hl hnd hreg vals hfew hrows
  refine ⟨(seenAfter p w1 (w.pool.get).2 vals).relog w.obs w.log, _, h5, log_round hb _ _ _ _, rfl, ?_⟩
  unfold seenAfter
  by_cases hp : p = .unsafe_
  · simp only [hp, if_true]
    refine ⟨np1.unlocked, np1.alive, np1.comps, fun c hc => ?_, np1.frame, fun h => absurd rfl h⟩
    simp only [true_or, if_true]
    have := np1.vals c hc
    simp only [applyVals, List.foldl_nil, ite_self] at this
    exact this
  · simp only [hp, if_false]
    refine ⟨np.unlocked, np.alive, np.comps, fun c hc => ?_, np.frame, fun _ => rfl⟩
    simp only [false_or]
    exact np.vals c hc

theorem newEntity0_sees (st : Setting run S rec w fl) (hb : LogBlind rec)
    (hl : w.isLocked = false) (hb0 : (w.tbl 0).len + 1 < 2 ^ 32) :
    ∃ seen w' : World,
      opNewEntity0 run w = .ok (w.pool.get).2 w' ∧
      w'.log = ((firing w.obs Ev.onCreateEntity (.entity Mask.empty)).reverse.flatMap
            fun l => notifyFlat rec l (w.pool.get).2 seen) ++ w.log ∧
      seen = w'.relog w.obs w.log ∧ seen.isLocked = w.isLocked ∧
      seen.alive (w.pool.get).2 = true ∧ compsOf seen (w.pool.get).2.id = some [] ∧
      (∀ j : Nat, j ≠ (w.pool.get).2.id → SameEnt w seen j) := by
  obtain ⟨w0, _, pp, hc, h4⟩ := opNewEntity0_callbacks st.ro (fun _ _ _ => pure ()) st.scripts st.obs
    st.inv hl hb0
  exact ⟨w0.relog w.obs w.log, _, h4, log_round hb _ _ _ _, rfl, pp.unlocked, pp.alive, hc, pp.frame⟩

theorem copyEntity_sees (st : Setting run S rec w fl) (hb : LogBlind rec)
    (hl : w.isLocked = false) {src : Ent} (he : Live w fl src)
    (hrows : ∀ t : Nat, (w.tbl t).len + 1 < 2 ^ 32) :
    ∃ seen w' : World,
      opCopyEntity run src w = .ok (w.pool.get).2 w' ∧
      w'.log = ((firing w.obs Ev.onCreateEntity (.entity (w.maskOf src))).reverse.flatMap
            fun l => notifyFlat rec l (w.pool.get).2 seen) ++ w.log ∧
      seen = w'.relog w.obs w.log ∧ seen.isLocked = w.isLocked ∧
      seen.alive (w.pool.get).2 = true ∧ seen.alive src = true ∧
      compsOf seen (w.pool.get).2.id = compsOf w src.id ∧
      (∀ c : Comp, valOf seen (w.pool.get).2.id c = valOf w src.id c) ∧
      (∀ j : Nat, j ≠ (w.pool.get).2.id → SameEnt w seen j) := by
  obtain ⟨w0, _, cp, h3⟩ := opCopyEntity_callbacks st.ro (fun _ _ _ => pure ()) st.scripts st.obs
    st.inv hl he.ge2 he.notFree he.alive he.inPool hrows
  exact ⟨w0.relog w.obs w.log, _, h3, log_round hb _ _ _ _, rfl, cp.unlocked, cp.alive,
    (cp.live src he.notFree he.alive he.inPool).2.2.1, cp.comps, cp.vals, cp.frame⟩

/-- `Set`: after the write, in the caller's lock state whatever it is -/
theorem set_sees (st : Setting run S rec w fl) (hb : LogBlind rec) {e : Ent} (he : Live w fl e)
    {ids : List Comp} (hhas : ∀ (c : Comp), c ∈ ids → (w.maskOf e).get c = true)
    (vals : List (Comp × Val)) :
    ∃ seen w' : World,
      opSet run e ids vals w = .ok () w' ∧
      w'.log = ((firing w.obs Ev.onSetComponents
          (.set (Mask.ofList ids) (w.maskOf e))).reverse.flatMap
            fun l => notifyFlat rec l e seen) ++ w.log ∧
      seen = w'.relog w.obs w.log ∧ seen.isLocked = w.isLocked ∧
      (∀ x : Ent, seen.alive x = w.alive x) ∧ compsOf seen e.id = compsOf w e.id ∧
      (∀ (c : Comp) (v : Val), valOf w e.id c = some v → valOf seen e.id c =
        some (if (w.kinds.getD c {}).zst = true then v else applyVals v vals c)) ∧
      (∀ j : Nat, j ≠ e.id → SameEnt w seen j) := by
  obtain ⟨_, wp, h3⟩ := opSet_callbacks st.ro (fun _ _ _ => pure ()) st.scripts st.obs st.inv he.ge2
    he.notFree he.alive he.inPool hhas vals
  exact ⟨(writeValsW w.noObs e vals).relog w.obs w.log, _, h3, log_round hb _ _ _ _, rfl,
    wp.unlocked, wp.aliveSame, wp.comps, wp.vals, wp.frame⟩

/-- custom events (`Event.Emit`): the callbacks run on the unchanged world itself, in the caller's
    lock state -/
theorem emit_sees (hro : ReadOnly run S rec) (hb : LogBlind rec) (hs : ScriptsIn w.obs S)
    (hok : ObsOK w.obs) (evt : Nat) (comps : List Comp) (e : Ent) (hevt : evt ≤ Ev.custom)
    (hent : if e.isZero then (Mask.ofList comps).isZero = true else w.alive e = true)
    (hcont : ((if e.isZero then (w.arch 0).mask else w.maskOf e).contains (Mask.ofList comps)) = true) :
    ∃ w' : World, opEmit run evt comps e w = .ok () w' ∧ w' = { w with log := w'.log } ∧
      w'.log = ((firing w.obs evt (.set (Mask.ofList comps)
          (if e.isZero then (w.arch 0).mask else w.maskOf e))).reverse.flatMap
            fun l => notifyFlat rec l e w) ++ w.log :=
  ⟨_, opEmit_obs_eq hro w hs hok evt comps e hevt hent hcont, rfl, log_round hb _ _ _ _⟩

/-! ### before the change, under the lock -/

theorem remove_sees (st : Setting run S rec w fl) (hb : LogBlind rec) (p : Path)
    (hl : w.isLocked = false) {e : Ent} (he : Live w fl e) {rem : List Comp} (hne : rem ≠ [])
    (hnd : rem.Nodup) (hpres : ∀ (c : Comp), c ∈ rem → (w.maskOf e).get c = true)
    (hfew : w.tables.length < maxU32) (hrows : ∀ t : Nat, (w.tbl t).len + 1 < 2 ^ 32)
    {l1 l2 : Lock} {b : Nat} (hL : LockCycle w.locks l1 b l2)
    {l1' l2' : Lock} {b' : Nat} (hL' : LockCycle l1 l1' b' l2') :
    ∃ seen w' : World,
      opRemove run p e rem w = .ok () w' ∧
      w'.log = ((firing w.obs Ev.onRemoveComponents
          (.remove (w.maskOf e) (rem.foldl Mask.clear (w.maskOf e)))).reverse.flatMap
            fun l => notifyFlat rec l e seen) ++ w.log ∧
      seen.obs = w.obs ∧ seen.isLocked = true ∧ CInvObs seen fl ∧
      (∀ x : Ent, seen.alive x = w.alive x) ∧ (∀ j : Nat, SameEnt w seen j) ∧
      seen.entities = w.entities ∧
      (∀ r : ProbeRunner, opNewEntity0 r seen = .panic .locked seen) ∧
      (∀ fo : FilterObj, fo.cache = none → (fo.typed = false ∨ fo.ids = []) →
        ∃ q visits, QueryExactOn seen fl fo (seen.withLocks l1') q visits (seen.withLocks l2')) := by
  obtain ⟨w1, w0, lk, _, _, h4⟩ := opRemove_callbacks st.ro (fun _ _ _ => pure ()) p st.scripts st.obs
    st.inv hl he.ge2 he.notFree he.alive he.inPool hne hnd hpres hfew hrows hL
  obtain ⟨a1, a2, a3, a4, a5, a6⟩ := seen_before lk hL
  exact ⟨w1.reframe w.obs w.log l1, _, h4, log_round hb _ _ _ _, rfl, a1, a2, a3, a4, a5, a6,
    fun fo hc hu => seen_before_query lk hL hL' fo hc hu⟩

theorem removeEntity_sees (st : Setting run S rec w fl) (hb : LogBlind rec)
    (hl : w.isLocked = false) {e : Ent} (he : Live w fl e)
    {l1 l2 : Lock} {b : Nat} (hL : LockCycle w.locks l1 b l2)
    {l1' l2' : Lock} {b' : Nat} (hL' : LockCycle l1 l1' b' l2') :
    ∃ w' : World,
      opRemoveEntity run e w = .ok () w' ∧
      w'.log = ((firing w.obs Ev.onRemoveEntity (.entity (w.maskOf e))).reverse.flatMap
            fun l => notifyFlat rec l e (w.withLocks l1)) ++ w.log ∧
      (w.withLocks l1).isLocked = true ∧ CInvObs (w.withLocks l1) fl ∧
      (w.withLocks l1).alive e = true ∧ (∀ j : Nat, SameEnt w (w.withLocks l1) j) ∧
      (∀ r : ProbeRunner, opNewEntity0 r (w.withLocks l1) = .panic .locked (w.withLocks l1)) ∧
      (∀ r : ProbeRunner, opRemoveEntity r e (w.withLocks l1) = .panic .locked (w.withLocks l1)) ∧
      (∀ fo : FilterObj, fo.cache = none → (fo.typed = false ∨ fo.ids = []) →
        ∃ q visits, QueryExactOn (w.withLocks l1) fl fo ((w.withLocks l1).withLocks l1') q visits
          ((w.withLocks l1).withLocks l2')) := by
  obtain ⟨w0, _, _, h3⟩ := opRemoveEntity_callbacks st.ro (fun _ _ _ => pure ()) st.scripts st.obs
    st.inv hl he.ge2 he.notFree he.alive he.inPool hL
  have lk : Looked w.noObs fl w.noObs := Looked.refl st.inv
  obtain ⟨a1, a2, a3, a4, _, a6⟩ := seen_before lk hL
  refine ⟨_, h3, log_round hb _ _ _ _, a1, a2, he.alive, a4, a6,
    fun r => opRemoveEntity_locked r _ a1 e, fun fo hc hu => seen_before_query lk hL hL' fo hc hu⟩

/-- `Exchange`: removal round before (locked), addition round after (unlocked again) -/
theorem exchange_sees (st : Setting run S rec w fl) (hb : LogBlind rec) (p : Path)
    (hl : w.isLocked = false) {e : Ent} (he : Live w fl e)
    {add rem : List Comp} (hne : ¬ (add = [] ∧ rem = [])) (hrnd : rem.Nodup)
    (hpres : ∀ (c : Comp), c ∈ rem → (w.maskOf e).get c = true) (hand : add.Nodup)
    (hreg : ∀ (c : Comp), c ∈ add → c < w.kinds.length)
    (hnew : ∀ (c : Comp), c ∈ add → (w.maskOf e).get c = false) (vals : List (Comp × Val))
    (hfew : w.tables.length < maxU32) (hrows : ∀ t : Nat, (w.tbl t).len + 1 < 2 ^ 32)
    {l1 l2 : Lock} {b : Nat} (hL : LockCycle w.locks l1 b l2)
    (hl2 : l2.isLocked = false) :
    ∃ seenB seenA w' : World,
      opExchange run p e add vals rem [] w = .ok () w' ∧
      w'.log =
        ((firingAddX w.obs p add (w.maskOf e)
            (add.foldl Mask.set (rem.foldl Mask.clear (w.maskOf e)))).reverse.flatMap
          fun l => notifyFlat rec l e seenA) ++
        (((firingX w rem (w.maskOf e)
            (add.foldl Mask.set (rem.foldl Mask.clear (w.maskOf e)))).reverse.flatMap
          fun l => notifyFlat rec l e seenB) ++ w.log) ∧
      seenB.obs = w.obs ∧ seenB.isLocked = true ∧ CInvObs seenB fl ∧
      (∀ x : Ent, seenB.alive x = w.alive x) ∧ (∀ j : Nat, SameEnt w seenB j) ∧
      (∀ r : ProbeRunner, opNewEntity0 r seenB = .panic .locked seenB) ∧
      seenA.obs = w.obs ∧ seenA.isLocked = false ∧ (∀ x : Ent, seenA.alive x = w.alive x) ∧
      compsOf seenA e.id =
        some ((add.foldl Mask.set (rem.foldl Mask.clear (w.maskOf e))).toList w.kinds.length) ∧
      (∀ c : Comp, c ∈ rem → valOf seenA e.id c = none) ∧
      (∀ c : Comp, c ∈ add → valOf seenA e.id c =
        some (if p = .unsafe_ ∨ (w.kinds.getD c {}).zst = true then 0 else applyVals 0 vals c)) ∧
      (∀ j : Nat, j ≠ e.id → SameEnt w seenA j) := by
  obtain ⟨w1, w2, lk, _, ep, _, oep, h6⟩ := opExchange_callbacks st.ro (fun _ _ _ => pure ()) p
    st.scripts st.obs st.inv hl he.ge2 he.notFree he.alive he.inPool hne hrnd hpres hand hreg hnew
    vals hfew hrows hL
  obtain ⟨a1, a2, a3, a4, _, a6⟩ := seen_before lk hL
  have hlockA : ∀ (X : World) (lg : List LogEv),
      (X.reframe w.obs lg (lockAfterX w rem l2)).isLocked = false := by
    intro X lg
    show (lockAfterX w rem l2).isLocked = false
    unfold lockAfterX lockAfter
    split
    · exact hl
    · split
      · exact hl2
      · exact hl
  refine ⟨w1.reframe w.obs w.log l1,
    (seenAfter p w2 e vals).reframe w.obs
      (notifyAll rec e
        (firingX w rem (w.maskOf e) (add.foldl Mask.set (rem.foldl Mask.clear (w.maskOf e))))
        (w1.reframe w.obs w.log l1) ++ w.log)
      (lockAfterX w rem l2), _, h6, ?_, rfl, a1, a2, a3, a4, a6, rfl, hlockA _ _, ?_⟩
  · show notifyAll rec e _ _ ++ (notifyAll rec e _ _ ++ w.log) = _
    rw [notifyAll_blind hb, notifyAll_blind hb]
  · unfold seenAfter
    by_cases hp : p = .unsafe_
    · simp only [hp, if_true]
      refine ⟨ep.aliveSame, ep.comps, ep.gone, fun c hc => ?_, ep.frame⟩
      simp only [true_or, if_true]
      exact ep.added c hc
    · simp only [hp, if_false]
      refine ⟨oep.aliveSame, oep.comps, oep.gone, fun c hc => ?_, oep.frame⟩
      simp only [false_or]
      exact oep.added c hc

/-! ### "appears exactly once in any query" -/

/-- an exact visit list contains a live entity whose mask the filter matches exactly once, at the
    row the entity index records … -/
theorem exact_visits_once {w : World} {fl : List Nat} {f : Filter} {vs : List Visit}
    (h : ExactVisits w fl f vs) {i t r : Nat} (h2 : 2 ≤ i) (hnf : i ∉ fl)
    (hi : w.entities[i]? = some (t, r)) (ht : t ≠ maxU32)
    (hm : f.matchesMask (w.arch (w.tbl t).arch).mask = true) :
    occ vs i = 1 ∧ ∃ v ∈ vs, v.e.id = i ∧ v.table = t ∧ v.row = r :=
  Ark.ExactVisits.occ_one h h2 hnf hi ht hm

/-- … and an entity whose mask it does not match not at all -/
theorem exact_visits_none {w : World} {fl : List Nat} {f : Filter} {vs : List Visit}
    (h : ExactVisits w fl f vs) {i t r : Nat} (hi : w.entities[i]? = some (t, r))
    (hm : f.matchesMask (w.arch (w.tbl t).arch).mask = false) : occ vs i = 0 := by
  apply List.count_eq_zero_of_not_mem
  intro hmem
  obtain ⟨v, hv, hvi⟩ := List.mem_map.mp hmem
  obtain ⟨_, _, he, _, _, _, _, hmm⟩ := h.sound v hv
  rw [hvi, hi] at he
  obtain ⟨rfl, rfl⟩ := Prod.mk.inj (Option.some.inj he)
  rw [hm] at hmm
  cases hmm

/-- on the world a removal callback sees the mask of an entity is its mask before the call -/
theorem seen_before_old_mask {w w1 : World} {fl : List Nat} (h : CInvObs w fl)
    (lk : Looked w.noObs fl w1) (l1 : Lock) {i t r : Nat} (hi : w.entities[i]? = some (t, r))
    (ht : t ≠ maxU32) :
    ((w1.reframe w.obs w.log l1).arch ((w1.reframe w.obs w.log l1).tbl t).arch).mask
      = (w.arch (w.tbl t).arch).mask := seen_before_mask h lk l1 hi ht

/-- **the `query` probe of the harness, run by a removal callback, counts the reported entity
    exactly once**: on the world `seen = w1.reframe w.obs w.log l1` a removal callback sees, for
    an unregistered untyped filter object under label `f` (in `w1.filters`; the table lookup of
    the operation does not touch the filter heap, `FocShape.filters`, and for `RemoveEntity`
    `w1 = w.noObs`) that matches the entity's mask before the operation, the probe records
    `q f total 1` — `total` the number of entities the filter selects before the operation — and
    leaves `seen` unchanged but for the log and the lock's bit pool.  (`hrow`: the entity's row holds its handle — the generation is not part
    of `CInv`; it is part of `RowsLive` of Ark/Proofs/BatchRemove.lean.) -/
theorem query_probe_in_removal_callback {w w1 : World} {fl : List Nat} (h : CInvObs w fl)
    (lk : Looked w.noObs fl w1) {l1 l2 : Lock} {b : Nat} (hL : LockCycle w.locks l1 b l2)
    {l1' l2' : Lock} {b' : Nat} (hL' : LockCycle l1 l1' b' l2') (fuel l f : Nat) {e : Ent}
    {t r : Nat} (h2 : 2 ≤ e.id) (hnf : e.id ∉ fl) (hi : w.entities[e.id]? = some (t, r))
    (ht : t ≠ maxU32) (hrow : (w.tbl t).getEntity r = e)
    (hc : ((AL.find? w1.filters f).getD {}).cache = none)
    (hu : ((AL.find? w1.filters f).getD {}).typed = false ∨ ((AL.find? w1.filters f).getD {}).ids = [])
    (hm : ((AL.find? w1.filters f).getD {}).filter.matchesMask (w.arch (w.tbl t).arch).mask = true) :
    ∃ total : Nat,
      runProbe (fuel + 1) l e (.query f) (w1.reframe w.obs w.log l1)
        = .ok () (((w1.reframe w.obs w.log l1).withLocks l2').addLog [.q f total 1]) := by
  obtain ⟨q, vs, Q⟩ := seen_before_query lk hL hL' ((AL.find? w1.filters f).getD {}) hc hu
  have hd : drain ((AL.find? (w1.reframe w.obs w.log l1).filters f).getD {}) []
      (w1.reframe w.obs w.log l1) = .ok vs ((w1.reframe w.obs w.log l1).withLocks l2') :=
    Q.drained
  refine ⟨vs.length, ?_⟩
  rw [runProbe_query fuel l e f _ _ hd]
  have hi' : (w1.reframe w.obs w.log l1).entities[e.id]? = some (t, r) := by
    show w1.entities[e.id]? = _
    rw [lk.entities]; exact hi
  have hm' := seen_before_mask h lk l1 hi ht
  have htb : (w1.reframe w.obs w.log l1).tbl t = w.tbl t := by
    obtain ⟨hlt, _⟩ := CInv.table_of_entry h hi ht
    exact tbl_eq_of_get (w' := w1) (lk.tables t hlt)
  rw [count_handle_eq_one Q.exact h2 hnf hi' ht (by rw [hm']; exact hm) (by rw [htb]; exact hrow)]

/-! ### the runner of the harness -/

/-- the runner of the harness (`World.probe`) restricted to `look` probes is read-only, log-blind
    and writes no `cb` records: what a `look` probe records (`lookRec`) is liveness of the
    reported entity, the lock state, its components with their values, its relation targets -/
theorem harness_runner :
    ReadOnly World.probe (· = Probe.look) lookRec ∧ LogBlind lookRec ∧ NoCb lookRec :=
  ⟨probe_readOnly, lookRec_logBlind, lookRec_noCb⟩

/-! ### non-vacuity: the demo world of C08World -/

section Demo
open Ark.Props.C08World

set_option synthInstance.maxSize 2048

/-- the `look` records of a log: (alive, locked, components with values), newest first -/
def looksOf (lg : List LogEv) : List (Bool × Bool × List (Comp × Val)) :=
  lg.filterMap fun ev => match ev with
    | .look a l cs _ => some (a, l, cs)
    | _ => none

def looksAfter {α : Type} (r : Res World α) : Option (List (Bool × Bool × List (Comp × Val))) :=
  match r with
  | .ok _ w' => some (looksOf w'.log)
  | .panic _ _ => none

/-- what the callbacks of the demo world observe (`⟨2,0⟩ : [0 ↦ 10]`, `⟨3,0⟩ : [0 ↦ 20, 1 ↦ 21]`):
    * `Add` of component 1 with value 5 through the typed path: both notified observers see the
      entity alive, the world unlocked, the NEW component with the value already written;
      through `Unsafe`: the new component still zero;
    * `Remove` of component 0 from `⟨3,0⟩`: alive, LOCKED, the component about to be removed still
      there with its value;
    * `RemoveEntity ⟨2,0⟩` (two observers): alive, locked, the old values. -/
example :
    looksAfter (opAdd World.probe .typed e2 [1] [(1, 5)] [] wObs)
      = some [(true, false, [(0, 10), (1, 5)]), (true, false, [(0, 10), (1, 5)])] ∧
    looksAfter (opAdd World.probe .unsafe_ e2 [1] [(1, 5)] [] wObs)
      = some [(true, false, [(0, 10), (1, 0)]), (true, false, [(0, 10), (1, 0)])] := by
  decide +kernel

example :
    looksAfter (opRemove World.probe .typed e3 [0] wObs)
      = some [(true, true, [(0, 20), (1, 21)])] ∧
    looksAfter (opRemoveEntity World.probe e2 wObs)
      = some [(true, true, [(0, 10)]), (true, true, [(0, 10)])] := by
  decide +kernel

/-- … and after the calls: the value is written (also through `Unsafe`), the component is gone,
    the entity is dead -/
example :
    (match opAdd World.probe .unsafe_ e2 [1] [(1, 5)] [] wObs with
     | .ok _ w' => valOf w' 2 1 | .panic _ _ => none) = some 5 ∧
    (match opRemove World.probe .typed e3 [0] wObs with
     | .ok _ w' => (valOf w' 3 0, valOf w' 3 1, w'.isLocked) | .panic _ _ => (none, none, true))
      = (none, some 21, false) ∧
    (match opRemoveEntity World.probe e2 wObs with
     | .ok _ w' => (w'.alive e2, w'.isLocked) | .panic _ _ => (true, true)) = (false, false) := by
  decide +kernel

/-- the theorem applied: `Remove` of component 0 from `⟨3,0⟩` on the demo world; a query opened by
    a callback nests its lock cycle (bit 1) inside the one of the operation (bit 0) -/
example : ∃ seen w' : World,
    opRemove World.probe .typed e3 [0] wObs = .ok () w' ∧
    seen.isLocked = true ∧ seen.alive e3 = true ∧ (∀ j : Nat, SameEnt wObs seen j) ∧
    (∀ fo : FilterObj, fo.cache = none → (fo.typed = false ∨ fo.ids = []) →
      ∃ q visits l1' l2', QueryExactOn seen [] fo (seen.withLocks l1') q visits (seen.withLocks l2')) := by
  obtain ⟨st, hb, _, he3, hl, _, hfew, hrows⟩ := demo_setting
  have hlocks : wObs.locks = {} := by decide +kernel
  obtain ⟨l1, b, l2, hL, _, _, l1', b', l2', hL', _⟩ :=
    lockCycle_of_invariant (w := wObs) (out := []) (flk := [])
      (by rw [hlocks]; exact Lock.linv_init) hl
  obtain ⟨seen, w', h1, _, _, h4, _, h6, h7, _, _, h10⟩ := remove_sees st hb .typed hl he3
    (rem := [0]) (by simp) (by simp) (by decide +kernel) hfew hrows hL hL'
  refine ⟨seen, w', h1, h4, ?_, h7, fun fo hc hu => ?_⟩
  · rw [h6]; exact he3.alive
  · obtain ⟨q, visits, Q⟩ := h10 fo hc hu
    exact ⟨q, visits, _, _, Q⟩

/-- a removal observer whose callback runs a query ("has component 0", `UnsafeFilter`, label 1) -/
def objsQ : AL ObsObj :=
  [ (1, { spec := { event := Ev.onRemoveEntity, script := [.query 1, .look] } }) ]

def wQ : World :=
  regAll [1] { s0.w with obs := { objs := objsQ },
                         filters := [(1, { filter := { mask := Mask.ofList [0] }, typed := false })] }

/-- the `query` records of a log: (filter label, total, occurrences of the reported entity) -/
def qsAfter {α : Type} (r : Res World α) : Option (List (Nat × Nat × Nat)) :=
  match r with
  | .ok _ w' => some (w'.log.filterMap fun ev => match ev with
      | .q f total occ => some (f, total, occ)
      | _ => none)
  | .panic _ _ => none

/-- inside the `OnRemoveEntity` callback for `⟨2,0⟩` the query still finds both entities with
    component 0, the reported one exactly once; the world is locked; afterwards it is unlocked
    again and the entity is gone -/
example :
    qsAfter (opRemoveEntity World.probe e2 wQ) = some [(1, 2, 1)] ∧
    looksAfter (opRemoveEntity World.probe e2 wQ) = some [(true, true, [(0, 10)])] ∧
    (match opRemoveEntity World.probe e2 wQ with
     | .ok _ w' => (w'.alive e2, w'.isLocked, w'.locks.locks) | .panic _ _ => (true, true, 1#64))
      = (false, false, 0#64) := by
  decide +kernel

end Demo

end Ark.Props.C09World
