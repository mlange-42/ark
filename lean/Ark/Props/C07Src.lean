/-
  Ark.Props.C07Src — the part of C07's theorems that is stated over definitions TRANSLATED from the
  Go source on every run (tools/extract/book.go).  Kept apart from Props/C07.lean because other
  properties' proofs import that file: a change of the translated code must break exactly the
  properties that depend on it.
-/
import Ark.Props.C07
import Ark.Proofs.GenBridge.BookPool
import Ark.Proofs.GenBridge.BookLock
import Ark.Generated.FactsMutex

namespace Ark.Props.C07Src
open Ark


/-! ### The code itself: `bitPool` of pool.go (the lock bits), translated statement by statement on every run -/

/-- `bitPool.Get`/`getNew` as in the source = the model's `BitPool.get` (panic at 64 bits) -/
theorem src_bitPool_get : type_of% @Ark.GenBridge.Book.bitPool_get_eq := @Ark.GenBridge.Book.bitPool_get_eq
/-- `bitPool.Recycle` as in the source = the model's -/
theorem src_bitPool_recycle : type_of% @Ark.GenBridge.Book.bitPool_recycle_eq := @Ark.GenBridge.Book.bitPool_recycle_eq
/-- `bitPool.Reset` as in the source = the model's (all three counters cleared) -/
theorem src_bitPool_reset : type_of% @Ark.GenBridge.Book.bitPool_reset_eq := @Ark.GenBridge.Book.bitPool_reset_eq


/-! ### The code itself: lock.go, translated on every run over the translated pool.go and the word-level mask64.go -/

/-- `newLock()` is the model's initial lock -/
theorem src_newLock : type_of% @Ark.GenBridge.Book.newLock_eq := @Ark.GenBridge.Book.newLock_eq
/-- `Lock()` as in the source = the model's `Lock.lock` (bit from the pool, panic at 64, set in the mask) -/
theorem src_lock : type_of% @Ark.GenBridge.Book.lock_eq := @Ark.GenBridge.Book.lock_eq
/-- `Unlock(b)` as in the source = the model's (panic unless the bit is set; cleared and recycled) -/
theorem src_unlock : type_of% @Ark.GenBridge.Book.unlock_eq := @Ark.GenBridge.Book.unlock_eq
/-- the `…Safe` variants are the plain ones between the mutex calls -/
theorem src_lockSafe : type_of% @Ark.GenBridge.Book.lockSafe_eq := @Ark.GenBridge.Book.lockSafe_eq
theorem src_unlockSafe : type_of% @Ark.GenBridge.Book.unlockSafe_eq := @Ark.GenBridge.Book.unlockSafe_eq
/-- `IsLocked()` — what `checkLocked` reads — as in the source = the model's -/
theorem src_isLocked : type_of% @Ark.GenBridge.Book.isLocked_eq := @Ark.GenBridge.Book.isLocked_eq
/-- `Reset()` as in the source = the model's -/
theorem src_lock_reset : type_of% @Ark.GenBridge.Book.reset_eq := @Ark.GenBridge.Book.reset_eq
/-- **every lock history**: the translated lock.go run from `newLock()` is the model's lock after any
    sequence of `Lock()`, `Unlock(b)`, `Reset()` — the hypotheses of `src_lock` hold on every state reached -/
theorem src_lock_histories : type_of% @Ark.GenBridge.Book.run_eq := @Ark.GenBridge.Book.run_eq

/-- non-vacuity: a history that locks three times, unlocks the middle bit and locks again re-uses that bit,
    in the translated source as in the model -/
example : (Ark.GenBridge.Book.toLock ([Lock.Op.lock, .lock, .lock, .unlock 1, .lock].foldl Ark.GenBridge.Book.gstep
    Ark.Generated.Book.newLock)).locks = 7#64 := by decide

/-! ### Queries take and release their lock bit through the lock manager's mutex (T2 fact, regenerated on every run) -/

/-- every call in the filter/query files that takes or releases a world-lock bit is `lockSafe`/`unlockSafe`
    (queries may be created and closed from several goroutines; with the plain `lock`/`unlock` two open
    queries can end up with the same bit, and the world is unlocked while one of them is still open), and
    both kinds occur -/
theorem src_query_locks_through_mutex :
    Generated.queryLockCalls.all (fun r => r.2 == "lockSafe" || r.2 == "unlockSafe") = true ∧
    Generated.queryLockCalls.any (fun r => r.2 == "lockSafe") = true ∧
    Generated.queryLockCalls.any (fun r => r.2 == "unlockSafe") = true := by decide

end Ark.Props.C07Src
