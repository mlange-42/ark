/-
  Ark.Props.C10Src — the part of C10's theorems stated over definitions TRANSLATED from the Go source on
  every run (tools/extract/book.go, group BookLookup): the table lookup in which the rejections of a
  relation list (targets not fully specified, a non-relation component, a relation component named
  twice — repairs D18/D26) are decided.  Kept apart from Props/C10.lean so that a change of the translated
  code breaks exactly the properties that depend on it.
-/
import Ark.Props.C04Src

namespace Ark.Props.C10Src
open Ark

/-- `table.MatchesExact` as in the source = the model's `Table.matchesExact`, including which panic is raised -/
theorem src_matchesExact : type_of% @Ark.Props.C04Src.src_matchesExact := @Ark.Props.C04Src.src_matchesExact
/-- `table.Matches` as in the source = the model's -/
theorem src_matches : type_of% @Ark.Props.C04Src.src_matches := @Ark.Props.C04Src.src_matches
/-- `archetype.getTableSlowPath` as in the source = the model's `getTable` on an archetype with relation columns and an
    active table: the count check, the rejection of a relation component named twice, the bucket lookup, the exact match -/
theorem src_getTableSlowPath : type_of% @Ark.Props.C04Src.src_getTableSlowPath := @Ark.Props.C04Src.src_getTableSlowPath
/-- `archetype.GetTable` as in the source = the model's `getTable`, from the invariants of the world -/
theorem src_getTable_of_inv : type_of% @Ark.Props.C04Src.src_getTable_of_inv := @Ark.Props.C04Src.src_getTable_of_inv

end Ark.Props.C10Src
