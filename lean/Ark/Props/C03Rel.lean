import Ark.Proofs.QueryRelReach
import Ark.Props.C04World
import Ark.Proofs.Eval

namespace Ark.Props.C03Rel
open Ark Ark.World Ark.QueryExact Ark.QueryRel Ark.Props.C01World Ark.Props.C04World

/-! C03 with RELATION TARGETS — "A query built from a filter (required components, excluded
    components, exclusive, relation targets given in the filter or per query) visits each alive
    entity that matches exactly once and no other entity.  The component pointers and relation
    targets it yields are that entity's live data (the same storage random access returns), Count
    equals the number of entities visited, and EntityAt(i) is the i-th visited entity."

    Scope: worlds WITH relation components, satisfying the joint invariant `TInv w fl` of
    `Ark.Proofs.TargetsInv` / `Ark.Props.C04World` (`fl` = ghost free list of the entity pool; the
    IDs `≥ 2` outside `fl` are the alive ones).  The proofs are in `Ark/Proofs/QueryRel.lean`
    (selection), `QueryRelHist.lean` (iteration, chains of steps),
    `QueryRelReach.lean` (the histories `Reach`).

    Vocabulary.
    * `World.drain fo extra` — `q := fo.Query(extra…); for q.Next() { … }`, returns the list of
      `Visit`s `(e, table, row)`; `fo.rels` are the relations fixed by `.Relations(…)`, `extra` the
      per-call ones; the relations in force are `fo.rels ++ extra`;
    * `RelsTyped w f rels` — every relation names a relation component that the filter's mask
      requires (what `ToRelations` / `preCheckTyped` of the typed API enforce);
    * `ExtraOK w m extra` — what `Query(rel…)` of a typed filter checks: target zero or alive,
      relation component, in the mask (`preCheckTyped_ok_iff`: exactly that);
    * `targetOf w i c` — the relation target of component `c` of the entity with ID `i`, read
      through the index; `valOf`, `compsOf` likewise; `(w.tbl t).targetAt c` — the target the
      cursor yields for relation column `c` of table `t`;
    * `ExactRelVisits w fl f rels visits` — `nodup` (no ID twice), `sound` (every visit is an alive
      ID at the row the index records, reporting the handle stored there, archetype mask matches,
      and `targetOf = some tgt` for every relation `⟨c, tgt⟩`), `complete` (every such alive ID is
      visited), `data` (`valOf` reads the visited cell), `targets` (`targetOf` is the visited
      table's target);
    * `RelQueryExactOn w fl fo extra w1 q visits w2` — `qOpen fo extra w = .ok q w1`,
      `drain fo extra w = .ok visits w2`, `ExactRelVisits w fl fo.filter (fo.rels ++ extra) visits`,
      `qCount w1 q = some visits.length`, `qEntityAt w1 q i = some (some visits[i].e)` below the
      length and `some none` from it on;
    * `EntMatches w f rels i` — the filter's mask test holds of the component set `compsOf w i` of
      the entity AND `targetOf w i c = some tgt` for every relation `⟨c, tgt⟩ ∈ rels`;
    * `LockCycle`, `w.withLocks l`, `FilterOK`, `CIdx`, `RowsAlive`, `CacheInv` as in
      `Ark.Props.C03Exact` / `C05Cache`;
    * `QGood w` — `Good w` (of C04World: `TInv` for some free list, unlocked, no observers) ∧
      `CIdx w` ∧ `RowsAlive w` ∧ the lock invariant with no query open;
    * `Reach run w` — `w` is reached from `NewWorld` by accepted calls of `registerComponent`,
      `NewEntity(ids…, rels…)`, `RemoveEntity` (also of relation targets: `cleanupArchetypes`),
      `SetRelations`, `Add(ids…, rels…)` — each under the hypotheses of its `Good.*` theorem of
      `Ark.Props.C04World` — and by complete iterations of queries (`QueryOK`);
    * `QueryOK w fo extra` — `fo.cache = none`, `FilterOK fo`, `fo.typed → ExtraOK`, `RelsTyped`;
    * `Observed w fo extra w1 q visits` — what the client sees: `opened`, `nodup` (no handle
      twice), `exact` (`e` visited ↔ `w.alive e` ∧ `EntMatches`), `index` (each visit sits at the
      row the index records and reports the handle stored there), `data` (`valOf` = visited
      cell), `targets` (`targetOf` = the visited table's target, zero or alive), `count`,
      `entityAt`, `entityAtOut`. -/

/-! ## 1. any world satisfying the invariant -/

/-- **uncached, every filter object whose mask requires its type parameters** (`UnsafeFilter`,
    `FilterN` with or without `.Relations(…)`), with per-call relations `extra`: the iteration
    succeeds, the world afterwards is the world before up to the lock's bit pool, and the visits
    are exact. -/
theorem drain_rel {w : World} {fl : List Nat} (h : TInv w fl) (hx : CIdx w) (fo : FilterObj)
    (extra : List RelID) (hc : fo.cache = none) (hokf : FilterOK fo)
    (hpre : fo.typed = true → ExtraOK w fo.filter.mask extra)
    (hr : RelsTyped w fo.filter (fo.rels ++ extra))
    {l1 l2 : Lock} {b : Nat} (hL : LockCycle w.locks l1 b l2) :
    ∃ (q : QueryObj) (visits : List Visit),
      RelQueryExactOn w fl fo extra (w.withLocks l1) q visits (w.withLocks l2) :=
  QueryRel.drain_rel h hx fo extra hc hokf hpre hr hL

/-- the untyped walk over all archetypes needs no component index -/
theorem drain_rel_untyped {w : World} {fl : List Nat} (h : TInv w fl) (fo : FilterObj)
    (extra : List RelID) (hc : fo.cache = none) (hu : fo.typed = false ∨ fo.ids = [])
    (hpre : fo.typed = true → ExtraOK w fo.filter.mask extra)
    (hr : RelsTyped w fo.filter (fo.rels ++ extra))
    {l1 l2 : Lock} {b : Nat} (hL : LockCycle w.locks l1 b l2) :
    ∃ (q : QueryObj) (visits : List Visit),
      RelQueryExactOn w fl fo extra (w.withLocks l1) q visits (w.withLocks l2) :=
  QueryRel.drain_rel_untyped h fo extra hc hu hpre hr hL

/-- **the cached variant**: the cache entry lists the tables selected for the filter and the FIXED
    relations; the per-call relations are matched by the cursor. -/
theorem drain_rel_cached {w : World} {fl : List Nat} (h : TInv w fl) (hC : CacheInv w)
    (fo : FilterObj) (extra : List RelID) {id : Nat} {ce : CacheEntry} (hc : fo.cache = some id)
    (he : w.cacheEntry? id = some ce) (hf : ce.filter = fo.filter) (hrl : ce.rels = fo.rels)
    (hpre : fo.typed = true → ExtraOK w fo.filter.mask extra)
    (hr : RelsTyped w fo.filter (fo.rels ++ extra))
    {l1 l2 : Lock} {b : Nat} (hL : LockCycle w.locks l1 b l2) :
    ∃ (q : QueryObj) (visits : List Visit),
      RelQueryExactOn w fl fo extra (w.withLocks l1) q visits (w.withLocks l2) :=
  QueryRel.drain_rel_cached h hC fo extra hc he hf hrl hpre hr hL

/-- **entity-level reading** (with `RowsAlive`): the visited handles are pairwise distinct and are
    exactly the alive entities whose component set passes the filter's mask test and whose
    relation targets are the ones asked for. -/
theorem visited_iff {w : World} {fl : List Nat} {f : Filter} {rels : List RelID}
    {visits : List Visit} (X : ExactRelVisits w fl f rels visits) (h : TInv w fl)
    (hra : RowsAlive w) :
    (visits.map (·.e)).Nodup ∧
    ∀ (e : Ent), e ∈ visits.map (·.e) ↔ w.alive e = true ∧ EntMatches w f rels e.id :=
  X.visited_iff h hra

/-- every reported handle is alive -/
theorem visits_alive {w : World} {fl : List Nat} {f : Filter} {rels : List RelID}
    {visits : List Visit} (X : ExactRelVisits w fl f rels visits) (hra : RowsAlive w) :
    ∀ (v : Visit), v ∈ visits → w.alive v.e = true :=
  X.alive hra

/-- the relation targets the cursor yields are the zero entity or alive -/
theorem yielded_target_ok {w : World} {fl : List Nat} {f : Filter} {rels : List RelID}
    {visits : List Visit} (X : ExactRelVisits w fl f rels visits) (h : TInv w fl)
    {v : Visit} (hv : v ∈ visits) {c : Comp} {g : Ent}
    (hg : (w.tbl v.table).targetAt c = some g) : g.isZero = true ∨ w.alive g = true :=
  X.target_ok h.rel.aux.targets h.freeEmpty hv hg

/-- a query naming a dead (non-zero) target handle visits nothing — also when the ID of the dead
    handle has been recycled (the per-target lookup goes by ID, `Matches` compares handles) -/
theorem dead_target_visits_nothing {w : World} {fl : List Nat} {f : Filter} {rels : List RelID}
    {visits : List Visit} (X : ExactRelVisits w fl f rels visits) (h : TInv w fl)
    {r : RelID} (hr : r ∈ rels) (hz : r.target.isZero = false) (hd : w.alive r.target = false) :
    visits = [] := by
  cases hvs : visits with
  | nil => rfl
  | cons v rest =>
    have hv : v ∈ visits := by rw [hvs]; exact List.mem_cons_self
    obtain ⟨_, _, _, _, _, _, _, _, s9⟩ := X.sound v hv
    have h1 := s9 r hr
    rw [X.targets v hv] at h1
    rcases X.target_ok h.rel.aux.targets h.freeEmpty hv h1 with h2 | h2
    · rw [hz] at h2; cases h2
    · rw [hd] at h2; cases h2

/-- `preCheckTyped` accepts exactly the `ExtraOK` relation lists, leaving the world unchanged … -/
theorem preCheckTyped_ok_iff (m : Mask) (w : World) (extra : List RelID) :
    preCheckTyped m extra w = .ok () w ↔ ExtraOK w m extra :=
  QueryRel.preCheckTyped_ok_iff m w extra

/-- … and a typed query whose per-call relations are not `ExtraOK` is rejected before the lock is
    taken: nothing is visited, the world is unchanged -/
theorem drain_rejected (fo : FilterObj) (extra : List RelID) (w : World) (ht : fo.typed = true)
    (hbad : ¬ ExtraOK w fo.filter.mask extra) :
    ∃ (k : PanicKind), qOpen fo extra w = .panic k w ∧ drain fo extra w = .panic k w :=
  QueryRel.drain_rejected fo extra w ht hbad

/-! ### what the selection is, table by table -/

/-- the storage facts of the cache proofs (C05) hold in relation worlds -/
theorem tablesInv_of_rel {w : World} (h : RelInv w) : TablesInv w := QueryRel.tablesInv_of_rel h

/-- typed relations cannot make `GetTables` / `Matches` hit a nil dereference -/
theorem relsOK_of_typed {w : World} (h : SInvMid w) {f : Filter} {rels : List RelID}
    (hr : RelsTyped w f rels) : RelsOK w f rels := QueryRel.relsOK_of_typed h hr

/-- `Selected` (active table of a matching archetype on which `Matches(relations)` answers yes),
    read off the table: it exists, is not free, its archetype's mask matches and its relation
    columns hold the targets asked for -/
theorem selected_iff_match {w : World} (h : RelInv w) {f : Filter} {rels : List RelID}
    (hr : RelsTyped w f rels) (t : Nat) :
    Selected w f rels t ↔
      t < w.tables.length ∧ (w.tbl t).isFree = false ∧ TblMatch w f rels t :=
  QueryRel.selected_iff_match h hr t

/-! ## 2. over histories -/

/-- **C03 with relation targets, end to end — unregistered filters**: after every history of
    registrations, creations with relation targets, removals (of targets too), `SetRelations`,
    `Add` and queries, a query visits exactly the alive entities that match its filter and its
    relation targets, each once; the data and targets yielded are the entities' own; `Count` and
    `EntityAt` agree with the iteration; the world is unchanged up to the lock's bit pool. -/
theorem reach_query (run : ProbeRunner) {w : World} (r : Reach run w) (fo : FilterObj)
    (extra : List RelID) (hq : QueryOK w fo extra) :
    ∃ (l1 l2 : Lock) (q : QueryObj) (visits : List Visit),
      drain fo extra w = .ok visits (w.withLocks l2) ∧
      Observed w fo extra (w.withLocks l1) q visits := by
  obtain ⟨l1, l2, q, visits, hd, _, ob⟩ := (QueryRel.reach_qgood run r).1.query fo extra hq.uncached
    hq.filterOK hq.extraOK hq.relsTyped
  exact ⟨l1, l2, q, visits, hd, ob⟩

/-- **the same through the filter cache**: in a reached world (no filter is registered there),
    register a filter with fixed relations, then query through the entry with per-call relations -/
theorem reach_query_cached (run : ProbeRunner) {w : World} (r : Reach run w) (f : Filter)
    (rels : List RelID) (hr : RelsTyped w f rels) :
    ∃ (id : Nat) (w' : World), cacheRegister f rels w = .ok id w' ∧
      ∀ (fo : FilterObj) (extra : List RelID), fo.cache = some id → fo.filter = f →
        fo.rels = rels → (fo.typed = true → ExtraOK w' fo.filter.mask extra) →
        RelsTyped w' fo.filter (fo.rels ++ extra) →
        ∃ (l1 l2 : Lock) (q : QueryObj) (visits : List Visit),
          drain fo extra w' = .ok visits (w'.withLocks l2) ∧
          Observed w' fo extra (w'.withLocks l1) q visits := by
  obtain ⟨g, he⟩ := QueryRel.reach_qgood run r
  obtain ⟨w', ce, h1, g', hC', h4, h5, h6, _⟩ :=
    g.cacheRegister he.cacheInv f rels hr (by rw [he.1]; rfl)
  refine ⟨_, w', h1, ?_⟩
  intro fo extra hc hf hrl hpre hrt
  obtain ⟨l1, l2, q, visits, hd, _, _, ob⟩ :=
    g'.query_cached hC' fo extra hc h4 (by rw [h5, hf]) (by rw [h6, hrl]) hpre hrt
  exact ⟨l1, l2, q, visits, hd, ob⟩

/-- the invariant behind it: every reached world is `QGood` and has no registered filter -/
theorem reach_qgood (run : ProbeRunner) {w : World} (r : Reach run w) : QGood w ∧ CacheEmpty w :=
  QueryRel.reach_qgood run r

/-! `QGood` holds initially and is kept by every operation (stated for the operations one by one;
    `Good.*` give the `TInv` part, the lemmas here add `CIdx` and `RowsAlive`) -/

theorem qgood_init (cap rel : Nat) : QGood (World.init cap rel) := QueryRel.qgood_init cap rel
theorem qgood_registerComponent : type_of% @QGood.registerComponent := @QGood.registerComponent
theorem qgood_newEntity : type_of% @QGood.newEntity := @QGood.newEntity
theorem qgood_removeEntity : type_of% @QGood.removeEntity := @QGood.removeEntity
theorem qgood_setRelations : type_of% @QGood.setRelations := @QGood.setRelations
theorem qgood_add : type_of% @QGood.add := @QGood.add

/-- `CIdx` and `RowsAlive` of a concrete world can also be checked directly -/
theorem qgood_of_checks {w : World} (g : Good w) (h1 : cidxB w = true) (h2 : rowsAliveB w = true)
    (h3 : w.locks = {}) : QGood w :=
  ⟨g, cidx_of_check h1, rowsAlive_of_check h2, [], by rw [h3]; exact Lock.linv_init⟩

/-- **a query on a `QGood` world** (unregistered filter): succeeds, changes nothing but the lock's
    bit pool, leaves a `QGood` world, and what the client sees is `Observed`. -/
theorem qgood_query {w : World} (g : QGood w) (fo : FilterObj) (extra : List RelID)
    (hc : fo.cache = none) (hokf : FilterOK fo)
    (hpre : fo.typed = true → ExtraOK w fo.filter.mask extra)
    (hr : RelsTyped w fo.filter (fo.rels ++ extra)) :
    ∃ (l1 l2 : Lock) (q : QueryObj) (visits : List Visit),
      drain fo extra w = .ok visits (w.withLocks l2) ∧ QGood (w.withLocks l2) ∧
      Observed w fo extra (w.withLocks l1) q visits :=
  g.query fo extra hc hokf hpre hr

/-- the same through the filter cache -/
theorem qgood_query_cached {w : World} (g : QGood w) (hC : CacheInv w) (fo : FilterObj)
    (extra : List RelID) {id : Nat} {ce : CacheEntry} (hc : fo.cache = some id)
    (he : w.cacheEntry? id = some ce) (hf : ce.filter = fo.filter) (hrl : ce.rels = fo.rels)
    (hpre : fo.typed = true → ExtraOK w fo.filter.mask extra)
    (hr : RelsTyped w fo.filter (fo.rels ++ extra)) :
    ∃ (l1 l2 : Lock) (q : QueryObj) (visits : List Visit),
      drain fo extra w = .ok visits (w.withLocks l2) ∧ QGood (w.withLocks l2) ∧
      CacheInv (w.withLocks l2) ∧ Observed w fo extra (w.withLocks l1) q visits :=
  g.query_cached hC fo extra hc he hf hrl hpre hr

/-- registering a filter with relations keeps `QGood` and `CacheInv` -/
theorem qgood_cacheRegister {w : World} (g : QGood w) (hC : CacheInv w) (f : Filter)
    (rels : List RelID) (hr : RelsTyped w f rels)
    (hfresh : AL.find? w.cache.indices (w.cache.pool.get).2 = none) :
    ∃ (w' : World) (ce : CacheEntry),
      cacheRegister f rels w = .ok (w.cache.pool.get).2 w' ∧ QGood w' ∧ CacheInv w' ∧
      w'.cacheEntry? (w.cache.pool.get).2 = some ce ∧ ce.filter = f ∧ ce.rels = rels ∧
      w'.entities = w.entities ∧ w'.tables = w.tables ∧ w'.archetypes = w.archetypes ∧
      w'.kinds = w.kinds ∧ w'.pool = w.pool :=
  g.cacheRegister hC f rels hr hfresh

/-! ## 3. a concrete world (the worlds `d7`, `d10` of `Ark.Props.C04World`)

Component 0 = `ChildOf` (relation), component 1 = `Pos`.
`d7`: parents `p1 = ⟨2,0⟩`, `p2 = ⟨3,0⟩` (no components, table 0); children 4, 5 of `p1` (table 1),
child 6 of `p2` (table 2).
`d10`: `p1` has been removed (children 4, 5 now target the zero entity, table 3; table 1 was freed),
a new parent `p3 = ⟨2,1⟩` RE-USES THE ID of `p1`, and its child 7 sits in the recycled table 1. -/

/-- the visits of a complete iteration, as tuples `(entity, table, row)` -/
def vis (fo : FilterObj) (extra : List RelID) (w : World) : Option (List (Ent × Nat × Nat)) :=
  match drain fo extra w with
  | .ok vs _ => some (vs.map fun v => (v.e, v.table, v.row))
  | .panic _ _ => none

/-- `Filter2[ChildOf, Pos]` -/
def foC : FilterObj := { filter := { mask := Mask.ofList [0, 1] }, ids := [0, 1] }
/-- `Filter2[ChildOf, Pos].Relations(RelIdx(0, p1))` -/
def foP1 : FilterObj := { foC with rels := [⟨0, p1⟩] }
/-- `UnsafeFilter` with components `ChildOf, Pos` -/
def fuC : FilterObj := { foC with ids := [], typed := false }

/-- the worlds of `Ark.Props.C04World` are reached by histories: registrations and creations … -/
theorem reach_d2 : Reach noRun d2 :=
  ((Reach.init 2 2).reg _ (by decide +kernel)).reg _ (by decide +kernel)

theorem reach_d3 : Reach noRun d3 := reach_d2.new_of new_d3
theorem reach_d4 : Reach noRun d4 := reach_d3.new_of new_d4
theorem reach_d5 : Reach noRun d5 := reach_d4.new_of new_d5
theorem reach_d6 : Reach noRun d6 := reach_d5.new_of new_d6
theorem reach_d7 : Reach noRun d7 := reach_d6.new_of new_d7

/-- … the removal of the relation target `p1` (with `cleanupArchetypes`) … -/
theorem reach_d8 : Reach noRun d8 := reach_d7.del_of del_d8

/-- … a new parent re-using the ID of `p1`, and a child of it in the recycled table -/
theorem reach_d9 : Reach noRun d9 := reach_d8.new_of new_d9
theorem reach_d10 : Reach noRun d10 := reach_d9.new_of new_d10

/-- `SetRelations` and `Add` with a relation (the worlds `d7s`, `d7a` of `Ark.Props.C04World`) -/
theorem reach_d7s : Reach noRun d7s := reach_d7.setRel_of setRel_d7s

theorem reach_d7a : Reach noRun d7a := reach_d7.add_of add_d7a

theorem qgood_d7 : QGood d7 := (QueryRel.reach_qgood noRun reach_d7).1
theorem qgood_d10 : QGood d10 := (QueryRel.reach_qgood noRun reach_d10).1

theorem filterOK_foC : FilterOK foC := by unfold FilterOK; decide +kernel
theorem filterOK_foP1 : FilterOK foP1 := by unfold FilterOK; decide +kernel
theorem filterOK_fuC : FilterOK fuC := by unfold FilterOK; decide +kernel

/-- the hypotheses of the theorems hold for queries per target on `d7` … -/
example : (foC.typed = true → ExtraOK d7 foC.filter.mask [⟨0, p1⟩]) ∧
    RelsTyped d7 foC.filter (foC.rels ++ [⟨0, p1⟩]) ∧
    (foC.typed = true → ExtraOK d7 foC.filter.mask [⟨0, p2⟩]) ∧
    RelsTyped d7 foC.filter (foC.rels ++ [⟨0, p2⟩]) ∧
    (foP1.typed = true → ExtraOK d7 foP1.filter.mask []) ∧
    RelsTyped d7 foP1.filter (foP1.rels ++ []) ∧
    (foC.typed = true → ExtraOK d7 foC.filter.mask [⟨0, Ent.zero⟩]) ∧
    RelsTyped d7 foC.filter (foC.rels ++ [⟨0, Ent.zero⟩]) := by
  unfold ExtraOK RelsTyped
  decide +kernel

/-- … so the theorem applies: e.g. the children of `p1` -/
example : ∃ (l1 l2 : Lock) (q : QueryObj) (visits : List Visit),
    drain foC [⟨0, p1⟩] d7 = .ok visits (d7.withLocks l2) ∧ QGood (d7.withLocks l2) ∧
    Observed d7 foC [⟨0, p1⟩] (d7.withLocks l1) q visits :=
  have hx : ExtraOK d7 foC.filter.mask [⟨0, p1⟩] := by unfold ExtraOK; decide +kernel
  qgood_d7.query foC [⟨0, p1⟩] rfl filterOK_foC (fun _ => hx) hx.relsTyped

/-- what the queries visit on `d7`: all children; the children of `p1` (per-call relation, or
    fixed in the filter); the child of `p2`; nobody has the zero target -/
example :
    vis foC [] d7 = some [(⟨4, 0⟩, 1, 0), (⟨5, 0⟩, 1, 1), (⟨6, 0⟩, 2, 0)] ∧
    vis foC [⟨0, p1⟩] d7 = some [(⟨4, 0⟩, 1, 0), (⟨5, 0⟩, 1, 1)] ∧
    vis foP1 [] d7 = some [(⟨4, 0⟩, 1, 0), (⟨5, 0⟩, 1, 1)] ∧
    vis fuC [⟨0, p1⟩] d7 = some [(⟨4, 0⟩, 1, 0), (⟨5, 0⟩, 1, 1)] ∧
    vis foC [⟨0, p2⟩] d7 = some [(⟨6, 0⟩, 2, 0)] ∧
    vis foP1 [⟨0, p2⟩] d7 = some [] ∧
    vis foC [⟨0, Ent.zero⟩] d7 = some [] :=
  and_of_decide (and_of_decide of_decide_eq_true) (by decide +kernel)

/-- the data and targets yielded are the entity's: child 5 at `(1, 1)` -/
example : (d7.tbl 1).getComp 1 1 = some 8 ∧ valOf d7 5 1 = some 8 ∧
    (d7.tbl 1).targetAt 0 = some p1 ∧ targetOf d7 5 0 = some p1 ∧
    (d7.tbl 1).targetAt 1 = none ∧ targetOf d7 5 1 = none := by
  decide +kernel

/-- `d10`, after the removal of `p1` and the re-use of its ID by `p3`: the zero target selects
    the orphans 4, 5; `p3` selects its child 7 in the recycled table 1; `p2` still selects 6 -/
example :
    d10.alive p1 = false ∧ d10.alive p3 = true ∧ p1.id = p3.id ∧
    vis foC [] d10 = some [(⟨4, 0⟩, 3, 0), (⟨5, 0⟩, 3, 1), (⟨6, 0⟩, 2, 0), (⟨7, 0⟩, 1, 0)] ∧
    vis foC [⟨0, Ent.zero⟩] d10 = some [(⟨4, 0⟩, 3, 0), (⟨5, 0⟩, 3, 1)] ∧
    vis foC [⟨0, p3⟩] d10 = some [(⟨7, 0⟩, 1, 0)] ∧
    vis foC [⟨0, p2⟩] d10 = some [(⟨6, 0⟩, 2, 0)] := by
  decide +kernel

/-- **the dead, recycled handle `p1`** on `d10`: the per-target lookup (keyed by ID) hands out
    table 1 — the table of `p3` — and `Matches` rejects it (handles differ in the generation).
    A filter that fixed `p1` while it was alive (`foP1`) and the unsafe query visit nothing; the
    typed query is rejected with `deadTarget`, the world unchanged. -/
example :
    (d10.arch 1).getTables [⟨0, p1⟩] = some [1] ∧ (d10.tbl 1).matchesRels [⟨0, p1⟩] = some false ∧
    vis foP1 [] d10 = some [] ∧ vis fuC [⟨0, p1⟩] d10 = some [] ∧
    panicOf (drain foC [⟨0, p1⟩] d10) = some .deadTarget ∧
    ∃ (k : PanicKind), drain foC [⟨0, p1⟩] d10 = .panic k d10 := by
  have ⟨k, _, hk⟩ := drain_rejected foC [⟨0, p1⟩] d10 rfl (by unfold ExtraOK; decide +kernel)
  have h : (d10.arch 1).getTables [⟨0, p1⟩] = some [1] ∧
      (d10.tbl 1).matchesRels [⟨0, p1⟩] = some false ∧
      vis foP1 [] d10 = some [] ∧ vis fuC [⟨0, p1⟩] d10 = some [] ∧
      panicOf (drain foC [⟨0, p1⟩] d10) = some .deadTarget := by decide +kernel
  exact ⟨h.1, h.2.1, h.2.2.1, h.2.2.2.1, h.2.2.2.2, k, hk⟩

/-- the hypotheses hold there too (the fixed relation of `foP1` and the per-call relation of the
    unsafe query name a dead target: `RelsTyped` does not ask for live targets) … -/
example : RelsTyped d10 foP1.filter (foP1.rels ++ []) ∧
    RelsTyped d10 fuC.filter (fuC.rels ++ [⟨0, p1⟩]) ∧ ¬ ExtraOK d10 foC.filter.mask [⟨0, p1⟩] ∧
    (foC.typed = true → ExtraOK d10 foC.filter.mask [⟨0, p3⟩]) ∧
    (foC.typed = true → ExtraOK d10 foC.filter.mask [⟨0, Ent.zero⟩]) := by
  unfold ExtraOK RelsTyped
  decide +kernel

/-- … and the theorems give: nothing visited -/
example : ∃ (l1 l2 : Lock) (q : QueryObj) (visits : List Visit),
    drain foP1 [] d10 = .ok visits (d10.withLocks l2) ∧ QGood (d10.withLocks l2) ∧
    Observed d10 foP1 [] (d10.withLocks l1) q visits :=
  qgood_d10.query foP1 [] rfl filterOK_foP1 (fun _ => by unfold ExtraOK; decide +kernel)
    (by unfold RelsTyped; decide +kernel)

/-- the hypotheses of a query do not read the lock (stated for a variable world: on `d10` the
    elaborator would evaluate the world to compare the two sides); `foC` fixes no relation, so
    `RelsTyped` is the last part of `ExtraOK` -/
theorem _root_.Ark.QueryRel.ExtraOK.withLocks {w : World} {m : Mask} {extra : List RelID}
    (h : ExtraOK w m extra) (l : Lock) : ExtraOK (w.withLocks l) m extra := h

/-- queries can be chained: after one query the world is `QGood` again -/
example : ∃ (l2 l2' : Lock) (v1 v2 : List Visit),
    drain foC [⟨0, p3⟩] d10 = .ok v1 (d10.withLocks l2) ∧
    drain foC [⟨0, Ent.zero⟩] (d10.withLocks l2) = .ok v2 ((d10.withLocks l2).withLocks l2') ∧
    QGood ((d10.withLocks l2).withLocks l2') := by
  have hx : ExtraOK d10 foC.filter.mask [⟨0, p3⟩] ∧ ExtraOK d10 foC.filter.mask [⟨0, Ent.zero⟩] := by
    unfold ExtraOK; decide +kernel
  obtain ⟨_, l2, _, v1, h1, g1, _⟩ := qgood_d10.query foC [⟨0, p3⟩] rfl filterOK_foC
    (fun _ => hx.1) hx.1.relsTyped
  obtain ⟨_, l2', _, v2, h2, g2, _⟩ := g1.query foC [⟨0, Ent.zero⟩] rfl filterOK_foC
    (fun _ => hx.2.withLocks l2) (hx.2.withLocks l2).relsTyped
  exact ⟨l2, l2', v1, v2, h1, h2, g2⟩

/-! ### the history-level theorems applied -/

/-- `Filter1[ChildOf]` -/
def foR : FilterObj := { filter := { mask := Mask.ofList [0] }, ids := [0] }

/-- what the theorems below ask of `d10`, decided together: the per-call relation `p3` and the
    fixed relation `p2` fit the filter; the cache pool hands out ID 0, and no filter is registered
    under it -/
theorem d10_facts : ExtraOK d10 foC.filter.mask [⟨0, p3⟩] ∧ RelsTyped d10 foC.filter [⟨0, p2⟩] ∧
    AL.find? d10.cache.indices (d10.cache.pool.get).2 = none ∧ (d10.cache.pool.get).2 = 0 := by
  unfold ExtraOK RelsTyped
  decide +kernel

theorem queryOK_d10_p3 : QueryOK d10 foC [⟨0, p3⟩] :=
  ⟨rfl, filterOK_foC, fun _ => d10_facts.1, d10_facts.1.relsTyped⟩

/-- `reach_query` on the history of `d10`; the query is itself a step of a history -/
example : (∃ (l1 l2 : Lock) (q : QueryObj) (visits : List Visit),
      drain foC [⟨0, p3⟩] d10 = .ok visits (d10.withLocks l2) ∧
      Observed d10 foC [⟨0, p3⟩] (d10.withLocks l1) q visits) ∧
    Reach noRun (drain foC [⟨0, p3⟩] d10).state :=
  ⟨reach_query noRun reach_d10 foC [⟨0, p3⟩] queryOK_d10_p3,
   reach_d10.query foC [⟨0, p3⟩] queryOK_d10_p3⟩

/-- `reach_query_cached` on the history of `d10`: its hypothesis holds -/
example : RelsTyped d10 foC.filter [⟨0, p2⟩] := d10_facts.2.1

/-- after `SetRelations` (child 6 re-targeted to `p1`) and after `Add` (parent `p2` becomes a
    child of `p1`, without `Pos`): the queries per target see the new targets -/
example :
    vis foC [⟨0, p1⟩] d7s = some [(⟨4, 0⟩, 1, 0), (⟨5, 0⟩, 1, 1), (⟨6, 0⟩, 1, 2)] ∧
    vis foC [⟨0, p2⟩] d7s = some [] ∧
    vis foR [⟨0, p1⟩] d7a = some [(⟨4, 0⟩, 1, 0), (⟨5, 0⟩, 1, 1), (⟨3, 0⟩, 3, 0)] ∧
    vis foC [⟨0, p1⟩] d7a = some [(⟨4, 0⟩, 1, 0), (⟨5, 0⟩, 1, 1)] := by
  decide +kernel

example : QueryOK d7s foC [⟨0, p1⟩] ∧ QueryOK d7a foR [⟨0, p1⟩] := by
  have hs : ExtraOK d7s foC.filter.mask [⟨0, p1⟩] := by unfold ExtraOK; decide +kernel
  have ha : ExtraOK d7a foR.filter.mask [⟨0, p1⟩] := by unfold ExtraOK; decide +kernel
  exact ⟨⟨rfl, filterOK_foC, fun _ => hs, hs.relsTyped⟩,
    ⟨rfl, by unfold FilterOK; decide +kernel, fun _ => ha, ha.relsTyped⟩⟩

/-! ### through the filter cache -/

/-- `Filter2[ChildOf, Pos].Relations(RelIdx(0, p2)).Register()` on `d10` -/
def d10c : World := (cacheRegister foC.filter [⟨0, p2⟩] d10).state
def foP2c : FilterObj := { foC with rels := [⟨0, p2⟩], cache := some 0 }
/-- `Filter2[ChildOf, Pos].Register()` on `d10`, queried with per-call relations -/
def d10d : World := (cacheRegister foC.filter [] d10).state
def foCc : FilterObj := { foC with cache := some 0 }

theorem cacheInv_d10 : CacheInv d10 := (reach_qgood noRun reach_d10).2.cacheInv

/-- the hypotheses of the cached variant are satisfiable: registration succeeds and yields a
    `QGood` world with `CacheInv` and the entry -/
theorem qgood_d10c : QGood d10c ∧ CacheInv d10c ∧
    ∃ (ce : CacheEntry), d10c.cacheEntry? 0 = some ce ∧ ce.filter = foC.filter ∧
      ce.rels = [⟨0, p2⟩] := by
  obtain ⟨w', ce, h1, h2, h3, h4, h5, h6, _⟩ := qgood_d10.cacheRegister cacheInv_d10 foC.filter
    [⟨0, p2⟩] d10_facts.2.1 d10_facts.2.2.1
  have hw : d10c = w' := by unfold d10c; rw [h1]; rfl
  rw [d10_facts.2.2.2] at h4
  rw [hw]
  exact ⟨h2, h3, ce, h4, h5, h6⟩

theorem qgood_d10d : QGood d10d ∧ CacheInv d10d ∧
    ∃ (ce : CacheEntry), d10d.cacheEntry? 0 = some ce ∧ ce.filter = foC.filter ∧ ce.rels = [] := by
  obtain ⟨w', ce, h1, h2, h3, h4, h5, h6, _⟩ := qgood_d10.cacheRegister cacheInv_d10 foC.filter
    [] (RelsTyped.nil _ _) d10_facts.2.2.1
  have hw : d10d = w' := by unfold d10d; rw [h1]; rfl
  rw [d10_facts.2.2.2] at h4
  rw [hw]
  exact ⟨h2, h3, ce, h4, h5, h6⟩

/-- the cached theorem applies (fixed relation in the entry; per-call relation on the entry of
    the relation-free registration) -/
example : (∃ (l1 l2 : Lock) (q : QueryObj) (visits : List Visit),
      drain foP2c [] d10c = .ok visits (d10c.withLocks l2) ∧ QGood (d10c.withLocks l2) ∧
      CacheInv (d10c.withLocks l2) ∧ Observed d10c foP2c [] (d10c.withLocks l1) q visits) ∧
    (∃ (l1 l2 : Lock) (q : QueryObj) (visits : List Visit),
      drain foCc [⟨0, p3⟩] d10d = .ok visits (d10d.withLocks l2) ∧ QGood (d10d.withLocks l2) ∧
      CacheInv (d10d.withLocks l2) ∧ Observed d10d foCc [⟨0, p3⟩] (d10d.withLocks l1) q visits) := by
  obtain ⟨g1, c1, ce1, e1, f1, r1⟩ := qgood_d10c
  obtain ⟨g2, c2, ce2, e2, f2, r2⟩ := qgood_d10d
  have hx : ExtraOK d10d foCc.filter.mask [⟨0, p3⟩] := by unfold ExtraOK; decide +kernel
  exact ⟨g1.query_cached c1 foP2c [] rfl e1 f1 r1 (fun _ => nofun)
      (by unfold RelsTyped; decide +kernel),
    g2.query_cached c2 foCc [⟨0, p3⟩] rfl e2 f2 r2 (fun _ => hx) hx.relsTyped⟩

/-- the entry for the fixed relation lists table 2 only; the relation-free entry lists the three
    active relation tables and the cursor filters them by the per-call relation -/
example :
    (d10c.cacheEntry? 0).map (·.tables.tables) = some [2] ∧
    vis foP2c [] d10c = some [(⟨6, 0⟩, 2, 0)] ∧
    (d10d.cacheEntry? 0).map (·.tables.tables) = some [3, 2, 1] ∧
    vis foCc [⟨0, p3⟩] d10d = some [(⟨7, 0⟩, 1, 0)] ∧
    vis foCc [⟨0, Ent.zero⟩] d10d = some [(⟨4, 0⟩, 3, 0), (⟨5, 0⟩, 3, 1)] ∧
    vis foCc [] d10d = some [(⟨4, 0⟩, 3, 0), (⟨5, 0⟩, 3, 1), (⟨6, 0⟩, 2, 0), (⟨7, 0⟩, 1, 0)] := by
  decide +kernel

/-! ## 4. findings: the hypothesis `RelsTyped` is necessary (unsafe API)

`UnsafeFilter.Query(rel…)` converts its relations with `ToRelationIDsForUnsafe`, which checks
NOTHING (not that the component is a relation, not that the filter requires it, not the target).
`Matches(relations)` answers yes on every table without relation columns, and `GetTables` /
`Matches` index by the relation's component without checking that the archetype has it. -/

/-- `UnsafeFilter` over all entities -/
def fuAll : FilterObj := { filter := {}, typed := false }

/-- (a) a relation component the filter does not require: the query `ChildOf → p1` over all
    entities also yields the parents `p1`, `p2` THEMSELVES, which have no `ChildOf` relation
    (their archetype has no relation column, so `Matches` is vacuous) -/
theorem relsTyped_necessary_sound :
    ¬ RelsTyped d7 fuAll.filter [⟨0, p1⟩] ∧
    vis fuAll [⟨0, p1⟩] d7 =
      some [(⟨2, 0⟩, 0, 0), (⟨3, 0⟩, 0, 1), (⟨4, 0⟩, 1, 0), (⟨5, 0⟩, 1, 1)] ∧
    targetOf d7 2 0 = none ∧ targetOf d7 3 0 = none := by
  unfold RelsTyped; decide +kernel

/-- a second relation component `Likes` (2) and an entity `⟨7,0⟩` that likes `p2` -/
def e2 : World :=
  let w := (registerComponent { isRel := true } d7).state
  (opNewEntity noRun .unsafe_ [2] [] [⟨2, p2⟩] w).state

/-- (b) … and when some matching archetype has relation columns but not the component named, the
    query PANICS in the middle of the iteration (Go: `relationTables[-1]`, index out of range),
    while the same query without relations runs -/
theorem relsTyped_necessary_panic :
    ¬ RelsTyped e2 fuAll.filter [⟨0, p1⟩] ∧
    (match drain fuAll [⟨0, p1⟩] e2 with
     | .panic k _ => k == .runtime
     | .ok _ _ => false) = true ∧
    vis fuAll [] e2 = some [(⟨2, 0⟩, 0, 0), (⟨3, 0⟩, 0, 1), (⟨4, 0⟩, 1, 0), (⟨5, 0⟩, 1, 1),
      (⟨6, 0⟩, 2, 0), (⟨7, 0⟩, 3, 0)] := by
  unfold RelsTyped; decide +kernel

/-- (c) a non-relation component with the zero target, not in first position: `Matches` compares
    the zero target with the (zero) target slot of the non-relation column `Pos` and answers yes,
    although `Pos` has no target -/
theorem relsTyped_necessary_nonrel :
    ¬ RelsTyped d7 fuC.filter [⟨0, p1⟩, ⟨1, Ent.zero⟩] ∧
    vis fuC [⟨0, p1⟩, ⟨1, Ent.zero⟩] d7 = some [(⟨4, 0⟩, 1, 0), (⟨5, 0⟩, 1, 1)] ∧
    targetOf d7 4 1 = none := by
  unfold RelsTyped; decide +kernel

end Ark.Props.C03Rel
