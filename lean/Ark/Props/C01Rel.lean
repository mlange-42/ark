/-
  Ark.Props.C01Rel — C01 (faithful store) and C15 (Shrink is invisible) over histories of fewer than
  `2^16` operations for the observer-free fragment WITH relation components, when the entity operations are
  interleaved with `Shrink`, `Reset`, filter definitions, registrations, unregistrations and
  queries (the machine `Ark.RelRefine2.step2` with the operations `Op2`,
  Ark/Proofs/RelRefine2Machine.lean).

  The abstract specification is that of `Ark.RelRefine` (C04): alive handle ↦ (component ↦ value,
  relation component ↦ target).  The entity operations move it as `RelRefine.specStep` says;
  `copy e` (`CopyEntity`, which `RelRefine` does not have) adds the entry of `e` a second time under
  the handle returned (`copy_assigns`: components, values AND relation targets are those of `e`);
  `Shrink`, the filter operations and queries do not move it at all (`quiet_keeps_spec`), and they
  change no entity's components, values or relation targets (`quiet_is_invisible`); `reset` empties
  it and starts a new epoch of handles (`reset_effect`), as in `Ark.Refine`.
-/
import Ark.Props.C05Rel

set_option autoImplicit false

namespace Ark.Props.C01Rel
open Ark Ark.World Ark.RelRefine Ark.RelRefine2 Ark.Props.C01World
open Ark.Refine (Comps keys sortedIds)

variable (run : ProbeRunner) (cap rel : Nat)

/-- **refines** — after every history (`Reset` anywhere in it), for every entry `(e, en)` of the
    specification: `e` is alive, its component set is the sorted list of the keys of `en.comps`,
    every component holds the recorded value, every relation component has the recorded target;
    the recorded relations are exactly the relation components among the keys -/
theorem refines (ops : List Op2) (hlen : ops.length < 2 ^ 16) (e : Ent) (en : Entry)
    (hm : (e, en) ∈ (reach2 run cap rel ops).ss.ents) :
    (reach2 run cap rel ops).w.alive e = true ∧
    compsOf (reach2 run cap rel ops).w e.id =
      some (sortedIds (reach2 run cap rel ops).w.kinds.length (keys en.comps)) ∧
    (∀ cv ∈ en.comps, valOf (reach2 run cap rel ops).w e.id cv.1 = some cv.2) ∧
    (∀ r ∈ en.rels, targetOf (reach2 run cap rel ops).w e.id r.comp = some r.target) ∧
    (keys en.comps).Nodup ∧ (en.rels.map (·.comp)).Nodup ∧
    (∀ c : Comp, c ∈ en.rels.map (·.comp) ↔
      c ∈ keys en.comps ∧ (reach2 run cap rel ops).w.isRelComp c = true) := by
  obtain ⟨fl, H⟩ := reach2_inv run cap rel ops hlen
  obtain ⟨_, ha, _⟩ := H.base.live_facts hm
  have ok := H.base.ok e en hm
  exact ⟨ha, ok.comps, ok.vals, ok.tgts, ok.nodup, ok.relNodup,
    fun c => by rw [ok.relKeys c, H.base.rget]⟩

theorem alive_iff_specified (ops : List Op2) (hlen : ops.length < 2 ^ 16) (h : Ent)
    (hi : h ∈ (reach2 run cap rel ops).issued) :
    (reach2 run cap rel ops).w.alive h = true ↔
      (find (reach2 run cap rel ops).ss.ents h).isSome = true := by
  obtain ⟨fl, H⟩ := reach2_inv run cap rel ops hlen
  constructor
  · intro ha
    obtain ⟨en, hf, _⟩ := H.base.find_of_alive hi ha
    rw [hf]; rfl
  · exact H.base.alive_of_find

/-- **`Reset` ends the epoch** (C16 over histories with relations): after `ops ++ [reset]` the
    specification has no entity, the registry is kept, nothing counts as issued, no ID is indexed
    to a table (no component set, value or relation target can be read), the cache is empty, every
    filter object is unregistered, and every handle issued before is dead -/
theorem reset_effect (ops : List Op2) (hlen : ops.length + 1 < 2 ^ 16) :
    (reach2 run cap rel (ops ++ [.reset])).ss.ents = [] ∧
    (reach2 run cap rel (ops ++ [.reset])).ss.zst = (reach2 run cap rel ops).ss.zst ∧
    (reach2 run cap rel (ops ++ [.reset])).ss.isRel = (reach2 run cap rel ops).ss.isRel ∧
    (reach2 run cap rel (ops ++ [.reset])).issued = [] ∧
    (reach2 run cap rel (ops ++ [.reset])).w.kinds = (reach2 run cap rel ops).w.kinds ∧
    (∀ (i : Nat), compsOf (reach2 run cap rel (ops ++ [.reset])).w i = none ∧
      (∀ (c : Comp), valOf (reach2 run cap rel (ops ++ [.reset])).w i c = none) ∧
      ∀ (c : Comp), targetOf (reach2 run cap rel (ops ++ [.reset])).w i c = none) ∧
    ((reach2 run cap rel (ops ++ [.reset])).w.cache.indices = [] ∧
      (reach2 run cap rel (ops ++ [.reset])).w.cache.filters = []) ∧
    (∀ (f : Nat) (fo : FilterObj),
      AL.find? (reach2 run cap rel (ops ++ [.reset])).w.filters f = some fo → fo.cache = none) ∧
    ∀ (h : Ent), h ∈ (reach2 run cap rel ops).issued →
      (reach2 run cap rel (ops ++ [.reset])).w.alive h = false :=
  C05Rel.reset_effect run cap rel ops hlen

/-- no handle that was issued carries the sentinel generation `MaxUint32` -/
theorem issued_gen_bound (ops : List Op2) (hlen : ops.length < 2 ^ 16) :
    ∀ (h : Ent), h ∈ (reach2 run cap rel ops).issued → h.gen ≤ ops.length ∧ h.gen ≠ maxU32 :=
  C05Rel.issued_gen_bound run cap rel ops hlen

theorem quiet_keeps_spec (s : St) (op : Op2) (hq : op.isQuiet = true) :
    (step2 run s op).ss = s.ss ∧ (step2 run s op).issued = s.issued := by
  cases op with
  | base op => cases hq
  | copy e => cases hq
  | reset => cases hq
  | shrink b => exact ⟨rfl, rfl⟩
  | fdef f fo => simp only [step2]; split <;> exact ⟨rfl, rfl⟩
  | freg f => exact ⟨rfl, rfl⟩
  | funreg f => exact ⟨rfl, rfl⟩
  | query f extra => simp only [step2]; split <;> exact ⟨rfl, rfl⟩

/-- **`Shrink` (C15), the filter operations and queries are invisible**: no entity — alive or
    not — changes components, values or relation targets; aliveness of every handle is unchanged -/
theorem quiet_is_invisible {s : St} {fl : List Nat} (H : HInv2 s fl)
    (hent : 2 * s.w.entities.length < 2 ^ 32) (op : Op2) (hq : op.isQuiet = true) (j : Nat) :
    (SameEnt s.w (step2 run s op).w j ∧
      ∀ (c : Comp), targetOf (step2 run s op).w j c = targetOf s.w j c) ∧
    ∀ (h : Ent), (step2 run s op).w.alive h = s.w.alive h := by
  have cf : ∀ {w' : World}, SameButCF s.w w' →
      (SameEnt s.w w' j ∧ ∀ (c : Comp), targetOf w' j c = targetOf s.w j c) ∧
      ∀ (h : Ent), w'.alive h = s.w.alive h := by
    intro w' hs
    obtain ⟨h1, h2, _, _, _, _, h7, _⟩ := sameButCF_fields hs
    exact ⟨same_of_tables h2 h1 j, fun h => by simp only [World.alive, h7]⟩
  cases op with
  | base op => cases hq
  | copy e => cases hq
  | reset => cases hq
  | shrink bounded =>
    obtain ⟨hstep, _, hrel⟩ := step2_shrink_eq run H hent bounded
    rw [hstep]
    exact ⟨⟨⟨fun c => hrel.valOf j c, hrel.compsOf j⟩, fun c => shrinkRel_targetOf hrel j c⟩,
      fun h => hrel.alive h⟩
  | fdef f fo =>
    simp only [step2]
    split
    · exact cf (defFilter_sameButCF f fo s.w).1
    · exact cf (SameButCF.refl _)
  | freg f => exact cf (H.finv.filterRegister H.base.tinv f).2.1
  | funreg f => exact cf (H.finv.filterUnregister H.base.tinv f).2.1
  | query f extra =>
    rcases step2_query_eq run H f extra with h | ⟨l2, _, h⟩ <;> rw [h] <;>
      exact ⟨same_of_tables rfl rfl j, fun _ => rfl⟩

/-- `Shrink` as a step of the relation machine: the invariant (hence refinement) is kept with
    the specification unchanged -/
theorem shrink_step {s : St} {fl : List Nat} (H : HInv2 s fl)
    (hent : 2 * s.w.entities.length < 2 ^ 32) (bounded : Bool) :
    (∃ fl', HInv2 (step2 run s (.shrink bounded)) fl') ∧
    (step2 run s (.shrink bounded)).ss = s.ss :=
  ⟨C05Rel.shrink_keeps run H hent bounded, (quiet_keeps_spec run s (.shrink bounded) rfl).1⟩

/-- **`copy e` assigns**: for a handle the client holds whose entry is `en`, `CopyEntity`
    succeeds and returns the pool's next handle; the specification gets `en` a second time under
    that handle; in the world the copy has exactly the components, values and relation targets
    of `e`, and no other entity changes -/
theorem copy_assigns {s : St} {fl : List Nat} (H : HInv2 s fl)
    (hent : 2 * s.w.entities.length < 2 ^ 32) {e : Ent} {en : Entry} (hi : e ∈ s.issued)
    (hf : find s.ss.ents e = some en) :
    (step2 run s (.copy e)).ss.ents = ((s.w.pool.get).2, en) :: s.ss.ents ∧
    (step2 run s (.copy e)).issued = (s.w.pool.get).2 :: s.issued ∧
    opCopyEntity run e s.w = .ok (s.w.pool.get).2 (step2 run s (.copy e)).w ∧
    compsOf (step2 run s (.copy e)).w (s.w.pool.get).2.id = compsOf s.w e.id ∧
    (∀ (c : Comp), valOf (step2 run s (.copy e)).w (s.w.pool.get).2.id c = valOf s.w e.id c) ∧
    (∀ (c : Comp), targetOf (step2 run s (.copy e)).w (s.w.pool.get).2.id c = targetOf s.w e.id c) ∧
    ∀ (j : Nat), j ≠ (s.w.pool.get).2.id →
      SameEnt s.w (step2 run s (.copy e)).w j ∧
      ∀ (c : Comp), targetOf (step2 run s (.copy e)).w j c = targetOf s.w j c := by
  have hm := find_some_mem hf
  obtain ⟨_, ha, h2, hnf, _, _⟩ := H.base.live_facts hm
  obtain ⟨w', hop, post⟩ := opCopyEntity_rel_spec run H.base.tinv H.base.unlocked H.base.noObs h2
    hnf ha (H.base.issued_in hi) (by omega)
  have hstep : step2 run s (.copy e) =
      ⟨w', (s.w.pool.get).2 :: s.issued,
        ⟨((s.w.pool.get).2, en) :: s.ss.ents, s.ss.zst, s.ss.isRel⟩⟩ := by
    simp only [step2, decide_eq_true_eq, if_pos hi, hop, hf]
  rw [hstep]
  exact ⟨rfl, rfl, hop, post.comps, post.vals, post.targets, post.frame⟩

/-- `copy e` on a handle that is not alive is rejected without effect -/
theorem copy_rejected {s : St} {fl : List Nat} (H : HInv2 s fl) {e : Ent}
    (ha : s.w.alive e = false) : step2 run s (.copy e) = s := by
  by_cases hi : e ∈ s.issued
  · simp only [step2, decide_eq_true_eq, if_pos hi,
      opCopyEntity_dead run s.w H.base.unlocked e ha]
  · simp only [step2, decide_eq_true_eq, if_neg hi]

/-- `CopyEntity` at world level, in a world with relations: never fails for a live entity -/
theorem copyEntity_rel {w : World} {fl : List Nat} (h : TInv w fl)
    (hl : w.isLocked = false) (hno : ∀ (evt : Nat), w.obs.hasObservers evt = false) {src : Ent}
    (h2 : 2 ≤ src.id) (hnf : src.id ∉ fl) (ha : w.alive src = true) (hsl : src.id < w.pool.ents.length)
    (hrows : w.entities.length + 1 < 2 ^ 32) :
    ∃ (w' : World), opCopyEntity run src w = .ok (w.pool.get).2 w' ∧
      CopyRelPost w fl src (w.pool.get).2 w' :=
  opCopyEntity_rel_spec run h hl hno h2 hnf ha hsl hrows

open Ark.Props.C05Rel

/-- the model agrees with the specification entry by entry (decidable form of `refines`) -/
def agrees (s : St) : Bool :=
  s.ss.ents.all fun x =>
    s.w.alive x.1 && (compsOf s.w x.1.id == some (sortedIds s.w.kinds.length (keys x.2.comps))) &&
      (x.2.comps.all fun cv => valOf s.w x.1.id cv.1 == some cv.2) &&
      (x.2.rels.all fun r => targetOf s.w x.1.id r.comp == some r.target)

/-- non-vacuity, on the history `demoOps` of `Ark.Props.C05Rel`: the specification at its end
    (children 4, 5 detached from the removed parent `2.0`; the new child `6.1` of the new parent
    `2.1`), and the model agrees with it — also right after `Shrink` -/
example :
    (reach2 noRun 2 2 demoOps).ss.ents =
      [(⟨6, 1⟩, ⟨[(0, 0), (1, 5)], [⟨0, p3⟩]⟩), (p3, ⟨[], []⟩),
       (⟨5, 0⟩, ⟨[(0, 0), (1, 8)], [⟨0, Ent.zero⟩]⟩), (⟨4, 0⟩, ⟨[(0, 0), (1, 7)], [⟨0, Ent.zero⟩]⟩),
       (p2, ⟨[], []⟩)] ∧
    agrees (reach2 noRun 2 2 demoOps) = true ∧
    agrees (reach2 noRun 2 2 (demoOps.take 16)) = true ∧
    (reach2 noRun 2 2 (demoOps.take 16)).ss.ents = (reach2 noRun 2 2 (demoOps.take 15)).ss.ents := by
  decide +kernel

/-- the quiet operations of the history, and the size bound of `quiet_is_invisible` -/
example :
    (demoOps.map (·.isQuiet)) =
      [false, false, false, false, true, true, true, true, true, true, false, false, false, true,
       false, true, false, false, false, true, true] ∧
    2 * (reach2 noRun 2 2 (demoOps.take 15)).w.entities.length < 2 ^ 32 := by
  decide +kernel

/-- `copy 6.1` in the final state (the child of `2.1`): the copy `7.0` is a child of `2.1` too
    with the same `Pos`; the specification and the model agree; the cache entry of filter 1 still
    lists the copy's table; copying the dead handle `2.0` changes nothing -/
example :
    (⟨6, 1⟩ : Ent) ∈ (reach2 noRun 2 2 demoOps).issued ∧
    find (reach2 noRun 2 2 demoOps).ss.ents ⟨6, 1⟩ = some ⟨[(0, 0), (1, 5)], [⟨0, p3⟩]⟩ ∧
    ((step2 noRun (reach2 noRun 2 2 demoOps) (.copy ⟨6, 1⟩)).ss.ents.head?) =
      some (⟨7, 0⟩, ⟨[(0, 0), (1, 5)], [⟨0, p3⟩]⟩) ∧
    agrees (step2 noRun (reach2 noRun 2 2 demoOps) (.copy ⟨6, 1⟩)) = true ∧
    (targetOf (step2 noRun (reach2 noRun 2 2 demoOps) (.copy ⟨6, 1⟩)).w 7 0,
      valOf (step2 noRun (reach2 noRun 2 2 demoOps) (.copy ⟨6, 1⟩)).w 7 1) = (some p3, some 5) ∧
    cacheSummary (step2 noRun (reach2 noRun 2 2 demoOps) (.copy ⟨6, 1⟩)).w =
      [(2, [⟨0, Ent.zero⟩], [2]), (1, [], [2, 1])] ∧
    (reach2 noRun 2 2 demoOps).w.alive p1 = false ∧
    (step2 noRun (reach2 noRun 2 2 demoOps) (.copy p1)).ss.ents =
      (reach2 noRun 2 2 demoOps).ss.ents := by
  decide +kernel

/-- the history with `Reset` of `Ark.Props.C05Rel` (`resetOps`): the model agrees with the
    specification right after `Reset` (nothing to agree on), in the new epoch — the child `4.0` of
    the re-issued parent `2.0` sits in the recycled relation table — and at the end, where the
    child is detached from the removed parent -/
example :
    (reach2 noRun 2 2 (resetOps.take 22)).ss.ents = [] ∧
    agrees (reach2 noRun 2 2 (resetOps.take 27)) = true ∧
    (reach2 noRun 2 2 (resetOps.take 27)).ss.ents =
      [(⟨4, 0⟩, ⟨[(0, 0), (1, 7)], [⟨0, p1⟩]⟩), (p2, ⟨[], []⟩), (p1, ⟨[], []⟩)] ∧
    agrees (reach2 noRun 2 2 resetOps) = true ∧
    (reach2 noRun 2 2 resetOps).ss.ents =
      [(⟨6, 0⟩, ⟨[(0, 0), (1, 3)], [⟨0, Ent.zero⟩]⟩), (⟨5, 0⟩, ⟨[(0, 0), (1, 9)], [⟨0, p2⟩]⟩),
       (⟨4, 0⟩, ⟨[(0, 0), (1, 7)], [⟨0, Ent.zero⟩]⟩), (p2, ⟨[], []⟩)] ∧
    resetOps.length < 2 ^ 16 := by
  decide +kernel

end Ark.Props.C01Rel
