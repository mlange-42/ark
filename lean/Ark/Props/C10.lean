import Ark.Proofs.Rejects
import Ark.Generated.FactsLock
import Ark.Generated.FactsAlive
import Ark.Props.C10Rel

namespace Ark.Props.C10
open Ark

/-! C10 — precondition violations are rejected, not absorbed. -/

/-- T2 (regenerated from the source): every method that takes an `Entity` checks `Alive`, or
    delegates to a checked core operation, before it first reads the entity index. -/
theorem alive_checked_before_use : Generated.aliveGuards.all (·.2) = true := by decide +kernel

/-- the API surface that was inspected is not empty and covers all generated arities -/
theorem alive_guard_surface : Generated.aliveGuards.length ≥ 150 := by decide +kernel

/-- T2: every structural entry point starts with the lock check. -/
theorem lock_checked_first : (∀ p ∈ Generated.lockFirst, p.2 = true) ∧ (∀ p ∈ Generated.newBatchLockFirst, p.2 = true) ∧
    Generated.lockFirst.length = 15 ∧ Generated.newBatchLockFirst.length = 13 := by decide

/-- add on a dead handle: panic, state unchanged -/
theorem addCore_dead : type_of% @World.addCore_dead := @World.addCore_dead

/-- remove on a dead handle: panic, state unchanged -/
theorem removeCore_dead : type_of% @World.removeCore_dead := @World.removeCore_dead

/-- exchange on a dead handle: panic, state unchanged -/
theorem exchangeCore_dead : type_of% @World.exchangeCore_dead := @World.exchangeCore_dead

/-- set relations on a dead handle: panic, state unchanged -/
theorem setRelationsCore_dead : type_of% @World.setRelationsCore_dead := @World.setRelationsCore_dead

/-- removing a dead handle: panic, state unchanged -/
theorem opRemoveEntity_dead : type_of% @World.opRemoveEntity_dead := @World.opRemoveEntity_dead

/-- copying a dead handle: panic, state unchanged (repaired defect D4) -/
theorem opCopyEntity_dead : type_of% @World.opCopyEntity_dead := @World.opCopyEntity_dead

/-- Set on a dead handle: panic, state unchanged -/
theorem opSet_dead : type_of% @World.opSet_dead := @World.opSet_dead

/-- adding no components: panic, state unchanged -/
theorem addCore_noComponents : type_of% @World.addCore_noComponents := @World.addCore_noComponents

/-- removing no components: panic, state unchanged -/
theorem removeCore_noComponents : type_of% @World.removeCore_noComponents := @World.removeCore_noComponents

/-- exchanging nothing: panic, state unchanged -/
theorem exchangeCore_noComponents : type_of% @World.exchangeCore_noComponents := @World.exchangeCore_noComponents

/-- no relations given: panic, state unchanged -/
theorem setRelationsCore_noRelations : type_of% @World.setRelationsCore_noRelations := @World.setRelationsCore_noRelations

/-- the mask walk of an addition whose first component is already set: panic, state unchanged -/
theorem graphFindAdd_already : type_of% @World.graphFindAdd_already := @World.graphFindAdd_already

/-- the mask walk of a removal whose first component is not set: panic, state unchanged -/
theorem graphFindRemove_missing : type_of% @World.graphFindRemove_missing := @World.graphFindRemove_missing

/-- changing a locked world: panic, state unchanged -/
theorem addCore_locked : type_of% @World.addCore_locked := @World.addCore_locked

/-- changing a locked world: panic, state unchanged -/
theorem opRemoveEntity_locked : type_of% @World.opRemoveEntity_locked := @World.opRemoveEntity_locked


/-! ### Relation arguments are validated first, on every access path (Props/C10Rel; repairs D24 and D26) -/

/-- the pre-validation of relation arguments returns the unchanged world, and its panic class is that of the first failing relation (order: target, relation component, membership) — typed, Map and ID-based path -/
theorem rel_preCheck_is_verdict : type_of% @Ark.Props.C10Rel.preCheck_is_verdict := @Ark.Props.C10Rel.preCheck_is_verdict

/-- a relation passes iff its target is zero or alive, its component is a relation component and (where asked) it is among the components of the call -/
theorem rel_relation_passes_iff : type_of% @Ark.Props.C10Rel.relation_passes_iff := @Ark.Props.C10Rel.relation_passes_iff

/-- NewEntity with a refused relation list: exactly `panic k`, world unchanged — no hypothesis on the world -/
theorem rel_newEntity_refused : type_of% @Ark.Props.C10Rel.newEntity_refused := @Ark.Props.C10Rel.newEntity_refused

/-- Add with a refused relation list: exactly `panic k`, world unchanged -/
theorem rel_add_refused : type_of% @Ark.Props.C10Rel.add_refused := @Ark.Props.C10Rel.add_refused

/-- Exchange with a refused relation list: exactly `panic k`, world unchanged -/
theorem rel_exchange_refused : type_of% @Ark.Props.C10Rel.exchange_refused := @Ark.Props.C10Rel.exchange_refused

/-- SetRelations with a refused relation list: exactly `panic k`, world unchanged -/
theorem rel_setRelations_refused : type_of% @Ark.Props.C10Rel.setRelations_refused := @Ark.Props.C10Rel.setRelations_refused

/-- **naming a removed entity as target always panics, world unchanged** — NewEntity, every path -/
theorem rel_newEntity_removed_target : type_of% @Ark.Props.C10Rel.newEntity_removed_target := @Ark.Props.C10Rel.newEntity_removed_target

/-- … Add, every path (a dead entity handle is reported first) -/
theorem rel_add_removed_target : type_of% @Ark.Props.C10Rel.add_removed_target := @Ark.Props.C10Rel.add_removed_target

/-- … Exchange, every path -/
theorem rel_exchange_removed_target : type_of% @Ark.Props.C10Rel.exchange_removed_target := @Ark.Props.C10Rel.exchange_removed_target

/-- … SetRelations, every path -/
theorem rel_setRelations_removed_target : type_of% @Ark.Props.C10Rel.setRelations_removed_target := @Ark.Props.C10Rel.setRelations_removed_target

/-- exactly `deadTarget` when the relations before the offending one pass -/
theorem rel_newEntity_removed_target_exact : type_of% @Ark.Props.C10Rel.newEntity_removed_target_exact := @Ark.Props.C10Rel.newEntity_removed_target_exact

/-- … Add -/
theorem rel_add_removed_target_exact : type_of% @Ark.Props.C10Rel.add_removed_target_exact := @Ark.Props.C10Rel.add_removed_target_exact

/-- … Exchange -/
theorem rel_exchange_removed_target_exact : type_of% @Ark.Props.C10Rel.exchange_removed_target_exact := @Ark.Props.C10Rel.exchange_removed_target_exact

/-- … SetRelations -/
theorem rel_setRelations_removed_target_exact : type_of% @Ark.Props.C10Rel.setRelations_removed_target_exact := @Ark.Props.C10Rel.setRelations_removed_target_exact

/-- a relation for a component that is not among the created ones: `relNotInMask`, world unchanged (typed and ID-based path) -/
theorem rel_newEntity_not_added : type_of% @Ark.Props.C10Rel.newEntity_not_added := @Ark.Props.C10Rel.newEntity_not_added

/-- … Add -/
theorem rel_add_not_added : type_of% @Ark.Props.C10Rel.add_not_added := @Ark.Props.C10Rel.add_not_added

/-- … Exchange -/
theorem rel_exchange_not_added : type_of% @Ark.Props.C10Rel.exchange_not_added := @Ark.Props.C10Rel.exchange_not_added

/-- … SetRelations through a typed mapper -/
theorem rel_setRelations_not_in_mapper : type_of% @Ark.Props.C10Rel.setRelations_not_in_mapper := @Ark.Props.C10Rel.setRelations_not_in_mapper

/-- **a relation component named twice is rejected with the world unchanged** when a table of the archetype is active (repair D26) — NewEntity, every path -/
theorem rel_newEntity_relTwice : type_of% @Ark.Props.C10Rel.newEntity_relTwice := @Ark.Props.C10Rel.newEntity_relTwice

/-- … Add -/
theorem rel_add_relTwice : type_of% @Ark.Props.C10Rel.add_relTwice := @Ark.Props.C10Rel.add_relTwice

/-- the table lookup itself refuses such a list -/
theorem rel_getTable_relTwice : type_of% @Ark.Props.C10Rel.getTable_relTwice := @Ark.Props.C10Rel.getTable_relTwice

/-- an accepted lookup into an archetype with relation columns names no component twice, whether the table existed (D26) or was created (D18) -/
theorem rel_lookup_accepted_names_no_component_twice : type_of% @Ark.Props.C10Rel.lookup_accepted_names_no_component_twice := @Ark.Props.C10Rel.lookup_accepted_names_no_component_twice


end Ark.Props.C10
