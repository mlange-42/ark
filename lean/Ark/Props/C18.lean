import Ark.Generated.ToTypes
import Ark.Proofs.MaskLemmas
import Ark.Proofs.Rejects
import Ark.Props.C20Words

namespace Ark.Props.C18
open Ark

/-! C18 — type registries are stable and the documented capacity is usable. -/
open Ark.Generated

/-- the IDs enumerated by the two nested loops of `bitMask256.toTypes` when `n` component types are
    registered (index arithmetic regenerated from the source) -/
def toTypesIDs (n : Nat) : List Nat :=
  (List.range (toTypes_bins n)).flatMap fun i => (List.range (toTypes_cnt n i)).map (toTypes_id i)

/-- words that are scanned in full enumerate `0 … 64k-1` -/
theorem fullWords (c : Nat → Nat) (k : Nat) (h : ∀ i < k, c i = 64) :
    (List.range k).flatMap (fun i => (List.range (c i)).map (toTypes_id i)) = List.range (k * 64) := by
  induction k with
  | zero => rfl
  | succ k ih =>
    rw [List.range_succ (n := k), List.flatMap_append, ih fun i hi => h i (Nat.lt_succ_of_lt hi),
      List.flatMap_singleton, h k k.lt_succ_self, Nat.succ_mul, List.range_add]
    rfl

/-- for any count the loops enumerate `0 … n-1` in ascending order: every word but the last is
    scanned in full, and the last one up to `n % 64` bits, or in full when that is `0` -/
theorem toTypesIDs_eq_range (n : Nat) : toTypesIDs n = List.range n := by
  unfold toTypesIDs
  rcases Nat.eq_zero_or_pos n with rfl | hn
  · rfl
  · obtain ⟨b, hb⟩ : ∃ b, toTypes_bins n = b + 1 :=
      ⟨toTypes_bins n - 1, by unfold toTypes_bins; omega⟩
    have hfull : ∀ i < b, toTypes_cnt n i = 64 := fun i hi => if_neg fun h => by omega
    have hlast : n = b * 64 + toTypes_cnt n b := by
      unfold toTypes_cnt toTypes_bits
      unfold toTypes_bins at hb ⊢
      split <;> omega
    rw [hb, List.range_succ (n := b), List.flatMap_append, List.flatMap_singleton,
      fullWords _ b hfull]
    conv => rhs; rw [hlast, List.range_add]
    rfl

/-- For EVERY registered count 0 ≤ n ≤ 256: the word index stays inside the 4-word mask and the
    loops enumerate exactly the IDs 0 … n-1 in ascending order (each fits `uint8`). -/
theorem toTypes_total :
    (List.range 257).all (fun n => toTypes_bins n ≤ 4 && toTypesIDs n == List.range n) = true := by
  refine List.all_eq_true.mpr fun n hn => ?_
  have : toTypes_bins n ≤ 4 := by
    have := List.mem_range.mp hn
    unfold toTypes_bins
    omega
  simp [toTypesIDs_eq_range, this]

/-- Hence the component list of an archetype is the ascending list of the set bits: what the
    model uses (`Mask.toList`). -/
theorem toTypes_eq_toList (n : Nat) (hn : n ≤ 256) (m : Mask) :
    (toTypesIDs n).filter m.get = m.toList n := by
  have h := toTypes_total
  rw [List.all_eq_true] at h
  have := h n (List.mem_range.mpr (by omega))
  simp only [Bool.and_eq_true, beq_iff_eq] at this
  rw [this.2]
  rfl

/-- registration hands out the next free ID, and nothing else changes -/
theorem register_sequential (w : World) (k : CompKind) (hl : w.isLocked = false) (hn : w.kinds.length < w.maxComps) :
    ∃ w', World.registerComponent k w = .ok w.kinds.length w' ∧ w'.kinds = w.kinds ++ [k] ∧
      w'.archetypes = w.archetypes ∧ w'.tables = w.tables ∧ w'.pool = w.pool := by
  unfold World.registerComponent
  have : ¬ w.kinds.length ≥ w.maxComps := by omega
  simp [this, hl]

/-- exceeding the maximum panics without consuming an ID -/
theorem register_full (w : World) (k : CompKind) (hn : w.maxComps ≤ w.kinds.length) :
    World.registerComponent k w = .panic .registryFull w := by
  unfold World.registerComponent
  simp [hn]

/-- registering a new type on a locked world panics and is rolled back -/
theorem register_locked : type_of% @World.registerComponent_locked := @World.registerComponent_locked

/-- a resource map: at most one value per resource ID, `find?` after `insert`/`erase` -/
theorem resources_map (m : AL Val) (r r2 : Nat) (v : Val) :
    AL.find? (AL.insert m r v) r = some v ∧ AL.find? (AL.erase m r) r = none ∧
    (r2 ≠ r → AL.find? (AL.insert m r v) r2 = AL.find? m r2 ∧ AL.find? (AL.erase m r) r2 = AL.find? m r2) :=
  ⟨AL.find?_insert_self m r v, AL.find?_erase_self m r,
   fun h => ⟨AL.find?_insert_ne m r r2 v h, AL.find?_erase_ne m r r2 h⟩⟩


/-! ## `toTypes` reads the mask through `Get`/`TotalBitsSet`: as the word-level Go code computes them -/

theorem words_mask256_get : type_of% @Ark.Props.C20Words.mask256_get := @Ark.Props.C20Words.mask256_get

theorem words_mask256_get_inRange : type_of% @Ark.Props.C20Words.mask256_get_inRange := @Ark.Props.C20Words.mask256_get_inRange

theorem words_mask256_totalBitsSet : type_of% @Ark.Props.C20Words.mask256_totalBitsSet := @Ark.Props.C20Words.mask256_totalBitsSet

theorem words_mask64_get : type_of% @Ark.Props.C20Words.mask64_get := @Ark.Props.C20Words.mask64_get

theorem words_mask64_totalBitsSet : type_of% @Ark.Props.C20Words.mask64_totalBitsSet := @Ark.Props.C20Words.mask64_totalBitsSet


end Ark.Props.C18
