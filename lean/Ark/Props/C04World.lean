/-
  Ark.Props.C04World — C04 at world level: "An entity's relation target is always the zero entity
  or an alive entity: it is the target last assigned, until that target is removed from the
  world, at which point it becomes the zero entity while the entity keeps all its components and
  values.  Removing targets one by one, and the reuse of per-target storage for other targets,
  never changes any other entity's targets or data and never fails for a valid call."

  The proofs are in Ark/Proofs/Targets*.lean.

  Vocabulary (Ark/Proofs/Targets.lean, TargetsInv.lean):
  * `TargetsOK w`  — every relation column of every non-free table targets the zero entity or an
                     alive entity;
  * `FlagsOK w`    — a non-zero target of a non-free table carries the `isTarget` flag;
  * `targetOf w i c` — the target of relation component `c` of the entity with ID `i`, read
                     through the index (as `valOf` / `compsOf` of C01World);
  * `TInv w fl`    — the joint invariant: `SInv ∧ RInv ∧ TargetsOK ∧ RelListsOK ∧ RelArchsOK ∧
                     CacheRelsOK ∧ FlagsOK ∧ FreeEmpty ∧ PLink w fl ∧ kindsLe`;
  * `Good w`       — `TInv w fl` for some free list, unlocked, no observers.

  Covered: `NewEntity(ids…, rels…)`, `Add(e, ids…, rels…)`, `SetRelations` (all three paths),
  `RemoveEntity` (relation target or not), `cleanupArchetypes`; iteration (`Good`).
  Not in this file: `RemoveEntities` over relation targets (Ark/Proofs/BatchRelRemove.lean,
  Ark/Props/C06Rel.lean; restated in Ark/Props/C04.lean), the other batch forms as steps of a
  history (Ark/Props/C01RelBatch.lean), totality ("never fails") of `NewEntity` / `Add`
  (Ark/Proofs/RelTotal.lean: `opNewEntity_rel_ok`, `opAdd_rel_ok`); here it is shown for
  `RemoveEntity` and `SetRelations`.

  Recorded size hypotheses: `tables.length (+ relationArchetypes.length + 1) ≤ maxU32` and
  `2 * entities.length < 2^32` (removal; `entities.length + 1 < 2^32` for the others) — the model's
  `capPow2` and the "no table" marker `maxU32` need them, as everywhere in `Ark.Proofs`.

  FINDINGS (hypotheses the proofs forced; § 4):
  * `RelListsOK` — the relation list `relIDs` of a non-free table names every relation column
    exactly once with the target stored in the column.  `cleanupArchetypes` reads `relIDs`, not
    the columns, and `MatchesExact` compares lengths.  `createTable` (and the model,
    `checkRelList`) rejects a call naming one relation component twice with "relation component
    %d specified more than once" (`relTwice`, repair of defect D18 of the Go library; § 4 shows
    the rejection of the two histories that broke the invariant).  The creation theorem asks that
    the call names no relation component twice; every accepted call satisfies it:
    `createTable_ok_nodup` when the table is created, `getTable_some_nodup` when it exists
    (`archetype.getTableSlowPath`, repair of defect D26): `World.findOrCreateTableAdd_ok_nodup`,
    `Ark/Props/C10Rel.lean` § 4.
  * handles inside the pool slice — `World.Reset` keeps the invalidated handles (generation
    `MaxUint32`) in the memory behind the re-sliced pool (defect D14 repaired), and `Alive` is an
    unchecked read of that memory.  `PLink` (the index ↔ pool link inside `TInv`) therefore does
    not say that this memory is empty, only that it holds invalidated handles (so that `TInv`
    survives `Reset`: `Ark/Props/C05Rel.lean`, § 4), and the theorems about an entity handle `e`
    ask `e.id < w.pool.ents.length` next to `w.alive e = true`; those that establish `TInv` after
    assigning targets ask the same of the targets named (`htin`).  Every handle the world issued
    satisfies this, and a handle that tests alive and does not carry the generation `MaxUint32`
    does (`PLink.alive_in`).  Both hypotheses are necessary: `forged_target_after_reset` and
    `forged_entity_after_reset` in `Ark/Props/C05Rel.lean`.  "An accepted call named only zero or
    alive targets" needs no such hypothesis (`newEntity_names_valid_targets`, …).
-/
import Ark.Proofs.TargetsAdd
import Ark.Proofs.RelRejects

namespace Ark.Props.C04World
open Ark Ark.World Ark.Props.C01World

/-! ## 1. the theorems -/

/-- the invariant holds in the initial world -/
theorem init_invariant : type_of% @tinv_init := @tinv_init

/-- the invariant implies the property's first sentence: a relation target read through the index
    is the zero entity or alive -/
theorem target_zero_or_alive {w : World} {fl : List Nat} (h : TInv w fl) {j : Nat} {c : Comp}
    {e : Ent} (ht : targetOf w j c = some e) : e.isZero = true ∨ w.alive e = true := by
  simp only [targetOf] at ht
  cases hx : w.entities[j]? with
  | none => rw [hx] at ht; cases ht
  | some p =>
    obtain ⟨tj, r⟩ := p
    rw [hx] at ht
    simp only at ht
    by_cases hm : tj = maxU32
    · rw [if_pos hm] at ht; cases ht
    · rw [if_neg hm] at ht
      obtain ⟨T, hT, hr, _⟩ := h.link.idx.idxRow j tj r hx hm
      rw [hT] at ht
      simp only [Option.bind_some, Table.targetAt] at ht
      have hfree : T.isFree = false := by
        cases hf : T.isFree with
        | false => rfl
        | true => have := h.freeEmpty tj T hT hf; omega
      cases hc : T.colIdx c with
      | none => rw [hc] at ht; cases ht
      | some k =>
        rw [hc] at ht
        simp only [Option.bind_some] at ht
        split at ht
        · rename_i hk
          have := h.rel.aux.targets tj T hT hfree k hk
          rw [Option.some.inj ht] at this
          exact this
        · cases ht

/-- **creation / assignment** (`NewEntity(ids…, rels…)`, any path, no observers): an accepted
    call keeps all invariants, named only zero or alive targets, gives the new entity the targets
    named, and changes no other entity's components, values or targets -/
theorem newEntity_assigns_targets : type_of% @opNewEntity_rel_spec := @opNewEntity_rel_spec

/-- an accepted `NewEntity(ids…, rels…)` named only zero or alive targets (whatever their IDs) -/
theorem newEntity_names_valid_targets : type_of% @opNewEntity_rel_valid := @opNewEntity_rel_valid

/-- **rejection** (every path, `Unsafe` included): a call naming a dead target
    is refused with `deadTarget`, the world unchanged -/
theorem newEntity_dead_target_rejected (run : ProbeRunner) (p : Path)
    (ids : List Comp) (vals : List (Comp × Val)) (rels : List RelID) (w : World)
    (hv : ∀ (r : RelID), r ∈ rels → w.isRelComp r.comp = true ∧ (Mask.ofList ids).get r.comp = true)
    (hd : ∃ (r : RelID), r ∈ rels ∧ r.target.isZero = false ∧ w.alive r.target = false) :
    opNewEntity run p ids vals rels w = .panic .deadTarget w := by
  simp only [opNewEntity, bind, M.bind, preCheck_deadTarget p ids w rels hv hd]

/-- on every path: a call naming a dead target (on relation components among `ids`) is not
    accepted -/
theorem newEntity_dead_target_not_accepted (run : ProbeRunner) (p : Path) {w : World}
    {fl : List Nat} (h : TInv w fl) (hl : w.isLocked = false)
    (hno : ∀ (evt : Nat), w.obs.hasObservers evt = false) {ids : List Comp}
    {vals : List (Comp × Val)} {rels : List RelID}
    (hreg : ∀ (c : Comp), c ∈ ids → c < w.kinds.length)
    (hnd : (rels.map (·.comp)).Nodup) (hin : ∀ (r : RelID), r ∈ rels → r.comp ∈ ids)
    (hrc : ∀ (r : RelID), r ∈ rels → w.isRelComp r.comp = true)
    (hfew : w.tables.length < maxU32) (hrows : w.entities.length + 1 < 2 ^ 32)
    (hd : ∃ (r : RelID), r ∈ rels ∧ r.target.isZero = false ∧ w.alive r.target = false)
    (e : Ent) (w' : World) : opNewEntity run p ids vals rels w ≠ .ok e w' := by
  -- the pre-validation refuses the call in any world: only `hd` is used
  obtain ⟨k, hk, _⟩ := relsVerdict_removed w (checkMask p ids) hd
  rw [opNewEntity_refused run p ids vals rels w hk]
  nofun

/-- **assignment by `Add`** (`Add(e, ids…, rels…)`, any path, `e` live, no observers): an accepted
    call keeps all invariants, named only zero or alive targets, gives `e` the targets named, keeps
    its old targets, its old components and their (unwritten) values, and changes no other
    entity -/
theorem add_assigns_targets : type_of% @opAdd_rel_spec := @opAdd_rel_spec

/-- an accepted `Add(e, ids…, rels…)` named only zero or alive targets (whatever their IDs) -/
theorem add_names_valid_targets : type_of% @opAdd_rel_valid := @opAdd_rel_valid

/-- **rejection** (every path, `Unsafe` included): `Add` naming a dead target
    is refused with `deadTarget`, the world unchanged -/
theorem add_dead_target_rejected : type_of% @opAdd_deadTarget := @opAdd_deadTarget

/-- **assignment** (`setRelations e rels` / `SetRelations` on any path, `e` live and having the
    relation components named, none twice, no observers): an accepted call keeps all invariants,
    named only zero or alive targets, gives `e` the targets named — its other targets, its
    components and its values are kept — and changes no other entity -/
theorem setRelations_assigns_targets : type_of% @setRelationsCore_spec := @setRelationsCore_spec
theorem opSetRelations_assigns_targets : type_of% @opSetRelations_spec := @opSetRelations_spec

/-- an accepted `SetRelations` named only zero or alive targets (whatever their IDs) -/
theorem setRelations_names_valid_targets : type_of% @setRelationsCore_valid := @setRelationsCore_valid
theorem opSetRelations_names_valid_targets : type_of% @opSetRelations_valid := @opSetRelations_valid

/-- a valid `setRelations` (targets zero or alive) never fails -/
theorem setRelations_never_fails : type_of% @setRelationsCore_total := @setRelationsCore_total

/-- **rejection** (every path, `Unsafe` included): `SetRelations` naming a
    dead target is refused with `deadTarget`, the world unchanged (membership in the mapper's
    components is asked of the relations on the `MapN` path only) -/
theorem setRelations_dead_target_rejected : type_of% @opSetRelations_deadTarget :=
  @opSetRelations_deadTarget

/-- on every path: `SetRelations` naming a dead target is not accepted -/
theorem setRelations_dead_target_not_accepted (run : ProbeRunner) (p : Path) {w : World}
    {fl : List Nat} (h : TInv w fl) (hl : w.isLocked = false)
    (hno : ∀ (evt : Nat), w.obs.hasObservers evt = false) {e : Ent} (h2 : 2 ≤ e.id)
    (hnf : e.id ∉ fl) (ha : w.alive e = true)
    (hsl : e.id < w.pool.ents.length) {mapperIds : List Comp} {rels : List RelID}
    (hne : rels.isEmpty = false) (hnd : (rels.map (·.comp)).Nodup)
    (hhas : ∀ (r : RelID), r ∈ rels → (targetOf w e.id r.comp).isSome = true)
    (hfew : w.tables.length < maxU32) (hrows : w.entities.length + 1 < 2 ^ 32)
    (hd : ∃ (r : RelID), r ∈ rels ∧ r.target.isZero = false ∧ w.alive r.target = false)
    (w' : World) : opSetRelations run p e mapperIds rels w ≠ .ok () w' := by
  obtain ⟨k, hk, _⟩ := relsVerdict_removed w (checkMask p.setRelCheck mapperIds) hd
  rw [opSetRelations_refused run p e mapperIds rels w hk]
  nofun

/-- **removing a target** (`RemoveEntity g`, `g` live, relation target or not, no observers):
    it never panics, all invariants are preserved, `g` is dead, and every other entity keeps its
    components and values and its targets — except that a target `g` reads as the zero entity -/
theorem removeEntity_zeroes_target (run : ProbeRunner) {w : World} {fl : List Nat} (h : TInv w fl)
    (hl : w.isLocked = false) (hno : ∀ (evt : Nat), w.obs.hasObservers evt = false) {g : Ent}
    (h2 : 2 ≤ g.id) (hnf : g.id ∉ fl) (ha : w.alive g = true) (hsl : g.id < w.pool.ents.length)
    (hfew : w.tables.length + w.relationArchetypes.length + 1 ≤ maxU32)
    (hrows : 2 * w.entities.length < 2 ^ 32) :
    ∃ (w' : World), opRemoveEntity run g w = .ok () w' ∧ TInv w' (g.id :: fl) ∧
      w'.alive g = false ∧
      ∀ (j : Nat), j ≠ g.id → SameEnt w w' j ∧ ∀ (c : Comp),
        targetOf w' j c = if targetOf w j c = some g then some Ent.zero else targetOf w j c := by
  obtain ⟨w', hok, post⟩ := opRemoveEntity_rel_spec run h hl hno h2 hnf ha hsl hfew hrows
  exact ⟨w', hok, post.tinv, post.dead, post.frame⟩

/-- the full postcondition of the removal (also: no non-free table targets the removed ID, the
    removed ID points at no table, `Alive` of other handles unchanged, size bounds) -/
theorem removeEntity_post : type_of% @opRemoveEntity_rel_spec := @opRemoveEntity_rel_spec

/-- `cleanupArchetypes g` on its own: never panics, restores the relation-index invariant,
    leaves no non-free table targeting `g` -/
theorem cleanup_total : type_of% @cleanupArchetypes_spec := @cleanupArchetypes_spec

/-- one iteration of the inner loop (one table of one archetype) -/
theorem cleanup_step : type_of% @cleanTable_step := @cleanTable_step

/-- `createTable` inside the cleanup keeps the index invariant up to the removed key (fresh and
    recycled table) -/
theorem cleanup_createTable : type_of% @SInvMid.createTableS_except := @SInvMid.createTableS_except

/-- iterating: `Good` is established by `NewWorld` and kept by component registration, accepted
    creations and removals of entities that sit in a table -/
theorem good_initial : type_of% @good_init := @good_init
theorem good_register : type_of% @Good.registerComponent := @Good.registerComponent
theorem good_newEntity : type_of% @Good.newEntity := @Good.newEntity
theorem good_removeEntity : type_of% @Good.removeEntity := @Good.removeEntity
theorem good_setRelations : type_of% @Good.setRelations := @Good.setRelations
theorem good_add : type_of% @Good.add := @Good.add

/-! ## 2. a concrete world: two parents, three children in two relation tables -/

def noRun : ProbeRunner := fun _ _ _ => pure ()

/-- component 0 = `ChildOf` (relation), component 1 = `Pos` -/
def d2 : World :=
  let w := World.init 2 2
  let w := (registerComponent { isRel := true } w).state
  (registerComponent {} w).state

def p1 : Ent := ⟨2, 0⟩
def p2 : Ent := ⟨3, 0⟩

def d3 : World := (opNewEntity noRun .unsafe_ [] [] [] d2).state                   -- p1
def d4 : World := (opNewEntity noRun .unsafe_ [] [] [] d3).state                   -- p2
def d5 : World := (opNewEntity noRun .typed [0, 1] [(1, 7)] [⟨0, p1⟩] d4).state    -- child 4 of p1
def d6 : World := (opNewEntity noRun .typed [0, 1] [(1, 8)] [⟨0, p1⟩] d5).state    -- child 5 of p1
def d7 : World := (opNewEntity noRun .typed [0, 1] [(1, 9)] [⟨0, p2⟩] d6).state    -- child 6 of p2
/-- … `p1` is removed … -/
def d8 : World := (opRemoveEntity noRun p1 d7).state
/-- … a new parent (it re-uses ID 2, generation 1) and a child of it -/
def d9 : World := (opNewEntity noRun .unsafe_ [] [] [] d8).state
def p3 : Ent := ⟨2, 1⟩
def d10 : World := (opNewEntity noRun .typed [0, 1] [(1, 5)] [⟨0, p3⟩] d9).state

/-- table id, archetype, rows, free?, per-column relation targets -/
structure TabSum where
  id : Nat
  arch : Nat
  len : Nat
  free : Bool
  targets : List Ent
  deriving DecidableEq, Repr

def summary (w : World) : List TabSum :=
  w.tables.map fun T => ⟨T.id, T.arch, T.len, T.isFree, T.targets⟩

open Ark.Good (NewOK DelOK SetRelOK AddOK)

theorem good_d2 : Good d2 :=
  ((good_init 2 2).registerComponent _ (by decide +kernel)).registerComponent _ (by decide +kernel)

/-- every step of the demo history satisfies the hypotheses of its step theorem.  Decided together:
    each world continues the one before, and within one declaration the kernel runs the common
    history once -/
theorem demo_steps :
    NewOK noRun .unsafe_ [] [] [] d2 ∧ NewOK noRun .unsafe_ [] [] [] d3 ∧
    NewOK noRun .typed [0, 1] [(1, 7)] [⟨0, p1⟩] d4 ∧
    NewOK noRun .typed [0, 1] [(1, 8)] [⟨0, p1⟩] d5 ∧
    NewOK noRun .typed [0, 1] [(1, 9)] [⟨0, p2⟩] d6 ∧ DelOK p1 d7 ∧
    NewOK noRun .unsafe_ [] [] [] d8 ∧ NewOK noRun .typed [0, 1] [(1, 5)] [⟨0, p3⟩] d9 ∧
    SetRelOK noRun .typed ⟨6, 0⟩ [0] [⟨0, p1⟩] d7 ∧ AddOK noRun .typed p2 [0] [] [⟨0, p1⟩] d7 := by
  decide +kernel

theorem new_d3 : NewOK noRun .unsafe_ [] [] [] d2 := demo_steps.1
theorem new_d4 : NewOK noRun .unsafe_ [] [] [] d3 := demo_steps.2.1
theorem new_d5 : NewOK noRun .typed [0, 1] [(1, 7)] [⟨0, p1⟩] d4 := demo_steps.2.2.1
theorem new_d6 : NewOK noRun .typed [0, 1] [(1, 8)] [⟨0, p1⟩] d5 := demo_steps.2.2.2.1
theorem new_d7 : NewOK noRun .typed [0, 1] [(1, 9)] [⟨0, p2⟩] d6 := demo_steps.2.2.2.2.1
theorem del_d8 : DelOK p1 d7 := demo_steps.2.2.2.2.2.1
theorem new_d9 : NewOK noRun .unsafe_ [] [] [] d8 := demo_steps.2.2.2.2.2.2.1
theorem new_d10 : NewOK noRun .typed [0, 1] [(1, 5)] [⟨0, p3⟩] d9 := demo_steps.2.2.2.2.2.2.2.1
theorem setRel_d7s : SetRelOK noRun .typed ⟨6, 0⟩ [0] [⟨0, p1⟩] d7 := demo_steps.2.2.2.2.2.2.2.2.1
theorem add_d7a : AddOK noRun .typed p2 [0] [] [⟨0, p1⟩] d7 := demo_steps.2.2.2.2.2.2.2.2.2

theorem good_d3 : Good d3 := good_d2.new_of new_d3
theorem good_d4 : Good d4 := good_d3.new_of new_d4
theorem good_d5 : Good d5 := good_d4.new_of new_d5
theorem good_d6 : Good d6 := good_d5.new_of new_d6

/-- non-vacuity: the hypotheses of the removal theorem hold in a world with two relation tables -/
theorem good_d7 : Good d7 := good_d6.new_of new_d7

/-- the removal theorem applied: `RemoveEntity p1` does not panic and the invariant holds again -/
theorem good_d8 : panicOf (opRemoveEntity noRun p1 d7) = none ∧ Good d8 :=
  good_d7.del_of noRun del_d8

theorem good_d9 : Good d9 := good_d8.2.new_of new_d9

/-- … and the creation theorem applies again when the freed table is recycled -/
theorem good_d10 : Good d10 := good_d9.new_of new_d10

/-- before the removal: children 4, 5 in table 1 (target `p1`), child 6 in table 2 (target `p2`) -/
example :
    summary d7 = [⟨0, 0, 2, false, []⟩, ⟨1, 1, 2, false, [p1, Ent.zero]⟩,
      ⟨2, 1, 1, false, [p2, Ent.zero]⟩] ∧
    (targetOf d7 4 0, targetOf d7 5 0, targetOf d7 6 0) = (some p1, some p1, some p2) ∧
    (valOf d7 4 1, valOf d7 5 1, valOf d7 6 1) = (some 7, some 8, some 9) ∧
    d7.isTarget = [false, false, true, true, false, false, false] := by
  decide +kernel

/-- after `RemoveEntity p1`: `p1` is dead; its table (1) is free and empty; the children 4, 5 sit
    in the new table 3 whose target is the zero entity and keep components and values; child 6
    keeps its target `p2` -/
example :
    d8.alive p1 = false ∧
    summary d8 = [⟨0, 0, 1, false, []⟩, ⟨1, 1, 0, true, [p1, Ent.zero]⟩,
      ⟨2, 1, 1, false, [p2, Ent.zero]⟩, ⟨3, 1, 2, false, [Ent.zero, Ent.zero]⟩] ∧
    (targetOf d8 4 0, targetOf d8 5 0, targetOf d8 6 0) = (some Ent.zero, some Ent.zero, some p2) ∧
    (valOf d8 4 1, valOf d8 5 1, valOf d8 6 1) = (some 7, some 8, some 9) ∧
    (compsOf d8 4, compsOf d8 5, compsOf d8 6) = (some [0, 1], some [0, 1], some [0, 1]) ∧
    (compsOf d8 2, targetOf d8 2 0) = (none, none) ∧
    d8.isTarget = [false, false, false, true, false, false, false] := by
  decide +kernel

/-- re-use of per-target storage: the freed table 1 is recycled for the new target `p3 = 2.1`
    (which re-uses the ID of `p1`); nobody else's targets or values change -/
example :
    (d9.pool.alive p3, d9.pool.alive p1) = (true, false) ∧
    summary d10 = [⟨0, 0, 2, false, []⟩, ⟨1, 1, 1, false, [p3, Ent.zero]⟩,
      ⟨2, 1, 1, false, [p2, Ent.zero]⟩, ⟨3, 1, 2, false, [Ent.zero, Ent.zero]⟩] ∧
    (targetOf d10 4 0, targetOf d10 5 0, targetOf d10 6 0, targetOf d10 7 0) =
      (some Ent.zero, some Ent.zero, some p2, some p3) ∧
    (valOf d10 4 1, valOf d10 5 1, valOf d10 6 1, valOf d10 7 1) =
      (some 7, some 8, some 9, some 5) := by
  decide +kernel

/-- `SetRelations` in the world with two relation tables: child 6 is re-targeted from `p2` to
    `p1` — it moves to table 1; the theorem applies (`Good` is kept), the other children keep
    their targets, child 6 keeps its value -/
def d7s : World := (opSetRelations noRun .typed ⟨6, 0⟩ [0] [⟨0, p1⟩] d7).state

theorem good_d7s : Good d7s := good_d7.setRel_of setRel_d7s

example :
    (targetOf d7s 4 0, targetOf d7s 5 0, targetOf d7s 6 0) = (some p1, some p1, some p1) ∧
    (valOf d7s 4 1, valOf d7s 5 1, valOf d7s 6 1) = (some 7, some 8, some 9) ∧
    panicOf (opSetRelations noRun .typed ⟨6, 0⟩ [0] [⟨0, ⟨7, 0⟩⟩] d7) = some .deadTarget := by
  decide +kernel

/-- `Add` with a relation in the same world: parent `p2` becomes a child of `p1` (a new archetype
    and table); the theorem applies, nobody else changes -/
def d7a : World := (opAdd noRun .typed p2 [0] [] [⟨0, p1⟩] d7).state

theorem good_d7a : Good d7a := good_d7.add_of add_d7a

example :
    (targetOf d7a 3 0, targetOf d7a 4 0, targetOf d7a 5 0, targetOf d7a 6 0) =
      (some p1, some p1, some p1, some p2) ∧
    (compsOf d7 3, compsOf d7a 3) = (some [], some [0]) ∧
    panicOf (opAdd noRun .typed p2 [0] [] [⟨0, ⟨7, 0⟩⟩] d7) = some .deadTarget := by
  decide +kernel

/-- a dead target is rejected on every path, the world unchanged — through `Unsafe` too -/
example :
    panicOf (opNewEntity noRun .typed [0, 1] [(1, 5)] [⟨0, p1⟩] d9) = some .deadTarget ∧
    panicOf (opNewEntity noRun .map1 [0, 1] [(1, 5)] [⟨0, p1⟩] d9) = some .deadTarget ∧
    panicOf (opNewEntity noRun .unsafe_ [0, 1] [(1, 5)] [⟨0, p1⟩] d9) = some .deadTarget ∧
    summary (opNewEntity noRun .typed [0, 1] [(1, 5)] [⟨0, p1⟩] d9).state = summary d9 ∧
    summary (opNewEntity noRun .unsafe_ [0, 1] [(1, 5)] [⟨0, p1⟩] d9).state = summary d9 ∧
    (opNewEntity noRun .unsafe_ [0, 1] [(1, 5)] [⟨0, p1⟩] d9).state.archetypes.length =
      d9.archetypes.length := by
  decide +kernel

/-! ## 3. the hypotheses of the rejection theorem are satisfiable -/

example : (∀ (r : RelID), r ∈ [(⟨0, p1⟩ : RelID)] →
      d9.isRelComp r.comp = true ∧ (Mask.ofList [0, 1]).get r.comp = true) ∧
    ∃ (r : RelID), r ∈ [(⟨0, p1⟩ : RelID)] ∧ r.target.isZero = false ∧ d9.alive r.target = false := by
  decide +kernel

/-! ## 4. a relation component named twice is rejected (defect D18 of the Go library, repaired)

The two histories below are built with the model's own operations from valid handles; the only
unusual call is a `NewEntity` whose relation list names relation component 0 twice.  Accepted,
such a call violates `RelListsOK` (which is why the creation theorem asks for
`(rels.map (·.comp)).Nodup`): (a) `RemoveEntity` of an unrelated alive target then panics
"relation targets must be fully specified"; (b) `RemoveEntity` of a target zeroes a relation to
another, alive target.  `createTable` panics "relation component %d specified more than once"
(`relTwice`; `createTable_rejects_twice` of `Ark/Props/C01Struct.lean`) on every path.  What the
model says, exactly: the call panics `relTwice`; no entity and no table is created; entity index,
pool, tables, cache, lock are as before; the archetype `findOrCreateTable` created before calling
`createTable` stays behind without a table (as after a `deadTarget` rejection on the unsafe
path).  The world is still `Good`-shaped for what follows: the same calls without the repetition
are accepted and then behave as the property says. -/

/-- (a) before the call: relation component 0, entities 2 and 3 -/
def f0pre : World :=
  let w := World.init 1 1
  let w := (registerComponent { isRel := true } w).state
  let w := (opNewEntity0 noRun w).state                                                -- 2
  (opNewEntity0 noRun w).state                                                         -- 3

/-- (a) the call of the finding: relation 0 named twice, both with the ZERO target -/
def f0try (p : Path) : Res World Ent :=
  opNewEntity noRun p [0] [] [⟨0, Ent.zero⟩, ⟨0, Ent.zero⟩] f0pre

/-- (a) the world left by the rejected call, then a child (entity 4) of entity 3 -/
def f0 : World := (opNewEntity noRun .unsafe_ [0] [] [⟨0, ⟨3, 0⟩⟩] (f0try .unsafe_).state).state

/-- (a) rejected on every path; nothing but the (table-less) archetype `{0}` was created -/
example :
    panicOf (f0try .unsafe_) = some .relTwice ∧ panicOf (f0try .map1) = some .relTwice ∧
    panicOf (f0try .typed) = some .relTwice ∧
    (f0try .unsafe_).state.tables = f0pre.tables ∧
    (f0try .unsafe_).state.entities = f0pre.entities ∧
    (f0try .unsafe_).state.pool = f0pre.pool ∧ (f0try .unsafe_).state.cache = f0pre.cache ∧
    (f0try .unsafe_).state.isLocked = false ∧
    (f0pre.archetypes.length, (f0try .unsafe_).state.archetypes.length) = (1, 2) ∧
    ((f0try .unsafe_).state.arch 1).tables.tables = [] ∧
    ((f0try .unsafe_).state.arch 1).freeTables = [] := by
  decide +kernel

/-- (a) `RemoveEntity` of the alive target 3 is accepted and zeroes the relation of its child 4;
    the table's relation list has one entry per relation column -/
example :
    f0.alive ⟨3, 0⟩ = true ∧ f0.isLocked = false ∧ targetOf f0 4 0 = some ⟨3, 0⟩ ∧
    panicOf (opRemoveEntity noRun ⟨3, 0⟩ f0) = none ∧
    targetOf (opRemoveEntity noRun ⟨3, 0⟩ f0).state 4 0 = some Ent.zero ∧
    ((f0.tbl 1).relIDs.length, (f0.arch 1).numRel) = (1, 1) := by
  decide +kernel

/-- (b) before the call: relation components 0 and 1, entities 2 and 3 -/
def f1pre : World :=
  let w := World.init 1 1
  let w := (registerComponent { isRel := true } w).state
  let w := (registerComponent { isRel := true } w).state
  let w := (opNewEntity0 noRun w).state                                                -- 2
  (opNewEntity0 noRun w).state                                                         -- 3

/-- (b) the call of the finding: relation 0 → 3, relation 0 → 2 (again), relation 1 → 3 -/
def f1try (p : Path) : Res World Ent :=
  opNewEntity noRun p [0, 1] [] [⟨0, ⟨3, 0⟩⟩, ⟨0, ⟨2, 0⟩⟩, ⟨1, ⟨3, 0⟩⟩] f1pre

/-- (b) the world left by the rejected call, then entity 4 with relation 0 → 2, relation 1 → 3 -/
def f1 : World :=
  (opNewEntity noRun .unsafe_ [0, 1] [] [⟨0, ⟨2, 0⟩⟩, ⟨1, ⟨3, 0⟩⟩] (f1try .unsafe_).state).state

def f2 : World := (opRemoveEntity noRun ⟨3, 0⟩ f1).state

/-- (b) rejected on every path; no entity 4, no table -/
example :
    panicOf (f1try .unsafe_) = some .relTwice ∧ panicOf (f1try .map1) = some .relTwice ∧
    panicOf (f1try .typed) = some .relTwice ∧
    (f1try .unsafe_).state.tables = f1pre.tables ∧
    (f1try .unsafe_).state.entities = f1pre.entities ∧
    (f1try .unsafe_).state.pool = f1pre.pool ∧ (f1try .unsafe_).state.cache = f1pre.cache ∧
    (f1try .unsafe_).state.alive ⟨4, 0⟩ = false ∧
    (f1pre.archetypes.length, (f1try .unsafe_).state.archetypes.length) = (1, 2) ∧
    ((f1try .unsafe_).state.arch 1).tables.tables = [] := by
  decide +kernel

/-- (b) with each relation named once: removing entity 3 zeroes the relation to 3 and ONLY that
    one; the relation to the alive entity 2 is kept -/
example :
    (targetOf f1 4 0, targetOf f1 4 1) = (some ⟨2, 0⟩, some ⟨3, 0⟩) ∧
    panicOf (opRemoveEntity noRun ⟨3, 0⟩ f1) = none ∧
    f2.alive ⟨2, 0⟩ = true ∧
    (targetOf f2 4 0, targetOf f2 4 1) = (some ⟨2, 0⟩, some Ent.zero) := by
  decide +kernel

end Ark.Props.C04World
