/-
  Ark.Props.C06World — C06 at world level: a batch operation leaves the world that the
  corresponding single-entity operations leave.

  Fragment: the joint invariant `CInv w fl` of Ark/Proofs/RefineCore.lean (no relation components,
  no observers, no relation targets), unlocked world.  The callback `fn` of a batch is modelled by
  `batchFn`: for every affected row it pushes `LogEv.fn e locked seen` on `w.log` (the handle, the
  lock state and the current values of the components it is about to write) and then writes `vals`.
-/
import Ark.Proofs.BatchNewFn
import Ark.Proofs.BatchRemove
import Ark.Proofs.BatchExchangeSpec
import Ark.Proofs.BatchExchangeFn
import Ark.Proofs.Refine

namespace Ark.Props.C06World
open Ark Ark.World Ark.Props.C01World

/-! ## 1. creation: `NewBatch` / `NewBatchFn` / `NewEntities` -/

/-- table level: reserving `n+1` rows at once and storing the first handle = `Add` of the handle,
    then reserving `n` rows (same capacity, same entity column, same component columns) -/
theorem alloc_is_iterated_add : type_of% @Table.alloc_succ_eq := @Table.alloc_succ_eq

/-- growing a table in one step or in several gives the same capacity -/
theorem capacity_path_independent : type_of% @capPow2_stable := @capPow2_stable

/-- world level: `createEntities t n` = `n` × `placeNew t`, as worlds -/
theorem createEntities_is_iterated_placeNew : type_of% @createEntitiesW_eq_placeN :=
  @createEntitiesW_eq_placeN

/-- **`NewBatch(count, ids…)` without callback = `count` × `NewEntity(ids…)`** — equality of
    worlds, same handles in the same order (`count > 0`). -/
theorem newBatch_eq_singles : type_of% @opNewBatch_eq_singles := @opNewBatch_eq_singles

/-- the empty batch still creates the archetype and the table of `ids` if they did not exist
    (zero single calls create nothing); entities, pool and every entity's components are
    untouched -/
theorem newBatch_zero : type_of% @opNewBatch_zero := @opNewBatch_zero

/-- **`NewBatchFn(count, fn)` = `count` × `NewEntity` writing the same values**, up to the
    callback record in `log` and the free list inside the lock; `fn` ran exactly once per new
    entity, in creation order, on a locked world, and saw zero-initialised components -/
theorem newBatchFn_eq_singles : type_of% @opNewBatchFn_eq_singles := @opNewBatchFn_eq_singles

/-- **`World.NewEntities(count, nil)` = `count` × `World.NewEntity()`** (any `count`) -/
theorem newEntities_eq_singles : type_of% @opNewEntities_eq_singles := @opNewEntities_eq_singles

/-- **`World.NewEntities(count, fn)`** likewise, with the callback record -/
theorem newEntitiesFn_eq_singles : type_of% @opNewEntitiesFn_eq_singles := @opNewEntitiesFn_eq_singles

/-! ### non-vacuity -/

open Ark.Refine in
/-- a reachable world: two component types, one entity with component 0; initial capacity 1, so
    that a batch of 5 has to grow the table (1 → 8) where the singles grow it 1 → 2 → 4 → 8 -/
def demoW : World := (reach noProbe 1 1 [.reg 8 false, .reg 8 false, .new .unsafe_ [0] [(0, 7)]]).w

open Ark.Refine in
theorem demoW_cinv : ∃ fl, CInv demoW fl ∧ demoW.isLocked = false := by
  obtain ⟨fl, H⟩ := reach_hinv noProbe 1 1 [.reg 8 false, .reg 8 false, .new .unsafe_ [0] [(0, 7)]]
    (by decide)
  exact ⟨fl, H.cinv, H.unlocked⟩

theorem demoW_rows (count : Nat) (hc : count < 1000) (t : Nat) : (demoW.tbl t).len + count < 2 ^ 32 := by
  obtain ⟨fl, h, _⟩ := demoW_cinv
  have := h.idx.rows_le t
  have he : demoW.entities.length = 3 := by decide +kernel
  omega

/-- the hypotheses of `newBatch_eq_singles` and `newBatchFn_eq_singles` hold in `demoW` for the
    existing table (`ids = [0]`) and for a table that does not exist yet (`ids = [0, 1]`) -/
example : ∃ fl, CInv demoW fl ∧ demoW.isLocked = false ∧ LockFree demoW.locks ∧
    [0, 1].Nodup ∧ (∀ c : Comp, c ∈ [0, 1] → c < demoW.kinds.length) ∧
    demoW.tables.length < maxU32 ∧ ∀ t : Nat, (demoW.tbl t).len + 5 < 2 ^ 32 := by
  obtain ⟨fl, h, hl⟩ := demoW_cinv
  exact ⟨fl, h, hl, by rw [show demoW.locks = {} by decide +kernel]; exact lockFree_init,
    by decide, by decide +kernel, by decide +kernel, demoW_rows 5 (by decide)⟩

/-- the value an operation returned (`none` if it panicked) -/
def okVal {α : Type} : Res World α → Option α
  | .ok a _ => some a
  | .panic _ _ => none

/-- the concrete instance: the batch of 5 and the 5 singles agree on every field that carries
    state (tables with capacities and stale cells, index, pool, target flags, archetypes), return
    the same handles, and the table of `[0, 1]` (table 2) was created by both -/
example :
    (opNewBatch noProbe .unsafe_ 5 [0, 1] [] [] false demoW).state.tables =
      (newEntitiesSeq noProbe .unsafe_ [0, 1] [] 5 demoW).state.tables ∧
    (opNewBatch noProbe .unsafe_ 5 [0, 1] [] [] false demoW).state.entities =
      (newEntitiesSeq noProbe .unsafe_ [0, 1] [] 5 demoW).state.entities ∧
    (opNewBatch noProbe .unsafe_ 5 [0, 1] [] [] false demoW).state.pool =
      (newEntitiesSeq noProbe .unsafe_ [0, 1] [] 5 demoW).state.pool ∧
    (opNewBatch noProbe .unsafe_ 5 [0, 1] [] [] false demoW).state.isTarget =
      (newEntitiesSeq noProbe .unsafe_ [0, 1] [] 5 demoW).state.isTarget ∧
    (opNewBatch noProbe .unsafe_ 5 [0, 1] [] [] false demoW).state.archetypes =
      (newEntitiesSeq noProbe .unsafe_ [0, 1] [] 5 demoW).state.archetypes ∧
    okVal (opNewBatch noProbe .unsafe_ 5 [0, 1] [] [] false demoW) = some (2, 0) ∧
    okVal (newEntitiesSeq noProbe .unsafe_ [0, 1] [] 5 demoW) =
      some [⟨3, 0⟩, ⟨4, 0⟩, ⟨5, 0⟩, ⟨6, 0⟩, ⟨7, 0⟩] ∧
    ((List.range 5).map fun i =>
      ((opNewBatch noProbe .unsafe_ 5 [0, 1] [] [] false demoW).state.tbl 2).getEntity (0 + i)) =
      [⟨3, 0⟩, ⟨4, 0⟩, ⟨5, 0⟩, ⟨6, 0⟩, ⟨7, 0⟩] ∧
    ((opNewBatch noProbe .unsafe_ 5 [0, 1] [] [] false demoW).state.tbl 2).cap = 8 := by
  decide +kernel

/-- … and with the callback (typed path, values written into every new row of the existing table
    1): same tables, index and pool; the world is unlocked again; five callback records -/
example :
    (opNewBatch noProbe .typed 5 [0] [(0, 3)] [] true demoW).state.tables =
      (newEntitiesSeq noProbe .typed [0] [(0, 3)] 5 demoW).state.tables ∧
    (opNewBatch noProbe .typed 5 [0] [(0, 3)] [] true demoW).state.entities =
      (newEntitiesSeq noProbe .typed [0] [(0, 3)] 5 demoW).state.entities ∧
    (opNewBatch noProbe .typed 5 [0] [(0, 3)] [] true demoW).state.pool =
      (newEntitiesSeq noProbe .typed [0] [(0, 3)] 5 demoW).state.pool ∧
    (opNewBatch noProbe .typed 5 [0] [(0, 3)] [] true demoW).state.isLocked = false ∧
    (opNewBatch noProbe .typed 5 [0] [(0, 3)] [] true demoW).state.log.length = 5 ∧
    (newEntitiesSeq noProbe .typed [0] [(0, 3)] 5 demoW).state.log.length = 0 ∧
    (List.range 6).map
      (fun i => valOf (opNewBatch noProbe .typed 5 [0] [(0, 3)] [] true demoW).state (2 + i) 0) =
      [some 7, some 3, some 3, some 3, some 3, some 3] ∧
    ((opNewBatch noProbe .typed 5 [0] [(0, 3)] [] true demoW).state.tbl 1).cap = 8 := by
  decide +kernel

/-- **finding (empty batch)**: `NewBatch(0, [0, 1])` in `demoW` creates archetype 2 and table 2;
    zero `NewEntity` calls leave the world as it is.  No entity is affected. -/
example :
    (opNewBatch noProbe .unsafe_ 0 [0, 1] [] [] false demoW).state.tables.length = 3 ∧
    (opNewBatch noProbe .unsafe_ 0 [0, 1] [] [] false demoW).state.archetypes.length = 3 ∧
    (newEntitiesSeq noProbe .unsafe_ [0, 1] [] 0 demoW).state.tables.length = 2 ∧
    (newEntitiesSeq noProbe .unsafe_ [0, 1] [] 0 demoW).state.archetypes.length = 2 := by
  decide +kernel

/-! ## 2. removal: `World.RemoveEntities(batch, fn)`

  `selEnts w f` lists the handles in the rows of the selected tables in the batch's order.
  `RowsLive w` — the handle stored in every live row is the one the pool holds at that ID (current
  generation).  `CInv` relates rows and index by ID only, so it does not imply this; it is needed
  because `RemoveEntity` checks `Alive` while the batch recycles whatever the row holds (see the
  finding at the end of the section).
-/

/-- the batch selects the `Selected` tables of C05, each once -/
theorem batch_tables_selected : type_of% @mem_selTables_iff_selected := @mem_selTables_iff_selected

/-- … which are the existing tables whose archetype's mask matches -/
theorem batch_tables_mask : type_of% @mem_selTables := @mem_selTables

/-- **the selected entities are exactly the alive entities whose archetype mask matches** -/
theorem batch_selects_matching_alive : type_of% @mem_selEnts_iff := @mem_selEnts_iff

/-- `RemoveEntities(batch, nil)` as a pure function: un-index and recycle row by row, reset the
    tables -/
theorem removeEntities_pure : type_of% @opRemoveEntities_eq := @opRemoveEntities_eq
theorem removeEntities_closed_form : type_of% @removeTablesW_eq := @removeTablesW_eq

/-- **`RemoveEntities(batch, nil)` = `RemoveEntity` on every selected entity, in the batch's
    order**: both succeed, both satisfy `RemovedAllPost` (observational equality, `obs_eq`), and
    the pools — hence the handles issued later — are equal.  The worlds are NOT equal as records:
    they differ in dead memory only (stale handles beyond `len` in the entity column of the
    emptied tables; the stale row number kept in the index entry of a removed entity). -/
theorem removeEntities_eq_singles : type_of% @opRemoveEntities_eq_singles := @opRemoveEntities_eq_singles

/-- two removals of the same set of entities are observationally equal -/
theorem removed_obs_eq : type_of% @RemovedAllPost.obs_eq := @RemovedAllPost.obs_eq

/-- every removed entity is dead afterwards -/
theorem removed_dead : type_of% @RemovedAllPost.dead := @RemovedAllPost.dead

/-- **any other order** of the single removals gives the same `alive` / `valOf` / `compsOf`;
    only the free-list order (the identity of handles issued later) depends on the order -/
theorem removeEntities_any_order : type_of% @removeSeq_any_order := @removeSeq_any_order

/-- **`RemoveEntities(batch, fn)`** = `RemoveEntities(batch, nil)` + one callback record per
    selected entity (batch order, locked world, all before the first removal) + one `Lock`/`Unlock`
    cycle of the lock's free list -/
theorem removeEntitiesFn_eq : type_of% @opRemoveEntitiesFn_eq := @opRemoveEntitiesFn_eq

/-- `RowsLive` holds in `NewWorld` and is kept by everything treated here: the single and batch
    creations, the single and batch removals (`RemovedAllPost.rowsLive`), the exchange batches
    (`exchangeBatchFn_spec`) -/
theorem rowsLive_initially : type_of% @rowsLive_init := @rowsLive_init
theorem rowsLive_after_creation : type_of% @newEntitiesSeq_rowsLive := @newEntitiesSeq_rowsLive
theorem rowsLive_after_removeEntity : type_of% @rowsLive_removeRowOf := @rowsLive_removeRowOf
theorem rowsLive_decidable : type_of% @rowsLiveB_sound := @rowsLiveB_sound

/-! ### non-vacuity -/

open Ark.Refine in
/-- three component types; entities 2,4 with `{0}`, 3,5,6 with `{0,1}`, 7 with `{2}`; then 4 is
    removed and re-created (handle `4.1`), so that a stale handle `4.0` exists -/
def remOps : List Op :=
  [.reg 8 false, .reg 8 false, .reg 8 false,
   .new .unsafe_ [0] [(0, 10)], .new .unsafe_ [0, 1] [(0, 11)], .new .unsafe_ [0] [(0, 12)], .new .unsafe_ [0, 1] [(0, 13)],
   .new .unsafe_ [0, 1] [(0, 14)], .new .unsafe_ [2] [(2, 15)], .del ⟨4, 0⟩, .new .unsafe_ [0] [(0, 16)]]

open Ark.Refine in
def remW : World := (reach noProbe 2 1 remOps).w

/-- a filter object selecting "has component 0" (uncached) -/
def fo0 : FilterObj := { filter := { mask := Mask.ofList [0] } }

open Ark.Refine in
/-- the hypotheses of the removal theorems hold in `remW` -/
theorem remW_hyps : ∃ fl, CInv remW fl ∧ RowsLive remW ∧ remW.isLocked = false ∧
    LockFree remW.locks ∧ fo0.cache = none := by
  obtain ⟨fl, H⟩ := reach_hinv noProbe 2 1 remOps (by decide)
  exact ⟨fl, H.cinv, rowsLiveB_sound (by decide +kernel), H.unlocked,
    by rw [show remW.locks = {} by decide +kernel]; exact lockFree_init, rfl⟩

/-- the selection in `remW`: tables 1 (`{0}`) and 2 (`{0,1}`), five entities in table/row order;
    the batch and the singles agree on pool, index (up to the stale row of dead entries — here even
    that differs: see the next example), liveness and values; entity 7 is untouched -/
example :
    selTables remW fo0.filter = [1, 2] ∧
    selEnts remW fo0.filter = [⟨2, 0⟩, ⟨4, 1⟩, ⟨3, 0⟩, ⟨5, 0⟩, ⟨6, 0⟩] ∧
    okVal (opRemoveEntities noProbe fo0 [] false remW) = some () ∧
    okVal (removeSeq noProbe (selEnts remW fo0.filter) remW) = some () ∧
    (opRemoveEntities noProbe fo0 [] false remW).state.pool =
      (removeSeq noProbe (selEnts remW fo0.filter) remW).state.pool ∧
    [⟨2, 0⟩, ⟨4, 1⟩, ⟨3, 0⟩, ⟨5, 0⟩, ⟨6, 0⟩, ⟨7, 0⟩, ⟨4, 0⟩].map
        (opRemoveEntities noProbe fo0 [] false remW).state.alive =
      [false, false, false, false, false, true, false] ∧
    [⟨2, 0⟩, ⟨4, 1⟩, ⟨3, 0⟩, ⟨5, 0⟩, ⟨6, 0⟩, ⟨7, 0⟩, ⟨4, 0⟩].map
        (removeSeq noProbe (selEnts remW fo0.filter) remW).state.alive =
      [false, false, false, false, false, true, false] ∧
    (List.range 8).map (fun i => compsOf (opRemoveEntities noProbe fo0 [] false remW).state i) =
      (List.range 8).map (fun i => compsOf (removeSeq noProbe (selEnts remW fo0.filter) remW).state i) ∧
    valOf (opRemoveEntities noProbe fo0 [] false remW).state 7 2 = some 15 ∧
    valOf (removeSeq noProbe (selEnts remW fo0.filter) remW).state 7 2 = some 15 := by
  decide +kernel

/-- **why only observational equality**: the two worlds differ in dead memory.  Table 2 held
    `[3.0, 5.0, 6.0]`; the batch leaves the entity column as it is, the singles' swap-removes leave
    `[6.0, 5.0, 6.0]`; the index entry of the removed entity 6 keeps row 2 after the batch and row 0
    after the singles.  Lengths, capacities and component columns agree. -/
example :
    ((opRemoveEntities noProbe fo0 [] false remW).state.tbl 2).ents.take 3 = [⟨3, 0⟩, ⟨5, 0⟩, ⟨6, 0⟩] ∧
    ((removeSeq noProbe (selEnts remW fo0.filter) remW).state.tbl 2).ents.take 3 =
      [⟨6, 0⟩, ⟨5, 0⟩, ⟨6, 0⟩] ∧
    (opRemoveEntities noProbe fo0 [] false remW).state.entities[6]? = some (maxU32, 2) ∧
    (removeSeq noProbe (selEnts remW fo0.filter) remW).state.entities[6]? = some (maxU32, 0) ∧
    (opRemoveEntities noProbe fo0 [] false remW).state.tables.map (fun T => (T.len, T.cap, T.cols)) =
      (removeSeq noProbe (selEnts remW fo0.filter) remW).state.tables.map
        (fun T => (T.len, T.cap, T.cols)) := by
  decide +kernel

/-- another order (reversed): same liveness and components, a different pool -/
example :
    okVal (removeSeq noProbe (selEnts remW fo0.filter).reverse remW) = some () ∧
    [⟨2, 0⟩, ⟨4, 1⟩, ⟨3, 0⟩, ⟨5, 0⟩, ⟨6, 0⟩, ⟨7, 0⟩, ⟨4, 0⟩].map
        (removeSeq noProbe (selEnts remW fo0.filter).reverse remW).state.alive =
      [false, false, false, false, false, true, false] ∧
    (removeSeq noProbe (selEnts remW fo0.filter).reverse remW).state.pool ≠
      (opRemoveEntities noProbe fo0 [] false remW).state.pool ∧
    (removeSeq noProbe (selEnts remW fo0.filter).reverse remW).state.pool.next = 2 ∧
    (opRemoveEntities noProbe fo0 [] false remW).state.pool.next = 6 := by
  decide +kernel

/-- with the callback: five records, world unlocked again, same pool and index as without -/
example :
    okVal (opRemoveEntities noProbe fo0 [] true remW) = some () ∧
    (opRemoveEntities noProbe fo0 [] true remW).state.log.length = 5 ∧
    (opRemoveEntities noProbe fo0 [] true remW).state.isLocked = false ∧
    (opRemoveEntities noProbe fo0 [] true remW).state.pool =
      (opRemoveEntities noProbe fo0 [] false remW).state.pool ∧
    (opRemoveEntities noProbe fo0 [] true remW).state.entities =
      (opRemoveEntities noProbe fo0 [] false remW).state.entities ∧
    (opRemoveEntities noProbe fo0 [] true remW).state.tables =
      (opRemoveEntities noProbe fo0 [] false remW).state.tables := by
  decide +kernel

/-- **finding (`RowsLive` is necessary)**: put the stale handle `4.0` into the row of entity 4
    (a state in which index, pool and tables still agree on IDs, so `CInv`'s clauses cannot tell the
    difference).  The batch removes "it" — recycling slot 4 — while `RemoveEntity(4.0)` panics
    `deadEntity`: batch ≠ singles.  In worlds reached through the API rows hold current handles
    (`rowsLiveB` of the reachable worlds above is `true`). -/
def staleW : World := remW.modTbl 1 fun T => { T with ents := T.ents.set 1 ⟨4, 0⟩ }

example :
    rowsLiveB remW = true ∧ rowsLiveB staleW = false ∧
    selEnts staleW fo0.filter = [⟨2, 0⟩, ⟨4, 0⟩, ⟨3, 0⟩, ⟨5, 0⟩, ⟨6, 0⟩] ∧
    okVal (opRemoveEntities noProbe fo0 [] false staleW) = some () ∧
    (opRemoveEntities noProbe fo0 [] false staleW).state.alive ⟨4, 1⟩ = false ∧
    okVal (removeSeq noProbe (selEnts staleW fo0.filter) staleW) = none ∧
    (removeSeq noProbe (selEnts staleW fo0.filter) staleW).state.alive ⟨4, 1⟩ = true := by
  decide +kernel

/-! ## 3. the add / remove / exchange batches: `exchangeBatch`

  `ExchOK n add rem m` is the precondition of `graph.Find` on the mask `m`: `rem` distinct and
  present, `add` distinct, registered and absent.  The batch is table selection, `findLoop` (look
  up / create the destination of every non-empty selected table), `Lock`, the move loop, `Unlock`
  (`exchangeBatch_pure_planFirst`): the lock is taken only after `findLoop`, so that a panic of
  `findLoop` leaves the lock state as it was (defect D27, `exchangeBatch_lookup_panic`).  Selection
  and `findLoop` neither read nor write the lock, hence the batch is ALSO `Lock`, selection,
  `findLoop`, move loop, `Unlock` whenever `findLoop` succeeds — `exchangeBatch_pure`, the form the
  specifications below are proved from.
-/

/-- `exchangeTable` is a pure function (`exchangeTableW`), and so is the batch -/
theorem exchangeTable_pure : type_of% @exchangeTable_eq := @exchangeTable_eq
theorem exchangeBatch_pure_planFirst : type_of% @exchangeBatch_eq_planFirst := @exchangeBatch_eq_planFirst
theorem exchangeBatch_pure : type_of% @exchangeBatch_eq := @exchangeBatch_eq
/-- a panic of the lookup loop is the batch's panic, with the same state: the lock has not been
    taken -/
theorem exchangeBatch_lookup_panic : type_of% @exchangeBatch_findLoop_panic :=
  @exchangeBatch_findLoop_panic

/-- **one table move**: all rows of `oldT` are appended to `newT` in order; every moved entity has
    the destination's components, keeps the values of the shared ones and reads zero in the new
    ones; every other entity is untouched; the invariant is kept -/
theorem table_move_post : type_of% @CInv.tableMoved := @CInv.tableMoved

/-- the lookup loop finds (or creates) the table of `xmask add rem (tmask t)` for every non-empty
    selected table `t`; nothing else changes -/
theorem lookup_loop_post : type_of% @findLoop_spec := @findLoop_spec

/-- the moves are independent: no destination is a source, destinations are pairwise different -/
theorem moves_independent : type_of% @movesOK_of_dest := @movesOK_of_dest

/-- **the batch** (no callback) satisfies `ExchangedAllPost` for the selected entities -/
theorem exchangeBatch_spec : type_of% @exchangeBatch_post := @exchangeBatch_post

/-- **the singles**: `Exchange` applied in ANY order to live handles with distinct IDs satisfies
    `ExchangedAllPost` -/
theorem exchange_singles_spec : type_of% @exchangeSeq_post := @exchangeSeq_post

/-- `ExchangedAllPost` determines everything observable -/
theorem exchanged_obs_eq : type_of% @ExchangedAllPost.obs_eq := @ExchangedAllPost.obs_eq

/-- **`AddBatch` / `RemoveBatch` / `ExchangeBatch` (no callback) = `Add` / `Remove` / `Exchange`
    applied to every selected entity**: both succeed, both satisfy `ExchangedAllPost`; same pool,
    same liveness of every handle, same components and values of every entity (observational
    equality: row order inside the tables, capacities and dead memory are not compared). -/
theorem exchangeBatch_eq_singles : type_of% @opExchangeBatch_eq_singles := @opExchangeBatch_eq_singles

/-- one iteration of the move loop with the callback: move, then write `vs` into the moved rows -/
theorem table_step_post : type_of% @CInv.tableStep := @CInv.tableStep

/-- what the callback records, row by row, in terms of the world before the move -/
theorem callback_records : type_of% @loopEvents_eq := @loopEvents_eq

/-- **the batch WITH callback** (`fn` writes `vs`): `ExchangedAllPost … vs`, and `log` grows by
    exactly `batchEvents`: one record per selected entity, in the batch's order, with the entity's
    handle, on a locked world, showing the entity's current values (`seenVal`: the value of a
    component that stays, zero for an added one) -/
theorem exchangeBatchFn_spec : type_of% @exchangeBatch_post' := @exchangeBatch_post'

/-- **`AddBatchFn` / `ExchangeBatchFn` … = the single calls writing the same values** (observational
    equality), plus the callback record -/
theorem exchangeBatchFn_eq_singles : type_of% @opExchangeBatchFn_eq_singles :=
  @opExchangeBatchFn_eq_singles

/-! ### non-vacuity -/

open Ark.Refine in
/-- three component types; entities 2, 3 with `{0}` (values 10, 11), 4 with `{0,1}` (12), 5 with
    `{2}` (15) -/
def exOps : List Op :=
  [.reg 8 false, .reg 8 false, .reg 8 false,
   .new .unsafe_ [0] [(0, 10)], .new .unsafe_ [0] [(0, 11)], .new .unsafe_ [0, 1] [(0, 12), (1, 7)],
   .new .unsafe_ [2] [(2, 15)]]

open Ark.Refine in
def exW : World := (reach noProbe 2 1 exOps).w

open Ark.Refine in
/-- the hypotheses of `exchangeBatch_eq_singles` hold in `exW` for "filter: has 0; add 2, remove 0" -/
example : ∃ fl, CInv exW fl ∧ RowsLive exW ∧ exW.isLocked = false ∧ LockFree exW.locks ∧
    fo0.cache = none ∧ ¬ (([2] : List Comp) = [] ∧ ([0] : List Comp) = []) ∧
    (∀ t ∈ selTables exW fo0.filter, (exW.tbl t).len ≠ 0 →
      ExchOK exW.kinds.length [2] [0] (tmask exW t)) ∧
    exW.tables.length + (selTables exW fo0.filter).length + (selEnts exW fo0.filter).length < maxU32 ∧
    2 * exW.entities.length < 2 ^ 32 := by
  obtain ⟨fl, H⟩ := reach_hinv noProbe 2 1 exOps (by decide)
  have ok : rowsLiveB exW = true ∧ exW.locks = {} ∧
      (∀ t ∈ selTables exW fo0.filter, (exW.tbl t).len ≠ 0 →
        ExchOK exW.kinds.length [2] [0] (tmask exW t)) ∧
      exW.tables.length + (selTables exW fo0.filter).length + (selEnts exW fo0.filter).length
        < maxU32 ∧
      2 * exW.entities.length < 2 ^ 32 := by
    decide +kernel
  exact ⟨fl, H.cinv, rowsLiveB_sound ok.1, H.unlocked, ok.2.1 ▸ lockFree_init, rfl, by decide,
    ok.2.2⟩

/-- the concrete instance: "has 0: add 2, remove 0" as a batch and as three `Exchange` calls —
    same pool, same index, same components and values; entity 5 untouched; tables `{2}`-with-… are
    created by both -/
example :
    selEnts exW fo0.filter = [⟨2, 0⟩, ⟨3, 0⟩, ⟨4, 0⟩] ∧
    okVal (opExchangeBatch noProbe .unsafe_ fo0 [] [2] [0] [] none exW) = some () ∧
    okVal (exchangeSeq noProbe .unsafe_ [2] [0] [] (selEnts exW fo0.filter) exW) = some () ∧
    (opExchangeBatch noProbe .unsafe_ fo0 [] [2] [0] [] none exW).state.pool =
      (exchangeSeq noProbe .unsafe_ [2] [0] [] (selEnts exW fo0.filter) exW).state.pool ∧
    (List.range 7).map (fun i =>
      compsOf (opExchangeBatch noProbe .unsafe_ fo0 [] [2] [0] [] none exW).state i) =
      [none, none, some [2], some [2], some [1, 2], some [2], none] ∧
    (List.range 7).map (fun i =>
      compsOf (exchangeSeq noProbe .unsafe_ [2] [0] [] (selEnts exW fo0.filter) exW).state i) =
      [none, none, some [2], some [2], some [1, 2], some [2], none] ∧
    (List.range 7).map (fun i =>
      (valOf (opExchangeBatch noProbe .unsafe_ fo0 [] [2] [0] [] none exW).state i 2,
       valOf (opExchangeBatch noProbe .unsafe_ fo0 [] [2] [0] [] none exW).state i 1)) =
      (List.range 7).map (fun i =>
      (valOf (exchangeSeq noProbe .unsafe_ [2] [0] [] (selEnts exW fo0.filter) exW).state i 2,
       valOf (exchangeSeq noProbe .unsafe_ [2] [0] [] (selEnts exW fo0.filter) exW).state i 1)) ∧
    valOf (opExchangeBatch noProbe .unsafe_ fo0 [] [2] [0] [] none exW).state 4 1 = some 7 ∧
    valOf (opExchangeBatch noProbe .unsafe_ fo0 [] [2] [0] [] none exW).state 5 2 = some 15 ∧
    (opExchangeBatch noProbe .unsafe_ fo0 [] [2] [0] [] none exW).state.isLocked = false := by
  decide +kernel

/-- an add batch (`rem = []`) and a remove batch (`add = []`) in the same world -/
example :
    okVal (opExchangeBatch noProbe .typed fo0 [] [2] [] [] none exW) = some () ∧
    (List.range 7).map (fun i =>
      compsOf (opExchangeBatch noProbe .typed fo0 [] [2] [] [] none exW).state i) =
      [none, none, some [0, 2], some [0, 2], some [0, 1, 2], some [2], none] ∧
    valOf (opExchangeBatch noProbe .typed fo0 [] [2] [] [] none exW).state 3 0 = some 11 ∧
    valOf (opExchangeBatch noProbe .typed fo0 [] [2] [] [] none exW).state 3 2 = some 0 ∧
    okVal (opExchangeBatch noProbe .typed fo0 [] [] [0] [] none exW) = some () ∧
    (List.range 7).map (fun i =>
      compsOf (opExchangeBatch noProbe .typed fo0 [] [] [0] [] none exW).state i) =
      [none, none, some [], some [], some [1], some [2], none] := by
  decide +kernel

/-- with the callback (typed path; `fn` writes 5 into component 2 and 99 into the kept component
    1): same values as the three single `Exchange` calls; three callback records; the world is
    unlocked again -/
example :
    okVal (opExchangeBatch noProbe .typed fo0 [] [2] [0] [] (some [(2, 5), (1, 99)]) exW) = some () ∧
    okVal (exchangeSeq noProbe .typed [2] [0] [(2, 5), (1, 99)] (selEnts exW fo0.filter) exW) =
      some () ∧
    (List.range 7).map (fun i =>
      (valOf (opExchangeBatch noProbe .typed fo0 [] [2] [0] [] (some [(2, 5), (1, 99)]) exW).state i 2,
       valOf (opExchangeBatch noProbe .typed fo0 [] [2] [0] [] (some [(2, 5), (1, 99)]) exW).state i 1)) =
      [(none, none), (none, none), (some 5, none), (some 5, none), (some 5, some 99),
       (some 15, none), (none, none)] ∧
    (List.range 7).map (fun i =>
      (valOf (exchangeSeq noProbe .typed [2] [0] [(2, 5), (1, 99)] (selEnts exW fo0.filter) exW).state i 2,
       valOf (exchangeSeq noProbe .typed [2] [0] [(2, 5), (1, 99)] (selEnts exW fo0.filter) exW).state i 1)) =
      [(none, none), (none, none), (some 5, none), (some 5, none), (some 5, some 99),
       (some 15, none), (none, none)] ∧
    (opExchangeBatch noProbe .typed fo0 [] [2] [0] [] (some [(2, 5), (1, 99)]) exW).state.log.length = 3 ∧
    (batchEvents exW fo0.filter [0] (some [(2, 5), (1, 99)])).length = 3 ∧
    (exchangeSeq noProbe .typed [2] [0] [(2, 5), (1, 99)] (selEnts exW fo0.filter) exW).state.log.length = 0 ∧
    (opExchangeBatch noProbe .typed fo0 [] [2] [0] [] (some [(2, 5), (1, 99)]) exW).state.isLocked = false ∧
    -- what the callback saw for entity 4: component 2 (added) reads 0, component 1 (kept) reads 7
    [seenVal exW [0] ⟨4, 0⟩ 2, seenVal exW [0] ⟨4, 0⟩ 1, seenVal exW [0] ⟨4, 0⟩ 0] = [0, 7, 0] := by
  decide +kernel

/-- the precondition matters: if one selected table already has the added component the batch
    panics (`alreadyHas`).  `exchangeBatch` takes the world lock only AFTER the lookup loop (defect
    D27), so the call is rejected with the lock state exactly as before — the world is NOT left
    locked — and no entity is changed; the next structural operation is accepted.  General
    statement: `Ark.Props.C07Batch.exchangeBatch_panic_unlocked`. -/
example :
    okVal (opExchangeBatch noProbe .unsafe_ fo0 [] [1] [] [] none exW) = none ∧
    exW.isLocked = false ∧
    (opExchangeBatch noProbe .unsafe_ fo0 [] [1] [] [] none exW).state.isLocked = false ∧
    (opExchangeBatch noProbe .unsafe_ fo0 [] [1] [] [] none exW).state.locks = exW.locks ∧
    (opExchangeBatch noProbe .unsafe_ fo0 [] [1] [] [] none exW).state.entities = exW.entities ∧
    (List.range 7).map (fun i =>
      compsOf (opExchangeBatch noProbe .unsafe_ fo0 [] [1] [] [] none exW).state i) =
      (List.range 7).map (fun i => compsOf exW i) ∧
    okVal (opNewEntity0 noProbe
      (opExchangeBatch noProbe .unsafe_ fo0 [] [1] [] [] none exW).state) = some ⟨6, 0⟩ := by
  decide +kernel

/-- what a rejected batch does leave behind: the destination tables the lookup loop created for
    the EARLIER source tables before it panicked.  "All entities: remove 0" in `exW` — the table of
    `{0}` goes to the (existing) table of `{}`, for the table of `{0, 1}` archetype and table of
    `{1}` are created, the table of `{2}` fails the precondition (`missing`): one archetype and
    one table more than before; lock state, entity index, components and values of every entity
    as before. -/
example :
    (match opExchangeBatch noProbe .unsafe_ { filter := {} } [] [] [0] [] none exW with
      | .ok _ _ => none | .panic k _ => some k) = some PanicKind.missing ∧
    (opExchangeBatch noProbe .unsafe_ { filter := {} } [] [] [0] [] none exW).state.isLocked = false ∧
    (opExchangeBatch noProbe .unsafe_ { filter := {} } [] [] [0] [] none exW).state.locks = exW.locks ∧
    exW.tables.length = 4 ∧ exW.archetypes.length = 4 ∧
    (opExchangeBatch noProbe .unsafe_ { filter := {} } [] [] [0] [] none exW).state.tables.length = 5 ∧
    (opExchangeBatch noProbe .unsafe_ { filter := {} } [] [] [0] [] none exW).state.archetypes.length = 5 ∧
    (opExchangeBatch noProbe .unsafe_ { filter := {} } [] [] [0] [] none exW).state.entities =
      exW.entities ∧
    (List.range 7).map (fun i =>
      compsOf (opExchangeBatch noProbe .unsafe_ { filter := {} } [] [] [0] [] none exW).state i) =
      (List.range 7).map (fun i => compsOf exW i) ∧
    (List.range 7).map (fun i => (List.range 3).map fun c =>
      valOf (opExchangeBatch noProbe .unsafe_ { filter := {} } [] [] [0] [] none exW).state i c) =
      (List.range 7).map (fun i => (List.range 3).map fun c => valOf exW i c) := by
  decide +kernel

end Ark.Props.C06World
