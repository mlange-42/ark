/-
  C08 / C09 at world level for RELATION events: `SetRelations` (`OnRemoveRelations` /
  `OnAddRelations` fired by `FireSetRelations`) and the relation rounds of `NewEntity(ids…, rels…)`,
  `Add(e, ids…, rels…)`, `Remove(e, ids…)` and `RemoveEntity(e)`.

  "An observer is notified of an event exactly when the documented conditions on the event type,
  the affected components (For), the entity's composition (With/Without/Exclusive) hold — once per
  affected entity — and whether it fires never depends on which other observers are or were
  registered."  "Removal events see the world before the change, addition events after it; the
  world is locked during [removal] callbacks."

  Setting (`SettingRel run S rec w fl`, Ark/Proofs/CallbacksRelAdd.lean): a world WITH relation
  components satisfying `TInvObs w fl` — the joint invariant `TInv` of the relation fragment
  (Ark/Props/C04World.lean; it says nothing about observers: `tinvObs_iff`) together with the
  observer setting `ObsOK` of Ark/Props/C08World.lean, for ANY set of registered observers; a
  callback runner that is READ-ONLY on the probes of the observers' scripts.

  Finding (documented behaviour made precise): as for `Remove`, the world the `OnRemoveRelations`
  callbacks of `SetRelations` see is not literally the world before the call with the lock held:
  the destination table of the move has already been found, recycled or created (`RelLooked`); no
  entity-level observation (liveness, components, values, relation targets) can tell the
  difference.  The same holds for `Remove` (`remove_rel_sees`).
  Hypotheses beyond the setting: the lock hands out a bit (`LockCycle`), as in C08World; the IDs
  of the targets assigned lie inside the pool slice (`htin`, inherited from the observer-free
  specifications `opSetRelations_spec`, `opNewEntity_rel_spec`, `opAdd_rel_spec` since the pool
  link tolerates invalidated handles behind the slice after `Reset`); the handle's ID lies inside
  the slice (`Live.inPool`).
-/
import Ark.Proofs.CallbacksRelRemove
import Ark.Props.C04World
import Ark.Proofs.Eval
import Ark.Proofs.CallbacksSeen
import Ark.Proofs.CallbacksRelAdd

set_option autoImplicit false

namespace Ark.Props.C08Rel
open Ark Ark.World Ark.Spec Ark.QueryExact Ark.Props.C01World

variable {run : ProbeRunner} {S : Probe → Prop} {rec : World → Nat → Ent → Probe → List LogEv}
  {w : World} {fl : List Nat}

/-! ### 1. the setting -/

/-- `TInvObs` is the invariant `TInv` of the relation fragment — which does not mention
    observers, log or lock — plus the observer setting -/
theorem tinvObs_is_tinv_plus_obsOK (w : World) (fl : List Nat) :
    TInvObs w fl ↔ TInv w fl ∧ ObsOK w.obs := tinvObs_iff w fl

theorem tinvObs_initially (cap rel : Nat) : TInvObs (World.init cap rel) [] :=
  ⟨tinv_init cap rel, obsOK_init⟩

/-- the setting carries over to the result of the operation -/
theorem setting_kept {w0 w' : World} {fl' : List Nat} (st : SettingRel run S rec w fl)
    (hf : FrameOf w0 w w') (h0 : TInv w0 fl') : SettingRel run S rec w' fl' := st.frame hf h0

/-! ### 2. `SetRelations` -/

/-- **rejected exactly as without observers** (no invariant needed) -/
theorem setRelations_rejected_as_without_observers (run run0 : ProbeRunner) (p : Path) (e : Ent)
    (mapperIds : List Comp) (rels : List RelID) (w : World) {k : PanicKind} {s : World}
    (h0 : opSetRelations run0 p e mapperIds rels w.noObs = .panic k s) :
    opSetRelations run p e mapperIds rels w = .panic k (s.reframe w.obs w.log w.locks) :=
  (opSetRelations_lifts run run0 p e mapperIds rels w.obs w.log w.noObs
    (setRelationsCore_lifts run run0 e rels w.obs w.log w.noObs)).panic h0

/-- **accepted exactly as without observers, and which callbacks run**: the result is the
    observer-free result `w0` with the observers put back (`FrameOf`); the `cb` records appended
    are — oldest first — `(l, e)` for the `OnRemoveRelations` observers, then for the
    `OnAddRelations` observers, in registration order, whose SPECIFICATION fires for
    `.set changed mask`: `changed` = the relation components named whose target CHANGES
    (`changedRels`), `mask` = the entity's mask.  A call that changes no target returns the world
    untouched and notifies nobody (not even wildcard observers). -/
theorem setRelations_callbacks (st : SettingRel run S rec w fl) (run0 : ProbeRunner) (p : Path)
    (hl : w.isLocked = false) {e : Ent} (he : Live w fl e)
    {mapperIds : List Comp} {rels : List RelID}
    (hne : rels.isEmpty = false) (hnd : (rels.map (·.comp)).Nodup)
    (hhas : ∀ (r : RelID), r ∈ rels → (targetOf w e.id r.comp).isSome = true)
    (htin : ∀ (r : RelID), r ∈ rels → r.target.id < w.pool.ents.length)
    (hfew : w.tables.length < maxU32) (hrows : w.entities.length + 1 < 2 ^ 32)
    {l1 l2 : Lock} {b : Nat} (hL : LockCycle w.locks l1 b l2) {w0 : World}
    (h0 : opSetRelations run0 p e mapperIds rels w.noObs = .ok () w0) :
    SetRelPost w.noObs fl e rels w0 ∧
    ∃ (w' : World), opSetRelations run p e mapperIds rels w = .ok () w' ∧ FrameOf w0 w w' ∧
      w'.locks = lockAfterRel w (changedRels w e rels) l2 ∧
      (changedRels w e rels = [] → w' = w) ∧
      cbsOf w'.log =
        ((firingRel w.obs Ev.onAddRelations (changedRels w e rels) (w.maskOf e)).map
            fun l => (l, e)).reverse
        ++ (((firingRel w.obs Ev.onRemoveRelations (changedRels w e rels) (w.maskOf e)).map
            fun l => (l, e)).reverse
        ++ cbsOf w.log) := by
  obtain ⟨post, hcase⟩ := opSetRelations_callbacks st.ro run0 p st.scripts st.inv hl he.ge2
    he.notFree he.alive he.inPool hne hnd hhas htin hfew hrows hL h0
  refine ⟨post, ?_⟩
  unfold lockAfterRel firingRel
  rcases hcase with ⟨hc, hw0, hop⟩ | ⟨hc, w1, _, hop⟩
  · refine ⟨w, hop, by rw [hw0]; rfl, by rw [if_pos hc], fun _ => rfl, ?_⟩
    simp only [hc, if_true, List.map_nil, List.reverse_nil, List.nil_append]
  · refine ⟨_, hop, rfl, by rw [if_neg hc]; rfl, fun hh => absurd hh hc, ?_⟩
    simp only [hc, if_false]
    show cbsOf (relAddLog rec w.obs e _ _ _ ++ (relRemLog rec w.obs e _ _ _ ++ w.log)) = _
    unfold relAddLog relRemLog
    rw [cbsOf_round st.noCb, cbsOf_round st.noCb]

/-- what `changedRels` and `firingRel` are -/
theorem changedRels_iff {w : World} {e : Ent} {rels : List RelID} {c : Comp} :
    c ∈ changedRels w e rels ↔
      ∃ (r : RelID), r ∈ rels ∧ targetOf w e.id r.comp ≠ some r.target ∧ r.comp = c := by
  simp only [changedRels, List.mem_map, List.mem_filter, decide_eq_true_iff, and_assoc]

theorem firingRel_iff {m : ObsMgr} {evt : Nat} {changed : List Comp} {mask : Mask} {l : Nat} :
    l ∈ firingRel m evt changed mask ↔
      changed ≠ [] ∧ l ∈ (m.evt evt).observers ∧
        Spec.fires (m.obj l).spec (.set (Mask.ofList changed) mask) := by
  unfold firingRel
  split
  · rename_i h; simp [h]
  · rename_i h; simp [h, mem_firing]

/-- **accepted** under the documented preconditions, with any set of registered observers -/
theorem setRelations_accepted (st : SettingRel run S rec w fl) (p : Path)
    (hl : w.isLocked = false) {e : Ent} (he : Live w fl e) {rels : List RelID}
    (hne : rels.isEmpty = false) (hnd : (rels.map (·.comp)).Nodup)
    (hhas : ∀ (r : RelID), r ∈ rels → (targetOf w e.id r.comp).isSome = true)
    (hval : ∀ (r : RelID), r ∈ rels → r.target.isZero = true ∨ w.alive r.target = true)
    (hreg : ∀ (r : RelID), r ∈ rels → w.isRelComp r.comp = true ∧ r.comp < 256)
    (htin : ∀ (r : RelID), r ∈ rels → r.target.id < w.pool.ents.length)
    (hfew : w.tables.length < maxU32) (hrows : w.entities.length + 1 < 2 ^ 32)
    {l1 l2 : Lock} {b : Nat} (hL : LockCycle w.locks l1 b l2) :
    ∃ (w' : World), opSetRelations run p e (rels.map (·.comp)) rels w = .ok () w' := by
  obtain ⟨w0, h0⟩ := opSetRelations_total run p st.inv.tinv hl (noObs_hasObservers w) he.ge2
    he.notFree he.alive he.inPool hne hnd hhas hval hreg
  obtain ⟨_, w', hop, _⟩ := setRelations_callbacks st run p hl he hne hnd hhas htin hfew hrows hL h0
  exact ⟨w', hop⟩

/-- **C09**: removal observers see the world before the move, locked; addition observers the
    world after it, the lock released -/
theorem setRelations_sees (st : SettingRel run S rec w fl) (run0 : ProbeRunner) (p : Path)
    (hl : w.isLocked = false) {e : Ent} (he : Live w fl e)
    {mapperIds : List Comp} {rels : List RelID}
    (hne : rels.isEmpty = false) (hnd : (rels.map (·.comp)).Nodup)
    (hhas : ∀ (r : RelID), r ∈ rels → (targetOf w e.id r.comp).isSome = true)
    (htin : ∀ (r : RelID), r ∈ rels → r.target.id < w.pool.ents.length)
    (hfew : w.tables.length < maxU32) (hrows : w.entities.length + 1 < 2 ^ 32)
    {l1 l2 : Lock} {b : Nat} (hL : LockCycle w.locks l1 b l2) {w0 : World}
    (h0 : opSetRelations run0 p e mapperIds rels w.noObs = .ok () w0)
    (hch : changedRels w e rels ≠ []) :
    ∃ (seenB seenA w' : World), opSetRelations run p e mapperIds rels w = .ok () w' ∧
      w'.log =
        notifyAll rec e (firing w.obs Ev.onAddRelations
          (.set (Mask.ofList (changedRels w e rels)) (w.maskOf e))) seenA ++
        (notifyAll rec e (firing w.obs Ev.onRemoveRelations
          (.set (Mask.ofList (changedRels w e rels)) (w.maskOf e))) seenB ++ w.log) ∧
      seenB.isLocked = true ∧ seenB.obs = w.obs ∧ seenB.log = w.log ∧
      (∀ (j : Nat), SameEnt w seenB j) ∧
      (∀ (j : Nat) (c : Comp), targetOf seenB j c = targetOf w j c) ∧
      (∀ (x : Ent), seenB.alive x = w.alive x) ∧
      seenA = { w' with log := seenA.log } ∧
      (∀ (r : RelID), r ∈ rels → targetOf seenA e.id r.comp = some r.target) ∧
      (∀ (c : Comp), (∀ (r : RelID), r ∈ rels → r.comp ≠ c) →
        targetOf seenA e.id c = targetOf w e.id c) ∧
      SameEnt w seenA e.id ∧
      (∀ (j : Nat), j ≠ e.id → SameEnt w seenA j ∧ ∀ (c : Comp), targetOf seenA j c = targetOf w j c) ∧
      (∀ (x : Ent), seenA.alive x = w.alive x) := by
  obtain ⟨post, hcase⟩ := opSetRelations_callbacks st.ro run0 p st.scripts st.inv hl he.ge2
    he.notFree he.alive he.inPool hne hnd hhas htin hfew hrows hL h0
  rcases hcase with ⟨hc, _, _⟩ | ⟨_, w1, lk, hop⟩
  · exact absurd hc hch
  · refine ⟨w1.reframe w.obs w.log l1,
      w0.reframe w.obs (relRemLog rec w.obs e (Mask.ofList (changedRels w e rels)) (w.maskOf e)
        (w1.reframe w.obs w.log l1) ++ w.log) (lockAfter w Ev.onRemoveRelations l2),
      _, hop, rfl, LockCycle.locked hL, rfl, rfl, lk.same, lk.targets, lk.alive, rfl,
      post.targets, post.otherTargets, post.self, post.frame, post.aliveSame⟩

/-- for a log-blind runner every record of a round is a function of the ONE world the round ran
    on (`seenB` resp. `seenA` above) -/
theorem round_log_blind (hb : LogBlind rec) (e : Ent) (ls : List Nat) (seen : World) :
    notifyAll rec e ls seen = (ls.reverse.flatMap fun l => notifyFlat rec l e seen) :=
  notifyAll_blind hb e ls seen

/-! ### 3. exactly once, independence -/

/-- **exactly once, and never otherwise** -/
theorem setRelations_exactly_once {m : ObsMgr} (h : ObsOK m) (evt : Nat) (changed : List Comp)
    (mask : Mask) (e : Ent) (l : Nat) :
    (((firingRel m evt changed mask).map fun x => (x, e)).reverse).count (l, e)
      = if l ∈ firingRel m evt changed mask then 1 else 0 := by
  unfold firingRel
  split
  · simp
  · exact count_cbs_firing h evt _ e l

/-- **independence**: the number of callbacks of observer `l` in either round of `SetRelations`
    is the same under any two observer managers that agree on `l` — whether it is listed for the
    event type, and its specification — whatever else is or was registered (`changed` and `mask`
    are computed from the world without observers) -/
theorem setRelations_observer_independent {m m' : ObsMgr} (h : ObsOK m) (h' : ObsOK m') {evt : Nat}
    {l : Nat} (hl : l ∈ (m'.evt evt).observers ↔ l ∈ (m.evt evt).observers)
    (hs : (m'.obj l).spec = (m.obj l).spec) (changed : List Comp) (mask : Mask) (e : Ent) :
    (((firingRel m' evt changed mask).map fun x => (x, e)).reverse).count (l, e)
      = (((firingRel m evt changed mask).map fun x => (x, e)).reverse).count (l, e) := by
  unfold firingRel
  split
  · rfl
  · exact Ark.observer_independent h h' hl hs _ e

/-! ### 4. the relation rounds of `NewEntity`, `Add`, `Remove`, `RemoveEntity` -/

/-- the `OnAddRelations` observers of an addition-type call: none if it names no relation -/
theorem firingIfRels_iff {m : ObsMgr} {rels : List RelID} {ev : EvInst} {l : Nat} :
    l ∈ firingIfRels m rels ev ↔
      rels ≠ [] ∧ l ∈ (m.evt Ev.onAddRelations).observers ∧ Spec.fires (m.obj l).spec ev := by
  unfold firingIfRels
  cases rels with
  | nil => simp
  | cons r rs => simp [mem_firing]

/-- the `OnRemoveRelations` observers of a removal: none unless a relation is removed -/
theorem firingRemRel_iff {m : ObsMgr} {rr : Bool} {ev : EvInst} {l : Nat} :
    l ∈ firingRemRel m rr ev ↔
      rr = true ∧ l ∈ (m.evt Ev.onRemoveRelations).observers ∧ Spec.fires (m.obj l).spec ev := by
  unfold firingRemRel
  cases rr <;> simp [mem_firing]

/-- `Remove(e, rem…)` removes a relation iff some removed component is a relation component of
    `e`; `e` has a relation component iff some component has a target -/
theorem removesRel_iff {w : World} {e : Ent} {rem : List Comp} :
    removesRel w e rem = true ↔ ∃ (c : Comp), c ∈ rem ∧ (targetOf w e.id c).isSome = true := by
  simp only [removesRel, List.any_eq_true]

theorem hasRelComps_iff_target (h : TInvObs w fl) {e : Ent} (he : Live w fl e) :
    hasRelComps w e = true ↔ ∃ (c : Comp), (targetOf w e.id c).isSome = true := by
  have h := h.toTInv
  obtain ⟨oldT, row, he, htm, hT, hrow, hTf⟩ :=
    h.live_table he.ge2 he.notFree he.alive he.inPool
  have hix := index_of_get he
  have hS := h.rel.sinv.toSInvMid
  have hTex := h.rel.aux.rels oldT _ hT hTf
  simp only [hasRelComps, hix, Table.hasRelations]
  constructor
  · intro hne
    cases hr : (w.tbl oldT).relIDs with
    | nil => rw [hr] at hne; cases hne
    | cons r rs =>
      obtain ⟨i, k1, k2, _⟩ := hTex.sound r (by rw [hr]; exact List.mem_cons_self)
      refine ⟨r.comp, ?_⟩
      rw [targetOf_of_entry he htm hT,
        Table.targetAt_of_col (Table.colIdx_of_get (hS.ids_nodup hT) k1) k2]
      rfl
  · rintro ⟨c, hs⟩
    obtain ⟨t0, r0, k, T, g1, _, g3, g4, g5⟩ := targetOf_isSome hs
    rw [he] at g1
    obtain ⟨rfl, rfl⟩ := Prod.mk.inj (Option.some.inj g1)
    rw [hT] at g3
    obtain rfl := Option.some.inj g3
    have hm := hTex.complete k c (Table.colIdx_get g4) g5
    cases hr : (w.tbl oldT).relIDs with
    | nil => rw [hr] at hm; cases hm
    | cons r rs => rfl

/-- **no relation, no relation observers** — not even wildcard ones -/
theorem no_relation_no_relation_observers (m : ObsMgr) (ev : EvInst) :
    firingIfRels m [] ev = [] ∧ firingRemRel m false ev = [] ∧
    ∀ (evt : Nat) (mask : Mask), firingRel m evt [] mask = [] := ⟨rfl, rfl, fun _ _ => rfl⟩

/-- **rejected exactly as without observers** (no invariant needed): all checks precede the
    events -/
theorem newEntity_rel_rejected_as_without_observers (run run0 : ProbeRunner) (p : Path)
    (ids : List Comp) (vals : List (Comp × Val)) (rels : List RelID) (w : World) {k : PanicKind}
    {s : World} (h0 : opNewEntity run0 p ids vals rels w.noObs = .panic k s) :
    opNewEntity run p ids vals rels w = .panic k (s.relog w.obs w.log) :=
  (opNewEntity_lifts run run0 p ids vals rels w.obs w.log w.noObs).panicOL h0

theorem add_rel_rejected_as_without_observers (run run0 : ProbeRunner) (p : Path) (e : Ent)
    (ids : List Comp) (vals : List (Comp × Val)) (rels : List RelID) (w : World) {k : PanicKind}
    {s : World} (h0 : opAdd run0 p e ids vals rels w.noObs = .panic k s) :
    opAdd run p e ids vals rels w = .panic k (s.relog w.obs w.log) :=
  (opAdd_lifts run run0 p e ids vals rels w.obs w.log w.noObs).panicOL h0

theorem remove_rel_rejected_as_without_observers (run run0 : ProbeRunner) (p : Path) (e : Ent)
    (rem : List Comp) (w : World) {k : PanicKind} {s : World}
    (h0 : opRemove run0 p e rem w.noObs = .panic k s) :
    opRemove run p e rem w = .panic k (s.reframe w.obs w.log w.locks) :=
  (opRemove_lifts run run0 p e rem w.obs w.log w.noObs
    (removeCore_lifts run run0 e rem w.obs w.log w.noObs)).panic h0

/-- `RemoveEntity` on a locked world or of a dead entity: rejected exactly as without observers -/
theorem removeEntity_rejected_as_without_observers (run run0 : ProbeRunner) (w : World) (e : Ent)
    (h : w.isLocked = true ∨ w.alive e = false) :
    opRemoveEntity run e w
      = (opRemoveEntity run0 e w.noObs).mapS fun s => s.reframe w.obs w.log w.locks := by
  cases hl : w.isLocked with
  | true =>
    rw [opRemoveEntity_locked run w hl, opRemoveEntity_locked run0 w.noObs hl]
    rfl
  | false =>
    rcases h with h | ha
    · rw [hl] at h; cases h
    · rw [opRemoveEntity_dead run w hl e ha, opRemoveEntity_dead run0 w.noObs hl e ha]
      rfl

/-- `RemoveEntity` on an unlocked world of an alive entity, no invariant needed: whatever the
    observer-free call does (success, or a panic inside the clean-up of a relation target), the
    call with observers does, after the two rounds of callbacks -/
theorem removeEntity_as_without_observers (hro : ReadOnly run S rec) (run0 : ProbeRunner)
    (w : World) (e : Ent) (hs : ScriptsIn w.obs S) (hok : ObsOK w.obs) (hl : w.isLocked = false)
    (ha : w.alive e = true) {l1 l2 : Lock} {b : Nat} (hL : LockCycle w.locks l1 b l2) :
    opRemoveEntity run e w = (opRemoveEntity run0 e w.noObs).mapS fun s => s.reframe w.obs
      (remRounds rec w.obs e Ev.onRemoveEntity (.entity (w.maskOf e))
        (w.tbl (w.index e.id).1).hasRelations (.entityRel (w.maskOf e)) (w.withLocks l1) ++ w.log)
      (lockAfter2 w Ev.onRemoveEntity (w.tbl (w.index e.id).1).hasRelations l2) :=
  opRemoveEntity_transfer hro run0 w e hs hok hl ha hL

/-- **C08 for `NewEntity(ids…, rels…)`** -/
theorem newEntity_rel_callbacks (st : SettingRel run S rec w fl) (run0 : ProbeRunner) (p : Path)
    (hl : w.isLocked = false) {ids : List Comp} {vals : List (Comp × Val)} {rels : List RelID}
    (hreg : ∀ (c : Comp), c ∈ ids → c < w.kinds.length)
    (hnd : (rels.map (·.comp)).Nodup) (hin : ∀ (r : RelID), r ∈ rels → r.comp ∈ ids)
    (hrc : ∀ (r : RelID), r ∈ rels → w.isRelComp r.comp = true)
    (htin : ∀ (r : RelID), r ∈ rels → r.target.id < w.pool.ents.length)
    (hfew : w.tables.length < maxU32) (hrows : w.entities.length + 1 < 2 ^ 32)
    {e : Ent} {w0 : World} (h0 : opNewEntity run0 p ids vals rels w.noObs = .ok e w0) :
    NewRelPost w.noObs fl rels e w0 ∧
    ∃ (w' : World), opNewEntity run p ids vals rels w = .ok e w' ∧ FrameOf w0 w w' ∧
      w'.locks = w0.locks ∧
      cbsOf w'.log =
        ((firingIfRels w.obs rels (.entityRel (Mask.ofList ids))).map fun l => (l, e)).reverse ++
        (((firing w.obs Ev.onCreateEntity (.entity (Mask.ofList ids))).map fun l => (l, e)).reverse
          ++ cbsOf w.log) := by
  obtain ⟨post, w1, _, _, hop⟩ := opNewEntity_rel_callbacks st.ro run0 p st.scripts st.inv hl hreg
    hnd hin hrc htin hfew hrows h0
  exact ⟨post, _, hop, frameOf_relog _ _ _, rfl, cbsOf_twoRounds st.noCb _ _ _ _ _⟩

/-- **C09 for `NewEntity(ids…, rels…)`**: the complete log; both rounds run on the world after the
    creation (`seenAfter`: with the typed paths the values are written, with `Unsafe` not yet), the
    relation round with the records of the first round logged -/
theorem newEntity_rel_sees (hro : ReadOnly run S rec) (run0 : ProbeRunner) (p : Path)
    (hs : ScriptsIn w.obs S) (h : TInvObs w fl)
    (hl : w.isLocked = false) {ids : List Comp} {vals : List (Comp × Val)} {rels : List RelID}
    (hreg : ∀ (c : Comp), c ∈ ids → c < w.kinds.length)
    (hnd : (rels.map (·.comp)).Nodup) (hin : ∀ (r : RelID), r ∈ rels → r.comp ∈ ids)
    (hrc : ∀ (r : RelID), r ∈ rels → w.isRelComp r.comp = true)
    (htin : ∀ (r : RelID), r ∈ rels → r.target.id < w.pool.ents.length)
    (hfew : w.tables.length < maxU32) (hrows : w.entities.length + 1 < 2 ^ 32)
    {e : Ent} {w0 : World} (h0 : opNewEntity run0 p ids vals rels w.noObs = .ok e w0) :
    NewRelPost w.noObs fl rels e w0 ∧
    ∃ (w1 : World), newEntityCore ids rels w.noObs = .ok (e, Mask.ofList ids) w1 ∧
      w0 = writeValsW w1 e vals ∧
      opNewEntity run p ids vals rels w = .ok e (w0.relog w.obs
        (addRounds rec w.obs e Ev.onCreateEntity (.entity (Mask.ofList ids)) rels
          (.entityRel (Mask.ofList ids)) ((seenAfter p w1 e vals).relog w.obs w.log) ++ w.log)) :=
  opNewEntity_rel_callbacks hro run0 p hs h hl hreg hnd hin hrc htin hfew hrows h0

/-- **C08 for `Add(e, ids…, rels…)`** -/
theorem add_rel_callbacks (st : SettingRel run S rec w fl) (run0 : ProbeRunner) (p : Path)
    (hl : w.isLocked = false) {e : Ent} (he : Live w fl e)
    {ids : List Comp} {vals : List (Comp × Val)} {rels : List RelID}
    (hreg : ∀ (c : Comp), c ∈ ids → c < w.kinds.length)
    (hnd : (rels.map (·.comp)).Nodup) (hin : ∀ (r : RelID), r ∈ rels → r.comp ∈ ids)
    (hrc : ∀ (r : RelID), r ∈ rels → w.isRelComp r.comp = true)
    (htin : ∀ (r : RelID), r ∈ rels → r.target.id < w.pool.ents.length)
    (hfew : w.tables.length < maxU32) (hrows : w.entities.length + 1 < 2 ^ 32)
    {w0 : World} (h0 : opAdd run0 p e ids vals rels w.noObs = .ok () w0) :
    AddRelPost w.noObs fl e ids vals rels w0 ∧
    ∃ (w' : World), opAdd run p e ids vals rels w = .ok () w' ∧ FrameOf w0 w w' ∧
      w'.locks = w0.locks ∧
      cbsOf w'.log =
        ((firingIfRels w.obs rels
            (.add (w.maskOf e) (ids.foldl Mask.set (w.maskOf e)))).map fun l => (l, e)).reverse ++
        (((firing w.obs Ev.onAddComponents
            (.add (w.maskOf e) (ids.foldl Mask.set (w.maskOf e)))).map fun l => (l, e)).reverse
          ++ cbsOf w.log) := by
  obtain ⟨post, w1, _, _, hop⟩ := opAdd_rel_callbacks st.ro run0 p st.scripts st.inv hl he.ge2
    he.notFree he.alive he.inPool hreg hnd hin hrc htin hfew hrows h0
  exact ⟨post, _, hop, frameOf_relog _ _ _, rfl, cbsOf_twoRounds st.noCb _ _ _ _ _⟩

/-- **C09 for `Add(e, ids…, rels…)`**: the complete log; both rounds on the world after the change -/
theorem add_rel_sees (hro : ReadOnly run S rec) (run0 : ProbeRunner) (p : Path)
    (hs : ScriptsIn w.obs S) (h : TInvObs w fl) (hl : w.isLocked = false) {e : Ent}
    (he : Live w fl e) {ids : List Comp} {vals : List (Comp × Val)} {rels : List RelID}
    (hreg : ∀ (c : Comp), c ∈ ids → c < w.kinds.length)
    (hnd : (rels.map (·.comp)).Nodup) (hin : ∀ (r : RelID), r ∈ rels → r.comp ∈ ids)
    (hrc : ∀ (r : RelID), r ∈ rels → w.isRelComp r.comp = true)
    (htin : ∀ (r : RelID), r ∈ rels → r.target.id < w.pool.ents.length)
    (hfew : w.tables.length < maxU32) (hrows : w.entities.length + 1 < 2 ^ 32)
    {w0 : World} (h0 : opAdd run0 p e ids vals rels w.noObs = .ok () w0) :
    AddRelPost w.noObs fl e ids vals rels w0 ∧
    ∃ (w1 : World),
      addCore e ids rels w.noObs = .ok (w.maskOf e, ids.foldl Mask.set (w.maskOf e)) w1 ∧
      w0 = writeValsW w1 e vals ∧
      opAdd run p e ids vals rels w = .ok () (w0.relog w.obs
        (addRounds rec w.obs e Ev.onAddComponents
          (.add (w.maskOf e) (ids.foldl Mask.set (w.maskOf e))) rels
          (.add (w.maskOf e) (ids.foldl Mask.set (w.maskOf e)))
          ((seenAfter p w1 e vals).relog w.obs w.log) ++ w.log)) :=
  opAdd_rel_callbacks hro run0 p hs h hl he.ge2 he.notFree he.alive he.inPool hreg hnd hin hrc htin
    hfew hrows h0

/-- **C08 for `Remove(e, rem…)` in a world with relations** (the call never fails) -/
theorem remove_rel_callbacks (st : SettingRel run S rec w fl) (run0 : ProbeRunner) (p : Path)
    (hl : w.isLocked = false) {e : Ent} (he : Live w fl e)
    {rem : List Comp} (hne : rem ≠ []) (hnd : rem.Nodup)
    (hpres : ∀ (c : Comp), c ∈ rem → (w.maskOf e).get c = true)
    (hfew : w.tables.length < maxU32) (hrows : w.entities.length + 1 < 2 ^ 32)
    {l1 l2 : Lock} {b : Nat} (hL : LockCycle w.locks l1 b l2) :
    ∃ (w0 w' : World),
      opRemove run0 p e rem w.noObs = .ok () w0 ∧ RemRelPost w.noObs fl e rem w0 ∧
      opRemove run p e rem w = .ok () w' ∧ FrameOf w0 w w' ∧
      w'.locks = lockAfter2 w Ev.onRemoveComponents (removesRel w e rem) l2 ∧
      cbsOf w'.log =
        ((firingRemRel w.obs (removesRel w e rem)
            (.remove (w.maskOf e) (rem.foldl Mask.clear (w.maskOf e)))).map fun l => (l, e)).reverse ++
        (((firing w.obs Ev.onRemoveComponents
            (.remove (w.maskOf e) (rem.foldl Mask.clear (w.maskOf e)))).map fun l => (l, e)).reverse
          ++ cbsOf w.log) := by
  obtain ⟨w1, w0, _, _, h3, h4, h5⟩ := opRemove_rel_callbacks st.ro run0 p st.scripts st.inv hl
    he.ge2 he.notFree he.alive he.inPool hne hnd hpres hfew hrows hL
  exact ⟨_, _, h3, h4, h5, frameOf_reframe _ _ _ _, rfl, cbsOf_twoRounds st.noCb _ _ _ _ _⟩

/-- **C09 for `Remove`**: the complete log; both rounds run on `w1` LOCKED — the world after the
    table lookup, in which every entity (the reported one included) has the components, values and
    relation targets it had before the call -/
theorem remove_rel_sees (hro : ReadOnly run S rec) (run0 : ProbeRunner) (p : Path)
    (hs : ScriptsIn w.obs S) (h : TInvObs w fl) (hl : w.isLocked = false) {e : Ent}
    (he : Live w fl e) {rem : List Comp} (hne : rem ≠ []) (hnd : rem.Nodup)
    (hpres : ∀ (c : Comp), c ∈ rem → (w.maskOf e).get c = true)
    (hfew : w.tables.length < maxU32) (hrows : w.entities.length + 1 < 2 ^ 32)
    {l1 l2 : Lock} {b : Nat} (hL : LockCycle w.locks l1 b l2) :
    ∃ (w1 w0 : World),
      (∀ (j : Nat), SameEnt w.noObs w1 j ∧ ∀ (c : Comp), targetOf w1 j c = targetOf w.noObs j c) ∧
      (∀ (x : Ent), w1.alive x = w.alive x) ∧ (w1.reframe w.obs w.log l1).isLocked = true ∧
      opRemove run0 p e rem w.noObs = .ok () w0 ∧ RemRelPost w.noObs fl e rem w0 ∧
      opRemove run p e rem w = .ok () (w0.reframe w.obs
        (remRounds rec w.obs e Ev.onRemoveComponents
          (.remove (w.maskOf e) (rem.foldl Mask.clear (w.maskOf e))) (removesRel w e rem)
          (.remove (w.maskOf e) (rem.foldl Mask.clear (w.maskOf e)))
          (w1.reframe w.obs w.log l1) ++ w.log)
        (lockAfter2 w Ev.onRemoveComponents (removesRel w e rem) l2)) := by
  obtain ⟨w1, w0, a, b', c, d, e'⟩ := opRemove_rel_callbacks hro run0 p hs h hl he.ge2 he.notFree
    he.alive he.inPool hne hnd hpres hfew hrows hL
  exact ⟨w1, w0, a, b', LockCycle.locked hL, c, d, e'⟩

/-- **C08 for `RemoveEntity(e)` in a world with relations** — `e` may have relation components
    and may be a relation target (the call never fails) -/
theorem removeEntity_rel_callbacks (st : SettingRel run S rec w fl) (run0 : ProbeRunner)
    (hl : w.isLocked = false) {e : Ent} (he : Live w fl e)
    (hfew : w.tables.length + w.relationArchetypes.length + 1 ≤ maxU32)
    (hrows : 2 * w.entities.length < 2 ^ 32)
    {l1 l2 : Lock} {b : Nat} (hL : LockCycle w.locks l1 b l2) :
    ∃ (w0 w' : World),
      opRemoveEntity run0 e w.noObs = .ok () w0 ∧ RemovedRelPost w.noObs fl e w0 ∧
      opRemoveEntity run e w = .ok () w' ∧ FrameOf w0 w w' ∧
      w'.locks = lockAfter2 w Ev.onRemoveEntity (hasRelComps w e) l2 ∧
      cbsOf w'.log =
        ((firingRemRel w.obs (hasRelComps w e) (.entityRel (w.maskOf e))).map
            fun l => (l, e)).reverse ++
        (((firing w.obs Ev.onRemoveEntity (.entity (w.maskOf e))).map fun l => (l, e)).reverse
          ++ cbsOf w.log) := by
  obtain ⟨w0, h1, h2, h3⟩ := opRemoveEntity_rel_callbacks st.ro run0 st.scripts st.inv hl he.ge2
    he.notFree he.alive he.inPool hfew hrows hL
  exact ⟨_, _, h1, h2, h3, frameOf_reframe _ _ _ _, rfl, cbsOf_twoRounds st.noCb _ _ _ _ _⟩

/-- **C09 for `RemoveEntity`**: the complete log; both rounds run on `w` itself, LOCKED — before
    the row is removed and before the relation tables of a target are cleaned up -/
theorem removeEntity_rel_sees (hro : ReadOnly run S rec) (run0 : ProbeRunner)
    (hs : ScriptsIn w.obs S) (h : TInvObs w fl) (hl : w.isLocked = false) {e : Ent}
    (he : Live w fl e) (hfew : w.tables.length + w.relationArchetypes.length + 1 ≤ maxU32)
    (hrows : 2 * w.entities.length < 2 ^ 32)
    {l1 l2 : Lock} {b : Nat} (hL : LockCycle w.locks l1 b l2) :
    (w.withLocks l1).isLocked = true ∧
    ∃ (w0 : World),
      opRemoveEntity run0 e w.noObs = .ok () w0 ∧ RemovedRelPost w.noObs fl e w0 ∧
      opRemoveEntity run e w = .ok () (w0.reframe w.obs
        (remRounds rec w.obs e Ev.onRemoveEntity (.entity (w.maskOf e)) (hasRelComps w e)
          (.entityRel (w.maskOf e)) (w.withLocks l1) ++ w.log)
        (lockAfter2 w Ev.onRemoveEntity (hasRelComps w e) l2)) :=
  ⟨LockCycle.locked hL, opRemoveEntity_rel_callbacks hro run0 hs h hl he.ge2 he.notFree he.alive
    he.inPool hfew hrows hL⟩

/-- what the rounds are (newest first): the first round on `seen`, the relation round on `seen`
    with the records of the first round logged -/
theorem addRounds_def (m : ObsMgr) (e : Ent) (evt1 : Nat) (ev1 : EvInst) (rels : List RelID)
    (ev2 : EvInst) (seen : World) :
    addRounds rec m e evt1 ev1 rels ev2 seen =
      notifyAll rec e (firingIfRels m rels ev2)
          (seen.addLog (notifyAll rec e (firing m evt1 ev1) seen))
        ++ notifyAll rec e (firing m evt1 ev1) seen := rfl

theorem remRounds_def (m : ObsMgr) (e : Ent) (evt1 : Nat) (ev1 : EvInst) (rr : Bool)
    (ev2 : EvInst) (seen : World) :
    remRounds rec m e evt1 ev1 rr ev2 seen =
      notifyAll rec e (firingRemRel m rr ev2)
          (seen.addLog (notifyAll rec e (firing m evt1 ev1) seen))
        ++ notifyAll rec e (firing m evt1 ev1) seen := rfl

/-- a round that takes place only under a condition: "once iff selected" and the callback counts
    carry over from the unconditional round -/
theorem count_cbs_guarded {L : List Nat} (c : Prop) [Decidable c] (e : Ent) (l : Nat)
    (h : ((L.map fun x => (x, e)).reverse).count (l, e) = if l ∈ L then 1 else 0) :
    (((if c then [] else L).map fun x => (x, e)).reverse).count (l, e)
      = if l ∈ (if c then [] else L) then 1 else 0 := by
  split
  · simp
  · exact h

theorem count_cbs_guarded_congr {L L' : List Nat} (c : Prop) [Decidable c] (e : Ent) (l : Nat)
    (h : ((L'.map fun x => (x, e)).reverse).count (l, e)
      = ((L.map fun x => (x, e)).reverse).count (l, e)) :
    (((if c then [] else L').map fun x => (x, e)).reverse).count (l, e)
      = (((if c then [] else L).map fun x => (x, e)).reverse).count (l, e) := by
  split
  · rfl
  · exact h

/-- **exactly once** and **independence** for the relation rounds of these operations -/
theorem relRound_exactly_once {m : ObsMgr} (h : ObsOK m) (rels : List RelID) (rr : Bool)
    (ev : EvInst) (e : Ent) (l : Nat) :
    (((firingIfRels m rels ev).map fun x => (x, e)).reverse).count (l, e)
      = (if l ∈ firingIfRels m rels ev then 1 else 0) ∧
    (((firingRemRel m rr ev).map fun x => (x, e)).reverse).count (l, e)
      = (if l ∈ firingRemRel m rr ev then 1 else 0) := by
  refine ⟨count_cbs_guarded _ e l (count_cbs_firing h _ ev e l), ?_⟩
  unfold firingRemRel
  split
  · exact count_cbs_firing h _ ev e l
  · simp

theorem relRound_observer_independent {m m' : ObsMgr} (h : ObsOK m) (h' : ObsOK m') {l : Nat}
    (hla : l ∈ (m'.evt Ev.onAddRelations).observers ↔ l ∈ (m.evt Ev.onAddRelations).observers)
    (hlr : l ∈ (m'.evt Ev.onRemoveRelations).observers ↔ l ∈ (m.evt Ev.onRemoveRelations).observers)
    (hs : (m'.obj l).spec = (m.obj l).spec) (rels : List RelID) (rr : Bool) (ev : EvInst) (e : Ent) :
    (((firingIfRels m' rels ev).map fun x => (x, e)).reverse).count (l, e)
      = (((firingIfRels m rels ev).map fun x => (x, e)).reverse).count (l, e) ∧
    (((firingRemRel m' rr ev).map fun x => (x, e)).reverse).count (l, e)
      = (((firingRemRel m rr ev).map fun x => (x, e)).reverse).count (l, e) := by
  refine ⟨count_cbs_guarded_congr _ e l (Ark.observer_independent h h' hla hs _ e), ?_⟩
  unfold firingRemRel
  split
  · exact Ark.observer_independent h h' hlr hs _ e
  · rfl

/-! ### 5. non-vacuity: a concrete world with relations and relation observers -/

section Demo
open Ark.Props.C04World

/-- the `Observer` values the client built (label ↦ specification; the scripts are `look` probes).
    Component 0 = `ChildOf` (relation), 1 = `Pos`:
    1 `OnRemoveRelations.For(0)`, 2 `OnAddRelations.For(0)`, 3 `OnAddRelations.With(1)` (wildcard),
    4 `OnAddRelations.For(0).Without(1)`, 5 `OnRemoveRelations.With(1)` (wildcard),
    6 `OnRemoveRelations.For(0).Exclusive()`, 7 `OnCreateEntity`, 8 `OnRemoveEntity`,
    9 `OnAddComponents.For(0)`, 10 `OnRemoveComponents.For(0)` -/
def objs : AL ObsObj :=
  [ (1, { spec := { event := Ev.onRemoveRelations, comps := [0], script := [.look] } }),
    (2, { spec := { event := Ev.onAddRelations, comps := [0], script := [.look] } }),
    (3, { spec := { event := Ev.onAddRelations, with_ := [1], script := [.look] } }),
    (4, { spec := { event := Ev.onAddRelations, comps := [0], without := [1], script := [.look] } }),
    (5, { spec := { event := Ev.onRemoveRelations, with_ := [1], script := [.look] } }),
    (6, { spec := { event := Ev.onRemoveRelations, comps := [0], exclusive := true,
                    script := [.look] } }),
    (7, { spec := { event := Ev.onCreateEntity, script := [.look] } }),
    (8, { spec := { event := Ev.onRemoveEntity, script := [.look] } }),
    (9, { spec := { event := Ev.onAddComponents, comps := [0], script := [.look] } }),
    (10, { spec := { event := Ev.onRemoveComponents, comps := [0], script := [.look] } }) ]

/-- the world `d7` of Ark/Props/C04World.lean (parents `p1 = ⟨2,0⟩`, `p2 = ⟨3,0⟩`; children 4, 5
    of `p1` in table 1, child 6 of `p2` in table 2) with the observer objects on the heap … -/
def w00 : World := { d7 with obs := { objs := objs } }

/-- … and all of them registered, in the order of their labels -/
def wRel : World := regAll [1, 2, 3, 4, 5, 6, 7, 8, 9, 10] w00

def c6 : Ent := ⟨6, 0⟩

theorem demo_free_list {fl : List Nat} (H : TInv d7 fl) : fl = [] := by
  have h := H.link.pool.ch
  have h0 : Pool.chain d7.pool.ents d7.pool.next d7.pool.available = some [] := by
    decide +kernel
  rw [h0] at h
  exact (Option.some.inj h).symm

/-- **the hypotheses of all theorems above are satisfiable**: the demo world is in the setting
    (with the runner of the harness), child 6 is a live handle, the world is unlocked and its
    lock is in the initial state -/
theorem demo_setting :
    SettingRel World.probe (· = Probe.look) lookRec wRel [] ∧ LogBlind lookRec ∧
    Live wRel [] c6 ∧ Live wRel [] p1 ∧ Live wRel [] p2 ∧ wRel.isLocked = false ∧
    LockCycle wRel.locks lockDuringQuery 0 lockAfterQuery ∧
    wRel.tables.length < maxU32 ∧ wRel.entities.length + 1 < 2 ^ 32 ∧
    wRel.tables.length + wRel.relationArchetypes.length + 1 ≤ maxU32 ∧
    2 * wRel.entities.length < 2 ^ 32 := by
  obtain ⟨fl, H, _, _⟩ := good_d7
  have hfl := demo_free_list H
  subst hfl
  have ok : RegAllOK [1, 2, 3, 4, 5, 6, 7, 8, 9, 10] w00 ∧ wRel.locks = {} ∧
      (∀ q ∈ wRel.obs.objs, ∀ p ∈ q.2.spec.script, p = Probe.look) ∧
      (wRel.alive c6 = true ∧ c6.id < wRel.pool.ents.length) ∧
      (wRel.alive p1 = true ∧ p1.id < wRel.pool.ents.length) ∧
      (wRel.alive p2 = true ∧ p2.id < wRel.pool.ents.length) ∧ wRel.isLocked = false ∧
      wRel.tables.length < maxU32 ∧ wRel.entities.length + 1 < 2 ^ 32 ∧
      wRel.tables.length + wRel.relationArchetypes.length + 1 ≤ maxU32 ∧
      2 * wRel.entities.length < 2 ^ 32 := by
    decide +kernel
  obtain ⟨hreg, hlocks, hscr, h6, h1, h2, hl, hfew, hrows, hfew', hrows'⟩ := ok
  obtain ⟨hok, hw⟩ := regAll_spec [1, 2, 3, 4, 5, 6, 7, 8, 9, 10] w00 (obsOK_of_no_events rfl) hreg
  have hw' : wRel = { w00 with obs := wRel.obs } := hw
  -- in two steps, so that no unification has to evaluate `d7`
  have H1 : TInv w00 [] := H.reframe _ _ _
  have H2 : TInv wRel [] := by rw [hw']; exact H1.reframe _ _ _
  refine ⟨⟨probe_readOnly, lookRec_noCb, scriptsIn_of_objs hscr, (tinvObs_iff _ _).mpr ⟨H2, hok⟩⟩,
    lookRec_logBlind, ⟨by decide, by simp, h6.1, h6.2⟩, ⟨by decide, by simp, h1.1, h1.2⟩,
    ⟨by decide, by simp, h2.1, h2.2⟩, hl, ?_, hfew, hrows, hfew', hrows'⟩
  rw [hlocks]; exact lockCycle_default

/-- the registration lists, the entity's mask and targets in the demo world -/
example : (wRel.obs.evt Ev.onRemoveRelations).observers = [1, 5, 6] ∧
    (wRel.obs.evt Ev.onAddRelations).observers = [2, 3, 4] ∧
    wRel.maskOf c6 = Mask.ofList [0, 1] ∧ targetOf wRel 6 0 = some p2 := by
  decide +kernel

/-- re-targeting child 6 from `p2` to `p1` changes relation component 0; to `p2` changes nothing.
    The documented callback sets: `OnRemoveRelations.For(0)` and the wildcard `With(1)`, not
    `For(0).Exclusive()` (the entity also has component 1); `OnAddRelations.For(0)` and the
    wildcard `With(1)`, not `For(0).Without(1)`.  Nothing for a call that changes no target. -/
example :
    changedRels wRel c6 [⟨0, p1⟩] = [0] ∧ changedRels wRel c6 [⟨0, p2⟩] = [] ∧
    firingRel wRel.obs Ev.onRemoveRelations [0] (Mask.ofList [0, 1]) = [1, 5] ∧
    firingRel wRel.obs Ev.onAddRelations [0] (Mask.ofList [0, 1]) = [2, 3] ∧
    firingRel wRel.obs Ev.onRemoveRelations [] (Mask.ofList [0, 1]) = [] ∧
    firingRel wRel.obs Ev.onAddRelations [] (Mask.ofList [0, 1]) = [] := by
  decide +kernel

/-- the `cb` records of a run of the model with the runner of the harness (`none` = panic) -/
def cbsAfter {α : Type} (r : Res World α) : Option (List (Nat × Ent)) :=
  match r with
  | .ok _ w' => some (cbsOf w'.log)
  | .panic _ _ => none

/-- … and that is what the model does (the log is newest-first: first the removal observers
    1, 5, then the addition observers 2, 3) -/
example :
    cbsAfter (opSetRelations World.probe .typed c6 [0] [⟨0, p1⟩] wRel)
      = some [(3, c6), (2, c6), (5, c6), (1, c6)] ∧
    cbsAfter (opSetRelations World.probe .unsafe_ c6 [] [⟨0, p1⟩] wRel)
      = some [(3, c6), (2, c6), (5, c6), (1, c6)] ∧
    cbsAfter (opSetRelations World.probe .typed c6 [0] [⟨0, p2⟩] wRel)
      = some ([] : List (Nat × Ent)) := by
  decide +kernel

theorem ok_of_value {α : Type} {r : Res World α} {a : α}
    (h : (match r with | .ok x _ => some x | .panic _ _ => none) = some a) : r = .ok a r.state := by
  cases r with
  | ok x s => cases h; rfl
  | panic k s => cases h

/-- the theorem applied: `SetRelations(child 6, ChildOf → p1)` on the demo world -/
example : ∃ w0 w' : World,
    opSetRelations noRun .typed c6 [0] [⟨0, p1⟩] wRel.noObs = .ok () w0 ∧
    SetRelPost wRel.noObs [] c6 [⟨0, p1⟩] w0 ∧
    opSetRelations World.probe .typed c6 [0] [⟨0, p1⟩] wRel = .ok () w' ∧ FrameOf w0 wRel w' ∧
    cbsOf w'.log = [(3, c6), (2, c6), (5, c6), (1, c6)] := by
  obtain ⟨st, _, he, hp1, _, hl, hL, hfew, hrows, _, _⟩ := demo_setting
  have h0 := ok_of_value (r := opSetRelations noRun .typed c6 [0] [⟨0, p1⟩] wRel.noObs) (a := ())
    (by decide +kernel)
  obtain ⟨post, w', h1, h2, _, _, h5⟩ := setRelations_callbacks st noRun .typed hl he
    (mapperIds := [0]) (rels := [⟨0, p1⟩]) (by decide) (by decide) (by decide +kernel)
    (fun r hr => List.mem_singleton.mp hr ▸ hp1.inPool) hfew hrows hL h0
  refine ⟨_, w', h0, post, h1, h2, ?_⟩
  rw [h5]
  decide +kernel

/-- what the two rounds see in the demo (the `look` records: alive?, locked?, values, targets):
    the removal observers see child 6 with its OLD target `p2` under the lock, the addition
    observers see it with its NEW target `p1`, unlocked -/
example :
    (match opSetRelations World.probe .typed c6 [0] [⟨0, p1⟩] wRel with
     | .ok _ w' => w'.log.filterMap fun ev => match ev with
        | .look a lk _ ts => some (a, lk, ts)
        | _ => none
     | .panic _ _ => []) =
      [(true, false, [(0, p1)]), (true, false, [(0, p1)]),
       (true, true, [(0, p2)]), (true, true, [(0, p2)])] := by
  decide +kernel

/-- **the lock hypothesis is necessary**: with all 64 lock bits outstanding `SetRelations` with a
    registered `OnRemoveRelations` observer panics "out of locks" -/
theorem lock_hypothesis_necessary :
    (match opSetRelations World.probe .typed c6 [0] [⟨0, p1⟩]
        (wRel.withLocks { pool := { length := 64 }, locks := 0#64 }) with
     | .panic k _ => k == .outOfLocks
     | .ok _ _ => false) = true := by
  decide +kernel

/-! #### the relation rounds of the other operations in the demo world -/

/-- the documented callback sets of the relation rounds: creating `[ChildOf → p1, Pos]` notifies
    `OnAddRelations.For(0)` and the wildcard `With(1)`, not `For(0).Without(1)`; adding
    `ChildOf → p1` to the component-less `p2` notifies `For(0)` and `For(0).Without(1)`, not
    `With(1)`; removing `ChildOf` from child 6 (`[ChildOf, Pos]`) notifies
    `OnRemoveRelations.For(0)` and the wildcard `With(1)`, not `For(0).Exclusive()`; removing `Pos`
    removes no relation; child 6 has a relation component, the parent `p1` has none -/
example :
    firingIfRels wRel.obs [⟨0, p1⟩] (.entityRel (Mask.ofList [0, 1])) = [2, 3] ∧
    firingIfRels wRel.obs [⟨0, p1⟩] (.add Mask.empty (Mask.ofList [0])) = [2, 4] ∧
    removesRel wRel c6 [0] = true ∧ removesRel wRel c6 [1] = false ∧
    firingRemRel wRel.obs true (.remove (Mask.ofList [0, 1]) (Mask.ofList [1])) = [1, 5] ∧
    hasRelComps wRel c6 = true ∧ hasRelComps wRel p1 = false ∧
    firingRemRel wRel.obs true (.entityRel (Mask.ofList [0, 1])) = [1, 5] ∧
    wRel.maskOf p2 = Mask.empty ∧ wRel.isTarget.getD p1.id false = true := by
  decide +kernel

/-- … and that is what the model does (newest first; `⟨7,0⟩` is the handle of the new entity).
    No relation named / removed, or no relation component: no relation observer is notified — not
    even the wildcards 3 and 5 — also when the removed entity is a relation TARGET (`p1`). -/
example :
    cbsAfter (opNewEntity World.probe .typed [0, 1] [(1, 3)] [⟨0, p1⟩] wRel)
      = some [(3, ⟨7, 0⟩), (2, ⟨7, 0⟩), (7, ⟨7, 0⟩)] ∧
    cbsAfter (opNewEntity World.probe .typed [1] [(1, 3)] [] wRel) = some [(7, ⟨7, 0⟩)] ∧
    cbsAfter (opAdd World.probe .typed p2 [0] [] [⟨0, p1⟩] wRel)
      = some [(4, p2), (2, p2), (9, p2)] ∧
    cbsAfter (opRemove World.probe .typed c6 [0] wRel) = some [(5, c6), (1, c6), (10, c6)] ∧
    cbsAfter (opRemove World.probe .typed c6 [1] wRel) = some ([] : List (Nat × Ent)) ∧
    cbsAfter (opRemoveEntity World.probe c6 wRel) = some [(5, c6), (1, c6), (8, c6)] ∧
    cbsAfter (opRemoveEntity World.probe p1 wRel) = some [(8, p1)] := by
  decide +kernel

/-- the theorems applied: `Remove(child 6, ChildOf)` and `RemoveEntity(p1)` — a relation target
    whose relation table is cleaned up after the callbacks — on the demo world -/
example : ∃ w0 w' : World,
    opRemove noRun .typed c6 [0] wRel.noObs = .ok () w0 ∧ RemRelPost wRel.noObs [] c6 [0] w0 ∧
    opRemove World.probe .typed c6 [0] wRel = .ok () w' ∧ FrameOf w0 wRel w' ∧
    cbsOf w'.log = [(5, c6), (1, c6), (10, c6)] := by
  obtain ⟨st, _, he, _, _, hl, hL, hfew, hrows, _, _⟩ := demo_setting
  obtain ⟨w0, w', h1, h2, h3, h4, _, h6⟩ := remove_rel_callbacks st noRun .typed hl he
    (rem := [0]) (by simp) (by simp) (by decide +kernel) hfew hrows hL
  refine ⟨w0, w', h1, h2, h3, h4, ?_⟩
  rw [h6]
  decide +kernel

example : ∃ w0 w' : World,
    opRemoveEntity noRun p1 wRel.noObs = .ok () w0 ∧ RemovedRelPost wRel.noObs [] p1 w0 ∧
    opRemoveEntity World.probe p1 wRel = .ok () w' ∧ FrameOf w0 wRel w' ∧
    cbsOf w'.log = [(8, p1)] ∧ targetOf w' 4 0 = some Ent.zero := by
  obtain ⟨st, _, _, he, _, hl, hL, _, _, hfew, hrows⟩ := demo_setting
  obtain ⟨w0, w', h1, h2, h3, h4, _, h6⟩ := removeEntity_rel_callbacks st noRun hl he hfew hrows hL
  refine ⟨w0, w', h1, h2, h3, h4, ?_, ?_⟩
  · rw [h6]
    decide +kernel
  · have := (h2.frame 4 (by decide)).2 0
    rw [h4]
    show targetOf w0 4 0 = _
    rw [this]
    decide +kernel

/-- `NewEntity` with a relation, the theorem applied -/
example : ∃ w0 w' : World,
    opNewEntity noRun .typed [0, 1] [(1, 3)] [⟨0, p1⟩] wRel.noObs = .ok ⟨7, 0⟩ w0 ∧
    NewRelPost wRel.noObs [] [⟨0, p1⟩] ⟨7, 0⟩ w0 ∧
    opNewEntity World.probe .typed [0, 1] [(1, 3)] [⟨0, p1⟩] wRel = .ok ⟨7, 0⟩ w' ∧
    FrameOf w0 wRel w' ∧ cbsOf w'.log = [(3, ⟨7, 0⟩), (2, ⟨7, 0⟩), (7, ⟨7, 0⟩)] := by
  obtain ⟨st, _, _, hp1, _, hl, _, hfew, hrows, _, _⟩ := demo_setting
  have h0 := ok_of_value (r := opNewEntity noRun .typed [0, 1] [(1, 3)] [⟨0, p1⟩] wRel.noObs)
    (a := ⟨7, 0⟩) (by decide +kernel)
  obtain ⟨post, w', h1, h2, _, h5⟩ := newEntity_rel_callbacks st noRun .typed hl
    (ids := [0, 1]) (vals := [(1, 3)]) (rels := [⟨0, p1⟩]) (by decide +kernel) (by decide)
    (by decide) (by decide +kernel) (fun r hr => List.mem_singleton.mp hr ▸ hp1.inPool) hfew hrows
    h0
  refine ⟨_, w', h0, post, h1, h2, ?_⟩
  rw [h5]
  decide +kernel

/-- the `look` records of a run (alive?, locked?, relation targets), newest first -/
def looksAfter {α : Type} (r : Res World α) : List (Bool × Bool × List (Comp × Ent)) :=
  match r with
  | .ok _ w' => w'.log.filterMap fun ev => match ev with
      | .look a lk _ ts => some (a, lk, ts)
      | _ => none
  | .panic _ _ => []

/-- what the relation rounds see in the demo: `OnAddRelations` after `NewEntity`: the new entity
    with its target, unlocked; `OnRemoveRelations` before `Remove` / `RemoveEntity`: child 6 still
    with its target `p2`, under the lock -/
example :
    looksAfter (opNewEntity World.probe .typed [0, 1] [(1, 3)] [⟨0, p1⟩] wRel) =
      [(true, false, [(0, p1)]), (true, false, [(0, p1)]), (true, false, [(0, p1)])] ∧
    looksAfter (opRemove World.probe .typed c6 [0] wRel) =
      [(true, true, [(0, p2)]), (true, true, [(0, p2)]), (true, true, [(0, p2)])] ∧
    looksAfter (opRemoveEntity World.probe c6 wRel) =
      [(true, true, [(0, p2)]), (true, true, [(0, p2)]), (true, true, [(0, p2)])] :=
  and_of_decide of_decide_eq_true (by decide +kernel)

end Demo

end Ark.Props.C08Rel
