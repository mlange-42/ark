/-
  C08 / C09 at world level: the events of `Exchange(e, add, rem, rels)` in worlds WITH relation
  components, with ANY set of registered observers, on every access path (`Unsafe.Exchange`,
  `ExchangeN.Exchange`).

  "An observer is notified of an event exactly when the documented conditions on the event type,
  the affected components (For), the entity's composition (With/Without/Exclusive) hold — once per
  affected entity — and whether it fires never depends on which other observers are or were
  registered."  "Removal events see the world before the change, addition events after it; the
  world is locked during [removal] callbacks."

  Setting (`SettingRel run S rec w fl`, Ark/Proofs/CallbacksRelAdd.lean, as in Ark/Props/C08Rel.lean):
  a world satisfying `TInvObs w fl` (= the joint invariant `TInv` of the relation fragment + the
  observer setting `ObsOK`), a callback runner that is READ-ONLY on the probes of the observers'
  scripts.

  Every panic of the observer-free call is the same panic with observers, on the same world, and
  every accepted observer-free call is accepted with observers (no invariant needed): all checks
  and the table lookup precede the first event.

  Which callbacks run (`exchange_callbacks`, `exchange_log`, `exchange_sees`).
  For a live entity and arguments satisfying the documented preconditions `XchgPre`
  (Ark/Props/C01Xchg.lean) the call is accepted, the result is the observer-free result `w0`
  (`XchgRelPost`) with the observers put back (`FrameOf`), and the `cb` records appended are —
  oldest first, each list in registration order, each observer once —
    a. if `rem ≠ []`: the `OnRemoveComponents` observers whose specification fires for
       `.remove old new`;
    b. if `rem ≠ []` and some removed component is a relation component of `e` (`removesRel`): the
       `OnRemoveRelations` observers whose specification fires for `.remove old new`;
       — a. and b. under ONE lock, on ONE world `seenB` in which every entity (`e` included, with the
       components, values and targets about to be removed) is as before the call;
    c. unless the path is `Unsafe` and `add = []`: the `OnAddComponents` observers whose
       specification fires for `.add old new`;
    d. if moreover relation targets are given (`rels ≠ []`): the `OnAddRelations` observers whose
       specification fires for `.add old new`;
       — c. and d. on the world after the change (lock released): the observer-free result of
       `World.exchange`, with the values written on the typed path, not yet on `Unsafe`.

  FINDINGS
  * **mask pairs** (`exchange_masks`, `fires_remove_iff`, `fires_add_iff`): all four rounds are
    evaluated on the SAME pair `old = mask of e before the call`,
    `new = (old ∖ rem) ∪ add = mask after the COMPLETE exchange` — the removal rounds as
    `.remove old new`, the addition rounds as `.add old new`; never on the intermediate mask
    `old ∖ rem`, never on a "change mask" (unlike `SetRelations`, whose rounds get the set of
    changed relation components).  In terms of the call: an observer of a removal round fires iff
    `For ⊆ rem` (or no `For`), of an addition round iff `For ⊆ add` (or no `For`), and — in ALL
    FOUR rounds — its `With` / `Without` / `Exclusive` conditions hold for the mask BEFORE the
    call.  Consequence (`demo_with_on_old_mask`): an `OnAddComponents.For(A).With(B)` callback of
    an exchange that removes `B` runs on an entity that does NOT have `B`; an
    `OnAddComponents.For(A).Without(B)` observer is NOT notified although the entity it would
    see lacks `B`.  The relation rounds use the same COMPONENT masks: `OnRemoveRelations.For(c)`
    fires iff `c ∈ rem` — whether or not `c` is a relation component — provided SOME removed
    component is a relation component; `OnAddRelations.For(c)` iff `c ∈ add`, provided targets are
    given.  Without the invariant (`exchange_accepted_as_without_observers`) the removal rounds use
    the mask `m` the table lookup computes, the addition rounds the mask of the new archetype read
    after the move; under the invariant both are `new`.
  * **path** (`path_matters_only_for_pure_removals`, `pure_removal_*`): `Unsafe` vs typed makes a
    difference for WHICH observers run only when `add = []`: `Unsafe.Exchange` then skips BOTH
    addition rounds, the typed path runs the `OnAddComponents` round (for `.add old new` with
    `new ⊆ old`), which selects exactly the `OnAddComponents` observers WITHOUT `For` components
    whose `With`/`Without` fit `old` — wildcard observers are told of an "addition" that added
    nothing.  Under `XchgPre`, `add = []` forces `rels = []`, so the `OnAddRelations` round is
    never affected (in the demo such a call with `rels ≠ []` is rejected on both paths).  For `add ≠ []` the
    lists are path-independent; the paths then differ only in what the addition callbacks READ
    (`seenAfter`: values written on the typed path, zero on `Unsafe`) and in the order of the
    rejections (C01Xchg).
  * hypotheses beyond the setting and `XchgPre`: the relation targets given lie inside the pool
    slice (`htin`, as for the observer-free specification `opExchange_rel_spec` since `Reset` is a
    step of the relation machines; the handle itself: `Live.inPool`); the lock hands out a bit
    (`LockCycle`), as in C08World / C08Rel;
    `lock_hypothesis_necessary`: with all 64 bits outstanding the call panics "out of locks".
-/
import Ark.Proofs.CallbacksRelXchg
import Ark.Props.C08Rel
import Ark.Props.C01Xchg
import Ark.Proofs.CallbacksSeen
import Ark.Proofs.CallbacksRelAdd

set_option autoImplicit false

namespace Ark.Props.C08Xchg
open Ark Ark.World Ark.Spec Ark.QueryExact Ark.Props.C01World

variable {run : ProbeRunner} {S : Probe → Prop} {rec : World → Nat → Ent → Probe → List LogEv}
  {w : World} {fl : List Nat}

/-! ### 1. as without observers -/

/-- **rejected exactly as without observers** (any path, no invariant needed) -/
theorem exchange_rejected_as_without_observers (run run0 : ProbeRunner) (p : Path) (e : Ent)
    (add : List Comp) (vals : List (Comp × Val)) (rem : List Comp) (rels : List RelID) (w : World)
    {k : PanicKind} {s : World}
    (h0 : opExchange run0 p e add vals rem rels w.noObs = .panic k s) :
    opExchange run p e add vals rem rels w = .panic k (s.reframe w.obs w.log w.locks) :=
  (opExchange_lifts run run0 p e add vals rem rels w.obs w.log w.noObs).panic h0

/-- … and so is `World.exchange` itself -/
theorem exchange_core_rejected_as_without_observers (run run0 : ProbeRunner) (e : Ent)
    (add rem : List Comp) (rels : List RelID) (w : World) {k : PanicKind} {s : World}
    (h0 : exchangeCore run0 e add rem rels w.noObs = .panic k s) :
    exchangeCore run e add rem rels w = .panic k (s.reframe w.obs w.log w.locks) :=
  (exchangeCore_lifts run run0 e add rem rels w.obs w.log w.noObs).panic h0

/-- **accepted exactly as without observers** (any path, no invariant needed), with the
    observer-free result up to `obs` / `log` / lock pool: `w1` = the observer-free world after the
    table lookup, `w2` = after `World.exchange` (returned masks `old`, `new`; `m` = the mask the
    lookup computes, `rr` its `relationRemoved` flag), `w0 = writeValsW w2 e vals` -/
theorem exchange_accepted_as_without_observers (hro : ReadOnly run S rec) (run0 : ProbeRunner)
    (p : Path) (e : Ent) (add : List Comp) (vals : List (Comp × Val)) (rem : List Comp)
    (rels : List RelID) (w : World) (hs : ScriptsIn w.obs S) (hok : ObsOK w.obs)
    {l1 l2 : Lock} {b : Nat} (hL : LockCycle w.locks l1 b l2) {w0 : World}
    (h0 : opExchange run0 p e add vals rem rels w.noObs = .ok () w0) :
    ∃ (old new m : Mask) (t a : Nat) (rr : Bool) (w1 w2 : World),
      findOrCreateTable (w.index e.id).1 (w.maskOf e) add rem rels w.noObs = .ok (t, a, m, rr) w1 ∧
      exchangeCore run0 e add rem rels w.noObs = .ok (old, new) w2 ∧
      w2 = registerW (addMove w1 e (w.index e.id).1 (w.index e.id).2 t m) rels ∧
      old = w.maskOf e ∧ new = (w2.arch a).mask ∧
      w0 = writeValsW w2 e vals ∧
      opExchange run p e add vals rem rels w = .ok ()
        (xchgResult rec w w1 w2 p e add vals rem rels rr old m new l1 l2) :=
  (opExchange_lifts run run0 p e add vals rem rels w.obs w.log w.noObs).ok h0 hro hs hok hL

/-- the result, spelled out: the observer-free result with the observers of `w`, the lock state
    `lockAfterX2`, and the log `addition rounds on seenA ++ (removal rounds on w1 LOCKED ++ w.log)` -/
theorem xchgResult_def (w w1 w2 : World) (p : Path) (e : Ent) (add : List Comp)
    (vals : List (Comp × Val)) (rem : List Comp) (rels : List RelID) (rr : Bool) (old m new : Mask)
    (l1 l2 : Lock) :
    xchgResult rec w w1 w2 p e add vals rem rels rr old m new l1 l2 =
      (writeValsW w2 e vals).reframe w.obs
        (xAddRounds rec w.obs p e add rels (.add old new)
            ((seenAfter p w2 e vals).reframe w.obs
              (xRemRounds rec w.obs e rem rr (.remove old m) (w1.reframe w.obs w.log l1) ++ w.log)
              (lockAfterX2 w rem rr l2))
          ++ (xRemRounds rec w.obs e rem rr (.remove old m) (w1.reframe w.obs w.log l1) ++ w.log))
        (lockAfterX2 w rem rr l2) := rfl

/-- what the rounds are (newest first): the component round on `seen`, the relation round on
    `seen` with the records of the component round logged -/
theorem xRemRounds_def (m : ObsMgr) (e : Ent) (rem : List Comp) (rr : Bool) (ev : EvInst)
    (seen : World) :
    xRemRounds rec m e rem rr ev seen =
      notifyAll rec e (firingXRemRel m rem rr ev)
          (seen.addLog (notifyAll rec e (firingXRem m rem ev) seen))
        ++ notifyAll rec e (firingXRem m rem ev) seen := rfl

theorem xAddRounds_def (m : ObsMgr) (p : Path) (e : Ent) (add : List Comp) (rels : List RelID)
    (ev : EvInst) (seen : World) :
    xAddRounds rec m p e add rels ev seen =
      notifyAll rec e (firingXAddRel m p add rels ev)
          (seen.addLog (notifyAll rec e (firingXAdd m p add ev) seen))
        ++ notifyAll rec e (firingXAdd m p add ev) seen := rfl

/-- the lock state afterwards: untouched if nothing is removed; otherwise one `Lock()`/`Unlock()`
    cycle iff there are `OnRemoveComponents` observers, or a relation is removed and there are
    `OnRemoveRelations` observers -/
theorem lockAfterX2_def (w : World) (rem : List Comp) (rr : Bool) (l2 : Lock) :
    lockAfterX2 w rem rr l2 =
      if rem.isEmpty then w.locks
      else if w.obs.hasObservers Ev.onRemoveComponents ||
          (rr && w.obs.hasObservers Ev.onRemoveRelations) then l2 else w.locks := rfl

/-- **the equation for `World.exchange`** (no invariant needed) -/
theorem exchange_equation_core (hro : ReadOnly run S rec) (e : Ent) (add rem : List Comp)
    (rels : List RelID) (w : World) (hs : ScriptsIn w.obs S) (hok : ObsOK w.obs)
    (hl : w.isLocked = false) (ha : w.alive e = true) (hne : ¬ (add = [] ∧ rem = []))
    {oldT row : Nat} (hix : w.index e.id = (oldT, row)) {t a : Nat} {m : Mask} {rr : Bool}
    {w1 : World}
    (hfoc : findOrCreateTable oldT (w.arch (w.tbl oldT).arch).mask add rem rels w
      = .ok (t, a, m, rr) w1)
    {l1 l2 : Lock} {b : Nat} (hL : LockCycle w.locks l1 b l2) :
    exchangeCore run e add rem rels w =
      .ok ((w.arch (w.tbl oldT).arch).mask,
          ((registerW (addMove w1 e oldT row t m) rels).arch a).mask)
        ((registerW (addMove w1 e oldT row t m) rels).reframe w.obs
          (xRemRounds rec w.obs e rem rr (.remove (w.arch (w.tbl oldT).arch).mask m)
            (w1.withLocks l1) ++ w.log)
          (lockAfterX2 w rem rr l2)) := by
  obtain ⟨hfoc0, hw1⟩ := (commutes_findOrCreateTable oldT _ add rem rels).frames.of_reframe_ok
    (w := w.noObs) (o := w.obs) (lg := w.log) (lk := w.locks) hfoc
  have hno : (w1.reframe w.noObs.obs w.noObs.log w.noObs.locks).obs = {} := rfl
  generalize w1.reframe w.noObs.obs w.noObs.log w.noObs.locks = x1 at hfoc0 hw1 hno
  subst hw1
  obtain ⟨_, h⟩ := (exchangeCore_lifts run run e add rem rels w.obs w.log w.noObs).ok
    (exchangeCore_rel_eq run e add rem rels w.noObs hl ha hne hix hfoc0 fun _ => by rw [hno]; rfl)
  obtain ⟨t', a', m', rr', x1', hf, _, _, hr⟩ := h hro hs hok hL
  have e1 : w.noObs.index e.id = (oldT, row) := hix
  have e2 : w.noObs.maskOf e = (w.arch (w.tbl oldT).arch).mask := by simp only [maskOf, e1]; rfl
  rw [e1, e2] at hf
  rw [hfoc0] at hf
  obtain ⟨hf1, hx1⟩ := Res.ok.inj hf
  obtain ⟨_, _, hm', hrr⟩ : t = t' ∧ a = a' ∧ m = m' ∧ rr = rr' := by
    simpa only [Prod.mk.injEq] using hf1
  rw [e2, ← hx1, ← hm', ← hrr] at hr
  rw [addMove_reframe, registerW_reframe, arch_reframe, reframe_reframe, withLocks_reframe]
  exact hr

/-- **the equation for `Exchange`** through any path, given `World.exchange` (no invariant
    needed) -/
theorem exchange_equation (hro : ReadOnly run S rec) (p : Path) (e : Ent) (add : List Comp)
    (vals : List (Comp × Val)) (rem : List Comp) (rels : List RelID) (w : World)
    (hb : p ≠ .unsafe_ ∨ w.alive e = true) (hpre : preCheck p add rels w = .ok () w)
    {old new : Mask} {w2 : World}
    (hcore : exchangeCore run e add rem rels w = .ok (old, new) w2)
    (hs2 : ScriptsIn w2.obs S) (hok2 : ObsOK w2.obs) :
    opExchange run p e add vals rem rels w = .ok () ((writeValsW w2 e vals).addLog
      (xAddRounds rec w2.obs p e add rels (.add old new) (seenAfter p w2 e vals))) := by
  unfold opExchange
  rw [aliveIf_apply _ e _ w (hb.imp_left fun h hp => h (by simpa using hp)), M.bind_apply, hpre]
  simp only [ite_then_bind]
  rw [M.bind_apply, hcore]
  simp only []
  rw [xchgAdditionBlock_eq (rec := rec) w2.obs e p vals _ _
    (fireAddIfHas_readOnly hro hs2 hok2 _ (by decide) e _ _)
    (fireAddIfHas_readOnly hro hs2 hok2 _ (by decide) e _ _)
    w2 rfl, xAddRounds_eq]

/-! ### 2. which callbacks run -/

/-- **C08 for `Exchange` with relation components**: accepted; the observer-free result with the
    observers put back; the `cb` records appended — oldest first: `OnRemoveComponents`,
    `OnRemoveRelations`, `OnAddComponents`, `OnAddRelations` -/
theorem exchange_callbacks (st : SettingRel run S rec w fl) (run0 : ProbeRunner) (p : Path)
    (hl : w.isLocked = false) {e : Ent} (he : Live w fl e)
    {add rem : List Comp} {rels : List RelID} (hp : XchgPre w e add rem rels)
    (vals : List (Comp × Val))
    (htin : ∀ (r : RelID), r ∈ rels → r.target.id < w.pool.ents.length)
    (hfew : w.tables.length < maxU32) (hrows : w.entities.length + 1 < 2 ^ 32)
    {l1 l2 : Lock} {b : Nat} (hL : LockCycle w.locks l1 b l2) :
    ∃ (w0 w' : World),
      opExchange run0 p e add vals rem rels w.noObs = .ok () w0 ∧
      XchgRelPost w.noObs fl e add rem vals rels w0 ∧
      opExchange run p e add vals rem rels w = .ok () w' ∧ FrameOf w0 w w' ∧
      w'.locks = lockAfterX2 w rem (removesRel w e rem) l2 ∧
      cbsOf w'.log =
        ((firingXAddRel w.obs p add rels
            (.add (w.maskOf e) (xchgMask w e add rem))).map fun l => (l, e)).reverse ++
        (((firingXAdd w.obs p add
            (.add (w.maskOf e) (xchgMask w e add rem))).map fun l => (l, e)).reverse ++
        (((firingXRemRel w.obs rem (removesRel w e rem)
            (.remove (w.maskOf e) (xchgMask w e add rem))).map fun l => (l, e)).reverse ++
        (((firingXRem w.obs rem
            (.remove (w.maskOf e) (xchgMask w e add rem))).map fun l => (l, e)).reverse ++
          cbsOf w.log))) := by
  obtain ⟨w1, w2, w0, _, _, _, _, h5, h6, h7, h8⟩ := opExchange_rel_callbacks st.ro run0 p st.scripts
    st.inv hl he.ge2 he.notFree he.alive he.inPool hp vals htin hfew hrows hL
  refine ⟨w0, _, h5, h7, h8, ?_, rfl, ?_⟩
  · rw [h6]; exact frameOf_reframe _ _ _ _
  · show cbsOf (twoRounds rec e _ _ _ ++ (twoRounds rec e _ _ _ ++ w.log)) = _
    rw [cbsOf_twoRounds st.noCb, cbsOf_twoRounds st.noCb]

/-- **accepted** under the documented preconditions, with any set of registered observers -/
theorem exchange_accepted (st : SettingRel run S rec w fl) (p : Path)
    (hl : w.isLocked = false) {e : Ent} (he : Live w fl e)
    {add rem : List Comp} {rels : List RelID} (hp : XchgPre w e add rem rels)
    (vals : List (Comp × Val))
    (htin : ∀ (r : RelID), r ∈ rels → r.target.id < w.pool.ents.length)
    (hfew : w.tables.length < maxU32) (hrows : w.entities.length + 1 < 2 ^ 32)
    {l1 l2 : Lock} {b : Nat} (hL : LockCycle w.locks l1 b l2) :
    ∃ (w' : World), opExchange run p e add vals rem rels w = .ok () w' := by
  obtain ⟨_, w', _, _, h, _⟩ := exchange_callbacks st run p hl he hp vals htin hfew hrows hL
  exact ⟨w', h⟩

/-- the selected observers: registered for the event type, specification fires, and the round
    takes place -/
theorem firingXRem_iff {m : ObsMgr} {rem : List Comp} {ev : EvInst} {l : Nat} :
    l ∈ firingXRem m rem ev ↔
      rem ≠ [] ∧ l ∈ (m.evt Ev.onRemoveComponents).observers ∧ Spec.fires (m.obj l).spec ev := by
  unfold firingXRem
  cases rem with
  | nil => simp
  | cons c cs => simp [mem_firing]

theorem firingXRemRel_iff {m : ObsMgr} {rem : List Comp} {rr : Bool} {ev : EvInst} {l : Nat} :
    l ∈ firingXRemRel m rem rr ev ↔
      rem ≠ [] ∧ rr = true ∧ l ∈ (m.evt Ev.onRemoveRelations).observers ∧
        Spec.fires (m.obj l).spec ev := by
  unfold firingXRemRel firingRemRel
  cases rem with
  | nil => simp
  | cons c cs => cases rr <;> simp [mem_firing]

theorem firingXAdd_iff {m : ObsMgr} {p : Path} {add : List Comp} {ev : EvInst} {l : Nat} :
    l ∈ firingXAdd m p add ev ↔
      (p ≠ .unsafe_ ∨ add ≠ []) ∧ l ∈ (m.evt Ev.onAddComponents).observers ∧
        Spec.fires (m.obj l).spec ev := by
  unfold firingXAdd
  by_cases h : p = .unsafe_ ∧ add = []
  · simp [h]
  · have h' : p ≠ .unsafe_ ∨ add ≠ [] := by
      by_cases hp : p = .unsafe_
      · exact Or.inr fun ha => h ⟨hp, ha⟩
      · exact Or.inl hp
    simp [h, h', mem_firing]

theorem firingXAddRel_iff {m : ObsMgr} {p : Path} {add : List Comp} {rels : List RelID}
    {ev : EvInst} {l : Nat} :
    l ∈ firingXAddRel m p add rels ev ↔
      (p ≠ .unsafe_ ∨ add ≠ []) ∧ rels ≠ [] ∧ l ∈ (m.evt Ev.onAddRelations).observers ∧
        Spec.fires (m.obj l).spec ev := by
  unfold firingXAddRel
  by_cases h : p = .unsafe_ ∧ add = []
  · simp [h]
  · have h' : p ≠ .unsafe_ ∨ add ≠ [] := by
      by_cases hp : p = .unsafe_
      · exact Or.inr fun ha => h ⟨hp, ha⟩
      · exact Or.inl hp
    simp [h, h', C08Rel.firingIfRels_iff]

/-- `Exchange` removes a relation iff some removed component is a relation component of `e` -/
theorem removesRel_iff {w : World} {e : Ent} {rem : List Comp} :
    removesRel w e rem = true ↔ ∃ (c : Comp), c ∈ rem ∧ (targetOf w e.id c).isSome = true :=
  C08Rel.removesRel_iff

/-- **the complete log and the worlds involved** (C08 + C09): `w1` = the observer-free world after
    the table lookup, every entity as before the call; `w2` = the observer-free result of
    `World.exchange`; `w0` = the observer-free result of the call -/
theorem exchange_log (hro : ReadOnly run S rec) (run0 : ProbeRunner) (p : Path)
    (hs : ScriptsIn w.obs S) (h : TInvObs w fl) (hl : w.isLocked = false) {e : Ent}
    (he : Live w fl e) {add rem : List Comp} {rels : List RelID} (hp : XchgPre w e add rem rels)
    (vals : List (Comp × Val))
    (htin : ∀ (r : RelID), r ∈ rels → r.target.id < w.pool.ents.length)
    (hfew : w.tables.length < maxU32) (hrows : w.entities.length + 1 < 2 ^ 32)
    {l1 l2 : Lock} {b : Nat} (hL : LockCycle w.locks l1 b l2) :
    ∃ (w1 w2 w0 : World),
      (∀ (j : Nat), SameEnt w.noObs w1 j ∧ ∀ (c : Comp), targetOf w1 j c = targetOf w.noObs j c) ∧
      (∀ (x : Ent), w1.alive x = w.alive x) ∧
      exchangeCore run0 e add rem rels w.noObs = .ok (w.maskOf e, xchgMask w e add rem) w2 ∧
      XchgCorePost w.noObs fl e add rem rels w2 ∧
      opExchange run0 p e add vals rem rels w.noObs = .ok () w0 ∧ w0 = writeValsW w2 e vals ∧
      XchgRelPost w.noObs fl e add rem vals rels w0 ∧
      opExchange run p e add vals rem rels w = .ok ()
        (xchgResult rec w w1 w2 p e add vals rem rels (removesRel w e rem) (w.maskOf e)
          (xchgMask w e add rem) (xchgMask w e add rem) l1 l2) :=
  opExchange_rel_callbacks hro run0 p hs h hl he.ge2 he.notFree he.alive he.inPool hp vals htin hfew hrows hL

/-- **C09**: removal observers see the world before the move, locked; addition observers the
    world after it -/
theorem exchange_sees (st : SettingRel run S rec w fl) (run0 : ProbeRunner) (p : Path)
    (hl : w.isLocked = false) {e : Ent} (he : Live w fl e)
    {add rem : List Comp} {rels : List RelID} (hp : XchgPre w e add rem rels)
    (vals : List (Comp × Val))
    (htin : ∀ (r : RelID), r ∈ rels → r.target.id < w.pool.ents.length)
    (hfew : w.tables.length < maxU32) (hrows : w.entities.length + 1 < 2 ^ 32)
    {l1 l2 : Lock} {b : Nat} (hL : LockCycle w.locks l1 b l2) :
    ∃ (seenB seenA w2 w0 w' : World),
      opExchange run p e add vals rem rels w = .ok () w' ∧
      w'.log =
        xAddRounds rec w.obs p e add rels (.add (w.maskOf e) (xchgMask w e add rem)) seenA ++
        (xRemRounds rec w.obs e rem (removesRel w e rem)
          (.remove (w.maskOf e) (xchgMask w e add rem)) seenB ++ w.log) ∧
      -- before: locked; every entity as in `w`
      seenB.isLocked = true ∧ seenB.obs = w.obs ∧ seenB.log = w.log ∧
      (∀ (j : Nat), SameEnt w seenB j) ∧
      (∀ (j : Nat) (c : Comp), targetOf seenB j c = targetOf w j c) ∧
      (∀ (x : Ent), seenB.alive x = w.alive x) ∧
      -- after: the observer-free result (`w2` on `Unsafe`, `w0` on the typed path) with the
      -- observers of `w`, the final lock state, the log after the removal rounds
      exchangeCore run0 e add rem rels w.noObs = .ok (w.maskOf e, xchgMask w e add rem) w2 ∧
      XchgCorePost w.noObs fl e add rem rels w2 ∧
      opExchange run0 p e add vals rem rels w.noObs = .ok () w0 ∧
      XchgRelPost w.noObs fl e add rem vals rels w0 ∧
      seenA.locks = w'.locks ∧
      seenA.log = xRemRounds rec w.obs e rem (removesRel w e rem)
          (.remove (w.maskOf e) (xchgMask w e add rem)) seenB ++ w.log ∧
      (p = .unsafe_ → FrameOf w2 w seenA) ∧
      (p ≠ .unsafe_ → FrameOf w0 w seenA ∧ seenA = { w' with log := seenA.log }) := by
  obtain ⟨w1, w2, w0, hframe, hal, h3, h4, h5, h6, h7, h8⟩ := opExchange_rel_callbacks st.ro run0 p
    st.scripts st.inv hl he.ge2 he.notFree he.alive he.inPool hp vals htin hfew hrows hL
  refine ⟨w1.reframe w.obs w.log l1,
    xchgSeenA rec w w1 w2 p e vals rem (removesRel w e rem) (w.maskOf e) (xchgMask w e add rem) l1 l2,
    w2, w0, _, h8, rfl, LockCycle.locked hL, rfl, rfl, fun j => (hframe j).1, fun j => (hframe j).2,
    hal, h3, h4, h5, h7, rfl, rfl, ?_, ?_⟩
  · intro hpu
    subst hpu
    rfl
  · intro hpu
    have : seenAfter p w2 e vals = w0 := by
      unfold seenAfter
      rw [if_neg hpu, h6]
    unfold xchgSeenA
    rw [this]
    refine ⟨rfl, ?_⟩
    unfold xchgResult
    rw [← h6]
    rfl

/-- the final lock state is unlocked again when `Unlock` of the handed-out bit leaves no bit set
    (`l2.isLocked = false`, as for the initial lock state: `lockAfterQuery_unlocked`) -/
theorem exchange_unlocked_after (hl : w.isLocked = false) (rem : List Comp) (rr : Bool) {l2 : Lock}
    (hl2 : l2.isLocked = false) : (lockAfterX2 w rem rr l2).isLocked = false := by
  unfold lockAfterX2 lockAfter2
  split
  · exact hl
  · split
    · exact hl2
    · exact hl

/-- for a log-blind runner every record of a round is a function of the ONE world the round ran
    on -/
theorem round_log_blind (hb : LogBlind rec) (e : Ent) (ls : List Nat) (seen : World) :
    notifyAll rec e ls seen = (ls.reverse.flatMap fun l => notifyFlat rec l e seen) :=
  notifyAll_blind hb e ls seen

/-! ### exactly once, independence -/

/-- **exactly once, and never otherwise**, for each of the four rounds -/
theorem exchange_exactly_once {m : ObsMgr} (h : ObsOK m) (p : Path) (add rem : List Comp)
    (rels : List RelID) (rr : Bool) (ev : EvInst) (e : Ent) (l : Nat) :
    (((firingXRem m rem ev).map fun x => (x, e)).reverse).count (l, e)
      = (if l ∈ firingXRem m rem ev then 1 else 0) ∧
    (((firingXRemRel m rem rr ev).map fun x => (x, e)).reverse).count (l, e)
      = (if l ∈ firingXRemRel m rem rr ev then 1 else 0) ∧
    (((firingXAdd m p add ev).map fun x => (x, e)).reverse).count (l, e)
      = (if l ∈ firingXAdd m p add ev then 1 else 0) ∧
    (((firingXAddRel m p add rels ev).map fun x => (x, e)).reverse).count (l, e)
      = (if l ∈ firingXAddRel m p add rels ev then 1 else 0) := by
  exact ⟨C08Rel.count_cbs_guarded _ e l (count_cbs_firing h _ ev e l),
    C08Rel.count_cbs_guarded _ e l (C08Rel.relRound_exactly_once h [] rr ev e l).2,
    C08Rel.count_cbs_guarded _ e l (count_cbs_firing h _ ev e l),
    C08Rel.count_cbs_guarded _ e l (C08Rel.relRound_exactly_once h rels false ev e l).1⟩

/-- **independence**: the number of callbacks of observer `l` in each of the four rounds is the
    same under any two observer managers that agree on `l` — whether it is listed for the event
    type, and its specification — whatever else is or was registered (the event instance, `rr`
    and the conditions on `rem`, `add`, `rels`, `p` do not depend on the observers) -/
theorem exchange_observer_independent {m m' : ObsMgr} (h : ObsOK m) (h' : ObsOK m') {l : Nat}
    (hrc : l ∈ (m'.evt Ev.onRemoveComponents).observers ↔ l ∈ (m.evt Ev.onRemoveComponents).observers)
    (hrr : l ∈ (m'.evt Ev.onRemoveRelations).observers ↔ l ∈ (m.evt Ev.onRemoveRelations).observers)
    (hac : l ∈ (m'.evt Ev.onAddComponents).observers ↔ l ∈ (m.evt Ev.onAddComponents).observers)
    (har : l ∈ (m'.evt Ev.onAddRelations).observers ↔ l ∈ (m.evt Ev.onAddRelations).observers)
    (hs : (m'.obj l).spec = (m.obj l).spec) (p : Path) (add rem : List Comp) (rels : List RelID)
    (rr : Bool) (ev : EvInst) (e : Ent) :
    (((firingXRem m' rem ev).map fun x => (x, e)).reverse).count (l, e)
      = (((firingXRem m rem ev).map fun x => (x, e)).reverse).count (l, e) ∧
    (((firingXRemRel m' rem rr ev).map fun x => (x, e)).reverse).count (l, e)
      = (((firingXRemRel m rem rr ev).map fun x => (x, e)).reverse).count (l, e) ∧
    (((firingXAdd m' p add ev).map fun x => (x, e)).reverse).count (l, e)
      = (((firingXAdd m p add ev).map fun x => (x, e)).reverse).count (l, e) ∧
    (((firingXAddRel m' p add rels ev).map fun x => (x, e)).reverse).count (l, e)
      = (((firingXAddRel m p add rels ev).map fun x => (x, e)).reverse).count (l, e) := by
  exact ⟨C08Rel.count_cbs_guarded_congr _ e l (Ark.observer_independent h h' hrc hs _ e),
    C08Rel.count_cbs_guarded_congr _ e l
      (C08Rel.relRound_observer_independent h h' har hrr hs [] rr ev e).2,
    C08Rel.count_cbs_guarded_congr _ e l (Ark.observer_independent h h' hac hs _ e),
    C08Rel.count_cbs_guarded_congr _ e l
      (C08Rel.relRound_observer_independent h h' har hrr hs rels rr ev e).1⟩

/-! ### 3. findings: the mask pairs, the path -/

/-- the mask after the complete exchange: `(maskOf e ∖ rem) ∪ add` -/
theorem exchange_masks (w : World) (e : Ent) (add rem : List Comp) (c : Comp) :
    xchgMask w e add rem = add.foldl Mask.set (rem.foldl Mask.clear (w.maskOf e)) ∧
    (xchgMask w e add rem).get c =
      (((w.maskOf e).get c && !decide (c ∈ rem)) || (decide (c < 256) && decide (c ∈ add))) :=
  ⟨rfl, xchgMask_get w e add rem c⟩

/-- **the removal rounds in terms of the call**: `For ⊆ rem` (or no `For`); `With` / `Without` /
    `Exclusive` on the mask BEFORE the call -/
theorem fires_remove_iff {w : World} {e : Ent} {add rem : List Comp} {rels : List RelID}
    (hp : XchgPre w e add rem rels) (s : ObsSpec) :
    Spec.fires s (.remove (w.maskOf e) (xchgMask w e add rem)) ↔
      (s.comps = [] ∨ ∀ (c : Comp), c ∈ s.comps → c ∈ rem) ∧
        Spec.allIn s.with_ (w.maskOf e) ∧ Spec.withoutOK s s.with_ (w.maskOf e) := by
  unfold Spec.fires
  refine and_congr (or_congr Iff.rfl ⟨?_, ?_⟩) Iff.rfl
  · rintro ⟨h1, h2⟩ c hc
    have k1 := h1 c hc
    have k2 := h2 c hc
    rw [xchgMask_get, k1] at k2
    cases hm : decide (c ∈ rem) with
    | true => exact of_decide_eq_true hm
    | false => rw [hm] at k2; simp at k2
  · intro h
    refine ⟨fun c hc => hp.remHas c (h c hc), fun c hc => ?_⟩
    have hr := h c hc
    have hna : c ∉ add := by
      intro hca
      have := hp.addNew c hca
      rw [hp.remHas c hr] at this; cases this
    rw [xchgMask_get]
    simp [hr, hna]

/-- **the addition rounds in terms of the call**: `For ⊆ add` (or no `For`); `With` / `Without` /
    `Exclusive` on the mask BEFORE the call — not on the mask the callback sees -/
theorem fires_add_iff (h : TInvObs w fl) {e : Ent} {add rem : List Comp} {rels : List RelID}
    (hp : XchgPre w e add rem rels) (s : ObsSpec) :
    Spec.fires s (.add (w.maskOf e) (xchgMask w e add rem)) ↔
      (s.comps = [] ∨ ∀ (c : Comp), c ∈ s.comps → c ∈ add) ∧
        Spec.allIn s.with_ (w.maskOf e) ∧ Spec.withoutOK s s.with_ (w.maskOf e) := by
  have hk : w.kinds.length ≤ 256 := Nat.le_trans h.toTInv.kindsLe.1 h.toTInv.kindsLe.2
  unfold Spec.fires
  refine and_congr (or_congr Iff.rfl ⟨?_, ?_⟩) Iff.rfl
  · rintro ⟨h1, h2⟩ c hc
    have k1 := h1 c hc
    have k2 := h2 c hc
    rw [xchgMask_get, k2] at k1
    simp at k1
    exact k1.2
  · intro h
    refine ⟨fun c hc => ?_, fun c hc => hp.addNew c (h c hc)⟩
    have ha := h c hc
    have : c < 256 := Nat.lt_of_lt_of_le (hp.addReg c ha) hk
    rw [xchgMask_get]
    simp [ha, this]

/-- **the path matters for which observers run only for pure removals**: for `add ≠ []` the
    addition lists do not depend on the path (the removal lists never mention it) -/
theorem path_matters_only_for_pure_removals (m : ObsMgr) (p p' : Path) {add : List Comp}
    (hne : add ≠ []) (rels : List RelID) (ev : EvInst) :
    firingXAdd m p add ev = firingXAdd m p' add ev ∧
    firingXAddRel m p add rels ev = firingXAddRel m p' add rels ev := by
  unfold firingXAdd firingXAddRel
  have h1 : ¬ (p = .unsafe_ ∧ add = []) := fun h => hne h.2
  have h2 : ¬ (p' = .unsafe_ ∧ add = []) := fun h => hne h.2
  simp only [h1, h2, if_false, and_self]

/-- **pure removal through `Unsafe`**: no addition round at all -/
theorem pure_removal_unsafe (m : ObsMgr) (rels : List RelID) (ev : EvInst) :
    firingXAdd m .unsafe_ [] ev = [] ∧ firingXAddRel m .unsafe_ [] rels ev = [] := ⟨rfl, rfl⟩

/-- **pure removal through the typed path**: the `OnAddComponents` round takes place and selects
    exactly the registered observers whose specification fires for `.add old new` — these have no
    `For` components —; under the preconditions no relation is named, so there is no
    `OnAddRelations` round on either path -/
theorem pure_removal_typed {m : ObsMgr} {p : Path} (hpt : p ≠ .unsafe_) {w : World} {e : Ent}
    {rem : List Comp} :
    firingXAdd m p [] (.add (w.maskOf e) (xchgMask w e [] rem)) =
      firing m Ev.onAddComponents (.add (w.maskOf e) (xchgMask w e [] rem)) ∧
    (∀ (l : Nat), l ∈ firingXAdd m p [] (.add (w.maskOf e) (xchgMask w e [] rem)) →
      (m.obj l).spec.comps = []) ∧
    (∀ (rels : List RelID), XchgPre w e [] rem rels →
      rels = [] ∧ ∀ (p' : Path) (ev : EvInst), firingXAddRel m p' [] rels ev = []) := by
  refine ⟨?_, fun l hl => (firingXAdd_nil_add hl).2, fun rels hp => ?_⟩
  · unfold firingXAdd
    rw [if_neg fun h => hpt h.1]
  · have := hp.rels_nil_of_add_nil
    subst this
    refine ⟨rfl, fun p' ev => ?_⟩
    unfold firingXAddRel firingIfRels
    split <;> rfl

/-! ### 4. non-vacuity: a world with two relation components and observers of all four events -/

section Demo
open Ark.Props.C04World (noRun)
open Ark.Props.C01Xchg (x4 q1 q2 c4 c5 good_x4 pre_x4)
open Ark.Props.C08Rel (cbsAfter)

/-- the `Observer` values the client built (label ↦ specification; the scripts are `look` probes).
    Components (Ark/Props/C01Xchg.lean): 0 = `ChildOf` (relation), 1 = `Pos`, 2 = `Vel`,
    3 = `Likes` (relation):
    1 `OnRemoveComponents.For(0)`, 2 `OnRemoveRelations.For(0)`, 3 `OnRemoveRelations.With(1)`
    (wildcard), 4 `OnAddComponents.For(3)`, 5 `OnAddRelations.For(3)`, 6 `OnAddComponents`
    (wildcard), 7 `OnAddComponents.For(3).With(0)`, 8 `OnAddComponents.For(3).Without(0)`,
    9 `OnAddRelations` (wildcard), 10 `OnRemoveComponents.For(1)` -/
def objs : AL ObsObj :=
  [ (1, { spec := { event := Ev.onRemoveComponents, comps := [0], script := [.look] } }),
    (2, { spec := { event := Ev.onRemoveRelations, comps := [0], script := [.look] } }),
    (3, { spec := { event := Ev.onRemoveRelations, with_ := [1], script := [.look] } }),
    (4, { spec := { event := Ev.onAddComponents, comps := [3], script := [.look] } }),
    (5, { spec := { event := Ev.onAddRelations, comps := [3], script := [.look] } }),
    (6, { spec := { event := Ev.onAddComponents, script := [.look] } }),
    (7, { spec := { event := Ev.onAddComponents, comps := [3], with_ := [0], script := [.look] } }),
    (8, { spec := { event := Ev.onAddComponents, comps := [3], without := [0], script := [.look] } }),
    (9, { spec := { event := Ev.onAddRelations, script := [.look] } }),
    (10, { spec := { event := Ev.onRemoveComponents, comps := [1], script := [.look] } }) ]

/-- the world `x4` of Ark/Props/C01Xchg.lean (parents `q1 = ⟨2,0⟩`, `q2 = ⟨3,0⟩`; children
    `c4`, `c5` = `[ChildOf → q1, Pos]`) with the observer objects on the heap … -/
def x4o : World := { x4 with obs := { objs := objs } }

/-- … and all of them registered, in the order of their labels -/
def wX : World := regAll [1, 2, 3, 4, 5, 6, 7, 8, 9, 10] x4o

theorem demo_free_list {fl : List Nat} (H : TInv x4 fl) : fl = [] := by
  have h := H.link.pool.ch
  have h0 : Pool.chain x4.pool.ents x4.pool.next x4.pool.available = some [] := by
    decide +kernel
  rw [h0] at h
  exact (Option.some.inj h).symm

/-- **the hypotheses of all theorems above are satisfiable**: the demo world is in the setting
    (with the runner of the harness), `c4` is a live handle, the world is unlocked and its lock
    is in the initial state -/
theorem demo_setting :
    SettingRel World.probe (· = Probe.look) lookRec wX [] ∧ LogBlind lookRec ∧
    Live wX [] c4 ∧ wX.isLocked = false ∧
    LockCycle wX.locks lockDuringQuery 0 lockAfterQuery ∧
    wX.tables.length < maxU32 ∧ wX.entities.length + 1 < 2 ^ 32 := by
  obtain ⟨fl, H, _, _⟩ := good_x4
  have hfl := demo_free_list H
  subst hfl
  have ok : RegAllOK [1, 2, 3, 4, 5, 6, 7, 8, 9, 10] x4o ∧ wX.locks = {} ∧
      (∀ q ∈ wX.obs.objs, ∀ p ∈ q.2.spec.script, p = Probe.look) ∧
      wX.alive c4 = true ∧ c4.id < wX.pool.ents.length ∧ wX.isLocked = false ∧
      wX.tables.length < maxU32 ∧ wX.entities.length + 1 < 2 ^ 32 := by
    decide +kernel
  obtain ⟨hreg, hlocks, hscr, hal, hin, hl, hfew, hrows⟩ := ok
  obtain ⟨hok, hw⟩ := regAll_spec [1, 2, 3, 4, 5, 6, 7, 8, 9, 10] x4o (obsOK_of_no_events rfl) hreg
  have hw' : wX = { x4o with obs := wX.obs } := hw
  -- in two steps, so that no unification has to evaluate `x4`
  have H1 : TInv x4o [] := H.reframe _ _ _
  have H2 : TInv wX [] := by rw [hw']; exact H1.reframe _ _ _
  refine ⟨⟨probe_readOnly, lookRec_noCb, scriptsIn_of_objs hscr, (tinvObs_iff _ _).mpr ⟨H2, hok⟩⟩,
    lookRec_logBlind, ⟨by decide, by simp, hal, hin⟩, hl, ?_, hfew, hrows⟩
  rw [hlocks]; exact lockCycle_default

/-- the documented preconditions of four calls on `c4 = [ChildOf → q1, Pos]`:
    A `Exchange(add = [Likes → q2], rem = [ChildOf])` — a relation removed, one added;
    B `Exchange(add = [Vel, Likes → q2], rem = [Pos])` — no relation removed (C01Xchg's `pre_x4`);
    C `Exchange(add = [], rem = [ChildOf])` — a pure removal;
    D `Exchange(add = [Vel], rem = [])` — a pure addition -/
theorem demo_pre :
    XchgPre wX c4 [3] [0] [⟨3, q2⟩] ∧ XchgPre wX c4 [2, 3] [1] [⟨3, q2⟩] ∧
    XchgPre wX c4 [] [0] [] ∧ XchgPre wX c4 [2] [] [] := by
  have h : XchgPreM wX (wX.maskOf c4) [3] [0] [⟨3, q2⟩] ∧
      XchgPreM wX (wX.maskOf c4) [2, 3] [1] [⟨3, q2⟩] ∧
      XchgPreM wX (wX.maskOf c4) [] [0] [] ∧ XchgPreM wX (wX.maskOf c4) [2] [] [] := by
    decide +kernel
  exact ⟨h.1.toPre, h.2.1.toPre, h.2.2.1.toPre, h.2.2.2.toPre⟩

/-- the targets named by the four calls lie inside the pool slice (`htin`) -/
example : (∀ (r : RelID), r ∈ [(⟨3, q2⟩ : RelID)] → r.target.id < wX.pool.ents.length) ∧
    (∀ (r : RelID), r ∈ ([] : List RelID) → r.target.id < wX.pool.ents.length) := by
  decide +kernel

/-- the registration lists, the entity's mask, the masks after the four exchanges, and which of
    them remove a relation -/
example :
    (wX.obs.evt Ev.onRemoveComponents).observers = [1, 10] ∧
    (wX.obs.evt Ev.onRemoveRelations).observers = [2, 3] ∧
    (wX.obs.evt Ev.onAddComponents).observers = [4, 6, 7, 8] ∧
    (wX.obs.evt Ev.onAddRelations).observers = [5, 9] ∧
    wX.maskOf c4 = Mask.ofList [0, 1] ∧
    xchgMask wX c4 [3] [0] = Mask.ofList [1, 3] ∧ xchgMask wX c4 [2, 3] [1] = Mask.ofList [0, 2, 3] ∧
    xchgMask wX c4 [] [0] = Mask.ofList [1] ∧ xchgMask wX c4 [2] [] = Mask.ofList [0, 1, 2] ∧
    removesRel wX c4 [0] = true ∧ removesRel wX c4 [1] = false ∧ removesRel wX c4 [] = false := by
  decide +kernel

/-- the documented callback sets of call A (old `{ChildOf, Pos}`, new `{Pos, Likes}`):
    `OnRemoveComponents.For(0)`, not `For(1)`; both `OnRemoveRelations` observers; the
    `OnAddComponents` observers `For(3)`, the wildcard, `For(3).With(0)` — `ChildOf` is in the OLD
    mask — but not `For(3).Without(0)`; both `OnAddRelations` observers -/
example :
    firingXRem wX.obs [0] (.remove (Mask.ofList [0, 1]) (Mask.ofList [1, 3])) = [1] ∧
    firingXRemRel wX.obs [0] true (.remove (Mask.ofList [0, 1]) (Mask.ofList [1, 3])) = [2, 3] ∧
    firingXAdd wX.obs .typed [3] (.add (Mask.ofList [0, 1]) (Mask.ofList [1, 3])) = [4, 6, 7] ∧
    firingXAddRel wX.obs .typed [3] [⟨3, q2⟩] (.add (Mask.ofList [0, 1]) (Mask.ofList [1, 3]))
      = [5, 9] := by
  decide +kernel

/-- … and that is what the model does, on both paths (the log is newest-first).  Call B removes no
    relation: no `OnRemoveRelations` observer — not even the wildcard 3 — is notified.  Call D
    removes nothing, names no relation: only the `OnAddComponents` wildcard. -/
example :
    cbsAfter (opExchange World.probe .typed c4 [3] [] [0] [⟨3, q2⟩] wX)
      = some [(9, c4), (5, c4), (7, c4), (6, c4), (4, c4), (3, c4), (2, c4), (1, c4)] ∧
    cbsAfter (opExchange World.probe .unsafe_ c4 [3] [] [0] [⟨3, q2⟩] wX)
      = some [(9, c4), (5, c4), (7, c4), (6, c4), (4, c4), (3, c4), (2, c4), (1, c4)] ∧
    cbsAfter (opExchange World.probe .typed c4 [2, 3] [(2, 9)] [1] [⟨3, q2⟩] wX)
      = some [(9, c4), (5, c4), (7, c4), (6, c4), (4, c4), (10, c4)] ∧
    cbsAfter (opExchange World.probe .typed c4 [2] [(2, 5)] [] [] wX) = some [(6, c4)] := by
  decide +kernel

/-- **finding, the path**: the pure removal C through the typed path notifies the wildcard
    `OnAddComponents` observer 6 (of an addition that added nothing); through `Unsafe` it does
    not.  With a relation named, a pure removal is rejected on both paths. -/
example :
    cbsAfter (opExchange World.probe .typed c4 [] [] [0] [] wX)
      = some [(6, c4), (3, c4), (2, c4), (1, c4)] ∧
    cbsAfter (opExchange World.probe .unsafe_ c4 [] [] [0] [] wX)
      = some [(3, c4), (2, c4), (1, c4)] ∧
    cbsAfter (opExchange World.probe .unsafe_ c4 [] [] [1] [⟨0, q2⟩] wX) = none ∧
    cbsAfter (opExchange World.probe .typed c4 [] [] [1] [⟨0, q2⟩] wX) = none := by
  decide +kernel

/-- the theorem applied: call A on the demo world -/
example : ∃ w0 w' : World,
    opExchange noRun .typed c4 [3] [] [0] [⟨3, q2⟩] wX.noObs = .ok () w0 ∧
    XchgRelPost wX.noObs [] c4 [3] [0] [] [⟨3, q2⟩] w0 ∧
    opExchange World.probe .typed c4 [3] [] [0] [⟨3, q2⟩] wX = .ok () w' ∧ FrameOf w0 wX w' ∧
    w'.locks = lockAfterQuery ∧
    cbsOf w'.log = [(9, c4), (5, c4), (7, c4), (6, c4), (4, c4), (3, c4), (2, c4), (1, c4)] := by
  obtain ⟨st, _, he, hl, hL, hfew, hrows⟩ := demo_setting
  obtain ⟨w0, w', h1, h2, h3, h4, h5, h6⟩ := exchange_callbacks st noRun .typed hl he demo_pre.1 []
    (by decide +kernel) hfew hrows hL
  refine ⟨w0, w', h1, h2, h3, h4, ?_, ?_⟩
  · rw [h5]; decide +kernel
  · rw [h6]; decide +kernel

/-- the transfer theorems applied (no invariant used): a call that does not fit the entity — adding
    `Pos`, which `c4` has — is rejected with observers exactly as without … -/
example : ∃ s : World,
    opExchange noRun .typed c4 [1] [] [] [] wX.noObs = .panic .alreadyHas s ∧
    opExchange World.probe .typed c4 [1] [] [] [] wX
      = .panic .alreadyHas (s.reframe wX.obs wX.log wX.locks) := by
  have hk : panicOf (opExchange noRun .typed c4 [1] [] [] [] wX.noObs) = some .alreadyHas := by
    decide +kernel
  cases h0 : opExchange noRun .typed c4 [1] [] [] [] wX.noObs with
  | ok u s => rw [h0] at hk; cases hk
  | panic k s =>
    rw [h0] at hk
    obtain rfl : k = .alreadyHas := Option.some.inj hk
    exact ⟨s, rfl, exchange_rejected_as_without_observers World.probe noRun .typed c4 [1] [] [] []
      wX h0⟩

/-- … and call A is accepted with observers as without, the removal rounds on the mask the lookup
    computes, the addition rounds on the mask of the new archetype — both `{Pos, Likes}` -/
example : ∃ (m new : Mask) (rr : Bool) (w1 w2 w' : World),
    opExchange World.probe .unsafe_ c4 [3] [] [0] [⟨3, q2⟩] wX = .ok () w' ∧
    w' = xchgResult lookRec wX w1 w2 .unsafe_ c4 [3] [] [0] [⟨3, q2⟩] rr (wX.maskOf c4) m new
      lockDuringQuery lockAfterQuery ∧
    m = Mask.ofList [1, 3] ∧ new = Mask.ofList [1, 3] ∧ rr = true := by
  obtain ⟨st, _, he, hl, hL, hfew, hrows⟩ := demo_setting
  have h0 := C08Rel.ok_of_value (r := opExchange noRun .unsafe_ c4 [3] [] [0] [⟨3, q2⟩] wX.noObs)
    (a := ()) (by decide +kernel)
  obtain ⟨old, new, m, t, a, rr, w1, w2, hf, hc, _, ho, _, _, hop⟩ :=
    exchange_accepted_as_without_observers st.ro noRun .unsafe_ c4 [3] [] [0] [⟨3, q2⟩] wX
      st.scripts st.inv.obs hL h0
  rw [ho] at hop
  have e : (match findOrCreateTable (wX.index c4.id).1 (wX.maskOf c4) [3] [0] [⟨3, q2⟩] wX.noObs
      with | .ok r _ => (r.2.2.1 == Mask.ofList [1, 3], r.2.2.2) | .panic _ _ => (false, false))
      = (true, true) ∧
      (match exchangeCore noRun c4 [3] [0] [⟨3, q2⟩] wX.noObs
      with | .ok r _ => r.2 == Mask.ofList [1, 3] | .panic _ _ => false) = true := by
    decide +kernel
  rw [hf, hc] at e
  obtain ⟨e1a, e1b⟩ := Prod.mk.inj e.1
  exact ⟨m, new, rr, w1, w2, _, hop, rfl, by simpa using e1a, by simpa using e.2, e1b⟩

/-- the relation rounds use the COMPONENT masks: an `OnRemoveRelations.For(Pos)` specification fires
    for an exchange of `c4` removing `[ChildOf, Pos]`, an `OnAddRelations.For(Vel)` specification
    for one adding `[Vel, Likes → q2]` — `Pos`, `Vel` are not relation components -/
example :
    Spec.fires { event := Ev.onRemoveRelations, comps := [1] }
      (.remove (wX.maskOf c4) (xchgMask wX c4 [2] [0, 1])) ∧
    removesRel wX c4 [0, 1] = true ∧
    Spec.fires { event := Ev.onAddRelations, comps := [2] }
      (.add (wX.maskOf c4) (xchgMask wX c4 [2, 3] [1])) := by
  decide +kernel

/-- what a `look` probe records about the reported entity: alive?, locked?, its components with
    their values, its relation targets -/
structure Seen where
  alive : Bool
  locked : Bool
  vals : List (Comp × Val)
  targets : List (Comp × Ent)
  deriving DecidableEq, Repr

/-- the `look` records of a run, newest first -/
def looksAfter {α : Type} (r : Res World α) : List Seen :=
  match r with
  | .ok _ w' => w'.log.filterMap fun ev => match ev with
      | .look a lk vs ts => some ⟨a, lk, vs, ts⟩
      | _ => none
  | .panic _ _ => []

/-- **what the rounds see** (call A): the three removal callbacks see `c4` under the lock, still
    `[ChildOf → q1, Pos = 7]`; the five addition callbacks see it unlocked, as
    `[Pos = 7, Likes → q2]`.  **Finding, `With` on the old mask** (`demo_with_on_old_mask`): one of
    the five is observer 7, `OnAddComponents.For(Likes).With(ChildOf)` — it runs on an entity that
    does not have `ChildOf`. -/
theorem demo_with_on_old_mask :
    looksAfter (opExchange World.probe .typed c4 [3] [] [0] [⟨3, q2⟩] wX) =
      [⟨true, false, [(1, 7), (3, 0)], [(3, q2)]⟩, ⟨true, false, [(1, 7), (3, 0)], [(3, q2)]⟩,
       ⟨true, false, [(1, 7), (3, 0)], [(3, q2)]⟩, ⟨true, false, [(1, 7), (3, 0)], [(3, q2)]⟩,
       ⟨true, false, [(1, 7), (3, 0)], [(3, q2)]⟩,
       ⟨true, true, [(0, 0), (1, 7)], [(0, q1)]⟩, ⟨true, true, [(0, 0), (1, 7)], [(0, q1)]⟩,
       ⟨true, true, [(0, 0), (1, 7)], [(0, q1)]⟩] ∧
    7 ∈ firingXAdd wX.obs .typed [3] (.add (wX.maskOf c4) (xchgMask wX c4 [3] [0])) ∧
    8 ∉ firingXAdd wX.obs .typed [3] (.add (wX.maskOf c4) (xchgMask wX c4 [3] [0])) ∧
    (xchgMask wX c4 [3] [0]).get 0 = false := by
  decide +kernel

/-- **the values the addition callbacks read depend on the path** (call B, writing `Vel := 9`):
    written on the typed path, still zero on `Unsafe` (whose caller writes after the call); the
    removal callback sees the old row under the lock on both -/
example :
    looksAfter (opExchange World.probe .typed c4 [2, 3] [(2, 9)] [1] [⟨3, q2⟩] wX) =
      [⟨true, false, [(0, 0), (2, 9), (3, 0)], [(0, q1), (3, q2)]⟩,
       ⟨true, false, [(0, 0), (2, 9), (3, 0)], [(0, q1), (3, q2)]⟩,
       ⟨true, false, [(0, 0), (2, 9), (3, 0)], [(0, q1), (3, q2)]⟩,
       ⟨true, false, [(0, 0), (2, 9), (3, 0)], [(0, q1), (3, q2)]⟩,
       ⟨true, false, [(0, 0), (2, 9), (3, 0)], [(0, q1), (3, q2)]⟩,
       ⟨true, true, [(0, 0), (1, 7)], [(0, q1)]⟩] ∧
    looksAfter (opExchange World.probe .unsafe_ c4 [2, 3] [(2, 9)] [1] [⟨3, q2⟩] wX) =
      [⟨true, false, [(0, 0), (2, 0), (3, 0)], [(0, q1), (3, q2)]⟩,
       ⟨true, false, [(0, 0), (2, 0), (3, 0)], [(0, q1), (3, q2)]⟩,
       ⟨true, false, [(0, 0), (2, 0), (3, 0)], [(0, q1), (3, q2)]⟩,
       ⟨true, false, [(0, 0), (2, 0), (3, 0)], [(0, q1), (3, q2)]⟩,
       ⟨true, false, [(0, 0), (2, 0), (3, 0)], [(0, q1), (3, q2)]⟩,
       ⟨true, true, [(0, 0), (1, 7)], [(0, q1)]⟩] := by
  decide +kernel

/-- **the lock hypothesis is necessary**: with all 64 lock bits outstanding an `Exchange` that
    removes something, with a registered `OnRemoveComponents` observer, panics "out of locks";
    a pure addition (no lock taken) is not affected -/
theorem lock_hypothesis_necessary :
    (match opExchange World.probe .typed c4 [3] [] [0] [⟨3, q2⟩]
        (wX.withLocks { pool := { length := 64 }, locks := 0#64 }) with
     | .panic k _ => k == .outOfLocks
     | .ok _ _ => false) = true ∧
    cbsAfter (opExchange World.probe .typed c4 [2] [(2, 5)] [] []
        (wX.withLocks { pool := { length := 64 }, locks := 0#64 })) = some [(6, c4)] := by
  decide +kernel

end Demo

end Ark.Props.C08Xchg
