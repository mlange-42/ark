import Ark.Generated.FactsEvents
import Ark.Proofs.Rejects
import Ark.Props.C08
import Ark.Props.C09World
import Ark.Props.C09Batch
import Ark.Props.C08Rel
import Ark.Props.C08Xchg
import Ark.Proofs.CallbacksBatch
import Ark.Proofs.CallbacksRelAdd

namespace Ark.Props.C09
open Ark

/-! C09 — observer callbacks see a consistent world at the documented time. -/

/-- T2 (regenerated from the source): in each of the seven functions listed, removal events are
    fired under the world lock BEFORE the first row mutation, addition events after the last one;
    single-entity operations release the lock before mutating (the caller's lock state holds for
    addition events), batch operations keep it until all events are fired; for batch operations
    all removal events precede all mutations and all addition events follow them
    (repaired defects D8 and D10). -/
theorem event_order_in_source : Generated.eventOrder = [
    ("World.remove", ["lock", "fireRemove", "unlock", "mutate"]),
    ("World.exchange", ["lock", "fireRemove", "unlock", "mutate"]),
    ("World.setRelations", ["lock", "fireRemove", "unlock", "mutate", "fireAdd"]),
    ("storage.RemoveEntity", ["lock", "fireRemove", "unlock", "mutate"]),
    ("World.exchangeBatch", ["lock", "fireRemove", "mutate", "fireAdd", "unlock"]),
    ("World.setRelationsBatch", ["lock", "fireRemove", "mutate", "fireAdd", "unlock"]),
    ("World.RemoveEntities", ["lock", "fireRemove", "mutate", "unlock"])] := rfl

/-- on a locked world — as inside removal and batch callbacks — `NewEntity` without components is rejected (`locked`) and returns the world it was called on -/
theorem callbacks_cannot_change_structure_when_locked : type_of% @World.opNewEntity0_locked := @World.opNewEntity0_locked

/-- the callbacks that run are exactly the observers whose predicate holds -/
theorem callback_set_exact : type_of% @Ark.Props.C08.dispatch_independent_remove := @Ark.Props.C08.dispatch_independent_remove


/-! ### World level (Props/C09World): when callbacks run and what they see -/

/-- **C09** for `add`: all records of the notification round are functions of ONE world — the world AFTER the change, in the caller's lock state: the entity is alive with its new component set, others untouched (typed paths: values already written; `Unsafe`: added components still read zero) -/
theorem world_add_sees : type_of% @Ark.Props.C09World.add_sees := @Ark.Props.C09World.add_sees

/-- **C09** for `newEntity`: all records of the notification round are functions of ONE world — the world AFTER the change, in the caller's lock state: the entity is alive with its new component set, others untouched (typed paths: values already written; `Unsafe`: added components still read zero) -/
theorem world_newEntity_sees : type_of% @Ark.Props.C09World.newEntity_sees := @Ark.Props.C09World.newEntity_sees

/-- **C09** for `newEntity0`: all records of the notification round are functions of ONE world — the world AFTER the change, in the caller's lock state: the entity is alive with its new component set, others untouched (typed paths: values already written; `Unsafe`: added components still read zero) -/
theorem world_newEntity0_sees : type_of% @Ark.Props.C09World.newEntity0_sees := @Ark.Props.C09World.newEntity0_sees

/-- **C09** for `copyEntity`: all records of the notification round are functions of ONE world — the world AFTER the change, in the caller's lock state: the entity is alive with its new component set, others untouched (typed paths: values already written; `Unsafe`: added components still read zero) -/
theorem world_copyEntity_sees : type_of% @Ark.Props.C09World.copyEntity_sees := @Ark.Props.C09World.copyEntity_sees

/-- **C09** for `set`: all records of the notification round are functions of ONE world — the world AFTER the change, in the caller's lock state: the entity is alive with its new component set, others untouched (typed paths: values already written; `Unsafe`: added components still read zero) -/
theorem world_set_sees : type_of% @Ark.Props.C09World.set_sees := @Ark.Props.C09World.set_sees

/-- **C09** for `emit`: all records of the notification round are functions of ONE world — the world AFTER the change, in the caller's lock state: the entity is alive with its new component set, others untouched (typed paths: values already written; `Unsafe`: added components still read zero) -/
theorem world_emit_sees : type_of% @Ark.Props.C09World.emit_sees := @Ark.Props.C09World.emit_sees

/-- **C09** for `remove`: all records of the notification round are functions of ONE world — the world BEFORE the change with the lock held: the entity is alive, every entity's components and values are the old ones (those about to be removed are readable), structural operations are rejected, and every query sees the entity exactly once at its old row -/
theorem world_remove_sees : type_of% @Ark.Props.C09World.remove_sees := @Ark.Props.C09World.remove_sees

/-- **C09** for `removeEntity`: all records of the notification round are functions of ONE world — the world BEFORE the change with the lock held: the entity is alive, every entity's components and values are the old ones (those about to be removed are readable), structural operations are rejected, and every query sees the entity exactly once at its old row -/
theorem world_removeEntity_sees : type_of% @Ark.Props.C09World.removeEntity_sees := @Ark.Props.C09World.removeEntity_sees

/-- **C09** for `exchange`: all records of the notification round are functions of ONE world — removal round before, addition round after -/
theorem world_exchange_sees : type_of% @Ark.Props.C09World.exchange_sees := @Ark.Props.C09World.exchange_sees

/-- inside a removal callback the entity occurs exactly once in a query whose filter matches its old mask -/
theorem world_exact_visits_once : type_of% @Ark.Props.C09World.exact_visits_once := @Ark.Props.C09World.exact_visits_once

/-- … and not at all otherwise -/
theorem world_exact_visits_none : type_of% @Ark.Props.C09World.exact_visits_none := @Ark.Props.C09World.exact_visits_none

/-- the harness' `query` probe run inside a removal callback records the entity once -/
theorem world_query_probe_in_removal_callback : type_of% @Ark.Props.C09World.query_probe_in_removal_callback := @Ark.Props.C09World.query_probe_in_removal_callback

/-- the harness' `look` probes form a read-only, log-blind runner -/
theorem world_harness_runner : type_of% @Ark.Props.C09World.harness_runner := @Ark.Props.C09World.harness_runner


/-! ### Batches (Props/C09Batch): all removal callbacks before any entity is changed, all others after all are changed -/

/-- the early exit of the per-row firing loop (`found = false` on the first row) loses no callback -/
theorem batch_batch_idiom_loses_no_callback : type_of% @Ark.Props.C09Batch.batch_idiom_loses_no_callback := @Ark.Props.C09Batch.batch_idiom_loses_no_callback

/-- `NewBatch`: all creation callbacks run after all entities exist, on a locked world -/
theorem batch_newBatch_callbacks : type_of% @Ark.Props.C09Batch.newBatch_callbacks := @Ark.Props.C09Batch.newBatch_callbacks

/-- `RemoveEntities`: all removal callbacks run before any entity is removed, on a locked world -/
theorem batch_removeEntities_callbacks : type_of% @Ark.Props.C09Batch.removeEntities_callbacks := @Ark.Props.C09Batch.removeEntities_callbacks

/-- exchange batches: all removal callbacks on one world in which nothing has moved, then all moves, then all addition callbacks on one world in which everything has moved -/
theorem batch_exchangeBatch_callbacks : type_of% @Ark.Props.C09Batch.exchangeBatch_callbacks := @Ark.Props.C09Batch.exchangeBatch_callbacks


/-! ### What relation callbacks observe (Props/C08Rel) -/

/-- SetRelations: the OnRemoveRelations callbacks run before the move on a locked world and see the old targets (every entity-level observation — liveness, components, values, targets — is as before the call; the destination table may already have been found, recycled or created); the OnAddRelations callbacks see the new targets -/
theorem rel_setRelations_sees : type_of% @Ark.Props.C08Rel.setRelations_sees := @Ark.Props.C08Rel.setRelations_sees

/-- NewEntity with targets: callbacks see the created entity with its components, values and targets -/
theorem rel_newEntity_rel_sees : type_of% @Ark.Props.C08Rel.newEntity_rel_sees := @Ark.Props.C08Rel.newEntity_rel_sees

/-- Add with relation components: callbacks see the world after the change -/
theorem rel_add_rel_sees : type_of% @Ark.Props.C08Rel.add_rel_sees := @Ark.Props.C08Rel.add_rel_sees

/-- Remove of relation components: both rounds see the world before the change, under one lock -/
theorem rel_remove_rel_sees : type_of% @Ark.Props.C08Rel.remove_rel_sees := @Ark.Props.C08Rel.remove_rel_sees

/-- RemoveEntity: both rounds see the entity still alive with its components and targets -/
theorem rel_removeEntity_rel_sees : type_of% @Ark.Props.C08Rel.removeEntity_rel_sees := @Ark.Props.C08Rel.removeEntity_rel_sees

/-- all records of one round are functions of one world -/
theorem rel_round_log_blind : type_of% @Ark.Props.C08Rel.round_log_blind := @Ark.Props.C08Rel.round_log_blind



/-! ### What the callbacks of Exchange observe, with relations (Props/C08Xchg) -/

/-- Exchange: both removal rounds run on ONE world — locked, every entity with its components, values, targets and liveness as before the call —, both addition rounds on ONE world after the move (typed paths: values written; Unsafe: added components still zero), in the final lock state -/
theorem xrel_exchange_sees : type_of% @Ark.Props.C08Xchg.exchange_sees := @Ark.Props.C08Xchg.exchange_sees

/-- the lock taken for the removal rounds is released before the move -/
theorem xrel_exchange_unlocked_after : type_of% @Ark.Props.C08Xchg.exchange_unlocked_after := @Ark.Props.C08Xchg.exchange_unlocked_after


end Ark.Props.C09
