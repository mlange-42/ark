import Ark.Proofs.Table
import Ark.Proofs.Rejects
import Ark.Generated.FactsEvents
import Ark.Props.C06Hist
import Ark.Props.C06Rel
import Ark.Props.C01Xchg

namespace Ark.Props.C06
open Ark

/-! C06 — batch operations equal the per-entity operations they abbreviate: the bulk moves at table
    level, then batch = fold of the single operation at world level, at every reachable state, and
    with relation targets. -/

/-- moving all rows of a table appends them in order behind the rows already there, values intact -/
theorem bulk_move_rowwise : type_of% @Table.addAll_cell := @Table.addAll_cell

/-- … and the entity column likewise -/
theorem bulk_move_entities : type_of% @Table.addAll_getEntity := @Table.addAll_getEntity

/-- the destination grows by exactly the number of moved rows -/
theorem bulk_move_len : type_of% @Table.addAll_len := @Table.addAll_len

/-- batch exchange copies each kept column to the last rows of the destination, nothing else changes -/
theorem column_copy_rowwise : type_of% @Table.copyToEnd_cell := @Table.copyToEnd_cell

/-- the source table is empty and zeroed afterwards -/
theorem source_emptied : type_of% @Table.reset_zero := @Table.reset_zero

/-- a batch operation on a locked world is rejected without effect -/
theorem batch_locked_rejected : type_of% @World.exchangeBatch_locked := @World.exchangeBatch_locked

/-- T2 (regenerated): `exchangeBatch` and `setRelationsBatch` fire all removal events before the
    first move and all addition events after the last one, under one lock. -/
theorem batch_event_order_in_source :
    (Generated.eventOrder.filter fun p => p.1 == "World.exchangeBatch" || p.1 == "World.setRelationsBatch").map (·.2) =
      [["lock", "fireRemove", "mutate", "fireAdd", "unlock"], ["lock", "fireRemove", "mutate", "fireAdd", "unlock"]] := by decide +kernel


/-! ### World level (Props/C06World): a batch equals the fold of the single operation -/

/-- **creation**: `NewBatch(count, ids)` without callback leaves exactly the world that `count` successive `NewEntity(ids)` leave (world equality), same handles in the same order -/
theorem world_newBatch_eq_singles : type_of% @Ark.Props.C06World.newBatch_eq_singles := @Ark.Props.C06World.newBatch_eq_singles

/-- … with callback: the same world up to the lock's bit pool and one callback record per entity, in order, on a locked world -/
theorem world_newBatchFn_eq_singles : type_of% @Ark.Props.C06World.newBatchFn_eq_singles := @Ark.Props.C06World.newBatchFn_eq_singles

/-- `World.NewEntities(count)` = `count` × `World.NewEntity()` -/
theorem world_newEntities_eq_singles : type_of% @Ark.Props.C06World.newEntities_eq_singles := @Ark.Props.C06World.newEntities_eq_singles

/-- … with callback -/
theorem world_newEntitiesFn_eq_singles : type_of% @Ark.Props.C06World.newEntitiesFn_eq_singles := @Ark.Props.C06World.newEntitiesFn_eq_singles

/-- finding: `NewBatch(0, ids)` still creates the archetype and table of `ids` -/
theorem world_newBatch_zero : type_of% @Ark.Props.C06World.newBatch_zero := @Ark.Props.C06World.newBatch_zero

/-- `createEntities t n` = n × take a handle, place it in the next row, index it -/
theorem world_createEntities_is_iterated_placeNew : type_of% @Ark.Props.C06World.createEntities_is_iterated_placeNew := @Ark.Props.C06World.createEntities_is_iterated_placeNew

/-- **selection**: the entities a batch selects are exactly the alive entities whose component mask matches the filter -/
theorem world_batch_selects_matching_alive : type_of% @Ark.Props.C06World.batch_selects_matching_alive := @Ark.Props.C06World.batch_selects_matching_alive

/-- the tables a batch walks are exactly the `Selected` ones -/
theorem world_batch_tables_selected : type_of% @Ark.Props.C06World.batch_tables_selected := @Ark.Props.C06World.batch_tables_selected

/-- **removal**: `RemoveEntities(filter)` and `RemoveEntity` on each selected entity both succeed and leave the same liveness, values, component sets and pool -/
theorem world_removeEntities_eq_singles : type_of% @Ark.Props.C06World.removeEntities_eq_singles := @Ark.Props.C06World.removeEntities_eq_singles

/-- … in any order of the single removals (only the free-list order differs) -/
theorem world_removeEntities_any_order : type_of% @Ark.Props.C06World.removeEntities_any_order := @Ark.Props.C06World.removeEntities_any_order

/-- … with callback: one record per entity, all before the first removal -/
theorem world_removeEntitiesFn_eq : type_of% @Ark.Props.C06World.removeEntitiesFn_eq := @Ark.Props.C06World.removeEntitiesFn_eq

/-- two worlds satisfying the removal post-condition agree on every observation -/
theorem world_removed_obs_eq : type_of% @Ark.Props.C06World.removed_obs_eq := @Ark.Props.C06World.removed_obs_eq

/-- **add / remove / exchange batches**: the batch and the fold of the single operation both succeed and agree on pool, liveness, every value and every component set -/
theorem world_exchangeBatch_eq_singles : type_of% @Ark.Props.C06World.exchangeBatch_eq_singles := @Ark.Props.C06World.exchangeBatch_eq_singles

/-- … with callback; the callback runs once per selected entity, on a locked world, seeing the kept values and zeros for added components -/
theorem world_exchangeBatchFn_eq_singles : type_of% @Ark.Props.C06World.exchangeBatchFn_eq_singles := @Ark.Props.C06World.exchangeBatchFn_eq_singles

/-- the callback log of an exchange batch, explicitly -/
theorem world_callback_records : type_of% @Ark.Props.C06World.callback_records := @Ark.Props.C06World.callback_records

/-- two worlds satisfying the exchange post-condition agree on every observation -/
theorem world_exchanged_obs_eq : type_of% @Ark.Props.C06World.exchanged_obs_eq := @Ark.Props.C06World.exchanged_obs_eq

/-- the side condition `RowsLive` holds initially -/
theorem world_rowsLive_initially : type_of% @Ark.Props.C06World.rowsLive_initially := @Ark.Props.C06World.rowsLive_initially

/-! ### … at every state reached by a history shorter than 2^32 − 2 (Props/C06Hist) -/

/-- after every history of the refinement machine the hypotheses of the batch theorems hold -/
theorem hist_reach_batch_hyps : type_of% @Ark.Props.C06Hist.reach_batch_hyps := @Ark.Props.C06Hist.reach_batch_hyps

/-- batch removal = single removals at every reachable state -/
theorem hist_removeEntities_eq_singles : type_of% @Ark.Props.C06Hist.removeEntities_eq_singles := @Ark.Props.C06Hist.removeEntities_eq_singles

/-- the selection of a batch at every reachable state -/
theorem hist_batch_selects_matching_alive : type_of% @Ark.Props.C06Hist.batch_selects_matching_alive := @Ark.Props.C06Hist.batch_selects_matching_alive

/-- batch add/remove/exchange = single exchanges at every reachable state -/
theorem hist_exchangeBatch_eq_singles : type_of% @Ark.Props.C06Hist.exchangeBatch_eq_singles := @Ark.Props.C06Hist.exchangeBatch_eq_singles

/-- batch creation = single creations at every reachable state -/
theorem hist_newBatch_eq_singles : type_of% @Ark.Props.C06Hist.newBatch_eq_singles := @Ark.Props.C06Hist.newBatch_eq_singles


/-! ### With relation targets (Props/C06Rel): batch removal of entities that are relation targets, SetRelationsBatch -/

/-- the batch never fails and removes exactly the rows of the selected tables, also when relation targets are among the removed: every selected entity is dead, every other entity keeps liveness, components and values, and its targets are unchanged except that a removed target reads as the zero entity -/
theorem rel_removeEntities_rel_spec : type_of% @Ark.Props.C06Rel.removeEntities_rel_spec := @Ark.Props.C06Rel.removeEntities_rel_spec

/-- the selected entities are exactly the alive entities that match the filter and its relation targets -/
theorem rel_selected_iff_alive_matching : type_of% @Ark.Props.C06Rel.selected_iff_alive_matching := @Ark.Props.C06Rel.selected_iff_alive_matching

/-- **C06 with relation targets among the removed**: batch and singles in the batch's order both succeed, satisfy the same postcondition, and even their entity pools are equal -/
theorem rel_removeEntities_rel_eq_singles : type_of% @Ark.Props.C06Rel.removeEntities_rel_eq_singles := @Ark.Props.C06Rel.removeEntities_rel_eq_singles

/-- order independence: the singles in ANY order give the same Alive, components, values and relation targets as the batch -/
theorem rel_removeEntities_rel_any_order : type_of% @Ark.Props.C06Rel.removeEntities_rel_any_order := @Ark.Props.C06Rel.removeEntities_rel_any_order

/-- SetRelationsBatch: a table whose targets the assignment does not change is skipped (world untouched) -/
theorem rel_unchanged_table_skipped : type_of% @Ark.Props.C06Rel.unchanged_table_skipped := @Ark.Props.C06Rel.unchanged_table_skipped

/-- … and only such a table -/
theorem rel_changed_table_moves : type_of% @Ark.Props.C06Rel.changed_table_moves := @Ark.Props.C06Rel.changed_table_moves

/-- SetRelationsBatch never fails for a valid call and assigns exactly the targets named to exactly the selected entities -/
theorem rel_setRelationsBatch_spec : type_of% @Ark.Props.C06Rel.setRelationsBatch_spec := @Ark.Props.C06Rel.setRelationsBatch_spec

/-- **SetRelationsBatch = the fold of SetRelations** over the selected entities in ANY order -/
theorem rel_setRelationsBatch_eq_fold : type_of% @Ark.Props.C06Rel.setRelationsBatch_eq_fold := @Ark.Props.C06Rel.setRelationsBatch_eq_fold

/-- after every history (single operations, queries, both batches): batch removal = single removals in any order, never failing, also when relation targets are removed -/
theorem rel_removeEntities_after_every_history : type_of% @Ark.Props.C06Rel.removeEntities_after_every_history := @Ark.Props.C06Rel.removeEntities_after_every_history

/-- … and batch assignment = single assignments in any order -/
theorem rel_setRelationsBatch_after_every_history : type_of% @Ark.Props.C06Rel.setRelationsBatch_after_every_history := @Ark.Props.C06Rel.setRelationsBatch_after_every_history

/-- C03 still holds after batches: a query visits exactly the alive matching entities -/
theorem rel_query_after_every_history : type_of% @Ark.Props.C06Rel.query_after_every_history := @Ark.Props.C06Rel.query_after_every_history



/-! ### Exchange batches over relation tables (Props/C01Xchg) -/

/-- without observers and callback the exchange batch is the lookup loop followed by the move loop -/
theorem xchg_batch_normal_form : type_of% @Ark.Props.C01Xchg.batch_normal_form := @Ark.Props.C01Xchg.batch_normal_form

/-- the batch never fails for a valid call; several source tables may share one destination (when the removed relation components are those in which they differ) -/
theorem xchg_batch_spec : type_of% @Ark.Props.C01Xchg.batch_spec := @Ark.Props.C01Xchg.batch_spec

/-- the single exchanges, in any order, through any path -/
theorem xchg_singles_spec : type_of% @Ark.Props.C01Xchg.singles_spec := @Ark.Props.C01Xchg.singles_spec

/-- **exchange batch over relation tables = the fold of the single Exchange** over the selected entities in any order: same liveness, components, values and targets for every ID -/
theorem xchg_batch_eq_fold : type_of% @Ark.Props.C01Xchg.batch_eq_fold := @Ark.Props.C01Xchg.batch_eq_fold


end Ark.Props.C06
