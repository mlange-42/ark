/-
  C08 at world level — which callbacks run.

  "For every operation and every registered observer, the callback runs exactly once per affected
  entity if and only if the event type matches and the observer's observed-component, with,
  without and exclusive conditions hold for that operation as documented, and never otherwise.
  Whether an observer fires does not depend on which other observers are or were registered, and
  the same holds for custom events emitted by the user."

  Setting (`Setting run S rec w fl`, Ark/Proofs/CallbacksCbs.lean): the non-relation fragment WITH
  observers (`CInvObs` = the joint invariant `CInv` of Ark/Proofs/RefineCore.lean minus its "no
  observers" field); any set of registered observers whose aggregates and computed data are
  consistent (`ObsOK`: `AggInv` for every event type, the data of every listed observer is what
  `AddObserver` computes from its specification, no observer listed twice — established by
  `Register`, kept by `Unregister`: `register_keeps_setting`, `unregister_keeps_setting`); a
  callback runner `run` that is READ-ONLY on the probes occurring in the observers' scripts
  (`ReadOnly run S rec`: running a probe appends the records `rec w l e p` to the log and changes
  nothing else) and writes no `cb` records itself.  The runner of the harness restricted to `look`
  probes is of this kind (`probe_readOnly`).

  For each of `Add`, `Remove`, `Exchange`, `Set`, `NewEntity(ids…)`, `NewEntity()`, `RemoveEntity`,
  `CopyEntity`, `Event.Emit` (`*_callbacks`): the call succeeds exactly as on the world without
  observers (`w.noObs`), its result is the observer-free result with the observers put back
  (`FrameOf`), and the `cb` records appended are exactly `(l, e)` for `l ∈ firing w.obs evt ev` —
  the observers registered for the operation's event type, in registration order, whose
  SPECIFICATION fires for the event instance `ev` — newest first.

  Finding (documented behaviour made precise): `RemoveEntity` / `NewEntity` on an entity WITHOUT
  relation components never notify `OnRemoveRelations` / `OnAddRelations` observers, not even
  wildcard ones; `Unsafe.Exchange` with an empty `add` list skips `OnAddComponents`, the typed
  `Exchange` (whose `add` is never empty in Go) does not.

  Hypotheses the proofs need beyond the setting: the lock hands out a bit and takes it back
  (`LockCycle w.locks l1 b l2`; true for every lawful lock state with fewer than 64 outstanding
  bits, `lockCycle_of_invariant`) — with all 64 bits outstanding `Remove` panics `outOfLocks`
  (`lock_hypothesis_necessary`).  For the two registration theorems: the bookkeeping invariant
  `MInv` of the observer manager (ids unique and never recycled, the id index points at the
  object, listed ⇒ registered; Ark/Proofs/ObsIndex.lean), which holds initially and is kept by
  `Register` and `Unregister` (`bookkeeping_init`, `register_keeps_bookkeeping`,
  `unregister_keeps_bookkeeping`) — it yields the side conditions "listed nowhere" of `Register`
  and "the index of the unregistered observer points at it" (`IndexOK`) of `Unregister`.
-/
import Ark.Proofs.ObsIndex
import Ark.Proofs.Refine
import Ark.Proofs.CallbacksSeen

set_option autoImplicit false

namespace Ark.Props.C08World
open Ark Ark.World Ark.Spec Ark.Refine Ark.QueryExact Ark.Props.C01World

variable {run : ProbeRunner} {S : Probe → Prop} {rec : World → Nat → Ent → Probe → List LogEv}
  {w : World} {fl : List Nat}

/-! ### 1. `dispatch` -/

/-- For a read-only runner `dispatch` returns `found` = "some predicate held" and a
    world that differs from `w` in the log only; the log is extended by `dispatchLog`: for each
    observer label of `obs`, in order, whose predicate holds, `cb l e` followed by what its script
    logs on the world as it is then. -/
theorem dispatch_is_filter (hro : ReadOnly run S rec) (obs : List Nat) (pred : ObsData → Bool)
    (e : Ent) (w : World) (hs : ScriptsIn w.obs S) :
    dispatch run obs pred e w
      = .ok (obs.any fun l => pred (w.obs.obj l).data) (w.addLog (dispatchLog rec pred e obs w)) :=
  dispatch_readOnly hro obs pred e w hs

/-- the `cb` records of a dispatch: `(l, e)` for the labels of `obs` whose predicate holds, in
    order (the log is newest-first, hence `reverse`), once per occurrence in `obs` -/
theorem dispatch_callbacks (hn : NoCb rec) (pred : ObsData → Bool) (e : Ent) (obs : List Nat)
    (w : World) :
    cbsOf (dispatchLog rec pred e obs w)
      = ((obs.filter fun l => pred (w.obs.obj l).data).map fun l => (l, e)).reverse := by
  rw [dispatchLog_eq_notifyAll, cbsOf_notifyAll hn]

/-- for a log-blind runner every record of a dispatch is a function of the ONE world it was
    called on (observer by observer in slice order; newest first, hence reversed) -/
theorem dispatch_log_blind (hb : LogBlind rec) (pred : ObsData → Bool) (e : Ent) (obs : List Nat)
    (w : World) :
    dispatchLog rec pred e obs w
      = ((obs.filter fun l => pred (w.obs.obj l).data).reverse.flatMap fun l =>
          notifyFlat rec l e w) := by
  rw [dispatchLog_eq_notifyAll, notifyAll_blind hb]

/-! ### 2. the callback set of every operation -/

/-- membership in the documented callback set: registered for the event type, and the
    specification fires -/
theorem firing_iff {m : ObsMgr} {evt : Nat} {ev : EvInst} {l : Nat} :
    l ∈ firing m evt ev ↔ l ∈ (m.evt evt).observers ∧ Spec.fires (m.obj l).spec ev := mem_firing

/-- **exactly once, and never otherwise** -/
theorem firing_exactly_once {m : ObsMgr} (h : ObsOK m) (evt : Nat) (ev : EvInst) (e : Ent) (l : Nat) :
    (((firing m evt ev).map fun x => (x, e)).reverse).count (l, e)
      = if l ∈ firing m evt ev then 1 else 0 := count_cbs_firing h evt ev e l

theorem add_callbacks (st : Setting run S rec w fl) (run0 : ProbeRunner) (p : Path)
    (hl : w.isLocked = false) {e : Ent} (he : Live w fl e) {add : List Comp} (hne : add ≠ [])
    (hnd : add.Nodup) (hreg : ∀ (c : Comp), c ∈ add → c < w.kinds.length)
    (hnew : ∀ (c : Comp), c ∈ add → (w.maskOf e).get c = false) (vals : List (Comp × Val))
    (hfew : w.tables.length < maxU32) (hrows : ∀ t : Nat, (w.tbl t).len + 1 < 2 ^ 32) :
    ∃ w0 w' : World,
      opAdd run0 p e add vals [] w.noObs = .ok () w0 ∧ OpAddPost w.noObs fl e add vals w0 ∧
      opAdd run p e add vals [] w = .ok () w' ∧ FrameOf w0 w w' ∧ w'.locks = w0.locks ∧
      cbsOf w'.log =
        ((firing w.obs Ev.onAddComponents
          (.add (w.maskOf e) (add.foldl Mask.set (w.maskOf e)))).map fun l => (l, e)).reverse
        ++ cbsOf w.log := by
  obtain ⟨w1, _, _, h3, h4, h5⟩ := opAdd_callbacks st.ro run0 p st.scripts st.obs st.inv hl he.ge2
    he.notFree he.alive he.inPool hne hnd hreg hnew vals hfew hrows
  exact ⟨_, _, h3, h4, h5, frameOf_relog _ _ _, rfl, cbsOf_round st.noCb _ _ _ _⟩

theorem remove_callbacks (st : Setting run S rec w fl) (run0 : ProbeRunner) (p : Path)
    (hl : w.isLocked = false) {e : Ent} (he : Live w fl e) {rem : List Comp} (hne : rem ≠ [])
    (hnd : rem.Nodup) (hpres : ∀ (c : Comp), c ∈ rem → (w.maskOf e).get c = true)
    (hfew : w.tables.length < maxU32) (hrows : ∀ t : Nat, (w.tbl t).len + 1 < 2 ^ 32)
    {l1 l2 : Lock} {b : Nat} (hL : LockCycle w.locks l1 b l2) :
    ∃ w0 w' : World,
      opRemove run0 p e rem w.noObs = .ok () w0 ∧ RemovePost w.noObs fl e rem w0 ∧
      opRemove run p e rem w = .ok () w' ∧ FrameOf w0 w w' ∧
      w'.locks = lockAfter w Ev.onRemoveComponents l2 ∧
      cbsOf w'.log =
        ((firing w.obs Ev.onRemoveComponents
          (.remove (w.maskOf e) (rem.foldl Mask.clear (w.maskOf e)))).map fun l => (l, e)).reverse
        ++ cbsOf w.log := by
  obtain ⟨w1, w0, _, h2, h3, h4⟩ := opRemove_callbacks st.ro run0 p st.scripts st.obs st.inv hl
    he.ge2 he.notFree he.alive he.inPool hne hnd hpres hfew hrows hL
  exact ⟨_, _, h2, h3, h4, frameOf_reframe _ _ _ _, rfl, cbsOf_round st.noCb _ _ _ _⟩

/-- first the removal observers (if `rem` is not empty), then the addition observers (`Unsafe`:
    if `add` is not empty), both with the masks before and after the complete exchange -/
theorem exchange_callbacks (st : Setting run S rec w fl) (run0 : ProbeRunner) (p : Path)
    (hl : w.isLocked = false) {e : Ent} (he : Live w fl e)
    {add rem : List Comp} (hne : ¬ (add = [] ∧ rem = [])) (hrnd : rem.Nodup)
    (hpres : ∀ (c : Comp), c ∈ rem → (w.maskOf e).get c = true) (hand : add.Nodup)
    (hreg : ∀ (c : Comp), c ∈ add → c < w.kinds.length)
    (hnew : ∀ (c : Comp), c ∈ add → (w.maskOf e).get c = false) (vals : List (Comp × Val))
    (hfew : w.tables.length < maxU32) (hrows : ∀ t : Nat, (w.tbl t).len + 1 < 2 ^ 32)
    {l1 l2 : Lock} {b : Nat} (hL : LockCycle w.locks l1 b l2) :
    ∃ w0 w' : World,
      opExchange run0 p e add vals rem [] w.noObs = .ok () w0 ∧
      OpExchangePost w.noObs fl e add rem vals w0 ∧
      opExchange run p e add vals rem [] w = .ok () w' ∧ FrameOf w0 w w' ∧
      w'.locks = lockAfterX w rem l2 ∧
      cbsOf w'.log =
        ((firingAddX w.obs p add (w.maskOf e)
            (add.foldl Mask.set (rem.foldl Mask.clear (w.maskOf e)))).map fun l => (l, e)).reverse
        ++ (((firingX w rem (w.maskOf e)
            (add.foldl Mask.set (rem.foldl Mask.clear (w.maskOf e)))).map fun l => (l, e)).reverse
        ++ cbsOf w.log) := by
  obtain ⟨w1, w2, _, _, _, h4, h5, h6⟩ := opExchange_callbacks st.ro run0 p st.scripts st.obs st.inv
    hl he.ge2 he.notFree he.alive he.inPool hne hrnd hpres hand hreg hnew vals hfew hrows hL
  refine ⟨_, _, h4, h5, h6, frameOf_reframe _ _ _ _, rfl, ?_⟩
  show cbsOf (notifyAll rec e _ _ ++ (notifyAll rec e _ _ ++ w.log)) = _
  rw [cbsOf_round st.noCb, cbsOf_round st.noCb]

/-- the returned handle is the reported entity -/
theorem newEntity_callbacks (st : Setting run S rec w fl) (run0 : ProbeRunner) (p : Path)
    (hl : w.isLocked = false) {ids : List Comp} (hnd : ids.Nodup)
    (hreg : ∀ (c : Comp), c ∈ ids → c < w.kinds.length) (vals : List (Comp × Val))
    (hfew : w.tables.length < maxU32) (hrows : ∀ t : Nat, (w.tbl t).len + 1 < 2 ^ 32) :
    ∃ w0 w' : World,
      opNewEntity run0 p ids vals [] w.noObs = .ok (w.pool.get).2 w0 ∧
      NewPost w.noObs fl ids vals (w.pool.get).2 w0 ∧
      opNewEntity run p ids vals [] w = .ok (w.pool.get).2 w' ∧ FrameOf w0 w w' ∧
      w'.locks = w0.locks ∧
      cbsOf w'.log =
        ((firing w.obs Ev.onCreateEntity (.entity (Mask.ofList ids))).map
          fun l => (l, (w.pool.get).2)).reverse ++ cbsOf w.log := by
  obtain ⟨w1, _, _, h3, h4, h5⟩ := opNewEntity_callbacks st.ro run0 p st.scripts st.obs st.inv hl
    hnd hreg vals hfew hrows
  exact ⟨_, _, h3, h4, h5, frameOf_relog _ _ _, rfl, cbsOf_round st.noCb _ _ _ _⟩

theorem newEntity0_callbacks (st : Setting run S rec w fl) (run0 : ProbeRunner)
    (hl : w.isLocked = false) (hb : (w.tbl 0).len + 1 < 2 ^ 32) :
    ∃ w0 w' : World,
      opNewEntity0 run0 w.noObs = .ok (w.pool.get).2 w0 ∧
      PlacedPost w.noObs fl 0 (w.pool.get).2 w0 ∧ compsOf w0 (w.pool.get).2.id = some [] ∧
      opNewEntity0 run w = .ok (w.pool.get).2 w' ∧ FrameOf w0 w w' ∧ w'.locks = w0.locks ∧
      cbsOf w'.log =
        ((firing w.obs Ev.onCreateEntity (.entity Mask.empty)).map
          fun l => (l, (w.pool.get).2)).reverse ++ cbsOf w.log := by
  obtain ⟨w0, h1, h2, h3, h4⟩ := opNewEntity0_callbacks st.ro run0 st.scripts st.obs st.inv hl hb
  exact ⟨_, _, h1, h2, h3, h4, frameOf_relog _ _ _, rfl, cbsOf_round st.noCb _ _ _ _⟩

theorem removeEntity_callbacks (st : Setting run S rec w fl) (run0 : ProbeRunner)
    (hl : w.isLocked = false) {e : Ent} (he : Live w fl e)
    {l1 l2 : Lock} {b : Nat} (hL : LockCycle w.locks l1 b l2) :
    ∃ w0 w' : World,
      opRemoveEntity run0 e w.noObs = .ok () w0 ∧ RemovedPost w.noObs fl e w0 ∧
      opRemoveEntity run e w = .ok () w' ∧ FrameOf w0 w w' ∧
      w'.locks = lockAfter w Ev.onRemoveEntity l2 ∧
      cbsOf w'.log =
        ((firing w.obs Ev.onRemoveEntity (.entity (w.maskOf e))).map fun l => (l, e)).reverse
        ++ cbsOf w.log := by
  obtain ⟨w0, h1, h2, h3⟩ := opRemoveEntity_callbacks st.ro run0 st.scripts st.obs st.inv hl he.ge2
    he.notFree he.alive he.inPool hL
  exact ⟨_, _, h1, h2, h3, frameOf_reframe _ _ _ _, rfl, cbsOf_round st.noCb _ _ _ _⟩

/-- no lock requirement: `Set` may be called from inside a callback or a query loop -/
theorem set_callbacks (st : Setting run S rec w fl) (run0 : ProbeRunner) {e : Ent} (he : Live w fl e)
    {ids : List Comp} (hhas : ∀ (c : Comp), c ∈ ids → (w.maskOf e).get c = true)
    (vals : List (Comp × Val)) :
    ∃ w0 w' : World,
      opSet run0 e ids vals w.noObs = .ok () w0 ∧ WritePost w.noObs fl e vals w0 ∧
      opSet run e ids vals w = .ok () w' ∧ FrameOf w0 w w' ∧ w'.locks = w0.locks ∧
      cbsOf w'.log =
        ((firing w.obs Ev.onSetComponents (.set (Mask.ofList ids) (w.maskOf e))).map
          fun l => (l, e)).reverse ++ cbsOf w.log := by
  obtain ⟨h1, h2, h3⟩ := opSet_callbacks st.ro run0 st.scripts st.obs st.inv he.ge2 he.notFree
    he.alive he.inPool hhas vals
  exact ⟨_, _, h1, h2, h3, frameOf_relog _ _ _, rfl, cbsOf_round st.noCb _ _ _ _⟩

/-- the copy is the reported entity, with the mask of the source -/
theorem copyEntity_callbacks (st : Setting run S rec w fl) (run0 : ProbeRunner)
    (hl : w.isLocked = false) {src : Ent} (he : Live w fl src)
    (hrows : ∀ t : Nat, (w.tbl t).len + 1 < 2 ^ 32) :
    ∃ w0 w' : World,
      opCopyEntity run0 src w.noObs = .ok (w.pool.get).2 w0 ∧
      CopyPost w.noObs fl src (w.pool.get).2 w0 ∧
      opCopyEntity run src w = .ok (w.pool.get).2 w' ∧ FrameOf w0 w w' ∧ w'.locks = w0.locks ∧
      cbsOf w'.log =
        ((firing w.obs Ev.onCreateEntity (.entity (w.maskOf src))).map
          fun l => (l, (w.pool.get).2)).reverse ++ cbsOf w.log := by
  obtain ⟨w0, h1, h2, h3⟩ := opCopyEntity_callbacks st.ro run0 st.scripts st.obs st.inv hl he.ge2
    he.notFree he.alive he.inPool hrows
  exact ⟨_, _, h1, h2, h3, frameOf_relog _ _ _, rfl, cbsOf_round st.noCb _ _ _ _⟩

/-- custom events (`Event.Emit` for an event type ≤ 248): needs no invariant of the world; the
    world is unchanged but for the log; `comps` are the components the event is about, the
    entity must be alive and have them (or be the zero entity, with no components) -/
theorem emit_callbacks (hro : ReadOnly run S rec) (hn : NoCb rec) (hs : ScriptsIn w.obs S)
    (hok : ObsOK w.obs) (evt : Nat) (comps : List Comp) (e : Ent) (hevt : evt ≤ Ev.custom)
    (hent : if e.isZero then (Mask.ofList comps).isZero = true else w.alive e = true)
    (hcont : ((if e.isZero then (w.arch 0).mask else w.maskOf e).contains (Mask.ofList comps)) = true) :
    ∃ w' : World, opEmit run evt comps e w = .ok () w' ∧ w' = { w with log := w'.log } ∧
      cbsOf w'.log =
        ((firing w.obs evt (.set (Mask.ofList comps)
          (if e.isZero then (w.arch 0).mask else w.maskOf e))).map fun l => (l, e)).reverse
        ++ cbsOf w.log := by
  refine ⟨_, opEmit_obs_eq hro w hs hok evt comps e hevt hent hcont, rfl, ?_⟩
  exact cbsOf_round hn _ _ _ _

/-- the setting carries over to the result of every operation above (same runner, same
    observers; the invariant of the observer-free result) -/
theorem setting_kept {w0 w' : World} {fl' : List Nat} (st : Setting run S rec w fl)
    (hf : FrameOf w0 w w') (h0 : CInv w0 fl') : Setting run S rec w' fl' := st.frame hf h0

/-! ### 3. independence -/

/-- **independence.**  The number of callbacks of observer `l` in a notification round is the same
    under any two observer managers that agree on `l` — whether it is listed for the event type,
    and its specification — whatever else is or was registered. -/
theorem observer_independent {m m' : ObsMgr} (h : ObsOK m) (h' : ObsOK m') {evt : Nat} {l : Nat}
    (hl : l ∈ (m'.evt evt).observers ↔ l ∈ (m.evt evt).observers)
    (hs : (m'.obj l).spec = (m.obj l).spec) (ev : EvInst) (e : Ent) :
    (((firing m' evt ev).map fun x => (x, e)).reverse).count (l, e)
      = (((firing m evt ev).map fun x => (x, e)).reverse).count (l, e) :=
  Ark.observer_independent h h' hl hs ev e

/-- registering ANOTHER observer `l'` changes nothing but the observer manager, keeps the setting,
    and keeps `l` listed or not, with its specification: by `observer_independent` and the
    `*_callbacks` theorems (whose event instances are computed from the world without observers,
    which is the same) the callbacks of `l` are the same in every operation -/
theorem register_other_independent {w w' : World} {l l' : Nat} (h : ObsOK w.obs)
    (hok : opObsRegister l' w = .ok () w') (hids : IdsOK (w.obs.obj l').spec)
    (hfresh : ∀ evt : Nat, l' ∉ (w.obs.evt evt).observers) (hne : l ≠ l') :
    ObsOK w'.obs ∧ w' = { w with obs := w'.obs } ∧
    (∀ evt : Nat, l ∈ (w'.obs.evt evt).observers ↔ l ∈ (w.obs.evt evt).observers) ∧
    (w'.obs.obj l).spec = (w.obs.obj l).spec := register_other h hok hids hfresh hne

/-- the same for unregistering another observer (the swap-remove may move `l` in the list, which
    changes the ORDER of the callbacks, not their number) -/
theorem unregister_other_independent {w w' : World} {l l' : Nat} (h : ObsOK w.obs)
    (hok : opObsUnregister l' w = .ok () w') (hidx : IndexOK w.obs l') (hne : l ≠ l') :
    ObsOK w'.obs ∧ w' = { w with obs := w'.obs } ∧
    (∀ evt : Nat, l ∈ (w'.obs.evt evt).observers ↔ l ∈ (w.obs.evt evt).observers) ∧
    (w'.obs.obj l).spec = (w.obs.obj l).spec := unregister_other h hok hidx hne

/-! ### the bookkeeping invariant of the observer manager discharges the side conditions -/

theorem bookkeeping_init : MInv {} :=
  { noRecycle := rfl
    bounded := fun l oid h => by simp [ObsMgr.obj, AL.find?] at h
    unique := fun l1 l2 oid h => by simp [ObsMgr.obj, AL.find?] at h
    index := fun l oid h => by simp [ObsMgr.obj, AL.find?] at h
    listed := fun evt l h => by simp [ObsMgr.evt, AL.find?] at h }

theorem register_keeps_bookkeeping {w w' : World} {l : Nat} (h : MInv w.obs)
    (hok : opObsRegister l w = .ok () w') : MInv w'.obs := opObsRegister_minv h hok

theorem unregister_keeps_bookkeeping {w w' : World} {l : Nat} (h : MInv w.obs) (hok' : ObsOK w.obs)
    (hok : opObsUnregister l w = .ok () w') : MInv w'.obs := opObsUnregister_minv h hok' hok

/-- **independence under registration, in every state reached by registrations and
    unregistrations**: a successful `Register` of another observer `l'` (component IDs below 256)
    keeps the setting and the bookkeeping, changes nothing but the observer manager, and for no
    event type whether `l` is listed, nor its specification -/
theorem register_other_independent_reachable {w w' : World} {l l' : Nat} (h : ObsOK w.obs)
    (hm : MInv w.obs) (hok : opObsRegister l' w = .ok () w') (hids : IdsOK (w.obs.obj l').spec)
    (hne : l ≠ l') :
    ObsOK w'.obs ∧ MInv w'.obs ∧ w' = { w with obs := w'.obs } ∧
    (∀ evt : Nat, l ∈ (w'.obs.evt evt).observers ↔ l ∈ (w.obs.evt evt).observers) ∧
    (w'.obs.obj l).spec = (w.obs.obj l).spec := by
  obtain ⟨a, b, c, d⟩ := register_other h hok hids (opObsRegister_fresh hm hok) hne
  exact ⟨a, opObsRegister_minv hm hok, b, c, d⟩

/-- … and under unregistration -/
theorem unregister_other_independent_reachable {w w' : World} {l l' : Nat} (h : ObsOK w.obs)
    (hm : MInv w.obs) (hok : opObsUnregister l' w = .ok () w') (hne : l ≠ l') :
    ObsOK w'.obs ∧ MInv w'.obs ∧ w' = { w with obs := w'.obs } ∧
    (∀ evt : Nat, l ∈ (w'.obs.evt evt).observers ↔ l ∈ (w.obs.evt evt).observers) ∧
    (w'.obs.obj l).spec = (w.obs.obj l).spec := by
  obtain ⟨a, b, c, d⟩ := unregister_other h hok (hm.indexOK l') hne
  exact ⟨a, opObsUnregister_minv hm h hok, b, c, d⟩

/-- `Register` of an observer object listed nowhere, with component IDs below 256, keeps `ObsOK` -/
theorem register_keeps_setting {w w' : World} {l : Nat} (h : ObsOK w.obs)
    (hok : opObsRegister l w = .ok () w') (hids : IdsOK (w.obs.obj l).spec)
    (hfresh : ∀ evt : Nat, l ∉ (w.obs.evt evt).observers) :
    ObsOK w'.obs ∧ w' = { w with obs := w'.obs } :=
  ⟨(opObsRegister_spec h hok hids hfresh).1, (opObsRegister_spec h hok hids hfresh).2.1⟩

/-- `Unregister` keeps `ObsOK` -/
theorem unregister_keeps_setting {w w' : World} {l : Nat} (h : ObsOK w.obs)
    (hok : opObsUnregister l w = .ok () w') : ObsOK w'.obs ∧ w' = { w with obs := w'.obs } :=
  ⟨(opObsUnregister_spec h hok).1, (opObsUnregister_spec h hok).2.1⟩

/-- the lock hypothesis holds in every lawful lock state of an unlocked world: the cycle around the
    removal callbacks goes through, and so does a second cycle inside it (a query run by a
    callback) -/
theorem lockCycle_of_invariant {w : World} {out flk : List Nat}
    (g : Lock.LInv ⟨w.locks, out⟩ flk) (hl : w.isLocked = false) :
    ∃ l1 b l2, LockCycle w.locks l1 b l2 ∧ l2.isLocked = false ∧
      (∃ fl2, Lock.LInv ⟨l2, []⟩ fl2) ∧
      ∃ l1' b' l2', LockCycle l1 l1' b' l2' ∧ l2'.locks = l1.locks := by
  have hout := g.unlocked_iff.mp hl
  subst hout
  obtain ⟨l1, b, l2, fl1, hl1, hu1, g1, g2, _⟩ := g.cycle (Nat.zero_lt_succ _)
  obtain ⟨l1', b', l2', _, hl2, hu2, _, _, hlk'⟩ := g1.cycle (by simp)
  exact ⟨l1, b, l2, ⟨hl1, hu1⟩, g2.unlocked_iff.mpr rfl, ⟨_, g2⟩, l1', b', l2', ⟨hl2, hu2⟩, hlk'⟩

/-! ### 4. non-vacuity: a concrete world with observers -/

section Demo

/-- the runner of the history machine (no observers there: never consulted) -/
def quiet : ProbeRunner := fun _ _ _ => pure ()

/-- two component types; `⟨2,0⟩ : [0]` and `⟨3,0⟩ : [0,1]` -/
def hist : List Op :=
  [.reg 8 false, .reg 8 false, .new .typed [0] [(0, 10)], .new .typed [0, 1] [(0, 20), (1, 21)]]

def s0 : St := reach quiet 4 4 hist

/-- the `Observer` values the client built (label ↦ specification; the scripts are `look` probes):
    1 `OnAddComponents.For(1)`, 2 `OnAddComponents.With(0)` (wildcard), 3
    `OnAddComponents.For(1).Without(0)`, 4 `OnRemoveEntity.For(0)`, 5 `OnRemoveComponents.For(0)`,
    6 `OnRemoveEntity.For(0).Exclusive()`, 7 `OnCreateEntity`, 8 a custom event (type 7) `For(1)` -/
def objs : AL ObsObj :=
  [ (1, { spec := { event := Ev.onAddComponents, comps := [1], script := [.look] } }),
    (2, { spec := { event := Ev.onAddComponents, with_ := [0], script := [.look] } }),
    (3, { spec := { event := Ev.onAddComponents, comps := [1], without := [0], script := [.look] } }),
    (4, { spec := { event := Ev.onRemoveEntity, comps := [0], script := [.look] } }),
    (5, { spec := { event := Ev.onRemoveComponents, comps := [0], script := [.look] } }),
    (6, { spec := { event := Ev.onRemoveEntity, exclusive := true, comps := [0], script := [.look] } }),
    (7, { spec := { event := Ev.onCreateEntity, script := [.look] } }),
    (8, { spec := { event := 7, comps := [1], script := [.look] } }) ]

/-- the world of the history with the observer objects on the heap, none registered -/
def w00 : World := { s0.w with obs := { objs := objs } }

/-- … and with all of them registered, in the order of their labels -/
def wObs : World := regAll [1, 2, 3, 4, 5, 6, 7, 8] w00

/-- the handles of the two entities -/
def e2 : Ent := ⟨2, 0⟩
def e3 : Ent := ⟨3, 0⟩

theorem demo_free_list {fl : List Nat} (H : HInv s0 fl) : fl = [] := by
  have h := H.cinv.pool.ch
  have h0 : Pool.chain s0.w.pool.ents s0.w.pool.next s0.w.pool.available = some [] := by
    decide +kernel
  rw [h0] at h
  exact (Option.some.inj h).symm

/-- **the hypotheses of all theorems above are satisfiable**: the demo world is in the setting
    (with the runner of the harness), both entities are live handles, the world is unlocked and
    its lock is in the initial state (whose cycle is `lockCycle_default`, with a second cycle
    nested inside). -/
theorem demo_setting :
    Setting World.probe (· = Probe.look) lookRec wObs [] ∧ LogBlind lookRec ∧
    Live wObs [] e2 ∧ Live wObs [] e3 ∧ wObs.isLocked = false ∧
    LockCycle wObs.locks lockDuringQuery 0 lockAfterQuery ∧
    wObs.tables.length < maxU32 ∧ (∀ t : Nat, (wObs.tbl t).len + 1 < 2 ^ 32) := by
  obtain ⟨fl, H⟩ := reach_hinv quiet 4 4 hist (by decide)
  have hfl := demo_free_list H
  subst hfl
  have ok : RegAllOK [1, 2, 3, 4, 5, 6, 7, 8] w00 ∧ wObs.locks = {} ∧
      (∀ q ∈ wObs.obs.objs, ∀ p ∈ q.2.spec.script, p = Probe.look) ∧
      (wObs.alive e2 = true ∧ e2.id < wObs.pool.ents.length) ∧
      (wObs.alive e3 = true ∧ e3.id < wObs.pool.ents.length) ∧ wObs.isLocked = false ∧
      wObs.tables.length = 3 ∧ ∀ t < 3, (wObs.tbl t).len + 1 < 2 ^ 32 := by
    decide +kernel
  obtain ⟨hreg, hlocks, hscr, h2, h3, hl, hlen, hrows⟩ := ok
  obtain ⟨hok, hw⟩ := regAll_spec [1, 2, 3, 4, 5, 6, 7, 8] w00 (obsOK_of_no_events rfl) hreg
  have hw' : wObs = { w00 with obs := wObs.obs } := hw
  -- in two steps, so that no unification has to evaluate `s0`
  have H1 : CInvObs w00 [] := H.cinv.toObs.reframe _ _ _
  have H2 : CInvObs wObs [] := by rw [hw']; exact H1.reframe _ _ _
  refine ⟨⟨probe_readOnly, lookRec_noCb, scriptsIn_of_objs hscr, hok, H2⟩, lookRec_logBlind,
    ⟨by decide, by simp, h2.1, h2.2⟩, ⟨by decide, by simp, h3.1, h3.2⟩, hl, ?_, ?_, fun t => ?_⟩
  · rw [hlocks]; exact lockCycle_default
  · rw [hlen]; decide
  · by_cases ht : t < 3
    · exact hrows t ht
    · have : wObs.tbl t = default := by
        simp only [tbl, List.getD_eq_getElem?_getD]
        rw [List.getElem?_eq_none (by omega)]
        rfl
      rw [this]; decide

/-- the demo world also satisfies the bookkeeping invariant -/
theorem demo_bookkeeping : MInv wObs.obs := by
  have hreg : RegAllOK [1, 2, 3, 4, 5, 6, 7, 8] w00 := by decide +kernel
  refine regAll_minv _ w00 (minv_of_unregistered ?_ rfl rfl) hreg
  decide +kernel

/-- the registration lists of the demo world -/
example : (wObs.obs.evt Ev.onAddComponents).observers = [1, 2, 3] ∧
    (wObs.obs.evt Ev.onRemoveEntity).observers = [4, 6] ∧
    (wObs.obs.evt Ev.onRemoveComponents).observers = [5] ∧
    (wObs.obs.evt Ev.onCreateEntity).observers = [7] ∧ (wObs.obs.evt 7).observers = [8] := by
  decide +kernel

/-- the documented callback sets: adding component 1 to `⟨2,0⟩ : [0]` notifies `For(1)` and the
    wildcard `With(0)`, not `For(1).Without(0)`; removing `⟨2,0⟩ : [0]` notifies `For(0)` and
    `For(0).Exclusive()`, removing `⟨3,0⟩ : [0,1]` only `For(0)`; removing component 0 notifies
    `OnRemoveComponents.For(0)`, removing component 1 does not -/
example :
    firing wObs.obs Ev.onAddComponents (.add (Mask.ofList [0]) (Mask.ofList [0, 1])) = [1, 2] ∧
    firing wObs.obs Ev.onRemoveEntity (.entity (Mask.ofList [0])) = [4, 6] ∧
    firing wObs.obs Ev.onRemoveEntity (.entity (Mask.ofList [0, 1])) = [4] ∧
    firing wObs.obs Ev.onRemoveComponents (.remove (Mask.ofList [0, 1]) (Mask.ofList [1])) = [5] ∧
    firing wObs.obs Ev.onRemoveComponents (.remove (Mask.ofList [0, 1]) (Mask.ofList [0])) = [] ∧
    firing wObs.obs 7 (.set (Mask.ofList [1]) (Mask.ofList [0, 1])) = [8] ∧
    wObs.maskOf e2 = Mask.ofList [0] ∧ wObs.maskOf e3 = Mask.ofList [0, 1] := by
  decide +kernel

/-- the `cb` records of a run of the model with the runner of the harness (`none` = panic) -/
def cbsAfter {α : Type} (r : Res World α) : Option (List (Nat × Ent)) :=
  match r with
  | .ok _ w' => some (cbsOf w'.log)
  | .panic _ _ => none

/-- … and that is what the model does (the log is newest-first): -/
example :
    cbsAfter (opAdd World.probe .typed e2 [1] [(1, 5)] [] wObs) = some [(2, e2), (1, e2)] ∧
    cbsAfter (opAdd World.probe .unsafe_ e2 [1] [(1, 5)] [] wObs) = some [(2, e2), (1, e2)] ∧
    cbsAfter (opRemoveEntity World.probe e2 wObs) = some [(6, e2), (4, e2)] ∧
    cbsAfter (opRemoveEntity World.probe e3 wObs) = some [(4, e3)] ∧
    cbsAfter (opRemove World.probe .typed e3 [0] wObs) = some [(5, e3)] ∧
    cbsAfter (opRemove World.probe .typed e3 [1] wObs) = some ([] : List (Nat × Ent)) := by
  decide +kernel

example :
    cbsAfter (opExchange World.probe .unsafe_ e3 [] [] [0] [] wObs) = some [(5, e3)] ∧
    cbsAfter (opExchange World.probe .unsafe_ e3 [] [] [1] [] wObs) = some ([] : List (Nat × Ent)) ∧
    cbsAfter (opNewEntity World.probe .typed [1] [(1, 9)] [] wObs) = some [(7, ⟨4, 0⟩)] ∧
    cbsAfter (opNewEntity0 World.probe wObs) = some [(7, ⟨4, 0⟩)] ∧
    cbsAfter (opCopyEntity World.probe e3 wObs) = some [(7, ⟨4, 0⟩)] ∧
    cbsAfter (opEmit World.probe 7 [1] e3 wObs) = some [(8, e3)] ∧
    cbsAfter (opEmit World.probe 7 [0] e3 wObs) = some ([] : List (Nat × Ent)) := by
  decide +kernel

/-- unregistering observer 1 (`For(1)`) in the demo world: observer 2 is notified as before, now
    alone (the swap-remove moves observer 3 into the hole: the lists are unordered sets) -/
example :
    (match opObsUnregister 1 wObs with
     | .ok _ w' => ((w'.obs.evt Ev.onAddComponents).observers,
        cbsAfter (opAdd World.probe .typed e2 [1] [(1, 5)] [] w'))
     | .panic _ _ => ([], none)) = ([3, 2], some [(2, e2)]) := by
  decide +kernel

/-- the theorem applied: `Add` of component 1 to `⟨2,0⟩` on the demo world -/
example : ∃ w0 w' : World,
    opAdd quiet .typed e2 [1] [(1, 5)] [] wObs.noObs = .ok () w0 ∧
    OpAddPost wObs.noObs [] e2 [1] [(1, 5)] w0 ∧
    opAdd World.probe .typed e2 [1] [(1, 5)] [] wObs = .ok () w' ∧ FrameOf w0 wObs w' ∧
    w'.locks = w0.locks ∧
    cbsOf w'.log = [(2, e2), (1, e2)] := by
  obtain ⟨st, _, he2, _, hl, _, hfew, hrows⟩ := demo_setting
  obtain ⟨w0, w', h1, h2, h3, h4, h5, h6⟩ := add_callbacks st quiet .typed hl he2
    (add := [1]) (by simp) (by simp) (by decide +kernel) (by decide +kernel) [(1, 5)] hfew hrows
  refine ⟨w0, w', h1, h2, h3, h4, h5, ?_⟩
  rw [h6]
  decide +kernel

/-- **the lock hypothesis is necessary**: with all 64 lock bits outstanding (not a lawful state of
    an unlocked world: the 64-bit mask is zero but the bit pool is exhausted) `Remove` with a
    registered `OnRemoveComponents` observer panics "out of locks" -/
def lockExhausted : Lock := { pool := { length := 64 }, locks := 0#64 }

theorem lock_hypothesis_necessary :
    (wObs.withLocks lockExhausted).isLocked = false ∧ lockExhausted.lock = none ∧
    (match opRemove World.probe .typed e3 [0] (wObs.withLocks lockExhausted) with
     | .panic k _ => k == .outOfLocks
     | .ok _ _ => false) = true := by
  decide +kernel

/-- **read-only scripts are necessary** for "the rest of the world is what the observer-free
    operation produces": an `OnAddComponents` callback that creates (and removes) an entity — the
    `tryNew` probe; possible since addition callbacks run unlocked — leaves a different entity pool
    than the observer-free `Add` -/
def objsBad : AL ObsObj :=
  [ (1, { spec := { event := Ev.onAddComponents, comps := [1], script := [.tryNew] } }) ]

def wBad : World := regAll [1] { s0.w with obs := { objs := objsBad } }

theorem readOnly_necessary :
    (match opAdd World.probe .typed e2 [1] [(1, 5)] [] wBad,
           opAdd quiet .typed e2 [1] [(1, 5)] [] wBad.noObs with
     | .ok _ w', .ok _ w0 => decide (w'.pool = w0.pool)
     | _, _ => true) = false := by
  decide +kernel

end Demo

end Ark.Props.C08World
