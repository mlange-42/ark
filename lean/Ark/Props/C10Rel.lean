/-
  Ark.Props.C10Rel — C10 ("precondition violations are rejected, not absorbed") for the RELATION
  ARGUMENTS of the single-entity operations, on EVERY access path.

  The Go library's `Unsafe.NewEntityRel / AddRel / Exchange / SetRelations` used to convert their
  `Relation` arguments unchecked (`ToRelationIDsForUnsafe`).  A relation for a component that is not
  added, not a relation component, or with a removed entity as target was then either caught late
  inside `createTable` — index out of range [-1] AFTER the archetype had been created: an archetype
  without tables, later queries crash and leak their lock (note N3 of the design document) — or,
  when the new archetype had no relation component, silently ignored (`GetTable` returns the only
  table; a removed entity named as target was accepted and flagged as relation target).
  The library was repaired (`ToCheckedRelationIDsForUnsafe`: target, relation component, membership
  among the added components); the model follows (`World.preCheck`, `Path.addCheck`,
  `Path.setRelCheck`), and this file states the consequence.

  For ANY world `w` (no invariant is assumed; locked or not; with or without observers — the
  validation comes before the lock check and before anything is looked up or created), any access
  path `p` (`.unsafe_` = `Unsafe`, `.map1` = `Map[T]`, `.typed` = `MapN` / `ExchangeN`):

  `relsVerdict` is the verdict on the relation list: the first relation, in list order, that names
  a removed entity as target → `deadTarget`, else a non-relation component → `notRelation`, else —
  not through `Map[T]` — a component that is not among the added / the mapper's components →
  `relNotInMask`.

  Not changed by that repair: a relation component of the NEW archetype for which no relation is
  given, and a relation component named twice, are noticed by `GetTable` / `createTable` only —
  after the archetype was created when it did not exist (`Ark/Props/C04Hist.lean`, § 7 (b), (f));
  `Unsafe.AddRel(e, [], rels)` skips the membership check and is refused with `noComponents` by
  `World.add` (without effect).

  § 4, defect D26 (a SECOND repair of the library, `archetype.getTableSlowPath`): a relation list
  naming one relation component twice was ACCEPTED, on every path, whenever a matching table
  existed — the duplicate satisfied the count check `len(relations) < numRelations`,
  `MatchesExact` matched both entries against the same column, and the new entity got a target
  for another relation component that nobody had specified.  The repaired slow path panics
  "relation component %d specified more than once" (`relTwice`, the class `createTable` uses since
  D18) right after the count check: `newEntity_relTwice`, `add_relTwice` (the archetype exists,
  has relation columns and an active table: `relTwice`, the world unchanged),
  `lookup_accepted_names_no_component_twice`.  What remains
  late: without an active table `GetTable` answers "no table" before any check and `createTable`
  refuses the list after the archetype was created.
-/
import Ark.Proofs.RelRejects
import Ark.Proofs.RelTwice
import Ark.Proofs.Eval

set_option autoImplicit false

namespace Ark.Props.C10Rel
open Ark Ark.World

/-- the classes of the pre-validation of relation arguments -/
def RelClass (k : PanicKind) : Prop := k = .deadTarget ∨ k = .notRelation ∨ k = .relNotInMask

/-! ## 1. the exact outcome of a refused relation list -/

/-- **the pre-validation of every path is a pure verdict**: it never changes the world, and it
    refuses with the class of the first failing relation -/
theorem preCheck_is_verdict (p : Path) (ids : List Comp) (rels : List RelID) (w : World) :
    preCheck p ids rels w =
      match relsVerdict w (checkMask p ids) rels with
      | none => .ok () w
      | some k => .panic k w :=
  preCheck_eq p ids rels w

/-- a relation passes iff its target is the zero entity or alive, its component is a relation
    component and — if the path checks membership — among the required components -/
theorem relation_passes_iff {w : World} {m : Option Mask} {r : RelID} :
    relVerdict w m r = none ↔
      (r.target.isZero = true ∨ w.alive r.target = true) ∧ w.isRelComp r.comp = true ∧
      ∀ (mm : Mask), m = some mm → mm.get r.comp = true :=
  relVerdict_none_iff

theorem newEntity_refused : type_of% @opNewEntity_refused := @opNewEntity_refused
theorem add_refused : type_of% @opAdd_refused := @opAdd_refused
theorem exchange_refused : type_of% @opExchange_refused := @opExchange_refused
theorem setRelations_refused : type_of% @opSetRelations_refused := @opSetRelations_refused

/-! ## 2. a removed entity as relation target; a relation for a component that is not added -/

/-- **`NewEntity` naming a removed entity as relation target** (any path, any world): panic, the
    world unchanged; the class is `deadTarget` or that of an earlier relation of the list -/
theorem newEntity_removed_target (run : ProbeRunner) (p : Path) (ids : List Comp)
    (vals : List (Comp × Val)) (rels : List RelID) (w : World)
    (hd : ∃ (r : RelID), r ∈ rels ∧ Removed w r.target) :
    ∃ (k : PanicKind), RelClass k ∧ opNewEntity run p ids vals rels w = .panic k w := by
  obtain ⟨k, hk, hc⟩ := relsVerdict_removed w (checkMask p ids) hd
  exact ⟨k, hc, opNewEntity_refused run p ids vals rels w hk⟩

/-- … exactly `deadTarget` when the relations before it pass -/
theorem newEntity_removed_target_exact (run : ProbeRunner) (p : Path) (ids : List Comp)
    (vals : List (Comp × Val)) (pre : List RelID) (r : RelID) (post : List RelID) (w : World)
    (hpre : ∀ (x : RelID), x ∈ pre → relVerdict w (checkMask p ids) x = none)
    (hd : Removed w r.target) :
    opNewEntity run p ids vals (pre ++ r :: post) w = .panic .deadTarget w :=
  opNewEntity_refused run p ids vals _ w (relsVerdict_removed_first w _ pre r post hpre hd)

/-- every path but `Map1` checks the relations against the mask of the components named -/
theorem checkMask_of_ne_map1 {p : Path} (hp : p ≠ .map1) (ids : List Comp) :
    checkMask p ids = some (Mask.ofList ids) := by
  cases p <;> first | rfl | exact absurd rfl hp

/-- **`NewEntity` naming a relation for a component that is not added** (`Unsafe`, `MapN`; also
    when no component is added at all), with a fine target, after relations that pass:
    `relNotInMask`, the world unchanged -/
theorem newEntity_not_added (run : ProbeRunner) (p : Path) (hp : p ≠ .map1) (ids : List Comp)
    (vals : List (Comp × Val)) (pre : List RelID) (r : RelID) (post : List RelID) (w : World)
    (hpre : ∀ (x : RelID), x ∈ pre → relVerdict w (checkMask p ids) x = none)
    (ht : r.target.isZero = true ∨ w.alive r.target = true) (hc : w.isRelComp r.comp = true)
    (hm : r.comp ∉ ids) :
    opNewEntity run p ids vals (pre ++ r :: post) w = .panic .relNotInMask w := by
  apply opNewEntity_refused
  rw [checkMask_of_ne_map1 hp] at hpre ⊢
  exact relsVerdict_first pre r post hpre (relVerdict_notIn_list ht hc hm)

/-- **`Add` naming a removed entity as relation target** (any path, any world, any entity): panic,
    the world unchanged; the class is `deadTarget` or that of an earlier check — `deadEntity`
    (`Unsafe.AddRel` and `Map.AddRel` check `Alive(e)` first) or an earlier relation of the list -/
theorem add_removed_target (run : ProbeRunner) (p : Path) (e : Ent) (ids : List Comp)
    (vals : List (Comp × Val)) (rels : List RelID) (w : World)
    (hd : ∃ (r : RelID), r ∈ rels ∧ Removed w r.target) :
    ∃ (k : PanicKind), (k = .deadEntity ∨ RelClass k) ∧
      opAdd run p e ids vals rels w = .panic k w := by
  obtain ⟨k, hk, hc⟩ := relsVerdict_removed w (checkMask (p.addCheck ids) ids) hd
  by_cases ha : p = .typed ∨ w.alive e = true
  · exact ⟨k, Or.inr hc, opAdd_refused run p e ids vals rels w ha hk⟩
  · exact ⟨.deadEntity, Or.inl rfl, opAdd_dead_first run p (fun h => ha (Or.inl h)) e ids vals rels w
      (Bool.eq_false_iff.mpr fun h => ha (Or.inr h))⟩

/-- … exactly `deadTarget` when the entity passes the `Alive` pre-check of the path and the
    relations before the offending one pass -/
theorem add_removed_target_exact (run : ProbeRunner) (p : Path) (e : Ent) (ids : List Comp)
    (vals : List (Comp × Val)) (pre : List RelID) (r : RelID) (post : List RelID) (w : World)
    (ha : p = .typed ∨ w.alive e = true)
    (hpre : ∀ (x : RelID), x ∈ pre → relVerdict w (checkMask (p.addCheck ids) ids) x = none)
    (hd : Removed w r.target) :
    opAdd run p e ids vals (pre ++ r :: post) w = .panic .deadTarget w :=
  opAdd_refused run p e ids vals _ w ha (relsVerdict_removed_first w _ pre r post hpre hd)

/-- **`Add` naming a relation for a component that is not added** (`Unsafe` with at least one
    component, `MapN`), with a fine target, after relations that pass: `relNotInMask`, the world
    unchanged — also when the archetype `mask(e) ∪ ids` does not exist yet (the former "N3") -/
theorem add_not_added (run : ProbeRunner) (p : Path) (hp : p ≠ .map1) (e : Ent) (ids : List Comp)
    (hne : ids ≠ []) (vals : List (Comp × Val)) (pre : List RelID) (r : RelID) (post : List RelID)
    (w : World) (ha : p = .typed ∨ w.alive e = true)
    (hpre : ∀ (x : RelID), x ∈ pre → relVerdict w (some (Mask.ofList ids)) x = none)
    (ht : r.target.isZero = true ∨ w.alive r.target = true) (hc : w.isRelComp r.comp = true)
    (hm : r.comp ∉ ids) :
    opAdd run p e ids vals (pre ++ r :: post) w = .panic .relNotInMask w := by
  apply opAdd_refused run p e ids vals _ w ha
  rw [Path.addCheck_of_ne_nil p hne, checkMask_of_ne_map1 hp]
  exact relsVerdict_first pre r post hpre (relVerdict_notIn_list ht hc hm)

/-- **`Exchange` naming a removed entity as relation target** (any path, any world, any entity):
    panic, the world unchanged; `deadTarget`, or `deadEntity` (`Unsafe.Exchange` checks `Alive(e)`
    first), or the class of an earlier relation of the list -/
theorem exchange_removed_target (run : ProbeRunner) (p : Path) (e : Ent) (add : List Comp)
    (vals : List (Comp × Val)) (rem : List Comp) (rels : List RelID) (w : World)
    (hd : ∃ (r : RelID), r ∈ rels ∧ Removed w r.target) :
    ∃ (k : PanicKind), (k = .deadEntity ∨ RelClass k) ∧
      opExchange run p e add vals rem rels w = .panic k w := by
  obtain ⟨k, hk, hc⟩ := relsVerdict_removed w (checkMask p add) hd
  by_cases ha : p ≠ .unsafe_ ∨ w.alive e = true
  · exact ⟨k, Or.inr hc, opExchange_refused run p e add vals rem rels w ha hk⟩
  · have hp : p = .unsafe_ := by
      cases p <;> first | rfl | exact absurd (Or.inl (by decide)) ha
    subst hp
    exact ⟨.deadEntity, Or.inl rfl, opExchange_dead_first run e add vals rem rels w
      (Bool.eq_false_iff.mpr fun h => ha (Or.inr h))⟩

theorem exchange_removed_target_exact (run : ProbeRunner) (p : Path) (e : Ent) (add : List Comp)
    (vals : List (Comp × Val)) (rem : List Comp) (pre : List RelID) (r : RelID) (post : List RelID)
    (w : World) (ha : p ≠ .unsafe_ ∨ w.alive e = true)
    (hpre : ∀ (x : RelID), x ∈ pre → relVerdict w (checkMask p add) x = none)
    (hd : Removed w r.target) :
    opExchange run p e add vals rem (pre ++ r :: post) w = .panic .deadTarget w :=
  opExchange_refused run p e add vals rem _ w ha (relsVerdict_removed_first w _ pre r post hpre hd)

/-- **`Exchange` naming a relation for a component that is not added** (`Unsafe`, `ExchangeN`;
    in particular ANY relation of a pure removal), with a fine target, after relations that pass:
    `relNotInMask`, the world unchanged -/
theorem exchange_not_added (run : ProbeRunner) (p : Path) (hp : p ≠ .map1) (e : Ent)
    (add : List Comp) (vals : List (Comp × Val)) (rem : List Comp) (pre : List RelID) (r : RelID)
    (post : List RelID) (w : World) (ha : p ≠ .unsafe_ ∨ w.alive e = true)
    (hpre : ∀ (x : RelID), x ∈ pre → relVerdict w (some (Mask.ofList add)) x = none)
    (ht : r.target.isZero = true ∨ w.alive r.target = true) (hc : w.isRelComp r.comp = true)
    (hm : r.comp ∉ add) :
    opExchange run p e add vals rem (pre ++ r :: post) w = .panic .relNotInMask w := by
  apply opExchange_refused run p e add vals rem _ w ha
  rw [checkMask_of_ne_map1 hp]
  exact relsVerdict_first pre r post hpre (relVerdict_notIn_list ht hc hm)

/-- **`SetRelations` naming a removed entity as relation target** (any path, any world, any
    entity — dead or alive: the relations are validated first): panic, the world unchanged;
    `deadTarget` or the class of an earlier relation of the list -/
theorem setRelations_removed_target (run : ProbeRunner) (p : Path) (e : Ent)
    (mapperIds : List Comp) (rels : List RelID) (w : World)
    (hd : ∃ (r : RelID), r ∈ rels ∧ Removed w r.target) :
    ∃ (k : PanicKind), RelClass k ∧ opSetRelations run p e mapperIds rels w = .panic k w := by
  obtain ⟨k, hk, hc⟩ := relsVerdict_removed w (checkMask p.setRelCheck mapperIds) hd
  exact ⟨k, hc, opSetRelations_refused run p e mapperIds rels w hk⟩

theorem setRelations_removed_target_exact (run : ProbeRunner) (p : Path) (e : Ent)
    (mapperIds : List Comp) (pre : List RelID) (r : RelID) (post : List RelID) (w : World)
    (hpre : ∀ (x : RelID), x ∈ pre → relVerdict w (checkMask p.setRelCheck mapperIds) x = none)
    (hd : Removed w r.target) :
    opSetRelations run p e mapperIds (pre ++ r :: post) w = .panic .deadTarget w :=
  opSetRelations_refused run p e mapperIds _ w
    (relsVerdict_removed_first w _ pre r post hpre hd)

/-- through `Unsafe` and `Map[T]`, `SetRelations` checks target and relation component only: a
    relation passes iff its target is zero or alive and its component is a relation component -/
theorem setRelations_unsafe_passes_iff (w : World) (mapperIds : List Comp) (r : RelID) :
    relVerdict w (checkMask Path.unsafe_.setRelCheck mapperIds) r = none ↔
      (r.target.isZero = true ∨ w.alive r.target = true) ∧ w.isRelComp r.comp = true := by
  show relVerdict w none r = none ↔ _
  rw [relVerdict_none_iff]
  exact ⟨fun h => ⟨h.1, h.2.1⟩, fun h => ⟨h.1, h.2, fun _ hh => by cases hh⟩⟩

/-- **`SetRelations` through `MapN` naming a relation for a component that is not the
    mapper's**: `relNotInMask`, the world unchanged -/
theorem setRelations_not_in_mapper (run : ProbeRunner) (e : Ent) (mapperIds : List Comp)
    (pre : List RelID) (r : RelID) (post : List RelID) (w : World)
    (hpre : ∀ (x : RelID), x ∈ pre → relVerdict w (some (Mask.ofList mapperIds)) x = none)
    (ht : r.target.isZero = true ∨ w.alive r.target = true) (hc : w.isRelComp r.comp = true)
    (hm : r.comp ∉ mapperIds) :
    opSetRelations run .typed e mapperIds (pre ++ r :: post) w = .panic .relNotInMask w :=
  opSetRelations_refused run .typed e mapperIds _ w
    (relsVerdict_first pre r post hpre (relVerdict_notIn_list ht hc hm))

/-! ## 3. the former "N3" calls, on a concrete world

Component 0 = `ChildOf` (a relation component), 1 = `Pos`, 2 = `Vel`.  Entities `x = 2.0` (alive, no
components), `e = 3.0` (alive, no components), `g = 4.0` (REMOVED), `h = 5.0` (alive, `Pos`).  The
archetypes that exist: `{}` and `{Pos}`; `{Vel}` does not exist yet. -/

def noRun : ProbeRunner := fun _ _ _ => pure ()

def x : Ent := ⟨2, 0⟩
def e : Ent := ⟨3, 0⟩
def g : Ent := ⟨4, 0⟩
def h : Ent := ⟨5, 0⟩

def n3 : World :=
  let w := World.init 2 2
  let w := (registerComponent { isRel := true } w).state
  let w := (registerComponent {} w).state
  let w := (registerComponent {} w).state
  let w := (opNewEntity noRun .unsafe_ [] [] [] w).state      -- x
  let w := (opNewEntity noRun .unsafe_ [] [] [] w).state      -- e
  let w := (opNewEntity noRun .unsafe_ [] [] [] w).state      -- g
  let w := (opNewEntity noRun .unsafe_ [1] [(1, 7)] [] w).state -- h
  (opRemoveEntity noRun g w).state

/-- the panic class of a call, if it panicked -/
def panicOf {α : Type} : Res World α → Option PanicKind
  | .ok _ _ => none
  | .panic k _ => some k

/-- table id, archetype, rows, free?, per-column relation targets -/
def summary (w : World) : List (Nat × Nat × Nat × Bool × List Ent) :=
  w.tables.map fun T => (T.id, T.arch, T.len, T.isFree, T.targets)

/-- the world: `x`, `e`, `h` alive, `g` removed (non-zero, not alive); two archetypes -/
example :
    (n3.alive x, n3.alive e, n3.alive h, n3.alive g, g.isZero) = (true, true, true, false, false) ∧
    Removed n3 g ∧
    n3.archetypes.length = 2 ∧ n3.isLocked = false ∧
    (n3.isRelComp 0, n3.isRelComp 1, n3.isRelComp 2) = (true, false, false) := by
  decide +kernel

/-- **N3**: `Unsafe.AddRel(e, [Vel], RelID(ChildOf, x))` — a relation for a component that is
    neither added nor present, a fine target, into the not-yet-existing archetype `{Vel}`.
    Before the repair: index out of range [-1] inside `createTable` AFTER the archetype had been
    created.  Now: `relNotInMask`, and the call returns exactly the world it was called on -/
example : opAdd noRun .unsafe_ e [2] [] [⟨0, x⟩] n3 = .panic .relNotInMask n3 :=
  add_not_added noRun .unsafe_ (by decide) e [2] (by decide) [] [] ⟨0, x⟩ [] n3
    (by decide +kernel) (fun _ hx => by cases hx) (by decide +kernel) (by decide +kernel)
    (by decide)

/-- … observed: the class, and no archetype, no table was added -/
example :
    panicOf (opAdd noRun .unsafe_ e [2] [] [⟨0, x⟩] n3) = some .relNotInMask ∧
    (opAdd noRun .unsafe_ e [2] [] [⟨0, x⟩] n3).state.archetypes.length = 2 ∧
    summary (opAdd noRun .unsafe_ e [2] [] [⟨0, x⟩] n3).state = summary n3 := by
  decide +kernel

/-- **N3, first relative**: `Unsafe.NewEntityRel([], RelID(ChildOf, g))` with `g` removed — the
    archetype `{}` exists and has no relation component.  Before the repair the call was accepted
    silently (`GetTable` returns the only table; `registerTargets` flagged the removed ID as a
    relation target).  Now: `deadTarget`, the world unchanged -/
example : opNewEntity noRun .unsafe_ [] [] [⟨0, g⟩] n3 = .panic .deadTarget n3 :=
  newEntity_removed_target_exact noRun .unsafe_ [] [] [] ⟨0, g⟩ [] n3
    (fun _ hx => by cases hx) (by decide +kernel)

/-- … with an alive target instead, the same call is refused because nothing is added that the
    relation could belong to: `relNotInMask` -/
example : opNewEntity noRun .unsafe_ [] [] [⟨0, x⟩] n3 = .panic .relNotInMask n3 :=
  newEntity_not_added noRun .unsafe_ (by decide) [] [] [] ⟨0, x⟩ [] n3
    (fun _ hx => by cases hx) (by decide +kernel) (by decide +kernel) (by decide)

/-- **N3, second relative**: `Unsafe.AddRel(e, [Pos], RelID(ChildOf, g))` into the EXISTING
    archetype `{Pos}` (no relation component), `g` removed: was accepted silently; now
    `deadTarget`, the world unchanged.  The same through `Unsafe.Exchange` and — where the entity
    has the relation component — … see `Props/C04Hist.lean` § 7 for `SetRelations` -/
example :
    opAdd noRun .unsafe_ e [1] [] [⟨0, g⟩] n3 = .panic .deadTarget n3 ∧
    opExchange noRun .unsafe_ e [1] [] [] [⟨0, g⟩] n3 = .panic .deadTarget n3 ∧
    opSetRelations noRun .unsafe_ e [] [⟨0, g⟩] n3 = .panic .deadTarget n3 :=
  ⟨add_removed_target_exact noRun .unsafe_ e [1] [] [] ⟨0, g⟩ [] n3 (by decide +kernel)
      (fun _ hx => by cases hx) (by decide +kernel),
   exchange_removed_target_exact noRun .unsafe_ e [1] [] [] [] ⟨0, g⟩ [] n3 (by decide +kernel)
      (fun _ hx => by cases hx) (by decide +kernel),
   setRelations_removed_target_exact noRun .unsafe_ e [] [] ⟨0, g⟩ [] n3
      (fun _ hx => by cases hx) (by decide +kernel)⟩

/-- the order of the checks, observed: on a removed ENTITY `Unsafe.AddRel` / `Unsafe.Exchange`
    say `deadEntity` before they look at the relations, `MapN.Add` looks at the relations first;
    `Unsafe.AddRel` with no components skips the membership check and is refused with
    `noComponents`; a pure removal through `Unsafe.Exchange` admits no relation; `SetRelations`
    through `Unsafe` has no membership check (here: the entity lacks the relation component) -/
example :
    [panicOf (opAdd noRun .unsafe_ g [1] [] [⟨0, g⟩] n3),
     panicOf (opExchange noRun .unsafe_ g [1] [] [] [⟨0, g⟩] n3),
     panicOf (opAdd noRun .typed g [1] [] [⟨0, g⟩] n3),
     panicOf (opAdd noRun .unsafe_ e [] [] [⟨0, x⟩] n3),
     panicOf (opExchange noRun .unsafe_ h [] [] [1] [⟨0, x⟩] n3),
     panicOf (opSetRelations noRun .unsafe_ e [] [⟨0, x⟩] n3),
     panicOf (opSetRelations noRun .unsafe_ e [] [⟨1, x⟩] n3)] =
    [some .deadEntity, some .deadEntity, some .deadTarget, some .noComponents,
     some .relNotInMask, some .noRelComponent, some .notRelation] := by
  decide +kernel

/-- a valid call is not affected: `Unsafe.AddRel(e, [ChildOf, Pos], RelID(ChildOf, x))` is
    accepted and `e` becomes a child of `x` -/
example :
    panicOf (opAdd noRun .unsafe_ e [0, 1] [(1, 9)] [⟨0, x⟩] n3) = none ∧
    ((opAdd noRun .unsafe_ e [0, 1] [(1, 9)] [⟨0, x⟩] n3).state.tbl
      ((opAdd noRun .unsafe_ e [0, 1] [(1, 9)] [⟨0, x⟩] n3).state.index e.id).1).targets =
      [x, Ent.zero] := by
  decide +kernel

/-! ## 4. defect D26, repaired: a relation component named twice when a matching table exists -/

/-- **`NewEntity` naming one relation component twice** (any path; the relations pass the
    pre-validation; the archetype of `ids` exists, has relation columns and an active table; the
    list is long enough for the count check): `relTwice`, the world unchanged -/
theorem newEntity_relTwice : type_of% @opNewEntity_relTwice := @opNewEntity_relTwice

/-- the same for `Add` on an alive entity (archetype `mask(e) ∪ ids`) -/
theorem add_relTwice : type_of% @opAdd_relTwice := @opAdd_relTwice

/-- at the level of the archetype: `GetTable` on an archetype with relation columns and an active
    table refuses a long-enough relation list naming a relation component twice -/
theorem getTable_relTwice : type_of% @getTable_rel_twice := @getTable_rel_twice

/-- **accepted ⇒ no relation component named twice**: the table lookup of `NewEntity` / `Add`
    into an archetype with relation columns succeeds only for a duplicate-free relation list —
    whether the table existed (`GetTable`, D26) or had to be created (`createTable`, D18) -/
theorem lookup_accepted_names_no_component_twice :
    type_of% @findOrCreateTableAdd_ok_nodup := @findOrCreateTableAdd_ok_nodup

/-- components 0 = `A`, 1 = `B` (both relation components); `x = 2.0`, `e = 3.0` (no components);
    `4.0` has `A → x`, `B → e` (table 1 of archetype 1 = `{A, B}`) -/
def d26 : World :=
  let w := World.init 2 2
  let w := (registerComponent { isRel := true } w).state
  let w := (registerComponent { isRel := true } w).state
  let w := (opNewEntity noRun .unsafe_ [] [] [] w).state      -- x = 2.0
  let w := (opNewEntity noRun .unsafe_ [] [] [] w).state      -- e = 3.0
  (opNewEntity noRun .typed [0, 1] [] [⟨0, x⟩, ⟨1, e⟩] w).state

example :
    summary d26 = [(0, 0, 2, false, []), (1, 1, 1, false, [x, e])] ∧
    d26.findArch ([0, 1].foldl Mask.set Mask.empty) = some 1 ∧
    ((d26.arch 1).hasRelations, (d26.arch 1).numRel, (d26.arch 1).tables.tables) = (true, 2, [1]) := by
  decide +kernel

/-- what the unrepaired slow path did with `NewEntity([A, B], A → x, A → x)`: the count check
    passes (2 relations for 2 relation components) and the scan of the tables listed under `A → x`
    finds table 1 (`A → x`, `B → e`) — `MatchesExact` compares both entries with column `A` —,
    so the entity was created there with `B → e` although nobody named a target for `B` -/
example :
    ((d26.tbl 1).matchesExact [⟨0, x⟩, ⟨0, x⟩] == .yes) = true ∧
    ¬ ((d26.arch 1).numRel > ([⟨0, x⟩, ⟨0, x⟩] : List RelID).length) ∧
    namedTwice [] [⟨0, x⟩, ⟨0, x⟩] = true := by
  decide +kernel

/-- **D26, repaired**: the call panics `relTwice` and returns exactly the world it was called on,
    through `MapN` (typed) and through `Unsafe` (the ID-based API) -/
example :
    opNewEntity noRun .typed [0, 1] [] [⟨0, x⟩, ⟨0, x⟩] d26 = .panic .relTwice d26 ∧
    opNewEntity noRun .unsafe_ [0, 1] [] [⟨0, x⟩, ⟨0, x⟩] d26 = .panic .relTwice d26 := by
  have ok : relsVerdict d26 (checkMask .typed [0, 1]) [⟨0, x⟩, ⟨0, x⟩] = none ∧
      relsVerdict d26 (checkMask .unsafe_ [0, 1]) [⟨0, x⟩, ⟨0, x⟩] = none ∧
      d26.isLocked = false ∧ d26.findArch ([0, 1].foldl Mask.set Mask.empty) = some 1 ∧
      (d26.arch 1).hasRelations = true ∧ (d26.arch 1).tables.tables.isEmpty = false ∧
      (d26.arch 1).numRel ≤ (relsForAdd (d26.tbl 0) [⟨0, x⟩, ⟨0, x⟩]).length ∧
      ¬ ((relsForAdd (d26.tbl 0) [⟨0, x⟩, ⟨0, x⟩]).map (·.comp)).Nodup := by
    decide +kernel
  obtain ⟨ht, hu, hl, hf, hr, hne, hlen, hd⟩ := ok
  exact ⟨newEntity_relTwice noRun .typed _ [] _ d26 ht hl (by decide) hf hr hne hlen hd,
    newEntity_relTwice noRun .unsafe_ _ [] _ d26 hu hl (by decide) hf hr hne hlen hd⟩

/-- … observed: class, no entity, no table, no archetype; the well-formed call is accepted and
    the new entity gets the targets named -/
example :
    panicOf (opNewEntity noRun .typed [0, 1] [] [⟨0, x⟩, ⟨0, x⟩] d26) = some .relTwice ∧
    panicOf (opNewEntity noRun .map1 [0, 1] [] [⟨0, x⟩, ⟨0, x⟩] d26) = some .relTwice ∧
    summary (opNewEntity noRun .typed [0, 1] [] [⟨0, x⟩, ⟨0, x⟩] d26).state = summary d26 ∧
    (opNewEntity noRun .typed [0, 1] [] [⟨0, x⟩, ⟨0, x⟩] d26).state.archetypes.length = 2 ∧
    panicOf (opNewEntity noRun .typed [0, 1] [] [⟨0, x⟩, ⟨1, e⟩] d26) = none ∧
    summary (opNewEntity noRun .typed [0, 1] [] [⟨0, x⟩, ⟨1, e⟩] d26).state =
      [(0, 0, 2, false, []), (1, 1, 2, false, [x, e])] :=
  and_of_decide (and_of_decide (and_of_decide (and_of_decide of_decide_eq_true))) (by decide +kernel)

/-- the same through `Add` (entity `e` has no components; `Add(e, [A, B], A → x, A → x)`):
    `relTwice`, the world unchanged -/
example : opAdd noRun .unsafe_ e [0, 1] [] [⟨0, x⟩, ⟨0, x⟩] d26 = .panic .relTwice d26 := by
  have ok : relsVerdict d26 (checkMask (Path.unsafe_.addCheck [0, 1]) [0, 1]) [⟨0, x⟩, ⟨0, x⟩] = none ∧
      d26.isLocked = false ∧ d26.alive e = true ∧
      (∀ (c : Comp), c ∈ [0, 1] → (d26.maskOf e).get c = false) ∧
      d26.findArch ([0, 1].foldl Mask.set (d26.maskOf e)) = some 1 ∧
      (d26.arch 1).hasRelations = true ∧ (d26.arch 1).tables.tables.isEmpty = false ∧
      (d26.arch 1).numRel ≤ (relsForAdd (d26.tbl (d26.index e.id).1) [⟨0, x⟩, ⟨0, x⟩]).length ∧
      ¬ ((relsForAdd (d26.tbl (d26.index e.id).1) [⟨0, x⟩, ⟨0, x⟩]).map (·.comp)).Nodup := by
    decide +kernel
  obtain ⟨hp, hl, ha, hnew, hf, hr, hne, hlen, hd⟩ := ok
  exact add_relTwice noRun .unsafe_ e _ [] _ d26 hp hl ha (by decide) hnew (by decide) hf hr hne
    hlen hd

/-- what remains LATE (not without effect): the same malformed list into an archetype that does
    not exist yet — here `{A}` — is answered "no table" by `GetTable` before any check, and
    `createTable` refuses it (`relTwice`, D18) after the archetype was created -/
example :
    panicOf (opNewEntity noRun .typed [0] [] [⟨0, x⟩, ⟨0, x⟩] d26) = some .relTwice ∧
    (d26.archetypes.length,
      (opNewEntity noRun .typed [0] [] [⟨0, x⟩, ⟨0, x⟩] d26).state.archetypes.length) = (2, 3) ∧
    summary (opNewEntity noRun .typed [0] [] [⟨0, x⟩, ⟨0, x⟩] d26).state = summary d26 := by
  decide +kernel

end Ark.Props.C10Rel
