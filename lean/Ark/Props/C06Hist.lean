/-
  Ark.Props.C06Hist — C06 at every state reached by a history of the refinement machine
  (eleven operations on non-relation components, any access path, any length < 2^32 − 2):
  a batch operation called THERE equals the per-entity operations it abbreviates.

  `Ark.Props.C06World` proves "batch = fold of singles" from `CInv`, `RowsLive` and a lock with
  nothing outstanding; `Ark.Props.C03Exact` proves that these hold after every history.  Composed
  here, no hypothesis about the state is left.
-/
import Ark.Props.C06World
import Ark.Props.C03Exact

set_option autoImplicit false

namespace Ark.Props.C06Hist
open Ark Ark.World Ark.Refine

variable (run : ProbeRunner) (cap rel : Nat)

/-- what every reachable state provides: the joint invariant for some free list, rows holding the
    pool's current handles, an unlocked world whose lock has nothing outstanding -/
theorem reach_batch_hyps (ops : List Op) (hlen : ops.length < 2 ^ 32 - 2) :
    ∃ fl : List Nat, CInv (reach run cap rel ops).w fl ∧ RowsLive (reach run cap rel ops).w ∧
      (reach run cap rel ops).w.isLocked = false ∧ LockFree (reach run cap rel ops).w.locks := by
  obtain ⟨fl, H⟩ := reach_hinv run cap rel ops hlen
  have X := reach_xinv run cap rel ops hlen
  refine ⟨fl, H.cinv, ?_, H.unlocked, ?_⟩
  · intro t r _ hr
    exact X.rows.slot H.cinv hr
  · rw [X.locks]; exact lockFree_init

/-- **batch removal = single removals**, at every reachable state: `RemoveEntities(filter)` and
    `RemoveEntity` applied to every selected entity (in the batch's order) both succeed, both leave
    exactly the selected entities dead and un-indexed and every other entity untouched, with the
    same pool; the selected entities are the alive entities whose component mask matches. -/
theorem removeEntities_eq_singles (ops : List Op) (hlen : ops.length < 2 ^ 32 - 2)
    (fo : FilterObj) (extra : List RelID) (hc : fo.cache = none) :
    ∃ (fl : List Nat) (w' w'' : World), opRemoveEntities run fo extra false (reach run cap rel ops).w = .ok () w' ∧
      removeSeq run (selEnts (reach run cap rel ops).w fo.filter) (reach run cap rel ops).w = .ok () w'' ∧
      RemovedAllPost (reach run cap rel ops).w fl (selEnts (reach run cap rel ops).w fo.filter) w' ∧
      RemovedAllPost (reach run cap rel ops).w fl (selEnts (reach run cap rel ops).w fo.filter) w'' ∧
      w'.pool = w''.pool := by
  obtain ⟨fl, hC, hR, hl, _⟩ := reach_batch_hyps run cap rel ops hlen
  obtain ⟨w', w'', h1, h2, h3, h4, h5⟩ := opRemoveEntities_eq_singles run hC hR hl fo extra hc
  exact ⟨fl, w', w'', h1, h2, h3, h4, h5⟩

/-- the selection of a batch at a reachable state: exactly the alive entities of the pool slice
    whose archetype mask matches the filter -/
theorem batch_selects_matching_alive (ops : List Op) (hlen : ops.length < 2 ^ 32 - 2)
    (f : Filter) (e : Ent) :
    ∃ fl : List Nat, (e ∈ selEnts (reach run cap rel ops).w f ↔
      2 ≤ e.id ∧ e.id ∉ fl ∧ e.id < (reach run cap rel ops).w.pool.ents.length ∧
        (reach run cap rel ops).w.alive e = true ∧
        f.matchesMask ((reach run cap rel ops).w.maskOf e) = true) := by
  obtain ⟨fl, hC, hR, _, _⟩ := reach_batch_hyps run cap rel ops hlen
  exact ⟨fl, mem_selEnts_iff hC hR f e⟩

/-- **batch add / remove / exchange = single exchanges**, at every reachable state (precondition
    `ExchOK` on every non-empty selected table, size bounds explicit): both succeed and agree on
    pool, liveness, every value and every component set; the world is unlocked again. -/
theorem exchangeBatch_eq_singles (ops : List Op) (hlen : ops.length < 2 ^ 32 - 2) (p : Path)
    (fo : FilterObj) (extra : List RelID) (hc : fo.cache = none) {add rem : List Comp}
    (hne : ¬ (add = [] ∧ rem = []))
    (hok : ∀ t ∈ selTables (reach run cap rel ops).w fo.filter, ((reach run cap rel ops).w.tbl t).len ≠ 0 →
      ExchOK (reach run cap rel ops).w.kinds.length add rem (tmask (reach run cap rel ops).w t))
    (hfew : (reach run cap rel ops).w.tables.length + (selTables (reach run cap rel ops).w fo.filter).length +
      (selEnts (reach run cap rel ops).w fo.filter).length < maxU32)
    (hent : 2 * (reach run cap rel ops).w.entities.length < 2 ^ 32) :
    ∃ Wb Ws : World,
      opExchangeBatch run p fo extra add rem [] none (reach run cap rel ops).w = .ok () Wb ∧
      exchangeSeq run p add rem [] (selEnts (reach run cap rel ops).w fo.filter) (reach run cap rel ops).w = .ok () Ws ∧
      Wb.pool = Ws.pool ∧ (∀ x : Ent, Wb.alive x = Ws.alive x) ∧
      (∀ (i : Nat) (c : Comp), Ark.Props.C01World.valOf Wb i c = Ark.Props.C01World.valOf Ws i c) ∧
      (∀ i : Nat, Ark.Props.C01World.compsOf Wb i = Ark.Props.C01World.compsOf Ws i) ∧
      Wb.isLocked = Ws.isLocked := by
  obtain ⟨fl, hC, hR, hl, hL⟩ := reach_batch_hyps run cap rel ops hlen
  obtain ⟨Wb, Ws, h1, h2, _, _, h5, h6, h7, h8, h9, _, _⟩ :=
    opExchangeBatch_eq_singles run p hC hR hl hL fo extra hc hne hok hfew hent
  exact ⟨Wb, Ws, h1, h2, h5, h6, h7, h8, h9⟩

/-- **batch creation = single creations**, at every reachable state: `NewBatch(count, ids)` leaves
    exactly the world `count` successive `NewEntity(ids)` calls leave, and returns the same handles
    in the same order. -/
theorem newBatch_eq_singles (ops : List Op) (hlen : ops.length < 2 ^ 32 - 2) (p : Path)
    {ids : List Comp} (hnd : ids.Nodup)
    (hreg : ∀ (c : Comp), c ∈ ids → c < (reach run cap rel ops).w.kinds.length)
    (vals : List (Comp × Val)) {count : Nat} (hpos : 0 < count)
    (hfew : (reach run cap rel ops).w.tables.length < maxU32)
    (hrows : ∀ t : Nat, ((reach run cap rel ops).w.tbl t).len + count < 2 ^ 32) :
    ∃ (t start : Nat) (es : List Ent) (w' : World),
      opNewBatch run p count ids vals [] false (reach run cap rel ops).w = .ok (t, start) w' ∧
      newEntitiesSeq run p ids [] count (reach run cap rel ops).w = .ok es w' ∧
      es = (List.range count).map (fun i => (w'.tbl t).getEntity (start + i)) ∧
      es.length = count := by
  obtain ⟨fl, hC, _, hl, _⟩ := reach_batch_hyps run cap rel ops hlen
  obtain ⟨t, start, es, w', h1, h2, h3, h4, _, _⟩ :=
    opNewBatch_eq_singles run p hC hl hnd hreg vals hpos hfew hrows
  exact ⟨t, start, es, w', h1, h2, h3, h4⟩

end Ark.Props.C06Hist
