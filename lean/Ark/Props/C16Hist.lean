/-
  C16 over histories — "From then on [after Reset] every history has the same outcome as on a new
  world with the same component types registered in the same order, up to the identity of entity
  handles and iteration order."

  Setting: the history machine `Ark.Refine` of Ark/Proofs/Refine.lean (operations `reg | new p |
  new0 | add p | rem p | xchg p | set | del | copy | shrink | reset` on the non-relation,
  observer-free fragment with components, each through any access path; `reach run cap rel ops`
  is the state after the history `ops` from `NewWorld(cap, rel)`).

  For ANY history `pre` and ANY later history `post` (registrations may be interleaved anywhere in
  both; bound: `pre.length + 1 + post.length < 2^32 − 2`), any two callback runners and any
  capacities of the two worlds, compare

      A = pre ++ [reset] ++ post   from NewWorld(cap, rel)
      B = regsOf pre ++ post       from NewWorld(cap', rel')     (regsOf = the `reg`s of `pre`)

  No hypothesis on `post` was needed.  Hypothesis that WAS needed: `Alive` agrees only for handles
  whose generation is not `maxU32` or whose ID lies inside the pool slice — the reset world keeps
  invalidated memory behind the slice (`Pool.stale`, D14), and the unchecked `Alive` of a forged
  handle `⟨id beyond the slice, maxU32⟩` reads it: `forged_sentinel_handle_differs` is the concrete
  counterexample.  No handle the API ever returned has that generation
  (`C01Refine.issued_gen_bound`).

  Re-registration of filters and observers after `Reset` (model level): Ark/Props/C16Register.lean.
-/
import Ark.Proofs.ResetEquiv

set_option autoImplicit false

namespace Ark.Props.C16Hist
open Ark Ark.World Ark.Refine Ark.Props.C01World QueryExact

/-! ## the outcome of a call is a function of the specification -/

/-- in every reachable state, for every expressible operation: the returned handle, the
    accept/reject decision and the panic class are `specOutcome` of the specification state and the
    pool's next handle (`specOutcome ss fresh op = if pre ss op then ok (retSpec fresh op) else
    panic (rejKind ss op)`) -/
theorem outcome_from_spec (run : ProbeRunner) (cap rel : Nat) (ops : List Op) (op : Op)
    (hlen : ops.length + 1 < 2 ^ 32 - 2) (hg : guard (reach run cap rel ops) op = true) :
    outcome (exec run (reach run cap rel ops).w op) =
      specOutcome (reach run cap rel ops).ss ((reach run cap rel ops).w.pool.get).2 op := by
  obtain ⟨fl, H⟩ := reach_hinv run cap rel ops (by omega)
  have hb := reach_bounds run cap rel ops (by omega)
  exact exec_outcome run H (by simp only [maxU32]; omega) (by omega) op hg

/-! ## C16: every later history -/

/-- **same trace**: every operation of `post` is expressible (`guard`) on both sides or on
    neither; it is accepted on both or rejected on both with the SAME panic class; a creation
    returns the SAME handle, ID and generation (`Reset` re-issues handles by design and a new
    world issues the same ones — so not only "up to the identity of handles") -/
theorem same_trace (run1 run2 : ProbeRunner) (cap rel cap' rel' : Nat) (pre post : List Op)
    (hlen : pre.length + 1 + post.length < 2 ^ 32 - 2) :
    trace run1 (reach run1 cap rel (pre ++ [.reset])) post =
      trace run2 (reach run2 cap' rel' (regsOf pre)) post :=
  (reset_equiv run1 run2 cap rel cap' rel' pre post hlen).1

/-- what the `n`-th entry of a trace is: `none` if the `n`-th operation is not expressible in the
    state reached by the first `n` operations, otherwise the `outcome` of executing it there -/
theorem trace_entry (run : ProbeRunner) (s : St) (ops : List Op) (n : Nat) :
    (trace run s ops)[n]? = (ops[n]?).map fun op =>
      if guard (runOps run s (ops.take n)) op = true
      then some (outcome (exec run (runOps run s (ops.take n)).w op)) else none := by
  induction ops generalizing s n with
  | nil => rfl
  | cons op ops ih =>
    cases n with
    | zero => rfl
    | succ n =>
      simp only [trace, List.getElem?_cons_succ, List.take_succ_cons]
      rw [ih (step run s op) n]
      rfl

/-- **same state after every prefix** of `post` (`Sim`: specification, issued handles, registry,
    pool core) -/
theorem same_state_after_every_prefix (run1 run2 : ProbeRunner) (cap rel cap' rel' : Nat)
    (pre post : List Op) (hlen : pre.length + 1 + post.length < 2 ^ 32 - 2) (n : Nat) :
    Sim (reach run1 cap rel (pre ++ [.reset] ++ post.take n))
      (reach run2 cap' rel' (regsOf pre ++ post.take n)) := by
  have : (post.take n).length ≤ post.length := by
    rw [List.length_take]; exact Nat.min_le_right _ _
  exact (reset_equiv run1 run2 cap rel cap' rel' pre (post.take n) (by omega)).2

/-- **same worlds, as far as the API shows them**: for EVERY entity ID the same component set and
    component values (`compsOf`, `valOf`), the same `Alive` for every issued handle (and every
    handle whose generation is not the sentinel `maxU32`), the same next handle; every query from
    an unregistered filter visits the same SET of entities, counts the same and reads the same
    values — iteration order, tables and rows may differ -/
theorem same_worlds : type_of% @reset_equiv_worlds := @reset_equiv_worlds

/-- **same queries through the filter cache** (register the same filter on both sides, query
    through the cache entries) -/
theorem same_cached_queries : type_of% @reset_equiv_cached := @reset_equiv_cached

/-- `Sim` is kept by every step from ANY pair of related states satisfying the invariant (not only
    after `Reset`), and the client sees the same -/
theorem sim_is_a_simulation : type_of% @sim_step := @sim_step

/-! ## non-vacuity: a concrete pair of histories -/

/-- `pre`: three registrations (the third one after two creations), creations, exchanges, a copy,
    a write, removals (ID 3 is recycled with generation 1, ID 5 stays on the free list), `Shrink` -/
def preOps : List Op :=
  [.reg 8 false, .reg 0 true,
   .new .unsafe_ [0] [(0, 7)], .new0,
   .reg 8 false,
   .xchg .unsafe_ ⟨2, 0⟩ [2, 1] [0] [(2, 5), (0, 9)],
   .xchg .typed ⟨3, 0⟩ [0] [] [(0, 4)],
   .copy ⟨2, 0⟩, .set ⟨2, 0⟩ [(2, 8)],
   .new .map1 [0] [(0, 1)], .new .map1 [0] [(0, 2)],
   .del ⟨5, 0⟩, .del ⟨3, 0⟩, .copy ⟨4, 0⟩, .shrink true]

/-- `post`: creations; a valid `add`; rejected calls (component present, added and removed,
    component absent); a call on a handle not issued in this epoch (not expressible); a removal
    and a call on the dead handle; a fourth registration; a copy that recycles ID 3; a `new` with a
    duplicate; an exchange on the recycled handle; `Shrink` -/
def postOps : List Op :=
  [.new .typed [2] [(2, 1)], .new0, .new .map1 [0, 1] [(0, 3)],
   .add .unsafe_ ⟨3, 0⟩ [0, 2] [(2, 6)],
   .add .unsafe_ ⟨3, 0⟩ [0] [],
   .xchg .unsafe_ ⟨2, 0⟩ [2] [2] [],
   .rem .typed ⟨4, 0⟩ [2],
   .add .map1 ⟨9, 0⟩ [0] [],
   .del ⟨3, 0⟩,
   .set ⟨3, 0⟩ [(0, 1)],
   .reg 4 false,
   .copy ⟨4, 0⟩,
   .new .unsafe_ [3, 3] [],
   .xchg .typed ⟨3, 1⟩ [3] [1] [(3, 2)],
   .shrink false]

/-- `regsOf preOps` is `[reg 8 false, reg 0 true, reg 8 false]` (`Op` has no decidable equality:
    compare the arguments) -/
example :
    ((regsOf preOps).map fun op => match op with | .reg size z => some (size, z) | _ => none) =
      [some (8, false), some (0, true), some (8, false)] := by decide +kernel

/-- the hypothesis of the theorems holds, and the state before `Reset` is not trivial -/
example :
    preOps.length + 1 + postOps.length < 2 ^ 32 - 2 ∧
    (reach noProbe 4 1 preOps).ss.ents =
      [(⟨3, 1⟩, [(2, 5), (1, 0)]), (⟨6, 0⟩, [(0, 2)]), (⟨4, 0⟩, [(2, 5), (1, 0)]),
       (⟨2, 0⟩, [(2, 8), (1, 0)])] ∧
    (reach noProbe 4 1 preOps).w.tables.length = 3 := by
  decide +kernel

/-- the trace of `post` after `pre ++ [reset]` (capacities 4/1) … -/
example :
    trace noProbe (reach noProbe 4 1 (preOps ++ [.reset])) postOps =
      [some (.ok (some ⟨2, 0⟩)), some (.ok (some ⟨3, 0⟩)), some (.ok (some ⟨4, 0⟩)),
       some (.ok none), some (.panic .alreadyHas), some (.panic .addedAndRemoved),
       some (.panic .missing), none, some (.ok none), some (.panic .deadEntity),
       some (.ok none), some (.ok (some ⟨3, 1⟩)), some (.panic .alreadyHas),
       some (.ok none), some (.ok none)] := by
  decide +kernel

/-- … is the trace of `post` after the three registrations on a new world (capacities 64/8) -/
example :
    trace noProbe (reach noProbe 64 8 (regsOf preOps)) postOps =
      trace noProbe (reach noProbe 4 1 (preOps ++ [.reset])) postOps := by
  decide +kernel

/-- the two final states: same specification, issued handles, registry, pool core … -/
example :
    (reach noProbe 4 1 (preOps ++ [.reset] ++ postOps)).ss.ents =
      [(⟨3, 1⟩, [(0, 3), (3, 2)]), (⟨4, 0⟩, [(0, 3), (1, 0)]), (⟨2, 0⟩, [(2, 1)])] ∧
    (reach noProbe 64 8 (regsOf preOps ++ postOps)).ss.ents =
      (reach noProbe 4 1 (preOps ++ [.reset] ++ postOps)).ss.ents ∧
    (reach noProbe 64 8 (regsOf preOps ++ postOps)).ss.zst =
      (reach noProbe 4 1 (preOps ++ [.reset] ++ postOps)).ss.zst ∧
    (reach noProbe 64 8 (regsOf preOps ++ postOps)).issued =
      (reach noProbe 4 1 (preOps ++ [.reset] ++ postOps)).issued ∧
    (reach noProbe 4 1 (preOps ++ [.reset] ++ postOps)).issued = [⟨3, 1⟩, ⟨4, 0⟩, ⟨3, 0⟩, ⟨2, 0⟩] ∧
    (reach noProbe 64 8 (regsOf preOps ++ postOps)).w.kinds =
      (reach noProbe 4 1 (preOps ++ [.reset] ++ postOps)).w.kinds ∧
    (reach noProbe 64 8 (regsOf preOps ++ postOps)).w.pool.Core =
      (reach noProbe 4 1 (preOps ++ [.reset] ++ postOps)).w.pool.Core := by
  decide +kernel

/-- … and the same component sets and values for every ID, although the worlds differ: the reset
    world kept the tables of the archetypes `pre` created (7 tables against 5) and the
    invalidated memory behind the pool slice -/
example :
    ((List.range 8).map fun i => compsOf (reach noProbe 4 1 (preOps ++ [.reset] ++ postOps)).w i) =
      [none, none, some [2], some [0, 3], some [0, 1], none, none, none] ∧
    ((List.range 8).map fun i => compsOf (reach noProbe 64 8 (regsOf preOps ++ postOps)).w i) =
      [none, none, some [2], some [0, 3], some [0, 1], none, none, none] ∧
    ((List.range 8).map fun i => (List.range 5).map fun c =>
        valOf (reach noProbe 4 1 (preOps ++ [.reset] ++ postOps)).w i c) =
      ((List.range 8).map fun i => (List.range 5).map fun c =>
        valOf (reach noProbe 64 8 (regsOf preOps ++ postOps)).w i c) ∧
    (valOf (reach noProbe 4 1 (preOps ++ [.reset] ++ postOps)).w 3 0,
      valOf (reach noProbe 4 1 (preOps ++ [.reset] ++ postOps)).w 3 3,
      valOf (reach noProbe 4 1 (preOps ++ [.reset] ++ postOps)).w 3 1) = (some 3, some 2, none) ∧
    (reach noProbe 4 1 (preOps ++ [.reset] ++ postOps)).w.tables.length = 7 ∧
    (reach noProbe 64 8 (regsOf preOps ++ postOps)).w.tables.length = 5 ∧
    (reach noProbe 4 1 (preOps ++ [.reset] ++ postOps)).w.pool.stale.length = 2 ∧
    (reach noProbe 64 8 (regsOf preOps ++ postOps)).w.pool.stale = [] := by
  decide +kernel

/-- `Alive` of the issued handles agrees (the removed handle `3.0` is dead on both sides) -/
example :
    (reach noProbe 4 1 (preOps ++ [.reset] ++ postOps)).issued.map
        (reach noProbe 4 1 (preOps ++ [.reset] ++ postOps)).w.alive = [true, true, false, true] ∧
    (reach noProbe 4 1 (preOps ++ [.reset] ++ postOps)).issued.map
        (reach noProbe 64 8 (regsOf preOps ++ postOps)).w.alive = [true, true, false, true] := by
  decide +kernel

/-- the entities (with table and row) a complete iteration of an uncached query visits -/
def visitsOf (w : World) (f : Filter) : List (Ent × Nat × Nat) :=
  match drain { filter := f, cache := none } [] w with
  | .ok vs _ => vs.map fun v => (v.e, v.table, v.row)
  | .panic _ _ => []

/-- the same queries on the two final worlds: the same entities, in different tables -/
example :
    visitsOf (reach noProbe 4 1 (preOps ++ [.reset] ++ postOps)).w { mask := Mask.ofList [0] } =
      [(⟨4, 0⟩, 4, 0), (⟨3, 1⟩, 6, 0)] ∧
    visitsOf (reach noProbe 64 8 (regsOf preOps ++ postOps)).w { mask := Mask.ofList [0] } =
      [(⟨4, 0⟩, 2, 0), (⟨3, 1⟩, 4, 0)] ∧
    visitsOf (reach noProbe 4 1 (preOps ++ [.reset] ++ postOps)).w {} =
      [(⟨2, 0⟩, 3, 0), (⟨4, 0⟩, 4, 0), (⟨3, 1⟩, 6, 0)] ∧
    visitsOf (reach noProbe 64 8 (regsOf preOps ++ postOps)).w {} =
      [(⟨2, 0⟩, 1, 0), (⟨4, 0⟩, 2, 0), (⟨3, 1⟩, 4, 0)] := by
  decide +kernel

/-- "up to iteration order" is needed: `pre` created the archetype `{0}` before `{1, 2}`; a `post`
    that populates them in the other order is iterated in archetype order on the reset world and
    in creation order on the new world — the same set, in a different order -/
example :
    (visitsOf (reach noProbe 4 1 (preOps ++ [.reset] ++ [.new .typed [1, 2] [], .new .typed [0] []])).w
      {}).map (·.1) = [⟨3, 0⟩, ⟨2, 0⟩] ∧
    (visitsOf (reach noProbe 64 8 (regsOf preOps ++ [.new .typed [1, 2] [], .new .typed [0] []])).w
      {}).map (·.1) = [⟨2, 0⟩, ⟨3, 0⟩] := by
  decide +kernel

/-- **finding (necessary hypothesis of the `Alive` clause)**: for a forged handle with the
    sentinel generation `maxU32` and an ID just beyond the pool slice the two worlds answer
    differently — the reset world reads the invalidated memory `Reset` keeps behind the slice
    (`Pool.stale`, D14), a new world has no such memory.  Hence `h.gen ≠ maxU32` (or an ID inside
    the slice) cannot be dropped from `same_worlds`; no issued handle has this generation. -/
theorem forged_sentinel_handle_differs :
    (reach noProbe 4 1 (preOps ++ [.reset] ++ postOps)).w.alive ⟨5, maxU32⟩ = true ∧
    (reach noProbe 64 8 (regsOf preOps ++ postOps)).w.alive ⟨5, maxU32⟩ = false ∧
    (reach noProbe 4 1 (preOps ++ [.reset] ++ postOps)).w.pool.ents.length = 5 := by
  decide +kernel

/-- the simulation relation is not the identity on worlds, and it is not trivially true: the
    state BEFORE `Reset` is not related to the registrations-only state -/
example :
    (reach noProbe 4 1 preOps).ss.ents ≠ (reach noProbe 64 8 (regsOf preOps)).ss.ents ∧
    (reach noProbe 4 1 preOps).w.pool.Core ≠ (reach noProbe 64 8 (regsOf preOps)).w.pool.Core := by
  decide +kernel

/-- `specOutcome` computes: in the state after `pre ++ [reset]` and the first three creations of
    `post`, from the specification alone -/
example :
    let s := reach noProbe 4 1 (preOps ++ [.reset] ++ postOps.take 4)
    [specOutcome s.ss ⟨5, 0⟩ (.add .unsafe_ ⟨3, 0⟩ [0] []),
     specOutcome s.ss ⟨5, 0⟩ (.xchg .unsafe_ ⟨2, 0⟩ [2] [2] []),
     specOutcome s.ss ⟨5, 0⟩ (.xchg .unsafe_ ⟨2, 0⟩ [0] [1] []),
     specOutcome s.ss ⟨5, 0⟩ (.rem .typed ⟨4, 0⟩ [2]),
     specOutcome s.ss ⟨5, 0⟩ (.rem .typed ⟨4, 0⟩ []),
     specOutcome s.ss ⟨5, 0⟩ (.copy ⟨4, 0⟩),
     specOutcome s.ss ⟨5, 0⟩ (.del ⟨4, 0⟩)] =
    [.panic .alreadyHas, .panic .addedAndRemoved, .panic .missing, .panic .missing,
     .panic .noComponents, .ok (some ⟨5, 0⟩), .ok none] := by
  decide +kernel

end Ark.Props.C16Hist
