/-
  C20 — The 64-bit mask build (`ark_tiny`) and the 256-bit mask build behave identically on
  histories that stay within 64 component types.

  The two builds differ in one type only: the component mask (`bitMask64`, one uint64, against
  `bitMask256`, 4×uint64).  Everything the world decides from masks goes through the operations
  below, so the statement is a simulation: `embed : Mask64 → Mask` (zero extension) commutes with
  every mask operation on component IDs below 64, and every mask *test* gives the same answer.

  Complement is the one operation that does not commute (`mask64_not_differs`,
  `mask64_not_relation`); a complement is only ever consumed by `containsAny` against the mask of
  an entity/archetype, where the width does not matter (`mask64_sim_containsAny_not`).  `contains`
  against a complement would tell the builds apart (`mask64_contains_not_differs`); the library
  never does that.

  Hypothesis recorded once: all component IDs that are set are `< 64` (the tiny build's registry
  panics at the 65th type).  `mask64_set_ge` shows what happens beyond: the shift yields 0.
-/
import Ark.Proofs.MaskWidth
import Ark.Props.C20Words

namespace Ark.Props.C20
open Ark Ark.Mask64

/-! ## 1. Mask operations -/

theorem mask64_sim_get (m : Mask64) (c : Nat) :
    (embed m).get c = (decide (c < 64) && m.get c) :=
  get_embed m c

/-- … and the guard is redundant. -/
theorem mask64_sim_get' (m : Mask64) (c : Nat) : (embed m).get c = m.get c :=
  get_embed' m c

theorem mask64_sim_empty : embed Mask64.empty = Mask.empty :=
  embed_empty

theorem mask64_sim_set (m : Mask64) (c : Nat) (hc : c < 64) :
    embed (m.set c) = (embed m).set c :=
  embed_set m c hc

/-- Outside the hypothesis the builds do differ: setting an ID ≥ 64 is a no-op at width 64. -/
theorem mask64_set_ge (m : Mask64) (c : Nat) (hc : 64 ≤ c) : m.set c = m :=
  set_ge m c hc

theorem mask64_sim_clear (m : Mask64) (c : Nat) : embed (m.clear c) = (embed m).clear c :=
  embed_clear m c

theorem mask64_sim_or (a b : Mask64) : embed (a.or b) = (embed a).or (embed b) :=
  embed_or a b

theorem mask64_sim_ofList (cs : List Nat) (h : ∀ c ∈ cs, c < 64) :
    embed (Mask64.ofList cs) = Mask.ofList cs :=
  embed_ofList cs h

theorem mask64_sim_contains (a b : Mask64) : (embed a).contains (embed b) = a.contains b :=
  contains_embed a b

theorem mask64_sim_containsAny (a b : Mask64) :
    (embed a).containsAny (embed b) = a.containsAny b :=
  containsAny_embed a b

theorem mask64_sim_isZero (m : Mask64) : (embed m).isZero = m.isZero :=
  isZero_embed m

/-- Mask equality (archetype lookup) is preserved and reflected. -/
theorem mask64_sim_eq (a b : Mask64) : embed a = embed b ↔ a = b :=
  embed_eq_iff a b

/-- The archetype's component list is the same in both builds (for any number `n` of registered
    types; in the tiny build `n ≤ 64`). -/
theorem toList_embed (m : Mask64) (n : Nat) :
    (embed m).toList n = (List.range n).filter m.get :=
  Mask64.toList_embed m n

theorem toList_embed' (m : Mask64) (n : Nat) : (embed m).toList n = m.toList n :=
  Mask64.toList_embed m n

/-! ## 2. Complement -/

/-- `not` never commutes with the embedding. -/
theorem mask64_not_differs (m : Mask64) : embed m.not ≠ (embed m).not :=
  embed_not_ne m

/-- The exact relation, bitwise … -/
theorem mask64_not_get (m : Mask64) (c : Nat) :
    (embed m).not.get c = (decide (c < 256) && !(decide (c < 64) && m.get c)) ∧
    (embed m.not).get c = (decide (c < 64) && !m.get c) :=
  ⟨get_not_embed m c, get_embed_not m c⟩

/-- … and as masks: the 64-bit complement is the 256-bit one restricted to IDs below 64. -/
theorem mask64_not_relation (m : Mask64) :
    embed m.not = (embed m).not &&& embed Mask64.empty.not :=
  embed_not m

/-- The use of a complement (`Exclusive`): the same answer at both widths. -/
theorem mask64_sim_containsAny_not (a f : Mask64) :
    (embed a).containsAny (embed f).not = a.containsAny f.not :=
  containsAny_embed_not a f

/-- `contains` against a complement distinguishes the builds: at width 256 it is always false on
    embedded masks, at width 64 it is true for `a = f.not`. -/
theorem mask64_contains_not_differs (f : Mask64) :
    (embed f.not).contains (embed f).not = false ∧ f.not.contains f.not = true :=
  ⟨contains_embed_not f.not f, (Mask64.contains_iff _ _).mpr (fun _ h => h)⟩

/-! ## 3. Filters -/

/-- Non-exclusive filters. -/
theorem filter_sim (f : Filter64) (a : Mask64) :
    f.embed.matchesMask (embed a) = f.matchesMask a :=
  Filter64.matchesMask_embed f a

/-- `Without(cs…)` commutes with the embedding. -/
theorem filter_without_sim (f : Filter64) (cs : List Nat) (h : ∀ c ∈ cs, c < 64) :
    (f.withoutList cs).embed = f.embed.withoutList cs :=
  Filter64.withoutList_embed f cs h

/-- `Exclusive` filters: each build complements at its own width; the filters differ as objects
    but match the same masks. -/
theorem exclusive_filter_sim (f : Filter64) (a : Mask64) :
    f.embed.exclusive.matchesMask (embed a) = f.exclusive.matchesMask a :=
  Filter64.exclusive_matchesMask_embed f a

theorem exclusive_filter_differs (f : Filter64) : f.exclusive.embed ≠ f.embed.exclusive :=
  Filter64.exclusive_embed_ne f

/-- In both builds an exclusive filter matches exactly its own mask. -/
theorem exclusive_filter_matches_iff (f : Filter64) (a : Mask64) :
    (f.exclusive.matchesMask a = true ↔ a = f.mask) ∧
    (f.embed.exclusive.matchesMask (embed a) = true ↔ a = f.mask) := by
  refine ⟨Filter64.exclusive_matches_iff f a, ?_⟩
  rw [exclusive_filter_sim]
  exact Filter64.exclusive_matches_iff f a

/-! ## 4. Observers

`d.embed excl` is the default-build `observerData`; for `excl = true` its `withoutMask` is
`withMask.not` at width 256, and `d.ExclOK excl` says the tiny-build `withoutMask` is
`withMask.not` at width 64. -/

theorem observer_pred_sim_entity (excl : Bool) (d : ObsData64) (h : d.ExclOK excl) (m : Mask64) :
    Pred.entity (d.embed excl) (embed m) = Pred64.entity d m :=
  Pred64.entity_embed excl d h m

theorem observer_pred_sim_entityRel (excl : Bool) (d : ObsData64) (h : d.ExclOK excl)
    (m : Mask64) :
    Pred.entityRel (d.embed excl) (embed m) = Pred64.entityRel d m :=
  Pred64.entityRel_embed excl d h m

theorem observer_pred_sim_add (excl : Bool) (d : ObsData64) (h : d.ExclOK excl)
    (old new : Mask64) :
    Pred.add (d.embed excl) (embed old) (embed new) = Pred64.add d old new :=
  Pred64.add_embed excl d h old new

theorem observer_pred_sim_remove (excl : Bool) (d : ObsData64) (h : d.ExclOK excl)
    (old new : Mask64) :
    Pred.remove (d.embed excl) (embed old) (embed new) = Pred64.remove d old new :=
  Pred64.remove_embed excl d h old new

theorem observer_pred_sim_set (excl : Bool) (d : ObsData64) (h : d.ExclOK excl)
    (mask emask : Mask64) :
    Pred.set (d.embed excl) (embed mask) (embed emask) = Pred64.set d mask emask :=
  Pred64.set_embed excl d h mask emask

/-- The hypothesis is what `AddObserver` establishes: a non-exclusive observer needs nothing, an
    exclusive one has `withoutMask = withMask.not`. -/
theorem observer_exclOK_false (d : ObsData64) : d.ExclOK false :=
  fun h => nomatch h

theorem observer_exclOK_true (d : ObsData64) :
    ({ d with withoutMask := d.withMask.not, hasWithout := true } : ObsData64).ExclOK true :=
  fun _ => rfl

theorem observer_early_sim_entity (es : EvtMasks64) (os : List Nat) (ho : Bool) (m : Mask64) :
    Early.entity (es.embed os ho) (embed m) = Early64.entity es m :=
  Early64.entity_embed es os ho m

theorem observer_early_sim_entityRel (es : EvtMasks64) (os : List Nat) (ho : Bool) (m : Mask64) :
    Early.entityRel (es.embed os ho) (embed m) = Early64.entityRel es m :=
  Early64.entityRel_embed es os ho m

theorem observer_early_sim_add (es : EvtMasks64) (os : List Nat) (ho : Bool) (old new : Mask64) :
    Early.add (es.embed os ho) (embed old) (embed new) = Early64.add es old new :=
  Early64.add_embed es os ho old new

theorem observer_early_sim_remove (es : EvtMasks64) (os : List Nat) (ho : Bool)
    (old new : Mask64) :
    Early.remove (es.embed os ho) (embed old) (embed new) = Early64.remove es old new :=
  Early64.remove_embed es os ho old new

theorem observer_early_sim_set (es : EvtMasks64) (os : List Nat) (ho : Bool)
    (mask emask : Mask64) :
    Early.set (es.embed os ho) (embed mask) (embed emask) = Early64.set es mask emask :=
  Early64.set_embed es os ho mask emask

/-! ## 5. Non-vacuity: both builds evaluated on concrete masks -/

/-- the filter `{3, 63}`, tiny build -/
private def f64 : Filter64 := { mask := Mask64.ofList [3, 63] }
/-- the same filter, default build -/
private def f256 : Filter := { mask := Mask.ofList [3, 63] }

example : f64.embed = f256 := by decide

-- exclusive on {3, 63}: matches {3, 63}, not {3, 63, 5}, not {3} — at both widths
example : f64.exclusive.matchesMask (Mask64.ofList [3, 63]) = true := by decide
example : f256.exclusive.matchesMask (Mask.ofList [3, 63]) = true := by decide
example : f64.exclusive.matchesMask (Mask64.ofList [3, 63, 5]) = false := by decide
example : f256.exclusive.matchesMask (Mask.ofList [3, 63, 5]) = false := by decide
example : f64.exclusive.matchesMask (Mask64.ofList [3]) = false := by decide
example : f256.exclusive.matchesMask (Mask.ofList [3]) = false := by decide
-- non-exclusive: {3, 63, 5} matches; with `Without(5)` it does not
example : f64.matchesMask (Mask64.ofList [3, 63, 5]) = true := by decide
example : f256.matchesMask (Mask.ofList [3, 63, 5]) = true := by decide
example : (f64.withoutList [5]).matchesMask (Mask64.ofList [3, 63, 5]) = false := by decide
example : (f256.withoutList [5]).matchesMask (Mask.ofList [3, 63, 5]) = false := by decide
-- the two exclusive filters are different objects: bit 64 of `without`
example : f64.exclusive.embed.without.get 64 = false ∧ f256.exclusive.without.get 64 = true := by
  decide
-- component lists
example : (embed (Mask64.ofList [63, 3])).toList 64 = [3, 63] := by decide +kernel
example : (Mask64.ofList [63, 3]).toList 64 = [3, 63] := by decide +kernel
-- outside the hypothesis the builds differ: ID 64
example : Mask64.ofList [64] = Mask64.empty ∧ Mask.ofList [64] ≠ Mask.empty := by decide

/-- an exclusive observer `With(3, 63)` in the tiny build … -/
private def d64 : ObsData64 :=
  { withMask := Mask64.ofList [3, 63], hasWith := true,
    withoutMask := (Mask64.ofList [3, 63]).not, hasWithout := true }

example : d64.ExclOK true := fun _ => rfl
-- … fires for {3, 63} and not for {3, 63, 5}, at both widths
example : Pred64.entity d64 (Mask64.ofList [3, 63]) = true := by decide
example : Pred.entity (d64.embed true) (Mask.ofList [3, 63]) = true := by decide
example : Pred64.entity d64 (Mask64.ofList [3, 63, 5]) = false := by decide
example : Pred.entity (d64.embed true) (Mask.ofList [3, 63, 5]) = false := by decide


/-! ## the word-level mask code of both builds (regenerated from mask256.go / mask64.go) computes the
    model's mask operations; `Get` of the 64-bit mask needs `bit < 64` (the tiny registry is full at 64) -/

theorem words_mask256_abs_injective : type_of% @Ark.Props.C20Words.mask256_abs_injective := @Ark.Props.C20Words.mask256_abs_injective

theorem words_mask256_get_inRange : type_of% @Ark.Props.C20Words.mask256_get_inRange := @Ark.Props.C20Words.mask256_get_inRange

theorem words_mask256_set_inRange : type_of% @Ark.Props.C20Words.mask256_set_inRange := @Ark.Props.C20Words.mask256_set_inRange

theorem words_mask256_clear_inRange : type_of% @Ark.Props.C20Words.mask256_clear_inRange := @Ark.Props.C20Words.mask256_clear_inRange

theorem words_mask256_get : type_of% @Ark.Props.C20Words.mask256_get := @Ark.Props.C20Words.mask256_get

theorem words_mask256_set : type_of% @Ark.Props.C20Words.mask256_set := @Ark.Props.C20Words.mask256_set

theorem words_mask256_clear : type_of% @Ark.Props.C20Words.mask256_clear := @Ark.Props.C20Words.mask256_clear

theorem words_mask256_not : type_of% @Ark.Props.C20Words.mask256_not := @Ark.Props.C20Words.mask256_not

theorem words_mask256_orI : type_of% @Ark.Props.C20Words.mask256_orI := @Ark.Props.C20Words.mask256_orI

theorem words_mask256_reset : type_of% @Ark.Props.C20Words.mask256_reset := @Ark.Props.C20Words.mask256_reset

theorem words_mask256_isZero : type_of% @Ark.Props.C20Words.mask256_isZero := @Ark.Props.C20Words.mask256_isZero

theorem words_mask256_contains : type_of% @Ark.Props.C20Words.mask256_contains := @Ark.Props.C20Words.mask256_contains

theorem words_mask256_containsAny : type_of% @Ark.Props.C20Words.mask256_containsAny := @Ark.Props.C20Words.mask256_containsAny

theorem words_mask256_equals : type_of% @Ark.Props.C20Words.mask256_equals := @Ark.Props.C20Words.mask256_equals

theorem words_mask256_totalBitsSet : type_of% @Ark.Props.C20Words.mask256_totalBitsSet := @Ark.Props.C20Words.mask256_totalBitsSet

theorem words_mask256_ofIDs : type_of% @Ark.Props.C20Words.mask256_ofIDs := @Ark.Props.C20Words.mask256_ofIDs

theorem words_mask64_abs_injective : type_of% @Ark.Props.C20Words.mask64_abs_injective := @Ark.Props.C20Words.mask64_abs_injective

theorem words_mask64_get : type_of% @Ark.Props.C20Words.mask64_get := @Ark.Props.C20Words.mask64_get

theorem words_mask64_get_out_of_range : type_of% @Ark.Props.C20Words.mask64_get_out_of_range := @Ark.Props.C20Words.mask64_get_out_of_range

theorem words_mask64_set : type_of% @Ark.Props.C20Words.mask64_set := @Ark.Props.C20Words.mask64_set

theorem words_mask64_clear : type_of% @Ark.Props.C20Words.mask64_clear := @Ark.Props.C20Words.mask64_clear

theorem words_mask64_not : type_of% @Ark.Props.C20Words.mask64_not := @Ark.Props.C20Words.mask64_not

theorem words_mask64_orI : type_of% @Ark.Props.C20Words.mask64_orI := @Ark.Props.C20Words.mask64_orI

theorem words_mask64_reset : type_of% @Ark.Props.C20Words.mask64_reset := @Ark.Props.C20Words.mask64_reset

theorem words_mask64_isZero : type_of% @Ark.Props.C20Words.mask64_isZero := @Ark.Props.C20Words.mask64_isZero

theorem words_mask64_contains : type_of% @Ark.Props.C20Words.mask64_contains := @Ark.Props.C20Words.mask64_contains

theorem words_mask64_containsAny : type_of% @Ark.Props.C20Words.mask64_containsAny := @Ark.Props.C20Words.mask64_containsAny

theorem words_mask64_equals : type_of% @Ark.Props.C20Words.mask64_equals := @Ark.Props.C20Words.mask64_equals

theorem words_mask64_totalBitsSet : type_of% @Ark.Props.C20Words.mask64_totalBitsSet := @Ark.Props.C20Words.mask64_totalBitsSet

theorem words_mask64_ofIDs : type_of% @Ark.Props.C20Words.mask64_ofIDs := @Ark.Props.C20Words.mask64_ofIDs


end Ark.Props.C20
