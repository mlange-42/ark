/-
  Ark.Props.C01Hist — C01 over histories of fewer than `2^32 − 1` operations (table 0 stays below
  `2^32` rows), for the fragment of the API without components, relations and observers:
  `World.NewEntity()`, `World.RemoveEntity`, `Map.Set`.

  The history machine runs the model's own operations on an unlocked world and keeps ghost state:
  the handles returned so far (`issued`) and the handles created and not removed (`live`).
  Handles are opaque in the Go API (`Entity` has unexported fields), so a client can pass only
  handles it was given: `del`/`set` on a handle that was never returned is not a step of the
  machine.  `forged_alive` records why this matters: `Alive` compares generations only.
-/
import Ark.Proofs.WInv
import Ark.Proofs.PoolHistory

set_option autoImplicit false

namespace Ark.Props.C01Hist
open Ark Ark.World Ark.Props.C01World

inductive Op
  /-- `World.NewEntity()` -/
  | new
  /-- `World.RemoveEntity(e)` -/
  | del (e : Ent)
  /-- `Map.Set` / `MapN.Set` on `e` for the components `ids` with the values `vals` -/
  | set (e : Ent) (ids : List Comp) (vals : List (Comp × Val))
  deriving Repr

structure St where
  w : World
  /-- handles returned by `new`, newest first -/
  issued : List Ent
  /-- handles created and not removed -/
  live : List Ent

def St.init (cap rel : Nat) : St := ⟨World.init cap rel, [], []⟩

/-- One step: run the model operation.  A panic keeps the state the model reached (Go
    `recover`); that a rejected call leaves the world unchanged is a theorem (`step_del_dead`),
    not part of the definition. -/
def step (run : ProbeRunner) (s : St) : Op → St
  | .new =>
    match opNewEntity0 run s.w with
    | .ok e w' => ⟨w', e :: s.issued, e :: s.live⟩
    | .panic _ w' => ⟨w', s.issued, s.live⟩
  | .del e =>
    if e ∈ s.issued then
      match opRemoveEntity run e s.w with
      | .ok _ w' => ⟨w', s.issued, s.live.erase e⟩
      | .panic _ w' => ⟨w', s.issued, s.live⟩
    else s
  | .set e ids vals =>
    if e ∈ s.issued then ⟨(opSet run e ids vals s.w).state, s.issued, s.live⟩ else s

def run (pr : ProbeRunner) (s : St) (ops : List Op) : St := ops.foldl (step pr) s

/-- the state reached from `NewWorld(cap, rel)` by the history `ops` -/
def reach (pr : ProbeRunner) (cap rel : Nat) (ops : List Op) : St := run pr (St.init cap rel) ops

def retOf {α : Type} : Res World α → Option α
  | .ok a _ => some a
  | .panic _ _ => none

/-- the pool with the ghost history, as in `Ark.Proofs.PoolHistory` -/
def St.ps (s : St) : Pool.PS := ⟨s.w.pool, s.issued, s.live⟩

structure HInv (s : St) (fl : List Nat) : Prop where
  winv : WInv s.w fl
  ginv : Pool.GInv s.ps fl
  unlocked : s.w.isLocked = false
  nodup : s.issued.Nodup
  /-- rows of table 0 = live handles -/
  rows : (s.w.tbl 0).len = s.live.length

theorem hinv_init (cap rel : Nat) : HInv (St.init cap rel) [] where
  winv := winv_init cap rel
  ginv := Pool.ginv_init
  unlocked := rfl
  nodup := List.nodup_nil
  rows := rfl

theorem HInv.live_of_alive {s : St} {fl : List Nat} (h : HInv s fl) {e : Ent}
    (hi : e ∈ s.issued) (ha : s.w.alive e = true) :
    e ∈ s.live ∧ 2 ≤ e.id ∧ e.id ∉ fl := by
  have hl := (Pool.alive_iff_live s.ps fl h.ginv e hi).mp ha
  obtain ⟨a, b, _⟩ := (h.ginv.live_iff e).mp hl
  exact ⟨hl, a, b⟩

/-! ### the steps -/

variable (pr : ProbeRunner)

/-- `new` on a state satisfying the invariant: the model call succeeds with the pool's handle,
    which was never returned before -/
theorem step_new {s : St} {fl : List Nat} (h : HInv s fl) (hb : s.live.length + 1 < 2 ^ 32) :
    ∃ w', opNewEntity0 pr s.w = .ok (s.w.pool.get).2 w' ∧
      step pr s .new = ⟨w', (s.w.pool.get).2 :: s.issued, (s.w.pool.get).2 :: s.live⟩ ∧
      (s.w.pool.get).2 ∉ s.issued ∧ HInv (step pr s .new) fl.tail := by
  obtain ⟨w', hok, post⟩ := newEntity0_spec_partial pr h.winv h.unlocked (by rw [h.rows]; exact hb)
  have hstep : step pr s .new = ⟨w', (s.w.pool.get).2 :: s.issued, (s.w.pool.get).2 :: s.live⟩ := by
    simp only [step, hok]
  have hfresh : (s.w.pool.get).2 ∉ s.issued := h.ginv.fresh_get
  refine ⟨w', hok, hstep, hfresh, ?_⟩
  rw [hstep]
  have g1 : Pool.GInv ⟨w'.pool, (s.w.pool.get).2 :: s.issued, (s.w.pool.get).2 :: s.live⟩ fl.tail :=
    post.pool ▸ h.ginv.get
  exact
    { winv := post.winv
      ginv := g1
      unlocked := post.unlocked
      nodup := List.nodup_cons.mpr ⟨hfresh, h.nodup⟩
      rows := by
        show (w'.tbl 0).len = s.live.length + 1
        rw [post.tabLen, h.rows] }

theorem step_del_alive {s : St} {fl : List Nat} (h : HInv s fl) {e : Ent} (hi : e ∈ s.issued)
    (ha : s.w.alive e = true) :
    ∃ w', opRemoveEntity pr e s.w = .ok () w' ∧
      step pr s (.del e) = ⟨w', s.issued, s.live.erase e⟩ ∧ HInv (step pr s (.del e)) (e.id :: fl) := by
  obtain ⟨hl, h2, hnf⟩ := h.live_of_alive hi ha
  obtain ⟨w', hok, post⟩ := removeEntity_spec_partial pr h.winv h.unlocked e h2 hnf ha
  have hstep : step pr s (.del e) = ⟨w', s.issued, s.live.erase e⟩ := by
    simp only [step, hi, if_true, hok]
  refine ⟨w', hok, hstep, ?_⟩
  rw [hstep]
  have g1 : Pool.GInv ⟨w'.pool, s.issued, s.live.erase e⟩ (e.id :: fl) :=
    post.pool ▸ h.ginv.recycle hi ha
  exact
    { winv := post.winv
      ginv := g1
      unlocked := post.unlocked
      nodup := h.nodup
      rows := by
        show (w'.tbl 0).len = (s.live.erase e).length
        have := post.tabLen
        have hpos : 0 < s.live.length := List.length_pos_of_mem hl
        rw [List.length_erase_of_mem hl, ← h.rows]
        omega }

/-- **invalid `del`**: removing a dead handle is the rejected panic and leaves world and ghost
    state unchanged -/
theorem step_del_dead {s : St} (hl : s.w.isLocked = false) {e : Ent}
    (hd : s.w.alive e = false) :
    opRemoveEntity pr e s.w = .panic .deadEntity s.w ∧ step pr s (.del e) = s := by
  have hp := opRemoveEntity_dead pr s.w hl e hd
  refine ⟨hp, ?_⟩
  simp only [step, hp]
  split <;> rfl

theorem step_set {s : St} {fl : List Nat} (h : HInv s fl) (e : Ent) (ids : List Comp)
    (vals : List (Comp × Val)) :
    (step pr s (.set e ids vals)).issued = s.issued ∧ (step pr s (.set e ids vals)).live = s.live ∧
    HInv (step pr s (.set e ids vals)) fl := by
  by_cases hi : e ∈ s.issued
  · have hstep : step pr s (.set e ids vals) = ⟨(opSet pr e ids vals s.w).state, s.issued, s.live⟩ := by
      simp only [step, hi, if_true]
    rw [hstep]
    refine ⟨rfl, rfl, ?_⟩
    cases ha : s.w.alive e with
    | false =>
      rw [World.opSet_dead pr s.w e ha ids vals]
      exact h
    | true =>
      obtain ⟨_, h2, hnf⟩ := h.live_of_alive hi ha
      cases ids with
      | cons c ids =>
        rw [opSet_missing_frag pr h.winv e h2 hnf ha c ids vals]
        exact h
      | nil =>
        rw [opSet_eq pr s.w e [] vals ha rfl (h.winv.noObs _)]
        obtain ⟨hw, hlk, _⟩ := writeVals_winv h.winv e h2 hnf ha vals
        exact
          { winv := hw
            ginv := h.ginv
            unlocked := hlk.trans h.unlocked
            nodup := h.nodup
            rows := (writeVals_rows h.winv e h2 hnf ha vals).trans h.rows }
  · have hstep : step pr s (.set e ids vals) = s := by simp only [step, hi, if_false]
    rw [hstep]; exact ⟨rfl, rfl, h⟩

theorem step_inv {s : St} {fl : List Nat} (h : HInv s fl) (hb : s.live.length + 1 < 2 ^ 32)
    (op : Op) :
    (∃ fl', HInv (step pr s op) fl') ∧ (step pr s op).live.length ≤ s.live.length + 1 := by
  cases op with
  | new =>
    obtain ⟨w', _, hstep, _, hinv⟩ := step_new pr h hb
    exact ⟨⟨_, hinv⟩, by rw [hstep]; exact Nat.le_refl _⟩
  | del e =>
    by_cases hi : e ∈ s.issued
    · cases ha : s.w.alive e with
      | true =>
        obtain ⟨w', _, hstep, hinv⟩ := step_del_alive pr h hi ha
        refine ⟨⟨_, hinv⟩, ?_⟩
        rw [hstep]
        exact Nat.le_trans (List.length_erase_le ..) (Nat.le_succ _)
      | false =>
        rw [(step_del_dead pr h.unlocked ha).2]
        exact ⟨⟨_, h⟩, Nat.le_succ _⟩
    · have : step pr s (.del e) = s := by simp only [step, hi, if_false]
      rw [this]; exact ⟨⟨_, h⟩, Nat.le_succ _⟩
  | set e ids vals =>
    obtain ⟨_, hl, hinv⟩ := step_set pr h e ids vals
    exact ⟨⟨_, hinv⟩, by rw [hl]; exact Nat.le_succ _⟩

theorem run_inv (ops : List Op) : ∀ (s : St) (fl : List Nat), HInv s fl →
    s.live.length + ops.length < 2 ^ 32 → ∃ fl', HInv (run pr s ops) fl' := by
  induction ops with
  | nil => intro s fl h _; exact ⟨fl, h⟩
  | cons op ops ih =>
    intro s fl h hb
    simp only [List.length_cons] at hb
    obtain ⟨⟨fl1, h1⟩, hlen⟩ := step_inv pr h (by omega) op
    exact ih _ fl1 h1 (by omega)

variable (cap rel : Nat)

theorem reach_hinv (ops : List Op) (hlen : ops.length < 2 ^ 32 - 1) :
    ∃ fl, HInv (reach pr cap rel ops) fl :=
  run_inv pr ops _ [] (hinv_init cap rel) (by
    show 0 + ops.length < 2 ^ 32
    omega)

/-! ### the property theorems -/

/-- **reach_winv** — the joint world invariant holds after every history -/
theorem reach_winv (ops : List Op) (hlen : ops.length < 2 ^ 32 - 1) :
    ∃ fl, WInv (reach pr cap rel ops).w fl := by
  obtain ⟨fl, h⟩ := reach_hinv pr cap rel ops hlen
  exact ⟨fl, h.winv⟩

/-- **alive_exact_world** — for every handle returned by a `new` of the history, `Alive` holds
    iff the handle was created and not removed since -/
theorem alive_exact_world (ops : List Op) (hlen : ops.length < 2 ^ 32 - 1) (h : Ent)
    (hi : h ∈ (reach pr cap rel ops).issued) :
    (reach pr cap rel ops).w.alive h = true ↔ h ∈ (reach pr cap rel ops).live := by
  obtain ⟨fl, hinv⟩ := reach_hinv pr cap rel ops hlen
  exact Pool.alive_iff_live _ fl hinv.ginv h hi

/-- the ghost `live` list is duplicate free and consists of returned handles -/
theorem live_nodup_sub (ops : List Op) (hlen : ops.length < 2 ^ 32 - 1) :
    (reach pr cap rel ops).live.Nodup ∧
    ∀ h ∈ (reach pr cap rel ops).live, h ∈ (reach pr cap rel ops).issued := by
  obtain ⟨fl, hinv⟩ := reach_hinv pr cap rel ops hlen
  exact ⟨hinv.ginv.live_nodup, hinv.ginv.live_issued⟩

/-- **count_world** — used entities (`pool.Len()`) = alive entities = rows of table 0 = sum of
    all table sizes -/
theorem count_world (ops : List Op) (hlen : ops.length < 2 ^ 32 - 1) :
    (reach pr cap rel ops).w.pool.len = (reach pr cap rel ops).live.length ∧
    ((reach pr cap rel ops).w.tbl 0).len = (reach pr cap rel ops).live.length ∧
    ((reach pr cap rel ops).w.tables.map (·.len)).sum = (reach pr cap rel ops).live.length := by
  obtain ⟨fl, hinv⟩ := reach_hinv pr cap rel ops hlen
  refine ⟨?_, hinv.rows, ?_⟩
  · have hc := hinv.ginv.count
    have ha := hinv.winv.pool.avail
    show (reach pr cap rel ops).w.pool.ents.length - Pool.reserved -
      (reach pr cap rel ops).w.pool.available = _
    have hc' : (reach pr cap rel ops).w.pool.ents.length =
        2 + (reach pr cap rel ops).live.length + fl.length := hc
    simp only [Pool.reserved]
    omega
  · obtain ⟨T, hT, _⟩ := hinv.winv.tab0
    have h0 : (reach pr cap rel ops).w.tbl 0 = T := tbl_of_get (by rw [hT]; rfl)
    rw [← hinv.rows, h0, hT]
    simp

/-- all handles returned so far are pairwise different -/
theorem issued_nodup (ops : List Op) (hlen : ops.length < 2 ^ 32 - 1) :
    (reach pr cap rel ops).issued.Nodup := by
  obtain ⟨fl, hinv⟩ := reach_hinv pr cap rel ops hlen
  exact hinv.nodup

/-- at most one handle is returned per operation -/
theorem issued_length_le (ops : List Op) : ∀ s : St,
    (run pr s ops).issued.length ≤ s.issued.length + ops.length := by
  induction ops with
  | nil => intro s; exact Nat.le_refl _
  | cons op ops ih =>
    intro s
    have hs : (step pr s op).issued.length ≤ s.issued.length + 1 := by
      cases op with
      | new => simp only [step]; split <;> simp
      | del e =>
        simp only [step]
        split
        · split <;> simp
        · simp
      | set e ids vals => simp only [step]; split <;> simp
    have := ih (step pr s op)
    simp only [run, List.foldl_cons, List.length_cons] at this ⊢
    omega

/-- **handles_fresh_world** — a `new` after any history succeeds and returns a handle different
    from all handles returned before; it is alive afterwards -/
theorem handles_fresh_world (ops : List Op) (hlen : ops.length + 1 < 2 ^ 32 - 1) :
    ∃ e w', opNewEntity0 pr (reach pr cap rel ops).w = .ok e w' ∧
      (reach pr cap rel (ops ++ [.new])).w = w' ∧
      (reach pr cap rel (ops ++ [.new])).issued = e :: (reach pr cap rel ops).issued ∧
      e ∉ (reach pr cap rel ops).issued ∧ w'.alive e = true := by
  obtain ⟨fl, hinv⟩ := reach_hinv pr cap rel ops (by omega)
  have hb : (reach pr cap rel ops).live.length + 1 < 2 ^ 32 := by
    have h1 : (reach pr cap rel ops).live.length ≤ (reach pr cap rel ops).issued.length :=
      List.Nodup.length_le_of_subset hinv.ginv.live_nodup hinv.ginv.live_issued
    have h2 : (reach pr cap rel ops).issued.length ≤ 0 + ops.length :=
      issued_length_le pr ops (St.init cap rel)
    omega
  obtain ⟨w', hok, hstep, hfresh, hinv'⟩ := step_new pr hinv hb
  have hreach : reach pr cap rel (ops ++ [.new]) = step pr (reach pr cap rel ops) .new := by
    simp only [reach, run, List.foldl_append, List.foldl_cons, List.foldl_nil]
  refine ⟨_, w', hok, by rw [hreach, hstep], by rw [hreach, hstep], hfresh, ?_⟩
  rw [hstep] at hinv'
  exact (Pool.alive_iff_live _ _ hinv'.ginv _ List.mem_cons_self).mpr List.mem_cons_self

/-! ### the callbacks are never consulted -/

theorem step_run_indep (pr' : ProbeRunner) {s : St} {fl : List Nat} (h : HInv s fl) (op : Op) :
    step pr s op = step pr' s op := by
  cases op with
  | new => simp only [step, newEntity0_run_indep pr pr' h.winv h.unlocked]
  | del e =>
    by_cases hi : e ∈ s.issued
    · have := removeEntity_run_indep pr pr' h.winv h.unlocked e
        (fun ha => (h.live_of_alive hi ha).2)
      simp only [step, this]
    · simp only [step, hi, if_false]
  | set e ids vals => simp only [step, opSet_run_indep pr pr' h.winv e ids vals]

theorem run_run_indep (pr' : ProbeRunner) (ops : List Op) : ∀ (s : St) (fl : List Nat),
    HInv s fl → s.live.length + ops.length < 2 ^ 32 → run pr s ops = run pr' s ops := by
  induction ops with
  | nil => intro s fl _ _; simp only [run, List.foldl_nil]
  | cons op ops ih =>
    intro s fl h hb
    simp only [List.length_cons] at hb
    obtain ⟨⟨fl1, h1⟩, hlen⟩ := step_inv pr h (by omega) op
    have := ih _ fl1 h1 (by omega)
    simp only [run, List.foldl_cons] at this ⊢
    rw [this, step_run_indep pr pr' h op]

/-- the reached state does not depend on the callback runner: no observer ever fires -/
theorem reach_run_indep (pr' : ProbeRunner) (ops : List Op) (hlen : ops.length < 2 ^ 32 - 1) :
    reach pr cap rel ops = reach pr' cap rel ops :=
  run_run_indep pr pr' ops _ [] (hinv_init cap rel) (by
    show 0 + ops.length < 2 ^ 32
    omega)

/-! ### `issued` is exactly the set of handles returned by the `new` calls of the history -/

theorem step_issued (s : St) (op : Op) (h : Ent) :
    h ∈ (step pr s op).issued ↔
      h ∈ s.issued ∨ (op = .new ∧ retOf (opNewEntity0 pr s.w) = some h) := by
  cases op with
  | new =>
    simp only [step]
    cases opNewEntity0 pr s.w with
    | ok e w' =>
      simp only [retOf, List.mem_cons, true_and, Option.some.injEq]
      rw [or_comm, eq_comm]
    | panic k w' => simp [retOf]
  | del e =>
    have : (step pr s (.del e)).issued = s.issued := by
      simp only [step]
      split
      · split <;> rfl
      · rfl
    rw [this]; simp
  | set e ids vals =>
    have : (step pr s (.set e ids vals)).issued = s.issued := by
      simp only [step]; split <;> rfl
    rw [this]; simp

theorem run_issued (ops : List Op) : ∀ (s : St) (h : Ent),
    h ∈ (run pr s ops).issued ↔ h ∈ s.issued ∨
      ∃ ops1 ops2, ops = ops1 ++ .new :: ops2 ∧
        retOf (opNewEntity0 pr (run pr s ops1).w) = some h := by
  induction ops with
  | nil =>
    intro s h
    constructor
    · exact fun h1 => Or.inl h1
    · rintro (h1 | ⟨ops1, ops2, heq, _⟩)
      · exact h1
      · cases ops1 <;> cases heq
  | cons op ops ih =>
    intro s h
    have hrun : ∀ l, run pr s (op :: l) = run pr (step pr s op) l := fun _ => by
      simp only [run, List.foldl_cons]
    rw [hrun, ih, step_issued]
    constructor
    · rintro ((h1 | ⟨rfl, h2⟩) | ⟨ops1, ops2, rfl, h3⟩)
      · exact Or.inl h1
      · exact Or.inr ⟨[], ops, rfl, h2⟩
      · exact Or.inr ⟨op :: ops1, ops2, rfl, by rw [hrun]; exact h3⟩
    · rintro (h1 | ⟨ops1, ops2, heq, h3⟩)
      · exact Or.inl (Or.inl h1)
      · cases ops1 with
        | nil =>
          injection heq with h4 h5
          subst h4; subst h5
          exact Or.inl (Or.inr ⟨rfl, h3⟩)
        | cons o ops1 =>
          injection heq with h4 h5
          subst h4
          rw [hrun] at h3
          exact Or.inr ⟨ops1, ops2, h5, h3⟩

/-- a handle is in `issued` iff some `new` of the history returned it -/
theorem issued_iff_returned (ops : List Op) (h : Ent) :
    h ∈ (reach pr cap rel ops).issued ↔
      ∃ ops1 ops2, ops = ops1 ++ .new :: ops2 ∧
        retOf (opNewEntity0 pr (reach pr cap rel ops1).w) = some h := by
  have := run_issued pr ops (St.init cap rel) h
  constructor
  · intro hm
    rcases this.mp hm with h1 | h1
    · cases h1
    · exact h1
  · exact fun hh => this.mpr (Or.inr hh)

/-! ### non-vacuity: a concrete history with recycling -/

/-- create 3, delete the middle one, create 2 more (the first of them recycles ID 3) -/
def demoOps : List Op := [.new, .new, .new, .del ⟨3, 0⟩, .new, .new]

example :
    let s := reach noProbe 4 1 demoOps
    -- handles returned, newest first: 5.0, 3.1 (recycled), 4.0, 3.0, 2.0
    s.issued = [⟨5, 0⟩, ⟨3, 1⟩, ⟨4, 0⟩, ⟨3, 0⟩, ⟨2, 0⟩] ∧
    s.live = [⟨5, 0⟩, ⟨3, 1⟩, ⟨4, 0⟩, ⟨2, 0⟩] ∧
    -- the alive vector over all returned handles: only 3.0 is dead
    s.issued.map s.w.alive = [true, true, true, false, true] ∧
    -- the rows of table 0 (swap-remove moved 4.0 into row 1)
    ((s.w.tbl 0).ents.take (s.w.tbl 0).len) = [⟨2, 0⟩, ⟨4, 0⟩, ⟨3, 1⟩, ⟨5, 0⟩] ∧
    s.w.entities = [(maxU32, 0), (maxU32, 0), (0, 0), (0, 2), (0, 1), (0, 3)] ∧
    s.w.pool.len = 4 ∧ s.w.tables.length = 1 := by
  decide +kernel

/-- the state after `new; del 2.0`: slot 2 is on the free list with generation 1 -/
def forgedW : World := (reach noProbe 4 1 [.new, .del ⟨2, 0⟩]).w

/-- **Why the specifications are restricted to returned handles.**  `Alive` compares only the
    generation stored in the slot.  After `2.0` was removed, slot 2 is on the free list with
    the bumped generation 1, so the handle `2.1` — never returned by any call, and exactly the
    handle the next `NewEntity()` will return — already tests alive.  Hence `w.alive e = false`
    is not a valid freshness statement for `NewEntity()`, and `RemoveEntity`/`Alive` are exact
    only for handles the world has handed out. -/
theorem forged_alive :
    forgedW.alive ⟨2, 0⟩ = false ∧ forgedW.alive ⟨2, 1⟩ = true ∧
    (forgedW.pool.get).2 = ⟨2, 1⟩ ∧
    (⟨2, 1⟩ : Ent) ∉ (reach noProbe 4 1 [.new, .del ⟨2, 0⟩]).issued := by
  decide +kernel

/-- **Model-fidelity note (forged handles only).**  Removing the forged handle `2.1` is accepted
    by the model (`World.tbl` answers a default table for the index entry `maxU32`) and recycles
    the free slot a second time: the free list becomes the cycle `2 → 2` and the next two
    `NewEntity()` calls return the same handle `2.2`.  In Go the same call dies with a runtime
    panic at `s.tables[index.table]` (index `maxTableID` out of range) before any mutation.
    Both behaviours are outside the API contract; every theorem above is therefore stated for
    handles the world has returned. -/
theorem forged_remove_model :
    let w1 := (opRemoveEntity noProbe ⟨2, 1⟩ forgedW).state
    let r2 := opNewEntity0 noProbe w1
    let r3 := opNewEntity0 noProbe r2.state
    retOf (opRemoveEntity noProbe ⟨2, 1⟩ forgedW) = some () ∧
    retOf r2 = some ⟨2, 2⟩ ∧ retOf r3 = some ⟨2, 2⟩ ∧ (r3.state.tbl 0).len = 2 := by
  decide +kernel

end Ark.Props.C01Hist
