/-
  C16, last clause — "… and filters and observers that were registered before can be registered
  again."  Model level: the full model, with relations, the filter cache and observers
  (definitions and proofs: Ark/Proofs/ResetRegister.lean; hypotheses as for
  `C16World.reset_establishes`, all of which hold in a new world and again after `Reset`).

  Hypothesis the proof forced (finding): `Register` of a filter walks the archetypes, and `Reset`
  keeps them.  The walk indexes `relationTables[componentsMap[rels[0].component]]` in every
  relation archetype the filter matches; if that component is not a column there, it is a Go
  runtime panic — before `Reset`, after `Reset`, but NOT on a new world (which has no such
  archetype yet): `bogus_relation_filter` is the concrete model-level example.  Typed filters
  cannot get there: `relationSlice.ToRelations` (relation.go) panics unless every relation
  component is a relation component of the filter's mask, which implies the condition
  (`RelsOK`, `relsOK_of_mask`, `HeadColOK.of_relsOK`).
-/
import Ark.Proofs.ResetRegister

set_option autoImplicit false

namespace Ark.Props.C16Register
open Ark Ark.World

/-- **filters can be registered again**: after `Reset` every filter object has the filter and the
    relations it had and is not marked registered, and `FilterN.Register` of any filter object
    whose archetype walk did not panic in the world before `Reset` succeeds -/
theorem filters_can_be_registered_again : type_of% @filter_reregister := @filter_reregister

/-- **observers can be registered again**: after `Reset` every observer object has the
    specification it had and no ID, the registry is the same, and `Observer.Register` succeeds iff
    the specification passes the two checks of `AddObserver` (callback present; a relation
    observer names relation components) in the world before `Reset` -/
theorem observers_can_be_registered_again : type_of% @observer_reregister := @observer_reregister

/-- a registration of an observer that succeeds passed the checks on its specification -/
theorem registered_once_passed_checks : type_of% @opObsRegister_ok_inv := @opObsRegister_ok_inv

/-- in any world in the empty state `Register` of a filter succeeds, provided the first relation
    of the filter object names a column of every relation archetype the filter matches -/
theorem register_filter_in_empty_state : type_of% @EmptyState.opFilterRegister_ok :=
  @EmptyState.opFilterRegister_ok

/-- `Register` of an observer object without ID succeeds if the two checks pass -/
theorem register_observer_without_id : type_of% @opObsRegister_ok_of := @opObsRegister_ok_of

/-- the condition is the one under which the walk does not panic in the world before `Reset` … -/
theorem walk_ok_gives_condition : type_of% @headColOK_of_walk := @headColOK_of_walk

/-- … `Reset` keeps it … -/
theorem reset_keeps_condition : type_of% @HeadColOK.resetW := @HeadColOK.resetW

/-- … and it follows from the general panic-freedom condition `RelsOK` of the cache proofs -/
theorem condition_of_relsOK : type_of% @HeadColOK.of_relsOK := @HeadColOK.of_relsOK

/-- the hypotheses are satisfiable: a new world (`reset_hyps_init`) -/
example (cap relCap maxComps : Nat) :
    ∃ (w' : World), opReset (World.init cap relCap maxComps) = .ok () w' ∧
      ∀ l : Nat, (w'.obs.obj l).oid = none := by
  obtain ⟨hl, hS, hI, hR, hC, hFE, hRes, hSt, hOB, hOR, hFR⟩ := Ark.reset_hyps_init cap relCap maxComps
  obtain ⟨w', h1, _, h2⟩ := observer_reregister _ hl hS hI hR hC hFE hRes hSt hOB hOR hFR
  exact ⟨w', h1, fun l => (h2 l).2.1⟩

/-! ## non-vacuity: a concrete world -/

section Demo

private def noRun : ProbeRunner := fun _ _ _ => pure ()

/-- Components 0 (plain), 1 and 2 (relations).  Filter objects: label 0 "has 0"; label 1 "has 0
    and 1, relation 1 → p1" (a well-formed relation filter); label 2 "has 0, relation 2 → p1"
    (ill-formed: component 2 is not in its mask).  Observers 10 (`OnCreateEntity`) and 11
    (`OnRemoveRelations` of component 1); observer 12 has no callback.  Entities: targets `p1`,
    `p2`; `4.0` with component 0; `5.0`, `6.0` with components 0, 1 and targets `p1`, `p2`.
    Filters 0 and 1 and observers 10 and 11 are registered. -/
private def setup : W Unit := do
  let _ ← registerComponent {}
  let _ ← registerComponent { isRel := true }
  let _ ← registerComponent { isRel := true }
  let p1 ← opNewEntity0 noRun
  let p2 ← opNewEntity0 noRun
  M.modify fun w => { w with
    filters := [(0, { filter := { mask := Mask.ofList [0] }, ids := [0] }),
                (1, { filter := { mask := Mask.ofList [0, 1] }, ids := [0, 1], rels := [⟨1, p1⟩] }),
                (2, { filter := { mask := Mask.ofList [0] }, ids := [0], rels := [⟨2, p1⟩] })]
    obs := ((w.obs.setObj 10 { spec := { event := Ev.onCreateEntity } }).setObj 11
      { spec := { event := Ev.onRemoveRelations, comps := [1] } }).setObj 12
      { spec := { event := Ev.onCreateEntity, hasCallback := false } } }
  opObsRegister 10
  opObsRegister 11
  let _ ← opNewEntity noRun .unsafe_ [0] [(0, 5)] []
  let _ ← opNewEntity noRun .unsafe_ [0, 1] [(0, 7)] [⟨1, p1⟩]
  let _ ← opNewEntity noRun .unsafe_ [0, 1] [(0, 8)] [⟨1, p2⟩]
  opFilterRegister 0
  opFilterRegister 1

private def isOk {α : Type} : Res World α → Bool
  | .ok _ _ => true
  | .panic _ _ => false

private def panicOf {α : Type} : Res World α → Option PanicKind
  | .ok _ _ => none
  | .panic k _ => some k

/-- the world before `Reset` -/
private def w0 : World := (setup (World.init 4 2)).state
/-- the world after `Reset` -/
private def w1 : World := (opReset w0).state
/-- a new world with the same component types -/
private def wNew : World :=
  ((do let _ ← registerComponent {}
       let _ ← registerComponent { isRel := true }
       let _ ← registerComponent { isRel := true }
       let p1 ← opNewEntity0 noRun
       let _ ← opNewEntity0 noRun
       M.modify fun w => { w with
         filters := [(2, { filter := { mask := Mask.ofList [0] }, ids := [0], rels := [⟨2, p1⟩] })] } :
     W Unit) (World.init 4 2)).state

/-- the set-up runs; before `Reset` the two filters and the two observers are registered, and
    registering them again is refused -/
example :
    isOk (setup (World.init 4 2)) = true ∧ w0.isLocked = false ∧
    w0.filters.map (·.2.cache) = [some 0, some 1, none] ∧
    w0.cache.filters.map (·.tables.tables) = [[1, 2, 3], [2]] ∧
    (w0.obs.obj 10).oid = some 0 ∧ (w0.obs.obj 11).oid = some 1 ∧
    panicOf (opFilterRegister 0 w0) = some .filterRegistered ∧
    panicOf (opFilterRegister 1 w0) = some .filterRegistered ∧
    panicOf (opObsRegister 10 w0) = some .obsRegistered ∧
    panicOf (opObsRegister 11 w0) = some .obsRegistered := by
  decide +kernel

/-- the hypothesis of `filters_can_be_registered_again` holds for the filters 0 and 1 (their walk
    does not panic before `Reset`), and the two checks of `AddObserver` hold for 10 and 11 -/
example :
    (w0.getCacheTables (w0.filterObj 0).filter (w0.filterObj 0).rels).isSome = true ∧
    (w0.getCacheTables (w0.filterObj 1).filter (w0.filterObj 1).rels).isSome = true ∧
    (w0.obs.obj 10).spec.hasCallback = true ∧ (w0.obs.obj 11).spec.hasCallback = true ∧
    (ObsMgr.computeData (w0.obs.obj 10).spec (fun c => w0.isRelComp c)).isSome = true ∧
    (ObsMgr.computeData (w0.obs.obj 11).spec (fun c => w0.isRelComp c)).isSome = true := by
  decide +kernel

/-- `Reset` succeeds; afterwards nothing is registered, the objects are kept … -/
example :
    isOk (opReset w0) = true ∧
    w1.filters.map (·.2.cache) = [none, none, none] ∧
    w1.filters.map (·.2.filter) = w0.filters.map (·.2.filter) ∧
    w1.filters.map (·.2.rels) = w0.filters.map (·.2.rels) ∧
    (w1.obs.obj 10).oid = none ∧ (w1.obs.obj 11).oid = none ∧
    (w1.obs.obj 10).spec = (w0.obs.obj 10).spec ∧ (w1.obs.obj 11).spec = (w0.obs.obj 11).spec := by
  decide +kernel

/-- … and every one of them can be registered again: the filters get cache entries (with the —
    now empty — tables the walk selects), the observers get IDs and are listed again -/
example :
    isOk (opFilterRegister 0 w1) = true ∧ isOk (opFilterRegister 1 w1) = true ∧
    isOk (opObsRegister 10 w1) = true ∧ isOk (opObsRegister 11 w1) = true ∧
    ((opFilterRegister 0 w1).state.filterObj 0).cache = some 0 ∧
    (opFilterRegister 0 w1).state.cache.filters.map (·.tables.tables) = [[1]] ∧
    (opFilterRegister 1 w1).state.cache.filters.map (·.tables.tables) = [[]] ∧
    ((opObsRegister 10 w1).state.obs.obj 10).oid = some 0 ∧
    (opObsRegister 11 w1).state.obs.hasObservers Ev.onRemoveRelations = true := by
  decide +kernel

/-- an observer that could not be registered before (no callback) cannot be registered after
    `Reset` either — for the same reason, not because of a stale ID -/
example :
    panicOf (opObsRegister 12 w0) = some .obsNoCallback ∧
    panicOf (opObsRegister 12 w1) = some .obsNoCallback := by
  decide +kernel

/-- **finding (the hypothesis on the walk is necessary; model level)**: the ill-formed filter
    object 2 (its relation component 2 is not a column of the relation archetype `{0, 1}` its mask
    matches) makes `Register` hit the runtime panic before `Reset` AND after `Reset`, because the
    archetype is kept — while on a new world with the same component types, where that archetype
    does not exist, the same `Register` succeeds.  Not expressible through the typed Go API
    (`relationSlice.ToRelations` rejects a relation component outside the filter's mask). -/
theorem bogus_relation_filter :
    (w0.getCacheTables (w0.filterObj 2).filter (w0.filterObj 2).rels).isSome = false ∧
    panicOf (opFilterRegister 2 w0) = some .runtime ∧
    panicOf (opFilterRegister 2 w1) = some .runtime ∧
    (wNew.filterObj 2) = (w1.filterObj 2) ∧ wNew.kinds = w1.kinds ∧
    isOk (opFilterRegister 2 wNew) = true := by
  decide +kernel

end Demo

end Ark.Props.C16Register
