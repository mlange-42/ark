/-
  C02 — Entity handles are unique and liveness is exact.

  Stated over arbitrary histories of pool operations (any interleaving of creations and
  removals, any recycle order, any length).  The world model issues exactly these pool
  operations: every creation path (`NewEntity`, batch creation, `CopyEntity`) is `Pool.get`,
  every removal path is `Pool.recycle` behind the `Alive` guard (Ark/Model/World.lean; checked
  against the implementation by the correspondence runs).

  Hypothesis recorded once: generations are naturals (no `uint32` wrap-around, i.e. fewer than
  2^32 recycles of one ID).
-/
import Ark.Proofs.PoolHistory
import Ark.Props.C01Hist

namespace Ark.Props.C02
open Ark Ark.Pool

/-- the pool state (with ghost history) reached by an arbitrary history -/
def reach (ops : List Op) : PS := PS.init.run ops

/-- Every handle returned by a creation differs from every handle issued so far. -/
theorem fresh_handle (ops : List Op) :
    (reach ops).p.get.2 ∉ (reach ops).issued := by
  obtain ⟨fl, g⟩ := run_inv ops PS.init [] ginv_init
  exact g.fresh_get

/-- `Alive(h)` is exact: for every handle issued during the history, it is true iff the handle
    was created and not yet removed. -/
theorem alive_exact (ops : List Op) (h : Ent) :
    h ∈ (reach ops).issued → ((reach ops).p.alive h = true ↔ h ∈ (reach ops).live) := by
  intro hi
  obtain ⟨fl, g⟩ := run_inv ops PS.init [] ginv_init
  exact alive_iff_live _ fl g h hi

/-- A removed handle never becomes alive again: once a handle has left the live set it can
    never re-enter it, because every later creation returns a handle not issued before. -/
theorem dead_stays_dead (ops : List Op) (h : Ent) :
    h ∈ (reach ops).issued → h ∉ (reach ops).live → ∀ op, h ∉ ((reach ops).step op).live := by
  intro hi hnl op
  cases op with
  | get =>
    simp only [PS.step, List.mem_cons, not_or]
    refine ⟨?_, hnl⟩
    intro heq
    exact fresh_handle ops (heq ▸ hi)
  | recycle e =>
    simp only [PS.step]
    split
    · intro hm; exact hnl (List.mem_of_mem_erase hm)
    · exact hnl

/-- The number of alive entities the pool reports (`Len`) equals the number of live handles,
    i.e. creations minus removals. -/
theorem count_exact (ops : List Op) :
    (reach ops).p.len = (reach ops).live.length := by
  obtain ⟨fl, g⟩ := run_inv ops PS.init [] ginv_init
  show (PS.init.run ops).p.len = (PS.init.run ops).live.length
  generalize PS.init.run ops = s at g ⊢
  have h1 := g.count
  have h2 := g.pinv.avail
  simp only [Pool.len, Pool.reserved]
  omega

/-- Live handles are pairwise distinct, and distinct live handles have distinct IDs. -/
theorem live_unique (ops : List Op) :
    (reach ops).live.Nodup ∧ ∀ a ∈ (reach ops).live, ∀ b ∈ (reach ops).live, a.id = b.id → a = b := by
  obtain ⟨fl, g⟩ := run_inv ops PS.init [] ginv_init
  show (PS.init.run ops).live.Nodup ∧ ∀ a ∈ (PS.init.run ops).live, ∀ b ∈ (PS.init.run ops).live, a.id = b.id → a = b
  generalize PS.init.run ops = s at g ⊢
  refine ⟨g.live_nodup, ?_⟩
  intro a ha b hb hab
  obtain ⟨_, _, ca⟩ := (g.live_iff a).mp ha
  obtain ⟨_, _, cb⟩ := (g.live_iff b).mp hb
  rw [hab, cb] at ca
  injection ca with ca
  exact ca.symm

/-- After `Reset` no handle of the previous epoch is alive (until its ID is created again):
    the pool memory behind the truncated slice only holds the sentinel generation. -/
theorem reset_kills (p : Pool) (hstale : ∀ e ∈ p.stale, e.gen = maxU32) (h : Ent)
    (h2 : 2 ≤ h.id) (hgen : h.gen ≠ maxU32) : p.reset.alive h = false := by
  simp only [Pool.alive, Pool.reset]
  split
  · rename_i s hs
    have hlen : (p.ents.take Pool.reserved).length ≤ h.id := by
      simp only [List.length_take, Pool.reserved]; omega
    rw [List.getElem?_append_right hlen] at hs
    have hm := List.mem_of_getElem? hs
    rcases List.mem_append.mp hm with hm | hm
    · obtain ⟨e, _, he⟩ := List.mem_map.mp hm
      subst he
      simp
      exact fun hh => hgen hh.symm
    · have := hstale s hm
      simp [this]
      exact fun hh => hgen hh.symm
  · rfl

/-! Non-vacuity: a concrete history with recycling in LIFO and FIFO order. -/
example :
    let s := reach [.get, .get, .get, .recycle ⟨2, 0⟩, .recycle ⟨4, 0⟩, .get, .get, .recycle ⟨4, 1⟩, .get]
    s.live.length = 3 ∧ s.issued.length = 6 ∧ s.p.alive ⟨4, 0⟩ = false ∧ s.p.alive ⟨4, 2⟩ = true := by
  decide


/-! ### World level (the model's NewEntity/RemoveEntity operations, histories of fewer than 2^32 − 1 operations) -/

/-- World.Alive(h) holds exactly for the handles created and not yet removed, after every such history of world operations of the fragment -/
theorem alive_exact_world : type_of% @Ark.Props.C01Hist.alive_exact_world := @Ark.Props.C01Hist.alive_exact_world

/-- used entities = alive handles = number of table rows, after any such history -/
theorem count_world : type_of% @Ark.Props.C01Hist.count_world := @Ark.Props.C01Hist.count_world

/-- every NewEntity returns a handle different from all handles returned before -/
theorem handles_fresh_world : type_of% @Ark.Props.C01Hist.handles_fresh_world := @Ark.Props.C01Hist.handles_fresh_world

end Ark.Props.C02
