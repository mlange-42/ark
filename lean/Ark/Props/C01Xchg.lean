/-
  Ark.Props.C01Xchg — C01 (faithful store) and C04 (relation targets stay consistent) for
  `Exchange` in worlds WITH relation components.

  §1 world level: from any world satisfying the joint invariant `TInv` (unlocked, no observers), for
  a live entity whose ID and target IDs lie inside the pool slice (true of every handle a client was
  given), `Exchange(e, add, rem, rels)` writing `vals`, through `Unsafe.Exchange` and
  `ExchangeN.Exchange`.  All paths validate their relation arguments first; a relation component of
  the new archetype without a relation, and a relation component named twice, are refused only by
  `GetTable` / `createTable`, after the archetype was created (refused, not without effect), as
  for `Add` and `NewEntity`.

  §2 over histories: the machine `Ark.RelRefine3`, `Op3 = base2 (op : Op2) | xchg p e add vals rem
  rels`, on top of the machine of Ark/Props/C05Rel.lean / C01Rel.lean; fewer than `2^16` operations,
  `Reset` anywhere.  An `xchg` is a step (`guardXchg`) for a handle the client holds, registered
  components to add, a relation list naming no relation component twice and every relation
  component added (`RelsStep`), expressible targets; its precondition `preXchg` speaks about the
  specification only.

  §3 the exchange batch over relation tables (C06): `exchangeBatch` with callback `nil`, no
  observers, an uncached filter with typed relation constraints, in a `TInv` world.  The batch runs
  table selection, lookup loop, `Lock`, move loop, `Unlock` (`batch_normal_form_planFirst`; the
  lock is taken after the lookup loop, so a panic of that loop leaves the lock state as it was:
  repair of defect D27).  `batch_normal_form` (lock first) is still an equation of the operation
  when the lookup loop succeeds, because selection and lookup loop neither read nor write the lock;
  the specifications are proved from it.
-/
import Ark.Proofs.RelExchangeHist
import Ark.Proofs.RelExchangeBatchSpec
import Ark.Props.C06Rel
import Ark.Props.C04World
import Ark.Props.C01Rel

set_option autoImplicit false

namespace Ark.Props.C01Xchg
open Ark Ark.World Ark.Props.C01World

/-! ## 1. world level -/

/-- **`Exchange` with relations, accepted**: when the documented preconditions `XchgPre` hold (not
    both lists empty; `rem` distinct components of `e`; `add` distinct registered components `e`
    lacks; `rels` names exactly the relation components among `add`, none twice, with zero or alive
    targets) the call succeeds with `XchgRelPost`: `TInv` is kept, `e` has the components
    `(current \ rem) ∪ add` with the last values written (zero for an added one never written), the
    targets given for added relation components and its old ones for kept ones; nobody else changes -/
theorem exchange_accepted (run : ProbeRunner) (p : Path) {w : World} {fl : List Nat}
    (h : TInv w fl) (hl : w.isLocked = false) (hno : ∀ (evt : Nat), w.obs.hasObservers evt = false)
    {e : Ent} (h2 : 2 ≤ e.id) (hnf : e.id ∉ fl) (ha : w.alive e = true)
    (hsl : e.id < w.pool.ents.length) {add rem : List Comp}
    {rels : List RelID} (hp : XchgPre w e add rem rels) (vals : List (Comp × Val))
    (htin : ∀ (r : RelID), r ∈ rels → r.target.id < w.pool.ents.length)
    (hfew : w.tables.length < maxU32) (hrows : w.entities.length + 1 < 2 ^ 32) :
    ∃ (w' : World), opExchange run p e add vals rem rels w = .ok () w' ∧
      XchgRelPost w fl e add rem vals rels w' :=
  opExchange_rel_spec run p h hl hno h2 hnf ha hsl hp vals htin hfew hrows

/-- `World.exchange` itself (before the values are written): never fails, returns the old and the
    new mask -/
theorem exchange_core (run : ProbeRunner) {w : World} {fl : List Nat} (h : TInv w fl)
    (hl : w.isLocked = false) (hno : ∀ (evt : Nat), w.obs.hasObservers evt = false) {e : Ent}
    (h2 : 2 ≤ e.id) (hnf : e.id ∉ fl) (ha : w.alive e = true) (hsl : e.id < w.pool.ents.length)
    {add rem : List Comp} {rels : List RelID} (hp : XchgPre w e add rem rels)
    (htin : ∀ (r : RelID), r ∈ rels → r.target.id < w.pool.ents.length)
    (hfew : w.tables.length < maxU32) (hrows : w.entities.length + 1 < 2 ^ 32) :
    ∃ (w' : World),
      exchangeCore run e add rem rels w =
        .ok (w.maskOf e, add.foldl Mask.set (rem.foldl Mask.clear (w.maskOf e))) w' ∧
      XchgCorePost w fl e add rem rels w' :=
  exchangeCore_rel_spec run h hl hno h2 hnf ha hsl hp htin hfew hrows

/-- **rejected**: a dead handle, on any path, whatever the other arguments -/
theorem exchange_rejected_dead (run : ProbeRunner) (p : Path) (e : Ent) (add : List Comp)
    (vals : List (Comp × Val)) (rem : List Comp) (rels : List RelID) (w : World)
    (hl : w.isLocked = false) (hd : w.alive e = false) :
    ∃ (k : PanicKind), opExchange run p e add vals rem rels w = .panic k w :=
  opExchange_rel_panic_same run p e add vals rem rels w (exchangeCore_dead run w hl e hd add rem rels)

/-- **rejected**: both component lists empty -/
theorem exchange_rejected_empty (run : ProbeRunner) (p : Path) (e : Ent) (vals : List (Comp × Val))
    (rels : List RelID) (w : World) (hl : w.isLocked = false) :
    ∃ (k : PanicKind), opExchange run p e [] vals [] rels w = .panic k w := by
  cases ha : w.alive e with
  | false => exact exchange_rejected_dead run p e [] vals [] rels w hl ha
  | true =>
    exact opExchange_rel_panic_same run p e [] vals [] rels w
      (exchangeCore_noComponents run w hl e ha rels)

/-- **rejected**: `rem ⊄ current`, `add ∩ current ≠ ∅`, or a component named twice -/
theorem exchange_rejected_misfit (run : ProbeRunner) (p : Path) (e : Ent) (add : List Comp)
    (vals : List (Comp × Val)) (rem : List Comp) (rels : List RelID) (w : World)
    (hl : w.isLocked = false) (hb : ∀ (c : Comp), c ∈ add → c < 256)
    (h : ¬ (rem.Nodup ∧ (∀ (c : Comp), c ∈ rem → (w.maskOf e).get c = true) ∧ add.Nodup ∧
      ∀ (c : Comp), c ∈ add → (w.maskOf e).get c = false)) :
    ∃ (k : PanicKind), opExchange run p e add vals rem rels w = .panic k w := by
  cases ha : w.alive e with
  | false => exact exchange_rejected_dead run p e add vals rem rels w hl ha
  | true =>
    by_cases hne : add = [] ∧ rem = []
    · obtain ⟨rfl, rfl⟩ := hne
      exact exchange_rejected_empty run p e vals rels w hl
    · obtain ⟨k, _, hk⟩ := exchangeCore_reject run e add rem rels w hl ha hne hb h
      exact opExchange_rel_panic_same run p e add vals rem rels w hk

/-- **rejected** (every path, since the repair of the `Unsafe` API): a dead target, a relation on
    a non-relation component, through `ExchangeN` and `Unsafe.Exchange` a relation on a component
    that is not added -/
theorem exchange_rejected_badRel (run : ProbeRunner) (p : Path) (e : Ent)
    (add : List Comp) (vals : List (Comp × Val)) (rem : List Comp) (rels : List RelID) (w : World)
    (hl : w.isLocked = false)
    (hbad : ∃ (r : RelID), r ∈ rels ∧
      ((r.target.isZero = false ∧ w.alive r.target = false) ∨ w.isRelComp r.comp = false ∨
        (p ≠ .map1 ∧ (Mask.ofList add).get r.comp = false))) :
    ∃ (k : PanicKind), opExchange run p e add vals rem rels w = .panic k w := by
  cases ha : w.alive e with
  | false => exact exchange_rejected_dead run p e add vals rem rels w hl ha
  | true =>
    rcases preCheck_cases p add rels w with h1 | ⟨k, h1⟩
    · exfalso
      obtain ⟨r, hr, hb⟩ := hbad
      obtain ⟨v1, v2, v3⟩ := preCheck_ok_valid p add w rels h1 r hr
      rcases hb with ⟨b1, b2⟩ | b | ⟨b1, b2⟩
      · rcases v1 with v | v
        · rw [v] at b1; cases b1
        · rw [v] at b2; cases b2
      · rw [v2] at b; cases b
      · rw [v3 b1] at b2; cases b2
    · exact ⟨k, opExchange_preCheck_panic run p e add vals rem rels w (Or.inr ha) h1⟩

/-- **accepted only if** the entity is alive and the component lists fit -/
theorem exchange_accepted_only_if (run : ProbeRunner) (p : Path) (e : Ent) (add : List Comp)
    (vals : List (Comp × Val)) (rem : List Comp) (rels : List RelID) (w : World)
    (hl : w.isLocked = false) (hb : ∀ (c : Comp), c ∈ add → c < 256) {w' : World}
    (hok : opExchange run p e add vals rem rels w = .ok () w') :
    w.alive e = true ∧ ¬ (add = [] ∧ rem = []) ∧ rem.Nodup ∧
      (∀ (c : Comp), c ∈ rem → (w.maskOf e).get c = true) ∧ add.Nodup ∧
      ∀ (c : Comp), c ∈ add → (w.maskOf e).get c = false := by
  have ha : w.alive e = true := by
    cases ha : w.alive e with
    | true => rfl
    | false =>
      obtain ⟨k, hk⟩ := exchange_rejected_dead run p e add vals rem rels w hl ha
      rw [hk] at hok; cases hok
  have hne : ¬ (add = [] ∧ rem = []) := by
    rintro ⟨rfl, rfl⟩
    obtain ⟨k, hk⟩ := exchange_rejected_empty run p e vals rels w hl
    rw [hk] at hok; cases hok
  refine ⟨ha, hne, ?_⟩
  by_cases h : rem.Nodup ∧ (∀ (c : Comp), c ∈ rem → (w.maskOf e).get c = true) ∧ add.Nodup ∧
      ∀ (c : Comp), c ∈ add → (w.maskOf e).get c = false
  · exact h
  · obtain ⟨k, hk⟩ := exchange_rejected_misfit run p e add vals rem rels w hl hb h
    rw [hk] at hok; cases hok

/-! ### non-vacuity: a world with two relation components -/

open Ark.Props.C04World (noRun summary)

/-- components: 0 = `ChildOf` (relation), 1 = `Pos`, 2 = `Vel`, 3 = `Likes` (relation) -/
def x0 : World :=
  let w := World.init 2 2
  let w := (registerComponent { isRel := true } w).state
  let w := (registerComponent {} w).state
  let w := (registerComponent {} w).state
  (registerComponent { isRel := true } w).state

def q1 : Ent := ⟨2, 0⟩
def q2 : Ent := ⟨3, 0⟩
def c4 : Ent := ⟨4, 0⟩
def c5 : Ent := ⟨5, 0⟩

def x1 : World := (opNewEntity noRun .unsafe_ [] [] [] x0).state                   -- q1
def x2 : World := (opNewEntity noRun .unsafe_ [] [] [] x1).state                   -- q2
def x3 : World := (opNewEntity noRun .typed [0, 1] [(1, 7)] [⟨0, q1⟩] x2).state    -- c4, child of q1
def x4 : World := (opNewEntity noRun .typed [0, 1] [(1, 8)] [⟨0, q1⟩] x3).state    -- c5, child of q1
/-- `Exchange(c4, add = [Vel, Likes], rem = [Pos], Likes → q2)`, writing `Vel := 9` -/
def x5 : World := (opExchange noRun .typed c4 [2, 3] [(2, 9)] [1] [⟨3, q2⟩] x4).state
/-- `Exchange(c4, add = [Pos], rem = [ChildOf, Vel])` through `Unsafe`: a relation is removed, one
    stays -/
def x6 : World := (opExchange noRun .unsafe_ c4 [1] [(1, 3)] [0, 2] [] x5).state

theorem good_x0 : Good x0 :=
  ((((good_init 2 2).registerComponent { isRel := true } (by decide +kernel)).registerComponent {}
    (by decide +kernel)).registerComponent {} (by decide +kernel)).registerComponent
    { isRel := true } (by decide +kernel)

open Ark.Good (NewOK ExchangeOK)

/-- every step of the demo history satisfies the hypotheses of its step theorem (decided together:
    each world continues the one before) -/
theorem steps_x : NewOK noRun .unsafe_ [] [] [] x0 ∧ NewOK noRun .unsafe_ [] [] [] x1 ∧
    NewOK noRun .typed [0, 1] [(1, 7)] [⟨0, q1⟩] x2 ∧
    NewOK noRun .typed [0, 1] [(1, 8)] [⟨0, q1⟩] x3 ∧
    ExchangeOK c4 [2, 3] [1] [⟨3, q2⟩] x4 ∧ ExchangeOK c4 [1] [0, 2] [] x5 := by decide +kernel

theorem good_x1 : Good x1 := good_x0.new_of steps_x.1
theorem good_x2 : Good x2 := good_x1.new_of steps_x.2.1
theorem good_x3 : Good x3 := good_x2.new_of steps_x.2.2.1
theorem good_x4 : Good x4 := good_x3.new_of steps_x.2.2.2.1

theorem xchg_x4 : ExchangeOK c4 [2, 3] [1] [⟨3, q2⟩] x4 := steps_x.2.2.2.2.1

/-- the preconditions hold for the first exchange … -/
theorem pre_x4 : XchgPre x4 c4 [2, 3] [1] [⟨3, q2⟩] := xchg_x4.2.2.2.1.toPre

/-- … so the theorem applies: no panic, and the invariant holds again -/
theorem good_x5 : panicOf (opExchange noRun .typed c4 [2, 3] [(2, 9)] [1] [⟨3, q2⟩] x4) = none ∧
    Good x5 :=
  good_x4.exchange_of noRun .typed xchg_x4 _

theorem xchg_x5 : ExchangeOK c4 [1] [0, 2] [] x5 := steps_x.2.2.2.2.2

theorem pre_x5 : XchgPre x5 c4 [1] [0, 2] [] := xchg_x5.2.2.2.1.toPre

theorem good_x6 : panicOf (opExchange noRun .unsafe_ c4 [1] [(1, 3)] [0, 2] [] x5) = none ∧
    Good x6 :=
  good_x5.2.exchange_of noRun .unsafe_ xchg_x5 _

/-- what the theorem says, observed: before / after the first / after the second exchange -/
example :
    (compsOf x4 4, valOf x4 4 1, targetOf x4 4 0, targetOf x4 4 3) =
      (some [0, 1], some 7, some q1, none) ∧
    (compsOf x5 4, valOf x5 4 1, valOf x5 4 2, targetOf x5 4 0, targetOf x5 4 3) =
      (some [0, 2, 3], none, some 9, some q1, some q2) ∧
    (compsOf x6 4, valOf x6 4 1, valOf x6 4 2, targetOf x6 4 0, targetOf x6 4 3) =
      (some [1, 3], some 3, none, none, some q2) ∧
    -- the sibling never changes
    (compsOf x6 5, valOf x6 5 1, targetOf x6 5 0) = (some [0, 1], some 8, some q1) := by
  -- componentwise: `DecidableEq` of the nested tuple types is too large an instance to synthesize
  simp only [Prod.mk.injEq]
  decide +kernel

/-- the rejections, observed (tables and archetypes unchanged): dead handle; both lists empty; removing an absent
    component; adding a present one; adding and removing the same; a dead target and a non-relation
    component through `ExchangeN`, and — since the repair of the `Unsafe` API — through
    `Unsafe.Exchange` (next example) -/
example :
    summary (opExchange noRun .typed ⟨9, 0⟩ [2] [] [] [] x4).state = summary x4 ∧
    panicOf (opExchange noRun .unsafe_ ⟨9, 0⟩ [2] [] [] [] x4) = some .deadEntity ∧
    panicOf (opExchange noRun .typed c4 [] [] [] [] x4) = some .noComponents ∧
    panicOf (opExchange noRun .typed c4 [] [] [2] [] x4) = some .missing ∧
    panicOf (opExchange noRun .typed c4 [1] [] [] [] x4) = some .alreadyHas ∧
    panicOf (opExchange noRun .typed c4 [1] [] [1] [] x4) = some .addedAndRemoved ∧
    panicOf (opExchange noRun .typed c4 [3] [] [] [⟨3, ⟨9, 0⟩⟩] x4) = some .deadTarget ∧
    panicOf (opExchange noRun .typed c4 [2] [] [] [⟨2, q2⟩] x4) = some .notRelation ∧
    (summary (opExchange noRun .typed c4 [3] [] [] [⟨3, ⟨9, 0⟩⟩] x4).state,
      (opExchange noRun .typed c4 [3] [] [] [⟨3, ⟨9, 0⟩⟩] x4).state.archetypes.length) =
      (summary x4, x4.archetypes.length) := by
  decide +kernel

/-- `Unsafe.Exchange` validates its relation arguments like `ExchangeN.Exchange` (a repaired
    defect): a dead target, a non-relation component, a relation on a component that is not added —
    refused with the classes of the typed path, tables and archetypes unchanged -/
example :
    panicOf (opExchange noRun .unsafe_ c4 [3] [] [] [⟨3, ⟨9, 0⟩⟩] x4) = some .deadTarget ∧
    panicOf (opExchange noRun .unsafe_ c4 [2] [] [] [⟨2, q2⟩] x4) = some .notRelation ∧
    panicOf (opExchange noRun .unsafe_ c4 [2] [] [] [⟨3, q2⟩] x4) = some .relNotInMask ∧
    panicOf (opExchange noRun .unsafe_ c4 [] [] [1] [⟨3, q2⟩] x4) = some .relNotInMask ∧
    (summary (opExchange noRun .unsafe_ c4 [3] [] [] [⟨3, ⟨9, 0⟩⟩] x4).state,
      (opExchange noRun .unsafe_ c4 [3] [] [] [⟨3, ⟨9, 0⟩⟩] x4).state.archetypes.length) =
      (summary x4, x4.archetypes.length) ∧
    (summary (opExchange noRun .unsafe_ c4 [2] [] [] [⟨2, q2⟩] x4).state,
      (opExchange noRun .unsafe_ c4 [2] [] [] [⟨2, q2⟩] x4).state.archetypes.length) =
      (summary x4, x4.archetypes.length) ∧
    (summary (opExchange noRun .unsafe_ c4 [2] [] [] [⟨3, q2⟩] x4).state,
      (opExchange noRun .unsafe_ c4 [2] [] [] [⟨3, q2⟩] x4).state.archetypes.length) =
      (summary x4, x4.archetypes.length) := by
  decide +kernel

/-- the hypotheses of the rejection theorems are satisfiable -/
example :
    x4.alive ⟨9, 0⟩ = false ∧
    ¬ (([2] : List Comp).Nodup ∧ (∀ (c : Comp), c ∈ [2] → (x4.maskOf c4).get c = true) ∧
      ([] : List Comp).Nodup ∧ ∀ (c : Comp), c ∈ ([] : List Comp) → (x4.maskOf c4).get c = false) ∧
    (∃ (r : RelID), r ∈ [(⟨3, ⟨9, 0⟩⟩ : RelID)] ∧
      ((r.target.isZero = false ∧ x4.alive r.target = false) ∨ x4.isRelComp r.comp = false ∨
        (Path.typed ≠ .map1 ∧ (Mask.ofList [3]).get r.comp = false))) ∧
    (∃ (r : RelID), r ∈ [(⟨3, q2⟩ : RelID)] ∧
      ((r.target.isZero = false ∧ x4.alive r.target = false) ∨ x4.isRelComp r.comp = false ∨
        (Path.unsafe_ ≠ .map1 ∧ (Mask.ofList [2]).get r.comp = false))) := by
  decide +kernel

/-- **finding** (as for `Add` / `NewEntity`; on every path, not touched by the repair of the
    `Unsafe` API): a relation component that is added without a relation for it is refused only
    after the archetype was created — here a missing target for the added relation component
    `Likes`: the call panics and leaves a new archetype behind -/
example :
    panicOf (opExchange noRun .unsafe_ c4 [3] [] [] [] x4) = some .relUnspecified ∧
    (x4.archetypes.length, (opExchange noRun .unsafe_ c4 [3] [] [] [] x4).state.archetypes.length) =
      (2, 3) := by
  decide +kernel

/-! ## 2. over histories: `Exchange` as a step of the relation machine -/

section Hist
open Ark.RelRefine Ark.RelRefine2 Ark.RelRefine3 Ark.QueryRel Ark.QueryExact
open Ark.Refine (Comps keys sortedIds)

variable (run : ProbeRunner) (cap rel : Nat)

/-- **the step keeps the invariant** `HInv2` (⊇ `RelRefine.HInv` ⊇ `TInv`, and the filter-side
    invariant), creates at most one table and one relation archetype; rejected without effect when
    the precondition fails; accepted when it holds -/
theorem xchg_keeps_invariant {s : St} {fl : List Nat} (H : HInv2 s fl)
    (hfew : s.w.tables.length < maxU32) (hent : s.w.entities.length + 1 < 2 ^ 32)
    (p : Path) (e : Ent) (add : List Comp) (vals : Comps) (rem : List Comp) (rels : Rels) :
    (∃ fl', HInv2 (step3 run s (.xchg p e add vals rem rels)) fl') ∧
    Grows s (step3 run s (.xchg p e add vals rem rels)) ∧
    (guardXchg s p e add rels = true → ¬ preXchg s.ss e add rem rels →
      ∃ k, opExchange run p e add vals rem rels s.w = .panic k s.w) ∧
    (guardXchg s p e add rels = true → preXchg s.ss e add rem rels →
      ∃ w', opExchange run p e add vals rem rels s.w = .ok () w') :=
  step3_xchg run H hfew hent p e add vals rem rels

/-- the invariant at every reachable state (`Reset` included) -/
theorem reach_inv (ops : List Op3) (hlen : ops.length < 2 ^ 16)
    : ∃ fl, HInv2 (reach3 run cap rel ops) fl :=
  reach3_inv run cap rel ops hlen

/-- **refines** — after every history with `Exchange` (and `Reset`), every entry `(e, en)` of the
    specification is realised by the world: alive, component set, values, relation targets -/
theorem refines (ops : List Op3) (hlen : ops.length < 2 ^ 16)
    (e : Ent) (en : Entry)
    (hm : (e, en) ∈ (reach3 run cap rel ops).ss.ents) :
    (reach3 run cap rel ops).w.alive e = true ∧
    compsOf (reach3 run cap rel ops).w e.id =
      some (sortedIds (reach3 run cap rel ops).w.kinds.length (keys en.comps)) ∧
    (∀ cv ∈ en.comps, valOf (reach3 run cap rel ops).w e.id cv.1 = some cv.2) ∧
    (∀ r ∈ en.rels, targetOf (reach3 run cap rel ops).w e.id r.comp = some r.target) ∧
    (keys en.comps).Nodup ∧ (en.rels.map (·.comp)).Nodup ∧
    (∀ c : Comp, c ∈ en.rels.map (·.comp) ↔
      c ∈ keys en.comps ∧ (reach3 run cap rel ops).w.isRelComp c = true) := by
  obtain ⟨fl, H⟩ := reach3_inv run cap rel ops hlen
  obtain ⟨_, ha, _⟩ := H.base.live_facts hm
  have ok := H.base.ok e en hm
  exact ⟨ha, ok.comps, ok.vals, ok.tgts, ok.nodup, ok.relNodup,
    fun c => by rw [ok.relKeys c, H.base.rget]⟩

theorem alive_iff_specified (ops : List Op3) (hlen : ops.length < 2 ^ 16)
    (h : Ent)
    (hi : h ∈ (reach3 run cap rel ops).issued) :
    (reach3 run cap rel ops).w.alive h = true ↔
      (find (reach3 run cap rel ops).ss.ents h).isSome = true := by
  obtain ⟨fl, H⟩ := reach3_inv run cap rel ops hlen
  constructor
  · intro ha
    obtain ⟨en, hf, _⟩ := H.base.find_of_alive hi ha
    rw [hf]; rfl
  · exact H.base.alive_of_find

/-- a history without `xchg` is a history of the machine of C05Rel / C01Rel -/
theorem conservative (ops : List Op2) :
    reach3 run cap rel (ops.map .base2) = reach2 run cap rel ops :=
  reach3_base2 run cap rel ops

/-- **rejected** — an `xchg` step whose precondition `preXchg` fails panics with the world, and the
    whole machine state, unchanged -/
theorem xchg_rejected (ops : List Op3) (hlen : ops.length + 1 < 2 ^ 16)
    (p : Path) (e : Ent) (add : List Comp) (vals : Comps)
    (rem : List Comp) (rels : Rels)
    (hg : guardXchg (reach3 run cap rel ops) p e add rels = true)
    (hnp : ¬ preXchg (reach3 run cap rel ops).ss e add rem rels) :
    (∃ k, opExchange run p e add vals rem rels (reach3 run cap rel ops).w =
      .panic k (reach3 run cap rel ops).w) ∧
    reach3 run cap rel (ops ++ [.xchg p e add vals rem rels]) = reach3 run cap rel ops := by
  obtain ⟨fl, H⟩ := reach3_inv run cap rel ops (by omega)
  obtain ⟨hfew, hent⟩ := reach3_fits run cap rel ops hlen
  obtain ⟨_, _, hrej, _⟩ := step3_xchg run H (by omega) (by omega) p e add vals rem rels
  obtain ⟨k, hk⟩ := hrej hg hnp
  refine ⟨⟨k, hk⟩, ?_⟩
  rw [reach3_snoc]
  simp only [step3, if_pos hg, hk, Res.state, specXchg_of_not_pre _ _ _ _ _ _ hnp]

/-- **accepted** — an `xchg` step whose precondition holds succeeds -/
theorem xchg_accepted (ops : List Op3) (hlen : ops.length + 1 < 2 ^ 16)
    (p : Path) (e : Ent) (add : List Comp) (vals : Comps)
    (rem : List Comp) (rels : Rels)
    (hg : guardXchg (reach3 run cap rel ops) p e add rels = true)
    (hp : preXchg (reach3 run cap rel ops).ss e add rem rels) :
    ∃ w', opExchange run p e add vals rem rels (reach3 run cap rel ops).w = .ok () w' := by
  obtain ⟨fl, H⟩ := reach3_inv run cap rel ops (by omega)
  obtain ⟨hfew, hent⟩ := reach3_fits run cap rel ops hlen
  obtain ⟨_, _, _, hacc⟩ := step3_xchg run H (by omega) (by omega) p e add vals rem rels
  exact hacc hg hp

/-- the entry of `e` after an accepted `xchg` -/
theorem xchg_entry (ops : List Op3) (p : Path) (e : Ent) (add : List Comp) (vals : Comps)
    (rem : List Comp) (rels : Rels) {en : Entry}
    (hg : guardXchg (reach3 run cap rel ops) p e add rels = true)
    (hf : find (reach3 run cap rel ops).ss.ents e = some en)
    (hok : XchgOK (reach3 run cap rel ops).ss en add rem rels) :
    find (reach3 run cap rel (ops ++ [.xchg p e add vals rem rels])).ss.ents e =
      some (xchgEntry (reach3 run cap rel ops).ss.zst add vals rem rels en) ∧
    (reach3 run cap rel (ops ++ [.xchg p e add vals rem rels])).issued =
      (reach3 run cap rel ops).issued := by
  rw [reach3_snoc]
  simp only [step3, if_pos hg, specXchg, hf, if_pos hok]
  exact ⟨find_upd_self _ hf, trivial⟩

/-- **frame** — an `xchg` on `e` never changes another entity's entry -/
theorem xchg_others (ops : List Op3) (p : Path) (e : Ent) (add : List Comp) (vals : Comps)
    (rem : List Comp) (rels : Rels) {x : Ent} (hx : x ≠ e) :
    find (reach3 run cap rel (ops ++ [.xchg p e add vals rem rels])).ss.ents x =
      find (reach3 run cap rel ops).ss.ents x := by
  rw [reach3_snoc]
  simp only [step3]
  split
  · simp only [specXchg]
    cases hf : find (reach3 run cap rel ops).ss.ents e with
    | none => rfl
    | some en =>
      simp only
      split
      · exact find_upd_ne _ _ hx
      · rfl
  · rfl

/-- **the effect of an accepted `Exchange`** over histories -/
theorem xchg_effect (ops : List Op3) (hlen : ops.length + 1 < 2 ^ 16)
    (p : Path) (e : Ent) (add : List Comp) (vals : Comps)
    (rem : List Comp) (rels : Rels) {en : Entry}
    (hg : guardXchg (reach3 run cap rel ops) p e add rels = true)
    (hf : find (reach3 run cap rel ops).ss.ents e = some en)
    (hok : XchgOK (reach3 run cap rel ops).ss en add rem rels) :
    let s' := reach3 run cap rel (ops ++ [.xchg p e add vals rem rels])
    let en' := xchgEntry (reach3 run cap rel ops).ss.zst add vals rem rels en
    s'.w.alive e = true ∧
    compsOf s'.w e.id = some (sortedIds s'.w.kinds.length
      (((keys en.comps).filter fun c => decide (c ∉ rem)) ++ add)) ∧
    (∀ cv ∈ en'.comps, valOf s'.w e.id cv.1 = some cv.2) ∧
    (∀ r ∈ en'.rels, targetOf s'.w e.id r.comp = some r.target) := by
  intro s' en'
  have hent := (xchg_entry run cap rel ops p e add vals rem rels hg hf hok).1
  have hm := find_some_mem hent
  have hlen' : (ops ++ [Op3.xchg p e add vals rem rels]).length < 2 ^ 16 := by
    rw [List.length_append, List.length_singleton]; exact hlen
  obtain ⟨h1, h2, h3, h4, _⟩ := refines run cap rel _ hlen' e _ hm
  refine ⟨h1, ?_, h3, h4⟩
  rw [h2]
  have hk : keys en'.comps = ((keys en.comps).filter fun c => decide (c ∉ rem)) ++ add := by
    show keys (Refine.writeComps (reach3 run cap rel ops).ss.zst vals
      ((en.comps.filter fun cv => decide (cv.1 ∉ rem)) ++ Refine.zeros add)) = _
    rw [Refine.keys_writeComps, Refine.keys_append, Refine.keys_zeros, keys_filter_eq]
  rw [hk]

/-- the cache invariant at every reachable state of the extended machine -/
theorem cacheInv (ops : List Op3) (hlen : ops.length < 2 ^ 16)
    : CacheInv (reach3 run cap rel ops).w := by
  obtain ⟨fl, H⟩ := reach3_inv run cap rel ops hlen
  exact H.cacheInv

end Hist

/-! ### non-vacuity: the worlds of §1 as a history -/

open Ark.RelRefine Ark.RelRefine2 Ark.RelRefine3 in
/-- the history behind `x4`, then the two exchanges of §1, a `Shrink`, and a rejected exchange -/
def demoOps : List Op3 :=
  [.base2 (.base (.reg 8 false true)), .base2 (.base (.reg 8 false false)),
   .base2 (.base (.reg 8 false false)), .base2 (.base (.reg 8 false true)),
   .base2 (.base (.new .unsafe_ [] [] [])), .base2 (.base (.new .unsafe_ [] [] [])),
   .base2 (.base (.new .typed [0, 1] [(1, 7)] [⟨0, q1⟩])),
   .base2 (.base (.new .typed [0, 1] [(1, 8)] [⟨0, q1⟩])),
   .xchg .typed c4 [2, 3] [(2, 9)] [1] [⟨3, q2⟩],
   .xchg .unsafe_ c4 [1] [(1, 3)] [0, 2] [],
   .base2 (.shrink false),
   .xchg .typed c4 [1] [] [] []]

open Ark.RelRefine Ark.RelRefine2 Ark.RelRefine3 Ark.Refine in
/-- guard and precondition hold for the two exchanges (steps 9 and 10); the last one (adding a
    component the entity has) is a step whose precondition fails; the specification at the end;
    the model agrees with it entry by entry -/
example :
    guardXchg (reach3 C04World.noRun 2 2 (demoOps.take 8)) .typed c4 [2, 3] [⟨3, q2⟩] = true ∧
    (find (reach3 C04World.noRun 2 2 (demoOps.take 8)).ss.ents c4 = some ⟨[(0, 0), (1, 7)], [⟨0, q1⟩]⟩ ∧
      XchgOK (reach3 C04World.noRun 2 2 (demoOps.take 8)).ss ⟨[(0, 0), (1, 7)], [⟨0, q1⟩]⟩ [2, 3] [1]
        [⟨3, q2⟩]) ∧
    guardXchg (reach3 C04World.noRun 2 2 (demoOps.take 9)) .unsafe_ c4 [1] [] = true ∧
    (find (reach3 C04World.noRun 2 2 (demoOps.take 9)).ss.ents c4 =
        some ⟨[(0, 0), (2, 9), (3, 0)], [⟨0, q1⟩, ⟨3, q2⟩]⟩ ∧
      XchgOK (reach3 C04World.noRun 2 2 (demoOps.take 9)).ss ⟨[(0, 0), (2, 9), (3, 0)], [⟨0, q1⟩, ⟨3, q2⟩]⟩
        [1] [0, 2] []) ∧
    guardXchg (reach3 C04World.noRun 2 2 (demoOps.take 11)) .typed c4 [1] [] = true ∧
    ¬ XchgOK (reach3 C04World.noRun 2 2 (demoOps.take 11)).ss ⟨[(3, 0), (1, 3)], [⟨3, q2⟩]⟩ [1] [] [] ∧
    (reach3 C04World.noRun 2 2 demoOps).ss.ents =
      [(c5, ⟨[(0, 0), (1, 8)], [⟨0, q1⟩]⟩), (c4, ⟨[(3, 0), (1, 3)], [⟨3, q2⟩]⟩), (q2, ⟨[], []⟩),
       (q1, ⟨[], []⟩)] ∧
    Ark.Props.C01Rel.agrees (reach3 C04World.noRun 2 2 demoOps) = true ∧
    (demoOps.all fun op => !op.isReset) = true := by
  decide +kernel

open Ark.RelRefine Ark.RelRefine2 Ark.RelRefine3 Ark.Refine in
/-- `Unsafe.Exchange`: in the state after step 9, a relation on a component that is not
    added, a relation on a non-relation component and a pure removal with a relation are steps of
    the machine whose precondition fails — rejected, the specification and the tables unchanged
    (`xchg_rejected`) -/
example :
    guardXchg (reach3 C04World.noRun 2 2 (demoOps.take 9)) .unsafe_ c4 [1] [⟨0, q2⟩] = true ∧
    guardXchg (reach3 C04World.noRun 2 2 (demoOps.take 9)) .unsafe_ c4 [1] [⟨1, q2⟩] = true ∧
    guardXchg (reach3 C04World.noRun 2 2 (demoOps.take 9)) .unsafe_ c4 [] [⟨3, q1⟩] = true ∧
    ¬ XchgOK (reach3 C04World.noRun 2 2 (demoOps.take 9)).ss ⟨[(0, 0), (2, 9), (3, 0)], [⟨0, q1⟩, ⟨3, q2⟩]⟩
        [1] [] [⟨0, q2⟩] ∧
    [panicOf (opExchange C04World.noRun .unsafe_ c4 [1] [] [] [⟨0, q2⟩]
        (reach3 C04World.noRun 2 2 (demoOps.take 9)).w),
     panicOf (opExchange C04World.noRun .unsafe_ c4 [1] [] [] [⟨1, q2⟩]
        (reach3 C04World.noRun 2 2 (demoOps.take 9)).w),
     panicOf (opExchange C04World.noRun .unsafe_ c4 [] [] [2] [⟨3, q1⟩]
        (reach3 C04World.noRun 2 2 (demoOps.take 9)).w)] =
      [some .relNotInMask, some .notRelation, some .relNotInMask] ∧
    (reach3 C04World.noRun 2 2 (demoOps.take 9 ++ [.xchg .unsafe_ c4 [1] [] [] [⟨0, q2⟩]])).ss.ents =
      (reach3 C04World.noRun 2 2 (demoOps.take 9)).ss.ents := by
  decide +kernel

open Ark.RelRefine Ark.RelRefine2 Ark.RelRefine3 in
/-- … continued by a `Reset`, two new entities (the handles of the new epoch re-use the IDs) and
    an exchange that adds `Likes → 2.0` to the new child `3.0` -/
def demoOps2 : List Op3 :=
  demoOps ++ [.base2 .reset, .base2 (.base (.new .unsafe_ [] [] [])),
    .base2 (.base (.new .typed [0, 1] [(1, 4)] [⟨0, ⟨2, 0⟩⟩])),
    .xchg .typed ⟨3, 0⟩ [3] [] [] [⟨3, ⟨2, 0⟩⟩]]

open Ark.RelRefine Ark.RelRefine2 Ark.RelRefine3 Ark.Refine in
/-- histories with `Reset` are covered: the exchange after the `Reset` is a step whose precondition
    holds; the specification afterwards; the model agrees with it -/
example :
    guardXchg (reach3 C04World.noRun 2 2 (demoOps2.take 15)) .typed ⟨3, 0⟩ [3] [⟨3, ⟨2, 0⟩⟩] = true ∧
    (find (reach3 C04World.noRun 2 2 (demoOps2.take 15)).ss.ents ⟨3, 0⟩ =
        some ⟨[(0, 0), (1, 4)], [⟨0, ⟨2, 0⟩⟩]⟩ ∧
      XchgOK (reach3 C04World.noRun 2 2 (demoOps2.take 15)).ss ⟨[(0, 0), (1, 4)], [⟨0, ⟨2, 0⟩⟩]⟩
        [3] [] [⟨3, ⟨2, 0⟩⟩]) ∧
    (reach3 C04World.noRun 2 2 demoOps2).ss.ents =
      [(⟨3, 0⟩, ⟨[(0, 0), (1, 4), (3, 0)], [⟨0, ⟨2, 0⟩⟩, ⟨3, ⟨2, 0⟩⟩]⟩), (⟨2, 0⟩, ⟨[], []⟩)] ∧
    Ark.Props.C01Rel.agrees (reach3 C04World.noRun 2 2 demoOps2) = true ∧
    (demoOps2.any fun op => op.isReset) = true := by
  decide +kernel

/-! ## 3. the exchange batch over relation tables -/

section Batch
open Ark.QueryRel

/-- the batch in normal form, in the order in which it runs -/
theorem batch_normal_form_planFirst : type_of% @exchangeBatch_rel_eq_planFirst :=
  @exchangeBatch_rel_eq_planFirst

/-- a panic of the lookup loop is the batch's panic, with the same state: the lock has not been
    taken -/
theorem batch_lookup_panic : type_of% @exchangeBatch_rel_findLoop_panic :=
  @exchangeBatch_rel_findLoop_panic

/-- the batch in normal form with `Lock` first (equivalent when the lookup loop succeeds: it
    neither reads nor writes the lock); the targets of `rels` are registered ONCE and
    unconditionally — also when no table moves — as the Go code does after its planning loop (here
    written after the move loop, with which the registration commutes) -/
theorem batch_normal_form (run : ProbeRunner) (fo : FilterObj) (extra : List RelID)
    (add rem : List Comp) (rels : List RelID) (w : World) (hl : w.isLocked = false)
    (hne : (add.isEmpty && rem.isEmpty) = false) {l' : Lock} {b : Nat}
    (hlk : w.locks.lock = some (l', b)) {ts : List Nat}
    (hts : getBatchTables fo extra { w with locks := l' } = .ok ts { w with locks := l' })
    {rr : Bool} {bts : List BatchTable} {w1 : World}
    (hfind : findLoopX add rem rels ts (false, []) { w with locks := l' } = .ok (rr, bts) w1)
    (hno : ∀ (evt : Nat), w1.obs.hasObservers evt = false) :
    exchangeBatch run fo extra add rem rels none w =
      unlock b (registerW (bts.foldl (moveStepX rels) w1) rels) :=
  exchangeBatch_rel_eq run fo extra add rem rels w hl hne hlk hts hfind hno

/-- **the batch**: for a valid call (`XchgPreM` on the mask of every non-empty selected table) the
    batch never fails, keeps `TInv`, and every entity in the rows of the selected tables gets
    `Exchange(add, rem, rels)` (`XchgAllPost`); nobody else changes -/
theorem batch_spec (run : ProbeRunner) {w : World} {fl : List Nat} (h : TInv w fl)
    (hl : w.isLocked = false) (hno : ∀ (evt : Nat), w.obs.hasObservers evt = false)
    (fo : FilterObj) (extra : List RelID) (hc : fo.cache = none)
    (hr : RelsTyped w fo.filter (fo.rels ++ extra)) {add rem : List Comp} {rels : List RelID}
    (hne : ¬ (add = [] ∧ rem = []))
    (hpre : ∀ (t : Nat), t < w.tables.length → TblMatch w fo.filter (fo.rels ++ extra) t →
      (w.tbl t).len ≠ 0 → XchgPreM w (tmask w t) add rem rels)
    (htin : ∀ (r : RelID), r ∈ rels → r.target.id < w.pool.ents.length)
    {l1 l2 : Lock} {b : Nat} (hcyc : QueryExact.LockCycle w.locks l1 b l2) (hl2 : l2.isLocked = false)
    (hfew : 2 * w.tables.length < maxU32) (hrows : 2 * w.entities.length < 2 ^ 32) :
    ∃ (ts : List Nat) (w' : World), getBatchTables fo extra w = .ok ts w ∧
      exchangeBatch run fo extra add rem rels none w = .ok () w' ∧
      XchgAllPost w fl (ts.flatMap (rowsOf w)) add rem rels w' ∧ w'.locks = l2 :=
  let ⟨ts, w', a, b, c, d, _⟩ :=
    exchangeBatch_rel_full run h hl hno fo extra hc hr hne hpre htin hcyc hl2 hfew hrows
  ⟨ts, w', a, b, c, d⟩

/-- **the singles**, in any order, through any access path -/
theorem singles_spec (run : ProbeRunner) (p : Path) {add rem : List Comp} {rels : List RelID}
    (l : List Ent) {w : World} {fl : List Nat} (h : TInv w fl) (hl : w.isLocked = false)
    (hno : ∀ (evt : Nat), w.obs.hasObservers evt = false)
    (hlive : ∀ (e : Ent), e ∈ l → 2 ≤ e.id ∧ e.id ∉ fl ∧ w.alive e = true ∧
      XchgPre w e add rem rels)
    (hlin : ∀ (e : Ent), e ∈ l → e.id < w.pool.ents.length)
    (hnd : (l.map (·.id)).Nodup)
    (htin : ∀ (r : RelID), r ∈ rels → r.target.id < w.pool.ents.length)
    (hfew : w.tables.length + l.length < maxU32)
    (hrows : w.entities.length + 1 < 2 ^ 32) :
    ∃ (w'' : World), xchgSeq run p add rem rels l w = .ok () w'' ∧
      XchgAllPost w fl l add rem rels w'' :=
  let ⟨w'', a, b, _⟩ := xchgSeq_full run p l h hl hno hlive hlin hnd htin hfew hrows
  ⟨w'', a, b⟩

/-- **C06 for the exchange batch over relation tables: batch = fold of the single exchange, in any
    order** -/
theorem batch_eq_fold (run : ProbeRunner) (p : Path) {w : World} {fl : List Nat}
    (h : TInv w fl) (hR : RowsAlive w) (hl : w.isLocked = false)
    (hno : ∀ (evt : Nat), w.obs.hasObservers evt = false)
    (fo : FilterObj) (extra : List RelID) (hc : fo.cache = none)
    (hr : RelsTyped w fo.filter (fo.rels ++ extra)) {add rem : List Comp} {rels : List RelID}
    (hne : ¬ (add = [] ∧ rem = []))
    (hpre : ∀ (t : Nat), t < w.tables.length → TblMatch w fo.filter (fo.rels ++ extra) t →
      (w.tbl t).len ≠ 0 → XchgPreM w (tmask w t) add rem rels)
    (htin : ∀ (r : RelID), r ∈ rels → r.target.id < w.pool.ents.length)
    {l1 l2 : Lock} {b : Nat} (hcyc : QueryExact.LockCycle w.locks l1 b l2) (hl2 : l2.isLocked = false)
    (hfew : 2 * w.tables.length < maxU32) (hrows : 2 * w.entities.length < 2 ^ 32) :
    ∃ (ts : List Nat) (w' : World), getBatchTables fo extra w = .ok ts w ∧
      (∀ (e : Ent), e ∈ ts.flatMap (rowsOf w) ↔
        w.alive e = true ∧ EntMatches w fo.filter (fo.rels ++ extra) e.id) ∧
      exchangeBatch run fo extra add rem rels none w = .ok () w' ∧
      XchgAllPost w fl (ts.flatMap (rowsOf w)) add rem rels w' ∧
      ∀ (es' : List Ent), es'.Perm (ts.flatMap (rowsOf w)) →
        w.tables.length + es'.length < maxU32 →
        ∃ (w'' : World), xchgSeq run p add rem rels es' w = .ok () w'' ∧
          XchgAllPost w fl es' add rem rels w'' ∧
          (∀ (x : Ent), w'.alive x = w''.alive x) ∧
          (∀ (i : Nat) (c : Comp), valOf w' i c = valOf w'' i c) ∧
          (∀ (i : Nat), compsOf w' i = compsOf w'' i) ∧
          (∀ (i : Nat) (c : Comp), targetOf w' i c = targetOf w'' i c) ∧
          w'.isLocked = w''.isLocked := by
  obtain ⟨ts, w', hts, hb, pb, _⟩ := batch_spec run h hl hno fo extra hc hr hne hpre
    htin hcyc hl2 hfew hrows
  obtain ⟨ts2, hts2, S, hok, _⟩ := getBatchTables_rel h fo extra hc hr
  rw [hts] at hts2
  injection hts2 with e1 _
  subst e1
  have hsel := mem_rows_iff_matches h hR hok
  refine ⟨ts, w', hts, hsel, hb, pb, ?_⟩
  intro es' hperm hfew'
  have htm : ∀ (t : Nat), t < w.tables.length → t ≠ maxU32 := by
    intro t ht; have := h.link.fewTables; omega
  have hlive : ∀ (e : Ent), e ∈ es' → 2 ≤ e.id ∧ e.id ∉ fl ∧ w.alive e = true ∧
      XchgPre w e add rem rels := by
    intro e he
    have he' := hperm.mem_iff.mp he
    obtain ⟨a1, a2, a3, _, t, r, ht, hx⟩ := h.link.rows_live hR S he'
    refine ⟨a1, a2, a3, XchgPreM.toPre ?_⟩
    have hlt := S.lt t ht
    obtain ⟨_, hrl, _⟩ := h.link.idx.indexed hx (htm t hlt)
    have hm : w.maskOf e = tmask w t := maskOf_eq (index_of_get hx)
    rw [hm]
    exact hpre t hlt (hok.sound t ht).2 (by omega)
  have hndi : (es'.map (·.id)).Nodup :=
    (hperm.map (·.id)).nodup_iff.mpr (rows_ids_nodup h.link.idx S)
  have hlin : ∀ (e : Ent), e ∈ ts.flatMap (rowsOf w) → e.id < w.pool.ents.length :=
    fun e he => (h.link.rows_live hR S he).2.2.2.1
  obtain ⟨w'', hs, ps⟩ := singles_spec run p es' h hl hno hlive
    (fun e he => hlin e (hperm.mem_iff.mp he)) hndi htin hfew' (by omega)
  have hcomps : ∀ (e : Ent), e ∈ ts.flatMap (rowsOf w) → ∃ (cs : List Comp),
      compsOf w e.id = some cs := by
    intro e he
    obtain ⟨a1, a2, a3, a4, _⟩ := h.link.rows_live hR S he
    exact h.compsOf_live a1 a2 a3 a4
  obtain ⟨o1, o2, o3, o4, o5, _⟩ := pb.obs_eq ps (fun e => hperm.mem_iff.symm) hcomps
  exact ⟨w'', hs, ps, o1, o2, o3, o4, o5⟩

end Batch

/-! ### non-vacuity: the world `g9` of Ark/Props/C06Rel.lean

Components: 0 = `ChildOf` (relation), 1 = `Pos`, 2 = `Parent` (marker), 3 = `Friend` (relation);
grandparent `gp = 2.0`; parents `pa = 3.0`, `pb = 4.0`; children 5, 7 of `pa` (table 3), child 6 of
`pb` (table 4); entity 8 is a child of `pa` and a friend of `pb` (table 5). -/

section BatchDemo
open Ark.Props.C06Rel (g9 gp pa pb reach_g9)
open Ark.QueryRel
open Ark.Props.C04World (noRun summary)

/-- `Filter2[ChildOf, Pos].Without(Parent, Friend)`: the children 5, 6, 7 (tables 3 and 4) -/
def foPlainKids : FilterObj :=
  { filter := { mask := Mask.ofList [0, 1], without := Mask.ofList [2, 3], hasWithout := true }
    ids := [0, 1] }

/-- the batch `Exchange(add = [Friend], rem = [Pos], Friend → gp)` on them … -/
def b10 : World := (exchangeBatch noRun foPlainKids [] [3] [1] [⟨3, gp⟩] none g9).state
/-- … and the singles in an order that is not the batch's, through `ExchangeN` -/
def b10s : World :=
  (xchgSeq noRun .typed [3] [1] [⟨3, gp⟩] [⟨6, 0⟩, ⟨7, 0⟩, ⟨5, 0⟩] g9).state

/-- `Filter2[ChildOf, Pos].Without(Parent)`: the children 5, 6, 7, 8 (tables 3, 4, 5) -/
def foAllKids : FilterObj :=
  { filter := { mask := Mask.ofList [0, 1], without := Mask.ofList [2], hasWithout := true }
    ids := [0, 1] }

/-- the batch `Exchange(add = [Parent], rem = [ChildOf])`: the relation in which tables 3 and 4
    differ is removed, so they share their destination -/
def c10 : World := (exchangeBatch noRun foAllKids [] [2] [0] [] none g9).state
def c10s : World :=
  (xchgSeq noRun .unsafe_ [2] [0] [] [⟨8, 0⟩, ⟨5, 0⟩, ⟨6, 0⟩, ⟨7, 0⟩] g9).state

/-- **non-vacuity**: the hypotheses of `batch_eq_fold` hold in `g9` for both batches, so its
    conclusion does -/
example :
    (∃ (ts : List Nat) (w' : World), getBatchTables foPlainKids [] g9 = .ok ts g9 ∧
      exchangeBatch noRun foPlainKids [] [3] [1] [⟨3, gp⟩] none g9 = .ok () w') ∧
    (∃ (ts : List Nat) (w' : World), getBatchTables foAllKids [] g9 = .ok ts g9 ∧
      exchangeBatch noRun foAllKids [] [2] [0] [] none g9 = .ok () w') := by
  have q := (reach_qgood noRun reach_g9).1
  obtain ⟨fl, h, hl, hno⟩ := q.good
  obtain ⟨l1, l2, b, hcyc, q2⟩ := q.lockCycle
  obtain ⟨_, _, hl2, _⟩ := q2.good
  have ⟨hgp, hfew, hrows⟩ : gp.id < g9.pool.ents.length ∧ 2 * g9.tables.length < maxU32 ∧
      2 * g9.entities.length < 2 ^ 32 := by decide +kernel
  constructor
  · obtain ⟨ts, w', h1, _, h3, _⟩ := batch_eq_fold noRun .typed h q.rows hl hno foPlainKids []
      rfl (RelsTyped.nil _ _) (add := [3]) (rem := [1]) (rels := [⟨3, gp⟩]) (by decide)
      (by decide +kernel) (by simpa using hgp) hcyc hl2 hfew hrows
    exact ⟨ts, w', h1, h3⟩
  · obtain ⟨ts, w', h1, _, h3, _⟩ := batch_eq_fold noRun .unsafe_ h q.rows hl hno foAllKids []
      rfl (RelsTyped.nil _ _) (add := [2]) (rem := [0]) (rels := []) (by decide)
      (by decide +kernel) nofun hcyc hl2 hfew hrows
    exact ⟨ts, w', h1, h3⟩

/-- what the clients see of the children -/
def seenKids (w : World) :
    List (Option (List Comp)) × List (Option Ent) × List (Option Ent) × List (Option Val) :=
  ([compsOf w 5, compsOf w 6, compsOf w 7, compsOf w 8, compsOf w 3],
   [targetOf w 5 0, targetOf w 6 0, targetOf w 7 0, targetOf w 8 0],
   [targetOf w 5 3, targetOf w 6 3, targetOf w 7 3, targetOf w 8 3],
   [valOf w 5 1, valOf w 6 1, valOf w 7 1, valOf w 8 1, valOf w 5 2])

/-- the first batch: tables 3 and 4 are selected; the children keep `ChildOf → pa / pb` (two
    destinations, one per parent), lose `Pos` and get `Friend → gp`; entity 8 is not selected; the
    singles in another order give the same observable world -/
example :
    panicOf (exchangeBatch noRun foPlainKids [] [3] [1] [⟨3, gp⟩] none g9) = none ∧
    (match getBatchTables foPlainKids [] g9 with | .ok ts _ => ts | .panic _ _ => []) = [3, 4] ∧
    seenKids b10 =
      ([some [0, 3], some [0, 3], some [0, 3], some [0, 1, 3], some [0, 1, 2]],
       [some pa, some pb, some pa, some pa], [some gp, some gp, some gp, some pb],
       [none, none, none, some 7, none]) ∧
    summary b10 = [⟨0, 0, 0, false, []⟩, ⟨1, 1, 1, false, [Ent.zero]⟩,
      ⟨2, 2, 2, false, [gp, Ent.zero, Ent.zero]⟩, ⟨3, 3, 0, false, [pa, Ent.zero]⟩,
      ⟨4, 3, 0, false, [pb, Ent.zero]⟩, ⟨5, 4, 1, false, [pa, Ent.zero, pb]⟩,
      ⟨6, 5, 2, false, [pa, gp]⟩, ⟨7, 5, 1, false, [pb, gp]⟩] ∧
    panicOf (xchgSeq noRun .typed [3] [1] [⟨3, gp⟩] [⟨6, 0⟩, ⟨7, 0⟩, ⟨5, 0⟩] g9) = none ∧
    seenKids b10s = seenKids b10 := by
  simp only [seenKids, Prod.mk.injEq]
  decide +kernel

/-- the second batch: tables 3, 4 and 5 are selected; `ChildOf` is removed, so the children of `pa`
    (table 3) and of `pb` (table 4) land in the SAME new table 6; entity 8 keeps `Friend → pb`;
    everybody keeps `Pos`; the singles in another order give the same observable world -/
example :
    panicOf (exchangeBatch noRun foAllKids [] [2] [0] [] none g9) = none ∧
    (match getBatchTables foAllKids [] g9 with | .ok ts _ => ts | .panic _ _ => []) = [3, 4, 5] ∧
    seenKids c10 =
      ([some [1, 2], some [1, 2], some [1, 2], some [1, 2, 3], some [0, 1, 2]],
       [none, none, none, none], [none, none, none, some pb],
       [some 4, some 5, some 6, some 7, some 0]) ∧
    summary c10 = [⟨0, 0, 0, false, []⟩, ⟨1, 1, 1, false, [Ent.zero]⟩,
      ⟨2, 2, 2, false, [gp, Ent.zero, Ent.zero]⟩, ⟨3, 3, 0, false, [pa, Ent.zero]⟩,
      ⟨4, 3, 0, false, [pb, Ent.zero]⟩, ⟨5, 4, 0, false, [pa, Ent.zero, pb]⟩,
      ⟨6, 5, 3, false, [Ent.zero, Ent.zero]⟩, ⟨7, 6, 1, false, [Ent.zero, Ent.zero, pb]⟩] ∧
    panicOf (xchgSeq noRun .unsafe_ [2] [0] [] [⟨8, 0⟩, ⟨5, 0⟩, ⟨6, 0⟩, ⟨7, 0⟩] g9) = none ∧
    seenKids c10s = seenKids c10 := by
  simp only [seenKids, Prod.mk.injEq]
  decide +kernel

end BatchDemo

end Ark.Props.C01Xchg
