import Ark.Proofs.QueryHist

namespace Ark.Props.C03Exact
open Ark Ark.World Ark.Refine Ark.QueryExact Ark.Props.C01World

/-! C03, end to end — "A query built from a filter visits each alive entity that matches exactly
    once and no other entity.  The component pointers it yields are that entity's live data (the
    same storage random access returns), Count equals the number of entities visited, and
    EntityAt(i) is the i-th visited entity."

    Scope: the non-relation, observer-free fragment (the joint invariant `CInv w fl` of
    `Ark.Proofs.Refine`; `fl` = ghost free list of the entity pool, the IDs `≥ 2` outside `fl` are
    the alive ones), queries without per-call relations.

    Vocabulary (`Ark.Proofs.QueryExact`, `CompIndex`, `RowsAlive`, `QueryCached`, `QueryOps`,
    `QueryHist`; the history machine `Ark.Refine` has the operations `reg | new p | new0 | add p |
    rem p | xchg p | set | del | copy | shrink | reset`):
    * `World.drain fo []` — `q := fo.Query(); for q.Next() { … }`, returns the list of `Visit`s
      `(e, table, row)`;
    * `LockCycle L l1 b l2` — `Lock()` on `L` hands out bit `b` (state `l1`) and `Unlock(b)`
      then succeeds (state `l2`); `w.withLocks l` — `w` with lock state `l`;
    * `ExactVisits w fl f visits` — `nodup` (no ID twice), `sound` (every visit is an alive ID at
      the row the entity index records, the reported handle is the one stored there, the
      archetype mask matches), `complete` (every alive ID whose archetype mask matches is
      visited), `data` (`valOf`, random access through the index, reads the visited cell);
    * `QueryExactOn w fl fo w1 q visits w2` — `qOpen fo [] w = .ok q w1`,
      `drain fo [] w = .ok visits w2`, `ExactVisits`, `qCount w1 q = some visits.length`,
      `qEntityAt w1 q i = some (some visits[i].e)` below the length and `some none` from it on;
    * `FilterOK fo` — the mask of `fo` requires each of its type parameters `fo.ids`;
    * `CIdx w` — `componentIndex[c]` lists exactly the archetypes having component `c`;
    * `RowsAlive w` — the handle stored in a row in use is alive;
    * `QueryMeetsSpec s fo w1 q visits w2` — the same against the specification `s.ss.ents`
      (alive handle ↦ component ↦ value) of the history machine, see below. -/

/-! ## Layer A — any world satisfying the invariant -/

/-- A.1, the untyped walk (`UnsafeFilter`, or a typed filter without type parameters) -/
theorem drain_exact_untyped {w : World} {fl : List Nat} (h : CInv w fl) (fo : FilterObj)
    (hc : fo.cache = none) (hu : fo.typed = false ∨ fo.ids = [])
    {l1 l2 : Lock} {b : Nat} (hL : LockCycle w.locks l1 b l2) :
    ∃ q visits, QueryExactOn w fl fo (w.withLocks l1) q visits (w.withLocks l2) :=
  QueryExact.drain_exact_untyped h fo hc hu hL

/-- A.2, the typed walk over `componentIndex[rare]` -/
theorem drain_exact_typed {w : World} {fl : List Nat} (h : CInv w fl) (hx : CIdx w)
    (fo : FilterObj) (hc : fo.cache = none) (ht : fo.typed = true) (hne : fo.ids ≠ [])
    (hreq : ∀ c ∈ fo.ids, fo.filter.mask.get c = true)
    {l1 l2 : Lock} {b : Nat} (hL : LockCycle w.locks l1 b l2) :
    ∃ q visits, QueryExactOn w fl fo (w.withLocks l1) q visits (w.withLocks l2) :=
  QueryExact.drain_exact_typed h hx fo hc ht hne hreq hL

/-- A.1 + A.2: every unregistered filter object whose mask requires its type parameters -/
theorem drain_exact {w : World} {fl : List Nat} (h : CInv w fl) (hx : CIdx w) (fo : FilterObj)
    (hc : fo.cache = none) (hok : FilterOK fo) {l1 l2 : Lock} {b : Nat}
    (hL : LockCycle w.locks l1 b l2) :
    ∃ q visits, QueryExactOn w fl fo (w.withLocks l1) q visits (w.withLocks l2) :=
  QueryExact.drain_exact h hx fo hc hok hL

/-- A.3, the cached variant: a registered filter object whose cache entry was made for its
    filter visits the same entity set -/
theorem drain_exact_cached {w : World} {fl : List Nat} (h : CInv w fl) (hC : CacheInv w)
    (fo : FilterObj) {id : Nat} {ce : CacheEntry} (hc : fo.cache = some id)
    (he : w.cacheEntry? id = some ce) (hf : ce.filter = fo.filter)
    {l1 l2 : Lock} {b : Nat} (hL : LockCycle w.locks l1 b l2) :
    ∃ q visits, QueryExactOn w fl fo (w.withLocks l1) q visits (w.withLocks l2) :=
  QueryExact.drain_exact_cached h hC fo hc he hf hL

/-- the lock: under the lock invariant of `Ark.Proofs.Lock` with fewer than 64 bits outstanding
    the lock cycle of a query goes through and the 64-bit mask afterwards is the mask before -/
theorem lock_cycle_of_linv {L : Lock} {out fl : List Nat} (g : Lock.LInv ⟨L, out⟩ fl)
    (h64 : out.length < 64) :
    ∃ l1 b l2 fl2, LockCycle L l1 b l2 ∧ l2.locks = L.locks ∧ Lock.LInv ⟨l2, out⟩ fl2 := by
  obtain ⟨l1, b, l2, _, hl, hu, _, g2, he⟩ := g.cycle h64
  exact ⟨l1, b, l2, _, ⟨hl, hu⟩, he, g2⟩

/-- **finding**: the lock state after a query is not the lock state before — the bit pool of
    `lock.go` remembers the bit it handed out.  So "the world after the drain equals the world
    before" holds for every field but `locks.pool`; the 64-bit mask `locks.locks` is restored. -/
theorem lock_not_restored :
    LockCycle {} lockDuringQuery 0 lockAfterQuery ∧ lockAfterQuery ≠ ({} : Lock) ∧
    lockAfterQuery.locks = ({} : Lock).locks ∧ lockAfterQuery.isLocked = false :=
  ⟨lockCycle_default, lockAfterQuery_ne, rfl, lockAfterQuery_unlocked⟩

/-! ## the invariants along histories -/

/-- the component index is exact after every history -/
theorem reach_cidx (run : ProbeRunner) (cap rel : Nat) (ops : List Op)
    (hlen : ops.length < 2 ^ 32 - 2) : CIdx (reach run cap rel ops).w :=
  (Refine.reach_xinv run cap rel ops hlen).cidx

/-- Layer B: the handle stored in a row is alive after every history -/
theorem reach_rowsAlive (run : ProbeRunner) (cap rel : Nat) (ops : List Op)
    (hlen : ops.length < 2 ^ 32 - 2) : RowsAlive (reach run cap rel ops).w :=
  (Refine.reach_xinv run cap rel ops hlen).rows

/-- all of `XInv` (`CIdx`, `RowsAlive`, initial lock, relation index, empty filter cache) -/
theorem reach_xinv (run : ProbeRunner) (cap rel : Nat) (ops : List Op)
    (hlen : ops.length < 2 ^ 32 - 2) : XInv (reach run cap rel ops).w :=
  Refine.reach_xinv run cap rel ops hlen

/-- under `CInv`, `RowsAlive` says: the handle in a row is the one in the pool slot of its ID -/
theorem rowsAlive_slot {w : World} {fl : List Nat} (h : RowsAlive w) (hc : CInv w fl) {t r : Nat}
    (hr : r < (w.tbl t).len) :
    w.pool.ents[((w.tbl t).getEntity r).id]? = some ((w.tbl t).getEntity r) :=
  h.slot hc hr

/-! ## Layer C — the headline theorem

`QueryMeetsSpec s fo w1 q visits w2` has the fields
* `opened  : qOpen fo [] s.w = .ok q w1`, `drained : drain fo [] s.w = .ok visits w2`,
* `world   : w2 = s.w.withLocks lockAfterQuery`,
* `nodup   : (visits.map (·.e)).Nodup`,
* `exact   : ∀ e, e ∈ visits.map (·.e) ↔
     ∃ cs, (e, cs) ∈ s.ss.ents ∧ fo.filter.matchesMask (Mask.ofList (keys cs)) = true`,
* `count`, `entityAt`, `entityAtOut` (as in `QueryExactOn`),
* `index   : ∀ v ∈ visits, s.w.entities[v.e.id]? = some (v.table, v.row) ∧ v.table ≠ maxU32`,
* `data    : ∀ v ∈ visits, (∀ c, valOf s.w v.e.id c = (s.w.tbl v.table).getComp c v.row) ∧
     ∀ cs, (v.e, cs) ∈ s.ss.ents → ∀ cv ∈ cs, (s.w.tbl v.table).getComp cv.1 v.row = some cv.2`. -/

/-- **C03, end to end**: after any history of the machine, a query built from an unregistered
    filter object whose mask requires its type parameters visits exactly the entities of the
    specification whose component set the filter matches, each once; `Count`, `EntityAt` agree
    with the iteration; every visit points to the entity's live data. -/
theorem query_exact (run : ProbeRunner) (cap rel : Nat) (ops : List Op)
    (hlen : ops.length < 2 ^ 32 - 2) (fo : FilterObj) (hc : fo.cache = none)
    (hok : FilterOK fo) :
    ∃ q visits, QueryMeetsSpec (reach run cap rel ops) fo
      ((reach run cap rel ops).w.withLocks lockDuringQuery) q visits
      ((reach run cap rel ops).w.withLocks lockAfterQuery) :=
  Refine.query_exact run cap rel ops hlen fo hc hok

/-- the same through the filter cache: register the filter, query through the entry -/
theorem query_exact_cached (run : ProbeRunner) (cap rel : Nat) (ops : List Op)
    (hlen : ops.length < 2 ^ 32 - 2) (f : Filter) (rels : List RelID) :
    ∃ (id : Nat) (w' : World),
      cacheRegister f rels (reach run cap rel ops).w = .ok id w' ∧
      ∀ fo : FilterObj, fo.cache = some id → fo.filter = f →
        ∃ q visits, QueryMeetsSpec ⟨w', (reach run cap rel ops).issued, (reach run cap rel ops).ss⟩
          fo (w'.withLocks lockDuringQuery) q visits (w'.withLocks lockAfterQuery) :=
  Refine.query_exact_cached run cap rel ops hlen f rels

/-- `Count` against the specification: the number of visits, and `Count`, is the number of
    entries of the specification whose component set the filter matches -/
theorem count_spec {s : St} {fl : List Nat} (H : HInv s fl) {fo : FilterObj}
    {w1 w2 : World} {q : QueryObj} {visits : List Visit} (M : QueryMeetsSpec s fo w1 q visits w2) :
    visits.length =
      (s.ss.ents.filter fun x => fo.filter.matchesMask (Mask.ofList (keys x.2))).length ∧
    qCount w1 q = some
      (s.ss.ents.filter fun x => fo.filter.matchesMask (Mask.ofList (keys x.2))).length :=
  M.count_spec H

/-- set-level reading of the match condition: all required components are keys of the entry,
    no excluded component is -/
theorem matches_keys_iff (f : Filter) (cs : Comps) (hreg : ∀ c ∈ keys cs, c < 256) :
    f.matchesMask (Mask.ofList (keys cs)) = true ↔
      (∀ c, f.mask.get c = true → c ∈ keys cs) ∧
      (f.hasWithout = true → ∀ c ∈ keys cs, f.without.get c = false) :=
  Refine.matches_keys_iff f cs hreg

/-! ## Non-vacuity: a concrete history -/

def noRun : ProbeRunner := fun _ _ _ => pure ()

/-- two component types; `⟨2,0⟩:[0]`, `⟨3,0⟩:[0,1]`, `⟨4,0⟩:[1]`, `⟨5,0⟩:[]` (created through
    the three access paths and `NewEntity()`); then `⟨4,0⟩` gets
    component 0 (moves to `[0,1]`), `⟨2,0⟩` is removed and its ID recycled as `⟨2,1⟩:[0]`,
    `⟨3,0⟩` loses component 1 (moves to `[0]`, `⟨4,0⟩` is swapped into its row), a value is set -/
def hist : List Op :=
  [.reg 8 false, .reg 8 false, .new .unsafe_ [0] [(0, 10)], .new .typed [0, 1] [(0, 20), (1, 21)],
   .new .map1 [1] [(1, 31)], .new0, .add .typed ⟨4, 0⟩ [0] [(0, 40)], .del ⟨2, 0⟩,
   .new .unsafe_ [0] [(0, 50)], .rem .unsafe_ ⟨3, 0⟩ [1], .set ⟨4, 0⟩ [(1, 41)]]

def sDemo : St := reach noRun 4 4 hist

/-- typed filter "has component 0" (walks `componentIndex[0]`) -/
def foA : FilterObj := { filter := { mask := Mask.ofList [0] }, ids := [0] }
/-- `UnsafeFilter` "has component 0, exclusive" (walks all archetypes) -/
def foX : FilterObj := { filter := Filter.exclusive { mask := Mask.ofList [0] }, typed := false }
/-- typed filter "has component 1" -/
def foB : FilterObj := { filter := { mask := Mask.ofList [1] }, ids := [1] }

/-- the visits of a complete iteration, as tuples -/
def vis (fo : FilterObj) (w : World) : Option (List (Ent × Nat × Nat)) :=
  match drain fo [] w with
  | .ok vs _ => some (vs.map fun v => (v.e, v.table, v.row))
  | .panic _ _ => none

/-- the state reached: four entities in three of four archetypes (one table is empty) -/
example :
    sDemo.ss.ents = [(⟨2, 1⟩, [(0, 50)]), (⟨5, 0⟩, []), (⟨4, 0⟩, [(1, 41), (0, 40)]), (⟨3, 0⟩, [(0, 20)])] ∧
    sDemo.w.archetypes.map (fun a => (a.comps, a.tables.tables)) =
      [([], [0]), ([0], [1]), ([0, 1], [2]), ([1], [3])] ∧
    sDemo.w.tables.map (·.len) = [1, 2, 1, 0] ∧
    sDemo.w.componentIndex = [[1, 2], [2, 3]] := by
  decide +kernel

/-- the hypotheses of Layer A hold of this state (and of every state the machine reaches) -/
example : ∃ fl, CInv sDemo.w fl ∧ CIdx sDemo.w ∧ RowsAlive sDemo.w ∧
    LockCycle sDemo.w.locks lockDuringQuery 0 lockAfterQuery ∧ FilterOK foA ∧ FilterOK foX ∧
    FilterOK foB := by
  unfold sDemo
  obtain ⟨fl, H⟩ := reach_hinv noRun 4 4 hist (by decide)
  have X := Refine.reach_xinv noRun 4 4 hist (by decide)
  refine ⟨fl, H.cinv, X.cidx, X.rows, by rw [X.locks]; exact lockCycle_default, ?_⟩
  unfold FilterOK
  decide +kernel

/-- "has 0" selects three of the four entities, in two archetypes; the recycled ID 2 is reported
    with its current generation; the exclusive filter selects the two entities of `[0]`;
    "has 1" selects one.  The world after the query differs only in the lock's bit pool. -/
example :
    vis foA sDemo.w = some [(⟨2, 1⟩, 1, 0), (⟨3, 0⟩, 1, 1), (⟨4, 0⟩, 2, 0)] ∧
    vis foX sDemo.w = some [(⟨2, 1⟩, 1, 0), (⟨3, 0⟩, 1, 1)] ∧
    vis foB sDemo.w = some [(⟨4, 0⟩, 2, 0)] := by
  decide +kernel

/-- the data a visit points to is what the specification records: `⟨4,0⟩` at `(2,0)` reads
    `40` for component 0 and `41` for component 1 -/
example : (sDemo.w.tbl 2).getComp 0 0 = some 40 ∧ (sDemo.w.tbl 2).getComp 1 0 = some 41 ∧
    valOf sDemo.w 4 1 = some 41 ∧ (sDemo.w.tbl 1).getComp 0 0 = some 50 := by
  decide +kernel

/-- through the cache: register the filter of `foA`, query with the registered object -/
example :
    (match cacheRegister foA.filter [] sDemo.w with
     | .ok id w' => vis { foA with cache := some id } w'
     | .panic _ _ => none) = some [(⟨2, 1⟩, 1, 0), (⟨3, 0⟩, 1, 1), (⟨4, 0⟩, 2, 0)] := by
  decide +kernel

/-- the hypotheses of the cached variant (Layer A.3) are satisfiable: registering the filter
    of `foA` on the demo state succeeds and yields a world with `CInv`, `CacheInv` and the entry -/
example : ∃ fl id w' ce, cacheRegister foA.filter [] sDemo.w = .ok id w' ∧ CInv w' fl ∧
    CacheInv w' ∧ w'.cacheEntry? id = some ce ∧ ce.filter = foA.filter ∧
    LockCycle w'.locks lockDuringQuery 0 lockAfterQuery := by
  have hlen : hist.length < 2 ^ 32 - 2 := by decide +kernel
  obtain ⟨fl, H⟩ := reach_hinv noRun 4 4 hist hlen
  have X := Refine.reach_xinv noRun 4 4 hist hlen
  obtain ⟨w', ce, h1, h2, h3, _, h5, h6, _, _, _, _, _, _, h13, _⟩ :=
    cacheRegister_exact H.cinv X.rinv X.cache.cacheInv foA.filter [] (by rw [X.cache.1]; rfl)
  exact ⟨fl, _, w', ce, h1, h2, h3, h5, h6, by rw [h13, X.locks]; exact lockCycle_default⟩

/-! ### a longer history with the further operations of the machine

`Exchange` (`⟨3,0⟩` loses component 0 and gets component 1), `CopyEntity` (`⟨6,0⟩` is a copy of
`⟨4,0⟩`), `Shrink`; then `Reset`, after which the very same handles are issued again:
`⟨2,0⟩:[0]`, `⟨3,0⟩:[0,1]`, `⟨4,0⟩:[]`, `⟨5,0⟩` a copy of `⟨3,0⟩`, and `⟨3,0⟩` loses component 1
by an `Exchange` that only removes. -/

def histMid : List Op :=
  hist ++ [.xchg .typed ⟨3, 0⟩ [1] [0] [(1, 61)], .copy ⟨4, 0⟩, .shrink false]

def hist2 : List Op :=
  histMid ++ [.reset, .new .typed [0] [(0, 70)], .new .unsafe_ [0, 1] [(0, 80), (1, 81)], .new0,
    .copy ⟨3, 0⟩, .xchg .unsafe_ ⟨3, 0⟩ [] [1] []]

def sMid : St := reach noRun 4 4 histMid
def sDemo2 : St := reach noRun 4 4 hist2

/-- before the reset: five entities; "has 0" selects `⟨2,1⟩`, `⟨4,0⟩` and its copy `⟨6,0⟩`,
    "has 1" selects `⟨4,0⟩`, `⟨6,0⟩` and the exchanged `⟨3,0⟩` -/
example :
    sMid.ss.ents = [(⟨6, 0⟩, [(1, 41), (0, 40)]), (⟨2, 1⟩, [(0, 50)]), (⟨5, 0⟩, []),
      (⟨4, 0⟩, [(1, 41), (0, 40)]), (⟨3, 0⟩, [(1, 61)])] ∧
    sMid.w.tables.map (·.len) = [1, 1, 2, 1] ∧
    vis foA sMid.w = some [(⟨2, 1⟩, 1, 0), (⟨4, 0⟩, 2, 0), (⟨6, 0⟩, 2, 1)] ∧
    vis foB sMid.w = some [(⟨4, 0⟩, 2, 0), (⟨6, 0⟩, 2, 1), (⟨3, 0⟩, 3, 0)] := by
  decide +kernel

/-- after `Reset` and re-creation: the handles `⟨2,0⟩ … ⟨5,0⟩` of the new epoch (the stale
    memory behind the pool slice still holds the invalidated `⟨6, maxU32⟩`); four entities in
    three archetypes; "has 0" selects three, the exclusive filter two, "has 1" one; the cells
    visited hold the specified values; the cached query agrees -/
example :
    sDemo2.ss.ents = [(⟨5, 0⟩, [(0, 80), (1, 81)]), (⟨4, 0⟩, []), (⟨3, 0⟩, [(0, 80)]),
      (⟨2, 0⟩, [(0, 70)])] ∧
    sDemo2.w.tables.map (·.len) = [1, 2, 1, 0] ∧
    sDemo2.w.pool.stale = [⟨6, maxU32⟩] ∧
    sDemo2.w.componentIndex = [[1, 2], [2, 3]] ∧
    vis foA sDemo2.w = some [(⟨2, 0⟩, 1, 0), (⟨3, 0⟩, 1, 1), (⟨5, 0⟩, 2, 0)] ∧
    vis foX sDemo2.w = some [(⟨2, 0⟩, 1, 0), (⟨3, 0⟩, 1, 1)] ∧
    vis foB sDemo2.w = some [(⟨5, 0⟩, 2, 0)] ∧
    (sDemo2.w.tbl 2).getComp 1 0 = some 81 ∧ (sDemo2.w.tbl 1).getComp 0 1 = some 80 ∧
    (match cacheRegister foA.filter [] sDemo2.w with
     | .ok id w' => vis { foA with cache := some id } w'
     | .panic _ _ => none) = some [(⟨2, 0⟩, 1, 0), (⟨3, 0⟩, 1, 1), (⟨5, 0⟩, 2, 0)] := by
  decide +kernel

theorem hist2_len : hist2.length < 2 ^ 32 - 2 := by
  have : hist2.length = 20 := by decide +kernel
  rw [this]; decide

/-- the hypotheses of Layer A hold of these states too -/
example : ∃ fl, CInv sDemo2.w fl ∧ CIdx sDemo2.w ∧ RowsAlive sDemo2.w ∧
    LockCycle sDemo2.w.locks lockDuringQuery 0 lockAfterQuery := by
  unfold sDemo2
  obtain ⟨fl, H⟩ := reach_hinv noRun 4 4 hist2 hist2_len
  have X := Refine.reach_xinv noRun 4 4 hist2 hist2_len
  exact ⟨fl, H.cinv, X.cidx, X.rows, by rw [X.locks]; exact lockCycle_default⟩

/-- **the hypothesis `FilterOK` is necessary.**  A filter object whose mask does NOT require its
    type parameter (mask "has 0", type parameter 1 — not constructible through the typed Go API,
    where `ids` and `mask` come from the same type parameters) walks `componentIndex[1]` and
    misses the two matching entities of archetype `[0]`. -/
def foBad : FilterObj := { filter := { mask := Mask.ofList [0] }, ids := [1] }

theorem filterOK_necessary :
    foBad.filter = foA.filter ∧ ¬ FilterOK foBad ∧
    vis foBad sDemo.w = some [(⟨4, 0⟩, 2, 0)] ∧
    vis foA sDemo.w = some [(⟨2, 1⟩, 1, 0), (⟨3, 0⟩, 1, 1), (⟨4, 0⟩, 2, 0)] := by
  refine ⟨rfl, ?_, ?_⟩
  · intro h
    have := h 1 (by simp [foBad])
    revert this
    decide +kernel
  · decide +kernel

/-- **the lock hypothesis is necessary.**  With all 64 lock bits outstanding (64 queries open
    at the same time, possible in Go, not a state of the history machine) `Query()` panics
    ("run out of the maximum of 64 bits") and nothing is visited. -/
def lock64 : Lock :=
  (List.range 64).foldl (fun l _ => match l.lock with | some (l', _) => l' | none => l) {}

theorem lock_necessary :
    lock64.lock = none ∧
    (match drain foA [] (sDemo.w.withLocks lock64) with
     | .panic k _ => k == .outOfLocks
     | .ok _ _ => false) = true := by
  decide +kernel

end Ark.Props.C03Exact
