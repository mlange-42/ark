/-
  C16 over histories WITH relation components — "From then on [after Reset] every history has the
  same outcome (same handles, same query results, …) as on a newly created world with the same
  component types registered in the same order."

  Setting: the history machine `Ark.RelRefine2` of Ark/Proofs/RelRefine2Machine.lean — the entity
  operations of `Ark.RelRefine` (`reg | new p | add p | rem p | setrel p | set | del`, components
  and RELATION components, each through any access path), `copy`, `shrink`, `reset`, the filter
  operations `fdef | freg | funreg` and complete query iterations `query f extra`;
  `reach2 run cap rel ops` is the state after the history `ops` from `NewWorld(cap, rel)`.

  After a `Reset` the world is NOT a new world: archetypes persist (in the order `pre` created
  them), the tables of relation archetypes sit in free lists and are recycled in LIFO order (so
  the same entity ends up in a table with another ID), capacities persist, the pool keeps
  invalidated handles behind its slice, and cache IDs restart at 0 only if a filter was registered
  at the moment of the `Reset` (`cache.Reset` returns early otherwise and the ID pool goes on).

  For ANY history `pre` and ANY later history `post` (`Reset`, registrations, everything may occur
  anywhere in both; bound: `pre.length + 1 + post.length < 2^16`, the bound of the machine), any
  two callback runners and any capacities of the two worlds, compare

      A = pre ++ [reset] ++ post   from NewWorld(cap, rel)
      B = regsOf2 pre ++ post      from NewWorld(cap', rel')   (regsOf2 = the `reg`s of `pre`)

  What "expressible" means (`stepOut2`): an entity operation as in `Ark.RelRefine` (`guard`: handles
  the client was given, registered components, relation arguments satisfying `RelsStep` — since
  the repair of the `Unsafe` API (D24) a relation on a non-relation component, on a component not
  added, or with a removed target IS a step on every path: `demoU_*`); `copy` on a handle
  the client was given; a filter operation or query on a filter object constructed AFTER the
  `Reset` (a filter object is a client-side object — one built before the `Reset` does not exist
  in run B), with fixed / per-call relation targets the client can name (zero or a handle it was
  given).  The last restriction IS needed: `forged_sentinel_target_differs` — the typed
  pre-validation of `Query(rel…)` reads `Alive` of the target, and for a forged handle
  `⟨id beyond the slice, maxU32⟩` the reset world answers `true` (memory kept behind the pool
  slice, D14), a new world `false`.  No handle the API ever returned has that generation
  (`RelRefine2.reach2_issued_gen`).

  The boolean `Shrink` returns ("more work left") is NOT part of the trace: it depends on
  capacities, which persist over `Reset` ("up to capacities") — `shrink_result_differs`.

  `Exchange` with relation components: the same theorems for the machine `Ark.RelRefine3`
  (`Op3 = base2 (op : Op2) | xchg p e add vals rem rels`, Ark/Proofs/RelExchangeMachine.lean).

  Not covered: the batch operations, observers (callbacks are a parameter `run` of the machine,
  but the machines' invariant demands that no observer is registered), `World.Stats` (C19 has the
  statistics of the relation machine; "same statistics up to capacities" after `Reset` is not
  derived here).
-/
import Ark.Proofs.ResetEquivRelXchg

set_option autoImplicit false

namespace Ark.Props.C16Rel
open Ark Ark.World Ark.RelRefine Ark.RelRefine2 Ark.Props.C01World
open Ark.Refine (Outcome outcome)

/-! ## the outcome of a call is a function of the specification -/

/-- in every reachable state, for every expressible entity operation: the returned handle, the
    accept/reject decision and the panic class are `specOutcome` of the specification state and the
    pool's next handle (`specOutcome ss fresh op = if pre ss op then ok (retSpec fresh op) else
    panic (rejKind ss op)`; `rejKind` reads the panic class off the specification: the typed
    pre-validation `preKindP`, then `deadEntity` / `noComponents` / `alreadyHas` / `missing` /
    `noRelations`, the scan of `SetRelations` `scanKind`, `deadTarget`) -/
theorem outcome_from_spec (run : ProbeRunner) (cap rel : Nat) (ops : List Op2) (op : Op)
    (hlen : ops.length + 1 < 2 ^ 16) (hg : RelRefine.guard (reach2 run cap rel ops) op = true) :
    outcome (exec run (reach2 run cap rel ops).w op) =
      specOutcome (reach2 run cap rel ops).ss ((reach2 run cap rel ops).w.pool.get).2 op := by
  obtain ⟨fl, H⟩ := reach2_inv run cap rel ops (by omega)
  obtain ⟨hf, he⟩ := reach2_fits run cap rel ops hlen
  exact exec_outcome run H.base hf he op hg

/-! ## C16: every later history -/

/-- **same trace** (`TraceEq`): every operation of `post` is expressible on both sides or on
    neither; it is accepted on both or rejected on both with the SAME panic class; a creation
    (`new`, `copy`) returns the SAME handle, ID and generation; a complete query iteration — also
    through the filter cache, with fixed and per-call relation targets — is rejected with the
    same class or yields the same visit records (entity, every component value, every relation
    target read in the visited table) as a multiset (`List.Perm`: archetype and table order
    differ) -/
theorem same_trace (run1 run2 : ProbeRunner) (cap rel cap' rel' : Nat) (pre post : List Op2)
    (hlen : pre.length + 1 + post.length < 2 ^ 16) :
    TraceEq (trace2 run1 [] (reach2 run1 cap rel (pre ++ [.reset])) post)
      (trace2 run2 [] (reach2 run2 cap' rel' (regsOf2 pre)) post) :=
  (reset_equiv_rel run1 run2 cap rel cap' rel' pre post hlen).1

/-- `TraceEq`, position by position: equal lengths, and at every position both "not expressible",
    or equal calls, or query results that are the same class / permutations of each other -/
theorem traceEq_entries {a b : List (Option Out)} (h : TraceEq a b) :
    a.length = b.length ∧
    ∀ (n : Nat) (h1 : n < a.length) (h2 : n < b.length), OutEq a[n] b[n] :=
  ⟨h.length_eq, h.get⟩

/-- what the `n`-th entry of a trace is: what the client sees (`stepOut2`) of the `n`-th operation
    in the state reached by the first `n` operations, with the filter labels usable then -/
theorem trace_entry (run : ProbeRunner) (L : List Nat) (s : St) (ops : List Op2) (n : Nat) :
    (trace2 run L s ops)[n]? = (ops[n]?).map fun op =>
      stepOut2 run (labels2 run L s (ops.take n)) (runOps2 run s (ops.take n)) op := by
  induction ops generalizing L s n with
  | nil => rfl
  | cons op ops ih =>
    cases n with
    | zero => rfl
    | succ n =>
      simp only [trace2, List.getElem?_cons_succ, List.take_succ_cons]
      rw [ih (labelsAfter L s op) (step2 run s op) n]
      rfl

/-- **same state after every prefix** of `post`: the machine states are related by `Sim` — same
    specification (alive handle ↦ component ↦ value, relation component ↦ target, registry flags),
    same issued handles, same registry, same pool core, filter objects equal up to the cache ID.
    Table IDs, free lists, capacities, cache IDs are NOT related. -/
theorem same_state_after_every_prefix (run1 run2 : ProbeRunner) (cap rel cap' rel' : Nat)
    (pre post : List Op2) (hlen : pre.length + 1 + post.length < 2 ^ 16) (n : Nat) :
    Sim (labels2 run1 [] (reach2 run1 cap rel (pre ++ [.reset])) (post.take n))
      (reach2 run1 cap rel (pre ++ [.reset] ++ post.take n))
      (reach2 run2 cap' rel' (regsOf2 pre ++ post.take n)) := by
  have : (post.take n).length ≤ post.length := by
    rw [List.length_take]; exact Nat.min_le_right _ _
  exact (reset_equiv_rel run1 run2 cap rel cap' rel' pre (post.take n) (by omega)).2

/-- **one step**: from related states satisfying the invariant, within the size bounds, every
    operation leads to related states, the usable filter labels agree and the client sees
    equivalent outputs -/
theorem same_step (run1 run2 : ProbeRunner) {L : List Nat} {s1 s2 : St} {fl1 fl2 : List Nat}
    (H1 : HInv2 s1 fl1) (H2 : HInv2 s2 fl2)
    (hf1 : s1.w.tables.length + s1.w.relationArchetypes.length + 1 ≤ maxU32)
    (he1 : 2 * s1.w.entities.length < 2 ^ 32)
    (hf2 : s2.w.tables.length + s2.w.relationArchetypes.length + 1 ≤ maxU32)
    (he2 : 2 * s2.w.entities.length < 2 ^ 32) (S : Sim L s1 s2) (op : Op2) :
    Sim (labelsAfter L s1 op) (step2 run1 s1 op) (step2 run2 s2 op) ∧
    labelsAfter L s1 op = labelsAfter L s2 op ∧
    OutEq (stepOut2 run1 L s1 op) (stepOut2 run2 L s2 op) :=
  sim_step2 run1 run2 H1 H2 hf1 he1 hf2 he2 S op

/-- **right after the `Reset`** the state is related to the state after the registrations of `pre`
    on a new world -/
theorem related_after_reset (run1 run2 : ProbeRunner) (cap rel cap' rel' : Nat) (pre : List Op2)
    (hlen : pre.length + 1 < 2 ^ 16) :
    Sim [] (reach2 run1 cap rel (pre ++ [.reset])) (reach2 run2 cap' rel' (regsOf2 pre)) := by
  have := RelRefine3.sim_reset_regs3 run1 run2 cap rel cap' rel' (pre.map .base2)
    (by rw [List.length_map]; exact hlen)
  rw [← RelRefine3.reach3_base2, ← RelRefine3.reach3_base2, List.map_append,
    ← regsOf3_base2]
  exact this

/-- **same worlds** — component sets, values, relation targets of every entity ID; `Alive`; the
    next handle -/
theorem same_worlds (run1 run2 : ProbeRunner) (cap rel cap' rel' : Nat) (pre post : List Op2)
    (hlen : pre.length + 1 + post.length < 2 ^ 16) :
    (reach2 run1 cap rel (pre ++ [.reset] ++ post)).ss =
      (reach2 run2 cap' rel' (regsOf2 pre ++ post)).ss ∧
    (reach2 run1 cap rel (pre ++ [.reset] ++ post)).issued =
      (reach2 run2 cap' rel' (regsOf2 pre ++ post)).issued ∧
    (reach2 run1 cap rel (pre ++ [.reset] ++ post)).w.kinds =
      (reach2 run2 cap' rel' (regsOf2 pre ++ post)).w.kinds ∧
    ((reach2 run1 cap rel (pre ++ [.reset] ++ post)).w.pool.get).2 =
      ((reach2 run2 cap' rel' (regsOf2 pre ++ post)).w.pool.get).2 ∧
    (∀ (i : Nat),
      compsOf (reach2 run1 cap rel (pre ++ [.reset] ++ post)).w i =
        compsOf (reach2 run2 cap' rel' (regsOf2 pre ++ post)).w i ∧
      (∀ (c : Comp), valOf (reach2 run1 cap rel (pre ++ [.reset] ++ post)).w i c =
        valOf (reach2 run2 cap' rel' (regsOf2 pre ++ post)).w i c) ∧
      ∀ (c : Comp), targetOf (reach2 run1 cap rel (pre ++ [.reset] ++ post)).w i c =
        targetOf (reach2 run2 cap' rel' (regsOf2 pre ++ post)).w i c) ∧
    (∀ (h : Ent), h ∈ (reach2 run1 cap rel (pre ++ [.reset] ++ post)).issued →
      (reach2 run1 cap rel (pre ++ [.reset] ++ post)).w.alive h =
        (reach2 run2 cap' rel' (regsOf2 pre ++ post)).w.alive h) ∧
    (∀ (h : Ent), h.gen ≠ maxU32 →
      (reach2 run1 cap rel (pre ++ [.reset] ++ post)).w.alive h =
        (reach2 run2 cap' rel' (regsOf2 pre ++ post)).w.alive h) := by
  have h := RelRefine3.reset_equiv_rel3_worlds run1 run2 cap rel cap' rel' (pre.map .base2)
    (post.map .base2) (by rw [List.length_map, List.length_map]; exact hlen)
  rw [reach3_reset_base2, reach3_regs_base2] at h
  exact h

/-- **the same query on both sides** (the statement behind the `query` entries of the trace): on
    two states of the machine with the same specification, handles and registry whose filter
    objects under label `f` agree up to the cache ID, a complete iteration with expressible
    per-call relations is rejected on both sides with the same class, or yields visit records that
    are permutations of each other -/
theorem same_query {s1 s2 : St} {fl1 fl2 : List Nat} (H1 : HInv2 s1 fl1) (H2 : HInv2 s2 fl2)
    (hss : s1.ss = s2.ss) (hiss : s1.issued = s2.issued) (hk : s1.w.kinds = s2.w.kinds)
    (f : Nat) (R : FoRel (foAt s1.w f) (foAt s2.w f)) {extra : List RelID}
    (hq : qExpr s1 f extra = true) :
    qExpr s2 f extra = true ∧
    (qOut s1.w (drain (foAt s1.w f) extra s1.w)).Equiv
      (qOut s2.w (drain (foAt s2.w f) extra s2.w)) :=
  query_congr H1 H2 hss hiss hk f R hq

/-! ## non-vacuity: relation tables recycled in another order -/

/-- no callbacks -/
abbrev noRun := RelRefine2.noRun

def A : Ent := ⟨2, 0⟩
def B : Ent := ⟨3, 0⟩
def c1 : Ent := ⟨4, 0⟩
def c2 : Ent := ⟨5, 0⟩

/-- `Filter2[C0, C1]` -/
def fAll : FilterObj := mkFilterObj [0, 1] none false true []
/-- `Filter0` -/
def fAny : FilterObj := mkFilterObj [] none false true []

/-- components 0 (data), 1 (relation), 2 (data); two parents, one entity each with `{2}` and `{0}`,
    two children in two relation tables; a registered filter -/
def demoPre : List Op2 :=
  [ .base (.reg 8 false false), .base (.reg 0 false true), .base (.reg 8 false false),
    .base (.new .unsafe_ [] [] []), .base (.new .unsafe_ [] [] []),
    .base (.new .unsafe_ [2] [] []), .base (.new .unsafe_ [0] [] []),
    .base (.new .unsafe_ [0, 1] [(0, 7)] [⟨1, A⟩]),
    .base (.new .unsafe_ [0, 1] [(0, 8)] [⟨1, B⟩]),
    .fdef 0 fAll, .freg 0 ]

/-- after the `Reset`: two parents, two children (through `Map` and `MapN`), entities with `{0}`
    and `{2}` (the other way round), filters, queries with and without per-call targets, through the
    cache, `SetRelations` (accepted, not expressible, rejected), `RemoveEntity` of a target,
    `CopyEntity`, double `Register` / `Unregister`, `Shrink`, a query on a label of `demoPre` -/
def demoPost : List Op2 :=
  [ .base (.new .unsafe_ [] [] []), .base (.new .unsafe_ [] [] []),
    .base (.new .map1 [0, 1] [(0, 11)] [⟨1, A⟩]),
    .base (.new .typed [0, 1] [(0, 12)] [⟨1, B⟩]),
    .base (.new .unsafe_ [0] [(0, 21)] []), .base (.new .unsafe_ [2] [(2, 22)] []),
    .fdef 5 fAll, .fdef 6 fAny,
    .query 6 [],
    .query 5 [⟨1, B⟩],
    .freg 5,
    .query 5 [],
    .base (.setrel .unsafe_ c1 [⟨1, B⟩]),
    .query 5 [⟨1, B⟩],
    .base (.setrel .unsafe_ c1 [⟨1, ⟨9, 0⟩⟩]),
    .base (.del B),
    .base (.setrel .unsafe_ c1 [⟨1, B⟩]),
    .query 0 [],
    .copy c2,
    .freg 5,
    .funreg 5, .funreg 5,
    .shrink false,
    .query 5 [⟨1, Ent.zero⟩] ]

/-- the hypotheses of the theorems hold of the demo -/
example : demoPre.length + 1 + demoPost.length < 2 ^ 16 := by decide

/-- the registrations of `demoPre` -/
example : regsOf2 demoPre =
    [.base (.reg 8 false false), .base (.reg 0 false true), .base (.reg 8 false false)] := rfl

/-- **the relation tables are recycled in the opposite order**: after the four creations the
    children `c1`, `c2` sit in tables 4, 3 of the reset world and in tables 1, 2 of the new world -/
theorem demo_tables_differ :
    ((reach2 noRun 4 4 (demoPre ++ [.reset] ++ demoPost.take 4)).w.index c1.id,
     (reach2 noRun 4 4 (demoPre ++ [.reset] ++ demoPost.take 4)).w.index c2.id) = ((4, 0), (3, 0)) ∧
    ((reach2 noRun 16 8 (regsOf2 demoPre ++ demoPost.take 4)).w.index c1.id,
     (reach2 noRun 16 8 (regsOf2 demoPre ++ demoPost.take 4)).w.index c2.id) = ((1, 0), (2, 0)) := by
  decide +kernel

/-- what the client reads of a child -/
def rec' (e : Ent) (v : Val) (t : Ent) : VisitRec := ⟨e, [some v, some 0, none], [none, some t, none]⟩
/-- … of an entity without components -/
def rec0 (e : Ent) : VisitRec := ⟨e, [none, none, none], [none, none, none]⟩

/-- the trace of `demoPost` after `demoPre ++ [reset]`, computed -/
theorem demo_trace_reset :
    trace2 noRun [] (reach2 noRun 4 4 (demoPre ++ [.reset])) demoPost =
    [ some (.call (.ok (some A))), some (.call (.ok (some B))),
      some (.call (.ok (some c1))), some (.call (.ok (some c2))),
      some (.call (.ok (some ⟨6, 0⟩))), some (.call (.ok (some ⟨7, 0⟩))),
      some .done, some .done,
      some (.query (.visited [rec0 A, rec0 B, ⟨⟨7, 0⟩, [none, none, some 22], [none, none, none]⟩,
        ⟨⟨6, 0⟩, [some 21, none, none], [none, none, none]⟩, rec' c1 11 A, rec' c2 12 B])),
      some (.query (.visited [rec' c2 12 B])),
      some (.call (.ok none)),
      some (.query (.visited [rec' c1 11 A, rec' c2 12 B])),
      some (.call (.ok none)),
      some (.query (.visited [rec' c2 12 B, rec' c1 11 B])),
      none,
      some (.call (.ok none)),
      some (.call (.panic .deadTarget)),
      none,
      some (.call (.ok (some ⟨3, 1⟩))),
      some (.call (.panic .filterRegistered)),
      some (.call (.ok none)),
      some (.call (.panic .filterNotRegistered)),
      some .done,
      some (.query (.visited [rec' c2 12 Ent.zero, rec' c1 11 Ent.zero, rec' ⟨3, 1⟩ 12 Ent.zero])) ] := by
  decide +kernel

/-- the trace of `demoPost` after the registrations of `demoPre` on a new world (other
    capacities), computed: the first query visits the archetypes in another order -/
theorem demo_trace_new :
    trace2 noRun [] (reach2 noRun 16 8 (regsOf2 demoPre)) demoPost =
    [ some (.call (.ok (some A))), some (.call (.ok (some B))),
      some (.call (.ok (some c1))), some (.call (.ok (some c2))),
      some (.call (.ok (some ⟨6, 0⟩))), some (.call (.ok (some ⟨7, 0⟩))),
      some .done, some .done,
      some (.query (.visited [rec0 A, rec0 B, rec' c1 11 A, rec' c2 12 B,
        ⟨⟨6, 0⟩, [some 21, none, none], [none, none, none]⟩,
        ⟨⟨7, 0⟩, [none, none, some 22], [none, none, none]⟩])),
      some (.query (.visited [rec' c2 12 B])),
      some (.call (.ok none)),
      some (.query (.visited [rec' c1 11 A, rec' c2 12 B])),
      some (.call (.ok none)),
      some (.query (.visited [rec' c2 12 B, rec' c1 11 B])),
      none,
      some (.call (.ok none)),
      some (.call (.panic .deadTarget)),
      none,
      some (.call (.ok (some ⟨3, 1⟩))),
      some (.call (.panic .filterRegistered)),
      some (.call (.ok none)),
      some (.call (.panic .filterNotRegistered)),
      some .done,
      some (.query (.visited [rec' c2 12 Ent.zero, rec' c1 11 Ent.zero, rec' ⟨3, 1⟩ 12 Ent.zero])) ] := by
  decide +kernel

/-- the two traces are not equal as lists (the first query iterates in another order) but
    equivalent — by evaluation, … -/
theorem demo_traces_equiv :
    trace2 noRun [] (reach2 noRun 4 4 (demoPre ++ [.reset])) demoPost ≠
      trace2 noRun [] (reach2 noRun 16 8 (regsOf2 demoPre)) demoPost ∧
    TraceEq (trace2 noRun [] (reach2 noRun 4 4 (demoPre ++ [.reset])) demoPost)
      (trace2 noRun [] (reach2 noRun 16 8 (regsOf2 demoPre)) demoPost) := by
  rw [demo_trace_reset, demo_trace_new]
  decide +kernel

/-- … and as an instance of the theorem -/
example :
    TraceEq (trace2 noRun [] (reach2 noRun 4 4 (demoPre ++ [.reset])) demoPost)
      (trace2 noRun [] (reach2 noRun 16 8 (regsOf2 demoPre)) demoPost) :=
  same_trace noRun noRun 4 4 16 8 demoPre demoPost (by decide)

/-! ## the restriction on relation targets is needed -/

/-- **a forged sentinel handle as per-call target**: after `demoPre ++ [reset]` and one creation,
    the typed query `Query(Rel(⟨3, maxU32⟩))` is accepted in the reset world (the memory behind the
    pool slice holds `⟨3, maxU32⟩`, the unchecked `Alive` reads it) and rejected with `deadTarget`
    in a new world.  `⟨3, maxU32⟩` is not a handle the client was ever given, so the query is not
    expressible (`qExpr`). -/
theorem forged_sentinel_target_differs :
    let post : List Op2 := [.base (.new .unsafe_ [] [] []), .fdef 5 fAll]
    let s1 := reach2 noRun 4 4 (demoPre ++ [.reset] ++ post)
    let s2 := reach2 noRun 16 8 (regsOf2 demoPre ++ post)
    qOut s1.w (drain (foAt s1.w 5) [⟨1, ⟨3, maxU32⟩⟩] s1.w) = .visited [] ∧
    qOut s2.w (drain (foAt s2.w 5) [⟨1, ⟨3, maxU32⟩⟩] s2.w) = .rejected .deadTarget ∧
    qExpr s1 5 [⟨1, ⟨3, maxU32⟩⟩] = false := by
  decide +kernel

/-! ## the result of `Shrink` depends on capacities -/

/-- three entities without components, three with component 0, from capacity 1: two tables grow -/
def growPre : List Op2 :=
  [ .base (.reg 8 false false),
    .base (.new .unsafe_ [] [] []), .base (.new .unsafe_ [] [] []), .base (.new .unsafe_ [] [] []),
    .base (.new .unsafe_ [0] [] []), .base (.new .unsafe_ [0] [] []), .base (.new .unsafe_ [0] [] []) ]

/-- **`Shrink(bounded)` answers differently**: after `growPre ++ [reset]` two tables have capacity to
    give back (the bounded call shrinks one and reports more work), a new world has none — which
    is why the trace records `Shrink` without its result -/
theorem shrink_result_differs :
    (match opShrink true (reach2 noRun 1 1 (growPre ++ [.reset])).w with
      | .ok b _ => some b | .panic _ _ => none) = some true ∧
    (match opShrink true (reach2 noRun 1 1 (regsOf2 growPre)).w with
      | .ok b _ => some b | .panic _ _ => none) = some false := by
  decide +kernel

/-! ## `Exchange` with relation components: the machine `Ark.RelRefine3` -/

section Xchg
open Ark.RelRefine3

/-- the outcome of an expressible `Exchange` is a function of the specification: accepted iff
    `preXchg`, otherwise rejected with `rejKindX` (`Unsafe` on a dead handle: `deadEntity`; the
    pre-validation of the relations, on every path; `deadEntity`; `noComponents`; the class the
    mask walk reports) and without effect -/
theorem xchg_outcome_from_spec (run : ProbeRunner) (cap rel : Nat) (ops : List Op3)
    (hlen : ops.length + 1 < 2 ^ 16) (p : Path) (e : Ent) (add : List Comp) (vals : Refine.Comps)
    (rem : List Comp) (rels : Rels)
    (hg : guardXchg (reach3 run cap rel ops) p e add rels = true) :
    (preXchg (reach3 run cap rel ops).ss e add rem rels →
      outcomeU (opExchange run p e add vals rem rels (reach3 run cap rel ops).w) = .ok none) ∧
    (¬ preXchg (reach3 run cap rel ops).ss e add rem rels →
      reach3 run cap rel (ops ++ [.xchg p e add vals rem rels]) = reach3 run cap rel ops ∧
      outcomeU (opExchange run p e add vals rem rels (reach3 run cap rel ops).w) =
        .panic (rejKindX (reach3 run cap rel ops).ss p e add rem rels)) := by
  obtain ⟨fl, H⟩ := reach3_inv run cap rel ops (by omega)
  obtain ⟨hf, he⟩ := reach3_fits run cap rel ops hlen
  obtain ⟨a, r⟩ := xchg_desc run H (by omega) (by omega) p e add vals rem rels hg
  refine ⟨fun hp => (a hp).2.2.2.2.2, fun hnp => ?_⟩
  rw [reach3_snoc]
  exact r hnp

/-- **same trace**, with `Exchange` -/
theorem same_trace3 (run1 run2 : ProbeRunner) (cap rel cap' rel' : Nat) (pre post : List Op3)
    (hlen : pre.length + 1 + post.length < 2 ^ 16) :
    TraceEq (trace3 run1 [] (reach3 run1 cap rel (pre ++ [.base2 .reset])) post)
      (trace3 run2 [] (reach3 run2 cap' rel' (regsOf3 pre)) post) :=
  (reset_equiv_rel3 run1 run2 cap rel cap' rel' pre post hlen).1

/-- **same state** at the end, with `Exchange` -/
theorem same_state3 (run1 run2 : ProbeRunner) (cap rel cap' rel' : Nat) (pre post : List Op3)
    (hlen : pre.length + 1 + post.length < 2 ^ 16) :
    Sim (labels3 run1 [] (reach3 run1 cap rel (pre ++ [.base2 .reset])) post)
      (reach3 run1 cap rel (pre ++ [.base2 .reset] ++ post))
      (reach3 run2 cap' rel' (regsOf3 pre ++ post)) :=
  (reset_equiv_rel3 run1 run2 cap rel cap' rel' pre post hlen).2

/-- **same worlds**, with `Exchange` -/
theorem same_worlds3 (run1 run2 : ProbeRunner) (cap rel cap' rel' : Nat) (pre post : List Op3)
    (hlen : pre.length + 1 + post.length < 2 ^ 16) :
    (reach3 run1 cap rel (pre ++ [.base2 .reset] ++ post)).ss =
      (reach3 run2 cap' rel' (regsOf3 pre ++ post)).ss ∧
    (reach3 run1 cap rel (pre ++ [.base2 .reset] ++ post)).issued =
      (reach3 run2 cap' rel' (regsOf3 pre ++ post)).issued ∧
    (reach3 run1 cap rel (pre ++ [.base2 .reset] ++ post)).w.kinds =
      (reach3 run2 cap' rel' (regsOf3 pre ++ post)).w.kinds ∧
    ((reach3 run1 cap rel (pre ++ [.base2 .reset] ++ post)).w.pool.get).2 =
      ((reach3 run2 cap' rel' (regsOf3 pre ++ post)).w.pool.get).2 ∧
    (∀ (i : Nat),
      compsOf (reach3 run1 cap rel (pre ++ [.base2 .reset] ++ post)).w i =
        compsOf (reach3 run2 cap' rel' (regsOf3 pre ++ post)).w i ∧
      (∀ (c : Comp), valOf (reach3 run1 cap rel (pre ++ [.base2 .reset] ++ post)).w i c =
        valOf (reach3 run2 cap' rel' (regsOf3 pre ++ post)).w i c) ∧
      ∀ (c : Comp), targetOf (reach3 run1 cap rel (pre ++ [.base2 .reset] ++ post)).w i c =
        targetOf (reach3 run2 cap' rel' (regsOf3 pre ++ post)).w i c) ∧
    (∀ (h : Ent), h ∈ (reach3 run1 cap rel (pre ++ [.base2 .reset] ++ post)).issued →
      (reach3 run1 cap rel (pre ++ [.base2 .reset] ++ post)).w.alive h =
        (reach3 run2 cap' rel' (regsOf3 pre ++ post)).w.alive h) ∧
    (∀ (h : Ent), h.gen ≠ maxU32 →
      (reach3 run1 cap rel (pre ++ [.base2 .reset] ++ post)).w.alive h =
        (reach3 run2 cap' rel' (regsOf3 pre ++ post)).w.alive h) :=
  reset_equiv_rel3_worlds run1 run2 cap rel cap' rel' pre post hlen

/-- `demoPre`, then an `Exchange` that drops the relation of an entity -/
def demoPre3 : List Op3 := demoPre.map .base2 ++ [.xchg .unsafe_ ⟨7, 0⟩ [2] [(2, 5)] [1] []]

/-- after the `Reset`: parents and children as in `demoPost`; `Exchange` accepted (data for data,
    relation for data, data for relation) and rejected (`missing`, `noComponents`,
    `addedAndRemoved`, a handle nobody was given: not expressible, `deadEntity`); a query -/
def demoPost3 : List Op3 :=
  [ .base2 (.base (.new .unsafe_ [] [] [])), .base2 (.base (.new .unsafe_ [] [] [])),
    .base2 (.base (.new .map1 [0, 1] [(0, 11)] [⟨1, A⟩])),
    .base2 (.base (.new .typed [0, 1] [(0, 12)] [⟨1, B⟩])),
    .base2 (.fdef 6 fAny),
    .xchg .typed c1 [2] [(2, 33)] [0] [],
    .xchg .unsafe_ c2 [2] [(2, 34)] [1] [],
    .xchg .unsafe_ c2 [1] [] [2] [⟨1, A⟩],
    .xchg .typed c2 [1] [] [2] [⟨1, A⟩],
    .xchg .unsafe_ c2 [] [] [] [],
    .xchg .map1 c2 [0] [] [0] [],
    .xchg .map1 ⟨8, 0⟩ [0] [] [] [],
    .base2 (.base (.del A)),
    .xchg .typed A [0] [] [] [],
    .base2 (.query 6 []) ]

/-- the trace of `demoPost3` after `demoPre3 ++ [reset]`, computed -/
theorem demo3_trace_reset :
    trace3 noRun [] (reach3 noRun 4 4 (demoPre3 ++ [.base2 .reset])) demoPost3 =
    [ some (.call (.ok (some A))), some (.call (.ok (some B))),
      some (.call (.ok (some c1))), some (.call (.ok (some c2))),
      some .done,
      some (.call (.ok none)), some (.call (.ok none)), some (.call (.ok none)),
      some (.call (.panic .missing)), some (.call (.panic .noComponents)),
      some (.call (.panic .addedAndRemoved)), none,
      some (.call (.ok none)), some (.call (.panic .deadEntity)),
      some (.query (.visited [rec0 B, rec' c2 12 Ent.zero,
        ⟨c1, [none, some 0, some 33], [none, some Ent.zero, none]⟩])) ] := by
  decide +kernel

/-- the two traces are equivalent — by evaluation, and as an instance of the theorem -/
theorem demo3_traces_equiv :
    TraceEq (trace3 noRun [] (reach3 noRun 4 4 (demoPre3 ++ [.base2 .reset])) demoPost3)
      (trace3 noRun [] (reach3 noRun 16 8 (regsOf3 demoPre3)) demoPost3) := by
  rw [demo3_trace_reset]
  decide +kernel

example :
    TraceEq (trace3 noRun [] (reach3 noRun 4 4 (demoPre3 ++ [.base2 .reset])) demoPost3)
      (trace3 noRun [] (reach3 noRun 16 8 (regsOf3 demoPre3)) demoPost3) :=
  same_trace3 noRun noRun 4 4 16 8 demoPre3 demoPost3 (by decide)

/-- **the steps the repair of the `Unsafe` API (D24) added**: through `Unsafe`, a relation on a
    non-relation component, on a component that is not added, with a removed entity as target —
    all refused up front (`notRelation`, `relNotInMask`, `deadTarget`; `Unsafe.AddRel` without
    components skips membership and says `noComponents`; `Unsafe.Exchange` on a dead handle says
    `deadEntity` before it looks at the relations, `ExchangeN.Exchange` after) -/
def demoPostU : List Op3 :=
  [ .base2 (.base (.new .unsafe_ [] [] [])), .base2 (.base (.new .unsafe_ [] [] [])),
    .base2 (.base (.new .unsafe_ [0, 1] [(0, 11)] [⟨1, A⟩])),
    .base2 (.base (.new .unsafe_ [0] [] [⟨0, Ent.zero⟩])),
    .base2 (.base (.new .unsafe_ [0] [] [⟨1, Ent.zero⟩])),
    .base2 (.base (.new .unsafe_ [] [] [⟨1, A⟩])),
    .base2 (.base (.add .unsafe_ A [] [] [⟨1, Ent.zero⟩])),
    .base2 (.base (.add .unsafe_ A [0] [] [⟨1, B⟩])),
    .base2 (.base (.add .typed A [0] [] [⟨2, B⟩])),
    .base2 (.base (.setrel .unsafe_ c1 [⟨0, Ent.zero⟩])),
    .base2 (.base (.setrel .unsafe_ c1 [⟨1, B⟩, ⟨1, A⟩])),
    .xchg .unsafe_ c1 [2] [] [] [⟨1, A⟩],
    .xchg .unsafe_ c1 [2] [] [0] [⟨2, A⟩],
    .base2 (.base (.del B)),
    .base2 (.base (.setrel .unsafe_ c1 [⟨1, B⟩])),
    .base2 (.base (.new .unsafe_ [0, 1] [] [⟨1, B⟩])),
    .base2 (.base (.add .unsafe_ A [1] [] [⟨1, B⟩])),
    .xchg .unsafe_ A [1] [] [] [⟨1, B⟩],
    .xchg .unsafe_ B [1] [] [] [⟨1, B⟩],
    .xchg .typed B [1] [] [] [⟨1, B⟩] ]

/-- every operation of `demoPostU` is a step (no `none`), with these outcomes — on both sides -/
theorem demoU_trace_reset :
    trace3 noRun [] (reach3 noRun 4 4 (demoPre3 ++ [.base2 .reset])) demoPostU =
    [ some (.call (.ok (some A))), some (.call (.ok (some B))), some (.call (.ok (some c1))),
      some (.call (.panic .notRelation)), some (.call (.panic .relNotInMask)),
      some (.call (.panic .relNotInMask)), some (.call (.panic .noComponents)),
      some (.call (.panic .relNotInMask)), some (.call (.panic .notRelation)),
      some (.call (.panic .notRelation)), some (.call (.panic .relTwice)),
      some (.call (.panic .relNotInMask)), some (.call (.panic .notRelation)),
      some (.call (.ok none)),
      some (.call (.panic .deadTarget)), some (.call (.panic .deadTarget)),
      some (.call (.panic .deadTarget)), some (.call (.panic .deadTarget)),
      some (.call (.panic .deadEntity)), some (.call (.panic .deadTarget)) ] := by
  decide +kernel

theorem demoU_traces_equiv :
    TraceEq (trace3 noRun [] (reach3 noRun 4 4 (demoPre3 ++ [.base2 .reset])) demoPostU)
      (trace3 noRun [] (reach3 noRun 16 8 (regsOf3 demoPre3)) demoPostU) := by
  rw [demoU_trace_reset]
  decide +kernel

end Xchg

end Ark.Props.C16Rel
