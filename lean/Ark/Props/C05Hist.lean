/-
  Ark.Props.C05Hist — C05 over histories of fewer than `2^32 − 2` operations, for the non-relation, observer-free
  fragment with components:

    "At every point in time a registered filter yields the same entities, Count, EntityAt and
     batch selection as an identical unregistered filter […].  Registration, unregistration […]
     and the creation […] of tables never make the two diverge."

  The machine (`Ark.CacheHist.step2`, Ark/Proofs/CacheHistOps.lean) interleaves, from
  `World.init cap rel`, in any order:
    * `base op` — the eleven entity operations of `Ark.Refine`: `registerComponent`,
      `NewEntity(ids…)`, `NewEntity()`, `Add`, `Remove`, `Exchange` (each through the `Unsafe`,
      `Map` or `MapN` path), `Set`, `RemoveEntity`, `CopyEntity`, `Shrink`, `Reset`;
    * `fdef f fo` — a filter object is constructed and stored under label `f` (the `filter` line of
      the driver; `guardF`: the object is fresh, and for a typed filter the component list names
      registered components contained in the mask — `mkFilterObj` builds the driver's objects);
    * `freg f` / `funreg f` — `World.opFilterRegister` / `World.opFilterUnregister`.
  Filter objects may be typed or unsafe, with `without` / `exclusive` parts and with fixed
  relations (in this fragment no archetype has a relation column, so fixed relations select
  nothing away; a typed constructor rejects them).  Queries and batches take per-call relations
  `extra`: a typed query validates them first (`queryPreCheck`) — if it rejects them, cached and
  uncached query panic alike without effect (`rejected_extra_agree`); in this fragment a typed
  query rejects every non-empty `extra`, an unsafe query accepts all.

  Vocabulary:
    * `HInv2 s fl` — the inductive invariant: `Refine.HInv` (⊇ `CInv` ⊇ `SInv`, `IdxInv`) and `FInv`:
      `CacheInv` (I11), `RInv`, `HeapOK` (a filter object with `cache = some id` has a cache entry
      `id` with its filter and relations; registered objects have distinct IDs; typed objects
      name registered components of their mask), `CIdxH` (the component index lists, per
      component, the archetypes having it), the lock-bit pool invariant with no outstanding bit,
      `CachePoolOK` (registered IDs are below the next fresh one).
    * `Selected w f rels t` — table `t` is selected by filter `f` (Ark/Proofs/CacheInv.lean);
      `SelRow w fo (t, r)` — `t` is selected by `fo` and `r` is a row of `t`.
    * `{ fo with cache := none }` — the identical unregistered filter object.

  `Reset` is a step like any other: it empties the cache, unregisters every filter object of the
  heap and restarts the cache's ID pool and the lock-bit pool (`FInv.reset`); afterwards filters
  can be registered again and agree again.

  Bound: `ops.length < 2^32 − 2`, as for `Refine.reach_hinv`.

  Findings recorded here:
    * a complete iteration does NOT leave the world literally unchanged: `Lock`/`Unlock` push the
      lock bit onto the free list of the bit pool (`drain_changes_lock_pool`); the statement is
      "unchanged up to `locks`, unlocked, lock-pool invariant kept";
    * the cached batch selection skips empty tables, the uncached one (`getCacheTables`) does
      not (`batch_differs_on_empty`): the selections agree on the non-empty tables;
    * `guardF` is needed: a typed filter object whose component list contains an ID that is not
      in its mask diverges (`unguarded_typed_filter_diverges`) — not constructible through the
      typed Go API, where the list and the mask come from the same type parameters.
-/
import Ark.Proofs.CacheHistQuery

set_option autoImplicit false

namespace Ark.Props.C05Hist
open Ark Ark.World Ark.Refine Ark.CacheHist

variable (run : ProbeRunner) (cap rel : Nat)

/-! ## the invariant along histories -/

/-- **the invariant holds after every history** of entity and filter operations -/
theorem reach2_invariant (ops : List Op2) (hlen : ops.length < 2 ^ 32 - 2) :
    ∃ fl, HInv2 (reach2 run cap rel ops) fl :=
  reach2_inv run cap rel ops hlen

/-- one step keeps the invariant (all eleven entity operations, `fdef`, `freg`, `funreg`) -/
theorem step2_keeps {s : St} {fl : List Nat} (H : HInv2 s fl)
    (hfew : s.w.tables.length < maxU32) (hent : s.w.entities.length + 1 < 2 ^ 32) (op : Op2) :
    ∃ fl', HInv2 (step2 run s op) fl' :=
  (step2_inv run H hfew hent op).1

/-- the cache invariant (I11) holds after every history -/
theorem reach2_cacheInv (ops : List Op2) (hlen : ops.length < 2 ^ 32 - 2) :
    CacheInv (reach2 run cap rel ops).w := by
  obtain ⟨fl, H⟩ := reach2_inv run cap rel ops hlen
  exact H.cacheInv

/-- the storage facts the cache relies on hold after every history, and the uncached walk can
    never hit a nil dereference -/
theorem reach2_tablesInv (ops : List Op2) (hlen : ops.length < 2 ^ 32 - 2) :
    TablesInv (reach2 run cap rel ops).w ∧
    ∀ (f : Filter) (rels : List RelID), RelsOK (reach2 run cap rel ops).w f rels := by
  obtain ⟨fl, H⟩ := reach2_inv run cap rel ops hlen
  exact ⟨H.tablesInv, H.relsOK⟩

/-- the filter heap agrees with the cache after every history -/
theorem reach2_heapOK (ops : List Op2) (hlen : ops.length < 2 ^ 32 - 2) :
    HeapOK (reach2 run cap rel ops).w := by
  obtain ⟨fl, H⟩ := reach2_inv run cap rel ops hlen
  exact H.finv.heap

/-- every successful entity operation (all eleven of `Ark.Refine`) is: at most one
    `findOrCreateTableAdd` or one `registerComponent`, followed by steps that touch neither
    archetypes, cache, filter heap, component index, locks, registry nor observers
    (`Evolves.rows`); or `Shrink` (`Evolves.shrink`); or `Reset` (`Evolves.reset`) -/
theorem base_step_shape {s : St} {fl : List Nat} (H : HInv s fl) (hR : RInv s.w)
    (hent : s.w.entities.length + 1 < 2 ^ 32) {op : Op}
    (hg : guard s op = true) {r : Option Ent} {w' : World} (hex : exec run s.w op = .ok r w') :
    Evolves s.w w' :=
  exec_evolves run H hR hent hg hex

/-- each shape keeps the filter-side invariant -/
theorem finv_kept {w : World} (h : FInv w) :
    (∀ {w' : World}, NoRelW w → NoRelW w' → Quiet w w' → FInv w') ∧
    (∀ {w' : World}, FocStep w w' → FInv w') ∧
    (∀ {w' : World} {k : CompKind} {n : Nat}, SInvMid w →
      World.registerComponent k w = .ok n w' → FInv w') ∧
    (∀ {w' : World}, ShrinkRel w w' → RInv w' → (CacheInv w → CacheInv w') → FInv w') ∧
    (NoRelW w → FInv (resetW w)) :=
  ⟨fun hn hn' q => h.quiet hn hn' q, fun st => h.foc st, fun hS hr => h.reg hS hr,
    fun r hr hc => h.shrink r hr hc, fun hn => h.reset hn⟩

/-- `createTable` keeps the cache invariant (relations allowed) -/
theorem createTable_keeps_cacheInv {w w' : World} (h : SInvMid w) (hc : CacheInv w) {a : Nat}
    {rels : List RelID} {t : Nat} (ha : a < w.archetypes.length)
    (hnr : (w.arch a).hasRelations = false → (w.arch a).tables.tables = [])
    (hok : World.createTable a rels w = .ok t w') : CacheInv w' :=
  (RelRefine2.createTable_ckeep h ha hnr hok).cache hc

/-! ## (1) cached = uncached, at every reachable state -/

/-- **For every history and every registered filter object of the reached state**: its cache
    entry exists (under the ID the object carries), has the object's filter and relations, and
    its table list is duplicate-free with the same members as the uncached walk, which
    succeeds and is duplicate-free.  No hypothesis other than the history bound. -/
theorem cached_eq_uncached (ops : List Op2) (hlen : ops.length < 2 ^ 32 - 2) {f : Nat}
    {fo : FilterObj} {id : Nat}
    (hf : AL.find? (reach2 run cap rel ops).w.filters f = some fo) (hc : fo.cache = some id) :
    ∃ (e : CacheEntry), (reach2 run cap rel ops).w.cacheEntry? id = some e ∧ e.id = id ∧
      e.filter = fo.filter ∧ e.rels = fo.rels ∧ e.tables.tables.Nodup ∧
      ∃ (ts : List Nat), (reach2 run cap rel ops).w.getCacheTables fo.filter fo.rels = some ts ∧
        ts.Nodup ∧ ∀ (t : Nat), t ∈ e.tables.tables ↔ t ∈ ts := by
  obtain ⟨fl, H⟩ := reach2_inv run cap rel ops hlen
  exact H.cached_eq_uncached hf hc

/-! ## (2) queries: `Count`, `EntityAt`, complete iteration

`extra` are the relations passed per query.  `queryPreCheck fo extra` is the validation
`FilterN.Query(rel…)` performs first (typed filters only; it reads the world only). -/

/-- the validation passes without per-call relations, and always for unsafe filters; when it
    rejects it leaves the world alone; in this fragment a typed filter rejects every non-empty
    list -/
theorem preCheck_facts (fo : FilterObj) (extra : List RelID) (w : World) :
    queryPreCheck fo [] w = .ok () w ∧
    (fo.typed = false → queryPreCheck fo extra w = .ok () w) ∧
    (queryPreCheck fo extra w = .ok () w ∨
      ∃ (k : PanicKind), queryPreCheck fo extra w = .panic k w) :=
  ⟨queryPreCheck_nil fo w, queryPreCheck_unsafe fo extra w, queryPreCheck_cases fo extra w⟩

/-- **rejected per-call relations**: neither query opens, both complete iterations panic with
    the same class, the world is unchanged (any world, any filter object) -/
theorem rejected_extra_agree (fo : FilterObj) (extra : List RelID) (w : World) {k : PanicKind}
    (hpc : queryPreCheck fo extra w = .panic k w) :
    qOpen fo extra w = .panic k w ∧ qOpen { fo with cache := none } extra w = .panic k w ∧
    drain fo extra w = .panic k w ∧ drain { fo with cache := none } extra w = .panic k w := by
  obtain ⟨h1, h2⟩ := qOpen_precheck_panic fo extra w hpc
  obtain ⟨h3, h4⟩ := qOpen_precheck_panic { fo with cache := none } extra w hpc
  exact ⟨h1, h3, h2, h4⟩

/-- **The open queries agree.**  Both open on the same locked world `wl` (the reached world with
    one lock bit taken); the rows the two cursors are expected to visit (`Drain.expected`, the
    rows `Count`/`EntityAt`/`Next` range over) are duplicate-free, exactly the rows of the
    selected tables, and permutations of each other; `Count` is the same number; `EntityAt`
    enumerates the same entities. -/
theorem open_agree (ops : List Op2) (hlen : ops.length < 2 ^ 32 - 2) {f : Nat}
    {fo : FilterObj} {id : Nat}
    (hf : AL.find? (reach2 run cap rel ops).w.filters f = some fo) (hc : fo.cache = some id)
    (extra : List RelID)
    (hpc : queryPreCheck fo extra (reach2 run cap rel ops).w = .ok () (reach2 run cap rel ops).w) :
    ∃ (qc qu : QueryObj) (wl : World) (rowsC rowsU : List (Nat × Nat)),
      qOpen fo extra (reach2 run cap rel ops).w = .ok qc wl ∧
      qOpen { fo with cache := none } extra (reach2 run cap rel ops).w = .ok qu wl ∧
      wl = { (reach2 run cap rel ops).w with locks := wl.locks } ∧
      Drain.expected wl qc = some rowsC ∧ Drain.expected wl qu = some rowsU ∧
      rowsC.Nodup ∧ rowsU.Nodup ∧ rowsC.Perm rowsU ∧
      (∀ (p : Nat × Nat), p ∈ rowsC ↔ SelRow (reach2 run cap rel ops).w fo p) ∧
      qCount wl qc = some rowsC.length ∧ qCount wl qu = some rowsC.length ∧
      (∀ (ent : Ent), (∃ (i : Nat), qEntityAt wl qc i = some (some ent)) ↔
        ∃ (i : Nat), qEntityAt wl qu i = some (some ent)) := by
  obtain ⟨fl, H⟩ := reach2_inv run cap rel ops hlen
  exact H.open_agree hf hc extra hpc

/-- **The complete iterations agree.**  `World.drain` (open, `Next` to exhaustion, close)
    succeeds for the registered filter object and for its unregistered twin; both end in the same
    world `wf`, which is the reached world up to `locks`, is unlocked, and satisfies the lock-pool
    invariant; every visit reports the entity stored in its row; the visited rows are
    duplicate-free and exactly the rows of the selected tables; the two visit sequences are
    permutations of each other, as rows and as entities. -/
theorem drain_agree (ops : List Op2) (hlen : ops.length < 2 ^ 32 - 2) {f : Nat}
    {fo : FilterObj} {id : Nat}
    (hf : AL.find? (reach2 run cap rel ops).w.filters f = some fo) (hc : fo.cache = some id)
    (extra : List RelID)
    (hpc : queryPreCheck fo extra (reach2 run cap rel ops).w = .ok () (reach2 run cap rel ops).w) :
    ∃ (vc vu : List Visit) (wf : World),
      drain fo extra (reach2 run cap rel ops).w = .ok vc wf ∧
      drain { fo with cache := none } extra (reach2 run cap rel ops).w = .ok vu wf ∧
      wf = { (reach2 run cap rel ops).w with locks := wf.locks } ∧ wf.isLocked = false ∧
      (∃ (lf : List Nat), Lock.LInv ⟨wf.locks, []⟩ lf) ∧
      (∀ (v : Visit), v ∈ vc → v.e = ((reach2 run cap rel ops).w.tbl v.table).getEntity v.row) ∧
      (∀ (v : Visit), v ∈ vu → v.e = ((reach2 run cap rel ops).w.tbl v.table).getEntity v.row) ∧
      (vc.map fun v => (v.table, v.row)).Nodup ∧ (vu.map fun v => (v.table, v.row)).Nodup ∧
      (∀ (p : Nat × Nat), p ∈ vc.map (fun v => (v.table, v.row)) ↔
        SelRow (reach2 run cap rel ops).w fo p) ∧
      (vc.map fun v => (v.table, v.row)).Perm (vu.map fun v => (v.table, v.row)) ∧
      (vc.map (·.e)).Perm (vu.map (·.e)) := by
  obtain ⟨fl, H⟩ := reach2_inv run cap rel ops hlen
  exact H.drain_agree hf hc extra hpc

/-- the statement of the task, without per-call relations: no hypothesis other than the history
    bound and "label `f` holds a registered filter object" -/
theorem drain_agree_nil (ops : List Op2) (hlen : ops.length < 2 ^ 32 - 2) {f : Nat}
    {fo : FilterObj} {id : Nat}
    (hf : AL.find? (reach2 run cap rel ops).w.filters f = some fo) (hc : fo.cache = some id) :
    ∃ (vc vu : List Visit) (wf : World),
      drain { fo with cache := some id } [] (reach2 run cap rel ops).w = .ok vc wf ∧
      drain { fo with cache := none } [] (reach2 run cap rel ops).w = .ok vu wf ∧
      wf = { (reach2 run cap rel ops).w with locks := wf.locks } ∧ wf.isLocked = false ∧
      (vc.map fun v => (v.table, v.row)).Nodup ∧
      (vc.map fun v => (v.table, v.row)).Perm (vu.map fun v => (v.table, v.row)) ∧
      (vc.map (·.e)).Perm (vu.map (·.e)) := by
  obtain ⟨vc, vu, wf, h1, h2, h3, h4, _, _, _, h5, _, _, h6, h7⟩ :=
    drain_agree run cap rel ops hlen hf hc [] (queryPreCheck_nil fo _)
  have hfo : ({ fo with cache := some id } : FilterObj) = fo := by rw [← hc]
  rw [hfo]
  exact ⟨vc, vu, wf, h1, h2, h3, h4, h5, h6, h7⟩

/-! ## (3) batch selection -/

/-- **The batch selections agree** (any per-call relations).  `getBatchTables` succeeds for both
    objects and leaves the world unchanged; both selections are duplicate-free; the uncached one
    lists exactly the selected tables, the cached one those of them that are not empty. -/
theorem batch_agree (ops : List Op2) (hlen : ops.length < 2 ^ 32 - 2) {f : Nat}
    {fo : FilterObj} {id : Nat}
    (hf : AL.find? (reach2 run cap rel ops).w.filters f = some fo) (hc : fo.cache = some id)
    (extra : List RelID) :
    ∃ (tc tu : List Nat),
      getBatchTables fo extra (reach2 run cap rel ops).w = .ok tc (reach2 run cap rel ops).w ∧
      getBatchTables { fo with cache := none } extra (reach2 run cap rel ops).w =
        .ok tu (reach2 run cap rel ops).w ∧
      tc.Nodup ∧ tu.Nodup ∧
      (∀ (t : Nat), t ∈ tu ↔ Selected (reach2 run cap rel ops).w fo.filter fo.rels t) ∧
      (∀ (t : Nat), t ∈ tc ↔ t ∈ tu ∧ ((reach2 run cap rel ops).w.tbl t).len ≠ 0) := by
  obtain ⟨fl, H⟩ := reach2_inv run cap rel ops hlen
  exact H.batch_agree hf hc extra

/-- the driver's filter objects pass the guard of `fdef` when their components are registered -/
theorem driver_filters_pass_guard {w : World} (hk : w.kinds.length ≤ 256) (ids : List Comp)
    (wo : Option (List Comp)) (excl typed : Bool) (rels : List RelID)
    (hreg : ∀ (c : Comp), c ∈ ids → c < w.kinds.length) :
    guardF w (mkFilterObj ids wo excl typed rels) = true :=
  guardF_mkFilterObj hk ids wo excl typed rels hreg

/-! ## non-vacuity: a concrete history -/

def noProbe : ProbeRunner := fun _ _ _ => pure ()

/-- two component types.  Filter 1 = typed "has 0"; filter 2 = unsafe "has 1, without 0".
    Filter 2 is registered; an entity `{0}` is created (archetype 1, table 1); filter 1 is
    registered (cached list `[1]`); an entity `{0, 1}` is created — archetype 2 / table 2 are new
    and `cache.addTable` appends table 2 to the entry of filter 1 AFTER its registration; filter
    2 is unregistered in between (swap-remove in the entry slice); an entity `{1}` (table 3, not
    selected), another `{0, 1}`; the first entity is removed (table 1 becomes empty). -/
def demoOps : List Op2 :=
  [.base (.reg 8 false), .base (.reg 8 false),
   .fdef 1 (mkFilterObj [0] none false true []),
   .fdef 2 (mkFilterObj [1] (some [0]) false false []),
   .freg 2,
   .base (.new .unsafe_ [0] [(0, 7)]),
   .freg 1,
   .base (.new .typed [0, 1] [(1, 3)]),
   .funreg 2,
   .base (.new .map1 [1] []),
   .base (.new .unsafe_ [0, 1] []),
   .base (.del ⟨2, 0⟩)]

/-- the state after the first `k` operations -/
def at_ (k : Nat) : St := reach2 noProbe 4 1 (demoOps.take k)

/-- the filter object under a label -/
def foOf (s : St) (f : Nat) : FilterObj := s.w.foAt f

/-- the cached table list of the filter object under a label -/
def cachedOf (s : St) (f : Nat) : List Nat :=
  match (foOf s f).cache with
  | some id => ((s.w.cacheEntry? id).map (·.tables.tables)).getD []
  | none => []

/-- what a complete iteration returns: entity, table, row of every visit; whether the world is
    unlocked afterwards -/
def visits (s : St) (fo : FilterObj) : Option (List (Ent × Nat × Nat) × Bool) :=
  match drain fo [] s.w with
  | .ok vs w' => some (vs.map (fun v => (v.e, v.table, v.row)), !w'.isLocked)
  | .panic _ _ => none

def sameSet {α : Type} [BEq α] (a b : List α) : Bool :=
  a.all (b.contains ·) && b.all (a.contains ·) && a.length == b.length

/-- cached and uncached iteration of the filter under label `f` visit the same rows -/
def agree (s : St) (f : Nat) : Bool :=
  match visits s (foOf s f), visits s { foOf s f with cache := none } with
  | some (a, ua), some (b, ub) => sameSet a b && ua && ub
  | _, _ => false

/-- all guards of the demo history hold (every `fdef` is a step) -/
example :
    guardF (at_ 2).w (mkFilterObj [0] none false true []) = true ∧
    guardF (at_ 3).w (mkFilterObj [1] (some [0]) false false []) = true := by
  decide +kernel

/-- the cache IDs of the two filter objects and the cached lists along the history: filter 1 is
    registered at step 7 with list `[1]`; the creation of archetype `{0,1}` at step 8 appends
    table 2; unregistering filter 2 (step 9) leaves the entry of filter 1 alone -/
example :
    ((foOf (at_ 5) 2).cache, (foOf (at_ 5) 1).cache) = (some 0, none) ∧
    cachedOf (at_ 5) 2 = [] ∧
    ((foOf (at_ 7) 2).cache, (foOf (at_ 7) 1).cache) = (some 0, some 1) ∧
    cachedOf (at_ 7) 1 = [1] ∧
    cachedOf (at_ 8) 1 = [1, 2] ∧ cachedOf (at_ 8) 2 = [] ∧
    ((foOf (at_ 9) 2).cache, (foOf (at_ 9) 1).cache) = (none, some 1) ∧
    cachedOf (at_ 9) 1 = [1, 2] ∧
    cachedOf (at_ 12) 1 = [1, 2] ∧
    (at_ 12).w.archetypes.map (·.tables.tables) = [[0], [1], [2], [3]] ∧
    (at_ 12).w.tables.map (·.len) = [0, 0, 2, 1] := by
  decide +kernel

/-- cached and uncached iterations agree after every prefix of the history in which filter 1 is
    registered (and for filter 2 while it is registered) -/
example :
    agree (at_ 7) 1 = true ∧ agree (at_ 8) 1 = true ∧ agree (at_ 9) 1 = true ∧
    agree (at_ 10) 1 = true ∧ agree (at_ 11) 1 = true ∧ agree (at_ 12) 1 = true ∧
    agree (at_ 5) 2 = true ∧ agree (at_ 8) 2 = true := by
  decide +kernel

/-- before the removal both queries visit three entities; at the end both visit the two `{0,1}`
    entities in table 2 and skip the emptied table 1 -/
example :
    visits (at_ 11) (foOf (at_ 11) 1) =
      some ([(⟨2, 0⟩, 1, 0), (⟨3, 0⟩, 2, 0), (⟨5, 0⟩, 2, 1)], true) ∧
    visits (at_ 12) (foOf (at_ 12) 1) = some ([(⟨3, 0⟩, 2, 0), (⟨5, 0⟩, 2, 1)], true) := by
  decide +kernel

example :
    visits (at_ 12) { foOf (at_ 12) 1 with cache := none } =
      some ([(⟨3, 0⟩, 2, 0), (⟨5, 0⟩, 2, 1)], true) := by
  decide +kernel

/-- the hypotheses of the theorems above are satisfied at the end of the demo history: filter 1
    is in the heap and registered -/
example :
    AL.find? (reach2 noProbe 4 1 demoOps).w.filters 1 = some (foOf (at_ 12) 1) ∧
    (foOf (at_ 12) 1).cache = some 1 ∧ demoOps.length < 2 ^ 32 - 2 := by
  decide +kernel

/-- per-call relations: an unsafe filter "has 1" (label 3) is added and registered after the demo
    history; queried with a per-call relation `(1, 2.0)` — ignored by tables without relation
    columns — cached and uncached iteration visit the same three entities; the typed filter 1
    rejects the same relation for both variants alike -/
def sExtra : St :=
  reach2 noProbe 4 1 (demoOps ++ [.fdef 3 (mkFilterObj [1] none false false []), .freg 3])

def visitsX (s : St) (fo : FilterObj) (extra : List RelID) : Option (List (Ent × Nat × Nat)) :=
  match drain fo extra s.w with
  | .ok vs _ => some (vs.map fun v => (v.e, v.table, v.row))
  | .panic _ _ => none

example :
    (foOf sExtra 3).cache = some 2 ∧ (foOf sExtra 3).typed = false ∧
    (match queryPreCheck (foOf sExtra 3) [⟨1, ⟨2, 0⟩⟩] sExtra.w with
     | .ok _ _ => true | .panic _ _ => false) = true ∧
    visitsX sExtra (foOf sExtra 3) [⟨1, ⟨2, 0⟩⟩] =
      some [(⟨3, 0⟩, 2, 0), (⟨5, 0⟩, 2, 1), (⟨4, 0⟩, 3, 0)] ∧
    visitsX sExtra { foOf sExtra 3 with cache := none } [⟨1, ⟨2, 0⟩⟩] =
      some [(⟨3, 0⟩, 2, 0), (⟨5, 0⟩, 2, 1), (⟨4, 0⟩, 3, 0)] ∧
    visitsX sExtra (foOf sExtra 1) [⟨1, ⟨2, 0⟩⟩] = none ∧
    visitsX sExtra { foOf sExtra 1 with cache := none } [⟨1, ⟨2, 0⟩⟩] = none := by
  decide +kernel

/-- the demo history continued with the other operations of the entity machine: `Exchange`
    (entity `4.0` moves from `{1}` to `{0}`: table 1 is filled again), `CopyEntity`, `Shrink`,
    a second registration of filter 2 (fresh cache ID 2: IDs are not recycled), `Reset` (cache
    emptied, both filter objects unregistered, ID pool restarted), a new registration of filter 1
    (cache ID 0 again; the entry lists the two emptied tables), and three creations -/
def demoOps2 : List Op2 :=
  demoOps ++
  [.base (.xchg .unsafe_ ⟨4, 0⟩ [0] [1] [(0, 9)]),
   .base (.copy ⟨3, 0⟩),
   .base (.shrink false),
   .freg 2,
   .base .reset,
   .freg 1,
   .base .new0,
   .base (.new .typed [0] [(0, 5)]),
   .base (.new .unsafe_ [0, 1] [])]

def at2 (k : Nat) : St := reach2 noProbe 4 1 (demoOps2.take k)

example :
    agree (at2 13) 1 = true ∧ agree (at2 14) 1 = true ∧ agree (at2 15) 1 = true ∧
    agree (at2 16) 1 = true ∧ agree (at2 16) 2 = true ∧ agree (at2 18) 1 = true ∧
    agree (at2 19) 1 = true ∧ agree (at2 20) 1 = true ∧ agree (at2 21) 1 = true := by
  decide +kernel

example :
    ((foOf (at2 16) 1).cache, (foOf (at2 16) 2).cache) = (some 1, some 2) ∧
    (cachedOf (at2 16) 1, cachedOf (at2 16) 2) = ([1, 2], [3]) ∧
    ((foOf (at2 17) 1).cache, (foOf (at2 17) 2).cache) = (none, none) ∧
    ((at2 17).w.cache.filters.length, (at2 17).w.cache.indices) = (0, []) ∧
    (at2 17).w.tables.map (·.len) = [0, 0, 0, 0] ∧
    ((foOf (at2 18) 1).cache, cachedOf (at2 18) 1) = (some 0, [1, 2]) := by
  decide +kernel

example :
    visits (at2 15) (foOf (at2 15) 1) =
      some ([(⟨4, 0⟩, 1, 0), (⟨3, 0⟩, 2, 0), (⟨5, 0⟩, 2, 1), (⟨2, 1⟩, 2, 2)], true) ∧
    visits (at2 21) (foOf (at2 21) 1) = some ([(⟨3, 0⟩, 1, 0), (⟨4, 0⟩, 2, 0)], true) := by
  decide +kernel

example :
    visits (at2 21) { foOf (at2 21) 1 with cache := none } =
      some ([(⟨3, 0⟩, 1, 0), (⟨4, 0⟩, 2, 0)], true) := by
  decide +kernel

/-! ## findings -/

/-- **A complete iteration changes the lock-bit pool**: after the first query ever, the pool has
    handed out one bit and holds it on its free list (`length = 1`, `available = 1`); the lock
    mask is empty again.  Hence "leave the world unchanged" holds up to `locks` only. -/
theorem drain_changes_lock_pool :
    (match drain (foOf (at_ 7) 1) [] (at_ 7).w with
     | .ok _ w' => (w'.locks.pool.length, w'.locks.pool.available, w'.isLocked,
         (at_ 7).w.locks.pool.length, (at_ 7).w.locks.pool.available)
     | .panic _ _ => (0, 0, true, 0, 0)) = (1, 1, false, 0, 0) := by
  decide +kernel

/-- **The batch selections differ on empty tables**: at the end of the demo history table 1 is
    empty; the cached `getBatchTables` skips it, the uncached one lists it. -/
theorem batch_differs_on_empty :
    (match getBatchTables (foOf (at_ 12) 1) [] (at_ 12).w,
       getBatchTables { foOf (at_ 12) 1 with cache := none } [] (at_ 12).w with
     | .ok a _, .ok b _ => (a, b)
     | _, _ => ([], [])) = ([2], [1, 2]) := by
  decide +kernel

/-- a typed filter object the guard rejects: mask "has 0", but component list `[1]` -/
def badFo : FilterObj := { filter := { mask := Mask.ofList [0] }, ids := [1], typed := true }

/-- **Why `fdef` is guarded**: store `badFo` in the heap of the state after step 8 (one `{0}`
    entity, one `{0,1}` entity) without the guard and register it.  The cached query visits both
    entities; the uncached query walks `componentIndex[1]` (archetype `{0,1}` only) and visits
    one.  The guard rejects the object; the typed Go API cannot build it. -/
theorem unguarded_typed_filter_diverges :
    guardF (at_ 8).w badFo = false ∧
    (let w0 : World := { (at_ 8).w with filters := AL.insert (at_ 8).w.filters 9 badFo }
     let w1 := (opFilterRegister 9 w0).state
     let s1 : St := { at_ 8 with w := w1 }
     ((visits s1 (foOf s1 9)).map (·.1.length),
      (visits s1 { foOf s1 9 with cache := none }).map (·.1.length))) = (some 2, some 1) := by
  decide +kernel

end Ark.Props.C05Hist
