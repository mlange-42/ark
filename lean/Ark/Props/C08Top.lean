/-
  Ark.Props.C08Top — the world-level theorems of C08 (Props/C08World), restated.  They live in their
  own module because the proofs behind them import Props/C08.lean (the manager-level theorems).
-/
import Ark.Props.C08
import Ark.Props.C08World
import Ark.Props.C08Rel
import Ark.Props.C08Xchg
import Ark.Proofs.CallbacksRelAdd

namespace Ark.Props.C08Top
open Ark

/-! ### World level (Props/C08World): which callbacks each operation runs -/

/-- for a read-only probe runner `dispatch` is a filter of the observer list: it logs, in slice order, one `cb` record (and the script's records) per observer whose predicate holds, changes nothing else, and reports whether any ran -/
theorem world_dispatch_is_filter : type_of% @Ark.Props.C08World.dispatch_is_filter := @Ark.Props.C08World.dispatch_is_filter

/-- the observers an event notifies are exactly those registered for the event type whose specification satisfies the documented rule `Spec.fires` -/
theorem world_firing_iff : type_of% @Ark.Props.C08World.firing_iff := @Ark.Props.C08World.firing_iff

/-- each selected observer appears once in the records of an operation, every other observer never -/
theorem world_firing_exactly_once : type_of% @Ark.Props.C08World.firing_exactly_once := @Ark.Props.C08World.firing_exactly_once

/-- **C08** for `add`: the call succeeds exactly as without observers and yields the observer-free result up to `obs`/`log`/lock pool; the `cb` records it appends are exactly the observers selected by the documented rule for this operation's event(s), once each, for the affected entity -/
theorem world_add_callbacks : type_of% @Ark.Props.C08World.add_callbacks := @Ark.Props.C08World.add_callbacks

/-- **C08** for `remove`: the call succeeds exactly as without observers and yields the observer-free result up to `obs`/`log`/lock pool; the `cb` records it appends are exactly the observers selected by the documented rule for this operation's event(s), once each, for the affected entity -/
theorem world_remove_callbacks : type_of% @Ark.Props.C08World.remove_callbacks := @Ark.Props.C08World.remove_callbacks

/-- **C08** for `exchange`: the call succeeds exactly as without observers and yields the observer-free result up to `obs`/`log`/lock pool; the `cb` records it appends are exactly the observers selected by the documented rule for this operation's event(s), once each, for the affected entity -/
theorem world_exchange_callbacks : type_of% @Ark.Props.C08World.exchange_callbacks := @Ark.Props.C08World.exchange_callbacks

/-- **C08** for `newEntity`: the call succeeds exactly as without observers and yields the observer-free result up to `obs`/`log`/lock pool; the `cb` records it appends are exactly the observers selected by the documented rule for this operation's event(s), once each, for the affected entity -/
theorem world_newEntity_callbacks : type_of% @Ark.Props.C08World.newEntity_callbacks := @Ark.Props.C08World.newEntity_callbacks

/-- **C08** for `newEntity0`: the call succeeds exactly as without observers and yields the observer-free result up to `obs`/`log`/lock pool; the `cb` records it appends are exactly the observers selected by the documented rule for this operation's event(s), once each, for the affected entity -/
theorem world_newEntity0_callbacks : type_of% @Ark.Props.C08World.newEntity0_callbacks := @Ark.Props.C08World.newEntity0_callbacks

/-- **C08** for `removeEntity`: the call succeeds exactly as without observers and yields the observer-free result up to `obs`/`log`/lock pool; the `cb` records it appends are exactly the observers selected by the documented rule for this operation's event(s), once each, for the affected entity -/
theorem world_removeEntity_callbacks : type_of% @Ark.Props.C08World.removeEntity_callbacks := @Ark.Props.C08World.removeEntity_callbacks

/-- **C08** for `set`: the call succeeds exactly as without observers and yields the observer-free result up to `obs`/`log`/lock pool; the `cb` records it appends are exactly the observers selected by the documented rule for this operation's event(s), once each, for the affected entity -/
theorem world_set_callbacks : type_of% @Ark.Props.C08World.set_callbacks := @Ark.Props.C08World.set_callbacks

/-- **C08** for `copyEntity`: the call succeeds exactly as without observers and yields the observer-free result up to `obs`/`log`/lock pool; the `cb` records it appends are exactly the observers selected by the documented rule for this operation's event(s), once each, for the affected entity -/
theorem world_copyEntity_callbacks : type_of% @Ark.Props.C08World.copyEntity_callbacks := @Ark.Props.C08World.copyEntity_callbacks

/-- **C08** for `emit`: the call succeeds exactly as without observers and yields the observer-free result up to `obs`/`log`/lock pool; the `cb` records it appends are exactly the observers selected by the documented rule for this operation's event(s), once each, for the affected entity -/
theorem world_emit_callbacks : type_of% @Ark.Props.C08World.emit_callbacks := @Ark.Props.C08World.emit_callbacks

/-- whether an observer is notified by an operation does not depend on which other observers are registered -/
theorem world_observer_independent : type_of% @Ark.Props.C08World.observer_independent := @Ark.Props.C08World.observer_independent

/-- registering another observer keeps the setting, keeps whether `l` is listed and keeps every specification -/
theorem world_register_other_independent_reachable : type_of% @Ark.Props.C08World.register_other_independent_reachable := @Ark.Props.C08World.register_other_independent_reachable

/-- … and so does unregistering another observer (only the ORDER of callbacks may change: swap-remove) -/
theorem world_unregister_other_independent_reachable : type_of% @Ark.Props.C08World.unregister_other_independent_reachable := @Ark.Props.C08World.unregister_other_independent_reachable

/-- `Register` establishes/keeps the observer-manager invariants -/
theorem world_register_keeps_setting : type_of% @Ark.Props.C08World.register_keeps_setting := @Ark.Props.C08World.register_keeps_setting

/-- `Unregister` keeps them -/
theorem world_unregister_keeps_setting : type_of% @Ark.Props.C08World.unregister_keeps_setting := @Ark.Props.C08World.unregister_keeps_setting

/-- the manager's bookkeeping invariant (IDs never recycled, unique, index ↔ object) holds initially -/
theorem world_bookkeeping_init : type_of% @Ark.Props.C08World.bookkeeping_init := @Ark.Props.C08World.bookkeeping_init

/-- … is kept by `Register` -/
theorem world_register_keeps_bookkeeping : type_of% @Ark.Props.C08World.register_keeps_bookkeeping := @Ark.Props.C08World.register_keeps_bookkeeping

/-- … and by `Unregister` -/
theorem world_unregister_keeps_bookkeeping : type_of% @Ark.Props.C08World.unregister_keeps_bookkeeping := @Ark.Props.C08World.unregister_keeps_bookkeeping

/-- finding: with all 64 lock bits outstanding a removal with observers panics `outOfLocks` (not reachable) -/
theorem world_lock_hypothesis_necessary : type_of% @Ark.Props.C08World.lock_hypothesis_necessary := @Ark.Props.C08World.lock_hypothesis_necessary

/-- finding: a callback that changes the world (e.g. creates an entity) is outside the theorem: the statement is for read-only callbacks -/
theorem world_readOnly_necessary : type_of% @Ark.Props.C08World.readOnly_necessary := @Ark.Props.C08World.readOnly_necessary



/-! ### Relation events at world level (Props/C08Rel): worlds with relation components, any set of registered observers, read-only callbacks -/

/-- the setting: the world invariant with relations, with any set of registered observers -/
theorem rel_tinvObs_is_tinv_plus_obsOK : type_of% @Ark.Props.C08Rel.tinvObs_is_tinv_plus_obsOK := @Ark.Props.C08Rel.tinvObs_is_tinv_plus_obsOK

/-- the setting is kept by the operations below (so the theorems iterate) -/
theorem rel_setting_kept : type_of% @Ark.Props.C08Rel.setting_kept := @Ark.Props.C08Rel.setting_kept

/-- SetRelations is rejected exactly as without observers -/
theorem rel_setRelations_rejected_as_without_observers : type_of% @Ark.Props.C08Rel.setRelations_rejected_as_without_observers := @Ark.Props.C08Rel.setRelations_rejected_as_without_observers

/-- **SetRelations**: succeeds exactly as without observers, yields the observer-free result up to observers/log/lock pool; a call that changes no target returns the world untouched and notifies nobody (not even wildcard observers); otherwise the records appended are one per OnRemoveRelations observer whose specification fires for (mask, the relation components whose target CHANGES), then one per OnAddRelations observer likewise -/
theorem rel_setRelations_callbacks : type_of% @Ark.Props.C08Rel.setRelations_callbacks := @Ark.Props.C08Rel.setRelations_callbacks

/-- the change set: the relation components named whose current target differs from the one given -/
theorem rel_changedRels_iff : type_of% @Ark.Props.C08Rel.changedRels_iff := @Ark.Props.C08Rel.changedRels_iff

/-- which observers fire in a relation round: the documented rule on event type, For (⊆ changed components), With/Without/Exclusive -/
theorem rel_firingRel_iff : type_of% @Ark.Props.C08Rel.firingRel_iff := @Ark.Props.C08Rel.firingRel_iff

/-- each firing observer is notified exactly once -/
theorem rel_setRelations_exactly_once : type_of% @Ark.Props.C08Rel.setRelations_exactly_once := @Ark.Props.C08Rel.setRelations_exactly_once

/-- whether an observer is notified by SetRelations does not depend on the other observers -/
theorem rel_setRelations_observer_independent : type_of% @Ark.Props.C08Rel.setRelations_observer_independent := @Ark.Props.C08Rel.setRelations_observer_independent

/-- entities without relation components never trigger relation observers -/
theorem rel_no_relation_no_relation_observers : type_of% @Ark.Props.C08Rel.no_relation_no_relation_observers := @Ark.Props.C08Rel.no_relation_no_relation_observers

/-- NewEntity with targets: the entity round and the OnAddRelations round (fires exactly when targets are given), on the world after the change -/
theorem rel_newEntity_rel_callbacks : type_of% @Ark.Props.C08Rel.newEntity_rel_callbacks := @Ark.Props.C08Rel.newEntity_rel_callbacks

/-- Add with relation components: the component round and the OnAddRelations round -/
theorem rel_add_rel_callbacks : type_of% @Ark.Props.C08Rel.add_rel_callbacks := @Ark.Props.C08Rel.add_rel_callbacks

/-- Remove of relation components: the component round and the OnRemoveRelations round (fires exactly when a relation component is removed), under one lock, before the change -/
theorem rel_remove_rel_callbacks : type_of% @Ark.Props.C08Rel.remove_rel_callbacks := @Ark.Props.C08Rel.remove_rel_callbacks

/-- RemoveEntity of an entity with relation components (also of a relation target): the entity round and the OnRemoveRelations round, before the change; the clean-up of children neither reads nor writes observers -/
theorem rel_removeEntity_rel_callbacks : type_of% @Ark.Props.C08Rel.removeEntity_rel_callbacks := @Ark.Props.C08Rel.removeEntity_rel_callbacks

/-- RemoveEntity succeeds or fails exactly as without observers, including the clean-up -/
theorem rel_removeEntity_as_without_observers : type_of% @Ark.Props.C08Rel.removeEntity_as_without_observers := @Ark.Props.C08Rel.removeEntity_as_without_observers

/-- exactly once per firing observer, in every relation round -/
theorem rel_relRound_exactly_once : type_of% @Ark.Props.C08Rel.relRound_exactly_once := @Ark.Props.C08Rel.relRound_exactly_once

/-- independence of the other observers, in every relation round -/
theorem rel_relRound_observer_independent : type_of% @Ark.Props.C08Rel.relRound_observer_independent := @Ark.Props.C08Rel.relRound_observer_independent

/-- finding: with all 64 lock bits outstanding SetRelations panics (the lock-cycle hypothesis is needed) -/
theorem rel_lock_hypothesis_necessary : type_of% @Ark.Props.C08Rel.lock_hypothesis_necessary := @Ark.Props.C08Rel.lock_hypothesis_necessary



/-! ### The events of Exchange in worlds with relation components (Props/C08Xchg) -/

/-- Exchange is rejected exactly as without observers, on every access path -/
theorem xrel_exchange_rejected_as_without_observers : type_of% @Ark.Props.C08Xchg.exchange_rejected_as_without_observers := @Ark.Props.C08Xchg.exchange_rejected_as_without_observers

/-- … and accepted exactly as without observers, with the observer-free result up to observers/log/lock pool -/
theorem xrel_exchange_accepted_as_without_observers : type_of% @Ark.Props.C08Xchg.exchange_accepted_as_without_observers := @Ark.Props.C08Xchg.exchange_accepted_as_without_observers

/-- **the callbacks of Exchange(e, add, rem, targets)**: a removal round under one lock — the OnRemoveComponents observers whose specification fires (if rem is non-empty), then the OnRemoveRelations observers (if a relation component is removed) —, the move, then the OnAddComponents observers (if add is non-empty) and the OnAddRelations observers (if targets are given) -/
theorem xrel_exchange_callbacks : type_of% @Ark.Props.C08Xchg.exchange_callbacks := @Ark.Props.C08Xchg.exchange_callbacks

/-- all four rounds are evaluated on one pair of masks: the entity's mask before the call and its mask after the complete exchange -/
theorem xrel_exchange_masks : type_of% @Ark.Props.C08Xchg.exchange_masks := @Ark.Props.C08Xchg.exchange_masks

/-- a removal observer fires iff its For components are among the removed ones (or it has none) and With/Without/Exclusive hold for the mask BEFORE the call -/
theorem xrel_fires_remove_iff : type_of% @Ark.Props.C08Xchg.fires_remove_iff := @Ark.Props.C08Xchg.fires_remove_iff

/-- an addition observer fires iff its For components are among the added ones (or it has none) and With/Without/Exclusive hold for the mask BEFORE the call (as documented: 'had before the operation') -/
theorem xrel_fires_add_iff : type_of% @Ark.Props.C08Xchg.fires_add_iff := @Ark.Props.C08Xchg.fires_add_iff

/-- each firing observer is notified exactly once -/
theorem xrel_exchange_exactly_once : type_of% @Ark.Props.C08Xchg.exchange_exactly_once := @Ark.Props.C08Xchg.exchange_exactly_once

/-- whether an observer is notified does not depend on the other observers (all four rounds) -/
theorem xrel_exchange_observer_independent : type_of% @Ark.Props.C08Xchg.exchange_observer_independent := @Ark.Props.C08Xchg.exchange_observer_independent

/-- the access path matters only when nothing is added: Unsafe.Exchange then skips both addition rounds, the typed path notifies the OnAddComponents observers without For -/
theorem xrel_path_matters_only_for_pure_removals : type_of% @Ark.Props.C08Xchg.path_matters_only_for_pure_removals := @Ark.Props.C08Xchg.path_matters_only_for_pure_removals

/-- finding: with all 64 lock bits outstanding an exchange with removals and a removal observer panics (the lock-cycle hypothesis is needed) -/
theorem xrel_lock_hypothesis_necessary : type_of% @Ark.Props.C08Xchg.lock_hypothesis_necessary := @Ark.Props.C08Xchg.lock_hypothesis_necessary


end Ark.Props.C08Top
