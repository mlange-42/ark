/-
  Ark.Props.C01Batch — C01 for the non-relation, observer-free fragment WITH THE BATCH FORMS AS
  STEPS, over histories within the size budget `Fits (1, 2)` (below):

    "After any sequence of valid operations (create, add, remove, exchange, set, copy, remove
     entity, THEIR BATCH FORMS, reset, shrink) every alive entity has exactly the set of components
     those operations imply, and every component holds the value most recently written to it
     through any access path.  An operation on one entity never changes the components or values
     of any other entity."

  The machine (`Ark.RefineB`, Ark/Proofs/RefineBatch*.lean) wraps the machine of `Ark.Refine`
  (Ark/Props/C01Refine.lean): the operations are

    base op                  an operation of `Ark.Refine` (eleven single-entity operations)
    newb p n ids vals        `NewBatch(n, ids…)` through the access path `p`, no callback
    delb f                   `World.RemoveEntities(batch, nil)` on the uncached filter `f`
    xchgb p f add vals rem   `AddBatch` / `RemoveBatch` / `ExchangeBatch` on the uncached filter `f`;
                             `vals = some vs`: the `…BatchFn` form whose callback writes `vs`

  and the SPECIFICATION STEP OF A BATCH IS THE SPECIFICATION STEP OF THE SINGLE OPERATION APPLIED TO
  EVERY SELECTED ENTITY (`specStepB`): folded over the specified entities whose key set the filter
  matches (`matching`), resp. over the `n` returned handles.  The specification never looks at the
  model.

  Scope (`guardB`): as in `Ark.Refine` (handles the client was given, registered component IDs),
  and an exchange batch is a step only if the precondition of `Exchange(add, rem)` holds on EVERY
  selected entity — or if `add = rem = []`, which is rejected cleanly.  A batch whose precondition
  fails on some selected entity is NOT rejected without effect (finding below), so it is not a step.

  Bound (`Fits (1, 2) ops`): see Ark/Proofs/RefineBatchHist.lean.  Without exchange batches it is
  `totalCost ops < 2^32 − 2` (single operation 1, `newb n` `max n 1`, `delb` 0: `fits_of_cost`); an
  exchange batch needs `2·T < 2^32 − 1` for the current table budget `T` and is budgeted as
  doubling it, whatever the world (it creates at most one table per selected table): a history
  that fits holds at most 31 exchange batches.
-/
import Ark.Proofs.RefineBatchHist
import Ark.Props.C01Refine

set_option autoImplicit false

namespace Ark.Props.C01Batch
open Ark Ark.World Ark.Refine Ark.RefineB Ark.Props.C01World

variable (run : ProbeRunner) (cap rel : Nat)

/-! ## the invariant along histories -/

/-- the invariant of the machine with batch steps (`HInvB` = `Refine.HInv` + rows hold alive
    handles + the world lock is well formed and free) holds after every history within the bound -/
theorem reach_inv (ops : List OpB) (hf : Fits (1, 2) ops) :
    ∃ fl, HInvB (reachB run cap rel ops) fl := reachB_inv run cap rel ops hf

/-- the joint invariant `CInv`, an unlocked world, rows holding current handles -/
theorem reach_cinv (ops : List OpB) (hf : Fits (1, 2) ops) :
    ∃ fl, CInv (reachB run cap rel ops).w fl ∧ (reachB run cap rel ops).w.isLocked = false ∧
      RowsLive (reachB run cap rel ops).w := by
  obtain ⟨fl, h⟩ := reachB_inv run cap rel ops hf
  exact ⟨fl, h.hinv.cinv, h.hinv.unlocked, h.rowsLive⟩

/-- histories of single operations are the histories of `Ark.Refine`, with its bound -/
theorem base_histories (ops : List Op) (hlen : ops.length < 2 ^ 32 - 2) :
    reachB run cap rel (ops.map .base) = reach run cap rel ops ∧ Fits (1, 2) (ops.map .base) :=
  ⟨reachB_base run cap rel ops, fits_base ops hlen⟩

/-- without exchange batches: the bound is the sum of the costs -/
theorem fits_without_xchgb (ops : List OpB) (hx : ∀ op ∈ ops, op.isXchgb = false)
    (hc : totalCost ops < 2 ^ 32 - 2) : Fits (1, 2) ops :=
  fits_of_cost ops (1, 2) hx (by show 1 + _ ≤ maxU32; simp only [maxU32]; omega)
    (by show 2 + _ < 2 ^ 32; omega)

/-- with `k = xcount ops` exchange batches: `(1 + totalCost ops) · 2^k < 2^32 − 1` (the table
    budget may double with each of them) and `2 · (2 + totalCost ops) < 2^32` -/
theorem fits_with_xchgb (ops : List OpB) (h1 : (1 + totalCost ops) * 2 ^ xcount ops < maxU32)
    (h2 : 2 * (2 + totalCost ops) < 2 ^ 32) : Fits (1, 2) ops :=
  fits_of_cost_x ops (1, 2) h1 h2

/-! ## refinement: the theorem C01 asks for -/

/-- **refines** — after every history of single AND batch operations, for every entry
    `(e, comps)` of the specification: `e` is alive, its component set is the sorted list of the
    keys of `comps`, and every component holds the recorded (= last written) value; the keys are
    distinct registered IDs. -/
theorem refines (ops : List OpB) (hf : Fits (1, 2) ops) (e : Ent) (comps : Comps)
    (hm : (e, comps) ∈ (reachB run cap rel ops).ss.ents) :
    (reachB run cap rel ops).w.alive e = true ∧
    compsOf (reachB run cap rel ops).w e.id =
      some (sortedIds (reachB run cap rel ops).w.kinds.length (keys comps)) ∧
    (∀ cv ∈ comps, valOf (reachB run cap rel ops).w e.id cv.1 = some cv.2) ∧
    (keys comps).Nodup ∧ (∀ c ∈ keys comps, c < (reachB run cap rel ops).w.kinds.length) := by
  obtain ⟨fl, h⟩ := reachB_inv run cap rel ops hf
  obtain ⟨_, ha, _⟩ := h.hinv.live_facts hm
  have ok := h.hinv.ok e comps hm
  exact ⟨ha, ok.comps, ok.vals, ok.nodup, ok.reg⟩

/-- … and a component that is not a key of the entry is absent -/
theorem refines_absent (ops : List OpB) (hf : Fits (1, 2) ops) (e : Ent) (comps : Comps)
    (hm : (e, comps) ∈ (reachB run cap rel ops).ss.ents) (c : Comp) (hc : c ∉ keys comps) :
    valOf (reachB run cap rel ops).w e.id c = none := by
  obtain ⟨_, hcs, _⟩ := refines run cap rel ops hf e comps hm
  exact valOf_none_of_comps hcs (fun hh => hc (mem_sortedIds.mp hh).2)

/-- **exactly the alive entities are specified**: a handle some creating call returned is alive
    iff the specification has an entry for it -/
theorem alive_iff_specified (ops : List OpB) (hf : Fits (1, 2) ops) (h : Ent)
    (hi : h ∈ (reachB run cap rel ops).issued) :
    (reachB run cap rel ops).w.alive h = true ↔ h ∈ (reachB run cap rel ops).ss.ents.map (·.1) := by
  obtain ⟨fl, hinv⟩ := reachB_inv run cap rel ops hf
  exact Pool.alive_iff_live _ fl hinv.hinv.ginv h hi

theorem unspecified_dead (ops : List OpB) (hf : Fits (1, 2) ops) (h : Ent)
    (hi : h ∈ (reachB run cap rel ops).issued)
    (hn : h ∉ (reachB run cap rel ops).ss.ents.map (·.1)) :
    (reachB run cap rel ops).w.alive h = false := by
  cases ha : (reachB run cap rel ops).w.alive h with
  | false => rfl
  | true => exact absurd ((alive_iff_specified run cap rel ops hf h hi).mp ha) hn

theorem spec_handles_nodup (ops : List OpB) (hf : Fits (1, 2) ops) :
    ((reachB run cap rel ops).ss.ents.map (·.1)).Nodup ∧
    (∀ h ∈ (reachB run cap rel ops).ss.ents.map (·.1), h ∈ (reachB run cap rel ops).issued) ∧
    (reachB run cap rel ops).issued.Nodup := by
  obtain ⟨fl, hinv⟩ := reachB_inv run cap rel ops hf
  exact ⟨hinv.hinv.ginv.live_nodup, hinv.hinv.ginv.live_issued, hinv.hinv.nodup⟩

/-- the specification's registry is the model's -/
theorem registry_agrees (ops : List OpB) (hf : Fits (1, 2) ops) :
    (reachB run cap rel ops).ss.zst = (reachB run cap rel ops).w.kinds.map (·.zst) := by
  obtain ⟨fl, h⟩ := reachB_inv run cap rel ops hf
  exact h.hinv.zstEq

/-! ## invalid operations are rejected without effect, valid ones succeed -/

/-- **rejected** — an expressible operation, single or batch (`guardB`), whose precondition
    (`preB`, a statement about the specification only: for `newb` "no component twice", for `xchgb`
    "not both lists empty", none for `delb`) fails: the model panics with the world unchanged, and
    the whole machine state (world, returned handles, specification) is unchanged. -/
theorem rejected (ops : List OpB) (op : OpB) (hf : Fits (1, 2) (ops ++ [op]))
    (hg : guardB (reachB run cap rel ops) op = true) (hnp : ¬ preB (reachB run cap rel ops).ss op) :
    (∃ k, execB run (reachB run cap rel ops).w op = .panic k (reachB run cap rel ops).w) ∧
    reachB run cap rel (ops ++ [op]) = reachB run cap rel ops := by
  obtain ⟨_, _, _, _, grej, _⟩ := reachB_step run cap rel ops op hf
  exact grej hg hnp

/-- **accepted** — an expressible operation whose precondition holds succeeds -/
theorem accepted (ops : List OpB) (op : OpB) (hf : Fits (1, 2) (ops ++ [op]))
    (hg : guardB (reachB run cap rel ops) op = true) (hp : preB (reachB run cap rel ops).ss op) :
    ∃ r w', execB run (reachB run cap rel ops).w op = .ok r w' := by
  obtain ⟨_, _, _, _, _, gok⟩ := reachB_step run cap rel ops op hf
  exact gok hg hp

/-- a batch removal is always accepted (an empty selection removes nothing) -/
theorem delb_accepted (ops : List OpB) (f : Filter) (hf : Fits (1, 2) ops) :
    ∃ w', opRemoveEntities run (foOf f) [] false (reachB run cap rel ops).w = .ok () w' := by
  obtain ⟨fl, H⟩ := reachB_inv run cap rel ops hf
  obtain ⟨w', hop, _⟩ := step_delb run H f
  exact ⟨w', hop⟩

/-! ## the batch steps -/

/-- **model selection = specification selection**: at every reachable state the entities a batch
    on `f` touches in the model (`selEnts`: the selected tables, row by row) are exactly the
    entities of the specification whose key set `f` matches -/
theorem selection_agrees (ops : List OpB) (hf : Fits (1, 2) ops) (f : Filter) (e : Ent) :
    e ∈ selEnts (reachB run cap rel ops).w f ↔
      ∃ comps, (e, comps) ∈ (reachB run cap rel ops).ss.ents ∧
        f.matchesMask (Mask.ofList (keys comps)) = true := by
  obtain ⟨fl, H⟩ := reachB_inv run cap rel ops hf
  rw [selEnts_iff_matching H f e, mem_matching]

/-- **batch removal** — the specification loses exactly the matching entries (the fold of the
    single `RemoveEntity` steps over them), no handle is issued; every matching entity is dead
    afterwards and its ID is not indexed any more. -/
theorem delb_effect (ops : List OpB) (f : Filter) (hf : Fits (1, 2) (ops ++ [.delb f])) :
    (reachB run cap rel (ops ++ [.delb f])).ss.ents =
      (reachB run cap rel ops).ss.ents.filter (fun x => !f.matchesMask (Mask.ofList (keys x.2))) ∧
    (reachB run cap rel (ops ++ [.delb f])).ss.zst = (reachB run cap rel ops).ss.zst ∧
    (reachB run cap rel (ops ++ [.delb f])).issued = (reachB run cap rel ops).issued ∧
    ∀ (e : Ent) (comps : Comps), (e, comps) ∈ (reachB run cap rel ops).ss.ents →
      f.matchesMask (Mask.ofList (keys comps)) = true →
      (reachB run cap rel (ops ++ [.delb f])).w.alive e = false ∧
      compsOf (reachB run cap rel (ops ++ [.delb f])).w e.id = none ∧
      ∀ c : Comp, valOf (reachB run cap rel (ops ++ [.delb f])).w e.id c = none := by
  obtain ⟨hf1, _⟩ := (fits_snoc _ _ _).mp hf
  obtain ⟨fl, H⟩ := reachB_inv run cap rel ops hf1
  obtain ⟨w', _, hst, post, _, _⟩ := step_delb run H f
  rw [reachB_snoc, hst]
  refine ⟨specStepB_delb_ents _ [] f H.hinv.ginv.live_nodup, specDelAll_zst _ _, rfl, ?_⟩
  intro e comps hm hmatch
  have he : e ∈ selEnts (reachB run cap rel ops).w f :=
    (selEnts_iff_matching H f e).mpr (mem_matching.mpr ⟨comps, hm, hmatch⟩)
  exact ⟨post.dead e he, (post.unindexed e he).2, (post.unindexed e he).1⟩

/-- **batch removal = the single removals** (C06, as steps of the machine): the step `delb f` and
    the run of `del e` over the selected entities in the batch's order reach the same
    specification, the same issued handles, the same pool (every later creation returns the same
    handle), and worlds that agree on the liveness of every handle and on the components and
    values of every ID. -/
theorem delb_is_singles (ops : List OpB) (f : Filter) (hf : Fits (1, 2) ops) :
    ∃ sb ss' : St,
      stepB run (reachB run cap rel ops) (.delb f) = sb ∧
      runOps run (reachB run cap rel ops) ((selEnts (reachB run cap rel ops).w f).map .del) = ss' ∧
      sb.ss = ss'.ss ∧ sb.issued = ss'.issued ∧ sb.w.pool = ss'.w.pool ∧
      (∀ x : Ent, sb.w.alive x = ss'.w.alive x) ∧
      (∀ (i : Nat) (c : Comp), valOf sb.w i c = valOf ss'.w i c) ∧
      (∀ i : Nat, compsOf sb.w i = compsOf ss'.w i) := by
  obtain ⟨fl, H⟩ := reachB_inv run cap rel ops hf
  generalize reachB run cap rel ops = s at H ⊢
  obtain ⟨w', hop, hst, post, _, _⟩ := step_delb run H f
  obtain ⟨w1, w'', h1, h2, p1, p2, hpool⟩ := opRemoveEntities_eq_singles run H.hinv.cinv H.rowsLive
    H.hinv.unlocked (foOf f) [] rfl
  rw [hop] at h1
  injection h1 with _ hw
  subst hw
  have hi : ∀ e ∈ selEnts s.w f, e ∈ s.issued := fun e he => (selEnts_entry H f he).1
  have hrun := runOps_dels run (selEnts s.w f) s w'' hi h2
  rw [specDelAll_selEnts H f] at hrun
  obtain ⟨o1, o2, o3, _, _⟩ := p1.obs_eq p2 (fun _ => Iff.rfl)
  refine ⟨_, _, rfl, rfl, ?_⟩
  rw [hst, hrun]
  exact ⟨rfl, rfl, hpool, o1, o2, o3⟩

/-- **batch creation = the single creations** — for `n > 0` an accepted `newb p n ids vals` IS the
    run of `n` steps `new p ids []` (equal machine states: world, handles, specification); the
    call returns `n` handles, none of which was returned before; each is alive with exactly the
    components `ids`, all reading zero (without a callback nothing is written). -/
theorem newb_effect (ops : List OpB) (p : Path) (n : Nat) (hpos : 0 < n) (ids : List Comp)
    (vals : Comps) (hf : Fits (1, 2) (ops ++ [.newb p n ids vals]))
    (hg : guardB (reachB run cap rel ops) (.newb p n ids vals) = true)
    (hp : preB (reachB run cap rel ops).ss (.newb p n ids vals)) :
    ∃ es : List Ent,
      (∃ w', execB run (reachB run cap rel ops).w (.newb p n ids vals) = .ok es w') ∧
      es.length = n ∧
      reachB run cap rel (ops ++ [.newb p n ids vals]) =
        runOps run (reachB run cap rel ops) (List.replicate n (.new p ids [])) ∧
      (reachB run cap rel (ops ++ [.newb p n ids vals])).issued =
        es.reverse ++ (reachB run cap rel ops).issued ∧
      (reachB run cap rel (ops ++ [.newb p n ids vals])).ss.ents =
        es.reverse.map (fun e => (e, zeros ids)) ++ (reachB run cap rel ops).ss.ents ∧
      (∀ e ∈ es, e ∉ (reachB run cap rel ops).issued) ∧ es.Nodup ∧
      ∀ e ∈ es, (reachB run cap rel (ops ++ [.newb p n ids vals])).w.alive e = true ∧
        compsOf (reachB run cap rel (ops ++ [.newb p n ids vals])).w e.id =
          some (sortedIds (reachB run cap rel (ops ++ [.newb p n ids vals])).w.kinds.length ids) ∧
        ∀ c ∈ ids, valOf (reachB run cap rel (ops ++ [.newb p n ids vals])).w e.id c = some 0 := by
  obtain ⟨fl, H, _, hroom, _, _⟩ := reachB_step run cap rel ops _ hf
  obtain ⟨es, w', hex, hlen, hseq, hst⟩ := stepB_newb_eq_singles run H p hpos ids vals hroom hg hp
  have hg' : guard (reachB run cap rel ops) (.new p ids []) = true := hg
  have hrun := runOps_news run p ids n _ es w' hg' hseq
  obtain ⟨e1, _⟩ := specNews_ents p ids es (reachB run cap rel ops).ss hp
  have hiss : (reachB run cap rel (ops ++ [.newb p n ids vals])).issued =
      es.reverse ++ (reachB run cap rel ops).issued := by rw [reachB_snoc, hst, hrun]
  have hents : (reachB run cap rel (ops ++ [.newb p n ids vals])).ss.ents =
      es.reverse.map (fun e => (e, zeros ids)) ++ (reachB run cap rel ops).ss.ents := by
    rw [reachB_snoc, hst, hrun]; exact e1
  have hnd := (spec_handles_nodup run cap rel _ hf).2.2
  rw [hiss] at hnd
  obtain ⟨n1, _, n3⟩ := List.nodup_append.mp hnd
  refine ⟨es, ⟨w', hex⟩, hlen, by rw [reachB_snoc, hst], hiss, hents, ?_, ?_, ?_⟩
  · intro e he hi
    exact n3 e (List.mem_reverse.mpr he) e hi rfl
  · exact nodup_of_reverse n1
  · intro e he
    have hm : (e, zeros ids) ∈ (reachB run cap rel (ops ++ [.newb p n ids vals])).ss.ents := by
      rw [hents]
      exact List.mem_append_left _ (List.mem_map.mpr ⟨e, List.mem_reverse.mpr he, rfl⟩)
    obtain ⟨a, c, v, _, _⟩ := refines run cap rel _ hf e _ hm
    refine ⟨a, by rw [c, keys_zeros], fun x hx => ?_⟩
    exact v (x, 0) (List.mem_map.mpr ⟨x, hx, rfl⟩)

/-- a batch creation creates at most ONE table, whatever `n` -/
theorem newb_one_table (ops : List OpB) (p : Path) (n : Nat) (ids : List Comp) (vals : Comps)
    (hf : Fits (1, 2) (ops ++ [.newb p n ids vals])) :
    (reachB run cap rel (ops ++ [.newb p n ids vals])).w.tables.length ≤
      (reachB run cap rel ops).w.tables.length + 1 := by
  obtain ⟨fl, H, _, hroom, _, _⟩ := reachB_step run cap rel ops _ hf
  rw [reachB_snoc]
  exact newb_tables_le run H p n ids vals hroom

/-- **exchange batch** — an accepted batch whose precondition holds succeeds; the specification
    rewrites exactly the matching entries by `xf` (the fold of the single `Exchange` steps over
    them) and keeps the others; no handle is issued; and in the world after the call every
    matching entity has lost `rem`, has `add` reading the LAST value the callback writes (zero
    without callback or for a zero-size component), and keeps every other component with the last
    value written to it, else its old value. -/
theorem xchgb_effect (ops : List OpB) (p : Path) (f : Filter) (add : List Comp)
    (vals : Option Comps) (rem : List Comp) (hf : Fits (1, 2) (ops ++ [.xchgb p f add vals rem]))
    (hg : guardB (reachB run cap rel ops) (.xchgb p f add vals rem) = true)
    (hp : preB (reachB run cap rel ops).ss (.xchgb p f add vals rem)) :
    (reachB run cap rel (ops ++ [.xchgb p f add vals rem])).ss.ents =
      (reachB run cap rel ops).ss.ents.map (fun x =>
        if f.matchesMask (Mask.ofList (keys x.2)) = true then
          (x.1, xf (reachB run cap rel ops).ss.zst add rem (valsOf vals) x.2) else x) ∧
    (reachB run cap rel (ops ++ [.xchgb p f add vals rem])).ss.zst = (reachB run cap rel ops).ss.zst ∧
    (reachB run cap rel (ops ++ [.xchgb p f add vals rem])).issued = (reachB run cap rel ops).issued ∧
    ∀ (e : Ent) (comps : Comps), (e, comps) ∈ (reachB run cap rel ops).ss.ents →
      f.matchesMask (Mask.ofList (keys comps)) = true →
      (∀ c ∈ rem, valOf (reachB run cap rel (ops ++ [.xchgb p f add vals rem])).w e.id c = none) ∧
      (∀ c ∈ add, valOf (reachB run cap rel (ops ++ [.xchgb p f add vals rem])).w e.id c =
        some (if (reachB run cap rel ops).ss.zst.getD c false = true then 0
              else (lastVal (valsOf vals) c).getD 0)) ∧
      (∀ (c : Comp) (v : Val), (c, v) ∈ comps → c ∉ rem →
        valOf (reachB run cap rel (ops ++ [.xchgb p f add vals rem])).w e.id c =
          some (if (reachB run cap rel ops).ss.zst.getD c false = true then v
                else (lastVal (valsOf vals) c).getD v)) := by
  obtain ⟨fl, H, _, hroom, _, _⟩ := reachB_step run cap rel ops _ hf
  obtain ⟨_, _, _, _, gok⟩ := step_xchgb run H p f add vals rem hroom
  obtain ⟨w', _, post, hst⟩ := gok hg hp
  have hnd := H.hinv.ginv.live_nodup
  obtain ⟨_, hall, hmall⟩ := xchgOK_of_guard hg hp
  obtain ⟨hzst, hents⟩ := specXchgAll_spec p add rem (valsOf vals) _ _ hnd
    (matching_nodup hnd f) (hmall hnd)
  have hents' : (reachB run cap rel (ops ++ [.xchgb p f add vals rem])).ss.ents =
      (reachB run cap rel ops).ss.ents.map (fun x =>
        if f.matchesMask (Mask.ofList (keys x.2)) = true then
          (x.1, xf (reachB run cap rel ops).ss.zst add rem (valsOf vals) x.2) else x) := by
    rw [reachB_snoc, hst]
    show (specXchgAll _ p add rem (valsOf vals) _).ents = _
    rw [hents]
    apply List.map_congr_left
    intro x hx
    have := mem_matching_of_mem hnd f hx
    by_cases hm : f.matchesMask (Mask.ofList (keys x.2)) = true
    · rw [if_pos hm, if_pos (this.mpr hm)]
    · rw [if_neg hm, if_neg (fun hh => hm (this.mp hh))]
  refine ⟨hents', by rw [reachB_snoc, hst]; exact hzst, by rw [reachB_snoc, hst], ?_⟩
  intro e comps hm hmatch
  have hm' : (e, xf (reachB run cap rel ops).ss.zst add rem (valsOf vals) comps) ∈
      (reachB run cap rel (ops ++ [.xchgb p f add vals rem])).ss.ents := by
    rw [hents']
    refine List.mem_map.mpr ⟨(e, comps), hm, ?_⟩
    simp only [hmatch, if_true]
  exact C01Refine.xchg_reads (hall _ hm hmatch) (refines run cap rel _ hf e _ hm').2.2.1
    (refines_absent run cap rel _ hf e _ hm')

/-- **exchange batch = the single exchanges** (C06, as steps of the machine; the singles may
    create one table each, hence the explicit size bound): same specification, same issued
    handles, same pool, worlds that agree on liveness, components and values. -/
theorem xchgb_is_singles (ops : List OpB) (p : Path) (f : Filter) (add : List Comp)
    (vals : Option Comps) (rem : List Comp) (hf : Fits (1, 2) ops)
    (hg : guardB (reachB run cap rel ops) (.xchgb p f add vals rem) = true)
    (hp : preB (reachB run cap rel ops).ss (.xchgb p f add vals rem))
    (hfew : (reachB run cap rel ops).w.tables.length + (selTables (reachB run cap rel ops).w f).length +
      (selEnts (reachB run cap rel ops).w f).length < maxU32)
    (hent : 2 * (reachB run cap rel ops).w.entities.length < 2 ^ 32) :
    ∃ sb ss' : St,
      stepB run (reachB run cap rel ops) (.xchgb p f add vals rem) = sb ∧
      runOps run (reachB run cap rel ops)
        ((selEnts (reachB run cap rel ops).w f).map fun e => .xchg p e add rem (valsOf vals)) = ss' ∧
      sb.ss = ss'.ss ∧ sb.issued = ss'.issued ∧ sb.w.pool = ss'.w.pool ∧
      (∀ x : Ent, sb.w.alive x = ss'.w.alive x) ∧
      (∀ (i : Nat) (c : Comp), valOf sb.w i c = valOf ss'.w i c) ∧
      (∀ i : Nat, compsOf sb.w i = compsOf ss'.w i) := by
  obtain ⟨fl, H⟩ := reachB_inv run cap rel ops hf
  generalize reachB run cap rel ops = s at H hg hp hfew hent ⊢
  have hC := H.hinv.cinv
  have hroom : Room s (.xchgb p f add vals rem) := ⟨by omega, hent⟩
  obtain ⟨_, _, _, _, gok⟩ := step_xchgb run H p f add vals rem hroom
  obtain ⟨w', hex, _, hst⟩ := gok hg hp
  have hne : ¬ (add = [] ∧ rem = []) := hp
  obtain ⟨hreg, hall, hmall⟩ := xchgOK_of_guard hg hne
  have hok := hok_of_spec H f hall
  obtain ⟨Wb, Ws, h1, h2, _, _, hpool, o1, o2, o3, _⟩ :=
    opExchangeBatchFn_eq_singles run p hC H.rowsLive H.hinv.unlocked H.yinv.lock (foOf f) [] rfl hne
      hok hfew hent vals
  have hwb : Wb = w' := by
    simp only [execB, h1] at hex
    injection hex with _ hw
  subst hwb
  have hi : ∀ e ∈ selEnts s.w f, e ∈ s.issued := fun e he => (selEnts_entry H f he).1
  have hrun := runOps_xchgs run p add rem (valsOf vals) (selEnts s.w f) s Ws hi hreg h2
  -- the two folds of the specification agree
  have hnd := H.hinv.ginv.live_nodup
  have hspec : specXchgAll s.ss p add rem (valsOf vals) (selEnts s.w f) =
      specXchgAll s.ss p add rem (valsOf vals) (matching s.ss f) := by
    have hm1 : ∀ e ∈ selEnts s.w f, ∃ cs, find s.ss.ents e = some cs ∧
        XchgOK s.ss.zst.length cs add rem :=
      fun e he => hmall hnd e ((selEnts_iff_matching H f e).mp he)
    obtain ⟨z1, e1⟩ := specXchgAll_spec p add rem (valsOf vals) _ s.ss hnd (selEnts_nodup H f) hm1
    obtain ⟨z2, e2⟩ := specXchgAll_spec p add rem (valsOf vals) _ s.ss hnd (matching_nodup hnd f)
      (hmall hnd)
    refine SS.ext ?_ (z1.trans z2.symm)
    rw [e1, e2]
    apply List.map_congr_left
    intro x _
    have := selEnts_iff_matching H f x.1
    by_cases hx : x.1 ∈ selEnts s.w f
    · rw [if_pos hx, if_pos (this.mp hx)]
    · rw [if_neg hx, if_neg (fun hh => hx (this.mpr hh))]
  rw [hspec] at hrun
  refine ⟨_, _, rfl, rfl, ?_⟩
  rw [hst, hrun]
  exact ⟨rfl, rfl, hpool, o1, o2, o3⟩

/-! ## frame -/

/-- **frame** (specification): a batch step changes only the entries of the selected entities
    (`delb`, `xchgb`: the handles the filter matches) -/
theorem frame_delb (ss : SS) (fresh : List Ent) (f : Filter) (x : Ent) (hx : x ∉ matching ss f) :
    find (specStepB ss fresh (.delb f)).ents x = find ss.ents x :=
  specDelAll_frame x _ ss hx

theorem frame_xchgb (ss : SS) (fresh : List Ent) (p : Path) (f : Filter) (add : List Comp)
    (vals : Option Comps) (rem : List Comp) (x : Ent) (hx : x ∉ matching ss f) :
    find (specStepB ss fresh (.xchgb p f add vals rem)).ents x = find ss.ents x :=
  specXchgAll_frame p add rem (valsOf vals) x _ ss hx

theorem same_entry_same_entity (ops : List OpB) (op : OpB) (hf : Fits (1, 2) (ops ++ [op]))
    (x : Ent) (comps : Comps) (hm : (x, comps) ∈ (reachB run cap rel ops).ss.ents)
    (hm' : (x, comps) ∈ (reachB run cap rel (ops ++ [op])).ss.ents) :
    compsOf (reachB run cap rel (ops ++ [op])).w x.id = compsOf (reachB run cap rel ops).w x.id ∧
    ∀ c : Comp, valOf (reachB run cap rel (ops ++ [op])).w x.id c =
      valOf (reachB run cap rel ops).w x.id c := by
  obtain ⟨hf1, _⟩ := (fits_snoc _ _ _).mp hf
  obtain ⟨fl, H⟩ := reachB_inv run cap rel ops hf1
  obtain ⟨fl', H'⟩ := reachB_inv run cap rel _ hf
  exact Refine.EntOK.same (H.hinv.ok x comps hm) (H'.hinv.ok x comps hm')

/-- **frame** (model), single operations inside mixed histories: an operation of `Ark.Refine` on
    one entity (`target`; `Reset` excluded) changes no other specified entity -/
theorem frame_world_base (ops : List OpB) (op : Op) (hf : Fits (1, 2) (ops ++ [.base op]))
    (x : Ent) (comps : Comps) (hm : (x, comps) ∈ (reachB run cap rel ops).ss.ents)
    (hr : op.isReset = false) (hx : ∀ fresh, target fresh op ≠ some x) :
    compsOf (reachB run cap rel (ops ++ [.base op])).w x.id = compsOf (reachB run cap rel ops).w x.id ∧
    ∀ c : Comp, valOf (reachB run cap rel (ops ++ [.base op])).w x.id c =
      valOf (reachB run cap rel ops).w x.id c := by
  obtain ⟨hf1, _⟩ := (fits_snoc _ _ _).mp hf
  obtain ⟨fl, H⟩ := reachB_inv run cap rel ops hf1
  apply same_entry_same_entity run cap rel ops (.base op) hf x comps hm
  rw [reachB_snoc]
  exact C01Refine.entry_kept run op H.hinv.ginv.live_nodup hm hr hx

/-- **frame** (model): a batch on the filter `f` never changes an entity `f` does not match —
    every specified entity whose key set `f` does not match has the same component set and the
    same values before and after `delb f` / `xchgb p f …`; and every specified entity has them
    before and after `newb` (the new entities are others). -/
theorem frame_world_batch (ops : List OpB) (op : OpB) (hf : Fits (1, 2) (ops ++ [op]))
    (x : Ent) (comps : Comps) (hm : (x, comps) ∈ (reachB run cap rel ops).ss.ents)
    (hop : (∃ f, op = .delb f ∧ f.matchesMask (Mask.ofList (keys comps)) = false) ∨
      (∃ p f add vals rem, op = .xchgb p f add vals rem ∧
        f.matchesMask (Mask.ofList (keys comps)) = false) ∨
      (∃ p n ids vals, op = .newb p n ids vals)) :
    compsOf (reachB run cap rel (ops ++ [op])).w x.id = compsOf (reachB run cap rel ops).w x.id ∧
    ∀ c : Comp, valOf (reachB run cap rel (ops ++ [op])).w x.id c =
      valOf (reachB run cap rel ops).w x.id c := by
  obtain ⟨hf1, _⟩ := (fits_snoc _ _ _).mp hf
  obtain ⟨fl, H⟩ := reachB_inv run cap rel ops hf1
  have hnd := H.hinv.ginv.live_nodup
  have hfind : find (reachB run cap rel ops).ss.ents x = some comps := find_of_mem hnd hm
  have hnm : ∀ f : Filter, f.matchesMask (Mask.ofList (keys comps)) = false →
      x ∉ matching (reachB run cap rel ops).ss f := by
    intro f hfm hmem
    have := (mem_matching_of_mem hnd f hm).mp hmem
    rw [hfm] at this; cases this
  apply same_entry_same_entity run cap rel ops op hf x comps hm
  apply find_some_mem
  rw [reachB_snoc]
  rcases hop with ⟨f, rfl, hfm⟩ | ⟨p, f, add, vals, rem, rfl, hfm⟩ | ⟨p, n, ids, vals, rfl⟩
  · show find (stepBatch run _ (.delb f)).ss.ents x = _
    simp only [stepBatch]
    split
    · rw [frame_delb _ _ f x (hnm f hfm)]; exact hfind
    · exact hfind
  · show find (stepBatch run _ (.xchgb p f add vals rem)).ss.ents x = _
    simp only [stepBatch]
    split
    · rw [frame_xchgb _ _ p f add vals rem x (hnm f hfm)]; exact hfind
    · exact hfind
  · -- creation: accepted and valid → the new entries are put in front; else nothing happens
    obtain ⟨_, _, _, _, grej, _⟩ := reachB_step run cap rel ops _ hf
    by_cases hg : guardB (reachB run cap rel ops) (.newb p n ids vals) = true
    · by_cases hp : preB (reachB run cap rel ops).ss (.newb p n ids vals)
      · rcases Nat.eq_zero_or_pos n with rfl | hpos
        · show find (stepBatch run _ (.newb p 0 ids vals)).ss.ents x = _
          simp only [stepBatch, hg, if_true, specStepB]
          exact hfind
        · obtain ⟨es, _, _, _, _, hents, _⟩ := newb_effect run cap rel ops p n hpos ids vals hf hg hp
          rw [← reachB_snoc, hents]
          exact find_of_mem (by rw [← hents]; exact (spec_handles_nodup run cap rel _ hf).1)
            (List.mem_append_right _ hm)
      · have hrej := (grej hg hp).2
        rw [reachB_snoc] at hrej
        rw [hrej]; exact hfind
    · show find (stepBatch run _ (.newb p n ids vals)).ss.ents x = _
      rw [stepBatch, if_neg hg]; exact hfind

/-! ## non-vacuity: a concrete history with batches -/

/-- the uncached filter "has all of `cs`" -/
def has (cs : List Comp) : Filter := { mask := Mask.ofList cs }

/-- three component types (ID 1 zero-size); entity `2.0` with `{0}` (value 7); a batch of three
    entities `3.0 4.0 5.0` with `{0, 2}` (the values the harness passes are not written: no
    callback); component 2 of `3.0` set to 9; entity `6.0` with `{2}`; `AddBatch` of the zero-size
    component 1 to everything that has 0; `RemoveBatchFn` of component 2 from everything that has 0
    and 2, the callback writing component 0 twice (5, then 6) and the zero-size component 1;
    `RemoveEntities` of everything that has 0 but not 2 (all but `6.0`); a batch of two entities
    with `{1, 2}`, which recycles the IDs 5 and 4 with generation 1. -/
def demoOps : List OpB :=
  [.base (.reg 8 false), .base (.reg 0 true), .base (.reg 8 false),
   .base (.new .unsafe_ [0] [(0, 7)]),
   .newb .typed 3 [0, 2] [(0, 99)],
   .base (.set ⟨3, 0⟩ [(2, 9)]),
   .base (.new .map1 [2] [(2, 4)]),
   .xchgb .unsafe_ (has [0]) [1] none [],
   .xchgb .typed (has [0, 2]) [] (some [(0, 5), (0, 6), (1, 3)]) [2],
   .delb ((has [0]).withoutList [2]),
   .newb .unsafe_ 2 [1, 2] []]

/-- the model agrees with the specification entry by entry (decidable form of `refines`) -/
def agrees (s : St) : Bool :=
  s.ss.ents.all fun x =>
    s.w.alive x.1 && (compsOf s.w x.1.id == some (sortedIds s.w.kinds.length (keys x.2))) &&
      x.2.all fun cv => valOf s.w x.1.id cv.1 == some cv.2

def panicOf : Res World (List Ent) → Option PanicKind
  | .ok _ _ => none
  | .panic k _ => some k

/-- the history is within the bound, every operation of it is expressible (`guardB`), and the
    budget it uses (tables, index slots) -/
example :
    Fits (1, 2) demoOps ∧ budget (1, 2) demoOps = (42, 13) ∧
    ((List.range 11).map fun k =>
      guardB (reachB noProbe 2 1 (demoOps.take k)) (demoOps.getD k (.delb {}))) =
      List.replicate 11 true := by
  decide +kernel

/-- … also by the closed bound: 6 single operations, 5 batch-created entities, 2 exchange batches -/
example : totalCost demoOps = 11 ∧ xcount demoOps = 2 ∧
    (1 + totalCost demoOps) * 2 ^ xcount demoOps < maxU32 ∧ 2 * (2 + totalCost demoOps) < 2 ^ 32 := by
  decide +kernel

/-- the invariant holds at the end of the history -/
example : ∃ fl, HInvB (reachB noProbe 2 1 demoOps) fl :=
  reach_inv noProbe 2 1 demoOps (by decide +kernel)

/-- after the batch creation: three new entries reading zero; the model agrees -/
example :
    (reachB noProbe 2 1 (demoOps.take 5)).ss.ents =
      [(⟨5, 0⟩, [(0, 0), (2, 0)]), (⟨4, 0⟩, [(0, 0), (2, 0)]), (⟨3, 0⟩, [(0, 0), (2, 0)]),
       (⟨2, 0⟩, [(0, 7)])] ∧
    (reachB noProbe 2 1 (demoOps.take 5)).issued = [⟨5, 0⟩, ⟨4, 0⟩, ⟨3, 0⟩, ⟨2, 0⟩] ∧
    agrees (reachB noProbe 2 1 (demoOps.take 5)) = true ∧
    (reachB noProbe 2 1 (demoOps.take 5)).w.tables =
      (runOps noProbe (reachB noProbe 2 1 (demoOps.take 4))
        (List.replicate 3 (.new .typed [0, 2] []))).w.tables ∧
    (reachB noProbe 2 1 (demoOps.take 5)).w.pool =
      (runOps noProbe (reachB noProbe 2 1 (demoOps.take 4))
        (List.replicate 3 (.new .typed [0, 2] []))).w.pool ∧
    (reachB noProbe 2 1 (demoOps.take 5)).ss.ents =
      (runOps noProbe (reachB noProbe 2 1 (demoOps.take 4))
        (List.replicate 3 (.new .typed [0, 2] []))).ss.ents := by
  decide +kernel

/-- after the two exchange batches: the callback's last write (6) wins for component 0 of the
    entities that had `{0, 2}`, the zero-size component 1 reads 0, `2.0` (not matched by the second
    batch) keeps 7, `6.0` (matched by neither) is untouched -/
example :
    (reachB noProbe 2 1 (demoOps.take 9)).ss.ents =
      [(⟨6, 0⟩, [(2, 4)]), (⟨5, 0⟩, [(0, 6), (1, 0)]), (⟨4, 0⟩, [(0, 6), (1, 0)]),
       (⟨3, 0⟩, [(0, 6), (1, 0)]), (⟨2, 0⟩, [(0, 7), (1, 0)])] ∧
    agrees (reachB noProbe 2 1 (demoOps.take 9)) = true ∧
    (reachB noProbe 2 1 (demoOps.take 9)).w.isLocked = false ∧
    (reachB noProbe 2 1 (demoOps.take 9)).w.locks ≠ {} ∧
    (compsOf (reachB noProbe 2 1 (demoOps.take 9)).w 3, valOf (reachB noProbe 2 1 (demoOps.take 9)).w 3 0,
      valOf (reachB noProbe 2 1 (demoOps.take 9)).w 3 2, valOf (reachB noProbe 2 1 (demoOps.take 9)).w 6 2) =
      (some [0, 1], some 6, none, some 4) := by
  decide +kernel

/-- the whole history: the batch removal leaves `6.0`; the second batch creation recycles the IDs
    5 and 4; the model agrees with the specification; the removed handles are dead -/
example :
    (reachB noProbe 2 1 (demoOps.take 10)).ss.ents = [(⟨6, 0⟩, [(2, 4)])] ∧
    (reachB noProbe 2 1 demoOps).ss.ents =
      [(⟨4, 1⟩, [(1, 0), (2, 0)]), (⟨5, 1⟩, [(1, 0), (2, 0)]), (⟨6, 0⟩, [(2, 4)])] ∧
    (reachB noProbe 2 1 demoOps).issued =
      [⟨4, 1⟩, ⟨5, 1⟩, ⟨6, 0⟩, ⟨5, 0⟩, ⟨4, 0⟩, ⟨3, 0⟩, ⟨2, 0⟩] ∧
    (reachB noProbe 2 1 demoOps).issued.map (reachB noProbe 2 1 demoOps).w.alive =
      [true, true, true, false, false, false, false] ∧
    agrees (reachB noProbe 2 1 demoOps) = true := by
  decide +kernel

/-- the hypotheses of `newb_effect`, `xchgb_effect`, `xchgb_is_singles` are satisfiable: the
    batches of `demoOps` are expressible and their preconditions hold where they are issued -/
example :
    guardB (reachB noProbe 2 1 (demoOps.take 4)) (.newb .typed 3 [0, 2] [(0, 99)]) = true ∧
    preB (reachB noProbe 2 1 (demoOps.take 4)).ss (.newb .typed 3 [0, 2] [(0, 99)]) ∧
    guardB (reachB noProbe 2 1 (demoOps.take 8))
      (.xchgb .typed (has [0, 2]) [] (some [(0, 5), (0, 6), (1, 3)]) [2]) = true ∧
    preB (reachB noProbe 2 1 (demoOps.take 8)).ss
      (.xchgb .typed (has [0, 2]) [] (some [(0, 5), (0, 6), (1, 3)]) [2]) ∧
    (reachB noProbe 2 1 (demoOps.take 8)).w.tables.length +
      (selTables (reachB noProbe 2 1 (demoOps.take 8)).w (has [0, 2])).length +
      (selEnts (reachB noProbe 2 1 (demoOps.take 8)).w (has [0, 2])).length < maxU32 ∧
    selEnts (reachB noProbe 2 1 (demoOps.take 8)).w (has [0, 2]) = [⟨3, 0⟩, ⟨4, 0⟩, ⟨5, 0⟩] ∧
    matching (reachB noProbe 2 1 (demoOps.take 8)).ss (has [0, 2]) = [⟨5, 0⟩, ⟨4, 0⟩, ⟨3, 0⟩] := by
  simp only [preB]
  decide +kernel

/-- rejected batches in the state after the first seven operations: a component listed twice in
    `NewBatch`, an exchange batch with both lists empty — the world comes back unchanged and the
    machine state does not move -/
example :
    panicOf (execB noProbe (reachB noProbe 2 1 (demoOps.take 7)).w (.newb .unsafe_ 3 [0, 0] [])) =
      some .alreadyHas ∧
    panicOf (execB noProbe (reachB noProbe 2 1 (demoOps.take 7)).w (.xchgb .typed (has [0]) [] none [])) =
      some .noComponents ∧
    guardB (reachB noProbe 2 1 (demoOps.take 7)) (.newb .unsafe_ 3 [0, 0] []) = true ∧
    guardB (reachB noProbe 2 1 (demoOps.take 7)) (.xchgb .typed (has [0]) [] none []) = true ∧
    (stepB noProbe (reachB noProbe 2 1 (demoOps.take 7)) (.newb .unsafe_ 3 [0, 0] [])).ss.ents =
      (reachB noProbe 2 1 (demoOps.take 7)).ss.ents ∧
    (stepB noProbe (reachB noProbe 2 1 (demoOps.take 7)) (.newb .unsafe_ 3 [0, 0] [])).w.tables =
      (reachB noProbe 2 1 (demoOps.take 7)).w.tables ∧
    (stepB noProbe (reachB noProbe 2 1 (demoOps.take 7)) (.xchgb .typed (has [0]) [] none [])).w.entities =
      (reachB noProbe 2 1 (demoOps.take 7)).w.entities := by
  decide +kernel

/-- **finding (why the precondition of an exchange batch is part of `guardB`)**: in the state after
    the first seven operations (`2.0`: `{0}`; `3.0 4.0 5.0`: `{0, 2}`; `6.0`: `{2}`) the batch "has
    2: remove 0, add 1" meets its precondition on the table of `{0, 2}` and fails it on the table of
    `{2}`.  The call panics (`missing`) — AFTER creating the table of `{1, 2}` for the first source,
    which stays.  The world lock is taken only after the lookup loop (repair of defect D27), so
    the world is NOT left locked: the lock state is as before the call, no entity is changed and
    the next structural operation (`NewEntity`) is accepted.  Because of the table left behind
    such a call is not "rejected with the world unchanged", and it is not a step of the machine
    (`guardB = false`).  General statement: `Ark.Props.C07Batch.exchangeBatch_panic_unlocked`. -/
example :
    guardB (reachB noProbe 2 1 (demoOps.take 7)) (.xchgb .unsafe_ (has [2]) [1] none [0]) = false ∧
    panicOf (execB noProbe (reachB noProbe 2 1 (demoOps.take 7)).w (.xchgb .unsafe_ (has [2]) [1] none [0])) =
      some .missing ∧
    (reachB noProbe 2 1 (demoOps.take 7)).w.isLocked = false ∧
    (execB noProbe (reachB noProbe 2 1 (demoOps.take 7)).w
      (.xchgb .unsafe_ (has [2]) [1] none [0])).state.isLocked = false ∧
    (execB noProbe (reachB noProbe 2 1 (demoOps.take 7)).w
      (.xchgb .unsafe_ (has [2]) [1] none [0])).state.locks =
      (reachB noProbe 2 1 (demoOps.take 7)).w.locks ∧
    (reachB noProbe 2 1 (demoOps.take 7)).w.tables.length = 4 ∧
    (execB noProbe (reachB noProbe 2 1 (demoOps.take 7)).w
      (.xchgb .unsafe_ (has [2]) [1] none [0])).state.tables.length = 5 ∧
    (execB noProbe (reachB noProbe 2 1 (demoOps.take 7)).w
      (.xchgb .unsafe_ (has [2]) [1] none [0])).state.entities =
      (reachB noProbe 2 1 (demoOps.take 7)).w.entities ∧
    (List.range 8).map (fun i => compsOf (execB noProbe (reachB noProbe 2 1 (demoOps.take 7)).w
      (.xchgb .unsafe_ (has [2]) [1] none [0])).state i) =
      (List.range 8).map (fun i => compsOf (reachB noProbe 2 1 (demoOps.take 7)).w i) ∧
    panicOf (execB noProbe (execB noProbe (reachB noProbe 2 1 (demoOps.take 7)).w
      (.xchgb .unsafe_ (has [2]) [1] none [0])).state (.base .new0)) = none := by
  decide +kernel

/-- **finding (the empty batch)**: `NewBatch(0, [0, 1, 2])` is accepted, creates no entity and
    leaves the specification alone, but creates the archetype and the table of `{0, 1, 2}`; zero
    single `NewEntity` calls create nothing.  (So `newb_effect` is stated for `n > 0`; for `n = 0`
    the invariant and the frame statement hold all the same: `reach_inv`, `frame_world_batch`.) -/
example :
    (reachB noProbe 2 1 (demoOps.take 7)).w.tables.length = 4 ∧
    (reachB noProbe 2 1 (demoOps.take 7 ++ [.newb .unsafe_ 0 [0, 1, 2] []])).w.tables.length = 5 ∧
    (reachB noProbe 2 1 (demoOps.take 7 ++ [.newb .unsafe_ 0 [0, 1, 2] []])).ss.ents =
      (reachB noProbe 2 1 (demoOps.take 7)).ss.ents ∧
    agrees (reachB noProbe 2 1 (demoOps.take 7 ++ [.newb .unsafe_ 0 [0, 1, 2] []])) = true := by
  decide +kernel

/-- **finding (the lock after an exchange batch)**: an exchange batch takes and releases the world
    lock, after which the lock's bit pool is not the initial one any more (`locks ≠ {}` above) —
    the invariant `XInv` of Ark/Proofs/QueryOps.lean (`locks = {}`) does not survive a batch, which
    is why the machine carries `YInv` (`LockFree`) instead. -/
example :
    (reachB noProbe 2 1 (demoOps.take 7)).w.locks = {} ∧
    (reachB noProbe 2 1 (demoOps.take 8)).w.locks ≠ {} ∧
    (reachB noProbe 2 1 (demoOps.take 8)).w.isLocked = false := by
  decide +kernel

end Ark.Props.C01Batch
