/-
  Ark.Props.C04Hist — C01 + C04 for the observer-free fragment WITH relation components, over
  histories of fewer than `2^16` operations:

    C01  "after any sequence of valid operations every alive entity has exactly the set of
          components those operations imply, every component holds the value most recently
          written to it through any access path, and an operation on one entity never changes the
          components or values of any other entity."
    C04  "an entity's relation target is always the zero entity or an alive entity: it is the
          target last assigned, until that target is removed from the world, at which point it
          becomes the zero entity while the entity keeps all its components and values.  Removing
          targets …, and the reuse of per-target storage for other targets, never changes any
          other entity's targets or data and never fails for a valid call."

  How.  The history machine `Ark.RelRefine.step` (Ark/Proofs/RelRefine.lean) runs, from
  `World.init cap rel`, each operation `Ark.RelRefine.Op` — registration, `NewEntity`, `Add`,
  `Remove`, `SetRelations` (these four through any access path `p`: `Unsafe`, `Map`, `MapN`),
  `Set`, `RemoveEntity` — on the model and on an abstract specification in lock step.  The
  specification state `SS` is `Spec` = alive handle ↦ (component ↦ value, relation component ↦
  target) together with the registry (a `zst` and an `isRel` flag per component ID); its step
  for `del e` drops `e`'s entry AND sets to the zero entity every target equal to `e` in every
  other entry.  The inductive invariant `HInv` (`TInv`, the pool's ghost state, every entry
  realised in the world, every specified target zero or specified) lets the theorems below read
  the model off the specification.

  Scope (what is a step of the machine, `Ark.RelRefine.guard`).  Handles are opaque and component
  IDs are obtained by registration: an operation on a handle no `new` returned, a target that is
  neither the zero entity nor such a handle, or adding an unregistered component ID, is not a
  step.  In addition the relation arguments of `new` / `add` must satisfy `RelsStep`: no relation
  component named twice, every relation component among `ids` named, and — through `Map[T]` only,
  whose pre-validation has no membership check in the model — each on a component among `ids`.
  This restriction is forced by a FINDING (§ 7 (b), (f)): when the archetype is new or has no
  active table, `GetTable` answers "no table" before any check, and `createTable` notices a
  relation component named twice (`relTwice`) or a missing relation (`relUnspecified`) only after
  the archetype was created: the call is refused, but NOT without effect.  (When the archetype
  has an active table, `GetTable` refuses both without effect.)
  Everything else is a step; when its precondition fails, the specification leaves its state
  unchanged and the model panics without effect (`rejected`): dead handles, components present /
  absent, empty and duplicate lists, a full registry; for `setrel` (any path) a relation
  component named twice (§ 7 (e)), a relation component the entity lacks, a dead target (§ 7
  (d)); for `new` / `add` a dead target, a relation on a non-relation component, a relation on a
  component that is not added (`Unsafe`, `MapN`) — these three are refused by the pre-validation
  of the path, before anything is touched; `Unsafe` validates its relation arguments like the
  typed API (`ToCheckedRelationIDsForUnsafe`; § 7 (a), (c)).

  Bound: `ops.length < 2^16`.  `RemoveEntity` of a relation target may create one table per
  relation archetype (`RemovedRelPost.tablesLen`), every operation creates at most one relation
  archetype: after `n` operations there are at most `1 + n²` tables, and table IDs must fit
  `uint32` (`reach_bounds`).
-/
import Ark.Proofs.RelRefineHist
import Ark.Props.C10Rel

set_option autoImplicit false

namespace Ark.Props.C04Hist
open Ark Ark.World Ark.RelRefine Ark.Props.C01World
open Ark.Refine (Comps keys sortedIds writeComps zeros)

variable (run : ProbeRunner) (cap rel : Nat)

/-! ## 1. the invariant along histories, refinement -/

/-- the world-level invariant `TInv` of C04 (`Ark/Proofs/TargetsInv.lean`) holds after every
    history -/
theorem reach_tinv (ops : List Op) (hlen : ops.length < 2 ^ 16) :
    ∃ fl, TInv (reach run cap rel ops).w fl := by
  obtain ⟨fl, h⟩ := reach_hinv run cap rel ops hlen
  exact ⟨fl, h.tinv⟩

/-- at most `1 + n²` tables, `n` relation archetypes and `2 + n` index slots after `n`
    operations -/
theorem reach_bounds (ops : List Op) (hlen : ops.length < 2 ^ 16) :
    (reach run cap rel ops).w.tables.length ≤ 1 + ops.length * ops.length ∧
    (reach run cap rel ops).w.relationArchetypes.length ≤ ops.length ∧
    (reach run cap rel ops).w.entities.length ≤ 2 + ops.length :=
  RelRefine.reach_bounds run cap rel ops hlen

/-- the specification's registry is the model's: zero-size flags and relation flags -/
theorem registry_agrees (ops : List Op) (hlen : ops.length < 2 ^ 16) :
    (reach run cap rel ops).ss.zst = (reach run cap rel ops).w.kinds.map (·.zst) ∧
    (reach run cap rel ops).ss.isRel = (reach run cap rel ops).w.kinds.map (·.isRel) := by
  obtain ⟨fl, h⟩ := reach_hinv run cap rel ops hlen
  exact ⟨h.zstEq, h.relEq⟩

/-- **refines** — after every history, for every entry `(e, en)` of the specification: `e` is
    alive, its component set is the sorted list of the keys of `en.comps`, every component holds
    the recorded value, every relation component has the recorded target; the keys are distinct
    registered IDs and the recorded relations are exactly the relation components among them -/
theorem refines (ops : List Op) (hlen : ops.length < 2 ^ 16) (e : Ent) (en : Entry)
    (hm : (e, en) ∈ (reach run cap rel ops).ss.ents) :
    (reach run cap rel ops).w.alive e = true ∧
    compsOf (reach run cap rel ops).w e.id =
      some (sortedIds (reach run cap rel ops).w.kinds.length (keys en.comps)) ∧
    (∀ cv ∈ en.comps, valOf (reach run cap rel ops).w e.id cv.1 = some cv.2) ∧
    (∀ r ∈ en.rels, targetOf (reach run cap rel ops).w e.id r.comp = some r.target) ∧
    (keys en.comps).Nodup ∧ (∀ c ∈ keys en.comps, c < (reach run cap rel ops).w.kinds.length) ∧
    (en.rels.map (·.comp)).Nodup ∧
    (∀ c : Comp, c ∈ en.rels.map (·.comp) ↔
      c ∈ keys en.comps ∧ (reach run cap rel ops).w.isRelComp c = true) :=
  RelRefine.refines run cap rel ops hlen e en hm

/-- … a component that is not a key of the entry is absent, and a component for which the entry
    records no relation carries no target -/
theorem refines_absent (ops : List Op) (hlen : ops.length < 2 ^ 16) (e : Ent) (en : Entry)
    (hm : (e, en) ∈ (reach run cap rel ops).ss.ents) (c : Comp) :
    (c ∉ keys en.comps → valOf (reach run cap rel ops).w e.id c = none) ∧
    (c ∉ en.rels.map (·.comp) → targetOf (reach run cap rel ops).w e.id c = none) :=
  RelRefine.refines_absent run cap rel ops hlen e en hm c

/-- **exactly the alive entities are specified**: a handle returned by some `new` is alive iff
    the specification has an entry for it -/
theorem alive_iff_specified (ops : List Op) (hlen : ops.length < 2 ^ 16) (h : Ent)
    (hi : h ∈ (reach run cap rel ops).issued) :
    (reach run cap rel ops).w.alive h = true ↔ h ∈ (reach run cap rel ops).ss.ents.map (·.1) :=
  RelRefine.alive_iff_specified run cap rel ops hlen h hi

/-- the entries have pairwise different handles, all of them returned by some `new`, and no
    handle was returned twice -/
theorem spec_handles_nodup (ops : List Op) (hlen : ops.length < 2 ^ 16) :
    ((reach run cap rel ops).ss.ents.map (·.1)).Nodup ∧
    (∀ h ∈ (reach run cap rel ops).ss.ents.map (·.1), h ∈ (reach run cap rel ops).issued) ∧
    (reach run cap rel ops).issued.Nodup :=
  RelRefine.spec_handles_nodup run cap rel ops hlen

/-! ## 2. C04, first sentence: a target is the zero entity or an alive entity -/

/-- **targets_zero_or_alive** (specification): every target the specification records is the
    zero entity or has an entry itself (= is alive, by `refines`) -/
theorem targets_zero_or_alive (ops : List Op) (hlen : ops.length < 2 ^ 16) (e : Ent) (en : Entry)
    (hm : (e, en) ∈ (reach run cap rel ops).ss.ents) (r : RelID) (hr : r ∈ en.rels) :
    r.target.isZero = true ∨ r.target ∈ (reach run cap rel ops).ss.ents.map (·.1) := by
  obtain ⟨fl, h⟩ := reach_hinv run cap rel ops hlen
  rcases h.tgtsOK e en hm r hr with k | k
  · exact Or.inl k
  · exact Or.inr (find_isSome_iff.mp k)

/-- **targets_zero_or_alive** (model): every relation target read through the index, of any ID,
    is the zero entity or alive -/
theorem targets_zero_or_alive_world (ops : List Op) (hlen : ops.length < 2 ^ 16) (j : Nat)
    (c : Comp) (x : Ent) (ht : targetOf (reach run cap rel ops).w j c = some x) :
    x.isZero = true ∨ (reach run cap rel ops).w.alive x = true := by
  obtain ⟨fl, h⟩ := reach_hinv run cap rel ops hlen
  obtain ⟨t, k, T, hT, hfree, hk, he⟩ := targetOf_col h.tinv.link.idx h.tinv.freeEmpty ht
  rw [← he]
  exact h.tinv.rel.aux.targets t T hT hfree k hk

/-! ## 3. invalid operations are rejected without effect, valid ones never fail -/

/-- **rejected** — a step of the machine (`guard`) whose precondition (`pre`, a statement about
    the specification only) fails: the model panics with the world unchanged, and the whole
    machine state (world, returned handles, specification) is unchanged.  Includes: a dead
    target named by `setrel`, `new` or `add` through any path (§ 7 (a), (d)), and a `setrel`
    naming one relation component twice (§ 7 (e)). -/
theorem rejected (ops : List Op) (op : Op) (hlen : ops.length + 1 < 2 ^ 16)
    (hg : guard (reach run cap rel ops) op = true) (hnp : ¬ pre (reach run cap rel ops).ss op) :
    (∃ k, exec run (reach run cap rel ops).w op = .panic k (reach run cap rel ops).w) ∧
    (∀ fresh, specStep (reach run cap rel ops).ss fresh op = (reach run cap rel ops).ss) ∧
    reach run cap rel (ops ++ [op]) = reach run cap rel ops :=
  RelRefine.rejected run cap rel ops op hlen hg hnp

/-- **accepted** ("never fails for a valid call") — a step of the machine whose precondition
    holds succeeds: all seven operations, every access path; in particular `NewEntity` / `Add` /
    `Remove` with relations (`Ark/Proofs/RelTotal.lean`, `RelRemove.lean`) and `RemoveEntity` of a
    relation target -/
theorem accepted (ops : List Op) (op : Op) (hlen : ops.length + 1 < 2 ^ 16)
    (hg : guard (reach run cap rel ops) op = true) (hp : pre (reach run cap rel ops).ss op) :
    ∃ r w', exec run (reach run cap rel ops).w op = .ok r w' :=
  RelRefine.accepted run cap rel ops op hlen hg hp

/-- **a dead target is never accepted** — through ANY path, whether or not the target is a handle
    the client was given: `NewEntity` naming a non-zero target that is not alive does not return.
    The statement is put at the state after a history, but uses nothing of it: it is
    `C10Rel.newEntity_removed_target`, which holds in any world (of the hypotheses only `hd` is
    needed) … -/
theorem dead_target_not_accepted_new (ops : List Op) (hlen : ops.length + 1 < 2 ^ 16) (p : Path)
    (ids : List Comp) (vals : Comps) (rels : Rels)
    (hreg : ∀ c ∈ ids, c < (reach run cap rel ops).ss.zst.length)
    (hwf : RelsWF (reach run cap rel ops).ss.isRel ids rels)
    (hd : ∃ r ∈ rels, r.target.isZero = false ∧ (reach run cap rel ops).w.alive r.target = false)
    (e : Ent) (w' : World) :
    opNewEntity run p ids vals rels (reach run cap rel ops).w ≠ .ok e w' := by
  obtain ⟨k, _, hk⟩ := C10Rel.newEntity_removed_target run p ids vals rels _ hd
  rw [hk]; nofun

/-- … nor does `Add`, on any entity (`C10Rel.add_removed_target`, any world; only `hd` is
    needed) … -/
theorem dead_target_not_accepted_add (ops : List Op) (hlen : ops.length + 1 < 2 ^ 16) (p : Path)
    (x : Ent) (en : Entry) (hm : (x, en) ∈ (reach run cap rel ops).ss.ents)
    (ids : List Comp) (vals : Comps) (rels : Rels)
    (hreg : ∀ c ∈ ids, c < (reach run cap rel ops).ss.zst.length)
    (hwf : RelsWF (reach run cap rel ops).ss.isRel ids rels)
    (hd : ∃ r ∈ rels, r.target.isZero = false ∧ (reach run cap rel ops).w.alive r.target = false)
    (w' : World) :
    opAdd run p x ids vals rels (reach run cap rel ops).w ≠ .ok () w' := by
  obtain ⟨k, _, hk⟩ := C10Rel.add_removed_target run p x ids vals rels _ hd
  rw [hk]; nofun

/-- … nor `SetRelations`, any mapper (`C10Rel.setRelations_removed_target`, any world; only `hd`
    is needed) -/
theorem dead_target_not_accepted_setrel (ops : List Op) (hlen : ops.length + 1 < 2 ^ 16) (p : Path)
    (x : Ent) (en : Entry) (hm : (x, en) ∈ (reach run cap rel ops).ss.ents)
    (mapperIds : List Comp) (rels : Rels) (hne : rels ≠ []) (hnd : (rels.map (·.comp)).Nodup)
    (hhas : ∀ r ∈ rels, r.comp ∈ en.rels.map (·.comp))
    (hd : ∃ r ∈ rels, r.target.isZero = false ∧ (reach run cap rel ops).w.alive r.target = false)
    (w' : World) :
    opSetRelations run p x mapperIds rels (reach run cap rel ops).w ≠ .ok () w' := by
  obtain ⟨k, _, hk⟩ := C10Rel.setRelations_removed_target run p x mapperIds rels _ hd
  rw [hk]; nofun

/-! ## 4. C04: the target last assigned, until that target is removed -/

/-- **target_last_assigned (`new`)** — a valid `new p ids vals rels` returns a handle `e'` never
    returned before; the new entity is alive, has exactly the components `ids`, every component
    reads the last value written to it (zero if none; a zero-size component always zero), and
    every relation component has the target given -/
theorem new_assigns (ops : List Op) (p : Path) (ids : List Comp) (vals : Comps) (rels : Rels)
    (hlen : ops.length + 1 < 2 ^ 16)
    (hg : guard (reach run cap rel ops) (.new p ids vals rels) = true)
    (hp : NewOK (reach run cap rel ops).ss ids rels) :
    ∃ e' : Ent, e' ∉ (reach run cap rel ops).issued ∧
      (reach run cap rel (ops ++ [.new p ids vals rels])).issued = e' :: (reach run cap rel ops).issued ∧
      (reach run cap rel (ops ++ [.new p ids vals rels])).ss.ents =
        (e', ⟨writeComps (reach run cap rel ops).ss.zst vals (zeros ids), rels⟩) ::
          (reach run cap rel ops).ss.ents ∧
      (reach run cap rel (ops ++ [.new p ids vals rels])).w.alive e' = true ∧
      compsOf (reach run cap rel (ops ++ [.new p ids vals rels])).w e'.id =
        some (sortedIds (reach run cap rel (ops ++ [.new p ids vals rels])).w.kinds.length ids) ∧
      (∀ c ∈ ids, valOf (reach run cap rel (ops ++ [.new p ids vals rels])).w e'.id c =
        some (if (reach run cap rel ops).ss.zst.getD c false = true then 0
              else (lastVal vals c).getD 0)) ∧
      (∀ r ∈ rels, targetOf (reach run cap rel (ops ++ [.new p ids vals rels])).w e'.id r.comp =
        some r.target) := by
  obtain ⟨r, w', hex, hst, hfresh⟩ := step_spec run cap rel ops (.new p ids vals rels) hlen hg hp
  obtain ⟨e', rfl⟩ := exec_new_ret run hex
  have hst' : reach run cap rel (ops ++ [.new p ids vals rels]) =
      ⟨w', e' :: (reach run cap rel ops).issued,
        ⟨(e', ⟨writeComps (reach run cap rel ops).ss.zst vals (zeros ids), rels⟩) ::
          (reach run cap rel ops).ss.ents, (reach run cap rel ops).ss.zst,
          (reach run cap rel ops).ss.isRel⟩⟩ := by
    rw [hst]
    simp only [issuedAfter, retOf, specStep, if_pos hp, Option.getD_some]
  have hlen' := length_snoc_lt (Op.new p ids vals rels) hlen
  have hm1 : (e', ⟨writeComps (reach run cap rel ops).ss.zst vals (zeros ids), rels⟩) ∈
      (reach run cap rel (ops ++ [.new p ids vals rels])).ss.ents := by
    rw [hst']; exact List.mem_cons_self
  obtain ⟨a1, c1, v1, t1, _⟩ := refines run cap rel _ hlen' e' _ hm1
  have hk : keys (writeComps (reach run cap rel ops).ss.zst vals (zeros ids)) = ids := by
    rw [Refine.keys_writeComps, Refine.keys_zeros]
  refine ⟨e', hfresh e' rfl, by rw [hst'], by rw [hst'], a1, by rw [c1, hk], ?_, t1⟩
  exact fun c hc => Refine.writeComps_reads v1 (List.mem_map.mpr ⟨c, hc, rfl⟩)

/-- **target_last_assigned (`add`)** — after a valid `add p e ids vals rels`: every relation
    component added has the target given, every relation component `e` had keeps its target; the
    component set is the old one with `ids`; an added component reads the last value written to
    it (zero if none), an old one the last value written to it, else its old value -/
theorem add_assigns (ops : List Op) (p : Path) (e : Ent) (ids : List Comp) (vals : Comps)
    (rels : Rels) (hlen : ops.length + 1 < 2 ^ 16) (en : Entry)
    (hm : (e, en) ∈ (reach run cap rel ops).ss.ents)
    (hg : guard (reach run cap rel ops) (.add p e ids vals rels) = true)
    (hp : AddOK (reach run cap rel ops).ss en ids rels) :
    (e, ⟨writeComps (reach run cap rel ops).ss.zst vals (en.comps ++ zeros ids), en.rels ++ rels⟩) ∈
      (reach run cap rel (ops ++ [.add p e ids vals rels])).ss.ents ∧
    (∀ r ∈ rels, targetOf (reach run cap rel (ops ++ [.add p e ids vals rels])).w e.id r.comp =
      some r.target) ∧
    (∀ r ∈ en.rels, targetOf (reach run cap rel (ops ++ [.add p e ids vals rels])).w e.id r.comp =
      some r.target) ∧
    compsOf (reach run cap rel (ops ++ [.add p e ids vals rels])).w e.id =
      some (sortedIds (reach run cap rel (ops ++ [.add p e ids vals rels])).w.kinds.length
        (keys en.comps ++ ids)) ∧
    (∀ c ∈ ids, valOf (reach run cap rel (ops ++ [.add p e ids vals rels])).w e.id c =
      some (if (reach run cap rel ops).ss.zst.getD c false = true then 0
            else (lastVal vals c).getD 0)) ∧
    (∀ (c : Comp) (v : Val), (c, v) ∈ en.comps →
      valOf (reach run cap rel (ops ++ [.add p e ids vals rels])).w e.id c =
        some (if (reach run cap rel ops).ss.zst.getD c false = true then v
              else (lastVal vals c).getD v)) := by
  obtain ⟨fl, h⟩ := reach_hinv run cap rel ops (by omega)
  have hf : find (reach run cap rel ops).ss.ents e = some en := find_of_mem h.ginv.live_nodup hm
  have hlen' := length_snoc_lt (Op.add p e ids vals rels) hlen
  have hm' : (e, ⟨writeComps (reach run cap rel ops).ss.zst vals (en.comps ++ zeros ids),
      en.rels ++ rels⟩) ∈ (reach run cap rel (ops ++ [.add p e ids vals rels])).ss.ents :=
    entry_of_step run cap rel ops hg fun _ => by
      simp only [specStep, hf, if_pos hp]
      exact find_upd_self _ hf
  obtain ⟨_, c2, v2, t2, _⟩ := refines run cap rel _ hlen' e _ hm'
  have hk : keys (writeComps (reach run cap rel ops).ss.zst vals (en.comps ++ zeros ids)) =
      keys en.comps ++ ids := by
    rw [Refine.keys_writeComps, Refine.keys_append, Refine.keys_zeros]
  refine ⟨hm', fun r hr => t2 r (List.mem_append_right _ hr),
    fun r hr => t2 r (List.mem_append_left _ hr), by rw [c2, hk], ?_, ?_⟩
  · exact fun c hc => Refine.writeComps_reads v2
      (List.mem_append_right _ (List.mem_map.mpr ⟨c, hc, rfl⟩))
  · exact fun c v hc => Refine.writeComps_reads v2 (List.mem_append_left _ hc)

/-- **target_last_assigned (`setrel`)** — after a valid `setrel p e rels`: every relation
    component named has the target given, every other relation component of `e` keeps its target,
    and `e` keeps its component set and all its values -/
theorem setrel_assigns (ops : List Op) (p : Path) (e : Ent) (rels : Rels)
    (hlen : ops.length + 1 < 2 ^ 16) (en : Entry)
    (hm : (e, en) ∈ (reach run cap rel ops).ss.ents)
    (hg : guard (reach run cap rel ops) (.setrel p e rels) = true)
    (hp : SetRelOK (reach run cap rel ops).ss en rels) :
    (e, { en with rels := setRels en.rels rels }) ∈
      (reach run cap rel (ops ++ [.setrel p e rels])).ss.ents ∧
    (∀ r ∈ rels, targetOf (reach run cap rel (ops ++ [.setrel p e rels])).w e.id r.comp =
      some r.target) ∧
    (∀ r ∈ en.rels, (∀ r' ∈ rels, r'.comp ≠ r.comp) →
      targetOf (reach run cap rel (ops ++ [.setrel p e rels])).w e.id r.comp = some r.target) ∧
    compsOf (reach run cap rel (ops ++ [.setrel p e rels])).w e.id =
      compsOf (reach run cap rel ops).w e.id ∧
    (∀ c : Comp, valOf (reach run cap rel (ops ++ [.setrel p e rels])).w e.id c =
      valOf (reach run cap rel ops).w e.id c) :=
  RelRefine.setrel_assigns run cap rel ops p e rels hlen en hm hg hp

/-- **target_stays** — "… it is the target last assigned, until that target is removed": a target
    the specification records for `x` is still read after any operation that is not a `del`, not
    a `setrel` on `x` naming that relation component and not a `rem` on `x` removing it — whatever
    entity the operation is about (also `x` itself: `set`, `add`, `setrel` / `rem` of other
    components), valid or rejected -/
theorem target_stays (ops : List Op) (op : Op) (hlen : ops.length + 1 < 2 ^ 16) (x : Ent)
    (en : Entry) (hm : (x, en) ∈ (reach run cap rel ops).ss.ents) (r : RelID) (hr : r ∈ en.rels)
    (hd : op.isDel = false)
    (hs : ∀ p rels', op = .setrel p x rels' → ∀ r' ∈ rels', r'.comp ≠ r.comp)
    (hrm : ∀ p ids', op = .rem p x ids' → r.comp ∉ ids') :
    targetOf (reach run cap rel (ops ++ [op])).w x.id r.comp = some r.target := by
  obtain ⟨fl, h⟩ := reach_hinv run cap rel ops (by omega)
  have hf : find (reach run cap rel ops).ss.ents x = some en := find_of_mem h.ginv.live_nodup hm
  have hlen' := length_snoc_lt op hlen
  by_cases hgp : guard (reach run cap rel ops) op = true ∧ pre (reach run cap rel ops).ss op
  · obtain ⟨ret, w', hex, hst, hfresh⟩ := step_spec run cap rel ops op hlen hgp.1 hgp.2
    obtain ⟨en', hf', hr'⟩ := specStep_keeps_rel (reach run cap rel ops).ss (ret.getD default) op
      hf hr hd hs hrm (by
        intro p ids vals rels hop
        subst hop
        obtain ⟨e, rfl⟩ := exec_new_ret run hex
        intro hh
        simp only [Option.getD_some] at hh
        exact hfresh e rfl (hh ▸ (h.live_facts hm).1))
    have hm' : (x, en') ∈ (reach run cap rel (ops ++ [op])).ss.ents := by
      rw [hst]; exact find_some_mem hf'
    exact (refines run cap rel _ hlen' x en' hm').2.2.2.1 r hr'
  · rw [reach_snoc_same run cap rel ops op hlen hgp]
    exact (refines run cap rel ops (by omega) x en hm).2.2.2.1 r hr

/-- **del_detaches** — "… at which point it becomes the zero entity while the entity keeps all its
    components and values": after `del g` of a specified (= alive) entity — which never fails,
    `accepted` — `g` is dead and unspecified; every other specified entity keeps its component
    set and its values, and each of its targets reads the zero entity if it was `g` and is
    unchanged otherwise -/
theorem del_detaches (ops : List Op) (g : Ent) (hlen : ops.length + 1 < 2 ^ 16) (eng : Entry)
    (hg : (g, eng) ∈ (reach run cap rel ops).ss.ents) :
    (reach run cap rel (ops ++ [.del g])).w.alive g = false ∧
    find (reach run cap rel (ops ++ [.del g])).ss.ents g = none ∧
    ∀ (x : Ent) (en : Entry), (x, en) ∈ (reach run cap rel ops).ss.ents → x ≠ g →
      (x, en.detach g) ∈ (reach run cap rel (ops ++ [.del g])).ss.ents ∧
      compsOf (reach run cap rel (ops ++ [.del g])).w x.id =
        compsOf (reach run cap rel ops).w x.id ∧
      (∀ c : Comp, valOf (reach run cap rel (ops ++ [.del g])).w x.id c =
        valOf (reach run cap rel ops).w x.id c) ∧
      (∀ c : Comp, targetOf (reach run cap rel (ops ++ [.del g])).w x.id c =
        if targetOf (reach run cap rel ops).w x.id c = some g then some Ent.zero
        else targetOf (reach run cap rel ops).w x.id c) := by
  obtain ⟨fl, h⟩ := reach_hinv run cap rel ops (by omega)
  obtain ⟨hi, ha, h2, hnf, hfg, _⟩ := h.live_facts hg
  have hgd : guard (reach run cap rel ops) (.del g) = true := by
    simp only [RelRefine.guard, decide_eq_true_eq]; exact hi
  have hlen' := length_snoc_lt (Op.del g) hlen
  have hss : (reach run cap rel (ops ++ [.del g])).ss.ents =
      detach g (del (reach run cap rel ops).ss.ents g) := by
    rw [reach_snoc, step_of_guard hgd]
    simp only [specStep, hfg]
  have hnone : find (reach run cap rel (ops ++ [.del g])).ss.ents g = none := by
    rw [hss, find_detach, find_del_self h.ginv.live_nodup]; rfl
  obtain ⟨hnd', hiss', _⟩ := spec_handles_nodup run cap rel _ hlen'
  have hiss : g ∈ (reach run cap rel (ops ++ [.del g])).issued := by
    -- a step only ever adds to the issued handles
    rw [reach_snoc, step_of_guard hgd]
    show g ∈ issuedAfter _ _
    unfold issuedAfter
    split
    · exact List.mem_cons_of_mem _ hi
    · exact hi
  refine ⟨?_, hnone, ?_⟩
  · cases hal : (reach run cap rel (ops ++ [.del g])).w.alive g with
    | false => rfl
    | true =>
      have := (alive_iff_specified run cap rel _ hlen' g hiss).mp hal
      exact absurd this (find_none_iff.mp hnone)
  · intro x en hx hne
    have hfx : find (reach run cap rel ops).ss.ents x = some en := find_of_mem h.ginv.live_nodup hx
    have hm' : (x, en.detach g) ∈ (reach run cap rel (ops ++ [.del g])).ss.ents := by
      apply find_some_mem
      rw [hss, find_detach, find_del_ne _ hne, hfx]; rfl
    obtain ⟨_, h'⟩ := reach_hinv run cap rel _ hlen'
    -- `Entry.detach g` leaves `comps` alone: component set and values by `same_comps`.  The
    -- targets are read off the two entries (`HInv.read`); `zeroRel g` keeps `comp`, so `find?`
    -- commutes with the `map`
    obtain ⟨hc, hv⟩ := h.same_comps h' hx hm' rfl
    refine ⟨hm', hc, hv, fun c => ?_⟩
    · rw [(h.read hx).2.2, (h'.read hm').2.2]
      show ((en.rels.map (zeroRel g)).find? (fun r => r.comp == c)).map (·.target) = _
      rw [List.find?_map]
      have hfun : ((fun r : RelID => r.comp == c) ∘ zeroRel g) = fun r : RelID => r.comp == c := by
        funext r; simp only [Function.comp, zeroRel_comp]
      rw [hfun]
      cases hfc : en.rels.find? (fun r => r.comp == c) with
      | none => simp
      | some r =>
        simp only [Option.map_some, zeroRel_target]
        by_cases hrt : r.target = g
        · rw [if_pos hrt, if_pos (by rw [hrt])]
        · rw [if_neg hrt, if_neg (fun hh => hrt (Option.some.inj hh))]

/-! ## 5. C01: last write wins (`set`), frame -/

/-- **rem_effect** — after a valid `rem p e ids` (`ids` non-empty, distinct, all of them
    components of `e`; relation components or not): the removed components are gone, with their
    targets; every component that stays keeps its value and — a relation component — its target;
    the component set is the old one without `ids` -/
theorem rem_effect (ops : List Op) (p : Path) (e : Ent) (ids : List Comp)
    (hlen : ops.length + 1 < 2 ^ 16) (en : Entry)
    (hm : (e, en) ∈ (reach run cap rel ops).ss.ents)
    (hv : ids ≠ [] ∧ ids.Nodup ∧ ∀ c ∈ ids, c ∈ keys en.comps) :
    (∀ c ∈ ids, valOf (reach run cap rel (ops ++ [.rem p e ids])).w e.id c = none ∧
      targetOf (reach run cap rel (ops ++ [.rem p e ids])).w e.id c = none) ∧
    (∀ (c : Comp) (v : Val), (c, v) ∈ en.comps → c ∉ ids →
      valOf (reach run cap rel (ops ++ [.rem p e ids])).w e.id c = some v) ∧
    (∀ r ∈ en.rels, r.comp ∉ ids →
      targetOf (reach run cap rel (ops ++ [.rem p e ids])).w e.id r.comp = some r.target) ∧
    compsOf (reach run cap rel (ops ++ [.rem p e ids])).w e.id =
      some (sortedIds (reach run cap rel (ops ++ [.rem p e ids])).w.kinds.length
        (keys (en.comps.filter fun cv => decide (cv.1 ∉ ids)))) := by
  obtain ⟨fl, h⟩ := reach_hinv run cap rel ops (by omega)
  obtain ⟨hi, _, _, _, hf, _⟩ := h.live_facts hm
  have hg : guard (reach run cap rel ops) (.rem p e ids) = true := by
    simp only [RelRefine.guard, decide_eq_true_eq]; exact hi
  have hlen' := length_snoc_lt (Op.rem p e ids) hlen
  have hm' : (e, ⟨en.comps.filter fun cv => decide (cv.1 ∉ ids),
      en.rels.filter fun r => decide (r.comp ∉ ids)⟩) ∈
      (reach run cap rel (ops ++ [.rem p e ids])).ss.ents :=
    entry_of_step run cap rel ops hg fun _ => by
      simp only [specStep, hf, if_pos hv]
      exact find_upd_self _ hf
  obtain ⟨_, c2, v2, t2, _⟩ := refines run cap rel _ hlen' e _ hm'
  refine ⟨?_, ?_, ?_, c2⟩
  · intro c hc
    obtain ⟨a1, a2⟩ := refines_absent run cap rel _ hlen' e _ hm' c
    constructor
    · apply a1
      intro hk
      exact (Refine.mem_keys_filter.mp hk).2 hc
    · apply a2
      intro hk
      obtain ⟨r, hr, hrc⟩ := List.mem_map.mp hk
      have := (List.mem_filter.mp hr).2
      simp only [decide_eq_true_eq] at this
      exact this (hrc ▸ hc)
  · intro c v hc hnot
    exact v2 (c, v) (List.mem_filter.mpr ⟨hc, by simpa using hnot⟩)
  · intro r hr hnot
    exact t2 r (List.mem_filter.mpr ⟨hr, by simpa using hnot⟩)

/-- **set_writes** — after a valid `set e vals`: every component of `e` reads the LAST value
    `vals` gives it, its previous value if `vals` does not mention it (a zero-size component is not
    written); the component set and all targets of `e` are kept -/
theorem set_writes (ops : List Op) (e : Ent) (vals : Comps) (hlen : ops.length + 1 < 2 ^ 16)
    (en : Entry) (hm : (e, en) ∈ (reach run cap rel ops).ss.ents)
    (hv : ∀ cv ∈ vals, cv.1 ∈ keys en.comps) :
    (∀ (c : Comp) (v : Val), (c, v) ∈ en.comps →
      valOf (reach run cap rel (ops ++ [.set e vals])).w e.id c =
        some (if (reach run cap rel ops).ss.zst.getD c false = true then v
              else (lastVal vals c).getD v)) ∧
    compsOf (reach run cap rel (ops ++ [.set e vals])).w e.id =
      compsOf (reach run cap rel ops).w e.id ∧
    (∀ c : Comp, targetOf (reach run cap rel (ops ++ [.set e vals])).w e.id c =
      targetOf (reach run cap rel ops).w e.id c) := by
  obtain ⟨fl, h⟩ := reach_hinv run cap rel ops (by omega)
  obtain ⟨hi, _, _, _, hf, _⟩ := h.live_facts hm
  have hg : guard (reach run cap rel ops) (.set e vals) = true := by
    simp only [RelRefine.guard, decide_eq_true_eq]; exact hi
  have hlen' := length_snoc_lt (Op.set e vals) hlen
  have hm' : (e, { en with comps := writeComps (reach run cap rel ops).ss.zst vals en.comps }) ∈
      (reach run cap rel (ops ++ [.set e vals])).ss.ents :=
    entry_of_step run cap rel ops hg fun _ => by
      simp only [specStep, hf, if_pos hv]
      exact find_upd_self _ hf
  obtain ⟨_, _, v2, _, _⟩ := refines run cap rel _ hlen' e _ hm'
  obtain ⟨_, h'⟩ := reach_hinv run cap rel _ hlen'
  refine ⟨?_, h.same_keys h' hm hm' (Refine.keys_writeComps ..), h.same_rels h' hm hm' rfl⟩
  exact fun c v hc => Refine.writeComps_reads v2 hc

/-- **frame** (specification): the step for an operation on `e` other than `del` changes only
    `e`'s entry (`target`: the handle the operation names, the fresh handle for `new`) -/
theorem frame (ss : SS) (fresh : Ent) (op : Op) (x : Ent) (hd : op.isDel = false)
    (hx : target fresh op ≠ some x) : find (specStep ss fresh op).ents x = find ss.ents x :=
  specStep_frame ss fresh op x hd hx

/-- **frame** (specification, `del`): a valid `del g` changes every other entry by exactly
    `Entry.detach g` (targets `g` become the zero entity; components and values are kept) -/
theorem frame_del (ss : SS) (fresh : Ent) (g : Ent) {eng : Entry}
    (hg : find ss.ents g = some eng) (x : Ent) (hx : x ≠ g) :
    find (specStep ss fresh (.del g)).ents x = (find ss.ents x).map (Entry.detach g) := by
  simp only [specStep, hg]
  rw [find_detach, find_del_ne _ hx]

/-- **frame_world** — an operation other than `del` that does not name `x` (`subject`; `reg` and
    `new` name no existing entity): the specified entity `x` has the same component set, the same
    values and the same targets before and after.  For `del g` — the one operation that changes
    other entities, and exactly their targets that were `g` — see `del_detaches`. -/
theorem frame_world (ops : List Op) (op : Op) (hlen : ops.length + 1 < 2 ^ 16) (x : Ent)
    (en : Entry) (hm : (x, en) ∈ (reach run cap rel ops).ss.ents)
    (hd : op.isDel = false) (hx : subject op ≠ some x) :
    compsOf (reach run cap rel (ops ++ [op])).w x.id = compsOf (reach run cap rel ops).w x.id ∧
    (∀ c : Comp, valOf (reach run cap rel (ops ++ [op])).w x.id c =
      valOf (reach run cap rel ops).w x.id c) ∧
    (∀ c : Comp, targetOf (reach run cap rel (ops ++ [op])).w x.id c =
      targetOf (reach run cap rel ops).w x.id c) :=
  RelRefine.frame_world run cap rel ops op hlen x en hm hd hx

/-- **any access path** — a valid step gives the same result (world, returned handle) through
    `Unsafe…`, `Map…` and `MapN…` (`Op.withPath q` replaces the access path of `new`/`add`/
    `setrel`), it is a step through each of them, and the machine reaches the same state: all the
    theorems of this file hold whichever path each valid operation of a history takes.  (Rejected
    calls differ in the class of the panic only; see § 7 for calls that are not steps.) -/
theorem any_access_path (ops : List Op) (op : Op) (q : Path) (hlen : ops.length + 1 < 2 ^ 16)
    (hg : guard (reach run cap rel ops) op = true) (hp : pre (reach run cap rel ops).ss op) :
    guard (reach run cap rel ops) (op.withPath q) = true ∧
    exec run (reach run cap rel ops).w (op.withPath q) = exec run (reach run cap rel ops).w op ∧
    reach run cap rel (ops ++ [op.withPath q]) = reach run cap rel (ops ++ [op]) :=
  RelRefine.any_access_path run cap rel ops op q hlen hg hp

/-! ## 6. non-vacuity: a concrete history

Component 0 = `ChildOf` (a zero-size relation component), component 1 = `Pos`.  Two parents
`2.0`, `3.0`; children `4.0`, `5.0` of `2.0` and `6.0` of `3.0` (two relation tables); parent `2.0`
is removed — the children are detached and keep their values; a new parent `2.1` (it recycles ID
2) and a child `7.0` of it, whose table is the recycled table 1. -/

def p1 : Ent := ⟨2, 0⟩
def p2 : Ent := ⟨3, 0⟩
def p3 : Ent := ⟨2, 1⟩

def demoOps : List Op :=
  [.reg 0 true true, .reg 8 false false,
   .new .unsafe_ [] [] [], .new .unsafe_ [] [] [],
   .new .typed [0, 1] [(1, 7)] [⟨0, p1⟩],
   .new .typed [0, 1] [(1, 8)] [⟨0, p1⟩],
   .new .unsafe_ [0, 1] [(1, 9)] [⟨0, p2⟩],
   .del p1,
   .new .unsafe_ [] [] [],
   .new .map1 [0, 1] [(1, 5)] [⟨0, p3⟩]]

/-- the model agrees with the specification entry by entry (decidable form of `refines`) -/
def agrees (s : St) : Bool :=
  s.ss.ents.all fun x =>
    s.w.alive x.1 && (compsOf s.w x.1.id == some (sortedIds s.w.kinds.length (keys x.2.comps))) &&
      (x.2.comps.all fun cv => valOf s.w x.1.id cv.1 == some cv.2) &&
      (x.2.rels.all fun r => targetOf s.w x.1.id r.comp == some r.target)

/-- table id, archetype, rows, free?, per-column relation targets -/
def summary (w : World) : List (Nat × Nat × Nat × Bool × List Ent) :=
  w.tables.map fun T => (T.id, T.arch, T.len, T.isFree, T.targets)

def panicOf {α : Type} : Res World α → Option PanicKind
  | .ok _ _ => none
  | .panic k _ => some k

/-- before the removal: the specification, the two relation tables -/
example :
    (reach noProbe 2 2 (demoOps.take 7)).ss.ents =
      [(⟨6, 0⟩, ⟨[(0, 0), (1, 9)], [⟨0, p2⟩]⟩), (⟨5, 0⟩, ⟨[(0, 0), (1, 8)], [⟨0, p1⟩]⟩),
       (⟨4, 0⟩, ⟨[(0, 0), (1, 7)], [⟨0, p1⟩]⟩), (p2, ⟨[], []⟩), (p1, ⟨[], []⟩)] ∧
    (reach noProbe 2 2 (demoOps.take 7)).ss.isRel = [true, false] ∧
    agrees (reach noProbe 2 2 (demoOps.take 7)) = true ∧
    summary (reach noProbe 2 2 (demoOps.take 7)).w =
      [(0, 0, 2, false, []), (1, 1, 2, false, [p1, Ent.zero]), (2, 1, 1, false, [p2, Ent.zero])] := by
  decide +kernel

/-- after `del p1`: the entry of `p1` is gone, the children 4 and 5 are detached (target zero) in
    the specification and in the model — they sit in the new table 3 and keep components and
    values; child 6 keeps its target; table 1 is free -/
example :
    (reach noProbe 2 2 (demoOps.take 8)).ss.ents =
      [(⟨6, 0⟩, ⟨[(0, 0), (1, 9)], [⟨0, p2⟩]⟩), (⟨5, 0⟩, ⟨[(0, 0), (1, 8)], [⟨0, Ent.zero⟩]⟩),
       (⟨4, 0⟩, ⟨[(0, 0), (1, 7)], [⟨0, Ent.zero⟩]⟩), (p2, ⟨[], []⟩)] ∧
    agrees (reach noProbe 2 2 (demoOps.take 8)) = true ∧
    (reach noProbe 2 2 (demoOps.take 8)).w.alive p1 = false ∧
    (targetOf (reach noProbe 2 2 (demoOps.take 8)).w 4 0,
      targetOf (reach noProbe 2 2 (demoOps.take 8)).w 5 0,
      targetOf (reach noProbe 2 2 (demoOps.take 8)).w 6 0) =
        (some Ent.zero, some Ent.zero, some p2) ∧
    (valOf (reach noProbe 2 2 (demoOps.take 8)).w 4 1, valOf (reach noProbe 2 2 (demoOps.take 8)).w 5 1,
      valOf (reach noProbe 2 2 (demoOps.take 8)).w 6 1) = (some 7, some 8, some 9) ∧
    summary (reach noProbe 2 2 (demoOps.take 8)).w =
      [(0, 0, 1, false, []), (1, 1, 0, true, [p1, Ent.zero]), (2, 1, 1, false, [p2, Ent.zero]),
       (3, 1, 2, false, [Ent.zero, Ent.zero])] := by
  decide +kernel

/-- the whole history: the new parent `2.1` recycles ID 2, its child 7 sits in the recycled
    table 1; nobody else's targets or values changed; the model agrees with the specification -/
example :
    (reach noProbe 2 2 demoOps).ss.ents =
      [(⟨7, 0⟩, ⟨[(0, 0), (1, 5)], [⟨0, p3⟩]⟩), (p3, ⟨[], []⟩),
       (⟨6, 0⟩, ⟨[(0, 0), (1, 9)], [⟨0, p2⟩]⟩), (⟨5, 0⟩, ⟨[(0, 0), (1, 8)], [⟨0, Ent.zero⟩]⟩),
       (⟨4, 0⟩, ⟨[(0, 0), (1, 7)], [⟨0, Ent.zero⟩]⟩), (p2, ⟨[], []⟩)] ∧
    (reach noProbe 2 2 demoOps).issued = [⟨7, 0⟩, p3, ⟨6, 0⟩, ⟨5, 0⟩, ⟨4, 0⟩, p2, p1] ∧
    agrees (reach noProbe 2 2 demoOps) = true ∧
    summary (reach noProbe 2 2 demoOps).w =
      [(0, 0, 2, false, []), (1, 1, 1, false, [p3, Ent.zero]), (2, 1, 1, false, [p2, Ent.zero]),
       (3, 1, 2, false, [Ent.zero, Ent.zero])] := by
  decide +kernel

/-- the hypotheses of the theorems are satisfiable in this history: the bound, the guard and the
    preconditions of `del p1`, of the last `new`, of a `setrel` and of an `add` with a relation -/
example :
    demoOps.length + 1 < 2 ^ 16 ∧
    guard (reach noProbe 2 2 (demoOps.take 7)) (.del p1) = true ∧
    (p1, ⟨[], []⟩) ∈ (reach noProbe 2 2 (demoOps.take 7)).ss.ents ∧
    guard (reach noProbe 2 2 (demoOps.take 9)) (.new .map1 [0, 1] [(1, 5)] [⟨0, p3⟩]) = true ∧
    NewOK (reach noProbe 2 2 (demoOps.take 9)).ss [0, 1] [⟨0, p3⟩] ∧
    guard (reach noProbe 2 2 demoOps) (.setrel .typed ⟨6, 0⟩ [⟨0, p3⟩]) = true ∧
    SetRelOK (reach noProbe 2 2 demoOps).ss ⟨[(0, 0), (1, 9)], [⟨0, p2⟩]⟩ [⟨0, p3⟩] ∧
    guard (reach noProbe 2 2 demoOps) (.add .unsafe_ p2 [0] [] [⟨0, p3⟩]) = true ∧
    AddOK (reach noProbe 2 2 demoOps).ss ⟨[], []⟩ [0] [⟨0, p3⟩] := by
  decide +kernel

/-- … and those of `rejected`, `rem_effect` and `dead_target_not_accepted_*`: in the final state
    `p1` is an issued, dead, non-zero handle; `setrel .typed 6.0 [ChildOf ↦ p1]` is a step whose
    precondition fails (the entry of `6.0` is the one shown, and `SetRelOK` fails for it); the
    relation list `[ChildOf ↦ p1]` is well-formed for `ids = [0]`; `rem 6.0 [0]` is valid -/
example :
    guard (reach noProbe 2 2 demoOps) (.setrel .typed ⟨6, 0⟩ [⟨0, p1⟩]) = true ∧
    find (reach noProbe 2 2 demoOps).ss.ents ⟨6, 0⟩ = some ⟨[(0, 0), (1, 9)], [⟨0, p2⟩]⟩ ∧
    ¬ SetRelOK (reach noProbe 2 2 demoOps).ss ⟨[(0, 0), (1, 9)], [⟨0, p2⟩]⟩ [⟨0, p1⟩] ∧
    RelsWF (reach noProbe 2 2 demoOps).ss.isRel [0] [⟨0, p1⟩] ∧
    (∃ r ∈ [(⟨0, p1⟩ : RelID)], r.target.isZero = false ∧
      (reach noProbe 2 2 demoOps).w.alive r.target = false) ∧
    p1 ∈ (reach noProbe 2 2 demoOps).issued ∧
    ([0] ≠ [] ∧ [0].Nodup ∧ ∀ c ∈ [0], c ∈ keys [((0 : Comp), (0 : Val)), (1, 9)]) := by
  decide +kernel

/-- `setrel` and `add` with a relation in the final state: child 6 is re-targeted to `2.1`; the
    parent `3.0` becomes a child of `2.1`; the model agrees with the specification -/
example :
    find (step noProbe (reach noProbe 2 2 demoOps) (.setrel .typed ⟨6, 0⟩ [⟨0, p3⟩])).ss.ents ⟨6, 0⟩ =
      some ⟨[(0, 0), (1, 9)], [⟨0, p3⟩]⟩ ∧
    agrees (step noProbe (reach noProbe 2 2 demoOps) (.setrel .typed ⟨6, 0⟩ [⟨0, p3⟩])) = true ∧
    find (step noProbe (reach noProbe 2 2 demoOps) (.add .unsafe_ p2 [0] [] [⟨0, p3⟩])).ss.ents p2 =
      some ⟨[(0, 0)], [⟨0, p3⟩]⟩ ∧
    agrees (step noProbe (reach noProbe 2 2 demoOps) (.add .unsafe_ p2 [0] [] [⟨0, p3⟩])) = true := by
  decide +kernel

/-- `rem` in the final state: removing the relation component from child 6 drops its target and
    keeps `Pos`; removing `Pos` from the detached child 4 keeps its (zero) target -/
example :
    find (step noProbe (reach noProbe 2 2 demoOps) (.rem .typed ⟨6, 0⟩ [0])).ss.ents ⟨6, 0⟩ =
      some ⟨[(1, 9)], []⟩ ∧
    agrees (step noProbe (reach noProbe 2 2 demoOps) (.rem .typed ⟨6, 0⟩ [0])) = true ∧
    (targetOf (step noProbe (reach noProbe 2 2 demoOps) (.rem .typed ⟨6, 0⟩ [0])).w 6 0,
      valOf (step noProbe (reach noProbe 2 2 demoOps) (.rem .typed ⟨6, 0⟩ [0])).w 6 1) =
      (none, some 9) ∧
    find (step noProbe (reach noProbe 2 2 demoOps) (.rem .unsafe_ ⟨4, 0⟩ [1])).ss.ents ⟨4, 0⟩ =
      some ⟨[(0, 0)], [⟨0, Ent.zero⟩]⟩ ∧
    agrees (step noProbe (reach noProbe 2 2 demoOps) (.rem .unsafe_ ⟨4, 0⟩ [1])) = true := by
  decide +kernel

/-- rejected steps in the final state (`p1` is dead): a dead target (`setrel`, `new`, `add`; for
    `Unsafe` see § 7 (a)), a dead entity, a relation component the entity lacks — the machine
    state does not move and the world comes back unchanged -/
example :
    guard (reach noProbe 2 2 demoOps) (.setrel .typed ⟨6, 0⟩ [⟨0, p1⟩]) = true ∧
    [panicOf (exec noProbe (reach noProbe 2 2 demoOps).w (.setrel .typed ⟨6, 0⟩ [⟨0, p1⟩])),
     panicOf (exec noProbe (reach noProbe 2 2 demoOps).w (.new .map1 [0] [] [⟨0, p1⟩])),
     panicOf (exec noProbe (reach noProbe 2 2 demoOps).w (.add .typed p2 [0] [] [⟨0, p1⟩])),
     panicOf (exec noProbe (reach noProbe 2 2 demoOps).w (.setrel .unsafe_ p1 [⟨0, p2⟩])),
     panicOf (exec noProbe (reach noProbe 2 2 demoOps).w (.setrel .unsafe_ p2 [⟨0, p3⟩]))] =
      [some .deadTarget, some .deadTarget, some .deadTarget, some .deadEntity, some .noRelComponent] ∧
    (step noProbe (reach noProbe 2 2 demoOps) (.setrel .typed ⟨6, 0⟩ [⟨0, p1⟩])).ss.ents =
      (reach noProbe 2 2 demoOps).ss.ents ∧
    summary (exec noProbe (reach noProbe 2 2 demoOps).w (.new .map1 [0] [] [⟨0, p1⟩])).state =
      summary (reach noProbe 2 2 demoOps).w ∧
    (exec noProbe (reach noProbe 2 2 demoOps).w (.new .map1 [0] [] [⟨0, p1⟩])).state.archetypes.length =
      (reach noProbe 2 2 demoOps).w.archetypes.length := by
  decide +kernel

/-! ## 7. findings: why the guard restricts the relation arguments

All calls are made in the final state of `demoOps` (a reachable state, `p1 = 2.0` is dead).  The
model refuses each of them.  (a), (c), (d), (e) are refused without effect and are steps of the
machine; (a) and (c) show that `Unsafe` validates its relation arguments like the typed API
(`ToCheckedRelationIDsForUnsafe`).  (b) and (f), into a new archetype, are NOT without effect:
`findOrCreateTableAdd` creates the archetype of the new mask before `getTable` / `createTable`
look at the relations, so these calls are not steps of the machine.  (Whether the world reached
still satisfies the invariants is not proved.  The next valid call that needs the archetype finds
it and creates its table.) -/

/-- (a) a dead target through `Unsafe` (`NewEntity`, `Add`) is refused with `deadTarget` before
    anything is touched, as through the typed paths — it is a step of the machine on every path
    (`rejected`) -/
example :
    guard (reach noProbe 2 2 demoOps) (.new .unsafe_ [0] [] [⟨0, p1⟩]) = true ∧
    guard (reach noProbe 2 2 demoOps) (.add .unsafe_ p2 [0] [] [⟨0, p1⟩]) = true ∧
    guard (reach noProbe 2 2 demoOps) (.new .typed [0] [] [⟨0, p1⟩]) = true ∧
    panicOf (opNewEntity noProbe .unsafe_ [0] [] [⟨0, p1⟩] (reach noProbe 2 2 demoOps).w) =
      some .deadTarget ∧
    panicOf (opAdd noProbe .unsafe_ p2 [0] [] [⟨0, p1⟩] (reach noProbe 2 2 demoOps).w) =
      some .deadTarget ∧
    ((reach noProbe 2 2 demoOps).w.archetypes.length,
      (opNewEntity noProbe .unsafe_ [0] [] [⟨0, p1⟩] (reach noProbe 2 2 demoOps).w).state.archetypes.length,
      (opAdd noProbe .unsafe_ p2 [0] [] [⟨0, p1⟩] (reach noProbe 2 2 demoOps).w).state.archetypes.length,
      (opNewEntity noProbe .typed [0] [] [⟨0, p1⟩] (reach noProbe 2 2 demoOps).w).state.archetypes.length) =
      (2, 2, 2, 2) := by
  decide +kernel

/-- … the tables are untouched and the machine state does not move -/
example :
    summary (opNewEntity noProbe .unsafe_ [0] [] [⟨0, p1⟩] (reach noProbe 2 2 demoOps).w).state =
      summary (reach noProbe 2 2 demoOps).w ∧
    (step noProbe (reach noProbe 2 2 demoOps) (.new .unsafe_ [0] [] [⟨0, p1⟩])).ss.ents =
      (reach noProbe 2 2 demoOps).ss.ents := by
  decide +kernel

example :
    summary (opAdd noProbe .unsafe_ p2 [0] [] [⟨0, p1⟩] (reach noProbe 2 2 demoOps).w).state =
      summary (reach noProbe 2 2 demoOps).w := by
  decide +kernel

/-- (b) a relation component among `ids` that `rels` does not name: refused with
    `relUnspecified` on every path, one more archetype -/
example :
    guard (reach noProbe 2 2 demoOps) (.new .typed [0] [] []) = false ∧
    panicOf (opNewEntity noProbe .typed [0] [] [] (reach noProbe 2 2 demoOps).w) =
      some .relUnspecified ∧
    (opNewEntity noProbe .typed [0] [] [] (reach noProbe 2 2 demoOps).w).state.archetypes.length = 3 := by
  decide +kernel

/-- (c) a relation naming a component that is not a relation component, or a component that is
    not among `ids`, through `Unsafe`: refused with `notRelation` resp. `relNotInMask` before
    anything is touched.  Such calls are steps of the machine (`rejected` applies: `NewOK` /
    `AddOK` fail); only through `Map[T]`, where the model has no membership check, the guard asks
    that the relations are on components among `ids`. -/
example :
    guard (reach noProbe 2 2 demoOps) (.new .unsafe_ [1] [] [⟨1, p2⟩]) = true ∧
    guard (reach noProbe 2 2 demoOps) (.new .unsafe_ [1] [] [⟨0, p2⟩]) = true ∧
    guard (reach noProbe 2 2 demoOps) (.add .unsafe_ p2 [1] [] [⟨0, p3⟩]) = true ∧
    guard (reach noProbe 2 2 demoOps) (.new .map1 [1] [] [⟨0, p2⟩]) = false ∧
    ¬ NewOK (reach noProbe 2 2 demoOps).ss [1] [⟨1, p2⟩] ∧
    panicOf (opNewEntity noProbe .unsafe_ [1] [] [⟨1, p2⟩] (reach noProbe 2 2 demoOps).w) =
      some .notRelation ∧
    panicOf (opNewEntity noProbe .unsafe_ [1] [] [⟨0, p2⟩] (reach noProbe 2 2 demoOps).w) =
      some .relNotInMask ∧
    panicOf (opAdd noProbe .unsafe_ p2 [1] [] [⟨0, p3⟩] (reach noProbe 2 2 demoOps).w) =
      some .relNotInMask ∧
    (opNewEntity noProbe .unsafe_ [1] [] [⟨1, p2⟩] (reach noProbe 2 2 demoOps).w).state.archetypes.length = 2 ∧
    summary (opNewEntity noProbe .unsafe_ [1] [] [⟨1, p2⟩] (reach noProbe 2 2 demoOps).w).state =
      summary (reach noProbe 2 2 demoOps).w ∧
    (opNewEntity noProbe .unsafe_ [1] [] [⟨0, p2⟩] (reach noProbe 2 2 demoOps).w).state.archetypes.length = 2 ∧
    (opAdd noProbe .unsafe_ p2 [1] [] [⟨0, p3⟩] (reach noProbe 2 2 demoOps).w).state.archetypes.length = 2 := by
  decide +kernel

/-- (d) `SetRelations` with a dead target is a step through every path: `Unsafe.SetRelations`
    refuses it in its pre-validation (`rejected`) -/
example :
    guard (reach noProbe 2 2 demoOps) (.setrel .unsafe_ ⟨6, 0⟩ [⟨0, p1⟩]) = true ∧
    panicOf (opSetRelations noProbe .unsafe_ ⟨6, 0⟩ [0] [⟨0, p1⟩] (reach noProbe 2 2 demoOps).w) =
      some .deadTarget ∧
    summary (opSetRelations noProbe .unsafe_ ⟨6, 0⟩ [0] [⟨0, p1⟩] (reach noProbe 2 2 demoOps).w).state =
      summary (reach noProbe 2 2 demoOps).w := by
  decide +kernel

/-- (e) **`SetRelations` naming one relation component twice** (defect D19, repaired).  Child `6.0`
    has the target `3.0`; `SetRelations(6.0, ChildOf ↦ 2.1, ChildOf ↦ 3.0)` — both targets alive.
    `getExchangeTargets` keeps the components seen and refuses the second `ChildOf` with
    "relation component … specified more than once" (`relTwice`) before it looks at the column:
    the call is a step of the machine (`guard`), its precondition fails (`SetRelOK` asks for
    distinct components), and it is rejected without effect on every path (`rejected`,
    `setRelationsCore_not_nodup`) -/
example :
    guard (reach noProbe 2 2 demoOps) (.setrel .typed ⟨6, 0⟩ [⟨0, p3⟩, ⟨0, p2⟩]) = true ∧
    guard (reach noProbe 2 2 demoOps) (.setrel .unsafe_ ⟨6, 0⟩ [⟨0, p3⟩, ⟨0, p2⟩]) = true ∧
    ¬ SetRelOK (reach noProbe 2 2 demoOps).ss ⟨[(0, 0), (1, 9)], [⟨0, p2⟩]⟩ [⟨0, p3⟩, ⟨0, p2⟩] ∧
    (reach noProbe 2 2 demoOps).w.alive p3 = true ∧ (reach noProbe 2 2 demoOps).w.alive p2 = true ∧
    panicOf (opSetRelations noProbe .typed ⟨6, 0⟩ [0] [⟨0, p3⟩, ⟨0, p2⟩]
      (reach noProbe 2 2 demoOps).w) = some .relTwice ∧
    panicOf (opSetRelations noProbe .unsafe_ ⟨6, 0⟩ [0] [⟨0, p3⟩, ⟨0, p2⟩]
      (reach noProbe 2 2 demoOps).w) = some .relTwice ∧
    (step noProbe (reach noProbe 2 2 demoOps) (.setrel .typed ⟨6, 0⟩ [⟨0, p3⟩, ⟨0, p2⟩])).ss.ents =
      (reach noProbe 2 2 demoOps).ss.ents ∧
    summary (opSetRelations noProbe .typed ⟨6, 0⟩ [0] [⟨0, p3⟩, ⟨0, p2⟩]
      (reach noProbe 2 2 demoOps).w).state = summary (reach noProbe 2 2 demoOps).w ∧
    (valOf (opSetRelations noProbe .typed ⟨6, 0⟩ [0] [⟨0, p3⟩, ⟨0, p2⟩]
        (reach noProbe 2 2 demoOps).w).state 6 1,
      targetOf (opSetRelations noProbe .typed ⟨6, 0⟩ [0] [⟨0, p3⟩, ⟨0, p2⟩]
        (reach noProbe 2 2 demoOps).w).state 6 0,
      (opSetRelations noProbe .typed ⟨6, 0⟩ [0] [⟨0, p3⟩, ⟨0, p2⟩]
        (reach noProbe 2 2 demoOps).w).state.entities.getD 6 (0, 0),
      ((opSetRelations noProbe .typed ⟨6, 0⟩ [0] [⟨0, p3⟩, ⟨0, p2⟩]
        (reach noProbe 2 2 demoOps).w).state.tbl 2).len) = (some 9, some p2, (2, 0), 1) := by
  decide +kernel

/-- (f) **`NewEntity` / `Add` naming one relation component twice** are refused with `relTwice` —
    by `createTable` when no table matches (defect D18, repaired; `Props/C04World.lean` § 4), and
    by `GetTable`'s slow path when the archetype has an active table (defect D26, repaired;
    `Props/C10Rel.lean` § 4).  With an active table the refusal is without effect
    (`World.opNewEntity_relTwice`: here the archetype `{ChildOf, Pos}`).  But when the archetype is
    new, or has no active table, `GetTable` answers "no table" BEFORE any check and `createTable`
    runs after `findOrCreateArch`: the refusal is not without effect (one more archetype), on
    every path.  This late case is why such calls are outside the machine (the "no relation
    component named twice" conjunct of `RelsStep` in `guard` cannot be dropped: whether the call is
    without effect depends on the archetypes of the world, not on the specification state) -/
example :
    (opNewEntity noProbe .unsafe_ [0, 1] [] [⟨0, p3⟩, ⟨0, p2⟩]
      (reach noProbe 2 2 demoOps).w).state.archetypes.length = 2 ∧
    guard (reach noProbe 2 2 demoOps) (.new .typed [0] [] [⟨0, p3⟩, ⟨0, p2⟩]) = false ∧
    panicOf (opNewEntity noProbe .typed [0] [] [⟨0, p3⟩, ⟨0, p2⟩] (reach noProbe 2 2 demoOps).w) =
      some .relTwice ∧
    panicOf (opNewEntity noProbe .unsafe_ [0, 1] [] [⟨0, p3⟩, ⟨0, p2⟩]
      (reach noProbe 2 2 demoOps).w) = some .relTwice ∧
    ((reach noProbe 2 2 demoOps).w.archetypes.length,
      (opNewEntity noProbe .typed [0] [] [⟨0, p3⟩, ⟨0, p2⟩]
        (reach noProbe 2 2 demoOps).w).state.archetypes.length) = (2, 3) := by
  decide +kernel

example :
    summary (opNewEntity noProbe .unsafe_ [0, 1] [] [⟨0, p3⟩, ⟨0, p2⟩]
      (reach noProbe 2 2 demoOps).w).state = summary (reach noProbe 2 2 demoOps).w := by
  decide +kernel

end Ark.Props.C04Hist
