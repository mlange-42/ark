import Ark.Proofs.TableIDs
import Ark.Proofs.ArchIndex
import Ark.Props.C05Cache
import Ark.Proofs.GenBridge.BookArchetype
import Ark.Props.C05Hist
import Ark.Proofs.GenBridge.BookCache
import Ark.Props.C05Rel

namespace Ark.Props.C05
open Ark

/-! C05 — the table lists kept for registered filters (`cacheEntry.tables`) are `tableIDs`; their
    slice and index map stay in step under append and swap-remove. -/

/-- the empty list is well formed -/
theorem tableIDs_empty : type_of% @TableIDs.wf_empty := @TableIDs.wf_empty

/-- a list built from duplicate-free table IDs is well formed -/
theorem tableIDs_ofList : type_of% @TableIDs.wf_ofList := @TableIDs.wf_ofList

/-- appending a new table keeps slice and index map in step -/
theorem tableIDs_append : type_of% @TableIDs.WF.append := @TableIDs.WF.append

/-- swap-remove through the index map keeps them in step -/
theorem tableIDs_remove : type_of% @TableIDs.WF.remove := @TableIDs.WF.remove

/-- swap-remove removes exactly the requested table -/
theorem tableIDs_remove_mem : type_of% @TableIDs.WF.mem_remove := @TableIDs.WF.mem_remove

/-- removing an absent table changes nothing -/
theorem tableIDs_remove_absent : type_of% @TableIDs.WF.remove_of_not_mem := @TableIDs.WF.remove_of_not_mem


/-! ### The cache invariant (I11): every registered entry lists exactly the tables the uncached walk
    selects; established by registration and preserved by unregistration, table creation/
    recycling, table freeing and Reset. -/

/-- the uncached walk returns, without duplicates, exactly the active tables whose archetype matches the filter and whose targets match the relations -/
theorem uncached_walk_selects_exactly : type_of% @Ark.Props.C05Cache.getCacheTables_spec := @Ark.Props.C05Cache.getCacheTables_spec

/-- a registered filter and an identical unregistered one select the same tables (hence the same entities, Count and batch selection) -/
theorem cached_eq_uncached : type_of% @Ark.Props.C05Cache.cached_eq_uncached_nodup := @Ark.Props.C05Cache.cached_eq_uncached_nodup

/-- a new world satisfies the cache invariant -/
theorem cache_inv_init : type_of% @Ark.Props.C05Cache.inv_init := @Ark.Props.C05Cache.inv_init

/-- registration establishes it for the new entry and keeps the others -/
theorem cache_inv_register : type_of% @Ark.Props.C05Cache.inv_register := @Ark.Props.C05Cache.inv_register

/-- unregistration (swap-remove of entries, index fix-up) keeps it -/
theorem cache_inv_unregister : type_of% @Ark.Props.C05Cache.inv_unregister := @Ark.Props.C05Cache.inv_unregister

/-- when a table becomes active (created or recycled) `cache.addTable` re-establishes it -/
theorem cache_inv_table_added : type_of% @Ark.Props.C05Cache.inv_addTable := @Ark.Props.C05Cache.inv_addTable

/-- when a table is freed `cache.removeTable` re-establishes it -/
theorem cache_inv_table_removed : type_of% @Ark.Props.C05Cache.inv_removeTable := @Ark.Props.C05Cache.inv_removeTable

/-- Reset leaves the empty cache -/
theorem cache_inv_reset : type_of% @Ark.Props.C05Cache.inv_reset := @Ark.Props.C05Cache.inv_reset


/-! ### The code itself: `tableIDs` of archetype.go, translated statement by statement on every run -/

/-- `newTableIDs` as in the source = the model's `TableIDs.ofList` -/
theorem src_newTableIDs : type_of% @Ark.GenBridge.Book.newTableIDs_eq := @Ark.GenBridge.Book.newTableIDs_eq
/-- `tableIDs.Append` as in the source = the model's -/
theorem src_tableIDs_append : type_of% @Ark.GenBridge.Book.append_eq := @Ark.GenBridge.Book.append_eq
/-- `tableIDs.Remove` (swap-remove through the index map) as in the source = the model's, for every state -/
theorem src_tableIDs_remove : type_of% @Ark.GenBridge.Book.remove_eq := @Ark.GenBridge.Book.remove_eq
/-- `tableIDs.Clear` as in the source = the model's -/
theorem src_tableIDs_clear : type_of% @Ark.GenBridge.Book.clear_eq := @Ark.GenBridge.Book.clear_eq

/-! ### The code itself: the relation-index bookkeeping of archetype.go, translated statement by statement on every run -/

/-- `archetype.AddTable` as in the source = the model's `Archetype.addTable`, for every archetype and every table with the archetype's layout -/
theorem src_addTable : type_of% @Ark.GenBridge.Book.addTable_eq := @Ark.GenBridge.Book.addTable_eq
/-- `archetype.RemoveTarget` as in the source = the model's -/
theorem src_removeTarget : type_of% @Ark.GenBridge.Book.removeTarget_eq := @Ark.GenBridge.Book.removeTarget_eq
/-- `archetype.GetFreeTable` as in the source = the model's (pop the last free table) -/
theorem src_getFreeTable : type_of% @Ark.GenBridge.Book.getFreeTable_eq := @Ark.GenBridge.Book.getFreeTable_eq
/-- `archetype.HasRelations` as in the source = the model's -/
theorem src_hasRelations : type_of% @Ark.GenBridge.Book.hasRelations_eq := @Ark.GenBridge.Book.hasRelations_eq
/-- `archetype.FreeTable` as in the source = the model's `Archetype.freeTable` (+ the table's free flag) -/
theorem src_freeTable : type_of% @Ark.GenBridge.Book.freeTable_eq := @Ark.GenBridge.Book.freeTable_eq
/-- `archetype.removeTableRelations` as in the source = the model's -/
theorem src_removeTableRelations : type_of% @Ark.GenBridge.Book.removeTableRelations_eq := @Ark.GenBridge.Book.removeTableRelations_eq
/-- `archetype.FreeAllTables` as in the source = the model's `freeAllTables`: every per-column lookup and the per-target lookup are emptied -/
theorem src_freeAllTables : type_of% @Ark.GenBridge.Book.freeAllTables_eq := @Ark.GenBridge.Book.freeAllTables_eq
/-- … and exactly the archetype's active tables are marked free in the table store -/
theorem src_freeAllTables_storage : type_of% @Ark.GenBridge.Book.freeAllTables_storage := @Ark.GenBridge.Book.freeAllTables_storage
/-- what marking a list of tables free does to the table store -/
theorem src_markFree : type_of% @Ark.GenBridge.Book.markFree_fold := @Ark.GenBridge.Book.markFree_fold


/-! ### Over whole histories (Props/C05Hist) -/

/-- the joint invariant (refinement ∧ cache ∧ relation index ∧ filter heap ∧ component index ∧ lock pool ∧ cache ID pool) holds after every history of entity operations interleaved with filter definition, registration and unregistration -/
theorem hist_reach2_invariant : type_of% @Ark.Props.C05Hist.reach2_invariant := @Ark.Props.C05Hist.reach2_invariant

/-- the cache invariant holds after every such history -/
theorem hist_reach2_cacheInv : type_of% @Ark.Props.C05Hist.reach2_cacheInv := @Ark.Props.C05Hist.reach2_cacheInv

/-- the storage facts the cache relies on hold after every such history -/
theorem hist_reach2_tablesInv : type_of% @Ark.Props.C05Hist.reach2_tablesInv := @Ark.Props.C05Hist.reach2_tablesInv

/-- filter objects and cache entries agree after every such history -/
theorem hist_reach2_heapOK : type_of% @Ark.Props.C05Hist.reach2_heapOK := @Ark.Props.C05Hist.reach2_heapOK

/-- **C05 over histories**: at every reachable state every registered filter's cached table list is duplicate-free and has the members of the uncached walk -/
theorem hist_cached_eq_uncached : type_of% @Ark.Props.C05Hist.cached_eq_uncached := @Ark.Props.C05Hist.cached_eq_uncached

/-- Count agrees, the expected rows are permutations, EntityAt enumerates the same entities -/
theorem hist_open_agree : type_of% @Ark.Props.C05Hist.open_agree := @Ark.Props.C05Hist.open_agree

/-- both drains succeed, end in the same world (the original up to the lock pool, unlocked), visit each selected row once, and are permutations of each other -/
theorem hist_drain_agree : type_of% @Ark.Props.C05Hist.drain_agree := @Ark.Props.C05Hist.drain_agree

/-- the same without per-call relations -/
theorem hist_drain_agree_nil : type_of% @Ark.Props.C05Hist.drain_agree_nil := @Ark.Props.C05Hist.drain_agree_nil

/-- the batch selection agrees (restricted to non-empty tables) -/
theorem hist_batch_agree : type_of% @Ark.Props.C05Hist.batch_agree := @Ark.Props.C05Hist.batch_agree

/-- when the typed validation rejects the per-call relations both queries panic alike and nothing changes -/
theorem hist_rejected_extra_agree : type_of% @Ark.Props.C05Hist.rejected_extra_agree := @Ark.Props.C05Hist.rejected_extra_agree

/-- finding: the cached batch selection skips empty tables, the uncached one lists them (no observable difference: batches skip empty tables) -/
theorem hist_batch_differs_on_empty : type_of% @Ark.Props.C05Hist.batch_differs_on_empty := @Ark.Props.C05Hist.batch_differs_on_empty

/-- finding: a typed filter object whose type list is not in its mask diverges (not constructible through the typed API) -/
theorem hist_unguarded_typed_filter_diverges : type_of% @Ark.Props.C05Hist.unguarded_typed_filter_diverges := @Ark.Props.C05Hist.unguarded_typed_filter_diverges


/-! ### The code itself: the bookkeeping of cache.go, translated statement by statement on every run -/

/-- `cache.getEntry` as in the source returns the entry the model's lookup finds -/
theorem src_cache_getEntry : type_of% @Ark.GenBridge.Book.cache_getEntry_eq := @Ark.GenBridge.Book.cache_getEntry_eq

/-- `cache.removeTable` as in the source = the model's: the table leaves every entry's list -/
theorem src_cache_removeTable : type_of% @Ark.GenBridge.Book.cache_removeTable_eq := @Ark.GenBridge.Book.cache_removeTable_eq

/-- `cache.unregister` as in the source = the model's swap-remove of the entry (unknown IDs panic; the filter's `cache` field is reset) -/
theorem src_cache_unregister : type_of% @Ark.GenBridge.Book.cache_unregister_eq := @Ark.GenBridge.Book.cache_unregister_eq

/-- `cache.Reset` as in the source = the model's -/
theorem src_cache_reset : type_of% @Ark.GenBridge.Book.cache_reset_eq := @Ark.GenBridge.Book.cache_reset_eq


/-! ### With relation tables, along histories (Props/C05Rel): the relation machine extended by CopyEntity, Shrink, filter definition / Register / Unregister and queries -/

/-- table creation (fresh or RECYCLED slot) keeps the cache invariant: the new table enters exactly the entries whose filter matches and whose fixed relations it satisfies -/
theorem relhist_createTable_keeps_cache : type_of% @Ark.Props.C05Rel.createTable_keeps_cache := @Ark.Props.C05Rel.createTable_keeps_cache

/-- freeing a table in the target clean-up (FreeTable, isFree, cache.removeTable) keeps it -/
theorem relhist_freeTable_keeps_cache : type_of% @Ark.Props.C05Rel.freeTable_keeps_cache := @Ark.Props.C05Rel.freeTable_keeps_cache

/-- RemoveEntity, also of a relation target (tables freed, zero-target tables found or created, children moved), keeps it -/
theorem relhist_removeEntity_keeps_cache : type_of% @Ark.Props.C05Rel.removeEntity_keeps_cache := @Ark.Props.C05Rel.removeEntity_keeps_cache

/-- NewEntity with relation targets keeps it -/
theorem relhist_newEntity_keeps_cache : type_of% @Ark.Props.C05Rel.newEntity_keeps_cache := @Ark.Props.C05Rel.newEntity_keeps_cache

/-- SetRelations keeps it -/
theorem relhist_setRelations_keeps_cache : type_of% @Ark.Props.C05Rel.setRelations_keeps_cache := @Ark.Props.C05Rel.setRelations_keeps_cache

/-- every accepted operation of the relation machine keeps the cache, the filter heap, the component index and the lock pool -/
theorem relhist_base_keeps : type_of% @Ark.Props.C05Rel.base_keeps := @Ark.Props.C05Rel.base_keeps

/-- FilterN.Register in a world with relation tables -/
theorem relhist_register_keeps : type_of% @Ark.Props.C05Rel.register_keeps := @Ark.Props.C05Rel.register_keeps

/-- FilterN.Unregister -/
theorem relhist_unregister_keeps : type_of% @Ark.Props.C05Rel.unregister_keeps := @Ark.Props.C05Rel.unregister_keeps

/-- one step of the extended machine keeps the joint invariant (every operation, Reset included) -/
theorem relhist_step2_keeps : type_of% @Ark.Props.C05Rel.step2_keeps := @Ark.Props.C05Rel.step2_keeps

/-- the joint invariant holds after every history (Reset anywhere in it) -/
theorem relhist_reach2_invariant : type_of% @Ark.Props.C05Rel.reach2_invariant := @Ark.Props.C05Rel.reach2_invariant

/-- the cache invariant holds after every history with relation tables (Reset anywhere in it) -/
theorem relhist_reach2_cache_invariant : type_of% @Ark.Props.C05Rel.reach2_cache_invariant := @Ark.Props.C05Rel.reach2_cache_invariant

/-- Shrink as a step: empty relation tables are freed and leave the cache -/
theorem relhist_shrink_keeps : type_of% @Ark.Props.C05Rel.shrink_keeps := @Ark.Props.C05Rel.shrink_keeps

/-- **C05 with relations, at every reachable state**: for a filter object registered under fixed relations and any admissible per-call relations, the cache entry is found, lists without duplicates exactly the tables the uncached lookup selects, the cached and the uncached complete iteration both succeed, leave the same world and visit the same entities -/
theorem relhist_cached_agrees : type_of% @Ark.Props.C05Rel.cached_agrees := @Ark.Props.C05Rel.cached_agrees

/-- the same at any state satisfying the invariant -/
theorem relhist_cached_agrees_at : type_of% @Ark.Props.C05Rel.cached_agrees_at := @Ark.Props.C05Rel.cached_agrees_at

/-- Reset as a step of the relation machine: succeeds, empties the specification (new epoch), empties the cache and unregisters every filter object; the joint invariant TInv (empty free list), the whole filter-side invariant and HInv2 hold again; no ID is indexed to a table; handles with an unreserved ID and a generation other than MaxUint32 are dead -/
theorem relhist_reset_step : type_of% @Ark.Props.C05Rel.reset_step := @Ark.Props.C05Rel.reset_step

/-- the same statement as relhist_reset_step (the pool link of the relation development only demands that the memory Reset keeps behind the pool slice holds invalidated handles) -/
theorem relhist_reset_step_partial : type_of% @Ark.Props.C05Rel.reset_step_partial := @Ark.Props.C05Rel.reset_step_partial

/-- Reset keeps the invariant of the machine -/
theorem relhist_reset_keeps_invariant : type_of% @Ark.Props.C05Rel.reset_keeps_invariant := @Ark.Props.C05Rel.reset_keeps_invariant

/-- Reset ends the epoch: specification empty, nothing issued, no ID indexed, cache empty, every filter object unregistered, every handle issued before is dead -/
theorem relhist_reset_effect : type_of% @Ark.Props.C05Rel.reset_effect := @Ark.Props.C05Rel.reset_effect

/-- no handle issued along a history of the relation machine carries the sentinel generation MaxUint32 -/
theorem relhist_issued_gen_bound : type_of% @Ark.Props.C05Rel.issued_gen_bound := @Ark.Props.C05Rel.issued_gen_bound

/-- a concrete history with Reset in the middle: relation tables are recycled in the new epoch, invalidated handles are still behind the pool slice, and TInv and HInv2 hold -/
theorem relhist_reset_history_invariant : type_of% @Ark.Props.C05Rel.reset_history_invariant := @Ark.Props.C05Rel.reset_history_invariant

/-- after `new; reset` the model pool keeps the invalidated handle behind the slice -/
theorem relhist_reset_keeps_memory : type_of% @Ark.Props.C05Rel.reset_keeps_memory := @Ark.Props.C05Rel.reset_keeps_memory


end Ark.Props.C05
