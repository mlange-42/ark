/-
  C07 over histories — the world lock discipline with queries that stay open across other
  operations.

  "From the creation of a query until it is exhausted or explicitly closed […] each
  structure-changing operation panics without effect, while reads, writes through component
  pointers, Set, event emission and further queries keep working.  The world is unlocked again
  exactly when the last open query has finished or been closed; up to 64 queries may be open at
  once and closing a finished or closed query again is harmless."

  The machine (`Ark.Proofs.LockHistQ`): the operations of `Ark.Refine` (`reg | new p | new0 |
  add p | rem p | xchg p | set | del | copy | shrink | reset`, the non-relation, observer-free
  fragment) interleaved with `qopen q fo` (`q := fo.Query()` on an unregistered filter object,
  stored under the fresh name `q`), `qnext q` (`q.Next()`), `qclose q` (`q.Close()`) and
  `emit evt comps e` (`Event.Emit`).  `reachQ run cap rel ops` is the state reached from
  `NewWorld(cap, rel)`; its ghost component `openQ` lists the queries that were opened
  successfully, have not reported the end and have not been closed.  All statements are about
  every reachable state, for histories of any length below `2^32 - 2` (as `Refine.reach_hinv`).

  `set_while_locked` and `continuation_is_refine` describe one more step and therefore ask that
  the history with that step is still within the bound: `ops.length + 1 < 2^32 - 2`.

  **Finding** (`lockedClass`): "panics `locked`" is not literally true for every structural
  call on a locked world — `Add`/`Remove` through `Unsafe`/`Map` and `Unsafe.Exchange` on a DEAD
  handle panic `deadEntity` (the liveness check precedes the lock check), and registering a new
  component type panics `registerLocked`, or `registryFull` when the registry is full.  In every
  case the world is returned unchanged.
-/
import Ark.Proofs.LockHistCursor

set_option autoImplicit false

namespace Ark.Props.C07Hist

open Ark World Refine LockHist Ark.Props.C01World

section Reach

variable (run : ProbeRunner) (cap rel : Nat) (ops : List OpQ) (hlen : ops.length < 2 ^ 32 - 2)
include hlen

/-- the inductive invariant holds at every reachable state -/
theorem reach_inv : ∃ (fl lfl : List Nat), HInvQ (reachQ run cap rel ops) fl lfl :=
  reachQ_inv run cap rel ops hlen

private theorem sizes (hlen1 : ops.length + 1 < 2 ^ 32 - 2) :
    (reachQ run cap rel ops).w.tables.length < maxU32 ∧
    (reachQ run cap rel ops).w.entities.length + 1 < 2 ^ 32 := by
  obtain ⟨b1, b2⟩ := reachQ_bounds run cap rel ops hlen
  simp only [maxU32]
  omega

/-! ### 1. locked iff a query is open; at most 64 -/

/-- **the world is locked iff some opened query has neither reported the end nor been closed** -/
theorem locked_iff_open :
    (reachQ run cap rel ops).w.isLocked = true ↔ (reachQ run cap rel ops).openQ ≠ [] := by
  obtain ⟨fl, lfl, H⟩ := reachQ_inv run cap rel ops hlen
  exact H.locked_iff

/-- the ghost list meets the model: `q` is open iff the query object the client holds under `q`
    is not closed (`Close` sets `table = -2`) -/
theorem open_iff_cursor (q : Nat) :
    q ∈ (reachQ run cap rel ops).openQ ↔
      ∃ (c : QueryObj), AL.find? (reachQ run cap rel ops).cursors q = some c ∧ -1 ≤ c.table := by
  obtain ⟨fl, lfl, H⟩ := reachQ_inv run cap rel ops hlen
  exact H.open_iff q

/-- the 64-bit mask holds exactly the lock bits of the open queries, which are pairwise distinct
    and below 64; no query is listed twice -/
theorem mask_exact :
    (∀ (b : Nat), (reachQ run cap rel ops).w.locks.locks.getLsbD b = true ↔
      b ∈ outstanding (reachQ run cap rel ops)) ∧
    (outstanding (reachQ run cap rel ops)).Nodup ∧
    (∀ (b : Nat), b ∈ outstanding (reachQ run cap rel ops) → b < 64) ∧
    (reachQ run cap rel ops).openQ.Nodup := by
  obtain ⟨fl, lfl, H⟩ := reachQ_inv run cap rel ops hlen
  refine ⟨H.linv.locks_iff, H.linv.out_nodup, ?_, H.openNodup⟩
  intro b hb
  have h1 := H.linv.out_lt b hb
  have h2 := H.linv.len64
  simp only at h1 h2
  omega

/-- at most 64 queries are open at once -/
theorem at_most_64 : (reachQ run cap rel ops).openQ.length ≤ 64 := by
  obtain ⟨fl, lfl, H⟩ := reachQ_inv run cap rel ops hlen
  exact H.open_le

/-- **the 65th `Query()` panics `outOfLocks` and changes nothing**: not the world (the panic
    happens inside `Lock()`, before anything is written), not the machine state -/
theorem qopen_65th (q : Nat) (fo : FilterObj)
    (h64 : (reachQ run cap rel ops).openQ.length = 64)
    (hg : guardQ (reachQ run cap rel ops) (.qopen q fo) = true) :
    qOpen fo [] (reachQ run cap rel ops).w = .panic .outOfLocks (reachQ run cap rel ops).w ∧
    stepQ run (reachQ run cap rel ops) (.qopen q fo) = reachQ run cap rel ops := by
  obtain ⟨fl, lfl, H⟩ := reachQ_inv run cap rel ops hlen
  rcases step_qopen run H q fo hg with ⟨_, h1, h2⟩ | ⟨hlt, _⟩
  · exact ⟨h1, h2⟩
  · omega

/-- **below 64 open queries `Query()` succeeds** — also on a locked world: it changes nothing but
    the lock, the query object gets a lock bit below 64 that no open query holds, the query is
    open and the world is locked -/
theorem qopen_below_64 (q : Nat) (fo : FilterObj)
    (hlt : (reachQ run cap rel ops).openQ.length < 64)
    (hg : guardQ (reachQ run cap rel ops) (.qopen q fo) = true) :
    ∃ (c : QueryObj) (l : Lock),
      qOpen fo [] (reachQ run cap rel ops).w = .ok c ((reachQ run cap rel ops).w.withLocks l) ∧
      c.lockBit < 64 ∧ c.lockBit ∉ outstanding (reachQ run cap rel ops) ∧ c.table = -1 ∧
      stepQ run (reachQ run cap rel ops) (.qopen q fo) =
        ⟨(reachQ run cap rel ops).base.withLocks l, AL.insert (reachQ run cap rel ops).cursors q c,
          q :: (reachQ run cap rel ops).openQ⟩ ∧
      outstanding (stepQ run (reachQ run cap rel ops) (.qopen q fo)) =
        c.lockBit :: outstanding (reachQ run cap rel ops) ∧
      (stepQ run (reachQ run cap rel ops) (.qopen q fo)).w.isLocked = true := by
  obtain ⟨fl, lfl, H⟩ := reachQ_inv run cap rel ops hlen
  rcases step_qopen run H q fo hg with ⟨h64, _⟩ | ⟨_, l, b, _, hb, hbn, hop, hstep, lfl', HI⟩
  · omega
  · have hqo : q ∉ (reachQ run cap rel ops).openQ := by
      intro h
      obtain ⟨c, hc', _⟩ := (H.open_iff q).mp h
      simp only [guardQ, Bool.and_eq_true, Option.isNone_iff_eq_none] at hg
      rw [hg.1] at hc'; cases hc'
    refine ⟨_, l, hop, hb, hbn, rfl, hstep, ?_, ?_⟩
    · rw [hstep]; exact outstanding_open _ _ _ _ hqo
    · rw [hstep]; exact HI.locked_iff.mpr (List.cons_ne_nil _ _)

/-! ### 2. while locked: structural operations are rejected, the rest keeps working -/

/-- **while the world is locked every structural operation** (`reg`, `new`, `new0`, `add`, `rem`,
    `xchg`, `del`, `copy`, `shrink`, `reset`) **panics and nothing changes**: the model returns
    exactly the world it was called on, and the machine state (world, specification, issued
    handles, query objects) is unchanged.  The panic class is `lockedClass`: `locked`, except
    `registerLocked`/`registryFull` for `reg` and `deadEntity` for `add`/`rem`/`xchg` through a
    path that checks liveness first on a dead handle. -/
theorem structural_rejected_while_locked (op : Op)
    (hl : (reachQ run cap rel ops).w.isLocked = true) (hs : op.structural = true) :
    exec run (reachQ run cap rel ops).w op =
      .panic (lockedClass (reachQ run cap rel ops).w op) (reachQ run cap rel ops).w ∧
    stepQ run (reachQ run cap rel ops) (.base op) = reachQ run cap rel ops := by
  obtain ⟨fl, lfl, H⟩ := reachQ_inv run cap rel ops hlen
  exact step_base_locked run H (H.locked_iff.mp hl) op hs

/-- **`Set` keeps working, locked or not, with its usual effect**: the step is the step of
    `Ark.Refine` (model `opSet` and specification `specStep` in lock step); a call whose
    precondition (the handle is alive and has the components) fails panics with the world
    unchanged, a call whose precondition holds succeeds; neither the lock nor the open queries
    change.  That the written values are then read back is `reads_agree` at the next state. -/
theorem set_while_locked (hlen1 : ops.length + 1 < 2 ^ 32 - 2) (e : Ent) (vals : Comps) :
    stepQ run (reachQ run cap rel ops) (.base (.set e vals)) =
      { reachQ run cap rel ops with
        base := Refine.step run (reachQ run cap rel ops).base (.set e vals) } ∧
    (guard (reachQ run cap rel ops).base (.set e vals) = true →
      ¬ pre (reachQ run cap rel ops).base.ss (.set e vals) →
      ∃ k, exec run (reachQ run cap rel ops).w (.set e vals) = .panic k (reachQ run cap rel ops).w) ∧
    (guard (reachQ run cap rel ops).base (.set e vals) = true →
      pre (reachQ run cap rel ops).base.ss (.set e vals) →
      ∃ r w', exec run (reachQ run cap rel ops).w (.set e vals) = .ok r w') ∧
    (stepQ run (reachQ run cap rel ops) (.base (.set e vals))).w.locks =
      (reachQ run cap rel ops).w.locks := by
  obtain ⟨fl, lfl, H⟩ := reachQ_inv run cap rel ops hlen
  obtain ⟨h1, G, h3, _⟩ := step_set run H (sizes run cap rel ops hlen hlen1).2 e vals
  refine ⟨h1, G.2.2.2.1, G.2.2.2.2.1, ?_⟩
  rw [h1]; exact h3

/-- **reads keep working** (`Alive`, `Ids`/`Has`, `Get` are not subject to the lock): at every
    reachable state, locked or not, every entity of the specification is alive, has exactly the
    specified components, and every component reads the specified value — in particular the
    value last written by `Set` while the world was locked -/
theorem reads_agree (e : Ent) (cs : Comps) (hm : (e, cs) ∈ (reachQ run cap rel ops).base.ss.ents) :
    (reachQ run cap rel ops).w.alive e = true ∧
    compsOf (reachQ run cap rel ops).w e.id =
      some (sortedIds (reachQ run cap rel ops).w.kinds.length (keys cs)) ∧
    ∀ cv ∈ cs, valOf (reachQ run cap rel ops).w e.id cv.1 = some cv.2 := by
  obtain ⟨fl, lfl, H⟩ := reachQ_inv run cap rel ops hlen
  have H0 : HInv ((reachQ run cap rel ops).base.withLocks {}) fl := (H.hinv.withLocks {}).toHInv rfl
  have ok := H.hinv.ok e cs hm
  exact ⟨(H0.live_facts hm).2.1, ok.comps, ok.vals⟩

/-- **event emission keeps working**: `Event.Emit` returns (the fragment has no observers) or
    rejects a predefined event type; nothing changes -/
theorem emit_keeps_working (evt : Nat) (comps : List Comp) (e : Ent) :
    (opEmit run evt comps e (reachQ run cap rel ops).w = .ok () (reachQ run cap rel ops).w ∨
      opEmit run evt comps e (reachQ run cap rel ops).w =
        .panic .emitPredefined (reachQ run cap rel ops).w) ∧
    stepQ run (reachQ run cap rel ops) (.emit evt comps e) = reachQ run cap rel ops := by
  obtain ⟨fl, lfl, H⟩ := reachQ_inv run cap rel ops hlen
  exact step_emit run H evt comps e

/-- **`Next` on an open query keeps working** — whatever else is open: it never panics; it
    either yields a row (`true`, the world unchanged, the query still open with its lock bit)
    or reports the end (`false`) -/
theorem qnext_keeps_working (q : Nat) (c : QueryObj)
    (hc : AL.find? (reachQ run cap rel ops).cursors q = some c)
    (hq : q ∈ (reachQ run cap rel ops).openQ) :
    (∃ (c' : QueryObj), qNext c (reachQ run cap rel ops).w = .ok (c', true) (reachQ run cap rel ops).w ∧
      c'.lockBit = c.lockBit ∧ 0 ≤ c'.table ∧
      (stepQ run (reachQ run cap rel ops) (.qnext q)).openQ = (reachQ run cap rel ops).openQ ∧
      (stepQ run (reachQ run cap rel ops) (.qnext q)).w = (reachQ run cap rel ops).w) ∨
    (∃ (c' : QueryObj) (w' : World), qNext c (reachQ run cap rel ops).w = .ok (c', false) w') := by
  obtain ⟨fl, lfl, H⟩ := reachQ_inv run cap rel ops hlen
  rcases step_qnext_open run H hc hq with ⟨c', _, _, hn, hs, hb, ht, _⟩ | ⟨c', l', _, _, hn, _⟩
  · exact Or.inl ⟨c', hn, hb, ht, by rw [hs], by rw [hs]; rfl⟩
  · exact Or.inr ⟨_, _, hn⟩

/-! ### 3. the lock is released exactly at the end -/

/-- **`Next` that reports the end closes the query and releases exactly its bit**: `Unlock` of
    the query's bit succeeds, nothing else in the world changes, the query object is closed,
    the query is no longer open, and the outstanding bits are the former ones without this bit.
    And `Next` reports the end only when no row is left to visit. -/
theorem qnext_end_releases (q : Nat) (c c' : QueryObj) (w' : World)
    (hc : AL.find? (reachQ run cap rel ops).cursors q = some c)
    (hq : q ∈ (reachQ run cap rel ops).openQ)
    (hn : qNext c (reachQ run cap rel ops).w = .ok (c', false) w') :
    ∃ (l' : Lock), (reachQ run cap rel ops).w.locks.unlock c.lockBit = some l' ∧
      w' = (reachQ run cap rel ops).w.withLocks l' ∧ c'.table = -2 ∧
      Drain.remaining (reachQ run cap rel ops).w c = some [] ∧
      (stepQ run (reachQ run cap rel ops) (.qnext q)).openQ = (reachQ run cap rel ops).openQ.erase q ∧
      q ∉ (stepQ run (reachQ run cap rel ops) (.qnext q)).openQ ∧
      outstanding (stepQ run (reachQ run cap rel ops) (.qnext q)) =
        (outstanding (reachQ run cap rel ops)).erase c.lockBit := by
  obtain ⟨fl, lfl, H⟩ := reachQ_inv run cap rel ops hlen
  rcases step_qnext_open run H hc hq with ⟨c1, _, _, hn1, _⟩ | ⟨c1, l', hr, hul, hn1, hs, HI⟩
  · rw [hn1] at hn; cases hn
  · rw [hn1] at hn
    injection hn with h1 h2
    injection h1 with h1 _
    subst h1; subst h2
    refine ⟨l', hul, rfl, rfl, hr, by rw [hs], ?_, ?_⟩
    · rw [hs]; exact List.Nodup.not_mem_erase H.openNodup
    · rw [hs]; exact H.outstanding_release _ hc hq _

/-- **`Close` of an open query releases exactly its bit** -/
theorem qclose_releases (q : Nat) (c : QueryObj)
    (hc : AL.find? (reachQ run cap rel ops).cursors q = some c)
    (hq : q ∈ (reachQ run cap rel ops).openQ) :
    ∃ (l' : Lock), (reachQ run cap rel ops).w.locks.unlock c.lockBit = some l' ∧
      qClose c (reachQ run cap rel ops).w =
        .ok (Drain.closed c) ((reachQ run cap rel ops).w.withLocks l') ∧
      (stepQ run (reachQ run cap rel ops) (.qclose q)).openQ = (reachQ run cap rel ops).openQ.erase q ∧
      q ∉ (stepQ run (reachQ run cap rel ops) (.qclose q)).openQ ∧
      outstanding (stepQ run (reachQ run cap rel ops) (.qclose q)) =
        (outstanding (reachQ run cap rel ops)).erase c.lockBit := by
  obtain ⟨fl, lfl, H⟩ := reachQ_inv run cap rel ops hlen
  obtain ⟨l', hul, hcl, hs, HI⟩ := step_qclose_open run H hc hq
  refine ⟨l', hul, hcl, by rw [hs], ?_, ?_⟩
  · rw [hs]; exact List.Nodup.not_mem_erase H.openNodup
  · rw [hs]; exact H.outstanding_release _ hc hq _

/-- **closing a finished or closed query again is harmless**: `Close` returns the query object
    as it is on the world as it is; the machine state is unchanged -/
theorem qclose_again_harmless (q : Nat) (c : QueryObj)
    (hc : AL.find? (reachQ run cap rel ops).cursors q = some c)
    (hq : q ∉ (reachQ run cap rel ops).openQ) :
    qClose c (reachQ run cap rel ops).w = .ok c (reachQ run cap rel ops).w ∧
    stepQ run (reachQ run cap rel ops) (.qclose q) = reachQ run cap rel ops := by
  obtain ⟨fl, lfl, H⟩ := reachQ_inv run cap rel ops hlen
  exact step_qclose_closed run H hc hq

/-- `Next` on a finished or closed query panics `queryDone` and changes nothing -/
theorem qnext_after_end_rejected (q : Nat) (c : QueryObj)
    (hc : AL.find? (reachQ run cap rel ops).cursors q = some c)
    (hq : q ∉ (reachQ run cap rel ops).openQ) :
    qNext c (reachQ run cap rel ops).w = .panic .queryDone (reachQ run cap rel ops).w ∧
    stepQ run (reachQ run cap rel ops) (.qnext q) = reachQ run cap rel ops := by
  obtain ⟨fl, lfl, H⟩ := reachQ_inv run cap rel ops hlen
  exact step_qnext_closed run H hc hq

/-- **the world is unlocked exactly when the last open query has finished or been closed** -/
theorem unlocked_iff_none_open :
    (reachQ run cap rel ops).w.isLocked = false ↔ (reachQ run cap rel ops).openQ = [] := by
  obtain ⟨fl, lfl, H⟩ := reachQ_inv run cap rel ops hlen
  exact H.unlocked_iff

/-- … **and then the invariant `Refine.HInv` of the history machine of `Ark.Refine` holds again**
    (with its field `unlocked`), so the whole theory of `Ark.Refine` applies to the continuation … -/
theorem hinv_when_unlocked (h0 : (reachQ run cap rel ops).openQ = []) :
    ∃ (fl : List Nat), HInv (reachQ run cap rel ops).base fl := by
  obtain ⟨fl, lfl, H⟩ := reachQ_inv run cap rel ops hlen
  exact ⟨fl, H.toHInv h0⟩

/-- … every operation of `Ark.Refine` is then a step of that machine again, with everything
    `Refine.StepGoal` says (accepted iff the specification's precondition holds, …) -/
theorem continuation_is_refine (hlen1 : ops.length + 1 < 2 ^ 32 - 2)
    (h0 : (reachQ run cap rel ops).openQ = []) (op : Op) :
    stepQ run (reachQ run cap rel ops) (.base op) =
      { reachQ run cap rel ops with base := Refine.step run (reachQ run cap rel ops).base op } ∧
    StepGoal run (reachQ run cap rel ops).base op := by
  obtain ⟨fl, lfl, H⟩ := reachQ_inv run cap rel ops hlen
  obtain ⟨h1, G, _⟩ := step_base_unlocked run H h0 (sizes run cap rel ops hlen hlen1).1
    (sizes run cap rel ops hlen hlen1).2 op
  exact ⟨h1, G⟩

omit hlen in
/-- … and a whole history of such operations is run by the machine of `Ark.Refine` (from its
    state `(reachQ …).base`, which satisfies `Refine.HInv` by `hinv_when_unlocked`) -/
theorem continuation_runs_refine (h0 : (reachQ run cap rel ops).openQ = []) (ops' : List Op) :
    reachQ run cap rel (ops ++ ops'.map .base) =
      { reachQ run cap rel ops with base := Refine.runOps run (reachQ run cap rel ops).base ops' } := by
  have : reachQ run cap rel (ops ++ ops'.map .base) =
      runQ run (reachQ run cap rel ops) (ops'.map .base) := by
    simp only [reachQ, runQ, List.foldl_append]
  rw [this]
  exact runQ_base_unlocked run ops' _ h0

/-! ### 4. the cursor sees a frozen world -/

/-- **while some query is open every step leaves frozen everything a query walks over**:
    archetypes, component index, entity index, entity pool, registry, and of every table the
    metadata, the length and the entity column (`Set` changes component values only) -/
theorem frozen_while_open (h1 : (reachQ run cap rel ops).openQ ≠ []) (op : OpQ) :
    Frozen (reachQ run cap rel ops).w (stepQ run (reachQ run cap rel ops) op).w := by
  obtain ⟨fl, lfl, H⟩ := reachQ_inv run cap rel ops hlen
  exact stepQ_frozen run H h1 op

/-- **`Next` yields the head of the rows still to visit**: when `Next` on an open query returns
    `true`, the query object points at the first of the rows it had to visit, and has the rest
    still to visit -/
theorem qnext_yields_head (q : Nat) (c c' : QueryObj) (w' : World)
    (hc : AL.find? (reachQ run cap rel ops).cursors q = some c)
    (hq : q ∈ (reachQ run cap rel ops).openQ)
    (hn : qNext c (reachQ run cap rel ops).w = .ok (c', true) w') :
    w' = (reachQ run cap rel ops).w ∧
    ∃ (rs : List (Nat × Nat)),
      Drain.remaining (reachQ run cap rel ops).w c = some ((c'.cur.getD 0, c'.index) :: rs) ∧
      Drain.remaining (reachQ run cap rel ops).w c' = some rs ∧
      qEntity (reachQ run cap rel ops).w c' =
        some (((reachQ run cap rel ops).w.tbl (c'.cur.getD 0)).getEntity c'.index) := by
  obtain ⟨fl, lfl, H⟩ := reachQ_inv run cap rel ops hlen
  rcases step_qnext_open run H hc hq with ⟨c1, r, rs, hn1, _, _, ht, hr, hcur, hidx, hrs, _⟩ |
      ⟨c1, l', _, _, hn1, _⟩
  · rw [hn1] at hn
    injection hn with h1 h2
    injection h1 with h1 _
    subst h1; subst h2
    refine ⟨rfl, rs, ?_, hrs, ?_⟩
    · rw [hr, hcur, hidx]; rfl
    · rw [Drain.qEntity_at _ _ r.1 ht hcur, hcur]; rfl
  · rw [hn1] at hn; cases hn

end Reach

/-- **the cursor sees a frozen world**: let `qopen q fo` be issued at a reachable state with fewer
    than 64 queries open, and let `q` still be open after the further history `ops2`.  Then the
    rows `q` still has to visit are a suffix of the rows `Drain.expected` — the rows of the tables
    the counting walk (`Count`) selects — computed in the world right after `Query()`; the world
    has been frozen since (no structural change: same archetypes, tables, rows, entities in the
    rows); and `q` holds the lock bit it was given. -/
theorem cursor_frozen (run : ProbeRunner) (cap rel : Nat) (ops1 ops2 : List OpQ) (q : Nat)
    (fo : FilterObj) (hlen : (ops1 ++ .qopen q fo :: ops2).length < 2 ^ 32 - 2)
    (hg : guardQ (reachQ run cap rel ops1) (.qopen q fo) = true)
    (hlt : (reachQ run cap rel ops1).openQ.length < 64)
    (hq : q ∈ (reachQ run cap rel (ops1 ++ .qopen q fo :: ops2)).openQ) :
    ∃ (c1 c2 : QueryObj) (pre rest : List (Nat × Nat)),
      AL.find? (reachQ run cap rel (ops1 ++ [.qopen q fo])).cursors q = some c1 ∧
      AL.find? (reachQ run cap rel (ops1 ++ .qopen q fo :: ops2)).cursors q = some c2 ∧
      c2.lockBit = c1.lockBit ∧
      Drain.expected (reachQ run cap rel (ops1 ++ [.qopen q fo])).w c1 = some (pre ++ rest) ∧
      Drain.remaining (reachQ run cap rel (ops1 ++ .qopen q fo :: ops2)).w c2 = some rest ∧
      Frozen (reachQ run cap rel (ops1 ++ [.qopen q fo])).w
        (reachQ run cap rel (ops1 ++ .qopen q fo :: ops2)).w := by
  simp only [List.length_append, List.length_cons] at hlen
  obtain ⟨fl, lfl, H⟩ := reachQ_inv run cap rel ops1 (by omega)
  obtain ⟨b1, b2⟩ := reachQ_bounds run cap rel ops1 (by omega)
  have e1 : reachQ run cap rel (ops1 ++ [.qopen q fo]) =
      stepQ run (reachQ run cap rel ops1) (.qopen q fo) := reachQ_snoc run cap rel ops1 _
  have e2 : reachQ run cap rel (ops1 ++ .qopen q fo :: ops2) =
      runQ run (stepQ run (reachQ run cap rel ops1) (.qopen q fo)) ops2 := by
    simp only [reachQ, runQ, List.foldl_append, List.foldl_cons]
  rw [e2] at hq ⊢
  rw [e1]
  exact opened_span run H q fo ops2 (by simp only [maxU32]; omega) (by omega) hg hlt hq

/-! ## Non-vacuity: concrete histories -/

def noProbe : ProbeRunner := fun _ _ _ => pure ()

/-- `Filter1[A]` with `A` = component 0 -/
def fA : FilterObj := { filter := { mask := Mask.ofList [0] }, ids := [0], typed := true }
/-- an `UnsafeFilter` that matches every entity -/
def fAll : FilterObj := { typed := false }

def panicOf {α : Type} : Res World α → Option PanicKind
  | .ok _ _ => none
  | .panic k _ => some k

/-- two component types; entities `2.0` with `{0}` and `3.0` with `{0,1}`; `4.0` created and
    removed (a dead handle).  Then: query 0 (`Filter1[A]`) is opened and advanced once, query 1
    (everything) is opened while query 0 is open; `NewEntity` and `Add` on the dead handle are
    rejected; `Set` works; an event is emitted; both queries are advanced; query 0 is exhausted
    (its second `Next` yields `3.0`, its third reports the end), query 1 is closed — twice —,
    query 0 is closed after its end; finally `NewEntity` is accepted again. -/
def demo : List OpQ :=
  [.base (.reg 8 false), .base (.reg 8 false),
   .base (.new .unsafe_ [0] [(0, 7)]), .base (.new .typed [0, 1] [(1, 9)]),
   .base .new0, .base (.del ⟨4, 0⟩),
   .qopen 0 fA, .qnext 0, .qopen 1 fAll,
   .base .new0,
   .base (.add .unsafe_ ⟨4, 0⟩ [1] []),
   .base (.set ⟨2, 0⟩ [(0, 5)]),
   .emit 100 [] ⟨2, 0⟩,
   .qnext 1, .qnext 0, .qnext 0,
   .qclose 1, .qclose 1, .qclose 0,
   .base .new0]

/-- the open queries, the lock flag and the 64-bit mask along the history: the world is locked
    from the first `Query()` (step 7) until the last open query is closed (step 17); query 0
    holds bit 0, query 1 bit 1; the end of query 0 (step 16) releases bit 0 only -/
example :
    ([6, 7, 9, 13, 15, 16, 17, 18, 19, 20].map fun n =>
      ((reachQ noProbe 4 1 (demo.take n)).openQ, (reachQ noProbe 4 1 (demo.take n)).w.isLocked,
        (reachQ noProbe 4 1 (demo.take n)).w.locks.locks.toNat)) =
    [([], false, 0), ([0], true, 1), ([1, 0], true, 3), ([1, 0], true, 3), ([1, 0], true, 3),
     ([1], true, 2), ([], false, 0), ([], false, 0), ([], false, 0), ([], false, 0)] := by
  decide +kernel

/-- the hypotheses of `qopen_below_64`, `structural_rejected_while_locked`, `qnext_keeps_working`,
    `qclose_releases`, `qclose_again_harmless`, `qnext_after_end_rejected` are satisfiable:
    the guards hold, the world is locked with two queries open, query 1 is open at step 16 and
    closed at step 17, query 0 has ended at step 16 -/
example :
    guardQ (reachQ noProbe 4 1 (demo.take 6)) (.qopen 0 fA) = true ∧
    guardQ (reachQ noProbe 4 1 (demo.take 8)) (.qopen 1 fAll) = true ∧
    (reachQ noProbe 4 1 (demo.take 9)).w.isLocked = true ∧
    (1 ∈ (reachQ noProbe 4 1 (demo.take 16)).openQ ∧
      ((AL.find? (reachQ noProbe 4 1 (demo.take 16)).cursors 1).map (·.table)) = some 0) ∧
    (1 ∉ (reachQ noProbe 4 1 (demo.take 17)).openQ ∧
      ((AL.find? (reachQ noProbe 4 1 (demo.take 17)).cursors 1).map (·.table)) = some (-2)) ∧
    (0 ∉ (reachQ noProbe 4 1 (demo.take 16)).openQ ∧
      ((AL.find? (reachQ noProbe 4 1 (demo.take 16)).cursors 0).map (·.table)) = some (-2)) := by
  decide +kernel

/-- with two queries open: `NewEntity` panics `locked`; `Add` on the dead handle `4.0` panics
    `deadEntity` through `Unsafe` and `locked` through `MapN`; a new component type panics
    `registerLocked`; `RemoveEntity`, `Shrink`, `Reset` panic `locked`.  Nothing changes: tables,
    entity index, pool, registry, lock, specification, issued handles. -/
example :
    [panicOf (exec noProbe (reachQ noProbe 4 1 (demo.take 9)).w .new0),
     panicOf (exec noProbe (reachQ noProbe 4 1 (demo.take 9)).w (.add .unsafe_ ⟨4, 0⟩ [1] [])),
     panicOf (exec noProbe (reachQ noProbe 4 1 (demo.take 9)).w (.add .typed ⟨4, 0⟩ [1] [])),
     panicOf (exec noProbe (reachQ noProbe 4 1 (demo.take 9)).w (.reg 8 false)),
     panicOf (exec noProbe (reachQ noProbe 4 1 (demo.take 9)).w (.del ⟨2, 0⟩)),
     panicOf (exec noProbe (reachQ noProbe 4 1 (demo.take 9)).w (.shrink false)),
     panicOf (exec noProbe (reachQ noProbe 4 1 (demo.take 9)).w .reset)] =
      [some .locked, some .deadEntity, some .locked, some .registerLocked, some .locked,
       some .locked, some .locked] ∧
    (reachQ noProbe 4 1 (demo.take 11)).w.tables = (reachQ noProbe 4 1 (demo.take 9)).w.tables ∧
    (reachQ noProbe 4 1 (demo.take 11)).w.entities = (reachQ noProbe 4 1 (demo.take 9)).w.entities ∧
    (reachQ noProbe 4 1 (demo.take 11)).w.pool = (reachQ noProbe 4 1 (demo.take 9)).w.pool ∧
    (reachQ noProbe 4 1 (demo.take 11)).w.kinds = (reachQ noProbe 4 1 (demo.take 9)).w.kinds ∧
    (reachQ noProbe 4 1 (demo.take 11)).w.locks = (reachQ noProbe 4 1 (demo.take 9)).w.locks ∧
    (reachQ noProbe 4 1 (demo.take 11)).base.ss.ents = (reachQ noProbe 4 1 (demo.take 9)).base.ss.ents ∧
    (reachQ noProbe 4 1 (demo.take 11)).base.issued = (reachQ noProbe 4 1 (demo.take 9)).base.issued := by
  decide +kernel

/-- `Set` on the locked world works: specification and model record the new value of component
    0 of `2.0`, the lock and the open queries are untouched; `Emit` changes nothing -/
example :
    (reachQ noProbe 4 1 (demo.take 11)).base.ss.ents = [(⟨3, 0⟩, [(0, 0), (1, 9)]), (⟨2, 0⟩, [(0, 7)])] ∧
    (reachQ noProbe 4 1 (demo.take 12)).base.ss.ents = [(⟨3, 0⟩, [(0, 0), (1, 9)]), (⟨2, 0⟩, [(0, 5)])] ∧
    valOf (reachQ noProbe 4 1 (demo.take 11)).w 2 0 = some 7 ∧
    valOf (reachQ noProbe 4 1 (demo.take 12)).w 2 0 = some 5 ∧
    (reachQ noProbe 4 1 (demo.take 12)).w.locks = (reachQ noProbe 4 1 (demo.take 11)).w.locks ∧
    (reachQ noProbe 4 1 (demo.take 12)).openQ = [1, 0] ∧
    panicOf (opEmit noProbe 100 [] ⟨2, 0⟩ (reachQ noProbe 4 1 (demo.take 12)).w) = none ∧
    (reachQ noProbe 4 1 (demo.take 13)).w.tables = (reachQ noProbe 4 1 (demo.take 12)).w.tables := by
  decide +kernel

/-- after both queries are closed `NewEntity` is accepted again: the recycled ID 4 comes back
    with generation 1 -/
example :
    (reachQ noProbe 4 1 demo).base.issued = [⟨4, 1⟩, ⟨4, 0⟩, ⟨3, 0⟩, ⟨2, 0⟩] ∧
    (reachQ noProbe 4 1 demo).w.alive ⟨4, 1⟩ = true ∧
    (reachQ noProbe 4 1 demo).w.isLocked = false ∧
    (reachQ noProbe 4 1 demo).base.ss.ents =
      [(⟨4, 1⟩, []), (⟨3, 0⟩, [(0, 0), (1, 9)]), (⟨2, 0⟩, [(0, 5)])] := by
  decide +kernel

/-- the cursor of query 1: right after `Query()` (step 9) it expects the rows `(1,0)` (entity
    `2.0`) and `(2,0)` (entity `3.0`); after the rejected calls, the `Set`, the `Emit` and one
    `Next` (step 14) the row `(2,0)` is left — a suffix (`cursor_frozen`) -/
example :
    Drain.expected (reachQ noProbe 4 1 (demo.take 9)).w
      ((AL.find? (reachQ noProbe 4 1 (demo.take 9)).cursors 1).getD default) = some [(1, 0), (2, 0)] ∧
    Drain.remaining (reachQ noProbe 4 1 (demo.take 14)).w
      ((AL.find? (reachQ noProbe 4 1 (demo.take 14)).cursors 1).getD default) = some [(2, 0)] ∧
    ((reachQ noProbe 4 1 (demo.take 14)).w.tbl 1).getEntity 0 = ⟨2, 0⟩ ∧
    ((reachQ noProbe 4 1 (demo.take 14)).w.tbl 2).getEntity 0 = ⟨3, 0⟩ := by
  decide +kernel

/-- the result flag of `Next` -/
def moreOf : Res World (QueryObj × Bool) → Option Bool
  | .ok (_, more) _ => some more
  | .panic _ _ => none

/-- the hypotheses of `qnext_yields_head`, `qnext_end_releases` and `cursor_frozen` are
    satisfiable: at step 14 `Next` on query 0 returns `true`, at step 15 it returns `false` (and
    query 0 is open before); query 1, opened at step 8 with one query open, is still open five
    steps later -/
example :
    moreOf (qNext ((AL.find? (reachQ noProbe 4 1 (demo.take 14)).cursors 0).getD default)
      (reachQ noProbe 4 1 (demo.take 14)).w) = some true ∧
    moreOf (qNext ((AL.find? (reachQ noProbe 4 1 (demo.take 15)).cursors 0).getD default)
      (reachQ noProbe 4 1 (demo.take 15)).w) = some false ∧
    0 ∈ (reachQ noProbe 4 1 (demo.take 15)).openQ ∧
    (reachQ noProbe 4 1 (demo.take 8)).openQ.length = 1 ∧
    1 ∈ (reachQ noProbe 4 1 (demo.take 8 ++ .qopen 1 fAll :: (demo.drop 9).take 5)).openQ := by
  decide +kernel

/-- 64 queries opened one after the other -/
def open64 : List OpQ := (List.range 64).map fun q => .qopen q fAll

/-- **64 queries are open at once, all 64 bits are set, and the 65th `Query()` panics
    `outOfLocks` without effect** (`qopen_65th`); closing one of them makes room again -/
example :
    (reachQ noProbe 4 1 open64).openQ.length = 64 ∧
    (reachQ noProbe 4 1 open64).w.locks.locks = BitVec.allOnes 64 ∧
    guardQ (reachQ noProbe 4 1 open64) (.qopen 64 fAll) = true ∧
    panicOf (qOpen fAll [] (reachQ noProbe 4 1 open64).w) = some .outOfLocks ∧
    (stepQ noProbe (reachQ noProbe 4 1 open64) (.qopen 64 fAll)).openQ = (reachQ noProbe 4 1 open64).openQ ∧
    (stepQ noProbe (reachQ noProbe 4 1 open64) (.qopen 64 fAll)).w.locks = (reachQ noProbe 4 1 open64).w.locks ∧
    (reachQ noProbe 4 1 (open64 ++ [.qclose 17, .qopen 64 fAll])).openQ.length = 64 ∧
    ((AL.find? (reachQ noProbe 4 1 (open64 ++ [.qclose 17, .qopen 64 fAll])).cursors 64).map (·.lockBit)) =
      some 17 := by
  decide +kernel

end Ark.Props.C07Hist
