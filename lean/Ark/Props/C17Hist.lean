/-
  Ark.Props.C17Hist — C17 (b) over histories (shorter than 2^32 − 2) of the entity machine
  `Ark.Refine` (non-relation, observer-free fragment with components):

    "Loading an entity dump into an empty or reset world reproduces the alive/dead status of
     every handle of the source world, and consecutive entity creations in both worlds then
     return the same handles."

  Setting.  `pre` is any history of the eleven entity operations from `NewWorld(cap, rel)`;
  `s = reach run cap rel pre` the machine state it reaches (`s.w` the world, `s.issued` the
  handles handed out, `s.ss.ents` the specification: alive handle ↦ components).
  `World.opDump` models `Unsafe.DumpEntities` (a `Filter0` query iterated to the end + a copy of
  the pool core), `World.opLoad` models `Unsafe.LoadEntities`, `loadW` is the pure function it
  computes.  `EmptySt t`: `t` is a machine state satisfying the invariant whose pool has only the
  two reserved slots — the world after `Reset`, or a new world with any registrations, with any
  capacities.

  Findings / hypotheses recorded here:
    * `DumpEntities` does not leave the world literally unchanged: the query pushes its lock bit
      onto the free list of the bit pool (`withLocks lockAfterQuery`), as every query does.
    * One dump per history: the theorems take the dump at the end of a history of entity
      operations (the lock is then in its initial state); `Refine.dump_load` is the state-level
      version for any lock state with a free bit (`LockCycle`).
    * **The loaded world does not satisfy the index invariant I2 as `CInv` states it**: the index
      entries of reserved and free IDs are the zero value `(table 0, row 0)` instead of
      `(maxU32, _)` (`loaded_index_deviates`).  Everything else of `CInv` holds (`Loaded`).  The
      entries are dead — every access of the model is preceded by the `Alive` check, creation
      overwrites them, and the Go code never compares against `maxTableID` — so the deviation is
      not observable; it is the reason why the later history of a loaded world is covered here
      for creations and not by re-using the machine invariant: sequences of `NewEntity()` are
      shown to succeed and to return the same handles (`newN`); for creations with components
      the handles are shown equal whenever the calls succeed in both worlds
      (`dump_load_creations`) — their success in the loaded world is not derived, because the
      specification lemma of the table lookup in this development assumes the index invariant.
    * `Alive` of a handle whose ID lies beyond the source's pool slice (not issued since the last
      `Reset`) is `false` in the loaded world (`Refine.dump_load`); in the source it reads the
      memory `Reset` keeps behind the slice.
-/
import Ark.Proofs.LoadInv

set_option autoImplicit false

namespace Ark.Props.C17Hist
open Ark Ark.World Ark.Refine Ark.QueryExact

variable (run : ProbeRunner) (cap rel : Nat)

/-! ## 1. `DumpEntities` -/

/-- after any history shorter than `2^32 − 2`: the dump succeeds, changes only the lock's bit
    pool, copies the pool core, and lists exactly the IDs of the alive entities, each once -/
theorem dump_spec (pre : List Op) (hlen : pre.length < 2 ^ 32 - 2) :
    ∃ (d : Dump),
      opDump (reach run cap rel pre).w =
        .ok d ((reach run cap rel pre).w.withLocks lockAfterQuery) ∧
      d.entities = (reach run cap rel pre).w.pool.ents ∧
      d.next = (reach run cap rel pre).w.pool.next ∧
      d.available = (reach run cap rel pre).w.pool.available ∧
      d.alive.Nodup ∧
      ∀ (i : Nat), i ∈ d.alive ↔
        ∃ (e : Ent) (cs : Comps), (e, cs) ∈ (reach run cap rel pre).ss.ents ∧ e.id = i := by
  obtain ⟨fl, H, hL⟩ := reach_dumpable run cap rel pre hlen
  obtain ⟨d, hd, he, hn, ha, hnd, hal⟩ := opDump_spec H.cinv hL
  refine ⟨d, hd, he, hn, ha, hnd, fun i => ?_⟩
  rw [hal i]
  constructor
  · rintro ⟨h2, hnf, hlt⟩
    obtain ⟨cs, hm, hid⟩ := H.spec_of_slot h2 hnf hlt
    exact ⟨_, cs, hm, hid⟩
  · rintro ⟨e, cs, hm, rfl⟩
    obtain ⟨_, _, h2, hnf, _, hsl⟩ := H.live_facts hm
    exact ⟨h2, hnf, (List.getElem?_eq_some_iff.mp hsl).1⟩

/-! ## 2. the worlds `LoadEntities` accepts -/

/-- the reset world (after any history) -/
theorem reset_is_empty (pre : List Op) (hlen : pre.length < 2 ^ 32 - 2) :
    EmptySt (reach run cap rel (pre ++ [.reset])) := by
  obtain ⟨fl, H⟩ := reach_hinv run cap rel pre hlen
  rw [reach_snoc]
  exact (emptySt_reset run H).2

/-- the real sequence `d := DumpEntities(); Reset()`: `Reset` succeeds on the world the dump
    leaves, and the result is an empty machine state -/
theorem dump_reset_is_empty (pre : List Op) (hlen : pre.length < 2 ^ 32 - 2) :
    opReset ((reach run cap rel pre).w.withLocks lockAfterQuery) =
      .ok () (resetW ((reach run cap rel pre).w.withLocks lockAfterQuery)) ∧
    EmptySt ⟨resetW ((reach run cap rel pre).w.withLocks lockAfterQuery), [],
      ⟨[], (reach run cap rel pre).ss.zst⟩⟩ := by
  obtain ⟨fl, H⟩ := reach_hinv run cap rel pre hlen
  have HL := H.withLocks lockAfterQuery lockAfterQuery_unlocked
  obtain ⟨h1, h2⟩ := emptySt_reset run HL
  rw [h1] at h2
  exact ⟨opReset_eq _ HL.unlocked, h2⟩

/-- a new world (any capacities) with any component registrations (`NewWorld(cap', rel')`
    followed by component registrations only) -/
theorem new_world_is_empty (cap' rel' : Nat) (regs : List Op) (hr : OnlyRegs regs)
    (hlen : regs.length < 2 ^ 32 - 2) : EmptySt (reach run cap' rel' regs) :=
  ⟨reach_hinv run cap' rel' regs hlen, by
    show (runOps run (St.init cap' rel') regs).w.pool.ents.length = 2
    rw [runOps_regs_pool run regs _ hr]; rfl⟩

/-- what `EmptySt` gives -/
theorem empty_facts {t : St} (E : EmptySt t) :
    HInv t [] ∧ t.ss.ents = [] ∧ t.w.pool.available = 0 ∧ t.w.isLocked = false := E.facts

/-! ## 3. the property -/

/-- **C17 over histories.**  After ANY history `pre` shorter than `2^32 − 2`: `DumpEntities`
    succeeds; `LoadEntities` of the dump into any empty machine state `t` (the reset world, a new
    world with any registrations) succeeds; every handle issued in `pre` has the same `Alive` answer in the
    loaded world as at dump time; and any number of consecutive `NewEntity()` calls return the
    same handles in the source world and in the loaded world. -/
theorem dump_load_alive_and_handles (pre : List Op) (hlen : pre.length < 2 ^ 32 - 2) {t : St}
    (E : EmptySt t) :
    ∃ (d : Dump),
      opDump (reach run cap rel pre).w =
        .ok d ((reach run cap rel pre).w.withLocks lockAfterQuery) ∧
      opLoad d t.w = .ok () (loadW d t.w) ∧
      (∀ (e : Ent), e ∈ (reach run cap rel pre).issued →
        (loadW d t.w).alive e = (reach run cap rel pre).w.alive e) ∧
      (∀ (run' : ProbeRunner) (n : Nat), ∃ (w1 w2 : World),
        newN run' n ((reach run cap rel pre).w.withLocks lockAfterQuery) =
          .ok ((reach run cap rel pre).w.pool.getN n) w1 ∧
        newN run' n (loadW d t.w) = .ok ((reach run cap rel pre).w.pool.getN n) w2) :=
  reach_dump_load run cap rel pre hlen E

/-- **any sequence of creations** (`NewEntity()` and `NewEntity(ids…)` through any path, mixed)
    that succeeds in the source world and in the loaded world returns the same handles — the next
    handles of the source's pool.  The handle of a successful creation is determined by the pool
    alone (`creation_handle`). -/
theorem dump_load_creations (pre : List Op) (hlen : pre.length < 2 ^ 32 - 2) {t : St}
    (E : EmptySt t) :
    ∃ (d : Dump),
      opDump (reach run cap rel pre).w =
        .ok d ((reach run cap rel pre).w.withLocks lockAfterQuery) ∧
      opLoad d t.w = .ok () (loadW d t.w) ∧
      ∀ (run' : ProbeRunner) (qs : List CreateReq) (es1 es2 : List Ent) (w1 w2 : World),
        createAll run' qs ((reach run cap rel pre).w.withLocks lockAfterQuery) = .ok es1 w1 →
        createAll run' qs (loadW d t.w) = .ok es2 w2 →
        es1 = (reach run cap rel pre).w.pool.getN qs.length ∧ es2 = es1 := by
  obtain ⟨fl, H, hL⟩ := reach_dumpable run cap rel pre hlen
  obtain ⟨Ht, _, hta, htl⟩ := E.facts
  obtain ⟨d, hd, hload, _, _, _, _, hget⟩ :=
    dump_load H hL t.w htl ⟨by rw [E.pool]; exact Nat.le_refl _, hta⟩
  refine ⟨d, hd, hload, ?_⟩
  intro run' qs es1 es2 w1 w2 h1 h2
  have HL := H.withLocks lockAfterQuery lockAfterQuery_unlocked
  obtain ⟨a1, _⟩ := createAll_handles run' qs _ HL.unlocked HL.cinv.noObs h1
  obtain ⟨a2, _⟩ := createAll_handles run' qs (loadW d t.w)
    (by simp only [World.isLocked, loadW_locks]; exact htl)
    (by intro evt; rw [loadW_obs]; exact Ht.cinv.noObs evt) h2
  rw [hget] at a2
  exact ⟨a1, by rw [a2, a1]; rfl⟩

/-- the handle of ANY successful creation (with or without components) on an unlocked world
    without observers is the next handle of the pool, and the pool makes one `Get` -/
theorem creation_handle (run' : ProbeRunner) (q : CreateReq) (w : World) (hl : w.isLocked = false)
    (hno : ∀ (evt : Nat), w.obs.hasObservers evt = false) {e : Ent} {w' : World}
    (h : createOne run' q w = .ok e w') :
    e = (w.pool.get).2 ∧ w'.pool = (w.pool.get).1 ∧ w'.isLocked = false ∧
      ∀ (evt : Nat), w'.obs.hasObservers evt = false :=
  createOne_handle run' q w hl hno h

/-- in terms of the specification: a handle issued in `pre` is alive in the loaded world iff
    the specification of the source holds it -/
theorem loaded_alive_iff_spec (pre : List Op) (hlen : pre.length < 2 ^ 32 - 2) {t : St}
    (E : EmptySt t) :
    ∃ (d : Dump), opLoad d t.w = .ok () (loadW d t.w) ∧
      ∀ (e : Ent), e ∈ (reach run cap rel pre).issued →
        ((loadW d t.w).alive e = true ↔ ∃ (cs : Comps), (e, cs) ∈ (reach run cap rel pre).ss.ents) := by
  obtain ⟨fl, H⟩ := reach_hinv run cap rel pre hlen
  obtain ⟨d, _, hl, hal, _⟩ := reach_dump_load run cap rel pre hlen E
  refine ⟨d, hl, fun e hi => ?_⟩
  rw [hal e hi]
  constructor
  · intro ha
    obtain ⟨cs, _, hm⟩ := H.find_of_alive hi ha
    exact ⟨cs, hm⟩
  · rintro ⟨cs, hm⟩
    exact (H.live_facts hm).2.1

/-- the state-level statement (any lock state with a free bit, any unlocked target with an empty
    pool), with the pool core and the answer beyond the source's slice -/
theorem dump_load_state {s : St} {fl : List Nat} (H : HInv s fl) {l1 l2 : Lock} {b : Nat}
    (hL : LockCycle s.w.locks l1 b l2) (wT : World) (hTl : wT.isLocked = false)
    (hTe : wT.pool.ents.length ≤ 2 ∧ wT.pool.available = 0) :
    ∃ (d : Dump), opDump s.w = .ok d (s.w.withLocks l2) ∧
      opLoad d wT = .ok () (loadW d wT) ∧
      (∀ (e : Ent), e ∈ s.issued → (loadW d wT).alive e = s.w.alive e) ∧
      (∀ (e : Ent), e.id < s.w.pool.ents.length → (loadW d wT).alive e = s.w.alive e) ∧
      (∀ (e : Ent), s.w.pool.ents.length ≤ e.id → (loadW d wT).alive e = false) ∧
      (loadW d wT).pool.Core = s.w.pool.Core ∧
      (∀ (n : Nat), (loadW d wT).pool.getN n = s.w.pool.getN n) :=
  dump_load H hL wT hTl hTe

/-- `n` consecutive `NewEntity()` calls on an unlocked world without observers succeed and return
    the next `n` handles of the pool -/
theorem creations (run' : ProbeRunner) (n : Nat) (w : World) (hl : w.isLocked = false)
    (hno : w.obs.hasObservers Ev.onCreateEntity = false) :
    ∃ (w' : World), newN run' n w = .ok (w.pool.getN n) w' ∧ w'.pool = w.pool.afterN n :=
  newN_eq run' n w hl hno

/-! ## 4. the loaded world -/

/-- **the loaded world is well formed**: registry, archetypes and tables ≠ 0 of the target; pool
    core, pool invariant and ghost invariant of the source; `SInv`; every alive handle of the
    source sits with its generation in a row of table 0, indexed to it; every row of table 0
    holds one; all other tables are empty; the loaded world realises the source's specification
    with all components dropped. -/
theorem loaded_world (pre : List Op) (hlen : pre.length < 2 ^ 32 - 2) {t : St} (E : EmptySt t) :
    ∃ (d : Dump) (fl : List Nat),
      opDump (reach run cap rel pre).w =
        .ok d ((reach run cap rel pre).w.withLocks lockAfterQuery) ∧
      opLoad d t.w = .ok () (loadW d t.w) ∧
      HInv (reach run cap rel pre) fl ∧
      Loaded (reach run cap rel pre) fl t (loadW d t.w) :=
  reach_loaded run cap rel pre hlen E

/-- **the loaded world is one normalisation away from a machine state**: with the index entries
    of the reserved and free IDs — which no operation reads — set to `(maxU32, 0)` (`fixDead`), it
    satisfies the full invariant `HInv` of the entity machine, with the handles issued in `pre`
    and the specification of the source with all components dropped -/
theorem loaded_world_normalised (pre : List Op) (hlen : pre.length < 2 ^ 32 - 2) {t : St}
    (E : EmptySt t) :
    ∃ (d : Dump) (fl : List Nat),
      opDump (reach run cap rel pre).w =
        .ok d ((reach run cap rel pre).w.withLocks lockAfterQuery) ∧
      opLoad d t.w = .ok () (loadW d t.w) ∧
      HInv ⟨fixDead fl (loadW d t.w), (reach run cap rel pre).issued,
        ⟨(reach run cap rel pre).ss.ents.map fun x => (x.1, []), t.ss.zst⟩⟩ fl := by
  obtain ⟨d, fl, hd, hl, H, L⟩ := reach_loaded run cap rel pre hlen E
  exact ⟨d, fl, hd, hl, L.normalised H E.facts.1⟩

section clauses
variable {s t : St} {fl : List Nat} {wL : World} (L : Loaded s fl t wL)
include L

/-- every alive entity of the source is in table 0, with no components -/
theorem loaded_entities (e : Ent) (cs : Comps) (hm : (e, cs) ∈ s.ss.ents) :
    (∃ (r : Nat), wL.entities[e.id]? = some (0, r) ∧ r < (wL.tbl 0).len ∧
      (wL.tbl 0).getEntity r = e) ∧
    Ark.Props.C01World.compsOf wL e.id = some [] ∧ wL.alive e = true := by
  refine ⟨L.live e cs hm, ?_, ?_⟩
  · have := (L.ok e cs hm).comps
    simpa [keys, sortedIds_nil] using this
  · have hl : e ∈ (⟨wL.pool, s.issued, s.ss.ents.map (·.1)⟩ : Pool.PS).live :=
      List.mem_map.mpr ⟨(e, cs), hm, rfl⟩
    exact (Pool.alive_iff_live _ fl L.ginv e (L.ginv.live_issued e hl)).mpr hl

/-- table 0 holds exactly the alive entities, the other tables are empty -/
theorem loaded_tables :
    (wL.tbl 0).len = s.ss.ents.length ∧ (∀ (t' : Nat), t' ≠ 0 → (wL.tbl t').len = 0) ∧
    ∀ (r : Nat), r < (wL.tbl 0).len → ∃ (e : Ent) (cs : Comps), (e, cs) ∈ s.ss.ents ∧
      (wL.tbl 0).getEntity r = e ∧ wL.entities[e.id]? = some (0, r) :=
  ⟨L.len0, L.othersEmpty, L.rows⟩

/-- the parts of the joint invariant `CInv` that hold of the loaded world -/
theorem loaded_cinv_parts :
    SInv wL ∧ Pool.PInv wL.pool fl ∧ (∀ (e : Ent), e ∈ wL.pool.stale → e.gen = maxU32) ∧
    wL.entities.length = wL.pool.ents.length ∧ wL.isTarget.length = wL.entities.length ∧
    (∀ (i : Nat), wL.isTarget.getD i false = false) ∧
    (∀ (evt : Nat), wL.obs.hasObservers evt = false) ∧ wL.isLocked = false :=
  ⟨L.sinv, L.pinv, (by
      intro e he
      have hs : wL.pool.stale = [] := by rw [L.pool]
      rw [hs] at he; cases he),
    L.lenEq, L.tgtLen, L.noTargets, L.noObs, L.unlocked⟩

/-- **finding**: reserved and free IDs are indexed to `(table 0, row 0)`, so the clauses
    `reservedUnindexed` / `freeUnindexed` of `CInv` fail for the loaded world -/
theorem loaded_index_deviates :
    (∀ (i : Nat), i < wL.entities.length → (i < 2 ∨ i ∈ fl) → wL.entities[i]? = some (0, 0)) ∧
    ¬ CInv wL fl := by
  refine ⟨L.dead, fun hC => ?_⟩
  have h2 : 2 ≤ wL.entities.length := by rw [L.lenEq]; exact L.pinv.len2
  obtain ⟨r, hr⟩ := hC.reservedUnindexed 0 (by omega)
  rw [L.dead 0 (by omega) (Or.inl (by omega))] at hr
  have : (0 : Nat) = maxU32 := (Prod.mk.inj (Option.some.inj hr)).1
  exact absurd this (by decide)

end clauses

/-! ## 5. non-vacuity: a concrete history

`NewWorld(2, 1)`; one component type; entities `2{0}`, `3{}`, `4{}`, `5{0}`; `RemoveEntity(3)`;
`NewEntity()` re-issues slot 3 with generation 1; `RemoveEntity(2)` leaves slot 2 on the free
list.  The dump is loaded into the reset world and into a new world `NewWorld(8, 8)` with the
same registration. -/

def noProbe : ProbeRunner := fun _ _ _ => pure ()

def pre : List Op :=
  [.reg 4 false, .new .unsafe_ [0] [(0, 7)], .new0, .new0, .new .typed [0] [(0, 9)],
   .del ⟨3, 0⟩, .new0, .del ⟨2, 0⟩]

def src : St := reach noProbe 2 1 pre

def dumpOf (w : World) : Dump :=
  match opDump w with
  | .ok d _ => d
  | .panic _ _ => default

def d : Dump := dumpOf src.w

/-- the world `d := DumpEntities(); Reset()` leaves -/
def wR : World := resetW (src.w.withLocks lockAfterQuery)

/-- a new world with other capacities and the same registration -/
def wN : World := (reach noProbe 8 8 [.reg 4 false]).w

def handles (w : World) (n : Nat) : Option (List Ent) :=
  match newN noProbe n w with
  | .ok l _ => some l
  | .panic _ _ => none

example : pre.length < 2 ^ 32 - 2 := by decide

example : OnlyRegs [.reg 4 false] := by
  intro op h
  simp only [List.mem_singleton] at h
  exact ⟨4, false, h⟩

/-- the two targets of the demo are empty machine states -/
example : EmptySt ⟨wR, [], ⟨[], src.ss.zst⟩⟩ ∧ EmptySt (reach noProbe 8 8 [.reg 4 false]) :=
  ⟨(dump_reset_is_empty noProbe 2 1 pre (by decide)).2,
    new_world_is_empty noProbe 8 8 [.reg 4 false]
      (fun op h => ⟨4, false, by simpa only [List.mem_singleton] using h⟩) (by decide)⟩

/-- the loaded demo world satisfies `Loaded` (hence `loaded_index_deviates` applies to it) -/
example : ∃ (fl : List Nat), Loaded src fl ⟨wR, [], ⟨[], src.ss.zst⟩⟩ (loadW d wR) := by
  obtain ⟨d', fl, hd, _, _, L⟩ := loaded_world noProbe 2 1 pre (by decide)
    (dump_reset_is_empty noProbe 2 1 pre (by decide)).2
  have hdd : d = d' := by
    show dumpOf (reach noProbe 2 1 pre).w = d'
    simp only [dumpOf, hd]
  rw [hdd]
  exact ⟨fl, L⟩

/-- the source: five handles issued, three alive; the dump -/
example :
    src.issued = [⟨3, 1⟩, ⟨5, 0⟩, ⟨4, 0⟩, ⟨3, 0⟩, ⟨2, 0⟩] ∧
    src.ss.ents.map (·.1) = [⟨3, 1⟩, ⟨5, 0⟩, ⟨4, 0⟩] ∧
    d.entities = [⟨0, maxU32⟩, ⟨1, maxU32⟩, ⟨0, 1⟩, ⟨3, 1⟩, ⟨4, 0⟩, ⟨5, 0⟩] ∧
    d.alive = [4, 3, 5] ∧ d.next = 2 ∧ d.available = 1 := by
  decide +kernel

/-- both targets are unlocked and have an empty pool; both loads succeed -/
example :
    wR.isLocked = false ∧ wR.pool.ents.length = 2 ∧ wR.pool.available = 0 ∧
    wN.isLocked = false ∧ wN.pool.ents.length = 2 ∧ wN.pool.available = 0 ∧
    opLoad d wR = .ok () (loadW d wR) ∧ opLoad d wN = .ok () (loadW d wN) := by
  have ok : wR.isLocked = false ∧ wR.pool.ents.length = 2 ∧ wR.pool.available = 0 ∧
      wN.isLocked = false ∧ wN.pool.ents.length = 2 ∧ wN.pool.available = 0 := by
    decide +kernel
  obtain ⟨a1, a2, a3, b1, b2, b3⟩ := ok
  exact ⟨a1, a2, a3, b1, b2, b3, opLoad_eq d wR a1 ⟨Nat.le_of_eq a2, a3⟩,
    opLoad_eq d wN b1 ⟨Nat.le_of_eq b2, b3⟩⟩

/-- alive/dead status of every issued handle: source, reset+load, new world+load -/
example :
    (src.issued.map fun e => (src.w.alive e, (loadW d wR).alive e, (loadW d wN).alive e)) =
      [(true, true, true), (true, true, true), (true, true, true), (false, false, false),
       (false, false, false)] := by
  decide +kernel

/-- the next four creations: the recycled slot 2 (generation 1), then new slots -/
example :
    handles (src.w.withLocks lockAfterQuery) 4 = some [⟨2, 1⟩, ⟨6, 0⟩, ⟨7, 0⟩, ⟨8, 0⟩] ∧
    handles (loadW d wR) 4 = some [⟨2, 1⟩, ⟨6, 0⟩, ⟨7, 0⟩, ⟨8, 0⟩] ∧
    handles (loadW d wN) 4 = some [⟨2, 1⟩, ⟨6, 0⟩, ⟨7, 0⟩, ⟨8, 0⟩] := by
  decide +kernel

def created (w : World) (qs : List CreateReq) : Option (List Ent) :=
  match createAll noProbe qs w with
  | .ok l _ => some l
  | .panic _ _ => none

/-- mixed creations (with component 0 through the `Unsafe` path, without components, with
    component 0 through the typed path) succeed in all three worlds and return the same handles -/
example :
    let qs : List CreateReq := [some (.unsafe_, [0], [(0, 5)]), none, some (.typed, [0], [])]
    created (src.w.withLocks lockAfterQuery) qs = some [⟨2, 1⟩, ⟨6, 0⟩, ⟨7, 0⟩] ∧
    created (loadW d wR) qs = some [⟨2, 1⟩, ⟨6, 0⟩, ⟨7, 0⟩] ∧
    created (loadW d wN) qs = some [⟨2, 1⟩, ⟨6, 0⟩, ⟨7, 0⟩] := by
  decide +kernel

/-- the loaded world: the alive handles in table 0 in dump order, the other table empty; the
    index; **the finding**: the reserved IDs 0, 1 and the free ID 2 are indexed to `(0, 0)` —
    the row of entity 4 — where `NewWorld`/`RemoveEntity`/`Reset` leave `(maxU32, _)` -/
example :
    (loadW d wR).tables.map (·.len) = [3, 0] ∧
    ((loadW d wR).tbl 0).ents.take 3 = [⟨4, 0⟩, ⟨3, 1⟩, ⟨5, 0⟩] ∧
    (loadW d wR).entities = [(0, 0), (0, 0), (0, 0), (0, 1), (0, 0), (0, 2)] ∧
    src.w.entities.map (·.1) = [maxU32, maxU32, maxU32, 0, 0, 1] := by
  decide +kernel

end Ark.Props.C17Hist
