/-
  C07 — World lock discipline (the lock-bit machine).

  Stated over arbitrary histories of `Lock()`, `Unlock(b)` and `Reset()` on the `lock` of
  lock.go (bit pool + 64-bit mask), starting from the zero value.  `outstanding` is ghost
  state: the bits handed out by `Lock()` and not yet returned by a successful `Unlock`.
  A panicking call ("run out of the maximum of 64 bits", "unbalanced unlock") leaves the lock
  unchanged.
-/
import Ark.Proofs.Lock
import Ark.Proofs.Rejects
import Ark.Generated.FactsLock
import Ark.Props.C07Hist
import Ark.Props.C07Batch

namespace Ark.Props.C07
open Ark Ark.Lock

/-- the lock state (with ghost history) reached by an arbitrary history -/
def reach (ops : List Op) : LS := LS.init.run ops

/-- the invariant of `Ark.Proofs.Lock` holds after every history -/
theorem reach_inv (ops : List Op) : ∃ fl, LInv (reach ops) fl :=
  run_inv ops LS.init [] linv_init

/-- The mask is exact: bit `b` is set iff `b` is outstanding; outstanding bits are pairwise
    distinct and below 64. -/
theorem locks_exact (ops : List Op) :
    (∀ (b : Nat), b < 64 → ((reach ops).l.locks.getLsbD b = true ↔ b ∈ (reach ops).outstanding)) ∧
    (reach ops).outstanding.Nodup ∧
    (∀ (b : Nat), b ∈ (reach ops).outstanding → b < 64) := by
  obtain ⟨fl, g⟩ := reach_inv ops
  refine ⟨g.locks, g.out_nodup, ?_⟩
  intro b hb
  have h1 := g.out_lt b hb
  have h2 := g.len64
  omega

/-- `IsLocked()` is true iff some lock is outstanding. -/
theorem isLocked_iff (ops : List Op) :
    (reach ops).l.isLocked = true ↔ (reach ops).outstanding ≠ [] := by
  obtain ⟨fl, g⟩ := reach_inv ops
  exact LInv.isLocked_iff (l := (reach ops).l) (out := (reach ops).outstanding) g

/-- A successful `Lock()` hands out a bit below 64 that is not outstanding. -/
theorem lock_fresh (ops : List Op) (l' : Lock) (b : Nat) :
    (reach ops).l.lock = some (l', b) → b ∉ (reach ops).outstanding ∧ b < 64 := by
  intro h
  obtain ⟨fl, g⟩ := reach_inv ops
  rcases lock_spec _ fl g with ⟨hn, _⟩ | ⟨l2, b2, hl, hlt, hfresh, _, _⟩
  · rw [hn] at h; contradiction
  · rw [hl] at h
    injection h with h
    injection h with _ hb
    subst hb
    exact ⟨hfresh, hlt⟩

/-- `Lock()` succeeds iff fewer than 64 locks are outstanding: up to 64 simultaneous locks,
    the 65th panics. -/
theorem lock_succeeds_iff (ops : List Op) :
    (reach ops).l.lock.isSome = true ↔ (reach ops).outstanding.length < 64 := by
  obtain ⟨fl, g⟩ := reach_inv ops
  rcases lock_spec _ fl g with ⟨hn, hlen⟩ | ⟨l2, b2, hl, _, _, hlen, _⟩
  · rw [hn]
    constructor
    · intro h; contradiction
    · intro h; omega
  · rw [hl]
    exact ⟨fun _ => hlen, fun _ => rfl⟩

/-- `Unlock(b)` succeeds iff `b` is outstanding (for every `b`, in particular every `b < 64`). -/
theorem unlock_succeeds_iff (ops : List Op) (b : Nat) :
    ((reach ops).l.unlock b).isSome = true ↔ b ∈ (reach ops).outstanding := by
  obtain ⟨fl, g⟩ := reach_inv ops
  rcases unlock_spec _ fl g b with ⟨hn, hout⟩ | ⟨l2, hl, hout, _⟩
  · rw [hn]
    exact ⟨fun h => by contradiction, fun h => absurd h hout⟩
  · rw [hl]
    exact ⟨fun _ => hout, fun _ => rfl⟩

/-- An unbalanced `Unlock(b)` is rejected: `b` is not outstanding and the state (lock and ghost
    state) is unchanged. -/
theorem unlock_fail_unchanged (ops : List Op) (b : Nat) :
    (reach ops).l.unlock b = none →
      b ∉ (reach ops).outstanding ∧ (reach ops).step (.unlock b) = reach ops := by
  intro h
  refine ⟨?_, by simp only [LS.step, h]⟩
  intro hm
  have := (unlock_succeeds_iff ops b).mpr hm
  rw [h] at this
  contradiction

/-- A `Lock()` that has run out of bits leaves the state unchanged, and then exactly the 64
    bits `0..63` are outstanding. -/
theorem lock_fail_unchanged (ops : List Op) :
    (reach ops).l.lock = none →
      (reach ops).outstanding.length = 64 ∧
      (∀ (b : Nat), b < 64 → b ∈ (reach ops).outstanding) ∧
      (reach ops).step .lock = reach ops := by
  intro h
  obtain ⟨fl, g⟩ := reach_inv ops
  have hlen : (reach ops).outstanding.length = 64 := by
    rcases lock_spec _ fl g with ⟨_, hlen⟩ | ⟨l2, b2, hl, _⟩
    · exact hlen
    · rw [hl] at h; contradiction
  refine ⟨hlen, ?_, by simp only [LS.step, h]⟩
  intro b hb
  have hc := g.count
  have h64 := g.len64
  have hfl : fl = [] := List.length_eq_zero_iff.mp (by omega)
  subst hfl
  rcases g.cover b (by simp at hc; omega) with hf | ho
  · cases hf
  · exact ho

/-- A successful `Unlock(b)` removes exactly `b`: afterwards `b` is not outstanding, its mask bit
    is clear, and every other bit keeps its status. -/
theorem unlock_returns (ops : List Op) (b : Nat) (hb : b ∈ (reach ops).outstanding) :
    (reach (ops ++ [.unlock b])).outstanding = (reach ops).outstanding.erase b ∧
    b ∉ (reach (ops ++ [.unlock b])).outstanding := by
  obtain ⟨fl, g⟩ := reach_inv ops
  have hrun : reach (ops ++ [.unlock b]) = (reach ops).step (.unlock b) := by
    simp [reach, LS.run, List.foldl_append]
  rcases unlock_spec _ fl g b with ⟨_, hout⟩ | ⟨l2, hl, _, _⟩
  · exact absurd hb hout
  · have hl' : (reach ops).l.unlock b = some l2 := hl
    have hout' : (reach (ops ++ [.unlock b])).outstanding = (reach ops).outstanding.erase b := by
      rw [hrun]; simp only [LS.step, hl']
    refine ⟨hout', ?_⟩
    rw [hout']
    exact List.Nodup.not_mem_erase g.out_nodup

/-- When every lock has been returned the mask is zero, i.e. the world is unlocked. -/
theorem unlocked_after_all_returned (ops : List Op) :
    (reach ops).outstanding = [] →
      (reach ops).l.locks = 0#64 ∧ (reach ops).l.isLocked = false := by
  intro hnil
  obtain ⟨fl, g⟩ := reach_inv ops
  have hfalse := (LInv.unlocked_iff (l := (reach ops).l) (out := (reach ops).outstanding) g).mpr hnil
  exact ⟨by simpa [Lock.isLocked] using hfalse, hfalse⟩

/-- The pool's own bookkeeping: `length` bits were handed out so far, at most 64, and the free
    ones (`available`) plus the outstanding ones make up all of them. -/
theorem count_exact (ops : List Op) :
    (reach ops).outstanding.length + (reach ops).l.pool.available = (reach ops).l.pool.length ∧
    (reach ops).l.pool.length ≤ 64 := by
  obtain ⟨fl, g⟩ := reach_inv ops
  have := g.count
  have := g.avail
  exact ⟨by omega, g.len64⟩

/-! Non-vacuity: lock three bits, return the middle one, lock again (gets the recycled bit),
    an unbalanced unlock is rejected, return everything in another order, lock again. -/
example :
    let s := reach [.lock, .lock, .lock, .unlock 1, .lock]
    s.outstanding = [1, 2, 0] ∧ s.l.isLocked = true ∧ s.l.locks = 7#64 := by
  decide

example :
    let s := reach [.lock, .lock, .lock, .unlock 1]
    s.outstanding = [2, 0] ∧ s.l.locks = 5#64 ∧ s.l.pool.available = 1 ∧
    (s.l.lock.map (·.2)) = some 1 ∧ s.l.unlock 1 = none ∧ s.step (.unlock 1) = s := by
  decide

example :
    let s := reach [.lock, .lock, .lock, .unlock 1, .unlock 1, .unlock 7, .unlock 0, .unlock 2]
    s.outstanding = [] ∧ s.l.isLocked = false ∧ s.l.pool.available = 3 ∧ s.l.pool.length = 3 := by
  decide

/-! `Reset` starts over: the first bits are handed out again -/
example :
    let s := reach [.lock, .lock, .unlock 0, .reset, .lock, .lock, .lock, .unlock 1, .lock]
    s.outstanding = [1, 2, 0] ∧ s.l.locks = 7#64 ∧ s.l.pool.length = 3 := by
  decide

/-! the 65th simultaneous lock fails, the 64 before succeed -/
set_option maxRecDepth 8192 in
example :
    let s := reach (List.replicate 64 .lock)
    s.outstanding.length = 64 ∧ s.l.lock.isSome = false ∧ s.l.locks = BitVec.allOnes 64 ∧
    (reach (List.replicate 63 .lock)).l.lock.isSome = true := by
  decide +kernel


/-! ### World level: every structure-changing operation of the model panics on a locked world
    and returns exactly the state it was called on. -/

theorem opNewEntity0_locked : type_of% @Ark.World.opNewEntity0_locked := @Ark.World.opNewEntity0_locked

theorem newEntityCore_locked : type_of% @Ark.World.newEntityCore_locked := @Ark.World.newEntityCore_locked

theorem addCore_locked : type_of% @Ark.World.addCore_locked := @Ark.World.addCore_locked

theorem removeCore_locked : type_of% @Ark.World.removeCore_locked := @Ark.World.removeCore_locked

theorem exchangeCore_locked : type_of% @Ark.World.exchangeCore_locked := @Ark.World.exchangeCore_locked

theorem setRelationsCore_locked : type_of% @Ark.World.setRelationsCore_locked := @Ark.World.setRelationsCore_locked

theorem opRemoveEntity_locked : type_of% @Ark.World.opRemoveEntity_locked := @Ark.World.opRemoveEntity_locked

theorem opCopyEntity_locked : type_of% @Ark.World.opCopyEntity_locked := @Ark.World.opCopyEntity_locked

theorem opNewEntities_locked : type_of% @Ark.World.opNewEntities_locked := @Ark.World.opNewEntities_locked

theorem opNewBatch_locked : type_of% @Ark.World.opNewBatch_locked := @Ark.World.opNewBatch_locked

theorem exchangeBatch_locked : type_of% @Ark.World.exchangeBatch_locked := @Ark.World.exchangeBatch_locked

theorem setRelationsBatch_locked : type_of% @Ark.World.setRelationsBatch_locked := @Ark.World.setRelationsBatch_locked

theorem opRemoveEntities_locked : type_of% @Ark.World.opRemoveEntities_locked := @Ark.World.opRemoveEntities_locked

theorem opReset_locked : type_of% @Ark.World.opReset_locked := @Ark.World.opReset_locked

theorem opShrink_locked : type_of% @Ark.World.opShrink_locked := @Ark.World.opShrink_locked

theorem registerComponent_locked : type_of% @Ark.World.registerComponent_locked := @Ark.World.registerComponent_locked

/-- T2 (regenerated from the source): `checkLocked()` is the first statement of every structural
    entry point of the Go code, including `NewBatchFn` of every mapper arity. -/
theorem lock_checked_first_in_source :
    (Ark.Generated.lockFirst.all (·.2) && Ark.Generated.newBatchLockFirst.all (·.2)) = true ∧
    Ark.Generated.lockFirst.length = 15 ∧ Ark.Generated.newBatchLockFirst.length = 13 := by decide


/-! ### Over histories (shorter than 2^32 − 2) with queries staying open across operations (Props/C07Hist) -/

/-- the invariant of the machine that interleaves the eleven entity operations with `Query()`, `Next()`, `Close()` and event emission holds after every history: the lock mask is exactly the set of bits of the open queries, pairwise distinct -/
theorem hist_reach_inv : type_of% @Ark.Props.C07Hist.reach_inv := @Ark.Props.C07Hist.reach_inv

/-- **C07**: the world is locked iff some opened query has neither reported its end nor been closed -/
theorem hist_locked_iff_open : type_of% @Ark.Props.C07Hist.locked_iff_open := @Ark.Props.C07Hist.locked_iff_open

/-- at most 64 queries are open -/
theorem hist_at_most_64 : type_of% @Ark.Props.C07Hist.at_most_64 := @Ark.Props.C07Hist.at_most_64

/-- the 65th `Query()` panics `outOfLocks`; world and machine state unchanged -/
theorem hist_qopen_65th : type_of% @Ark.Props.C07Hist.qopen_65th := @Ark.Props.C07Hist.qopen_65th

/-- below 64 a `Query()` succeeds, also on a locked world, changes only the lock and takes a fresh bit -/
theorem hist_qopen_below_64 : type_of% @Ark.Props.C07Hist.qopen_below_64 := @Ark.Props.C07Hist.qopen_below_64

/-- while locked every structural operation (reg, new, new0, add, rem, xchg, del, copy, shrink, reset) panics and leaves the world and the machine state unchanged -/
theorem hist_structural_rejected_while_locked : type_of% @Ark.Props.C07Hist.structural_rejected_while_locked := @Ark.Props.C07Hist.structural_rejected_while_locked

/-- `Set` keeps working while locked, with its usual effect; the lock is untouched -/
theorem hist_set_while_locked : type_of% @Ark.Props.C07Hist.set_while_locked := @Ark.Props.C07Hist.set_while_locked

/-- reads (`alive`, component sets, values) agree with the specification at every state, locked or not -/
theorem hist_reads_agree : type_of% @Ark.Props.C07Hist.reads_agree := @Ark.Props.C07Hist.reads_agree

/-- event emission keeps working while locked -/
theorem hist_emit_keeps_working : type_of% @Ark.Props.C07Hist.emit_keeps_working := @Ark.Props.C07Hist.emit_keeps_working

/-- `Next()` of another open query keeps working -/
theorem hist_qnext_keeps_working : type_of% @Ark.Props.C07Hist.qnext_keeps_working := @Ark.Props.C07Hist.qnext_keeps_working

/-- a `Next()` that reports the end closes the query and releases exactly its bit -/
theorem hist_qnext_end_releases : type_of% @Ark.Props.C07Hist.qnext_end_releases := @Ark.Props.C07Hist.qnext_end_releases

/-- `Close()` of an open query releases exactly its bit -/
theorem hist_qclose_releases : type_of% @Ark.Props.C07Hist.qclose_releases := @Ark.Props.C07Hist.qclose_releases

/-- closing a finished or closed query again changes nothing -/
theorem hist_qclose_again_harmless : type_of% @Ark.Props.C07Hist.qclose_again_harmless := @Ark.Props.C07Hist.qclose_again_harmless

/-- the world is unlocked exactly when no query is open -/
theorem hist_unlocked_iff_none_open : type_of% @Ark.Props.C07Hist.unlocked_iff_none_open := @Ark.Props.C07Hist.unlocked_iff_none_open

/-- … and then the full invariant of the refinement machine holds again -/
theorem hist_hinv_when_unlocked : type_of% @Ark.Props.C07Hist.hinv_when_unlocked := @Ark.Props.C07Hist.hinv_when_unlocked

/-- … so the continuation is a history of the refinement machine -/
theorem hist_continuation_runs_refine : type_of% @Ark.Props.C07Hist.continuation_runs_refine := @Ark.Props.C07Hist.continuation_runs_refine

/-- while a query is open the archetypes, indices, pool, registry and every table's rows are frozen -/
theorem hist_frozen_while_open : type_of% @Ark.Props.C07Hist.frozen_while_open := @Ark.Props.C07Hist.frozen_while_open

/-- the rows an open cursor still has to visit are a suffix of the rows expected when it was opened -/
theorem hist_cursor_frozen : type_of% @Ark.Props.C07Hist.cursor_frozen := @Ark.Props.C07Hist.cursor_frozen


/-! ### A failing batch does not leave the world locked (Props/C07Batch; defect D27) -/

/-- AddBatch/RemoveBatch/ExchangeBatch: for ANY unlocked world and any arguments (observers, callback, relations allowed, no invariant assumed) a panic of the planning loop is the batch's panic, and the resulting world has the lock, the observers and the log of the world before the call — it is not locked -/
theorem batch_exchangeBatch_lookup_panic_lock : type_of% @Ark.Props.C07Batch.exchangeBatch_lookup_panic_lock := @Ark.Props.C07Batch.exchangeBatch_lookup_panic_lock

/-- the same for SetRelationsBatch -/
theorem batch_setRelationsBatch_lookup_panic_lock : type_of% @Ark.Props.C07Batch.setRelationsBatch_lookup_panic_lock := @Ark.Props.C07Batch.setRelationsBatch_lookup_panic_lock

/-- the plan-first normal form of the exchange batch: selection, lookup, Lock, move, Unlock -/
theorem batch_exchangeBatch_planFirst : type_of% @Ark.Props.C07Batch.exchangeBatch_planFirst := @Ark.Props.C07Batch.exchangeBatch_planFirst

/-- the plan-first normal form of SetRelationsBatch -/
theorem batch_setRelationsBatch_planFirst : type_of% @Ark.Props.C07Batch.setRelationsBatch_planFirst := @Ark.Props.C07Batch.setRelationsBatch_planFirst

/-- from the batch theorems' invariant: if an exchange batch without relations panics, the world is unlocked with the lock state of before, every entity keeps components and values, liveness, pool, log and observers are the same and the invariant still holds -/
theorem batch_exchangeBatch_panic_unlocked : type_of% @Ark.Props.C07Batch.exchangeBatch_panic_unlocked := @Ark.Props.C07Batch.exchangeBatch_panic_unlocked

/-- the same over relation tables: every entity keeps components, values and relation targets -/
theorem batch_exchangeBatch_rel_panic_unlocked : type_of% @Ark.Props.C07Batch.exchangeBatch_rel_panic_unlocked := @Ark.Props.C07Batch.exchangeBatch_rel_panic_unlocked

/-- the same for SetRelationsBatch -/
theorem batch_setRelationsBatch_panic_unlocked : type_of% @Ark.Props.C07Batch.setRelationsBatch_panic_unlocked := @Ark.Props.C07Batch.setRelationsBatch_panic_unlocked


end Ark.Props.C07
