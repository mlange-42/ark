/-
  Ark.Props.C19Rel — C19 for worlds WITH relation tables, at state level and over histories:

    "World statistics always agree with the actual contents: used entities equals the number of
     alive entities and the sum of archetype and table sizes, total equals used plus recycled
     […], no two archetypes have the same component set, every table's size is at most its
     capacity, memory figures are the documented products and sums, and filter, observer and lock
     figures match what is registered.  Statistics that were updated incrementally over a history
     equal those of a world that replays the history and is asked once."

  Unlike in `Ark.Props.C19Hist` (the relation-free machine, where every archetype has ONE table
  for ever), an archetype with a relation component has one ACTIVE table per
  combination of relation targets, and the number of active tables goes DOWN (the target of an
  empty table is removed → `cleanupArchetypes` frees the table; `Shrink` frees empty relation
  tables) and UP again (a freed table is recycled, or a table is appended).
  `archetype.UpdateStats` re-uses the per-table list of the stored object: it has to truncate it
  when the archetype has fewer active tables than at the previous call, update in place, and
  append when it has more.

  The machine (`Ark.RelStats.step4`, Ark/Proofs/StatsRelHist.lean) interleaves, from
  `World.init cap rel`, in any order:
    * `op (base2 (base o))` — the operations of `Ark.RelRefine`: `registerComponent` (also of
      relation components), `NewEntity(ids…, rels…)`, `Add`, `Remove`, `SetRelations` (each
      through `Unsafe`, `Map` or `MapN`), `Set`, `RemoveEntity` (of a relation target:
      `cleanupArchetypes`);
    * `op (base2 …)` — `CopyEntity`, `Shrink`, filter definition / registration / unregistration,
      complete query iterations (`Ark.RelRefine2`); `op (xchg …)` — `Exchange` with relations
      (`Ark.RelRefine3`);
    * `stats` — `World.Stats()` (`World.opStats`).
  `Reset` IS a step (`op (base2 reset)`): it frees all relation tables and keeps the archetypes,
  and the statistics object survives it (`World.Reset` does not touch `w.stats`), so the next
  `Stats()` call finds an object that describes the world BEFORE the reset.  Bound
  `ops.length < 2^16` (`RelRefine.reach_hinv`).

  `AgreesOn st w` is THE WEAKEST CONDITION on the stored object: every stored archetype entry with
  an archetype at its position carries that archetype's three immutable figures
  (`memoryPerEntity`, `componentIDs`, `numRelations`: `StatAgrees`).  `Compatible st w`
  (= `AgreesOn` + no more entries than archetypes) is what the history invariant carries.
  `AgreeRel s st`: the figures `st` agree with the contents of state `s` (all clauses of C19;
  one table entry per ACTIVE table).

  Hypotheses recorded once: as in `Ark.Props.C19Hist` (naturals, the two figures depending on
  Go's slice growth are not modelled, `cachedFilters` = entries of the cache).
-/
import Ark.Proofs.StatsRelHist
import Ark.Proofs.StatsRel
import Ark.Proofs.Eval

set_option autoImplicit false

namespace Ark.Props.C19Rel
open Ark Ark.World Ark.RelRefine Ark.RelRefine2 Ark.RelRefine3 Ark.RelStats

/-! ## 1. state level -/

/-- **fewer / more / the same number of active tables**: whatever the stored entry `s` is — its
    table list longer than the archetype's active-table list (tables were freed since), shorter
    (tables were created or recycled since) or of the same length — the updated entry lists
    exactly the active tables, in order, each with its current length and capacity -/
theorem update_lists_active_tables (w : World) (A : Archetype) (s : ArchStats) :
    (w.archStatsUpdate A s).tables.length = A.tables.tables.length ∧
    (∀ (j t : Nat), A.tables.tables[j]? = some t →
      (w.archStatsUpdate A s).tables[j]? = some
        { size := (w.tbl t).len, capacity := (w.tbl t).cap
          memory := (w.tbl t).cap * s.memoryPerEntity
          memoryUsed := (w.tbl t).len * s.memoryPerEntity }) ∧
    (w.archStatsUpdate A s).size = (A.tables.tables.map fun t => (w.tbl t).len).sum ∧
    (w.archStatsUpdate A s).capacity =
      (A.tables.tables.map fun t => (w.tbl t).cap).sum +
        (A.freeTables.map fun t => (w.tbl t).cap).sum ∧
    (w.archStatsUpdate A s).freeTables = A.freeTables.length :=
  ⟨archStatsUpdate_tables_length w A s, archStatsUpdate_table_entry w A s,
    (archStatsUpdate_figures w A s).1, (archStatsUpdate_figures w A s).2.1,
    (archStatsUpdate_figures w A s).2.2.1⟩

/-- **the loops of `archetype.UpdateStats` on the re-used slice** (`tablesGo true`: truncate when
    the archetype has fewer active tables than the stored list has entries, overwrite the common
    prefix in place, append the rest) compute the per-table list of the model, for every stored
    entry -/
theorem update_loops_eq_model (w : World) (A : Archetype) (s : ArchStats) :
    tablesGo true w A s = (w.archStatsUpdate A s).tables ∧
    (StatAgrees w s A → tablesGo true w A s = (w.archStatsFresh A).tables) :=
  ⟨tablesGo_true w A s, tablesGo_true_fresh w A s⟩

/-- the same loops WITHOUT the truncation (`cntOld := min(cntOld, cntNew)`, all indices stay in
    range) leave the stale tail of the stored list behind; the result is right **iff** the
    archetype has at least as many active tables as the stored list has entries -/
theorem truncation_needed_iff (w : World) (A : Archetype) (s : ArchStats) :
    tablesGo false w A s =
      (w.archStatsUpdate A s).tables ++ s.tables.drop A.tables.tables.length ∧
    (tablesGo false w A s).length = max s.tables.length A.tables.tables.length ∧
    (tablesGo false w A s = (w.archStatsUpdate A s).tables ↔
      s.tables.length ≤ A.tables.tables.length) :=
  ⟨tablesGo_false w A s, tablesGo_false_length w A s, tablesGo_false_eq_iff w A s⟩

/-- **finding**: the model's `archStatsUpdate` takes only the LENGTH of the stored per-table list
    into account, so its definition with the truncation branch removed computes the same list —
    a missing truncation is invisible to every theorem about `archStatsUpdate`; it is visible in
    `tablesGo` (`truncation_needed_iff`). -/
theorem model_is_blind_to_truncation (w : World) (A : Archetype) (s : ArchStats) :
    modelTablesNoTrunc w A s = (w.archStatsUpdate A s).tables :=
  modelTablesNoTrunc_eq w A s

/-- per archetype: `UpdateStats` = `Stats` iff the stored entry carries the archetype's three
    immutable figures -/
theorem arch_update_eq_fresh_iff (w : World) (A : Archetype) (s : ArchStats) :
    w.archStatsUpdate A s = w.archStatsFresh A ↔ StatAgrees w s A :=
  archStatsUpdate_eq_fresh_iff w A s

/-- **the weakest condition on the stored object**: for ANY world and ANY stored object,
    `Stats()` computes the fresh statistics iff the stored object satisfies `AgreesOn` -/
theorem weakest_condition (w : World) (st : WorldStats) :
    w.statsUpdate st = w.statsFresh ↔ AgreesOn st w :=
  statsUpdate_eq_fresh_iff w st

/-- `AgreesOn` spelled out -/
theorem agreesOn_iff (st : WorldStats) (w : World) :
    AgreesOn st w ↔ ∀ (i : Nat) (s : ArchStats) (A : Archetype),
      st.archetypes[i]? = some s → w.archetypes[i]? = some A →
        s.memoryPerEntity = w.memPerEntity A ∧ s.componentIDs = A.comps ∧
          s.numRelations = A.numRel :=
  Iff.rfl

/-- an object produced by `Stats()` on an earlier world `w0` satisfies it for every later world
    (`Mono w0 w`: archetypes only appended, existing ones keep component list and relation
    count, registered sizes unchanged — nothing about tables) -/
theorem earlier_stats_agreesOn (w0 w : World) (m : Mono w0 w) : AgreesOn w0.statsFresh w :=
  (compatible_fresh_later w0 w m).agreesOn

/-- **C19 with relations, state level.**  At a state satisfying the invariant of the relation
    machine (`RelRefine.HInv` ⊇ `TInv`; `HInv2` provides it), for ANY stored object satisfying
    `AgreesOn` (e.g. the result of `Stats()` on an earlier world of the same history, whatever the
    numbers of active tables were then): `Stats()` returns and stores the fresh statistics, and
    they agree with the contents. -/
theorem stats_exact_state {s : St} {fl : List Nat} (H : HInv2 s fl)
    (hst : AgreesOn s.w.stats s.w) :
    ∃ (st : WorldStats), opStats s.w = .ok st { s.w with stats := st } ∧
      st = statsFresh s.w ∧ AgreeRel s st ∧
      AgreeRel ⟨{ s.w with stats := st }, s.issued, s.ss⟩ st :=
  ⟨_, opStats_of_agreesOn s.w hst, rfl, agreeRel_fresh H.base, (agreeRel_fresh H.base).setStats _⟩

/-- the same with the stored object as a parameter -/
theorem stats_exact_any_object {s : St} {fl : List Nat} (H : HInv s fl) (old : WorldStats)
    (hst : AgreesOn old s.w) :
    statsUpdate s.w old = statsFresh s.w ∧ AgreeRel s (statsUpdate s.w old) := by
  have := (statsUpdate_eq_fresh_iff s.w old).mpr hst
  rw [this]
  exact ⟨rfl, agreeRel_fresh H⟩

/-- the counting lemmas behind `AgreeRel`, for any state satisfying `RelRefine.HInv` -/
theorem counting {s : St} {fl : List Nat} (H : HInv s fl) :
    s.w.pool.len = s.ss.ents.length ∧
    (s.issued.filter fun e => s.w.alive e).length = s.ss.ents.length ∧
    (∀ (t : Nat), t < s.w.tables.length →
      (s.w.tbl t).len = (s.ss.ents.filter fun x => decide ((s.w.index x.1.id).1 = t)).length) ∧
    (∀ (a : Nat), a < s.w.archetypes.length →
      (s.w.archStatsFresh (s.w.arch a)).size =
        (s.ss.ents.filter fun x => decide (specComps s x = (s.w.arch a).comps)).length) ∧
    ((s.w.archetypes.map s.w.archStatsFresh).map (·.size)).sum = s.ss.ents.length :=
  ⟨H.used_eq, H.alive_count, fun _ ht => H.table_count ht, fun _ ha => H.arch_count ha,
    H.sum_arch_sizes⟩

/-- **what a table entry counts**: the entities indexed to an active table `t` of archetype `a`
    have the component set of `a` and exactly the relation targets table `t` lists -/
theorem what_a_table_entry_counts {s : St} {fl : List Nat} (H : HInv s fl) {a t : Nat}
    (ha : a < s.w.archetypes.length) (ht : t ∈ (s.w.arch a).tables.tables) {x : Ent × Entry}
    (hx : x ∈ s.ss.ents) (hi : (s.w.index x.1.id).1 = t) :
    specComps s x = (s.w.arch a).comps ∧ ∀ (r : RelID), r ∈ (s.w.tbl t).relIDs ↔ r ∈ x.2.rels :=
  ⟨H.comps_of_table ha ht hx hi, fun r => by rw [← hi]; exact H.table_rels hx r⟩

section clauses
variable {s : St} {st : WorldStats} (A : AgreeRel s st)
include A

/-- `used` = specification entries = alive issued handles = Σ archetype sizes = Σ table sizes -/
theorem used_four_ways :
    st.used = s.ss.ents.length ∧
    st.used = (s.issued.filter fun e => s.w.alive e).length ∧
    st.used = (st.archetypes.map (·.size)).sum ∧
    st.used = ((st.archetypes.flatMap (·.tables)).map (·.size)).sum :=
  ⟨A.used_spec, A.used_alive, A.used_archs, A.used_tables⟩

theorem total_eq : st.total = st.used + st.recycled := A.total

/-- per archetype: `size` = number of entities with exactly this component set -/
theorem arch_size (a : ArchStats) (ha : a ∈ st.archetypes) :
    a.size = (s.ss.ents.filter fun x => decide (specComps s x = a.componentIDs)).length :=
  A.arch_size a ha

/-- no two archetype entries have the same component list, and every entity's component set is
    one of them -/
theorem arch_unique_complete :
    (∀ (i j : Nat) (a b : ArchStats), st.archetypes[i]? = some a → st.archetypes[j]? = some b →
      a.componentIDs = b.componentIDs → i = j) ∧
    (∀ (x : Ent × Entry), x ∈ s.ss.ents →
      ∃ (a : ArchStats), a ∈ st.archetypes ∧ a.componentIDs = specComps s x) :=
  ⟨A.arch_unique, A.arch_complete⟩

/-- **one table entry per ACTIVE table**: the entry at position `i` has as many table entries
    as archetype `i` has active tables, the `j`-th with the length (= number of entities indexed
    to that table) and the capacity of the `j`-th active table; free tables are counted in
    `freeTables` and contribute to `capacity` only -/
theorem arch_tables (i : Nat) (Ar : Archetype) (hA : s.w.archetypes[i]? = some Ar) :
    ∃ (a : ArchStats), st.archetypes[i]? = some a ∧
      a.componentIDs = Ar.comps ∧ a.numRelations = Ar.numRel ∧
      a.freeTables = Ar.freeTables.length ∧
      a.tables.length = Ar.tables.tables.length ∧
      (∀ (j t : Nat), Ar.tables.tables[j]? = some t → ∃ (ts : TableStats),
        a.tables[j]? = some ts ∧ ts.size = (s.w.tbl t).len ∧ ts.capacity = (s.w.tbl t).cap ∧
        ts.size = (s.ss.ents.filter fun x => decide ((s.w.index x.1.id).1 = t)).length) ∧
      a.size = (a.tables.map (·.size)).sum ∧
      a.capacity = (a.tables.map (·.capacity)).sum +
        (Ar.freeTables.map fun t => (s.w.tbl t).cap).sum :=
  A.arch_entry i Ar hA

/-- the relation count is the number of relation components among the component IDs; without a
    relation component: one table, no free table -/
theorem relation_count (a : ArchStats) (ha : a ∈ st.archetypes) :
    a.numRelations = (a.componentIDs.filter fun c => s.ss.isRel.getD c false).length ∧
    (a.numRelations = 0 → ∃ (t : TableStats), a.tables = [t] ∧ t.size = a.size ∧
      t.capacity = a.capacity ∧ a.freeTables = 0) :=
  ⟨A.num_rel a ha, A.nonrel_shape a ha⟩

theorem table_size_le (a : ArchStats) (ha : a ∈ st.archetypes) (t : TableStats)
    (ht : t ∈ a.tables) : t.size ≤ t.capacity := A.table_le a ha t ht

/-- memory figures: the documented products and sums -/
theorem memory_figures :
    (∀ (a : ArchStats), a ∈ st.archetypes →
      a.memoryPerEntity = 8 + (a.componentIDs.map fun c => (s.w.kinds.getD c {}).size).sum ∧
      a.memory = a.memoryPerEntity * a.capacity ∧ a.memoryUsed = a.memoryPerEntity * a.size ∧
      ∀ (t : TableStats), t ∈ a.tables →
        t.memory = t.capacity * a.memoryPerEntity ∧ t.memoryUsed = t.size * a.memoryPerEntity) ∧
    st.memory = (st.archetypes.map (·.memory)).sum ∧
    st.memoryUsed = (st.archetypes.map (·.memoryUsed)).sum ∧ st.memoryUsed ≤ st.memory :=
  ⟨fun a ha => ⟨A.mpe a ha, (A.arch_memory a ha).1, (A.arch_memory a ha).2, A.table_memory a ha⟩,
    A.memory.1, A.memory.2.1, A.memory.2.2⟩

theorem counters :
    st.cachedFilters = s.w.cache.filters.length ∧ st.observers = s.w.obs.totalCount ∧
    st.locked = false ∧ st.numComponents = s.ss.zst.length :=
  ⟨A.cachedFilters, A.observers, A.locked, A.numComponents⟩

end clauses

/-! ## 2. histories -/

variable (run : ProbeRunner) (cap rel : Nat)

/-- `RStep` spelled out -/
theorem rstep_iff (w w' : World) :
    RStep w w' ↔ (Mono w w' ∧ w'.stats = w.stats ∧
      (w.obs.totalCount = 0 → w'.obs.totalCount = 0)) ∧ (NoObs w → NoObs w') :=
  ⟨fun h => ⟨⟨h.sstep.mono, h.sstep.stats, h.sstep.obs0⟩, h.noObs⟩,
    fun h => ⟨⟨h.1.1, h.1.2.1, h.1.2.2⟩, h.2⟩⟩

/-- **every successful entity operation of the relation machine**, with ANY callback runner, on
    a world without observers: archetypes are only appended, the existing ones keep component
    list and relation count (while tables are created, freed and recycled), the registered sizes
    are unchanged, the statistics object is not touched -/
theorem every_operation_is_rstep {w : World} (hno : NoObs w) (hS : SInvMid w) {op : RelRefine.Op}
    {r : Option Ent} {w' : World} (hex : exec run w op = .ok r w') : RStep w w' :=
  exec_rstep run hno hS hex

/-- every step of the machine with `Exchange`, `CopyEntity`, `Shrink`, filters and queries (a
    rejected call leaves the world alone) -/
theorem every_step_is_rstep {s : St} {fl : List Nat} (H : HInv2 s fl)
    (hfew : s.w.tables.length + s.w.relationArchetypes.length + 1 ≤ maxU32)
    (hent : 2 * s.w.entities.length < 2 ^ 32) (op : Op3) :
    RStep s.w (step3 run s op).w :=
  step3_rstep run H hfew hent op

/-- no operation reads the statistics object: run on the world with ANOTHER statistics object it
    gives the same result (success or panic) and the same world up to `stats` -/
theorem operations_do_not_read_stats {w : World} (hno : NoObs w) (st : WorldStats) :
    (∀ (p : Path) (ids : List Comp) (vals : List (Comp × Val)) (rels : List RelID),
      opNewEntity run p ids vals rels (w.setStats st) = liftS st (opNewEntity run p ids vals rels w)) ∧
    (∀ (p : Path) (e : Ent) (ids : List Comp) (vals : List (Comp × Val)) (rels : List RelID),
      opAdd run p e ids vals rels (w.setStats st) = liftS st (opAdd run p e ids vals rels w)) ∧
    (∀ (p : Path) (e : Ent) (ids : List Comp),
      opRemove run p e ids (w.setStats st) = liftS st (opRemove run p e ids w)) ∧
    (∀ (p : Path) (e : Ent) (add : List Comp) (vals : List (Comp × Val)) (rem : List Comp)
        (rels : List RelID),
      opExchange run p e add vals rem rels (w.setStats st) =
        liftS st (opExchange run p e add vals rem rels w)) ∧
    (∀ (p : Path) (e : Ent) (m : List Comp) (rels : List RelID),
      opSetRelations run p e m rels (w.setStats st) = liftS st (opSetRelations run p e m rels w)) ∧
    (∀ (e : Ent) (ids : List Comp) (vals : List (Comp × Val)),
      opSet run e ids vals (w.setStats st) = liftS st (opSet run e ids vals w)) ∧
    (∀ (e : Ent), opRemoveEntity run e (w.setStats st) = liftS st (opRemoveEntity run e w)) ∧
    (∀ (e : Ent), opCopyEntity run e (w.setStats st) = liftS st (opCopyEntity run e w)) :=
  ⟨fun p ids vals rels => (fr_opNewEntity run p ids vals rels w hno).1 st,
    fun p e ids vals rels => (fr_opAdd run p e ids vals rels w hno).1 st,
    fun p e ids => (fr_opRemove run p e ids w hno).1 st,
    fun p e add vals rem rels => (fr_opExchange run p e add vals rem rels w hno).1 st,
    fun p e m rels => (fr_opSetRelations run p e m rels w hno).1 st,
    fun e ids vals => (fr_opSet run e ids vals w hno).1 st,
    fun e => (fr_opRemoveEntity run e w hno).1 st,
    fun e => (fr_opCopyEntity run e w hno).1 st⟩

theorem step4_keeps {s : St} {fl : List Nat} (H : HInv4 s fl)
    (hfew : s.w.tables.length + s.w.relationArchetypes.length + 1 ≤ maxU32)
    (hent : 2 * s.w.entities.length < 2 ^ 32) (op : Op4) :
    ∃ fl', HInv4 (step4 run s op) fl' := (step4_inv run H hfew hent op).1

theorem reach4_invariant (ops : List Op4) (hlen : ops.length < 2 ^ 16) : ∃ fl, HInv4 (reach4 run cap rel ops) fl :=
  reach4_inv run cap rel ops hlen

/-- **incremental = fresh, at every `Stats()` call of every history** (shorter than `2^16`) of the
    relation machine -/
theorem stats_incremental_eq_fresh (ops : List Op4) (hlen : ops.length < 2 ^ 16) :
    opStats (reach4 run cap rel ops).w =
      .ok (statsFresh (reach4 run cap rel ops).w)
        { (reach4 run cap rel ops).w with stats := statsFresh (reach4 run cap rel ops).w } :=
  reach4_opStats run cap rel ops hlen

/-- **asked once**: the answer equals the answer of the same world whose statistics object is
    empty (a world that was never asked before) -/
theorem stats_asked_once (ops : List Op4) (hlen : ops.length < 2 ^ 16) :
    ∃ (st : WorldStats) (w1 w2 : World),
      opStats (reach4 run cap rel ops).w = .ok st w1 ∧
      opStats { (reach4 run cap rel ops).w with stats := {} } = .ok st w2 ∧ w1 = w2 :=
  ⟨_, _, _, reach4_opStats run cap rel ops hlen,
    opStats_eq' (reach4 run cap rel ops).w {} (compatible_empty _), rfl⟩

/-- **C19 at every reachable state**: the answer is the fresh statistics, they agree with the
    contents, and the observer figure is `0` (the machine registers none) -/
theorem stats_agree (ops : List Op4) (hlen : ops.length < 2 ^ 16) :
    ∃ (st : WorldStats),
      opStats (reach4 run cap rel ops).w =
        .ok st { (reach4 run cap rel ops).w with stats := st } ∧
      st = statsFresh (reach4 run cap rel ops).w ∧
      AgreeRel (reach4 run cap rel ops) st ∧ st.observers = 0 := by
  obtain ⟨fl, H⟩ := reach4_inv run cap rel ops hlen
  exact ⟨_, opStats_eq _ H.compat, rfl, agreeRel_fresh H.base.base, H.obs0⟩

/-- **the stored object is the exact statistics of an earlier world of the history** — the world
    at the last `Stats()` call (`lastStatsPrefix ops` = the history up to that call), or the
    empty object before the first call -/
theorem stored_object_is_earlier_exact (ops : List Op4) (hlen : ops.length < 2 ^ 16) :
    (reach4 run cap rel ops).w.stats =
      match lastStatsPrefix ops with
      | none => {}
      | some pre => statsFresh (reach4 run cap rel pre).w :=
  reach4_stored run cap rel ops.length ops rfl hlen

/-- the object after the history `ops ++ [stats]` is the fresh statistics of the world after
    `ops`; any other step leaves it alone -/
theorem stats_object_after (ops : List Op4) (hlen : ops.length < 2 ^ 16) :
    (reach4 run cap rel (ops ++ [.stats])).w.stats = statsFresh (reach4 run cap rel ops).w :=
  reach4_after_stats run cap rel ops hlen

/-! ## 2b. incremental = replay -/

/-- a complete query iteration neither reads nor writes the statistics object -/
theorem queries_do_not_read_stats (fo : FilterObj) (extra : List RelID) (w : World)
    (st : WorldStats) : drain fo extra (w.setStats st) = liftS st (drain fo extra w) :=
  indep_drain fo extra w st

/-- every step of the relation machine (also `Reset`) commutes with replacing the statistics
    object -/
theorem step_commutes {s : St} (hno : NoObs s.w) (hl : s.w.isLocked = false) (op : Op3)
    (st : WorldStats) : step3 run (s.setStats st) op = (step3 run s op).setStats st :=
  step3_setStats run hno hl op st

/-- **replay**: the state a history with `Stats()` calls reaches is the state the same history
    WITHOUT those calls (`strip ops`, a history of `Ark.RelRefine3`) reaches, with another
    statistics object: same world up to `w.stats`, same handles, same specification -/
theorem history_replay (ops : List Op4) (hlen : ops.length < 2 ^ 16) :
    ∃ (st : WorldStats),
      reach4 run cap rel ops = (reach3 run cap rel (strip ops)).setStats st :=
  replay run cap rel ops hlen

/-- **incremental = replay.**  `Stats()` after a history with interleaved `Stats()` calls —
    between which relation tables were created, freed and recycled — returns exactly what
    `Stats()` returns in a world that replays the history without those calls (a world whose
    statistics object is still the initial, empty one) and is asked once. -/
theorem stats_incremental_eq_replay (ops : List Op4) (hlen : ops.length < 2 ^ 16) :
    opStats (reach4 run cap rel ops).w =
      .ok (statsFresh (reach3 run cap rel (strip ops)).w)
        ((reach3 run cap rel (strip ops)).w.setStats
          (statsFresh (reach3 run cap rel (strip ops)).w)) ∧
    opStats (reach3 run cap rel (strip ops)).w =
      .ok (statsFresh (reach3 run cap rel (strip ops)).w)
        ((reach3 run cap rel (strip ops)).w.setStats
          (statsFresh (reach3 run cap rel (strip ops)).w)) ∧
    (reach3 run cap rel (strip ops)).w.stats = {} :=
  replay_stats run cap rel ops hlen

/-! ## 3. non-vacuity: a history in which a relation archetype has 3, then 1, then 2, 2, 0 (after `Reset`), 1 active tables

`NewWorld(2, 2)`; component 0 (4 bytes) and the RELATION component 1 (8 bytes); three targets
`2.0`, `3.0`, `4.0`; three children `{0, 1}` with target `2.0` / `3.0` / `4.0` (entities `5.0`,
`6.0`, `7.0`): archetype 1 = `{0,1}` has the active tables 1, 2, 3.
`Stats()` #1 (step 9): 3 table entries.
The children `6.0`, `7.0` are removed (tables 2, 3 are empty, still active); the target `3.0` is
removed (`cleanupArchetypes` FREES the empty table 2); `Shrink` FREES the empty relation table 3.
`Stats()` #2 (step 14): the stored entry has 3 table entries, the archetype 1 active table and 2
free ones — the `cntNew < cntOld` branch of `archetype.UpdateStats`.
A new child with target `4.0` RECYCLES the free table 3.
`Stats()` #3 (step 16): stored 1 entry, 2 active tables — the append loop.
`Set` on `5.0`; `Stats()` #4 (step 18): stored 2, active 2 — update in place.
`Reset` (step 19) frees ALL relation tables and keeps the archetypes; the statistics object
survives it.  `Stats()` #5 (step 20): stored 2 entries (4 entities), active 0 — truncation to the
empty list.  After the reset a target `2.0` and a child `3.0` are created (the child RECYCLES
table 3); `Stats()` #6 (step 23): stored 0, active 1. -/

def noProbe : ProbeRunner := fun _ _ _ => pure ()

/-- an operation of `Ark.RelRefine` as an operation of the machine with `Stats()` -/
def b (o : RelRefine.Op) : Op4 := .op (.base2 (.base o))

def demoOps : List Op4 :=
  [b (.reg 4 false false), b (.reg 8 false true),
   b (.new .unsafe_ [] [] []), b (.new .unsafe_ [] [] []), b (.new .unsafe_ [] [] []),
   b (.new .unsafe_ [0, 1] [(0, 7)] [⟨1, ⟨2, 0⟩⟩]),
   b (.new .unsafe_ [0, 1] [(0, 8)] [⟨1, ⟨3, 0⟩⟩]),
   b (.new .unsafe_ [0, 1] [(0, 9)] [⟨1, ⟨4, 0⟩⟩]),
   .stats,
   b (.del ⟨6, 0⟩), b (.del ⟨7, 0⟩),
   b (.del ⟨3, 0⟩),
   .op (.base2 (.shrink false)),
   .stats,
   b (.new .unsafe_ [0, 1] [(0, 5)] [⟨1, ⟨4, 0⟩⟩]),
   .stats,
   b (.set ⟨5, 0⟩ [(0, 1)]),
   .stats,
   .op (.base2 .reset),
   .stats,
   b (.new .unsafe_ [] [] []),
   b (.new .unsafe_ [0, 1] [(0, 3)] [⟨1, ⟨2, 0⟩⟩]),
   .stats]

/-- the state after the first `k` operations -/
def at_ (k : Nat) : St := reach4 noProbe 2 2 (demoOps.take k)

/-- the table entries of the relation archetype in a statistics object -/
def relTables (st : WorldStats) : List (Nat × Nat) :=
  ((st.archetypes.getD 1 default).tables.map fun t => (t.size, t.capacity))

/-- the hypotheses of the history theorems -/
example : demoOps.length < 2 ^ 16 := by decide

/-- the hypotheses of `stats_exact_state`, `every_step_is_rstep`, `step4_keeps` are satisfiable:
    the invariants hold at the states of the demo history -/
example : (∃ fl, HInv4 (at_ 13) fl) ∧ (∃ fl, HInv2 (at_ 13) fl) ∧ (∃ fl, HInv (at_ 13) fl) ∧
    AgreesOn (at_ 13).w.stats (at_ 13).w ∧ NoObs (at_ 13).w := by
  obtain ⟨fl, H⟩ := reach4_invariant noProbe 2 2 (demoOps.take 13) (by decide)
  exact ⟨⟨fl, H⟩, ⟨fl, H.base⟩, ⟨fl, H.base.base⟩, H.compat.agreesOn, H.base.base.noObs⟩

example : AgreeRel (at_ 13) (statsFresh (at_ 13).w) := by
  obtain ⟨fl, H⟩ := reach4_invariant noProbe 2 2 (demoOps.take 13) (by decide)
  exact agreeRel_fresh H.base.base

/-- no step of the demo history is skipped: the guards hold -/
example :
    guard (at_ 5) (.new .unsafe_ [0, 1] [(0, 7)] [⟨1, ⟨2, 0⟩⟩]) = true ∧
    guard (at_ 9) (.del ⟨6, 0⟩) = true ∧ guard (at_ 11) (.del ⟨3, 0⟩) = true ∧
    guard (at_ 14) (.new .unsafe_ [0, 1] [(0, 5)] [⟨1, ⟨4, 0⟩⟩]) = true ∧
    guard (at_ 16) (.set ⟨5, 0⟩ [(0, 1)]) = true := by
  decide +kernel

def isOk {α : Type} : Res World α → Bool
  | .ok _ _ => true
  | .panic _ _ => false

/-- `every_operation_is_rstep` / `operations_do_not_read_stats` apply to the removal of the
    target `3.0` at step 12 (accepted; `cleanupArchetypes` frees table 2) and `step_commutes`
    to every state of the history: the world has no observers, is unlocked and `SInvMid` holds -/
example :
    isOk (exec noProbe (at_ 11).w (.del ⟨3, 0⟩)) = true ∧
    ((at_ 11).w.arch 1).freeTables = [] ∧
    ((exec noProbe (at_ 11).w (.del ⟨3, 0⟩)).state.arch 1).freeTables = [2] ∧
    (at_ 11).w.isLocked = false := by
  decide +kernel

example : NoObs (at_ 11).w ∧ SInvMid (at_ 11).w := by
  unfold at_
  obtain ⟨fl, H⟩ := reach4_invariant noProbe 2 2 (demoOps.take 11) (by decide)
  exact ⟨H.base.base.noObs, H.base.base.tinv.rel.sinv.toSInvMid⟩

/-- **3 active tables** at the first call: tables 1, 2, 3 of archetype 1 = `{0, 1}`, one entity
    each -/
example :
    (at_ 8).w.archetypes.map (fun a => (a.comps, a.numRel, a.tables.tables, a.freeTables)) =
      [([], 0, [0], []), ([0, 1], 1, [1, 2, 3], [])] ∧
    (at_ 8).w.stats = {} ∧
    (at_ 9).w.stats = statsFresh (at_ 8).w ∧
    relTables (at_ 9).w.stats = [(1, 2), (1, 2), (1, 2)] := by
  decide +kernel

/-- **1 active table** at the second call — FEWER than the stored entry lists: the stored object
    is stale (3 table entries, 6 entities) and compatible; the call truncates -/
example :
    (at_ 13).w.archetypes.map (fun a => (a.tables.tables, a.freeTables)) =
      [([0], []), ([1], [2, 3])] ∧
    relTables (at_ 13).w.stats = [(1, 2), (1, 2), (1, 2)] ∧
    (at_ 13).w.stats ≠ statsFresh (at_ 13).w ∧
    compatibleB (at_ 13).w.stats (at_ 13).w = true ∧
    (at_ 14).w.stats = statsFresh (at_ 13).w ∧
    relTables (at_ 14).w.stats = [(1, 2)] ∧
    ((at_ 14).w.stats.archetypes.map fun a => (a.size, a.capacity, a.freeTables)) =
      [(2, 2, 0), (1, 6, 2)] ∧
    ((at_ 14).w.stats.used, (at_ 14).w.stats.recycled, (at_ 14).w.stats.total) = (3, 3, 6) := by
  open KernelEq in decide +kernel

/-- **2 active tables** at the third call — MORE than the stored entry lists: the free table 3 was
    recycled for the new child (which got the recycled entity slot `3`, generation 1) -/
example :
    (at_ 15).w.archetypes.map (fun a => (a.tables.tables, a.freeTables)) =
      [([0], []), ([1, 3], [2])] ∧
    (at_ 15).issued.head? = some ⟨3, 1⟩ ∧
    relTables (at_ 15).w.stats = [(1, 2)] ∧
    (at_ 15).w.stats ≠ statsFresh (at_ 15).w ∧
    (at_ 16).w.stats = statsFresh (at_ 15).w ∧
    relTables (at_ 16).w.stats = [(1, 2), (1, 2)] ∧
    ((at_ 16).w.stats.archetypes.map fun a => (a.size, a.capacity, a.freeTables)) =
      [(2, 2, 0), (2, 6, 1)] := by
  open KernelEq in decide +kernel

/-- **the same number** at the fourth call: update in place -/
example :
    relTables (at_ 17).w.stats = [(1, 2), (1, 2)] ∧
    (at_ 17).w.archetypes.map (fun a => (a.tables.tables, a.freeTables)) =
      [([0], []), ([1, 3], [2])] ∧
    (at_ 18).w.stats = statsFresh (at_ 17).w ∧
    relTables (at_ 18).w.stats = [(1, 2), (1, 2)] := by
  open KernelEq in decide +kernel

/-- **`Reset`, then `Stats()`**: the reset (step 19) frees all relation tables, empties the pool
    (the old handles stay behind the pool slice, invalidated) and does NOT touch the statistics
    object, which still reports 4 entities and 2 table entries; it is stale and compatible; the
    fifth call truncates the per-table list to the empty list (0 active tables, 3 free ones) -/
example :
    (at_ 19).w.archetypes.map (fun a => (a.comps, a.tables.tables, a.freeTables)) =
      [([], [0], []), ([0, 1], [], [2, 1, 3])] ∧
    (at_ 19).w.pool.stale.length = 6 ∧ (at_ 19).issued = [] ∧
    (at_ 19).w.stats = (at_ 18).w.stats ∧ (at_ 19).w.stats.used = 4 ∧
    relTables (at_ 19).w.stats = [(1, 2), (1, 2)] ∧
    (at_ 19).w.stats ≠ statsFresh (at_ 19).w ∧
    compatibleB (at_ 19).w.stats (at_ 19).w = true ∧
    (at_ 20).w.stats = statsFresh (at_ 19).w ∧
    relTables (at_ 20).w.stats = [] ∧
    ((at_ 20).w.stats.archetypes.map fun a => (a.size, a.capacity, a.freeTables)) =
      [(0, 2, 0), (0, 6, 3)] ∧
    ((at_ 20).w.stats.used, (at_ 20).w.stats.recycled, (at_ 20).w.stats.total) = (0, 0, 0) := by
  decide +kernel

/-- after the reset: a new epoch of handles (`2.0` and `3.0` again), the child recycles table 3;
    the sixth call (stored 0 table entries, 1 active table) appends -/
example :
    guard (at_ 21) (.new .unsafe_ [0, 1] [(0, 3)] [⟨1, ⟨2, 0⟩⟩]) = true ∧
    (at_ 22).issued = [⟨3, 0⟩, ⟨2, 0⟩] ∧
    (at_ 22).w.archetypes.map (fun a => (a.tables.tables, a.freeTables)) =
      [([0], []), ([3], [2, 1])] ∧
    relTables (at_ 22).w.stats = [] ∧
    (at_ 23).w.stats = statsFresh (at_ 22).w ∧
    relTables (at_ 23).w.stats = [(1, 2)] ∧
    ((at_ 23).w.stats.archetypes.map fun a => (a.size, a.capacity, a.freeTables)) =
      [(1, 2, 0), (1, 6, 2)] ∧
    ((at_ 23).w.stats.used, (at_ 23).w.stats.recycled, (at_ 23).w.stats.total) = (2, 0, 2) := by
  open KernelEq in decide +kernel

/-- the invariant holds after the reset too (`reach4_invariant` has no `Reset`-free hypothesis) -/
example : (∃ fl, HInv4 (at_ 19) fl) ∧ AgreeRel (at_ 19) (statsFresh (at_ 19).w) := by
  obtain ⟨fl, H⟩ := reach4_invariant noProbe 2 2 (demoOps.take 19) (by decide)
  exact ⟨⟨fl, H⟩, agreeRel_fresh H.base.base⟩

/-- the figures of the last call: 4 alive entities (`2.0`, `4.0` without components; `5.0`, `3.1`
    in `{0,1}`), 2 recycled slots, 20 bytes per entity of `{0, 1}` -/
example :
    ((statsFresh (at_ 17).w).used, (statsFresh (at_ 17).w).recycled,
      (statsFresh (at_ 17).w).total) = (4, 2, 6) ∧
    ((statsFresh (at_ 17).w).archetypes.map fun a => (a.componentIDs, a.numRelations, a.size,
      a.capacity)) = [([], 0, 2, 2), ([0, 1], 1, 2, 6)] ∧
    ((statsFresh (at_ 17).w).archetypes.map fun a => (a.memoryPerEntity, a.memory,
      a.memoryUsed)) = [(8, 16, 16), (20, 120, 40)] ∧
    ((statsFresh (at_ 17).w).memory, (statsFresh (at_ 17).w).memoryUsed) = (136, 56) ∧
    ((statsFresh (at_ 17).w).cachedFilters, (statsFresh (at_ 17).w).observers,
      (statsFresh (at_ 17).w).locked, (statsFresh (at_ 17).w).numComponents) = (0, 0, false, 2) ∧
    (at_ 17).ss.ents.map (·.1) = [⟨3, 1⟩, ⟨5, 0⟩, ⟨4, 0⟩, ⟨2, 0⟩] ∧
    (at_ 17).ss.ents.map (specComps (at_ 17)) = [[0, 1], [0, 1], [], []] := by
  decide +kernel

/-- `stored_object_is_earlier_exact` on the demo: before the third call (step 15) the stored
    object is the exact statistics of the world at the second call (after 13 steps) -/
example :
    (lastStatsPrefix (demoOps.take 15)).map (·.length) = some 13 ∧
    (at_ 15).w.stats = statsFresh (at_ 13).w ∧
    (lastStatsPrefix (demoOps.take 8)).isNone = true := by
  open KernelEq in decide +kernel

/-- the hypothesis `AgreesOn` is needed: an object whose entry for the relation archetype has a
    wrong `memoryPerEntity` is not repaired by the update -/
example :
    let w := (at_ 13).w
    let bad : WorldStats := { w.stats with
      archetypes := w.stats.archetypes.map fun a => { a with memoryPerEntity := 0 } }
    statsUpdate w bad ≠ statsFresh w := by
  decide +kernel

/-- … while an object with MORE archetype entries than the world has archetypes (not
    `Compatible`, but `AgreesOn`) is repaired: `AgreesOn` is strictly weaker than `Compatible` -/
example :
    let w := (at_ 13).w
    let long : WorldStats := { w.stats with archetypes := w.stats.archetypes ++ w.stats.archetypes }
    compatibleB long w = false ∧ statsUpdate w long = statsFresh w := by
  open KernelEq in decide +kernel

/-- the loops on the re-used slice at the second call (stored: 3 entries, active: 1 table): with
    the truncation the fresh list; without it the two stale entries stay (3 entries, and the sum of
    the table sizes is 3 while the archetype holds 1 entity) -/
example :
    tablesGo true (at_ 13).w ((at_ 13).w.arch 1) ((at_ 13).w.stats.archetypes.getD 1 default) =
      ((at_ 13).w.archStatsFresh ((at_ 13).w.arch 1)).tables ∧
    (tablesGo true (at_ 13).w ((at_ 13).w.arch 1)
      ((at_ 13).w.stats.archetypes.getD 1 default)).length = 1 ∧
    (tablesGo false (at_ 13).w ((at_ 13).w.arch 1)
      ((at_ 13).w.stats.archetypes.getD 1 default)).map (·.size) = [1, 1, 1] ∧
    ((at_ 13).w.archStatsFresh ((at_ 13).w.arch 1)).size = 1 ∧
    -- at the third call (stored 1, active 2) and the fourth (2, 2) the truncation is not needed
    tablesGo false (at_ 15).w ((at_ 15).w.arch 1) ((at_ 15).w.stats.archetypes.getD 1 default) =
      ((at_ 15).w.archStatsFresh ((at_ 15).w.arch 1)).tables ∧
    tablesGo false (at_ 17).w ((at_ 17).w.arch 1) ((at_ 17).w.stats.archetypes.getD 1 default) =
      ((at_ 17).w.archStatsFresh ((at_ 17).w.arch 1)).tables := by
  decide +kernel

/-- replay on the demo history: without the six `Stats()` calls it has seventeen steps; the
    replaying world was never asked (empty object) and reports, asked once, what the world with
    the incrementally updated object reports -/
example :
    (strip demoOps).length = 17 ∧
    (reach3 noProbe 2 2 (strip demoOps)).w.stats = {} ∧
    (at_ 23).w.stats ≠ {} ∧
    statsUpdate (at_ 23).w (at_ 23).w.stats =
      statsUpdate (reach3 noProbe 2 2 (strip demoOps)).w {} ∧
    (at_ 23).issued = (reach3 noProbe 2 2 (strip demoOps)).issued ∧
    (at_ 23).w.entities = (reach3 noProbe 2 2 (strip demoOps)).w.entities := by
  open KernelEq in decide +kernel

end Ark.Props.C19Rel
