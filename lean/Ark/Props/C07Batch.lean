/-
  Ark.Props.C07Batch — C07 ("the world is unlocked again exactly when the last open query has
  finished or been closed") and C10 ("after recovering from such a panic … the lock state is
  exactly as before the call") for the BATCH operations: a rejected batch does not leave the
  world locked.

  Defect D27 (repaired): `World.exchangeBatch` (AddBatch / RemoveBatch / ExchangeBatch and their
  `…Fn` forms) and `World.setRelationsBatch` took the world lock right after the entry checks,
  BEFORE the loop that finds or creates the destination table of every selected table.  That loop
  panics when the operation is invalid for some selected table (a component already present /
  missing, a relation target not specified, a relation component the table lacks or named twice,
  a dead target found late, …); the panic unwound past the `unlock`, which is not deferred, and
  the world stayed LOCKED for ever with no query open.  Since the repair the lock is taken AFTER
  that loop, immediately before the first callback round; the model (`exchangeBatch`,
  `setRelationsBatch` in Ark/Model/World.lean) follows.

  §1, for ANY unlocked world and ANY arguments (no invariant): a panic of the lookup loop is the
  batch's panic, and the state it leaves has the lock, the observers and the log of the world
  before the call.  §2, from a world satisfying the invariant of the batch theorems, no observers
  registered (`batchFn` never panics, so the only panics are those of the argument checks and of
  the lookup loop), uncached filter: IF the call panics THEN the world is unlocked, its lock state
  is the one before the call, and every entity has the components, values, relation targets and
  liveness it had.  Hypotheses beyond the invariant: the ADDED components are registered; for the
  non-relation fragment the tables fit `uint32`.
  §3, what a rejected batch DOES leave behind: the archetypes and tables the lookup loop created
  before it failed.  **Finding**: after a rejected `SetRelationsBatch` a table created for an
  earlier selected table holds a target that `registerTargets` has not flagged (`isTarget` is set
  after the loop, in the Go code as in the model), so `FlagsOK` — a field of `TInv` — does NOT hold
  in the world the rejected call leaves (only `FlagsOKUpTo … rels`).

  The general case WITH observers is not covered by §2 (a panic raised by a callback itself
  leaves the world locked — in the Go code as in the model; the statement above excludes it);
  §1 covers the lock for every panic of the lookup loop, with observers registered.
-/
import Ark.Proofs.BatchPanicXchg
import Ark.Props.C06World
import Ark.Props.C06Rel

namespace Ark.Props.C07Batch
open Ark Ark.World Ark.Props.C01World Ark.QueryRel

/-! ## 1. the lock after a panic of the lookup loop — any world, any arguments -/

/-- `exchangeBatch` (any relations, observers, callback): a panic of the lookup loop is the
    batch's panic; lock, observers and log are those before the call -/
theorem exchangeBatch_lookup_panic_lock : type_of% @World.exchangeBatch_lookup_panic_lock :=
  @World.exchangeBatch_lookup_panic_lock

/-- `setRelationsBatch`: likewise -/
theorem setRelationsBatch_lookup_panic_lock : type_of% @World.setRelationsBatch_lookup_panic_lock :=
  @World.setRelationsBatch_lookup_panic_lock

/-- the operations in the order in which they run: table selection, lookup loop,
    `Lock`, move loop, (`registerTargets`,) `Unlock` — no observers, no callback -/
theorem exchangeBatch_planFirst : type_of% @World.exchangeBatch_eq_planFirst :=
  @World.exchangeBatch_eq_planFirst
theorem exchangeBatch_rel_planFirst : type_of% @World.exchangeBatch_rel_eq_planFirst :=
  @World.exchangeBatch_rel_eq_planFirst
theorem setRelationsBatch_planFirst : type_of% @World.setRelationsBatch_eq_planFirst :=
  @World.setRelationsBatch_eq_planFirst

/-! ## 2. rejected, lock state as before, no entity changed -/

/-- **`AddBatch` / `RemoveBatch` / `ExchangeBatch` (and `…Fn`), no relations** (`CInv`): if the
    call panics, the world is not locked, the lock state is the one before the call, every entity
    is `SameEnt` (components and values), liveness, pool, entity index, log, observers and every
    old table are unchanged, and `CInv` still holds -/
theorem exchangeBatch_panic_unlocked : type_of% @World.opExchangeBatch_panic_unlocked :=
  @World.opExchangeBatch_panic_unlocked

/-- the world a rejected exchange batch leaves extends the start world (`Ext`) -/
theorem exchangeBatch_panic_ext : type_of% @World.exchangeBatch_panic_frame :=
  @World.exchangeBatch_panic_frame

/-- the lookup loop, whatever its outcome, keeps `CInv` and extends the world -/
theorem lookup_loop_any : type_of% @World.findLoop_any := @World.findLoop_any

/-- **the same over relation tables** (`TInv`, no observers): not locked, lock state as before,
    every entity keeps components, values AND relation targets (`XFrame`) -/
theorem exchangeBatch_rel_panic_unlocked : type_of% @opExchangeBatch_rel_panic_unlocked :=
  @opExchangeBatch_rel_panic_unlocked

/-- **`SetRelationsBatch` / `SetRelationsBatchFn`** (`TInv`, no observers): not locked, lock state
    as before, every entity keeps components, values and relation targets; the structural
    invariants hold (`PrepKeep`) -/
theorem setRelationsBatch_panic_unlocked : type_of% @opSetRelationsBatch_panic_unlocked :=
  @opSetRelationsBatch_panic_unlocked

/-! ## 3. non-vacuity, and what stays behind -/

open Ark.Props.C06World (exW fo0 okVal)

def panicOf {α : Type} : Res World α → Option PanicKind
  | .ok _ _ => none
  | .panic k _ => some k

theorem res_panic_of {α : Type} {r : Res World α} {k : PanicKind} (h : panicOf r = some k) :
    r = .panic k r.state := by
  cases r with
  | ok a s => cases h
  | panic k' s => injection h with hk; subst hk; rfl

/-- the hypotheses of `exchangeBatch_panic_unlocked` hold in the world `exW` of
    Ark/Props/C06World.lean (entities 2, 3: `{0}`; 4: `{0, 1}`; 5: `{2}`) for "all entities: remove
    0", and the call panics (`missing`, on the table of `{2}`, after the archetype and the table of
    `{1}` were created for the table of `{0, 1}`) -/
theorem exW_rejected : ∃ (fl : List Nat) (k : PanicKind) (w' : World),
    CInv exW fl ∧ exW.isLocked = false ∧ LockFree exW.locks ∧
    (∀ (c : Comp), c ∈ ([] : List Comp) → c < exW.kinds.length) ∧
    exW.tables.length + (selTables exW ({} : Filter)).length < maxU32 ∧
    opExchangeBatch noProbe .unsafe_ { filter := {} } [] [] [0] [] none exW = .panic k w' ∧
    k = .missing := by
  obtain ⟨fl, H⟩ := Refine.reach_hinv noProbe 2 1 Ark.Props.C06World.exOps (by decide)
  have ok : exW.locks = {} ∧ exW.tables.length + (selTables exW ({} : Filter)).length < maxU32 ∧
      panicOf (opExchangeBatch noProbe .unsafe_ { filter := {} } [] [] [0] [] none exW) =
        some .missing := by
    decide +kernel
  exact ⟨fl, .missing, _, H.cinv, H.unlocked, ok.1 ▸ lockFree_init,
    fun _ hc => absurd hc List.not_mem_nil, ok.2.1, res_panic_of ok.2.2, rfl⟩

/-- … so the theorem applies: the world the rejected call leaves is unlocked, reads the same for
    every entity, and still satisfies the invariant; the archetype and table created before the
    panic remain (one more of each) -/
example : ∃ (fl : List Nat) (w' : World),
    (opExchangeBatch noProbe .unsafe_ { filter := {} } [] [] [0] [] none exW).state = w' ∧
    w'.isLocked = false ∧ w'.locks = exW.locks ∧ (∀ (j : Nat), SameEnt exW w' j) ∧
    CInv w' fl ∧ w'.tables.length = exW.tables.length + 1 ∧
    w'.archetypes.length = exW.archetypes.length + 1 := by
  obtain ⟨fl, k, w', h, hl, hL, hreg, hfew, hp, _⟩ := exW_rejected
  obtain ⟨a1, a2, _, a4, _, _, _, _, _, _, a11⟩ :=
    exchangeBatch_panic_unlocked noProbe .unsafe_ h hl hL { filter := {} } [] rfl hreg hfew none hp
  have hw : (opExchangeBatch noProbe .unsafe_ { filter := {} } [] [] [0] [] none exW).state = w' := by
    rw [hp]; rfl
  refine ⟨fl, w', hw, a1, a2, a4, a11, ?_⟩
  rw [← hw]
  decide +kernel

/-! ### worlds with relations -/

open Ark.Props.C04World (noRun summary TabSum)

/-- components 0, 1: two relation components -/
def h2 : World :=
  let w := World.init 2 2
  let w := (registerComponent { isRel := true } w).state
  (registerComponent { isRel := true } w).state

/-- two possible targets -/
def tt : Ent := ⟨2, 0⟩
def uu : Ent := ⟨3, 0⟩

def h3 : World := (opNewEntity noRun .typed [] [] [] h2).state                          -- tt
def h4 : World := (opNewEntity noRun .typed [] [] [] h3).state                          -- uu
/-- entity 4: relations 0 → `tt`, 1 → `tt` (table 1) -/
def h5 : World := (opNewEntity noRun .typed [0, 1] [] [⟨0, tt⟩, ⟨1, tt⟩] h4).state
/-- entity 5: relation 0 → `tt` only (table 2) -/
def h6 : World := (opNewEntity noRun .typed [0] [] [⟨0, tt⟩] h5).state

/-- `Filter1[C0]`: selects the tables of entity 4 and of entity 5, in this order -/
def foC0 : FilterObj := { filter := { mask := Mask.ofList [0] }, ids := [0] }

theorem reach_h2 : Reach noRun h2 :=
  ((Reach.init 2 2).reg _ (by decide +kernel)).reg _ (by decide +kernel)

theorem reach_h6 : Reach noRun h6 :=
  (((reach_h2.new_of (by decide +kernel)).new_of (by decide +kernel)).new_of
    (by decide +kernel)).new_of (by decide +kernel)

/-- the hypotheses of §2 for worlds with relations hold in `h6` -/
theorem h6_hyps : ∃ (fl : List Nat), TInv h6 fl ∧ h6.isLocked = false ∧ LockFree h6.locks ∧
    (∀ (evt : Nat), h6.obs.hasObservers evt = false) := by
  have q := (reach_qgood noRun reach_h6).1
  obtain ⟨fl, h, hl, hno⟩ := q.good
  exact ⟨fl, h, hl, q.lock, hno⟩

/-- the rejected batch: `Map2[C0, C1].SetRelationsBatch(Filter1[C0].Batch(), Rel(1, uu))` — the
    table of entity 4 has the relation component 1 (its destination, targets `(tt, uu)`, is
    created: table 3), the table of entity 5 has not (`noRelComponent`) -/
def rejSet : Res World Unit := opSetRelationsBatch noRun .typed foC0 [] [0, 1] [⟨1, uu⟩] false h6

/-- `setRelationsBatch_panic_unlocked` applied: the call panics; the world is unlocked with the
    lock state as before; every entity keeps components, values and targets -/
example : panicOf rejSet = some .noRelComponent ∧
    rejSet.state.isLocked = false ∧ rejSet.state.locks = h6.locks ∧
    (∀ (j : Nat), SameEnt h6 rejSet.state j ∧
      ∀ (c : Comp), targetOf rejSet.state j c = targetOf h6 j c) ∧
    (∀ (x : Ent), rejSet.state.alive x = h6.alive x) := by
  obtain ⟨fl, h, hl, hL, hno⟩ := h6_hyps
  have hk : panicOf rejSet = some .noRelComponent := by decide +kernel
  obtain ⟨a1, a2, a3, a4, _⟩ := setRelationsBatch_panic_unlocked noRun .typed h hl hL hno foC0 []
    rfl [0, 1] [⟨1, uu⟩] false (res_panic_of hk)
  exact ⟨hk, a1, a2, a3, a4⟩

/-- the same facts on the concrete world, and **what stays behind**: table 3 — archetype 1,
    empty, not free, relation targets `(tt, uu)` — while the flag of `uu` is NOT set; the next
    structural operations are accepted (a new entity; `SetRelations` of entity 4 to `uu`, which
    finds table 3 and flags `uu`) -/
example :
    summary h6 = [⟨0, 0, 2, false, []⟩, ⟨1, 1, 1, false, [tt, tt]⟩, ⟨2, 2, 1, false, [tt]⟩] ∧
    summary rejSet.state = [⟨0, 0, 2, false, []⟩, ⟨1, 1, 1, false, [tt, tt]⟩,
      ⟨2, 2, 1, false, [tt]⟩, ⟨3, 1, 0, false, [tt, uu]⟩] ∧
    h6.isTarget = [false, false, true, false, false, false] ∧
    rejSet.state.isTarget = h6.isTarget ∧ rejSet.state.entities = h6.entities ∧
    rejSet.state.isLocked = false ∧
    (targetOf rejSet.state 4 0, targetOf rejSet.state 4 1, targetOf rejSet.state 5 0) =
      (some tt, some tt, some tt) ∧
    panicOf (opNewEntity noRun .typed [0] [] [⟨0, uu⟩] rejSet.state) = none ∧
    panicOf (opSetRelations noRun .typed ⟨4, 0⟩ [0, 1] [⟨1, uu⟩] rejSet.state) = none ∧
    (opSetRelations noRun .typed ⟨4, 0⟩ [0, 1] [⟨1, uu⟩] rejSet.state).state.isTarget =
      [false, false, true, true, false, false] ∧
    targetOf (opSetRelations noRun .typed ⟨4, 0⟩ [0, 1] [⟨1, uu⟩] rejSet.state).state 4 1 =
      some uu := by
  decide +kernel

/-- **finding**: the flag invariant `FlagsOK` (a field of `TInv`) does not hold in the world a
    rejected `SetRelationsBatch` leaves: table 3 is not free and targets `uu` in its relation
    column 1, and `uu` is not flagged.  (`FlagsOKUpTo … [⟨1, uu⟩]` holds:
    `setRelationsBatch_panic_unlocked`.) -/
example : ¬ FlagsOK rejSet.state := by
  intro hF
  have ok : rejSet.state.tables[3]? = some (rejSet.state.tbl 3) ∧
      (rejSet.state.tbl 3).isFree = false ∧ (rejSet.state.tbl 3).isRel.getD 1 false = true ∧
      ((rejSet.state.tbl 3).targets.getD 1 Ent.zero).isZero = false ∧
      rejSet.state.isTarget.getD ((rejSet.state.tbl 3).targets.getD 1 Ent.zero).id false = false := by
    decide +kernel
  exact Bool.false_ne_true (ok.2.2.2.2 ▸ hF 3 _ ok.1 ok.2.1 1 ok.2.2.1 ok.2.2.2.1)

/-- the rejected exchange batch over relation tables: `Map1[C1].AddBatch(all entities)` without
    naming the target of the relation component 1 — for the first selected table (the targets `tt`,
    `uu`, no component) the archetype `{1}` is created, then `createTable` refuses the missing
    target (`relUnspecified`) -/
def rejAdd : Res World Unit := opExchangeBatch noRun .typed { filter := {} } [] [1] [] [] none h6

/-- `exchangeBatch_rel_panic_unlocked` applied -/
example : panicOf rejAdd = some .relUnspecified ∧
    rejAdd.state.isLocked = false ∧ rejAdd.state.locks = h6.locks ∧
    (∀ (j : Nat), SameEnt h6 rejAdd.state j ∧
      ∀ (c : Comp), targetOf rejAdd.state j c = targetOf h6 j c) ∧
    (∀ (x : Ent), rejAdd.state.alive x = h6.alive x) := by
  obtain ⟨fl, h, hl, hL, hno⟩ := h6_hyps
  have hk : panicOf rejAdd = some .relUnspecified := by decide +kernel
  obtain ⟨a1, a2, a3, a4, _⟩ := exchangeBatch_rel_panic_unlocked noRun .typed h hl hL hno
    { filter := {} } [] rfl (add := [1]) (rem := []) [] (by decide +kernel) none (res_panic_of hk)
  exact ⟨hk, a1, a2, a3, a4⟩

/-- what stays behind: the archetype of `{1}` (archetype 3), WITHOUT a table; tables, entity index
    and flags are untouched; the next structural operation is accepted -/
example :
    h6.archetypes.length = 3 ∧ rejAdd.state.archetypes.length = 4 ∧
    (rejAdd.state.arch 3).tables.tables = [] ∧ (rejAdd.state.arch 3).mask = Mask.ofList [1] ∧
    rejAdd.state.tables = h6.tables ∧ rejAdd.state.entities = h6.entities ∧
    rejAdd.state.isTarget = h6.isTarget ∧ rejAdd.state.isLocked = false ∧
    panicOf (opExchangeBatch noRun .typed { filter := {} } [] [1] [] [⟨1, uu⟩] none rejAdd.state) =
      some .alreadyHas ∧
    panicOf (opNewEntity noRun .typed [1] [] [⟨1, uu⟩] rejAdd.state) = none := by
  decide +kernel

/-- a filter that selects nothing: component 0 required and excluded -/
def foNone : FilterObj :=
  { filter := { mask := Mask.ofList [0], without := Mask.ofList [0], hasWithout := true } }

/-- **an exchange batch whose filter selects nothing still flags its relation targets**, as the Go
    code does (`exchangeBatch` calls `registerTargets(relations)` once, unconditionally, after the
    planning loop): `Map1[C1].AddBatch(<nothing>, Rel(1, uu))` in `h6` selects no table, moves no
    entity, creates nothing — and sets the `isTarget` flag of `uu` (ID 3), which was not set; the
    world is unlocked afterwards.  (So a later `RemoveEntity(uu)` runs the cleanup of the relation
    archetypes, in the model as in Go.) -/
example :
    (match getBatchTables foNone [] h6 with | .ok ts _ => some ts | .panic _ _ => none) = some [] ∧
    panicOf (opExchangeBatch noRun .typed foNone [] [1] [] [⟨1, uu⟩] none h6) = none ∧
    h6.isTarget = [false, false, true, false, false, false] ∧
    (opExchangeBatch noRun .typed foNone [] [1] [] [⟨1, uu⟩] none h6).state.isTarget =
      [false, false, true, true, false, false] ∧
    (opExchangeBatch noRun .typed foNone [] [1] [] [⟨1, uu⟩] none h6).state.tables = h6.tables ∧
    (opExchangeBatch noRun .typed foNone [] [1] [] [⟨1, uu⟩] none h6).state.entities = h6.entities ∧
    (opExchangeBatch noRun .typed foNone [] [1] [] [⟨1, uu⟩] none h6).state.isLocked = false := by
  decide +kernel

end Ark.Props.C07Batch
