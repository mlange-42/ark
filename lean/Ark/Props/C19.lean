/-
  C19 — Statistics agree with the world; statistics updated incrementally over a history equal
  those of a world that is asked once.

  The world keeps ONE statistics object (`World.stats`) which `World.Stats()` (`opStats`) updates
  in place: archetype entries by position (new archetypes appended), and inside an archetype the
  table entries by position (truncated when tables were freed, appended when tables were added),
  while `memoryPerEntity`, `componentIDs`, `numRelations` of an archetype entry are never
  recomputed.  `statsFresh w` is what a world asked for the first time reports.

  Update = fresh under exactly the hypothesis the update relies on (`Compatible`), for ANY old
  table-entry list; the hypothesis holds at every `Stats()` call of every history whose other
  steps only append archetypes and keep the component lists / relation counts / registered
  component sizes of the existing ones (`Mono`).

  Hypotheses recorded once: all figures are naturals (no overflow of Go's `int`); the two figures
  of `stats.World` that depend on Go's slice growth policy (`Entities.Capacity` and the pool/index
  part of `Memory`) are not modelled (see `WorldStats`).
-/
import Ark.Proofs.Stats
import Ark.Props.C01Struct
import Ark.Model.Ops
import Ark.Props.C19Hist
import Ark.Props.C19Rel
import Ark.Proofs.Eval

namespace Ark.Props.C19
open Ark Ark.World

/-! ## 1. Incremental update = fresh computation -/

/-- Per archetype: if the three figures the update never recomputes describe the archetype, the
    in-place update yields the fresh statistics — whatever `s.tables` was (longer than, shorter
    than, or as long as the current table list), and whatever the other old figures were. -/
theorem arch_incremental_eq_fresh (w : World) (A : Archetype) (s : ArchStats)
    (h : s.memoryPerEntity = w.memPerEntity A ∧ s.componentIDs = A.comps ∧
         s.numRelations = A.numRel) :
    w.archStatsUpdate A s = w.archStatsFresh A :=
  archStatsUpdate_eq_fresh w A s h

/-- `Compatible st w` spelled out. -/
theorem compatible_iff (st : WorldStats) (w : World) :
    Compatible st w ↔
      st.archetypes.length ≤ w.archetypes.length ∧
      ∀ (i : Nat) (s : ArchStats) (A : Archetype),
        st.archetypes[i]? = some s → w.archetypes[i]? = some A →
          s.memoryPerEntity = w.memPerEntity A ∧ s.componentIDs = A.comps ∧
          s.numRelations = A.numRel :=
  Iff.rfl

/-- Main theorem: an old statistics object produced for an earlier state of the same world,
    updated in place, equals the statistics of a world that is asked for the first time. -/
theorem incremental_eq_fresh (w : World) (st : WorldStats) (h : Compatible st w) :
    w.statsUpdate st = w.statsFresh :=
  statsUpdate_eq_fresh w st h

/-! ## 2. The hypothesis holds along every history -/

/-- The initial, empty statistics object is compatible with every world. -/
theorem compatible_empty (w : World) : Compatible {} w := World.compatible_empty w

/-- `Mono w w'` spelled out. -/
theorem mono_iff (w w' : World) :
    Mono w w' ↔
      w.archetypes.length ≤ w'.archetypes.length ∧
      ∀ (i : Nat) (A A' : Archetype), w.archetypes[i]? = some A → w'.archetypes[i]? = some A' →
        A'.comps = A.comps ∧ A'.numRel = A.numRel ∧
        ∀ (c : Comp), c ∈ A.comps → (w'.kinds.getD c {}).size = (w.kinds.getD c {}).size :=
  Iff.rfl

/-- What `Stats()` stored is compatible with the world it was computed for … -/
theorem compatible_fresh (w : World) : Compatible w.statsFresh w := compatible_fresh_self w

/-- … and with every later world. -/
theorem compatible_later (w w' : World) (m : Mono w w') : Compatible w.statsFresh w' :=
  compatible_fresh_later w w' m

/-- Any compatible object stays compatible along a monotone evolution. -/
theorem compatible_mono (st : WorldStats) (w w' : World) (h : Compatible st w) (m : Mono w w') :
    Compatible st w' := h.mono m

/-- Appending to the component registry does not disturb `Mono`'s size clause. -/
theorem kinds_append_size (ks extra : List CompKind) (c : Nat) (h : c < ks.length) :
    ((ks ++ extra).getD c {}).size = (ks.getD c {}).size := World.kinds_append_size ks extra c h

/-- The only ways in which the model ever changes `archetypes` or `kinds` — overwrite one
    archetype keeping its component list and relation count (`setArch` via `modArch`), append
    archetypes (`createArchetype`), append component kinds (`registerComponent`; needs "archetype
    components are registered"), or leave both alone — each satisfy `Mono`. -/
theorem mono_primitive_steps (w : World) :
    (∀ (w' : World), w'.archetypes = w.archetypes → w'.kinds = w.kinds → Mono w w') ∧
    (∀ (a : Nat) (A' : Archetype), A'.comps = (w.arch a).comps → A'.numRel = (w.arch a).numRel →
      Mono w (w.setArch a A')) ∧
    (∀ (w' : World) (extra : List Archetype),
      w'.archetypes = w.archetypes ++ extra → w'.kinds = w.kinds → Mono w w') ∧
    (∀ (w' : World) (extra : List CompKind),
      w'.archetypes = w.archetypes → w'.kinds = w.kinds ++ extra →
      (∀ (A : Archetype), A ∈ w.archetypes → ∀ (c : Comp), c ∈ A.comps → c < w.kinds.length) →
      Mono w w') :=
  ⟨mono_of_eq w, mono_setArch w, mono_append_archetypes w, mono_append_kinds w⟩

theorem mono_refl (w : World) : Mono w w := Mono.refl w

theorem mono_trans {w₁ w₂ w₃ : World} (h₁ : Mono w₁ w₂) (h₂ : Mono w₂ w₃) : Mono w₁ w₃ :=
  h₁.trans h₂

/-- One `Stats()` call on a world whose stored object is compatible: the result and the stored
    object are the fresh statistics; nothing else changes. -/
theorem opStats_chain (w : World) (st : WorldStats) (h : Compatible st w) :
    opStats { w with stats := st } = .ok (statsFresh w) { w with stats := statsFresh w } :=
  opStats_eq' w st h

theorem opStats_chain' (w : World) (h : Compatible w.stats w) :
    opStats w = .ok w.statsFresh { w with stats := w.statsFresh } :=
  World.opStats_eq w h

/-- Histories: start with the empty object, then any interleaving of `Stats()` calls and other
    steps that satisfy `Mono` and do not touch the statistics object.  At EVERY `Stats()` call
    the answer is `statsFresh` of the world at that moment. -/
theorem opStats_history {w : World} (h : Hist w) :
    opStats w = .ok w.statsFresh { w with stats := w.statsFresh } :=
  h.opStats_eq

theorem history_compatible {w : World} (h : Hist w) : Compatible w.stats w := h.compatible

/-! ## 3. The fresh figures are internally consistent -/

section arch
variable (w : World) (A : Archetype)

/-- one entry per table, in table order, with that table's length and capacity -/
theorem arch_tables :
    (w.archStatsFresh A).tables = A.tables.tables.map fun t =>
      { size := (w.tbl t).len, capacity := (w.tbl t).cap
        memory := (w.tbl t).cap * w.memPerEntity A
        memoryUsed := (w.tbl t).len * w.memPerEntity A } := rfl

theorem arch_fixed :
    (w.archStatsFresh A).componentIDs = A.comps ∧
    (w.archStatsFresh A).numRelations = A.numRel ∧
    (w.archStatsFresh A).memoryPerEntity = w.memPerEntity A ∧
    (w.archStatsFresh A).freeTables = A.freeTables.length := fresh_fixed w A

theorem memPerEntity_eq :
    w.memPerEntity A = 8 + (A.comps.map fun c => (w.kinds.getD c {}).size).sum :=
  World.memPerEntity_eq w A

/-- `size = Σ table sizes` -/
theorem arch_size :
    (w.archStatsFresh A).size = (A.tables.tables.map fun t => (w.tbl t).len).sum ∧
    (w.archStatsFresh A).size = ((w.archStatsFresh A).tables.map (·.size)).sum :=
  ⟨fresh_size w A, fresh_size_tables w A⟩

/-- `capacity = Σ active table capacities + Σ free table capacities` -/
theorem arch_capacity :
    (w.archStatsFresh A).capacity
      = (A.tables.tables.map fun t => (w.tbl t).cap).sum
        + (A.freeTables.map fun t => (w.tbl t).cap).sum ∧
    (w.archStatsFresh A).capacity
      = ((w.archStatsFresh A).tables.map (·.capacity)).sum
        + (A.freeTables.map fun t => (w.tbl t).cap).sum :=
  ⟨fresh_capacity w A, fresh_capacity_tables w A⟩

/-- `memory = memoryPerEntity * capacity` -/
theorem arch_memory :
    (w.archStatsFresh A).memory
      = (w.archStatsFresh A).memoryPerEntity * (w.archStatsFresh A).capacity :=
  fresh_memory w A

/-- `memoryUsed = memoryPerEntity * size` (and it is the sum over the table entries) -/
theorem arch_memoryUsed :
    (w.archStatsFresh A).memoryUsed
      = (w.archStatsFresh A).memoryPerEntity * (w.archStatsFresh A).size ∧
    (w.archStatsFresh A).memoryUsed = ((w.archStatsFresh A).tables.map (·.memoryUsed)).sum :=
  ⟨fresh_memoryUsed w A, fresh_memoryUsed_tables w A⟩

/-- every table entry: `memory = capacity * mpe`, `memoryUsed = size * mpe` -/
theorem arch_table_entry (ts : TableStats) (h : ts ∈ (w.archStatsFresh A).tables) :
    ts.memory = ts.capacity * (w.archStatsFresh A).memoryPerEntity ∧
    ts.memoryUsed = ts.size * (w.archStatsFresh A).memoryPerEntity :=
  fresh_table_entry w A ts h

/-- if every table of the archetype satisfies `len ≤ cap`: `size ≤ capacity` per table entry,
    per archetype, and `memoryUsed ≤ memory` -/
theorem arch_size_le_capacity
    (hT : ∀ (t : Nat), t ∈ A.tables.tables → (w.tbl t).len ≤ (w.tbl t).cap) :
    (∀ (ts : TableStats), ts ∈ (w.archStatsFresh A).tables → ts.size ≤ ts.capacity) ∧
    (w.archStatsFresh A).size ≤ (w.archStatsFresh A).capacity ∧
    (w.archStatsFresh A).memoryUsed ≤ (w.archStatsFresh A).memory :=
  ⟨fresh_table_size_le w A hT, fresh_size_le w A hT, fresh_memoryUsed_le w A hT⟩

end arch

section world
variable (w : World)

theorem world_archetypes : w.statsFresh.archetypes = w.archetypes.map w.archStatsFresh := rfl

/-- `used + recycled = total`, given that the pool's free-list counter does not exceed the number
    of non-reserved slots (pool invariant, see C02). -/
theorem world_used_recycled_total (h : w.pool.available ≤ w.pool.ents.length - 2) :
    w.statsFresh.used + w.statsFresh.recycled = w.statsFresh.total :=
  World.world_used_recycled_total w h

theorem world_entities :
    w.statsFresh.used = w.pool.ents.length - 2 - w.pool.available ∧
    w.statsFresh.recycled = w.pool.available ∧
    w.statsFresh.total = w.pool.ents.length - 2 := world_used w

/-- `memory = Σ archetype memory`, `memoryUsed = Σ archetype memoryUsed` -/
theorem world_memory :
    w.statsFresh.memory = (w.statsFresh.archetypes.map (·.memory)).sum ∧
    w.statsFresh.memoryUsed = (w.statsFresh.archetypes.map (·.memoryUsed)).sum :=
  ⟨World.world_memory w, World.world_memoryUsed w⟩

theorem world_memoryUsed_le
    (hT : ∀ (A : Archetype), A ∈ w.archetypes →
      ∀ (t : Nat), t ∈ A.tables.tables → (w.tbl t).len ≤ (w.tbl t).cap) :
    w.statsFresh.memoryUsed ≤ w.statsFresh.memory := World.world_memoryUsed_le w hT

theorem world_counters :
    w.statsFresh.cachedFilters = w.cache.filters.length ∧
    w.statsFresh.observers = w.obs.totalCount ∧
    w.statsFresh.locked = w.isLocked ∧
    w.statsFresh.numComponents = w.kinds.length := world_misc w

end world

/-! ## 4. Non-vacuity: a real history of model operations

`World.init 2 2`; register a relation component (ID 0) and a plain one (ID 1); two parents, one
child of each (archetype 1 = {0,1} gets two tables); `Stats()`; remove the second child and its
parent (its table is freed: the stored object now has MORE table entries than the archetype has
tables); `Stats()`; three more parents with a child each (one table recycled, two new ones: the
stored object has FEWER table entries); `Stats()`. -/

namespace Demo

def seg1 : W Unit := do
  let _ ← registerComponent { isRel := true }
  let _ ← registerComponent {}
  let p1 ← opNewEntity0 probe
  let p2 ← opNewEntity0 probe
  let _ ← opNewEntity probe .unsafe_ [0, 1] [] [⟨0, p1⟩]
  let _ ← opNewEntity probe .unsafe_ [0, 1] [] [⟨0, p2⟩]

def seg2 : W Unit := do
  opRemoveEntity probe ⟨5, 0⟩
  opRemoveEntity probe ⟨3, 0⟩

def seg3 : W Unit := do
  let p3 ← opNewEntity0 probe
  let p4 ← opNewEntity0 probe
  let p5 ← opNewEntity0 probe
  let _ ← opNewEntity probe .unsafe_ [0, 1] [] [⟨0, p3⟩]
  let _ ← opNewEntity probe .unsafe_ [0, 1] [] [⟨0, p4⟩]
  let _ ← opNewEntity probe .unsafe_ [0, 1] [] [⟨0, p5⟩]

def w0 : World := World.init 2 2
def w1 : World := (seg1 w0).state          -- before the first `Stats()`
def w1s : World := (opStats w1).state
def w2 : World := (seg2 w1s).state         -- a table was freed
def w2s : World := (opStats w2).state
def w3 : World := (seg3 w2s).state         -- tables were added
def w3s : World := (opStats w3).state

/-- no step of the demo history panicked -/
def isOk {α : Type} : Res World α → Bool
  | .ok _ _ => true
  | .panic _ _ => false

example : isOk (seg1 w0) = true ∧ isOk (seg2 w1s) = true ∧ isOk (seg3 w2s) = true := by
  decide +kernel

/-- table freed: the stored object has 2 table entries for archetype 1, the archetype 1 table
    (and 1 free table); the object is stale, the update repairs it, and the hypothesis of
    `incremental_eq_fresh` holds. -/
example :
    w2.stats.archetypes.map (·.tables.length) = [1, 2] ∧
    w2.archetypes.map (·.tables.tables.length) = [1, 1] ∧
    w2.archetypes.map (·.freeTables.length) = [0, 1] ∧
    w2.stats ≠ w2.statsFresh ∧
    w2.statsUpdate w2.stats = w2.statsFresh := by
  open KernelEq in decide +kernel

example : Compatible w2.stats w2 := compatible_of_check (by decide +kernel)

/-- tables added: the stored object has 1 table entry for archetype 1, the archetype 4 tables. -/
example :
    w3.stats.archetypes.map (·.tables.length) = [1, 1] ∧
    w3.archetypes.map (·.tables.tables.length) = [1, 4] ∧
    w3.stats ≠ w3.statsFresh ∧
    w3.statsUpdate w3.stats = w3.statsFresh := by
  open KernelEq in decide +kernel

example : Compatible w3.stats w3 := compatible_of_check (by decide +kernel)

/-- archetypes added: before the first call the stored object is empty, the world has two. -/
example :
    w1.stats.archetypes.length = 0 ∧ w1.archetypes.length = 2 ∧
    w1.statsUpdate w1.stats = w1.statsFresh := by
  decide +kernel

/-- the concrete figures reported at the second call (1 entity in archetype 1; capacity 4 =
    one active table of 2 + one free table of 2; 24 bytes per entity) -/
example :
    (w2.statsFresh.archetypes.map fun a =>
        (a.size, a.capacity, a.memory, a.memoryUsed, a.memoryPerEntity, a.freeTables))
      = [(1, 2, 16, 8, 8, 0), (1, 4, 96, 24, 24, 1)] ∧
    (w2.statsFresh.used, w2.statsFresh.recycled, w2.statsFresh.total) = (2, 2, 4) := by
  decide +kernel

/-- the demo history is a `Hist`: every non-`Stats` segment satisfies `Mono` and leaves the
    statistics object alone -/
theorem demo_hist : Hist w3s := by
  have c : (monoB w0 w1 = true ∧ w1.stats = w0.stats) ∧
      (monoB w1s w2 = true ∧ w2.stats = w1s.stats) ∧
      (monoB w2s w3 = true ∧ w3.stats = w2s.stats) := by
    decide +kernel
  have h1 : Hist w1 := .other _ _ (.init _ rfl) (mono_of_check c.1.1) c.1.2
  have h1s : Hist w1s := .stats _ h1
  have h2 : Hist w2 := .other _ _ h1s (mono_of_check c.2.1.1) c.2.1.2
  have h2s : Hist w2s := .stats _ h2
  have h3 : Hist w3 := .other _ _ h2s (mono_of_check c.2.2.1) c.2.2.2
  exact .stats _ h3

end Demo

/-! A second, hand-built instance: one archetype over component 0
(4 bytes), three tables; the old object was computed when tables 0 and 1 were active. -/

namespace Small

def tab (id len cap : Nat) : Table :=
  { id, arch := 0, ids := [0], isRel := [false], zst := [false], ents := [], cols := [],
    targets := [], relIDs := [], len, cap }

def arch (tables free : List Nat) : Archetype :=
  { id := 0, mask := Mask.empty, comps := [0], isRel := [false], zst := [false], numRel := 0,
    tables := { tables }, freeTables := free, relationTables := [] }

def mk (tables free : List Nat) : World :=
  { archetypes := [arch tables free], tables := [tab 0 1 2, tab 1 3 4, tab 2 0 8],
    kinds := [{ size := 4 }] }

/-- old object: 2 table entries.  Table 1 freed → 1 table (more entries than tables);
    table 2 added → 3 tables (fewer entries than tables).  Both updates equal the fresh
    computation, and the old object really is stale. -/
example :
    let old := (mk [0, 1] []).statsFresh
    (old.archetypes.map (·.tables.length)) = [2] ∧
    (mk [0] [1]).statsUpdate old = (mk [0] [1]).statsFresh ∧
    (mk [0, 1, 2] []).statsUpdate old = (mk [0, 1, 2] []).statsFresh ∧
    old ≠ (mk [0] [1]).statsFresh ∧ old ≠ (mk [0, 1, 2] []).statsFresh := by
  decide +kernel

example : compatibleB (mk [0, 1] []).statsFresh (mk [0] [1]) = true ∧
    compatibleB (mk [0, 1] []).statsFresh (mk [0, 1, 2] []) = true := by decide

/-- The hypothesis of `incremental_eq_fresh` is needed: an old object whose `memoryPerEntity`
    is wrong (here 0 instead of 12) is NOT repaired by the update. -/
example :
    let bad : WorldStats := { archetypes := [{ (mk [0] []).archStatsFresh (arch [0] []) with memoryPerEntity := 0 }] }
    (mk [0] []).statsUpdate bad ≠ (mk [0] []).statsFresh := by
  decide

end Small


/-- no two archetypes have the same component set (structural invariant) -/
theorem archetype_masks_unique : type_of% @Ark.Props.C01Struct.archetype_masks_unique := @Ark.Props.C01Struct.archetype_masks_unique


/-! ### Over histories shorter than 2^32 − 2 (Props/C19Hist) -/

/-- along every history of entity operations (the eleven of the refinement machine), filter definition/registration and `Stats()` calls, the invariant holds and the stored statistics object stays compatible with the world -/
theorem hist_reach3_invariant : type_of% @Ark.Props.C19Hist.reach3_invariant := @Ark.Props.C19Hist.reach3_invariant

/-- **C19, second sentence**: at every `Stats()` call of every history the incrementally updated statistics equal the fresh computation on the current world -/
theorem hist_stats_incremental_eq_fresh : type_of% @Ark.Props.C19Hist.stats_incremental_eq_fresh := @Ark.Props.C19Hist.stats_incremental_eq_fresh

/-- … and equal those of a world that replays the history without the `Stats()` calls and is asked once -/
theorem hist_stats_incremental_eq_replay : type_of% @Ark.Props.C19Hist.stats_incremental_eq_replay := @Ark.Props.C19Hist.stats_incremental_eq_replay

/-- the history with `Stats()` calls reaches the same world, up to the statistics object, as the history without them -/
theorem hist_history_replay : type_of% @Ark.Props.C19Hist.history_replay := @Ark.Props.C19Hist.history_replay

/-- no operation reads the statistics object: run on a world with another object it succeeds alike, returns the same handle and leaves the same world up to `stats` -/
theorem hist_no_operation_reads_stats : type_of% @Ark.Props.C19Hist.no_operation_reads_stats := @Ark.Props.C19Hist.no_operation_reads_stats

/-- every successful operation only appends archetypes/tables and keeps the statistics object -/
theorem hist_every_operation_is_sstep : type_of% @Ark.Props.C19Hist.every_operation_is_sstep := @Ark.Props.C19Hist.every_operation_is_sstep

/-- **C19, first sentence**: the statistics returned at any point of any history agree with the contents (all clauses of `Agree`) -/
theorem hist_stats_agree : type_of% @Ark.Props.C19Hist.stats_agree := @Ark.Props.C19Hist.stats_agree

/-- `used` = number of specification entries = number of alive issued handles = Σ archetype sizes = Σ table sizes -/
theorem hist_used_four_ways : type_of% @Ark.Props.C19Hist.used_four_ways := @Ark.Props.C19Hist.used_four_ways

/-- `total = used + recycled` -/
theorem hist_total_eq : type_of% @Ark.Props.C19Hist.total_eq := @Ark.Props.C19Hist.total_eq

/-- an archetype's `size` is the number of entities with exactly that component set -/
theorem hist_arch_size : type_of% @Ark.Props.C19Hist.arch_size := @Ark.Props.C19Hist.arch_size

/-- no two archetype entries have the same component list, and every component set in use has its entry -/
theorem hist_arch_unique_complete : type_of% @Ark.Props.C19Hist.arch_unique_complete := @Ark.Props.C19Hist.arch_unique_complete

/-- every table's `size ≤ capacity` -/
theorem hist_table_size_le : type_of% @Ark.Props.C19Hist.table_size_le := @Ark.Props.C19Hist.table_size_le

/-- memory figures are the documented products and sums, `memoryUsed ≤ memory` -/
theorem hist_memory_figures : type_of% @Ark.Props.C19Hist.memory_figures := @Ark.Props.C19Hist.memory_figures

/-- `cachedFilters`, `observers`, `locked`, `numComponents` match what is registered -/
theorem hist_counters : type_of% @Ark.Props.C19Hist.counters := @Ark.Props.C19Hist.counters


/-! ### Statistics along histories (shorter than 2^16) WITH relation tables (Props/C19Rel): archetypes lose and regain active tables -/

/-- whatever the stored entry is — fewer, more or the same number of per-table entries than the archetype has active tables — UpdateStats lists exactly one entry per ACTIVE table, in order, with its size and capacity, and the documented sums -/
theorem rel_update_lists_active_tables : type_of% @Ark.Props.C19Rel.update_lists_active_tables := @Ark.Props.C19Rel.update_lists_active_tables

/-- the loops of archetype.UpdateStats on the re-used slice (truncate, update in place, append) compute the model's list -/
theorem rel_update_loops_eq_model : type_of% @Ark.Props.C19Rel.update_loops_eq_model := @Ark.Props.C19Rel.update_loops_eq_model

/-- the same loops WITHOUT the truncation are right iff the stored list is not longer than the archetype's active tables (the seeded change C19-t1 as a theorem) -/
theorem rel_truncation_needed_iff : type_of% @Ark.Props.C19Rel.truncation_needed_iff := @Ark.Props.C19Rel.truncation_needed_iff

/-- finding: the model's archStatsUpdate uses only the LENGTH of the stored per-table list, so it cannot exhibit a missing truncation — that is why the source's function is also translated (Props/C19Src) -/
theorem rel_model_is_blind_to_truncation : type_of% @Ark.Props.C19Rel.model_is_blind_to_truncation := @Ark.Props.C19Rel.model_is_blind_to_truncation

/-- **the weakest condition on the stored object**: for ANY world and ANY stored object, incremental = fresh iff every stored archetype entry that has an archetype at its position carries that archetype's memory-per-entity, component IDs and relation count — nothing is demanded of the per-table lists, counters or the number of entries -/
theorem rel_weakest_condition : type_of% @Ark.Props.C19Rel.weakest_condition := @Ark.Props.C19Rel.weakest_condition

/-- an object produced by Stats() on an earlier world of the history satisfies it -/
theorem rel_earlier_stats_agreesOn : type_of% @Ark.Props.C19Rel.earlier_stats_agreesOn := @Ark.Props.C19Rel.earlier_stats_agreesOn

/-- at every state satisfying the relation machine's invariant Stats() is exact: used = alive = sum of archetype sizes = sum of table sizes, total = used + recycled, one archetype per component set, per archetype one entry per active table with size ≤ capacity, memory figures, counters -/
theorem rel_stats_exact_state : type_of% @Ark.Props.C19Rel.stats_exact_state := @Ark.Props.C19Rel.stats_exact_state

/-- a table entry's size is the number of specified entities indexed to that table, and they have exactly the targets the table lists -/
theorem rel_what_a_table_entry_counts : type_of% @Ark.Props.C19Rel.what_a_table_entry_counts := @Ark.Props.C19Rel.what_a_table_entry_counts

/-- every step of the relation machine (incl. xchg, copy, shrink, reset, filters, queries) keeps the stored statistics object compatible -/
theorem rel_every_step_is_rstep : type_of% @Ark.Props.C19Rel.every_step_is_rstep := @Ark.Props.C19Rel.every_step_is_rstep

/-- the invariant of the machine with Stats() steps holds after every history (Reset included) -/
theorem rel_reach4_invariant : type_of% @Ark.Props.C19Rel.reach4_invariant := @Ark.Props.C19Rel.reach4_invariant

/-- **incremental = fresh at every Stats() call of every history with relation tables** (tables freed by target removal and Shrink, recycled, Reset) -/
theorem rel_stats_incremental_eq_fresh : type_of% @Ark.Props.C19Rel.stats_incremental_eq_fresh := @Ark.Props.C19Rel.stats_incremental_eq_fresh

/-- … and the result agrees with the actual contents -/
theorem rel_stats_agree : type_of% @Ark.Props.C19Rel.stats_agree := @Ark.Props.C19Rel.stats_agree

/-- the stored object is the exact statistics of the world at the last Stats() call -/
theorem rel_stored_object_is_earlier_exact : type_of% @Ark.Props.C19Rel.stored_object_is_earlier_exact := @Ark.Props.C19Rel.stored_object_is_earlier_exact

/-- **replay form**: Stats() after a history equals Stats() asked once after the same history without the earlier Stats() calls -/
theorem rel_stats_incremental_eq_replay : type_of% @Ark.Props.C19Rel.stats_incremental_eq_replay := @Ark.Props.C19Rel.stats_incremental_eq_replay

/-- queries do not read the statistics object -/
theorem rel_queries_do_not_read_stats : type_of% @Ark.Props.C19Rel.queries_do_not_read_stats := @Ark.Props.C19Rel.queries_do_not_read_stats


end Ark.Props.C19
